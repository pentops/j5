import J5V.Conc.SchedProofs
/-! Serialisability (core only): when every operation is one critical section of the mutex `l`,
every schedule is a sequential execution of whole operations (plus a proper prefix of one). -/
namespace J5V.Conc.Sched

/-- between operations: nobody holds `l` in any way -/
def BInv (l : Nat) (s : State) : Prop :=
  s.owner l = none ∧ s.readers l = [] ∧ s.pending l = none ∧
    ∀ (j : Nat) (t : Thread), s.rem[j]? = some t → opsShape l false t = true

/-- thread `i` is inside an operation -/
def MInv (l : Nat) (s : State) (i : Nat) : Prop :=
  s.owner l = some i ∧ s.readers l = [] ∧ s.pending l = none ∧
    (∃ t : Thread, s.rem[i]? = some t ∧ opsShape l true t = true) ∧
    ∀ (j : Nat) (t : Thread), j ≠ i → s.rem[j]? = some t → opsShape l false t = true

theorem opsShape_true_cons (l : Nat) (t : Thread) (h : opsShape l true t = true) :
    ∃ b r, t = b :: r ∧
      ((b = .unlock l ∧ opsShape l false r = true) ∨
       ((b.access ≠ none ∨ b = .tau) ∧ opsShape l true r = true)) := by
  cases t with
  | nil => simp [opsShape] at h
  | cons b r =>
    refine ⟨b, r, rfl, ?_⟩
    cases b with
    | lock l' => simp [opsShape] at h
    | rlock l' => simp [opsShape] at h
    | runlock l' => simp [opsShape] at h
    | unlock l' =>
      simp [opsShape] at h
      left; exact ⟨by rw [h.1], h.2⟩
    | read x => right; exact ⟨by simp [Action.access], by simpa [opsShape] using h⟩
    | write x => right; exact ⟨by simp [Action.access], by simpa [opsShape] using h⟩
    | tau => right; exact ⟨by simp, by simpa [opsShape] using h⟩

theorem opLen_plain (b : Action) (r : Thread) (hb : b.access ≠ none ∨ b = .tau) : opLen (b :: r) = opLen r + 1 := by
  cases b <;> first | rfl | simp [Action.access] at hb

theorem opLen_pos_of_inside (l : Nat) (t : Thread) (h : opsShape l true t = true) : 0 < opLen t := by
  obtain ⟨b, r, rfl, _⟩ := opsShape_true_cons l t h
  cases b <;> simp [opLen]

theorem opsShape_false_cons (l : Nat) (a : Action) (r : Thread) (h : opsShape l false (a :: r) = true) :
    a = .lock l ∧ opsShape l true r = true := by
  cases a <;> simp [opsShape] at h
  exact ⟨by rw [h.1], h.2⟩

/-- a state reachable by any schedule: a sequential state, or one plus a proper prefix of one
operation of one thread -/
def Good (wv : WriteFn) (l : Nat) (s s' : State) : Prop :=
  (BInv l s' ∧ ∃ order : List Nat, s' = order.foldl (stepOp wv) s) ∨
  (∃ (i : Nat) (s0 : State) (order : List Nat) (k : Nat),
      BInv l s0 ∧ s0 = order.foldl (stepOp wv) s ∧ s' = stepN wv s0 i k ∧ 0 < k ∧
      opLen (s'.rem.getD i []) + k = opLen (s0.rem.getD i []) ∧ 0 < opLen (s'.rem.getD i []) ∧
      MInv l s' i)

theorem getD_fire_self (wv : WriteFn) (s : State) (t : Nat) (a : Action) (r : Thread)
    (ht : s.rem[t]? = some (a :: r)) : (fire wv s t a r).rem.getD t [] = r := by
  rw [fire_rem]; exact getD_of_getElem? _ _ _ _ (set_self_getElem? _ _ _ _ ht)

/-- thread `t` is inside an operation after an action of its own that leaves it the owner of `l` -/
theorem minv_fire (wv : WriteFn) (l : Nat) (s : State) (t : Nat) (a : Action) (r : Thread)
    (ht : s.rem[t]? = some (a :: r)) (hr : opsShape l true r = true)
    (hown : (fire wv s t a r).owner l = some t) (hnord : (fire wv s t a r).readers l = [])
    (hnopd : (fire wv s t a r).pending l = none)
    (hoth : ∀ (j : Nat) (tj : Thread), j ≠ t → s.rem[j]? = some tj → opsShape l false tj = true) :
    MInv l (fire wv s t a r) t :=
  ⟨hown, hnord, hnopd, ⟨r, by rw [fire_rem]; exact set_self_getElem? _ _ _ _ ht, hr⟩,
    fun j tj hj hjt => hoth j tj hj (by rwa [fire_rem, List.getElem?_set_ne (Ne.symm hj)] at hjt)⟩

theorem good_step (wv : WriteFn) (l : Nat) (s s' : State) (t : Nat) (h : Good wv l s s') :
    Good wv l s (step wv s' t) := by
  rcases h with ⟨⟨hown, hnord, hnopd, hshape⟩, order, hord⟩ |
    ⟨i, s0, order, k, hb0, hs0, hs', hk, hlen, hpos, hown, hnord, hnopd, ⟨ti, hti, hshi⟩, hoth⟩
  · -- between operations: the thread is finished, or it takes the lock and is one step into its operation
    have hb : BInv l s' := ⟨hown, hnord, hnopd, hshape⟩
    rcases step_cases wv s' t with h0 | ⟨a, r, hr, hc, hstep⟩ | ⟨a, r, hr, hc, hstep⟩
    · rw [h0]; exact Or.inl ⟨hb, order, hord⟩
    · obtain ⟨rfl, hr'⟩ := opsShape_false_cons l a r (hshape t _ hr)
      rw [hstep]
      refine Or.inr ⟨t, s', order, 1, hb, hord, by rw [← hstep]; rfl, Nat.one_pos, ?_, ?_, ?_⟩
      · rw [getD_fire_self wv s' t _ r hr, getD_of_getElem? _ _ _ _ hr]; rfl
      · rw [getD_fire_self wv s' t _ r hr]; exact opLen_pos_of_inside l r hr'
      · exact minv_fire wv l s' t _ r hr hr' (by simp [fire]) (by simpa [fire] using hnord) (by simp [fire])
          (fun j tj _ hj => hshape j tj hj)
    · obtain ⟨rfl, _⟩ := opsShape_false_cons l a r (hshape t _ hr)
      simp [canFire, hown, hnord, hnopd] at hc
  · by_cases hti' : t = i
    · -- the thread inside its operation takes its next step
      subst hti'
      obtain ⟨b, r, rfl, hcase⟩ := opsShape_true_cons l ti hshi
      have hnext : step wv s' t = stepN wv s0 t (k + 1) := by rw [stepN_succ_right, ← hs']
      rw [getD_of_getElem? _ _ _ _ hti] at hlen
      rcases hcase with ⟨rfl, hr'⟩ | ⟨hplain, hr'⟩
      · -- the unlock: the operation is complete
        have hstep : step wv s' t = fire wv s' t (.unlock l) r :=
          step_fire wv s' t _ r hti (by simp [canFire, hown])
        refine Or.inl ⟨?_, order ++ [t], ?_⟩
        · rw [hstep]
          refine ⟨by simp [fire], by simpa [fire] using hnord, by simpa [fire] using hnopd, ?_⟩
          intro j tj hjt
          rw [fire_rem] at hjt
          rcases getElem?_set_cases _ _ _ _ _ hjt with ⟨_, rfl⟩ | ⟨hne, hjt'⟩
          · exact hr'
          · exact hoth j tj hne hjt'
        · rw [List.foldl_append, ← hs0]
          simp only [List.foldl_cons, List.foldl_nil, stepOp]
          rw [hnext, ← hlen, Nat.add_comm]; rfl
      · -- an access or a local step: still inside
        obtain ⟨fo, frd, fpd, fcan⟩ := fire_plain wv s' t b r hplain
        have hlen' := opLen_plain b r hplain
        have hstep : step wv s' t = fire wv s' t b r := step_fire wv s' t b r hti fcan
        rw [hlen'] at hlen
        refine Or.inr ⟨t, s0, order, k + 1, hb0, hs0, hnext, Nat.succ_pos _, ?_, ?_, ?_⟩
        · rw [hstep, getD_fire_self wv s' t b r hti]; omega
        · rw [hstep, getD_fire_self wv s' t b r hti]; exact opLen_pos_of_inside l r hr'
        · rw [hstep]
          exact minv_fire wv l s' t b r hti hr' (by rw [fo]; exact hown) (by rw [frd]; exact hnord)
            (by rw [fpd]; exact hnopd) hoth
    · -- another thread: finished or blocked on the lock
      have hnoop : step wv s' t = s' := by
        rcases step_cases wv s' t with h0 | ⟨a, r, hr, hc, _⟩ | ⟨a, r, hr, _, hstep⟩
        · exact h0
        · obtain ⟨rfl, _⟩ := opsShape_false_cons l a r (hoth t _ hti' hr)
          simp [canFire, hown] at hc
        · obtain ⟨rfl, _⟩ := opsShape_false_cons l a r (hoth t _ hti' hr)
          rw [hstep]; simp [announce, hown]
      rw [hnoop]
      exact Or.inr ⟨i, s0, order, k, hb0, hs0, hs', hk, hlen, hpos, hown, hnord, hnopd, ⟨ti, hti, hshi⟩, hoth⟩

theorem good_runFrom (wv : WriteFn) (l : Nat) (s : State) (sched : List Nat) (s' : State)
    (h : Good wv l s s') : Good wv l s (runFrom wv s' sched) :=
  List.foldlRecOn sched (step wv) h fun s' hs t _ => good_step wv l s s' t hs

theorem binv_init (l : Nat) (p : Prog) (h : OpsProg l p) : BInv l (init p) :=
  ⟨rfl, rfl, rfl, fun _ t ht => h t (List.mem_of_getElem? ht)⟩

theorem Good.seq_or_prefix {wv : WriteFn} {l : Nat} {s s' : State} (h : Good wv l s s') :
    (∃ order : List Nat, s' = order.foldl (stepOp wv) s) ∨
    (∃ (order : List Nat) (i k : Nat), s' = stepN wv (order.foldl (stepOp wv) s) i k ∧
        0 < k ∧ k < opLen ((order.foldl (stepOp wv) s).rem.getD i [])) := by
  rcases h with ⟨_, order, ho⟩ | ⟨i, s0, order, k, _, hs0, hs', hk, hlen, hpos, _⟩
  · exact Or.inl ⟨order, ho⟩
  · subst hs0
    exact Or.inr ⟨order, i, k, hs', hk, by omega⟩

theorem Good.seq_of_allDone {wv : WriteFn} {l : Nat} {s s' : State} (h : Good wv l s s')
    (hdone : AllDone s') : ∃ order : List Nat, s' = order.foldl (stepOp wv) s := by
  rcases h with ⟨_, order, ho⟩ | ⟨i, _, _, _, _, _, _, _, _, _, _, _, _, ⟨ti, hti, hshi⟩, _⟩
  · exact ⟨order, ho⟩
  · have := hdone i ti hti
    subst this
    simp [opsShape] at hshi

theorem good_run (wv : WriteFn) (l : Nat) (p : Prog) (h : OpsProg l p) (sched : List Nat) :
    Good wv l (init p) (run wv p sched) :=
  good_runFrom wv l (init p) sched (init p) (Or.inl ⟨binv_init l p h, [], rfl⟩)

end J5V.Conc.Sched
