import J5V.Conc.SchedProofs
/-! Happens-before race freedom (core only). The reader/writer discipline with published locations
(`PubGuardedBy`) together with the publication rule of the execution (`PubOrdered`) orders every
pair of conflicting accesses by happens-before. The lockset theorem (mutex or reader/writer lock,
nothing published) is the special case `X = ∅`. -/
namespace J5V.Conc.Sched


theorem getElem?_append_of_some {α : Type} (xs ys : List α) (a : Nat) (x : α) (h : xs[a]? = some x) :
    (xs ++ ys)[a]? = some x := by
  rw [List.getElem?_append_left (getElem?_lt_of_some xs a x h)]; exact h

theorem getElem?_concat_cases {α : Type} (xs : List α) (e x : α) (b : Nat) (h : (xs ++ [e])[b]? = some x) :
    xs[b]? = some x ∨ (b = xs.length ∧ x = e) := by
  rcases Nat.lt_or_ge b xs.length with hb | hb
  · left; rwa [List.getElem?_append_left hb] at h
  · right
    have hlt := getElem?_lt_of_some _ b x h
    simp only [List.length_append, List.length_singleton] at hlt
    have : b = xs.length := by omega
    subst this
    simp at h
    exact ⟨rfl, h.symm⟩

theorem hb_lt (tr : List Ev) (a b : Nat) (h : HB tr a b) : a < b := by
  induction h with
  | po h _ _ _ => exact h
  | sw h _ _ _ => exact h
  | trans _ _ ih1 ih2 => exact Nat.lt_trans ih1 ih2

theorem hb_mono (tr more : List Ev) (a b : Nat) (h : HB tr a b) : HB (tr ++ more) a b := by
  induction h with
  | po h ha hb ht => exact HB.po h (getElem?_append_of_some _ _ _ _ ha) (getElem?_append_of_some _ _ _ _ hb) ht
  | sw h ha hb ht => exact HB.sw h (getElem?_append_of_some _ _ _ _ ha) (getElem?_append_of_some _ _ _ _ hb) ht
  | trans _ _ ih1 ih2 => exact HB.trans ih1 ih2

/-- a generating edge of happens-before between two positions (computable) -/
def hbEdgeB (tr : List Ev) (a b : Nat) : Bool :=
  match tr[a]?, tr[b]? with
  | some ea, some eb => ea.tid == eb.tid || swEdge ea.act eb.act
  | _, _ => false

/-- `R` contains the generating edges of the trace and is transitive (computable check) -/
def hbClosedB (tr : List Ev) (R : Nat → Nat → Bool) : Bool :=
  (List.range tr.length).all fun b => (List.range b).all fun a =>
    (!hbEdgeB tr a b || R a b) && (List.range a).all fun z => !(R z a && R a b) || R z b

/-- happens-before is contained in every relation that contains its generating edges and is
transitive (used to show that two events are *not* ordered) -/
theorem hb_sub (tr : List Ev) (R : Nat → Nat → Bool) (hcl : hbClosedB tr R = true)
    (a b : Nat) (h : HB tr a b) : R a b = true := by
  simp only [hbClosedB, List.all_eq_true, List.mem_range, Bool.and_eq_true, Bool.or_eq_true,
    Bool.not_eq_true'] at hcl
  have bound : ∀ a b, HB tr a b → b < tr.length := by
    intro a b h
    induction h with
    | po _ _ hb _ => exact getElem?_lt_of_some _ _ _ hb
    | sw _ _ hb _ => exact getElem?_lt_of_some _ _ _ hb
    | trans _ _ _ ih2 => exact ih2
  have edge : ∀ a b ea eb, a < b → tr[a]? = some ea → tr[b]? = some eb →
      (ea.tid = eb.tid ∨ swEdge ea.act eb.act = true) → R a b = true := by
    intro a b ea eb hab ha hb he
    rcases (hcl b (getElem?_lt_of_some _ _ _ hb) a hab).1 with h' | h'
    · have : hbEdgeB tr a b = true := by
        simp only [hbEdgeB, ha, hb, Bool.or_eq_true, beq_iff_eq]; exact he
      rw [this] at h'; cases h'
    · exact h'
  induction h with
  | po h ha hb ht => exact edge _ _ _ _ h ha hb (Or.inl ht)
  | sw h ha hb ht => exact edge _ _ _ _ h ha hb (Or.inr ht)
  | trans h1 h2 ih1 ih2 =>
    rcases (hcl _ (bound _ _ h2) _ (hb_lt _ _ _ h2)).2 _ (hb_lt _ _ _ h1) with h' | h'
    · rw [ih1, ih2] at h'; simp at h'
    · exact h'

theorem not_hb_of_closed (tr : List Ev) (R : Nat → Nat → Bool) (hcl : hbClosedB tr R = true)
    (a b : Nat) (hr : R a b = false) : ¬ HB tr a b := by
  intro h
  rw [hb_sub tr R hcl a b h] at hr
  cases hr

theorem trunFrom_st (wv : WriteFn) (ts : TState) (sched : List Nat) :
    (trunFrom wv ts sched).st = runFrom wv ts.st sched := by
  induction sched generalizing ts with
  | nil => rfl
  | cons i rest ih => exact ih _

theorem trun_st (wv : WriteFn) (p : Prog) (sched : List Nat) : (trun wv p sched).st = run wv p sched :=
  trunFrom_st wv _ sched

/-- a traced step either adds nothing to the trace and leaves the holders of every lock alone, or
fires the thread's next action -/
theorem tstep_cases (wv : WriteFn) (ts : TState) (i : Nat) :
    ((tstep wv ts i).tr = ts.tr ∧ (tstep wv ts i).st.owner = ts.st.owner ∧
      (tstep wv ts i).st.readers = ts.st.readers) ∨
    (∃ a r, ts.st.rem[i]? = some (a :: r) ∧ canFire ts.st i a = true ∧
      tstep wv ts i = ⟨fire wv ts.st i a r, ts.tr ++ [⟨i, a⟩]⟩) := by
  cases h : ts.st.rem[i]? with
  | none => left; simp [tstep, firedEv, step, h]
  | some t =>
    cases t with
    | nil => left; simp [tstep, firedEv, step, h]
    | cons a r =>
      cases hc : canFire ts.st i a with
      | true =>
        right
        refine ⟨a, r, rfl, hc, ?_⟩
        simp [tstep, firedEv, h, hc, step_fire wv ts.st i a r h hc]
      | false =>
        left
        obtain ⟨pd, hpd⟩ := announce_eq ts.st i a
        simp [tstep, firedEv, h, hc, step_blocked wv ts.st i a r h hc, hpd]

/-! ## the history invariant -/

/-- the access has to be made under the lock: every write, and every read of a location that is not published -/
def Prot (X : Nat → Bool) (x : Nat) (w : Bool) : Prop := w = true ∨ X x = false

/-- what the trace remembers about the accesses made under the discipline:
* `held`: a protected access was made by a thread that still holds `l` (a read: in either mode) or
  has released it since;
* `kw`/`kr`: the current writer (a current reader) acquired `l` after every earlier release
  (every earlier `unlock`);
* `p`: conflicting protected accesses of different threads are ordered by happens-before;
* `q`: every write happens before every later acquisition of `l` (in either mode). -/
structure HI (l : Nat) (X : Nat → Bool) (ts : TState) : Prop where
  held : ∀ (a i : Nat) (act : Action) (x : Nat) (w : Bool), ts.tr[a]? = some ⟨i, act⟩ →
    act.access = some (x, w) → Prot X x w →
    ts.st.owner l = some i ∨ (w = false ∧ i ∈ ts.st.readers l) ∨
      ∃ u : Nat, a < u ∧ (ts.tr[u]? = some ⟨i, .unlock l⟩ ∨ (w = false ∧ ts.tr[u]? = some ⟨i, .runlock l⟩))
  kw : ∀ j : Nat, ts.st.owner l = some j → ∃ k : Nat, ts.tr[k]? = some ⟨j, .lock l⟩ ∧
    ∀ (u : Nat) (e : Ev), ts.tr[u]? = some e → (e.act = .unlock l ∨ e.act = .runlock l) → u < k
  kr : ∀ j : Nat, j ∈ ts.st.readers l → ∃ k : Nat, ts.tr[k]? = some ⟨j, .rlock l⟩ ∧
    ∀ (u : Nat) (e : Ev), ts.tr[u]? = some e → e.act = .unlock l → u < k
  p : ∀ (a b : Nat) (ea eb : Ev) (x : Nat) (wa wb : Bool), a < b → ea.tid ≠ eb.tid →
    ts.tr[a]? = some ea → ts.tr[b]? = some eb → ea.act.access = some (x, wa) → eb.act.access = some (x, wb) →
    (wa = true ∨ wb = true) → Prot X x wa → Prot X x wb → HB ts.tr a b
  q : ∀ (a k i j x : Nat), a < k → ts.tr[a]? = some ⟨i, .write x⟩ →
    (ts.tr[k]? = some ⟨j, .lock l⟩ ∨ ts.tr[k]? = some ⟨j, .rlock l⟩) → HB ts.tr a k

theorem hi_init (l : Nat) (X : Nat → Bool) (p : Prog) : HI l X ⟨init p, []⟩ where
  held := by intro a i act x w h; simp at h
  kw := by intro j h; simp [init] at h
  kr := by intro j h; simp [init] at h
  p := by intro a b ea eb x wa wb _ _ h; simp at h
  q := by intro a k i j x _ h; simp at h

theorem hi_congr (l : Nat) (X : Nat → Bool) (ts ts' : TState) (htr : ts'.tr = ts.tr)
    (ho : ts'.st.owner = ts.st.owner) (hr : ts'.st.readers = ts.st.readers) (h : HI l X ts) : HI l X ts' where
  held := by rw [htr, ho, hr]; exact h.held
  kw := by rw [htr, ho]; exact h.kw
  kr := by rw [htr, hr]; exact h.kr
  p := by rw [htr]; exact h.p
  q := by rw [htr]; exact h.q

theorem hi_extend (l : Nat) (X : Nat → Bool) (ts : TState) (s' : State) (j : Nat) (act : Action)
    (h : HI l X ts) (hx : ∀ i, ts.st.owner l = some i → ts.st.readers l = [])
    (HO : ∀ i, ts.st.owner l = some i → s'.owner l = some i ∨ (i = j ∧ act = .unlock l))
    (HR : ∀ i, i ∈ ts.st.readers l → i ∈ s'.readers l ∨ (i = j ∧ act = .runlock l))
    (HO' : ∀ i, s'.owner l = some i → ts.st.owner l = some i ∨ (i = j ∧ act = .lock l))
    (HR' : ∀ i, i ∈ s'.readers l → i ∈ ts.st.readers l ∨ (i = j ∧ act = .rlock l))
    (hnew : ∀ x w, act.access = some (x, w) → Prot X x w →
      ts.st.owner l = some j ∨ (w = false ∧ j ∈ ts.st.readers l))
    (hacq : act = .lock l ∨ act = .rlock l → ∀ u, ts.st.owner l ≠ some u)
    (hun : act = .unlock l → ts.st.owner l = some j)
    (hrel' : act = .unlock l ∨ act = .runlock l → ∀ u, s'.owner l ≠ some u) :
    HI l X ⟨s', ts.tr ++ [⟨j, act⟩]⟩ := by
  have old : ∀ b eb, ts.tr[b]? = some eb → (ts.tr ++ [(⟨j, act⟩ : Ev)])[b]? = some eb :=
    fun b eb hb => getElem?_append_of_some _ _ _ _ hb
  have lt : ∀ b eb, ts.tr[b]? = some eb → b < ts.tr.length := fun b eb hb => getElem?_lt_of_some _ _ _ hb
  have new : (ts.tr ++ [(⟨j, act⟩ : Ev)])[ts.tr.length]? = some ⟨j, act⟩ := List.getElem?_concat_length
  have split : ∀ b eb, (ts.tr ++ [(⟨j, act⟩ : Ev)])[b]? = some eb →
      ts.tr[b]? = some eb ∨ (b = ts.tr.length ∧ eb = ⟨j, act⟩) := fun b eb hb => getElem?_concat_cases _ _ _ _ hb
  have conv : ∀ b c (e : Ev), b < ts.tr.length → c ≤ b → (ts.tr ++ [(⟨j, act⟩ : Ev)])[c]? = some e →
      ts.tr[c]? = some e := by
    intro b c e hb hc hce
    rwa [List.getElem?_append_left (by omega)] at hce
  -- the chain  a -po-> u -sw-> k -po-> new event
  have chain : ∀ a u k (ea eu ek : Ev), a < u → u < k → ts.tr[a]? = some ea → ts.tr[u]? = some eu →
      ts.tr[k]? = some ek → ea.tid = eu.tid → swEdge eu.act ek.act = true → ek.tid = j →
      HB (ts.tr ++ [(⟨j, act⟩ : Ev)]) a ts.tr.length := by
    intro a u k ea eu ek hau huk ha hu hk h1 h2 h3
    exact HB.trans (HB.po hau (old _ _ ha) (old _ _ hu) h1)
      (HB.trans (HB.sw huk (old _ _ hu) (old _ _ hk) h2) (HB.po (lt _ _ hk) (old _ _ hk) new h3))
  refine ⟨?_, ?_, ?_, ?_, ?_⟩
  · -- held
    intro a i act' x w ha hacc hprot
    simp only at ha ⊢
    rcases split _ _ ha with hold | ⟨_, he⟩
    · rcases h.held a i act' x w hold hacc hprot with ho | ⟨hw0, hr⟩ | ⟨u, hau, hu⟩
      · rcases HO i ho with ho' | ⟨rfl, hact⟩
        · exact Or.inl ho'
        · exact Or.inr (Or.inr ⟨ts.tr.length, lt _ _ hold, Or.inl (by rw [new, hact])⟩)
      · rcases HR i hr with hr' | ⟨rfl, hact⟩
        · exact Or.inr (Or.inl ⟨hw0, hr'⟩)
        · exact Or.inr (Or.inr ⟨ts.tr.length, lt _ _ hold, Or.inr ⟨hw0, by rw [new, hact]⟩⟩)
      · exact Or.inr (Or.inr ⟨u, hau, hu.imp (old _ _) (fun hu' => ⟨hu'.1, old _ _ hu'.2⟩)⟩)
    · simp only [Ev.mk.injEq] at he
      obtain ⟨rfl, rfl⟩ := he
      -- an access is no release: the new event's thread holds `l` as before
      rcases hnew x w hacc hprot with ho | ⟨hw0, hr⟩
      · rcases HO i ho with ho' | ⟨_, hact⟩
        · exact Or.inl ho'
        · rw [hact] at hacc; cases hacc
      · rcases HR i hr with hr' | ⟨_, hact⟩
        · exact Or.inr (Or.inl ⟨hw0, hr'⟩)
        · rw [hact] at hacc; cases hacc
  · -- kw
    intro j' ho'
    simp only at ho' ⊢
    rcases HO' j' ho' with hold | ⟨rfl, hact⟩
    · obtain ⟨k, hk, hall⟩ := h.kw j' hold
      refine ⟨k, old _ _ hk, ?_⟩
      intro u e hu hrel
      rcases split _ _ hu with hu | ⟨_, rfl⟩
      · exact hall u e hu hrel
      · exact absurd ho' (hrel' hrel j')
    · refine ⟨ts.tr.length, by rw [new, hact], ?_⟩
      intro u e hu hrel
      rcases split _ _ hu with hu | ⟨_, rfl⟩
      · exact lt _ _ hu
      · simp only [hact] at hrel
        rcases hrel with hrel | hrel <;> cases hrel
  · -- kr
    intro j' hr'
    simp only at hr' ⊢
    rcases HR' j' hr' with hold | ⟨rfl, hact⟩
    · obtain ⟨k, hk, hall⟩ := h.kr j' hold
      refine ⟨k, old _ _ hk, ?_⟩
      intro u e hu hune
      rcases split _ _ hu with hu | ⟨_, rfl⟩
      · exact hall u e hu hune
      · rw [hx j (hun hune)] at hold
        simp at hold
    · refine ⟨ts.tr.length, by rw [new, hact], ?_⟩
      intro u e hu hune
      rcases split _ _ hu with hu | ⟨_, rfl⟩
      · exact lt _ _ hu
      · simp only [hact] at hune
        cases hune
  · -- p
    intro a b ea eb x wa wb hab hij ha hb haa hba hw hpa hpb
    simp only at ha hb ⊢
    rcases split _ _ hb with hb' | ⟨rfl, rfl⟩
    · have hbl := lt _ _ hb'
      exact hb_mono _ _ _ _ (h.p a b ea eb x wa wb hab hij (conv b a ea hbl (by omega) ha) hb' haa hba hw hpa hpb)
    · -- the later access is the new event: its thread holds `l`; the earlier one's thread cannot
      -- hold it too, so it has released it, and the later one's acquisition came after that release
      obtain ⟨i, acta⟩ := ea
      have ha' : ts.tr[a]? = some ⟨i, acta⟩ := by rwa [List.getElem?_append_left hab] at ha
      simp only at hij haa hba
      rcases h.held a i acta x wa ha' haa hpa with ho | ⟨hwa0, hr⟩ | ⟨u, hau, hu⟩
      · rcases hnew x wb hba hpb with hoj | ⟨_, hrj⟩
        · rw [ho] at hoj; exact absurd (Option.some.inj hoj) hij
        · rw [hx i ho] at hrj; cases hrj
      · have hwb : wb = true := by
          rcases hw with hw | hw
          · rw [hwa0] at hw; cases hw
          · exact hw
        rcases hnew x wb hba hpb with hoj | ⟨hwb0, _⟩
        · rw [hx j hoj] at hr; cases hr
        · rw [hwb] at hwb0; cases hwb0
      · rcases hnew x wb hba hpb with hoj | ⟨hwb0, hrj⟩
        · obtain ⟨k, hk, hall⟩ := h.kw j hoj
          rcases hu with hu | ⟨_, hu⟩
          · exact chain a u k _ _ _ hau (hall u _ hu (Or.inl rfl)) ha' hu hk rfl (by simp [swEdge]) rfl
          · exact chain a u k _ _ _ hau (hall u _ hu (Or.inr rfl)) ha' hu hk rfl (by simp [swEdge]) rfl
        · obtain ⟨k, hk, hall⟩ := h.kr j hrj
          rcases hu with hu | ⟨hwa0, _⟩
          · exact chain a u k _ _ _ hau (hall u _ hu rfl) ha' hu hk rfl (by simp [swEdge]) rfl
          · rcases hw with hw | hw
            · rw [hwa0] at hw; cases hw
            · rw [hwb0] at hw; cases hw
  · -- q
    intro a k i j' x hak ha hk
    simp only at ha hk ⊢
    by_cases hkn : k < ts.tr.length
    · exact hb_mono _ _ _ _ (h.q a k i j' x hak (conv k a _ hkn (by omega) ha)
        (hk.imp (conv k k _ hkn (Nat.le_refl _)) (conv k k _ hkn (Nat.le_refl _))))
    · have hkeq : k = ts.tr.length ∧ (act = .lock l ∨ act = .rlock l) := by
        rcases hk with hk | hk
        · rcases split _ _ hk with hk | ⟨hk1, hk2⟩
          · exact absurd (lt _ _ hk) hkn
          · simp only [Ev.mk.injEq] at hk2; exact ⟨hk1, Or.inl hk2.2.symm⟩
        · rcases split _ _ hk with hk | ⟨hk1, hk2⟩
          · exact absurd (lt _ _ hk) hkn
          · simp only [Ev.mk.injEq] at hk2; exact ⟨hk1, Or.inr hk2.2.symm⟩
      obtain ⟨rfl, hact⟩ := hkeq
      have ha' : ts.tr[a]? = some ⟨i, .write x⟩ := by rwa [List.getElem?_append_left hak] at ha
      rcases h.held a i _ x true ha' rfl (Or.inl rfl) with ho | ⟨hw0, _⟩ | ⟨u, hau, hu | ⟨hw0, _⟩⟩
      · exact absurd ho (hacq hact i)
      · cases hw0
      · refine HB.trans (HB.po hau (old _ _ ha') (old _ _ hu) rfl) (HB.sw (lt _ _ hu) (old _ _ hu) new ?_)
        rcases hact with rfl | rfl <;> simp [swEdge]
      · cases hw0

/-- the invariant of a traced run: the discipline on the state, and the order it promises on the trace -/
def TI (l : Nat) (X : Nat → Bool) (ts : TState) : Prop := GI l X ts.st ∧ HI l X ts

theorem ti_step (wv : WriteFn) (l : Nat) (X : Nat → Bool) (ts : TState) (i : Nat) (h : TI l X ts) :
    TI l X (tstep wv ts i) := by
  obtain ⟨hg, hh⟩ := h
  refine ⟨gix_step wv l _ (disc_pub l X) ts.st i hg, ?_⟩
  rcases tstep_cases wv ts i with ⟨h1, h2, h3⟩ | ⟨a, r, hi, hc, hs⟩
  · exact hi_congr l X ts _ h1 h2 h3 hh
  · rw [hs]
    have hx := hg.alone
    obtain ⟨HO, HR, HO', HR'⟩ := fire_holders wv ts.st i a r l hc hg.nodup
    refine hi_extend l X ts _ i a hh hx HO HR HO' HR' ?_ ?_ ?_ ?_
    · intro x w hacc hprot
      have hga := gi_access l X ts.st hg i a r x w hi hacc
      cases w with
      | true => exact Or.inl (hga.1 rfl)
      | false =>
        rcases hga.2 rfl with h' | h' | h'
        · rcases hprot with hp | hp
          · cases hp
          · rw [hp] at h'; cases h'
        · exact Or.inl h'
        · exact Or.inr ⟨rfl, h'.1⟩
    · intro hact u hu
      rcases hact with rfl | rfl <;> simp [canFire, hu] at hc
    · intro hact
      subst hact
      simpa [canFire] using hc
    · intro hact u hu
      rcases hact with rfl | rfl
      · simp [fire] at hu
      · simp only [canFire, decide_eq_true_eq] at hc
        have hu' : ts.st.owner l = some u := hu
        rw [hx u hu'] at hc
        simp at hc

theorem ti_trunFrom (wv : WriteFn) (l : Nat) (X : Nat → Bool) (sched : List Nat) (ts : TState)
    (h : TI l X ts) : TI l X (trunFrom wv ts sched) :=
  List.foldlRecOn sched (tstep wv) h fun ts hts i _ => ti_step wv l X ts i hts

theorem ti_trun (wv : WriteFn) (l : Nat) (X : Nat → Bool) (p : Prog) (h : PubGuardedBy l X p)
    (sched : List Nat) : TI l X (trun wv p sched) :=
  ti_trunFrom wv l X sched _ ⟨gi_init l X p h, hi_init l X p⟩

theorem access_cases (act : Action) (x : Nat) (w : Bool) (h : act.access = some (x, w)) :
    (w = true ∧ act = .write x) ∨ (w = false ∧ act = .read x) := by
  cases act <;> simp [Action.access] at h
  · right; exact ⟨h.2, by rw [h.1]⟩
  · left; exact ⟨h.2, by rw [h.1]⟩

/-- **Happens-before race freedom.** Discipline (static) + publication rule (of the execution)
⇒ every two conflicting accesses are ordered by happens-before. -/
theorem hb_race_free (wv : WriteFn) (l : Nat) (X : Nat → Bool) (p : Prog) (h : PubGuardedBy l X p)
    (sched : List Nat) (hpub : PubOrdered l X (trace wv p sched)) : ¬ RaceHB (trace wv p sched) := by
  have hi := (ti_trun wv l X p h sched).2
  rintro ⟨a, b, ⟨i, acta⟩, ⟨j, actb⟩, x, wa, wb, hab, ha, hb, hij, haa, hba, hw, hn⟩
  simp only at hij haa hba
  apply hn
  unfold trace at ha hb hpub ⊢
  -- an access that need not be under the lock is a read of a published location
  have unprot : ∀ (act : Action) (w : Bool), act.access = some (x, w) → ¬ Prot X x w →
      act = .read x ∧ X x = true := by
    intro act w hacc hnp
    rcases access_cases _ _ _ hacc with ⟨rfl, _⟩ | ⟨_, rfl⟩
    · exact absurd (Or.inl rfl) hnp
    · cases hX : X x with
      | false => exact absurd (Or.inr hX) hnp
      | true => exact ⟨rfl, rfl⟩
  by_cases hpa : Prot X x wa
  · by_cases hpb : Prot X x wb
    · exact hi.p a b _ _ x wa wb hab hij ha hb haa hba hw hpa hpb
    · -- a published read after the write: the reader went through the lock in between
      obtain ⟨rfl, hX⟩ := unprot actb wb hba hpb
      rcases access_cases _ _ _ haa with ⟨_, rfl⟩ | ⟨rfl, _⟩
      · obtain ⟨k, hak, hkb, hk⟩ := hpub a b i j x ha hb hX hij
        refine HB.trans (hi.q a k i j x hak ha hk) ?_
        rcases hk with hk | hk
        · exact HB.po hkb hk hb rfl
        · exact HB.po hkb hk hb rfl
      · cases hba; rcases hw with hw | hw <;> cases hw
  · -- a published read before the write: the publication rule puts the write first
    obtain ⟨rfl, hX⟩ := unprot acta wa haa hpa
    rcases access_cases _ _ _ hba with ⟨_, rfl⟩ | ⟨rfl, _⟩
    · obtain ⟨k, hbk, hka, _⟩ := hpub b a j i x hb ha hX (Ne.symm hij)
      omega
    · cases haa; rcases hw with hw | hw <;> cases hw

theorem pubOrdered_empty (l : Nat) (tr : List Ev) : PubOrdered l (fun _ => false) tr := by
  intro a b i j x _ _ hX; cases hX

theorem pubOrdered_of_check (l : Nat) (X : Nat → Bool) (tr : List Ev) (h : pubOrderedB l X tr = true) :
    PubOrdered l X tr := by
  intro a b i j x ha hb hX hij
  unfold pubOrderedB at h
  rw [List.all_eq_true] at h
  have h1 := h a (List.mem_range.mpr (getElem?_lt_of_some _ _ _ ha))
  rw [List.all_eq_true] at h1
  have h2 := h1 b (List.mem_range.mpr (getElem?_lt_of_some _ _ _ hb))
  simp [ha, hb, hX, hij] at h2
  obtain ⟨k, hkb, hak, hk⟩ := h2
  exact ⟨k, hak, hkb, hk⟩

end J5V.Conc.Sched
