import J5V.Conc.SchedProofs
/-! Serialisability when threads also take local steps between their critical sections: every
schedule of `p` is matched, step for step or by stuttering, by a schedule of `stripProg p` (the
program without those local steps) with the same lock state, memory and observation logs. -/
namespace J5V.Conc.Sched

theorem strip_shape (l : Nat) (h : Bool) (t : Thread) (hs : opsShapeT l h t = true) :
    opsShape l h (stripT h t) = true := by
  induction t generalizing h with
  | nil => cases h <;> simp_all [opsShapeT, opsShape, stripT]
  | cons a r ih =>
    cases h <;> cases a <;> simp_all [opsShapeT, opsShape, stripT]

/-- what a thread with local steps can do next, outside (`h = false`) and inside a section, and what
its stripped program then starts with -/
theorem opsShapeT_cons (l : Nat) (h : Bool) (a : Action) (r : Thread) (hs : opsShapeT l h (a :: r) = true) :
    (h = false ∧ ((a = .tau ∧ opsShapeT l false r = true ∧ stripT false (a :: r) = stripT false r) ∨
        (a = .lock l ∧ opsShapeT l true r = true ∧ stripT false (a :: r) = a :: stripT true r))) ∨
    (h = true ∧ ((a = .unlock l ∧ opsShapeT l false r = true ∧ stripT true (a :: r) = a :: stripT false r) ∨
        ((a.access ≠ none ∨ a = .tau) ∧ opsShapeT l true r = true ∧ stripT true (a :: r) = a :: stripT true r))) := by
  cases h <;> cases a <;> simp_all [opsShapeT, stripT, Action.access]

/-- the shape invariant of the full program; `l` is only ever used as a mutex -/
def TInv (l : Nat) (s : State) : Prop :=
  s.readers l = [] ∧ s.pending l = none ∧
  ∀ (i : Nat) (t : Thread), s.rem[i]? = some t → opsShapeT l (decide (s.owner l = some i)) t = true

/-- `s'` is `s` with every thread's remaining program stripped -/
def Rel (l : Nat) (s s' : State) : Prop :=
  s'.owner = s.owner ∧ s'.readers = s.readers ∧ s'.pending = s.pending ∧ s'.mem = s.mem ∧ s'.logs = s.logs ∧
  s'.rem.length = s.rem.length ∧
  ∀ (i : Nat) (t : Thread), s.rem[i]? = some t → s'.rem[i]? = some (stripT (decide (s.owner l = some i)) t)

theorem rel_init (l : Nat) (p : Prog) : Rel l (init p) (init (stripProg p)) := by
  refine ⟨rfl, rfl, rfl, rfl, rfl, by simp [init, stripProg], ?_⟩
  intro i t ht
  simp only [init, stripProg] at ht ⊢
  simp [ht]

theorem tinv_init (l : Nat) (p : Prog) (h : OpsProgT l p) : TInv l (init p) := by
  refine ⟨rfl, rfl, ?_⟩
  intro i t ht
  simpa [init] using h t (List.mem_of_getElem? ht)

theorem getElem?_none_of_length {α : Type} (xs ys : List α) (i : Nat) (hl : ys.length = xs.length)
    (h : xs[i]? = none) : ys[i]? = none := by
  rw [List.getElem?_eq_none_iff] at h ⊢
  omega

/-- both programs perform the same action: the states stay related -/
theorem rel_fire (wv : WriteFn) (l : Nat) (s s' : State) (j : Nat) (a : Action) (r r' : Thread)
    (hr : Rel l s s') (hj : s.rem[j]? = some (a :: r))
    (hr' : r' = stripT (decide ((fire wv s j a r).owner l = some j)) r) (hc : canFire s j a = true) :
    Rel l (fire wv s j a r) (fire wv s' j a r') := by
  obtain ⟨ho, hrd, hpd, hm, hlg, hlen, hrem⟩ := hr
  have hsj := hrem j _ hj
  have hremF : ∀ (i : Nat) (t : Thread), (fire wv s j a r).rem[i]? = some t →
      (fire wv s' j a r').rem[i]? = some (stripT (decide ((fire wv s j a r).owner l = some i)) t) := by
    intro i t hit
    simp only [fire_rem] at hit ⊢
    rcases getElem?_set_cases _ _ _ _ _ hit with ⟨rfl, rfl⟩ | ⟨hij, hi⟩
    · rw [set_self_getElem? _ _ _ _ hsj, hr']
    · rw [List.getElem?_set_ne (Ne.symm hij), decide_eq_decide.mpr (fire_owner_other wv s j a r l i hc hij)]
      exact hrem i t hi
  exact ⟨by rw [fire_owner, fire_owner, ho], by rw [fire_readers, fire_readers, hrd],
    by rw [fire_pending, fire_pending, hpd], by rw [fire_mem, fire_mem, hm, hlg],
    by rw [fire_logs, fire_logs, hlg, hm], by simpa using hlen, hremF⟩

/-- one step of the full program is matched by zero or one step of the stripped program -/
theorem rel_step (wv : WriteFn) (l : Nat) (s s' : State) (j : Nat) (hr : Rel l s s') (ht : TInv l s) :
    (Rel l (step wv s j) s' ∨ Rel l (step wv s j) (step wv s' j)) ∧ TInv l (step wv s j) := by
  have hr0 := hr
  obtain ⟨ho, hrd, hpd, hm, hlg, hlen, hrem⟩ := hr
  obtain ⟨tnord, tnopd, tshape⟩ := ht
  cases hj : s.rem[j]? with
  | none =>
    have : step wv s j = s := by simp [step, hj]
    rw [this]; exact ⟨Or.inl hr0, tnord, tnopd, tshape⟩
  | some tj =>
    cases tj with
    | nil =>
      have : step wv s j = s := by simp [step, hj]
      rw [this]; exact ⟨Or.inl hr0, tnord, tnopd, tshape⟩
    | cons a r =>
      have hsj := hrem j _ hj
      have tfire : (fire wv s j a r).readers l = [] → (fire wv s j a r).pending l = none →
          canFire s j a = true →
          opsShapeT l (decide ((fire wv s j a r).owner l = some j)) r = true → TInv l (fire wv s j a r) := by
        intro h1 h2 h3 h4
        refine ⟨h1, h2, ?_⟩
        intro i t hit
        simp only [fire_rem] at hit
        rcases getElem?_set_cases _ _ _ _ _ hit with ⟨rfl, rfl⟩ | ⟨hij, hi⟩
        · exact h4
        · rw [decide_eq_decide.mpr (fire_owner_other wv s j a r l i h3 hij)]; exact tshape i t hi
      rcases opsShapeT_cons l _ a r (tshape j _ hj) with
        ⟨hh, ⟨rfl, hshr, hst⟩ | ⟨rfl, hshr, hst⟩⟩ | ⟨hh, ⟨rfl, hshr, hst⟩ | ⟨hp, hshr, hst⟩⟩ <;>
        rw [hh, hst] at hsj
      · -- a local step outside: the stripped program stutters
        have hoF : (fire wv s j .tau r).owner = s.owner := rfl
        rw [step_fire wv s j _ r hj rfl]
        refine ⟨Or.inl ⟨ho, hrd, hpd, hm, hlg, by simpa using hlen, ?_⟩, ?_⟩
        · intro i t hit
          simp only [fire_rem] at hit
          rw [hoF]
          rcases getElem?_set_cases _ _ _ _ _ hit with ⟨rfl, rfl⟩ | ⟨_, hi⟩
          · rw [hh]; exact hsj
          · exact hrem i t hi
        · exact tfire tnord tnopd rfl (by rw [hoF, hh]; exact hshr)
      · -- taking the lock: both programs do, or both are blocked
        by_cases hfree : s.owner l = none
        · have hc : canFire s j (.lock l) = true := by simp [canFire, hfree, tnord, tnopd]
          have hc' : canFire s' j (.lock l) = true := by simp [canFire, ho, hrd, hpd, hfree, tnord, tnopd]
          rw [step_fire wv s j _ r hj hc, step_fire wv s' j _ _ hsj hc']
          refine ⟨Or.inr (rel_fire wv l s s' j _ r _ hr0 hj (by simp [fire]) hc), ?_⟩
          exact tfire (by simpa [fire] using tnord) (by simp [fire]) hc (by simpa [fire] using hshr)
        · have hc : canFire s j (.lock l) = false := by simp [canFire, hfree]
          rw [step_blocked wv s j _ r hj hc]
          have : announce s j (.lock l) = s := by simp [announce, hfree]
          rw [this]; exact ⟨Or.inl hr0, tnord, tnopd, tshape⟩
      · -- releasing it
        have hown : s.owner l = some j := by simpa using hh
        have hown' : s'.owner l = some j := by rw [ho]; exact hown
        have hc : canFire s j (.unlock l) = true := by simp [canFire, hown]
        rw [step_fire wv s j _ r hj hc, step_fire wv s' j _ _ hsj (by simp [canFire, hown'])]
        refine ⟨Or.inr (rel_fire wv l s s' j _ r _ hr0 hj (by simp [fire]) hc), ?_⟩
        exact tfire (by simpa [fire] using tnord) (by simpa [fire] using tnopd) hc (by simpa [fire] using hshr)
      · -- inside the section both programs take the same access or local step
        obtain ⟨fo, frd, fpd, fcan⟩ := fire_plain wv s j a r hp
        obtain ⟨_, _, _, fcan'⟩ := fire_plain wv s' j a (stripT true r) hp
        rw [step_fire wv s j _ r hj fcan, step_fire wv s' j _ _ hsj fcan']
        refine ⟨Or.inr (rel_fire wv l s s' j _ r _ hr0 hj (by rw [fo, hh]) fcan), ?_⟩
        exact tfire (by rw [frd]; exact tnord) (by rw [fpd]; exact tnopd) fcan
          (by rw [fo, hh]; exact hshr)

/-- every schedule of the full program is matched by a schedule of the stripped program -/
theorem rel_runFrom (wv : WriteFn) (l : Nat) (sched : List Nat) (s s' : State) (hr : Rel l s s') (ht : TInv l s) :
    ∃ sched', Rel l (runFrom wv s sched) (runFrom wv s' sched') := by
  induction sched generalizing s s' with
  | nil => exact ⟨[], hr⟩
  | cons j rest ih =>
    obtain ⟨hstep, ht'⟩ := rel_step wv l s s' j hr ht
    rcases hstep with h | h
    · obtain ⟨sched', hs⟩ := ih _ _ h ht'
      exact ⟨sched', hs⟩
    · obtain ⟨sched', hs⟩ := ih _ _ h ht'
      exact ⟨j :: sched', hs⟩

theorem rel_allDone (l : Nat) (s s' : State) (hr : Rel l s s') (hd : AllDone s) : AllDone s' := by
  obtain ⟨_, _, _, _, _, hlen, hrem⟩ := hr
  intro i t hi
  cases hs : s.rem[i]? with
  | none => rw [getElem?_none_of_length _ _ _ hlen hs] at hi; cases hi
  | some t0 =>
    have := hd i t0 hs
    subst this
    rw [hrem i _ hs] at hi
    cases hi
    cases decide (s.owner l = some i) <;> rfl

theorem opsProg_strip (l : Nat) (p : Prog) (h : OpsProgT l p) : OpsProg l (stripProg p) := by
  intro t ht
  obtain ⟨t0, ht0, rfl⟩ := List.mem_map.mp ht
  exact strip_shape l false t0 (h t0 ht0)

end J5V.Conc.Sched
