import J5V.Conc.SchedProofs
/-! Deadlock freedom of flat locking (core only): with reader/writer locks that give waiting writers
preference (a pending writer blocks new readers, as in Go), a program in which no thread acquires a
lock while it holds one — in either mode — always has a thread that can move, and every run can be
completed. -/
namespace J5V.Conc.Sched

/-- what a thread holds is what its remaining program expects (`flat`); owners, readers and
announced writers are live threads; an announced writer is still waiting at its `lock`; read
locks are held at most once per thread -/
structure FInv (s : State) : Prop where
  thread : ∀ (i : Nat) (t : Thread), s.rem[i]? = some t →
      ∃ h : Option (Nat × Bool), flat h t = true ∧ (∀ l, s.owner l = some i ↔ h = some (l, false)) ∧
        (∀ l, i ∈ s.readers l ↔ h = some (l, true))
  ownerLive : ∀ (l u : Nat), s.owner l = some u → ∃ tu : Thread, s.rem[u]? = some tu
  readerLive : ∀ (l u : Nat), u ∈ s.readers l → ∃ tu : Thread, s.rem[u]? = some tu
  pending : ∀ (l u : Nat), s.pending l = some u → s.owner l = none ∧ ∃ r, s.rem[u]? = some (.lock l :: r)
  nodup : ∀ l, (s.readers l).Nodup

theorem finv_init (p : Prog) (h : NoNesting p) : FInv (init p) := by
  refine ⟨?_, ?_, ?_, ?_, ?_⟩
  · intro i t ht
    exact ⟨none, h t (List.mem_of_getElem? ht), by simp [init], by simp [init]⟩
  · intro l u hu; simp [init] at hu
  · intro l u hu; simp [init] at hu
  · intro l u hu; simp [init] at hu
  · intro l; simp [init]

theorem flat_lock (h : Option (Nat × Bool)) (l : Nat) (r : Thread) (hf : flat h (.lock l :: r) = true) :
    h = none ∧ flat (some (l, false)) r = true := by
  cases h <;> simp [flat] at hf ⊢
  exact hf

theorem flat_rlock (h : Option (Nat × Bool)) (l : Nat) (r : Thread) (hf : flat h (.rlock l :: r) = true) :
    h = none ∧ flat (some (l, true)) r = true := by
  cases h <;> simp [flat] at hf ⊢
  exact hf

theorem flat_unlock (h : Option (Nat × Bool)) (l : Nat) (r : Thread) (hf : flat h (.unlock l :: r) = true) :
    h = some (l, false) ∧ flat none r = true := by
  cases h with
  | none => simp [flat] at hf
  | some p =>
    obtain ⟨l', rd⟩ := p
    simp only [flat, Bool.and_eq_true, Bool.not_eq_true', decide_eq_true_eq] at hf
    obtain ⟨⟨rfl, rfl⟩, hr⟩ := hf
    exact ⟨rfl, hr⟩

theorem flat_runlock (h : Option (Nat × Bool)) (l : Nat) (r : Thread) (hf : flat h (.runlock l :: r) = true) :
    h = some (l, true) ∧ flat none r = true := by
  cases h with
  | none => simp [flat] at hf
  | some p =>
    obtain ⟨l', rd⟩ := p
    simp only [flat, Bool.and_eq_true, decide_eq_true_eq] at hf
    obtain ⟨⟨rfl, rfl⟩, hr⟩ := hf
    exact ⟨rfl, hr⟩

theorem flat_other (h : Option (Nat × Bool)) (a : Action) (r : Thread)
    (ha : a.access ≠ none ∨ a = .tau) (hf : flat h (a :: r) = true) : flat h r = true := by
  cases a with
  | read x => cases h <;> simpa [flat] using hf
  | write x => cases h <;> simpa [flat] using hf
  | tau => cases h <;> simpa [flat] using hf
  | lock l => simp [Action.access] at ha
  | unlock l => simp [Action.access] at ha
  | rlock l => simp [Action.access] at ha
  | runlock l => simp [Action.access] at ha

/-- the frame of a fired step of thread `j`: what has to be shown about the new state -/
theorem finv_frame (s s' : State) (j : Nat) (a : Action) (r : Thread) (h : FInv s)
    (hj : s.rem[j]? = some (a :: r)) (hrem : s'.rem = s.rem.set j r)
    (hA : ∃ h' : Option (Nat × Bool), flat h' r = true ∧ (∀ l, s'.owner l = some j ↔ h' = some (l, false)) ∧
        (∀ l, j ∈ s'.readers l ↔ h' = some (l, true)))
    (ho : ∀ i, i ≠ j → ∀ l, s'.owner l = some i ↔ s.owner l = some i)
    (hr : ∀ i, i ≠ j → ∀ l, i ∈ s'.readers l ↔ i ∈ s.readers l)
    (hp : ∀ l u, s'.pending l = some u → s.pending l = some u ∧ u ≠ j ∧ s'.owner l = none)
    (hn : ∀ l, (s'.readers l).Nodup) : FInv s' := by
  obtain ⟨h1, h2, h3, h4, _⟩ := h
  have live : ∀ u, (∃ tu, s.rem[u]? = some tu) ∨ u = j → ∃ tu, s'.rem[u]? = some tu := by
    intro u hu
    rw [hrem]
    rcases hu with ⟨tu, htu⟩ | rfl
    · exact getElem?_set_isSome _ _ _ _ _ htu
    · exact getElem?_set_isSome _ _ _ _ _ hj
  refine ⟨?_, ?_, ?_, ?_, hn⟩
  · intro i t ht
    rw [hrem] at ht
    rcases getElem?_set_cases _ _ _ _ _ ht with ⟨rfl, rfl⟩ | ⟨hij, hi⟩
    · exact hA
    · obtain ⟨hh, hf, hoo, hrr⟩ := h1 i t hi
      exact ⟨hh, hf, fun l => (ho i hij l).trans (hoo l), fun l => (hr i hij l).trans (hrr l)⟩
  · intro l u hu
    by_cases huj : u = j
    · exact live u (Or.inr huj)
    · exact live u (Or.inl (h2 l u ((ho u huj l).mp hu)))
  · intro l u hu
    by_cases huj : u = j
    · exact live u (Or.inr huj)
    · exact live u (Or.inl (h3 l u ((hr u huj l).mp hu)))
  · intro l u hu
    obtain ⟨hpu, huj, hown⟩ := hp l u hu
    obtain ⟨_, r', hr'⟩ := h4 l u hpu
    refine ⟨hown, r', ?_⟩
    rw [hrem, List.getElem?_set_ne (Ne.symm huj)]
    exact hr'

/-- whatever fires: an announcement that is still there was there before, belongs to another thread,
and its lock is still free -/
theorem finv_fire_pending (wv : WriteFn) (s : State) (j : Nat) (a : Action) (r : Thread) (h : FInv s)
    (hj : s.rem[j]? = some (a :: r)) (l u : Nat) (hu : (fire wv s j a r).pending l = some u) :
    s.pending l = some u ∧ u ≠ j ∧ (fire wv s j a r).owner l = none := by
  have key : s.pending l = some u ∧ a ≠ .lock l := by
    rw [fire_pending] at hu
    cases a with
    | lock l' =>
      by_cases e : l = l'
      · subst e; simp at hu
      · exact ⟨by simpa [upd, e] using hu, by simpa using Ne.symm e⟩
    | _ => exact ⟨hu, by simp⟩
  obtain ⟨hp, hne⟩ := key
  obtain ⟨hown, r', hr'⟩ := h.pending l u hp
  refine ⟨hp, ?_, ?_⟩
  · rintro rfl
    rw [hj] at hr'
    exact hne (List.cons.inj (Option.some.inj hr')).1
  · rw [fire_owner]
    cases a with
    | lock l' => simpa [upd, show l ≠ l' from fun e => hne (e ▸ rfl)] using hown
    | unlock l' => by_cases e : l = l' <;> simp [upd, e, hown]
    | _ => exact hown

theorem finv_step (wv : WriteFn) (s : State) (j : Nat) (h : FInv s) : FInv (step wv s j) := by
  rcases step_cases wv s j with h0 | ⟨a, r, hj, hc, hs⟩ | ⟨a, r, hj, hc, hs⟩
  · rw [h0]; exact h
  · rw [hs]
    have hpend := finv_fire_pending wv s j a r h hj
    have h' := h
    obtain ⟨h1, h2, h3, h4, h5⟩ := h
    obtain ⟨hh, hf, hoo, hrr⟩ := h1 j _ hj
    -- what the acting thread holds afterwards, from what its program expected it to hold before
    have own : ∀ l2, (fire wv s j a r).owner l2 = some j ↔
        (hh = some (l2, false) ∧ a ≠ .unlock l2) ∨ a = .lock l2 := fun l2 => by
      rw [fire_owner_iff wv s j a r l2 j hc, hoo l2]; simp
    have rds : ∀ l2, j ∈ (fire wv s j a r).readers l2 ↔
        (hh = some (l2, true) ∧ a ≠ .runlock l2) ∨ a = .rlock l2 := fun l2 => by
      rw [fire_readers_iff wv s j a r l2 j (h5 l2), hrr l2]; simp
    refine finv_frame s _ j _ r h' hj (fire_rem ..) ?_
      (fun i hij l2 => fire_owner_other wv s j a r l2 i hc hij)
      (fun i hij l2 => fire_readers_other wv s j a r l2 i hij) hpend
      (fun l2 => fire_readers_nodup wv s j a r l2 (h5 l2) fun e => by
        subst e; rw [hrr l2, (flat_rlock hh l2 r hf).1]; simp)
    cases a with
    | lock l =>
      obtain ⟨rfl, hf'⟩ := flat_lock hh l r hf
      exact ⟨_, hf', fun l2 => by rw [own]; simp, fun l2 => by rw [rds]; simp⟩
    | unlock l =>
      obtain ⟨rfl, hf'⟩ := flat_unlock hh l r hf
      exact ⟨_, hf', fun l2 => by rw [own]; simp [eq_comm], fun l2 => by rw [rds]; simp⟩
    | rlock l =>
      obtain ⟨rfl, hf'⟩ := flat_rlock hh l r hf
      exact ⟨_, hf', fun l2 => by rw [own]; simp, fun l2 => by rw [rds]; simp⟩
    | runlock l =>
      obtain ⟨rfl, hf'⟩ := flat_runlock hh l r hf
      exact ⟨_, hf', fun l2 => by rw [own]; simp, fun l2 => by rw [rds]; simp [eq_comm]⟩
    | read x =>
      exact ⟨hh, flat_other hh _ r (Or.inl (by simp [Action.access])) hf, fun l2 => by rw [own]; simp,
        fun l2 => by rw [rds]; simp⟩
    | write x =>
      exact ⟨hh, flat_other hh _ r (Or.inl (by simp [Action.access])) hf, fun l2 => by rw [own]; simp,
        fun l2 => by rw [rds]; simp⟩
    | tau => exact ⟨hh, flat_other hh _ r (Or.inr rfl) hf, fun l2 => by rw [own]; simp, fun l2 => by rw [rds]; simp⟩
  · -- blocked: at most the announcement of a writer
    rw [hs]
    cases a with
    | lock l =>
      simp only [announce]
      split
      · rename_i hcond
        obtain ⟨h1, h2, h3, h4, h5⟩ := h
        refine ⟨h1, h2, h3, ?_, h5⟩
        intro l2 u hu
        by_cases hl2 : l2 = l
        · subst hl2
          simp only [upd_same, Option.some.injEq] at hu
          subst hu
          exact ⟨hcond.1, r, hj⟩
        · simp only [upd, hl2, if_false] at hu
          exact h4 l2 u hu
      · exact h
    | _ => exact h

theorem finv_runFrom (wv : WriteFn) (sched : List Nat) (s : State) (h : FInv s) :
    FInv (runFrom wv s sched) :=
  List.foldlRecOn sched (step wv) h fun s hs j _ => finv_step wv s j hs

theorem finv_run (wv : WriteFn) (p : Prog) (h : NoNesting p) (sched : List Nat) : FInv (run wv p sched) :=
  finv_runFrom wv sched _ (finv_init p h)

/-- a thread that holds `l`, in either mode, has a next action, and it can fire -/
theorem flat_held_enabled (s : State) (u l : Nat) (rd : Bool) (tu : Thread) (htu : s.rem[u]? = some tu)
    (hf : flat (some (l, rd)) tu = true) (hold : if rd then u ∈ s.readers l else s.owner l = some u) :
    Enabled s u := by
  cases tu with
  | nil => simp [flat] at hf
  | cons b r' =>
    cases b with
    | lock l' => simp [flat] at hf
    | rlock l' => simp [flat] at hf
    | unlock l' =>
      obtain ⟨he, _⟩ := flat_unlock _ l' r' hf
      simp only [Option.some.injEq, Prod.mk.injEq] at he
      obtain ⟨rfl, rfl⟩ := he
      exact ⟨_, _, htu, by simpa [canFire] using hold⟩
    | runlock l' =>
      obtain ⟨he, _⟩ := flat_runlock _ l' r' hf
      simp only [Option.some.injEq, Prod.mk.injEq] at he
      obtain ⟨rfl, rfl⟩ := he
      exact ⟨_, _, htu, by simpa [canFire] using hold⟩
    | read x => exact ⟨_, _, htu, rfl⟩
    | write x => exact ⟨_, _, htu, rfl⟩
    | tau => exact ⟨_, _, htu, rfl⟩

theorem finv_writer_enabled (s : State) (h : FInv s) (l u : Nat) (hu : s.owner l = some u) : Enabled s u := by
  obtain ⟨tu, htu⟩ := h.ownerLive l u hu
  obtain ⟨hh, hf, hoo, _⟩ := h.1 u tu htu
  rw [(hoo l).mp hu] at hf
  exact flat_held_enabled s u l false tu htu hf hu

theorem finv_reader_enabled (s : State) (h : FInv s) (l u : Nat) (hu : u ∈ s.readers l) : Enabled s u := by
  obtain ⟨tu, htu⟩ := h.readerLive l u hu
  obtain ⟨hh, hf, _, hrr⟩ := h.1 u tu htu
  rw [(hrr l).mp hu] at hf
  exact flat_held_enabled s u l true tu htu hf hu

/-- somebody can always move towards handing over a lock that is asked for -/
theorem finv_lock_progress (s : State) (h : FInv s) (l : Nat)
    (hnone : s.owner l = none → s.readers l = [] → s.pending l = none → False) : ∃ u, Enabled s u := by
  cases hown : s.owner l with
  | some u => exact ⟨u, finv_writer_enabled s h l u hown⟩
  | none =>
    cases hrd : s.readers l with
    | cons u rest => exact ⟨u, finv_reader_enabled s h l u (by simp [hrd])⟩
    | nil =>
      cases hpd : s.pending l with
      | none => exact absurd hpd (fun hp => hnone hown hrd hp)
      | some w =>
        obtain ⟨_, r, hr⟩ := h.pending l w hpd
        exact ⟨w, _, _, hr, by simp [canFire, hown, hrd, hpd]⟩

theorem finv_enabled (s : State) (h : FInv s) (hnd : ¬ AllDone s) : ∃ i, Enabled s i := by
  unfold AllDone at hnd
  simp only [Classical.not_forall] at hnd
  obtain ⟨i, t, ht, hne⟩ := hnd
  cases t with
  | nil => exact absurd rfl hne
  | cons a r =>
    obtain ⟨hh, hf, hoo, hrr⟩ := h.1 i _ ht
    cases a with
    | lock l =>
      apply Classical.byContradiction
      intro hno
      apply hno
      apply finv_lock_progress s h l
      intro h1 h2 h3
      exact hno ⟨i, _, _, ht, by simp [canFire, h1, h2, h3]⟩
    | rlock l =>
      apply Classical.byContradiction
      intro hno
      apply hno
      apply finv_lock_progress s h l
      intro h1 _ h3
      exact hno ⟨i, _, _, ht, by simp [canFire, h1, h3]⟩
    | unlock l =>
      obtain ⟨rfl, _⟩ := flat_unlock hh l r hf
      exact ⟨i, _, _, ht, by simpa [canFire] using (hoo l).mpr rfl⟩
    | runlock l =>
      obtain ⟨rfl, _⟩ := flat_runlock hh l r hf
      exact ⟨i, _, _, ht, by simpa [canFire] using (hrr l).mpr rfl⟩
    | read x => exact ⟨i, _, _, ht, rfl⟩
    | write x => exact ⟨i, _, _, ht, rfl⟩
    | tau => exact ⟨i, _, _, ht, rfl⟩

theorem enabled_iff (s : State) (i : Nat) : Enabled s i ↔ enabledB s i = true := by
  unfold Enabled enabledB
  cases h : s.rem[i]? with
  | none => simp
  | some t =>
    cases t with
    | nil => simp
    | cons a r => simp

theorem allDone_of_check (s : State) (h : s.rem.all List.isEmpty = true) : AllDone s := by
  intro i t hi
  rw [List.all_eq_true] at h
  have := h t (List.mem_of_getElem? hi)
  cases t with
  | nil => rfl
  | cons a r => simp at this

theorem stuck_of_check (s : State) (h : stuckB s = true) : ¬ AllDone s ∧ ∀ i, ¬ Enabled s i := by
  simp only [stuckB, Bool.and_eq_true, Bool.not_eq_true', List.all_eq_true, List.mem_range] at h
  obtain ⟨h1, h2⟩ := h
  refine ⟨?_, ?_⟩
  · intro hd
    have : s.rem.all List.isEmpty = true := by
      rw [List.all_eq_true]
      intro t ht
      obtain ⟨i, hi⟩ := List.getElem?_of_mem ht
      rw [hd i t hi]; rfl
    rw [this] at h1; cases h1
  · intro i hi
    have hb := (enabled_iff s i).mp hi
    obtain ⟨a, r, hr, _⟩ := hi
    rw [h2 i (getElem?_lt_of_some _ _ _ hr)] at hb; cases hb

/-! ## … and every run can be completed -/

def totalRem (s : State) : Nat := (s.rem.map List.length).sum

theorem sum_length_set {α : Type} (xs : List (List α)) (i : Nat) (a : α) (r : List α)
    (h : xs[i]? = some (a :: r)) :
    ((xs.set i r).map List.length).sum + 1 = (xs.map List.length).sum := by
  induction xs generalizing i with
  | nil => simp at h
  | cons x xs ih =>
    cases i with
    | zero =>
      simp only [List.getElem?_cons_zero, Option.some.injEq] at h
      subst h
      simp only [List.set_cons_zero, List.map_cons, List.sum_cons, List.length_cons]
      omega
    | succ i =>
      simp only [List.getElem?_cons_succ] at h
      have := ih i h
      simp only [List.set_cons_succ, List.map_cons, List.sum_cons]
      omega

theorem enabled_step_rem (wv : WriteFn) (s : State) (i : Nat) (h : Enabled s i) :
    ∃ a r, s.rem[i]? = some (a :: r) ∧ (step wv s i).rem = s.rem.set i r := by
  obtain ⟨a, r, hr, hen⟩ := h
  exact ⟨a, r, hr, by rw [step_fire wv s i a r hr hen]; simp⟩

theorem enabled_step_totalRem (wv : WriteFn) (s : State) (i : Nat) (h : Enabled s i) :
    totalRem (step wv s i) + 1 = totalRem s := by
  obtain ⟨a, r, hr, hstep⟩ := enabled_step_rem wv s i h
  unfold totalRem
  rw [hstep]
  exact sum_length_set s.rem i a r hr

theorem finv_can_finish (wv : WriteFn) (n : Nat) :
    ∀ s : State, FInv s → totalRem s = n → ∃ more : List Nat, AllDone (runFrom wv s more) := by
  induction n with
  | zero =>
    intro s hf hn
    refine ⟨[], ?_⟩
    apply Classical.byContradiction
    intro hnd
    obtain ⟨i, hi⟩ := finv_enabled s hf hnd
    have := enabled_step_totalRem wv s i hi
    omega
  | succ n ih =>
    intro s hf hn
    by_cases hd : AllDone s
    · exact ⟨[], hd⟩
    · obtain ⟨i, hi⟩ := finv_enabled s hf hd
      have hlen := enabled_step_totalRem wv s i hi
      obtain ⟨more, hmore⟩ := ih (step wv s i) (finv_step wv s i hf) (by omega)
      exact ⟨i :: more, hmore⟩

end J5V.Conc.Sched
