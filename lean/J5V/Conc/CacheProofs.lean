import J5V.Conc.CacheSpec
import J5V.Go.ListLemmas
/-! Lemmas for `J5V.Conc.Cache` (core only). The property theorems are restated in
`J5V/Props/C10.lean`. -/
namespace J5V.Conc.Cache


@[simp] theorem find_nil (n : Nat) : find [] n = none := rfl

theorem find_cons (k : Nat) (e : Entry) (c : Cache) (n : Nat) :
    find ((k, e) :: c) n = if k = n then some e else find c n := rfl

theorem find_insert (c : Cache) (n : Nat) (e : Entry) (m : Nat) :
    find (insert c n e) m = if n = m then some e else find c m := rfl

theorem find_setTo_ne (c : Cache) (n m : Nat) (b : Built) (h : m ≠ n) :
    find (setTo c n b) m = find c m := by
  induction c with
  | nil => rfl
  | cons p c ih =>
    obtain ⟨k, e⟩ := p
    simp only [setTo]
    by_cases hk : k = n
    · subst hk
      simp only [if_true, find_cons, Ne.symm h, if_false]
      exact ih
    · simp only [hk, if_false, find_cons]
      rw [ih]

theorem find_setTo_self (c : Cache) (n : Nat) (b : Built) :
    find (setTo c n b) n = (find c n).map (fun _ => some b) := by
  induction c with
  | nil => rfl
  | cons p c ih =>
    obtain ⟨k, e⟩ := p
    simp only [setTo]
    by_cases hk : k = n
    · subst hk; simp [find_cons]
    · simp only [hk, if_false, find_cons]
      rw [ih]

theorem find_rollback (old c : Cache) (m : Nat) :
    find (rollback old c) m = if (find old m).isSome then find c m else none := by
  induction c with
  | nil => simp [rollback]
  | cons p c ih =>
    obtain ⟨k, e⟩ := p
    simp only [rollback, List.filter_cons] at ih ⊢
    by_cases hk : (find old k).isSome = true
    · simp only [hk, if_true, find_cons]
      by_cases hkm : k = m
      · subst hkm; simp [hk]
      · simp only [hkm, if_false]; exact ih
    · simp only [hk, find_cons]
      by_cases hkm : k = m
      · subst hkm
        simp only [Bool.false_eq_true, if_false, hk] at ih ⊢
        exact ih
      · simp only [hkm, if_false, Bool.false_eq_true]
        exact ih

theorem mem_refs (G : Graph) (n t : Nat) (nd : Node) (h : G[n]? = some nd) :
    t ∈ refs G n ↔ ∃ f ∈ nd.fields, f.base = .ref t := by
  simp only [refs, h, List.mem_filterMap]
  constructor
  · rintro ⟨f, hf, he⟩
    refine ⟨f, hf, ?_⟩
    cases hb : f.base <;> simp [hb] at he
    rw [he]
  · rintro ⟨f, hf, he⟩
    exact ⟨f, hf, by simp [he]⟩

theorem goodFrom_ref (G : Graph) (n t : Nat) (h : GoodFrom G n) (ht : t ∈ refs G n) : GoodFrom G t :=
  fun m hm => h m (Reach.head n t m ht hm)

/-! ## frame and new-entry lemmas for the build -/

def Dom (c : Cache) (m : Nat) : Prop := (find c m).isSome = true

def Ext (c c' : Cache) : Prop := ∀ m e, find c m = some e → find c' m = some e

def NewOk (G : Graph) (c c' : Cache) : Prop :=
  ∀ m, find c m = none → ∀ e, find c' m = some e →
    e = some (shallow G m) ∧ nodeOk G m ∧ ∀ t ∈ refs G m, Dom c' t

theorem Dom.find {c : Cache} {m : Nat} (h : Dom c m) : ∃ e, find c m = some e := Option.isSome_iff_exists.mp h
theorem dom_of_find {c : Cache} {m : Nat} {e : Entry} (h : find c m = some e) : Dom c m := by simp [Dom, h]

theorem Ext.refl (c : Cache) : Ext c c := fun _ _ h => h
theorem Ext.trans {a b c : Cache} (h1 : Ext a b) (h2 : Ext b c) : Ext a c := fun m e h => h2 m e (h1 m e h)
theorem Ext.dom {c c' : Cache} (h : Ext c c') (m : Nat) (hd : Dom c m) : Dom c' m := by
  obtain ⟨e, hf⟩ := hd.find
  exact dom_of_find (h m e hf)

theorem NewOk.refl (G : Graph) (c : Cache) : NewOk G c c := by
  intro m hm e he; rw [hm] at he; cases he

theorem NewOk.trans {G : Graph} {a b c : Cache} (h1 : NewOk G a b) (_hab : Ext a b) (h2 : NewOk G b c) (hbc : Ext b c) :
    NewOk G a c := by
  intro m hm e he
  cases hb : find b m with
  | none => exact h2 m hb e he
  | some eb =>
    have := hbc m eb hb
    rw [this] at he
    have hee : eb = e := Option.some.inj he
    obtain ⟨p1, p2, p3⟩ := h1 m hm eb hb
    exact ⟨hee ▸ p1, p2, fun t ht => hbc.dom t (p3 t ht)⟩

theorem dom_setTo (c : Cache) (n m : Nat) (b : Built) : Dom (setTo c n b) m ↔ Dom c m := by
  unfold Dom
  by_cases h : m = n
  · subst h; rw [find_setTo_self]; cases find c m <;> simp
  · rw [find_setTo_ne c n m b h]

theorem ext_insert_fresh (c : Cache) (d : Nat) (h : find c d = none) : Ext c (insert c d none) := by
  intro x e hx
  rw [find_insert]
  by_cases hdx : d = x
  · subst hdx; rw [h] at hx; cases hx
  · simp [hdx, hx]

/-- what a recursive build call guarantees -/
def RecSpec (G : Graph) (rec : Cache → Nat → Cache × Bool) : Prop :=
  ∀ c n, Ext c (rec c n).1 ∧
    ((rec c n).2 = true → nodeOk G n ∧ (∀ t ∈ refs G n, Dom (rec c n).1 t) ∧ NewOk G c (rec c n).1)

theorem fold_false (G : Graph) (rec : Cache → Nat → Cache × Bool) (fs : List Field) (c : Cache) :
    fs.foldl (stepField G rec) (c, false) = (c, false) := by
  induction fs with
  | nil => rfl
  | cons f fs ih => simp only [List.foldl_cons, stepField]; exact ih

/-- the four things one field can do to a build that has not failed yet: nothing (a scalar, or a
reference that is registered already), fail on the spot, fail in the build of the schema it refers
to, or build that schema and link it -/
theorem stepField_cases (G : Graph) (rec : Cache → Nat → Cache × Bool) (c : Cache) (f : Field) :
    (stepField G rec (c, true) f = (c, true) ∧ (f.base = .scalar ∨ ∃ m e, f.base = .ref m ∧ find c m = some e)) ∨
    (stepField G rec (c, true) f = (c, false) ∧ f.base = .bad) ∨
    ∃ m, f.base = .ref m ∧ find c m = none ∧
      (((rec (insert c m none) m).2 = false ∧ stepField G rec (c, true) f = ((rec (insert c m none) m).1, false)) ∨
       ((rec (insert c m none) m).2 = true ∧
          stepField G rec (c, true) f = (setTo (rec (insert c m none) m).1 m (shallow G m), true))) := by
  cases hb : f.base with
  | scalar => exact Or.inl ⟨by simp [stepField, hb], Or.inl rfl⟩
  | bad => exact Or.inr (Or.inl ⟨by simp [stepField, hb], rfl⟩)
  | ref m =>
    cases hf : find c m with
    | some e => exact Or.inl ⟨by simp [stepField, hb, hf], Or.inr ⟨m, e, rfl, hf⟩⟩
    | none =>
      refine Or.inr (Or.inr ⟨m, rfl, hf, ?_⟩)
      cases hok : (rec (insert c m none) m).2 with
      | false => exact Or.inl ⟨rfl, by simp [stepField, hb, hf, hok]⟩
      | true => exact Or.inr ⟨rfl, by simp [stepField, hb, hf, hok]⟩

/-- register the placeholder of `m`, build it, link it: the three steps that are one field of
`messageProperties` and the body of `Schema` -/
theorem link_spec (G : Graph) (rec : Cache → Nat → Cache × Bool) (hrec : RecSpec G rec) (c : Cache) (m : Nat)
    (hf : find c m = none) (hok : (rec (insert c m none) m).2 = true) :
    Ext c (setTo (rec (insert c m none) m).1 m (shallow G m)) ∧
    find (setTo (rec (insert c m none) m).1 m (shallow G m)) m = some (some (shallow G m)) ∧
    NewOk G c (setTo (rec (insert c m none) m).1 m (shallow G m)) := by
  obtain ⟨r1, r2⟩ := hrec (insert c m none) m
  obtain ⟨q1, q2, q3⟩ := r2 hok
  have hm3 : find (setTo (rec (insert c m none) m).1 m (shallow G m)) m = some (some (shallow G m)) := by
    rw [find_setTo_self, r1 m none (by simp [find_insert])]; rfl
  refine ⟨fun x e hx => ?_, hm3, fun x hx e he => ?_⟩
  · have hxm : x ≠ m := by rintro rfl; rw [hf] at hx; cases hx
    rw [find_setTo_ne _ _ _ _ hxm]
    exact ((ext_insert_fresh c m hf).trans r1) x e hx
  · by_cases hxm : x = m
    · subst hxm
      rw [hm3] at he; cases he
      exact ⟨rfl, q1, fun t ht => (dom_setTo _ _ _ _).mpr (q2 t ht)⟩
    · rw [find_setTo_ne _ _ _ _ hxm] at he
      obtain ⟨p1, p2, p3⟩ := q3 x (by rw [find_insert]; simp [Ne.symm hxm, hx]) e he
      exact ⟨p1, p2, fun t ht => (dom_setTo _ _ _ _).mpr (p3 t ht)⟩

theorem fold_spec (G : Graph) (rec : Cache → Nat → Cache × Bool) (hrec : RecSpec G rec)
    (fs : List Field) (c : Cache) :
    Ext c (fs.foldl (stepField G rec) (c, true)).1 ∧
    ((fs.foldl (stepField G rec) (c, true)).2 = true →
      (∀ f ∈ fs, f.base ≠ .bad ∧ ∀ m, f.base = .ref m → Dom (fs.foldl (stepField G rec) (c, true)).1 m) ∧
      NewOk G c (fs.foldl (stepField G rec) (c, true)).1) := by
  induction fs generalizing c with
  | nil => exact ⟨Ext.refl c, fun _ => ⟨by simp, NewOk.refl G c⟩⟩
  | cons f fs ih =>
    simp only [List.foldl_cons]
    rcases stepField_cases G rec c f with ⟨hs, hdone⟩ | ⟨hs, _⟩ | ⟨m, hb, hf, ⟨hok1, hs⟩ | ⟨hok1, hs⟩⟩
    · -- nothing to build
      rw [hs]
      obtain ⟨i1, i2⟩ := ih c
      refine ⟨i1, fun hok => ?_⟩
      obtain ⟨j1, j2⟩ := i2 hok
      refine ⟨fun g hg => ?_, j2⟩
      rcases List.mem_cons.mp hg with rfl | hg
      · rcases hdone with hsc | ⟨m, e, hb, hf⟩
        · exact ⟨by simp [hsc], fun m hm => by simp [hsc] at hm⟩
        · refine ⟨by simp [hb], fun m' hm' => ?_⟩
          rw [hb] at hm'
          cases hm'
          exact i1.dom m (dom_of_find hf)
      · exact j1 g hg
    · rw [hs, fold_false]
      exact ⟨Ext.refl c, fun h => by simp at h⟩
    · rw [hs, fold_false]
      exact ⟨(ext_insert_fresh c m hf).trans (hrec (insert c m none) m).1, fun h => by simp at h⟩
    · rw [hs]
      obtain ⟨hc3, hm3, hn3⟩ := link_spec G rec hrec c m hf hok1
      obtain ⟨i1, i2⟩ := ih (setTo (rec (insert c m none) m).1 m (shallow G m))
      refine ⟨hc3.trans i1, fun hok => ?_⟩
      obtain ⟨j1, j2⟩ := i2 hok
      refine ⟨fun g hg => ?_, hn3.trans hc3 j2 i1⟩
      rcases List.mem_cons.mp hg with rfl | hg
      · refine ⟨by simp [hb], fun m' hm' => ?_⟩
        rw [hb] at hm'
        cases hm'
        exact i1.dom m (dom_of_find hm3)
      · exact j1 g hg

theorem buildNode_spec (G : Graph) (fuel : Nat) : RecSpec G (buildNode G fuel) := by
  induction fuel with
  | zero => intro c n; exact ⟨Ext.refl c, fun h => by simp [buildNode] at h⟩
  | succ fuel ih =>
    intro c n
    cases hn : G[n]? with
    | none =>
      have : buildNode G (fuel + 1) c n = (c, false) := by simp [buildNode, hn]
      rw [this]; exact ⟨Ext.refl c, fun h => by simp at h⟩
    | some nd =>
      cases hs : nd.selfOk with
      | false =>
        have : buildNode G (fuel + 1) c n = (c, false) := by simp [buildNode, hn, hs]
        rw [this]; exact ⟨Ext.refl c, fun h => by simp at h⟩
      | true =>
        have : buildNode G (fuel + 1) c n = nd.fields.foldl (stepField G (buildNode G fuel)) (c, true) := by
          simp [buildNode, hn, hs]
        rw [this]
        obtain ⟨i1, i2⟩ := fold_spec G _ ih nd.fields c
        refine ⟨i1, fun hok => ?_⟩
        obtain ⟨j1, j2⟩ := i2 hok
        refine ⟨⟨nd, hn, hs, fun f hf => (j1 f hf).1⟩, ?_, j2⟩
        intro t ht
        obtain ⟨f, hf, hft⟩ := (mem_refs G n t nd hn).mp ht
        exact (j1 f hf).2 t hft

/-! ## the invariant of every quiescent cache -/

/-- every registered schema is linked to the schema its descriptor denotes, can be built, and all
the schemas it references are registered too -/
def Inv (G : Graph) (c : Cache) : Prop :=
  ∀ m e, find c m = some e → e = some (shallow G m) ∧ nodeOk G m ∧ ∀ t ∈ refs G m, Dom c t

theorem inv_empty (G : Graph) : Inv G emptyCache := by
  intro m e h; simp [emptyCache] at h

theorem inv_congr (G : Graph) (c c' : Cache) (h : ∀ m, find c' m = find c m) (hi : Inv G c) : Inv G c' := by
  intro m e hm
  rw [h m] at hm
  obtain ⟨p1, p2, p3⟩ := hi m e hm
  exact ⟨p1, p2, fun t ht => by unfold Dom; rw [h t]; exact p3 t ht⟩

theorem inv_reach_dom (G : Graph) (c : Cache) (hi : Inv G c) (a b : Nat) (hr : Reach G a b)
    (ha : Dom c a) : Dom c b := by
  induction hr with
  | refl a => exact ha
  | head a t b ht _ ih =>
    obtain ⟨e, hf⟩ := ha.find
    exact ih ((hi a e hf).2.2 t ht)

theorem inv_good (G : Graph) (c : Cache) (hi : Inv G c) (d : Nat) (hd : Dom c d) : GoodFrom G d := by
  intro m hm
  obtain ⟨e, hf⟩ := (inv_reach_dom G c hi d m hm hd).find
  exact (hi m e hf).2.1

theorem inv_iff_newOk (G : Graph) (c : Cache) : Inv G c ↔ NewOk G emptyCache c :=
  ⟨fun h m _ e he => h m e he, fun h m e he => h m rfl e he⟩

/-- a successful build of an unregistered request on a quiescent cache -/
theorem inv_after_build (G : Graph) (c : Cache) (hi : Inv G c) (d fuel : Nat) (hd : find c d = none)
    (hok : (buildNode G fuel (insert c d none) d).2 = true) :
    Inv G (setTo (buildNode G fuel (insert c d none) d).1 d (shallow G d)) := by
  obtain ⟨hext, _, hnew⟩ := link_spec G _ (buildNode_spec G fuel) c d hd hok
  exact (inv_iff_newOk ..).mpr (((inv_iff_newOk ..).mp hi).trans (fun _ _ h => nomatch h) hnew hext)

theorem find_after_failed_build (G : Graph) (c : Cache) (d fuel : Nat) (hd : find c d = none) (m : Nat) :
    find (rollback c (buildNode G fuel (insert c d none) d).1) m = find c m := by
  obtain ⟨r1, _⟩ := buildNode_spec G fuel (insert c d none) d
  rw [find_rollback]
  cases hm : find c m with
  | none => simp
  | some e => simpa using ((ext_insert_fresh c d hd).trans r1) m e hm

/-! ## the fuel is never exhausted -/

def unreg (G : Graph) (c : Cache) : Nat := (List.range G.length).countP (fun m => (find c m).isNone)

theorem unreg_le (G : Graph) (c : Cache) : unreg G c ≤ G.length := by
  unfold unreg
  exact Nat.le_trans (List.countP_le_length) (by simp)

theorem unreg_mono (G : Graph) (c c' : Cache) (h : ∀ m, Dom c m → Dom c' m) : unreg G c' ≤ unreg G c := by
  unfold unreg
  apply List.countP_mono_left
  intro m _ hm
  cases hf : find c m with
  | none => rfl
  | some e =>
    have := h m (by simp [Dom, hf])
    unfold Dom at this
    cases hf' : find c' m with
    | none => simp [hf'] at this
    | some e' => simp [hf'] at hm

theorem unreg_insert_lt (G : Graph) (c : Cache) (m : Nat) (e : Entry) (hm : m < G.length)
    (hf : find c m = none) : unreg G (insert c m e) < unreg G c := by
  unfold unreg
  simp only [List.countP_eq_length_filter]
  apply Go.filter_length_lt _ _ _ _ m (List.mem_range.mpr hm)
  · simp [hf]
  · simp [find_insert]
  · intro x hx
    rw [find_insert] at hx
    by_cases hmx : m = x
    · simp [hmx] at hx
    · simpa [hmx] using hx

theorem fold_fuel (G : Graph) (fuel : Nat) (_n : Nat)
    (ih : ∀ c m, unreg G c < fuel → GoodFrom G m → (buildNode G fuel c m).2 = true)
    (fs : List Field) (hbad : ∀ f ∈ fs, f.base ≠ .bad) (hgood : ∀ f ∈ fs, ∀ m, f.base = .ref m → GoodFrom G m)
    (c : Cache) (hc : unreg G c ≤ fuel) :
    (fs.foldl (stepField G (buildNode G fuel)) (c, true)).2 = true := by
  induction fs generalizing c with
  | nil => rfl
  | cons f fs ihf =>
    have hbad' : ∀ g ∈ fs, g.base ≠ .bad := fun g hg => hbad g (List.mem_cons_of_mem f hg)
    have hgood' : ∀ g ∈ fs, ∀ m, g.base = .ref m → GoodFrom G m := fun g hg => hgood g (List.mem_cons_of_mem f hg)
    simp only [List.foldl_cons]
    rcases stepField_cases G (buildNode G fuel) c f with ⟨hs, _⟩ | ⟨_, hb⟩ | ⟨m, hb, hf, hcase⟩
    · rw [hs]; exact ihf hbad' hgood' c hc
    · exact absurd hb (hbad f (List.mem_cons_self ..))
    · have hgm : GoodFrom G m := hgood f (List.mem_cons_self ..) m hb
      have hml : m < G.length := by
        obtain ⟨nd, hnd, _⟩ := hgm m (Reach.refl m)
        exact (List.getElem?_eq_some_iff.mp hnd).1
      have hlt := unreg_insert_lt G c m none hml hf
      have hok := ih (insert c m none) m (by omega) hgm
      rcases hcase with ⟨hfail, _⟩ | ⟨_, hs⟩
      · rw [hok] at hfail; cases hfail
      · rw [hs]
        apply ihf hbad' hgood'
        obtain ⟨r1, _⟩ := buildNode_spec G fuel (insert c m none) m
        have : unreg G (setTo (buildNode G fuel (insert c m none) m).1 m (shallow G m)) ≤ unreg G (insert c m none) :=
          unreg_mono G _ _ (fun x hx => (dom_setTo _ _ _ _).mpr (r1.dom x hx))
        omega

theorem buildNode_fuel_enough (G : Graph) (fuel : Nat) :
    ∀ c n, unreg G c < fuel → GoodFrom G n → (buildNode G fuel c n).2 = true := by
  induction fuel with
  | zero => intro c n h; omega
  | succ fuel ih =>
    intro c n hc hg
    obtain ⟨nd, hn, hs, hbad⟩ := hg n (Reach.refl n)
    have : buildNode G (fuel + 1) c n = nd.fields.foldl (stepField G (buildNode G fuel)) (c, true) := by
      simp [buildNode, hn, hs]
    rw [this]
    apply fold_fuel G fuel n ih nd.fields hbad ?_ c (by omega)
    intro f hf m hm
    exact goodFrom_ref G n m hg ((mem_refs G n m nd hn).mpr ⟨f, hf, hm⟩)

/-! ## `schemaOf` on a quiescent cache -/

/-- what one request does to a quiescent cache -/
structure SchemaOfSpec (G : Graph) (c : Cache) (d : Nat) : Prop where
  inv : Inv G (schemaOf G c d).1
  ok_iff : (schemaOf G c d).2 = .ok ↔ GoodFrom G d
  dom : (schemaOf G c d).2 = .ok → Dom (schemaOf G c d).1 d
  keeps : ∀ m e, find c m = some e → find (schemaOf G c d).1 m = some e
  err_same : (schemaOf G c d).2 = .err → ∀ m, find (schemaOf G c d).1 m = find c m

theorem schemaOf_spec (G : Graph) (c : Cache) (hi : Inv G c) (d : Nat) : SchemaOfSpec G c d := by
  cases hd : find c d with
  | some e =>
    obtain ⟨rfl, _, _⟩ := hi d e hd
    have : schemaOf G c d = (c, .ok) := by simp [schemaOf, hd]
    refine ⟨?_, ?_, ?_, ?_, ?_⟩ <;> rw [this]
    · exact hi
    · exact ⟨fun _ => inv_good G c hi d (dom_of_find hd), fun _ => rfl⟩
    · exact fun _ => dom_of_find hd
    · exact fun _ _ h => h
    · exact fun h => by simp at h
  | none =>
    cases hok : (buildNode G (G.length + 1) (insert c d none) d).2 with
    | true =>
      have : schemaOf G c d = (setTo (buildNode G (G.length + 1) (insert c d none) d).1 d (shallow G d), .ok) := by
        simp [schemaOf, hd, hok]
      have hinv := inv_after_build G c hi d _ hd hok
      obtain ⟨r1, _⟩ := buildNode_spec G (G.length + 1) (insert c d none) d
      have hdd : Dom (setTo (buildNode G (G.length + 1) (insert c d none) d).1 d (shallow G d)) d := by
        apply (dom_setTo _ _ _ _).mpr
        exact r1.dom d (by simp [Dom, find_insert])
      refine ⟨?_, ?_, ?_, ?_, ?_⟩ <;> rw [this]
      · exact hinv
      · exact ⟨fun _ => inv_good G _ hinv d hdd, fun _ => rfl⟩
      · exact fun _ => hdd
      · intro m e hm
        have hmd : m ≠ d := by rintro rfl; rw [hd] at hm; cases hm
        rw [find_setTo_ne _ _ _ _ hmd]
        exact ((ext_insert_fresh c d hd).trans r1) m e hm
      · exact fun h => by simp at h
    | false =>
      have : schemaOf G c d = (rollback c (buildNode G (G.length + 1) (insert c d none) d).1, .err) := by
        simp [schemaOf, hd, hok]
      have hfind := find_after_failed_build G c d (G.length + 1) hd
      refine ⟨?_, ?_, ?_, ?_, ?_⟩ <;> rw [this]
      · exact inv_congr G c _ hfind hi
      · refine ⟨fun h => by simp at h, fun hg => ?_⟩
        -- a good request has fuel enough, so the build cannot have failed
        have hlt : unreg G (insert c d none) < G.length + 1 := Nat.lt_succ_of_le (unreg_le G _)
        have := buildNode_fuel_enough G (G.length + 1) (insert c d none) d hlt hg
        rw [hok] at this
        cases this
      · exact fun h => by simp at h
      · exact fun m e hm => by rw [hfind m]; exact hm
      · exact fun _ => hfind

/-- the verdict depends on the descriptors only, not on what is cached -/
theorem schemaOf_verdict (G : Graph) (c c' : Cache) (hi : Inv G c) (hi' : Inv G c') (d : Nat) :
    (schemaOf G c d).2 = (schemaOf G c' d).2 := by
  have v := (schemaOf_spec G c hi d).ok_iff
  have v' := (schemaOf_spec G c' hi' d).ok_iff
  cases h : (schemaOf G c d).2 with
  | ok => exact (v'.mpr (v.mp h)).symm
  | err =>
    cases h' : (schemaOf G c' d).2 with
    | ok => rw [v.mpr (v'.mp h')] at h; cases h
    | err => rfl

theorem schemaOf_ok_links (G : Graph) (c : Cache) (hi : Inv G c) (d : Nat)
    (hok : (schemaOf G c d).2 = .ok) (m : Nat) (hm : Reach G d m) :
    find (schemaOf G c d).1 m = some (some (shallow G m)) := by
  obtain ⟨hi', _, hd, _, _⟩ := schemaOf_spec G c hi d
  obtain ⟨e, hf⟩ := (inv_reach_dom G _ hi' d m hm (hd hok)).find
  rw [hf, (hi' m e hf).1]

theorem schemaOf_transparent (G : Graph) (c c' : Cache) (hi : Inv G c) (hi' : Inv G c') (d : Nat) :
    (schemaOf G c d).2 = (schemaOf G c' d).2 ∧
    ((schemaOf G c d).2 = .ok → ∀ m, Reach G d m →
      find (schemaOf G c d).1 m = some (some (shallow G m)) ∧
      find (schemaOf G c' d).1 m = some (some (shallow G m))) :=
  have hv := schemaOf_verdict G c c' hi hi' d
  ⟨hv, fun hok m hm => ⟨schemaOf_ok_links G c hi d hok m hm, schemaOf_ok_links G c' hi' d (hv ▸ hok) m hm⟩⟩

theorem reachable_inv (G : Graph) (c : Cache) (h : Reachable G c) : Inv G c := by
  induction h with
  | empty => exact inv_empty G
  | step c d _ ih => exact (schemaOf_spec G c ih d).inv

theorem reachable_runReqs (G : Graph) (c : Cache) (h : Reachable G c) (ds : List Nat) :
    Reachable G (runReqs G c ds) :=
  List.foldlRecOn ds _ h fun c hc d _ => Reachable.step c d hc

end J5V.Conc.Cache
