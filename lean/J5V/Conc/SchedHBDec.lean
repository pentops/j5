import J5V.Conc.SchedHB
/-! Happens-before is decidable (core only): since every generating edge goes forward in the trace,
`a` happens before `b` iff `b` is reachable from `a` through increasing positions; `hbB` computes
that row by row. Hence `RaceHB` of a concrete trace can be settled by evaluation (`raceHBb`). -/
namespace J5V.Conc.Sched

/-- for every position `b < n`: does `a` happen before `b`? -/
def reachRow (tr : List Ev) (a : Nat) : Nat → List Bool
  | 0 => []
  | n + 1 =>
    reachRow tr a n ++
      [decide (a < n) && (hbEdgeB tr a n || (List.range n).any fun c => (reachRow tr a n).getD c false && hbEdgeB tr c n)]

def hbB (tr : List Ev) (a b : Nat) : Bool := (reachRow tr a (b + 1)).getD b false

theorem reachRow_length (tr : List Ev) (a n : Nat) : (reachRow tr a n).length = n := by
  induction n with
  | zero => rfl
  | succ n ih => simp [reachRow, ih]

theorem reachRow_stable (tr : List Ev) (a b n : Nat) (h : b < n) :
    (reachRow tr a n).getD b false = hbB tr a b := by
  induction n with
  | zero => omega
  | succ n ih =>
    rcases Nat.lt_or_ge b n with hb | hb
    · rw [← ih hb]
      simp only [reachRow, List.getD_eq_getElem?_getD]
      rw [List.getElem?_append_left (by rw [reachRow_length]; exact hb)]
    · have : b = n := by omega
      subst this
      rfl

theorem getD_concat_length (xs : List Bool) (v d : Bool) (n : Nat) (h : xs.length = n) :
    (xs ++ [v]).getD n d = v := by
  subst h; simp [List.getD_eq_getElem?_getD]

/-- the recursion `hbB` solves -/
theorem hbB_spec (tr : List Ev) (a b : Nat) :
    hbB tr a b = true ↔ a < b ∧ (hbEdgeB tr a b = true ∨ ∃ c, c < b ∧ hbB tr a c = true ∧ hbEdgeB tr c b = true) := by
  have hlast : hbB tr a b = (decide (a < b) && (hbEdgeB tr a b ||
      (List.range b).any fun c => (reachRow tr a b).getD c false && hbEdgeB tr c b)) :=
    getD_concat_length _ _ _ _ (reachRow_length tr a b)
  rw [hlast]
  simp only [Bool.and_eq_true, decide_eq_true_eq, Bool.or_eq_true, List.any_eq_true, List.mem_range]
  constructor
  · rintro ⟨hab, h | ⟨c, hc, h1, h2⟩⟩
    · exact ⟨hab, Or.inl h⟩
    · exact ⟨hab, Or.inr ⟨c, hc, by rw [← reachRow_stable tr a c b hc]; exact h1, h2⟩⟩
  · rintro ⟨hab, h | ⟨c, hc, h1, h2⟩⟩
    · exact ⟨hab, Or.inl h⟩
    · exact ⟨hab, Or.inr ⟨c, hc, by rw [reachRow_stable tr a c b hc]; exact h1, h2⟩⟩

theorem hbEdgeB_iff (tr : List Ev) (a b : Nat) :
    hbEdgeB tr a b = true ↔ ∃ ea eb, tr[a]? = some ea ∧ tr[b]? = some eb ∧
      (ea.tid = eb.tid ∨ swEdge ea.act eb.act = true) := by
  unfold hbEdgeB
  cases ha : tr[a]? with
  | none => simp
  | some ea =>
    cases hb : tr[b]? with
    | none => simp
    | some eb => simp

theorem hb_of_edge (tr : List Ev) (a b : Nat) (hab : a < b) (h : hbEdgeB tr a b = true) : HB tr a b := by
  obtain ⟨ea, eb, ha, hb, he⟩ := (hbEdgeB_iff tr a b).mp h
  rcases he with he | he
  · exact HB.po hab ha hb he
  · exact HB.sw hab ha hb he

theorem hb_of_hbB (tr : List Ev) (a : Nat) : ∀ b, hbB tr a b = true → HB tr a b := by
  intro b
  induction b using Nat.strongRecOn with
  | _ b ih =>
    intro h
    obtain ⟨hab, h | ⟨c, hc, h1, h2⟩⟩ := (hbB_spec tr a b).mp h
    · exact hb_of_edge tr a b hab h
    · exact HB.trans (ih c hc h1) (hb_of_edge tr c b hc h2)

/-- every happens-before pair ends in a generating edge -/
theorem hb_last (tr : List Ev) (a b : Nat) (h : HB tr a b) :
    hbEdgeB tr a b = true ∨ ∃ c, HB tr a c ∧ c < b ∧ hbEdgeB tr c b = true := by
  induction h with
  | po h ha hb ht => exact Or.inl ((hbEdgeB_iff ..).mpr ⟨_, _, ha, hb, Or.inl ht⟩)
  | sw h ha hb ht => exact Or.inl ((hbEdgeB_iff ..).mpr ⟨_, _, ha, hb, Or.inr ht⟩)
  | trans h1 h2 _ ih2 =>
    rcases ih2 with he | ⟨d, hd, hdc, he⟩
    · exact Or.inr ⟨_, h1, hb_lt _ _ _ h2, he⟩
    · exact Or.inr ⟨d, HB.trans h1 hd, hdc, he⟩

theorem hbB_of_hb (tr : List Ev) (a : Nat) : ∀ b, HB tr a b → hbB tr a b = true := by
  intro b
  induction b using Nat.strongRecOn with
  | _ b ih =>
    intro h
    rcases hb_last tr a b h with he | ⟨c, hc, hcb, he⟩
    · exact (hbB_spec tr a b).mpr ⟨hb_lt _ _ _ h, Or.inl he⟩
    · exact (hbB_spec tr a b).mpr ⟨hb_lt _ _ _ h, Or.inr ⟨c, hcb, ih c hcb hc, he⟩⟩

theorem hb_iff (tr : List Ev) (a b : Nat) : HB tr a b ↔ hbB tr a b = true :=
  ⟨hbB_of_hb tr a b, hb_of_hbB tr a b⟩

instance (tr : List Ev) (a b : Nat) : Decidable (HB tr a b) := decidable_of_iff _ (hb_iff tr a b).symm

def conflictB (tr : List Ev) (a b : Nat) : Bool :=
  match tr[a]?, tr[b]? with
  | some ea, some eb =>
    ea.tid != eb.tid &&
      (match ea.act.access, eb.act.access with
       | some (x, wa), some (y, wb) => x == y && (wa || wb)
       | _, _ => false)
  | _, _ => false

def raceHBb (tr : List Ev) : Bool :=
  (List.range tr.length).any fun b => (List.range b).any fun a => conflictB tr a b && !hbB tr a b

theorem raceHB_iff (tr : List Ev) : RaceHB tr ↔ raceHBb tr = true := by
  unfold raceHBb
  simp only [List.any_eq_true, List.mem_range, Bool.and_eq_true, Bool.not_eq_true']
  constructor
  · rintro ⟨a, b, ea, eb, x, wa, wb, hab, ha, hb, htid, haa, hba, hw, hn⟩
    refine ⟨b, getElem?_lt_of_some _ _ _ hb, a, hab, ?_, ?_⟩
    · simp only [conflictB, ha, hb, haa, hba]
      rcases hw with rfl | rfl <;> simp [htid]
    · cases hh : hbB tr a b with
      | false => rfl
      | true => exact absurd (hb_of_hbB tr a b hh) hn
  · rintro ⟨b, _, a, hab, hc, hn⟩
    unfold conflictB at hc
    cases ha : tr[a]? with
    | none => simp [ha] at hc
    | some ea =>
      cases hb : tr[b]? with
      | none => simp [ha, hb] at hc
      | some eb =>
        simp only [ha, hb, Bool.and_eq_true, bne_iff_ne, ne_eq] at hc
        obtain ⟨htid, hacc⟩ := hc
        cases haa : ea.act.access with
        | none => simp [haa] at hacc
        | some pa =>
          cases hba : eb.act.access with
          | none => simp [haa, hba] at hacc
          | some pb =>
            obtain ⟨x, wa⟩ := pa
            obtain ⟨y, wb⟩ := pb
            simp only [haa, hba, Bool.and_eq_true, beq_iff_eq, Bool.or_eq_true] at hacc
            obtain ⟨rfl, hw⟩ := hacc
            refine ⟨a, b, ea, eb, x, wa, wb, hab, ha, hb, htid, haa, hba, hw, fun h => ?_⟩
            rw [hbB_of_hb tr a b h] at hn; cases hn

instance (tr : List Ev) : Decidable (RaceHB tr) := decidable_of_iff _ (raceHB_iff tr).symm

end J5V.Conc.Sched
