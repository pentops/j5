import J5V.Conc.SchedRW
/-! Serialisability of reader/writer operations (core only): when every operation is a write
section, a read-only read section or a local step, the result of every schedule — memory, every
thread's observations, what is left of every thread — is the result of running the operations one
at a time in the order in which they completed. Read sections may overlap; they commute because a
reader touches only its own program counter and log, and nothing is written while it is inside.

The mutex case (`SchedSerial.lean`, `SchedLocal.lean`) is not an instance of this one, although a
mutex operation is a write section: there the whole state equals a sequential run, and the proof needs
no commutation (a thread outside its section is blocked, so a step is the identity). -/
namespace J5V.Conc.Sched

/-- the two states look the same to thread `j` -/
structure Agree (j : Nat) (a b : State) : Prop where
  rem : a.rem[j]? = b.rem[j]?
  logs : a.logs j = b.logs j
  mem : a.mem = b.mem
  owner : a.owner = b.owner
  readers : a.readers = b.readers
  pending : a.pending = b.pending

theorem canFire_agree (j : Nat) (a b : State) (h : Agree j a b) (act : Action) :
    canFire a j act = canFire b j act := by
  cases act <;> simp [canFire, h.owner, h.readers, h.pending]

theorem step_agree (wv : WriteFn) (a b : State) (j : Nat) (h : Agree j a b) :
    Agree j (step wv a j) (step wv b j) := by
  cases ha : a.rem[j]? with
  | none =>
    have hb : b.rem[j]? = none := by rw [← h.rem]; exact ha
    simp only [step, ha, hb]; exact h
  | some t =>
    have hb : b.rem[j]? = some t := by rw [← h.rem]; exact ha
    cases t with
    | nil => simp only [step, ha, hb]; exact h
    | cons act r =>
      have hcf := canFire_agree j a b h act
      cases hc : canFire a j act with
      | true =>
        rw [step_fire wv a j act r ha hc, step_fire wv b j act r hb (by rw [← hcf]; exact hc)]
        have hrem : (fire wv a j act r).rem[j]? = (fire wv b j act r).rem[j]? := by
          simp only [fire_rem]
          rw [set_self_getElem? _ _ _ _ ha, set_self_getElem? _ _ _ _ hb]
        refine ⟨hrem, ?_, by rw [fire_mem, fire_mem, h.mem, h.logs], by rw [fire_owner, fire_owner, h.owner],
          by rw [fire_readers, fire_readers, h.readers], by rw [fire_pending, fire_pending, h.pending]⟩
        rw [fire_logs, fire_logs]
        cases act <;> simp only [upd_same, h.logs, h.mem]
      | false =>
        rw [step_blocked wv a j act r ha hc, step_blocked wv b j act r hb (by rw [← hcf]; exact hc)]
        cases act with
        | lock l =>
          simp only [announce]
          by_cases hcond : a.owner l = none ∧ a.pending l = none
          · have hcond' : b.owner l = none ∧ b.pending l = none := by rw [← h.owner, ← h.pending]; exact hcond
            rw [if_pos hcond, if_pos hcond']
            exact ⟨h.rem, h.logs, h.mem, h.owner, h.readers, by simp [h.pending]⟩
          · have hcond' : ¬ (b.owner l = none ∧ b.pending l = none) := by rw [← h.owner, ← h.pending]; exact hcond
            rw [if_neg hcond, if_neg hcond']
            exact h
        | _ => exact h

theorem stepN_agree (wv : WriteFn) (j k : Nat) (a b : State) (h : Agree j a b) :
    Agree j (stepN wv a j k) (stepN wv b j k) := by
  induction k generalizing a b with
  | zero => exact h
  | succ k ih => exact ih _ _ (step_agree wv a b j h)

theorem fire_other (wv : WriteFn) (a : State) (t j : Nat) (act : Action) (r : Thread) (hjt : j ≠ t) :
    (fire wv a t act r).rem[j]? = a.rem[j]? ∧ (fire wv a t act r).logs j = a.logs j := by
  refine ⟨by simp only [fire_rem]; exact List.getElem?_set_ne (Ne.symm hjt), ?_⟩
  cases act <;> simp [fire, upd, hjt]

/-- a step of thread `t` does not touch what another thread has left to do or has read -/
theorem step_other (wv : WriteFn) (a : State) (t j : Nat) (hjt : j ≠ t) :
    (step wv a t).rem[j]? = a.rem[j]? ∧ (step wv a t).logs j = a.logs j := by
  rcases step_cases wv a t with h0 | ⟨act, r, _, _, hs⟩ | ⟨act, r, _, _, hs⟩
  · rw [h0]; exact ⟨rfl, rfl⟩
  · rw [hs]; exact fire_other wv a t j act r hjt
  · rw [hs]
    obtain ⟨pd, hpd⟩ := announce_eq a t act
    rw [hpd]; exact ⟨rfl, rfl⟩

theorem stepN_other (wv : WriteFn) (t j k : Nat) (a : State) (hjt : j ≠ t) :
    (stepN wv a t k).rem[j]? = a.rem[j]? ∧ (stepN wv a t k).logs j = a.logs j := by
  induction k generalizing a with
  | zero => exact ⟨rfl, rfl⟩
  | succ k ih =>
    obtain ⟨h1, h2⟩ := ih (step wv a t)
    obtain ⟨h3, h4⟩ := step_other wv a t j hjt
    exact ⟨h1.trans h3, h2.trans h4⟩

theorem getD_congr {α : Type} (xs ys : List α) (j : Nat) (d : α) (h : xs[j]? = ys[j]?) :
    xs.getD j d = ys.getD j d := by
  simp [List.getD_eq_getElem?_getD, h]


/-- what a thread reads and writes depends only on its own log and the memory -/
theorem fire_logs_mem (wv : WriteFn) (a b : State) (t : Nat) (act : Action) (r : Thread)
    (hl : a.logs t = b.logs t) (hm : a.mem = b.mem) :
    (fire wv a t act r).logs t = (fire wv b t act r).logs t ∧ (fire wv a t act r).mem = (fire wv b t act r).mem := by
  refine ⟨?_, by rw [fire_mem, fire_mem, hm, hl]⟩
  rw [fire_logs, fire_logs]
  cases act <;> simp only [upd_same, hl, hm]

theorem secLen_plain (act : Action) (r : Thread) (h : act.access ≠ none ∨ act = .tau) :
    secLen (act :: r) = secLen r + 1 := by
  cases act <;> simp_all [secLen, Action.access]

/-- Thread `j` is `k > 0` steps into an operation it began in the sequential state `q`: running alone
from `q` for `k` steps leaves it the program `ts` it has left in `s`, with the observations it has in `s`. -/
structure Solo (wv : WriteFn) (s q : State) (j k : Nat) (ts : Thread) : Prop where
  pos : 0 < k
  rem : s.rem[j]? = some ts
  urem : (stepN wv q j k).rem[j]? = some ts
  logs : s.logs j = (stepN wv q j k).logs j
  len : opLenRW (q.rem.getD j []) = k + secLen ts

theorem Solo.frame {wv : WriteFn} {s s' q : State} {j k : Nat} {ts : Thread} (h : Solo wv s q j k ts)
    (h1 : s'.rem[j]? = s.rem[j]?) (h2 : s'.logs j = s.logs j) : Solo wv s' q j k ts :=
  ⟨h.pos, by rw [h1]; exact h.rem, h.urem, by rw [h2]; exact h.logs, h.len⟩

/-- an operation of somebody else joins the sequential state -/
theorem Solo.transport {wv : WriteFn} {s q q' : State} {j k : Nat} {ts : Thread} (h : Solo wv s q j k ts)
    (ha : Agree j q q') : Solo wv s q' j k ts := by
  have hs := stepN_agree wv j k q q' ha
  exact ⟨h.pos, h.rem, by rw [← hs.rem]; exact h.urem, by rw [h.logs, hs.logs],
    by rw [← getD_congr _ _ _ _ ha.rem]; exact h.len⟩

/-- the acquisition that opens a section, from where the sequential state has the thread -/
theorem Solo.enter (wv : WriteFn) (l : Nat) (s q : State) (t : Nat) (a : Action) (r : Thread)
    (hst : s.rem[t]? = some (a :: r)) (hN : s.rem[t]? = q.rem[t]? ∧ s.logs t = q.logs t)
    (ha : a = .lock l ∨ a = .rlock l) (hcq : canFire q t a = true) :
    stepN wv q t 1 = fire wv q t a r ∧ Solo wv (fire wv s t a r) q t 1 r := by
  have hqt : q.rem[t]? = some (a :: r) := by rw [← hN.1]; exact hst
  have hu : stepN wv q t 1 = fire wv q t a r := step_fire _ _ _ _ _ hqt hcq
  refine ⟨hu, Nat.one_pos, by simp only [fire_rem]; exact set_self_getElem? _ _ _ _ hst,
    by rw [hu]; simp only [fire_rem]; exact set_self_getElem? _ _ _ _ hqt, ?_, ?_⟩
  · rw [hu]; rcases ha with rfl | rfl <;> exact hN.2
  · rw [getD_of_getElem? _ _ _ _ hqt]; rcases ha with rfl | rfl <;> simp only [opLenRW] <;> omega

/-- an access or a local step inside the section, taken in `s` and in the solo run alike -/
theorem Solo.advance {wv : WriteFn} {s q : State} {t k : Nat} {act : Action} {r : Thread}
    (h : Solo wv s q t k (act :: r)) (hp : act.access ≠ none ∨ act = .tau)
    (hl : (fire wv s t act r).logs t = (fire wv (stepN wv q t k) t act r).logs t) :
    stepN wv q t (k + 1) = fire wv (stepN wv q t k) t act r ∧ Solo wv (fire wv s t act r) q t (k + 1) r := by
  have hu : stepN wv q t (k + 1) = fire wv (stepN wv q t k) t act r := by
    rw [stepN_succ_right, step_fire _ _ _ _ _ h.urem (fire_plain wv _ t act r hp).2.2.2]
  refine ⟨hu, Nat.succ_pos _, by simp only [fire_rem]; exact set_self_getElem? _ _ _ _ h.rem,
    by rw [hu]; simp only [fire_rem]; exact set_self_getElem? _ _ _ _ h.urem, by rw [hu]; exact hl, ?_⟩
  have := h.len
  rw [secLen_plain act r hp] at this
  omega

/-- the release that closes the section completes the operation in the sequential run -/
theorem Solo.finish {wv : WriteFn} {s q : State} {t k : Nat} {rel : Action} {r : Thread}
    (h : Solo wv s q t k (rel :: r)) (hrel : secLen (rel :: r) = 1)
    (hcu : canFire (stepN wv q t k) t rel = true) :
    stepOpRW wv q t = fire wv (stepN wv q t k) t rel r := by
  unfold stepOpRW
  rw [h.len, hrel, stepN_succ_right, step_fire _ _ _ _ _ h.urem hcu]

/-- Thread `j` is inside a read section: its solo run has only taken the read lock. -/
def InR (wv : WriteFn) (l : Nat) (s q : State) (j : Nat) : Prop :=
  ∃ (k : Nat) (ts : Thread), Solo wv s q j k ts ∧
    (stepN wv q j k).mem = q.mem ∧ (stepN wv q j k).owner = q.owner ∧
    (stepN wv q j k).pending = q.pending ∧ (stepN wv q j k).readers = upd q.readers l [j]

/-- Thread `j` is inside a write section: it owns `l` in its solo run, and the memory is what that run produced. -/
def InW (wv : WriteFn) (l : Nat) (s q : State) (j : Nat) : Prop :=
  ∃ (k : Nat) (ts : Thread), Solo wv s q j k ts ∧ s.mem = (stepN wv q j k).mem ∧
    (stepN wv q j k).owner l = some j ∧ (stepN wv q j k).readers l = [] ∧ (stepN wv q j k).pending l = none

/-- where thread `j` stands against the sequential state `q`, by the mode in which it holds `l` -/
abbrev Thr (wv : WriteFn) (l : Nat) (s q : State) (j : Nat) : Mode → Prop
  | .N => s.rem[j]? = q.rem[j]? ∧ s.logs j = q.logs j
  | .R => InR wv l s q j
  | .W => InW wv l s q j

/-- the concurrent state `s` against the sequential state `q` of the operations completed so far -/
structure RelRW (wv : WriteFn) (l : Nat) (s q : State) : Prop where
  qo : q.owner l = none
  qr : q.readers l = []
  qp : q.pending l = none
  mem : s.owner l = none → s.mem = q.mem
  shape : ∀ (j : Nat) (t : Thread), q.rem[j]? = some t → rwOpsShape l .N t = true
  thr : ∀ j, Thr wv l s q j (modeOf l s j)

theorem Thr.frame {wv : WriteFn} {l : Nat} {s s' q : State} {j : Nat} {m : Mode} (h : Thr wv l s q j m)
    (h1 : s'.rem[j]? = s.rem[j]?) (h2 : s'.logs j = s.logs j) (h3 : m = .W → s'.mem = s.mem) :
    Thr wv l s' q j m := by
  cases m with
  | N => exact ⟨h1.trans h.1, h2.trans h.2⟩
  | R => obtain ⟨k, ts, hs, rest⟩ := h; exact ⟨k, ts, hs.frame h1 h2, rest⟩
  | W => obtain ⟨k, ts, hs, hm, rest⟩ := h; exact ⟨k, ts, hs.frame h1 h2, by rw [h3 rfl]; exact hm, rest⟩

/-- an operation of somebody else joins the sequential state -/
theorem Thr.transport {wv : WriteFn} {l : Nat} {s q q' : State} {j : Nat} {m : Mode} (h : Thr wv l s q j m)
    (hq : q.rem[j]? = q'.rem[j]? ∧ q.logs j = q'.logs j) (hin : m ≠ .N → Agree j q q') : Thr wv l s q' j m := by
  cases m with
  | N => exact ⟨h.1.trans hq.1, h.2.trans hq.2⟩
  | R =>
    obtain ⟨k, ts, hs, hm, ho, hp, hrd⟩ := h
    have hag := hin (by simp)
    have ha := stepN_agree wv j k q q' hag
    exact ⟨k, ts, hs.transport hag, by rw [← ha.mem, hm, hag.mem], by rw [← ha.owner, ho, hag.owner],
      by rw [← ha.pending, hp, hag.pending], by rw [← ha.readers, hrd, hag.readers]⟩
  | W =>
    obtain ⟨k, ts, hs, hm, ho, hrd, hp⟩ := h
    have hag := hin (by simp)
    have ha := stepN_agree wv j k q q' hag
    exact ⟨k, ts, hs.transport hag, by rw [hm, ha.mem], by rw [← ha.owner]; exact ho,
      by rw [← ha.readers]; exact hrd, by rw [← ha.pending]; exact hp⟩

theorem Thr.other {wv : WriteFn} {l : Nat} {s q : State} {j t : Nat} {m : Mode} {act : Action} {r : Thread}
    (h : Thr wv l s q j m) (hjt : j ≠ t) (hmem : m = .W → (fire wv s t act r).mem = s.mem) :
    Thr wv l (fire wv s t act r) q j m :=
  h.frame (fire_other wv s t j act r hjt).1 (fire_other wv s t j act r hjt).2 hmem

theorem relRW_init (wv : WriteFn) (l : Nat) (p : Prog) (h : RWOpsProg l p) : RelRW wv l (init p) (init p) where
  qo := rfl
  qr := rfl
  qp := rfl
  mem := fun _ => rfl
  shape := fun _ t ht => h t (List.mem_of_getElem? ht)
  thr := fun j => by
    have : modeOf l (init p) j = .N := by simp [modeOf, init]
    rw [this]; exact ⟨rfl, rfl⟩

/-- while somebody reads, nobody owns `l` -/
theorem owner_none_of_reader {l : Nat} {D : Mode → Thread → Bool} {s : State} {t : Nat} (hg : GIx l D s)
    (hm : modeOf l s t = .R) : s.owner l = none := by
  cases hso : s.owner l with
  | none => rfl
  | some x =>
    have := (modeOf_R ..).mp hm
    rw [hg.alone x hso] at this; simp at this

theorem mode_N_of_owner {l : Nat} {D : Mode → Thread → Bool} {s : State} {t j : Nat} (hg : GIx l D s)
    (hown : s.owner l = some t) (hjt : j ≠ t) : modeOf l s j = .N :=
  (modeOf_N ..).mpr ⟨by rw [hown]; exact fun e => hjt (Option.some.inj e).symm, by rw [hg.alone t hown]; simp⟩

theorem set_set_getElem? {s q : State} {t : Nat} {a b r : Thread} (hs : s.rem[t]? = some a) (hq : q.rem[t]? = some b) :
    (s.rem.set t r)[t]? = (q.rem.set t r)[t]? := by
  rw [set_self_getElem? _ _ _ _ hs, set_self_getElem? _ _ _ _ hq]

theorem fire_stepN_other (wv : WriteFn) (q : State) (t j k : Nat) (act : Action) (r : Thread) (hjt : j ≠ t) :
    q.rem[j]? = (fire wv (stepN wv q t k) t act r).rem[j]? ∧ q.logs j = (fire wv (stepN wv q t k) t act r).logs j := by
  obtain ⟨h3, h4⟩ := fire_other wv (stepN wv q t k) t j act r hjt
  obtain ⟨h5, h6⟩ := stepN_other wv t j k q hjt
  exact ⟨(h3.trans h5).symm, (h4.trans h6).symm⟩

theorem shape_finish {wv : WriteFn} {l : Nat} {q : State} {t k : Nat} {act : Action} {r : Thread}
    (hsh : ∀ (j : Nat) (tj : Thread), q.rem[j]? = some tj → rwOpsShape l .N tj = true) (hr : rwOpsShape l .N r = true) :
    ∀ (j : Nat) (tj : Thread), (fire wv (stepN wv q t k) t act r).rem[j]? = some tj → rwOpsShape l .N tj = true := by
  intro j tj hj
  simp only [fire_rem] at hj
  rcases getElem?_set_cases _ _ _ _ _ hj with ⟨rfl, rfl⟩ | ⟨hjt, hj'⟩
  · exact hr
  · rw [(stepN_other wv t j k q hjt).1] at hj'; exact hsh j tj hj'

/-- a local step between operations: an operation of its own -/
theorem relRW_tau (wv : WriteFn) (l : Nat) (s q : State) (t : Nat) (r : Thread) (hr : RelRW wv l s q)
    (ht : s.rem[t]? = some (.tau :: r)) (hm : modeOf l s t = .N) :
    RelRW wv l (fire wv s t .tau r) (stepOpRW wv q t) := by
  have hN : Thr wv l s q t .N := hm ▸ hr.thr t
  have hqt : q.rem[t]? = some (.tau :: r) := by rw [← hN.1]; exact ht
  have hq' : stepOpRW wv q t = fire wv (stepN wv q t 0) t .tau r := by
    unfold stepOpRW
    rw [getD_of_getElem? _ _ _ _ hqt]
    exact step_fire wv q t _ r hqt rfl
  rw [hq']
  refine ⟨hr.qo, hr.qr, hr.qp, hr.mem, shape_finish hr.shape (by simpa [rwOpsShape] using hr.shape t _ hqt), fun j => ?_⟩
  rw [modeOf_congr l s (fire wv s t .tau r) j rfl rfl]
  by_cases hjt : j = t
  · subst hjt; rw [hm]
    exact ⟨by simp only [fire_rem]; exact set_set_getElem? ht hqt, hN.2⟩
  · have ho := fire_stepN_other wv q t j 0 .tau r hjt
    exact ((hr.thr j).other hjt fun _ => rfl).transport ho fun _ => ⟨ho.1, ho.2, rfl, rfl, rfl, rfl⟩

theorem relRW_lock (wv : WriteFn) (l : Nat) (s q : State) (t : Nat) (r : Thread) (hr : RelRW wv l s q)
    (ht : s.rem[t]? = some (.lock l :: r)) (hm : modeOf l s t = .N) (hc : canFire s t (.lock l) = true) :
    RelRW wv l (fire wv s t (.lock l) r) q := by
  have hc' := hc
  simp only [canFire, Bool.and_eq_true, decide_eq_true_eq] at hc'
  obtain ⟨⟨hfree, hnord⟩, _⟩ := hc'
  have hmodeT : modeOf l (fire wv s t (.lock l) r) t = .W := (modeOf_W ..).mpr (by simp [fire])
  obtain ⟨hu, hsolo⟩ := Solo.enter wv l s q t _ r ht (hm ▸ hr.thr t : Thr wv l s q t .N) (Or.inl rfl)
    (by simp [canFire, hr.qo, hr.qr, hr.qp])
  refine ⟨hr.qo, hr.qr, hr.qp, fun h => (by simp [fire] at h), hr.shape, fun j => ?_⟩
  by_cases hjt : j = t
  · subst hjt; rw [hmodeT]
    exact ⟨1, r, hsolo, by rw [hu]; exact hr.mem hfree, by rw [hu]; simp [fire],
      by rw [hu]; simpa [fire] using hr.qr, by rw [hu]; simp [fire]⟩
  · rw [mode_other wv l s t j _ r hc hjt]
    exact (hr.thr j).other hjt fun _ => rfl

theorem relRW_rlock (wv : WriteFn) (l : Nat) (s q : State) (t : Nat) (r : Thread) (hr : RelRW wv l s q)
    (ht : s.rem[t]? = some (.rlock l :: r)) (hm : modeOf l s t = .N) (hc : canFire s t (.rlock l) = true) :
    RelRW wv l (fire wv s t (.rlock l) r) q := by
  have hc' := hc
  simp only [canFire, Bool.and_eq_true, decide_eq_true_eq] at hc'
  obtain ⟨hfree, _⟩ := hc'
  have hmodeT : modeOf l (fire wv s t (.rlock l) r) t = .R :=
    (modeOf_R ..).mpr ⟨by simp [fire, hfree], by simp [fire]⟩
  obtain ⟨hu, hsolo⟩ := Solo.enter wv l s q t _ r ht (hm ▸ hr.thr t : Thr wv l s q t .N) (Or.inr rfl)
    (by simp [canFire, hr.qo, hr.qp])
  refine ⟨hr.qo, hr.qr, hr.qp, fun _ => hr.mem hfree, hr.shape, fun j => ?_⟩
  by_cases hjt : j = t
  · subst hjt; rw [hmodeT]
    exact ⟨1, r, hsolo, by rw [hu]; rfl, by rw [hu]; rfl, by rw [hu]; rfl, by rw [hu]; simp [fire, hr.qr]⟩
  · rw [mode_other wv l s t j _ r hc hjt]
    exact (hr.thr j).other hjt fun _ => rfl

theorem relRW_wplain (wv : WriteFn) (l : Nat) (s q : State) (t : Nat) (act : Action) (r : Thread)
    (hg : GIx l (rwOpsShape l) s) (hr : RelRW wv l s q) (ht : s.rem[t]? = some (act :: r))
    (hm : modeOf l s t = .W) (hp : act.access ≠ none ∨ act = .tau) :
    RelRW wv l (fire wv s t act r) q := by
  obtain ⟨k, ts, hsolo, hmem, huo, hur, hup⟩ : Thr wv l s q t .W := hm ▸ hr.thr t
  obtain rfl : act :: r = ts := Option.some.inj (ht.symm.trans hsolo.rem)
  obtain ⟨fo, frd, _, _⟩ := fire_plain wv s t act r hp
  obtain ⟨fo', frd', fpd', _⟩ := fire_plain wv (stepN wv q t k) t act r hp
  have hboth := fire_logs_mem wv s (stepN wv q t k) t act r hsolo.logs hmem
  obtain ⟨hu', hsolo'⟩ := hsolo.advance hp hboth.1
  have hown : s.owner l = some t := (modeOf_W ..).mp hm
  refine ⟨hr.qo, hr.qr, hr.qp, fun h => (by rw [fo, hown] at h; cases h), hr.shape, fun j => ?_⟩
  rw [modeOf_congr l s _ j (by rw [fo]) (by rw [frd])]
  by_cases hjt : j = t
  · subst hjt; rw [hm]
    exact ⟨k + 1, r, hsolo', by rw [hu']; exact hboth.2, by rw [hu', fo']; exact huo,
      by rw [hu', frd']; exact hur, by rw [hu', fpd']; exact hup⟩
  · have hjN := mode_N_of_owner hg hown hjt
    exact (hr.thr j).other hjt fun h => by rw [hjN] at h; cases h

/-- leaving a write section: the operation is complete and joins the sequential order -/
theorem relRW_unlock (wv : WriteFn) (l : Nat) (s q : State) (t : Nat) (r : Thread)
    (hg : GIx l (rwOpsShape l) s) (hr : RelRW wv l s q) (ht : s.rem[t]? = some (.unlock l :: r))
    (hm : modeOf l s t = .W) : RelRW wv l (fire wv s t (.unlock l) r) (stepOpRW wv q t) := by
  obtain ⟨k, ts, hsolo, hmem, huo, hur, hup⟩ : Thr wv l s q t .W := hm ▸ hr.thr t
  obtain rfl : .unlock l :: r = ts := Option.some.inj (ht.symm.trans hsolo.rem)
  rw [hsolo.finish rfl (by simp [canFire, huo])]
  have hown : s.owner l = some t := (modeOf_W ..).mp hm
  have hshape_r : rwOpsShape l .N r = true := by
    have := hg.disc t _ ht; rw [hm] at this; simpa [rwOpsShape] using this
  have hallN : ∀ j, modeOf l (fire wv s t (.unlock l) r) j = .N :=
    fun j => (modeOf_N ..).mpr ⟨by simp [fire], by simp [fire, hg.alone t hown]⟩
  refine ⟨by simp [fire], by simpa [fire] using hur, by simpa [fire] using hup, fun _ => hmem,
    shape_finish hr.shape hshape_r, fun j => ?_⟩
  rw [hallN j]
  by_cases hjt : j = t
  · subst hjt
    exact ⟨by simp only [fire_rem]; exact set_set_getElem? ht hsolo.urem, hsolo.logs⟩
  · have hj := hr.thr j
    rw [mode_N_of_owner hg hown hjt] at hj
    exact ((hj.other hjt fun _ => rfl).transport (fire_stepN_other wv q t j k _ r hjt) fun h => absurd rfl h)

theorem relRW_rplain (wv : WriteFn) (l : Nat) (s q : State) (t : Nat) (act : Action) (r : Thread)
    (hg : GIx l (rwOpsShape l) s) (hr : RelRW wv l s q) (ht : s.rem[t]? = some (act :: r))
    (hm : modeOf l s t = .R) (hp : (∃ x, act = .read x) ∨ act = .tau) :
    RelRW wv l (fire wv s t act r) q := by
  obtain ⟨k, ts, hsolo, hum, huo, hup, hurd⟩ : Thr wv l s q t .R := hm ▸ hr.thr t
  obtain rfl : act :: r = ts := Option.some.inj (ht.symm.trans hsolo.rem)
  have hp' : act.access ≠ none ∨ act = .tau := by
    rcases hp with ⟨x, rfl⟩ | rfl
    · left; simp [Action.access]
    · right; rfl
  obtain ⟨fo, frd, _, _⟩ := fire_plain wv s t act r hp'
  obtain ⟨fo', frd', fpd', _⟩ := fire_plain wv (stepN wv q t k) t act r hp'
  have hsm : s.mem = q.mem := hr.mem (owner_none_of_reader hg hm)
  -- nothing is written: both runs keep their memory, and read the same
  have hmem' : (fire wv s t act r).mem = s.mem := by rcases hp with ⟨x, rfl⟩ | rfl <;> rfl
  have humem' : (fire wv (stepN wv q t k) t act r).mem = (stepN wv q t k).mem := by
    rcases hp with ⟨x, rfl⟩ | rfl <;> rfl
  obtain ⟨hu', hsolo'⟩ := hsolo.advance hp'
    (fire_logs_mem wv s (stepN wv q t k) t act r hsolo.logs (hsm.trans hum.symm)).1
  refine ⟨hr.qo, hr.qr, hr.qp, fun _ => by rw [hmem']; exact hsm, hr.shape, fun j => ?_⟩
  rw [modeOf_congr l s _ j (by rw [fo]) (by rw [frd])]
  by_cases hjt : j = t
  · subst hjt; rw [hm]
    exact ⟨k + 1, r, hsolo', by rw [hu', humem']; exact hum, by rw [hu', fo']; exact huo,
      by rw [hu', fpd']; exact hup, by rw [hu', frd']; exact hurd⟩
  · exact (hr.thr j).other hjt fun _ => hmem'

/-- leaving a read section: the operation is complete and joins the sequential order; the other
readers' progress is carried over because the sequential state looks the same to them -/
theorem relRW_runlock (wv : WriteFn) (l : Nat) (s q : State) (t : Nat) (r : Thread)
    (hg : GIx l (rwOpsShape l) s) (hr : RelRW wv l s q) (ht : s.rem[t]? = some (.runlock l :: r))
    (hm : modeOf l s t = .R) (hc : canFire s t (.runlock l) = true) :
    RelRW wv l (fire wv s t (.runlock l) r) (stepOpRW wv q t) := by
  obtain ⟨k, ts, hsolo, hum, huo, hup, hurd⟩ : Thr wv l s q t .R := hm ▸ hr.thr t
  obtain rfl : .runlock l :: r = ts := Option.some.inj (ht.symm.trans hsolo.rem)
  rw [hsolo.finish rfl (by simp [canFire, hurd])]
  have hfree := owner_none_of_reader hg hm
  have hshape_r : rwOpsShape l .N r = true := by
    have := hg.disc t _ ht; rw [hm] at this; simpa [rwOpsShape] using this
  have hqrd : (fire wv (stepN wv q t k) t (.runlock l) r).readers = q.readers := by
    funext x
    by_cases hx : x = l
    · subst hx; simp [fire, hurd, hr.qr]
    · simp [fire, upd, hx, hurd]
  have hmodeT : modeOf l (fire wv s t (.runlock l) r) t = .N :=
    (modeOf_N ..).mpr ⟨by simp [fire, hfree], by simp [fire, hg.nodup.mem_erase_iff]⟩
  refine ⟨?_, by rw [hqrd]; exact hr.qr, ?_, fun _ => (hr.mem hfree).trans hum.symm,
    shape_finish hr.shape hshape_r, fun j => ?_⟩
  · show (stepN wv q t k).owner l = none
    rw [huo]; exact hr.qo
  · show (stepN wv q t k).pending l = none
    rw [hup]; exact hr.qp
  · by_cases hjt : j = t
    · subst hjt; rw [hmodeT]
      exact ⟨by simp only [fire_rem]; exact set_set_getElem? ht hsolo.urem, hsolo.logs⟩
    · rw [mode_other wv l s t j _ r hc hjt]
      have ho := fire_stepN_other wv q t j k (.runlock l) r hjt
      exact ((hr.thr j).other hjt fun _ => rfl).transport ho
        fun _ => ⟨ho.1, ho.2, hum.symm, huo.symm, hqrd.symm, hup.symm⟩

/-- one step of any thread: the sequential state stays, or grows by that thread's operation -/
theorem relRW_step (wv : WriteFn) (l : Nat) (s q : State) (t : Nat) (hg : GIx l (rwOpsShape l) s)
    (hr : RelRW wv l s q) :
    ∃ q', (q' = q ∨ q' = stepOpRW wv q t) ∧ RelRW wv l (step wv s t) q' := by
  rcases step_cases wv s t with h0 | ⟨act, r, ht, hc, hs⟩ | ⟨act, r, _, _, hs⟩
  · exact ⟨q, Or.inl rfl, by rw [h0]; exact hr⟩
  · rw [hs]
    rcases rwOpsShape_cons l _ act r (hg.disc t _ ht) with
      ⟨hm, rfl | rfl | rfl⟩ | ⟨hm, rfl | hp⟩ | ⟨hm, rfl | hp⟩
    · exact ⟨_, Or.inr rfl, relRW_tau wv l s q t r hr ht hm⟩
    · exact ⟨q, Or.inl rfl, relRW_lock wv l s q t r hr ht hm hc⟩
    · exact ⟨q, Or.inl rfl, relRW_rlock wv l s q t r hr ht hm hc⟩
    · exact ⟨_, Or.inr rfl, relRW_unlock wv l s q t r hg hr ht hm⟩
    · exact ⟨q, Or.inl rfl, relRW_wplain wv l s q t _ r hg hr ht hm hp⟩
    · exact ⟨_, Or.inr rfl, relRW_runlock wv l s q t r hg hr ht hm hc⟩
    · exact ⟨q, Or.inl rfl, relRW_rplain wv l s q t _ r hg hr ht hm hp⟩
  · rw [hs]
    obtain ⟨pd, hpd⟩ := announce_eq s t act
    rw [hpd]
    exact ⟨q, Or.inl rfl, ⟨hr.qo, hr.qr, hr.qp, hr.mem, hr.shape, fun j => (hr.thr j).frame rfl rfl fun _ => rfl⟩⟩

theorem relRW_runFrom (wv : WriteFn) (l : Nat) (p : Prog) (sched : List Nat) (s : State) (order : List Nat)
    (hg : GIx l (rwOpsShape l) s) (hr : RelRW wv l s (runSeqRW wv p order)) :
    ∃ order', RelRW wv l (runFrom wv s sched) (runSeqRW wv p order') := by
  induction sched generalizing s order with
  | nil => exact ⟨order, hr⟩
  | cons t rest ih =>
    obtain ⟨q', hq', hr'⟩ := relRW_step wv l s _ t hg hr
    have hg' := gix_step wv l _ (disc_rwOps l) s t hg
    rcases hq' with rfl | rfl
    · exact ih _ order hg' hr'
    · refine ih _ (order ++ [t]) hg' ?_
      simpa [runSeqRW, List.foldl_append] using hr'

/-- every reachable state against the sequential execution of the operations completed so far -/
theorem relRW_run (wv : WriteFn) (l : Nat) (p : Prog) (h : RWOpsProg l p) (sched : List Nat) :
    ∃ order, RelRW wv l (run wv p sched) (runSeqRW wv p order) :=
  relRW_runFrom wv l p sched (init p) [] (gix_init l _ p h) (relRW_init wv l p h)

/-- a completed run is a sequential execution of whole operations in the order of their completion -/
theorem rw_serialisable (wv : WriteFn) (l : Nat) (p : Prog) (h : RWOpsProg l p) (sched : List Nat)
    (hdone : AllDone (run wv p sched)) :
    ∃ order, (run wv p sched).mem = (runSeqRW wv p order).mem ∧
      (run wv p sched).logs = (runSeqRW wv p order).logs ∧
      (run wv p sched).rem = (runSeqRW wv p order).rem := by
  obtain ⟨order, hr⟩ := relRW_run wv l p h sched
  have hg := gix_rwOps_run wv l p h sched
  -- nobody is inside a section: a thread inside one has something left to do
  have hallN : ∀ j, modeOf l (run wv p sched) j = .N := by
    intro j
    cases hm : modeOf l (run wv p sched) j with
    | N => rfl
    | R =>
      obtain ⟨k, ts, hs, _⟩ : Thr wv l _ _ j .R := hm ▸ hr.thr j
      have hsh := hg.disc j ts hs.rem
      rw [hm, hdone j ts hs.rem] at hsh
      simp [rwOpsShape] at hsh
    | W =>
      obtain ⟨k, ts, hs, _⟩ : Thr wv l _ _ j .W := hm ▸ hr.thr j
      have hsh := hg.disc j ts hs.rem
      rw [hm, hdone j ts hs.rem] at hsh
      simp [rwOpsShape] at hsh
  have hfree : (run wv p sched).owner l = none := by
    cases ho : (run wv p sched).owner l with
    | none => rfl
    | some x =>
      have := hallN x
      rw [(modeOf_W ..).mpr ho] at this; cases this
  have hN : ∀ j, Thr wv l _ _ j .N := fun j => hallN j ▸ hr.thr j
  refine ⟨order, hr.mem hfree, ?_, ?_⟩
  · funext j; exact (hN j).2
  · apply List.ext_getElem?
    intro j; exact (hN j).1

end J5V.Conc.Sched
