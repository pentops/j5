import J5V.Conc.Cache
/-!
# What the cache theorems speak of (C10; definitions only)

What the descriptors say, independently of any cache, and the caches a sequence of requests can
leave (`Reachable`).
-/
namespace J5V.Conc.Cache

def refs (G : Graph) (n : Nat) : List Nat :=
  match G[n]? with
  | some nd => nd.fields.filterMap (fun f => match f.base with | .ref m => some m | _ => none)
  | none => []

/-- the Go build of this node itself does not return an error -/
def nodeOk (G : Graph) (n : Nat) : Prop :=
  ∃ nd, G[n]? = some nd ∧ nd.selfOk = true ∧ ∀ f ∈ nd.fields, f.base ≠ .bad

inductive Reach (G : Graph) : Nat → Nat → Prop where
  | refl (a : Nat) : Reach G a a
  | head (a t b : Nat) : t ∈ refs G a → Reach G t b → Reach G a b

/-- every schema the request needs can be built -/
def GoodFrom (G : Graph) (d : Nat) : Prop := ∀ m, Reach G d m → nodeOk G m

/-- caches that arise from the empty cache by any sequence of requests (successful or not) -/
inductive Reachable (G : Graph) : Cache → Prop where
  | empty : Reachable G emptyCache
  | step (c : Cache) (d : Nat) : Reachable G c → Reachable G (schemaOf G c d).1

end J5V.Conc.Cache
