import J5V.Conc.SchedProofs
/-! Reader/writer operations (core only): when every operation is a write section or a read-only
read section of `l`, write sections run in isolation (while a thread is inside one, no step of
another thread touches the memory or anybody's observations) and read sections see one snapshot
of the memory (nothing is written while a read lock is held). -/
namespace J5V.Conc.Sched

theorem disc_rwOps (l : Nat) : Disc l (rwOpsShape l) where
  lock := by intro m r h; cases m <;> simp_all [rwOpsShape]
  unlock := by intro m r h; cases m <;> simp_all [rwOpsShape]
  rlock := by intro m r h; cases m <;> simp_all [rwOpsShape]
  runlock := by intro m r h; cases m <;> simp_all [rwOpsShape]
  other := by
    intro m a r h1 h2 h3 h4 h
    cases m <;> cases a <;> simp_all [rwOpsShape]

/-- what a thread of reader/writer operations can do next, by the mode in which it holds `l` -/
theorem rwOpsShape_cons (l : Nat) (m : Mode) (act : Action) (r : Thread) (h : rwOpsShape l m (act :: r) = true) :
    (m = .N ∧ (act = .tau ∨ act = .lock l ∨ act = .rlock l)) ∨
    (m = .W ∧ (act = .unlock l ∨ (act.access ≠ none ∨ act = .tau))) ∨
    (m = .R ∧ (act = .runlock l ∨ ((∃ x, act = .read x) ∨ act = .tau))) := by
  cases m <;> cases act <;> simp_all [rwOpsShape, Action.access]

theorem gix_rwOps_run (wv : WriteFn) (l : Nat) (p : Prog) (h : RWOpsProg l p) (sched : List Nat) :
    GIx l (rwOpsShape l) (run wv p sched) :=
  gix_runFrom wv l _ (disc_rwOps l) sched _ (gix_init l _ p h)

/-- the shape is an instance of the reader/writer discipline -/
theorem rwOps_guarded (l : Nat) (m : Mode) (t : Thread) (h : rwOpsShape l m t = true) :
    pubGuardedFrom l (fun _ => false) m t = true := by
  induction t generalizing m with
  | nil => cases m <;> simp_all [rwOpsShape, pubGuardedFrom]
  | cons a r ih =>
    cases m <;> cases a <;> simp_all [rwOpsShape, pubGuardedFrom]

theorem rwOpsProg_guarded (l : Nat) (p : Prog) (h : RWOpsProg l p) : RWGuardedBy l p :=
  fun t ht => rwOps_guarded l .N t (h t ht)

/-- while thread `i` is inside a write section, a step of any other thread changes neither the
memory nor anybody's observations -/
theorem rw_write_isolated (wv : WriteFn) (l : Nat) (s : State) (h : GIx l (rwOpsShape l) s) (i j : Nat)
    (hi : s.owner l = some i) (hij : j ≠ i) : (step wv s j).mem = s.mem ∧ (step wv s j).logs = s.logs := by
  rcases step_cases wv s j with h0 | ⟨a, r, ha, hc, hs⟩ | ⟨a, r, _, _, hs⟩
  · rw [h0]; exact ⟨rfl, rfl⟩
  · have hN : modeOf l s j = .N :=
      (modeOf_N ..).mpr ⟨by rw [hi]; simpa using Ne.symm hij, by rw [h.alone i hi]; simp⟩
    have hsh := h.1 j _ ha
    rw [hs]
    -- outside every section it can only take a local step: the lock is taken
    rcases rwOpsShape_cons l _ a r hsh with ⟨_, rfl | rfl | rfl⟩ | ⟨hm, _⟩ | ⟨hm, _⟩
    · exact ⟨rfl, rfl⟩
    · simp [canFire, hi] at hc
    · simp [canFire, hi] at hc
    · rw [hN] at hm; cases hm
    · rw [hN] at hm; cases hm
  · rw [hs]
    obtain ⟨pd, hpd⟩ := announce_eq s j a
    rw [hpd]; exact ⟨rfl, rfl⟩

/-- while somebody holds a read lock, no step of any thread changes the memory -/
theorem rw_read_snapshot (wv : WriteFn) (l : Nat) (s : State) (h : GIx l (rwOpsShape l) s) (j : Nat)
    (hr : s.readers l ≠ []) : (step wv s j).mem = s.mem := by
  apply step_mem_of_not_write
  intro x r hx
  have hsh := h.1 j _ hx
  cases hm : modeOf l s j with
  | W => exact hr (h.alone j ((modeOf_W ..).mp hm))
  | R => rw [hm] at hsh; simp [rwOpsShape] at hsh
  | N => rw [hm] at hsh; simp [rwOpsShape] at hsh

end J5V.Conc.Sched
