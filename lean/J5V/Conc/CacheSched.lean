import J5V.Conc.CacheProofs
/-!
# N goroutines calling `(*SchemaCache).Schema` on one shared cache, any schedule (core only)

`J5V.Conc.Cache.schemaOf` is one whole call of `Schema` (the critical section). Here the calls of
several goroutines are interleaved by an arbitrary schedule, with the mutex explicit and with the
state a build leaves in the shared maps *while it runs* explicit:

* a goroutine that is scheduled while the mutex is free and has a request `d` left takes the mutex
  and starts: from now on the shared maps hold the placeholder of `d` (`midBuild`: the state of
  `C10_m2_mid_build_state`, which is no between-requests state) until it finishes;
* scheduled again, the owner finishes: the maps become `(schemaOf G before d).1`, the answer
  `(schemaOf G before d).2` goes to its log and to the global completion history, the mutex is freed;
* a goroutine scheduled while somebody else owns the mutex is blocked (`sync.Mutex.Lock`): nothing
  changes — this is where the overlapping first use of a type is: the second caller waits, and
  then finds what the first one built (or builds it itself when the first one failed and rolled back);
* a goroutine without requests left does nothing.

That the real `Schema` is such a critical section (every access to the maps under the one mutex,
deferred release, no nesting) is `C10_code_guarded` / `C10_code_locksites` over the regenerated
lock facts; that critical sections under one mutex behave like atomic steps is `C10_serialisable`.
This file is about what the *results* are, for every schedule.
-/
namespace J5V.Conc.CacheSched
open J5V.Conc.Cache

/-- the answer of `Schema(d)` run alone on a fresh cache -/
def alone (G : Graph) (d : Nat) : Res := (schemaOf G emptyCache d).2

theorem alone_of_reachable (G : Graph) (c : Cache) (hc : Reachable G c) (d : Nat) :
    (schemaOf G c d).2 = alone G d :=
  schemaOf_verdict G c emptyCache (reachable_inv G c hc) (inv_empty G) d

/-- the answers of the requests `ds` made one after the other by a single goroutine -/
def seqRes (G : Graph) : Cache → List Nat → List Res
  | _, [] => []
  | c, d :: ds => (schemaOf G c d).2 :: seqRes G (schemaOf G c d).1 ds

theorem seqRes_append (G : Graph) (c : Cache) (ds : List Nat) (d : Nat) :
    seqRes G c (ds ++ [d]) = seqRes G c ds ++ [(schemaOf G (runReqs G c ds) d).2] := by
  induction ds generalizing c with
  | nil => simp [seqRes, runReqs]
  | cons x xs ih => simp [seqRes, runReqs, ih]

theorem runReqs_append (G : Graph) (c : Cache) (ds : List Nat) (d : Nat) :
    runReqs G c (ds ++ [d]) = (schemaOf G (runReqs G c ds) d).1 := by
  simp [runReqs]

/-- one completed call: goroutine, request, answer -/
structure Done where
  thread : Nat
  req : Nat
  res : Res
  deriving DecidableEq, Repr

structure CState where
  /-- the shared maps as they are right now (mid-build while the mutex is held) -/
  cache : Cache
  /-- owner of `sc.mu`, the request it is serving, the maps as it found them -/
  holder : Option (Nat × Nat × Cache)
  /-- requests not yet started or finished, per goroutine -/
  rem : Nat → List Nat
  /-- (request, answer) of the finished calls, per goroutine, oldest first -/
  log : Nat → List (Nat × Res)
  /-- every finished call in order of completion -/
  hist : List Done

def upd {α : Type} (f : Nat → α) (i : Nat) (v : α) : Nat → α := fun j => if j = i then v else f j

/-- the maps while `d` is being built: its placeholder is registered (`RefSchema.To == nil`) -/
def midBuild (c : Cache) (d : Nat) : Cache :=
  match find c d with
  | none => insert c d none
  | some _ => c

def cstep (G : Graph) (s : CState) (i : Nat) : CState :=
  match s.holder with
  | none =>
    match s.rem i with
    | [] => s
    | d :: _ => { s with holder := some (i, d, s.cache), cache := midBuild s.cache d }
  | some (j, d, before) =>
    if j = i then
      { cache := (schemaOf G before d).1, holder := none,
        rem := upd s.rem i (s.rem i).tail,
        log := upd s.log i (s.log i ++ [(d, (schemaOf G before d).2)]),
        hist := s.hist ++ [⟨i, d, (schemaOf G before d).2⟩] }
    else s

def crun (G : Graph) (s : CState) (sched : List Nat) : CState := sched.foldl (cstep G) s

/-- a step of goroutine `i` changes nothing (no request left, or another goroutine holds the mutex),
starts its next call, or completes the call it is in -/
theorem cstep_cases (G : Graph) (s : CState) (i : Nat) :
    (cstep G s i = s ∧ ((s.holder = none ∧ s.rem i = []) ∨ ∃ j d b, s.holder = some (j, d, b) ∧ j ≠ i)) ∨
    (∃ d rest, s.holder = none ∧ s.rem i = d :: rest ∧
      cstep G s i = { s with holder := some (i, d, s.cache), cache := midBuild s.cache d }) ∨
    (∃ d before, s.holder = some (i, d, before) ∧
      cstep G s i =
        { cache := (schemaOf G before d).1, holder := none,
          rem := upd s.rem i (s.rem i).tail,
          log := upd s.log i (s.log i ++ [(d, (schemaOf G before d).2)]),
          hist := s.hist ++ [⟨i, d, (schemaOf G before d).2⟩] }) := by
  unfold cstep
  cases hh : s.holder with
  | none =>
    cases hr : s.rem i with
    | nil => exact .inl ⟨rfl, .inl ⟨rfl, rfl⟩⟩
    | cons d rest => exact .inr (.inl ⟨d, rest, rfl, rfl, rfl⟩)
  | some hd =>
    obtain ⟨j, d, before⟩ := hd
    by_cases hji : j = i
    · subst hji; exact .inr (.inr ⟨d, before, rfl, if_pos rfl⟩)
    · exact .inl ⟨if_neg hji, .inr ⟨j, d, before, rfl, hji⟩⟩

def init (c : Cache) (progs : Nat → List Nat) : CState :=
  { cache := c, holder := none, rem := progs, log := fun _ => [], hist := [] }

/-- the maps as of the last completed call -/
def CState.base (s : CState) : Cache :=
  match s.holder with
  | none => s.cache
  | some (_, _, b) => b

/-- what a lookup that does NOT take the mutex would answer right now -/
def peek (G : Graph) (s : CState) (d : Nat) : Res := (schemaOf G s.cache d).2

structure Inv (G : Graph) (c0 : Cache) (progs : Nat → List Nat) (s : CState) : Prop where
  base_eq : s.base = runReqs G c0 (s.hist.map (·.req))
  res_eq : s.hist.map (·.res) = seqRes G c0 (s.hist.map (·.req))
  held : ∀ j d b, s.holder = some (j, d, b) → s.cache = midBuild b d ∧ ∃ rest, s.rem j = d :: rest
  log_eq : ∀ i, s.log i = (s.hist.filter (fun h => h.thread = i)).map (fun h => (h.req, h.res))
  prog : ∀ i, (s.log i).map (·.1) ++ s.rem i = progs i

theorem inv_init (G : Graph) (c0 : Cache) (progs : Nat → List Nat) : Inv G c0 progs (init c0 progs) :=
  ⟨rfl, rfl, by intro j d b h; simp [init] at h, by intro i; rfl, by intro i; rfl⟩

theorem inv_step (G : Graph) (c0 : Cache) (progs : Nat → List Nat) (s : CState) (i : Nat)
    (h : Inv G c0 progs s) : Inv G c0 progs (cstep G s i) := by
  rcases cstep_cases G s i with ⟨hs, _⟩ | ⟨d, rest, hh, hr, hs⟩ | ⟨d, before, hh, hs⟩ <;> rw [hs]
  · exact h
  · -- the call starts: the base is what the cache was, the history does not change
    refine ⟨?_, h.res_eq, ?_, h.log_eq, h.prog⟩
    · have := h.base_eq
      simp only [CState.base, hh] at this ⊢
      exact this
    · intro j d' b e
      simp only [Option.some.injEq, Prod.mk.injEq] at e
      obtain ⟨rfl, rfl, rfl⟩ := e
      exact ⟨rfl, rest, hr⟩
  · -- the call completes: one more request in the history, answered from the base
    have hb : before = runReqs G c0 (s.hist.map (·.req)) := by
      have := h.base_eq
      simpa only [CState.base, hh] using this
    obtain ⟨_, rest, hrem⟩ := h.held i d before hh
    refine ⟨?_, ?_, ?_, ?_, ?_⟩
    · simp only [CState.base, List.map_append, List.map_cons, List.map_nil]
      rw [runReqs_append, ← hb]
    · simp only [List.map_append, List.map_cons, List.map_nil]
      rw [seqRes_append, ← hb, h.res_eq]
    · intro j' d' b' e; simp at e
    · intro k
      simp only [upd, List.filter_append, List.map_append]
      by_cases hk : k = i
      · subst hk
        simp [h.log_eq k]
      · have : ¬ i = k := fun e => hk e.symm
        simp [hk, this, h.log_eq k]
    · intro k
      simp only [upd]
      by_cases hk : k = i
      · subst hk
        have := h.prog k
        rw [hrem] at this
        simp only [if_true, hrem, List.tail_cons, List.map_append, List.map_cons, List.map_nil,
          List.append_assoc, List.singleton_append]
        exact this
      · simp only [hk, if_false]
        exact h.prog k

theorem inv_run (G : Graph) (c0 : Cache) (progs : Nat → List Nat) (sched : List Nat) :
    ∀ s, Inv G c0 progs s → Inv G c0 progs (crun G s sched) :=
  fun _ h => List.foldlRecOn sched (cstep G) h fun s hs i _ => inv_step G c0 progs s i hs

/-- answers of a sequential run from a reachable cache are the answers alone -/
theorem seqRes_alone (G : Graph) (c : Cache) (hc : Reachable G c) (ds : List Nat) :
    seqRes G c ds = ds.map (alone G) := by
  induction ds generalizing c with
  | nil => rfl
  | cons d ds ih =>
    simp only [seqRes, List.map_cons]
    rw [alone_of_reachable G c hc d, ih _ (Reachable.step c d hc)]

theorem hist_alone (G : Graph) (c0 : Cache) (hc : Reachable G c0) (progs : Nat → List Nat) (s : CState)
    (h : Inv G c0 progs s) : ∀ e ∈ s.hist, e.res = alone G e.req := by
  have h1 := h.res_eq
  rw [seqRes_alone G c0 hc] at h1
  generalize s.hist = hs at h1
  induction hs with
  | nil => intro e he; simp at he
  | cons x xs ih =>
    simp only [List.map_cons, List.cons.injEq] at h1
    intro e he
    rcases List.mem_cons.mp he with rfl | he
    · exact h1.1
    · exact ih h1.2 e he


/-! ## no deadlock: whoever can move makes progress, and while work is left somebody can move -/

/-- goroutine `i` can move: it owns the mutex, or the mutex is free and it has a request left -/
def enabled (s : CState) (i : Nat) : Bool :=
  match s.holder with
  | some (j, _, _) => j == i
  | none => !(s.rem i).isEmpty

/-- twice the finished calls, plus one for a call in progress -/
def CState.progress (s : CState) : Nat := 2 * s.hist.length + (if s.holder.isSome then 1 else 0)

theorem cstep_enabled (G : Graph) (s : CState) (i : Nat) (h : enabled s i = true) :
    (cstep G s i).progress = s.progress + 1 := by
  rcases cstep_cases G s i with ⟨_, ⟨hh, hr⟩ | ⟨j, d, b, hh, hji⟩⟩ | ⟨d, rest, hh, hr, hs⟩ | ⟨d, before, hh, hs⟩
  · simp [enabled, hh, hr] at h
  · simp [enabled, hh, hji] at h
  · rw [hs]; simp [CState.progress, hh]
  · rw [hs]; simp [CState.progress, hh]; omega

theorem cstep_blocked (G : Graph) (s : CState) (i : Nat) (h : enabled s i = false) : cstep G s i = s := by
  rcases cstep_cases G s i with ⟨h0, _⟩ | ⟨d, rest, hh, hr, _⟩ | ⟨d, before, hh, _⟩
  · exact h0
  · simp [enabled, hh, hr] at h
  · simp [enabled, hh] at h

theorem work_left_enabled (s : CState) (i : Nat) (hi : s.rem i ≠ []) : ∃ j, enabled s j = true := by
  cases hh : s.holder with
  | none => exact ⟨i, by simp [enabled, hh, hi]⟩
  | some hd =>
    obtain ⟨j, d, b⟩ := hd
    exact ⟨j, by simp [enabled, hh]⟩

/-- a call in progress belongs to a goroutine that still has it on its list: the owner never
vanishes with the mutex held -/
theorem holder_has_work (G : Graph) (c0 : Cache) (progs : Nat → List Nat) (s : CState)
    (h : Inv G c0 progs s) (j d : Nat) (b : Cache) (hh : s.holder = some (j, d, b)) : s.rem j ≠ [] := by
  obtain ⟨_, rest, hr⟩ := h.held j d b hh
  rw [hr]; simp

theorem Inv.answers_alone {G : Graph} {c0 : Cache} {progs : Nat → List Nat} {s : CState}
    (hinv : Inv G c0 progs s) (hc : Reachable G c0) (i d : Nat) (r : Res) (hm : (d, r) ∈ s.log i) :
    r = (schemaOf G emptyCache d).2 := by
  rw [hinv.log_eq i] at hm
  obtain ⟨e, he, heq⟩ := List.mem_map.mp hm
  have := hist_alone G c0 hc progs s hinv e (List.mem_filter.mp he).1
  simp only [Prod.mk.injEq] at heq
  rw [← heq.1, ← heq.2]
  exact this

theorem Inv.quiescent {G : Graph} {c0 : Cache} {progs : Nat → List Nat} {s : CState}
    (hinv : Inv G c0 progs s) (hnone : ∀ j, enabled s j = false) :
    s.holder = none ∧ ∀ i, (s.log i).map (·.1) = progs i := by
  have hfree : s.holder = none := by
    cases hh : s.holder with
    | none => rfl
    | some hd =>
      obtain ⟨j, d, b⟩ := hd
      have := hnone j
      simp [enabled, hh] at this
  refine ⟨hfree, fun i => ?_⟩
  have hrem : s.rem i = [] := by simpa [enabled, hfree] using hnone i
  have := hinv.prog i
  rw [hrem] at this
  simpa using this

end J5V.Conc.CacheSched
