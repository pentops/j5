import J5V.Conc.Sched
/-! Lemmas for `J5V.Conc.Sched` (core only): how a step decomposes, the lock-mode invariant of the
reader/writer discipline and co-enabled race freedom. Deadlock freedom is in `SchedFlat.lean`,
serialisability in `SchedSerial.lean` (mutex operations), `SchedLocal.lean` (with local steps between
them) and `SchedRW.lean` / `SchedRWSerial.lean` (reader/writer operations), happens-before in
`SchedHB.lean` with its decision procedure in `SchedHBDec.lean`. The property theorems are restated in
`J5V/Props/C10.lean`. -/
namespace J5V.Conc.Sched

theorem getElem?_lt_of_some {α : Type} (xs : List α) (a : Nat) (x : α) (h : xs[a]? = some x) : a < xs.length :=
  (List.getElem?_eq_some_iff.mp h).1

theorem getElem?_set_cases {α : Type} (xs : List α) (j i : Nat) (r t : α)
    (h : (xs.set j r)[i]? = some t) : (i = j ∧ t = r) ∨ (i ≠ j ∧ xs[i]? = some t) := by
  by_cases hji : j = i
  · subst hji
    have hlt : j < xs.length := by simpa using getElem?_lt_of_some _ _ _ h
    rw [List.getElem?_set_self hlt] at h
    exact Or.inl ⟨rfl, (Option.some.inj h).symm⟩
  · rw [List.getElem?_set_ne hji] at h
    exact Or.inr ⟨fun e => hji e.symm, h⟩

theorem set_self_getElem? {α : Type} (xs : List α) (j : Nat) (r t : α) (h : xs[j]? = some t) :
    (xs.set j r)[j]? = some r :=
  List.getElem?_set_self (getElem?_lt_of_some _ _ _ h)

theorem getElem?_set_isSome {α : Type} (xs : List α) (j u : Nat) (r t : α) (h : xs[u]? = some t) :
    ∃ t', (xs.set j r)[u]? = some t' := by
  by_cases hju : j = u
  · subst hju; exact ⟨r, set_self_getElem? xs j r t h⟩
  · exact ⟨t, by rw [List.getElem?_set_ne hju]; exact h⟩


theorem step_fire (wv : WriteFn) (s : State) (i : Nat) (a : Action) (r : Thread)
    (h : s.rem[i]? = some (a :: r)) (hc : canFire s i a = true) : step wv s i = fire wv s i a r := by
  simp [step, h, hc]

theorem step_blocked (wv : WriteFn) (s : State) (i : Nat) (a : Action) (r : Thread)
    (h : s.rem[i]? = some (a :: r)) (hc : canFire s i a = false) : step wv s i = announce s i a := by
  simp [step, h, hc]

theorem step_cases (wv : WriteFn) (s : State) (i : Nat) :
    step wv s i = s ∨
    (∃ a r, s.rem[i]? = some (a :: r) ∧ canFire s i a = true ∧ step wv s i = fire wv s i a r) ∨
    (∃ a r, s.rem[i]? = some (a :: r) ∧ canFire s i a = false ∧ step wv s i = announce s i a) := by
  cases h : s.rem[i]? with
  | none => left; simp [step, h]
  | some t =>
    cases t with
    | nil => left; simp [step, h]
    | cons a r =>
      cases hc : canFire s i a with
      | true => right; left; exact ⟨a, r, rfl, hc, step_fire wv s i a r h hc⟩
      | false => right; right; exact ⟨a, r, rfl, hc, step_blocked wv s i a r h hc⟩

@[simp] theorem fire_rem (wv : WriteFn) (s : State) (i : Nat) (a : Action) (r : Thread) :
    (fire wv s i a r).rem = s.rem.set i r := by cases a <;> rfl

/-! what firing an action does to each component of the state -/

theorem fire_owner (wv : WriteFn) (s : State) (i : Nat) (a : Action) (r : Thread) :
    (fire wv s i a r).owner = match a with
      | .lock l => upd s.owner l (some i)
      | .unlock l => upd s.owner l none
      | _ => s.owner := by cases a <;> rfl

theorem fire_readers (wv : WriteFn) (s : State) (i : Nat) (a : Action) (r : Thread) :
    (fire wv s i a r).readers = match a with
      | .rlock l => upd s.readers l (i :: s.readers l)
      | .runlock l => upd s.readers l ((s.readers l).erase i)
      | _ => s.readers := by cases a <;> rfl

theorem fire_pending (wv : WriteFn) (s : State) (i : Nat) (a : Action) (r : Thread) :
    (fire wv s i a r).pending = match a with
      | .lock l => upd s.pending l none
      | _ => s.pending := by cases a <;> rfl

theorem fire_mem (wv : WriteFn) (s : State) (i : Nat) (a : Action) (r : Thread) :
    (fire wv s i a r).mem = match a with
      | .write x => upd s.mem x (wv i x (s.logs i))
      | _ => s.mem := by cases a <;> rfl

theorem fire_logs (wv : WriteFn) (s : State) (i : Nat) (a : Action) (r : Thread) :
    (fire wv s i a r).logs = match a with
      | .read x => upd s.logs i (s.logs i ++ [s.mem x])
      | _ => s.logs := by cases a <;> rfl

/-- a blocked step changes nothing but the writer announcement -/
theorem announce_eq (s : State) (i : Nat) (a : Action) : ∃ pd, announce s i a = { s with pending := pd } := by
  cases a with
  | lock l =>
    simp only [announce]
    split
    · exact ⟨_, rfl⟩
    · exact ⟨s.pending, rfl⟩
  | _ => exact ⟨s.pending, rfl⟩

theorem step_mem_of_not_write (wv : WriteFn) (s : State) (i : Nat)
    (h : ∀ x r, s.rem[i]? ≠ some (.write x :: r)) : (step wv s i).mem = s.mem := by
  rcases step_cases wv s i with h0 | ⟨a, r, ha, _, hs⟩ | ⟨a, r, _, _, hs⟩
  · rw [h0]
  · rw [hs]
    cases a with
    | write x => exact absurd ha (h x r)
    | _ => rfl
  · rw [hs]
    obtain ⟨pd, hpd⟩ := announce_eq s i a
    rw [hpd]

/-- an access or a local step of thread `t` can always fire and touches no lock -/
theorem fire_plain (wv : WriteFn) (s : State) (t : Nat) (b : Action) (r : Thread)
    (hb : b.access ≠ none ∨ b = .tau) :
    (fire wv s t b r).owner = s.owner ∧ (fire wv s t b r).readers = s.readers ∧
    (fire wv s t b r).pending = s.pending ∧ canFire s t b = true := by
  cases b with
  | read x => exact ⟨rfl, rfl, rfl, rfl⟩
  | write x => exact ⟨rfl, rfl, rfl, rfl⟩
  | tau => exact ⟨rfl, rfl, rfl, rfl⟩
  | lock l => simp [Action.access] at hb
  | unlock l => simp [Action.access] at hb
  | rlock l => simp [Action.access] at hb
  | runlock l => simp [Action.access] at hb

/-! ## the lock-mode invariant and co-enabled race freedom -/

/-- how thread `i` holds `l` in state `s` -/
def modeOf (l : Nat) (s : State) (i : Nat) : Mode :=
  if s.owner l = some i then .W else if i ∈ s.readers l then .R else .N

theorem modeOf_W (l : Nat) (s : State) (i : Nat) : modeOf l s i = .W ↔ s.owner l = some i := by
  unfold modeOf
  split
  · simp_all
  · split <;> simp_all

theorem modeOf_R (l : Nat) (s : State) (i : Nat) :
    modeOf l s i = .R ↔ s.owner l ≠ some i ∧ i ∈ s.readers l := by
  unfold modeOf
  split
  · simp_all
  · split <;> simp_all

theorem modeOf_N (l : Nat) (s : State) (i : Nat) :
    modeOf l s i = .N ↔ s.owner l ≠ some i ∧ i ∉ s.readers l := by
  unfold modeOf
  split
  · simp_all
  · split <;> simp_all

theorem modeOf_congr (l : Nat) (s s' : State) (i : Nat) (ho : s'.owner l = s.owner l)
    (hr : s'.readers l = s.readers l) : modeOf l s' i = modeOf l s i := by
  unfold modeOf; rw [ho, hr]

/-- what a lock discipline `D` (a predicate on the mode in which `l` is held and the remaining
program) must say about the four operations on `l`, and that it is closed under every other step -/
structure Disc (l : Nat) (D : Mode → Thread → Bool) : Prop where
  lock : ∀ m r, D m (.lock l :: r) = true → m = .N ∧ D .W r = true
  unlock : ∀ m r, D m (.unlock l :: r) = true → m = .W ∧ D .N r = true
  rlock : ∀ m r, D m (.rlock l :: r) = true → m = .N ∧ D .R r = true
  runlock : ∀ m r, D m (.runlock l :: r) = true → m = .R ∧ D .N r = true
  other : ∀ m a r, a ≠ .lock l → a ≠ .unlock l → a ≠ .rlock l → a ≠ .runlock l →
    D m (a :: r) = true → D m r = true

/-- every thread's remaining program obeys the discipline from the mode in which it holds `l`
now; a writer excludes readers; a thread holds at most one read lock -/
structure GIx (l : Nat) (D : Mode → Thread → Bool) (s : State) : Prop where
  disc : ∀ (i : Nat) (t : Thread), s.rem[i]? = some t → D (modeOf l s i) t = true
  alone : ∀ i, s.owner l = some i → s.readers l = []
  nodup : (s.readers l).Nodup

/-- the invariant of the reader/writer discipline with published locations `X` -/
def GI (l : Nat) (X : Nat → Bool) (s : State) : Prop := GIx l (pubGuardedFrom l X) s

theorem disc_pub (l : Nat) (X : Nat → Bool) : Disc l (pubGuardedFrom l X) where
  lock := by intro m r h; simpa [pubGuardedFrom] using h
  unlock := by intro m r h; simpa [pubGuardedFrom] using h
  rlock := by intro m r h; simpa [pubGuardedFrom] using h
  runlock := by intro m r h; simpa [pubGuardedFrom] using h
  other := by
    intro m a r h1 h2 h3 h4 h
    cases a with
    | lock l' => simpa [pubGuardedFrom, show l' ≠ l from fun e => h1 (by rw [e])] using h
    | unlock l' => simpa [pubGuardedFrom, show l' ≠ l from fun e => h2 (by rw [e])] using h
    | rlock l' => simpa [pubGuardedFrom, show l' ≠ l from fun e => h3 (by rw [e])] using h
    | runlock l' => simpa [pubGuardedFrom, show l' ≠ l from fun e => h4 (by rw [e])] using h
    | read x => simp only [pubGuardedFrom, Bool.and_eq_true] at h; exact h.2
    | write x => simp only [pubGuardedFrom, Bool.and_eq_true] at h; exact h.2
    | tau => simpa [pubGuardedFrom] using h

theorem gix_init (l : Nat) (D : Mode → Thread → Bool) (p : Prog) (h : ∀ t ∈ p, D .N t = true) :
    GIx l D (init p) := by
  refine ⟨?_, ?_, ?_⟩
  · intro i t ht
    have hm : t ∈ p := List.mem_of_getElem? ht
    have : modeOf l (init p) i = .N := by simp [modeOf, init]
    rw [this]; exact h t hm
  · intro i hi; simp [init] at hi
  · simp [init]

theorem gi_init (l : Nat) (X : Nat → Bool) (p : Prog) (h : PubGuardedBy l X p) : GI l X (init p) :=
  gix_init l _ p h

/-- an action that is none of the four operations on `l` leaves its holders alone -/
theorem fire_frame (wv : WriteFn) (s : State) (j : Nat) (a : Action) (r : Thread) (l : Nat)
    (h1 : a ≠ .lock l) (h2 : a ≠ .unlock l) (h3 : a ≠ .rlock l) (h4 : a ≠ .runlock l) :
    (fire wv s j a r).owner l = s.owner l ∧ (fire wv s j a r).readers l = s.readers l := by
  cases a <;> simp_all [fire, upd, eq_comm]

/-- who owns `l` after one fired action, exactly -/
theorem fire_owner_iff (wv : WriteFn) (s : State) (j : Nat) (act : Action) (r : Thread) (l i : Nat)
    (hc : canFire s j act = true) :
    (fire wv s j act r).owner l = some i ↔
      (s.owner l = some i ∧ ¬ (i = j ∧ act = .unlock l)) ∨ (i = j ∧ act = .lock l) := by
  by_cases h1 : act = .lock l
  · subst h1
    simp only [canFire, Bool.and_eq_true, decide_eq_true_eq] at hc
    simp [fire, hc.1.1, eq_comm]
  by_cases h2 : act = .unlock l
  · subst h2
    simp only [canFire, decide_eq_true_eq] at hc
    have : (fire wv s j (.unlock l) r).owner l = none := by simp only [fire, upd_same]
    rw [this, hc]
    exact ⟨nofun, fun h => h.elim (fun h => absurd ⟨(Option.some.inj h.1).symm, rfl⟩ h.2) fun h => nomatch h.2⟩
  have : (fire wv s j act r).owner l = s.owner l := by
    rw [fire_owner]
    cases act with
    | lock l' => exact upd_other _ _ _ _ fun e => h1 (by rw [e])
    | unlock l' => exact upd_other _ _ _ _ fun e => h2 (by rw [e])
    | _ => rfl
  rw [this]
  exact ⟨fun h => Or.inl ⟨h, fun e => h2 e.2⟩, fun h => h.elim (fun h => h.1) fun h => absurd h.2 h1⟩

theorem fire_readers_frame (wv : WriteFn) (s : State) (j : Nat) (act : Action) (r : Thread) (l : Nat)
    (h3 : act ≠ .rlock l) (h4 : act ≠ .runlock l) : (fire wv s j act r).readers l = s.readers l := by
  rw [fire_readers]
  cases act with
  | rlock l' => exact upd_other _ _ _ _ fun e => h3 (by rw [e])
  | runlock l' => exact upd_other _ _ _ _ fun e => h4 (by rw [e])
  | _ => rfl

theorem fire_readers_iff (wv : WriteFn) (s : State) (j : Nat) (act : Action) (r : Thread) (l i : Nat)
    (hn : (s.readers l).Nodup) :
    i ∈ (fire wv s j act r).readers l ↔
      (i ∈ s.readers l ∧ ¬ (i = j ∧ act = .runlock l)) ∨ (i = j ∧ act = .rlock l) := by
  by_cases h3 : act = .rlock l
  · subst h3
    simp [fire, or_comm]
  by_cases h4 : act = .runlock l
  · subst h4
    simp [fire, hn.mem_erase_iff, and_comm]
  rw [fire_readers_frame wv s j act r l h3 h4]
  exact ⟨fun h => Or.inl ⟨h, fun e => h4 e.2⟩, fun h => h.elim (fun h => h.1) fun h => absurd h.2 h3⟩

theorem fire_readers_nodup (wv : WriteFn) (s : State) (j : Nat) (act : Action) (r : Thread) (l : Nat)
    (hn : (s.readers l).Nodup) (hj : act = .rlock l → j ∉ s.readers l) : ((fire wv s j act r).readers l).Nodup := by
  by_cases h3 : act = .rlock l
  · subst h3; simpa [fire] using ⟨hj rfl, hn⟩
  by_cases h4 : act = .runlock l
  · subst h4; simpa [fire] using hn.erase j
  rw [fire_readers_frame wv s j act r l h3 h4]; exact hn

theorem fire_owner_other (wv : WriteFn) (s : State) (j : Nat) (act : Action) (r : Thread) (l i : Nat)
    (hc : canFire s j act = true) (hij : i ≠ j) : (fire wv s j act r).owner l = some i ↔ s.owner l = some i := by
  rw [fire_owner_iff wv s j act r l i hc]; simp [hij]

theorem fire_readers_other (wv : WriteFn) (s : State) (j : Nat) (act : Action) (r : Thread) (l i : Nat)
    (hij : i ≠ j) : i ∈ (fire wv s j act r).readers l ↔ i ∈ s.readers l := by
  by_cases h3 : act = .rlock l
  · subst h3; simp [fire, hij]
  by_cases h4 : act = .runlock l
  · subst h4; simp [fire, List.mem_erase_of_ne hij]
  rw [fire_readers_frame wv s j act r l h3 h4]

/-- the same as four implications: a holder stays unless it is the acting thread releasing, and a new
holder is the acting thread acquiring -/
theorem fire_holders (wv : WriteFn) (s : State) (j : Nat) (act : Action) (r : Thread) (l : Nat)
    (hc : canFire s j act = true) (hn : (s.readers l).Nodup) :
    (∀ i, s.owner l = some i → (fire wv s j act r).owner l = some i ∨ (i = j ∧ act = .unlock l)) ∧
    (∀ i, i ∈ s.readers l → i ∈ (fire wv s j act r).readers l ∨ (i = j ∧ act = .runlock l)) ∧
    (∀ i, (fire wv s j act r).owner l = some i → s.owner l = some i ∨ (i = j ∧ act = .lock l)) ∧
    (∀ i, i ∈ (fire wv s j act r).readers l → i ∈ s.readers l ∨ (i = j ∧ act = .rlock l)) := by
  refine ⟨fun i hi => ?_, fun i hi => ?_, fun i hi => ((fire_owner_iff wv s j act r l i hc).mp hi).imp_left And.left,
    fun i hi => ((fire_readers_iff wv s j act r l i hn).mp hi).imp_left And.left⟩
  · by_cases h : i = j ∧ act = .unlock l
    · exact Or.inr h
    · exact Or.inl ((fire_owner_iff wv s j act r l i hc).mpr (Or.inl ⟨hi, h⟩))
  · by_cases h : i = j ∧ act = .runlock l
    · exact Or.inr h
    · exact Or.inl ((fire_readers_iff wv s j act r l i hn).mpr (Or.inl ⟨hi, h⟩))

theorem mode_other (wv : WriteFn) (l : Nat) (s : State) (t j : Nat) (act : Action) (r : Thread)
    (hc : canFire s t act = true) (hjt : j ≠ t) : modeOf l (fire wv s t act r) j = modeOf l s j := by
  unfold modeOf
  simp only [fire_owner_other wv s t act r l j hc hjt, fire_readers_other wv s t act r l j hjt]

theorem Action.on_lock (a : Action) (l : Nat) :
    a = .lock l ∨ a = .unlock l ∨ a = .rlock l ∨ a = .runlock l ∨
      (a ≠ .lock l ∧ a ≠ .unlock l ∧ a ≠ .rlock l ∧ a ≠ .runlock l) := by
  by_cases h1 : a = .lock l
  · exact .inl h1
  by_cases h2 : a = .unlock l
  · exact .inr (.inl h2)
  by_cases h3 : a = .rlock l
  · exact .inr (.inr (.inl h3))
  by_cases h4 : a = .runlock l
  · exact .inr (.inr (.inr (.inl h4)))
  exact .inr (.inr (.inr (.inr ⟨h1, h2, h3, h4⟩)))

theorem gix_step (wv : WriteFn) (l : Nat) (D : Mode → Thread → Bool) (hd : Disc l D) (s : State) (j : Nat)
    (h : GIx l D s) : GIx l D (step wv s j) := by
  rcases step_cases wv s j with h0 | ⟨a, r, hj, hc, hs⟩ | ⟨a, r, _, _, hs⟩
  · rw [h0]; exact h
  · rw [hs]
    obtain ⟨h1, h2, h3⟩ := h
    have hjg := h1 j _ hj
    -- every thread obeys the discipline from its mode once the acting thread does from its new mode `m'`
    have f1 : ∀ m', D m' r = true → modeOf l (fire wv s j a r) j = m' → ∀ (i : Nat) (t : Thread),
        (fire wv s j a r).rem[i]? = some t → D (modeOf l (fire wv s j a r) i) t = true := by
      intro m' hD hm i t ht
      rw [fire_rem] at ht
      rcases getElem?_set_cases _ _ _ _ _ ht with ⟨rfl, rfl⟩ | ⟨hij, hi⟩
      · rw [hm]; exact hD
      · rw [mode_other wv l s j i a r hc hij]; exact h1 i t hi
    have f3 : ((fire wv s j a r).readers l).Nodup :=
      fire_readers_nodup wv s j a r l h3 fun e => by subst e; exact ((modeOf_N ..).mp (hd.rlock _ _ hjg).1).2
    -- by what the action does to `l`: the acting thread's new mode, and who holds `l` afterwards
    rcases a.on_lock l with rfl | rfl | rfl | rfl | ⟨hlock, hunlock, hrlock, hrunlock⟩
    · simp only [canFire, Bool.and_eq_true, decide_eq_true_eq] at hc
      exact ⟨f1 .W (hd.lock _ _ hjg).2 ((modeOf_W ..).mpr (by simp [fire])), fun i _ => by simpa [fire] using hc.1.2, f3⟩
    · simp only [canFire, decide_eq_true_eq] at hc
      exact ⟨f1 .N (hd.unlock _ _ hjg).2 ((modeOf_N ..).mpr ⟨by simp [fire], by simp [fire, h2 j hc]⟩),
        fun i hi => by simp [fire] at hi, f3⟩
    · simp only [canFire, Bool.and_eq_true, decide_eq_true_eq] at hc
      exact ⟨f1 .R (hd.rlock _ _ hjg).2 ((modeOf_R ..).mpr ⟨by simp [fire, hc.1], by simp [fire]⟩),
        fun i hi => by simp [fire, hc.1] at hi, f3⟩
    · simp only [canFire, decide_eq_true_eq] at hc
      have hfree : ∀ u, s.owner l ≠ some u := by
        intro u hu; rw [h2 u hu] at hc; simp at hc
      exact ⟨f1 .N (hd.runlock _ _ hjg).2
          ((modeOf_N ..).mpr ⟨by simpa [fire] using hfree j, by simp [fire, h3.mem_erase_iff]⟩),
        fun i hi => absurd (by simpa [fire] using hi) (hfree i), f3⟩
    · obtain ⟨ho, hr⟩ := fire_frame wv s j a r l hlock hunlock hrlock hrunlock
      exact ⟨f1 _ (hd.other _ a r hlock hunlock hrlock hrunlock hjg) (modeOf_congr l s _ j ho hr),
        fun i hi => by rw [hr]; exact h2 i (ho ▸ hi), f3⟩
  · rw [hs]
    -- announcing changes `pending` only, which the invariant does not mention
    obtain ⟨pd, hpd⟩ := announce_eq s j a
    rw [hpd]
    exact ⟨h.disc, h.alone, h.nodup⟩

theorem gix_runFrom (wv : WriteFn) (l : Nat) (D : Mode → Thread → Bool) (hd : Disc l D) (sched : List Nat)
    (s : State) (h : GIx l D s) : GIx l D (runFrom wv s sched) :=
  List.foldlRecOn sched (step wv) h fun s hs j _ => gix_step wv l D hd s j hs

/-- what the discipline says about a thread that is about to access `x` -/
theorem gi_access (l : Nat) (X : Nat → Bool) (s : State) (h : GI l X s) (i : Nat) (a : Action)
    (r : Thread) (x : Nat) (w : Bool) (hi : s.rem[i]? = some (a :: r)) (ha : a.access = some (x, w)) :
    (w = true → s.owner l = some i) ∧
    (w = false → X x = true ∨ s.owner l = some i ∨ (i ∈ s.readers l ∧ ∀ u, s.owner l ≠ some u)) := by
  have hg := h.1 i _ hi
  cases a with
  | write y =>
    simp only [Action.access, Option.some.injEq, Prod.mk.injEq] at ha
    obtain ⟨_, rfl⟩ := ha
    simp only [pubGuardedFrom, Bool.and_eq_true, beq_iff_eq] at hg
    exact ⟨fun _ => (modeOf_W ..).mp hg.1, fun hf => by cases hf⟩
  | read y =>
    simp only [Action.access, Option.some.injEq, Prod.mk.injEq] at ha
    obtain ⟨rfl, rfl⟩ := ha
    refine ⟨fun hf => (by cases hf), fun _ => ?_⟩
    simp only [pubGuardedFrom, Bool.and_eq_true, Bool.or_eq_true, bne_iff_ne, ne_eq] at hg
    rcases hg.1 with hx | hm
    · exact Or.inl hx
    · right
      cases hmo : modeOf l s i with
      | N => exact absurd hmo hm
      | W => exact Or.inl ((modeOf_W ..).mp hmo)
      | R =>
        have := (modeOf_R ..).mp hmo
        refine Or.inr ⟨this.2, fun u hu => ?_⟩
        rw [h.alone u hu] at this
        simp at this
  | lock _ => simp [Action.access] at ha
  | unlock _ => simp [Action.access] at ha
  | rlock _ => simp [Action.access] at ha
  | runlock _ => simp [Action.access] at ha
  | tau => simp [Action.access] at ha

/-- under the reader/writer discipline (nothing published) no two conflicting accesses are ever
enabled together -/
theorem gi_no_race (l : Nat) (s : State) (h : GI l (fun _ => false) s) : ¬ Race s := by
  rintro ⟨i, j, hij, ai, aj, ri, rj, x, wi, wj, hi, hj, hai, haj, hw⟩
  have hI := gi_access l _ s h i ai ri x wi hi hai
  have hJ := gi_access l _ s h j aj rj x wj hj haj
  have excl : ∀ u v, s.owner l = some u → (s.owner l = some v ∨ (v ∈ s.readers l ∧ ∀ u, s.owner l ≠ some u)) → u = v := by
    intro u v hu hv
    rcases hv with hv | ⟨_, hv⟩
    · rw [hu] at hv; exact Option.some.inj hv
    · exact absurd hu (hv u)
  rcases hw with hw | hw
  · have hio := hI.1 hw
    cases wj with
    | true => exact hij (excl i j hio (Or.inl (hJ.1 rfl)))
    | false =>
      rcases hJ.2 rfl with hx | hx
      · cases hx
      · exact hij (excl i j hio hx)
  · have hjo := hJ.1 hw
    cases wi with
    | true => exact hij (excl j i hjo (Or.inl (hI.1 rfl))).symm
    | false =>
      rcases hI.2 rfl with hx | hx
      · cases hx
      · exact hij (excl j i hjo hx).symm

/-- the mutex discipline is the reader/writer discipline without read locks -/
theorem guarded_pubGuarded (l : Nat) (X : Nat → Bool) (h : Bool) (t : Thread)
    (hg : guardedFrom l h t = true) : pubGuardedFrom l X (if h then .W else .N) t = true := by
  induction t generalizing h with
  | nil => cases h <;> simp_all [guardedFrom, pubGuardedFrom]
  | cons a r ih =>
    cases a with
    | lock l' =>
      by_cases hl : l' = l
      · simp only [guardedFrom, hl, if_true, Bool.and_eq_true, Bool.not_eq_true'] at hg
        obtain ⟨rfl, hr⟩ := hg
        simpa [pubGuardedFrom, hl] using ih true hr
      · simp only [guardedFrom, hl, if_false] at hg
        simpa [pubGuardedFrom, hl] using ih h hg
    | unlock l' =>
      by_cases hl : l' = l
      · simp only [guardedFrom, hl, if_true, Bool.and_eq_true] at hg
        obtain ⟨rfl, hr⟩ := hg
        simpa [pubGuardedFrom, hl] using ih false hr
      · simp only [guardedFrom, hl, if_false] at hg
        simpa [pubGuardedFrom, hl] using ih h hg
    | rlock l' =>
      by_cases hl : l' = l
      · simp [guardedFrom, hl] at hg
      · simp only [guardedFrom, hl, if_false] at hg
        simpa [pubGuardedFrom, hl] using ih h hg
    | runlock l' =>
      by_cases hl : l' = l
      · simp [guardedFrom, hl] at hg
      · simp only [guardedFrom, hl, if_false] at hg
        simpa [pubGuardedFrom, hl] using ih h hg
    | read x =>
      simp only [guardedFrom, Bool.and_eq_true] at hg
      obtain ⟨rfl, hr⟩ := hg
      simpa [pubGuardedFrom] using ih true hr
    | write x =>
      simp only [guardedFrom, Bool.and_eq_true] at hg
      obtain ⟨rfl, hr⟩ := hg
      simpa [pubGuardedFrom] using ih true hr
    | tau =>
      simp only [guardedFrom] at hg
      simpa [pubGuardedFrom] using ih h hg

theorem allGuarded_pubGuarded (l : Nat) (X : Nat → Bool) (p : Prog) (h : AllGuardedBy l p) :
    PubGuardedBy l X p := fun t ht => by simpa using guarded_pubGuarded l X false t (h t ht)

theorem stepN_succ_right (wv : WriteFn) (s : State) (i k : Nat) :
    stepN wv s i (k + 1) = step wv (stepN wv s i k) i := by
  induction k generalizing s with
  | zero => rfl
  | succ k ih => simp only [stepN] at ih ⊢; exact ih _

theorem stepN_one (wv : WriteFn) (q : State) (t : Nat) : stepN wv q t 1 = step wv q t := rfl

theorem getD_of_getElem? {α : Type} (xs : List α) (i : Nat) (t d : α) (h : xs[i]? = some t) :
    xs.getD i d = t := by
  simp [List.getD_eq_getElem?_getD, h]

end J5V.Conc.Sched
