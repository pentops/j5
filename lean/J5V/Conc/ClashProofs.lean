import J5V.Conc.Clash
/-! Lemmas about the collision family (core only): the owner of the colliding name can only change
through a request of the other side. -/
namespace J5V.Conc.Clash

theorem clash_step_not_T (s : St) (r : Nat) (hs : s.owner ≠ some false) (hr : touchesT r = false) :
    (req s r).1.owner ≠ some false ∧ (r < 6 → (req s r).2 = true) := by
  match r with
  | 0 =>
    unfold req; simp only []
    split
    · exact ⟨hs, fun _ => rfl⟩
    · split <;> simp_all
  | 1 => unfold req; simp only []; split <;> simp_all
  | 2 => simp [touchesT] at hr
  | 3 => simp [touchesT] at hr
  | 4 => exact ⟨hs, fun _ => rfl⟩
  | 5 => exact ⟨hs, fun _ => rfl⟩
  | n + 6 => exact ⟨hs, fun h => by omega⟩

theorem clash_step_not_N (s : St) (r : Nat) (hs : s.owner ≠ some true) (hr : touchesN r = false) :
    (req s r).1.owner ≠ some true ∧ (r < 6 → (req s r).2 = true) := by
  match r with
  | 0 => simp [touchesN] at hr
  | 1 => simp [touchesN] at hr
  | 2 => unfold req; simp only []; split <;> simp_all
  | 3 =>
    unfold req; simp only []
    split
    · exact ⟨hs, fun _ => rfl⟩
    · split <;> simp_all
  | 4 => exact ⟨hs, fun _ => rfl⟩
  | 5 => exact ⟨hs, fun _ => rfl⟩
  | n + 6 => exact ⟨hs, fun h => by omega⟩

theorem clash_owner_not_T (rs : List Nat) (s : St) (hs : s.owner ≠ some false)
    (h : ∀ r ∈ rs, touchesT r = false) : (rs.foldl (fun s r => (req s r).1) s).owner ≠ some false :=
  List.foldlRecOn (motive := fun s => s.owner ≠ some false) rs _ hs
    fun s hs r hr => (clash_step_not_T s r hs (h r hr)).1

theorem clash_owner_not_N (rs : List Nat) (s : St) (hs : s.owner ≠ some true)
    (h : ∀ r ∈ rs, touchesN r = false) : (rs.foldl (fun s r => (req s r).1) s).owner ≠ some true :=
  List.foldlRecOn (motive := fun s => s.owner ≠ some true) rs _ hs
    fun s hs r hr => (clash_step_not_N s r hs (h r hr)).1

end J5V.Conc.Clash
