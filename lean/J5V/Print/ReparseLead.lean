import J5V.Print.GrammarProofs
/-!
# Leading comments: the generic lemmas (core only)

`leadingCmds` writes a gap, then the comment as `//` lines on consecutive lines, then the element on the
next line. The scanner collects the `//` lines as comments; `attributeCm` (the model of protocompile's
`attributeComments` / `maybeDonate` / `maybeAttach`) gives exactly that run to the next token as its
leading comment: no trailing comment for the previous token (a blank line separates them), nothing detached.
Then:

* `hd c ts`: the token list `ts` whose first token carries the leading comment `c` (what `attach` produces for an
  element written below its comment), `withLead`: an element with that leading comment;
* the parser reads the comment of the first token into the location of the element it starts: `parseField_hd`;
* `attach` over a comment block followed by a token line (`attach_run`, `attach_leading`); over token-only lines it is
  `ReparseBridge.attach_sameLine` (used through `attach_lines`, `attach_piece`).
-/
namespace J5V.Print.Grammar
open J5V.Print J5V.Print.Layout

theorem runFrom_length : ∀ (xs : List String) (p : Nat), (runFrom xs p).length = xs.length
  | [], _ => rfl
  | _ :: r, p => by simp [runFrom, runFrom_length r (p + 1)]

/-- a run is one group -/
theorem groupComments_run : ∀ (xs : List String) (p : Nat) (c : Cmt) (cur : List Cmt), c.2 + 1 = p →
    groupComments (runFrom xs p) (c :: cur) = [(c :: cur).reverse ++ runFrom xs p]
  | [], p, c, cur, _ => by simp [runFrom, groupComments]
  | x :: r, p, c, cur, h => by
    simp only [runFrom, groupComments]
    have : ¬ (p > c.2 + 1) := by omega
    simp only [this, if_false]
    rw [groupComments_run r (p + 1) (x, p) (c :: cur) rfl]
    simp

theorem groupComments_run0 (x : String) (xs : List String) (p : Nat) :
    groupComments (runFrom (x :: xs) p) [] = [runFrom (x :: xs) p] := by
  simp only [runFrom, groupComments]
  rw [groupComments_run xs (p + 1) (x, p) [] rfl]
  simp

theorem lastLine_run (x : String) (xs : List String) (p : Nat) :
    lastLine (runFrom (x :: xs) p) = p + xs.length := by
  induction xs generalizing x p with
  | nil => simp [runFrom, lastLine]
  | cons y ys ih =>
    have := ih y (p + 1)
    simp only [runFrom, lastLine, List.getLast?_cons_cons] at this ⊢
    rw [this]
    simp only [List.length_cons]
    omega

theorem firstLine_run (x : String) (xs : List String) (p : Nat) : firstLine (runFrom (x :: xs) p) = p := by
  simp [runFrom, firstLine]

/-- **the leading comment**: a run of `//` lines that starts at least two lines below the previous token and ends
on the line above the next one belongs to the next token, whole, as its leading comment -/
theorem attributeCm_leading (pl p : Nat) (x : String) (xs : List String) (t : Tok) (hp : pl + 1 < p) :
    attributeCm (some pl) (runFrom (x :: xs) p) t (p + xs.length + 1) =
      ⟨"", [], combine (runFrom (x :: xs) p)⟩ := by
  have hpe : (p == pl) = false := by
    rw [beq_eq_false_iff_ne]; omega
  have hg := groupComments_run0 x xs p
  have hf := firstLine_run x xs p
  have hl := lastLine_run x xs p
  simp only [runFrom] at hg hf hl
  have h2 : decide (p > pl + 1) = true := by simp; omega
  unfold attributeCm
  simp only [runFrom, hpe, Bool.and_false, Bool.false_eq_true, if_false, hg, List.isEmpty_nil, Bool.not_true,
    hf, h2, if_true, List.getLast?_singleton, List.length_singleton, beq_self_eq_true, Bool.true_and, hl,
    Bool.false_and, Nat.le_refl, ge_iff_le, List.dropLast_singleton, List.map_nil]
  have hne : pl ≠ p := by omega
  simp [combine, hp, hf, hl, hne.symm, String.join]

/-- … and `attach` hands it over: the comments, then the token -/
theorem attach_run : ∀ (xs : List String) (p : Nat) (rest : List Raw) (prev : Option Nat) (cs : List Cmt) (ll : Nat),
    attach ((runFrom xs p).map (fun c => Raw.comment c.1 c.2) ++ rest) prev cs ll =
      attach rest prev (cs ++ runFrom xs p) (if xs.isEmpty then ll else p + xs.length - 1)
  | [], p, rest, prev, cs, ll => by simp [runFrom]
  | x :: r, p, rest, prev, cs, ll => by
    simp only [runFrom, List.map_cons, List.cons_append, attach]
    rw [attach_run r (p + 1) rest prev (cs ++ [(x, p)]) p]
    simp only [List.append_assoc, List.cons_append, List.nil_append, List.isEmpty_cons, Bool.false_eq_true, if_false,
      List.length_cons]
    congr 1
    cases r <;> simp <;> omega

theorem attach_leading (pl p : Nat) (x : String) (xs : List String) (t : Tok) (rest : List Raw) (ll : Nat)
    (hp : pl + 1 < p) :
    attach ((runFrom (x :: xs) p).map (fun c => Raw.comment c.1 c.2) ++ Raw.tok t (p + xs.length + 1) :: rest) (some pl) [] ll =
      ⟨t, p + xs.length + 1, ⟨"", [], combine (runFrom (x :: xs) p)⟩⟩ ::
        attach rest (some (p + xs.length + 1)) [] (p + xs.length + 1) := by
  rw [attach_run]
  simp only [List.nil_append, attach]
  rw [attributeCm_leading pl p x xs t hp]

/-- what the reader combines is the comment text the printer split into lines -/
theorem combine_run (xs : List String) (p : Nat) : combine (runFrom xs p) = String.join (xs.map (· ++ "\n")) := by
  unfold combine
  congr 1
  induction xs generalizing p with
  | nil => rfl
  | cons x r ih => simp [runFrom, ih (p + 1)]

/-- a `//` line as `leadingCmds` writes it on a builder with indentation `n` is one comment for the scanner -/
theorem lexL_commentLine (n : Nat) (x : String) (h : NoNL x.toList) (L : Nat) :
    lexL (OptionText.ind n ("//" ++ x)).toList L = [.comment x L] := by
  unfold OptionText.ind
  rw [String.toList_append, String.toList_ofList, lexL_spaces, String.toList_append]
  have : ("//".toList : List Char) = ['/', '/'] := by decide +kernel
  rw [this, List.cons_append, List.cons_append, List.nil_append, lexL_comment x.toList h L, String.ofList_toList]

end J5V.Print.Grammar

namespace J5V.Print.Layout

theorem Item.withLead_typeOrder (c : String) : ∀ e : Item, (e.withLead c).typeOrder = e.typeOrder
  | .field _ => rfl
  | .rpc _ _ _ _ _ _ => rfl
  | .block _ _ _ _ _ _ _ => rfl

theorem Item.withLead_loc (c : String) : ∀ e : Item, (e.withLead c).loc = e.loc.withLead c
  | .field _ => rfl
  | .rpc _ _ _ _ _ _ => rfl
  | .block _ _ _ _ _ _ _ => rfl

end J5V.Print.Layout

namespace J5V.Print.Grammar
open J5V.Print J5V.Print.Layout

theorem leadCm_empty : leadCm "" = Cm.none := rfl

theorem hd_cons (c : String) (t : Tok) (l : Nat) (cm : Cm) (r : List PTok) : hd c (⟨t, l, cm⟩ :: r) = ⟨t, l, leadCm c⟩ :: r := rfl

theorem hd_T_empty (t : Tok) (l : Nat) (r : List PTok) : hd "" (T t l :: r) = T t l :: r := rfl

theorem hd_length (c : String) : ∀ ts : List PTok, (hd c ts).length = ts.length
  | [] => rfl
  | _ :: _ => rfl

theorem mkLoc_lead (s e : Nat) (c : String) (tr : String) : mkLoc s e (leadCm c) tr = (mkLoc s e Cm.none tr).withLead c := rfl

/-! ## the parser reads the comment of the first token of a field into its location -/

theorem mkField_hd (k : FieldKind) (l : Nat) (c : String) (label ty name : String) (tail : Int × List RawOpt × Nat × List PTok) :
    mkField k l (leadCm c) label ty name tail =
      ((mkField k l Cm.none label ty name tail).1.withLead c, (mkField k l Cm.none label ty name tail).2) := by
  obtain ⟨num, raws, e, r⟩ := tail
  rfl

theorem mkField_hd' (k : FieldKind) (l : Nat) (c : String) (label ty name : String) :
    mkField k l (leadCm c) label ty name = fun tail => leadRes c (mkField k l Cm.none label ty name tail) := by
  funext tail
  exact mkField_hd k l c label ty name tail

theorem typeName_cm (tok : Tok) (l : Nat) (cm cm' : Cm) (tl : List PTok) :
    typeName (⟨tok, l, cm⟩ :: tl) = typeName (⟨tok, l, cm'⟩ :: tl) := by
  cases tok with
  | ident s => simp [typeName]
  | sym ch =>
    by_cases h : ch = '.'
    · subst h
      cases tl with
      | nil => simp [typeName]
      | cons t2 r =>
        obtain ⟨tok2, l2, c2⟩ := t2
        cases tok2 <;> simp [typeName]
    · unfold typeName
      split
      · rename_i heq; simp at heq
      · rename_i heq
        simp only [List.cons.injEq, PTok.mk.injEq, Tok.sym.injEq] at heq
        exact absurd heq.1.1 h
      · split
        · rename_i heq; simp at heq
        · rename_i heq
          simp only [List.cons.injEq, PTok.mk.injEq, Tok.sym.injEq] at heq
          exact absurd heq.1.1 h
        · rfl
  | num s => simp [typeName]
  | str s => simp [typeName]
  | eof => simp [typeName]

theorem plainField_first (tok : Tok) (l : Nat) (c : String) (label : String) (ts : List PTok) :
    plainField ⟨tok, l, leadCm c⟩ label ts = (plainField ⟨tok, l, Cm.none⟩ label ts).map (leadRes c) := by
  unfold plainField
  split
  · simp only [mkField_hd', Option.map_map]
    rfl
  · rfl

theorem mapField_first (tok : Tok) (l : Nat) (c : String) (label : String) (ts : List PTok) :
    mapField ⟨tok, l, leadCm c⟩ label ts = (mapField ⟨tok, l, Cm.none⟩ label ts).map (leadRes c) := by
  unfold mapField
  split
  · split
    · simp only [mkField_hd', Option.map_map]
      rfl
    · rfl
  · rfl

theorem fieldAfterLabel_first (tok : Tok) (l : Nat) (c : String) (label : String) (ts : List PTok) :
    fieldAfterLabel ⟨tok, l, leadCm c⟩ label ts = (fieldAfterLabel ⟨tok, l, Cm.none⟩ label ts).map (leadRes c) := by
  unfold fieldAfterLabel
  split
  · split
    · exact mapField_first tok l c label _
    · exact plainField_first tok l c label _
  · exact plainField_first tok l c label _

theorem plainField_rest (first : PTok) (label : String) (tok : Tok) (l : Nat) (cm cm' : Cm) (tl : List PTok) :
    plainField first label (⟨tok, l, cm⟩ :: tl) = plainField first label (⟨tok, l, cm'⟩ :: tl) := by
  unfold plainField
  rw [typeName_cm tok l cm cm' tl]

theorem fieldAfterLabel_rest (first : PTok) (label : String) (tok : Tok) (l : Nat) (cm cm' : Cm) (tl : List PTok) :
    fieldAfterLabel first label (⟨tok, l, cm⟩ :: tl) = fieldAfterLabel first label (⟨tok, l, cm'⟩ :: tl) := by
  cases tl with
  | nil =>
    simp only [fieldAfterLabel]
    exact plainField_rest first label tok l cm cm' []
  | cons t2 r =>
    obtain ⟨tok2, l2, c2⟩ := t2
    cases tok with
    | ident s =>
      cases tok2 with
      | sym ch =>
        simp only [fieldAfterLabel]
        split
        · rfl
        · exact plainField_rest first label _ l cm cm' _
      | ident _ => simp only [fieldAfterLabel]; exact plainField_rest first label _ l cm cm' _
      | num _ => simp only [fieldAfterLabel]; exact plainField_rest first label _ l cm cm' _
      | str _ => simp only [fieldAfterLabel]; exact plainField_rest first label _ l cm cm' _
      | eof => simp only [fieldAfterLabel]; exact plainField_rest first label _ l cm cm' _
    | sym _ => simp only [fieldAfterLabel]; exact plainField_rest first label _ l cm cm' _
    | num _ => simp only [fieldAfterLabel]; exact plainField_rest first label _ l cm cm' _
    | str _ => simp only [fieldAfterLabel]; exact plainField_rest first label _ l cm cm' _
    | eof => simp only [fieldAfterLabel]; exact plainField_rest first label _ l cm cm' _

/-- **the comment of the first token goes to the field** -/
theorem parseField_hd (tok : Tok) (l : Nat) (c : String) (tl : List PTok) :
    parseField (⟨tok, l, leadCm c⟩ :: tl) = (parseField (⟨tok, l, Cm.none⟩ :: tl)).map (leadRes c) := by
  simp only [parseField]
  cases tok with
  | ident s =>
    simp only [splitLabel]
    split
    · exact fieldAfterLabel_first _ l c _ _
    · split
      · exact fieldAfterLabel_first _ l c _ _
      · rw [fieldAfterLabel_first, fieldAfterLabel_rest _ _ _ l (leadCm c) Cm.none tl]
  | sym ch =>
    simp only [splitLabel]
    rw [fieldAfterLabel_first, fieldAfterLabel_rest _ _ _ l (leadCm c) Cm.none tl]
  | num s =>
    simp only [splitLabel]
    rw [fieldAfterLabel_first, fieldAfterLabel_rest _ _ _ l (leadCm c) Cm.none tl]
  | str s =>
    simp only [splitLabel]
    rw [fieldAfterLabel_first, fieldAfterLabel_rest _ _ _ l (leadCm c) Cm.none tl]
  | eof =>
    simp only [splitLabel]
    rw [fieldAfterLabel_first, fieldAfterLabel_rest _ _ _ l (leadCm c) Cm.none tl]

theorem parseField_hd_some (tok : Tok) (l : Nat) (c : String) (tl : List PTok) (fd : FieldD) (r : List PTok)
    (h : parseField (⟨tok, l, Cm.none⟩ :: tl) = some (fd, r)) :
    parseField (⟨tok, l, leadCm c⟩ :: tl) = some (fd.withLead c, r) := by
  rw [parseField_hd, h]
  rfl

end J5V.Print.Grammar
