import J5V.Print.Grammar
import J5V.Print.LayoutSpec
/-!
# Definitions the statements about `Grammar` use (core only)

The tokeniser without fuel (`lexL`, `lineToks`), the token shapes of printed lines (`T`, `tyToks` / `tyStr`, …), a reading
moved down by `k` lines (`sh`, `shO`, `shF`) and a leading comment on the first token (`hd`). No lemma here; lemmas:
`GrammarProofs`, `ReparseOpts`, `ReparseLead`.
-/
namespace J5V.Print.Grammar
open J5V.Print.Scalar

/-- the scanner with enough fuel -/
def lexL (cs : List Char) (line : Nat) : List Raw := lexAux (cs.length + 1) cs line

def NoNL (l : List Char) : Prop := ∀ c ∈ l, c ≠ '\n'

/-- an identifier: a letter or `_`, then letters, digits, `_` -/
def IsIdent (s : String) : Prop :=
  ∃ c cs, s.toList = c :: cs ∧ isLetter c = true ∧ ∀ x ∈ cs, isIdentChar x = true

/-- what follows a word: nothing, or a character that cannot continue it -/
def StopsI (rest : List Char) : Prop := ∀ c r, rest = c :: r → isIdentChar c = false

/-- the body of a string literal the printer writes without escaping (`syntax`, import paths) -/
def PlainBody (body : List Char) : Prop := ∀ c ∈ body, c ≠ '"' ∧ c ≠ '\\' ∧ c ≠ '\n'

/-- a token without comments around it -/
def T (t : Tok) (l : Nat) : PTok := ⟨t, l, Cm.none⟩

/-- `first.r₁.r₂…` as `typeNameAux` assembles it -/
def dotted (first : String) (rest : List String) : String := rest.foldl (fun acc s => acc ++ "." ++ s) first

/-- the tokens of `.r₁.r₂…` -/
def dotToks (rest : List String) (l : Nat) : List PTok :=
  (rest.map fun r => [T (.sym '.') l, T (.ident r) l]).flatten

/-- the tokens of a type name `[.]first.r₁.r₂…` -/
def tyToks (abs : Bool) (first : String) (rest : List String) (l : Nat) : List PTok :=
  (if abs then [T (.sym '.') l] else []) ++ T (.ident first) l :: dotToks rest l

/-- … and the name as `typeName` returns it -/
def tyStr (abs : Bool) (first : String) (rest : List String) : String :=
  dotted ((if abs then "." else "") ++ first) rest

/-- the tokens of a number as the printer writes it -/
def numToks (n : Int) (l : Nat) : List PTok :=
  if n < 0 then [T (.sym '-') l, T (.num (String.ofList (natDigits n.natAbs))) l]
  else [T (.num (String.ofList (natDigits n.natAbs))) l]

def labelToks (label : String) (l : Nat) : List PTok :=
  if label = "repeated " then [T (.ident "repeated") l]
  else if label = "optional " then [T (.ident "optional") l] else []

def toP : Raw → Option PTok
  | .tok t l => some (T t l)
  | .comment _ _ => none

/-- the tokens on a line of text -/
def lineToks (s : String) (l : Nat) : List PTok := (lexL s.toList l).filterMap toP

/-- the printed type of a map field -/
def mapTy (k : String) (abs : Bool) (first : String) (rest : List String) : String :=
  "map<" ++ tyStr false k [] ++ ", " ++ tyStr abs first rest ++ ">"

end J5V.Print.Grammar

namespace J5V.Print.Grammar
open J5V.Print J5V.Print.Layout J5V.Print.OptionText

def PTok.shift (k : Nat) (t : PTok) : PTok := { t with line := t.line + k }

/-- a list of tokens moved down by `k` lines -/
def sh (k : Nat) (ts : List PTok) : List PTok := ts.map (PTok.shift k)

def RawOpt.shift (k : Nat) (o : RawOpt) : RawOpt := { o with startLine := o.startLine + k, endLine := o.endLine + k }

/-- an option with a location moves with the text; one without has no line -/
def shO (k : Nat) (o : SOpt) : SOpt := if o.hasLoc then { o with startLine := o.startLine + k } else o

/-- a field moved down by `k` lines -/
def shF (k : Nat) (f : FieldD) : FieldD :=
  { f with loc := { f.loc with startLine := f.loc.startLine + k, endLine := f.loc.endLine + k }, opts := f.opts.map (shO k) }

end J5V.Print.Grammar

namespace J5V.Print.Grammar
open J5V.Print J5V.Print.Layout

/-- comments on consecutive lines, the first on line `p` -/
def runFrom : List String → Nat → List Cmt
  | [], _ => []
  | x :: r, p => (x, p) :: runFrom r (p + 1)

/-- the comments of a token below a leading comment `c` -/
def leadCm (c : String) : Cm := ⟨"", [], c⟩

/-- the first token carries the leading comment `c` -/
def hd (c : String) : List PTok → List PTok
  | [] => []
  | t :: r => { t with cm := leadCm c } :: r

/-- what `parseField_hd` does to a result -/
def leadRes (c : String) (p : FieldD × List PTok) : FieldD × List PTok := (p.1.withLead c, p.2)

end J5V.Print.Grammar
