import J5V.Print.ReparseBasics
/-!
# The reading satisfies `relaidL` (core only)

`rdItem e s` is `e` with the source lines of the printed text, the same leading comment, and options the printer writes the
same way; so printing the reading reproduces the text (`reprint_simple`).
-/
namespace J5V.Print.Reparse
open J5V.Print J5V.Print.Grammar J5V.Print.Layout J5V.Print.OptionText J5V.Print.Scalar


theorem optsOk_nil : optsOk [] [] := ⟨rfl, by simp, by simp⟩

theorem fieldOk_rd (f : FieldD) (h : SimpleField f ∨ SimpleValue f ∨ MapField f) (s : Nat) :
    fieldOkL f (({ f with loc := lineLoc s s, index := 0 } : FieldD).withLead f.loc.leading) := by
  have ho : f.opts = [] := by rcases h with h | h | h <;> exact h.2.2.1
  refine ⟨rfl, rfl, rfl, rfl, rfl, rfl, ⟨rfl, rfl, rfl⟩, rfl, ?_, ?_⟩
  · simp only [FieldD.withLead]; rw [ho]; simp
  · intro p _ _ o' ho'
    simp only [FieldD.withLead, ho] at ho'
    simp at ho'

theorem fieldOkL_of_fieldOk {f f' : FieldD} (h : fieldOk f f') : fieldOkL f (f'.withLead f.loc.leading) := by
  obtain ⟨h1, h2, h3, h4, h5, h6, h7, h8, h9, h10⟩ := h
  exact ⟨h1, h2, h3, h4, h5, h6, ⟨h7.1, h7.2.2, rfl⟩, h8, h9, h10⟩

theorem optOk_shO {o o' : SOpt} (k : Nat) (h : optOk o o') : optOk o (shO k o') := by
  obtain ⟨h1, h2, h3⟩ := h
  exact ⟨by rw [shO_name]; exact h1, by rw [shO_stmts]; exact h2, fun v hv hi => by rw [shO_single]; exact h3 v hv hi⟩

theorem fieldOk_shF {f f' : FieldD} (k : Nat) (h : fieldOk f f') : fieldOk f (shF k f') := by
  obtain ⟨h1, h2, h3, h4, h5, h6, h7, h8, h9, h10⟩ := h
  refine ⟨h1, h2, h3, h4, h5, h6, h7, by simp [shF, h8], ?_, ?_⟩
  · intro p hp
    simp only [shF, List.zip_map_right, List.mem_map] at hp
    obtain ⟨q, hq, rfl⟩ := hp
    exact optOk_shO k (h9 q hq)
  · intro p hp hi o' ho'
    simp only [shF, List.mem_map] at ho'
    obtain ⟨o, ho, rfl⟩ := ho'
    rw [shO_inl]
    exact h10 p hp hi o ho

theorem rdField_loc (f : FieldD) (h : OptField f) (s : Nat) :
    (rdField f s).loc.startLine = s ∧ (rdField f s).loc.endLine + 1 = s + (fieldLines 0 f).length := by
  obtain ⟨w, raws, e, c, _, _, _, hbr, he⟩ := h.read
  have hrd : rdRaws f = (raws, e) := by simp only [rdRaws, hbr]
  simp only [rdField, shF, rdField0, mkField, mkLoc, hrd]
  omega

theorem locLess_shO (k : Nat) (a b : SOpt) (ha : a.hasLoc = true → 0 < a.startLine) (hb : b.hasLoc = true → 0 < b.startLine) :
    Order.locLess (shO k a).loc (shO k b).loc = Order.locLess a.loc b.loc := by
  unfold shO
  cases hA : a.hasLoc <;> cases hB : b.hasLoc <;> simp only [hA, hB, Bool.false_eq_true, if_false, if_true]
  · simp [Order.locLess, SOpt.loc, hA, hB, Order.declLess]
  · simp [Order.locLess, SOpt.loc, hA, hB, Order.declLess]
  · have h1 := ha hA
    have h2 := hb hB
    simp only [Order.locLess, SOpt.loc, hA, hB, Bool.not_true, Bool.false_eq_true, or_self, if_false]
    have e1 : ¬ (a.startLine + k = 0 ∨ b.startLine + k = 0) := by omega
    have e2 : ¬ (a.startLine = 0 ∨ b.startLine = 0) := by omega
    simp only [e1, e2, if_false]
    rw [Bool.eq_iff_iff]
    simp

theorem optsOk_shO {os os' : List SOpt} (k : Nat) (h : optsOk os os') (hpos : ∀ o ∈ os', o.hasLoc = true → 0 < o.startLine) :
    optsOk os (os'.map (shO k)) := by
  obtain ⟨h1, h2, h3⟩ := h
  refine ⟨by simp [h1], ?_, ?_⟩
  · intro p hp
    simp only [List.zip_map_right, List.mem_map] at hp
    obtain ⟨q, hq, rfl⟩ := hp
    exact optOk_shO k (h2 q hq)
  · intro p hp q hq
    simp only [List.zip_map_right, List.mem_map] at hp hq
    obtain ⟨p', hp', rfl⟩ := hp
    obtain ⟨q', hq', rfl⟩ := hq
    simp only [Prod.map, id]
    rw [locLess_shO k p'.2 q'.2 (hpos _ (List.of_mem_zip hp').2) (hpos _ (List.of_mem_zip hq').2)]
    exact h3 p' hp' q' hq'

mutual
theorem rdItem_mono : ∀ (e : Item) (s : Nat), Plain e → s < (rdItem e s).2 ∧
    (rdItem e s).1.loc.startLine = s ∧ (rdItem e s).1.loc.endLine + 1 = (rdItem e s).2
  | .field f, s, h => by
    simp only [Plain] at h
    rcases Plain.field_cases h with ⟨hp, _⟩ | ⟨hp, ho⟩
    · simp [rdItem, hp, Item.loc, lineLoc]
    · have hpe : f.popts.isEmpty = false := by simpa using hp
      have := rdField_loc f ho s
      have hlen : 0 < (fieldLines 0 f).length := List.length_pos_iff.mpr (fieldLines_ne 0 f)
      simp only [rdItem, hpe, Bool.false_eq_true, if_false, Item.loc]
      omega
  | .rpc _ _ _ _ _ _, s, _ => by
    simp only [rdItem]
    split
    · simp [Item.loc, lineLoc]
    · simp only [Item.loc, lineLoc]
      refine ⟨by omega, trivial, by omega⟩
  | .block kw t l i name os kids, s, h => by
    simp only [Plain] at h
    simp only [rdItem]
    split
    · simp [Item.loc, lineLoc]
    · have := rdKids_mono kids true 0 0 (s + 1 + optSpan os) (!os.isEmpty) h.2.2
      exact ⟨by omega, rfl, rfl⟩
theorem rdKids_mono : ∀ (es : List Item) (first : Bool) (le0 lt L : Nat) (g : Bool), PlainList es →
    L ≤ (rdKids es first le0 lt L g).2
  | [], _, _, _, _, _, _ => by simp [rdKids]
  | e :: r, first, le0, lt, L, g, h => by
    simp only [PlainList] at h
    rw [rdKids_cons]
    have hst : L ≤ kidS e first le0 lt L g := kidStart_ge _ _ _ _
    generalize kidS e first le0 lt L g = st at hst ⊢
    have h1 := (rdItem_mono e st h.1).1
    have h2 := rdKids_mono r false e.loc.endLine e.typeOrder (rdItem e st).2 e.gapEnder h.2.2
    simp only []
    omega
end

theorem withLead_lines (c : String) (e : Item) :
    (e.withLead c).loc.startLine = e.loc.startLine ∧ (e.withLead c).loc.endLine = e.loc.endLine := by
  rw [Item.withLead_loc]
  exact ⟨rfl, rfl⟩

/-- The gap clause of `relaidKidsL`, in numbers: the previous element of the reading ends on line `le`, a gap is pending
(`g`) or not; the printer starts the next element on the line after, or one further down if a gap is pending or asked
for by the original's lines (`le0`, `st0`). Then the reading asks for a gap only where one was written, and everywhere
the original asked for one. -/
theorem gap_agrees (le0 st0 ty lt le : Nat) (g : Bool) (hle : 0 < le) :
    (gapCond false le (if (g || gapCond false le0 st0 ty lt) = true then le + 1 + 1 else le + 1) ty lt = true →
      g = true ∨ gapCond false le0 st0 ty lt = true) ∧
    (gapCond false le0 st0 ty lt = true →
      gapCond false le (if (g || gapCond false le0 st0 ty lt) = true then le + 1 + 1 else le + 1) ty lt = true) := by
  cases g <;> cases hgo : gapCond false le0 st0 ty lt <;>
    simp only [Bool.or_self, Bool.or_true, Bool.true_or, Bool.false_eq_true, if_false, if_true, or_self, or_true, true_or,
      implies_true, false_imp_iff, and_true, true_and, imp_false, Bool.not_eq_true]
  · -- no gap pending, none asked for: the element is on the next line, and of the same kind
    have hne : (ty != lt) = false := by
      simp only [gapCond, Bool.not_false, Bool.true_and, Bool.or_eq_false_iff] at hgo
      exact hgo.2
    simp [gapCond, hne]
  all_goals
    -- a free line between the two
    intro _
    simp only [gapCond, Bool.not_false, Bool.true_and, Bool.or_eq_true, Bool.and_eq_true, decide_eq_true_eq]
    exact Or.inl ⟨hle, by omega⟩

mutual
theorem relaid_rdItem : ∀ (e : Item) (s : Nat), Plain e → relaidL e ((rdItem e s).1.withLead e.loc.leading)
  | .field f, s, h => by
    simp only [Plain] at h
    rw [rdItem_field_fst]
    simp only [relaidL, Item.withLead, Item.loc, rdFieldAny]
    rcases Plain.field_cases h with ⟨hp, hleaf⟩ | ⟨hp, ho⟩
    · simp only [hp, List.isEmpty_nil, if_true]
      exact fieldOk_rd f hleaf s
    · have hpe : f.popts.isEmpty = false := by simpa using hp
      simp only [hpe, Bool.false_eq_true, if_false]
      exact fieldOkL_of_fieldOk (fieldOk_shF s ho.ok)
  | .rpc l i name inT outT os, s, h => by
    simp only [Plain] at h
    obtain ⟨_, ho⟩ := h
    simp only [rdItem]
    split
    · rename_i he
      have : os = [] := by simpa using he
      subst this
      simp only [relaidL, Item.withLead, Item.loc]
      exact ⟨trivial, trivial, trivial, ⟨rfl, rfl, rfl⟩, optsOk_nil⟩
    · simp only [relaidL, Item.withLead, Item.loc]
      exact ⟨trivial, trivial, trivial, ⟨rfl, rfl, rfl⟩, optsOk_shO s ho.ok ho.pos⟩
  | .block kw t l i name os kids, s, h => by
    simp only [Plain] at h
    obtain ⟨_, ho, hk⟩ := h
    simp only [rdItem]
    split
    · rename_i he
      simp only [Bool.and_eq_true, List.isEmpty_iff] at he
      obtain ⟨rfl, rfl⟩ := he
      simp only [relaidL, relaidKidsL, Item.withLead, Item.loc]
      exact ⟨trivial, trivial, trivial, ⟨rfl, rfl, rfl⟩, optsOk_nil, trivial⟩
    · simp only [relaidL, Item.withLead, Item.loc]
      exact ⟨trivial, trivial, trivial, ⟨rfl, rfl, rfl⟩, optsOk_shO s ho.ok ho.pos,
        relaid_rdKids kids true 0 0 (s + 1 + optSpan os) (!os.isEmpty) 0 0 false hk (by omega) (by intro h; cases h)⟩
/-- the invariant ties the two loop states together: the printer's next free line `L` is the line after the end `le` of the
reading's previous element, its gap flag `g` is the `pg` of the relation, and `le > 0` because `gapCond` takes line 0 for "no line" -/
theorem relaid_rdKids : ∀ (es : List Item) (first : Bool) (le0 lt L : Nat) (g : Bool) (ps le : Nat) (pg : Bool),
    PlainList es → ps < L → (first = false → L = le + 1 ∧ g = pg ∧ 0 < le) →
    relaidKidsL first pg ps le le0 lt es (rdKids es first le0 lt L g).1
  | [], _, _, _, _, _, _, _, _, _, _, _ => by simp [rdKids, relaidKidsL]
  | e :: r, first, le0, lt, L, g, ps, le, pg, h, hps, hinv => by
    simp only [PlainList] at h
    rw [rdKids_cons]
    simp only [relaidKidsL]
    obtain ⟨hm1, hm2, hm3⟩ := rdItem_mono e (kidS e first le0 lt L g) h.1
    obtain ⟨hw1, hw2⟩ := withLead_lines e.loc.leading (rdItem e (kidS e first le0 lt L g)).1
    have hge : L ≤ kidS e first le0 lt L g := kidStart_ge _ _ _ _
    rw [hw1, hw2, hm2]
    have hgap : (gapCond first le (kidS e first le0 lt L g) e.typeOrder lt = true →
          pg = true ∨ gapCond first le0 e.loc.startLine e.typeOrder lt = true ∨ e.loc.leading ≠ "") ∧
        (gapCond first le0 e.loc.startLine e.typeOrder lt = true →
          pg = true ∨ gapCond first le (kidS e first le0 lt L g) e.typeOrder lt = true ∨ e.loc.leading ≠ "") := by
      by_cases hlead : e.loc.leading = ""
      · cases first with
        | true => simp [gapCond]
        | false =>
          -- no leading comment: the element starts where `gap_agrees` says
          obtain ⟨hL, hg, hle⟩ := hinv rfl
          have hks : kidS e false le0 lt L g =
              (if (pg || gapCond false le0 e.loc.startLine e.typeOrder lt) = true then le + 1 + 1 else le + 1) := by
            simp [kidS, kidStart, hlead, startLine, gapBefore, hL, hg]
          rw [hks]
          obtain ⟨h1, h2⟩ := gap_agrees le0 e.loc.startLine e.typeOrder lt le pg hle
          exact ⟨fun hh => (h1 hh).imp_right Or.inl, fun hh => Or.inr (Or.inl (h2 hh))⟩
      · exact ⟨fun _ => Or.inr (Or.inr hlead), fun _ => Or.inr (Or.inr hlead)⟩
    refine ⟨relaid_rdItem e _ h.1, by omega, hgap.1, hgap.2, ?_⟩
    · apply relaid_rdKids r false e.loc.endLine e.typeOrder _ e.gapEnder _ _ e.gapEnder h.2.2
      · exact hm1
      · intro _
        exact ⟨by omega, rfl, by omega⟩
end

/-! ## the file -/

theorem plain_quiet : ∀ (e : Item), Plain e → e.quietL := by
  refine Item.induct (fun f h => ?_) (fun _ _ _ _ _ _ h => ⟨h.1, h.2.unl⟩) (fun _ _ _ _ _ _ ks ih h => ?_)
  · simp only [Plain] at h
    simp only [Item.quietL, FieldD.quietL]
    rcases h with h | h | h | h
    · exact ⟨h.2.1, by rw [h.2.2.1]; simp⟩
    · exact ⟨h.2.1, by rw [h.2.2.1]; simp⟩
    · exact ⟨h.2.1, by rw [h.2.2.1]; simp⟩
    · exact ⟨h.loc, h.unl⟩
  · simp only [Plain] at h
    exact ⟨h.1, h.2.1.unl, (quietListL_iff ks).2 (fun k hk => ih k hk (((plainList_iff ks).1 h.2.2).mem hk).1)⟩

theorem plainList_quiet (es : List Item) (h : PlainList es) : quietListL es :=
  (quietListL_iff es).2 (fun e he => plain_quiet e (((plainList_iff es).1 h).mem he).1)

theorem isort_id_of_sorted {α} (lt : α → α → Bool) : ∀ (l : List α), l.Pairwise (fun a b => lt a b = true) →
    Order.isort lt l = l
  | [], _ => rfl
  | x :: xs, h => by
    have hx := List.pairwise_cons.mp h
    simp only [Order.isort]
    rw [isort_id_of_sorted lt xs hx.2]
    cases xs with
    | nil => rfl
    | cons y ys => simp [Order.insertBy, hx.1 y (by simp)]

theorem sortImports_idem (l : List (String × String)) (hd : l.Pairwise (fun a b => strBytes a.1 ≠ strBytes b.1)) :
    sortImports (sortImports l) = sortImports l := by
  apply isort_id_of_sorted
  unfold sortImports
  apply Order.isort_sorted
  · exact hd.imp (fun hne => Order.nameLess_total _ _ hne)
  · intro a b c _ _ _; exact Order.nameLess_trans _ _ _

theorem itemsStart_pos (t : FileD) : 0 < itemsStart t := by
  unfold itemsStart; split <;> omega

theorem relaid_rdFile (gen : String) (t : FileD) (h : SimpleFile gen t) : relaidFileL t (rdFile t) := by
  refine ⟨rfl, rfl, sortImports_idem t.imports h.distinct, ⟨rfl, rfl, rfl⟩, ?_, ?_, ?_, ?_⟩
  · rw [h.opts]; exact optsOk_nil
  · rw [h.exts]; rfl
  · rw [h.exts]; simp [rdFile]
  · exact relaid_rdKids t.items true 0 0 (itemsStart t) true 0 0 false (SimpleTops.plain _ h.items) (itemsStart_pos t)
      (by intro hf; cases hf)

theorem simple_quiet (gen : String) (t : FileD) (h : SimpleFile gen t) : t.quietL := by
  refine ⟨h.loc, by rw [h.opts]; simp, by rw [h.exts]; simp, ?_⟩
  exact plainList_quiet _ (SimpleTops.plain _ h.items)

theorem reprint_simple (gen : String) (t : FileD) (h : SimpleFile gen t) :
    printFile gen (rdFile t) = run (fileCmds gen t) false :=
  printFile_relaidL gen t (rdFile t) (simple_quiet gen t h) (relaid_rdFile gen t h)

theorem typeTexts_withLead (c : String) : ∀ e : Item, typeTexts (e.withLead c) = typeTexts e
  | .field _ => rfl
  | .rpc _ _ _ _ _ _ => by simp [Item.withLead, typeTexts]
  | .block _ _ _ _ _ _ _ => by simp [Item.withLead, typeTexts]

theorem rdField_type (f : FieldD) (s : Nat) : (rdField f s).type = f.type := by
  simp [rdField, shF, rdField0, mkField]

mutual
theorem rdItem_typeTexts : ∀ (e : Item) (s : Nat), typeTexts (rdItem e s).1 = typeTexts e
  | .field f, s => by
    simp only [rdItem]
    split
    · rfl
    · simp only [typeTexts, rdField_type]
  | .rpc _ _ _ _ _ _, s => by
    simp only [rdItem]
    split <;> rfl
  | .block kw t l i name os kids, s => by
    simp only [rdItem]
    split
    · rename_i he
      simp only [Bool.and_eq_true, List.isEmpty_iff] at he
      rw [he.1]
      simp [typeTexts, typeTextsL]
    · simp only [typeTexts]
      exact rdKids_typeTexts kids _ _ _ _ _
theorem rdKids_typeTexts : ∀ (es : List Item) (first : Bool) (le0 lt L : Nat) (g : Bool),
    typeTextsL (rdKids es first le0 lt L g).1 = typeTextsL es
  | [], _, _, _, _, _ => by simp [rdKids]
  | e :: r, first, le0, lt, L, g => by
    rw [rdKids_cons]
    simp only [typeTextsL, typeTexts_withLead, rdItem_typeTexts, rdKids_typeTexts r]
end

theorem rdFile_typeTexts (t : FileD) : typeTextsL (rdFile t).items = typeTextsL t.items := by
  simp only [rdFile]
  exact rdKids_typeTexts _ _ _ _ _ _

end J5V.Print.Reparse
