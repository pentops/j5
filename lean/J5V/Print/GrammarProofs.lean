import J5V.Print.GrammarSpec
import J5V.Print.ScalarProofs
import J5V.Go.ListLemmas
/-!
# Lemmas about `J5V.Print.Grammar` (core only)

Part 1: the tokeniser. Fuel does not matter once it exceeds the input (`lexAux_fuel`), tokenising
is local to a line (`lexL_line`), and the printed shapes — indentation, identifiers, dotted names,
numbers, punctuation — are read as the intended tokens. Part 2: the parser on the token shapes of fields
(`parseField_gen`, `parseField_map_gen`). Part 3: the printed lines of fields, as tokens (`lineToks_field`, `lineToks_map`).
-/
namespace J5V.Print.Grammar
open J5V.Print.Scalar

/-! ## the scanner step by step, without fuel -/

theorem numRest_suffix : ∀ (cs : List Char) (prev : Char), (numRest cs prev).2 <:+ cs
  | [], _ => by simp [numRest]
  | c :: cs, prev => by
    unfold numRest
    split
    · exact (numRest_suffix cs c).trans (List.suffix_cons c cs)
    · exact List.suffix_refl _

theorem strRest_suffix (cs : List Char) : (strRest cs).2 <:+ cs := by
  fun_induction strRest cs with
  | case1 => exact List.suffix_refl _
  | case2 cs => exact List.suffix_cons _ _
  | case3 c cs _ w r h ih => rw [h] at ih; exact (ih.trans (List.suffix_cons _ _)).trans (List.suffix_cons _ _)
  | case4 cs => exact List.suffix_cons _ _
  | case5 cs => exact List.suffix_refl _
  | case6 c cs _ _ _ _ w r h ih => rw [h] at ih; exact ih.trans (List.suffix_cons _ _)

/-- what the scanner finds at the head of the input, without its line -/
inductive Piece where
  | tok (t : Tok)
  | comment (text : String)

def Piece.at : Piece → Nat → Raw
  | .tok t, l => .tok t l
  | .comment s, l => .comment s l

/-- One step of `lexAux` on `c :: cs`: the piece found (none for white space), the input left, whether a line ended. -/
def scan1 (c : Char) (cs : List Char) : Option Piece × List Char × Bool :=
  if c == '\n' then (none, cs, true)
  else if c == ' ' || c == '\t' || c == '\r' then (none, cs, false)
  else if c == '/' && cs.head? == some '/' then
    (some (.comment (String.ofList ((cs.drop 1).takeWhile (· != '\n')))), cs.dropWhile (· != '\n'), false)
  else if isLetter c then
    (some (.tok (.ident (String.ofList (c :: cs.takeWhile isIdentChar)))), cs.dropWhile isIdentChar, false)
  else if isDigit c then (some (.tok (.num (String.ofList (c :: (numRest cs c).1)))), (numRest cs c).2, false)
  else if c == '"' then (some (.tok (.str (String.ofList ('"' :: (strRest cs).1)))), (strRest cs).2, false)
  else (some (.tok (.sym c)), cs, false)

theorem lexAux_succ (f : Nat) (c : Char) (cs : List Char) (line : Nat) :
    lexAux (f + 1) (c :: cs) line =
      ((scan1 c cs).1.map (·.at line)).toList ++
        lexAux f (scan1 c cs).2.1 (if (scan1 c cs).2.2 then line + 1 else line) := by
  fun_cases scan1 c cs <;> simp [lexAux, Piece.at, *]

theorem scan1_suffix (c : Char) (cs : List Char) : (scan1 c cs).2.1 <:+ cs := by
  fun_cases scan1 c cs
  case case3 => exact List.dropWhile_suffix _
  case case4 => exact List.dropWhile_suffix _
  case case5 => exact numRest_suffix cs c
  case case6 => exact strRest_suffix cs
  all_goals exact List.suffix_refl _

theorem lexAux_fuel : ∀ (f f' : Nat) (cs : List Char) (line : Nat), cs.length < f → cs.length < f' →
    lexAux f cs line = lexAux f' cs line
  | 0, _, _, _, h, _ => by omega
  | _ + 1, 0, _, _, _, h => by omega
  | f + 1, f' + 1, [], _, _, _ => by simp [lexAux]
  | f + 1, f' + 1, c :: cs, line, h, h' => by
    have hl := (scan1_suffix c cs).length_le
    simp only [List.length_cons] at h h'
    rw [lexAux_succ, lexAux_succ, lexAux_fuel f f' _ _ (by omega) (by omega)]

theorem lexAux_eq_lexL (f : Nat) (cs : List Char) (line : Nat) (h : cs.length < f) : lexAux f cs line = lexL cs line :=
  lexAux_fuel f (cs.length + 1) cs line h (by omega)

theorem lexL_nil (line : Nat) : lexL [] line = [] := by simp [lexL, lexAux]

theorem lexL_blank (line : Nat) : lexL "".toList line = [] := by rw [String.toList_empty, lexL_nil]

theorem lexL_succ (c : Char) (cs : List Char) (line : Nat) :
    lexL (c :: cs) line =
      ((scan1 c cs).1.map (·.at line)).toList ++ lexL (scan1 c cs).2.1 (if (scan1 c cs).2.2 then line + 1 else line) := by
  have hl := (scan1_suffix c cs).length_le
  rw [lexL, List.length_cons, lexAux_succ, lexAux_eq_lexL _ _ _ (by omega)]

theorem lexL_cons (c : Char) (cs : List Char) (line : Nat) :
    lexL (c :: cs) line =
      if c == '\n' then lexL cs (line + 1)
      else if c == ' ' || c == '\t' || c == '\r' then lexL cs line
      else if c == '/' && cs.head? == some '/' then
        .comment (String.ofList ((cs.drop 1).takeWhile (· != '\n'))) line :: lexL (cs.dropWhile (· != '\n')) line
      else if isLetter c then
        .tok (.ident (String.ofList (c :: cs.takeWhile isIdentChar))) line :: lexL (cs.dropWhile isIdentChar) line
      else if isDigit c then
        .tok (.num (String.ofList (c :: (numRest cs c).1))) line :: lexL (numRest cs c).2 line
      else if c == '"' then
        .tok (.str (String.ofList ('"' :: (strRest cs).1))) line :: lexL (strRest cs).2 line
      else .tok (.sym c) line :: lexL cs line := by
  rw [lexL_succ]
  fun_cases scan1 c cs <;> simp [Piece.at, *]

/-! ## tokenising is local to a line -/

theorem numRest_append_nl (rest : List Char) : ∀ (cs : List Char) (prev : Char),
    numRest (cs ++ '\n' :: rest) prev = ((numRest cs prev).1, (numRest cs prev).2 ++ '\n' :: rest)
  | [], prev => by
    simp only [List.nil_append, numRest]
    have : (isIdentChar '\n' || '\n' == '.' || ('\n' == '+' || '\n' == '-') && (prev == 'e' || prev == 'E')) = false := by
      have h1 : isIdentChar '\n' = false := by decide
      have h2 : ('\n' == '.') = false := by decide
      have h3 : ('\n' == '+') = false := by decide
      have h4 : ('\n' == '-') = false := by decide
      simp only [h1, h2, h3, h4, Bool.false_or, Bool.or_self, Bool.false_and]
    rw [if_neg (by rw [this]; simp)]
  | c :: cs, prev => by
    simp only [List.cons_append, numRest]
    split
    · rw [numRest_append_nl rest cs c]
    · simp

theorem NoNL.suffix {a b : List Char} (h : NoNL b) (hs : a <:+ b) : NoNL a := fun c hc => h c (hs.subset hc)

theorem strRest_append_nl (rest : List Char) (cs : List Char) :
    strRest (cs ++ '\n' :: rest) = ((strRest cs).1, (strRest cs).2 ++ '\n' :: rest) := by
  fun_induction strRest cs with
  | case1 => simp [strRest]
  | case2 cs => simp [strRest]
  | case3 c cs hne w r hwr ih =>
    simp only [List.cons_append]
    rw [strRest]
    · rw [ih, hwr]
    · exact hne
  | case4 cs => simp [strRest]
  | case5 cs => simp [strRest]
  | case6 c cs h1 h2 h3 h4 w r hwr ih =>
    simp only [List.cons_append]
    cases cs with
    | nil =>
      simp only [List.nil_append]
      by_cases hb : c = '\\'
      · subst hb
        simp [strRest] at hwr ⊢
        simp [hwr]
      · rw [strRest] <;> try assumption
        · simp [strRest] at hwr ⊢
          simp [hwr]
        all_goals (intros; simp_all)
    | cons d ds =>
      simp only [List.cons_append] at ih ⊢
      rw [strRest]
      · rw [ih, hwr]
      all_goals (intros; simp_all)

/-- before a line break the scanner finds the same piece, and the break stays in the input -/
theorem scan1_append_nl {c : Char} {cs : List Char} (hc : c ≠ '\n') (rest : List Char) :
    scan1 c (cs ++ '\n' :: rest) = ((scan1 c cs).1, (scan1 c cs).2.1 ++ '\n' :: rest, false) ∧
      (scan1 c cs).2.2 = false := by
  have hhead : ((cs ++ '\n' :: rest).head? == some '/') = (cs.head? == some '/') := by cases cs <;> simp
  have hstopN : (fun x : Char => x != '\n') '\n' = false := by simp
  have hstopI : isIdentChar '\n' = false := by decide
  fun_cases scan1 c cs
  all_goals simp only [scan1, hhead, *, Bool.false_eq_true, if_true, if_false, and_true]
  case case1 h => exact absurd (beq_iff_eq.1 h) hc
  case case3 h =>
    obtain ⟨d, ds, rfl⟩ : ∃ d ds, cs = d :: ds := by cases cs <;> simp at h ⊢
    rw [show (d :: ds ++ '\n' :: rest).drop 1 = ds ++ '\n' :: rest from rfl,
      Go.takeWhile_append_stop (fun x : Char => x != '\n') '\n' hstopN, Go.dropWhile_append_stop (fun x : Char => x != '\n') '\n' hstopN]
    rfl
  case case4 => rw [Go.takeWhile_append_stop isIdentChar '\n' hstopI, Go.dropWhile_append_stop isIdentChar '\n' hstopI]
  case case5 => rw [numRest_append_nl]
  case case6 => rw [strRest_append_nl]

theorem scan1_nl (c : Char) (cs : List Char) : (scan1 c cs).2.2 = (c == '\n') := by
  fun_cases scan1 c cs <;> simp_all

/-- only a slash starts a comment -/
theorem scan1_tok {c : Char} {cs : List Char} (hc : (c == '/') = false) :
    ∀ p, (scan1 c cs).1 = some p → ∃ t, p = Piece.tok t := by
  fun_cases scan1 c cs <;> simp_all

/-- Induction along a run of the scanner: from the input a step leaves to the input it started on. -/
theorem lexL_induct {P : List Char → Nat → Prop} (nil : ∀ line, P [] line)
    (step : ∀ c cs line, P (scan1 c cs).2.1 (if (scan1 c cs).2.2 then line + 1 else line) → P (c :: cs) line) :
    ∀ cs line, P cs line := by
  intro cs
  induction h : cs.length using Nat.strongRecOn generalizing cs with
  | _ n ih =>
    intro line
    cases cs with
    | nil => exact nil line
    | cons c cs =>
      have hl := (scan1_suffix c cs).length_le
      exact step c cs line (ih _ (by subst h; simp only [List.length_cons]; omega) _ rfl _)

theorem lexL_line (l : List Char) (hl : NoNL l) (rest : List Char) (line : Nat) :
    lexL (l ++ '\n' :: rest) line = lexL l line ++ lexL rest (line + 1) := by
  induction l, line using lexL_induct with
  | nil line => rw [List.nil_append, lexL_succ, lexL_nil]; rfl
  | step c cs line ih =>
    obtain ⟨h1, h2⟩ := scan1_append_nl (cs := cs) (hl c (by simp)) rest
    rw [h2] at ih
    rw [List.cons_append, lexL_succ, lexL_succ c cs, h1, h2, List.append_assoc]
    exact congrArg _ (ih (hl.suffix ((scan1_suffix c cs).trans (List.suffix_cons c cs))))

def Raw.shift (k : Nat) : Raw → Raw
  | .tok t l => .tok t (l + k)
  | .comment s l => .comment s (l + k)

def Raw.lineOf : Raw → Nat
  | .tok _ l => l
  | .comment _ l => l

theorem Piece.at_shift (p : Piece) (line k : Nat) : p.at (line + k) = (p.at line).shift k := by cases p <;> rfl
theorem Piece.lineOf_at (p : Piece) (line : Nat) : (p.at line).lineOf = line := by cases p <;> rfl

/-- the scanner's lines are relative -/
theorem lexL_shift (k : Nat) (cs : List Char) (line : Nat) : lexL cs (line + k) = (lexL cs line).map (Raw.shift k) := by
  induction cs, line using lexL_induct with
  | nil line => simp [lexL_nil]
  | step c cs line ih =>
    rw [lexL_succ, lexL_succ c cs line, List.map_append, ← ih]
    cases (scan1 c cs).1 <;> cases (scan1 c cs).2.2 <;> simp [Piece.at_shift, Nat.add_right_comm]

theorem lexL_ge (cs : List Char) (line : Nat) : ∀ r ∈ lexL cs line, line ≤ r.lineOf := by
  induction cs, line using lexL_induct with
  | nil line => simp [lexL_nil]
  | step c cs line ih =>
    intro r hr
    rw [lexL_succ] at hr
    rcases List.mem_append.1 hr with h | h
    · cases hp : (scan1 c cs).1 <;> simp [hp] at h
      rw [h, Piece.lineOf_at]; exact Nat.le_refl _
    · exact Nat.le_trans (by split <;> omega) (ih r h)

theorem lexL_sameLine (cs : List Char) (line : Nat) (hn : NoNL cs) : ∀ r ∈ lexL cs line, r.lineOf = line := by
  induction cs, line using lexL_induct with
  | nil line => simp [lexL_nil]
  | step c cs line ih =>
    intro r hr
    have hc : (c == '\n') = false := by simpa using hn c (by simp)
    rw [lexL_succ, scan1_nl, hc] at hr
    rw [scan1_nl, hc] at ih
    rcases List.mem_append.1 hr with h | h
    · cases hp : (scan1 c cs).1 <;> simp [hp] at h
      rw [h, Piece.lineOf_at]
    · exact ih (hn.suffix ((scan1_suffix c cs).trans (List.suffix_cons c cs))) r h

/-! ## the printed shapes, as the scanner reads them -/

/-- what follows a number: nothing, or a character that cannot continue it -/
def Stops (rest : List Char) : Prop := ∀ c r, rest = c :: r → isIdentChar c = false ∧ c ≠ '.'

theorem lexL_space (cs : List Char) (line : Nat) : lexL (' ' :: cs) line = lexL cs line := by
  rw [lexL_cons]; simp

theorem lexL_spaces (k : Nat) (cs : List Char) (line : Nat) : lexL (List.replicate k ' ' ++ cs) line = lexL cs line := by
  induction k with
  | zero => simp
  | succ k ih => simp only [List.replicate_succ, List.cons_append, lexL_space, ih]

theorem isLetter_not_special {c : Char} (h : isLetter c = true) :
    (c == '\n') = false ∧ (c == ' ' || c == '\t' || c == '\r') = false ∧ (c == '/') = false := by
  unfold isLetter at h
  refine ⟨?_, ?_, ?_⟩
  · cases hc : (c == '\n') with
    | false => rfl
    | true => rw [beq_iff_eq.mp hc] at h; revert h; decide
  · cases hc : (c == ' ' || c == '\t' || c == '\r') with
    | false => rfl
    | true =>
      simp only [Bool.or_eq_true, beq_iff_eq] at hc
      rcases hc with (hc | hc) | hc <;> (rw [hc] at h; revert h; decide)
  · cases hc : (c == '/') with
    | false => rfl
    | true => rw [beq_iff_eq.mp hc] at h; revert h; decide

theorem lexL_ident (s : String) (hs : IsIdent s) (rest : List Char) (hr : StopsI rest) (line : Nat) :
    lexL (s.toList ++ rest) line = .tok (.ident s) line :: lexL rest line := by
  obtain ⟨c, cs, hcs, hc, hall⟩ := hs
  obtain ⟨h1, h2, h3⟩ := isLetter_not_special hc
  rw [hcs, List.cons_append, lexL_cons]
  have ht := Go.takeWhile_all isIdentChar cs rest hall hr
  simp only [h1, h2, h3, Bool.false_eq_true, if_false, Bool.false_and, hc, if_true, ht.1, ht.2]
  rw [← hcs, String.ofList_toList]

/-- punctuation of the printed subset -/
def isSym (c : Char) : Bool :=
  c == '=' || c == ';' || c == '{' || c == '}' || c == '.' || c == '<' || c == '>' || c == ',' || c == '-' ||
  c == '(' || c == ')' || c == '[' || c == ']' || c == ':'

theorem lexL_sym (c : Char) (h : isSym c = true) (cs : List Char) (line : Nat) :
    lexL (c :: cs) line = .tok (.sym c) line :: lexL cs line := by
  unfold isSym at h
  simp only [Bool.or_eq_true, beq_iff_eq] at h
  rw [lexL_cons]
  rcases h with ((((((((((((h | h) | h) | h) | h) | h) | h) | h) | h) | h) | h) | h) | h) | h <;>
    subst h <;> simp [isLetter, isDigit] <;> decide

theorem isDigit_digitChar : ∀ d, d < 10 → isDigit (digitChar d) = true := by decide

theorem natDigits_all_digits (n : Nat) : ∀ x ∈ natDigits n, isDigit x = true := by
  induction n using Nat.strongRecOn with
  | _ n ih =>
    unfold natDigits
    split
    · rename_i h
      intro x hx
      simp only [List.mem_singleton] at hx
      subst hx
      exact isDigit_digitChar n h
    · rename_i h
      intro x hx
      rcases List.mem_append.mp hx with hx | hx
      · exact ih (n / 10) (by omega) x hx
      · simp only [List.mem_singleton] at hx
        subst hx
        exact isDigit_digitChar _ (by omega)

theorem isDigit_facts {c : Char} (h : isDigit c = true) :
    isIdentChar c = true ∧ (c == 'e' || c == 'E') = false ∧ isLetter c = false ∧
    (c == '\n') = false ∧ (c == ' ' || c == '\t' || c == '\r') = false ∧ (c == '/') = false := by
  have hne : ∀ x : Char, isDigit x = false → (c == x) = false := by
    intro x hx
    cases hc : (c == x) with
    | false => rfl
    | true => rw [beq_iff_eq.mp hc] at h; rw [h] at hx; exact absurd hx (by simp)
  refine ⟨by simp [isIdentChar, h], ?_, ?_, hne _ (by decide), ?_, hne _ (by decide)⟩
  · simp [hne 'e' (by decide), hne 'E' (by decide)]
  · -- a digit is not a letter
    unfold isDigit at h
    unfold isLetter
    simp only [Bool.and_eq_true, decide_eq_true_eq] at h
    have e : ∀ a b : Char, a ≤ b ↔ a.toNat ≤ b.toNat := by
      intro a b; rw [Char.le_def, UInt32.le_iff_toNat_le]; rfl
    have h0 := (e _ _).mp h.1
    have h1 := (e _ _).mp h.2
    have n0 : ('0' : Char).toNat = 48 := by decide
    have n9 : ('9' : Char).toNat = 57 := by decide
    have na : ('a' : Char).toNat = 97 := by decide
    have nA : ('A' : Char).toNat = 65 := by decide
    have nZ : ('Z' : Char).toNat = 90 := by decide
    have a1 : ¬ ('a' ≤ c) := by rw [e]; omega
    have a2 : ¬ ('A' ≤ c ∧ c ≤ 'Z') := by rw [e, e]; omega
    have a2' : ('A' ≤ c) → ¬ (c ≤ 'Z') := fun x y => a2 ⟨x, y⟩
    simp only [a1, decide_false, Bool.false_and, Bool.false_or, hne '_' (by decide), Bool.or_false,
      Bool.and_eq_false_iff, decide_eq_false_iff_not]
    by_cases hA : 'A' ≤ c
    · exact Or.inr (a2' hA)
    · exact Or.inl hA
  · simp [hne ' ' (by decide), hne '\t' (by decide), hne '\r' (by decide)]

theorem numRest_digits : ∀ (ds rest : List Char) (prev : Char), (∀ x ∈ ds, isDigit x = true) → isDigit prev = true →
    Stops rest → numRest (ds ++ rest) prev = (ds, rest)
  | [], rest, prev, _, hp, hr => by
    cases rest with
    | nil => simp [numRest]
    | cons c r =>
      obtain ⟨h1, h2⟩ := hr c r rfl
      have h3 := (isDigit_facts hp).2.1
      simp only [List.nil_append, numRest]
      have : (c == '.') = false := by simp [h2]
      simp [h1, this, h3]
  | d :: ds, rest, prev, hd, _, hr => by
    have hdd := hd d (by simp)
    have := numRest_digits ds rest d (fun x hx => hd x (by simp [hx])) hdd hr
    simp only [List.cons_append, numRest, (isDigit_facts hdd).1, Bool.true_or, if_true, this]

theorem lexL_natDigits (n : Nat) (rest : List Char) (hr : Stops rest) (line : Nat) :
    lexL (natDigits n ++ rest) line = .tok (.num (String.ofList (natDigits n))) line :: lexL rest line := by
  obtain ⟨d, tl, hd, hlt⟩ := natDigits_head_digit n
  have hall := natDigits_all_digits n
  rw [hd] at hall ⊢
  have hdig := hall (digitChar d) (by simp)
  obtain ⟨_, _, h3, h4, h5, h6⟩ := isDigit_facts hdig
  rw [List.cons_append, lexL_cons]
  have hn := numRest_digits tl rest (digitChar d) (fun x hx => hall x (by simp [hx])) hdig hr
  simp only [h3, h4, h5, h6, Bool.false_eq_true, if_false, Bool.false_and, hdig, if_true, hn]

theorem strRest_plain : ∀ (body rest : List Char), PlainBody body → strRest (body ++ '"' :: rest) = (body ++ ['"'], rest)
  | [], rest, _ => by simp [strRest]
  | c :: cs, rest, h => by
    obtain ⟨h1, h2, h3⟩ := h c (by simp)
    have ih := strRest_plain cs rest (fun x hx => h x (by simp [hx]))
    simp only [List.cons_append]
    rw [strRest]
    · rw [ih]
    · intro cs' hc; exact absurd hc h2
    · intro c' cs' hc; exact absurd hc h2
    · exact h1
    · exact h3

theorem lexL_str (body rest : List Char) (h : PlainBody body) (line : Nat) :
    lexL ('"' :: body ++ '"' :: rest) line =
      .tok (.str (String.ofList ('"' :: body ++ ['"']))) line :: lexL rest line := by
  rw [List.cons_append, lexL_cons, strRest_plain body rest h]
  simp [isLetter, isDigit]

theorem lexL_comment (text : List Char) (h : NoNL text) (line : Nat) :
    lexL ('/' :: '/' :: text) line = [.comment (String.ofList text) line] := by
  rw [lexL_cons]
  have ht := Go.takeWhile_all (fun x : Char => x != '\n') text [] (fun x hx => by simp [h x hx]) (by simp)
  simp only [List.append_nil] at ht
  have hd : ('/' :: text).dropWhile (fun x : Char => x != '\n') = [] := by
    simp only [List.dropWhile_cons]
    simp [ht.2]
  simp only [List.head?_cons, List.drop_succ_cons, List.drop_zero, ht.1, hd, lexL_nil]
  simp

/-! ## Part 2: the parser on the token shapes of fields -/

/-- the next token is not a dot: the type name ends here -/
def NoDot (more : List PTok) : Prop := ∀ t r, more = t :: r → t.tok ≠ .sym '.'

theorem append_ne_empty (a b : String) (h : a ≠ "") : a ++ b ≠ "" := by
  intro he
  apply h
  have := congrArg String.toList he
  simp only [String.toList_append] at this
  have h2 : a.toList = [] := by
    cases hl : a.toList with
    | nil => rfl
    | cons x xs => rw [hl] at this; simp at this
  rw [← String.ofList_toList (s := a), h2]

theorem typeNameAux_dots (l : Nat) : ∀ (rest : List String) (acc : String) (more : List PTok) (fuel : Nat),
    rest.length < fuel → acc ≠ "" → NoDot more →
    typeNameAux fuel (dotToks rest l ++ more) acc = some (dotted acc rest, more)
  | [], acc, more, fuel + 1, _, hacc, hm => by
    simp only [dotToks, List.map_nil, List.flatten_nil, List.nil_append, dotted, List.foldl_nil]
    unfold typeNameAux
    split
    · exact absurd rfl (hm _ _ rfl)
    · simp [hacc]
  | r :: rs, acc, more, fuel + 1, hf, hacc, hm => by
    simp only [List.length_cons] at hf
    have ih := typeNameAux_dots l rs (acc ++ "." ++ r) more fuel (by omega) (by
      rw [String.append_assoc]; exact append_ne_empty _ _ hacc) hm
    simp only [dotToks, List.map_cons, List.flatten_cons, List.cons_append, List.nil_append, T] at ih ⊢
    unfold typeNameAux
    simp only [dotted, List.foldl_cons]
    exact ih
  | _, _, _, 0, hf, _, _ => by omega

theorem IsIdent.ne_empty {s : String} (h : IsIdent s) : s ≠ "" := by
  obtain ⟨c, cs, hcs, _, _⟩ := h
  intro he
  rw [he] at hcs
  simp at hcs

theorem typeName_toks (abs : Bool) (first : String) (rest : List String) (l : Nat) (more : List PTok)
    (hf : first ≠ "") (hm : NoDot more) :
    typeName (tyToks abs first rest l ++ more) = some (tyStr abs first rest, more) := by
  have hlen : ∀ pre : List PTok, rest.length < (pre ++ (dotToks rest l ++ more)).length + 1 := by
    intro pre
    simp only [List.length_append]
    have : (dotToks rest l).length = 2 * rest.length := by
      unfold dotToks
      induction rest with
      | nil => rfl
      | cons r rs ih => simp [List.flatten_cons, ih]; omega
    omega
  cases abs with
  | false =>
    simp only [tyToks, Bool.false_eq_true, if_false, List.nil_append, List.cons_append, tyStr, T]
    unfold typeName
    simp only []
    rw [String.empty_append]
    exact typeNameAux_dots l rest first more _ (hlen [_]) hf hm
  | true =>
    simp only [tyToks, if_true, List.cons_append, List.nil_append, tyStr, T]
    unfold typeName
    simp only []
    exact typeNameAux_dots l rest ("." ++ first) more _ (hlen [_, _]) (append_ne_empty _ _ (by decide)) hm

/-- `= number ;` -/
def tailToks (n : Int) (l : Nat) : List PTok := T (.sym '=') l :: numToks n l ++ [T (.sym ';') l]

theorem intOf_natDigits (neg : Bool) (k : Nat) :
    intOf neg (String.ofList (natDigits k)) = some (if neg then -(k : Int) else (k : Int)) := by
  unfold intOf
  rw [String.toList_ofList, readNatLit_natDigits]
  rfl

theorem fieldTail_toks (n : Int) (l : Nat) (more : List PTok) :
    fieldTail (tailToks n l ++ more) = some (n, [], l, more) := by
  unfold fieldTail tailToks numToks
  by_cases hn : n < 0
  · simp only [hn, if_true, List.cons_append, List.nil_append, T, intOf_natDigits, Option.map_some]
    have : -(n.natAbs : Int) = n := by omega
    simp [this]
  · simp only [hn, if_false, List.cons_append, List.nil_append, T, intOf_natDigits, Option.map_some]
    have : (n.natAbs : Int) = n := by omega
    simp [this]

/-- the field as the reader finds it on line `l` -/
def locField (label ty name : String) (num : Int) (l : Nat) (trail : String) : Layout.FieldD :=
  ⟨.field, ⟨l, l, [], "", trail⟩, 0, label, ty, name, num,
    some (String.ofList (OptionText.defaultJSONName name.toList)), []⟩

theorem mkField_plain (l : Nat) (label ty name : String) (num : Int) (r : List PTok) :
    mkField .field l Cm.none label ty name (num, [], l, r) = (locField label ty name num l (trailOf r), r) := by
  simp [mkField, locField, mkLoc, Cm.none, jsonOf, mkOpts, groupOpts, unlocateShared]

def fieldLineToks (label : String) (abs : Bool) (first : String) (rest : List String) (name : String) (num : Int)
    (l : Nat) : List PTok :=
  labelToks label l ++ tyToks abs first rest l ++ T (.ident name) l :: tailToks num l

theorem fieldAfterLabel_gen (t0 : PTok) (ht0 : t0.cm = Cm.none) (label : String) (abs : Bool) (first : String)
    (rest : List String) (name : String) (l : Nat) (hl : t0.line = l)
    (tl : List PTok) (hf : IsIdent first) (hkw : abs = false → first ≠ "map") :
    fieldAfterLabel t0 label (tyToks abs first rest l ++ T (.ident name) l :: tl) =
      (fieldTail tl).map (mkField .field l Cm.none label (tyStr abs first rest) name) := by
  have hty := typeName_toks abs first rest l (T (.ident name) l :: tl) hf.ne_empty
    (by intro t r h; simp only [List.cons.injEq] at h; rw [← h.1]; simp [T])
  cases abs with
  | true =>
    simp only [tyToks, if_true, List.cons_append, List.nil_append, T] at hty ⊢
    simp only [fieldAfterLabel, plainField]
    rw [hty]
    simp only [hl, ht0]
  | false =>
    have h3 := hkw rfl
    simp only [tyToks, Bool.false_eq_true, if_false, List.cons_append, List.nil_append, T] at hty ⊢
    simp only [fieldAfterLabel, plainField]
    split
    · rename_i s l1 c1 c l2 c2 r heq
      have hs : s = first := by
        simp only [List.cons.injEq, PTok.mk.injEq, Tok.ident.injEq] at heq
        exact heq.1.1.symm
      subst hs
      have hm : (s == "map" && c == '<') = false := by simp [h3]
      rw [hm, ← heq, hty]
      simp only [Bool.false_eq_true, if_false, hl, ht0]
    · rw [hty]
      simp only [hl, ht0]

theorem parseField_gen (label : String) (hlab : label = "" ∨ label = "repeated " ∨ label = "optional ")
    (abs : Bool) (first : String) (rest : List String) (name : String) (l : Nat) (tl : List PTok)
    (hf : IsIdent first) (hkw : abs = false → first ≠ "map")
    (hkw2 : label = "" → abs = false → first ≠ "repeated" ∧ first ≠ "optional") :
    parseField (labelToks label l ++ tyToks abs first rest l ++ T (.ident name) l :: tl) =
      (fieldTail tl).map (mkField .field l Cm.none label (tyStr abs first rest) name) := by
  rcases hlab with h | h | h
  · subst h
    have e : labelToks "" l = [] := by simp [labelToks]
    rw [e, List.nil_append]
    cases abs with
    | true =>
      have := fieldAfterLabel_gen (T (.sym '.') l) rfl "" true first rest name l rfl tl hf hkw
      simp only [tyToks, if_true, List.cons_append, List.nil_append, List.append_assoc] at this ⊢
      simp only [parseField, splitLabel, T] at this ⊢
      exact this
    | false =>
      obtain ⟨h1, h2⟩ := hkw2 rfl rfl
      have := fieldAfterLabel_gen (T (.ident first) l) rfl "" false first rest name l rfl tl hf hkw
      simp only [tyToks, Bool.false_eq_true, if_false, List.cons_append, List.nil_append, List.append_assoc] at this ⊢
      simp only [parseField, splitLabel, T, beq_iff_eq, h1, h2, if_false] at this ⊢
      exact this
  · subst h
    have e : labelToks "repeated " l = [T (.ident "repeated") l] := by simp [labelToks]
    rw [e]
    have := fieldAfterLabel_gen (T (.ident "repeated") l) rfl "repeated " abs first rest name l rfl tl hf hkw
    simp only [List.cons_append, List.nil_append, List.append_assoc, parseField, splitLabel, T, beq_self_eq_true, if_true] at this ⊢
    exact this
  · subst h
    have e : labelToks "optional " l = [T (.ident "optional") l] := by simp [labelToks]
    rw [e]
    have := fieldAfterLabel_gen (T (.ident "optional") l) rfl "optional " abs first rest name l rfl tl hf hkw
    have hne : ("optional" == "repeated") = false := by decide
    simp only [List.cons_append, List.nil_append, List.append_assoc, parseField, splitLabel, T, hne, beq_self_eq_true,
      Bool.false_eq_true, if_false, if_true] at this ⊢
    exact this

theorem parseField_toks (label : String) (hlab : label = "" ∨ label = "repeated " ∨ label = "optional ")
    (abs : Bool) (first : String) (rest : List String) (name : String) (num : Int) (l : Nat) (more : List PTok)
    (hf : IsIdent first) (hkw : abs = false → first ≠ "map")
    (hkw2 : label = "" → abs = false → first ≠ "repeated" ∧ first ≠ "optional") :
    parseField (fieldLineToks label abs first rest name num l ++ more) =
      some (locField label (tyStr abs first rest) name num l (trailOf more), more) := by
  have h := parseField_gen label hlab abs first rest name l (tailToks num l ++ more) hf hkw hkw2
  rw [fieldTail_toks, Option.map_some, mkField_plain] at h
  rw [← h, fieldLineToks]
  simp only [List.append_assoc, List.cons_append]

/-! ## Part 3: the printed lines, as tokens -/

theorem dotted_toList : ∀ (rest : List String) (acc : String),
    (dotted acc rest).toList = acc.toList ++ (rest.map fun r => '.' :: r.toList).flatten
  | [], acc => by simp [dotted]
  | r :: rs, acc => by
    have ih := dotted_toList rs (acc ++ "." ++ r)
    simp only [dotted, List.foldl_cons] at ih ⊢
    rw [ih]
    simp [String.toList_append]

theorem stopsI_dot (cs : List Char) : StopsI ('.' :: cs) := by
  intro c r h; simp only [List.cons.injEq] at h; rw [← h.1]; decide
theorem stopsI_space (cs : List Char) : StopsI (' ' :: cs) := by
  intro c r h; simp only [List.cons.injEq] at h; rw [← h.1]; decide
theorem stops_semi (cs : List Char) : Stops (';' :: cs) := by
  intro c r h; simp only [List.cons.injEq] at h; rw [← h.1]; decide
theorem stopsI_nil : StopsI [] := by intro c r h; simp at h

theorem lexL_dots (l : Nat) : ∀ (rest : List String) (more : List Char), (∀ r ∈ rest, IsIdent r) → StopsI more →
    (lexL ((rest.map fun r => '.' :: r.toList).flatten ++ more) l).filterMap toP =
      dotToks rest l ++ (lexL more l).filterMap toP
  | [], more, _, _ => by simp [dotToks]
  | r :: rs, more, hr, hm => by
    have hstop : StopsI ((rs.map fun r => '.' :: r.toList).flatten ++ more) := by
      cases rs with
      | nil => simpa using hm
      | cons x xs => simp only [List.map_cons, List.flatten_cons, List.cons_append]; exact stopsI_dot _
    have ih := lexL_dots l rs more (fun x hx => hr x (by simp [hx])) hm
    simp only [List.map_cons, List.flatten_cons, List.cons_append, List.append_assoc]
    rw [lexL_sym '.' (by decide), lexL_ident r (hr r (by simp)) _ hstop]
    simp only [List.filterMap_cons, toP, ih, dotToks, List.map_cons, List.flatten_cons, List.cons_append,
      List.nil_append]

theorem lexL_tyStr (abs : Bool) (first : String) (rest : List String) (more : List Char) (l : Nat)
    (hf : IsIdent first) (hr : ∀ r ∈ rest, IsIdent r) (hm : StopsI more) :
    (lexL ((tyStr abs first rest).toList ++ more) l).filterMap toP =
      tyToks abs first rest l ++ (lexL more l).filterMap toP := by
  have hstop : StopsI ((rest.map fun r => '.' :: r.toList).flatten ++ more) := by
    cases rest with
    | nil => simpa using hm
    | cons x xs => simp only [List.map_cons, List.flatten_cons, List.cons_append]; exact stopsI_dot _
  unfold tyStr
  rw [dotted_toList]
  cases abs with
  | false =>
    simp only [Bool.false_eq_true, if_false, String.empty_append, List.append_assoc]
    rw [lexL_ident first hf _ hstop]
    simp only [List.filterMap_cons, toP, lexL_dots l rest more hr hm, tyToks, Bool.false_eq_true, if_false,
      List.nil_append, List.cons_append]
  | true =>
    simp only [if_true, String.toList_append, List.append_assoc]
    have hd : (".".toList : List Char) = ['.'] := by decide +kernel
    rw [hd, List.cons_append, List.nil_append, lexL_sym '.' (by decide), lexL_ident first hf _ hstop]
    simp only [List.filterMap_cons, toP, lexL_dots l rest more hr hm, tyToks, if_true, List.cons_append,
      List.nil_append]

theorem isIdent_repeated : IsIdent "repeated" :=
  ⟨'r', ['e', 'p', 'e', 'a', 't', 'e', 'd'], by decide +kernel, by decide, by decide⟩
theorem isIdent_optional : IsIdent "optional" :=
  ⟨'o', ['p', 't', 'i', 'o', 'n', 'a', 'l'], by decide +kernel, by decide, by decide⟩

theorem lexL_tail (num : Int) (l : Nat) :
    (lexL (' ' :: '=' :: ' ' :: ((formatInt num).toList ++ [';'])) l).filterMap toP = tailToks num l := by
  rw [lexL_space, lexL_sym '=' (by decide), lexL_space]
  unfold formatInt intDigits tailToks numToks
  rw [String.toList_ofList]
  by_cases hn : num < 0
  · simp only [hn, if_true, List.cons_append]
    rw [lexL_sym '-' (by decide), lexL_natDigits _ _ (stops_semi []), lexL_sym ';' (by decide), lexL_nil]
    simp [toP]
  · simp only [hn, if_false]
    rw [lexL_natDigits _ _ (stops_semi []), lexL_sym ';' (by decide), lexL_nil]
    simp [toP]

theorem lineToks_field (n : Nat) (label : String) (hlab : label = "" ∨ label = "repeated " ∨ label = "optional ")
    (abs : Bool) (first : String) (rest : List String) (name : String) (num : Int) (l : Nat)
    (hf : IsIdent first) (hr : ∀ r ∈ rest, IsIdent r) (hn : IsIdent name) :
    lineToks (OptionText.ind n (label ++ tyStr abs first rest ++ " " ++ name ++ " = " ++ formatInt num ++ ";" ++ "")) l =
      fieldLineToks label abs first rest name num l := by
  unfold lineToks OptionText.ind fieldLineToks
  simp only [String.toList_append, String.toList_ofList, String.reduceToList, List.append_assoc, List.append_nil,
    List.cons_append, List.nil_append]
  rw [lexL_spaces]
  have hbody : ∀ pre : List PTok,
      pre ++ (lexL ((tyStr abs first rest).toList ++ ' ' :: (name.toList ++ ' ' :: '=' :: ' ' :: ((formatInt num).toList ++ [';']))) l).filterMap toP =
        pre ++ (tyToks abs first rest l ++ T (.ident name) l :: tailToks num l) := by
    intro pre
    rw [lexL_tyStr abs first rest _ l hf hr (stopsI_space _), lexL_space, lexL_ident name hn _ (stopsI_space _)]
    simp only [List.filterMap_cons, toP, lexL_tail]
  rcases hlab with h | h | h
  · subst h
    have e : labelToks "" l = [] := by simp [labelToks]
    rw [String.toList_empty, e]
    simpa using hbody []
  · subst h
    have e : labelToks "repeated " l = [T (.ident "repeated") l] := by simp [labelToks]
    have hl : ("repeated ".toList : List Char) = "repeated".toList ++ [' '] := by decide +kernel
    rw [e, hl, List.append_assoc]
    simp only [List.cons_append, List.nil_append]
    rw [lexL_ident "repeated" isIdent_repeated _ (stopsI_space _)]
    simp only [List.cons_append, List.nil_append, lexL_space, List.filterMap_cons, toP]
    simpa using hbody [T (.ident "repeated") l]
  · subst h
    have e : labelToks "optional " l = [T (.ident "optional") l] := by simp [labelToks]
    have hl : ("optional ".toList : List Char) = "optional".toList ++ [' '] := by decide +kernel
    rw [e, hl, List.append_assoc]
    simp only [List.cons_append, List.nil_append]
    rw [lexL_ident "optional" isIdent_optional _ (stopsI_space _)]
    simp only [List.cons_append, List.nil_append, lexL_space, List.filterMap_cons, toP]
    simpa using hbody [T (.ident "optional") l]

/-! ## map fields: `map<k, v> name = number;` -/

theorem isIdent_map : IsIdent "map" := ⟨'m', ['a', 'p'], by decide +kernel, by decide, by decide⟩

def mapLineToks (k : String) (abs : Bool) (first : String) (rest : List String) (name : String) (num : Int)
    (l : Nat) : List PTok :=
  T (.ident "map") l :: T (.sym '<') l :: (tyToks false k [] l ++ T (.sym ',') l ::
    (tyToks abs first rest l ++ T (.sym '>') l :: T (.ident name) l :: tailToks num l))

theorem stopsI_sym (c : Char) (h : isIdentChar c = false) (cs : List Char) : StopsI (c :: cs) := by
  intro d r hd; simp only [List.cons.injEq] at hd; rw [← hd.1]; exact h

theorem lineToks_map (n : Nat) (k : String) (abs : Bool) (first : String) (rest : List String) (name : String)
    (num : Int) (l : Nat) (hk : IsIdent k) (hf : IsIdent first) (hr : ∀ r ∈ rest, IsIdent r) (hn : IsIdent name) :
    lineToks (OptionText.ind n ("" ++ mapTy k abs first rest ++ " " ++ name ++ " = " ++ formatInt num ++ ";" ++ "")) l =
      mapLineToks k abs first rest name num l := by
  unfold lineToks OptionText.ind mapLineToks mapTy
  simp only [String.toList_append, String.toList_ofList, List.append_assoc]
  rw [lexL_spaces]
  have hsp : (" ".toList : List Char) = [' '] := by decide +kernel
  have heq : (" = ".toList : List Char) = [' ', '=', ' '] := by decide +kernel
  have hsemi : (";".toList : List Char) = [';'] := by decide +kernel
  have hempty : ("".toList : List Char) = [] := by decide +kernel
  have hmap : ("map<".toList : List Char) = "map".toList ++ ['<'] := by decide +kernel
  have hcomma : (", ".toList : List Char) = [',', ' '] := by decide +kernel
  have hgt : (">".toList : List Char) = ['>'] := by decide +kernel
  rw [hsp, heq, hsemi, hempty, hmap, hcomma, hgt]
  simp only [List.append_nil, List.cons_append, List.nil_append, List.append_assoc]
  rw [lexL_ident "map" isIdent_map _ (stopsI_sym '<' (by decide) _), lexL_sym '<' (by decide)]
  simp only [List.filterMap_cons, toP]
  rw [lexL_tyStr false k [] _ l hk (by simp) (stopsI_sym ',' (by decide) _), lexL_sym ',' (by decide), lexL_space]
  simp only [List.filterMap_cons, toP]
  rw [lexL_tyStr abs first rest _ l hf hr (stopsI_sym '>' (by decide) _), lexL_sym '>' (by decide), lexL_space,
    lexL_ident name hn _ (stopsI_space _)]
  simp only [List.filterMap_cons, toP, lexL_tail, List.append_assoc, List.cons_append]

theorem parseField_map_gen (k : String) (abs : Bool) (first : String) (rest : List String) (name : String)
    (l : Nat) (tl : List PTok) (hk : IsIdent k) (hf : IsIdent first) :
    parseField (T (.ident "map") l :: T (.sym '<') l :: (tyToks false k [] l ++ T (.sym ',') l ::
      (tyToks abs first rest l ++ T (.sym '>') l :: T (.ident name) l :: tl))) =
      (fieldTail tl).map (mkField .field l Cm.none "" (mapTy k abs first rest) name) := by
  have hty1 := typeName_toks false k [] l (T (.sym ',') l ::
    (tyToks abs first rest l ++ T (.sym '>') l :: T (.ident name) l :: tl)) hk.ne_empty
    (by intro t r h; simp only [List.cons.injEq] at h; rw [← h.1]; simp [T])
  have hty2 := typeName_toks abs first rest l (T (.sym '>') l :: T (.ident name) l :: tl) hf.ne_empty
    (by intro t r h; simp only [List.cons.injEq] at h; rw [← h.1]; simp [T])
  simp only [List.cons_append, List.append_assoc, T] at hty1 hty2 ⊢
  have hne1 : ("map" == "repeated") = false := by decide
  have hne2 : ("map" == "optional") = false := by decide
  simp only [parseField, splitLabel, hne1, hne2, Bool.false_eq_true, if_false, fieldAfterLabel, beq_self_eq_true,
    Bool.and_self, if_true, mapField]
  rw [hty1]
  simp only []
  rw [hty2]
  simp only [mapTy]

theorem parseField_map (k : String) (abs : Bool) (first : String) (rest : List String) (name : String) (num : Int)
    (l : Nat) (more : List PTok) (hk : IsIdent k) (hf : IsIdent first) :
    parseField (mapLineToks k abs first rest name num l ++ more) =
      some (locField "" (mapTy k abs first rest) name num l (trailOf more), more) := by
  have h := parseField_map_gen k abs first rest name l (tailToks num l ++ more) hk hf
  rw [fieldTail_toks, Option.map_some, mkField_plain] at h
  rw [← h, mapLineToks]
  simp only [List.append_assoc, List.cons_append]

end J5V.Print.Grammar
