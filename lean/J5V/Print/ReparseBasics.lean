import J5V.Print.ReparseShapes
import J5V.Print.GrammarProofs
import J5V.Print.ReparseOpts
import J5V.Print.ReparseLead
import J5V.Print.LayoutProofs
import J5V.Print.LayoutComments
/-! # First facts about the definitions of `ReparseShapes` (core only) -/
namespace J5V.Print.Reparse
open J5V.Print J5V.Print.Grammar J5V.Print.Layout J5V.Print.OptionText J5V.Print.Scalar

theorem lineToks_blank (l : Nat) : lineToks "" l = [] := by
  rw [lineToks, lexL_blank]
  rfl

theorem lineToks_ind (n : Nat) (s : String) (l : Nat) : lineToks (ind n s) l = lineToks s l := by
  unfold lineToks ind
  rw [String.toList_append, String.toList_ofList, lexL_spaces]

theorem lineToks_cm (s : String) (l : Nat) : ∀ t ∈ lineToks s l, t.cm = Cm.none := by
  intro t ht
  unfold lineToks at ht
  simp only [List.mem_filterMap] at ht
  obtain ⟨r, _, hr⟩ := ht
  cases r with
  | tok tk ln => simp only [toP, Option.some.injEq] at hr; rw [← hr]; rfl
  | comment _ _ => simp [toP] at hr

theorem lineToks_ge (s : String) (L : Nat) : ∀ t ∈ lineToks s L, L ≤ t.line := by
  intro t ht
  unfold lineToks at ht
  simp only [List.mem_filterMap] at ht
  obtain ⟨r, hr, hrt⟩ := ht
  have := lexL_ge _ L r hr
  cases r with
  | tok tk ln => simp only [toP, Option.some.injEq] at hrt; rw [← hrt]; exact this
  | comment _ _ => simp [toP] at hrt

theorem lexLines_append : ∀ (a b : List String) (l : Nat), lexLines (a ++ b) l = lexLines a l ++ lexLines b (l + a.length)
  | [], b, l => by simp [lexLines]
  | s :: r, b, l => by
    simp only [List.cons_append, lexLines, lexLines_append r b (l + 1), List.length_cons, List.append_assoc]
    congr 3
    omega

theorem lexLines_ind (n : Nat) : ∀ (ls : List String) (l : Nat), lexLines (ls.map (ind n)) l = lexLines ls l
  | [], _ => rfl
  | x :: r, l => by simp only [List.map_cons, lexLines, lineToks_ind, lexLines_ind n r]

theorem lexLines_shift (k : Nat) : ∀ (ls : List String) (l : Nat), lexLines ls (l + k) = sh k (lexLines ls l)
  | [], _ => rfl
  | x :: r, l => by
    simp only [lexLines, sh_append, lineToks_shift]
    rw [show l + k + 1 = (l + 1) + k by omega, lexLines_shift k r (l + 1)]

theorem lexLines_cm : ∀ (ls : List String) (l : Nat), ∀ t ∈ lexLines ls l, t.cm = Cm.none
  | [], _, t, h => by simp [lexLines] at h
  | s :: r, l, t, h => by
    simp only [lexLines, List.mem_append] at h
    rcases h with h | h
    · exact lineToks_cm s l t h
    · exact lexLines_cm r (l + 1) t h

theorem lexLines_ge : ∀ (ls : List String) (L : Nat), ∀ t ∈ lexLines ls L, L ≤ t.line
  | [], _, t, h => by simp [lexLines] at h
  | s :: r, L, t, h => by
    simp only [lexLines, List.mem_append] at h
    rcases h with h | h
    · exact lineToks_ge s L t h
    · have := lexLines_ge r (L + 1) t h; omega

theorem toksOf_shift (cs : List Cmd) (g : Bool) (L k : Nat) : toksOf cs g (L + k) = sh k (toksOf cs g L) := by
  unfold toksOf
  exact lexLines_shift k _ L

theorem rawLines_append : ∀ (a b : List String) (L : Nat), rawLines (a ++ b) L = rawLines a L ++ rawLines b (L + a.length)
  | [], b, L => by simp [rawLines]
  | s :: r, b, L => by
    simp only [List.cons_append, rawLines, rawLines_append r b (L + 1), List.length_cons, List.append_assoc]
    congr 3
    omega

theorem fieldLines_ind (n : Nat) (f : FieldD) : fieldLines n f = (fieldLines 0 f).map (ind n) :=
  fieldStyle_ind n f.head (formatInt f.number) f.popts

theorem fieldLines_ne (n : Nat) (f : FieldD) : fieldLines n f ≠ [] := by
  unfold fieldLines fieldStyle
  split
  · simp
  · split <;> simp

theorem optSpan_nil : optSpan [] = 0 := by simp [optSpan, optCmds0, sortOpts, Order.isort, nLines, exec]

theorem optToks0_nil : optToks0 [] = [] := by simp [optToks0, optCmds0, sortOpts, Order.isort, toksOf, exec, lexLines]

theorem rdBlockOpts_nil (s : Nat) : rdBlockOpts [] s = [] := by
  simp [rdBlockOpts, optRaws0, optChunks, optToks0_nil, splitOpt, rawsOf, mkOpts, groupOpts, unlocateShared]

theorem BlockOpts.nil : BlockOpts [] := by
  refine ⟨by simp, by simp [optLines0, sortOpts, Order.isort], by simp [optChunks, optToks0_nil, splitOpt], ?_, ?_, ?_⟩
  · intro c hc; simp [optChunks, optToks0_nil, splitOpt] at hc
  · simp [optRaws0, optChunks, optToks0_nil, splitOpt, rawsOf, mkOpts, groupOpts, unlocateShared, optsOk]
  · intro o ho; simp [optRaws0, optChunks, optToks0_nil, splitOpt, rawsOf, mkOpts, groupOpts, unlocateShared] at ho

theorem rpcToks0_nil : rpcToks0 [] = [] := by simp [rpcToks0, rpcCmds0, sortOpts, Order.isort, toksOf, exec, lexLines]

theorem RpcOpts.nil : RpcOpts [] := by
  refine ⟨by simp, by simp [optLines0, sortOpts, Order.isort], by simp [rpcChunks, rpcToks0_nil, splitOpt], ?_, ?_, ?_⟩
  · intro c hc; simp [rpcChunks, rpcToks0_nil, splitOpt] at hc
  · simp [rpcRaws0, rpcChunks, rpcToks0_nil, splitOpt, rawsOf, mkOpts, groupOpts, unlocateShared, optsOk]
  · intro o ho; simp [rpcRaws0, rpcChunks, rpcToks0_nil, splitOpt, rawsOf, mkOpts, groupOpts, unlocateShared] at ho

theorem AllBlocks.tops : ∀ (es : List Item), SimpleKids es → AllBlocks es → SimpleTops es
  | [], _, _ => trivial
  | _ :: r, h, hb => ⟨Or.inl ⟨h.1, hb.1⟩, h.2.1, AllBlocks.tops r h.2.2 hb.2⟩

theorem kidStart_ge (c : String) (gb : Bool) (L : Nat) (g : Bool) : L ≤ kidStart c gb L g := by
  unfold kidStart startLine
  split
  · split <;> omega
  · omega

theorem rdKids_cons (e : Item) (r : List Item) (first : Bool) (le0 lt L : Nat) (g : Bool) :
    rdKids (e :: r) first le0 lt L g =
      ((rdItem e (kidS e first le0 lt L g)).1.withLead e.loc.leading ::
          (rdKids r false e.loc.endLine e.typeOrder (rdItem e (kidS e first le0 lt L g)).2 e.gapEnder).1,
        (rdKids r false e.loc.endLine e.typeOrder (rdItem e (kidS e first le0 lt L g)).2 e.gapEnder).2) := by
  rw [rdKids]
  rfl

theorem rdItem_field_fst (f : FieldD) (s : Nat) : (rdItem (.field f) s).1 = .field (rdFieldAny f s) := by
  simp only [rdItem, rdFieldAny]
  split <;> rfl

theorem popts_simple (f : FieldD) (ho : f.opts = [])
    (hj : f.json = none ∨ f.json = some (String.ofList (defaultJSONName f.name.toList))) : f.popts = [] := by
  unfold FieldD.popts
  rw [ho]
  have hs : sortByName ([].map SOpt.parsed).flatten = [] := rfl
  rcases hj with h | h
  · rw [h]; exact hs
  · rw [h]
    simp only [String.toList_ofList, ne_eq, not_true_eq_false, if_false]
    exact hs

theorem fieldLines_leaf (n : Nat) (f : FieldD) (hp : f.popts = []) : fieldLines n f = [leafLine n f] := by
  cases hk : f.kind <;> simp [fieldLines, fieldStyle, hp, leafLine, fieldLine, valueLine, FieldD.head, hk]

theorem kT_nil (n : Nat) (first : Bool) (le0 lt : Nat) (g : Bool) (L : Nat) : kT n [] first le0 lt g L = [] := by
  rw [kT]

theorem kT_cons (n : Nat) (e : Item) (r : List Item) (first : Bool) (le0 lt : Nat) (g : Bool) (L : Nat) :
    kT n (e :: r) first le0 lt g L =
      hd e.loc.leading (itemToks n e (kidS e first le0 lt L g)) ++
        kT n r false e.loc.endLine e.typeOrder e.gapEnder (rdItem e (kidS e first le0 lt L g)).2 := by
  rw [kT]
  rfl

theorem itemToks_field (n : Nat) (f : FieldD) (s : Nat) : itemToks n (.field f) s = sh s (fieldToks0 f) := by
  simp only [itemToks]
  split
  · rename_i hp
    have hp' : f.popts = [] := by simpa using hp
    have hn := fieldLines_ind n f
    rw [fieldLines_leaf n f hp', fieldLines_leaf 0 f hp', List.map_cons, List.map_nil, List.cons.injEq] at hn
    have hs := lineToks_shift (leafLine 0 f) 0 s
    rw [Nat.zero_add] at hs
    rw [hn.1, lineToks_ind, hs, fieldToks0, fieldLines_leaf 0 f hp']
    simp [lexLines]
  · rfl

theorem rdItem_field_snd (f : FieldD) (s : Nat) : (rdItem (.field f) s).2 = s + (fieldLines 0 f).length := by
  simp only [rdItem]
  split
  · rename_i hp
    rw [fieldLines_leaf 0 f (by simpa using hp)]
    rfl
  · rfl

theorem Leaf.popts {f : FieldD} (h : Leaf f) : f.popts = [] := by
  rcases h with h | h | h
  · exact popts_simple f h.2.2.1 (Or.inr h.2.2.2.2.2.1)
  · exact popts_simple f h.2.2.1 (Or.inl h.2.2.2.2.2.2.2)
  · exact popts_simple f h.2.2.1 (Or.inr h.2.2.2.2.2.1)

theorem Leaf.loc {f : FieldD} (h : Leaf f) : f.loc.leadOnly := by
  rcases h with h | h | h <;> exact h.2.1

theorem Plain.loc : ∀ e, Plain e → e.loc.leadOnly
  | .field f, h => by
    rcases h with h | h | h | h
    · exact h.2.1
    · exact h.2.1
    · exact h.2.1
    · exact h.loc
  | .rpc _ _ _ _ _ _, h => h.1
  | .block _ _ _ _ _ _ _, h => h.1

/-- a field of the shapes covered has no options to print, or is a field with bracket options -/
theorem Plain.field_cases {f : FieldD} (h : SimpleField f ∨ SimpleValue f ∨ MapField f ∨ OptField f) :
    (f.popts = [] ∧ Leaf f) ∨ (f.popts ≠ [] ∧ OptField f) := by
  rcases h with h | h | h | h
  · exact Or.inl ⟨Leaf.popts (Or.inl h), Or.inl h⟩
  · exact Or.inl ⟨Leaf.popts (Or.inr (Or.inl h)), Or.inr (Or.inl h)⟩
  · exact Or.inl ⟨Leaf.popts (Or.inr (Or.inr h)), Or.inr (Or.inr h)⟩
  · exact Or.inr ⟨h.nonempty, h⟩

theorem rdItem_leaf {f : FieldD} (h : Leaf f) (s : Nat) :
    rdItem (.field f) s = (.field { f with loc := lineLoc s s, index := 0 }, s + 1) := by
  simp [rdItem, h.popts]

theorem member_plain {f : FieldD} (h : SimpleField f ∨ OptField f) : Plain (.field f) := by
  rcases h with h | h
  · exact Or.inl h
  · exact Or.inr (Or.inr (Or.inr h))

theorem Elems.cons {P : Item → Prop} {e : Item} {r : List Item} :
    Elems P (e :: r) ↔ (P e ∧ CommentOk e.loc.leading) ∧ Elems P r := by
  simp [Elems]

theorem Elems.mem {P : Item → Prop} {es : List Item} (h : Elems P es) {e : Item} (he : e ∈ es) :
    P e ∧ CommentOk e.loc.leading := h e he

theorem Elems.imp {P Q : Item → Prop} {es : List Item} (h : Elems P es) (hPQ : ∀ e ∈ es, P e → Q e) : Elems Q es :=
  fun e he => ⟨hPQ e he (h e he).1, (h e he).2⟩

theorem simpleKids_iff : ∀ es, SimpleKids es ↔ Elems SimpleItem es
  | [] => by simp [SimpleKids, Elems]
  | e :: r => by rw [SimpleKids, Elems.cons, simpleKids_iff r, and_assoc]

theorem simpleValues_iff : ∀ es, SimpleValues es ↔ Elems IsValue es
  | [] => by simp [SimpleValues, Elems]
  | .field f :: r => by simp [SimpleValues, Elems.cons, simpleValues_iff r, IsValue, Item.loc, and_assoc]
  | .rpc _ _ _ _ _ _ :: _ => by simp [SimpleValues, Elems.cons, IsValue]
  | .block _ _ _ _ _ _ _ :: _ => by simp [SimpleValues, Elems.cons, IsValue]

theorem simpleMembers_iff : ∀ es, SimpleMembers es ↔ Elems IsMember es
  | [] => by simp [SimpleMembers, Elems]
  | .field f :: r => by simp [SimpleMembers, Elems.cons, simpleMembers_iff r, IsMember, Item.loc, and_assoc]
  | .rpc _ _ _ _ _ _ :: _ => by simp [SimpleMembers, Elems.cons, IsMember]
  | .block _ _ _ _ _ _ _ :: _ => by simp [SimpleMembers, Elems.cons, IsMember]

theorem plainList_iff : ∀ es, PlainList es ↔ Elems Plain es
  | [] => by simp [PlainList, Elems]
  | e :: r => by rw [PlainList, Elems.cons, plainList_iff r, and_assoc]

theorem simpleRpcs_iff : ∀ es, SimpleRpcs es ↔ Elems SimpleRpc es
  | [] => by simp [SimpleRpcs, Elems]
  | e :: r => by rw [SimpleRpcs, Elems.cons, simpleRpcs_iff r, and_assoc]

theorem simpleTops_iff : ∀ es, SimpleTops es ↔ Elems SimpleTop es
  | [] => by simp [SimpleTops, Elems]
  | e :: r => by rw [SimpleTops, Elems.cons, simpleTops_iff r, and_assoc]

theorem IsValue.plain {e : Item} (h : IsValue e) : Plain e := by
  obtain ⟨f, rfl, h⟩ := h
  exact Or.inr (Or.inl h)

theorem IsMember.plain {e : Item} (h : IsMember e) : Plain e := by
  obtain ⟨f, rfl, h, _⟩ := h
  rcases h with h | h
  · exact Or.inl h
  · exact Or.inr (Or.inr (Or.inr h))

theorem SimpleItem.plain : ∀ e, SimpleItem e → Plain e := by
  refine Item.induct (fun f h => ?_) (fun _ _ _ _ _ _ h => h.elim) (fun kw t l i nm os ks ih h => ?_)
  · rcases h with h | h | h
    · exact Or.inl h
    · exact Or.inr (Or.inr (Or.inl h))
    · exact Or.inr (Or.inr (Or.inr h))
  · simp only [SimpleItem] at h
    refine ⟨h.1, h.2.1, (plainList_iff ks).2 ?_⟩
    rcases h.2.2.2 with hm | he | ho
    · exact ((simpleKids_iff ks).1 hm.2.2).imp ih
    · exact ((simpleValues_iff ks).1 he.2.2).imp (fun _ _ => IsValue.plain)
    · exact ((simpleMembers_iff ks).1 ho.2.2.2.1).imp (fun _ _ => IsMember.plain)

theorem SimpleKids.plain : ∀ es, SimpleKids es → PlainList es :=
  fun es h => (plainList_iff es).2 (((simpleKids_iff es).1 h).imp (fun e _ => SimpleItem.plain e))

theorem SimpleRpc.plain : ∀ e, SimpleRpc e → Plain e
  | .rpc _ _ _ _ _ _, h => ⟨h.1, h.2.1⟩
  | .field _, h => h.elim
  | .block _ _ _ _ _ _ _, h => h.elim

theorem SimpleRpcs.plain (es : List Item) (h : SimpleRpcs es) : PlainList es :=
  (plainList_iff es).2 (((simpleRpcs_iff es).1 h).imp (fun e _ => SimpleRpc.plain e))

theorem SimpleService.plain : ∀ e, SimpleService e → Plain e
  | .block _ _ _ _ _ _ ks, h => ⟨h.1, h.2.1, SimpleRpcs.plain ks h.2.2.2.2.2⟩
  | .field _, h => h.elim
  | .rpc _ _ _ _ _ _, h => h.elim

theorem SimpleTop.plain (e : Item) (h : SimpleTop e) : Plain e := by
  rcases h with h | h
  · exact SimpleItem.plain e h.1
  · exact SimpleService.plain e h

theorem SimpleTops.plain (es : List Item) (h : SimpleTops es) : PlainList es :=
  (plainList_iff es).2 (((simpleTops_iff es).1 h).imp (fun e _ => SimpleTop.plain e))

theorem Own.ok : ∀ e, Own e → OwnOk e
  | .block _ _ _ _ _ _ _, h => by simp only [Own] at h; exact h.1
  | .field _, h => by simp only [Own] at h; exact h
  | .rpc _ _ _ _ _ _, h => by simp only [Own] at h; exact h

theorem ownList_iff : ∀ es, OwnList es ↔ ∀ e ∈ es, Own e
  | [] => by simp [OwnList]
  | e :: r => by simp [OwnList, ownList_iff r]

end J5V.Print.Reparse
