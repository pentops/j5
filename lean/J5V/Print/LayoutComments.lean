import J5V.Print.LayoutProofs
/-!
# Printing is a fixed point — with leading comments (core only)

`printFile_reprint` (at the end) is about files without comments. Here the elements (messages, enums, services,
oneofs, fields, enum values, methods, extension fields) may carry a **leading comment**: the reading `d'` has
the same leading comment on the same element (and no detached and no trailing comment). The printer
writes a gap before a leading comment whatever the source lines say, so the gap clause of `relaidKids` is not asked
of an element with a leading comment (third escape `e.loc.leading ≠ ""`): the start line of such an element in the
reading is the line of the element itself, below its comment, and the distance to the previous element is irrelevant.

Detached and trailing comments stay outside: with them the second print can really differ (see notes/print.md).
-/
namespace J5V.Print.Layout
open J5V.Print.OptionText J5V.Print.Order

/-! ## the comment helpers -/

theorem leadingCmds_sameLead (n : Nat) {l l' : Loc} (h0 : l.leadOnly) (h : Loc.sameLead l l') :
    leadingCmds n l' = leadingCmds n l := by
  unfold leadingCmds
  rw [h.1, h.2.2, h0.1]

theorem trailingCmds_nt (n : Nat) {l : Loc} (h : l.trailing = "") : trailingCmds n l = [] := by
  unfold trailingCmds commentBody
  simp [h]

theorem inlineComment_nt {l : Loc} (h : l.trailing = "") : inlineComment l = "" := by
  unfold inlineComment commentBody
  simp [h, String.join]

/-- an element with a leading comment (and no detached one) starts with a gap -/
theorem leadingCmds_gap (n : Nat) {l : Loc} (h0 : l.detached = []) (h : l.leading ≠ "") :
    ∃ tl, leadingCmds n l = Cmd.gap :: tl := by
  unfold leadingCmds
  simp [h0, h]

theorem Item.quietL_loc : ∀ (e : Item), e.quietL → e.loc.leadOnly
  | .field _, h => h.1
  | .rpc _ _ _ _ _ _, h => h.1
  | .block _ _ _ _ _ _ _, h => h.1

theorem itemCmds_gap (n : Nat) : ∀ (e : Item), e.loc.detached = [] → e.loc.leading ≠ "" →
    ∃ tl, itemCmds n e = Cmd.gap :: tl
  | .field f, h0, h => by
    obtain ⟨tl, htl⟩ := leadingCmds_gap n (l := f.loc) h0 h
    exact ⟨_, by simp only [itemCmds, fieldCmds]; rw [htl]; rfl⟩
  | .rpc l _ _ _ _ _, h0, h => by
    obtain ⟨tl, htl⟩ := leadingCmds_gap n (l := l) h0 h
    exact ⟨_, by simp only [itemCmds]; rw [htl]; rfl⟩
  | .block _ _ l _ _ _ _, h0, h => by
    obtain ⟨tl, htl⟩ := leadingCmds_gap n (l := l) h0 h
    exact ⟨_, by simp only [itemCmds]; rw [htl]; rfl⟩

theorem popts_strip_okL {f f' : FieldD} (h : fieldOkL f f') (hu : f.quietL) : f'.popts.map strip = f.popts.map strip := by
  obtain ⟨_, _, _, hname, _, hjson, _, hl, hok, _⟩ := h
  have hparsed : (f'.opts.map SOpt.parsed).flatten.map strip = (f.opts.map SOpt.parsed).flatten.map strip := by
    rw [flatten_map_strip, flatten_map_strip, List.map_map, List.map_map]
    congr 1
    apply map_eq_of_zip _ _ f.opts f'.opts hl
    intro p hp
    exact parsed_strip_ok (hok p hp) (hu.2 p.1 (List.of_mem_zip hp).1)
  unfold FieldD.popts
  rw [hjson, hname]
  cases f.json with
  | none => simp only []; rw [sortByName_strip, sortByName_strip, hparsed]
  | some j =>
    simp only []
    split
    · rw [List.map_append, List.map_append, sortByName_strip, sortByName_strip, hparsed]
    · rw [sortByName_strip, sortByName_strip, hparsed]

/-- `fieldStyle` depends on the options only through `strip` (`fieldStyle_strip`), under which the two option lists agree -/
theorem fieldCmds_okL (n : Nat) {f f' : FieldD} (h : fieldOkL f f') (hu : f.quietL) :
    fieldCmds n f' = fieldCmds n f := by
  have hstrip := popts_strip_okL h hu
  obtain ⟨hk, hlab, hty, hname, hnum, hjson, hnc, hl, hok, hinl⟩ := h
  have hnc0 := hu.1
  unfold fieldCmds
  rw [leadingCmds_sameLead n hnc0 hnc, trailingCmds_nt n hnc.2.1, trailingCmds_nt n hnc0.2,
    inlineComment_nt hnc.2.1, inlineComment_nt hnc0.2]
  have hhead : f'.head = f.head := by unfold FieldD.head; rw [hk, hlab, hty, hname]
  rw [hhead, hnum]
  congr 2
  congr 1
  have hflag0 : ∀ p ∈ f.popts, p.inlineWithParent = true :=
    popts_flag f (fun o ho => SOpt.inl_unloc (hu.2 o ho))
  rw [← fieldStyle_strip n f.head (Scalar.formatInt f.number) "" f'.popts, hstrip,
    fieldStyle_strip n f.head (Scalar.formatInt f.number) "" f.popts]
  · intro p hp _; exact hflag0 p (by rw [hp]; simp)
  · intro p' hp' hne
    have hlen : f.popts.length = 1 := by
      have := congrArg List.length hstrip
      simp only [List.length_map, hp', List.length_singleton] at this
      exact this.symm
    match hf : f.popts, hlen with
    | [p], _ =>
      have hinl' : p.inl ≠ none := by
        rw [hp', hf] at hstrip
        simp only [List.map_cons, List.map_nil, List.cons.injEq, and_true] at hstrip
        have : p'.inl = p.inl := by
          have := congrArg POpt.inl hstrip
          simpa [strip] using this
        rw [← this]; exact hne
      exact popts_flag f' (hinl p hf hinl') p' (by rw [hp']; simp)

theorem relaidL_typeOrder : ∀ (e e' : Item), relaidL e e' → e'.typeOrder = e.typeOrder
  | .field _, .field _, _ => rfl
  | .rpc _ _ _ _ _ _, .rpc _ _ _ _ _ _, _ => rfl
  | .block _ _ _ _ _ _ _, .block _ _ _ _ _ _ _, h => by
    simp only [relaidL] at h
    exact h.2.1
  | .field _, .rpc _ _ _ _ _ _, h => by simp [relaidL] at h
  | .field _, .block _ _ _ _ _ _ _, h => by simp [relaidL] at h
  | .rpc _ _ _ _ _ _, .field _, h => by simp [relaidL] at h
  | .rpc _ _ _ _ _ _, .block _ _ _ _ _ _ _, h => by simp [relaidL] at h
  | .block _ _ _ _ _ _ _, .field _, h => by simp [relaidL] at h
  | .block _ _ _ _ _ _ _, .rpc _ _ _ _ _ _, h => by simp [relaidL] at h

theorem relaidKidsL_isEmpty (first pg : Bool) (ps le le0 lt : Nat) :
    ∀ (es es' : List Item), relaidKidsL first pg ps le le0 lt es es' → es'.isEmpty = es.isEmpty
  | [], [], _ => rfl
  | [], _ :: _, h => by simp [relaidKidsL] at h
  | _ :: _, [], h => by simp [relaidKidsL] at h
  | _ :: _, _ :: _, _ => rfl

/-- before an element that starts with a gap of its own, neither a pending gap nor the gap of `printElements` matters -/
theorem lead_gap (pg a b : Bool) (tl : List Cmd) :
    Equiv (pgC pg ++ ((if a = true then [Cmd.gap] else []) ++ Cmd.gap :: tl))
      (pgC pg ++ ((if b = true then [Cmd.gap] else []) ++ Cmd.gap :: tl)) := by
  intro g
  cases pg <;> cases a <;> cases b <;> simp [pgC, exec]

/-- the gap before an element, in front of the element -/
theorem gap_prefix_okL (pg a b : Bool) (c : List Cmd)
    (h1 : a = true → pg = true ∨ b = true ∨ ∃ tl, c = Cmd.gap :: tl)
    (h2 : b = true → pg = true ∨ a = true ∨ ∃ tl, c = Cmd.gap :: tl) :
    Equiv (pgC pg ++ ((if a = true then [Cmd.gap] else []) ++ c))
      (pgC pg ++ ((if b = true then [Cmd.gap] else []) ++ c)) := by
  by_cases hc : ∃ tl, c = Cmd.gap :: tl
  · obtain ⟨tl, rfl⟩ := hc
    exact lead_gap pg a b tl
  · have h1' : a = true → pg = true ∨ b = true := fun h => by
      rcases h1 h with h | h | h
      · exact Or.inl h
      · exact Or.inr h
      · exact absurd h hc
    have h2' : b = true → pg = true ∨ a = true := fun h => by
      rcases h2 h with h | h | h
      · exact Or.inl h
      · exact Or.inr h
      · exact absurd h hc
    have := Equiv.append (gap_prefix_ok pg a b h1' h2') (Equiv.refl c)
    simpa only [List.append_assoc] using this

mutual
theorem itemCmds_okL : ∀ (n : Nat) (e e' : Item), relaidL e e' → e.quietL → Equiv (itemCmds n e') (itemCmds n e)
  | n, .field f, .field f', h, hu => by
    simp only [relaidL] at h
    simp only [Item.quietL] at hu
    simp only [itemCmds]
    exact Equiv.of_eq (fieldCmds_okL n h hu)
  | n, .rpc l _ nm a b os, .rpc l' _ nm' a' b' os', h, hu => by
    simp only [relaidL] at h
    simp only [Item.quietL] at hu
    obtain ⟨hnm, ha, hb, hnc, hos⟩ := h
    have hnc0 := hu.1
    simp only [itemCmds]
    rw [leadingCmds_sameLead n hnc0 hnc, trailingCmds_nt n hnc.2.1, trailingCmds_nt n hnc0.2,
      inlineComment_nt hnc.2.1, inlineComment_nt hnc0.2,
      hnm, ha, hb, optsOk_isEmpty hos,
      sortOpts_map_ok (optionCmds (n + 1)) os os' hos hu.2 (fun o o' hk hh => optionCmds_ok (n + 1) hk hh)]
    exact Equiv.refl _
  | n, .block kw t l _ nm os ks, .block kw' t' l' _ nm' os' ks', h, hu => by
    simp only [relaidL] at h
    simp only [Item.quietL] at hu
    obtain ⟨hkw, ht, hnm, hnc, hos, hks⟩ := h
    have hnc0 := hu.1
    have hkids := elemsCmds_okL (n + 1) ks ks' true false 0 0 0 0 hks hu.2.2
    simp only [pgC, Bool.false_eq_true, if_false, List.nil_append] at hkids
    simp only [itemCmds]
    rw [leadingCmds_sameLead n hnc0 hnc, trailingCmds_nt (n + 1) hnc.2.1, trailingCmds_nt (n + 1) hnc0.2,
      inlineComment_nt hnc.2.1, inlineComment_nt hnc0.2,
      hkw, hnm, optsOk_isEmpty hos, relaidKidsL_isEmpty _ _ _ _ _ _ ks ks' hks, hnc.2.1, hnc0.2,
      sortOpts_map_ok (fun o => optionCmds (n + 1) o ++ [Cmd.gap]) os os' hos hu.2.1
        (fun o o' hk hh => by rw [optionCmds_ok (n + 1) hk hh])]
    apply Equiv.append _ (Equiv.refl _)
    apply Equiv.append (Equiv.refl _)
    split
    · exact Equiv.refl _
    · apply Equiv.append _ (Equiv.refl _)
      apply Equiv.append (Equiv.refl _)
      exact hkids
  | _, .field _, .rpc _ _ _ _ _ _, h, _ => by simp [relaidL] at h
  | _, .field _, .block _ _ _ _ _ _ _, h, _ => by simp [relaidL] at h
  | _, .rpc _ _ _ _ _ _, .field _, h, _ => by simp [relaidL] at h
  | _, .rpc _ _ _ _ _ _, .block _ _ _ _ _ _ _, h, _ => by simp [relaidL] at h
  | _, .block _ _ _ _ _ _ _, .field _, h, _ => by simp [relaidL] at h
  | _, .block _ _ _ _ _ _ _, .rpc _ _ _ _ _ _, h, _ => by simp [relaidL] at h
theorem elemsCmds_okL : ∀ (n : Nat) (es es' : List Item) (first pg : Bool) (ps le le0 lt : Nat),
    relaidKidsL first pg ps le le0 lt es es' → quietListL es →
    Equiv (pgC pg ++ elemsCmds n es' first le lt) (pgC pg ++ elemsCmds n es first le0 lt)
  | _, [], [], _, _, _, _, _, _, _, _ => Equiv.refl _
  | _, [], _ :: _, _, _, _, _, _, _, h, _ => by simp [relaidKidsL] at h
  | _, _ :: _, [], _, _, _, _, _, _, h, _ => by simp [relaidKidsL] at h
  | n, e :: r, e' :: r', first, pg, ps, le, le0, lt, h, hu => by
    simp only [relaidKidsL] at h
    simp only [quietListL] at hu
    obtain ⟨hre, _, hgap1, hgap2, hkids⟩ := h
    have hitem := itemCmds_okL n e e' hre hu.1
    have hrest := elemsCmds_okL n r r' false e.gapEnder e'.loc.startLine e'.loc.endLine e.loc.endLine e.typeOrder hkids hu.2
    obtain ⟨body, hbody⟩ := itemCmds_split n e
    have hdet := (Item.quietL_loc e hu.1).1
    have hlead : e.loc.leading ≠ "" → ∃ tl, itemCmds n e = Cmd.gap :: tl := itemCmds_gap n e hdet
    simp only [elemsCmds]
    rw [relaidL_typeOrder e e' hre]
    -- the gap before the element, together with the element
    have hg := gap_prefix_okL pg _ _ (itemCmds n e)
      (fun h => by
        rcases hgap1 h with h | h | h
        · exact Or.inl h
        · exact Or.inr (Or.inl h)
        · exact Or.inr (Or.inr (hlead h)))
      (fun h => by
        rcases hgap2 h with h | h | h
        · exact Or.inl h
        · exact Or.inr (Or.inl h)
        · exact Or.inr (Or.inr (hlead h)))
    -- replace the element of the reading by the original
    refine Equiv.trans (b := pgC pg ++ ((if gapCond first le e'.loc.startLine e.typeOrder lt = true then [Cmd.gap] else []) ++
        itemCmds n e ++ elemsCmds n r' false e'.loc.endLine e.typeOrder)) ?_ ?_
    · apply Equiv.append (Equiv.refl _)
      apply Equiv.append _ (Equiv.refl _)
      exact Equiv.append (Equiv.refl _) hitem
    refine Equiv.trans (b := pgC pg ++ ((if gapCond first le0 e.loc.startLine e.typeOrder lt = true then [Cmd.gap] else []) ++
        itemCmds n e ++ elemsCmds n r' false e'.loc.endLine e.typeOrder)) ?_ ?_
    · have := Equiv.append hg (Equiv.refl (elemsCmds n r' false e'.loc.endLine e.typeOrder))
      simpa only [List.append_assoc] using this
    rw [hbody]
    have := Equiv.append (Equiv.refl (pgC pg ++ ((if gapCond first le0 e.loc.startLine e.typeOrder lt = true then [Cmd.gap] else []) ++ body))) hrest
    simpa only [List.append_assoc] using this
end

/-! ## arranging a reading changes nothing -/

theorem relaidKidsL_inc (first pg : Bool) (ps le le0 lt : Nat) :
    ∀ (es es' : List Item), relaidKidsL first pg ps le le0 lt es es' → incStarts ps es'
  | [], [], _ => trivial
  | [], _ :: _, h => by simp [relaidKidsL] at h
  | _ :: _, [], h => by simp [relaidKidsL] at h
  | e :: r, e' :: r', h => by
    simp only [relaidKidsL] at h
    exact ⟨h.2.1, relaidKidsL_inc false e.gapEnder _ _ _ _ r r' h.2.2.2.2⟩

mutual
theorem arrange_relaidL : ∀ (e e' : Item), relaidL e e' → arrange e' = e'
  | .field _, .field _, _ => rfl
  | .rpc _ _ _ _ _ _, .rpc _ _ _ _ _ _, _ => rfl
  | .block _ _ _ _ _ _ ks, .block _ _ _ _ _ _ ks', h => by
    simp only [relaidL] at h
    have hks := h.2.2.2.2.2
    simp only [arrange]
    rw [arrangeList_relaidL ks ks' true false 0 0 0 0 hks, sortItems_inc ks' 0 (relaidKidsL_inc _ _ _ _ _ _ ks ks' hks)]
  | .field _, .rpc _ _ _ _ _ _, h => by simp [relaidL] at h
  | .field _, .block _ _ _ _ _ _ _, h => by simp [relaidL] at h
  | .rpc _ _ _ _ _ _, .field _, h => by simp [relaidL] at h
  | .rpc _ _ _ _ _ _, .block _ _ _ _ _ _ _, h => by simp [relaidL] at h
  | .block _ _ _ _ _ _ _, .field _, h => by simp [relaidL] at h
  | .block _ _ _ _ _ _ _, .rpc _ _ _ _ _ _, h => by simp [relaidL] at h
theorem arrangeList_relaidL : ∀ (es es' : List Item) (first pg : Bool) (ps le le0 lt : Nat),
    relaidKidsL first pg ps le le0 lt es es' → arrangeList es' = es'
  | [], [], _, _, _, _, _, _, _ => rfl
  | [], _ :: _, _, _, _, _, _, _, h => by simp [relaidKidsL] at h
  | _ :: _, [], _, _, _, _, _, _, h => by simp [relaidKidsL] at h
  | e :: r, e' :: r', _, _, _, _, _, _, h => by
    simp only [relaidKidsL] at h
    simp only [arrangeList]
    rw [arrange_relaidL e e' h.1, arrangeList_relaidL r r' _ _ _ _ _ _ h.2.2.2.2]
end

/-! ## the whole file -/

theorem printFile_relaidL (gen : String) (t d' : FileD) (hu : t.quietL) (hr : relaidFileL t d') :
    printFile gen d' = run (fileCmds gen t) false := by
  obtain ⟨hpkg, himp, himps, hnc, hopts, hel, hexts, hitems⟩ := hr
  obtain ⟨huloc, huopts, huexts, huitems⟩ := hu
  have harr : d'.arranged = d' := by
    unfold FileD.arranged
    rw [arrangeList_relaidL t.items d'.items true false 0 0 0 0 hitems,
      sortItems_inc d'.items 0 (relaidKidsL_inc _ _ _ _ _ _ t.items d'.items hitems)]
  unfold printFile
  rw [harr]
  apply Equiv.run_eq
  have hkids := elemsCmds_okL 0 t.items d'.items true false 0 0 0 0 hitems huitems
  simp only [pgC, Bool.false_eq_true, if_false, List.nil_append] at hkids
  have hextsEq : d'.exts.map (fun e => (e.1, fieldCmds 1 e.2)) = t.exts.map (fun e => (e.1, fieldCmds 1 e.2)) := by
    apply map_eq_of_zip _ _ t.exts d'.exts hel
    intro p hp
    obtain ⟨h1, h2⟩ := hexts p hp
    have hm : p.1 ∈ t.exts := (List.of_mem_zip hp).1
    rw [h1, fieldCmds_okL 1 h2 (huexts p.1 hm)]
  have hempty : d'.imports.isEmpty = t.imports.isEmpty := by
    rw [himp]
    unfold sortImports
    cases t.imports with
    | nil => rfl
    | cons x xs =>
      simp only [isort, List.isEmpty_cons]
      generalize isort _ xs = l
      cases l <;> simp [insertBy] <;> split <;> simp
  unfold fileCmds
  rw [hempty, himps, hpkg, himp, leadingCmds_noComments 0 hnc, leadingCmds_noComments 0 huloc, hextsEq,
    sortOpts_map_ok (optionCmds 0) t.opts d'.opts hopts huopts (fun o o' hk hh => optionCmds_ok 0 hk hh)]
  exact Equiv.append (Equiv.refl _) hkids

/-! ## arranging keeps the shape -/

theorem quietListL_iff : ∀ l : List Item, quietListL l ↔ ∀ x ∈ l, x.quietL
  | [] => by simp [quietListL]
  | x :: r => by simp [quietListL, quietListL_iff r]

theorem arrange_quietL : ∀ e : Item, e.quietL → (arrange e).quietL :=
  arrange_keeps (A := fun l os => l.leadOnly ∧ ∀ o ∈ os, o.hasLoc = false)
    (fun _ _ _ _ _ _ _ => by simp only [Item.quietL, quietListL_iff, and_assoc])

theorem FileD.arranged_quietL (d : FileD) (h : d.quietL) : d.arranged.quietL :=
  ⟨h.1, h.2.1, h.2.2.1, (quietListL_iff _).2 (mem_arranged fun x hx => arrange_quietL x ((quietListL_iff _).1 h.2.2.2 x hx))⟩

/-- **Printing is a fixed point, leading comments included.** -/
theorem printFile_reprintL (gen : String) (d d' : FileD) (hu : d.quietL) (hr : relaidFileL d.arranged d') :
    printFile gen d' = printFile gen d :=
  printFile_relaidL gen d.arranged d' (FileD.arranged_quietL d hu) hr

/-! ## the comment-free theorem is the special case -/

theorem Loc.noComments.leadOnly {l : Loc} (h : l.noComments) : l.leadOnly := ⟨h.1, h.2.2⟩

theorem sameLead_of_noComments {l l' : Loc} (h : l.noComments) (h' : l'.noComments) : Loc.sameLead l l' :=
  ⟨h'.1, h'.2.2, by rw [h'.2.1, h.2.1]⟩

theorem FieldD.quiet.toL {f : FieldD} (h : f.quiet) : f.quietL := ⟨h.1.leadOnly, h.2⟩

mutual
theorem Item.quiet_toL : ∀ e : Item, e.quiet → e.quietL
  | .field _, h => FieldD.quiet.toL h
  | .rpc _ _ _ _ _ _, h => ⟨h.1.leadOnly, h.2⟩
  | .block _ _ _ _ _ _ ks, h => by
    simp only [Item.quiet] at h
    simp only [Item.quietL]
    exact ⟨h.1.leadOnly, h.2.1, quietList_toL ks h.2.2⟩
theorem quietList_toL : ∀ l : List Item, quietList l → quietListL l
  | [], _ => trivial
  | x :: r, h => by
    simp only [quietList] at h
    simp only [quietListL]
    exact ⟨Item.quiet_toL x h.1, quietList_toL r h.2⟩
end

theorem FileD.quiet.toL {f : FileD} (h : f.quiet) : f.quietL :=
  ⟨h.1, h.2.1, fun e he => (h.2.2.1 e he).toL, quietList_toL f.items h.2.2.2⟩

theorem fieldOk.toL {f f' : FieldD} (h : fieldOk f f') (hu : f.quiet) : fieldOkL f f' := by
  obtain ⟨a, b, c, d, e, g, hnc, i, j, k⟩ := h
  exact ⟨a, b, c, d, e, g, sameLead_of_noComments hu.1 hnc, i, j, k⟩

mutual
theorem relaid_toL : ∀ (e e' : Item), relaid e e' → e.quiet → relaidL e e'
  | .field _, .field _, h, hu => by
    simp only [relaid] at h
    simp only [Item.quiet] at hu
    simp only [relaidL]
    exact h.toL hu
  | .rpc _ _ _ _ _ _, .rpc _ _ _ _ _ _, h, hu => by
    simp only [relaid] at h
    simp only [Item.quiet] at hu
    simp only [relaidL]
    exact ⟨h.1, h.2.1, h.2.2.1, sameLead_of_noComments hu.1 h.2.2.2.1, h.2.2.2.2⟩
  | .block _ _ _ _ _ _ ks, .block _ _ _ _ _ _ ks', h, hu => by
    simp only [relaid] at h
    simp only [Item.quiet] at hu
    simp only [relaidL]
    exact ⟨h.1, h.2.1, h.2.2.1, sameLead_of_noComments hu.1 h.2.2.2.1, h.2.2.2.2.1,
      relaidKids_toL ks ks' _ _ _ _ _ _ h.2.2.2.2.2 hu.2.2⟩
  | .field _, .rpc _ _ _ _ _ _, h, _ => by simp [relaid] at h
  | .field _, .block _ _ _ _ _ _ _, h, _ => by simp [relaid] at h
  | .rpc _ _ _ _ _ _, .field _, h, _ => by simp [relaid] at h
  | .rpc _ _ _ _ _ _, .block _ _ _ _ _ _ _, h, _ => by simp [relaid] at h
  | .block _ _ _ _ _ _ _, .field _, h, _ => by simp [relaid] at h
  | .block _ _ _ _ _ _ _, .rpc _ _ _ _ _ _, h, _ => by simp [relaid] at h
theorem relaidKids_toL : ∀ (es es' : List Item) (first pg : Bool) (ps le le0 lt : Nat),
    relaidKids first pg ps le le0 lt es es' → quietList es → relaidKidsL first pg ps le le0 lt es es'
  | [], [], _, _, _, _, _, _, _, _ => by simp [relaidKidsL]
  | [], _ :: _, _, _, _, _, _, _, h, _ => by simp [relaidKids] at h
  | _ :: _, [], _, _, _, _, _, _, h, _ => by simp [relaidKids] at h
  | e :: r, e' :: r', _, _, _, _, _, _, h, hu => by
    simp only [relaidKids] at h
    simp only [quietList] at hu
    simp only [relaidKidsL]
    refine ⟨relaid_toL e e' h.1 hu.1, h.2.1, ?_, ?_, relaidKids_toL r r' _ _ _ _ _ _ h.2.2.2.2 hu.2⟩
    · intro hg
      rcases h.2.2.1 hg with h | h
      · exact Or.inl h
      · exact Or.inr (Or.inl h)
    · intro hg
      rcases h.2.2.2.1 hg with h | h
      · exact Or.inl h
      · exact Or.inr (Or.inl h)
end

/-- every instance of the comment-free hypothesis is an instance of the one with leading comments -/
theorem relaidFile.toL {t d' : FileD} (h : relaidFile t d') (hu : t.quiet) : relaidFileL t d' := by
  obtain ⟨a, b, c, d, e, f, g, k⟩ := h
  refine ⟨a, b, c, d, e, f, ?_, relaidKids_toL _ _ _ _ _ _ _ _ k hu.2.2.2⟩
  intro p hp
  exact ⟨(g p hp).1, (g p hp).2.toL (hu.2.2.1 p.1 (List.of_mem_zip hp).1)⟩

theorem itemCmds_ok : ∀ (n : Nat) (e e' : Item), relaid e e' → e.quiet → Equiv (itemCmds n e') (itemCmds n e) :=
  fun n e e' h hu => itemCmds_okL n e e' (relaid_toL e e' h hu) (Item.quiet_toL e hu)

/-- **Printing is a fixed point**, for a file without comments: `d'` is the arranged file with the locations (and
without the comments) of its own printed text; the printer writes the same lines for both. -/
theorem printFile_reprint (gen : String) (d d' : FileD) (hu : d.quiet) (hr : relaidFile d.arranged d') :
    printFile gen d' = printFile gen d :=
  printFile_reprintL gen d d' hu.toL (hr.toL (FileD.arranged_quiet d hu))

end J5V.Print.Layout
