import J5V.Print.ReparseOwn
/-!
# From the printed lines to the tokens, with leading comments (core only)

No printed line holds a line break, so the raw items of the text are those of its lines. `attach` (the model of
protocompile's comment attribution) over them gives the token list `kT` the parser lemmas are stated for: the `//` lines of a
leading comment go to the first token of the element below them, every other line holds tokens only.
-/
namespace J5V.Print.Reparse
open J5V.Print J5V.Print.Grammar J5V.Print.Layout J5V.Print.OptionText J5V.Print.Scalar


theorem foldl_append_toList : ∀ (l : List String) (acc : String),
    (l.foldl (· ++ ·) acc).toList = acc.toList ++ (l.map String.toList).flatten
  | [], acc => by simp
  | x :: xs, acc => by
    simp only [List.foldl_cons, List.map_cons, List.flatten_cons]
    rw [foldl_append_toList xs (acc ++ x), String.toList_append, List.append_assoc]

theorem join_toList (l : List String) : (String.join l).toList = (l.map String.toList).flatten := by
  unfold String.join
  rw [foldl_append_toList]
  simp

theorem text_toList (lines : List String) :
    (String.join (lines.map (· ++ "\n"))).toList = (lines.map fun s => s.toList ++ ['\n']).flatten := by
  rw [join_toList, List.map_map]
  congr 1
  apply List.map_congr_left
  intro s _
  simp only [Function.comp, String.toList_append]
  congr 1

theorem lexL_text : ∀ (lines : List String) (L : Nat), (∀ s ∈ lines, NoNL s.toList) →
    lexL ((lines.map fun s => s.toList ++ ['\n']).flatten) L = rawLines lines L
  | [], L, _ => by simp [rawLines, lexL_nil]
  | s :: r, L, h => by
    simp only [List.map_cons, List.flatten_cons, List.append_assoc, List.cons_append, List.nil_append, rawLines]
    rw [lexL_line s.toList (h s (by simp)), lexL_text r (L + 1) (fun x hx => h x (by simp [hx]))]

theorem rawLines_toP : ∀ (lines : List String) (L : Nat), (rawLines lines L).filterMap toP = lexLines lines L
  | [], _ => rfl
  | s :: r, L => by
    simp only [rawLines, lexLines, List.filterMap_append, rawLines_toP r (L + 1)]
    rfl

theorem rawLines_tokens : ∀ (ls : List String) (L : Nat), (∀ s ∈ ls, TokLine s) →
    ∀ r ∈ rawLines ls L, ∃ t ln, r = Raw.tok t ln
  | [], _, _, r, hr => by simp [rawLines] at hr
  | s :: rest, L, h, r, hr => by
    simp only [rawLines, List.mem_append] at hr
    rcases hr with hr | hr
    · exact h s (by simp) L r hr
    · exact rawLines_tokens rest (L + 1) (fun x hx => h x (by simp [hx])) r hr

/-! ## `attach` over tokens -/

theorem attributeCm_nil (pl : Nat) (t : Grammar.Tok) (l : Nat) : attributeCm (some pl) [] t l = Cm.none := by
  simp [attributeCm, groupComments, combine, Cm.none, String.join]

theorem attach_tokens : ∀ (raws : List Raw) (pl ll : Nat), (∀ r ∈ raws, ∃ t ln, r = Raw.tok t ln) →
    attach raws (some pl) [] ll = raws.filterMap toP ++ [T .eof (lastLineOf raws ll + 1)]
  | [], pl, ll, _ => by simp [attach, attributeCm_nil, T, lastLineOf]
  | .tok t l :: r, pl, ll, h => by
    simp only [attach, attributeCm_nil, List.filterMap_cons, toP, T, lastLineOf, List.cons_append]
    rw [attach_tokens r l l (fun x hx => h x (by simp [hx]))]
    rfl
  | .comment c l :: r, pl, ll, h => by
    obtain ⟨t, ln, he⟩ := h (.comment c l) (by simp)
    cases he

theorem attach_sameLine : ∀ (R : List Raw) (L pl ll : Nat) (more : List Raw), (∀ r ∈ R, ∃ t, r = Raw.tok t L) →
    attach (R ++ more) (some pl) [] ll =
      R.filterMap toP ++ attach more (some (if R.isEmpty then pl else L)) [] (if R.isEmpty then ll else L)
  | [], L, pl, ll, more, _ => by simp
  | r :: R, L, pl, ll, more, h => by
    obtain ⟨t, rfl⟩ := h r (by simp)
    have ih := attach_sameLine R L L L more (fun x hx => h x (by simp [hx]))
    simp only [ite_self] at ih
    simp only [List.cons_append, attach, attributeCm_nil, List.filterMap_cons, toP, T, List.isEmpty_cons,
      Bool.false_eq_true, if_false]
    rw [ih]

/-- `attach` over the raw items `R`, entered behind a token on a line `pl` with `Pre pl` and with no comment pending, gives
`toks` and is then behind a token on a line before `N`, again with no comment pending — whatever follows `R`. -/
def Attaches (R : List Raw) (Pre : Nat → Prop) (N : Nat) (toks : List PTok) : Prop :=
  ∀ (pl ll : Nat) (more : List Raw), Pre pl →
    ∃ pl' ll', pl' < N ∧ attach (R ++ more) (some pl) [] ll = toks ++ attach more (some pl') [] ll'

theorem Attaches.append {R1 R2 : List Raw} {Pre : Nat → Prop} {M N : Nat} {t1 t2 : List PTok}
    (h1 : Attaches R1 Pre M t1) (h2 : Attaches R2 (· < M) N t2) : Attaches (R1 ++ R2) Pre N (t1 ++ t2) := by
  intro pl ll more hpre
  obtain ⟨pl1, ll1, hb1, e1⟩ := h1 pl ll (R2 ++ more) hpre
  obtain ⟨pl2, ll2, hb2, e2⟩ := h2 pl1 ll1 more hb1
  exact ⟨pl2, ll2, hb2, by rw [List.append_assoc, e1, e2, List.append_assoc]⟩

/-- the lines of a comment-free piece: `attach` gives their tokens and ends on one of them -/
theorem attach_lines : ∀ (ls : List String) (L : Nat), (∀ s ∈ ls, TokLine s ∧ NoNL s.toList) →
    Attaches (rawLines ls L) (· < L) (L + ls.length) (lexLines ls L)
  | [], L, _, pl, ll, more, hpl => ⟨pl, ll, by simpa using hpl, by simp [rawLines, lexLines]⟩
  | s :: r, L, h, pl, ll, more, hpl => by
    obtain ⟨ht, hn⟩ := h s (by simp)
    have h1 := attach_sameLine (lexL s.toList L) L pl ll (rawLines r (L + 1) ++ more) (lexL_tokLine s L ht hn)
    have hpl1 : (if (lexL s.toList L).isEmpty then pl else L) < L + 1 := by split <;> omega
    obtain ⟨pl', ll', hb, heq⟩ := attach_lines r (L + 1) (fun x hx => h x (by simp [hx])) _
      (if (lexL s.toList L).isEmpty then ll else L) more hpl1
    refine ⟨pl', ll', by simp only [List.length_cons]; omega, ?_⟩
    simp only [rawLines, lexLines, List.append_assoc]
    rw [h1, heq]
    rfl

/-- a comment-free piece: `attach` gives its tokens -/
theorem attach_piece (cmds : List Cmd) (h : TokCmds cmds) (g : Bool) (L : Nat) :
    Attaches (rawsC cmds g L) (· < L) (L + nLines cmds g) (toksOf cmds g L) := by
  unfold rawsC toksOf nLines
  apply attach_lines _ L
  apply exec_lines cmds g (fun s => TokLine s ∧ NoNL s.toList) ⟨tokLine_blank, by intro c hc; simp at hc⟩
  intro c hc
  have := h c hc
  cases c with
  | line s => exact this
  | endl s => exact this
  | gap => trivial

/-! ## a leading comment and the first line of the element below it -/

theorem rawLines_lead (n : Nat) : ∀ (xs : List String) (p : Nat), (∀ x ∈ xs, NoNL x.toList) →
    rawLines (xs.map (fun x => ind n ("//" ++ x))) p = (runFrom xs p).map (fun x => Raw.comment x.1 x.2)
  | [], _, _ => rfl
  | x :: r, p, h => by
    simp only [List.map_cons, rawLines, runFrom]
    rw [lexL_commentLine n x (h x (by simp)) p, rawLines_lead n r (p + 1) (fun y hy => h y (by simp [hy]))]
    rfl

theorem tokens_head {R : List Raw} {L : Nat} (h : ∀ r ∈ R, ∃ t, r = Raw.tok t L) {t : Grammar.Tok} {tl : List PTok}
    (hf : R.filterMap toP = T t L :: tl) : ∃ R1, R = Raw.tok t L :: R1 ∧ R1.filterMap toP = tl := by
  cases R with
  | nil => simp at hf
  | cons r R1 =>
    obtain ⟨t', rfl⟩ := h r (by simp)
    simp only [List.filterMap_cons, toP, List.cons.injEq, T, PTok.mk.injEq, and_true] at hf
    exact ⟨R1, by rw [hf.1], hf.2⟩

theorem attach_firstLine (c : String) (hc : CommentOk c) (p s pl ll : Nat) (s0 : String) (t : Grammar.Tok) (tl0 : List PTok)
    (more : List Raw) (hs : p + (commentBody c).length = s) (hpl : if c = "" then pl < s else pl + 1 < p)
    (htok : TokLine s0) (hnl : NoNL s0.toList) (hhead : lineToks s0 s = T t s :: tl0) :
    attach (leadRaws c p ++ (lexL s0.toList s ++ more)) (some pl) [] ll = hd c (lineToks s0 s) ++ attach more (some s) [] s := by
  have hall := lexL_tokLine s0 s htok hnl
  obtain ⟨R1, hR, hR1⟩ := tokens_head hall (by unfold lineToks at hhead; exact hhead)
  have hall1 : ∀ r ∈ R1, ∃ t, r = Raw.tok t s := fun r hr => hall r (by rw [hR]; simp [hr])
  have hrest := attach_sameLine R1 s s s more hall1
  simp only [ite_self] at hrest
  rw [hhead, hR]
  rcases hc with hc | hc
  · -- no comment
    subst hc
    have : commentBody "" = [] := by simp [commentBody]
    simp only [leadRaws, this, runFrom, List.map_nil, List.nil_append, List.cons_append, attach, attributeCm_nil]
    rw [hrest, hR1]
    rfl
  · obtain ⟨hne, hnoNL, hjoin⟩ := hc
    have hcne : c ≠ "" := by
      intro h0; subst h0; exact hne (by simp [commentBody])
    simp only [hcne, if_false] at hpl
    obtain ⟨x, xs, hxs⟩ := List.exists_cons_of_ne_nil hne
    have hs' : s = p + xs.length + 1 := by rw [← hs, hxs]; simp; omega
    subst hs'
    unfold leadRaws
    rw [hxs, List.cons_append, attach_leading pl p x xs t _ ll hpl, hrest, hR1, combine_run, ← hxs, hjoin]
    rfl

/-- the token before an element is on a line `pl` with a blank line between it and the element (line `s`) or its comment (from line `p`) -/
def leadPre (c : String) (p s pl : Nat) : Prop := if c = "" then pl < s else pl + 1 < p

theorem attach_first (c : String) (hc : CommentOk c) (p s : Nat) (s0 : String) (t : Grammar.Tok) (tl0 : List PTok)
    (hs : p + (commentBody c).length = s) (htok : TokLine s0) (hnl : NoNL s0.toList) (hhead : lineToks s0 s = T t s :: tl0) :
    Attaches (leadRaws c p ++ lexL s0.toList s) (leadPre c p s) (s + 1) (hd c (lineToks s0 s)) :=
  fun pl ll more hpl => ⟨s, s, Nat.lt_succ_self s, by
    rw [List.append_assoc]
    exact attach_firstLine c hc p s pl ll s0 t tl0 more hs hpl htok hnl hhead⟩

/-! ## the bridge: `attach` over the raw items of the printed elements gives `kT` -/

theorem hd_append_T (c : String) (t : Grammar.Tok) (l : Nat) (tl b : List PTok) :
    hd c ((T t l :: tl) ++ b) = hd c (T t l :: tl) ++ b := rfl

/-- a comment-free element below its leading comment -/
theorem bridge_tok (c : String) (hc : CommentOk c) (p s : Nat) (s0 : String) (B' : List Cmd)
    (hs : p + (commentBody c).length = s) (htk : TokCmds (Cmd.line s0 :: B')) (hhead : ∃ t tl, lineToks s0 s = T t s :: tl) :
    Attaches (leadRaws c p ++ rawsC (Cmd.line s0 :: B') false s) (leadPre c p s) (s + nLines (Cmd.line s0 :: B') false)
      (hd c (toksOf (Cmd.line s0 :: B') false s)) := by
  obtain ⟨t, tl, hh⟩ := hhead
  have h0 := htk (Cmd.line s0) (by simp)
  have := (attach_first c hc p s s0 t tl hs h0.1 h0.2 hh).append
    (attach_piece B' (fun x hx => htk x (by simp [hx])) false (s + 1))
  rw [rawsC_line, toksOf_lineCons, nLines_lineCons, ← Nat.add_assoc, ← List.append_assoc, hh, hd_append_T, ← hh]
  exact this

theorem body_first : ∀ (e : Item), Plain e → ∀ n, ∃ B', bodyCmds n e = Cmd.line (firstLine n e) :: B'
  | .field f, h, n => by
    simp only [Plain] at h
    rcases Plain.field_cases h with ⟨hp, hleaf⟩ | ⟨hp, ho⟩
    · have hpe : f.popts.isEmpty = true := by simp [hp]
      exact ⟨[], by simp only [firstLine, hpe, if_true]; exact fieldCmds_leaf n f hleaf⟩
    · have hpe : f.popts.isEmpty = false := by simpa using hp
      obtain ⟨l0, ls, hls⟩ := List.exists_cons_of_ne_nil (fieldLines_ne 0 f)
      refine ⟨(ls.map (ind n)).map Cmd.line, ?_⟩
      rw [fieldCmds_lines n f ho.loc, fieldLines_ind n f, hls]
      simp [firstLine, hpe, hls]
  | .rpc l i name inT outT os, h, n => by
    simp only [Plain] at h
    by_cases hemp : os.isEmpty = true
    · have : os = [] := by simpa using hemp
      subst this
      exact ⟨[Cmd.gap], by rw [rpcCmds_plain n l i name inT outT h.1]; simp [firstLine]⟩
    · have hne : os.isEmpty = false := by simpa using hemp
      refine ⟨((sortOpts os).map (optionCmds (n + 1))).flatten ++ ([Cmd.endl (ind n "}")] ++ [Cmd.gap]), ?_⟩
      rw [rpcCmds_opts n l i name inT outT os h.1 hne]
      simp only [firstLine, hne, Bool.false_eq_true, if_false]
      rfl
  | .block kw t l i name os kids, h, n => by
    simp only [Plain] at h
    rw [blockCmds_opts n kw t l i name os kids h.1]
    simp only [firstLine]
    split
    · exact ⟨[Cmd.gap], rfl⟩
    · exact ⟨_, rfl⟩

/-- what the gap of `printElements` and a leading comment write before an element -/
theorem lead_raws (n : Nat) (e : Item) (hl : e.loc.leadOnly) (hc : CommentOk e.loc.leading) (first : Bool) (le0 lt : Nat)
    (g : Bool) (L : Nat) :
    ∃ p, rawsC ((if gapBefore first le0 lt e = true then [Cmd.gap] else []) ++ leadingCmds n e.loc) g L =
        leadRaws e.loc.leading p ∧
      p + (commentBody e.loc.leading).length = kidS e first le0 lt L g ∧
      (if e.loc.leading = "" then L ≤ p else p = L + 1) := by
  unfold rawsC
  rw [lead_exec_eq n e hl hc]
  have hcb : commentBody "" = [] := by simp [commentBody]
  by_cases hlead : e.loc.leading = ""
  · exact ⟨kidS e first le0 lt L g, by simp [hlead, rawLines, leadRaws, hcb, runFrom], by simp [hlead, hcb],
      by simp only [hlead, if_true]; exact kidStart_ge _ _ _ _⟩
  · refine ⟨L + 1, ?_, by simp [kidS, kidStart, hlead], by simp [hlead]⟩
    rcases hc with hc | hc
    · exact absurd hc hlead
    · simp only [hlead, if_false, rawLines, lexL_blank, List.nil_append]
      unfold leadLines leadRaws
      exact rawLines_lead n _ _ hc.2.1

/-- an element whose lines are all its own (a field, a method): the comment goes to its first token -/
theorem bridge_whole (e : Item) (hp : Plain e) (ho : Own e) (n : Nat) (c : String) (hc : CommentOk c) (p s : Nat)
    (hs : p + (commentBody c).length = s) (hown : ownCmds n e = bodyCmds n e)
    (htoks : toksOf (bodyCmds n e) false s = itemToks n e s) :
    Attaches (leadRaws c p ++ rawsC (bodyCmds n e) false s) (leadPre c p s) (s + nLines (bodyCmds n e) false)
      (hd c (itemToks n e s)) := by
  obtain ⟨B', hB⟩ := body_first e hp n
  have hok := Own.ok _ ho
  have htk : TokCmds (bodyCmds n e) := hown ▸ hok.1 n
  rw [← htoks, hB]
  rw [hB] at htk
  exact bridge_tok c hc p s _ B' hs htk (hok.2 n s)

mutual
theorem bridge_item : ∀ (e : Item), Plain e → Own e → ∀ (n : Nat) (c : String), CommentOk c →
    ∀ (p s pl ll : Nat) (more : List Raw),
    p + (commentBody c).length = s → (if c = "" then pl < s else pl + 1 < p) →
    ∃ pl' ll', pl' < s + nLines (bodyCmds n e) false ∧
      attach (leadRaws c p ++ (rawsC (bodyCmds n e) false s ++ more)) (some pl) [] ll =
        hd c (itemToks n e s) ++ attach more (some pl') [] ll'
  | .field f, hp, ho, n, c, hc, p, s, pl, ll, more, hs, hpl => by
    rw [← List.append_assoc]
    exact bridge_whole _ hp ho n c hc p s hs rfl (lay_item (.field f) hp n false s).1 pl ll more hpl
  | .rpc l i name inT outT os, hp, ho, n, c, hc, p, s, pl, ll, more, hs, hpl => by
    rw [← List.append_assoc]
    exact bridge_whole _ hp ho n c hc p s hs rfl (lay_item (.rpc l i name inT outT os) hp n false s).1 pl ll more hpl
  | .block kw t l i name os kids, hp, ho, n, c, hc, p, s, pl, ll, more, hs, hpl => by
    have i2 := (lay_item (.block kw t l i name os kids) hp n false s).2.1
    simp only [Plain] at hp
    obtain ⟨hl, hbo, hk⟩ := hp
    simp only [Own] at ho
    obtain ⟨⟨htk, hfirst⟩, hok⟩ := ho
    have hown : ∀ x, x ∈ [Cmd.line (ind n (kw ++ " " ++ name ++ " {}")), Cmd.line (ind n (kw ++ " " ++ name ++ " {" ++ "")),
        Cmd.endl (ind n "}")] ++ ((sortOpts os).map (fun o => optionCmds (n + 1) o ++ [Cmd.gap])).flatten →
        match x with | .line s => TokLine s ∧ NoNL s.toList | .endl s => TokLine s ∧ NoNL s.toList | .gap => True :=
      fun x hx => htk n x (own_sub_block n kw t l i name os kids x hx)
    obtain ⟨t0, tl0, hh⟩ := hfirst n s
    rw [blockCmds_opts n kw t l i name os kids hl] at i2 ⊢
    by_cases hempty : (kids.isEmpty && os.isEmpty) = true
    · -- `kw name {}`
      simp only [hempty, if_true, itemToks, firstLine] at hh i2 ⊢
      have htk1 : TokCmds (Cmd.line (ind n (kw ++ " " ++ name ++ " {}")) :: [Cmd.gap]) := TokCmds.with_gap hown (by simp)
      have := bridge_tok c hc p s _ [Cmd.gap] hs htk1 ⟨t0, tl0, hh⟩ pl ll more hpl
      rw [toksOf_lineCons, List.append_assoc] at this
      simpa [toksOf_gap] using this
    · have hne : (kids.isEmpty && os.isEmpty) = false := by simpa using hempty
      simp only [hne, Bool.false_eq_true, if_false, itemToks, firstLine] at hh i2 ⊢
      have hassoc : ([Cmd.line (ind n (kw ++ " " ++ name ++ " {" ++ ""))] ++
            (((sortOpts os).map (fun o => optionCmds (n + 1) o ++ [Cmd.gap])).flatten ++
              (elemsCmds (n + 1) kids true 0 0 ++ [Cmd.endl (ind n "}")])) ++ [Cmd.gap]) =
          Cmd.line (ind n (kw ++ " " ++ name ++ " {" ++ "")) ::
            (((sortOpts os).map (fun o => optionCmds (n + 1) o ++ [Cmd.gap])).flatten ++
              (elemsCmds (n + 1) kids true 0 0 ++ [Cmd.endl (ind n "}"), Cmd.gap])) := by
        simp [List.append_assoc]
      rw [hassoc] at i2 ⊢
      obtain ⟨o1, o2, o3⟩ := lay_opts n os s
      obtain ⟨k2, k3⟩ := lay_kids kids hk (n + 1) true 0 0 (!os.isEmpty) (s + 1 + optSpan os)
      -- the four pieces: the opening line below the comment, the options, the children, the closing line
      have hhdr := hown (Cmd.line (ind n (kw ++ " " ++ name ++ " {" ++ ""))) (by simp)
      have a1 := attach_first c hc p s _ t0 tl0 hs hhdr.1 hhdr.2 hh
      have a2 := attach_piece ((sortOpts os).map (fun o => optionCmds (n + 1) o ++ [Cmd.gap])).flatten
        (fun x hx => hown x (List.mem_append_right _ hx)) false (s + 1)
      have a3 := bridge_kids kids hk hok (n + 1) true 0 0 (!os.isEmpty) (s + 1 + optSpan os)
      have a4 := attach_piece [Cmd.endl (ind n "}"), Cmd.gap] (TokCmds.with_gap hown (by simp)) (endFlag kids (!os.isEmpty)) (rdKids kids true 0 0 (s + 1 + optSpan os) (!os.isEmpty)).2
      rw [o1, o2] at a2
      rw [k2] at a3
      have htc : toksOf [Cmd.endl (ind n "}"), Cmd.gap] (endFlag kids (!os.isEmpty))
          (rdKids kids true 0 0 (s + 1 + optSpan os) (!os.isEmpty)).2 =
          lineToks (ind n "}") (rdKids kids true 0 0 (s + 1 + optSpan os) (!os.isEmpty)).2 := by
        simp [toksOf, exec, lexLines]
      have hnc : nLines [Cmd.endl (ind n "}"), Cmd.gap] (endFlag kids (!os.isEmpty)) = 1 := by simp [nLines, exec]
      rw [htc, hnc] at a4
      obtain ⟨pl', ll', hb, heq⟩ := (a1.append (a2.append (a3.append a4))) pl ll more hpl
      refine ⟨pl', ll', ?_, ?_⟩
      · simp only [rdItem, hne, Bool.false_eq_true, if_false, startLine] at i2
        omega
      · rw [rawsC_line, rawsC_append, rawsC_append, o2, o3, k3, k2, hh]
        rw [hh] at heq
        simpa only [List.append_assoc, List.cons_append, T, hd_cons] using heq
theorem bridge_kids : ∀ (es : List Item), PlainList es → OwnList es → ∀ (n : Nat) (first : Bool) (le0 lt : Nat) (g : Bool)
    (L : Nat), Attaches (rawsC (elemsCmds n es first le0 lt) g L) (· < L) (L + nLines (elemsCmds n es first le0 lt) g)
      (kT n es first le0 lt g L)
  | [], _, _, n, first, le0, lt, g, L, pl, ll, more, hpl =>
    ⟨pl, ll, by simpa [elemsCmds, nLines, exec] using hpl, by simp [elemsCmds, rawsC, exec, rawLines, kT_nil]⟩
  | e :: r, hp, ho, n, first, le0, lt, g, L, pl, ll, more, hpl => by
    simp only [PlainList] at hp
    obtain ⟨he, hc, hr⟩ := hp
    simp only [OwnList] at ho
    have hP := lead_exec n e (Plain.loc e he) hc first le0 lt g L
    obtain ⟨p, hraw, hps, hpp⟩ := lead_raws n e (Plain.loc e he) hc first le0 lt g L
    obtain ⟨B', hB⟩ := body_first e he n
    rw [elemsCmds_cons, kT_cons]
    generalize hPd : (if gapBefore first le0 lt e = true then [Cmd.gap] else []) ++ leadingCmds n e.loc = P at hP hraw ⊢
    obtain ⟨_, i2, i3⟩ := lay_item e he n (exec P g).2 (L + nLines P g)
    obtain ⟨_, j2, j3⟩ := lay_item e he n false (kidS e first le0 lt L g)
    rw [hP] at i2
    simp only [startLine, Bool.false_eq_true, if_false] at j2
    have hsplit : rawsC (P ++ bodyCmds n e ++ elemsCmds n r false e.loc.endLine e.typeOrder) g L =
        leadRaws e.loc.leading p ++ (rawsC (bodyCmds n e) false (kidS e first le0 lt L g) ++
          rawsC (elemsCmds n r false e.loc.endLine e.typeOrder) e.gapEnder (rdItem e (kidS e first le0 lt L g)).2) := by
      rw [List.append_assoc, rawsC_append, hraw]
      congr 1
      rw [hB, List.cons_append, rawsC_start, hP, ← List.cons_append, ← hB, rawsC_append, j3, j2]
    rw [hsplit]
    simp only [List.append_assoc]
    have hpl' : if e.loc.leading = "" then pl < kidS e first le0 lt L g else pl + 1 < p := by
      split
      · rename_i h0
        simp only [h0, if_true] at hpp
        have : commentBody "" = [] := by simp [commentBody]
        rw [h0, this] at hps
        simp only [List.length_nil, Nat.add_zero] at hps
        omega
      · rename_i h0
        simp only [h0, if_false] at hpp
        omega
    obtain ⟨pl1, ll1, hb1, heq1⟩ := bridge_item e he ho.1 n e.loc.leading hc p (kidS e first le0 lt L g) pl ll
      (rawsC (elemsCmds n r false e.loc.endLine e.typeOrder) e.gapEnder (rdItem e (kidS e first le0 lt L g)).2 ++ more) hps hpl'
    rw [heq1]
    rw [j2] at hb1
    obtain ⟨pl2, ll2, hb2, heq2⟩ := bridge_kids r hr ho.2 n false e.loc.endLine e.typeOrder e.gapEnder
      (rdItem e (kidS e first le0 lt L g)).2 pl1 ll1 more hb1
    rw [heq2]
    refine ⟨pl2, ll2, ?_, by simp only [List.append_assoc]⟩
    simp only [nLines_append, exec_append_snd, i3]
    omega
end

/-- `syntax` (line 2; `// gen` is line 0) is the one token that is not a `T`: the scanner attributes the `// gen` line to it
as a comment, whatever `gen` is — hence `cm0` and the header tokens without their first -/
theorem lex_text (gen : String) (t : FileD) (h : SimpleFile gen t) :
    ∃ (cm0 : Cm) (N : Nat), lex (String.join ((run (fileCmds gen t) false).map (· ++ "\n"))) =
      ⟨.ident "syntax", 2, cm0⟩ :: ((toksOf (hdCmds t) false 2).drop 1 ++
        (kT 0 t.items true 0 0 true (itemsStart t) ++ [T .eof N])) := by
  have hplain := SimpleTops.plain _ h.items
  have hownl := SimpleTops.own _ h.items
  have htokH := hdCmds_tok gen t h
  -- no line holds a line break
  have hnl1 : ∀ s ∈ (exec (restCmds t) false).1, NoNL s.toList := by
    rw [restCmds_eq]
    apply exec_lines _ _ (fun s => NoNL s.toList) (noNL_of_all "" (by decide))
    have := CmdsNoNL.append htokH.noNL (elems_noNL t.items hplain hownl 0 true 0 0)
    intro c hc
    have h1 := this c hc
    cases c with
    | line s => exact h1
    | endl s => exact h1
    | gap => trivial
  have hgen : NoNL ("// " ++ gen).toList := by
    simp only [String.toList_append]
    intro c hc
    rcases List.mem_append.mp hc with h1 | h1
    · exact noNL_of_all "// " (by decide) c h1
    · exact h.gen c h1
  have hall : ∀ s ∈ run (fileCmds gen t) false, NoNL s.toList := by
    rw [lines_simple gen t h]
    intro s hs
    simp only [List.mem_cons] at hs
    rcases hs with rfl | rfl | hs
    · exact hgen
    · exact noNL_of_all "" (by decide)
    · exact hnl1 s hs
  unfold lex
  rw [lexAux_eq_lexL _ _ _ (by omega), text_toList, lexL_text _ 0 hall, lines_simple gen t h]
  have hfirst : lexL ("// " ++ gen).toList 0 = [.comment (String.ofList (' ' :: gen.toList)) 0] := by
    have : ("// " ++ gen).toList = '/' :: '/' :: (' ' :: gen.toList) := by
      simp only [String.toList_append]; rfl
    rw [this]
    apply lexL_comment
    intro c hc
    rcases List.mem_cons.mp hc with h1 | h1
    · rw [h1]; decide
    · exact h.gen c h1
  have hblank := lexL_blank 1
  -- the raw items of everything below the generator comment
  have hrest : rawLines (exec (restCmds t) false).1 2 =
      rawsC (hdCmds t) false 2 ++ rawsC (elemsCmds 0 t.items true 0 0) true (itemsStart t) := by
    have := rawsC_append (hdCmds t) (elemsCmds 0 t.items true 0 0) false 2
    rw [(exec_hdCmds t).1, (exec_hdCmds t).2, ← restCmds_eq] at this
    exact this
  -- the header starts with `syntax`
  obtain ⟨Hd', hHd⟩ : ∃ Hd', hdCmds t = Cmd.line syntaxLine :: Hd' := ⟨_, rfl⟩
  have hsyn : rawsC (hdCmds t) false 2 =
      .tok (.ident "syntax") 2 :: ([.tok (.sym '=') 2, .tok (.str "\"proto3\"") 2, .tok (.sym ';') 2] ++ rawsC Hd' false 3) := by
    rw [hHd, rawsC_line, syntaxLine, lexL_syntax]
    rfl
  -- the header through `attach`, then the elements
  obtain ⟨pl1, ll1, hb1, heq1⟩ := attach_piece (hdCmds t) htokH false 2 0 0
    (rawsC (elemsCmds 0 t.items true 0 0) true (itemsStart t) ++ []) (by omega)
  rw [(exec_hdCmds t).2] at hb1
  obtain ⟨pl2, ll2, _, heq2⟩ := bridge_kids t.items hplain hownl 0 true 0 0 true (itemsStart t) pl1 ll1 [] hb1
  rw [heq2] at heq1
  have htoksH : toksOf (hdCmds t) false 2 = T (.ident "syntax") 2 :: (toksOf (hdCmds t) false 2).drop 1 := by
    rw [toksOf_hdCmds]
    unfold syntaxLine
    rw [lineToks_syntax]
    rfl
  rw [hsyn, htoksH] at heq1
  simp only [List.cons_append, List.nil_append, List.append_assoc, List.append_nil, attach, attributeCm_nil] at heq1
  have heq3 := (List.cons.inj heq1).2
  simp only [rawLines, hfirst, hblank, List.nil_append, List.cons_append, hrest, hsyn, attach, List.append_assoc,
    List.append_nil, attributeCm_nil]
  refine ⟨attributeCm none [(String.ofList (' ' :: gen.toList), 0)] (Grammar.Tok.ident "syntax") 2, ll2 + 1, ?_⟩
  congr 1

end J5V.Print.Reparse
