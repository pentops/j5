/-!
# C05 kernel 4 — ordering of printed elements and options (core only)

`less` mirrors `sourceElements.Less` (`/repo/internal/j5s/protoprint/elements.go`), `locLess`
mirrors `optionsByLocation.Less` (`optionreflect/builder.go`), `nameLess` the comparison
function of `slices.SortFunc` in `optionsFor` (`options.go`: Go's `<` on strings = bytewise
lexicographic). `isort` is the sort of the models (options, imports: `Layout.sortOpts`, `sortImports`); the Go side sorts with
`sort.Sort` / `slices.SortFunc` (pdqsort, unstable), whose result is only determined by the
comparison when that is a strict weak order with no ties — see `J5V.Props.C05`.
-/
namespace J5V.Print.Order

structure Elem where
  typeOrder : Nat    -- 0 service / field-like, 1 message, 2 enum
  startLine : Nat    -- SourceLocation.StartLine, 0 when there is no location
  index : Nat        -- Descriptor.Index()
  deriving DecidableEq, Repr

/-- `sourceElements.Less` -/
def less (a b : Elem) : Bool :=
  if a.startLine = 0 ∨ b.startLine = 0 then
    if a.typeOrder ≠ b.typeOrder then a.typeOrder < b.typeOrder else a.index < b.index
  else a.startLine < b.startLine

/-- bytewise lexicographic `<` (Go string comparison) -/
def nameLess : List Nat → List Nat → Bool
  | [], [] => false
  | [], _ :: _ => true
  | _ :: _, [] => false
  | a :: as, b :: bs => if a < b then true else if b < a then false else nameLess as bs

structure OptLoc where
  hasLoc : Bool      -- SourceLocation != nil
  startLine : Nat
  index : Nat        -- Desc.Index()
  name : List Nat    -- Desc.FullName()
  deriving DecidableEq, Repr

/-- `optionsByLocation.lessByDeclaration` (fix 3895d68: the full name breaks index ties) -/
def declLess (a b : OptLoc) : Bool :=
  if a.index ≠ b.index then a.index < b.index else nameLess a.name b.name

/-- `optionsByLocation.Less` -/
def locLess (a b : OptLoc) : Bool :=
  if !a.hasLoc ∨ !b.hasLoc then declLess a b
  else if a.startLine = 0 ∨ b.startLine = 0 then declLess a b
  else a.startLine < b.startLine

def insertBy {α} (lt : α → α → Bool) (x : α) : List α → List α
  | [] => [x]
  | y :: ys => if lt x y then x :: y :: ys else y :: insertBy lt x ys

/-- insertion sort -/
def isort {α} (lt : α → α → Bool) : List α → List α
  | [] => []
  | x :: xs => insertBy lt x (isort lt xs)

/-- the situation in which the printer's element order is well defined: either every element has a
source line or none has -/
def uniformLines (es : List Elem) : Bool :=
  es.all (fun e => e.startLine ≠ 0) || es.all (fun e => e.startLine = 0)

/-- no two elements compare equal -/
def noTies {α} (lt : α → α → Bool) : List α → Bool
  | [] => true
  | x :: xs => xs.all (fun y => lt x y || lt y x) && noTies lt xs

end J5V.Print.Order
