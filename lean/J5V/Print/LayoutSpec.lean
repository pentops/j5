import J5V.Print.Layout
/-!
# Definitions the statements about `Layout` use (core only)

The line buffer with its final gap flag (`exec`, `Equiv`), descriptors without comments (`quiet`) or with leading comments
only (`quietL`), and a descriptor read back from the printed text of an arranged one (`relaid…`, `relaid…L`). No lemma here, so
that the tests the driver runs (`Cover`) import no proof; lemmas: `LayoutProofs`, `LayoutComments`.
-/
namespace J5V.Print.Layout
open J5V.Print.OptionText J5V.Print.Order

/-- `run` together with the final state of the `addGap` flag -/
def exec : List Cmd → Bool → List String × Bool
  | [], g => ([], g)
  | .gap :: r, _ => exec r true
  | .line s :: r, g => ((if g then ["", s] else [s]) ++ (exec r false).1, (exec r false).2)
  | .endl s :: r, _ => (s :: (exec r false).1, (exec r false).2)

/-- two command lists that no context can tell apart -/
def Equiv (a b : List Cmd) : Prop := ∀ g, exec a g = exec b g

def Loc.isNone (l : Loc) : Prop :=
  l.startLine = 0 ∧ l.endLine = 0 ∧ l.detached = [] ∧ l.leading = "" ∧ l.trailing = ""

def Loc.noComments (l : Loc) : Prop := l.detached = [] ∧ l.leading = "" ∧ l.trailing = ""

/-- no comments, no option with a source location of its own; the element itself may have a location (lines) -/
def FieldD.quiet (f : FieldD) : Prop := f.loc.noComments ∧ ∀ o ∈ f.opts, o.hasLoc = false

mutual
/-- no comment anywhere and no located option (what `j5convert` produces for a schema without descriptions, and
any descriptor built without `SourceCodeInfo`); the elements may carry source lines -/
def Item.quiet : Item → Prop
  | .field f => f.quiet
  | .rpc l _ _ _ _ os => l.noComments ∧ ∀ o ∈ os, o.hasLoc = false
  | .block _ _ l _ _ os ks => l.noComments ∧ (∀ o ∈ os, o.hasLoc = false) ∧ quietList ks
def quietList : List Item → Prop
  | [] => True
  | x :: r => x.quiet ∧ quietList r
end

def FileD.quiet (f : FileD) : Prop :=
  f.loc.noComments ∧ (∀ o ∈ f.opts, o.hasLoc = false) ∧ (∀ e ∈ f.exts, e.2.quiet) ∧ quietList f.items

/-- the same option (name, values of the statements up to the keys the text does not carry) with a
source location under which the printer decides as without one: a statement that can be written on
one line was on one line -/
def optOk (o o' : SOpt) : Prop :=
  o'.name = o.name ∧ o'.stmts.map eraseKeys = o.stmts.map eraseKeys ∧
  (∀ v ∈ o.stmts, inlineString true v ≠ none → o'.single = true)

/-- the same options (in the same wire order) whose locations keep the order of the statements -/
def optsOk (os os' : List SOpt) : Prop :=
  os.length = os'.length ∧ (∀ p ∈ os.zip os', optOk p.1 p.2) ∧
  (∀ p ∈ os.zip os', ∀ q ∈ os.zip os', locLess p.2.loc q.2.loc = locLess p.1.loc q.1.loc)

def fieldOk (f f' : FieldD) : Prop :=
  f'.kind = f.kind ∧ f'.label = f.label ∧ f'.type = f.type ∧ f'.name = f.name ∧ f'.number = f.number ∧
  f'.json = f.json ∧ f'.loc.noComments ∧
  f.opts.length = f'.opts.length ∧ (∀ p ∈ f.opts.zip f'.opts, optOk p.1 p.2) ∧
  -- a single option written in line with the field was in line with the field
  (∀ p, f.popts = [p] → p.inl ≠ none → ∀ o' ∈ f'.opts, o'.inl = true)

/-- `printElements` adds a gap after these -/
def Item.gapEnder : Item → Bool
  | .field _ => false
  | _ => true

mutual
/-- `relaid e e'`: `e'` is `e` with locations as in the printed text -/
def relaid : Item → Item → Prop
  | .field f, .field f' => fieldOk f f'
  | .rpc _ _ nm a b os, .rpc l' _ nm' a' b' os' => nm' = nm ∧ a' = a ∧ b' = b ∧ l'.noComments ∧ optsOk os os'
  | .block kw t _ _ nm os ks, .block kw' t' l' _ nm' os' ks' =>
    kw' = kw ∧ t' = t ∧ nm' = nm ∧ l'.noComments ∧ optsOk os os' ∧ relaidKids true false 0 0 0 0 ks ks'
  | _, _ => False
/-- the children in printed order: start lines increase, and `printElements` asks for a gap before an
element of the reading exactly where it asks for one before the element it was printed from — or a gap
is pending anyway (after a block or a method: `pg`). `lastEnd` is the end of the previous element of
the reading, `lastEnd0` that of the previous element of the original (0 without source location). -/
def relaidKids (first pg : Bool) (prevStart lastEnd lastEnd0 lastType : Nat) : List Item → List Item → Prop
  | [], [] => True
  | e :: r, e' :: r' =>
    relaid e e' ∧ prevStart < e'.loc.startLine ∧
    (gapCond first lastEnd e'.loc.startLine e.typeOrder lastType = true →
      pg = true ∨ gapCond first lastEnd0 e.loc.startLine e.typeOrder lastType = true) ∧
    (gapCond first lastEnd0 e.loc.startLine e.typeOrder lastType = true →
      pg = true ∨ gapCond first lastEnd e'.loc.startLine e.typeOrder lastType = true) ∧
    relaidKids false e.gapEnder e'.loc.startLine e'.loc.endLine e.loc.endLine e.typeOrder r r'
  | _, _ => False
end

/-- the file `d'` is the arranged comment-free file `t` with locations as in the printed text -/
def relaidFile (t d' : FileD) : Prop :=
  d'.pkg = t.pkg ∧ d'.imports = sortImports t.imports ∧ sortImports d'.imports = d'.imports ∧ d'.loc.noComments ∧
  optsOk t.opts d'.opts ∧
  t.exts.length = d'.exts.length ∧ (∀ p ∈ t.exts.zip d'.exts, p.2.1 = p.1.1 ∧ fieldOk p.1.2 p.2.2) ∧
  relaidKids true false 0 0 0 0 t.items d'.items

/-- at most a leading comment -/
def Loc.leadOnly (l : Loc) : Prop := l.detached = [] ∧ l.trailing = ""

/-- the reading's location of an element: at most a leading comment, the one of the original -/
def Loc.sameLead (l l' : Loc) : Prop := l'.detached = [] ∧ l'.trailing = "" ∧ l'.leading = l.leading

def FieldD.quietL (f : FieldD) : Prop := f.loc.leadOnly ∧ ∀ o ∈ f.opts, o.hasLoc = false

mutual
/-- no detached / trailing comment anywhere and no located option; leading comments and source lines allowed -/
def Item.quietL : Item → Prop
  | .field f => f.quietL
  | .rpc l _ _ _ _ os => l.leadOnly ∧ ∀ o ∈ os, o.hasLoc = false
  | .block _ _ l _ _ os ks => l.leadOnly ∧ (∀ o ∈ os, o.hasLoc = false) ∧ quietListL ks
def quietListL : List Item → Prop
  | [] => True
  | x :: r => x.quietL ∧ quietListL r
end

/-- the file itself (the location of the whole file) has no comment; its elements may have leading comments -/
def FileD.quietL (f : FileD) : Prop :=
  f.loc.noComments ∧ (∀ o ∈ f.opts, o.hasLoc = false) ∧ (∀ e ∈ f.exts, e.2.quietL) ∧ quietListL f.items

/-- `fieldOk` with the leading comment kept -/
def fieldOkL (f f' : FieldD) : Prop :=
  f'.kind = f.kind ∧ f'.label = f.label ∧ f'.type = f.type ∧ f'.name = f.name ∧ f'.number = f.number ∧
  f'.json = f.json ∧ Loc.sameLead f.loc f'.loc ∧
  f.opts.length = f'.opts.length ∧ (∀ p ∈ f.opts.zip f'.opts, optOk p.1 p.2) ∧
  (∀ p, f.popts = [p] → p.inl ≠ none → ∀ o' ∈ f'.opts, o'.inl = true)

mutual
/-- `relaid` with leading comments: `e'` is `e` with locations as in the printed text and the same leading comment -/
def relaidL : Item → Item → Prop
  | .field f, .field f' => fieldOkL f f'
  | .rpc l _ nm a b os, .rpc l' _ nm' a' b' os' => nm' = nm ∧ a' = a ∧ b' = b ∧ Loc.sameLead l l' ∧ optsOk os os'
  | .block kw t l _ nm os ks, .block kw' t' l' _ nm' os' ks' =>
    kw' = kw ∧ t' = t ∧ nm' = nm ∧ Loc.sameLead l l' ∧ optsOk os os' ∧ relaidKidsL true false 0 0 0 0 ks ks'
  | _, _ => False
/-- `relaidKids`; the gap clause is asked only of elements without a leading comment (the printer writes a gap
before a leading comment unconditionally) -/
def relaidKidsL (first pg : Bool) (prevStart lastEnd lastEnd0 lastType : Nat) : List Item → List Item → Prop
  | [], [] => True
  | e :: r, e' :: r' =>
    relaidL e e' ∧ prevStart < e'.loc.startLine ∧
    (gapCond first lastEnd e'.loc.startLine e.typeOrder lastType = true →
      pg = true ∨ gapCond first lastEnd0 e.loc.startLine e.typeOrder lastType = true ∨ e.loc.leading ≠ "") ∧
    (gapCond first lastEnd0 e.loc.startLine e.typeOrder lastType = true →
      pg = true ∨ gapCond first lastEnd e'.loc.startLine e.typeOrder lastType = true ∨ e.loc.leading ≠ "") ∧
    relaidKidsL false e.gapEnder e'.loc.startLine e'.loc.endLine e.loc.endLine e.typeOrder r r'
  | _, _ => False
end

def relaidFileL (t d' : FileD) : Prop :=
  d'.pkg = t.pkg ∧ d'.imports = sortImports t.imports ∧ sortImports d'.imports = d'.imports ∧ d'.loc.noComments ∧
  optsOk t.opts d'.opts ∧
  t.exts.length = d'.exts.length ∧ (∀ p ∈ t.exts.zip d'.exts, p.2.1 = p.1.1 ∧ fieldOkL p.1.2 p.2.2) ∧
  relaidKidsL true false 0 0 0 0 t.items d'.items

end J5V.Print.Layout

namespace J5V.Print.Layout

def Loc.withLead (c : String) (l : Loc) : Loc := { l with leading := c }

def FieldD.withLead (c : String) (f : FieldD) : FieldD := { f with loc := f.loc.withLead c }

/-- the element with the leading comment `c` -/
def Item.withLead (c : String) : Item → Item
  | .field f => .field (f.withLead c)
  | .rpc l i a b d os => .rpc (l.withLead c) i a b d os
  | .block kw t l i nm os ks => .block kw t (l.withLead c) i nm os ks

end J5V.Print.Layout
