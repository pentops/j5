import J5V.Print.ReparseBridge
import J5V.Print.ReparseProofs
import J5V.Print.ReparseRelaid
/-!
# `parseFile (printText gen t) = some (rdFile t)` for simple files (core only)
-/
namespace J5V.Print.Reparse
open J5V.Print J5V.Print.Grammar J5V.Print.Layout J5V.Print.OptionText J5V.Print.Scalar


/-- **The grammar model reads the printed text of a simple file back as that file**, with the
source lines of the text. -/
theorem parse_print (gen : String) (t : FileD) (h : SimpleFile gen t) :
    parseFile (String.join ((run (fileCmds gen t) false).map (· ++ "\n"))) = some (rdFile t) := by
  obtain ⟨cm0, N, hlex⟩ := lex_text gen t h
  obtain ⟨first, rest, hf, hr, hpkg⟩ := h.pkg
  have hI : ∀ i ∈ sortImports t.imports, PlainBody i.1.toList ∧ (i.2 = "" ∨ i.2 = "public " ∨ i.2 = "weak ") :=
    fun i hi => h.imports i (sortImports_mem t i hi)
  have hX := toksOf_hdCmds t
  have hsyn : lineToks syntaxLine 2 =
      [T (.ident "syntax") 2, T (.sym '=') 2, T (.str "\"proto3\"") 2, T (.sym ';') 2] := lineToks_syntax 2
  have hpk : lineToks (packageLine t) 4 = T (.ident "package") 4 :: (tyToks false first rest 4 ++ [T (.sym ';') 4]) := by
    unfold packageLine; rw [hpkg]; exact lineToks_package first rest 4 hf hr
  rw [hsyn, hpk] at hX
  have hdrop : (toksOf (hdCmds t) false 2).drop 1 ++ (kT 0 t.items true 0 0 true (itemsStart t) ++ [T .eof N]) =
      T (.sym '=') 2 :: T (.str "\"proto3\"") 2 :: T (.sym ';') 2 ::
        (T (.ident "package") 4 :: (tyToks false first rest 4 ++ T (.sym ';') 4 ::
          (lexLines ((sortImports t.imports).map importLine) 6 ++
            (kT 0 t.items true 0 0 true (itemsStart t) ++ [T .eof N])))) := by
    rw [hX]; simp
  have hc1 := count_tops t.items h.items 0 true 0 0 (itemsStart t) true
  have hc2 := lexLines_imports_length (sortImports t.imports) 6 hI
  have hlenI : (sortImports t.imports).length = t.imports.length := (sortImports_perm t.imports).length_eq
  unfold parseFile
  simp only [hlex, hdrop]
  have hlen : t.items.length + needAll t.items + (sortImports t.imports).length + 3 ≤
      (⟨Grammar.Tok.ident "syntax", 2, cm0⟩ :: T (.sym '=') 2 :: T (.str "\"proto3\"") 2 :: T (.sym ';') 2 ::
        (T (.ident "package") 4 :: (tyToks false first rest 4 ++ T (.sym ';') 4 ::
          (lexLines ((sortImports t.imports).map importLine) 6 ++
            (kT 0 t.items true 0 0 true (itemsStart t) ++ [T .eof N]))))).length := by
    simp only [List.length_cons, List.length_append]
    omega
  generalize hL : (⟨Grammar.Tok.ident "syntax", 2, cm0⟩ :: T (.sym '=') 2 :: T (.str "\"proto3\"") 2 :: T (.sym ';') 2 ::
        (T (.ident "package") 4 :: (tyToks false first rest 4 ++ T (.sym ';') 4 ::
          (lexLines ((sortImports t.imports).map importLine) 6 ++
            (kT 0 t.items true 0 0 true (itemsStart t) ++ [T .eof N]))))).length = len at hlen
  obtain ⟨F5, hF5, hb⟩ : ∃ F5, len + 1 = ((((F5 + 1) + t.items.length) + (sortImports t.imports).length) + 1) + 1 ∧
      needAll t.items ≤ F5 + 1 :=
    ⟨len - t.items.length - (sortImports t.imports).length - 2, by omega, by omega⟩
  rw [hF5, topLevel_syntax, topLevel_package _ first rest 4 _ _ hf,
    top_imports (sortImports t.imports) 6 _ _ _ hI,
    top_tops t.items h.items true 0 0 (itemsStart t) true (F5 + 1) _ _ rfl hb, topLevel_eof]
  simp only [List.nil_append, rdFile, mkOpts, groupOpts, unlocateShared, List.map_nil, hpkg, if_true]

end J5V.Print.Reparse
