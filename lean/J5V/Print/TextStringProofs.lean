import J5V.Print.TextString
/-! Lemmas about `J5V.Print.TextString` (core only). -/
namespace J5V.Print.TextString

theorem isCont_iff (b : Nat) : isCont b = true ↔ 0x80 ≤ b ∧ b ≤ 0xBF := by
  unfold isCont; simp

/-- a continuation byte is `0x80` plus its six payload bits -/
theorem cont_payload {b : Nat} (h : 0x80 ≤ b ∧ b ≤ 0xBF) : ∃ y, y < 64 ∧ b = 0x80 + y ∧ b % 64 = y :=
  ⟨b % 64, Nat.mod_lt _ (by decide), by omega, rfl⟩

theorem digits64_two {x y : Nat} (hy : y < 64) : (x * 64 + y) / 64 = x ∧ (x * 64 + y) % 64 = y := by omega

theorem digits64_three {x y z : Nat} (hy : y < 64) (hz : z < 64) :
    (x * 4096 + y * 64 + z) / 4096 = x ∧ (x * 4096 + y * 64 + z) / 64 % 64 = y ∧
      (x * 4096 + y * 64 + z) % 64 = z := by omega

theorem digits64_four {x y z w : Nat} (hy : y < 64) (hz : z < 64) (hw : w < 64) :
    (x * 262144 + y * 4096 + z * 64 + w) / 262144 = x ∧ (x * 262144 + y * 4096 + z * 64 + w) / 4096 % 64 = y ∧
      (x * 262144 + y * 4096 + z * 64 + w) / 64 % 64 = z ∧ (x * 262144 + y * 4096 + z * 64 + w) % 64 = w := by omega

/-- a Unicode scalar value: at most U+10FFFF and no surrogate -/
def IsScalar (r : Nat) : Prop := r ≤ 0x10FFFF ∧ ¬ (0xD800 ≤ r ∧ r ≤ 0xDFFF)

theorem encodeRune_one {b0 : Nat} (h : b0 < 0x80) : encodeRune b0 = [b0] ∧ IsScalar b0 :=
  ⟨by simp only [encodeRune, h, if_true], by omega, by omega⟩

theorem encodeRune_two {b0 b1 : Nat} (h0 : 0xC2 ≤ b0 ∧ b0 ≤ 0xDF) (h1 : 0x80 ≤ b1 ∧ b1 ≤ 0xBF) :
    encodeRune (b0 % 32 * 64 + b1 % 64) = [b0, b1] ∧ IsScalar (b0 % 32 * 64 + b1 % 64) := by
  obtain ⟨y, hy, rfl, hm⟩ := cont_payload h1
  obtain ⟨x, hx, rfl, hm0⟩ : ∃ x, (2 ≤ x ∧ x < 32) ∧ b0 = 0xC0 + x ∧ b0 % 32 = x := ⟨b0 % 32, by omega, by omega, rfl⟩
  rw [hm, hm0]
  have h2 : 0x80 ≤ x * 64 + y := by omega
  have h3 : x * 64 + y < 0x800 := by omega
  obtain ⟨e1, e2⟩ := digits64_two (x := x) hy
  refine ⟨?_, by omega, by omega⟩
  simp only [encodeRune, Nat.not_lt.2 h2, h3, if_true, if_false, e1, e2]

theorem encodeRune_three {b0 b1 b2 : Nat} (h0 : 0xE0 ≤ b0 ∧ b0 ≤ 0xEF) (h1 : lo3 b0 ≤ b1 ∧ b1 ≤ hi3 b0)
    (h2 : 0x80 ≤ b2 ∧ b2 ≤ 0xBF) :
    encodeRune (b0 % 16 * 4096 + b1 % 64 * 64 + b2 % 64) = [b0, b1, b2] ∧
      IsScalar (b0 % 16 * 4096 + b1 % 64 * 64 + b2 % 64) := by
  have h1' : (0x80 ≤ b1 ∧ b1 ≤ 0xBF) ∧ (b0 = 0xE0 → 0xA0 ≤ b1) ∧ (b0 = 0xED → b1 ≤ 0x9F) := by
    unfold lo3 hi3 at h1; split at h1 <;> split at h1 <;> omega
  clear h1
  obtain ⟨z, hz, rfl, hm2⟩ := cont_payload h2
  obtain ⟨y, hy, rfl, hm1⟩ := cont_payload h1'.1
  obtain ⟨x, hx, rfl, hm0⟩ : ∃ x, x < 16 ∧ b0 = 0xE0 + x ∧ b0 % 16 = x := ⟨b0 % 16, by omega, by omega, rfl⟩
  rw [hm0, hm1, hm2]
  have h3 : 0x800 ≤ x * 4096 + y * 64 + z := by have := h1'.2.1; clear h1'; omega
  have h4 : x * 4096 + y * 64 + z < 0x10000 := by clear h1'; omega
  have h5 : ¬ (0xD800 ≤ x * 4096 + y * 64 + z ∧ x * 4096 + y * 64 + z ≤ 0xDFFF) := by
    have := h1'.2.2; clear h1'; omega
  have h6 : 0x80 ≤ x * 4096 + y * 64 + z := Nat.le_trans (by decide) h3
  have h8 : x * 4096 + y * 64 + z ≤ 0x10FFFF := Nat.le_trans (Nat.le_of_lt h4) (by decide)
  obtain ⟨e1, e2, e3⟩ := digits64_three (x := x) hy hz
  refine ⟨?_, h8, h5⟩
  simp only [encodeRune, Nat.not_lt.2 h6, Nat.not_lt.2 h3, Nat.not_lt.2 h8, h4, h5, e1, e2, e3, if_true, if_false,
    or_self]

theorem encodeRune_four {b0 b1 b2 b3 : Nat} (h0 : 0xF0 ≤ b0 ∧ b0 ≤ 0xF4) (h1 : lo4 b0 ≤ b1 ∧ b1 ≤ hi4 b0)
    (h2 : 0x80 ≤ b2 ∧ b2 ≤ 0xBF) (h3 : 0x80 ≤ b3 ∧ b3 ≤ 0xBF) :
    encodeRune (b0 % 8 * 262144 + b1 % 64 * 4096 + b2 % 64 * 64 + b3 % 64) = [b0, b1, b2, b3] ∧
      IsScalar (b0 % 8 * 262144 + b1 % 64 * 4096 + b2 % 64 * 64 + b3 % 64) := by
  have h1' : (0x80 ≤ b1 ∧ b1 ≤ 0xBF) ∧ (b0 = 0xF0 → 0x90 ≤ b1) ∧ (b0 = 0xF4 → b1 ≤ 0x8F) := by
    unfold lo4 hi4 at h1; split at h1 <;> split at h1 <;> omega
  clear h1
  obtain ⟨w, hw, rfl, hm3⟩ := cont_payload h3
  obtain ⟨z, hz, rfl, hm2⟩ := cont_payload h2
  obtain ⟨y, hy, rfl, hm1⟩ := cont_payload h1'.1
  obtain ⟨x, hx, rfl, hm0⟩ : ∃ x, x < 5 ∧ b0 = 0xF0 + x ∧ b0 % 8 = x := ⟨b0 % 8, by omega, by omega, rfl⟩
  rw [hm0, hm1, hm2, hm3]
  have h4 : 0x10000 ≤ x * 262144 + y * 4096 + z * 64 + w := by have := h1'.2.1; clear h1'; omega
  have h5 : x * 262144 + y * 4096 + z * 64 + w ≤ 0x10FFFF := by have := h1'.2.2; clear h1'; omega
  have h6 : 0x80 ≤ x * 262144 + y * 4096 + z * 64 + w := Nat.le_trans (by decide) h4
  have h7 : 0x800 ≤ x * 262144 + y * 4096 + z * 64 + w := Nat.le_trans (by decide) h4
  have h8 : ¬ (0xD800 ≤ x * 262144 + y * 4096 + z * 64 + w ∧ x * 262144 + y * 4096 + z * 64 + w ≤ 0xDFFF) :=
    fun h => absurd (Nat.le_trans h4 h.2) (by decide)
  obtain ⟨e1, e2, e3, e4⟩ := digits64_four (x := x) hy hz hw
  refine ⟨?_, h5, h8⟩
  simp only [encodeRune, Nat.not_lt.2 h6, Nat.not_lt.2 h7, Nat.not_lt.2 h5, Nat.not_lt.2 h4, h8, e1, e2, e3, e4,
    if_false, or_self]

/-- `decodeRune` accepts only encodings of scalar values, and `encodeRune` writes the same bytes back -/
theorem decodeRune_encode {l : List Nat} {r n : Nat} (h : decodeRune l = some (r, n)) :
    encodeRune r = l.take n ∧ IsScalar r := by
  fun_cases decodeRune l
  all_goals simp [decodeRune, *] at h
  all_goals obtain ⟨rfl, rfl⟩ := h
  · exact encodeRune_one ‹_›
  · exact encodeRune_two ‹_› ((isCont_iff _).1 ‹_›)
  · rename_i h; exact encodeRune_three ‹_› ⟨h.1, h.2.1⟩ ((isCont_iff _).1 h.2.2)
  · rename_i h; exact encodeRune_four ‹_› ⟨h.1, h.2.1⟩ ((isCont_iff _).1 h.2.2.1) ((isCont_iff _).1 h.2.2.2)

/-! ## hexadecimal: the reader's value of the digits the encoder writes -/

theorem hexVal_hexDigit {d : Nat} (h : d < 16) : hexVal (hexDigit d) = some d := by
  revert d; decide

theorem hexDigit_ne {d : Nat} (h : d < 16) : hexDigit d ≠ 34 ∧ hexDigit d ≠ 92 := by
  unfold hexDigit; split <;> omega

theorem hexFixed_length (r w : Nat) : (hexFixed r w).length = w := by
  induction w with
  | zero => rfl
  | succ w ih => simp [hexFixed, ih]

theorem hexFixed_ne (r w : Nat) : ∀ c ∈ hexFixed r w, c ≠ 34 ∧ c ≠ 92 := by
  induction w with
  | zero => simp [hexFixed]
  | succ w ih =>
    intro c hc
    rcases List.mem_cons.1 hc with rfl | hc
    · exact hexDigit_ne (Nat.mod_lt _ (by decide))
    · exact ih c hc

theorem hexVals_hexFixed (r w : Nat) : hexVals (hexFixed r w) = some (r % 16 ^ w) := by
  induction w with
  | zero => simp [hexFixed, hexVals, Nat.mod_one]
  | succ w ih =>
    simp only [hexFixed, hexVals, hexVal_hexDigit (Nat.mod_lt _ (by decide : 0 < 16)), ih, hexFixed_length]
    rw [Nat.mod_pow_succ, Nat.add_comm, Nat.mul_comm]

/-- leading zeros: below `16 ^ w` the digits beyond the `w`-th are `'0'` -/
theorem hexFixed_of_lt {r w : Nat} (h : r < 16 ^ w) (k : Nat) :
    hexFixed r (w + k) = List.replicate k 48 ++ hexFixed r w := by
  induction k with
  | zero => rfl
  | succ k ih =>
    have : r / 16 ^ (w + k) = 0 :=
      Nat.div_eq_of_lt (Nat.lt_of_lt_of_le h (Nat.pow_le_pow_right (by decide) (Nat.le_add_right w k)))
    rw [← Nat.add_assoc, hexFixed, this, ih]; rfl

/-- `hexWidth r` is the least positive number of digits that hold `r` (a rune has at most eight) -/
theorem lt_pow_hexWidth {r : Nat} (h : r < 16 ^ 8) : r < 16 ^ hexWidth r := by
  fun_cases hexWidth r
  all_goals assumption

theorem pow_pred_hexWidth_le {r : Nat} : 1 < hexWidth r → 16 ^ (hexWidth r - 1) ≤ r := by
  fun_cases hexWidth r
  · exact fun h => absurd h (by decide)
  all_goals exact fun _ => Nat.not_lt.1 ‹_›

theorem hexWidth_le {r W : Nat} (hW : 0 < W) (h : r < 16 ^ W) : hexWidth r ≤ W := by
  apply Nat.le_of_not_lt
  intro hlt
  have h1 := Nat.pow_le_pow_right (n := 16) (by decide) (Nat.le_sub_one_of_lt hlt)
  exact Nat.lt_irrefl _ (Nat.lt_of_le_of_lt (Nat.le_trans h1 (pow_pred_hexWidth_le (Nat.lt_of_le_of_lt hW hlt))) h)

/-- the pad string and `AppendUint` together write `r` with exactly `W` digits -/
theorem goHexPad_eq {W r : Nat} (hW : 0 < W) (hW8 : W ≤ 8) (hr : r < 16 ^ W) : goHexPad W r = hexFixed r W := by
  obtain ⟨k, hk⟩ := Nat.exists_eq_add_of_le (hexWidth_le hW hr)
  have h8 : r < 16 ^ 8 := Nat.lt_of_lt_of_le hr (Nat.pow_le_pow_right (by decide) hW8)
  rw [goHexPad, hk, Nat.add_sub_cancel_left, hexFixed_of_lt (lt_pow_hexWidth h8)]

/-! ## the reader on each piece the encoder emits -/

theorem unesc_ascii {c : Nat} (X : List Nat) (h1 : 32 ≤ c) (h2 : c < 127) (h3 : c ≠ 34) (h4 : c ≠ 92) :
    unescBody (c :: X) = (unescBody X).map (c :: ·) := by
  have hc : c < 0x80 := by omega
  have hd : decodeRune (c :: X) = some (c, 1) := by simp [decodeRune, hc]
  rw [unescBody.eq_def]
  split
  · simp at *
  · rename_i heq; simp at heq; omega
  · rename_i heq; simp at heq; omega
  · rename_i heq; simp at heq; omega
  · rename_i heq; simp at heq; omega
  · rename_i b t _ _ _ _ heq
    simp only [List.cons.injEq] at heq
    obtain ⟨rfl, rfl⟩ := heq
    split
    · rename_i r n hd'
      obtain ⟨rfl, rfl⟩ : c = r ∧ 1 = n := by simpa [hd] using hd'
      simp [encodeRune, hc]
    · rename_i hd'
      simp [hd] at hd'

/-- the two-character escapes the encoder uses (`escTable` of the source facts) -/
theorem unesc_simple {c v : Nat} (X : List Nat) (hc : (c, v) ∈ [(34, 34), (92, 92), (110, 10), (114, 13), (116, 9)]) :
    unescBody (92 :: c :: X) = (unescBody X).map (v :: ·) := by
  rw [unescBody.eq_def]
  simp only [List.mem_cons, Prod.mk.injEq, List.not_mem_nil, or_false] at hc
  rcases hc with ⟨rfl, rfl⟩ | ⟨rfl, rfl⟩ | ⟨rfl, rfl⟩ | ⟨rfl, rfl⟩ | ⟨rfl, rfl⟩ <;> simp [isOct]

theorem unesc_x {a b da db : Nat} (X : List Nat) (ha : a ≠ 34 ∧ a ≠ 92) (hva : hexVal a = some da)
    (hvb : hexVal b = some db) :
    unescBody (92 :: 120 :: a :: b :: X) = (unescBody X).map ((da * 16 + db) :: ·) := by
  rw [unescBody.eq_def]
  simp [ha, hva, hvb]

theorem unesc_hex2 {r : Nat} (X : List Nat) (h : r < 16 ^ 2) :
    unescBody (92 :: 120 :: goHexPad 2 r ++ X) = (unescBody X).map (r :: ·) := by
  have h1 : r / 16 ^ 1 % 16 < 16 := Nat.mod_lt _ (by decide)
  have h0 : r / 16 ^ 0 % 16 < 16 := Nat.mod_lt _ (by decide)
  have hv : r / 16 ^ 1 % 16 * 16 + r / 16 ^ 0 % 16 = r := by omega
  have := unesc_x X (hexDigit_ne h1) (hexVal_hexDigit h1) (hexVal_hexDigit h0)
  rw [hv] at this
  rw [goHexPad_eq (by decide) (by decide) h]
  exact this

theorem unesc_u {a b c d v : Nat} (X : List Nat) (hq : ∀ x ∈ [a, b, c, d], x ≠ 34 ∧ x ≠ 92)
    (hv : hexVals [a, b, c, d] = some v) :
    unescBody (92 :: 117 :: a :: b :: c :: d :: X) = (unescBody X).map (encodeRune v ++ ·) := by
  rw [unescBody.eq_def]
  simp only [List.mem_cons, List.not_mem_nil, or_false, forall_eq_or_imp, forall_eq] at hq
  simp [hq, hv, isOct]

theorem unesc_U {a b c d e f g h v : Nat} (X : List Nat) (hq : ∀ x ∈ [a, b, c, d, e, f, g, h], x ≠ 34 ∧ x ≠ 92)
    (hv : hexVals [a, b, c, d, e, f, g, h] = some v) (hmax : v ≤ 0x10ffff) :
    unescBody (92 :: 85 :: a :: b :: c :: d :: e :: f :: g :: h :: X) = (unescBody X).map (encodeRune v ++ ·) := by
  rw [unescBody.eq_def]
  simp only [List.mem_cons, List.not_mem_nil, or_false, forall_eq_or_imp, forall_eq] at hq
  simp [hq, hv, isOct, Nat.not_lt.2 hmax]

theorem unesc_hex4 {r : Nat} (X : List Nat) (h : r < 16 ^ 4) :
    unescBody (92 :: 117 :: goHexPad 4 r ++ X) = (unescBody X).map (encodeRune r ++ ·) := by
  have hv := hexVals_hexFixed r 4
  rw [Nat.mod_eq_of_lt h] at hv
  rw [goHexPad_eq (by decide) (by decide) h]
  exact unesc_u X (hexFixed_ne r 4) hv

theorem unesc_hex8 {r : Nat} (X : List Nat) (h : r ≤ 0x10ffff) :
    unescBody (92 :: 85 :: goHexPad 8 r ++ X) = (unescBody X).map (encodeRune r ++ ·) := by
  have h8 : r < 16 ^ 8 := Nat.lt_of_le_of_lt h (by decide)
  have hv := hexVals_hexFixed r 8
  rw [Nat.mod_eq_of_lt h8] at hv
  rw [goHexPad_eq (by decide) (by decide) h8]
  exact unesc_U X (hexFixed_ne r 8) hv h

/-- what `escStep` writes for a decoded rune -/
def escRune (r : Nat) : List Nat :=
  if r < 32 ∨ r = 34 ∨ r = 92 ∨ r = 0x7f then
    if r = 34 ∨ r = 92 then [92, r]
    else if r = 10 then [92, 110]
    else if r = 13 then [92, 114]
    else if r = 9 then [92, 116]
    else 92 :: 120 :: goHexPad 2 r
  else if 0x80 ≤ r then
    if r ≤ 0xFFFF then 92 :: 117 :: goHexPad 4 r
    else 92 :: 85 :: goHexPad 8 r
  else [r]

theorem escStep_fst (b0 : Nat) (t : List Nat) :
    (escStep (b0 :: t)).1 =
      match decodeRune (b0 :: t) with | none => 92 :: 120 :: goHexPad 2 b0 | some (r, _) => escRune r := by
  simp only [escStep]
  cases decodeRune (b0 :: t) with
  | none => rfl
  | some p => simp only [apply_ite Prod.fst, escRune]

/-- the reader undoes the escape of every rune it accepts -/
theorem unesc_escRune {r : Nat} (X : List Nat) (h : r ≤ 0x10FFFF) :
    unescBody (escRune r ++ X) = (unescBody X).map (encodeRune r ++ ·) := by
  fun_cases escRune r
  case case1 _ hq => rcases hq with rfl | rfl <;> exact unesc_simple X (by decide)
  case case2 hr => subst hr; exact unesc_simple X (by decide)
  case case3 hr => subst hr; exact unesc_simple X (by decide)
  case case4 hr => subst hr; exact unesc_simple X (by decide)
  case case5 =>
    have hr : r < 0x80 ∧ r < 16 ^ 2 := by omega
    rw [(encodeRune_one hr.1).1]
    exact unesc_hex2 X hr.2
  case case6 => exact unesc_hex4 X (by omega)
  case case7 => exact unesc_hex8 X h
  case case8 =>
    have hr : r < 0x80 ∧ 32 ≤ r ∧ r < 127 ∧ r ≠ 34 ∧ r ≠ 92 := by omega
    rw [(encodeRune_one hr.1).1]
    exact unesc_ascii X hr.2.1 hr.2.2.1 hr.2.2.2.1 hr.2.2.2.2

/-- one loop iteration of the encoder is undone by the reader, whatever follows -/
theorem unesc_escStep (b0 : Nat) (t X : List Nat) (hb : b0 < 256) :
    unescBody ((escStep (b0 :: t)).1 ++ X) =
      (unescBody X).map ((b0 :: t).take (escStep (b0 :: t)).2 ++ ·) := by
  rw [escStep_fst, escStep_snd]
  cases hd : decodeRune (b0 :: t) with
  | none => exact unesc_hex2 X hb
  | some p =>
    obtain ⟨henc, hs⟩ := decodeRune_encode hd
    rw [← henc]
    exact unesc_escRune X hs.1

/-- the body of the literal, closed by its quote, reads back as the bytes it was made from -/
theorem unesc_escBody (s : List Nat) (hb : IsBytes s) : unescBody (escBody s ++ [34]) = some s := by
  fun_induction escBody s with
  | case1 => rw [unescBody.eq_def]; simp
  | case2 b0 t ih =>
    rw [List.append_assoc, unesc_escStep b0 t _ (hb b0 (by simp)), ih fun b hbm => hb b (List.mem_of_mem_drop hbm)]
    simp

end J5V.Print.TextString
