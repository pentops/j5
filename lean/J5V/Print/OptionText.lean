import J5V.Print.Order
/-!
# C05 kernel 3 — option values as text (core only)

Mirrors the option part of `/repo/internal/j5s/protoprint/options.go` (`parseOption`,
`printOption`, `printOptionArray`, `printOptionMessageFields`, `printFieldStyle`,
`optionFullName`, `defaultJSONName`) and `optionreflect.OptionDefinition.Simplify`
(`optionreflect/option.go`) over the value tree `optionreflect.OptionField`
(`optionreflect/walk.go`). Scalars are opaque texts produced by `marshalSingular`
(strings through the `TextString` kernel, numbers by `strconv`, enum value names).

The reader side (`pFields` / `pElems` / `pValue`) is a parser for the text-format message-literal subset the
printer emits, over tokens; the lexer is protocompile's and is not modelled.
-/
namespace J5V.Print.OptionText
open J5V.Print.Order

/-- `optionreflect.OptionField` -/
inductive Opt where
  | scalar (key : String) (v : String)
  | msg (key : String) (kids : List Opt)
  | arr (key : String) (kids : List Opt)
  deriving Repr, Inhabited

def Opt.key : Opt → String
  | .scalar k _ | .msg k _ | .arr k _ => k

/-- `fileBuffer.p` with indentation `n` -/
def ind (n : Nat) (s : String) : String := String.ofList (List.replicate (2 * n) ' ') ++ s

/-! ## Simplify: hoist single-field messages into the option name -/

/-- `OptionDefinition.Simplify(maxDepth)` on the walked tree: returns the sub-path and the new
root. A message with exactly one set field that is neither a list nor a map is replaced by that
field. (`fuel` bounds the recursion; the depth of the tree is a bound.) -/
def simplify (maxDepth : Nat) : Nat → List String → Opt → List String × Opt
  | 0, sub, o => (sub, o)
  | fuel + 1, sub, o =>
    if sub.length > maxDepth then (sub, o) else
    match o with
    | .msg _ [.scalar k v] => simplify maxDepth fuel (sub ++ [k]) (.scalar k v)
    | .msg _ [.msg k kids] => simplify maxDepth fuel (sub ++ [k]) (.msg k kids)
    | _ => (sub, o)

/-- `optionFullName` for an extension whose name (already relative to the context) is `ext` -/
def optionName (ext : String) (sub : List String) : String :=
  if sub = [] then "(" ++ ext ++ ")" else "(" ++ ext ++ ")." ++ ".".intercalate sub

/-- `maxExtDepth` / the `google.api.http` special case of `parseOption` -/
def simplified (extFull : String) (root : Opt) (depth : Nat) : List String × Opt :=
  if extFull = "google.api.http" then ([], root) else simplify 5 depth [] root

/-! ## rendering -/

mutual
/-- `printOptionMessageFields` called on a builder with indentation `n` -/
def msgFields (n : Nat) : List Opt → List String
  | [] => []
  | .scalar k v :: rest => ind (n + 1) (k ++ ": " ++ v) :: msgFields n rest
  | .msg k kids :: rest =>
    (ind (n + 1) (k ++ ": {") :: msgFields (n + 1) kids) ++ (ind (n + 1) "}" :: msgFields n rest)
  | .arr k kids :: rest => arrLines (n + 1) (k ++ ": ") kids "" ++ msgFields n rest

/-- the `[{ … }, { … }]` body of `printOptionArray`; `first` = no separator before this child -/
def arrMsgs (n : Nat) (first : Bool) : List Opt → List String
  | [] => []
  | .msg _ kids :: rest =>
    (if first then [] else [ind n "}, {"]) ++ msgFields n kids ++ arrMsgs n false rest
  | _ :: rest => (if first then [] else [ind n "}, {"]) ++ arrMsgs n false rest

/-- `printOptionArray` on a builder with indentation `n` -/
def arrLines (n : Nat) (opener : String) (kids : List Opt) (trailer : String) : List String :=
  match kids with
  | [] => [ind n (opener ++ "[]" ++ trailer)]
  | [.scalar _ v] => [ind n (opener ++ "[" ++ v ++ "]" ++ trailer)]
  | .msg k ks :: rest =>
    (ind n (opener ++ "[{") :: arrMsgs n true (.msg k ks :: rest)) ++ [ind n ("}]" ++ trailer)]
  | kids => (ind n (opener ++ "[") :: arrScalars (n + 1) kids) ++ [ind n ("]" ++ trailer)]

/-- the scalar lines of a multi-line array -/
def arrScalars (n : Nat) : List Opt → List String
  | [] => []
  | [.scalar _ v] => [ind n v]
  | [_] => [ind n ""]
  | .scalar _ v :: rest => ind n (v ++ ",") :: arrScalars n rest
  | _ :: rest => ind n "," :: arrScalars n rest
end

/-- `inlineValue` (`nil` = `none`); a list never gets here (see `statements`) -/
def inlineString (singleLine : Bool) (root : Opt) : Option String :=
  if !singleLine then none else
  match root with
  | .msg _ [] => some "{}"
  | .msg _ [.scalar k v] => some ("{" ++ k ++ ": " ++ v ++ "}")
  | .msg _ _ => none
  | .arr _ _ => none
  | .scalar _ v => some v

/-- `parseOption`: the values an option is written as — one statement, or one per element for a
repeated option (fix: the list syntax `[a, b]` only exists inside a message literal) -/
def statements : Opt → List Opt
  | .arr _ kids => kids
  | o => [o]

/-- `printOptionStatement` on a builder with indentation `n` -/
def optionStmt1 (n : Nat) (name : String) (singleLine : Bool) (root : Opt) : List String :=
  match inlineString singleLine root with
  | some s => [ind n ("option " ++ name ++ " = " ++ s ++ ";")]
  | none =>
    match root with
    | .msg _ [] => [ind n ("option " ++ name ++ " = {};")]
    | .msg _ kids => (ind n ("option " ++ name ++ " = {") :: msgFields n kids) ++ [ind n "};"]
    | .arr _ _ => []     -- no case in the Go switch
    | .scalar _ v => [ind n ("option " ++ name ++ " = " ++ v ++ ";")]

/-- `printOption` (statement form, `option name = …;`) on a builder with indentation `n` -/
def optionStmt (n : Nat) (name : String) (singleLine : Bool) (root : Opt) : List String :=
  ((statements root).map (optionStmt1 n name singleLine)).flatten

/-- one parsed option of a field / enum value -/
structure POpt where
  name : String
  root : Opt
  inl : Option String   -- inlineString
  inlineWithParent : Bool
  deriving Repr

/-- `defaultJSONName` -/
def defaultJSONName (name : List Char) : List Char :=
  let rec go : List Char → Bool → List Char
    | [], _ => []
    | c :: cs, up =>
      if c = '_' then go cs true
      else (if up ∧ 'a' ≤ c ∧ c ≤ 'z' then Char.ofNat (c.toNat - 32) else c) :: go cs false
  go name false

/-- the option lines of the multi-line form of `printFieldStyle` on a builder with indentation `n` -/
def fieldBody (n : Nat) : List POpt → List String
  | [] => []
  | o :: rest =>
    let trailer := if rest.isEmpty then "" else ","
    (match o.inl with
     | some s => [ind (n + 1) (o.name ++ " = " ++ s ++ trailer)]
     | none =>
       match o.root with
       | .msg _ kids => (ind (n + 1) (o.name ++ " = {") :: msgFields (n + 1) kids) ++ [ind (n + 1) ("}" ++ trailer)]
       | .arr _ _ => []     -- no case in the Go switch (`statements` leaves no list at the root)
       | .scalar _ v => [ind (n + 1) (o.name ++ " = " ++ v ++ trailer)]) ++ fieldBody n rest

/-- the lines of `printFieldStyle` between the comments: `head` is `"<label><type> <name>"`,
`ic` the inline comment (written after the first and — in the multi-line form — the last line). -/
def fieldStyle (n : Nat) (head : String) (number : String) (opts : List POpt) (ic : String := "") : List String :=
  match opts with
  | [] => [ind n (head ++ " = " ++ number ++ ";" ++ ic)]
  | _ =>
    match opts with
    | [⟨name, _, some s, true⟩] => [ind n (head ++ " = " ++ number ++ " [" ++ name ++ " = " ++ s ++ "];" ++ ic)]
    | _ => (ind n (head ++ " = " ++ number ++ " [" ++ ic) :: fieldBody n opts) ++ [ind n ("];" ++ ic)]

/-- a stable sort (`slices.SortStableFunc`): elements are inserted from the left, each before the
first greater one, so equal elements keep their order -/
def stableSort {α} (lt : α → α → Bool) (l : List α) : List α :=
  l.foldl (fun acc x => insertBy lt x acc) []

/-- `optionsFor`: parse every option, then sort by qualified name; stable, so that the statements of
one repeated option keep the order of the elements -/
def sortByName (opts : List POpt) : List POpt :=
  stableSort (fun a b => nameLess (a.name.toUTF8.toList.map (·.toNat)) (b.name.toUTF8.toList.map (·.toNat))) opts

/-! ## the value literal as tokens, and a parser for it -/

inductive Tok where
  | lbrace | rbrace | lbrack | rbrack | comma | colon
  | ident (s : String)
  | scalar (s : String)
  deriving DecidableEq, Repr

mutual
/-- the token sequence of a message body (`k: v k: {…} k: […]`) -/
def msgToks : List Opt → List Tok
  | [] => []
  | .scalar k v :: rest => .ident k :: .colon :: .scalar v :: msgToks rest
  | .msg k kids :: rest => (.ident k :: .colon :: .lbrace :: msgToks kids) ++ (.rbrace :: msgToks rest)
  | .arr k kids :: rest => (.ident k :: .colon :: .lbrack :: arrToks kids) ++ (.rbrack :: msgToks rest)

/-- the token sequence between `[` and `]` -/
def arrToks : List Opt → List Tok
  | [] => []
  | [.scalar _ v] => [.scalar v]
  | [.msg _ kids] => (.lbrace :: msgToks kids) ++ [.rbrace]
  | [.arr _ _] => []
  | .scalar _ v :: rest => .scalar v :: .comma :: arrToks rest
  | .msg _ kids :: rest => (.lbrace :: msgToks kids) ++ (.rbrace :: .comma :: arrToks rest)
  | .arr _ _ :: rest => arrToks rest
end

/-- the tokens of an option value -/
def valueToks : Opt → List Tok
  | .scalar _ v => [.scalar v]
  | .msg _ kids => (.lbrace :: msgToks kids) ++ [.rbrace]
  | .arr _ kids => (.lbrack :: arrToks kids) ++ [.rbrack]

/-! ### the reader: a parser for the message-literal subset (over tokens)

Written from the text-format grammar (`{ name: value … }`, `[ value, … ]`). Fields of a message
carry their name; elements of a list do not. -/

mutual
/-- fields up to (not including) the first token that cannot start a field -/
def pFields : Nat → List Tok → Option (List Opt × List Tok)
  | 0, _ => none
  | f + 1, toks =>
    match toks with
    | .ident k :: .colon :: .scalar v :: rest =>
      (pFields f rest).map (fun p => (.scalar k v :: p.1, p.2))
    | .ident k :: .colon :: .lbrace :: rest =>
      (match pFields f rest with
       | some (kids, .rbrace :: r2) => (pFields f r2).map (fun p => (.msg k kids :: p.1, p.2))
       | _ => none)
    | .ident k :: .colon :: .lbrack :: rest =>
      (match pElems f rest with
       | some (kids, .rbrack :: r2) => (pFields f r2).map (fun p => (.arr k kids :: p.1, p.2))
       | _ => none)
    | _ => some ([], toks)

/-- list elements up to (not including) the closing bracket -/
def pElems : Nat → List Tok → Option (List Opt × List Tok)
  | 0, _ => none
  | f + 1, toks =>
    match toks with
    | .scalar v :: .comma :: rest => (pElems f rest).map (fun p => (.scalar "" v :: p.1, p.2))
    | .scalar v :: rest => some ([.scalar "" v], rest)
    | .lbrace :: rest =>
      (match pFields f rest with
       | some (kids, .rbrace :: .comma :: r2) => (pElems f r2).map (fun p => (.msg "" kids :: p.1, p.2))
       | some (kids, .rbrace :: r2) => some ([.msg "" kids], r2)
       | _ => none)
    | _ => some ([], toks)
end

/-- a whole option value -/
def pValue (fuel : Nat) : List Tok → Option Opt
  | [.scalar v] => some (.scalar "" v)
  | .lbrace :: rest =>
    (match pFields fuel rest with
     | some (kids, [.rbrace]) => some (.msg "" kids)
     | _ => none)
  | .lbrack :: rest =>
    (match pElems fuel rest with
     | some (kids, [.rbrack]) => some (.arr "" kids)
     | _ => none)
  | _ => none

/-! what the text can carry: list elements lose their (redundant) key, the root loses its name -/
mutual
def normKids : List Opt → List Opt
  | [] => []
  | .scalar k v :: r => .scalar k v :: normKids r
  | .msg k ks :: r => .msg k (normKids ks) :: normKids r
  | .arr k ks :: r => .arr k (normElems ks) :: normKids r
def normElems : List Opt → List Opt
  | [] => []
  | .scalar _ v :: r => .scalar "" v :: normElems r
  | .msg _ ks :: r => .msg "" (normKids ks) :: normElems r
  | .arr _ _ :: r => normElems r
end

def norm : Opt → Opt
  | .scalar _ v => .scalar "" v
  | .msg _ ks => .msg "" (normKids ks)
  | .arr _ ks => .arr "" (normElems ks)

/-! the same without dropping anything (a list inside a list keeps its place) -/
mutual
/-- blank the keys the text does not carry: of list elements (and, in `eraseKeys`, of the root) -/
def eraseKids : List Opt → List Opt
  | [] => []
  | .scalar k v :: r => .scalar k v :: eraseKids r
  | .msg k ks :: r => .msg k (eraseKids ks) :: eraseKids r
  | .arr k ks :: r => .arr k (eraseElems ks) :: eraseKids r
def eraseElems : List Opt → List Opt
  | [] => []
  | .scalar _ v :: r => .scalar "" v :: eraseElems r
  | .msg _ ks :: r => .msg "" (eraseKids ks) :: eraseElems r
  | .arr _ ks :: r => .arr "" (eraseElems ks) :: eraseElems r
end

def eraseKeys : Opt → Opt
  | .scalar _ v => .scalar "" v
  | .msg _ ks => .msg "" (eraseKids ks)
  | .arr _ ks => .arr "" (eraseElems ks)

/-! the trees `WalkOptionField` produces: no list directly inside a list -/
mutual
def wfKids : List Opt → Bool
  | [] => true
  | .scalar _ _ :: r => wfKids r
  | .msg _ ks :: r => wfKids ks && wfKids r
  | .arr _ ks :: r => wfElems ks && wfKids r
def wfElems : List Opt → Bool
  | [] => true
  | .scalar _ _ :: r => wfElems r
  | .msg _ ks :: r => wfKids ks && wfElems r
  | .arr _ _ :: _ => false
end

def wf : Opt → Bool
  | .scalar _ _ => true
  | .msg _ ks => wfKids ks
  | .arr _ ks => wfElems ks

/-! fuel that suffices -/
mutual
def szKids : List Opt → Nat
  | [] => 1
  | .scalar _ _ :: r => 1 + szKids r
  | .msg _ ks :: r => 1 + szKids ks + szKids r
  | .arr _ ks :: r => 1 + szElems ks + szKids r
def szElems : List Opt → Nat
  | [] => 1
  | .scalar _ _ :: r => 1 + szElems r
  | .msg _ ks :: r => 1 + szKids ks + szElems r
  | .arr _ ks :: r => 1 + szElems ks + szElems r
end

def sz : Opt → Nat
  | .scalar _ _ => 1
  | .msg _ ks => szKids ks
  | .arr _ ks => szElems ks

end J5V.Print.OptionText
