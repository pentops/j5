import J5V.Print.ReparseScan
/-!
# The parser on what was printed (core only)

The parsers of the grammar model read the tokens `itemToks` of an element, below its leading comment, as `rdItem` says. One
lemma per kind of reading: a field (`field_read`), a block (`read_block`: any parser whose body parser reads option
statements and stops at `}`), a list of elements (`read_kids`: any parser that reads each); and the fuel suffices (`count_*`).
-/
namespace J5V.Print.Reparse
open J5V.Print J5V.Print.Grammar J5V.Print.Layout J5V.Print.OptionText J5V.Print.Scalar


theorem parseField_W (label : String) (hlab : label = "" ∨ label = "repeated " ∨ label = "optional ") (w : TyW)
    (hw : w.ok label) (name : String) (l : Nat) (tl : List PTok) :
    parseField (labelToks label l ++ w.toks l ++ T (.ident name) l :: tl) =
      (fieldTail tl).map (mkField .field l Cm.none label w.str name) := by
  cases w with
  | plain a f r =>
    obtain ⟨hf, _, hmap, hkw⟩ := hw
    exact parseField_gen label hlab a f r name l tl hf hmap (fun h1 h2 => ⟨(hkw h1 h2).1, (hkw h1 h2).2.1⟩)
  | map k a f r =>
    obtain ⟨hl, hk, hf, _⟩ := hw
    subst hl
    have e : labelToks "" l = [] := by simp [labelToks]
    have := parseField_map_gen k a f r name l tl hk hf
    simp only [TyW.toks, TyW.str, e, List.nil_append, List.cons_append, List.append_assoc] at this ⊢
    exact this

/-- the parser on the tokens of such a field, on any line, before anything -/
theorem optField_parse (f : FieldD) (h : OptField f) (s : Nat) (more : List PTok) (hm : trailOf more = "") :
    parseField (sh s (fieldToks0 f) ++ more) = some (rdField f s, more) := by
  obtain ⟨w, raws, e, c, hw, hty, htoks, hbr, _⟩ := h.read
  rw [htoks, sh_append, sh_headToks]
  unfold headToks
  simp only [List.append_assoc, List.cons_append, List.nil_append, Nat.zero_add]
  have hp := parseField_W f.label h.lab w hw f.name s
    (T (.sym '=') s :: (numToks f.number s ++ T (.sym '[') s :: (sh s (rdBody f) ++ more)))
  simp only [List.append_assoc] at hp
  rw [hp]
  have hfr := bracketOpts_frame s more _ _ _ _ hbr ((sh s (rdBody f) ++ more).length + 1)
    (by simp only [List.length_append, sh_length]; omega)
  simp only [sh_cons, sh_nil, PTok.shift, List.cons_append, List.nil_append] at hfr
  rw [fieldTail_bracket f.number s _ _ _ _ _ hfr]
  simp only [Option.map_some]
  have hrd : rdRaws f = (raws, e) := by simp only [rdRaws, hbr]
  have := mkField_shift 0 s e f.label w.str f.name f.number raws more [] hm rfl
  simp only [Nat.zero_add] at this
  congr 1
  apply Prod.ext
  · unfold rdField rdField0
    rw [hrd, hty, ← this]
  · rfl

/-! ## no trailing comments: what follows the tokens of an element has an empty trailing comment -/

theorem trailOf_append (a rest : List PTok) (ha : ∀ t ∈ a, t.cm = Cm.none) (hr : trailOf rest = "") :
    trailOf (a ++ rest) = "" := by
  cases a with
  | nil => simpa using hr
  | cons t r =>
    have := ha t (by simp)
    simp [trailOf, this, Cm.none]

theorem trailOf_toksOf (cmds : List Cmd) (g : Bool) (L : Nat) (rest : List PTok) (hr : trailOf rest = "") :
    trailOf (toksOf cmds g L ++ rest) = "" :=
  trailOf_append _ _ (lexLines_cm _ _) hr

theorem trailOf_hd (c : String) (a rest : List PTok) (hr : trailOf rest = "") :
    trailOf (hd c a ++ rest) = "" := by
  cases a with
  | nil => simpa [hd] using hr
  | cons t r => simp [hd, trailOf, leadCm]

theorem trailOf_kT (n : Nat) : ∀ (es : List Item) (first : Bool) (le0 lt : Nat) (g : Bool) (L : Nat) (rest : List PTok),
    trailOf rest = "" → trailOf (kT n es first le0 lt g L ++ rest) = ""
  | [], _, _, _, _, _, rest, hr => by simpa [kT_nil] using hr
  | e :: r, first, le0, lt, g, L, rest, hr => by
    rw [kT_cons, List.append_assoc]
    exact trailOf_hd _ _ _ (trailOf_kT n r _ _ _ _ _ rest hr)

theorem trailOf_stmts (cmds : List Cmd) (s : Nat) (rest : List PTok) (hr : trailOf rest = "") :
    trailOf (sh s (toksOf cmds false 1) ++ rest) = "" := by
  rw [← toksOf_shift cmds false 1 s]
  exact trailOf_toksOf _ _ _ _ hr

theorem chunk_head {c : List PTok} {r : RawOpt} (h : optionStmt c = some (r, [])) :
    ∃ l cm tl, c = ⟨.ident "option", l, cm⟩ :: tl := by
  unfold Grammar.optionStmt at h
  split at h
  · exact ⟨_, _, _, rfl⟩
  · simp at h

theorem rawsOf_cons {c : List PTok} {r : RawOpt} (h : optionStmt c = some (r, [])) (cs : List (List PTok)) :
    rawsOf (c :: cs) = r :: rawsOf cs := by
  simp [rawsOf, h]

/-- A body parser that hands an `option` statement to `optionStmt` and goes on with the option appended reads the
statement chunks of a block, written from line `s` on, as their options moved down by `s`. -/
theorem body_opts {α β : Type} (B : Nat → List PTok → List RawOpt → α → Option β)
    (hB : ∀ F l cm tl os a o r, optionStmt (⟨.ident "option", l, cm⟩ :: tl) = some (o, r) →
      B (F + 1) (⟨.ident "option", l, cm⟩ :: tl) os a = B F r (os ++ [o]) a)
    (s : Nat) : ∀ (chunks : List (List PTok)), ChunksOk chunks → ∀ (F : Nat) (more : List PTok)
    (os0 : List RawOpt) (a : α),
    B (F + chunks.length) (sh s chunks.flatten ++ more) os0 a =
      B F more (os0 ++ (rawsOf chunks).map (RawOpt.shift s)) a
  | [], _, F, more, os0, a => by simp [rawsOf]
  | c :: cs, h, F, more, os0, a => by
    obtain ⟨r, hr⟩ := h c (by simp)
    obtain ⟨l, cm, tl, rfl⟩ := chunk_head hr
    have hfr := optionStmt_frame s (sh s cs.flatten ++ more) _ _ _ hr
    simp only [sh_nil, List.nil_append] at hfr
    simp only [List.flatten_cons, sh_append, List.append_assoc, List.length_cons]
    rw [← Nat.add_assoc]
    simp only [sh_cons, PTok.shift, List.cons_append] at hfr ⊢
    rw [hB _ _ _ _ _ _ _ _ hfr, body_opts B hB s cs (fun c' hc' => h c' (by simp [hc'])) F more _ a, rawsOf_cons hr,
      List.map_cons, List.append_assoc]
    rfl

theorem messageBody_option (F l : Nat) (cm : Cm) (tl : List PTok) (os : List RawOpt) (ks : List Item) (o : RawOpt)
    (r : List PTok) (h : optionStmt (⟨.ident "option", l, cm⟩ :: tl) = some (o, r)) :
    messageBody (F + 1) (⟨.ident "option", l, cm⟩ :: tl) os ks = messageBody F r (os ++ [o]) ks := by
  rw [messageBody]; simp only [h]

theorem enumBody_option (F l : Nat) (cm : Cm) (tl : List PTok) (os : List RawOpt) (vs : List FieldD) (o : RawOpt)
    (r : List PTok) (h : optionStmt (⟨.ident "option", l, cm⟩ :: tl) = some (o, r)) :
    enumBody (F + 1) (⟨.ident "option", l, cm⟩ :: tl) os vs = enumBody F r (os ++ [o]) vs := by
  rw [enumBody]; simp only [h]

theorem oneofBody_option (F l : Nat) (cm : Cm) (tl : List PTok) (os : List RawOpt) (fs : List FieldD) (o : RawOpt)
    (r : List PTok) (h : optionStmt (⟨.ident "option", l, cm⟩ :: tl) = some (o, r)) :
    oneofBody (F + 1) (⟨.ident "option", l, cm⟩ :: tl) os fs = oneofBody F r (os ++ [o]) fs := by
  rw [oneofBody]; simp only [h]

theorem mb_opts (s : Nat) : ∀ (chunks : List (List PTok)), ChunksOk chunks → ∀ (F : Nat) (more : List PTok)
    (os0 : List RawOpt) (ks : List Item),
    messageBody (F + chunks.length) (sh s chunks.flatten ++ more) os0 ks =
      messageBody F more (os0 ++ (rawsOf chunks).map (RawOpt.shift s)) ks :=
  body_opts messageBody messageBody_option s

theorem eb_opts (s : Nat) : ∀ (chunks : List (List PTok)), ChunksOk chunks → ∀ (F : Nat) (more : List PTok)
    (os0 : List RawOpt) (vs : List FieldD),
    enumBody (F + chunks.length) (sh s chunks.flatten ++ more) os0 vs =
      enumBody F more (os0 ++ (rawsOf chunks).map (RawOpt.shift s)) vs :=
  body_opts enumBody enumBody_option s

theorem mkOpts_at (raws : List RawOpt) (s : Nat) : mkOpts s (raws.map (RawOpt.shift s)) = (mkOpts 0 raws).map (shO s) := by
  have := mkOpts_shift 0 s raws
  rwa [Nat.zero_add] at this

theorem rb_opts (s : Nat) (chunks : List (List PTok)) (h : ChunksOk chunks) (F : Nat) (more : List PTok)
    (os0 : List RawOpt) :
    rpcBody (F + chunks.length) (sh s chunks.flatten ++ more) os0 =
      rpcBody F more (os0 ++ (rawsOf chunks).map (RawOpt.shift s)) :=
  body_opts (fun F ts os (_ : Unit) => rpcBody F ts os)
    (fun F l cm tl os a o r h => by simp only [rpcBody, h]) s chunks h F more os0 ()

theorem enumBody_value (F : Nat) (f : FieldD) (h : SimpleValue f) (n s : Nat) (c : String) (more : List PTok)
    (hm : trailOf more = "") (os : List RawOpt) (vs : List FieldD) :
    enumBody (F + 1) (hd c (itemToks n (.field f) s) ++ more) os vs =
      enumBody F more os (vs ++ [(rdFieldAny f s).withLead c]) := by
  have hpe : f.popts.isEmpty = true := by simp [Leaf.popts (Or.inr (Or.inl h))]
  obtain ⟨hk, hl, ho, hlab, hty, hn, hno, hj⟩ := h
  simp only [itemToks, rdFieldAny, hpe, if_true, leafLine, hk, valueLine]
  rw [lineToks_value n f.name f.number s hn]
  simp only [List.cons_append, T, hd]
  rw [enumBody]
  · rw [fieldTail_toks]
    simp only [mkField, mkLoc, Cm.none, leadCm, hm, mkOpts, groupOpts, unlocateShared, List.filter_nil, List.map_nil]
    congr 2
    obtain ⟨k, lc, ix, lb, ty, nm, num, js, op⟩ := f
    simp only at hk hlab hty hj ho
    subst hk hlab hty hj ho
    rfl
  · exact hno

theorem oneofBody_close (F : Nat) (l : Nat) (more : List PTok) (os : List RawOpt) (fs : List FieldD) :
    oneofBody (F + 1) (T (.sym '}') l :: more) os fs = some (os, fs, l, more) := by
  simp [oneofBody, T]

theorem messageBody_close (F : Nat) (l : Nat) (more : List PTok) (os : List RawOpt) (ks : List Item) :
    messageBody (F + 1) (T (.sym '}') l :: more) os ks = some (os, ks, l, more) := by
  simp [messageBody, T]

theorem enumBody_close (F : Nat) (l : Nat) (more : List PTok) (os : List RawOpt) (vs : List FieldD) :
    enumBody (F + 1) (T (.sym '}') l :: more) os vs = some (os, vs, l, more) := by
  simp [enumBody, T]

theorem messageBody_default (F : Nat) (t : Grammar.Tok) (l : Nat) (c : Cm) (tl : List PTok) (h : FieldStart t)
    (os : List RawOpt) (ks : List Item) :
    messageBody (F + 1) (⟨t, l, c⟩ :: tl) os ks =
      match parseField (⟨t, l, c⟩ :: tl) with
      | some (fd, r) => messageBody F r os (ks ++ [.field fd])
      | none => none := by
  rw [messageBody]
  all_goals intros
  -- every other arm wants `}` or one of the four keywords as the first token
  all_goals first
    | rfl
    | (rename_i heq
       simp only [List.cons.injEq, PTok.mk.injEq] at heq
       exact h.ne_head (by simp) heq.1.1)

theorem locField_eq (f : FieldD) (hk : f.kind = .field) (ho : f.opts = [])
    (hj : f.json = some (String.ofList (defaultJSONName f.name.toList))) (s : Nat) :
    locField f.label f.type f.name f.number s "" = { f with loc := lineLoc s s, index := 0 } := by
  obtain ⟨k, lc, ix, lb, ty, nm, num, js, op⟩ := f
  simp only at hk hj ho
  subst hk hj ho
  rfl

/-- one statement for the three shapes of a field: the body parsers need its first token (`FieldStart`) and what `parseField` returns -/
theorem field_read (f : FieldD) (h : SimpleField f ∨ MapField f ∨ OptField f) (n s : Nat) :
    ∃ t tl, itemToks n (.field f) s = ⟨t, s, Cm.none⟩ :: tl ∧ FieldStart t ∧
      ∀ c more, trailOf more = "" →
        parseField (⟨t, s, leadCm c⟩ :: (tl ++ more)) = some ((rdFieldAny f s).withLead c, more) := by
  rcases h with h | h | h
  · have hpe : f.popts.isEmpty = true := by simp [Leaf.popts (Or.inl h)]
    obtain ⟨hk, hl, ho, hlab, hn, hj, abs, first, rest, hf, hr, hty, hmap, hkw⟩ := h
    obtain ⟨t, tl, hhead, hstart⟩ := fieldLineToks_head f.label hlab abs first rest f.name f.number s hkw
    refine ⟨t, tl, ?_, hstart, fun c more hm => ?_⟩
    · simp only [itemToks, hpe, if_true, leafLine, hk, fieldLine]
      rw [hty, lineToks_field n f.label hlab abs first rest f.name f.number s hf hr hn, hhead]
    · have hparse := parseField_toks f.label hlab abs first rest f.name f.number s more hf hmap
        (fun h1 h2 => ⟨(hkw h1 h2).1, (hkw h1 h2).2.1⟩)
      rw [hhead, List.cons_append] at hparse
      rw [parseField_hd_some t s c _ _ _ hparse, hm, rdFieldAny, hpe, if_pos rfl, ← locField_eq f hk ho hj s, hty]
  · have hpe : f.popts.isEmpty = true := by simp [Leaf.popts (Or.inr (Or.inr h))]
    obtain ⟨hk, hl, ho, hlab, hn, hj, k, abs, first, rest, hki, hf, hr, hty⟩ := h
    have htoks : itemToks n (.field f) s = mapLineToks k abs first rest f.name f.number s := by
      simp only [itemToks, hpe, if_true, leafLine, hk, fieldLine]
      rw [hty, hlab, lineToks_map n k abs first rest f.name f.number s hki hf hr hn]
    refine ⟨_, _, htoks, Or.inr ⟨"map", rfl, by decide, by decide +kernel, by decide, by decide⟩, fun c more hm => ?_⟩
    have hparse := parseField_map k abs first rest f.name f.number s more hki hf
    rw [mapLineToks, List.cons_append] at hparse
    rw [parseField_hd_some _ s c _ _ _ hparse, hm, rdFieldAny, hpe, if_pos rfl, ← locField_eq f hk ho hj s, hty, hlab]
  · have hpe : f.popts.isEmpty = false := by simpa using h.nonempty
    obtain ⟨w, raws, e, c', hw, hty, htoks, hbr, _⟩ := h.read
    obtain ⟨t, tl, hhead, hstart⟩ := headToks_start f w h.lab hw s
    have hsh : sh s (fieldToks0 f) = ⟨t, s, Cm.none⟩ :: (tl ++ sh s (rdBody f)) := by
      rw [htoks, sh_append, sh_headToks, Nat.zero_add, hhead]; rfl
    refine ⟨t, _, (itemToks_field n f s).trans hsh, hstart, fun c more hm => ?_⟩
    have hparse := optField_parse f h s more hm
    rw [hsh, List.cons_append] at hparse
    rw [parseField_hd_some t s c _ _ _ hparse, rdFieldAny, hpe]
    rfl

theorem messageBody_field (F : Nat) (f : FieldD) (h : SimpleField f ∨ MapField f ∨ OptField f) (n s : Nat)
    (c : String) (more : List PTok) (hm : trailOf more = "") (os : List RawOpt) (ks : List Item) :
    messageBody (F + 1) (hd c (itemToks n (.field f) s) ++ more) os ks =
      messageBody F more os (ks ++ [.field ((rdFieldAny f s).withLead c)]) := by
  obtain ⟨t, tl, htoks, hstart, hparse⟩ := field_read f h n s
  rw [htoks, hd_cons, List.cons_append, messageBody_default F t s _ _ hstart, hparse c more hm]

theorem oneofBody_default (F : Nat) (t : Grammar.Tok) (l : Nat) (c : Cm) (tl : List PTok) (h : FieldStart t)
    (os : List RawOpt) (fs : List FieldD) :
    oneofBody (F + 1) (⟨t, l, c⟩ :: tl) os fs =
      match parseField (⟨t, l, c⟩ :: tl) with
      | some (fd, r) => oneofBody F r os (fs ++ [fd])
      | none => none := by
  rw [oneofBody]
  all_goals intros
  -- every other arm wants `}` or one of the four keywords as the first token
  all_goals first
    | rfl
    | (rename_i heq
       simp only [List.cons.injEq, PTok.mk.injEq] at heq
       exact h.ne_head (by simp) heq.1.1)

theorem oneofBody_member (F : Nat) (f : FieldD) (h : SimpleField f ∨ OptField f) (n s : Nat) (c : String) (more : List PTok)
    (hm : trailOf more = "") (os : List RawOpt) (fs : List FieldD) :
    oneofBody (F + 1) (hd c (itemToks n (.field f) s) ++ more) os fs =
      oneofBody F more os (fs ++ [(rdFieldAny f s).withLead c]) := by
  obtain ⟨t, tl, htoks, hstart, hparse⟩ := field_read f (h.imp_right Or.inr) n s
  rw [htoks, hd_cons, List.cons_append, oneofBody_default F t s _ _ hstart, hparse c more hm]

theorem messageBody_msg_step (F : Nat) (name : String) (s : Nat) (cm : Cm) (r : List PTok) (os : List RawOpt) (ks : List Item) :
    messageBody (F + 1) (⟨.ident "message", s, cm⟩ :: T (.ident name) s :: T (.sym '{') s :: r) os ks =
      match messageBody F r [] [] with
      | some (mos, mks, le, r') =>
        messageBody F r' os (ks ++ [.block "message" 1 (mkLoc s le cm (trailOf r)) 0 name (mkOpts s mos) mks])
      | none => none := by
  simp only [T]
  rw [messageBody]
  rfl

theorem messageBody_enum_step (F : Nat) (name : String) (s : Nat) (cm : Cm) (r : List PTok) (os : List RawOpt) (ks : List Item) :
    messageBody (F + 1) (⟨.ident "enum", s, cm⟩ :: T (.ident name) s :: T (.sym '{') s :: r) os ks =
      match enumBody F r [] [] with
      | some (eos, vs, le, r') =>
        messageBody F r' os (ks ++ [.block "enum" 2 (mkLoc s le cm (trailOf r)) 0 name (mkOpts s eos) (vs.map .field)])
      | none => none := by
  simp only [T]
  rw [messageBody]
  rfl

theorem messageBody_oneof_step (F : Nat) (name : String) (s : Nat) (cm : Cm) (r : List PTok) (os : List RawOpt) (ks : List Item) :
    messageBody (F + 1) (⟨.ident "oneof", s, cm⟩ :: T (.ident name) s :: T (.sym '{') s :: r) os ks =
      match oneofBody F r [] [] with
      | some (_, [], _, _) => none
      | some (oos, fs, le, r') =>
        messageBody F r' os (ks ++ [.block "oneof" 0 (mkLoc s le cm (trailOf r)) 0 name (mkOpts s oos) (fs.map .field)])
      | none => none := by
  simp only [T]
  rw [messageBody]
  rfl

theorem mkLoc_plain (s e : Nat) : mkLoc s e Cm.none "" = lineLoc s e := rfl

theorem lineToks_T_trail (s : String) (l : Nat) (more : List PTok) (hm : trailOf more = "") :
    trailOf (lineToks s l ++ more) = "" := trailOf_append _ _ (lineToks_cm s l) hm

theorem mkLoc_leadPlain (s e : Nat) (c : String) : mkLoc s e (leadCm c) "" = (lineLoc s e).withLead c := rfl

theorem hd_T (c : String) (t : Grammar.Tok) (l : Nat) (r : List PTok) : hd c (T t l :: r) = ⟨t, l, leadCm c⟩ :: r := rfl

/-- **A block, read by any parser.** `O` is the parser the block stands in (a message body, the top level), with state
`σ` that collects the elements; `B` the parser of the block's own body, collecting `α`s. Given how `O` hands over to `B`
at `kw name {` (`hstep`), that `B` reads option statements (`hopt`) and stops at `}` (`hclose`), and what `B` makes of
the children (`hkids`): `O` reads the tokens of the block that starts on line `s` as `rdItem` says. -/
theorem read_block {σ ρ α : Type} (O : Nat → List PTok → σ → Option ρ) (push : σ → Item → σ)
    (B : Nat → List PTok → List RawOpt → List α → Option (List RawOpt × List α × Nat × List PTok))
    (wrap : List α → List Item) (Q : List α → Prop) (kw : String) (t : Nat) (hkw : IsIdent kw)
    (hstep : ∀ F name s cm r st bos bks le r', B F r [] [] = some (bos, bks, le, r') → Q bks →
      O (F + 1) (⟨.ident kw, s, cm⟩ :: T (.ident name) s :: T (.sym '{') s :: r) st =
        O F r' (push st (.block kw t (mkLoc s le cm (trailOf r)) 0 name (mkOpts s bos) (wrap bks))))
    (hopt : ∀ F l cm tl os a o r, optionStmt (⟨.ident "option", l, cm⟩ :: tl) = some (o, r) →
      B (F + 1) (⟨.ident "option", l, cm⟩ :: tl) os a = B F r (os ++ [o]) a)
    (hclose : ∀ F l more os as, B (F + 1) (T (.sym '}') l :: more) os as = some (os, as, l, more))
    (l : Loc) (i : Nat) (name : String) (hname : IsIdent name) (opts : List SOpt) (ho : BlockOpts opts)
    (kids : List Item) (n s : Nat) (hQ : kids = [] → opts = [] → Q [] ∧ wrap [] = [])
    (hkids : ∀ F os rest, trailOf rest = "" → needAll kids ≤ F →
      ∃ as, wrap as = (rdKids kids true 0 0 (s + 1 + optSpan opts) (!opts.isEmpty)).1 ∧ Q as ∧
        B ((F + 1) + kids.length) (kT (n + 1) kids true 0 0 (!opts.isEmpty) (s + 1 + optSpan opts) ++ rest) os [] =
          B (F + 1) rest os as)
    (G : Nat) (c : String) (st : σ) (more : List PTok)
    (hG : need1 (.block kw t l i name opts kids) ≤ G) :
    O (G + 1) (hd c (itemToks n (.block kw t l i name opts kids) s) ++ more) st =
      O G more (push st ((rdItem (.block kw t l i name opts kids) s).1.withLead c)) := by
  simp only [need1] at hG
  by_cases hempty : (kids.isEmpty && opts.isEmpty) = true
  · simp only [Bool.and_eq_true, List.isEmpty_iff] at hempty
    obtain ⟨rfl, rfl⟩ := hempty
    obtain ⟨hq, hw⟩ := hQ rfl rfl
    obtain ⟨G', rfl⟩ : ∃ G', G = G' + 1 := ⟨G - 1, by omega⟩
    simp only [itemToks, rdItem, List.isEmpty_nil, Bool.and_self, if_true]
    rw [lineToks_empty n kw name s hkw hname]
    simp only [List.cons_append, List.nil_append, hd_T]
    rw [hstep _ _ _ _ _ _ _ _ _ _ (hclose G' s more [] []) hq, hw]
    rfl
  · have hne : (kids.isEmpty && opts.isEmpty) = false := by simpa using hempty
    obtain ⟨F, hGe⟩ : ∃ F, G = ((F + 1) + kids.length) + (optChunks opts).length :=
      ⟨G - kids.length - (optChunks opts).length - 1, by omega⟩
    obtain ⟨as, hw, hq, hk⟩ := hkids F ([] ++ (rawsOf (optChunks opts)).map (RawOpt.shift s))
      (T (.sym '}') (rdKids kids true 0 0 (s + 1 + optSpan opts) (!opts.isEmpty)).2 :: more) rfl (by omega)
    have hin : B G (sh s (optToks0 opts) ++ (kT (n + 1) kids true 0 0 (!opts.isEmpty) (s + 1 + optSpan opts) ++
        T (.sym '}') (rdKids kids true 0 0 (s + 1 + optSpan opts) (!opts.isEmpty)).2 :: more)) [] [] =
        some ((optRaws0 opts).map (RawOpt.shift s), as,
          (rdKids kids true 0 0 (s + 1 + optSpan opts) (!opts.isEmpty)).2, more) := by
      have hopts := body_opts B hopt s (optChunks opts) ho.chunks ((F + 1) + kids.length)
        (kT (n + 1) kids true 0 0 (!opts.isEmpty) (s + 1 + optSpan opts) ++
          T (.sym '}') (rdKids kids true 0 0 (s + 1 + optSpan opts) (!opts.isEmpty)).2 :: more) [] []
      rw [ho.whole] at hopts
      rw [hGe, hopts, hk, hclose]
      simp [optRaws0]
    have htr : trailOf (sh s (optToks0 opts) ++ (kT (n + 1) kids true 0 0 (!opts.isEmpty) (s + 1 + optSpan opts) ++
        T (.sym '}') (rdKids kids true 0 0 (s + 1 + optSpan opts) (!opts.isEmpty)).2 :: more)) = "" :=
      trailOf_stmts (optCmds0 opts) _ _ (trailOf_kT _ _ _ _ _ _ _ _ rfl)
    simp only [itemToks, rdItem, hne, Bool.false_eq_true, if_false]
    rw [lineToks_open n kw name s hkw hname, lineToks_close]
    simp only [List.cons_append, List.nil_append, List.append_assoc, hd_T]
    rw [hstep _ _ _ _ _ _ _ _ _ _ hin hq, htr, mkLoc_leadPlain, mkOpts_at, hw]
    rfl

/-- `O` is any parser with state `σ`; `add st l` is its state after it has collected the elements `l` -/
theorem read_kids {σ ρ : Type} (O : Nat → List PTok → σ → Option ρ) (add : σ → List Item → σ)
    (hnil : ∀ st, add st [] = st) (hcons : ∀ st e r, add (add st [e]) r = add st (e :: r)) (n : Nat) :
    ∀ (es : List Item),
    (∀ e ∈ es, ∀ (s G : Nat) (c : String) (st : σ) (more : List PTok), trailOf more = "" → need1 e ≤ G →
      O (G + 1) (hd c (itemToks n e s) ++ more) st = O G more (add st [(rdItem e s).1.withLead c])) →
    ∀ (first : Bool) (le0 lt L : Nat) (g : Bool) (F : Nat) (st : σ) (rest : List PTok), trailOf rest = "" → needAll es ≤ F →
    O (F + es.length) (kT n es first le0 lt g L ++ rest) st = O F rest (add st (rdKids es first le0 lt L g).1)
  | [], _, first, le0, lt, L, g, F, st, rest, _, _ => by simp [kT_nil, rdKids, hnil]
  | e :: r, h, first, le0, lt, L, g, F, st, rest, hr, hF => by
    simp only [needAll] at hF
    rw [kT_cons, rdKids_cons, List.length_cons, List.append_assoc, ← Nat.add_assoc,
      h e (by simp) _ (F + r.length) _ st _ (trailOf_kT _ _ _ _ _ _ _ _ hr) (by omega),
      read_kids O add hnil hcons n r (fun x hx => h x (by simp [hx])) false _ _ _ _ F _ rest hr (by omega), hcons]

theorem rdKids_fields : ∀ (es : List Item), (∀ e ∈ es, ∃ f, e = .field f) → ∀ (first : Bool) (le0 lt L : Nat) (g : Bool),
    (rdKids es first le0 lt L g).1 = (fieldsOf (rdKids es first le0 lt L g).1).map Item.field ∧
      (es ≠ [] → fieldsOf (rdKids es first le0 lt L g).1 ≠ [])
  | [], _, _, _, _, _, _ => by simp [rdKids, fieldsOf]
  | e :: r, h, first, le0, lt, L, g => by
    obtain ⟨f, rfl⟩ := h e (by simp)
    simp only [rdKids_cons, rdItem_field_fst, fieldsOf, List.map_cons, Item.withLead, ne_eq, List.cons_ne_nil,
      not_false_eq_true, implies_true, and_true]
    congr 1
    exact (rdKids_fields r (fun x hx => h x (by simp [hx])) _ _ _ _ _).1

theorem read_fields {ρ : Type} (B : Nat → List PTok → List RawOpt → List FieldD → Option ρ) (n : Nat) (es : List Item)
    (h : ∀ e ∈ es, ∃ f, e = .field f ∧ ∀ (s G : Nat) (c : String) (os : List RawOpt) (fs : List FieldD) (more : List PTok),
      trailOf more = "" → B (G + 1) (hd c (itemToks n e s) ++ more) os fs = B G more os (fs ++ [(rdFieldAny f s).withLead c]))
    (first : Bool) (le0 lt L : Nat) (g : Bool) (F : Nat) (os : List RawOpt) (fs : List FieldD) (rest : List PTok)
    (hr : trailOf rest = "") (hF : needAll es ≤ F) :
    B (F + es.length) (kT n es first le0 lt g L ++ rest) os fs =
      B F rest os (fs ++ fieldsOf (rdKids es first le0 lt L g).1) :=
  read_kids (fun F ts (st : List RawOpt × List FieldD) => B F ts st.1 st.2) (fun st l => (st.1, st.2 ++ fieldsOf l))
    (by simp [fieldsOf]) (fun st e r => by cases e <;> simp [fieldsOf]) n es
    (fun e he s G c st more hm _ => by
      obtain ⟨f, rfl, hf⟩ := h e he
      rw [rdItem_field_fst]
      exact hf s G c st.1 st.2 more hm) first le0 lt L g F (os, fs) rest hr hF

theorem enumBody_values (es : List Item) (h : SimpleValues es) (n : Nat) :
    ∀ (first : Bool) (le0 lt L : Nat) (g : Bool) (F : Nat) (os : List RawOpt) (vs : List FieldD) (rest : List PTok),
    trailOf rest = "" → needAll es ≤ F →
    enumBody (F + es.length) (kT n es first le0 lt g L ++ rest) os vs =
      enumBody F rest os (vs ++ fieldsOf (rdKids es first le0 lt L g).1) :=
  read_fields enumBody n es (fun e he => by
    obtain ⟨f, rfl, hv⟩ := (((simpleValues_iff es).1 h).mem he).1
    exact ⟨f, rfl, fun s G c os fs more hm => enumBody_value G f hv n s c more hm os fs⟩)

theorem oneofBody_members (es : List Item) (h : SimpleMembers es) (n : Nat) :
    ∀ (first : Bool) (le0 lt L : Nat) (g : Bool) (F : Nat) (os : List RawOpt) (fs : List FieldD) (rest : List PTok),
    trailOf rest = "" → needAll es ≤ F →
    oneofBody (F + es.length) (kT n es first le0 lt g L ++ rest) os fs =
      oneofBody F rest os (fs ++ fieldsOf (rdKids es first le0 lt L g).1) :=
  read_fields oneofBody n es (fun e he => by
    obtain ⟨f, rfl, hv, _⟩ := (((simpleMembers_iff es).1 h).mem he).1
    exact ⟨f, rfl, fun s G c os fs more hm => oneofBody_member G f hv n s c more hm os fs⟩)

theorem messageBody_kids (n : Nat) (es : List Item)
    (h : ∀ e ∈ es, ∀ (s G : Nat) (c : String) (os : List RawOpt) (ks : List Item) (more : List PTok), trailOf more = "" →
      need1 e ≤ G →
      messageBody (G + 1) (hd c (itemToks n e s) ++ more) os ks = messageBody G more os (ks ++ [(rdItem e s).1.withLead c]))
    (first : Bool) (le0 lt L : Nat) (g : Bool) (F : Nat) (os : List RawOpt) (ks : List Item) (rest : List PTok)
    (hr : trailOf rest = "") (hF : needAll es ≤ F) :
    messageBody (F + es.length) (kT n es first le0 lt g L ++ rest) os ks =
      messageBody F rest os (ks ++ (rdKids es first le0 lt L g).1) :=
  read_kids (fun F ts (st : List RawOpt × List Item) => messageBody F ts st.1 st.2) (fun st l => (st.1, st.2 ++ l))
    (by simp) (by simp) n es (fun e he s G c st more => h e he s G c st.1 st.2 more) first le0 lt L g F (os, ks) rest hr hF

theorem isField_of_value {es : List Item} (h : Elems IsValue es) : ∀ e ∈ es, ∃ f, e = .field f :=
  fun _ he => let ⟨f, hf, _⟩ := (h.mem he).1; ⟨f, hf⟩

theorem isField_of_member {es : List Item} (h : Elems IsMember es) : ∀ e ∈ es, ∃ f, e = .field f :=
  fun _ he => let ⟨f, hf, _⟩ := (h.mem he).1; ⟨f, hf⟩

theorem mb_item : ∀ (e : Item), SimpleItem e → ∀ (n s G : Nat) (c : String) (os : List RawOpt) (ks : List Item) (more : List PTok),
    trailOf more = "" → need1 e ≤ G →
    messageBody (G + 1) (hd c (itemToks n e s) ++ more) os ks = messageBody G more os (ks ++ [(rdItem e s).1.withLead c]) := by
  refine Item.induct (fun f h n s G c os ks more hm _ => ?_) (fun _ _ _ _ _ _ h => h.elim)
    (fun kw t l i name opts kids ih h n s G c os ks more _ hG => ?_)
  · rw [rdItem_field_fst]
    exact messageBody_field G f h n s c more hm os ks
  · simp only [SimpleItem] at h
    obtain ⟨_, ho, hname, hcase⟩ := h
    rcases hcase with ⟨rfl, rfl, hk⟩ | ⟨rfl, rfl, hk⟩ | ⟨rfl, rfl, hne0, hk, rfl⟩
    · have hE := (simpleKids_iff kids).1 hk
      exact read_block (fun F ts (st : List RawOpt × List Item) => messageBody F ts st.1 st.2)
        (fun st e => (st.1, st.2 ++ [e])) messageBody id (fun _ => True) "message" 1 isIdent_message
        (fun F name s cm r st bos bks le r' hB _ => by rw [messageBody_msg_step, hB]; rfl)
        messageBody_option messageBody_close l i name hname opts ho kids n s (fun _ _ => ⟨trivial, rfl⟩)
        (fun F os rest hr hF => ⟨_, List.nil_append _, trivial,
          messageBody_kids (n + 1) kids (fun e he => ih e he (hE.mem he).1 (n + 1)) true 0 0 _ _ (F + 1) os [] rest hr
            (Nat.le_succ_of_le hF)⟩)
        G c (os, ks) more hG
    · have hE := (simpleValues_iff kids).1 hk
      exact read_block (fun F ts (st : List RawOpt × List Item) => messageBody F ts st.1 st.2)
        (fun st e => (st.1, st.2 ++ [e])) enumBody (List.map Item.field) (fun _ => True) "enum" 2 isIdent_enum
        (fun F name s cm r st bos bks le r' hB _ => by rw [messageBody_enum_step, hB])
        enumBody_option enumBody_close l i name hname opts ho kids n s (fun _ _ => ⟨trivial, rfl⟩)
        (fun F os rest hr hF => ⟨_, (rdKids_fields kids (isField_of_value hE) _ _ _ _ _).1.symm, trivial,
          enumBody_values kids hk (n + 1) true 0 0 _ _ (F + 1) os [] rest hr (Nat.le_succ_of_le hF)⟩)
        G c (os, ks) more hG
    · have hE := (simpleMembers_iff kids).1 hk
      exact read_block (fun F ts (st : List RawOpt × List Item) => messageBody F ts st.1 st.2)
        (fun st e => (st.1, st.2 ++ [e])) oneofBody (List.map Item.field) (· ≠ []) "oneof" 0 isIdent_oneof
        (fun F name s cm r st bos bks le r' hB hq => by
          obtain ⟨b, bs, rfl⟩ := List.exists_cons_of_ne_nil hq
          rw [messageBody_oneof_step, hB])
        oneofBody_option oneofBody_close l i name hname [] BlockOpts.nil kids n s (fun h0 _ => (hne0 h0).elim)
        (fun F os rest hr hF => ⟨_, (rdKids_fields kids (isField_of_member hE) _ _ _ _ _).1.symm,
          (rdKids_fields kids (isField_of_member hE) _ _ _ _ _).2 hne0,
          oneofBody_members kids hk (n + 1) true 0 0 _ _ (F + 1) os [] rest hr (Nat.le_succ_of_le hF)⟩)
        G c (os, ks) more hG

theorem mb_kids (es : List Item) (h : SimpleKids es) (n : Nat) (first : Bool) (le0 lt L : Nat) (g : Bool) (F : Nat)
    (os : List RawOpt) (ks : List Item) (rest : List PTok) (hr : trailOf rest = "") (hF : needAll es ≤ F) :
    messageBody (F + es.length) (kT n es first le0 lt g L ++ rest) os ks =
      messageBody F rest os (ks ++ (rdKids es first le0 lt L g).1) :=
  messageBody_kids n es (fun e he => mb_item e (((simpleKids_iff es).1 h).mem he).1 n) first le0 lt L g F os ks rest hr hF

theorem rpcType_toks (st abs : Bool) (first : String) (rest : List String) (l : Nat) (more : List PTok)
    (hf : IsIdent first) (hkw : st = false → abs = false → first ≠ "stream") :
    rpcType (T (.sym '(') l :: (rpcTyToks st abs first rest l ++ T (.sym ')') l :: more)) =
      some (rpcTyStr st abs first rest, more) := by
  have hty := typeName_toks abs first rest l (T (.sym ')') l :: more) hf.ne_empty
    (by intro t r h; simp only [List.cons.injEq] at h; rw [← h.1]; simp [T])
  unfold rpcTyToks rpcTyStr
  cases st with
  | true =>
    simp only [if_true, List.cons_append, List.nil_append, T] at hty ⊢
    simp only [rpcType, hty]
  | false =>
    simp only [Bool.false_eq_true, if_false, List.nil_append, String.empty_append]
    cases abs with
    | true =>
      simp only [tyToks, if_true, List.cons_append, List.nil_append, T] at hty ⊢
      simp only [rpcType, hty]
    | false =>
      have hne := hkw rfl rfl
      simp only [tyToks, Bool.false_eq_true, if_false, List.cons_append, List.nil_append, T] at hty ⊢
      rw [rpcType]
      · rw [hty]
        rfl
      · intro l1 c1 r heq
        simp only [List.cons.injEq, PTok.mk.injEq, Grammar.Tok.ident.injEq] at heq
        exact hne heq.1.1

theorem rpcBody_close (F l : Nat) (more : List PTok) (os : List RawOpt) :
    rpcBody (F + 1) (T (.sym '}') l :: more) os = some (os, l, more) := by
  simp [rpcBody, T]

theorem serviceBody_rpcOpen (F : Nat) (name : String) (sI aI : Bool) (fI : String) (rI : List String) (sO aO : Bool)
    (fO : String) (rO : List String) (l : Nat) (r3 : List PTok) (os : List RawOpt) (ms : List Item)
    (hfI : IsIdent fI) (hfO : IsIdent fO)
    (hkI : sI = false → aI = false → fI ≠ "stream") (hkO : sO = false → aO = false → fO ≠ "stream")
    (ros : List RawOpt) (le : Nat) (r4 : List PTok) (hb : rpcBody (F + 1) r3 [] = some (ros, le, r4)) (c : String) :
    serviceBody (F + 2) (hd c (rpcOpenToks name sI aI fI rI sO aO fO rO l) ++ r3) os ms =
      serviceBody (F + 1) r4 os
        (ms ++ [.rpc (mkLoc l le (leadCm c) (trailOf r3)) 0 name (rpcTyStr sI aI fI rI) (rpcTyStr sO aO fO rO) (mkOpts l ros)]) := by
  unfold rpcOpenToks
  simp only [List.cons_append, List.append_assoc, List.nil_append, hd_T]
  have h1 := rpcType_toks sI aI fI rI l
    (T (.ident "returns") l :: T (.sym '(') l :: (rpcTyToks sO aO fO rO l ++
      (T (.sym ')') l :: T (.sym '{') l :: r3))) hfI hkI
  have h2 := rpcType_toks sO aO fO rO l (T (.sym '{') l :: r3) hfO hkO
  simp only [T] at h1 h2 ⊢
  rw [serviceBody, h1]
  simp only []
  rw [h2]
  simp only []
  rw [hb]

theorem serviceBody_rpc (F : Nat) (name : String) (sI aI : Bool) (fI : String) (rI : List String) (sO aO : Bool)
    (fO : String) (rO : List String) (l : Nat) (more : List PTok) (os : List RawOpt) (ms : List Item)
    (hfI : IsIdent fI) (hfO : IsIdent fO)
    (hkI : sI = false → aI = false → fI ≠ "stream") (hkO : sO = false → aO = false → fO ≠ "stream") (c : String) :
    serviceBody (F + 2) (hd c (rpcToks name sI aI fI rI sO aO fO rO l) ++ more) os ms =
      serviceBody (F + 1) more os
        (ms ++ [.rpc ((lineLoc l l).withLead c) 0 name (rpcTyStr sI aI fI rI) (rpcTyStr sO aO fO rO) []]) := by
  have h := serviceBody_rpcOpen F name sI aI fI rI sO aO fO rO l (T (.sym '}') l :: more) os ms hfI hfO hkI hkO
    [] l more (rpcBody_close F l more []) c
  have e : hd c (rpcToks name sI aI fI rI sO aO fO rO l) ++ more =
      hd c (rpcOpenToks name sI aI fI rI sO aO fO rO l) ++ T (.sym '}') l :: more := by
    simp [rpcToks, rpcOpenToks, hd_T]
  rw [e, h]
  rfl

theorem serviceBody_close (F l : Nat) (more : List PTok) (os : List RawOpt) (ms : List Item) :
    serviceBody (F + 1) (T (.sym '}') l :: more) os ms = some (os, ms, l, more) := by
  simp [serviceBody, T]

theorem serviceBody_option (F l : Nat) (cm : Cm) (tl : List PTok) (os : List RawOpt) (ms : List Item) (o : RawOpt)
    (r : List PTok) (h : optionStmt (⟨.ident "option", l, cm⟩ :: tl) = some (o, r)) :
    serviceBody (F + 1) (⟨.ident "option", l, cm⟩ :: tl) os ms = serviceBody F r (os ++ [o]) ms := by
  rw [serviceBody]; simp only [h]

/-- a method, read by `serviceBody` (one more unit of fuel than `need1` counts: the closing brace of a method with
options) -/
theorem sb_rpc : ∀ (e : Item), SimpleRpc e → ∀ (n s G : Nat) (c : String) (os : List RawOpt) (ms : List Item) (more : List PTok),
    trailOf more = "" → need1 e ≤ G →
    serviceBody (G + 2) (hd c (itemToks n e s) ++ more) os ms = serviceBody (G + 1) more os (ms ++ [(rdItem e s).1.withLead c])
  | .rpc l i name inT outT opts, h, n, s, G, c, os, ms, more, hm, hG => by
    obtain ⟨hl, ho, hname, ⟨sI, aI, fI, rI, hfI, hrI, hin, hkI⟩, ⟨sO, aO, fO, rO, hfO, hrO, hout, hkO⟩⟩ := h
    subst hin hout
    simp only [need1] at hG
    by_cases hemp : opts.isEmpty = true
    · have hnil : opts = [] := by simpa using hemp
      subst hnil
      simp only [itemToks, rdItem, List.isEmpty_nil, if_true, Item.withLead]
      rw [lineToks_rpc n name sI aI fI rI sO aO fO rO _ hname hfI hrI hfO hrO,
        serviceBody_rpc G name sI aI fI rI sO aO fO rO _ _ os ms hfI hfO hkI hkO]
    · have hne : opts.isEmpty = false := by simpa using hemp
      simp only [itemToks, rdItem, hne, Bool.false_eq_true, if_false, Item.withLead]
      rw [lineToks_rpcOpen n name sI aI fI rI sO aO fO rO _ hname hfI hrI hfO hrO, lineToks_close]
      obtain ⟨F1, hF1⟩ : ∃ F1, G + 1 = (F1 + 1) + (rpcChunks opts).length := ⟨G - (rpcChunks opts).length, by omega⟩
      have hb0 := rb_opts s (rpcChunks opts) ho.chunks (F1 + 1) (T (.sym '}') (s + 1 + rpcSpan opts) :: more) []
      rw [ho.whole, rpcBody_close, ← hF1] at hb0
      have hassoc : hd c (rpcOpenToks name sI aI fI rI sO aO fO rO s ++
            (sh s (rpcToks0 opts) ++ [T (Tok.sym '}') (s + 1 + rpcSpan opts)])) ++ more =
          hd c (rpcOpenToks name sI aI fI rI sO aO fO rO s) ++
            (sh s (rpcToks0 opts) ++ T (Tok.sym '}') (s + 1 + rpcSpan opts) :: more) := by
        simp [rpcOpenToks, hd_T, List.append_assoc]
      rw [List.append_assoc, hassoc,
        serviceBody_rpcOpen G name sI aI fI rI sO aO fO rO _ _ os ms hfI hfO hkI hkO _ _ _ hb0,
        show trailOf (sh s (rpcToks0 opts) ++ _) = "" from trailOf_stmts (rpcCmds0 opts) s _ rfl]
      simp only [List.nil_append, mkLoc_leadPlain, mkOpts_at]
      rfl
  | .field _, h, _, _, _, _, _, _, _, _, _ => h.elim
  | .block _ _ _ _ _ _ _, h, _, _, _, _, _, _, _, _, _ => h.elim

theorem sb_rpcs (es : List Item) (h : SimpleRpcs es) (n : Nat) (first : Bool) (le0 lt L : Nat) (g : Bool) (F : Nat)
    (os : List RawOpt) (ms : List Item) (rest : List PTok) (hr : trailOf rest = "") (hF : needAll es ≤ F) :
    serviceBody (F + es.length + 1) (kT n es first le0 lt g L ++ rest) os ms =
      serviceBody (F + 1) rest os (ms ++ (rdKids es first le0 lt L g).1) :=
  read_kids (fun F ts (st : List RawOpt × List Item) => serviceBody (F + 1) ts st.1 st.2) (fun st l => (st.1, st.2 ++ l))
    (by simp) (by simp) n es
    (fun e he s G c st more => sb_rpc e (((simpleRpcs_iff es).1 h).mem he).1 n s G c st.1 st.2 more)
    first le0 lt L g F (os, ms) rest hr hF

/-! ## the top level of a file -/

theorem topLevel_msg_step (F : Nat) (name : String) (s : Nat) (cm : Cm) (r : List PTok) (a : Acc) :
    topLevel (F + 1) (⟨.ident "message", s, cm⟩ :: T (.ident name) s :: T (.sym '{') s :: r) a =
      match messageBody F r [] [] with
      | some (mos, mks, le, r') =>
        topLevel F r' { a with items := a.items ++ [.block "message" 1 (mkLoc s le cm (trailOf r)) 0 name (mkOpts s mos) mks] }
      | none => none := by
  simp only [T]
  rw [topLevel]
  rfl

theorem topLevel_enum_step (F : Nat) (name : String) (s : Nat) (cm : Cm) (r : List PTok) (a : Acc) :
    topLevel (F + 1) (⟨.ident "enum", s, cm⟩ :: T (.ident name) s :: T (.sym '{') s :: r) a =
      match enumBody F r [] [] with
      | some (eos, vs, le, r') =>
        topLevel F r' { a with items := a.items ++ [.block "enum" 2 (mkLoc s le cm (trailOf r)) 0 name (mkOpts s eos) (vs.map .field)] }
      | none => none := by
  simp only [T]
  rw [topLevel]
  rfl

theorem topLevel_eof (F : Nat) (l : Nat) (more : List PTok) (a : Acc) :
    topLevel (F + 1) (T .eof l :: more) a = some a := by
  simp [topLevel, T]

theorem top_item : ∀ (e : Item), SimpleItem e → IsBlock e → ∀ (s G : Nat) (c : String) (a : Acc) (more : List PTok),
    trailOf more = "" → need1 e ≤ G →
    topLevel (G + 1) (hd c (itemToks 0 e s) ++ more) a =
      topLevel G more { a with items := a.items ++ [(rdItem e s).1.withLead c] }
  | .field _, _, hb, _, _, _, _, _, _, _ => hb.elim
  | .rpc _ _ _ _ _ _, h, _, _, _, _, _, _, _, _ => h.elim
  | .block kw t l i name opts kids, h, hb, s, G, c, a, more, _, hG => by
    simp only [SimpleItem] at h
    obtain ⟨_, ho, hname, hcase⟩ := h
    rcases hcase with ⟨rfl, rfl, hk⟩ | ⟨rfl, rfl, hk⟩ | h
    · exact read_block topLevel (fun a e => { a with items := a.items ++ [e] }) messageBody id (fun _ => True)
        "message" 1 isIdent_message
        (fun F name s cm r st bos bks le r' hB _ => by rw [topLevel_msg_step, hB]; rfl)
        messageBody_option messageBody_close l i name hname opts ho kids 0 s (fun _ _ => ⟨trivial, rfl⟩)
        (fun F os rest hr hF =>
          ⟨_, List.nil_append _, trivial, mb_kids kids hk 1 true 0 0 _ _ (F + 1) os [] rest hr (Nat.le_succ_of_le hF)⟩)
        G c a more hG
    · exact read_block topLevel (fun a e => { a with items := a.items ++ [e] }) enumBody (List.map Item.field)
        (fun _ => True) "enum" 2 isIdent_enum
        (fun F name s cm r st bos bks le r' hB _ => by rw [topLevel_enum_step, hB])
        enumBody_option enumBody_close l i name hname opts ho kids 0 s (fun _ _ => ⟨trivial, rfl⟩)
        (fun F os rest hr hF => ⟨_, (rdKids_fields kids (isField_of_value ((simpleValues_iff kids).1 hk)) _ _ _ _ _).1.symm,
          trivial, enumBody_values kids hk 1 true 0 0 _ _ (F + 1) os [] rest hr (Nat.le_succ_of_le hF)⟩)
        G c a more hG
    · exact (hb h.2.1).elim

theorem topLevel_service_step (F : Nat) (name : String) (s : Nat) (cm : Cm) (r : List PTok) (a : Acc) :
    topLevel (F + 1) (⟨.ident "service", s, cm⟩ :: T (.ident name) s :: T (.sym '{') s :: r) a =
      match serviceBody F r [] [] with
      | some (sos, ms, le, r') =>
        topLevel F r' { a with items := a.items ++ [.block "service" 0 (mkLoc s le cm (trailOf r)) 0 name (mkOpts s sos) ms] }
      | none => none := by
  simp only [T]
  rw [topLevel]
  rfl

theorem top_service : ∀ (e : Item), SimpleService e → ∀ (s G : Nat) (c : String) (a : Acc) (more : List PTok),
    trailOf more = "" → need1 e ≤ G →
    topLevel (G + 1) (hd c (itemToks 0 e s) ++ more) a =
      topLevel G more { a with items := a.items ++ [(rdItem e s).1.withLead c] }
  | .field _, h, _, _, _, _, _, _, _ => h.elim
  | .rpc _ _ _ _ _ _, h, _, _, _, _, _, _, _ => h.elim
  | .block kw t l i name opts kids, h, s, G, c, a, more, _, hG => by
    obtain ⟨_, ho, hname, rfl, rfl, hk⟩ := h
    exact read_block topLevel (fun a e => { a with items := a.items ++ [e] }) serviceBody id (fun _ => True)
      "service" 0 isIdent_service
      (fun F name s cm r st bos bks le r' hB _ => by rw [topLevel_service_step, hB]; rfl)
      serviceBody_option serviceBody_close l i name hname opts ho kids 0 s (fun _ _ => ⟨trivial, rfl⟩)
      (fun F os rest hr hF => ⟨_, List.nil_append _, trivial, by
        rw [Nat.add_right_comm]; exact sb_rpcs kids hk 1 true 0 0 _ _ F os [] rest hr hF⟩)
      G c a more hG

theorem top_tops (es : List Item) (h : SimpleTops es) (first : Bool) (le0 lt L : Nat) (g : Bool) (F : Nat) (a : Acc)
    (rest : List PTok) (hr : trailOf rest = "") (hF : needAll es ≤ F) :
    topLevel (F + es.length) (kT 0 es first le0 lt g L ++ rest) a =
      topLevel F rest { a with items := a.items ++ (rdKids es first le0 lt L g).1 } :=
  read_kids topLevel (fun a l => { a with items := a.items ++ l }) (by simp) (by simp) 0 es
    (fun e he s G c a more hm hG => by
      rcases (((simpleTops_iff es).1 h).mem he).1 with hs | hs
      · exact top_item e hs.1 hs.2 s G c a more hm hG
      · exact top_service e hs s G c a more hm hG)
    first le0 lt L g F a rest hr hF

theorem top_items : ∀ (es : List Item), SimpleKids es → AllBlocks es →
    ∀ (first : Bool) (le0 lt L : Nat) (g : Bool) (F : Nat) (a : Acc) (rest : List PTok), trailOf rest = "" → needAll es ≤ F →
    topLevel (F + es.length) (kT 0 es first le0 lt g L ++ rest) a =
      topLevel F rest { a with items := a.items ++ (rdKids es first le0 lt L g).1 }
  | es, h, hb, first, le0, lt, L, g, F, a, rest, hr, hF =>
    top_tops es (AllBlocks.tops es h hb) first le0 lt L g F a rest hr hF

theorem topLevel_syntax (F : Nat) (l : Nat) (c : Cm) (r : List PTok) (a : Acc) :
    topLevel (F + 1) (⟨.ident "syntax", l, c⟩ :: T (.sym '=') l :: T (.str "\"proto3\"") l :: T (.sym ';') l :: r) a =
      topLevel F r { a with syntaxOk := true } := by
  simp only [T]
  rw [topLevel]
  simp

theorem topLevel_package (F : Nat) (first : String) (rest : List String) (l : Nat) (r : List PTok) (a : Acc)
    (hf : IsIdent first) :
    topLevel (F + 1) (T (.ident "package") l :: (tyToks false first rest l ++ T (.sym ';') l :: r)) a =
      topLevel F r { a with pkg := tyStr false first rest } := by
  have hty := typeName_toks false first rest l (T (.sym ';') l :: r) hf.ne_empty
    (by intro t r' h; simp only [List.cons.injEq] at h; rw [← h.1]; simp [T])
  simp only [T] at hty ⊢
  rw [topLevel.eq_5, hty]
  rfl

theorem unquote_lit (body : String) : unquote (String.ofList ('"' :: (body.toList ++ ['"']))) = body := by
  unfold unquote
  rw [String.toList_ofList]
  simp

theorem topLevel_import (F : Nat) (d : String × String) (l : Nat) (r : List PTok) (a : Acc)
    (hm : d.2 = "" ∨ d.2 = "public " ∨ d.2 = "weak ") :
    topLevel (F + 1) (importToks d l ++ r) a = topLevel F r { a with imports := a.imports ++ [d] } := by
  obtain ⟨p, m⟩ := d
  simp only at hm
  unfold importToks
  rcases hm with h | h | h
  · subst h
    simp only [modToks, List.cons_append, List.nil_append, T]
    have hne : ("" = "public ") = False := by decide
    have hne2 : ("" = "weak ") = False := by decide
    simp only [hne, hne2, if_false, List.nil_append, List.cons_append]
    rw [topLevel.eq_6, unquote_lit]
  · subst h
    simp only [modToks, List.cons_append, List.nil_append, T, if_true]
    rw [topLevel, unquote_lit]
  · subst h
    have hne : ("weak " = "public ") = False := by decide
    simp only [modToks, List.cons_append, List.nil_append, T, hne, if_false, if_true]
    rw [topLevel, unquote_lit]

theorem top_imports : ∀ (I : List (String × String)) (L F : Nat) (a : Acc) (rest : List PTok),
    (∀ i ∈ I, PlainBody i.1.toList ∧ (i.2 = "" ∨ i.2 = "public " ∨ i.2 = "weak ")) →
    topLevel (F + I.length) (lexLines (I.map importLine) L ++ rest) a =
      topLevel F rest { a with imports := a.imports ++ I }
  | [], L, F, a, rest, _ => by simp [lexLines]
  | d :: r, L, F, a, rest, h => by
    obtain ⟨hb, hm⟩ := h d (by simp)
    simp only [List.map_cons, lexLines, List.length_cons, List.append_assoc]
    rw [lineToks_import d L hb hm, ← Nat.add_assoc, topLevel_import (F + r.length) d L _ a hm,
      top_imports r (L + 1) F _ rest (fun i hi => h i (by simp [hi]))]
    simp

/-! ## the parser has fuel enough: every element costs at least one token -/

theorem count_list (n : Nat) : ∀ (es : List Item), (∀ e ∈ es, ∀ s, 1 + need1 e ≤ (itemToks n e s).length) →
    ∀ (first : Bool) (le0 lt L : Nat) (g : Bool), es.length + needAll es ≤ (kT n es first le0 lt g L).length
  | [], _, _, _, _, _, _ => by simp [needAll]
  | e :: r, h, first, le0, lt, L, g => by
    have h1 := h e (by simp) (kidS e first le0 lt L g)
    have h2 := count_list n r (fun x hx => h x (by simp [hx])) false e.loc.endLine e.typeOrder
      (rdItem e (kidS e first le0 lt L g)).2 e.gapEnder
    rw [kT_cons]
    simp only [List.length_append, List.length_cons, needAll, hd_length]
    omega

theorem count_field (f : FieldD) (h : SimpleField f ∨ MapField f ∨ OptField f) (n s : Nat) :
    1 + need1 (.field f) ≤ (itemToks n (.field f) s).length := by
  obtain ⟨t, tl, htoks, _⟩ := field_read f h n s
  rw [htoks]
  simp [need1]

theorem count_value (f : FieldD) (h : SimpleValue f) (n s : Nat) : 1 + need1 (.field f) ≤ (itemToks n (.field f) s).length := by
  have hpe : f.popts.isEmpty = true := by simp [Leaf.popts (Or.inr (Or.inl h))]
  obtain ⟨t, tl, htoks⟩ := leafLine_head (Or.inr (Or.inl h)) n s
  simp [itemToks, hpe, htoks, need1]

theorem length_le_flatten {α} : ∀ (l : List (List α)), (∀ c ∈ l, c ≠ []) → l.length ≤ l.flatten.length
  | [], _ => by simp
  | c :: r, h => by
    have hc := h c (by simp)
    have ih := length_le_flatten r (fun x hx => h x (by simp [hx]))
    have : 1 ≤ c.length := by cases c with | nil => exact absurd rfl hc | cons _ _ => simp
    simp only [List.length_cons, List.flatten_cons, List.length_append]
    omega

theorem count_chunks (cs : List (List PTok)) (h : ChunksOk cs) : cs.length ≤ cs.flatten.length := by
  apply length_le_flatten
  intro c hc he
  obtain ⟨r, hr⟩ := h c hc
  rw [he] at hr
  simp [Grammar.optionStmt] at hr

theorem count_block (kw : String) (t : Nat) (l : Loc) (i : Nat) (name : String) (opts : List SOpt) (kids : List Item)
    (hkw : IsIdent kw) (hname : IsIdent name) (ho : BlockOpts opts) (n s : Nat)
    (hk : kids.length + needAll kids ≤ (kT (n + 1) kids true 0 0 (!opts.isEmpty) (s + 1 + optSpan opts)).length) :
    1 + need1 (.block kw t l i name opts kids) ≤ (itemToks n (.block kw t l i name opts kids) s).length := by
  have hco := count_chunks _ ho.chunks
  rw [ho.whole] at hco
  simp only [itemToks, need1]
  split
  · rename_i he
    simp only [Bool.and_eq_true, List.isEmpty_iff] at he
    obtain ⟨rfl, rfl⟩ := he
    rw [lineToks_empty n kw name s hkw hname]
    simp [needAll, optChunks, optToks0_nil, splitOpt]
  · rw [lineToks_open n kw name s hkw hname, lineToks_close]
    simp only [List.length_append, List.length_cons, List.length_nil, sh_length]
    omega

theorem count_item : ∀ (e : Item), SimpleItem e → ∀ (n s : Nat), 1 + need1 e ≤ (itemToks n e s).length := by
  refine Item.induct (fun f h n s => count_field f h n s) (fun _ _ _ _ _ _ h => h.elim)
    (fun kw t l i name opts kids ih h n s => ?_)
  simp only [SimpleItem] at h
  obtain ⟨hl, ho, hname, hcase⟩ := h
  rcases hcase with ⟨rfl, _, hk⟩ | ⟨rfl, _, hk⟩ | ⟨rfl, _, _, hk, _⟩
  · exact count_block _ t l i name opts kids isIdent_message hname ho n s
      (count_list (n + 1) kids (fun e he => ih e he (((simpleKids_iff kids).1 hk).mem he).1 (n + 1)) _ _ _ _ _)
  · exact count_block _ t l i name opts kids isIdent_enum hname ho n s
      (count_list (n + 1) kids (fun e he s => by
        obtain ⟨f, rfl, hv⟩ := (((simpleValues_iff kids).1 hk).mem he).1
        exact count_value f hv (n + 1) s) _ _ _ _ _)
  · exact count_block _ t l i name opts kids isIdent_oneof hname ho n s
      (count_list (n + 1) kids (fun e he s => by
        obtain ⟨f, rfl, hv, _⟩ := (((simpleMembers_iff kids).1 hk).mem he).1
        exact count_field f (hv.imp_right Or.inr) (n + 1) s) _ _ _ _ _)

theorem count_kids : ∀ (es : List Item), SimpleKids es → ∀ (n : Nat) (first : Bool) (le0 lt L : Nat) (g : Bool),
    es.length + needAll es ≤ (kT n es first le0 lt g L).length :=
  fun es h n => count_list n es (fun e he => count_item e (((simpleKids_iff es).1 h).mem he).1 n)

theorem count_rpc : ∀ (e : Item), SimpleRpc e → ∀ (n s : Nat), 1 + need1 e ≤ (itemToks n e s).length
  | .rpc l i name inT outT opts, h, n, s => by
    obtain ⟨hl, ho, hname, ⟨sI, aI, fI, rI, hfI, hrI, hin, _⟩, ⟨sO, aO, fO, rO, hfO, hrO, hout, _⟩⟩ := h
    subst hin hout
    have hco := count_chunks _ ho.chunks
    rw [ho.whole] at hco
    simp only [itemToks, need1]
    split
    · rename_i he
      have : opts = [] := by simpa using he
      subst this
      simp [lineToks_rpc n name sI aI fI rI sO aO fO rO _ hname hfI hrI hfO hrO, rpcToks, rpcChunks, rpcToks0_nil,
        splitOpt]
    · simp only [lineToks_rpcOpen n name sI aI fI rI sO aO fO rO _ hname hfI hrI hfO hrO, rpcOpenToks,
        List.length_append, List.length_cons, sh_length]
      omega
  | .field _, h, _, _ => h.elim
  | .block _ _ _ _ _ _ _, h, _, _ => h.elim

theorem count_service : ∀ (e : Item), SimpleService e → ∀ (n s : Nat), 1 + need1 e ≤ (itemToks n e s).length
  | .block kw t l i name opts kids, h, n, s => by
    obtain ⟨hl, ho, hname, rfl, _, hk⟩ := h
    exact count_block _ t l i name opts kids isIdent_service hname ho n s
      (count_list (n + 1) kids (fun e he => count_rpc e (((simpleRpcs_iff kids).1 hk).mem he).1 (n + 1)) _ _ _ _ _)
  | .field _, h, _, _ => h.elim
  | .rpc _ _ _ _ _ _, h, _, _ => h.elim

theorem count_tops (es : List Item) (h : SimpleTops es) (n : Nat) (first : Bool) (le0 lt L : Nat) (g : Bool) :
    es.length + needAll es ≤ (kT n es first le0 lt g L).length :=
  count_list n es (fun e he s => ((((simpleTops_iff es).1 h).mem he).1).elim (fun hs => count_item e hs.1 n s)
    (fun hs => count_service e hs n s)) first le0 lt L g

theorem lexLines_imports_length : ∀ (I : List (String × String)) (L : Nat),
    (∀ i ∈ I, PlainBody i.1.toList ∧ (i.2 = "" ∨ i.2 = "public " ∨ i.2 = "weak ")) →
    I.length ≤ (lexLines (I.map importLine) L).length
  | [], _, _ => by simp [lexLines]
  | d :: r, L, h => by
    obtain ⟨hb, hm⟩ := h d (by simp)
    have ih := lexLines_imports_length r (L + 1) (fun i hi => h i (by simp [hi]))
    simp only [List.map_cons, lexLines, List.length_append, List.length_cons, lineToks_import d L hb hm, importToks]
    omega

end J5V.Print.Reparse
