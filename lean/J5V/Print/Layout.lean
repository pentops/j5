import J5V.Print.OptionText
import J5V.Print.TextString
import J5V.Print.Scalar
/-!
# C05 kernel 5 — the element walk and the layout of a whole file (core only)

A model of **everything** `protoprint.PrintFile` does above the four kernels:
`printFile`, `printSection`, `printElements` (sorting, gaps / blank lines), `printMessage` /
`printEnum` / `printService` / `printOneof` / `printMethod` / `printField` / `printFieldStyle`
(with comments), `printExtension`, `leadingComments` / `trailingComments` / `inlineComment`,
`fileBuffer.p` / `addGap` / `endElem`, the option enumeration order of `OptionsFor`
(`/repo/internal/j5s/protoprint/{protoprint,types,options,elements}.go`,
`optionreflect/builder.go`).

Input: an abstract element tree (`FileD` → `Item` → `FieldD` / `OptD`) holding what the printer
reads from a descriptor: names, numbers, printed type names (outputs of the `RefName` kernel),
option value trees (outputs of `WalkOptionField`), source locations (lines, comments). The
harness stream `print.file` summarises real descriptors into this tree and compares the text
`printFile` gives with the text the real `PrintFile` gives.

The printer works in two phases: `arrange` (sort the children of every block — `sort.Sort`
with `sourceElements.Less`) and writing (`itemCmds` / `elemsCmds` / `fileCmds` walk the arranged tree and give the lines as commands, `run` lays them out).
-/
namespace J5V.Print.Layout
open J5V.Print.OptionText J5V.Print.Order

/-! ## the output buffer: `fileBuffer.p`, `addGap`, `endElem` -/

/-- what the walk asks of the buffer; texts are already indented -/
inductive Cmd where
  | line (s : String)   -- `p`: a pending gap is written first (as an empty line)
  | gap                 -- `addGap`
  | endl (s : String)   -- `endElem`: a pending gap is dropped
  deriving Repr, DecidableEq

/-- the lines written, given the state of the `addGap` flag -/
def run : List Cmd → Bool → List String
  | [], _ => []
  | .gap :: r, _ => run r true
  | .line s :: r, g => (if g then ["", s] else [s]) ++ run r false
  | .endl s :: r, _ => s :: run r false

/-! ## source locations and comments -/

/-- `protoreflect.SourceLocation`, as far as the printer reads it (`startLine = 0`: none) -/
structure Loc where
  startLine : Nat
  endLine : Nat
  detached : List String
  leading : String
  trailing : String
  deriving Repr, DecidableEq, Inhabited

def Loc.none : Loc := ⟨0, 0, [], "", ""⟩

/-- `strings.Split(c, "\n")` without its last element (comment strings end with a newline) -/
def commentBody (c : String) : List String :=
  if c = "" then [] else (c.splitOn "\n").dropLast

/-- `commentLines` -/
def commentLines (c : String) : List String := (commentBody c).map ("//" ++ ·)

/-- `inlineComment` (joined: the printer writes the elements one after the other) -/
def inlineComment (l : Loc) : String :=
  let ls := commentBody l.trailing
  if ls.length > 1 then "" else String.join (ls.map (" //" ++ ·))

/-- `trailingComments` on a builder with indentation `n` -/
def trailingCmds (n : Nat) (l : Loc) : List Cmd :=
  let ls := commentBody l.trailing
  if ls.length ≤ 1 then [] else ls.map (fun x => Cmd.line (ind n ("//" ++ x))) ++ [.gap]

/-- `leadingComments` on a builder with indentation `n` -/
def leadingCmds (n : Nat) (l : Loc) : List Cmd :=
  (l.detached.map (fun c => (commentLines c).map (fun x => Cmd.line (ind n x)) ++ [Cmd.gap])).flatten ++
  (if l.leading = "" then [] else Cmd.gap :: (commentLines l.leading).map (fun x => Cmd.line (ind n x)))

/-! ## options -/

mutual
def depthKids : List Opt → Nat
  | [] => 0
  | o :: r => max (depth o) (depthKids r)
/-- depth of a value tree: enough fuel for `simplify` -/
def depth : Opt → Nat
  | .scalar _ _ => 1
  | .msg _ ks => 1 + depthKids ks
  | .arr _ ks => 1 + depthKids ks
end

/-- one `optionreflect.OptionDefinition` as `OptionsFor` returns it -/
structure OptD where
  extFull : String       -- `Desc.FullName()` of the option field
  isExt : Bool           -- `RootType.IsExtension()`
  rel : String           -- extension: `contextRefName(Context, RootType)`; built-in: the field name
  tree : Opt             -- `WalkOptionField(Desc, Value)` before `Simplify`
  hasLoc : Bool          -- `SourceLocation != nil`
  singleLine : Bool
  inlineParent : Bool
  startLine : Nat
  index : Nat            -- `Desc.Index()`
  deriving Repr, Inhabited

/-- `optionFullName` -/
def optName (isExt : Bool) (rel : String) (sub : List String) : String :=
  if isExt then optionName rel sub else ".".intercalate (rel :: sub)

def OptD.simp (o : OptD) : List String × Opt := simplified o.extFull o.tree (depth o.tree)

/-- An option as the printer writes it (`parseOption`): the printed name (after `Simplify`), the
values of its statements (one, or one per element of a repeated option), and what the printer
reads of the source location. This is also what a reader of the text gets back. -/
structure SOpt where
  name : String
  stmts : List Opt
  hasLoc : Bool
  singleLine : Bool
  inlineParent : Bool
  startLine : Nat
  index : Nat
  full : String
  deriving Repr, Inhabited

def OptD.toS (o : OptD) : SOpt :=
  ⟨optName o.isExt o.rel o.simp.1, statements o.simp.2, o.hasLoc, o.singleLine, o.inlineParent, o.startLine,
    o.index, o.extFull⟩

def SOpt.single (o : SOpt) : Bool := !o.hasLoc || o.singleLine      -- `sourceSingleLine`
def SOpt.inl (o : SOpt) : Bool := !o.hasLoc || o.inlineParent        -- `inlineWithParent`

/-- `parseOption`: the statements of one option -/
def SOpt.parsed (o : SOpt) : List POpt :=
  o.stmts.map fun v => ⟨o.name, v, inlineString o.single v, o.inl⟩

def strBytes (s : String) : List Nat := s.toUTF8.toList.map (·.toNat)

def SOpt.loc (o : SOpt) : OptLoc := ⟨o.hasLoc, o.startLine, o.index, strBytes o.full⟩

/-- `sort.Sort(optionsByLocation(options))`. The sort is unstable and its input order is the
iteration order of a Go map: the result is determined only when `locLess` is a strict weak order
without ties on these options (`optsDetermined`); then every sorting algorithm agrees with this one. -/
def sortOpts (os : List SOpt) : List SOpt := isort (fun a b => locLess a.loc b.loc) os

/-- `printOption` on a builder with indentation `n` -/
def optionCmds (n : Nat) (o : SOpt) : List Cmd :=
  ((o.stmts.map (optionStmt1 n o.name o.single)).flatten).map Cmd.line

/-! ## elements -/

inductive FieldKind where
  | field      -- message field or extension field: `<label><type> <name>`
  | value      -- enum value: `<name>`
  deriving Repr, DecidableEq, Inhabited

/-- a field, an extension field or an enum value (`printFieldStyle`) -/
structure FieldD where
  kind : FieldKind
  loc : Loc
  index : Nat
  label : String          -- "", "repeated ", "optional "
  type : String           -- the printed type name (`fieldTypeName`), `map<k, v>` for a map
  name : String
  number : Int
  json : Option String    -- `JSONName()` of a non-extension field
  opts : List SOpt
  deriving Repr, Inhabited

def FieldD.head (f : FieldD) : String :=
  match f.kind with
  | .field => f.label ++ f.type ++ " " ++ f.name
  | .value => f.name

def bytesStr (bs : List Nat) : String := String.ofList (bs.map Char.ofNat)

/-- the options of `printFieldStyle`: `optionsFor` (parsed, sorted by name) plus `json_name` -/
def FieldD.popts (f : FieldD) : List POpt :=
  let sorted := sortByName (f.opts.map SOpt.parsed).flatten
  match f.json with
  | some j =>
    if j.toList ≠ defaultJSONName f.name.toList then
      sorted ++ [⟨"json_name", .scalar "" "", some (bytesStr (TextString.textString (strBytes j))), true⟩]
    else sorted
  | none => sorted

/-- `printField` / `printEnumValue` on a builder with indentation `n` -/
def fieldCmds (n : Nat) (f : FieldD) : List Cmd :=
  leadingCmds n f.loc ++
  (fieldStyle n f.head (Scalar.formatInt f.number) f.popts (inlineComment f.loc)).map Cmd.line ++
  trailingCmds n f.loc

/-- message / enum / service / oneof (`block`), field / enum value, method -/
inductive Item where
  | field (f : FieldD)
  | rpc (loc : Loc) (index : Nat) (name inT outT : String) (opts : List SOpt)
  | block (kw : String) (typeOrder : Nat) (loc : Loc) (index : Nat) (name : String)
      (opts : List SOpt) (kids : List Item)
  deriving Repr, Inhabited

def Item.loc : Item → Loc
  | .field f => f.loc
  | .rpc l _ _ _ _ _ => l
  | .block _ _ l _ _ _ _ => l

def Item.index : Item → Nat
  | .field f => f.index
  | .rpc _ i _ _ _ _ => i
  | .block _ _ _ i _ _ _ => i

/-- `sourceElement.typeOrder`: message 1, enum 2, everything else 0 -/
def Item.typeOrder : Item → Nat
  | .block _ t _ _ _ _ _ => t
  | _ => 0

def Item.elem (i : Item) : Elem := ⟨i.typeOrder, i.loc.startLine, i.index⟩

/-! ## phase 1: arranging (`sort.Sort(elements)`) -/

/-- one step of Go's `insertionSort`: the new element moves left while it is `Less` than its left
neighbour. The accumulator is the sorted prefix, reversed. -/
def insStep {α} (lt : α → α → Bool) (racc : List α) (x : α) : List α :=
  (racc.takeWhile (lt x ·)) ++ x :: racc.dropWhile (lt x ·)

/-- `sort.Sort` for at most 12 elements (`insertionSort`, stable); for more elements pdqsort gives
the same result whenever the comparison is a strict weak order without ties. -/
def goSort {α} (lt : α → α → Bool) (l : List α) : List α := (l.foldl (insStep lt) []).reverse

def sortItems (l : List Item) : List Item := goSort (fun a b => less a.elem b.elem) l

mutual
/-- sort the children of every block -/
def arrange : Item → Item
  | .block kw t l i nm os kids => .block kw t l i nm os (sortItems (arrangeList kids))
  | it => it
def arrangeList : List Item → List Item
  | [] => []
  | x :: r => arrange x :: arrangeList r
end

/-! ## phase 2: emitting -/

/-- `printElements`: a gap before an element that is not the first when the source left at least one line free
after the previous element (`lastEnd > 0 && start > lastEnd + 1`) or the kind of element changes -/
def gapCond (first : Bool) (lastEnd start type lastType : Nat) : Bool :=
  !first && ((decide (lastEnd > 0) && decide (start > lastEnd + 1)) || type != lastType)

mutual
/-- one element on a builder with indentation `n` (`printSection`, `printMethod`, `printField`),
followed by the `addGap` of `printElements` where there is one -/
def itemCmds (n : Nat) : Item → List Cmd
  | .field f => fieldCmds n f
  | .rpc l _ name inT outT opts =>
    leadingCmds n l ++
    [Cmd.line (ind n ("rpc " ++ name ++ "(" ++ inT ++ ") returns (" ++ outT ++ ")" ++
      (if opts.isEmpty then " {}" else " {") ++ inlineComment l))] ++
    trailingCmds n l ++
    ((sortOpts opts).map (optionCmds (n + 1))).flatten ++
    (if opts.isEmpty then [] else [Cmd.endl (ind n "}")]) ++ [Cmd.gap]
  | .block kw _ l _ name opts kids =>
    leadingCmds n l ++
    (if kids.isEmpty && opts.isEmpty && l.trailing = "" then
      [Cmd.line (ind n (kw ++ " " ++ name ++ " {}"))]
    else
      [Cmd.line (ind n (kw ++ " " ++ name ++ " {" ++ inlineComment l))] ++
      trailingCmds (n + 1) l ++
      ((sortOpts opts).map (fun o => optionCmds (n + 1) o ++ [Cmd.gap])).flatten ++
      elemsCmds (n + 1) kids true 0 0 ++
      [Cmd.endl (ind n "}")]) ++ [Cmd.gap]
/-- the loop of `printElements` over the sorted elements -/
def elemsCmds (n : Nat) : List Item → Bool → Nat → Nat → List Cmd
  | [], _, _, _ => []
  | e :: rest, first, lastEnd, lastType =>
    (if gapCond first lastEnd e.loc.startLine e.typeOrder lastType then [Cmd.gap] else []) ++
    itemCmds n e ++ elemsCmds n rest false e.loc.endLine e.typeOrder
end

/-! ## the file -/

structure FileD where
  loc : Loc                       -- `SourceLocations().ByPath(nil)`
  pkg : String
  imports : List (String × String)   -- path, modifier ("", "public ", "weak ")
  opts : List SOpt
  exts : List (String × FieldD)   -- top-level extension fields with their extendee
  items : List Item               -- messages, services, enums (in this order: `printFile` adds them so)
  deriving Repr, Inhabited

/-- `extBlocks`: extension fields grouped by extendee, in order of first appearance -/
def groupExts {β : Type} : List (String × β) → List (String × List β) → List (String × List β)
  | [], acc => acc
  | (e, f) :: r, acc =>
    if acc.any (·.1 == e) then groupExts r (acc.map fun b => if b.1 == e then (b.1, b.2 ++ [f]) else b)
    else groupExts r (acc ++ [(e, [f])])

/-- `printExtension`, the fields already rendered (`printField` on a builder with indentation 1) -/
def extCmds (b : String × List (List Cmd)) : List Cmd :=
  [Cmd.line ("extend " ++ b.1 ++ " {")] ++ b.2.flatten ++ [Cmd.endl "}", Cmd.gap]

def sortStrings (l : List String) : List String := isort (fun a b => nameLess (strBytes a) (strBytes b)) l

/-- `sort.Strings(importStrings)`: the imports in the order of their paths -/
def sortImports (l : List (String × String)) : List (String × String) :=
  isort (fun a b => nameLess (strBytes a.1) (strBytes b.1)) l

/-- the walk of an arranged file -/
def fileCmds (gen : String) (f : FileD) : List Cmd :=
  [Cmd.line ("// " ++ gen), Cmd.line ""] ++
  leadingCmds 0 f.loc ++
  [Cmd.line "syntax = \"proto3\";", Cmd.line "", Cmd.line ("package " ++ f.pkg ++ ";"), Cmd.gap] ++
  (if f.imports.isEmpty then []
   else (sortImports f.imports).map (fun d => Cmd.line ("import " ++ d.2 ++ "\"" ++ d.1 ++ "\";")) ++ [Cmd.gap]) ++
  ((sortOpts f.opts).map (optionCmds 0)).flatten ++ [Cmd.gap] ++
  ((groupExts (f.exts.map fun e => (e.1, fieldCmds 1 e.2)) []).map extCmds).flatten ++
  elemsCmds 0 f.items true 0 0

def FileD.arranged (f : FileD) : FileD := { f with items := sortItems (arrangeList f.items) }

/-- `printFile`: the lines of the printed text; `gen` is the `genComment` argument of `PrintFile` -/
def printFile (gen : String) (f : FileD) : List String := run (fileCmds gen f.arranged) false

/-- the text (`fileBuffer.out`) -/
def printText (gen : String) (f : FileD) : String := String.join ((printFile gen f).map (· ++ "\n"))

/-! ## when the result of the unstable sorts is determined by the comparison -/

def strictWeakOn {α} (lt : α → α → Bool) (l : List α) : Bool :=
  l.all fun a => l.all fun b => l.all fun c =>
    (!(lt a b && lt b c) || lt a c) &&
    (!(!lt a b && !lt b a && !lt b c && !lt c b) || (!lt a c && !lt c a))

def itemsDetermined (l : List Item) : Bool :=
  l.length ≤ 12 || (strictWeakOn (fun a b => less a.elem b.elem) l && noTies (fun a b => less a.elem b.elem) l)

def optsDetermined (l : List SOpt) : Bool :=
  l.length ≤ 1 || (strictWeakOn (fun a b => locLess a.loc b.loc) l && noTies (fun a b => locLess a.loc b.loc) l)

mutual
def Item.determined : Item → Bool
  | .field _ => true
  | .rpc _ _ _ _ _ opts => optsDetermined opts
  | .block _ _ _ _ _ opts kids => optsDetermined opts && itemsDetermined kids && determinedList kids
def determinedList : List Item → Bool
  | [] => true
  | x :: r => x.determined && determinedList r
end

def FileD.determined (f : FileD) : Bool :=
  optsDetermined f.opts && itemsDetermined f.items && determinedList f.items

end J5V.Print.Layout
