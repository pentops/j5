import J5V.Print.OptionTextSpec
/-! Lemmas about `J5V.Print.OptionText` (core only). -/
namespace J5V.Print.OptionText

/-- hoisting into the name loses nothing: re-nesting the hoisted path gives back the tree -/
theorem simplify_expand (md : Nat) : ∀ (fuel : Nat) (sub : List String) (o : Opt),
    ∃ ext, (simplify md fuel sub o).1 = sub ++ ext ∧ expand o.key ext (simplify md fuel sub o).2 = o
  | 0, sub, o => ⟨[], by simp [simplify, expand]⟩
  | fuel + 1, sub, o => by
    unfold simplify
    split
    · exact ⟨[], by simp [expand]⟩
    · split
      · rename_i r k v
        obtain ⟨ext, h1, h2⟩ := simplify_expand md fuel (sub ++ [k]) (.scalar k v)
        refine ⟨k :: ext, ?_, ?_⟩
        · rw [h1]; simp
        · simp only [expand, Opt.key] at h2 ⊢
          rw [h2]
      · rename_i r k kids
        obtain ⟨ext, h1, h2⟩ := simplify_expand md fuel (sub ++ [k]) (.msg k kids)
        refine ⟨k :: ext, ?_, ?_⟩
        · rw [h1]; simp
        · simp only [expand, Opt.key] at h2 ⊢
          rw [h2]
      · exact ⟨[], by simp [expand]⟩

/-! ## the token reader undoes the token writer -/

theorem pFields_stop (f : Nat) (rest : List Tok) (h : Stops rest) : pFields (f + 1) rest = some ([], rest) := by
  unfold pFields
  split
  · rename_i k v r; exact absurd rfl (h k _)
  · rename_i k r; exact absurd rfl (h k _)
  · rename_i k r; exact absurd rfl (h k _)
  · rfl

theorem stops_rbrace (t : List Tok) : Stops (.rbrace :: t) := by intro k t' h; cases h
theorem stops_nil : Stops [] := by intro k t' h; cases h

/-- Induction over a list of option values that also descends into the lists inside its elements: the recursion of
`msgFields` / `arrMsgs` / `arrScalars`, `msgToks` / `arrToks`, `eraseKids` / `eraseElems` and the like, with one motive
for the message reading and the list reading of the same list. -/
theorem Opt.list_induct {P : List Opt → Prop} (nil : P [])
    (scalar : ∀ k v r, P r → P (.scalar k v :: r))
    (msg : ∀ k ks r, P ks → P r → P (.msg k ks :: r))
    (arr : ∀ k ks r, P ks → P r → P (.arr k ks :: r)) : ∀ l, P l
  | [] => nil
  | .scalar k v :: r => scalar k v r (list_induct nil scalar msg arr r)
  | .msg k ks :: r => msg k ks r (list_induct nil scalar msg arr ks) (list_induct nil scalar msg arr r)
  | .arr k ks :: r => arr k ks r (list_induct nil scalar msg arr ks) (list_induct nil scalar msg arr r)

/-- both readers, on the tokens of the same list read as a message body and as list elements -/
theorem parse_toks (l : List Opt) :
    (wfKids l = true → ∀ (rest : List Tok) (fuel : Nat), Stops rest → szKids l ≤ fuel →
      pFields fuel (msgToks l ++ rest) = some (normKids l, rest)) ∧
    (wfElems l = true → ∀ (rest : List Tok) (fuel : Nat), szElems l ≤ fuel →
      pElems fuel (arrToks l ++ .rbrack :: rest) = some (normElems l, .rbrack :: rest)) := by
  induction l using Opt.list_induct with
  | nil =>
    refine ⟨fun _ rest fuel hs hf => ?_, fun _ rest fuel hf => ?_⟩
    · obtain ⟨f, rfl⟩ : ∃ f, fuel = f + 1 := ⟨fuel - 1, by simp only [szKids] at hf; omega⟩
      simp only [msgToks, List.nil_append, normKids]
      exact pFields_stop f rest hs
    · obtain ⟨f, rfl⟩ : ∃ f, fuel = f + 1 := ⟨fuel - 1, by simp only [szElems] at hf; omega⟩
      simp only [arrToks, List.nil_append, normElems]
      unfold pElems
      rfl
  | scalar k v r ih =>
    refine ⟨fun hw rest fuel hs hf => ?_, fun hw rest fuel hf => ?_⟩
    · simp only [szKids] at hf
      simp only [wfKids] at hw
      obtain ⟨f, rfl⟩ : ∃ f, fuel = f + 1 := ⟨fuel - 1, by omega⟩
      simp only [msgToks, List.cons_append, normKids]
      unfold pFields
      simp only []
      rw [ih.1 hw rest f hs (by omega)]
      rfl
    · simp only [szElems] at hf
      simp only [wfElems] at hw
      obtain ⟨f, rfl⟩ : ∃ f, fuel = f + 1 := ⟨fuel - 1, by omega⟩
      cases r with
      | nil =>
        simp only [arrToks, List.cons_append, List.nil_append, normElems]
        unfold pElems
        rfl
      | cons x r =>
        have ih := ih.2 hw rest f (by omega)
        simp only [arrToks, List.cons_append, normElems] at ih ⊢
        unfold pElems
        simp only []
        rw [ih]
        rfl
  | msg k ks r ihk ihr =>
    refine ⟨fun hw rest fuel hs hf => ?_, fun hw rest fuel hf => ?_⟩
    · simp only [szKids] at hf
      simp only [wfKids, Bool.and_eq_true] at hw
      obtain ⟨f, rfl⟩ : ∃ f, fuel = f + 1 := ⟨fuel - 1, by omega⟩
      simp only [msgToks, List.cons_append, List.append_assoc, normKids]
      unfold pFields
      simp only []
      rw [ihk.1 hw.1 (.rbrace :: (msgToks r ++ rest)) f (stops_rbrace _) (by omega)]
      simp only []
      rw [ihr.1 hw.2 rest f hs (by omega)]
      rfl
    · simp only [szElems] at hf
      simp only [wfElems, Bool.and_eq_true] at hw
      obtain ⟨f, rfl⟩ : ∃ f, fuel = f + 1 := ⟨fuel - 1, by omega⟩
      cases r with
      | nil =>
        simp only [arrToks, List.cons_append, List.append_assoc, List.nil_append, normElems]
        unfold pElems
        simp only []
        rw [ihk.1 hw.1 (.rbrace :: .rbrack :: rest) f (stops_rbrace _) (by omega)]
      | cons x r =>
        have ih := ihr.2 hw.2 rest f (by omega)
        simp only [arrToks, List.cons_append, List.append_assoc, normElems] at ih ⊢
        unfold pElems
        simp only []
        rw [ihk.1 hw.1 _ f (stops_rbrace _) (by omega)]
        simp only []
        rw [ih]
        rfl
  | arr k ks r ihk ihr =>
    refine ⟨fun hw rest fuel hs hf => ?_, fun hw => by simp [wfElems] at hw⟩
    simp only [szKids] at hf
    simp only [wfKids, Bool.and_eq_true] at hw
    obtain ⟨f, rfl⟩ : ∃ f, fuel = f + 1 := ⟨fuel - 1, by omega⟩
    simp only [msgToks, List.cons_append, List.append_assoc, normKids]
    unfold pFields
    simp only []
    rw [ihk.2 hw.1 (msgToks r ++ rest) f (by omega)]
    simp only []
    rw [ihr.1 hw.2 rest f hs (by omega)]
    rfl

theorem pFields_msgToks (kids : List Opt) (hw : wfKids kids = true) (rest : List Tok) (fuel : Nat)
    (hs : Stops rest) (hf : szKids kids ≤ fuel) : pFields fuel (msgToks kids ++ rest) = some (normKids kids, rest) :=
  (parse_toks kids).1 hw rest fuel hs hf

theorem pElems_arrToks (kids : List Opt) (hw : wfElems kids = true) (rest : List Tok) (fuel : Nat)
    (hf : szElems kids ≤ fuel) :
    pElems fuel (arrToks kids ++ .rbrack :: rest) = some (normElems kids, .rbrack :: rest) :=
  (parse_toks kids).2 hw rest fuel hf

/-- a whole value: written as tokens and read back, it is the tree without the keys the text cannot carry -/
theorem pValue_valueToks (v : Opt) (hw : wf v = true) : pValue (sz v) (valueToks v) = some (norm v) := by
  cases v with
  | scalar k s => rfl
  | msg k kids =>
    simp only [wf] at hw
    simp only [valueToks, sz, norm, List.cons_append, pValue]
    rw [pFields_msgToks kids hw [.rbrace] _ (stops_rbrace _) (Nat.le_refl _)]
  | arr k kids =>
    simp only [wf] at hw
    simp only [valueToks, sz, norm, List.cons_append, pValue]
    rw [pElems_arrToks kids hw [] _ (Nat.le_refl _)]

/-! ## the printed lines do not depend on the keys the text cannot carry -/

theorem arrScalars_erase (n : Nat) : ∀ l : List Opt, arrScalars n (eraseElems l) = arrScalars n l
  | [] => by simp [eraseElems]
  | [x] => by cases x <;> simp [eraseElems, arrScalars]
  | x :: y :: r => by
    have ih := arrScalars_erase n (y :: r)
    cases x <;> cases y <;> simp_all [eraseElems, arrScalars]

theorem arrLines_erase_of (n : Nat) (op tr : String) (ks : List Opt)
    (h1 : ∀ f, arrMsgs n f (eraseElems ks) = arrMsgs n f ks) :
    arrLines n op (eraseElems ks) tr = arrLines n op ks tr := by
  have h2 := arrScalars_erase (n + 1) ks
  match ks with
  | [] => simp [eraseElems]
  | [.scalar _ v] => simp [eraseElems, arrLines]
  | .msg k ks' :: rest =>
    have := h1 true
    simp only [eraseElems] at this
    simp only [eraseElems, arrLines, this]
  | .scalar k v :: x :: rest =>
    simp only [eraseElems] at h2
    cases x with
    | scalar k2 v2 =>
      simp only [eraseElems] at h2 ⊢
      simp only [arrLines, h2]
    | msg k2 v2 =>
      simp only [eraseElems] at h2 ⊢
      simp only [arrLines, h2]
    | arr k2 v2 =>
      simp only [eraseElems] at h2 ⊢
      simp only [arrLines, h2]
  | .arr k ks' :: rest =>
    simp only [eraseElems] at h2 ⊢
    simp only [arrLines, h2]

theorem lines_erase (l : List Opt) :
    (∀ n, msgFields n (eraseKids l) = msgFields n l) ∧
    (∀ n f, arrMsgs n f (eraseElems l) = arrMsgs n f l) := by
  induction l using Opt.list_induct with
  | nil => simp [eraseKids, eraseElems]
  | scalar k v r ih =>
    exact ⟨fun n => by simp [eraseKids, msgFields, ih.1 n], fun n f => by simp [eraseElems, arrMsgs, ih.2 n false]⟩
  | msg k ks r ihk ihr =>
    exact ⟨fun n => by simp [eraseKids, msgFields, ihk.1 (n + 1), ihr.1 n],
      fun n f => by simp [eraseElems, arrMsgs, ihk.1 n, ihr.2 n false]⟩
  | arr k ks r ihk ihr =>
    refine ⟨fun n => ?_, fun n f => by simp [eraseElems, arrMsgs, ihr.2 n false]⟩
    simp only [eraseKids, msgFields, ihr.1 n]
    rw [arrLines_erase_of (n + 1) _ _ ks (ihk.2 (n + 1))]

theorem msgFields_erase (n : Nat) (ks : List Opt) : msgFields n (eraseKids ks) = msgFields n ks :=
  (lines_erase ks).1 n

theorem arrMsgs_erase : ∀ (n : Nat) (f : Bool) (ks : List Opt), arrMsgs n f (eraseElems ks) = arrMsgs n f ks :=
  fun n f ks => (lines_erase ks).2 n f

theorem erase_idem (l : List Opt) :
    eraseKids (eraseKids l) = eraseKids l ∧ eraseElems (eraseElems l) = eraseElems l := by
  induction l using Opt.list_induct with
  | nil => simp [eraseKids, eraseElems]
  | scalar k v r ih => simp [eraseKids, eraseElems, ih]
  | msg k ks r ih1 ih2 => simp [eraseKids, eraseElems, ih1, ih2]
  | arr k ks r ih1 ih2 => simp [eraseKids, eraseElems, ih1, ih2]

theorem eraseKids_idem (ks : List Opt) : eraseKids (eraseKids ks) = eraseKids ks := (erase_idem ks).1
theorem eraseElems_idem (ks : List Opt) : eraseElems (eraseElems ks) = eraseElems ks := (erase_idem ks).2

theorem inlineString_erase (s : Bool) (v : Opt) : inlineString s (eraseKeys v) = inlineString s v := by
  cases v with
  | scalar k x => simp [eraseKeys, inlineString]
  | arr k ks => simp [eraseKeys, inlineString]
  | msg k ks =>
    match ks with
    | [] => simp [eraseKeys, eraseKids, inlineString]
    | [.scalar a b] => simp [eraseKeys, eraseKids, inlineString]
    | [.msg a b] => simp [eraseKeys, eraseKids, inlineString]
    | [.arr a b] => simp [eraseKeys, eraseKids, inlineString]
    | x :: y :: r => cases x <;> cases y <;> simp [eraseKeys, eraseKids, inlineString]

theorem optionStmt1_erase (n : Nat) (name : String) (s : Bool) (v : Opt) :
    optionStmt1 n name s (eraseKeys v) = optionStmt1 n name s v := by
  unfold optionStmt1
  rw [inlineString_erase]
  cases v with
  | scalar k x => simp [eraseKeys]
  | arr k ks => simp [eraseKeys]
  | msg k ks =>
    cases ks with
    | nil => simp [eraseKeys, eraseKids]
    | cons x r =>
      have := msgFields_erase n (x :: r)
      cases x <;> simp_all [eraseKeys, eraseKids]

/-! ## indentation: the lines on a builder with indentation `m + n` are those of indentation `n`, moved right -/

theorem ind_add (n m : Nat) (s : String) : ind (n + m) s = ind n (ind m s) := by
  unfold ind
  rw [← String.append_assoc]
  congr 1
  apply String.ext
  simp only [String.toList_append, String.toList_ofList]
  rw [Nat.mul_add, List.replicate_append_replicate]

theorem ind_zero (s : String) : ind 0 s = s := by
  unfold ind
  simp

theorem ind_add1 (m n : Nat) (s : String) : ind (m + n + 1) s = ind m (ind (n + 1) s) := by
  rw [Nat.add_assoc, ind_add]

theorem ind_add2 (m n : Nat) (s : String) : ind (m + n + 2) s = ind m (ind (n + 2) s) := by
  rw [Nat.add_assoc, ind_add]

theorem arrScalars_ind (m n : Nat) : ∀ l : List Opt, arrScalars (m + n) l = (arrScalars n l).map (ind m)
  | [] => by simp [arrScalars]
  | [x] => by cases x <;> simp [arrScalars, ind_add]
  | x :: y :: r => by
    have ih := arrScalars_ind m n (y :: r)
    cases x <;> cases y <;> simp_all [arrScalars, ind_add]

theorem arrLines_ind_of (m n : Nat) (op tr : String) (ks : List Opt)
    (h1 : ∀ f, arrMsgs (m + n) f ks = (arrMsgs n f ks).map (ind m)) :
    arrLines (m + n) op ks tr = (arrLines n op ks tr).map (ind m) := by
  have h2 : arrScalars (m + n + 1) ks = (arrScalars (n + 1) ks).map (ind m) := arrScalars_ind m (n + 1) ks
  match ks with
  | [] => simp [arrLines, ind_add]
  | [.scalar _ v] => simp [arrLines, ind_add]
  | .msg k ks' :: rest =>
    simp only [arrLines, h1 true, List.map_cons, List.map_append, List.map_nil, ind_add, List.cons_append]
  | .scalar k v :: x :: rest =>
    simp only [arrLines, h2, List.map_cons, List.map_append, List.map_nil, ind_add, List.cons_append]
  | .arr k ks' :: rest =>
    cases rest with
    | nil => simp only [arrLines, h2, List.map_cons, List.map_append, List.map_nil, ind_add, List.cons_append]
    | cons x xs => simp only [arrLines, h2, List.map_cons, List.map_append, List.map_nil, ind_add, List.cons_append]

/-- the lines written for a list on a builder with indentation `m + n` are those of indentation `n`, moved right -/
theorem lines_ind (l : List Opt) :
    (∀ m n, msgFields (m + n) l = (msgFields n l).map (ind m)) ∧
    (∀ m n f, arrMsgs (m + n) f l = (arrMsgs n f l).map (ind m)) := by
  induction l using Opt.list_induct with
  | nil => simp [msgFields, arrMsgs]
  | scalar k v r ih =>
    exact ⟨fun m n => by simp [msgFields, ih.1 m n, ind_add1],
      fun m n f => by cases f <;> simp [arrMsgs, ih.2 m n false, ind_add]⟩
  | msg k ks r ihk ihr =>
    refine ⟨fun m n => ?_, fun m n f => by cases f <;> simp [arrMsgs, ihk.1 m n, ihr.2 m n false, ind_add]⟩
    have h1 := ihk.1 m (n + 1)
    rw [← Nat.add_assoc] at h1
    simp [msgFields, h1, ihr.1 m n, ind_add1]
  | arr k ks r ihk ihr =>
    refine ⟨fun m n => ?_, fun m n f => by cases f <;> simp [arrMsgs, ihr.2 m n false, ind_add]⟩
    have := arrLines_ind_of m (n + 1) (k ++ ": ") "" ks (ihk.2 m (n + 1))
    rw [← Nat.add_assoc] at this
    simp only [msgFields, this, ihr.1 m n, List.map_append]

theorem msgFields_ind (m n : Nat) (ks : List Opt) : msgFields (m + n) ks = (msgFields n ks).map (ind m) :=
  (lines_ind ks).1 m n

theorem arrMsgs_ind : ∀ (m n : Nat) (f : Bool) (ks : List Opt), arrMsgs (m + n) f ks = (arrMsgs n f ks).map (ind m) :=
  fun m n f ks => (lines_ind ks).2 m n f

theorem fieldBody_ind (m : Nat) : ∀ (ps : List POpt), fieldBody m ps = (fieldBody 0 ps).map (ind m)
  | [] => rfl
  | p :: rest => by
    have ih := fieldBody_ind m rest
    have hm := msgFields_ind m 1
    have e1 : ∀ s : String, ind (m + 1) s = ind m (ind (0 + 1) s) := fun s => ind_add m 1 s
    simp only [fieldBody, ih]
    cases p.inl with
    | some v => simp [e1]
    | none =>
      cases p.root with
      | scalar k v => simp [e1]
      | arr k ks => simp
      | msg k ks => simp [e1, hm]

theorem fieldStyle_ind (m : Nat) (head number : String) (ps : List POpt) :
    fieldStyle m head number ps "" = (fieldStyle 0 head number ps "").map (ind m) := by
  unfold fieldStyle
  split
  · simp [ind_zero]
  · split
    · simp [ind_zero]
    · simp only [List.map_append, List.map_cons, List.map_nil, ind_zero, fieldBody_ind m ps, List.cons_append]

theorem optionStmt1_ind (m : Nat) (name : String) (single : Bool) (v : Opt) :
    optionStmt1 m name single v = (optionStmt1 0 name single v).map (ind m) := by
  unfold optionStmt1
  cases inlineString single v with
  | some s => simp [ind_zero]
  | none =>
    cases v with
    | scalar k x => simp [ind_zero]
    | arr k ks => simp
    | msg k ks =>
      cases ks with
      | nil => simp [ind_zero]
      | cons a r =>
        have := msgFields_ind m 0 (a :: r)
        simp only [Nat.add_zero] at this
        simp [ind_zero, this]

end J5V.Print.OptionText
