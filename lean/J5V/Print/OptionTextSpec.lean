import J5V.Print.OptionText
/-! # Definitions the statements about `OptionText` use (core only); lemmas: `OptionTextProofs` -/
namespace J5V.Print.OptionText

/-- the value `(ext).k₁.k₂.… = leaf` denotes: the sub-path re-nested as single-field messages -/
def expand (rootKey : String) : List String → Opt → Opt
  | [], o => o
  | k :: ks, o => .msg rootKey [expand k ks o]

/-- the next token cannot start a message field -/
def Stops (rest : List Tok) : Prop := ∀ k t, rest ≠ .ident k :: t

end J5V.Print.OptionText
