import J5V.Print.ReparseScan
import J5V.Print.ReparseLayout
/-!
# The lines of an element hold tokens only (core only)

`Own`: the lines an element writes itself — not its leading comment, not its children — hold no line break and no `//`, and
its first line starts with a token: what the bridge from characters to tokens needs.
-/
namespace J5V.Print.Reparse
open J5V.Print J5V.Print.Grammar J5V.Print.Layout J5V.Print.OptionText J5V.Print.Scalar


theorem CmdsNoCh.append {x : Char} {a b : List Cmd} (ha : CmdsNoCh x a) (hb : CmdsNoCh x b) : CmdsNoCh x (a ++ b) := by
  intro c hc
  rcases List.mem_append.mp hc with h | h
  · exact ha c h
  · exact hb c h

theorem cmdsNoCh_line (x : Char) (str : String) (h : NoCh x str.toList) : CmdsNoCh x [Cmd.line str] := by
  intro c hc
  simp only [List.mem_singleton] at hc
  subst hc
  exact Or.inl h

theorem cmdsNoCh_endl (x : Char) (str : String) (h : NoCh x str.toList) : CmdsNoCh x [Cmd.endl str] := by
  intro c hc
  simp only [List.mem_singleton] at hc
  subst hc
  exact Or.inl h

theorem cmdsNoCh_gap (x : Char) : CmdsNoCh x [Cmd.gap] := by
  intro c hc
  simp only [List.mem_singleton] at hc
  subst hc
  trivial

theorem cmdsNoCh_gapIf (x : Char) (c : Bool) : CmdsNoCh x (if c then [Cmd.gap] else []) := by
  cases c
  · intro y hy; simp at hy
  · exact cmdsNoCh_gap x

theorem cmds_P_of_noCh {x : Char} (P : String → Prop) (hP : ∀ s, LineOk x s → P s) (cmds : List Cmd)
    (h : CmdsNoCh x cmds) : ∀ c ∈ cmds, match c with | .line s => P s | .endl s => P s | .gap => True := by
  intro c hc
  have := h c hc
  cases c with
  | line s => exact hP s this
  | endl s => exact hP s this
  | gap => trivial

section
variable {x : Char} (hx : Safe x)
include hx

theorem lineOk_ind (n : Nat) (l : String) (h : (∀ c ∈ l.toList, c ≠ '\n') ∧ TokOk l) : LineOk x (ind n l) := by
  rcases hx.only with h2 | h2
  · exact Or.inl (noCh_ind hx n l (fun ch hch hcx => h.1 ch hch (hcx.trans h2)))
  · exact Or.inr ⟨h2, tokLine_ind_of_ok _ l h.2⟩

theorem stmtCmds_noCh (n : Nat) (os : List SOpt) (hnoch : ∀ l ∈ optLines0 os, (∀ c ∈ l.toList, c ≠ '\n') ∧ TokOk l)
    (sep : List Cmd) (hsep : CmdsNoCh x sep) : CmdsNoCh x ((sortOpts os).map (fun o => optionCmds n o ++ sep)).flatten := by
  intro c hc
  simp only [List.mem_flatten, List.mem_map] at hc
  obtain ⟨cs, ⟨o, ho', rfl⟩, hmem⟩ := hc
  rcases List.mem_append.mp hmem with h1 | h1
  · rw [optionCmds_indent] at h1
    simp only [optionCmds, List.mem_map] at h1
    obtain ⟨_, ⟨l, hl, rfl⟩, rfl⟩ := h1
    exact lineOk_ind hx n l (hnoch l (by
      simp only [optLines0, List.mem_flatten, List.mem_map]
      exact ⟨_, ⟨o, ho', rfl⟩, hl⟩))
  · exact hsep c h1

theorem leaf_own (n : Nat) (f : FieldD) (h : SimpleField f ∨ SimpleValue f ∨ MapField f ∨ OptField f) :
    CmdsNoCh x (ownCmds n (.field f)) := by
  simp only [ownCmds]
  rcases h with h | h | h | h
  · rw [fieldCmds_leaf n f (Or.inl h), leafLine, h.1]
    exact cmdsNoCh_line x _ (noCh_fieldLine hx n f h)
  · rw [fieldCmds_leaf n f (Or.inr (Or.inl h)), leafLine, h.1]
    exact cmdsNoCh_line x _ (noCh_valueLine hx n f h)
  · rw [fieldCmds_leaf n f (Or.inr (Or.inr h)), leafLine, h.1]
    exact cmdsNoCh_line x _ (noCh_mapLine hx n f h)
  · rw [fieldCmds_lines n f h.loc, fieldLines_ind n f]
    intro c hc
    simp only [List.map_map, List.mem_map, Function.comp] at hc
    obtain ⟨l, hl, rfl⟩ := hc
    exact lineOk_ind hx n l (h.noch l hl)

theorem block_own (n : Nat) (kw : String) (t : Nat) (l : Loc) (i : Nat) (name : String) (os : List SOpt) (kids : List Item)
    (hkw : NoCh x kw.toList) (hname : IsIdent name) (ho : BlockOpts os) :
    CmdsNoCh x (ownCmds n (.block kw t l i name os kids)) := by
  simp only [ownCmds]
  intro c hc
  simp only [List.mem_cons] at hc
  rcases hc with rfl | rfl | rfl | hc
  · left
    apply noCh_ind hx
    simp only [String.toList_append]
    exact NoCh.append hx (NoCh.append hx (NoCh.append hx hkw (noCh_lit (hx.lits " " (by simp)))) (noCh_ident hx hname))
      (noCh_lit (hx.lits " {}" (by simp)))
  · left
    apply noCh_ind hx
    simp only [String.toList_append]
    exact NoCh.append hx (NoCh.append hx (NoCh.append hx (NoCh.append hx hkw (noCh_lit (hx.lits " " (by simp))))
      (noCh_ident hx hname)) (noCh_lit (hx.lits " {" (by simp)))) (noCh_lit (hx.lits "" (by simp)))
  · exact Or.inl (noCh_ind hx n "}" (noCh_lit (hx.lits "}" (by simp))))
  · exact stmtCmds_noCh hx (n + 1) os ho.noch [Cmd.gap] (cmdsNoCh_gap x) c hc

theorem simpleItem_own : ∀ (e : Item) (n : Nat), SimpleItem e → CmdsNoCh x (ownCmds n e)
  | .field f, n, h => by
    simp only [SimpleItem] at h
    apply leaf_own hx n f
    rcases h with h | h | h
    · exact Or.inl h
    · exact Or.inr (Or.inr (Or.inl h))
    · exact Or.inr (Or.inr (Or.inr h))
  | .rpc _ _ _ _ _ _, _, h => h.elim
  | .block kw t l i name os kids, n, h => by
    simp only [SimpleItem] at h
    obtain ⟨hl, ho, hname, hcase⟩ := h
    have hkw : NoCh x kw.toList := by
      rcases hcase with ⟨h, _⟩ | ⟨h, _⟩ | ⟨h, _⟩ <;> rw [h] <;> exact noCh_lit (hx.lits _ (by simp))
    exact block_own hx n kw t l i name os kids hkw hname ho

theorem simpleRpc_own : ∀ (e : Item) (n : Nat), SimpleRpc e → CmdsNoCh x (ownCmds n e)
  | .rpc l i name inT outT opts, n, h => by
    obtain ⟨hl, ho, hname, ⟨sI, aI, fI, rI, hfI, hrI, hin, _⟩, ⟨sO, aO, fO, rO, hfO, hrO, hout, _⟩⟩ := h
    subst hin hout
    have hhead : ∀ tail : String, tail ∈ [" {}", " {"] → NoCh x (ind n ("rpc " ++ name ++ "(" ++ rpcTyStr sI aI fI rI ++
        ") returns (" ++ rpcTyStr sO aO fO rO ++ ")" ++ tail ++ "")).toList := by
      intro tail ht
      apply noCh_ind hx
      simp only [String.toList_append]
      have htail : NoCh x tail.toList := by
        simp only [List.mem_cons, List.not_mem_nil, or_false] at ht
        rcases ht with rfl | rfl
        · exact noCh_lit (hx.lits " {}" (by simp))
        · exact noCh_lit (hx.lits " {" (by simp))
      exact NoCh.append hx (NoCh.append hx (NoCh.append hx (NoCh.append hx (NoCh.append hx (NoCh.append hx (NoCh.append hx
        (NoCh.append hx (noCh_lit (hx.lits "rpc " (by simp))) (noCh_ident hx hname)) (noCh_lit (hx.lits "(" (by simp))))
        (noCh_rpcTyStr hx sI aI fI rI hfI hrI)) (noCh_lit (hx.lits ") returns (" (by simp))))
        (noCh_rpcTyStr hx sO aO fO rO hfO hrO)) (noCh_lit (hx.lits ")" (by simp)))) htail)
        (noCh_lit (hx.lits "" (by simp)))
    simp only [ownCmds]
    by_cases hemp : opts.isEmpty = true
    · have hnil : opts = [] := by simpa using hemp
      subst hnil
      rw [rpcCmds_plain n l i name _ _ hl]
      refine CmdsNoCh.append ?_ (cmdsNoCh_gap x)
      apply cmdsNoCh_line
      exact hhead " {}" (by simp)
    · have hne : opts.isEmpty = false := by simpa using hemp
      rw [rpcCmds_opts n l i name _ _ opts hl hne]
      refine CmdsNoCh.append (cmdsNoCh_line x _ (hhead " {" (by simp))) (CmdsNoCh.append ?_
        (CmdsNoCh.append (cmdsNoCh_endl x _ (noCh_ind hx n "}" (noCh_lit (hx.lits "}" (by simp))))) (cmdsNoCh_gap x)))
      simpa using stmtCmds_noCh hx (n + 1) opts ho.noch [] (fun c hc => by cases hc)
  | .field _, _, h => h.elim
  | .block _ _ _ _ _ _ _, _, h => h.elim

theorem simpleService_own : ∀ (e : Item) (n : Nat), SimpleService e → CmdsNoCh x (ownCmds n e)
  | .block kw t l i name os kids, n, h => by
    obtain ⟨hl, ho, hname, hkw, _, hk⟩ := h
    subst hkw
    exact block_own hx n "service" t l i name os kids (noCh_lit (hx.lits "service" (by simp))) hname ho
  | .field _, _, h => h.elim
  | .rpc _ _ _ _ _ _, _, h => h.elim

end

theorem tokCmds_of_noCh {cmds : List Cmd} (h1 : CmdsNoCh '/' cmds) (h2 : CmdsNoCh '\n' cmds) : TokCmds cmds := by
  intro c hc
  have a := h1 c hc
  have b := h2 c hc
  cases c with
  | line s => exact ⟨a.elim (tokLine_of_noSlash s) (fun h => h.2), b.elim id (fun h => absurd h.1 (by decide))⟩
  | endl s => exact ⟨a.elim (tokLine_of_noSlash s) (fun h => h.2), b.elim id (fun h => absurd h.1 (by decide))⟩
  | gap => trivial

theorem TokCmds.append {a b : List Cmd} (ha : TokCmds a) (hb : TokCmds b) : TokCmds (a ++ b) := by
  intro c hc
  rcases List.mem_append.mp hc with h | h
  · exact ha c h
  · exact hb c h

theorem TokCmds.with_gap {l : List Cmd} (h : TokCmds l) {c : Cmd} (hc : c ∈ l) : TokCmds [c, Cmd.gap] := by
  intro x hx
  simp only [List.mem_cons, List.not_mem_nil, or_false] at hx
  rcases hx with rfl | rfl
  · exact h x hc
  · trivial

theorem TokCmds.sub {a b : List Cmd} (hb : TokCmds b) (h : ∀ c ∈ a, c ∈ b) : TokCmds a := fun c hc => hb c (h c hc)

/-- the first line of a field with options starts with the first token of the field -/
theorem optField_first (f : FieldD) (h : OptField f) (n s : Nat) :
    ∃ t tl, lineToks (ind n ((fieldLines 0 f).headD "")) s = T t s :: tl := by
  obtain ⟨w, raws, e, c, hw, hty, htoks, _, _⟩ := h.read
  obtain ⟨t, tl, hhead, _⟩ := headToks_start f w h.lab hw 0
  obtain ⟨l0, ls, hls⟩ := List.exists_cons_of_ne_nil (fieldLines_ne 0 f)
  rw [hls, List.headD_cons, lineToks_ind]
  have h0 : lineToks l0 0 ++ lexLines ls 1 = ⟨t, 0, Cm.none⟩ :: (tl ++ rdBody f) := by
    have : fieldToks0 f = lineToks l0 0 ++ lexLines ls 1 := by unfold fieldToks0; rw [hls]; rfl
    rw [← this, htoks, hhead]; rfl
  have hne : ∃ tl0, lineToks l0 0 = T t 0 :: tl0 := by
    cases hl : lineToks l0 0 with
    | nil =>
      rw [hl, List.nil_append] at h0
      have := lexLines_ge ls 1 ⟨t, 0, Cm.none⟩ (by rw [h0]; simp)
      simp at this
    | cons a b =>
      rw [hl, List.cons_append] at h0
      simp only [List.cons.injEq] at h0
      exact ⟨b, by rw [h0.1]; rfl⟩
  obtain ⟨tl0, htl0⟩ := hne
  have := lineToks_shift l0 0 s
  rw [Nat.zero_add] at this
  rw [this, htl0]
  exact ⟨t, sh s tl0, by simp [sh, PTok.shift, T]⟩

theorem leaf_ownOk (f : FieldD) (h : SimpleField f ∨ SimpleValue f ∨ MapField f ∨ OptField f) : OwnOk (.field f) := by
  refine ⟨fun n => tokCmds_of_noCh (leaf_own safe_slash n f h) (leaf_own safe_nl n f h), fun n s => ?_⟩
  rcases Plain.field_cases h with ⟨hp, hleaf⟩ | ⟨hp, ho⟩
  · have hpe : f.popts.isEmpty = true := by simp [hp]
    simp only [firstLine, hpe, if_true]
    exact leafLine_head hleaf n s
  · have hpe : f.popts.isEmpty = false := by simpa using hp
    simp only [firstLine, hpe, Bool.false_eq_true, if_false]
    exact optField_first f ho n s

theorem block_first (n : Nat) (kw : String) (t : Nat) (l : Loc) (i : Nat) (name : String) (os : List SOpt) (kids : List Item)
    (hkw : IsIdent kw) (hname : IsIdent name) (s : Nat) :
    ∃ tk tl, lineToks (firstLine n (.block kw t l i name os kids)) s = T tk s :: tl := by
  simp only [firstLine]
  split
  · rw [lineToks_empty n kw name s hkw hname]; exact ⟨_, _, rfl⟩
  · rw [lineToks_open n kw name s hkw hname]; exact ⟨_, _, rfl⟩

theorem SimpleItem.own : ∀ e, SimpleItem e → Own e := by
  refine Item.induct (fun f h => ?_) (fun _ _ _ _ _ _ h => h.elim) (fun kw t l i name os ks ih h => ?_)
  · simp only [Own]
    exact leaf_ownOk f (h.imp_right Or.inr)
  · have h0 := h
    simp only [SimpleItem] at h
    obtain ⟨hl, ho, hname, hcase⟩ := h
    have hkw : IsIdent kw := by
      rcases hcase with ⟨h, _⟩ | ⟨h, _⟩ | ⟨h, _⟩ <;> rw [h]
      · exact isIdent_message
      · exact isIdent_enum
      · exact isIdent_oneof
    simp only [Own]
    refine ⟨⟨fun n => tokCmds_of_noCh (simpleItem_own safe_slash _ n h0) (simpleItem_own safe_nl _ n h0),
      fun n s => block_first n kw t l i name os ks hkw hname s⟩, (ownList_iff ks).2 (fun k hk => ?_)⟩
    rcases hcase with hm | he | ho'
    · exact ih k hk (((simpleKids_iff ks).1 hm.2.2).mem hk).1
    · obtain ⟨f, rfl, hv⟩ := (((simpleValues_iff ks).1 he.2.2).mem hk).1
      simp only [Own]
      exact leaf_ownOk f (Or.inr (Or.inl hv))
    · obtain ⟨f, rfl, hv, _⟩ := (((simpleMembers_iff ks).1 ho'.2.2.2.1).mem hk).1
      simp only [Own]
      exact leaf_ownOk f (hv.imp_right (fun h => Or.inr (Or.inr h)))

theorem SimpleKids.own : ∀ es, SimpleKids es → OwnList es :=
  fun es h => (ownList_iff es).2 (fun e he => SimpleItem.own e (((simpleKids_iff es).1 h).mem he).1)

theorem SimpleRpc.own : ∀ e, SimpleRpc e → Own e
  | .rpc l i name inT outT os, h => by
    have h0 := h
    obtain ⟨hl, ho, hname, ⟨sI, aI, fI, rI, hfI, hrI, hin, _⟩, ⟨sO, aO, fO, rO, hfO, hrO, hout, _⟩⟩ := h
    simp only [Own]
    refine ⟨fun n => tokCmds_of_noCh (simpleRpc_own safe_slash _ n h0) (simpleRpc_own safe_nl _ n h0), fun n s => ?_⟩
    subst hin hout
    simp only [firstLine]
    split
    · rw [lineToks_rpc n name sI aI fI rI sO aO fO rO s hname hfI hrI hfO hrO]; exact ⟨_, _, rfl⟩
    · rw [lineToks_rpcOpen n name sI aI fI rI sO aO fO rO s hname hfI hrI hfO hrO]; exact ⟨_, _, rfl⟩
  | .field _, h => h.elim
  | .block _ _ _ _ _ _ _, h => h.elim

theorem SimpleService.own : ∀ e, SimpleService e → Own e
  | .block kw t l i name os ks, h => by
    have h0 := h
    obtain ⟨hl, ho, hname, hkw, _, hk⟩ := h
    simp only [Own]
    subst hkw
    exact ⟨⟨fun n => tokCmds_of_noCh (simpleService_own safe_slash _ n h0) (simpleService_own safe_nl _ n h0),
      fun n s => block_first n "service" t l i name os ks isIdent_service hname s⟩,
      (ownList_iff ks).2 (fun e he => SimpleRpc.own e (((simpleRpcs_iff ks).1 hk).mem he).1)⟩
  | .field _, h => h.elim
  | .rpc _ _ _ _ _ _, h => h.elim

theorem SimpleTops.own (es : List Item) (h : SimpleTops es) : OwnList es :=
  (ownList_iff es).2 (fun e he => ((((simpleTops_iff es).1 h).mem he).1).elim (fun hs => SimpleItem.own e hs.1)
    (fun hs => SimpleService.own e hs))

theorem sortImports_mem (t : FileD) (d : String × String) (hd : d ∈ sortImports t.imports) : d ∈ t.imports :=
  (sortImports_perm t.imports).subset hd

/-- the header lines hold tokens only -/
theorem hdCmds_tok (gen : String) (t : FileD) (h : SimpleFile gen t) : TokCmds (hdCmds t) := by
  have hpk : ∀ x : Char, Safe x → NoCh x "package ".toList → NoCh x (packageLine t).toList :=
    fun x hx hp => noCh_packageLine hx hp t gen h
  intro c hc
  unfold hdCmds importCmds at hc
  simp only [List.mem_append, List.mem_cons, List.mem_singleton, List.not_mem_nil, or_false] at hc
  rcases hc with (rfl | rfl | rfl | rfl) | hc | rfl
  · exact ⟨tokLine_of_noSlash _ (by intro c hc; revert c; decide), noNL_of_all _ (by decide)⟩
  · exact ⟨tokLine_blank, noNL_of_all "" (by decide)⟩
  · exact ⟨tokLine_of_noSlash _ (hpk '/' safe_slash (by intro c hc; revert c; decide)),
      hpk '\n' safe_nl (noNL_of_all "package " (by decide))⟩
  · trivial
  · split at hc
    · simp at hc
    · simp only [List.mem_append, List.mem_map, List.mem_singleton] at hc
      rcases hc with ⟨d, hd, rfl⟩ | rfl
      · obtain ⟨hb, hm⟩ := h.imports d (sortImports_mem t d hd)
        exact ⟨tokLine_importLine d hb hm, noNL_importLine d hb hm⟩
      · trivial
  · trivial

/-! ## no printed line holds a line break -/

theorem CmdsNoNL.append {a b : List Cmd} (ha : CmdsNoNL a) (hb : CmdsNoNL b) : CmdsNoNL (a ++ b) := by
  intro c hc
  rcases List.mem_append.mp hc with h | h
  · exact ha c h
  · exact hb c h

theorem TokCmds.noNL {a : List Cmd} (h : TokCmds a) : CmdsNoNL a := by
  intro c hc
  have := h c hc
  cases c with
  | line s => exact this.2
  | endl s => exact this.2
  | gap => trivial

theorem cmdsNoNL_gapIf (c : Bool) : CmdsNoNL (if c then [Cmd.gap] else []) := by
  intro x hx
  cases c
  · simp at hx
  · simp only [if_true, List.mem_singleton] at hx; subst hx; trivial

theorem noNL_ind (n : Nat) (s : String) (h : NoNL s.toList) : NoNL (ind n s).toList := noCh_ind safe_nl n s h

theorem lead_noNL (n : Nat) {l : Loc} (hl : l.leadOnly) (hc : CommentOk l.leading) : CmdsNoNL (leadingCmds n l) := by
  rw [leadingCmds_lead n hl]
  split
  · intro c hc'; simp at hc'
  · rename_i hne
    rcases hc with hc | hc
    · exact absurd hc hne
    · intro c hc'
      simp only [List.mem_cons, List.mem_map, leadLines] at hc'
      rcases hc' with rfl | ⟨s, ⟨x, hx, rfl⟩, rfl⟩
      · trivial
      · simp only []
        apply noNL_ind
        simp only [String.toList_append]
        intro ch hch
        rcases List.mem_append.mp hch with h1 | h1
        · have : ("//".toList : List Char) = ['/', '/'] := by decide +kernel
          rw [this] at h1
          simp only [List.mem_cons, List.not_mem_nil, or_false, or_self] at h1
          rw [h1]; decide
        · exact hc.2.1 x hx ch h1

theorem own_sub_block (n : Nat) (kw : String) (t : Nat) (l : Loc) (i : Nat) (name : String) (os : List SOpt) (kids : List Item) :
    ∀ c ∈ [Cmd.line (ind n (kw ++ " " ++ name ++ " {}")), Cmd.line (ind n (kw ++ " " ++ name ++ " {" ++ "")),
        Cmd.endl (ind n "}")] ++ ((sortOpts os).map (fun o => optionCmds (n + 1) o ++ [Cmd.gap])).flatten,
      c ∈ ownCmds n (.block kw t l i name os kids) := by
  intro c hc
  simp only [ownCmds]
  simpa using hc

mutual
theorem body_noNL : ∀ (e : Item), Plain e → Own e → ∀ n, CmdsNoNL (bodyCmds n e)
  | .field f, _, ho, n => by
    simp only [Own] at ho
    exact (ho.1 n).noNL
  | .rpc _ _ _ _ _ _, _, ho, n => by
    simp only [Own] at ho
    exact (ho.1 n).noNL
  | .block kw t l i name os kids, hp, ho, n => by
    simp only [Plain] at hp
    simp only [Own] at ho
    have hown := (ho.1.1 n).noNL
    have hsub := own_sub_block n kw t l i name os kids
    rw [blockCmds_opts n kw t l i name os kids hp.1]
    have hk := elems_noNL kids hp.2.2 ho.2 (n + 1) true 0 0
    intro c hc
    rcases List.mem_append.mp hc with h1 | h1
    · split at h1
      · exact hown c (hsub c (by simp only [List.mem_singleton] at h1; simp [h1]))
      · rcases List.mem_append.mp h1 with h2 | h2
        · exact hown c (hsub c (by simp only [List.mem_singleton] at h2; simp [h2]))
        · rcases List.mem_append.mp h2 with h3 | h3
          · exact hown c (hsub c (List.mem_append_right _ h3))
          · rcases List.mem_append.mp h3 with h4 | h4
            · exact hk c h4
            · exact hown c (hsub c (by simp only [List.mem_singleton] at h4; simp [h4]))
    · simp only [List.mem_singleton] at h1; subst h1; trivial
theorem elems_noNL : ∀ (es : List Item), PlainList es → OwnList es → ∀ (n : Nat) (first : Bool) (le0 lt : Nat),
    CmdsNoNL (elemsCmds n es first le0 lt)
  | [], _, _, _, _, _, _ => by intro c hc; simp [elemsCmds] at hc
  | e :: r, hp, ho, n, first, le0, lt => by
    simp only [PlainList] at hp
    simp only [OwnList] at ho
    rw [elemsCmds_cons]
    exact CmdsNoNL.append (CmdsNoNL.append (CmdsNoNL.append (cmdsNoNL_gapIf _)
      (lead_noNL n (Plain.loc e hp.1) hp.2.1)) (body_noNL e hp.1 ho.1 n)) (elems_noNL r hp.2.2 ho.2 n false _ _)
end

end J5V.Print.Reparse
