/-!
# C05 kernel 1 — proto string literals (core only)

`textString` mirrors `prototextString` of
`/repo/internal/j5s/protoprint/optionreflect/walk.go` (a copy of prototext's string encoder with
`outputASCII = true`): byte string ↦ double-quoted literal.

`unescape` is the reader side, written from the protobuf language specification of string literals
as implemented by protocompile's lexer (`parser/lexer.go readStringLiteral`, third party, **not**
under test): literal ↦ byte string, or `none` when the literal is rejected.
Both are compared with the Go functions by the `print.str` correspondence stream.

Bytes are `Nat`s below 256 (`IsBytes`).
-/
namespace J5V.Print.TextString

def IsBytes (s : List Nat) : Prop := ∀ b ∈ s, b < 256

instance (s : List Nat) : Decidable (IsBytes s) := by unfold IsBytes; infer_instance

/-! ## UTF-8 as Go's `unicode/utf8` implements it -/

def isCont (b : Nat) : Bool := 0x80 ≤ b && b ≤ 0xBF

/-- accepted range of the second byte (Go's `acceptRanges`) -/
def lo3 (b0 : Nat) : Nat := if b0 = 0xE0 then 0xA0 else 0x80
def hi3 (b0 : Nat) : Nat := if b0 = 0xED then 0x9F else 0xBF
def lo4 (b0 : Nat) : Nat := if b0 = 0xF0 then 0x90 else 0x80
def hi4 (b0 : Nat) : Nat := if b0 = 0xF4 then 0x8F else 0xBF

/-- `utf8.DecodeRuneInString`: `some (r, n)` for a well-formed sequence of `n` bytes at the head,
`none` for `(RuneError, 1)` (ill-formed) and for the empty string. -/
def decodeRune : List Nat → Option (Nat × Nat)
  | [] => none
  | b0 :: t =>
    if b0 < 0x80 then some (b0, 1)
    else if 0xC2 ≤ b0 ∧ b0 ≤ 0xDF then
      match t with
      | b1 :: _ => if isCont b1 then some ((b0 % 32) * 64 + b1 % 64, 2) else none
      | _ => none
    else if 0xE0 ≤ b0 ∧ b0 ≤ 0xEF then
      match t with
      | b1 :: b2 :: _ =>
        if lo3 b0 ≤ b1 ∧ b1 ≤ hi3 b0 ∧ isCont b2 then some ((b0 % 16) * 4096 + (b1 % 64) * 64 + b2 % 64, 3) else none
      | _ => none
    else if 0xF0 ≤ b0 ∧ b0 ≤ 0xF4 then
      match t with
      | b1 :: b2 :: b3 :: _ =>
        if lo4 b0 ≤ b1 ∧ b1 ≤ hi4 b0 ∧ isCont b2 ∧ isCont b3 then
          some ((b0 % 8) * 262144 + (b1 % 64) * 4096 + (b2 % 64) * 64 + b3 % 64, 4)
        else none
      | _ => none
    else none

/-- `utf8.AppendRune` / `bytes.Buffer.WriteRune`: surrogates and values above U+10FFFF are written
as U+FFFD. -/
def encodeRune (r : Nat) : List Nat :=
  if r < 0x80 then [r]
  else if r < 0x800 then [0xC0 + r / 64, 0x80 + r % 64]
  else if (0xD800 ≤ r ∧ r ≤ 0xDFFF) ∨ 0x10FFFF < r then [0xEF, 0xBF, 0xBD]
  else if r < 0x10000 then [0xE0 + r / 4096, 0x80 + r / 64 % 64, 0x80 + r % 64]
  else [0xF0 + r / 262144, 0x80 + r / 4096 % 64, 0x80 + r / 64 % 64, 0x80 + r % 64]

/-! ## hexadecimal -/

/-- lower-case hex digit, as `strconv.AppendUint(_, _, 16)` writes it -/
def hexDigit (d : Nat) : Nat := if d < 10 then 48 + d else 87 + d

def hexVal (c : Nat) : Option Nat :=
  if 48 ≤ c ∧ c ≤ 57 then some (c - 48)
  else if 97 ≤ c ∧ c ≤ 102 then some (c - 87)
  else if 65 ≤ c ∧ c ≤ 70 then some (c - 55)
  else none

/-- the `w` low hex digits of `r`, most significant first -/
def hexFixed (r : Nat) : Nat → List Nat
  | 0 => []
  | w + 1 => hexDigit (r / 16 ^ w % 16) :: hexFixed r w

/-- number of hex digits `strconv.AppendUint(r, 16)` writes; equals `1 + (bits.Len32(r)-1)/4`
(Go's integer division truncates toward zero, so `r = 0` gives 1 as well) -/
def hexWidth (r : Nat) : Nat :=
  if r < 0x10 then 1 else if r < 0x100 then 2 else if r < 0x1000 then 3 else if r < 0x10000 then 4
  else if r < 0x100000 then 5 else if r < 0x1000000 then 6 else if r < 0x10000000 then 7 else 8

/-- `"00…0"[1+(bits.Len32(r)-1)/4:]` followed by `strconv.AppendUint(r, 16)` for a pad string of
`W` zeros. -/
def goHexPad (W r : Nat) : List Nat :=
  List.replicate (W - hexWidth r) 48 ++ hexFixed r (hexWidth r)

/-! ## the encoder -/

/-- one loop iteration of `prototextString`: the bytes appended to `out` and the number of input
bytes consumed. `l` is non-empty. -/
def escStep (l : List Nat) : List Nat × Nat :=
  match l with
  | [] => ([], 1)
  | b0 :: _ =>
    match decodeRune l with
    | none =>
      -- `r == utf8.RuneError && n == 1`: r = rune(in[0]), fallthrough into the escape branch
      (92 :: 120 :: goHexPad 2 b0, 1)
    | some (r, n) =>
      if r < 32 ∨ r = 34 ∨ r = 92 ∨ r = 0x7f then
        if r = 34 ∨ r = 92 then ([92, r], n)
        else if r = 10 then ([92, 110], n)
        else if r = 13 then ([92, 114], n)
        else if r = 9 then ([92, 116], n)
        else (92 :: 120 :: goHexPad 2 r, n)
      else if 0x80 ≤ r then
        -- outputASCII is the constant true
        if r ≤ 0xFFFF then (92 :: 117 :: goHexPad 4 r, n)
        else (92 :: 85 :: goHexPad 8 r, n)
      else
        -- printable ASCII (the Go code copies the whole run up to the next byte that needs
        -- escaping; byte by byte is the same thing)
        ([r], n)

theorem decodeRune_bounds {l : List Nat} {r n : Nat} (h : decodeRune l = some (r, n)) :
    1 ≤ n ∧ n ≤ l.length := by
  fun_cases decodeRune l
  all_goals simp [decodeRune, *] at h
  all_goals simp [← h.2]

/-- the bytes consumed are those of the rune at the head, one for an ill-formed byte -/
theorem escStep_snd (b0 : Nat) (t : List Nat) :
    (escStep (b0 :: t)).2 = match decodeRune (b0 :: t) with | none => 1 | some (_, n) => n := by
  simp only [escStep]
  cases decodeRune (b0 :: t) with
  | none => rfl
  | some p => simp only [apply_ite Prod.snd, ite_self]

theorem escStep_pos (l : List Nat) : 1 ≤ (escStep l).2 := by
  match l with
  | [] => exact Nat.le_refl 1
  | b0 :: t =>
    rw [escStep_snd]
    split
    · exact Nat.le_refl 1
    · exact (decodeRune_bounds ‹_›).1

def escBody (l : List Nat) : List Nat :=
  match h : l with
  | [] => []
  | b0 :: t =>
    (escStep l).1 ++ escBody (l.drop (escStep l).2)
termination_by l.length
decreasing_by
  have := escStep_pos (b0 :: t)
  subst h
  simp only [List.length_drop, List.length_cons]
  omega

/-- `prototextString` -/
def textString (s : List Nat) : List Nat := 34 :: (escBody s ++ [34])

/-! ## the reader (protobuf language spec, as protocompile's lexer implements it) -/

def isOct (c : Nat) : Bool := 48 ≤ c && c ≤ 55

def hexVals : List Nat → Option Nat
  | [] => some 0
  | c :: t => match hexVal c, hexVals t with
    | some d, some v => some (d * 16 ^ t.length + v)
    | _, _ => none

/-- Reads the literal after its opening quote. `none` = rejected: end of input or a raw newline
before the closing quote, a raw NUL, a malformed escape, or anything after the closing quote. -/
def unescBody (l : List Nat) : Option (List Nat) :=
  match l with
  | [] => none
  | 34 :: t => if t = [] then some [] else none
  | 10 :: _ => none
  | 0 :: _ => none
  | 92 :: t =>
    match t with
    | [] => none
    | c :: t1 =>
      if c = 120 ∨ c = 88 then
        match t1 with
        | [] => none
        | c1 :: t2 =>
          if c1 = 34 ∨ c1 = 92 then none else
          match t2 with
          | [] => none
          | c2 :: t3 =>
            match hexVal c2 with
            | some d2 =>
              (match hexVal c1 with
               | some d1 => (unescBody t3).map ((d1 * 16 + d2) :: ·)
               | none => none)
            | none =>
              (match hexVal c1 with
               | some d1 => (unescBody (c2 :: t3)).map (d1 :: ·)
               | none => none)
      else if isOct c then
        match t1 with
        | [] => none
        | c2 :: t2 =>
          if !isOct c2 then (unescBody (c2 :: t2)).map ((c - 48) :: ·) else
          match t2 with
          | [] => none
          | c3 :: t3 =>
            if !isOct c3 then (unescBody (c3 :: t3)).map (((c - 48) * 8 + (c2 - 48)) :: ·)
            else
              let v := (c - 48) * 64 + (c2 - 48) * 8 + (c3 - 48)
              if v > 0xff then none else (unescBody t3).map (v :: ·)
      else if c = 117 then
        match t1 with
        | a :: b :: c' :: d :: t5 =>
          if [a, b, c', d].any (fun x => x = 34 ∨ x = 92) then none else
          (match hexVals [a, b, c', d] with
           | some v => (unescBody t5).map (encodeRune v ++ ·)
           | none => none)
        | _ => none
      else if c = 85 then
        match t1 with
        | a :: b :: c' :: d :: e :: f :: g :: h :: t9 =>
          if [a, b, c', d, e, f, g, h].any (fun x => x = 34 ∨ x = 92) then none else
          (match hexVals [a, b, c', d, e, f, g, h] with
           | some v => if v > 0x10ffff then none else (unescBody t9).map (encodeRune v ++ ·)
           | none => none)
        | _ => none
      else
        let simple : Option Nat :=
          if c = 97 then some 7 else if c = 98 then some 8 else if c = 102 then some 12
          else if c = 110 then some 10 else if c = 114 then some 13 else if c = 116 then some 9
          else if c = 118 then some 11 else if c = 92 then some 92 else if c = 39 then some 39
          else if c = 34 then some 34 else if c = 63 then some 63 else none
        match simple with
        | some v => (unescBody t1).map (v :: ·)
        | none => none
  | b :: t =>
    -- a raw character: the lexer reads a rune and writes it back (an ill-formed byte becomes U+FFFD)
    match hd : decodeRune (b :: t) with
    | some (r, n) => (unescBody ((b :: t).drop n)).map (encodeRune r ++ ·)
    | none => (unescBody t).map ([0xEF, 0xBF, 0xBD] ++ ·)
termination_by l.length
decreasing_by
  all_goals simp_wf
  all_goals try omega
  all_goals (have := (decodeRune_bounds hd).1; omega)

/-- the whole literal: opening quote, body, closing quote, nothing else -/
def unescape (l : List Nat) : Option (List Nat) :=
  match l with
  | 34 :: t => unescBody t
  | _ => none

end J5V.Print.TextString
