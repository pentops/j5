import J5V.Print.RefName
/-! Lemmas about `J5V.Print.RefName` (core only). -/
namespace J5V.Print.RefName

/-- number of components `stripCommon` removes -/
def commonLen : Path → Path → Nat
  | r :: rs, c :: cs => if rs ≠ [] ∧ r = c then commonLen rs cs + 1 else 0
  | _, _ => 0

theorem stripCommon_eq_drop : ∀ (tgt ctx : Path), stripCommon tgt ctx = tgt.drop (commonLen tgt ctx)
  | [], _ => by simp [stripCommon, commonLen]
  | _ :: _, [] => by simp [stripCommon, commonLen]
  | r :: rs, c :: cs => by
    unfold stripCommon commonLen
    split
    · simp [stripCommon_eq_drop rs cs]
    · simp

theorem commonLen_le_ctx : ∀ (tgt ctx : Path), commonLen tgt ctx ≤ ctx.length
  | [], _ => by simp [commonLen]
  | _ :: _, [] => by simp [commonLen]
  | r :: rs, c :: cs => by
    unfold commonLen
    split
    · have := commonLen_le_ctx rs cs; simp; omega
    · simp

theorem commonLen_lt_tgt : ∀ (tgt ctx : Path), tgt ≠ [] → commonLen tgt ctx < tgt.length
  | [], _, h => absurd rfl h
  | _ :: _, [], _ => by simp [commonLen]
  | r :: rs, c :: cs, _ => by
    unfold commonLen
    split
    · rename_i h
      have := commonLen_lt_tgt rs cs h.1; simp; omega
    · simp

theorem take_commonLen : ∀ (tgt ctx : Path),
    tgt.take (commonLen tgt ctx) = ctx.take (commonLen tgt ctx)
  | [], _ => by simp [commonLen]
  | _ :: _, [] => by simp [commonLen]
  | r :: rs, c :: cs => by
    unfold commonLen
    split
    · rename_i h
      simp [take_commonLen rs cs, h.2]
    · simp

theorem mem_takesDown (l : Path) : ∀ (n k : Nat), 0 < k → k ≤ n → l.take k ∈ takesDown l n
  | 0, k, h1, h2 => by omega
  | n + 1, k, h1, h2 => by
    unfold takesDown
    by_cases hk : k = n + 1
    · subst hk; simp
    · exact List.mem_cons_of_mem _ (mem_takesDown l n k h1 (by omega))

/-- the home scope is one of the scopes searched -/
theorem home_mem_scopes (pkg ctx tgtPkg tgt : Path) :
    home pkg ctx tgtPkg tgt ∈ scopes pkg ctx := by
  unfold home scopes
  split
  · simp
  · rw [stripCommon_eq_drop, List.length_drop]
    have hle := commonLen_le_ctx tgt ctx
    by_cases hne : tgt = []
    · subst hne
      simp only [commonLen, List.length_nil, Nat.sub_self, List.take_nil, List.append_nil]
      by_cases hp : pkg = []
      · subst hp; simp
      · have : pkg.take pkg.length ∈ takesDown pkg pkg.length :=
          mem_takesDown pkg pkg.length pkg.length (List.length_pos_iff.mpr hp) (Nat.le_refl _)
        rw [List.take_length] at this
        simp [this]
    · have hlt := commonLen_lt_tgt tgt ctx hne
      have hk : tgt.length - (tgt.length - commonLen tgt ctx) = commonLen tgt ctx := by omega
      rw [hk, take_commonLen]
      by_cases h0 : commonLen tgt ctx = 0
      · rw [h0]
        simp only [List.take_zero, List.append_nil]
        by_cases hp : pkg = []
        · subst hp; simp
        · have : pkg.take pkg.length ∈ takesDown pkg pkg.length :=
            mem_takesDown pkg pkg.length pkg.length (List.length_pos_iff.mpr hp) (Nat.le_refl _)
          rw [List.take_length] at this
          simp [this]
      · apply List.mem_append_left
        apply List.mem_map.mpr
        exact ⟨_, mem_takesDown ctx ctx.length _ (by omega) hle, rfl⟩

/-- the printed name, read in the home scope, spells the target -/
theorem home_append_shortName (pkg ctx tgtPkg tgt : Path) (hne : tgt ≠ []) :
    home pkg ctx tgtPkg tgt ++ shortName pkg ctx tgtPkg tgt = tgtPkg ++ tgt ∧
    shortName pkg ctx tgtPkg tgt ≠ [] := by
  unfold home shortName
  split
  · simp [hne]
  · rename_i h
    have hp : pkg = tgtPkg := by simpa using h
    subst hp
    rw [stripCommon_eq_drop, List.length_drop]
    have hlt := commonLen_lt_tgt tgt ctx hne
    have hk : tgt.length - (tgt.length - commonLen tgt ctx) = commonLen tgt ctx := by omega
    rw [hk]
    constructor
    · simp [List.append_assoc]
    · intro h0
      have := congrArg List.length h0
      simp at this; omega

theorem split_at_mem {α} [DecidableEq α] (x : α) : ∀ (l : List α), x ∈ l →
    ∃ outer, l = l.takeWhile (· ≠ x) ++ x :: outer
  | [], h => by simp at h
  | y :: ys, h => by
    by_cases hy : y = x
    · subst hy; exact ⟨ys, by simp⟩
    · have hx : x ∈ ys := by
        rcases List.mem_cons.mp h with rfl | h'
        · exact absurd rfl hy
        · exact h'
      obtain ⟨outer, ho⟩ := split_at_mem x ys hx
      refine ⟨outer, ?_⟩
      rw [List.takeWhile_cons]
      simp only [ne_eq, hy, not_false_eq_true, decide_true, if_true, List.cons_append]
      exact congrArg _ ho

/-- scopes that do not capture are passed over -/
theorem resolveIn_skip (t : Tab) (only : Bool) (first : String) (rest : Path) :
    ∀ (inner more : List Path) (best : Option Res),
    (∀ pre ∈ inner, captures t only pre first (rest ≠ []) = false) →
    ∃ best', resolveIn t only first rest (inner ++ more) best = resolveIn t only first rest more best'
  | [], more, best, _ => ⟨best, rfl⟩
  | pre :: inner, more, best, h => by
    have hc := h pre (by simp)
    have hrest : ∀ p ∈ inner, captures t only p first (rest ≠ []) = false :=
      fun p hp => h p (by simp [hp])
    simp only [List.cons_append, resolveIn]
    unfold captures at hc
    unfold resolveRel
    cases hf : t.find (pre ++ [first]) with
    | none =>
      exact resolveIn_skip t only first rest inner more best hrest
    | some k =>
      simp only [hf] at hc
      by_cases hr : rest = []
      · subst hr
        simp only [ne_eq, not_true_eq_false, decide_false, Bool.false_eq_true, if_false, if_true] at hc ⊢
        simp only [Bool.or_false, hc, Bool.false_eq_true, if_false]
        exact resolveIn_skip t only first [] inner more _ hrest
      · simp only [ne_eq, hr, not_false_eq_true, decide_true, if_true] at hc
        simp only [hr, if_false, hc, Bool.not_false, if_true]
        exact resolveIn_skip t only first rest inner more best hrest

theorem takesDown_length (l : Path) : ∀ n, (takesDown l n).length = n
  | 0 => rfl
  | n + 1 => by simp [takesDown, takesDown_length l n]

theorem takesDown_split (l : Path) : ∀ (n k : Nat), 1 ≤ k → k ≤ n →
    takesDown l n = (takesDown l n).take (n - k) ++ l.take k :: takesDown l (k - 1)
  | 0, k, h1, h2 => by omega
  | n + 1, k, h1, h2 => by
    by_cases hk : k = n + 1
    · subst hk
      simp [takesDown]
    · have ih := takesDown_split l n k h1 (by omega)
      have e : n + 1 - k = (n - k) + 1 := by omega
      rw [e]
      simp only [takesDown, List.take_succ_cons, List.cons_append]
      exact congrArg _ ih

/-- in the same package the scopes split at the one the short name is relative to -/
theorem scopes_split_same (pkg ctx : Path) (k : Nat) (hk : k ≤ ctx.length) :
    ∃ outer, scopes pkg ctx = innerScopes pkg ctx k ++ (pkg ++ ctx.take k) :: outer := by
  unfold scopes innerScopes
  by_cases h0 : k = 0
  · subst h0
    have : (takesDown ctx ctx.length).take (ctx.length - 0) = takesDown ctx ctx.length := by
      apply List.take_of_length_le
      rw [takesDown_length]; omega
    rw [this]
    simp only [List.take_zero, List.append_nil]
    cases pkg with
    | nil => exact ⟨[], by simp [takesDown]⟩
    | cons p ps =>
      refine ⟨takesDown (p :: ps) ps.length ++ [[]], ?_⟩
      simp [takesDown]
  · have hs := takesDown_split ctx ctx.length k (by omega) hk
    refine ⟨(takesDown ctx (k - 1)).map (pkg ++ ·) ++ (takesDown pkg pkg.length ++ [[]]), ?_⟩
    conv => lhs; rw [hs]
    simp [List.map_append]

theorem SymtabWF.prefix_aggregate {t : Tab} {only : Bool} {tgtPkg tgt : Path} (hwf : SymtabWF t only tgtPkg tgt)
    (m : Nat) (hm0 : 0 < m) (hm : m < (tgtPkg ++ tgt).length) :
    ∃ k, t.find ((tgtPkg ++ tgt).take m) = some k ∧ k.isAggregate = true := by
  obtain ⟨_, _, hanc, hpk⟩ := hwf
  by_cases hmp : m ≤ tgtPkg.length
  · refine ⟨.ns, ?_, rfl⟩
    rw [List.take_append_of_le_length hmp]
    exact hpk m hm0 hmp
  · refine ⟨.msg, ?_, rfl⟩
    have hj : (tgtPkg ++ tgt).take m = tgtPkg ++ tgt.take (m - tgtPkg.length) := by
      rw [List.take_append]
      have : tgtPkg.take m = tgtPkg := List.take_of_length_le (by omega)
      rw [this]
    rw [hj]
    apply hanc
    · omega
    · simp at hm; omega

/-- The search finds the target in the scope `hm` if no earlier scope captures the name. -/
theorem resolve_of_split (t : Tab) (only : Bool) (pkg ctx tgtPkg tgt hm : Path)
    (first : String) (rest : Path) (inner outer : List Path)
    (hwf : SymtabWF t only tgtPkg tgt)
    (hsplit : scopes pkg ctx = inner ++ hm :: outer)
    (hinner : ∀ pre ∈ inner, captures t only pre first (rest ≠ []) = false)
    (hfull : hm ++ first :: rest = tgtPkg ++ tgt) :
    resolve t pkg ctx only (first :: rest) = some (tgtPkg ++ tgt) := by
  have hpre := hwf.prefix_aggregate
  obtain ⟨hne, ⟨k, hk, hkt⟩, _, _⟩ := hwf
  unfold resolve
  simp only []
  rw [hsplit]
  obtain ⟨best', hskip⟩ := resolveIn_skip t only first rest inner (hm :: outer) none hinner
  rw [hskip]
  simp only [resolveIn, resolveRel]
  by_cases hr : rest = []
  · subst hr
    have : hm ++ [first] = tgtPkg ++ tgt := hfull
    rw [this, hk]
    simp only [if_true]
    cases only with
    | true =>
      simp only [if_true] at hkt
      simp [hkt]
    | false =>
      simp only [Bool.false_eq_true, if_false] at hkt
      simp [hkt]
  · have hlen : hm.length + 1 < (tgtPkg ++ tgt).length := by
      rw [← hfull]
      have : 0 < rest.length := List.length_pos_iff.mpr hr
      simp; omega
    have hpre' : hm ++ [first] = (tgtPkg ++ tgt).take (hm.length + 1) := by
      rw [← hfull]
      have e : hm ++ first :: rest = (hm ++ [first]) ++ rest := by simp
      rw [e, List.take_left' (by simp)]
    obtain ⟨k', hk', hagg'⟩ := hpre (hm.length + 1) (by omega) hlen
    rw [← hpre'] at hk'
    rw [hk', hfull, hk]
    simp only [hr, if_false, hagg', Bool.not_true, Bool.false_eq_true]
    have hcond : (!only || k.isType || decide (rest ≠ [])) = true := by simp [hr]
    simp only [hcond, if_true, hkt]

theorem captures_of_not_declares {t : Tab} {only : Bool} {pre : Path} {first : String} {q : Bool}
    (h : declares t pre first = false) : captures t only pre first q = false := by
  unfold declares at h
  unfold captures
  cases hf : t.find (pre ++ [first]) with
  | none => rfl
  | some k => simp [hf] at h

theorem scopes_eq_below (pkg scope : Path) : scopes pkg scope = scopesBelowRoot pkg scope ++ [[]] := by
  unfold scopes scopesBelowRoot
  simp [List.append_assoc]

/-- A package-qualified name of another package, written without leading dot, is found at the root
when no scope below the root declares its first component. -/
theorem resolve_cross (t : Tab) (only : Bool) (ctxPkg ctx tgtPkg tgt : Path) (first : String) (rest : Path)
    (hwf : SymtabWF t only tgtPkg tgt) (hname : tgtPkg ++ tgt = first :: rest)
    (hnd : ∀ pre ∈ scopesBelowRoot ctxPkg ctx, declares t pre first = false) :
    resolve t ctxPkg ctx only (first :: rest) = some (tgtPkg ++ tgt) := by
  apply resolve_of_split t only ctxPkg ctx tgtPkg tgt [] first rest (scopesBelowRoot ctxPkg ctx) [] hwf
    (scopes_eq_below ctxPkg ctx)
  · exact fun pre hpre => captures_of_not_declares (hnd pre hpre)
  · simpa using hname.symm

/-- a fully qualified (leading dot) name of a declared target is read as the target -/
theorem resolveName_abs (t : Tab) (only : Bool) (pkg ctx tgtPkg tgt : Path)
    (hwf : SymtabWF t only tgtPkg tgt) :
    resolveName t pkg ctx only ⟨true, tgtPkg ++ tgt⟩ = some (tgtPkg ++ tgt) := by
  obtain ⟨kk, hk, hkt⟩ := hwf.2.1
  unfold resolveName
  simp only [if_true, hk, hkt]

/-- inside one package the printed name — shortened, or fully qualified when an enclosing scope would capture it —
resolves to the target, whatever else the file declares -/
theorem refName_resolves_same (t : Tab) (only : Bool) (pkg ctx tgt : Path) (hwf : SymtabWF t only pkg tgt) :
    resolveName t pkg ctx only (refName t pkg ctx pkg tgt) = some (pkg ++ tgt) := by
  have hne := hwf.1
  obtain ⟨kk, hk, hkt⟩ := hwf.2.1
  unfold refName
  simp only [ne_eq, not_true_eq_false, if_false]
  have hdrop := stripCommon_eq_drop tgt ctx
  have hlt := commonLen_lt_tgt tgt ctx hne
  have hle := commonLen_le_ctx tgt ctx
  cases hsc : stripCommon tgt ctx with
  | nil =>
    rw [hsc] at hdrop
    have := congrArg List.length hdrop
    simp at this; omega
  | cons first rest =>
    simp only []
    have hk' : tgt.length - (first :: rest).length = commonLen tgt ctx := by
      have := congrArg List.length hdrop
      rw [hsc] at this
      simp only [List.length_drop] at this
      omega
    rw [hk']
    split
    · -- captured by an enclosing scope: fully qualified
      exact resolveName_abs t only pkg ctx pkg tgt hwf
    · rename_i hany
      unfold resolveName
      simp only [Bool.false_eq_true, if_false]
      obtain ⟨outer, hsplit⟩ := scopes_split_same pkg ctx (commonLen tgt ctx) hle
      apply resolve_of_split t only pkg ctx pkg tgt _ first rest _ outer hwf hsplit
      · intro pre hpre
        simp only [List.any_eq_true, not_exists, not_and, Bool.not_eq_true] at hany
        exact captures_of_not_declares (hany pre hpre)
      · rw [← take_commonLen tgt ctx, List.append_assoc, ← hsc, hdrop, List.take_append_drop]

/-- every reference, the target in the same or in another package -/
theorem refName_resolves (t : Tab) (only : Bool) (ctxPkg ctx tgtPkg tgt : Path) (hwf : SymtabWF t only tgtPkg tgt) :
    resolveName t ctxPkg ctx only (refName t ctxPkg ctx tgtPkg tgt) = some (tgtPkg ++ tgt) := by
  by_cases hp : ctxPkg = tgtPkg
  · subst hp
    exact refName_resolves_same t only ctxPkg ctx tgt hwf
  · unfold refName
    simp only [ne_eq, hp, not_false_eq_true, if_true]
    cases hname : tgtPkg ++ tgt with
    | nil =>
      have := congrArg List.length hname
      have hl : 0 < tgt.length := List.length_pos_iff.mpr hwf.1
      simp only [List.length_append, List.length_nil] at this; omega
    | cons first rest =>
      simp only []
      split
      · rw [← hname]; exact resolveName_abs t only ctxPkg ctx tgtPkg tgt hwf
      · rename_i hany
        unfold resolveName
        simp only [Bool.false_eq_true, if_false]
        rw [← hname] 
        have := resolve_cross t only ctxPkg ctx tgtPkg tgt first rest hwf hname (by
          intro pre hpre
          simp only [List.any_eq_true, not_exists, not_and, Bool.not_eq_true] at hany
          exact hany pre hpre)
        rw [hname]; rw [hname] at this; exact this

end J5V.Print.RefName
