import J5V.Print.Scalar
/-! Lemmas about `J5V.Print.Scalar` (core only): the integer reader undoes the integer writer. -/
namespace J5V.Print.Scalar

theorem digitChar_toNat : ∀ d, d < 10 → (digitChar d).toNat = 48 + d := by decide

theorem digitVal_digitChar (d : Nat) (h : d < 10) : digitVal 10 (digitChar d) = some d := by
  revert d; decide

theorem readDigits_append (b : Nat) : ∀ (l₁ l₂ : List Char) (acc : Nat),
    readDigits b (l₁ ++ l₂) acc = (readDigits b l₁ acc).bind (readDigits b l₂ ·)
  | [], _, _ => rfl
  | c :: cs, l₂, acc => by
    simp only [List.cons_append, readDigits]
    cases digitVal b c with
    | none => rfl
    | some d => exact readDigits_append b cs l₂ _

theorem readDigits_natDigits (n : Nat) : readDigits 10 (natDigits n) 0 = some n := by
  induction n using Nat.strongRecOn with
  | _ n ih =>
    unfold natDigits
    split
    · rename_i h
      simp [readDigits, digitVal_digitChar n h]
    · rename_i h
      rw [readDigits_append, ih (n / 10) (by omega)]
      simp only [Option.bind_some, readDigits, digitVal_digitChar (n % 10) (by omega)]
      congr 1
      omega

/-- the first digit of a positive number is not zero -/
theorem natDigits_head (n : Nat) (h : 1 ≤ n) : ∃ d rest, natDigits n = digitChar d :: rest ∧ 1 ≤ d ∧ d < 10 := by
  induction n using Nat.strongRecOn with
  | _ n ih =>
    unfold natDigits
    split
    · rename_i hlt
      exact ⟨n, [], rfl, h, hlt⟩
    · rename_i hge
      obtain ⟨d, rest, hd, h1, h2⟩ := ih (n / 10) (by omega) (by omega)
      exact ⟨d, rest ++ [digitChar (n % 10)], by rw [hd]; rfl, h1, h2⟩

theorem digitChar_ne_zero (d : Nat) (h1 : 1 ≤ d) (h2 : d < 10) : digitChar d ≠ '0' := by
  intro h
  have := congrArg Char.toNat h
  rw [digitChar_toNat d h2] at this
  have h0 : ('0' : Char).toNat = 48 := by decide
  omega

theorem digitChar_ne_minus (d : Nat) (h2 : d < 10) : digitChar d ≠ '-' := by
  intro h
  have := congrArg Char.toNat h
  rw [digitChar_toNat d h2] at this
  have h0 : ('-' : Char).toNat = 45 := by decide
  omega

theorem readNatLit_natDigits (n : Nat) : readNatLit (natDigits n) = some n := by
  by_cases h0 : n = 0
  · subst h0
    unfold natDigits
    simp [readNatLit, digitChar]
  · obtain ⟨d, rest, hd, h1, h2⟩ := natDigits_head n (by omega)
    have := readDigits_natDigits n
    rw [hd] at this ⊢
    unfold readNatLit
    simp only [digitChar_ne_zero d h1 h2, if_false]
    exact this

theorem natDigits_ne_nil (n : Nat) : natDigits n ≠ [] := by
  unfold natDigits
  split <;> simp

theorem natDigits_head_digit (n : Nat) : ∃ d rest, natDigits n = digitChar d :: rest ∧ d < 10 := by
  by_cases h0 : n = 0
  · subst h0
    exact ⟨0, [], by unfold natDigits; simp, by omega⟩
  · obtain ⟨d, rest, hd, _, h2⟩ := natDigits_head n (by omega)
    exact ⟨d, rest, hd, h2⟩

theorem readIntLit_intDigits (n : Int) : readIntLit (intDigits n) = some n := by
  unfold intDigits
  split
  · rename_i hneg
    simp only [readIntLit, if_true, readNatLit_natDigits]
    have : -(n.natAbs : Int) = n := by omega
    simp [this]
  · rename_i hpos
    obtain ⟨d, rest, hd, h2⟩ := natDigits_head_digit n.natAbs
    have := readNatLit_natDigits n.natAbs
    rw [hd] at this ⊢
    simp only [readIntLit, digitChar_ne_minus d h2, if_false, this]
    have : (n.natAbs : Int) = n := by omega
    simp [this]

end J5V.Print.Scalar
