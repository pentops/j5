import J5V.Print.ReparseBasics
/-!
# The printed lines, as the scanner reads them (core only)

Every line shape of the covered files as tokens (`lineToks_*`), and that no such line holds a line break or a slash
(`noCh_*`, for both characters at once through `Safe`).
-/
namespace J5V.Print.Reparse
open J5V.Print J5V.Print.Grammar J5V.Print.Layout J5V.Print.OptionText J5V.Print.Scalar


theorem lineToks_value (n : Nat) (name : String) (num : Int) (l : Nat) (hn : IsIdent name) :
    lineToks (ind n (name ++ " = " ++ formatInt num ++ ";" ++ "")) l = T (.ident name) l :: tailToks num l := by
  unfold lineToks ind
  simp only [String.toList_append, String.toList_ofList, String.reduceToList, List.append_assoc, List.append_nil,
    List.cons_append, List.nil_append]
  rw [lexL_spaces, lexL_ident name hn _ (stopsI_space _)]
  simp only [List.filterMap_cons, toP, lexL_tail]

theorem isIdent_message : IsIdent "message" :=
  ⟨'m', ['e', 's', 's', 'a', 'g', 'e'], by decide +kernel, by decide, by decide⟩

theorem isIdent_enum : IsIdent "enum" := ⟨'e', ['n', 'u', 'm'], by decide +kernel, by decide, by decide⟩

theorem isIdent_oneof : IsIdent "oneof" := ⟨'o', ['n', 'e', 'o', 'f'], by decide +kernel, by decide, by decide⟩

theorem lineToks_open (n : Nat) (kw name : String) (l : Nat) (hk : IsIdent kw) (hn : IsIdent name) :
    lineToks (ind n (kw ++ " " ++ name ++ " {" ++ "")) l = [T (.ident kw) l, T (.ident name) l, T (.sym '{') l] := by
  unfold lineToks ind
  simp only [String.toList_append, String.toList_ofList, String.reduceToList, List.append_assoc, List.append_nil,
    List.cons_append, List.nil_append]
  rw [lexL_spaces, lexL_ident kw hk _ (stopsI_space _), lexL_space, lexL_ident name hn _ (stopsI_space _), lexL_space,
    lexL_sym '{' (by decide), lexL_nil]
  simp [toP]

theorem lineToks_empty (n : Nat) (kw name : String) (l : Nat) (hk : IsIdent kw) (hn : IsIdent name) :
    lineToks (ind n (kw ++ " " ++ name ++ " {}")) l =
      [T (.ident kw) l, T (.ident name) l, T (.sym '{') l, T (.sym '}') l] := by
  unfold lineToks ind
  simp only [String.toList_append, String.toList_ofList, String.reduceToList, List.append_assoc, List.cons_append,
    List.nil_append]
  rw [lexL_spaces, lexL_ident kw hk _ (stopsI_space _), lexL_space, lexL_ident name hn _ (stopsI_space _), lexL_space,
    lexL_sym '{' (by decide), lexL_sym '}' (by decide), lexL_nil]
  simp [toP]

theorem lineToks_close (n : Nat) (l : Nat) : lineToks (ind n "}") l = [T (.sym '}') l] := by
  unfold lineToks ind
  simp only [String.toList_append, String.toList_ofList, String.reduceToList]
  rw [lexL_spaces, lexL_sym '}' (by decide), lexL_nil]
  simp [toP]

theorem sh_T (k : Nat) (t : Grammar.Tok) (l : Nat) : PTok.shift k (T t l) = T t (l + k) := rfl

theorem sh_dotToks (k l : Nat) (r : List String) : sh k (dotToks r l) = dotToks r (l + k) := by
  induction r with
  | nil => rfl
  | cons x xs ih =>
    simp only [dotToks, List.map_cons, List.flatten_cons, sh_append] at ih ⊢
    rw [ih]; rfl

theorem sh_tyToks (k l : Nat) (a : Bool) (f : String) (r : List String) : sh k (tyToks a f r l) = tyToks a f r (l + k) := by
  unfold tyToks
  rw [sh_append]
  simp only [sh_cons, sh_T, sh_dotToks]
  cases a <;> rfl

theorem sh_labelToks (k l : Nat) (label : String) : sh k (labelToks label l) = labelToks label (l + k) := by
  unfold labelToks
  split
  · rfl
  · split <;> rfl

theorem sh_numToks (k l : Nat) (n : Int) : sh k (numToks n l) = numToks n (l + k) := by
  unfold numToks
  split <;> rfl

theorem sh_wToks (k l : Nat) (w : TyW) : sh k (w.toks l) = w.toks (l + k) := by
  cases w with
  | plain a f r => exact sh_tyToks k l a f r
  | map kk a f r =>
    simp only [TyW.toks, sh_cons, sh_T, sh_append, sh_tyToks, sh_nil]

theorem sh_headToks (k l : Nat) (f : FieldD) (w : TyW) : sh k (headToks f w l) = headToks f w (l + k) := by
  unfold headToks
  simp only [sh_append, sh_cons, sh_T, sh_labelToks, sh_wToks, sh_numToks, sh_nil]

/-- a token a field can start with (and nothing else in a message body can) -/
def FieldStart (t : Grammar.Tok) : Prop :=
  (∃ c, t = .sym c ∧ c ≠ '}') ∨
  (∃ s, t = .ident s ∧ s ≠ "option" ∧ s ≠ "message" ∧ s ≠ "enum" ∧ s ≠ "oneof")

/-- the other arms of a body parser ask for `}` or one of four keywords as the first token -/
theorem FieldStart.ne_head {t t0 : Grammar.Tok} (h : FieldStart t)
    (h0 : t0 = .sym '}' ∨ t0 = .ident "option" ∨ t0 = .ident "message" ∨ t0 = .ident "enum" ∨ t0 = .ident "oneof") :
    t ≠ t0 := by
  rintro rfl
  rcases h with ⟨c, hc, hne⟩ | ⟨s, hs, h1, h2, h3, h4⟩
  · rcases h0 with rfl | rfl | rfl | rfl | rfl <;> cases hc
    exact hne rfl
  · rcases h0 with rfl | rfl | rfl | rfl | rfl <;> cases hs
    · exact h1 rfl
    · exact h2 rfl
    · exact h3 rfl
    · exact h4 rfl

theorem fieldLineToks_head (label : String) (hlab : label = "" ∨ label = "repeated " ∨ label = "optional ")
    (abs : Bool) (first : String) (rest : List String) (name : String) (num : Int) (s : Nat)
    (hkw : label = "" → abs = false → kwOk first) :
    ∃ t tl, fieldLineToks label abs first rest name num s = ⟨t, s, Cm.none⟩ :: tl ∧ FieldStart t := by
  unfold fieldLineToks
  rcases hlab with h | h | h
  · subst h
    have e : labelToks "" s = [] := by simp [labelToks]
    rw [e, List.nil_append]
    cases abs with
    | true =>
      simp only [tyToks, if_true, List.cons_append, List.nil_append, T]
      exact ⟨_, _, rfl, Or.inl ⟨'.', rfl, by decide⟩⟩
    | false =>
      obtain ⟨_, _, h3, h4, h5, h6⟩ := hkw rfl rfl
      simp only [tyToks, Bool.false_eq_true, if_false, List.cons_append, List.nil_append, T]
      exact ⟨_, _, rfl, Or.inr ⟨first, rfl, h3, h4, h5, h6⟩⟩
  · subst h
    have e : labelToks "repeated " s = [T (.ident "repeated") s] := by simp [labelToks]
    rw [e]
    simp only [List.cons_append, List.nil_append, T]
    exact ⟨_, _, rfl, Or.inr ⟨"repeated", rfl, by decide, by decide +kernel, by decide, by decide⟩⟩
  · subst h
    have e : labelToks "optional " s = [T (.ident "optional") s] := by simp [labelToks]
    rw [e]
    simp only [List.cons_append, List.nil_append, T]
    exact ⟨_, _, rfl, Or.inr ⟨"optional", rfl, by decide, by decide +kernel, by decide, by decide⟩⟩

theorem headToks_start (f : FieldD) (w : TyW) (hlab : f.label = "" ∨ f.label = "repeated " ∨ f.label = "optional ")
    (hw : w.ok f.label) (s : Nat) :
    ∃ t tl, headToks f w s = ⟨t, s, Cm.none⟩ :: tl ∧ FieldStart t := by
  unfold headToks
  rcases hlab with h | h | h
  · rw [h] at hw ⊢
    have e : labelToks "" s = [] := by simp [labelToks]
    rw [e, List.nil_append]
    cases w with
    | plain a fi r =>
      cases a with
      | true =>
        simp only [TyW.toks, tyToks, if_true, List.cons_append, List.nil_append, T]
        exact ⟨_, _, rfl, Or.inl ⟨'.', rfl, by decide⟩⟩
      | false =>
        obtain ⟨_, _, h3, h4, h5, h6⟩ := hw.2.2.2 rfl rfl
        simp only [TyW.toks, tyToks, Bool.false_eq_true, if_false, List.cons_append, List.nil_append, T]
        exact ⟨_, _, rfl, Or.inr ⟨fi, rfl, h3, h4, h5, h6⟩⟩
    | map k a fi r =>
      simp only [TyW.toks, List.cons_append, T]
      exact ⟨_, _, rfl, Or.inr ⟨"map", rfl, by decide, by decide +kernel, by decide, by decide⟩⟩
  · rw [h]
    have e : labelToks "repeated " s = [T (.ident "repeated") s] := by simp [labelToks]
    rw [e]
    simp only [List.cons_append, List.nil_append, T]
    exact ⟨_, _, rfl, Or.inr ⟨"repeated", rfl, by decide, by decide +kernel, by decide, by decide⟩⟩
  · rw [h]
    have e : labelToks "optional " s = [T (.ident "optional") s] := by simp [labelToks]
    rw [e]
    simp only [List.cons_append, List.nil_append, T]
    exact ⟨_, _, rfl, Or.inr ⟨"optional", rfl, by decide, by decide +kernel, by decide, by decide⟩⟩

theorem leafLine_head {f : FieldD} (h : Leaf f) (n s : Nat) : ∃ t tl, lineToks (leafLine n f) s = T t s :: tl := by
  rcases h with h | h | h
  · obtain ⟨hk, _, _, hlab, hn, _, abs, first, rest, hf, hr, hty, _, hkw⟩ := h
    obtain ⟨t, tl, hhead, _⟩ := fieldLineToks_head f.label hlab abs first rest f.name f.number s hkw
    simp only [leafLine, hk, fieldLine]
    rw [hty, lineToks_field n f.label hlab abs first rest f.name f.number s hf hr hn]
    exact ⟨t, tl, hhead⟩
  · simp only [leafLine, h.1, valueLine]
    rw [lineToks_value n f.name f.number s h.2.2.2.2.2.1]
    exact ⟨_, _, rfl⟩
  · obtain ⟨hk, _, _, hlab, hn, _, k, abs, first, rest, hki, hf, hr, hty⟩ := h
    simp only [leafLine, hk, fieldLine]
    rw [hty, hlab, lineToks_map n k abs first rest f.name f.number s hki hf hr hn]
    exact ⟨_, _, rfl⟩

def rpcTyToks (st abs : Bool) (first : String) (rest : List String) (l : Nat) : List PTok :=
  (if st then [T (.ident "stream") l] else []) ++ tyToks abs first rest l

theorem isIdent_rpc : IsIdent "rpc" := ⟨'r', ['p', 'c'], by decide +kernel, by decide, by decide⟩

theorem isIdent_returns : IsIdent "returns" := ⟨'r', ['e', 't', 'u', 'r', 'n', 's'], by decide +kernel, by decide, by decide⟩

theorem isIdent_stream : IsIdent "stream" := ⟨'s', ['t', 'r', 'e', 'a', 'm'], by decide +kernel, by decide, by decide⟩

theorem isIdent_service : IsIdent "service" := ⟨'s', ['e', 'r', 'v', 'i', 'c', 'e'], by decide +kernel, by decide, by decide⟩

theorem stopsI_paren (cs : List Char) : StopsI ('(' :: cs) := by
  intro c r h; simp only [List.cons.injEq] at h; rw [← h.1]; decide

theorem stopsI_cparen (cs : List Char) : StopsI (')' :: cs) := by
  intro c r h; simp only [List.cons.injEq] at h; rw [← h.1]; decide

/-- `[stream ]type)` … -/
theorem lexL_rpcTy (st abs : Bool) (first : String) (rest : List String) (more : List Char) (l : Nat)
    (hf : IsIdent first) (hr : ∀ r ∈ rest, IsIdent r) :
    (lexL ((rpcTyStr st abs first rest).toList ++ ')' :: more) l).filterMap toP =
      rpcTyToks st abs first rest l ++ T (.sym ')') l :: (lexL more l).filterMap toP := by
  unfold rpcTyStr rpcTyToks
  simp only [String.toList_append, List.append_assoc]
  cases st with
  | false =>
    have : ("".toList : List Char) = [] := by decide +kernel
    simp only [Bool.false_eq_true, if_false, this, List.nil_append]
    rw [lexL_tyStr abs first rest _ l hf hr (stopsI_cparen _), lexL_sym ')' (by decide)]
    simp [toP]
  | true =>
    have : ("stream ".toList : List Char) = "stream".toList ++ [' '] := by decide +kernel
    simp only [if_true, this, List.append_assoc, List.cons_append, List.nil_append]
    rw [lexL_ident "stream" isIdent_stream _ (stopsI_space _), lexL_space]
    simp only [List.filterMap_cons, toP]
    rw [lexL_tyStr abs first rest _ l hf hr (stopsI_cparen _), lexL_sym ')' (by decide)]
    simp [toP]

/-- the tokens of the first line of a method with options -/
def rpcOpenToks (name : String) (sI aI : Bool) (fI : String) (rI : List String) (sO aO : Bool) (fO : String)
    (rO : List String) (l : Nat) : List PTok :=
  T (.ident "rpc") l :: T (.ident name) l :: T (.sym '(') l ::
    (rpcTyToks sI aI fI rI l ++ T (.sym ')') l :: T (.ident "returns") l :: T (.sym '(') l ::
      (rpcTyToks sO aO fO rO l ++ [T (.sym ')') l, T (.sym '{') l]))

/-- the tokens of a method line -/
def rpcToks (name : String) (sI aI : Bool) (fI : String) (rI : List String) (sO aO : Bool) (fO : String)
    (rO : List String) (l : Nat) : List PTok :=
  T (.ident "rpc") l :: T (.ident name) l :: T (.sym '(') l ::
    (rpcTyToks sI aI fI rI l ++ T (.sym ')') l :: T (.ident "returns") l :: T (.sym '(') l ::
      (rpcTyToks sO aO fO rO l ++ [T (.sym ')') l, T (.sym '{') l, T (.sym '}') l]))

/-- `rpc name(in) returns (out) {` and what follows it on the line -/
theorem lexL_rpcHead (name : String) (sI aI : Bool) (fI : String) (rI : List String) (sO aO : Bool)
    (fO : String) (rO : List String) (more : List Char) (l : Nat) (hn : IsIdent name) (hfI : IsIdent fI)
    (hrI : ∀ r ∈ rI, IsIdent r) (hfO : IsIdent fO) (hrO : ∀ r ∈ rO, IsIdent r) :
    (lexL ("rpc ".toList ++ (name.toList ++ ("(".toList ++ ((rpcTyStr sI aI fI rI).toList ++ (") returns (".toList ++
      ((rpcTyStr sO aO fO rO).toList ++ (")".toList ++ ' ' :: '{' :: more))))))) l).filterMap toP =
      rpcOpenToks name sI aI fI rI sO aO fO rO l ++ (lexL more l).filterMap toP := by
  have h1 : ("rpc ".toList : List Char) = "rpc".toList ++ [' '] := by decide +kernel
  have h2 : ("(".toList : List Char) = ['('] := by decide +kernel
  have h3 : (") returns (".toList : List Char) = ')' :: ' ' :: ("returns".toList ++ [' ', '(']) := by decide +kernel
  have h4 : (")".toList : List Char) = [')'] := by decide +kernel
  rw [h1, h2, h3, h4]
  simp only [List.append_assoc, List.cons_append, List.nil_append]
  rw [lexL_ident "rpc" isIdent_rpc _ (stopsI_space _), lexL_space, lexL_ident name hn _ (stopsI_paren _),
    lexL_sym '(' (by decide)]
  simp only [List.filterMap_cons, toP]
  rw [lexL_rpcTy sI aI fI rI _ l hfI hrI, lexL_space, lexL_ident "returns" isIdent_returns _ (stopsI_space _), lexL_space,
    lexL_sym '(' (by decide)]
  simp only [List.filterMap_cons, toP]
  rw [lexL_rpcTy sO aO fO rO _ l hfO hrO, lexL_space, lexL_sym '{' (by decide)]
  simp [toP, rpcOpenToks]

theorem lineToks_rpcOpen (n : Nat) (name : String) (sI aI : Bool) (fI : String) (rI : List String) (sO aO : Bool)
    (fO : String) (rO : List String) (l : Nat) (hn : IsIdent name) (hfI : IsIdent fI) (hrI : ∀ r ∈ rI, IsIdent r)
    (hfO : IsIdent fO) (hrO : ∀ r ∈ rO, IsIdent r) :
    lineToks (rpcOpenLine n name (rpcTyStr sI aI fI rI) (rpcTyStr sO aO fO rO)) l =
      rpcOpenToks name sI aI fI rI sO aO fO rO l := by
  unfold lineToks rpcOpenLine ind
  simp only [String.toList_append, String.toList_ofList, List.append_assoc]
  rw [lexL_spaces, show (" {".toList ++ "".toList : List Char) = ' ' :: '{' :: [] from by decide,
    lexL_rpcHead name sI aI fI rI sO aO fO rO [] l hn hfI hrI hfO hrO, lexL_nil]
  simp

theorem lineToks_rpc (n : Nat) (name : String) (sI aI : Bool) (fI : String) (rI : List String) (sO aO : Bool)
    (fO : String) (rO : List String) (l : Nat) (hn : IsIdent name) (hfI : IsIdent fI) (hrI : ∀ r ∈ rI, IsIdent r)
    (hfO : IsIdent fO) (hrO : ∀ r ∈ rO, IsIdent r) :
    lineToks (rpcLine n name (rpcTyStr sI aI fI rI) (rpcTyStr sO aO fO rO)) l =
      rpcToks name sI aI fI rI sO aO fO rO l := by
  unfold lineToks rpcLine ind
  simp only [String.toList_append, String.toList_ofList, List.append_assoc]
  rw [lexL_spaces, show (" {}".toList ++ "".toList : List Char) = ' ' :: '{' :: ['}'] from by decide,
    lexL_rpcHead name sI aI fI rI sO aO fO rO ['}'] l hn hfI hrI hfO hrO, lexL_sym '}' (by decide), lexL_nil]
  simp [toP, rpcOpenToks, rpcToks]

/-! ## the header lines -/

theorem isIdent_syntax : IsIdent "syntax" := ⟨'s', ['y', 'n', 't', 'a', 'x'], by decide +kernel, by decide, by decide⟩

theorem isIdent_package : IsIdent "package" := ⟨'p', ['a', 'c', 'k', 'a', 'g', 'e'], by decide +kernel, by decide, by decide⟩

theorem isIdent_import : IsIdent "import" := ⟨'i', ['m', 'p', 'o', 'r', 't'], by decide +kernel, by decide, by decide⟩

theorem isIdent_public : IsIdent "public" := ⟨'p', ['u', 'b', 'l', 'i', 'c'], by decide +kernel, by decide, by decide⟩

theorem isIdent_weak : IsIdent "weak" := ⟨'w', ['e', 'a', 'k'], by decide +kernel, by decide, by decide⟩

theorem lexL_syntax (l : Nat) :
    lexL "syntax = \"proto3\";".toList l =
      [.tok (.ident "syntax") l, .tok (.sym '=') l, .tok (.str "\"proto3\"") l, .tok (.sym ';') l] := by
  have h : ("syntax = \"proto3\";".toList : List Char) =
      "syntax".toList ++ ' ' :: '=' :: ' ' :: ('"' :: "proto3".toList ++ '"' :: [';']) := by decide +kernel
  rw [h, lexL_ident "syntax" isIdent_syntax _ (stopsI_space _), lexL_space, lexL_sym '=' (by decide), lexL_space,
    lexL_str "proto3".toList [';'] (by intro c hc; revert c; decide), lexL_sym ';' (by decide), lexL_nil]
  have : String.ofList ('"' :: "proto3".toList ++ ['"']) = "\"proto3\"" := by decide +kernel
  rw [this]

theorem lineToks_syntax (l : Nat) :
    lineToks "syntax = \"proto3\";" l =
      [T (.ident "syntax") l, T (.sym '=') l, T (.str "\"proto3\"") l, T (.sym ';') l] := by
  rw [lineToks, lexL_syntax]
  rfl

theorem stopsI_semi (cs : List Char) : StopsI (';' :: cs) := by
  intro c r h; simp only [List.cons.injEq] at h; rw [← h.1]; decide

theorem lineToks_package (first : String) (rest : List String) (l : Nat) (hf : IsIdent first) (hr : ∀ r ∈ rest, IsIdent r) :
    lineToks ("package " ++ tyStr false first rest ++ ";") l =
      T (.ident "package") l :: (tyToks false first rest l ++ [T (.sym ';') l]) := by
  unfold lineToks
  simp only [String.toList_append]
  have h1 : ("package ".toList : List Char) = "package".toList ++ [' '] := by decide +kernel
  have h2 : (";".toList : List Char) = [';'] := by decide +kernel
  rw [h1, h2, List.append_assoc, List.append_assoc]
  simp only [List.cons_append, List.nil_append]
  rw [lexL_ident "package" isIdent_package _ (stopsI_space _), lexL_space]
  simp only [List.filterMap_cons, toP]
  rw [lexL_tyStr false first rest [';'] l hf hr (stopsI_semi []), lexL_sym ';' (by decide), lexL_nil]
  simp [toP]

def modRaws (m : String) (l : Nat) : List Raw :=
  if m = "public " then [.tok (.ident "public") l] else if m = "weak " then [.tok (.ident "weak") l] else []

/-- the raw items of an import line: tokens only, whatever the path holds -/
theorem lexL_importLine (d : String × String) (l : Nat) (hb : PlainBody d.1.toList)
    (hm : d.2 = "" ∨ d.2 = "public " ∨ d.2 = "weak ") :
    lexL (importLine d).toList l =
      .tok (.ident "import") l :: (modRaws d.2 l ++
        [.tok (.str (String.ofList ('"' :: d.1.toList ++ ['"']))) l, .tok (.sym ';') l]) := by
  unfold importLine
  simp only [String.toList_append]
  have h1 : ("import ".toList : List Char) = "import".toList ++ [' '] := by decide +kernel
  have h2 : ("\"".toList : List Char) = ['"'] := by decide +kernel
  have h3 : ("\";".toList : List Char) = ['"', ';'] := by decide +kernel
  rw [h1, h2, h3]
  simp only [List.append_assoc, List.cons_append, List.nil_append]
  rw [lexL_ident "import" isIdent_import _ (stopsI_space _), lexL_space]
  have hstr : lexL ('"' :: (d.1.toList ++ '"' :: [';'])) l =
      [.tok (.str (String.ofList ('"' :: d.1.toList ++ ['"']))) l, .tok (.sym ';') l] := by
    have := lexL_str d.1.toList [';'] hb l
    simp only [List.cons_append] at this
    rw [this, lexL_sym ';' (by decide), lexL_nil]
    rfl
  rcases hm with h | h | h
  · rw [h]
    have : ("".toList : List Char) = [] := by decide +kernel
    simp only [this, List.nil_append, modRaws]
    rw [hstr]
    simp
  · rw [h]
    have : ("public ".toList : List Char) = "public".toList ++ [' '] := by decide +kernel
    rw [this, List.append_assoc]
    simp only [List.cons_append, List.nil_append]
    rw [lexL_ident "public" isIdent_public _ (stopsI_space _), lexL_space, hstr]
    simp [modRaws]
  · rw [h]
    have : ("weak ".toList : List Char) = "weak".toList ++ [' '] := by decide +kernel
    rw [this, List.append_assoc]
    simp only [List.cons_append, List.nil_append]
    rw [lexL_ident "weak" isIdent_weak _ (stopsI_space _), lexL_space, hstr]
    simp [modRaws]

def modToks (m : String) (l : Nat) : List PTok :=
  if m = "public " then [T (.ident "public") l] else if m = "weak " then [T (.ident "weak") l] else []

def importToks (d : String × String) (l : Nat) : List PTok :=
  T (.ident "import") l :: (modToks d.2 l ++ [T (.str (String.ofList ('"' :: d.1.toList ++ ['"']))) l, T (.sym ';') l])

theorem lineToks_import (d : String × String) (l : Nat) (hb : PlainBody d.1.toList)
    (hm : d.2 = "" ∨ d.2 = "public " ∨ d.2 = "weak ") : lineToks (importLine d) l = importToks d l := by
  unfold lineToks
  rw [lexL_importLine d l hb hm]
  rcases hm with h | h | h <;> rw [h] <;> simp [modRaws, modToks, importToks, toP, h]

/-! ## no printed line holds a line break or a slash -/

theorem noNL_iff (l : List Char) : NoNL l ↔ NoCh '\n' l := Iff.rfl

theorem safe_nl : Safe '\n' := ⟨by decide, by decide, by decide, Or.inl rfl⟩

theorem safe_slash : Safe '/' := ⟨by decide, by decide, by decide, Or.inr rfl⟩

section
variable {x : Char} (hx : Safe x)
include hx

theorem NoCh.append {a b : List Char} (ha : NoCh x a) (hb : NoCh x b) : NoCh x (a ++ b) := by
  intro c hc
  rcases List.mem_append.mp hc with h | h
  · exact ha c h
  · exact hb c h

omit hx in
/-- a text all of whose characters differ from `x` (for the fixed pieces of a line: `Safe.lits`) -/
theorem noCh_lit {s : String} (h : (String.toList s).all (· != x) = true) : NoCh x s.toList := by
  intro c hc he
  simp only [List.all_eq_true] at h
  have := h c hc
  simp [he] at this

theorem noCh_identChars {l : List Char} (h : ∀ c ∈ l, isIdentChar c = true) : NoCh x l := by
  intro c hc he
  subst he
  have := h _ hc
  rw [hx.notIdent] at this
  exact absurd this (by simp)

theorem noCh_ident {s : String} (h : IsIdent s) : NoCh x s.toList := by
  obtain ⟨c, cs, hcs, hc, hall⟩ := h
  rw [hcs]
  apply noCh_identChars hx
  intro y hy
  rcases List.mem_cons.mp hy with h1 | h1
  · rw [h1]; simp [isIdentChar, hc]
  · exact hall y h1

theorem noCh_natDigits (n : Nat) : NoCh x (natDigits n) :=
  noCh_identChars hx (fun c hc => (isDigit_facts (natDigits_all_digits n c hc)).1)

theorem noCh_formatInt (n : Int) : NoCh x (formatInt n).toList := by
  unfold formatInt intDigits
  rw [String.toList_ofList]
  split
  · intro c hc he
    subst he
    rcases List.mem_cons.mp hc with h | h
    · exact hx.notMinus h
    · exact noCh_natDigits hx _ _ h rfl
  · exact noCh_natDigits hx _

theorem noCh_dotted : ∀ (rest : List String) (acc : String), NoCh x acc.toList → (∀ r ∈ rest, IsIdent r) →
    NoCh x (dotted acc rest).toList
  | [], acc, ha, _ => by simpa [dotted] using ha
  | r :: rs, acc, ha, hr => by
    simp only [dotted, List.foldl_cons]
    apply noCh_dotted rs
    · simp only [String.toList_append]
      exact NoCh.append hx (NoCh.append hx ha (noCh_lit (hx.lits "." (by simp)))) (noCh_ident hx (hr r (by simp)))
    · intro y hy; exact hr y (by simp [hy])

theorem noCh_tyStr (abs : Bool) (first : String) (rest : List String) (hf : IsIdent first)
    (hr : ∀ r ∈ rest, IsIdent r) : NoCh x (tyStr abs first rest).toList := by
  unfold tyStr
  apply noCh_dotted hx rest _ _ hr
  simp only [String.toList_append]
  refine NoCh.append hx ?_ (noCh_ident hx hf)
  cases abs
  · exact noCh_lit (hx.lits "" (by simp))
  · exact noCh_lit (hx.lits "." (by simp))

theorem noCh_ind (n : Nat) (s : String) (h : NoCh x s.toList) : NoCh x (ind n s).toList := by
  unfold ind
  simp only [String.toList_append, String.toList_ofList]
  refine NoCh.append hx ?_ h
  intro c hc he
  subst he
  simp only [List.mem_replicate] at hc
  have := noCh_lit (hx.lits " " (by simp)) ' ' (by decide)
  exact this hc.2.symm

theorem noCh_fieldLine (n : Nat) (f : FieldD) (h : SimpleField f) : NoCh x (fieldLine n f).toList := by
  obtain ⟨_, _, _, hlab, hn, _, abs, first, rest, hf, hr, hty, _, _⟩ := h
  unfold fieldLine
  apply noCh_ind hx
  simp only [String.toList_append]
  have hl : NoCh x f.label.toList := by
    rcases hlab with h | h | h <;> rw [h] <;> exact noCh_lit (hx.lits _ (by simp))
  rw [hty]
  exact NoCh.append hx (NoCh.append hx (NoCh.append hx (NoCh.append hx (NoCh.append hx (NoCh.append hx (NoCh.append hx hl
    (noCh_tyStr hx abs first rest hf hr)) (noCh_lit (hx.lits " " (by simp)))) (noCh_ident hx hn)) (noCh_lit (hx.lits " = " (by simp))))
    (noCh_formatInt hx _)) (noCh_lit (hx.lits ";" (by simp)))) (noCh_lit (hx.lits "" (by simp)))

theorem noCh_mapLine (n : Nat) (f : FieldD) (h : MapField f) : NoCh x (fieldLine n f).toList := by
  obtain ⟨_, _, _, hlab, hn, _, k, abs, first, rest, hk, hf, hr, hty⟩ := h
  unfold fieldLine
  apply noCh_ind hx
  simp only [String.toList_append]
  have hl : NoCh x f.label.toList := by rw [hlab]; exact noCh_lit (hx.lits _ (by simp))
  have hT : NoCh x f.type.toList := by
    rw [hty]
    unfold mapTy
    simp only [String.toList_append]
    exact NoCh.append hx (NoCh.append hx (NoCh.append hx (NoCh.append hx (noCh_lit (hx.lits "map<" (by simp)))
      (noCh_tyStr hx false k [] hk (by simp))) (noCh_lit (hx.lits ", " (by simp)))) (noCh_tyStr hx abs first rest hf hr))
      (noCh_lit (hx.lits ">" (by simp)))
  exact NoCh.append hx (NoCh.append hx (NoCh.append hx (NoCh.append hx (NoCh.append hx (NoCh.append hx (NoCh.append hx hl
    hT) (noCh_lit (hx.lits " " (by simp)))) (noCh_ident hx hn)) (noCh_lit (hx.lits " = " (by simp))))
    (noCh_formatInt hx _)) (noCh_lit (hx.lits ";" (by simp)))) (noCh_lit (hx.lits "" (by simp)))

theorem noCh_valueLine (n : Nat) (f : FieldD) (h : SimpleValue f) : NoCh x (valueLine n f).toList := by
  obtain ⟨_, _, _, _, _, hn, _, _⟩ := h
  unfold valueLine
  apply noCh_ind hx
  simp only [String.toList_append]
  exact NoCh.append hx (NoCh.append hx (NoCh.append hx (NoCh.append hx (noCh_ident hx hn) (noCh_lit (hx.lits " = " (by simp))))
    (noCh_formatInt hx _)) (noCh_lit (hx.lits ";" (by simp)))) (noCh_lit (hx.lits "" (by simp)))

theorem noCh_rpcTyStr (st abs : Bool) (first : String) (rest : List String) (hf : IsIdent first)
    (hr : ∀ r ∈ rest, IsIdent r) : NoCh x (rpcTyStr st abs first rest).toList := by
  unfold rpcTyStr
  simp only [String.toList_append]
  refine NoCh.append hx ?_ (noCh_tyStr hx abs first rest hf hr)
  cases st
  · exact noCh_lit (hx.lits "" (by simp))
  · exact noCh_lit (hx.lits "stream " (by simp))

end

theorem noCh_packageLine {x : Char} (hx : Safe x) (hp : NoCh x "package ".toList) (t : FileD) (gen : String)
    (h : SimpleFile gen t) : NoCh x (packageLine t).toList := by
  obtain ⟨first, rest, hf, hr, hpkg⟩ := h.pkg
  unfold packageLine
  rw [hpkg]
  simp only [String.toList_append]
  exact NoCh.append hx (NoCh.append hx hp (noCh_tyStr hx false first rest hf hr)) (noCh_lit (hx.lits ";" (by simp)))

theorem noNL_of_all (s : String) (h : s.toList.all (· != '\n') = true) : NoNL s.toList := by
  intro c hc he
  subst he
  simp only [List.all_eq_true] at h
  have := h _ hc
  simp at this

theorem noNL_importLine (d : String × String) (hb : PlainBody d.1.toList)
    (hm : d.2 = "" ∨ d.2 = "public " ∨ d.2 = "weak ") : NoNL (importLine d).toList := by
  unfold importLine
  simp only [String.toList_append]
  have h2 : NoNL d.2.toList := by
    rcases hm with h | h | h <;> rw [h] <;> exact noNL_of_all _ (by decide)
  have hbn : NoNL d.1.toList := fun c hc => (hb c hc).2.2
  have app : ∀ {a b : List Char}, NoNL a → NoNL b → NoNL (a ++ b) := by
    intro a b ha hb' c hc
    rcases List.mem_append.mp hc with h | h
    · exact ha c h
    · exact hb' c h
  exact app (app (app (app (noNL_of_all "import " (by decide)) h2) (noNL_of_all "\"" (by decide))) hbn)
    (noNL_of_all "\";" (by decide))

theorem tokLine_ind_of_ok (n : Nat) (l : String) (h : TokOk l) : TokLine (ind n l) := by
  intro L r hr
  unfold ind at hr
  rw [String.toList_append, String.toList_ofList, lexL_spaces] at hr
  have hs : lexL l.toList L = (lexL l.toList 0).map (Raw.shift L) := by
    have := lexL_shift L l.toList 0
    rwa [Nat.zero_add] at this
  rw [hs, List.mem_map] at hr
  obtain ⟨r0, hr0, rfl⟩ := hr
  obtain ⟨t, ln, rfl⟩ := h r0 hr0
  exact ⟨t, ln + L, rfl⟩

/-- a line without a slash holds no comment -/
theorem lexL_tokens (l : List Char) (L : Nat) (hns : NoCh '/' l) : ∀ r ∈ lexL l L, ∃ t ln, r = Raw.tok t ln := by
  induction l, L using lexL_induct with
  | nil line => simp [lexL_nil]
  | step c cs line ih =>
    intro r hr
    rw [lexL_succ] at hr
    rcases List.mem_append.1 hr with h | h
    · cases hp : (scan1 c cs).1 with
      | none => simp [hp] at h
      | some p =>
        obtain ⟨t, rfl⟩ := scan1_tok (by simpa using hns c (by simp)) p hp
        simp only [hp, Option.map_some, Option.toList_some, List.mem_singleton] at h
        exact ⟨t, line, h⟩
    · exact ih (fun y hy => hns y (((scan1_suffix c cs).trans (List.suffix_cons c cs)).subset hy)) r h

theorem tokLine_of_noSlash (s : String) (h : NoCh '/' s.toList) : TokLine s :=
  fun L r hr => lexL_tokens s.toList L h r hr

theorem tokLine_blank : TokLine "" := tokLine_of_noSlash "" (by intro c hc; simp at hc)

/-- the raw items of a line of tokens: tokens, all on that line -/
theorem lexL_tokLine (s : String) (L : Nat) (ht : TokLine s) (hn : NoNL s.toList) :
    ∀ r ∈ lexL s.toList L, ∃ t, r = Raw.tok t L := by
  intro r hr
  obtain ⟨t, ln, rfl⟩ := ht L r hr
  have := lexL_sameLine _ L hn _ hr
  simp only [Raw.lineOf] at this
  exact ⟨t, by rw [this]⟩

theorem tokLine_importLine (d : String × String) (hb : PlainBody d.1.toList)
    (hm : d.2 = "" ∨ d.2 = "public " ∨ d.2 = "weak ") : TokLine (importLine d) := by
  intro L r hr
  rw [lexL_importLine d L hb hm] at hr
  simp only [List.mem_cons, List.mem_append, List.not_mem_nil, or_false] at hr
  rcases hr with rfl | hr | rfl | rfl
  · exact ⟨_, _, rfl⟩
  · unfold modRaws at hr
    split at hr
    · simp only [List.mem_singleton] at hr; exact ⟨_, _, hr⟩
    · split at hr
      · simp only [List.mem_singleton] at hr; exact ⟨_, _, hr⟩
      · simp at hr
  · exact ⟨_, _, rfl⟩
  · exact ⟨_, _, rfl⟩

end J5V.Print.Reparse
