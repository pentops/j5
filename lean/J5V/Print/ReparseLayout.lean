import J5V.Print.ReparseBasics
/-!
# Where the printer puts what (core only)

What `exec` makes of the commands of a covered element that starts on a given line: its tokens, the line after it and the
gap flag are what `itemToks` and `rdItem` / `rdKids` say (`lay_item`, `lay_kids`).
-/
namespace J5V.Print.Reparse
open J5V.Print J5V.Print.Grammar J5V.Print.Layout J5V.Print.OptionText J5V.Print.Scalar


/-! ## the tokens of the lines a command list writes -/

theorem toksOf_append (a b : List Cmd) (g : Bool) (L : Nat) :
    toksOf (a ++ b) g L = toksOf a g L ++ toksOf b (exec a g).2 (L + nLines a g) := by
  unfold toksOf nLines
  rw [exec_append]
  exact lexLines_append _ _ _

theorem nLines_append (a b : List Cmd) (g : Bool) : nLines (a ++ b) g = nLines a g + nLines b (exec a g).2 := by
  unfold nLines; rw [exec_append]; simp

theorem exec_append_snd (a b : List Cmd) (g : Bool) : (exec (a ++ b) g).2 = (exec b (exec a g).2).2 := by
  rw [exec_append]

theorem toksOf_line (s : String) (g : Bool) (L : Nat) :
    toksOf [Cmd.line s] g L = lineToks s (if g then L + 1 else L) := by
  cases g <;> simp [toksOf, exec, lexLines, lineToks_blank]

theorem toksOf_endl (s : String) (g : Bool) (L : Nat) : toksOf [Cmd.endl s] g L = lineToks s L := by
  simp [toksOf, exec, lexLines]

theorem toksOf_nil (g : Bool) (L : Nat) : toksOf [] g L = [] := rfl

theorem toksOf_gap (g : Bool) (L : Nat) : toksOf [Cmd.gap] g L = [] := rfl

theorem rawsC_append (a b : List Cmd) (g : Bool) (L : Nat) :
    rawsC (a ++ b) g L = rawsC a g L ++ rawsC b (exec a g).2 (L + nLines a g) := by
  unfold rawsC nLines
  rw [exec_append, rawLines_append]

theorem rawsC_line (s0 : String) (B' : List Cmd) (s : Nat) :
    rawsC (Cmd.line s0 :: B') false s = lexL s0.toList s ++ rawsC B' false (s + 1) := by
  simp [rawsC, exec, rawLines]

theorem toksOf_lineCons (s0 : String) (B' : List Cmd) (s : Nat) :
    toksOf (Cmd.line s0 :: B') false s = lineToks s0 s ++ toksOf B' false (s + 1) := by
  simp [toksOf, exec, lexLines]

theorem nLines_lineCons (s0 : String) (B' : List Cmd) : nLines (Cmd.line s0 :: B') false = 1 + nLines B' false := by
  simp [nLines, exec]; omega

/-- a command list that starts with a line: a pending gap only moves it down one line -/
theorem rawsC_start (s0 : String) (X : List Cmd) (g : Bool) (L : Nat) :
    rawsC (Cmd.line s0 :: X) g L = rawsC (Cmd.line s0 :: X) false (startLine g L) := by
  cases g
  · rfl
  · simp [rawsC, exec, rawLines, startLine, lexL_nil]

/-- every line written is one of the texts, or empty -/
theorem exec_lines : ∀ (cmds : List Cmd) (g : Bool) (P : String → Prop), P "" →
    (∀ c ∈ cmds, match c with | .line s => P s | .endl s => P s | .gap => True) → ∀ s ∈ (exec cmds g).1, P s
  | [], _, _, _, _, s, hs => by simp [exec] at hs
  | .gap :: r, g, P, h0, h, s, hs => by
    simp only [exec] at hs
    exact exec_lines r true P h0 (fun c hc => h c (by simp [hc])) s hs
  | .line str :: r, g, P, h0, h, s, hs => by
    have hx : P str := h (.line str) (by simp)
    have ih := exec_lines r false P h0 (fun c hc => h c (by simp [hc]))
    simp only [exec] at hs
    rcases List.mem_append.mp hs with h1 | h1
    · cases g
      · simp only [Bool.false_eq_true, if_false, List.mem_singleton] at h1
        rw [h1]; exact hx
      · simp only [if_true, List.mem_cons, List.not_mem_nil, or_false] at h1
        rcases h1 with h1 | h1
        · rw [h1]; exact h0
        · rw [h1]; exact hx
    · exact ih s h1
  | .endl str :: r, g, P, h0, h, s, hs => by
    have hx : P str := h (.endl str) (by simp)
    have ih := exec_lines r false P h0 (fun c hc => h c (by simp [hc]))
    simp only [exec, List.mem_cons] at hs
    rcases hs with h1 | h1
    · rw [h1]; exact hx
    · exact ih s h1

/-- what a run of `line` commands writes -/
theorem exec_lines_map : ∀ (ls : List String) (g : Bool), ls ≠ [] →
    (exec (ls.map Cmd.line) g).1 = (if g then [""] else []) ++ ls ∧ (exec (ls.map Cmd.line) g).2 = false
  | [], _, h => (h rfl).elim
  | [x], g, _ => by cases g <;> simp [exec]
  | x :: y :: r, g, _ => by
    have ih := exec_lines_map (y :: r) false (by simp)
    simp only [List.map_cons, Bool.false_eq_true, if_false, List.nil_append] at ih ⊢
    rw [exec, ih.1, ih.2]
    cases g <;> simp

theorem exec_gapIf (c g : Bool) : exec (if c then [Cmd.gap] else []) g = ([], g || c) := by
  cases c <;> cases g <;> rfl

theorem exec_line_flag (s : String) (g : Bool) : (exec [Cmd.line s] g).2 = false := by cases g <;> rfl

/-- a line is written on the line after a pending gap -/
theorem nLines_line (s : String) (g : Bool) (L : Nat) : L + nLines [Cmd.line s] g = startLine g L + 1 := by
  cases g <;> simp [nLines, exec, startLine]

/-! ## what the printer writes for these files -/

theorem itemCmds_eq (n : Nat) : ∀ e : Item, itemCmds n e = leadingCmds n e.loc ++ bodyCmds n e
  | .field f => by simp [itemCmds, bodyCmds, fieldCmds, Item.loc, List.append_assoc]
  | .rpc _ _ _ _ _ _ => by simp [itemCmds, bodyCmds, Item.loc, List.append_assoc]
  | .block _ _ _ _ _ _ _ => by simp [itemCmds, bodyCmds, Item.loc, List.append_assoc]

theorem leadingCmds_lead (n : Nat) {l : Loc} (h : l.leadOnly) :
    leadingCmds n l = if l.leading = "" then [] else Cmd.gap :: (leadLines n l.leading).map Cmd.line := by
  unfold leadingCmds leadLines commentLines
  rw [h.1]
  simp only [List.map_nil, List.flatten_nil, List.nil_append, List.map_map]
  rfl

/-- a block without options and comments -/
theorem blockCmds_simple (n : Nat) (kw : String) (t : Nat) (l : Loc) (i : Nat) (name : String) (kids : List Item)
    (hl : l.leadOnly) :
    bodyCmds n (.block kw t l i name [] kids) =
      (if kids.isEmpty then [Cmd.line (ind n (kw ++ " " ++ name ++ " {}"))]
       else [Cmd.line (ind n (kw ++ " " ++ name ++ " {" ++ ""))] ++ elemsCmds (n + 1) kids true 0 0 ++
         [Cmd.endl (ind n "}")]) ++ [Cmd.gap] := by
  simp only [bodyCmds]
  rw [trailingCmds_nt (n + 1) hl.2, inlineComment_nt hl.2, hl.2]
  simp [sortOpts, Order.isort]

/-- a block without comments -/
theorem blockCmds_opts (n : Nat) (kw : String) (t : Nat) (l : Loc) (i : Nat) (name : String) (os : List SOpt)
    (kids : List Item) (hl : l.leadOnly) :
    bodyCmds n (.block kw t l i name os kids) =
      (if kids.isEmpty && os.isEmpty then [Cmd.line (ind n (kw ++ " " ++ name ++ " {}"))]
       else [Cmd.line (ind n (kw ++ " " ++ name ++ " {" ++ ""))] ++
         (((sortOpts os).map (fun o => optionCmds (n + 1) o ++ [Cmd.gap])).flatten ++
         (elemsCmds (n + 1) kids true 0 0 ++ [Cmd.endl (ind n "}")]))) ++ [Cmd.gap] := by
  simp only [bodyCmds]
  rw [trailingCmds_nt (n + 1) hl.2, inlineComment_nt hl.2, hl.2]
  simp

theorem elemsCmds_cons (n : Nat) (e : Item) (r : List Item) (first : Bool) (le0 lt : Nat) :
    elemsCmds n (e :: r) first le0 lt =
      (if gapBefore first le0 lt e then [Cmd.gap] else []) ++ leadingCmds n e.loc ++ bodyCmds n e ++
        elemsCmds n r false e.loc.endLine e.typeOrder := by
  rw [elemsCmds, itemCmds_eq]
  simp only [List.append_assoc]
  rfl

theorem fieldCmds_lines (n : Nat) (f : FieldD) (h : f.loc.leadOnly) :
    bodyCmds n (.field f) = (fieldLines n f).map Cmd.line := by
  simp only [bodyCmds, fieldLines]
  rw [trailingCmds_nt n h.2, inlineComment_nt h.2]
  simp

theorem fieldCmds_leaf (n : Nat) (f : FieldD) (h : Leaf f) : bodyCmds n (.field f) = [Cmd.line (leafLine n f)] := by
  rw [fieldCmds_lines n f h.loc, fieldLines_leaf n f h.popts]
  rfl

/-- a command on a builder with indentation `n` more -/
def Cmd.indent (n : Nat) : Cmd → Cmd
  | .line s => .line (ind n s)
  | .endl s => .endl (ind n s)
  | .gap => .gap

theorem exec_indent (n : Nat) : ∀ (cs : List Cmd) (g : Bool),
    (exec (cs.map (Cmd.indent n)) g).2 = (exec cs g).2 ∧
    (exec (cs.map (Cmd.indent n)) g).1.length = (exec cs g).1.length ∧
    ∀ L, lexLines (exec (cs.map (Cmd.indent n)) g).1 L = lexLines (exec cs g).1 L
  | [], g => by simp [exec]
  | .gap :: r, g => by simpa [exec, Cmd.indent] using exec_indent n r true
  | .line x :: r, g => by
    obtain ⟨h1, h2, h3⟩ := exec_indent n r false
    simp only [List.map_cons, Cmd.indent, exec, h1, List.length_append, h2]
    refine ⟨trivial, by cases g <;> simp, ?_⟩
    intro L
    cases g
    · simp only [Bool.false_eq_true, if_false, List.cons_append, List.nil_append, lexLines, lineToks_ind, h3]
    · simp only [if_true, List.cons_append, List.nil_append, lexLines, lineToks_ind, h3]
  | .endl x :: r, g => by
    obtain ⟨h1, h2, h3⟩ := exec_indent n r false
    simp only [List.map_cons, Cmd.indent, exec, h1, List.length_cons, h2]
    refine ⟨trivial, trivial, ?_⟩
    intro L
    simp only [lexLines, lineToks_ind, h3]

theorem optionCmds_indent (n : Nat) (o : SOpt) : optionCmds n o = (optionCmds 0 o).map (Cmd.indent n) := by
  unfold optionCmds
  have : o.stmts.map (optionStmt1 n o.name o.single) = o.stmts.map (fun v => (optionStmt1 0 o.name o.single v).map (ind n)) := by
    apply List.map_congr_left
    intro v _
    exact optionStmt1_ind n o.name o.single v
  rw [this]
  simp only [List.map_flatten, List.map_map]
  congr 1
  apply List.map_congr_left
  intro v _
  simp [Function.comp, Cmd.indent]

theorem lay_indent (n : Nat) (cmds : List Cmd) (s : Nat) :
    toksOf (cmds.map (Cmd.indent n)) false (s + 1) = sh s (toksOf cmds false 1) ∧
    nLines (cmds.map (Cmd.indent n)) false = nLines cmds false ∧
    (exec (cmds.map (Cmd.indent n)) false).2 = (exec cmds false).2 := by
  obtain ⟨h1, h2, h3⟩ := exec_indent n cmds false
  refine ⟨?_, h2, h1⟩
  unfold toksOf
  rw [h3, Nat.add_comm s 1]
  exact toksOf_shift cmds false 1 s

/-- the commands `itemCmds` writes for the options of a block on a builder with indentation `n` -/
theorem optCmds_indent (n : Nat) (os : List SOpt) :
    ((sortOpts os).map (fun o => optionCmds (n + 1) o ++ [Cmd.gap])).flatten = (optCmds0 os).map (Cmd.indent (n + 1)) := by
  unfold optCmds0
  rw [List.map_flatten, List.map_map]
  congr 1
  apply List.map_congr_left
  intro o _
  simp only [Function.comp, List.map_append, List.map_cons, List.map_nil, Cmd.indent]
  rw [← optionCmds_indent]

theorem sortOpts_isEmpty (os : List SOpt) : (sortOpts os).isEmpty = os.isEmpty := by
  cases os with
  | nil => rfl
  | cons x xs =>
    simp only [sortOpts, Order.isort, List.isEmpty_cons]
    generalize Order.isort _ xs = l
    cases l <;> simp [Order.insertBy] <;> split <;> simp

theorem exec_gapEnded : ∀ (l : List (List Cmd)) (g : Bool),
    (exec (l.map (fun c => c ++ [Cmd.gap])).flatten g).2 = (g || !l.isEmpty)
  | [], g => by simp [exec]
  | c :: r, g => by
    simp only [List.map_cons, List.flatten_cons, List.append_assoc, exec_append_snd, List.isEmpty_cons, Bool.not_false,
      Bool.or_true]
    have : (exec ([Cmd.gap] ++ (r.map (fun c => c ++ [Cmd.gap])).flatten) (exec c g).2).2 = true := by
      simp only [List.cons_append, List.nil_append, exec]
      rw [exec_gapEnded r true]; rfl
    exact this

theorem optCmds0_flag (os : List SOpt) : (exec (optCmds0 os) false).2 = !os.isEmpty := by
  unfold optCmds0
  have := exec_gapEnded ((sortOpts os).map (optionCmds 0)) false
  simp only [List.map_map, Function.comp, Bool.false_or, List.isEmpty_map, sortOpts_isEmpty] at this
  exact this

/-- the options of a block that starts on line `s`: tokens, lines, final gap flag -/
theorem lay_opts (n : Nat) (os : List SOpt) (s : Nat) :
    toksOf ((sortOpts os).map (fun o => optionCmds (n + 1) o ++ [Cmd.gap])).flatten false (s + 1) = sh s (optToks0 os) ∧
    nLines ((sortOpts os).map (fun o => optionCmds (n + 1) o ++ [Cmd.gap])).flatten false = optSpan os ∧
    (exec ((sortOpts os).map (fun o => optionCmds (n + 1) o ++ [Cmd.gap])).flatten false).2 = !os.isEmpty := by
  rw [optCmds_indent]
  obtain ⟨h1, h2, h3⟩ := lay_indent (n + 1) (optCmds0 os) s
  exact ⟨h1, h2, h3.trans (optCmds0_flag os)⟩

theorem rpcCmds_plain (n : Nat) (l : Loc) (i : Nat) (name inT outT : String) (hl : l.leadOnly) :
    bodyCmds n (.rpc l i name inT outT []) = [Cmd.line (rpcLine n name inT outT)] ++ [Cmd.gap] := by
  simp only [bodyCmds]
  rw [trailingCmds_nt n hl.2, inlineComment_nt hl.2]
  simp [sortOpts, Order.isort, rpcLine]

theorem rpcCmds_opts (n : Nat) (l : Loc) (i : Nat) (name inT outT : String) (os : List SOpt) (hl : l.leadOnly)
    (hne : os.isEmpty = false) :
    bodyCmds n (.rpc l i name inT outT os) = [Cmd.line (rpcOpenLine n name inT outT)] ++
      (((sortOpts os).map (optionCmds (n + 1))).flatten ++ ([Cmd.endl (ind n "}")] ++ [Cmd.gap])) := by
  simp only [bodyCmds]
  rw [trailingCmds_nt n hl.2, inlineComment_nt hl.2]
  simp [hne, rpcOpenLine]

theorem rpcOptCmds_indent (n : Nat) (os : List SOpt) :
    ((sortOpts os).map (optionCmds (n + 1))).flatten = (rpcCmds0 os).map (Cmd.indent (n + 1)) := by
  unfold rpcCmds0
  rw [List.map_flatten, List.map_map]
  congr 1
  apply List.map_congr_left
  intro o _
  simp only [Function.comp]
  rw [← optionCmds_indent]

/-- the options of a method that starts on line `s`: tokens and lines -/
theorem lay_rpcOpts (n : Nat) (os : List SOpt) (s : Nat) :
    toksOf ((sortOpts os).map (optionCmds (n + 1))).flatten false (s + 1) = sh s (rpcToks0 os) ∧
    nLines ((sortOpts os).map (optionCmds (n + 1))).flatten false = rpcSpan os := by
  rw [rpcOptCmds_indent]
  exact ⟨(lay_indent (n + 1) (rpcCmds0 os) s).1, (lay_indent (n + 1) (rpcCmds0 os) s).2.1⟩

theorem lead_exec_eq (n : Nat) (e : Item) (hl : e.loc.leadOnly) (hc : CommentOk e.loc.leading) (first : Bool) (le0 lt : Nat)
    (g : Bool) :
    exec ((if gapBefore first le0 lt e = true then [Cmd.gap] else []) ++ leadingCmds n e.loc) g =
      if e.loc.leading = "" then ([], g || gapBefore first le0 lt e) else ("" :: leadLines n e.loc.leading, false) := by
  rw [leadingCmds_lead n hl]
  by_cases hlead : e.loc.leading = ""
  · simp only [hlead, if_true, List.append_nil, exec_gapIf]
  · simp only [hlead, if_false]
    have hne : leadLines n e.loc.leading ≠ [] := by
      rcases hc with hc | hc
      · exact absurd hc hlead
      · exact fun h0 => hc.1 (List.map_eq_nil_iff.mp h0)
    obtain ⟨e1, e2⟩ := exec_lines_map (leadLines n e.loc.leading) true hne
    rw [exec_append, exec_gapIf]
    simp only [exec, e1, e2, if_true, List.nil_append, List.cons_append]

/-- where the element itself starts, after the gap of `printElements` and its leading comment -/
theorem lead_exec (n : Nat) (e : Item) (hl : e.loc.leadOnly) (hc : CommentOk e.loc.leading) (first : Bool) (le0 lt : Nat)
    (g : Bool) (L : Nat) :
    startLine (exec ((if gapBefore first le0 lt e = true then [Cmd.gap] else []) ++ leadingCmds n e.loc) g).2
      (L + nLines ((if gapBefore first le0 lt e = true then [Cmd.gap] else []) ++ leadingCmds n e.loc) g) =
        kidS e first le0 lt L g := by
  unfold nLines kidS kidStart
  rw [lead_exec_eq n e hl hc]
  by_cases hlead : e.loc.leading = ""
  · simp only [hlead, if_true, List.length_nil, Nat.add_zero]
  · simp only [hlead, if_false, startLine, Bool.false_eq_true, List.length_cons, leadLines, List.length_map]
    omega

/-- the state of the gap flag after the elements -/
def endFlag : List Item → Bool → Bool
  | [], g => g
  | e :: r, _ => endFlag r e.gapEnder

mutual
theorem lay_item : ∀ (e : Item), Plain e → ∀ (n : Nat) (g : Bool) (L : Nat),
    (match e with
     | .block _ _ _ _ _ _ _ => True
     | e' => toksOf (bodyCmds n e') g L = itemToks n e' (startLine g L)) ∧
    L + nLines (bodyCmds n e) g = (rdItem e (startLine g L)).2 ∧
    (exec (bodyCmds n e) g).2 = e.gapEnder
  | .field f, h, n, g, L => by
    dsimp only
    rw [fieldCmds_lines n f (Plain.loc _ h), fieldLines_ind n f, itemToks_field, rdItem_field_snd]
    obtain ⟨e1, e2⟩ := exec_lines_map ((fieldLines 0 f).map (ind n)) g (by simp [fieldLines_ne])
    refine ⟨?_, ?_, e2⟩
    · unfold toksOf fieldToks0
      rw [e1]
      cases g with
      | false =>
        simp only [Bool.false_eq_true, if_false, List.nil_append, startLine, lexLines_ind]
        rw [← lexLines_shift, Nat.zero_add]
      | true =>
        simp only [if_true, List.cons_append, List.nil_append, startLine, lexLines, lineToks_blank, lexLines_ind]
        rw [← lexLines_shift, Nat.zero_add]
    · unfold nLines
      rw [e1]
      cases g <;> simp [startLine] <;> omega
  | .rpc l i name inT outT os, h, n, g, L => by
    simp only [Plain] at h
    obtain ⟨hl, ho⟩ := h
    dsimp only
    by_cases hemp : os.isEmpty = true
    · have hnil : os = [] := by simpa using hemp
      subst hnil
      rw [rpcCmds_plain n l i name inT outT hl]
      simp only [itemToks, rdItem, List.isEmpty_nil, if_true, Item.gapEnder]
      refine ⟨?_, ?_, ?_⟩
      · rw [toksOf_append, toksOf_line]; simp [toksOf_gap, startLine]
      · cases g <;> simp [nLines, exec, startLine]
      · cases g <;> simp [exec]
    · have hne : os.isEmpty = false := by simpa using hemp
      rw [rpcCmds_opts n l i name inT outT os hl hne]
      obtain ⟨o1, o2⟩ := lay_rpcOpts n os (startLine g L)
      simp only [itemToks, rdItem, hne, Bool.false_eq_true, if_false, Item.gapEnder]
      have hfirst := fun s : String => exec_line_flag s g
      have hn1 := fun s : String => nLines_line s g L
      refine ⟨?_, ?_, ?_⟩
      · rw [toksOf_append, toksOf_append, toksOf_append, toksOf_line, toksOf_gap, List.append_nil]
        simp only [exec_append_snd, hfirst, nLines_append, toksOf_endl, hn1, o1, o2, List.append_assoc]
        rfl
      · simp only [nLines_append, exec_append_snd, hfirst, o2]
        rw [← Nat.add_assoc, ← Nat.add_assoc, hn1]
        simp [nLines, exec]
        omega
      · simp [exec_append_snd, exec]
  | .block kw t l i name os kids, h, n, g, L => by
    simp only [Plain] at h
    obtain ⟨hl, ho, hk⟩ := h
    rw [blockCmds_opts n kw t l i name os kids hl]
    by_cases hempty : (kids.isEmpty && os.isEmpty) = true
    · simp only [hempty, if_true, itemToks, rdItem, Item.gapEnder]
      refine ⟨trivial, ?_, ?_⟩
      · cases g <;> simp [nLines, exec, startLine]
      · cases g <;> simp [exec]
    · have hne : (kids.isEmpty && os.isEmpty) = false := by simpa using hempty
      obtain ⟨o1, o2, o3⟩ := lay_opts n os (startLine g L)
      obtain ⟨k2, k3⟩ := lay_kids kids hk (n + 1) true 0 0 (!os.isEmpty) (startLine g L + 1 + optSpan os)
      simp only [hne, Bool.false_eq_true, if_false, itemToks, rdItem, Item.gapEnder]
      have hfirst := fun s : String => exec_line_flag s g
      have hn1 := fun s : String => nLines_line s g L
      refine ⟨trivial, ?_, ?_⟩
      · simp only [nLines_append, exec_append_snd, hfirst, o2, o3]
        rw [← Nat.add_assoc, ← Nat.add_assoc, ← Nat.add_assoc, ← Nat.add_assoc, hn1, k2]
        simp [nLines, exec]
      · simp [exec_append_snd, exec]
theorem lay_kids : ∀ (es : List Item), PlainList es → ∀ (n : Nat) (first : Bool) (le0 lt : Nat) (g : Bool) (L : Nat),
    L + nLines (elemsCmds n es first le0 lt) g = (rdKids es first le0 lt L g).2 ∧
    (exec (elemsCmds n es first le0 lt) g).2 = endFlag es g
  | [], _, _, _, _, _, _, _ => by simp [elemsCmds, nLines, exec, rdKids, endFlag]
  | e :: r, h, n, first, le0, lt, g, L => by
    simp only [PlainList] at h
    obtain ⟨he, hc, hr⟩ := h
    have hP := lead_exec n e (Plain.loc e he) hc first le0 lt g L
    rw [elemsCmds_cons n e r first le0 lt, rdKids_cons]
    generalize (if gapBefore first le0 lt e = true then [Cmd.gap] else []) ++ leadingCmds n e.loc = P at hP ⊢
    obtain ⟨_, i2, i3⟩ := lay_item e he n (exec P g).2 (L + nLines P g)
    rw [hP] at i2
    obtain ⟨r2, r3⟩ := lay_kids r hr n false e.loc.endLine e.typeOrder e.gapEnder (rdItem e (kidS e first le0 lt L g)).2
    refine ⟨?_, ?_⟩
    · simp only [nLines_append, exec_append_snd, i3]
      rw [← Nat.add_assoc, ← Nat.add_assoc, i2, r2]
    · simp only [exec_append_snd, i3, r3, endFlag]
end

theorem sortImports_perm (l : List (String × String)) : (sortImports l).Perm l := Order.isort_perm _ l

theorem restCmds_eq (t : FileD) : restCmds t = hdCmds t ++ elemsCmds 0 t.items true 0 0 := by
  simp [restCmds, hdCmds, List.append_assoc]

theorem fileCmds_simple (gen : String) (t : FileD) (h : SimpleFile gen t) :
    fileCmds gen t = [Cmd.line ("// " ++ gen), Cmd.line ""] ++ restCmds t := by
  unfold fileCmds restCmds importCmds
  rw [leadingCmds_noComments 0 h.loc, h.opts, h.exts]
  simp only [sortOpts, Order.isort, List.map_nil, List.flatten_nil, groupExts, List.append_nil, List.nil_append,
    List.append_assoc, List.cons_append, syntaxLine, packageLine]
  rfl

theorem exec_importLines : ∀ (I : List (String × String)) (g : Bool),
    exec (I.map (fun d => Cmd.line (importLine d))) g =
      ((if g && !I.isEmpty then [""] else []) ++ I.map importLine, if I.isEmpty then g else false)
  | [], g => by simp [exec]
  | d :: r, g => by
    simp only [List.map_cons, exec, exec_importLines r false]
    cases g <;> simp

theorem exec_importCmds (t : FileD) :
    exec (importCmds t) true =
      (if t.imports.isEmpty then [] else "" :: (sortImports t.imports).map importLine, true) := by
  unfold importCmds
  have hlen : (sortImports t.imports).isEmpty = t.imports.isEmpty := by
    have := (sortImports_perm t.imports).length_eq
    cases h1 : sortImports t.imports <;> cases h2 : t.imports <;> simp_all
  split
  · rfl
  · rename_i hne
    have hne' : (sortImports t.imports).isEmpty = false := by rw [hlen]; simpa using hne
    rw [exec_append, exec_importLines]
    simp [hne', exec]

theorem exec_hdCmds (t : FileD) :
    (exec (hdCmds t) false).2 = true ∧ 2 + nLines (hdCmds t) false = itemsStart t := by
  unfold hdCmds
  have hlen : (sortImports t.imports).length = t.imports.length := (sortImports_perm t.imports).length_eq
  have h2 : exec [Cmd.line syntaxLine, Cmd.line "", Cmd.line (packageLine t), Cmd.gap] false =
      ([syntaxLine, "", packageLine t], true) := by simp [exec]
  constructor
  · rw [exec_append_snd, h2, exec_append_snd]
    rfl
  · unfold nLines itemsStart
    rw [exec_append, h2, exec_append, exec_importCmds]
    by_cases hempty : t.imports.isEmpty = true
    · simp [hempty, exec]
    · have hne : t.imports.isEmpty = false := by simpa using hempty
      simp [hne, exec, hlen]
      omega

theorem toksOf_hdCmds (t : FileD) :
    toksOf (hdCmds t) false 2 =
      lineToks syntaxLine 2 ++ (lineToks (packageLine t) 4 ++ lexLines ((sortImports t.imports).map importLine) 6) := by
  unfold hdCmds
  have hlen : (sortImports t.imports).length = t.imports.length := (sortImports_perm t.imports).length_eq
  rw [toksOf_append, toksOf_append]
  have h1 : toksOf [Cmd.line syntaxLine, Cmd.line "", Cmd.line (packageLine t), Cmd.gap] false 2 =
      lineToks syntaxLine 2 ++ lineToks (packageLine t) 4 := by
    simp [toksOf, exec, lexLines, lineToks_blank]
  have h2 : exec [Cmd.line syntaxLine, Cmd.line "", Cmd.line (packageLine t), Cmd.gap] false =
      ([syntaxLine, "", packageLine t], true) := by simp [exec]
  have h3 : nLines [Cmd.line syntaxLine, Cmd.line "", Cmd.line (packageLine t), Cmd.gap] false = 3 := by
    simp [nLines, exec]
  rw [h1, h2, h3]
  simp only [toksOf_gap, List.append_nil, List.append_assoc]
  congr 2
  by_cases hempty : t.imports.isEmpty = true
  · have hnil : t.imports = [] := by simpa using hempty
    have hs : sortImports t.imports = [] := by rw [hnil]; rfl
    simp [toksOf, exec_importCmds, hempty, hs, lexLines]
  · have hne : t.imports.isEmpty = false := by simpa using hempty
    simp only [toksOf, exec_importCmds, hne, Bool.false_eq_true, if_false, lexLines, lineToks_blank,
      List.nil_append]

/-- every line `restCmds` writes satisfies `P` if the empty line and the texts of its commands do -/
theorem restCmds_lines (t : FileD) (P : String → Prop) (h0 : P "") (hs : P syntaxLine) (hp : P (packageLine t))
    (hi : ∀ d ∈ sortImports t.imports, P (importLine d))
    (he : ∀ c ∈ elemsCmds 0 t.items true 0 0, match c with | .line s => P s | .endl s => P s | .gap => True) :
    ∀ s ∈ (exec (restCmds t) false).1, P s := by
  apply exec_lines _ _ P h0
  intro c hc
  unfold restCmds importCmds at hc
  simp only [List.mem_append, List.mem_cons, List.mem_singleton, List.not_mem_nil, or_false] at hc
  rcases hc with (rfl | rfl | rfl | rfl) | hc | rfl | hc
  · exact hs
  · exact h0
  · exact hp
  · trivial
  · split at hc
    · simp at hc
    · simp only [List.mem_append, List.mem_map, List.mem_singleton] at hc
      rcases hc with ⟨d, hd, rfl⟩ | rfl
      · exact hi d hd
      · trivial
  · trivial
  · exact he c hc

/-- the lines of the file -/
theorem lines_simple (gen : String) (t : FileD) (h : SimpleFile gen t) :
    run (fileCmds gen t) false = ("// " ++ gen) :: "" :: (exec (restCmds t) false).1 := by
  rw [run_eq_exec, fileCmds_simple gen t h, exec_append]
  simp [exec]

end J5V.Print.Reparse
