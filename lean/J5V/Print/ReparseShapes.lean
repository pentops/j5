import J5V.Print.GrammarSpec
/-!
# What the reparse theorem speaks about (core only)

The shapes of descriptors it covers (`SimpleField` … `SimpleFile`, with the certificates `OptField`, `BlockOpts`, `RpcOpts` that
the checker evaluates), the reading `rdItem` / `rdKids` / `rdFile` (the printed tree with the source lines of the text), what
the printer writes for an element (`bodyCmds`) and the tokens a reader finds there (`itemToks`, `kT`). Definitions only.
-/
namespace J5V.Print.Reparse
open J5V.Print J5V.Print.Grammar J5V.Print.Layout J5V.Print.OptionText J5V.Print.Scalar

/-- the tokens of consecutive lines, the first on line `l` -/
def lexLines : List String → Nat → List PTok
  | [], _ => []
  | s :: r, l => lineToks s l ++ lexLines r (l + 1)

/-- the tokens of what `cmds` writes, starting on line `L` with the gap flag `g` -/
def toksOf (cmds : List Cmd) (g : Bool) (L : Nat) : List PTok := lexLines (exec cmds g).1 L

def nLines (cmds : List Cmd) (g : Bool) : Nat := (exec cmds g).1.length

/-- the raw items of consecutive lines -/
def rawLines : List String → Nat → List Raw
  | [], _ => []
  | s :: r, l => lexL s.toList l ++ rawLines r (l + 1)

def rawsC (cmds : List Cmd) (g : Bool) (L : Nat) : List Raw := rawLines (exec cmds g).1 L

/-- not a word the parser takes for the start of something else -/
def kwOk (first : String) : Prop :=
  first ≠ "repeated" ∧ first ≠ "optional" ∧ first ≠ "option" ∧ first ≠ "message" ∧ first ≠ "enum" ∧ first ≠ "oneof"

/-- a field without options, detached or trailing comments and custom JSON name, of a named or scalar type -/
def SimpleField (f : FieldD) : Prop :=
  f.kind = .field ∧ f.loc.leadOnly ∧ f.opts = [] ∧ (f.label = "" ∨ f.label = "repeated " ∨ f.label = "optional ") ∧
  IsIdent f.name ∧ f.json = some (String.ofList (defaultJSONName f.name.toList)) ∧
  ∃ (abs : Bool) (first : String) (rest : List String), IsIdent first ∧ (∀ r ∈ rest, IsIdent r) ∧
    f.type = tyStr abs first rest ∧ (abs = false → first ≠ "map") ∧ (f.label = "" → abs = false → kwOk first)

/-- a map field without options, detached or trailing comments and custom JSON name: a scalar key type, a named or
scalar value type -/
def MapField (f : FieldD) : Prop :=
  f.kind = .field ∧ f.loc.leadOnly ∧ f.opts = [] ∧ f.label = "" ∧
  IsIdent f.name ∧ f.json = some (String.ofList (defaultJSONName f.name.toList)) ∧
  ∃ (k : String) (abs : Bool) (first : String) (rest : List String), IsIdent k ∧ IsIdent first ∧ (∀ r ∈ rest, IsIdent r) ∧
    f.type = mapTy k abs first rest

/-- an enum value without options, detached and trailing comments -/
def SimpleValue (f : FieldD) : Prop :=
  f.kind = .value ∧ f.loc.leadOnly ∧ f.opts = [] ∧ f.label = "" ∧ f.type = "" ∧ IsIdent f.name ∧ f.name ≠ "option" ∧
  f.json = none

/-! ### fields with bracket options (`[a = 1, json_name = "x"]`): read back by evaluation

The lines of such a field are scanned and its bracket is parsed *by evaluation* at line 0 (the checker
does it for every field); `lineToks_shift` and the frame lemmas of `ReparseOpts` carry the result to the
line the field is printed on and to whatever follows it. -/

/-- how the type of a field is written -/
inductive TyW where
  | plain (abs : Bool) (first : String) (rest : List String)
  | map (k : String) (abs : Bool) (first : String) (rest : List String)

def TyW.str : TyW → String
  | .plain a f r => tyStr a f r
  | .map k a f r => mapTy k a f r

def TyW.toks : TyW → Nat → List PTok
  | .plain a f r, l => tyToks a f r l
  | .map k a f r, l => T (.ident "map") l :: T (.sym '<') l :: (tyToks false k [] l ++ T (.sym ',') l ::
      (tyToks a f r l ++ [T (.sym '>') l]))

def TyW.ok (label : String) : TyW → Prop
  | .plain a f r => IsIdent f ∧ (∀ x ∈ r, IsIdent x) ∧ (a = false → f ≠ "map") ∧ (label = "" → a = false → kwOk f)
  | .map k _ f r => label = "" ∧ IsIdent k ∧ IsIdent f ∧ ∀ x ∈ r, IsIdent x

/-- the tokens before the options: `label type name = number [` -/
def headToks (f : FieldD) (w : TyW) (l : Nat) : List PTok :=
  labelToks f.label l ++ w.toks l ++ T (.ident f.name) l :: T (.sym '=') l :: (numToks f.number l ++ [T (.sym '[') l])

/-- the scanner finds only tokens on this line (no `//` comment; a `/` inside a string literal is fine) -/
def TokOk (s : String) : Prop := ∀ r ∈ lexL s.toList 0, ∃ t ln, r = Raw.tok t ln

/-- the lines of a field without comments -/
def fieldLines (n : Nat) (f : FieldD) : List String := fieldStyle n f.head (formatInt f.number) f.popts ""

/-- … scanned where the checker scans them: from line 0 -/
def fieldToks0 (f : FieldD) : List PTok := lexLines (fieldLines 0 f) 0

/-- the tokens after the first `[` -/
def rdBody (f : FieldD) : List PTok := ((fieldToks0 f).dropWhile (fun t => t.tok != .sym '[')).drop 1

/-- the options between the brackets as the parser reads them, and the line of the closing `;` -/
def rdRaws (f : FieldD) : List RawOpt × Nat :=
  match bracketOpts ((rdBody f).length + 1) (rdBody f) with
  | some (raws, ⟨.sym ';', e, _⟩ :: _) => (raws, e)
  | _ => ([], 0)

/-- the field as read from line 0 -/
def rdField0 (f : FieldD) : FieldD :=
  (mkField .field 0 Cm.none f.label f.type f.name (f.number, (rdRaws f).1, (rdRaws f).2, [])).1

/-- the field as read from line `s` -/
def rdField (f : FieldD) (s : Nat) : FieldD := shF s (rdField0 f)

/-- a field with bracket options (and / or a custom JSON name), no comments;
what the scanner and the parser make of its text is part of the hypothesis (decidable: `Cover.optFieldB`) -/
structure OptField (f : FieldD) : Prop where
  kind : f.kind = .field
  loc : f.loc.leadOnly
  unl : ∀ o ∈ f.opts, o.hasLoc = false
  lab : f.label = "" ∨ f.label = "repeated " ∨ f.label = "optional "
  name : IsIdent f.name
  nonempty : f.popts ≠ []
  noch : ∀ l ∈ fieldLines 0 f, (∀ c ∈ l.toList, c ≠ '\n') ∧ TokOk l
  read : ∃ (w : TyW) (raws : List RawOpt) (e : Nat) (c : Cm), w.ok f.label ∧ f.type = w.str ∧
    fieldToks0 f = headToks f w 0 ++ rdBody f ∧
    bracketOpts ((rdBody f).length + 1) (rdBody f) = Option.some (raws, [⟨.sym ';', e, c⟩]) ∧
    e + 1 = (fieldLines 0 f).length
  ok : fieldOk f (rdField0 f)

/-! ## statement options of a block (`option (x.y).z = {};`): read back by evaluation

`splitOpt` cuts before every identifier `option`, which in general does not find the statements (a value may hold the
word): `BlockOpts.whole` and `.chunks` check it on the options at hand. `BlockOpts.pos`: `locLess` takes line 0 for "no
location", so only a reading on lines `> 0` keeps its order when moved down (`shO`). -/

/-- what `printSection` writes for the options of a block on a builder with indentation 0: every option
(all its statements), then a gap -/
def optCmds0 (os : List SOpt) : List Cmd :=
  ((sortOpts os).map (fun o => optionCmds 0 o ++ [Cmd.gap])).flatten

/-- the option lines (without the blank ones) -/
def optLines0 (os : List SOpt) : List String :=
  ((sortOpts os).map (fun o => (o.stmts.map (optionStmt1 0 o.name o.single)).flatten)).flatten

/-- their tokens when the block starts on line 0 -/
def optToks0 (os : List SOpt) : List PTok := toksOf (optCmds0 os) false 1

/-- the number of lines they take (blank lines between the options included) -/
def optSpan (os : List SOpt) : Nat := nLines (optCmds0 os) false

/-- cut before every `option` -/
def splitOpt : List PTok → List (List PTok)
  | [] => []
  | t :: r =>
    match splitOpt r with
    | [] => [[t]]
    | c :: cs =>
      match c with
      | ⟨.ident "option", _, _⟩ :: _ => [t] :: c :: cs
      | _ => (t :: c) :: cs

/-- the statements, each as the parser reads it alone -/
def optChunks (os : List SOpt) : List (List PTok) := splitOpt (optToks0 os)

def rawsOf (chunks : List (List PTok)) : List RawOpt := chunks.filterMap (fun c => (optionStmt c).map Prod.fst)

def optRaws0 (os : List SOpt) : List RawOpt := rawsOf (optChunks os)

/-- every piece is one whole statement -/
def ChunksOk (chunks : List (List PTok)) : Prop := ∀ c ∈ chunks, ∃ r, optionStmt c = some (r, [])

/-- the options of the block as read from a block that starts on line `s` -/
def rdBlockOpts (os : List SOpt) (s : Nat) : List SOpt := (mkOpts 0 (optRaws0 os)).map (shO s)

/-- the options of a block, as statements; what the scanner and the parser make of their text is part of the
hypothesis (decidable: `Cover.blockOptsB`) -/
structure BlockOpts (os : List SOpt) : Prop where
  unl : ∀ o ∈ os, o.hasLoc = false
  noch : ∀ l ∈ optLines0 os, (∀ c ∈ l.toList, c ≠ '\n') ∧ TokOk l
  whole : (optChunks os).flatten = optToks0 os
  chunks : ChunksOk (optChunks os)
  ok : optsOk os (mkOpts 0 (optRaws0 os))
  pos : ∀ o ∈ mkOpts 0 (optRaws0 os), o.hasLoc = true → 0 < o.startLine

/-! ## statement options of a method: as for a block, but without gaps between them -/

def rpcCmds0 (os : List SOpt) : List Cmd := ((sortOpts os).map (optionCmds 0)).flatten

def rpcToks0 (os : List SOpt) : List PTok := toksOf (rpcCmds0 os) false 1

def rpcSpan (os : List SOpt) : Nat := nLines (rpcCmds0 os) false

def rpcChunks (os : List SOpt) : List (List PTok) := splitOpt (rpcToks0 os)

def rpcRaws0 (os : List SOpt) : List RawOpt := rawsOf (rpcChunks os)

def rdRpcOpts (os : List SOpt) (s : Nat) : List SOpt := (mkOpts 0 (rpcRaws0 os)).map (shO s)

/-- the options of a method; what the scanner and the parser make of their text is part of the hypothesis
(decidable: `Cover.rpcOptsB`) -/
structure RpcOpts (os : List SOpt) : Prop where
  unl : ∀ o ∈ os, o.hasLoc = false
  noch : ∀ l ∈ optLines0 os, (∀ c ∈ l.toList, c ≠ '\n') ∧ TokOk l
  whole : (rpcChunks os).flatten = rpcToks0 os
  chunks : ChunksOk (rpcChunks os)
  ok : optsOk os (mkOpts 0 (rpcRaws0 os))
  pos : ∀ o ∈ mkOpts 0 (rpcRaws0 os), o.hasLoc = true → 0 < o.startLine

/-! ## elements, services, files

`SimpleFile.distinct`: with pairwise different import paths sorting the sorted imports changes nothing (`sortImports_idem`). -/

/-- a leading comment as the printer splits it into `//` lines and the reader joins them again: the text ends with
a line break (every comment protocompile attributes does), no line holds a line break (decidable: `Cover.commentOkB`) -/
def CommentOk (c : String) : Prop :=
  c = "" ∨ (commentBody c ≠ [] ∧ (∀ x ∈ commentBody c, NoNL x.toList) ∧
    String.join ((commentBody c).map (· ++ "\n")) = c)

mutual
/-- messages (nested), enums, oneofs, fields, enum values; statement / bracket options by certificate; every element may
carry a leading comment (`CommentOk`, asked by the list predicates), no detached / trailing comments -/
def SimpleItem : Item → Prop
  | .field f => SimpleField f ∨ MapField f ∨ OptField f
  | .rpc _ _ _ _ _ _ => False
  | .block kw t l _ name os ks =>
    l.leadOnly ∧ BlockOpts os ∧ IsIdent name ∧
    ((kw = "message" ∧ t = 1 ∧ SimpleKids ks) ∨ (kw = "enum" ∧ t = 2 ∧ SimpleValues ks) ∨
      (kw = "oneof" ∧ t = 0 ∧ ks ≠ [] ∧ SimpleMembers ks ∧ os = []))
def SimpleKids : List Item → Prop
  | [] => True
  | e :: r => SimpleItem e ∧ CommentOk e.loc.leading ∧ SimpleKids r
/-- the members of a `oneof`: fields without label -/
def SimpleMembers : List Item → Prop
  | [] => True
  | .field f :: r => ((SimpleField f ∨ OptField f) ∧ f.label = "") ∧ CommentOk f.loc.leading ∧ SimpleMembers r
  | _ :: _ => False
def SimpleValues : List Item → Prop
  | [] => True
  | .field f :: r => SimpleValue f ∧ CommentOk f.loc.leading ∧ SimpleValues r
  | _ :: _ => False
end

/-- a message or an enum, not a field or a oneof -/
def IsBlock : Item → Prop
  | .block _ t _ _ _ _ _ => t ≠ 0
  | _ => False

/-- the elements of a file are blocks -/
def AllBlocks : List Item → Prop
  | [] => True
  | e :: r => IsBlock e ∧ AllBlocks r

/-- a request / response type as the printer writes it: `[stream ]type` -/
def rpcTyStr (st abs : Bool) (first : String) (rest : List String) : String :=
  (if st then "stream " else "") ++ tyStr abs first rest

/-- a method (statement options allowed; a leading comment allowed, asked `CommentOk` by the list) -/
def SimpleRpc : Item → Prop
  | .rpc l _ name inT outT os =>
    l.leadOnly ∧ RpcOpts os ∧ IsIdent name ∧
    (∃ (st abs : Bool) (first : String) (rest : List String), IsIdent first ∧ (∀ r ∈ rest, IsIdent r) ∧
      inT = rpcTyStr st abs first rest ∧ (st = false → abs = false → first ≠ "stream")) ∧
    (∃ (st abs : Bool) (first : String) (rest : List String), IsIdent first ∧ (∀ r ∈ rest, IsIdent r) ∧
      outT = rpcTyStr st abs first rest ∧ (st = false → abs = false → first ≠ "stream"))
  | _ => False

def SimpleRpcs : List Item → Prop
  | [] => True
  | e :: r => SimpleRpc e ∧ CommentOk e.loc.leading ∧ SimpleRpcs r

/-- a service with at most a leading comment, statement options and methods as `SimpleRpc` admits them -/
def SimpleService : Item → Prop
  | .block kw t l _ name os ks => l.leadOnly ∧ BlockOpts os ∧ IsIdent name ∧ kw = "service" ∧ t = 0 ∧ SimpleRpcs ks
  | _ => False

/-- what a file holds at its top level -/
def SimpleTop (e : Item) : Prop := (SimpleItem e ∧ IsBlock e) ∨ SimpleService e

def SimpleTops : List Item → Prop
  | [] => True
  | e :: r => SimpleTop e ∧ CommentOk e.loc.leading ∧ SimpleTops r

def importLine (d : String × String) : String := "import " ++ d.2 ++ "\"" ++ d.1 ++ "\";"

/-- a file of services, messages and enums: package, imports, no file options, no extensions, no comment of the file -/
structure SimpleFile (gen : String) (t : FileD) : Prop where
  gen : NoNL gen.toList
  loc : t.loc.noComments
  pkg : ∃ first rest, IsIdent first ∧ (∀ r ∈ rest, IsIdent r) ∧ t.pkg = tyStr false first rest
  imports : ∀ i ∈ t.imports, PlainBody i.1.toList ∧ (i.2 = "" ∨ i.2 = "public " ∨ i.2 = "weak ")
  distinct : t.imports.Pairwise (fun a b => strBytes a.1 ≠ strBytes b.1)
  opts : t.opts = []
  exts : t.exts = []
  items : SimpleTops t.items

/-! ## the reading: the same tree with the lines of the printed text

Lines count from 0; the printer's state is "`L` lines written, gap flag `g`". `itemsStart`: `// gen`, blank, `syntax`, blank,
`package` are 5 lines; `k` imports add a blank line and `k` lines. It is passed with `g = true`: the lines written, not the
line of the first element. -/

def lineLoc (s e : Nat) : Loc := ⟨s, e, [], "", ""⟩

/-- the gap `printElements` asks for before an element without source location -/
def gapBefore (first : Bool) (le0 lt : Nat) (e : Item) : Bool := gapCond first le0 e.loc.startLine e.typeOrder lt

def startLine (g : Bool) (L : Nat) : Nat := if g then L + 1 else L

/-- the line an element starts on when the printer is on line `L` with gap flag `g`: without a leading comment the
next line (after the blank one, if a gap is pending or asked for); with a leading comment `c` of `k` lines: a blank
line, the `k` comment lines, then the element -/
def kidStart (c : String) (gb : Bool) (L : Nat) (g : Bool) : Nat :=
  if c = "" then startLine (g || gb) L else L + 1 + (commentBody c).length

def kidS (e : Item) (first : Bool) (le0 lt L : Nat) (g : Bool) : Nat :=
  kidStart e.loc.leading (gapBefore first le0 lt e) L g

mutual
/-- the element that starts on line `s`, and the line after it -/
def rdItem : Item → Nat → Item × Nat
  | .field f, s =>
    if f.popts.isEmpty then (.field { f with loc := lineLoc s s, index := 0 }, s + 1)
    else (.field (rdField f s), s + (fieldLines 0 f).length)
  | .rpc _ _ a b c os, s =>
    if os.isEmpty then (.rpc (lineLoc s s) 0 a b c [], s + 1)
    else (.rpc (lineLoc s (s + 1 + rpcSpan os)) 0 a b c (rdRpcOpts os s), s + 2 + rpcSpan os)
  | .block kw t _ _ name os kids, s =>
    if kids.isEmpty && os.isEmpty then (.block kw t (lineLoc s s) 0 name [] [], s + 1)
    else (.block kw t (lineLoc s (rdKids kids true 0 0 (s + 1 + optSpan os) (!os.isEmpty)).2) 0 name (rdBlockOpts os s)
        (rdKids kids true 0 0 (s + 1 + optSpan os) (!os.isEmpty)).1,
      (rdKids kids true 0 0 (s + 1 + optSpan os) (!os.isEmpty)).2 + 1)
/-- the elements written from line `L` on with gap flag `g` (`printElements`), and the line after them -/
def rdKids : List Item → Bool → Nat → Nat → Nat → Bool → List Item × Nat
  | [], _, _, _, L, _ => ([], L)
  | e :: r, first, le0, lt, L, g =>
    let s := kidStart e.loc.leading (gapCond first le0 e.loc.startLine e.typeOrder lt) L g
    ((rdItem e s).1.withLead e.loc.leading :: (rdKids r false e.loc.endLine e.typeOrder (rdItem e s).2 e.gapEnder).1,
      (rdKids r false e.loc.endLine e.typeOrder (rdItem e s).2 e.gapEnder).2)
end

/-- what a field reads as, whichever way it is written -/
def rdFieldAny (f : FieldD) (s : Nat) : FieldD :=
  if f.popts.isEmpty then { f with loc := lineLoc s s, index := 0 } else rdField f s

/-- the line on which the first element can start -/
def itemsStart (t : FileD) : Nat := if t.imports.isEmpty then 5 else 6 + t.imports.length

/-- the file as a reader of the printed text finds it -/
def rdFile (t : FileD) : FileD :=
  ⟨Loc.none, t.pkg, sortImports t.imports, [], [], (rdKids t.items true 0 0 (itemsStart t) true).1⟩

/-! ## what the printer writes for these files

The trailing `++ ""` of the line shapes is the (empty) inline comment `ic` of `fieldStyle`: they are what it unfolds to. -/

/-- an element without its leading comments (`itemCmds` = `leadingCmds` ++ this) -/
def bodyCmds (n : Nat) : Item → List Cmd
  | .field f =>
    (fieldStyle n f.head (Scalar.formatInt f.number) f.popts (inlineComment f.loc)).map Cmd.line ++ trailingCmds n f.loc
  | .rpc l _ name inT outT opts =>
    [Cmd.line (ind n ("rpc " ++ name ++ "(" ++ inT ++ ") returns (" ++ outT ++ ")" ++
      (if opts.isEmpty then " {}" else " {") ++ inlineComment l))] ++
    trailingCmds n l ++
    ((sortOpts opts).map (optionCmds (n + 1))).flatten ++
    (if opts.isEmpty then [] else [Cmd.endl (ind n "}")]) ++ [Cmd.gap]
  | .block kw _ l _ name opts kids =>
    (if kids.isEmpty && opts.isEmpty && l.trailing = "" then
      [Cmd.line (ind n (kw ++ " " ++ name ++ " {}"))]
    else
      [Cmd.line (ind n (kw ++ " " ++ name ++ " {" ++ inlineComment l))] ++
      trailingCmds (n + 1) l ++
      ((sortOpts opts).map (fun o => optionCmds (n + 1) o ++ [Cmd.gap])).flatten ++
      elemsCmds (n + 1) kids true 0 0 ++
      [Cmd.endl (ind n "}")]) ++ [Cmd.gap]

/-- the `//` lines of a leading comment on a builder with indentation `n` -/
def leadLines (n : Nat) (c : String) : List String := (commentBody c).map (fun x => ind n ("//" ++ x))

def fieldLine (n : Nat) (f : FieldD) : String :=
  ind n (f.label ++ f.type ++ " " ++ f.name ++ " = " ++ formatInt f.number ++ ";" ++ "")

def valueLine (n : Nat) (f : FieldD) : String := ind n (f.name ++ " = " ++ formatInt f.number ++ ";" ++ "")

/-- the one line of a field or an enum value -/
def leafLine (n : Nat) (f : FieldD) : String :=
  match f.kind with
  | .field => fieldLine n f
  | .value => valueLine n f

/-- the line of a method without options -/
def rpcLine (n : Nat) (name inT outT : String) : String :=
  ind n ("rpc " ++ name ++ "(" ++ inT ++ ") returns (" ++ outT ++ ")" ++ " {}" ++ "")

/-- the first line of a method with options -/
def rpcOpenLine (n : Nat) (name inT outT : String) : String :=
  ind n ("rpc " ++ name ++ "(" ++ inT ++ ") returns (" ++ outT ++ ")" ++ " {" ++ "")

/-- the commands of an element itself: without its leading comment and without its children (for a block: both
forms of the opening line, the closing line, the option statements) -/
def ownCmds (n : Nat) : Item → List Cmd
  | .block kw _ _ _ name os _ =>
    Cmd.line (ind n (kw ++ " " ++ name ++ " {}")) :: Cmd.line (ind n (kw ++ " " ++ name ++ " {" ++ "")) ::
      Cmd.endl (ind n "}") :: ((sortOpts os).map (fun o => optionCmds (n + 1) o ++ [Cmd.gap])).flatten
  | e => bodyCmds n e

/-- the first line of an element (below its leading comment) -/
def firstLine (n : Nat) : Item → String
  | .field f => if f.popts.isEmpty then leafLine n f else ind n ((fieldLines 0 f).headD "")
  | .rpc _ _ name inT outT os => if os.isEmpty then rpcLine n name inT outT else rpcOpenLine n name inT outT
  | .block kw _ _ _ name os kids =>
    if kids.isEmpty && os.isEmpty then ind n (kw ++ " " ++ name ++ " {}") else ind n (kw ++ " " ++ name ++ " {" ++ "")

def syntaxLine : String := "syntax = \"proto3\";"

def packageLine (t : FileD) : String := "package " ++ t.pkg ++ ";"

def importCmds (t : FileD) : List Cmd :=
  if t.imports.isEmpty then [] else (sortImports t.imports).map (fun d => Cmd.line (importLine d)) ++ [Cmd.gap]

/-- everything after the two lines of the generator comment -/
def restCmds (t : FileD) : List Cmd :=
  [Cmd.line syntaxLine, Cmd.line "", Cmd.line (packageLine t), Cmd.gap] ++
    (importCmds t ++ ([Cmd.gap] ++ elemsCmds 0 t.items true 0 0))

/-- … before the elements -/
def hdCmds (t : FileD) : List Cmd :=
  [Cmd.line syntaxLine, Cmd.line "", Cmd.line (packageLine t), Cmd.gap] ++ (importCmds t ++ [Cmd.gap])

/-! ## the tokens of an element and of a list of elements

`need1`: the fuel below an element — one unit per child, one for `}`, the children's own, one per option statement. -/

mutual
/-- the tokens of an element that starts on line `s` (its own first token without comment; the first token of every
child carries the child's leading comment) -/
def itemToks (n : Nat) : Item → Nat → List PTok
  | .field f, s => if f.popts.isEmpty then lineToks (leafLine n f) s else sh s (fieldToks0 f)
  | .rpc _ _ name inT outT os, s =>
    if os.isEmpty then lineToks (rpcLine n name inT outT) s
    else lineToks (rpcOpenLine n name inT outT) s ++ sh s (rpcToks0 os) ++ lineToks (ind n "}") (s + 1 + rpcSpan os)
  | .block kw _ _ _ name os kids, s =>
    if kids.isEmpty && os.isEmpty then lineToks (ind n (kw ++ " " ++ name ++ " {}")) s
    else lineToks (ind n (kw ++ " " ++ name ++ " {" ++ "")) s ++ sh s (optToks0 os) ++
      kT (n + 1) kids true 0 0 (!os.isEmpty) (s + 1 + optSpan os) ++
      lineToks (ind n "}") (rdKids kids true 0 0 (s + 1 + optSpan os) (!os.isEmpty)).2
/-- the tokens of the elements written from line `L` on with gap flag `g`, as the reader finds them: the comment
lines are not tokens, the first token below a comment carries it -/
def kT (n : Nat) : List Item → Bool → Nat → Nat → Bool → Nat → List PTok
  | [], _, _, _, _, _ => []
  | e :: r, first, le0, lt, g, L =>
    hd e.loc.leading (itemToks n e (kidStart e.loc.leading (gapCond first le0 e.loc.startLine e.typeOrder lt) L g)) ++
      kT n r false e.loc.endLine e.typeOrder e.gapEnder
        (rdItem e (kidStart e.loc.leading (gapCond first le0 e.loc.startLine e.typeOrder lt) L g)).2
end

/-- the raw items of the `//` lines of the comment `c`, the first on line `p` -/
def leadRaws (c : String) (p : Nat) : List Raw := (runFrom (commentBody c) p).map (fun x => Raw.comment x.1 x.2)

def fieldsOf : List Item → List FieldD
  | [] => []
  | .field f :: r => f :: fieldsOf r
  | _ :: r => fieldsOf r

mutual
/-- fuel the parser needs below an element -/
def need1 : Item → Nat
  | .block _ _ _ _ _ os ks => ks.length + 1 + needAll ks + (optChunks os).length
  | .rpc _ _ _ _ _ os => (rpcChunks os).length
  | .field _ => 0
def needAll : List Item → Nat
  | [] => 0
  | e :: r => need1 e + needAll r
end

mutual
/-- the shape the layout lemmas need: fields of the four kinds, methods and blocks whose options carry their
certificate (`RpcOpts`, `BlockOpts`), at most a leading comment -/
def Plain : Item → Prop
  | .field f => SimpleField f ∨ SimpleValue f ∨ MapField f ∨ OptField f
  | .rpc l _ _ _ _ os => l.leadOnly ∧ RpcOpts os
  | .block _ _ l _ _ os ks => l.leadOnly ∧ BlockOpts os ∧ PlainList ks
def PlainList : List Item → Prop
  | [] => True
  | e :: r => Plain e ∧ CommentOk e.loc.leading ∧ PlainList r
end

/-- a field on one line -/
def Leaf (f : FieldD) : Prop := SimpleField f ∨ SimpleValue f ∨ MapField f

/-! ## lists of elements

`SimpleKids`, `SimpleValues`, `SimpleMembers`, `SimpleRpcs`, `SimpleTops`, `PlainList` all say: every element satisfies `P`
and carries a leading comment the reader joins again — each for its `P`. What holds of such a list for any `P` is proved
over `Elems P`. -/

def Elems (P : Item → Prop) (es : List Item) : Prop := ∀ e ∈ es, P e ∧ CommentOk e.loc.leading

def IsValue (e : Item) : Prop := ∃ f, e = .field f ∧ SimpleValue f

def IsMember (e : Item) : Prop := ∃ f, e = .field f ∧ (SimpleField f ∨ OptField f) ∧ f.label = ""

/-- the character does not occur -/
def NoCh (x : Char) (l : List Char) : Prop := ∀ c ∈ l, c ≠ x

/-- a character that is not part of a word or a number, and of none of the fixed pieces of a line -/
structure Safe (x : Char) : Prop where
  notIdent : isIdentChar x = false
  notMinus : x ≠ '-'
  lits : ∀ s ∈ [" ", " = ", ";", "", ".", "repeated ", "optional ", "message", "enum", "oneof", "map<", ", ", ">", " {", " {}", "}", "rpc ", "(", ") returns (", ")", "stream ", "service"],
    (String.toList s).all (· != x) = true
  only : x = '\n' ∨ x = '/'

/-- a line that holds only tokens -/
def TokLine (s : String) : Prop := ∀ (L : Nat), ∀ r ∈ lexL s.toList L, ∃ t ln, r = Raw.tok t ln

/-- the character does not occur in the line — or it is a slash and the line holds only tokens all the same (a
slash inside a string literal) -/
def LineOk (x : Char) (s : String) : Prop := NoCh x s.toList ∨ (x = '/' ∧ TokLine s)

/-- the texts a command list can write -/
def CmdsNoCh (x : Char) (cmds : List Cmd) : Prop :=
  ∀ c ∈ cmds, match c with
    | .line s => LineOk x s
    | .endl s => LineOk x s
    | .gap => True

def lastLineOf : List Raw → Nat → Nat
  | [], ll => ll
  | .tok _ l :: r, _ => lastLineOf r l
  | .comment _ l :: r, _ => lastLineOf r l

/-- token-only command lists -/
def TokCmds (cmds : List Cmd) : Prop :=
  ∀ c ∈ cmds, match c with
    | .line s => TokLine s ∧ NoNL s.toList
    | .endl s => TokLine s ∧ NoNL s.toList
    | .gap => True

def CmdsNoNL (cmds : List Cmd) : Prop :=
  ∀ c ∈ cmds, match c with
    | .line s => NoNL s.toList
    | .endl s => NoNL s.toList
    | .gap => True

def OwnOk (e : Item) : Prop :=
  (∀ n, TokCmds (ownCmds n e)) ∧ (∀ n s, ∃ t tl, lineToks (firstLine n e) s = T t s :: tl)

mutual
def Own : Item → Prop
  | .block kw t l i nm os ks => OwnOk (.block kw t l i nm os ks) ∧ OwnList ks
  | .field f => OwnOk (.field f)
  | .rpc l i a b c os => OwnOk (.rpc l i a b c os)
def OwnList : List Item → Prop
  | [] => True
  | e :: r => Own e ∧ OwnList r
end

/-! ## the type names of a file

The type names of the parsed file are, position by position, the texts the printer wrote (`rdFile_typeTexts`): a name
produced by the `RefName` kernel is read back verbatim, so `C05_refname_resolves` applies to it. -/

mutual
/-- the type-name texts of an element, in order: the type of a field (an enum value has `""`), request and response
type of a method, the texts of the children of a block -/
def typeTexts : Item → List String
  | .field f => [f.type]
  | .rpc _ _ _ inT outT _ => [inT, outT]
  | .block _ _ _ _ _ _ ks => typeTextsL ks
def typeTextsL : List Item → List String
  | [] => []
  | e :: r => typeTexts e ++ typeTextsL r
end

end J5V.Print.Reparse
