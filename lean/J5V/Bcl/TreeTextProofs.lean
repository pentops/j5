import J5V.Bcl.TreeText
import J5V.Bcl.PreserveProofs
/-!
# Printing a well-formed BCL tree and parsing the text gives the tree back (up to positions)

`tree_text_roundtrip`: for every classifier with `ClsOK`, every blank-line rule and every statement list with
`BodyTextOK`, `parseFile cls (renderFile gap body) ff` is a tree whose erased body is the erased `body`.
Route: the text lexes to the canonical tokens `fileToks` of the fragments placed on their lines (plus the
final EOL), the walker reads those back (`fragsRun_fileToks`), erasure transports the result to the real
tokens, `fragmentsToFile` inverts the flattening (`fragmentsToFile_flatBody`).
-/
namespace J5V.Bcl

/-! ## `fragmentsToFile` rebuilds the tree from its flattening

`flatBody gap none none body` is the fragment list of a statement list; `fragmentsToFile` reads it back to
exactly `body` with no diagnostics, provided a block whose header has no `{` has no body (`BodyShapeOK`). -/

mutual
/-- a block whose header has no `{` has no body -/
def StmtShapeOK : Statement → Prop
  | .block h body => (h.isOpen = false → body = []) ∧ BodyShapeOK body
  | .assign _ => True
  | .desc _ => True
def BodyShapeOK : List Statement → Prop
  | [] => True
  | s :: rest => StmtShapeOK s ∧ BodyShapeOK rest
end

/-- add statements one after the other -/
def addAll : List Statement → List Statement → List OpenBlock → List Statement × List OpenBlock
  | [], root, stack => (root, stack)
  | s :: ss, root, stack => addAll ss (addTo s root stack).1 (addTo s root stack).2

theorem addAll_nil_stack (ss root : List Statement) : addAll ss root [] = (root ++ ss, []) := by
  induction ss generalizing root with
  | nil => simp [addAll]
  | cons s ss ih => simp [addAll, addTo, ih]

theorem addAll_cons_stack (ss root : List Statement) (b : OpenBlock) (bs : List OpenBlock) :
    addAll ss root (b :: bs) = (root, ⟨b.hdr, b.stmts ++ ss⟩ :: bs) := by
  induction ss generalizing b with
  | nil => simp [addAll]
  | cons s ss ih => simp [addAll, addTo, ih]


mutual
theorem fragsLoop_flatStmt (gap : GapRule) (g : Bool) :
    (s : Statement) → StmtShapeOK s → ∀ (rest : List Fragment) (root : List Statement)
      (stack : List OpenBlock) (errs : List Diag),
      fragsLoop ((flatStmt gap g s).map (·.2) ++ rest) root stack errs =
        fragsLoop rest (addTo s root stack).1 (addTo s root stack).2 errs
  | .block h body, hs, rest, root, stack, errs => by
    simp only [StmtShapeOK] at hs
    obtain ⟨hnb, hb⟩ := hs
    cases ho : h.isOpen with
    | true =>
      have ih := fragsLoop_flatBody gap (some h) none body hb
        (Fragment.close closeFrag :: rest) root (⟨h, []⟩ :: stack) errs
      simp only [flatStmt, ho, if_true, List.map_cons, List.map_append, List.map_nil,
        List.cons_append, List.append_assoc, List.nil_append]
      rw [fragsLoop_cons]
      simp only [fragStep, ho, if_true]
      rw [ih, addAll_cons_stack, fragsLoop_cons]
      simp only [fragStep, List.nil_append]
    | false =>
      have hbody : body = [] := hnb ho
      subst hbody
      simp only [flatStmt, flatBody, ho, List.map_cons, List.map_nil, List.cons_append,
        List.nil_append, Bool.false_eq_true, if_false, List.append_nil]
      rw [fragsLoop_cons]
      simp only [fragStep, ho, Bool.false_eq_true, if_false]
  | .assign a, _, rest, root, stack, errs => by
    simp only [flatStmt, List.map_cons, List.map_nil, List.cons_append, List.nil_append]
    rw [fragsLoop_cons]
    simp only [fragStep]
  | .desc d, _, rest, root, stack, errs => by
    simp only [flatStmt, List.map_cons, List.map_nil, List.cons_append, List.nil_append]
    rw [fragsLoop_cons]
    simp only [fragStep]
theorem fragsLoop_flatBody (gap : GapRule) (parent : Option BlockHeader) (prev : Option Statement) :
    (body : List Statement) → BodyShapeOK body → ∀ (rest : List Fragment) (root : List Statement)
      (stack : List OpenBlock) (errs : List Diag),
      fragsLoop ((flatBody gap parent prev body).map (·.2) ++ rest) root stack errs =
        fragsLoop rest (addAll body root stack).1 (addAll body root stack).2 errs
  | [], _, rest, root, stack, errs => by
    simp [flatBody, addAll]
  | s :: ss, hb, rest, root, stack, errs => by
    simp only [BodyShapeOK] at hb
    obtain ⟨hs, hss⟩ := hb
    simp only [flatBody, List.map_append, List.append_assoc, addAll]
    rw [fragsLoop_flatStmt gap (gap parent prev s) s hs,
      fragsLoop_flatBody gap parent (some s) ss hss]
end

theorem fragsLoop_flatBody_root (gap : GapRule) (body : List Statement) (h : BodyShapeOK body) :
    fragsLoop ((flatBody gap none none body).map (·.2)) [] [] [] = (body, [], []) := by
  have := fragsLoop_flatBody gap none none body h [] [] [] []
  simp only [List.append_nil, addAll_nil_stack, List.nil_append] at this
  rw [this]
  simp [fragsLoop]

theorem fragmentsToFile_flatBody (gap : GapRule) (body : List Statement) (h : BodyShapeOK body) :
    fragmentsToFile ((flatBody gap none none body).map (·.2)) = ⟨body, []⟩ := by
  simp [fragmentsToFile, fragsLoop_flatBody_root gap body h, closeAll]

mutual
theorem StmtTextOK.shapeOK {cls : Cls} : {s : Statement} → StmtTextOK cls s → StmtShapeOK s
  | .block _ body, h => by
    simp only [StmtTextOK] at h
    simp only [StmtShapeOK]
    exact ⟨h.2.1, BodyTextOK.shapeOK (body := body) h.2.2⟩
  | .assign _, _ => by simp [StmtShapeOK]
  | .desc _, _ => by simp [StmtShapeOK]
theorem BodyTextOK.shapeOK {cls : Cls} : {body : List Statement} → BodyTextOK cls body → BodyShapeOK body
  | [], _ => by simp [BodyShapeOK]
  | s :: rest, h => by
    simp only [BodyTextOK] at h
    simp only [BodyShapeOK]
    exact ⟨StmtTextOK.shapeOK (s := s) h.1, BodyTextOK.shapeOK (body := rest) h.2⟩
end

/-! ## the flattened fragments are well formed -/

theorem fragWF_atLine (cls : Cls) (L : Nat) (f : Fragment) : FragWF cls (f.atLine L) ↔ FragWF cls f := by
  cases f <;> rfl

theorem closeFrag_wf (cls : Cls) : FragWF cls (.close closeFrag) :=
  ⟨rfl, ⟨125, rfl, rfl⟩⟩

/-- well formed and not a stand-alone description -/
def GoodFrag (cls : Cls) (f : Fragment) : Prop := FragWF cls f ∧ ∀ d, f ≠ .desc d

mutual
theorem flatStmt_good (cls : Cls) (gap : GapRule) : (s : Statement) → (g : Bool) → StmtTextOK cls s →
    ∀ x ∈ flatStmt gap g s, GoodFrag cls x.2
  | .block h body, g, hok => by
    unfold StmtTextOK at hok
    unfold flatStmt
    intro x hx
    simp only [List.mem_cons, List.mem_append] at hx
    rcases hx with rfl | hx | hx
    · exact ⟨hok.1, fun d hd => by cases hd⟩
    · exact flatBody_good cls gap body (some h) none hok.2.2 x hx
    · split at hx
      · simp at hx; subst hx
        exact ⟨closeFrag_wf cls, fun d hd => by cases hd⟩
      · cases hx
  | .assign a, g, hok => by
    unfold StmtTextOK at hok
    unfold flatStmt
    intro x hx
    simp at hx; subst hx
    exact ⟨hok, fun d hd => by cases hd⟩
  | .desc d, g, hok => by
    unfold StmtTextOK at hok
    exact hok.elim
theorem flatBody_good (cls : Cls) (gap : GapRule) : (body : List Statement) → (parent : Option BlockHeader) →
    (prev : Option Statement) → BodyTextOK cls body → ∀ x ∈ flatBody gap parent prev body, GoodFrag cls x.2
  | [], _, _, _ => by
    unfold flatBody
    intro x hx; cases hx
  | s :: rest, parent, prev, hok => by
    unfold BodyTextOK at hok
    unfold flatBody
    intro x hx
    rcases List.mem_append.mp hx with hx | hx
    · exact flatStmt_good cls gap s _ hok.1 x hx
    · exact flatBody_good cls gap rest parent (some s) hok.2 x hx
end

theorem place_good (cls : Cls) : ∀ (gfs : List (Bool × Fragment)) (L : Nat),
    (∀ x ∈ gfs, GoodFrag cls x.2) → ∀ f ∈ place L gfs, GoodFrag cls f := by
  intro gfs
  induction gfs with
  | nil => intro L _ f hf; cases hf
  | cons x rest ih =>
    intro L h f hf
    obtain ⟨g, f0⟩ := x
    simp only [place, List.mem_cons] at hf
    rcases hf with rfl | hf
    · have := h (g, f0) (by simp)
      refine ⟨(fragWF_atLine cls _ f0).mpr this.1, ?_⟩
      intro d hd
      cases f0 <;> simp [Fragment.atLine] at hd
      exact this.2 _ rfl
    · exact ih _ (fun y hy => h y (by simp [hy])) f hf

theorem descGaps_of_noDesc : ∀ (fs : List Fragment), (∀ f ∈ fs, ∀ d, f ≠ .desc d) → DescGaps fs
  | [], _ => trivial
  | [_], _ => trivial
  | f :: g :: rest, h => by
    refine ⟨fun d e hd _ => absurd hd (h f (by simp) d), ?_⟩
    exact descGaps_of_noDesc (g :: rest) (fun x hx => h x (by simp [hx]))

theorem normFrag_noDesc (cls : Cls) (indent : Nat) (f : Fragment) (h : ∀ d, f ≠ .desc d) :
    normFrag cls indent f = f.erase := by
  cases f with
  | desc d => exact absurd rfl (h d)
  | _ => rfl

theorem normFrags_noDesc (cls : Cls) : ∀ (fs : List Fragment) (indent : Nat),
    (∀ f ∈ fs, ∀ d, f ≠ .desc d) → normFrags cls indent fs = fs.map Fragment.erase := by
  intro fs
  induction fs with
  | nil => intro _ _; rfl
  | cons f rest ih =>
    intro indent h
    simp only [normFrags, List.map_cons]
    rw [normFrag_noDesc cls indent f (h f (by simp)), ih _ (fun x hx => h x (by simp [hx]))]

theorem erase_atLine (L : Nat) (f : Fragment) : (f.atLine L).erase = f.erase := by
  cases f <;> rfl

theorem place_map_erase : ∀ (gfs : List (Bool × Fragment)) (L : Nat),
    (place L gfs).map Fragment.erase = gfs.map (fun x => x.2.erase) := by
  intro gfs
  induction gfs with
  | nil => intro _; rfl
  | cons x rest ih =>
    intro L
    obtain ⟨g, f⟩ := x
    simp only [place, List.map_cons, erase_atLine, ih]

/-! ## lexing the rendered fragments -/

theorem fragText_eq (cls : Cls) (f : Fragment) (h : ∀ d, f ≠ .desc d) :
    fragText f = (fmtFragment cls 0 f).1.newText := by
  cases f with
  | desc d => exact absurd rfl (h d)
  | _ => rfl

theorem fragToks_indep (cls : Cls) (i L : Nat) (f : Fragment) (h : ∀ d, f ≠ .desc d) :
    fragToks cls i (f.atLine L) = fragToks cls 0 f := by
  cases f with
  | desc d => exact absurd rfl (h d)
  | _ => rfl

theorem fmtFragment_atLine (cls : Cls) (i L : Nat) (f : Fragment) :
    (fmtFragment cls i (f.atLine L)).1.fromLine = L ∧ (fmtFragment cls i (f.atLine L)).1.toLine = L + 1 := by
  cases f <;> exact ⟨rfl, rfl⟩

theorem gapBefore_place (L : Nat) (g : Bool) :
    gapBefore (some L) (if g then L + 1 else L) = g := by
  cases g <;> simp [gapBefore]

theorem LexBack.skipSpaces {cls : Cls} (hcls : ClsOK cls) (n : Nat) {c : Cur} {text tail : List Rune}
    {X : List Token} (h : ∀ c1, LexBack cls c1 text tail X) : LexBack cls c (spaces n ++ text) tail X :=
  LexBack.skipRun hcls.spSpace (Or.inl rfl) n h

theorem lexSeg_renderFrags (cls : Cls) (hcls : ClsOK cls) : ∀ (gfs : List (Bool × Fragment)) (ind i L : Nat)
    (c : Cur) (tail : List Rune), (∀ x ∈ gfs, GoodFrag cls x.2) →
    LexBack cls c (renderFrags ind gfs) tail (fileToks cls i (some L) (place L gfs)) := by
  intro gfs
  induction gfs with
  | nil => intro ind i L c tail _; exact .nil
  | cons x rest ih =>
    intro ind i L c tail hgood
    obtain ⟨g, f⟩ := x
    have hf := hgood (g, f) (by simp)
    simp only [renderFrags, place]
    rw [fileToks_cons]
    obtain ⟨hfrom, hto⟩ := fmtFragment_atLine cls i (if g then L + 1 else L) f
    -- the indentation is white space of any length, and the tokens of a fragment that is no description do not
    -- depend on the indent
    rw [hfrom, hto, gapBefore_place, fragToks_indep cls i _ f hf.2, fragText_eq cls f hf.2, List.append_assoc,
      List.append_assoc]
    exact (LexBack.gap g c _).append fun c1 => LexBack.skipSpaces hcls _ fun c2 =>
      (lexSeg_fragment cls hcls 0 f hf.1 c2 _).append fun c3 =>
        ih _ _ _ c3 tail fun y hy => hgood y (by simp [hy])

/-- **Printing a well-formed statement list and parsing the text gives the list back, up to positions.** -/
theorem tree_text_roundtrip (cls : Cls) (hcls : ClsOK cls) (gap : GapRule) (body : List Statement)
    (hok : BodyTextOK cls body) (ff : Bool) :
    ∃ t, parseFile cls (renderFile gap body) ff = .tree t ∧
      Statement.eraseList t.body = Statement.eraseList body := by
  have hgood := flatBody_good cls gap body none none hok
  generalize hgfs : flatBody gap none none body = gfs at hgood
  have hP := place_good cls gfs 0 hgood
  obtain ⟨toks, hlex, hmap⟩ := ((lexSeg_renderFrags cls hcls gfs 0 0 0 Cur.init [cNL] hgood).append
    fun c1 => LexBack.eol c1 []).lexAll
  have hall : allTokens cls true (renderFile gap body) = .toks toks :=
    (allTokens_toks_iff cls true _ _).mpr (by unfold renderFile; rw [hgfs]; exact hlex)
  have hnoDesc : ∀ f ∈ place 0 gfs, ∀ d, f ≠ .desc d := fun f hf => (hP f hf).2
  -- `renderFile` ends with one more EOL than `Fmt`'s output: the `k = 1` of `fragsRun_fileToks`
  have hwalkE : walkFragments true (toks.map Token.erase) = .done (gfs.map fun x => x.2.erase) [] := by
    rw [hmap]
    show walkFragments true (_ ++ List.replicate 1 eolTok) = _
    rw [(fragsRun_fileToks cls 1 (place 0 gfs) 0 (some 0) none (fun f hf => (hP f hf).1)
      (descGaps_of_noDesc _ hnoDesc)).done, normFrags_noDesc cls _ 0 hnoDesc, place_map_erase]
  obtain ⟨fr, hw, hfr⟩ := walkFragments_done_of_erase hwalkE
  have hflat := fragmentsToFile_flatBody gap body hok.shapeOK
  rw [hgfs] at hflat
  have hfile : (fragmentsToFile fr).erase = (⟨body, []⟩ : File).erase := by
    rw [← fragmentsToFile_erase, hfr, ← hflat, ← fragmentsToFile_erase]
    simp [List.map_map, Function.comp_def]
  have herr : (fragmentsToFile fr).errors = [] := by
    have := congrArg File.errors hfile
    simp only [File.erase] at this
    exact List.map_eq_nil_iff.mp this
  have hbody : Statement.eraseList (fragmentsToFile fr).body = Statement.eraseList body := by
    have := congrArg File.body hfile
    simpa [File.erase] using this
  have hp := parseFile_tree_of hall hw herr
  obtain ⟨t, ht, htb⟩ := parseFile_tree_false cls _ ff _ hp
  exact ⟨t, ht, by rw [htb]; exact hbody⟩

end J5V.Bcl
