import J5V.Bcl.ParseFileProofs
/-!
# Collect-all mode reports the fail-fast diagnostic first (lemmas for `C11_first_error`)

Both modes do the same up to the first failure; there fail-fast returns that diagnostic alone and
collect-all keeps it first in its list.
-/
namespace J5V.Bcl

theorem allTokens_agree (cls : Cls) (src : List Rune) :
    LexAgree (allTokens cls true src) (allTokens cls false src) := by
  obtain ⟨ss, _, e⟩ := allTokens_eq cls src
  rw [e true, e false]
  unfold lexOut
  cases ss.filterMap (·.err) with
  | nil => exact rfl
  | cons e es => exact ⟨e, es, rfl, rfl⟩

/-- the induction is on the fuel of both runs at once, which `walkFragmentsLoop_induct` (one run, one motive)
does not offer.  `w.rest = [] ∨ WInv Q w`: an empty token list has no state invariant (`WInv.nonempty`), and
the loop stops at once (`WInv.init_or`). -/
theorem walkFragmentsLoop_agree (Q : Pos → Prop) (hQ0 : Q ⟨0, 0⟩) (pfuel : Nat) (fuel : Nat) :
    ∀ (w : W) (frags : List Fragment), (w.rest = [] ∨ WInv Q w) →
      w.rest.length < fuel → 2 * w.rest.length < pfuel →
      WalkAgree (walkFragmentsLoop true pfuel fuel w frags [])
        (walkFragmentsLoop false pfuel fuel w frags []) := by
  induction fuel with
  | zero => intro w frags _ h; omega
  | succ fuel ih =>
    intro w frags hw hf1 hf3
    unfold walkFragmentsLoop
    by_cases heof : w.nextType = .eof
    · simp only [heof, if_true]
      exact ⟨rfl, rfl, rfl⟩
    · simp only [heof, if_false]
      have hrest : w.rest ≠ [] := fun e => heof (nextType_of_rest_nil e)
      have hinv : WInv Q w := by
        rcases hw with h | h
        · exact absurd h hrest
        · exact h
      have hnf := nextFragment_spec Q hQ0 pfuel w heof hf3 hinv
      cases hres : nextFragment pfuel w with
      | panic s => rw [hres] at hnf; exact hnf.elim
      | ok r w1 =>
        rw [hres] at hnf
        obtain ⟨s1, hfr, hlt⟩ := hnf
        cases r with
        | none =>
          simp only []
          exact ih w1 frags (Or.inr s1.inv) (by omega) (by omega)
        | some f =>
          simp only []
          exact ih w1 (frags ++ [f]) (Or.inr s1.inv) (by omega) (by omega)
      | fail e w1 =>
        rw [hres] at hnf
        obtain ⟨s1, hetok⟩ := hnf
        simp only [if_true, Bool.false_eq_true, if_false, List.nil_append]
        obtain ⟨w2, hskr, s2, hlen2⟩ := skipToEOL_after_fail Q s1 hrest
        rw [hskr]
        simp only []
        have := walkFragmentsLoop_spec Q hQ0 false pfuel fuel w2 frags [e.diag] (Or.inr s2.inv)
          (by omega) (by omega)
        generalize walkFragmentsLoop false pfuel fuel w2 frags [e.diag] = res at this ⊢
        cases res with
        | done f' e' =>
          obtain ⟨_, ⟨newe, h3, _, _⟩⟩ := this
          exact ⟨e.diag, newe, rfl, by simpa using h3⟩
        | hadErrors e' => exact absurd this.1 (by simp)
        | panic s => exact this.elim

theorem walk_agree (Q : Pos → Prop) (hQ0 : Q ⟨0, 0⟩) (tokens : List Token) (h : TokensOK Q tokens) :
    ParseAgree (walk true tokens) (walk false tokens) := by
  unfold walk walkFragments
  have := walkFragmentsLoop_agree Q hQ0 (2 * tokens.length + 2) (tokens.length + 1)
    ⟨none, tokens⟩ [] (WInv.init_or Q hQ0 h) (by simp) (by simp)
  generalize walkFragmentsLoop true (2 * tokens.length + 2) (tokens.length + 1) ⟨none, tokens⟩ [] [] = r1
    at this ⊢
  generalize walkFragmentsLoop false (2 * tokens.length + 2) (tokens.length + 1) ⟨none, tokens⟩ [] [] = r0
    at this ⊢
  cases r1 with
  | done f1 e1 =>
    cases r0 with
    | done f0 e0 =>
      obtain ⟨rfl, rfl, rfl⟩ := this
      simp only []
      rw [if_neg (by simp)]
      by_cases hne : (fragmentsToFile f1).errors ≠ []
      · rw [if_pos hne]; exact ⟨hne, rfl⟩
      · rw [if_neg hne]; exact ⟨rfl, rfl⟩
    | hadErrors e0 => exact this.elim
    | panic s => exact this.elim
  | hadErrors e1 =>
    cases r0 with
    | done f0 e0 =>
      obtain ⟨d, more, rfl, rfl⟩ := this
      simp only []
      rw [if_pos (by simp)]
      exact ⟨by simp, rfl⟩
    | hadErrors e0 => exact this.elim
    | panic s => exact this.elim
  | panic s => exact this.elim

theorem parseFile_agree (cls : Cls) (src : List Rune) :
    ParseAgree (parseFile cls src true) (parseFile cls src false) := by
  unfold parseFile
  have ha := allTokens_agree cls src
  cases hr1 : allTokens cls true src with
  | nofuel => exact absurd hr1 (allTokens_ne_nofuel cls true src)
  | errs es1 =>
    rw [hr1] at ha
    cases hr0 : allTokens cls false src with
    | errs es0 =>
      rw [hr0] at ha
      obtain ⟨e, more, rfl, rfl⟩ := ha
      exact ⟨by simp, rfl⟩
    | toks t0 => rw [hr0] at ha; exact ha.elim
    | nofuel => rw [hr0] at ha; exact ha.elim
  | toks t1 =>
    rw [hr1] at ha
    cases hr0 : allTokens cls false src with
    | errs es0 => rw [hr0] at ha; exact ha.elim
    | toks t0 =>
      rw [hr0] at ha
      have : t1 = t0 := ha
      subst this
      exact walk_agree (InFile src) (inFile_zero src) t1 (tokensOK_of_chain (InFile src) (fun _ h => h) (allTokens_chain hr1))
    | nofuel => rw [hr0] at ha; exact ha.elim

theorem parseFile_tree_true (cls : Cls) (src : List Rune) (ff : Bool) (f : File)
    (h : parseFile cls src ff = .tree f) :
    ∃ f1, parseFile cls src true = .tree f1 ∧ f1.body = f.body := by
  cases ff with
  | true => exact ⟨f, h, rfl⟩
  | false =>
    have := parseFile_agree cls src
    rw [h] at this
    cases h1 : parseFile cls src true with
    | tree f1 => rw [h1] at this; exact ⟨f1, rfl, this.1⟩
    | errors es => rw [h1] at this; exact this.elim
    | panic s => rw [h1] at this; exact this.elim

theorem parseFile_tree_false (cls : Cls) (src : List Rune) (ff : Bool) (f1 : File)
    (h : parseFile cls src true = .tree f1) :
    ∃ f, parseFile cls src ff = .tree f ∧ f.body = f1.body := by
  cases ff with
  | true => exact ⟨f1, h, rfl⟩
  | false =>
    have := parseFile_agree cls src
    rw [h] at this
    cases h0 : parseFile cls src false with
    | tree f0 => rw [h0] at this; exact ⟨f0, rfl, this.1.symm⟩
    | errors es => rw [h0] at this; exact this.elim
    | panic s => rw [h0] at this; exact this.elim

end J5V.Bcl
