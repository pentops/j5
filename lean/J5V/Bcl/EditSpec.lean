import J5V.Bcl.FmtDiffs
/-!
# What is said of the formatter's line edits

Definitions only, for the statements of C19: line ranges of fragments as walked (`RawWF`), after the merge
pass (`FragsWF`) and of the edits (`EditsWF`); `TrailingBlank`, the condition under which applying the edits
gives the formatter's text.
-/
namespace J5V.Bcl
open J5V.Go

/-- raw fragment line ranges as the walker produces them: `from < to ≤ n`, and each fragment starts
no earlier than the last line of the previous one (`lo` = previous `toLine`) -/
def RawWF (n : Nat) : Nat → List Edit → Prop
  | _, [] => True
  | lo, d :: ds => lo ≤ d.fromLine + 1 ∧ d.fromLine < d.toLine ∧ d.toLine ≤ n ∧ RawWF n d.toLine ds

instance (n : Nat) : (lo : Nat) → (ds : List Edit) → Decidable (RawWF n lo ds)
  | _, [] => isTrue trivial
  | lo, d :: ds =>
    have := instDecidableRawWF n d.toLine ds
    by unfold RawWF; exact inferInstance

/-- merged fragment line ranges: ascending from `lo`, non-overlapping, `from < to ≤ n` -/
def FragsWF (n : Nat) : Nat → List Edit → Prop
  | _, [] => True
  | lo, d :: ds => lo ≤ d.fromLine ∧ d.fromLine < d.toLine ∧ d.toLine ≤ n ∧ FragsWF n d.toLine ds

instance (n : Nat) : (lo : Nat) → (ds : List Edit) → Decidable (FragsWF n lo ds)
  | _, [] => isTrue trivial
  | lo, d :: ds =>
    have := instDecidableFragsWF n d.toLine ds
    by unfold FragsWF; exact inferInstance

/-- edits: ascending from `lo`, non-overlapping, `from ≤ to ≤ n` -/
def EditsWF (n : Nat) : Nat → List Edit → Prop
  | _, [] => True
  | lo, e :: es => lo ≤ e.fromLine ∧ e.fromLine ≤ e.toLine ∧ e.toLine ≤ n ∧ EditsWF n e.toLine es

instance (n : Nat) : (lo : Nat) → (es : List Edit) → Decidable (EditsWF n lo es)
  | _, [] => isTrue trivial
  | lo, e :: es =>
    have := instDecidableEditsWF n e.toLine es
    by unfold EditsWF; exact inferInstance

/-- end line of the last fragment -/
def lastTo : List Edit → Nat → Nat
  | [], lo => lo
  | d :: ds, _ => lastTo ds d.toLine

/-- a source line is blank: empty or whitespace-only (as runes) -/
def blankLine (cls : Cls) (l : List Nat) : Bool := (decodeRunes l).all cls.isSpace

/-- the lines after the last fragment are blank (what is left of the file is white space) -/
def TrailingBlank (cls : Cls) (bytes : List Nat) : Prop :=
  ∀ frags, collectFragments cls (decodeRunes bytes) = .ok frags →
    ∀ l ∈ (splitLines bytes).drop (lastTo (fragEdits cls frags) 0), blankLine cls l = true

end J5V.Bcl
