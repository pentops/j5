import J5V.Bcl.FmtInv
import J5V.Bcl.LexLineProofs
import J5V.Bcl.WalkRun
import J5V.Bcl.ParseFileProofs
/-!
# The fragments the walker produces from lexed tokens are well shaped (`FragWF`), and two
stand-alone descriptions never follow each other without a blank line (`DescGaps`)

The state invariant `WI P R` (every remaining token satisfies `P`, consecutive tokens are related by `R`) is
kept however many tokens are read (`WI.drop`); the shape of what is read follows by induction over the grammar
of `WalkRun`.  For `DescGaps` the invariant carries the line facts of lexed tokens (`LineP`, `LineR`), and
`Phase` says where the walker stands after a description: a second one can only start two lines further down.
-/
namespace J5V.Bcl

/-! ## the state invariant -/

/-- every remaining token satisfies `P`; consecutive tokens (from the one read last) satisfy `R` -/
def WI (P : Token → Prop) (R : Token → Token → Prop) (w : W) : Prop :=
  (∀ t ∈ w.rest, P t) ∧ AdjChain R w.prev w.rest

/-- the walker stands at the end of a line -/
def LineEndW (w : W) : Prop := w.rest = [] ∨ w.nextType = .eol

theorem WI.tail {P : Token → Prop} {R : Token → Token → Prop} {p : Option Token} {t : Token}
    {rs : List Token} (h : WI P R ⟨p, t :: rs⟩) : WI P R ⟨some t, rs⟩ :=
  ⟨fun x hx => h.1 x (List.mem_cons_of_mem _ hx), h.2.2⟩

theorem WI.head {P : Token → Prop} {R : Token → Token → Prop} {p : Option Token} {t : Token}
    {rs : List Token} (h : WI P R ⟨p, t :: rs⟩) : P t := h.1 t (List.mem_cons_self ..)

theorem WI.rel {P : Token → Prop} {R : Token → Token → Prop} {p : Option Token} {l t : Token}
    {rs : List Token} (h : WI P R ⟨p, t :: rs⟩) (hl : p = some l) : R l t := h.2.1 l hl

theorem nextType_cons (p : Option Token) (t : Token) (rs : List Token) :
    (⟨p, t :: rs⟩ : W).nextType = t.ty := rfl

section Walker
variable {cls : Cls} {P : Token → Prop} {R : Token → Token → Prop}

theorem WI.drop {n : Nat} {w w' : W} (hw : WI P R w) (h : Drop n w w') : WI P R w' :=
  h.ind (fun _ _ _ => WI.tail) hw

theorem WI.pop {w w' : W} {t : Token} (hw : WI P R w) (h : Pop w t w') : P t ∧ WI P R w' := by
  cases h; exact ⟨hw.head, hw.tail⟩

theorem lineEndW_of_lineTok {t : Token} {rs : List Token}
    (hw : WI (TokLitWF cls) EolRel ⟨some t, rs⟩) (hl : IsLineTok t) : LineEndW ⟨some t, rs⟩ := by
  cases rs with
  | nil => exact Or.inl rfl
  | cons u us => exact Or.inr (hw.rel rfl hl)

theorem identWF_of_asIdent {t it : Token} (hl : TokLitWF cls t) (h : t.asIdent = some it) :
    IdentWF cls it.ident := by
  unfold TokLitWF at hl
  obtain ⟨rfl, hty | hty⟩ := asIdent_eq_some h <;> rw [hty] at hl <;> exact ⟨rfl, hl.1, rfl⟩

theorem Idents.wf {w w' : W} {is : List Ident} (h : Idents w is w')
    (hw : WI (TokLitWF cls) EolRel w) : is ≠ [] ∧ ∀ i ∈ is, IdentWF cls i := by
  induction h with
  | last hp hai _ =>
    exact ⟨by simp, by simpa using identWF_of_asIdent (hw.pop hp).1 hai⟩
  | dot hp hai hp2 _ _ ih =>
    obtain ⟨ht, hw1⟩ := hw.pop hp
    exact ⟨by simp, List.forall_mem_cons.mpr ⟨identWF_of_asIdent ht hai, (ih (hw1.pop hp2).2).2⟩⟩

theorem RefRun.wf {w w' : W} {r : Reference} (h : RefRun w r w') (hw : WI (TokLitWF cls) EolRel w) :
    RefWF cls r :=
  h.idents.wf hw

/-- shape of the result of `popValue`, with what is known of the state after a line token -/
def VShape (cls : Cls) (v : Value) (w' : W) : Prop :=
  match v with
  | .scalar t _ => ScalarWF cls t ∧ (IsLineTok t → LineEndW w')
  | .array vs _ => ValueListWF cls vs

theorem lineEndW_nextType {w : W} (h : LineEndW w) : w.nextType = .eof ∨ w.nextType = .eol :=
  h.imp nextType_of_rest_nil id

/-- an array element is followed by `,` or `]`, so it is not a line token -/
theorem valueWF_of_shape {v : Value} {w1 : W} (h : VShape cls v w1)
    (hn : w1.nextType = .comma ∨ w1.nextType = .rbrack) : ValueWF cls v := by
  cases v with
  | scalar t sp =>
    unfold VShape at h
    simp only [] at h
    have hnl : ¬ IsLineTok t := by
      intro hl
      rcases lineEndW_nextType (h.2 hl) with e | e <;> rcases hn with e' | e' <;>
        rw [e] at e' <;> cases e'
    unfold ValueWF
    exact ⟨h.1, fun e => hnl (Or.inl e), fun e => hnl (Or.inr e)⟩
  | array vs sp =>
    unfold ValueWF
    exact h

theorem ValRun.shape_aux :
    (∀ {w w' : W} {v : Value}, ValRun w v w' → WI (TokLitWF cls) EolRel w → VShape cls v w') ∧
    (∀ {w w' : W} {vs : List Value}, ElemsRun w vs w' → WI (TokLitWF cls) EolRel w → ValueListWF cls vs) := by
  refine ValRun.induct (mV := fun w v w' => WI (TokLitWF cls) EolRel w → VShape cls v w')
    (mE := fun w vs _ => WI (TokLitWF cls) EolRel w → ValueListWF cls vs) ?ref ?lit ?empty ?array ?last ?comma
  case ref =>
    intro w w' r _ _ _
    exact ⟨⟨nofun, rfl, trivial⟩, fun hl => by rcases hl with hl | hl <;> cases hl⟩
  case lit =>
    intro w w' t hp h1 h2 hw
    obtain ⟨ht, hw'⟩ := hw.pop hp
    cases hp
    exact ⟨⟨h1, h2, ht⟩, lineEndW_of_lineTok hw'⟩
  case empty =>
    intro w w1 w' o c _ _ _ _ _
    show ValueListWF cls []
    unfold ValueListWF; trivial
  case array =>
    intro w w1 w2 w' o c vs hp _ _ _ ih _ _ hw
    exact ih (hw.pop hp).2
  case last =>
    intro w w' v _ ih h2 hw
    unfold ValueListWF ValueListWF
    exact ⟨valueWF_of_shape (ih hw) (Or.inr h2), trivial⟩
  case comma =>
    intro w w1 w2 w' v c vs hv ihv hp h1 _ ihe hw
    unfold ValueListWF
    exact ⟨valueWF_of_shape (ihv hw) (Or.inl (hp.nextType.trans h1)),
      ihe ((hw.drop hv.drop).pop hp).2⟩

theorem ValRun.shape {w w' : W} {v : Value} (h : ValRun w v w') (hw : WI (TokLitWF cls) EolRel w) :
    VShape cls v w' := ValRun.shape_aux.1 h hw

theorem MarkRun.wf {w w' : W} {m : TagMark} {mt : Token} (h : MarkRun w m mt w')
    (hw : WI (TokLitWF cls) EolRel w) (r : Option Reference) (v : Option Value) (sp : Span) :
    MarkWF cls ⟨m, mt, r, v, sp⟩ := by
  cases h with
  | none => exact rfl
  | bang hp hty => exact ⟨hty, (hw.pop hp).1⟩
  | question hp hty => exact ⟨hty, (hw.pop hp).1⟩

theorem TagRun.wf {w w' : W} {t : TagValue} (h : TagRun w t w') (hw : WI (TokLitWF cls) EolRel w) :
    TagWF cls t := by
  cases h with
  | ref hm _ hr => exact ⟨hm.wf hw _ _ _, Or.inl ⟨_, rfl, rfl, hr.wf (hw.drop hm.drop)⟩⟩
  | str hm _ hty => exact ⟨hm.wf hw _ _ _, Or.inr ⟨_, _, rfl, rfl, hty⟩⟩

theorem TagsRun.wf {w w' : W} {ts : List TagValue} (h : TagsRun w ts w')
    (hw : WI (TokLitWF cls) EolRel w) : ∀ t ∈ ts, TagWF cls t := by
  induction h with
  | nil _ => exact List.forall_mem_nil _
  | cons _ ht _ ih => exact List.forall_mem_cons.mpr ⟨ht.wf hw, ih (hw.drop ht.drop)⟩

theorem QualsRun.wf {w w' : W} {ts : List TagValue} (h : QualsRun w ts w')
    (hw : WI (TokLitWF cls) EolRel w) : ∀ t ∈ ts, TagWF cls t := by
  induction h with
  | nil _ => exact List.forall_mem_nil _
  | cons hp _ ht _ ih =>
    have hw1 := (hw.pop hp).2
    exact List.forall_mem_cons.mpr ⟨ht.wf hw1, ih (hw1.drop ht.drop)⟩

theorem EndRun.wf {w w' : W} {c : Option CommentNode} (h : EndRun w c w')
    (hw : WI (TokLitWF cls) EolRel w) : CommentNodeWF c ∧ (LineEndW w → c = none) := by
  cases h with
  | plain _ _ => exact ⟨nofun, fun _ => rfl⟩
  | comment hp hc _ _ =>
    refine ⟨fun cn hcn => ?_, fun hle => ?_⟩
    · cases hcn
      have := (hw.pop hp).1
      unfold TokLitWF at this
      rw [hc] at this
      exact this
    · rcases lineEndW_nextType hle with e | e <;> rw [hp.nextType, hc] at e <;> cases e

theorem HdrEnd.wf {w w' : W} {d : Option Description} {o : Bool} {e : Pos}
    {c : Option CommentNode} (h : HdrEnd w d o e c w') (hw : WI (TokLitWF cls) EolRel w) :
    CommentNodeWF c ∧ ∀ x, d = some x → o = false ∧ c = none ∧
      ∃ tok, x.tokens = [tok] ∧ tok.ty = .description ∧ TokLitWF cls tok ∧ x.value = tok.lit := by
  cases h with
  | opened hp _ hc => exact ⟨(hc.wf (hw.pop hp).2).1, nofun⟩
  | desc hp hty =>
    refine ⟨nofun, fun x hx => ?_⟩
    cases hx
    exact ⟨rfl, rfl, _, rfl, hty, (hw.pop hp).1, rfl⟩
  | comment _ hc => exact ⟨(hc.wf hw).1, nofun⟩
  | eol _ => exact ⟨nofun, nofun⟩

theorem StmtRun.wf {w w' : W} {f : Fragment} (h : StmtRun w f w') (hw : WI (TokLitWF cls) EolRel w) :
    FragWF cls f ∧ ∀ d, f ≠ .desc d := by
  cases h with
  | @assign _ _ _ _ _ _ v _ hr hop hv hc =>
    have hw2 := (hw.drop hr.drop).drop hop.drop
    have hs := hv.shape hw2
    obtain ⟨hcn, hnone⟩ := hc.wf (hw2.drop hv.drop)
    refine ⟨⟨hr.wf hw, ?_, hcn⟩, nofun⟩
    cases v with
    | scalar t sp => exact ⟨hs.1, fun hl => hnone (hs.2 hl)⟩
    | array vs sp => exact hs
  | header hr _ _ hts hqs he =>
    have hw1 := hw.drop hr.drop
    have hw2 := hw1.drop hts.drop
    obtain ⟨hcn, hd⟩ := he.wf (hw2.drop hqs.drop)
    exact ⟨⟨hr.wf hw, hts.wf hw1, hqs.wf hw2, hcn, hd⟩, nofun⟩

theorem FragRun.wf {w w' : W} {r : Option Fragment} (h : FragRun w r w')
    (hw : WI (TokLitWF cls) EolRel w) : ∀ f, r = some f → FragWF cls f := by
  cases h with
  | blank _ _ => intro f hf; cases hf
  | close hp hty => intro f hf; cases hf; exact ⟨hty, (hw.pop hp).1⟩
  | comment hp hty => intro f hf; cases hf; exact ⟨hty, (hw.pop hp).1, rfl⟩
  | desc _ _ _ => intro f hf; cases hf; trivial
  | stmt _ hs => intro f hf; cases hf; exact (hs.wf hw).1

theorem FragsRun.fragWF {w : W} {fs : List Fragment} (h : FragsRun w fs)
    (hw : WI (TokLitWF cls) EolRel w) : ∀ f ∈ fs, FragWF cls f := by
  induction h with
  | eof _ => exact List.forall_mem_nil _
  | skip _ hr _ ih => exact ih (hw.drop hr.drop)
  | frag _ hr _ ih => exact List.forall_mem_cons.mpr ⟨hr.wf hw _ rfl, ih (hw.drop hr.drop)⟩

end Walker

/-- every fragment `collectFragments` returns is well shaped -/
theorem collectFragments_fragWF (cls : Cls) (src : List Rune) (frags : List Fragment)
    (h : collectFragments cls src = .ok frags) : ∀ f ∈ frags, FragWF cls f := by
  obtain ⟨ts, hts, _, hfs⟩ := collectFragments_ok h
  exact hfs.fragWF
    ⟨allTokens_tokwf hts, allTokens_eolAfter hts⟩

/-! ## `DescGaps`: two stand-alone descriptions are separated by a blank line -/

/-- what reading the stand-alone description `e` from `w` (arriving at `w'`) means -/
def DescRead (w : W) (e : Description) (w' : W) : Prop :=
  ∃ first rs, w.rest = first :: rs ∧ first.ty = .description ∧ e.span.start = first.start ∧
    ∃ tl, w'.prev = some tl ∧ tl.ty = .description ∧ e.span.end_ = tl.end_ ∧ ¬ DescCont w'.rest

theorem FragRun.descRead {w w' : W} {e : Description} (h : FragRun w (some (.desc e)) w') :
    DescRead w e w' := by
  cases h with
  | desc hp hty hl =>
    obtain ⟨h1, h2, h3⟩ := hl.end fun l hl' => by cases hp.prev.symm.trans hl'; exact hty
    cases hp
    exact ⟨_, _, rfl, hty, rfl, _, h1, h2, rfl, h3⟩
  | stmt _ hs => cases hs

/-- where the walker stands after a stand-alone description that ended on line `L`:
just behind it; one EOL later (and no description follows); at least two EOLs later -/
def Phase (L : Nat) (w : W) : Prop :=
  (∃ tl, w.prev = some tl ∧ tl.ty = .description ∧ tl.end_.line = L ∧ ¬ DescCont w.rest) ∨
  (∃ e, w.prev = some e ∧ e.ty = .eol ∧ e.end_.line = L ∧ w.nextType ≠ .description) ∨
  (∃ e, w.prev = some e ∧ e.ty = .eol ∧ L + 1 ≤ e.end_.line)

theorem phase_step {cls : Cls} {L : Nat} {p : Option Token} {e : Token} {rs : List Token}
    (hw : WI (LineP cls) LineR ⟨p, e :: rs⟩) (he : e.ty = .eol) (hph : Phase L ⟨p, e :: rs⟩) :
    Phase L ⟨some e, rs⟩ := by
  have hsingle : e.end_.line = e.start.line := hw.head.oneLine (Or.inr he)
  rcases hph with ⟨tl, h1, h2, h3, h4⟩ | ⟨e0, h1, h2, h3, _⟩ | ⟨e0, h1, h2, h3⟩
  · have hst : e.start.line = tl.end_.line := (hw.rel h1).sameLine (by rw [h2]; decide)
    refine Or.inr (Or.inl ⟨e, rfl, he, by rw [hsingle, hst, h3], ?_⟩)
    cases rs with
    | nil => intro h; cases h
    | cons d rs' =>
      intro (hd : d.ty = .description)
      exact h4 ⟨e, d, rs', rfl, he, hd⟩
  · have hst : e.start.line = e0.end_.line + 1 := (hw.rel h1).nextLine h2
    exact Or.inr (Or.inr ⟨e, rfl, he, by rw [hsingle, hst, h3]; exact Nat.le_refl _⟩)
  · have hst : e.start.line = e0.end_.line + 1 := (hw.rel h1).nextLine h2
    exact Or.inr (Or.inr ⟨e, rfl, he, by rw [hsingle, hst]; omega⟩)

theorem phase_desc {cls : Cls} {L : Nat} {p : Option Token} {first : Token} {rs : List Token}
    (hw : WI (LineP cls) LineR ⟨p, first :: rs⟩) (hf : first.ty = .description)
    (hph : Phase L ⟨p, first :: rs⟩) : first.start.line > L + 1 := by
  rcases hph with ⟨tl, h1, h2, _, _⟩ | ⟨e0, _, _, _, h4⟩ | ⟨e0, h1, h2, h3⟩
  · have : first.ty = .eol := (hw.rel h1).afterLine (Or.inr h2)
    rw [hf] at this; cases this
  · exact absurd hf h4
  · have hst : first.start.line = e0.end_.line + 1 := (hw.rel h1).nextLine h2
    omega

theorem descGaps_cons2 (f g : Fragment) (rest : List Fragment) :
    DescGaps (f :: g :: rest) ↔
      ((∀ d e, f = .desc d → g = .desc e → e.span.start.line > d.span.end_.line + 1) ∧
        DescGaps (g :: rest)) := Iff.rfl

def Fragment.desc? : Fragment → Option Description
  | .desc e => some e
  | _ => none

/-- the gaps of the fragments read from `w`, where the fragment read before was the description `o`
(if it was one) -/
theorem FragsRun.descGaps {cls : Cls} {w : W} {fs : List Fragment} (h : FragsRun w fs) :
    ∀ (o : Option Description), WI (LineP cls) LineR w →
      (∀ d, o = some d → Phase d.span.end_.line w) →
      DescGaps fs ∧ ∀ d e, o = some d → fs.head? = some (.desc e) →
        e.span.start.line > d.span.end_.line + 1 := by
  induction h with
  | eof _ => intro o _ _; exact ⟨trivial, fun _ _ _ h => by cases h⟩
  | @skip w w1 fs hne hr _ ih =>
    intro o hw hph
    obtain ⟨e, rs, h1, h2, rfl⟩ := hr.none_eol hne
    obtain ⟨p, rest⟩ := w
    cases h1
    exact ih o hw.tail fun d hd => phase_step hw h2 (hph d hd)
  | @frag w w1 f fs hne hr _ ih =>
    intro o hw hph
    have hnext : ∀ e, f = .desc e → Phase e.span.end_.line w1 := by
      rintro e rfl
      obtain ⟨_, _, _, _, _, tl, t1, t2, t3, t4⟩ := hr.descRead
      exact Or.inl ⟨tl, t1, t2, by rw [t3], t4⟩
    obtain ⟨hg, hhead⟩ := ih f.desc? (hw.drop hr.drop)
      (fun d hd => by cases f <;> cases hd; exact hnext _ rfl)
    refine ⟨?_, fun d e hd he => ?_⟩
    · cases fs with
      | nil => trivial
      | cons g gs =>
        exact (descGaps_cons2 f g gs).mpr ⟨fun d e hd he => hhead d e (by rw [hd]; rfl) (by rw [he]; rfl), hg⟩
    · cases he
      obtain ⟨first, rs, h1, h2, h3, _⟩ := hr.descRead
      obtain ⟨p, rest⟩ := w
      cases h1
      rw [h3]
      exact phase_desc hw h2 (hph d hd)

/-- a stand-alone description directly after another one starts at least two lines below the end of
the first -/
theorem collectFragments_descGaps (cls : Cls) (hcls : ClsNL cls) (src : List Rune)
    (frags : List Fragment) (h : collectFragments cls src = .ok frags) : DescGaps frags := by
  obtain ⟨ts, hts, _, hfs⟩ := collectFragments_ok h
  exact (hfs.descGaps none (allTokens_lineChain hcls hts) nofun).1

end J5V.Bcl
