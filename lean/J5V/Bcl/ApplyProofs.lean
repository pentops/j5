import J5V.Bcl.EditSpec
import J5V.Bcl.SplitJoin
/-!
# `FmtDiffs`: well-formed edits, and applying them gives the formatter's text (lemmas for C19)

Fragment line ranges (`RawWF`), their merge (`FragsWF`) and the edits (`EditsWF`).  Line-level view
of the document: `cat ls` is the text of the lines `ls`, each terminated by `\n`; `seg L a b` is the
text of lines `a … b-1`.
-/
namespace J5V.Bcl
open J5V.Go

theorem EditsWF_mono {n lo lo' : Nat} {es : List Edit} (h : EditsWF n lo es) (hl : lo' ≤ lo) :
    EditsWF n lo' es := by
  cases es with
  | nil => trivial
  | cons e es => exact ⟨Nat.le_trans hl h.1, h.2⟩

theorem mergeInto_wf (n : Nat) (ds : List Edit) (l : Edit) (lo : Nat) (h0 : lo ≤ l.fromLine)
    (h1 : l.fromLine < l.toLine) (h2 : l.toLine ≤ n) (h : RawWF n l.toLine ds) :
    FragsWF n lo (mergeInto l ds) := by
  induction ds generalizing l lo with
  | nil => exact ⟨h0, h1, h2, trivial⟩
  | cons d ds ih =>
    obtain ⟨g1, g2, g3, g4⟩ := h
    unfold mergeInto
    split
    · apply ih
      · exact h0
      · simp only; omega
      · simp only; omega
      · have : max l.toLine d.toLine = d.toLine := by omega
        simp only [this]; exact g4
    · exact ⟨h0, h1, h2, ih d l.toLine (by omega) g2 g3 g4⟩

theorem mergeFrags_wf (n : Nat) (ds : List Edit) (h : RawWF n 0 ds) : FragsWF n 0 (mergeFrags ds) := by
  cases ds with
  | nil => trivial
  | cons d ds =>
    obtain ⟨_, g2, g3, g4⟩ := h
    exact mergeInto_wf n ds d 0 (Nat.zero_le _) g2 g3 g4

theorem rangeLines_ok {lines : List (List Nat)} {a b : Nat} (h1 : a ≤ b) (h2 : b ≤ lines.length) :
    rangeLines lines a b = .ok (joinWith [cNL] ((lines.take b).drop a) ++ [cNL]) := by
  unfold rangeLines sliceLines
  have : ¬ b > lines.length := by omega
  have : ¬ a > b := by omega
  simp [*]

def cat (ls : List (List Nat)) : List Nat := ls.flatMap (fun l => l ++ [cNL])

@[simp] theorem cat_nil : cat [] = [] := rfl
@[simp] theorem cat_cons (l : List Nat) (ls : List (List Nat)) : cat (l :: ls) = l ++ [cNL] ++ cat ls := by
  simp [cat]
theorem cat_append (a b : List (List Nat)) : cat (a ++ b) = cat a ++ cat b := by
  simp [cat]

theorem joinWith_nl_cat (ls : List (List Nat)) (h : ls ≠ []) : joinWith [cNL] ls ++ [cNL] = cat ls :=
  joinWith_nl_flatMap ls h

/-- text of lines `a … b-1` -/
def seg (L : List (List Nat)) (a b : Nat) : List Nat := cat ((L.drop a).take (b - a))

theorem seg_self (L : List (List Nat)) (a : Nat) : seg L a a = [] := by simp [seg]

theorem seg_split (L : List (List Nat)) {a b c : Nat} (h1 : a ≤ b) (h2 : b ≤ c) :
    seg L a c = seg L a b ++ seg L b c := by
  unfold seg
  have : c - a = (b - a) + (c - b) := by omega
  rw [this, List.take_add, cat_append, List.drop_drop]
  have : a + (b - a) = b := by omega
  rw [this]

theorem seg_single (L : List (List Nat)) {a : Nat} (h : a < L.length) :
    seg L a (a + 1) = L[a] ++ [cNL] := by
  unfold seg
  have : a + 1 - a = 1 := by omega
  rw [this, List.drop_eq_getElem_cons h]
  simp only [List.take_succ_cons, List.take_zero, cat_cons, cat_nil, List.append_nil]

theorem seg_drop (L : List (List Nat)) (a : Nat) : cat (L.drop a) = seg L a L.length := by
  unfold seg
  rw [List.take_of_length_le]
  simp

theorem rangeLines_seg {L : List (List Nat)} {a b : Nat} (h1 : a < b) (h2 : b ≤ L.length) :
    rangeLines L a b = .ok (seg L a b) := by
  rw [rangeLines_ok (Nat.le_of_lt h1) h2]
  congr 1
  unfold seg
  rw [List.drop_take]
  apply joinWith_nl_cat
  intro h
  have := congrArg List.length h
  simp at this
  omega

/-! ## Optional edits

A round of the edit loop makes up to two edits, each only if it changes something: one for the lines
between the previous fragment and this one, one for the fragment itself. -/

def optEdit (p : Prop) [Decidable p] (lo f : Nat) (txt : List Nat) : List Edit :=
  if p then [⟨lo, f, txt⟩] else []

theorem EditsWF.opt {n lo f : Nat} {rest : List Edit} (p : Prop) [Decidable p] (txt : List Nat)
    (h1 : lo ≤ f) (h2 : f ≤ n) (hw : EditsWF n f rest) :
    EditsWF n lo (optEdit p lo f txt ++ rest) := by
  unfold optEdit
  split
  · exact ⟨Nat.le_refl _, h1, h2, hw⟩
  · exact EditsWF_mono hw h1

theorem optEdit_from_lt {n lo f : Nat} {rest : List Edit} (p : Prop) [Decidable p] (txt : List Nat)
    (h : lo < n) (hr : ∀ e ∈ rest, e.fromLine < n) : ∀ e ∈ optEdit p lo f txt ++ rest, e.fromLine < n := by
  unfold optEdit
  split
  · intro e he
    rcases List.mem_cons.mp he with rfl | he
    · exact h
    · exact hr e he
  · exact hr

/-- the document (every line `\n`-terminated) with the edits applied, from line `c` on -/
def applyLines (L : List (List Nat)) : Nat → List Edit → List Nat
  | c, [] => seg L c L.length
  | c, e :: es => seg L c e.fromLine ++ e.newText ++ applyLines L e.toLine es

theorem applyLines_start (L : List (List Nat)) {es : List Edit} {lo c : Nat}
    (hw : EditsWF L.length lo es) (hc : c ≤ lo) (hl : lo ≤ L.length) :
    applyLines L c es = seg L c lo ++ applyLines L lo es := by
  cases es with
  | nil => exact seg_split L hc hl
  | cons e es =>
    simp only [applyLines]
    rw [seg_split L hc hw.1]
    simp only [List.append_assoc]

theorem applyLines_opt (L : List (List Nat)) {lo f : Nat} {rest : List Edit} (p : Prop) [Decidable p]
    (txt : List Nat) (h1 : lo ≤ f) (h2 : f ≤ L.length) (hw : EditsWF L.length f rest) :
    applyLines L lo (optEdit p lo f txt ++ rest) =
      (if p then txt else seg L lo f) ++ applyLines L f rest := by
  unfold optEdit
  split
  · simp only [List.singleton_append, applyLines, seg_self, List.nil_append]
  · exact applyLines_start L hw h1 h2

/-! ## The edit loop without accumulator -/

/-- `gapNeeded` where it does not panic (`gapNeeded_eq`) -/
def gapB (L : List (List Nat)) (lastEnd from_ : Nat) : Bool :=
  decide (from_ > lastEnd + 1) || (decide (from_ = lastEnd + 1) && decide (L.getD lastEnd [] ≠ []))

def ownEdit (L : List (List Nat)) (d : Edit) : List Edit :=
  optEdit (seg L d.fromLine d.toLine ≠ d.newText) d.fromLine d.toLine d.newText

def loopEdits (L : List (List Nat)) : List Edit → Nat → List Edit
  | [], _ => []
  | d :: ds, lastEnd =>
    optEdit (gapB L lastEnd d.fromLine = true) lastEnd d.fromLine [cNL] ++
      (ownEdit L d ++ loopEdits L ds d.toLine)

def mergedEdits (L : List (List Nat)) : List Edit → List Edit
  | [] => []
  | d :: ds => optEdit (d.fromLine > 0) 0 d.fromLine [] ++ (ownEdit L d ++ loopEdits L ds d.toLine)

theorem gapNeeded_eq {L : List (List Nat)} {lastEnd from_ : Nat} (h : from_ < L.length) :
    gapNeeded L lastEnd from_ = .ok (gapB L lastEnd from_) := by
  unfold gapNeeded gapB
  by_cases h1 : from_ > lastEnd + 1
  · simp [h1]
  · simp only [h1, if_false, decide_false, Bool.false_or]
    by_cases h2 : from_ = lastEnd + 1
    · have hl : lastEnd < L.length := by omega
      simp only [h2, if_true, decide_true, Bool.true_and]
      rw [List.getElem?_eq_getElem hl]
      simp [List.getD, List.getElem?_eq_getElem hl]
    · simp [h2]

theorem fmtDiffsLoop_eq (L : List (List Nat)) (ds : List Edit) (lastEnd : Nat)
    (h : FragsWF L.length lastEnd ds) (out : List Edit) :
    fmtDiffsLoop L ds lastEnd out = .ok (out ++ loopEdits L ds lastEnd) := by
  induction ds generalizing lastEnd out with
  | nil => simp [fmtDiffsLoop, loopEdits]
  | cons d ds ih =>
    obtain ⟨h1, h2, h3, h4⟩ := h
    unfold fmtDiffsLoop loopEdits
    rw [gapNeeded_eq (by omega), rangeLines_seg h2 h3]
    simp only []
    rw [ih d.toLine h4]
    congr 1
    cases gapB L lastEnd d.fromLine <;> by_cases hx : seg L d.fromLine d.toLine = d.newText <;>
      simp [optEdit, ownEdit, hx]

theorem fmtDiffsMerged_eq (L : List (List Nat)) (M : List Edit) (h : FragsWF L.length 0 M) :
    fmtDiffsMerged L M = .ok (mergedEdits L M) := by
  cases M with
  | nil => rfl
  | cons d ds =>
    obtain ⟨_, h2, h3, h4⟩ := h
    simp only [fmtDiffsMerged, mergedEdits]
    rw [rangeLines_seg h2 h3]
    simp only []
    rw [fmtDiffsLoop_eq L ds d.toLine h4]
    congr 1
    by_cases hg : d.fromLine > 0 <;> by_cases hx : seg L d.fromLine d.toLine = d.newText <;>
      simp [optEdit, ownEdit, hg, hx]

theorem round_wf (L : List (List Nat)) {n lo : Nat} {d : Edit} {rest : List Edit} (p : Prop) [Decidable p]
    (txt : List Nat) (h1 : lo ≤ d.fromLine) (h2 : d.fromLine < d.toLine) (h3 : d.toLine ≤ n)
    (iw : EditsWF n d.toLine rest ∧ ∀ e ∈ rest, e.fromLine < n) :
    EditsWF n lo (optEdit p lo d.fromLine txt ++ (ownEdit L d ++ rest)) ∧
      ∀ e ∈ optEdit p lo d.fromLine txt ++ (ownEdit L d ++ rest), e.fromLine < n :=
  ⟨.opt _ _ h1 (by omega) (.opt _ _ (Nat.le_of_lt h2) h3 iw.1),
    optEdit_from_lt _ _ (by omega) (optEdit_from_lt _ _ (by omega) iw.2)⟩

theorem round_apply (L : List (List Nat)) {lo : Nat} {d : Edit} {rest : List Edit} (p : Prop)
    [Decidable p] (txt : List Nat) (h1 : lo ≤ d.fromLine) (h2 : d.fromLine < d.toLine)
    (h3 : d.toLine ≤ L.length) (iw : EditsWF L.length d.toLine rest) :
    applyLines L lo (optEdit p lo d.fromLine txt ++ (ownEdit L d ++ rest)) =
      (if p then txt else seg L lo d.fromLine) ++ d.newText ++ applyLines L d.toLine rest := by
  unfold ownEdit
  rw [applyLines_opt L _ _ h1 (by omega) (.opt _ _ (Nat.le_of_lt h2) h3 iw),
    applyLines_opt L _ _ (Nat.le_of_lt h2) h3 iw, List.append_assoc]
  congr 2
  split
  · rfl
  · rename_i h; exact Decidable.not_not.mp h

theorem loopEdits_wf (L : List (List Nat)) : ∀ (ds : List Edit) (lastEnd : Nat),
    FragsWF L.length lastEnd ds →
    EditsWF L.length lastEnd (loopEdits L ds lastEnd) ∧
      ∀ e ∈ loopEdits L ds lastEnd, e.fromLine < L.length
  | [], _, _ => ⟨trivial, fun _ he => nomatch he⟩
  | d :: ds, _, ⟨h1, h2, h3, h4⟩ => round_wf L _ _ h1 h2 h3 (loopEdits_wf L ds d.toLine h4)

theorem mergedEdits_wf (L : List (List Nat)) (M : List Edit) (h : FragsWF L.length 0 M) :
    EditsWF L.length 0 (mergedEdits L M) ∧ ∀ e ∈ mergedEdits L M, e.fromLine < L.length := by
  cases M with
  | nil => exact ⟨trivial, fun _ he => nomatch he⟩
  | cons d ds => exact round_wf L _ _ (Nat.zero_le _) h.2.1 h.2.2.1 (loopEdits_wf L ds d.toLine h.2.2.2)

def gapText (p : Option Nat) (from_ : Nat) : List Nat :=
  match p with
  | some e => if from_ > e then [cNL] else []
  | none => []

theorem joinFrags_cons (d : Edit) (ds : List Edit) (p : Option Nat) :
    joinFrags (d :: ds) p = gapText p d.fromLine ++ d.newText ++ joinFrags ds (some d.toLine) := by
  cases p <;> rfl

theorem gap_text (L : List (List Nat)) {lastEnd f : Nat} (h1 : lastEnd ≤ f) (h2 : f < L.length) :
    (if gapB L lastEnd f = true then [cNL] else seg L lastEnd f) = gapText (some lastEnd) f := by
  unfold gapB gapText
  by_cases g1 : f > lastEnd + 1
  · simp [g1, show f > lastEnd by omega]
  · by_cases g2 : f = lastEnd + 1
    · subst g2
      have hll : lastEnd < L.length := by omega
      simp only [g1, decide_false, Bool.false_or, decide_true, Bool.true_and, seg_single L hll,
        List.getD, List.getElem?_eq_getElem hll, Option.getD_some, decide_eq_true_eq,
        show lastEnd + 1 > lastEnd by omega, if_true]
      by_cases he : L[lastEnd] = [] <;> simp [he]
    · have : f = lastEnd := by omega
      subst this
      simp [seg_self]

theorem applyLines_loop (L : List (List Nat)) : ∀ (ds : List Edit) (lastEnd : Nat),
    FragsWF L.length lastEnd ds →
    applyLines L lastEnd (loopEdits L ds lastEnd) =
      joinFrags ds (some lastEnd) ++ seg L (lastTo ds lastEnd) L.length
  | [], _, _ => rfl
  | d :: ds, lastEnd, ⟨h1, h2, h3, h4⟩ => by
    rw [loopEdits, round_apply L _ _ h1 h2 h3 (loopEdits_wf L ds d.toLine h4).1, gap_text L h1 (by omega),
      applyLines_loop L ds d.toLine h4, joinFrags_cons]
    simp only [lastTo, List.append_assoc]

theorem applyLines_merged (L : List (List Nat)) (M : List Edit) (h : FragsWF L.length 0 M) :
    applyLines L 0 (mergedEdits L M) = joinFrags M none ++ seg L (lastTo M 0) L.length := by
  cases M with
  | nil => rfl
  | cons d ds =>
    obtain ⟨_, h2, h3, h4⟩ := h
    rw [mergedEdits, round_apply L _ _ (Nat.zero_le _) h2 h3 (loopEdits_wf L ds d.toLine h4).1,
      applyLines_loop L ds d.toLine h4, joinFrags_cons]
    have : (if d.fromLine > 0 then [] else seg L 0 d.fromLine) = gapText none d.fromLine := by
      split
      · rfl
      · rw [show d.fromLine = 0 by omega, seg_self]; rfl
    simp only [this, lastTo, List.append_assoc]

theorem fmtDiffs_eq (L : List (List Nat)) (all : List Edit) (h : RawWF L.length 0 all) :
    fmtDiffs L all = .ok (mergedEdits L (mergeFrags all)) :=
  fmtDiffsMerged_eq L _ (mergeFrags_wf _ _ h)

theorem fmtDiffs_spec (lines : List (List Nat)) (all : List Edit)
    (h : RawWF lines.length 0 all) :
    ∃ es, fmtDiffs lines all = .ok es ∧ EditsWF lines.length 0 es :=
  ⟨_, fmtDiffs_eq lines all h, (mergedEdits_wf lines _ (mergeFrags_wf _ _ h)).1⟩

/-! ## The merge pass does not change the formatter's text -/

theorem joinFrags_mergeInto (n : Nat) : ∀ (ds : List Edit) (l : Edit) (p : Option Nat),
    RawWF n l.toLine ds →
    joinFrags (mergeInto l ds) p = gapText p l.fromLine ++ l.newText ++ joinFrags ds (some l.toLine) ∧
    ∀ lo, lastTo (mergeInto l ds) lo = lastTo ds l.toLine := by
  intro ds
  induction ds with
  | nil => intro l p _; simp [mergeInto, joinFrags_cons, joinFrags, lastTo]
  | cons d ds ih =>
    intro l p h
    obtain ⟨g1, g2, g3, g4⟩ := h
    unfold mergeInto
    split
    · rename_i hlt
      have hmax : max l.toLine d.toLine = d.toLine := by omega
      obtain ⟨i1, i2⟩ := ih ⟨l.fromLine, max l.toLine d.toLine, l.newText ++ d.newText⟩ p
        (by simp only [hmax]; exact g4)
      refine ⟨?_, ?_⟩
      · rw [i1, joinFrags_cons d ds]
        have : gapText (some l.toLine) d.fromLine = [] := by
          simp only [gapText]; rw [if_neg (by omega)]
        simp only [this, hmax, List.nil_append, List.append_assoc]
      · intro lo; rw [i2 lo]; simp only [hmax, lastTo]
    · rename_i hge
      obtain ⟨i1, i2⟩ := ih d (some l.toLine) g4
      refine ⟨?_, ?_⟩
      · rw [joinFrags_cons l, i1, joinFrags_cons d ds]
      · intro lo; simp only [lastTo]; exact i2 _

theorem joinFrags_mergeFrags (n : Nat) (all : List Edit) (h : RawWF n 0 all) :
    joinFrags (mergeFrags all) none = joinFrags all none ∧
      lastTo (mergeFrags all) 0 = lastTo all 0 := by
  cases all with
  | nil => exact ⟨rfl, rfl⟩
  | cons d ds =>
    obtain ⟨_, _, _, g4⟩ := h
    obtain ⟨i1, i2⟩ := joinFrags_mergeInto n ds d none g4
    exact ⟨by rw [mergeFrags, i1, joinFrags_cons], by rw [mergeFrags, i2 0]; rfl⟩

theorem applyLines_fmtDiffs (L : List (List Nat)) (all : List Edit) (h : RawWF L.length 0 all) :
    applyLines L 0 (mergedEdits L (mergeFrags all)) =
      joinFrags all none ++ seg L (lastTo all 0) L.length := by
  rw [applyLines_merged L _ (mergeFrags_wf _ _ h), (joinFrags_mergeFrags _ all h).1,
    (joinFrags_mergeFrags _ all h).2]

/-! ## Byte offsets (LSP) versus line indices -/

theorem sum_len_cat (ls : List (List Nat)) :
    (ls.map (fun l => l.length + 1)).sum = (cat ls).length := by
  induction ls with
  | nil => rfl
  | cons l ls ih => simp [ih]; omega

theorem doc_split : ∀ (L : List (List Nat)) (k : Nat), k < L.length →
    joinWith [cNL] L = cat (L.take k) ++ joinWith [cNL] (L.drop k)
  | L, 0, _ => by simp
  | [], k + 1, h => by simp at h
  | [a], k + 1, h => by simp at h
  | a :: b :: rest, k + 1, h => by
    have ih := doc_split (b :: rest) k (by simp at h ⊢; omega)
    simp only [joinWith, List.take_succ_cons, List.drop_succ_cons, cat_cons]
    rw [ih]
    simp [List.append_assoc]

theorem take_take_seg (L : List (List Nat)) {c k : Nat} (h : c ≤ k) :
    cat (L.take k) = cat (L.take c) ++ seg L c k := by
  unfold seg
  have : k = c + (k - c) := by omega
  conv => lhs; rw [this, List.take_add, cat_append]

theorem lineOffset_lt (L : List (List Nat)) {k : Nat} (h : k < L.length) :
    lineOffset L k = (cat (L.take k)).length := by
  unfold lineOffset
  rw [if_neg (by omega), sum_len_cat]

theorem lineOffset_ge (L : List (List Nat)) {k : Nat} (h : k ≥ L.length) :
    lineOffset L k = (joinWith [cNL] L).length := by
  unfold lineOffset
  rw [if_pos h]

theorem doc_take_drop (L : List (List Nat)) {c k : Nat} (hc : c ≤ k) (hk : k < L.length) :
    ((joinWith [cNL] L).take (lineOffset L k)).drop (lineOffset L c) = seg L c k := by
  rw [lineOffset_lt L hk, lineOffset_lt L (by omega), doc_split L k hk, List.take_left,
    take_take_seg L hc, List.drop_left]

theorem doc_drop (L : List (List Nat)) {c : Nat} (hc : c < L.length) :
    (joinWith [cNL] L).drop (lineOffset L c) ++ [cNL] = seg L c L.length := by
  rw [lineOffset_lt L hc]
  conv => lhs; rw [doc_split L c hc, List.drop_left]
  rw [joinWith_nl_cat _ (by
    intro h
    have := congrArg List.length h
    simp at this; omega), seg_drop]

/-- from LSP offsets to lines.  The document has no `\n` behind its last line, `applyLines` has: one is
appended unless the last edit reaches the end. -/
theorem applyFrom_lines (L : List (List Nat)) :
    ∀ (es : List Edit) (c : Nat), c ≤ L.length → EditsWF L.length c es →
      (∀ e ∈ es, e.fromLine < L.length) →
      applyFrom (joinWith [cNL] L) L (lineOffset L c) es ++
        (if lastTo es c < L.length then [cNL] else []) = applyLines L c es := by
  intro es
  induction es with
  | nil =>
    intro c hc _ _
    show (joinWith [cNL] L).drop (lineOffset L c) ++ (if c < L.length then [cNL] else []) =
      seg L c L.length
    by_cases h : c < L.length
    · rw [if_pos h, doc_drop L h]
    · have : c = L.length := by omega
      subst this
      rw [if_neg h, lineOffset_ge L (Nat.le_refl _), seg_self]
      simp
  | cons e es ih =>
    intro c hc hwf hlt
    obtain ⟨h1, h2, h3, h4⟩ := hwf
    have hf := hlt e (by simp)
    show ((joinWith [cNL] L).take (lineOffset L e.fromLine)).drop (lineOffset L c) ++ e.newText ++
        applyFrom (joinWith [cNL] L) L (lineOffset L e.toLine) es ++
        (if lastTo es e.toLine < L.length then [cNL] else []) =
      seg L c e.fromLine ++ e.newText ++ applyLines L e.toLine es
    rw [doc_take_drop L h1 hf, List.append_assoc, ih e.toLine h3 h4 (fun x hx => hlt x (by simp [hx]))]

theorem splitLines_cat (B : List (List Nat)) (h : ∀ l ∈ B, cNL ∉ l) :
    splitLines (cat B) = B ++ [[]] := by
  induction B with
  | nil => rfl
  | cons l B ih =>
    rw [cat_cons, List.append_assoc]
    show splitLines (l ++ cNL :: cat B) = _
    rw [splitLines_append_nl, splitLines_no_nl l (h l (by simp)),
      ih (fun x hx => h x (by simp [hx]))]
    simp

theorem stripTrailing_append_blank (blank : List Nat → Bool) (ls B : List (List Nat))
    (h : ∀ l ∈ B, blank l = true) : stripTrailing blank (ls ++ B) = stripTrailing blank ls := by
  unfold stripTrailing
  rw [List.reverse_append, List.dropWhile_append_of_pos (by simpa using h)]

theorem joinFrags_ends (all : List Edit) (hne : all ≠ []) (p : Option Nat)
    (h : ∀ d ∈ all, ∃ x, d.newText = x ++ [cNL]) : ∃ y, joinFrags all p = y ++ [cNL] := by
  induction all generalizing p with
  | nil => exact absurd rfl hne
  | cons d ds ih =>
    rw [joinFrags_cons]
    cases ds with
    | nil =>
      obtain ⟨x, hx⟩ := h d (by simp)
      exact ⟨gapText p d.fromLine ++ x, by simp [joinFrags, hx]⟩
    | cons d2 ds2 =>
      obtain ⟨y, hy⟩ := ih (by simp) (some d.toLine) (fun x hx => h x (by simp [hx]))
      exact ⟨gapText p d.fromLine ++ d.newText ++ y, by rw [hy]; simp⟩

/-- **Applying the edits gives the formatter's text up to trailing blank lines**, for any source lines
and fragment list with well-formed ranges, provided the lines after the last fragment are blank. -/
theorem apply_eqT (blank : List Nat → Bool) (hb : blank [] = true) (L : List (List Nat))
    (hL : L ≠ []) (hnl : ∀ l ∈ L, cNL ∉ l) (all : List Edit) (h : RawWF L.length 0 all)
    (hends : ∀ d ∈ all, ∃ x, d.newText = x ++ [cNL])
    (htrail : ∀ l ∈ L.drop (lastTo all 0), blank l = true) :
    ∃ es, fmtDiffs L all = .ok es ∧ EqT blank (applyEdits L es) (joinFrags all none) := by
  refine ⟨_, fmtDiffs_eq L all h, ?_⟩
  generalize hes : mergedEdits L (mergeFrags all) = es
  have hw := mergedEdits_wf L _ (mergeFrags_wf _ _ h)
  have hal := applyLines_fmtDiffs L all h
  rw [hes] at hw hal
  have hF := applyFrom_lines L es 0 (Nat.zero_le _) hw.1 hw.2
  have h0 : lineOffset L 0 = 0 := by
    have : 0 < L.length := List.length_pos_iff.mpr hL
    rw [lineOffset_lt L this]; simp
  rw [h0, hal] at hF
  -- `applyEdits L es ++ X = joinFrags all none ++ cat (trailing lines)`
  have hseg : seg L (lastTo all 0) L.length = cat (L.drop (lastTo all 0)) := (seg_drop L _).symm
  rw [hseg] at hF
  have hBnl : ∀ l ∈ L.drop (lastTo all 0), cNL ∉ l := fun l hl => hnl l (List.mem_of_mem_drop hl)
  unfold EqT
  -- left side: dropping the optional final newline
  have hleft : stripTrailing blank (splitLines (applyEdits L es)) =
      stripTrailing blank (splitLines (joinFrags all none ++ cat (L.drop (lastTo all 0)))) := by
    rw [← hF]
    unfold applyEdits
    split
    · rw [splitLines_snoc_nl, stripTrailing_append_blank blank _ [[]] (by simpa using hb)]
    · simp
  rw [hleft]
  by_cases hall : all = []
  · subst hall
    simp only [joinFrags, List.nil_append]
    rw [splitLines_cat _ hBnl]
    have : stripTrailing blank (L.drop (lastTo [] 0) ++ [[]]) = stripTrailing blank [] := by
      have := stripTrailing_append_blank blank [] (L.drop (lastTo [] 0) ++ [[]]) (by
        intro l hl
        rcases List.mem_append.mp hl with h1 | h1
        · exact htrail l h1
        · simp at h1; subst h1; exact hb)
      simpa using this
    rw [this]
    show _ = stripTrailing blank [[]]
    have := stripTrailing_append_blank blank [] [[]] (by simpa using hb)
    simpa using this.symm
  · obtain ⟨y, hy⟩ := joinFrags_ends all hall none hends
    rw [hy, List.append_assoc]
    show stripTrailing blank (splitLines (y ++ cNL :: cat (L.drop (lastTo all 0)))) = _
    rw [splitLines_append_nl, splitLines_cat _ hBnl, splitLines_snoc_nl, ← List.append_assoc,
      stripTrailing_append_blank blank _ [[]] (by simpa using hb),
      stripTrailing_append_blank blank _ _ htrail,
      stripTrailing_append_blank blank _ [[]] (by simpa using hb)]

end J5V.Bcl
