import J5V.Bcl.LexAllProofs
/-!
# Lines: where tokens start and end, and what they cover

A token starts on the line the lexer stands on; after a token that is not an EOL the lexer still stands
on the token's last line; `//` comments and EOLs are single-line (`StepLines`, read off the text of the
lexeme; needs `ClsNL`: `\n` is neither a letter nor a digit for the classifier).  Every rune of the
source that is not white space lies in a token that is not an EOL and ends on the same or a later
line (`Cover`).  Along an error-free lex: `LineP` of every token and `LineR` between consecutive ones
(`allTokens_lineChain`), what the walker invariants of C09 and C19 start from.
-/
namespace J5V.Bcl

theorem adv_sameLine (c : Cur) {r : Rune} (h : r ≠ cNL) : (c.adv r).nxt.line = (c.adv r).pos.line := by
  unfold Cur.adv; simp [h]

theorem advEOF_nxt_line (c : Cur) : c.advEOF.nxt.line = c.nxt.line := rfl

theorem advPos_line {p : Pos} {pre : List Rune} (h : ∀ r ∈ pre, r ≠ cNL) : (advPos p pre).line = p.line := by
  induction pre generalizing p with
  | nil => rfl
  | cons r rs ih =>
    rw [advPos_cons, ih fun x hx => h x (by simp [hx])]
    simp [stepPos, h r (by simp)]

/-- the text of a token other than an EOL does not end in a newline (`ClsNL`: identifiers and numbers
contain none) -/
theorem Lexeme.last_ne_nl {cls : Cls} (hcls : ClsNL cls) {text rest : List Rune} {ty : TokenType}
    {lit : List Rune} (h : Lexeme cls text rest ty lit) (hty : ty ≠ .eol) :
    ∃ t x, text = t ++ [x] ∧ x ≠ cNL := by
  have digit : ∀ {x}, cls.isDigit x = true → x ≠ cNL := fun h e => by rw [e, hcls.2] at h; cases h
  have all : ∀ {l : List Rune}, l ≠ [] → (∀ x ∈ l, x ≠ cNL) → ∃ t x, l = t ++ [x] ∧ x ≠ cNL :=
    fun hne hl => ⟨_, _, (List.dropLast_concat_getLast hne).symm, hl _ (List.getLast_mem hne)⟩
  cases h with
  | @op r _ _ hop =>
    refine ⟨[], r, rfl, ?_⟩
    rintro rfl
    have h0 : operatorOf cNL = none := by decide
    rw [h0] at hop; cases hop
  | eol => exact absurd rfl hty
  | @blockComment lit _ _ => exact ⟨cSLASH :: cSTAR :: (lit ++ [cSTAR]), cSLASH, by simp, by decide⟩
  | @regex lit _ _ _ => exact ⟨cSLASH :: escRegex lit, cSLASH, by simp, by decide⟩
  | @string lit _ => exact ⟨cQUOTE :: escString lit, cQUOTE, by simp, by decide⟩
  | description h0 h1 _ _ =>
    exact all (by simp) (List.forall_mem_cons.mpr ⟨by decide,
      List.forall_mem_append.mpr ⟨fun x hx => (h0 x hx).2, h1⟩⟩)
  | comment h1 _ =>
    exact all (by simp) (List.forall_mem_cons.mpr ⟨by decide, List.forall_mem_cons.mpr ⟨by decide, h1⟩⟩)
  | int hh h1 _ => exact all (by simp) (List.forall_mem_cons.mpr ⟨hh.notNL, fun x hx => digit (h1 x hx)⟩)
  | decimal hh h1 h2 _ _ =>
    exact all (by simp) (List.forall_mem_cons.mpr ⟨hh.notNL, List.forall_mem_append.mpr
      ⟨fun x hx => digit (h1 x hx), List.forall_mem_cons.mpr ⟨by decide, fun x hx => digit (h2 x hx)⟩⟩⟩)
  | ident hwf _ =>
    refine all hwf.ne fun x hx e => ?_
    subst e
    cases text with
    | nil => cases hx
    | cons y ys =>
      rcases List.mem_cons.mp hx with rfl | hx
      · exact (hwf.head _ rfl).notNL rfl
      · rcases hwf.body _ hx with h | h | h
        · rw [hcls.1] at h; cases h
        · rw [hcls.2] at h; cases h
        · exact absurd h (by decide)

theorem Lexeme.single {cls : Cls} {text rest : List Rune} {ty : TokenType} {lit : List Rune}
    (h : Lexeme cls text rest ty lit) (hty : ty = .comment ∨ ty = .eol) :
    ∃ t x, text = t ++ [x] ∧ ∀ r ∈ t, r ≠ cNL := by
  cases h with
  | eol => exact ⟨[], cNL, rfl, fun _ h => nomatch h⟩
  | @comment lit _ h1 _ =>
    have hne : cSLASH :: cSLASH :: lit ≠ [] := by simp
    refine ⟨_, _, (List.dropLast_concat_getLast hne).symm, fun r hr => ?_⟩
    have := List.dropLast_subset _ hr
    rcases List.mem_cons.mp this with rfl | this
    · decide
    rcases List.mem_cons.mp this with rfl | this
    · decide
    · exact h1 r this
  | op _ hop => rcases hty with rfl | rfl <;> cases operatorOf_isOperator hop
  | ident => split at hty <;> rcases hty with h | h <;> cases h
  | _ => rcases hty with h | h <;> cases h

/-- line facts of one `NextToken` step -/
structure StepLines (c : Cur) (s : LexStep) : Prop where
  start : s.tok.start.line = c.nxt.line
  after : s.tok.ty ≠ .eol → s.cur.nxt.line = s.tok.end_.line
  single : (s.tok.ty = .comment ∨ s.tok.ty = .eol) → s.tok.end_.line = s.tok.start.line

theorem nextToken_lines (cls : Cls) (hcls : ClsNL cls) (c : Cur) (rest : List Rune)
    (he : (nextToken cls c rest).err = none) : StepLines c (nextToken cls c rest) := by
  obtain ⟨⟨ws, text, hws, _, hstart, halt⟩, hend⟩ := nextToken_lexed cls c rest he
  have hws' : ∀ r ∈ ws, r ≠ cNL := fun r hr => (hws r hr).2
  refine ⟨by rw [hstart, advPos_line hws'], fun hty => ?_, fun hty => ?_⟩
  · -- the lexer stands on the last rune read, which is no newline, or behind the input
    rw [hend]
    rcases halt with ⟨hl, hcur⟩ | ⟨_, _, hcur⟩
    · obtain ⟨t, x, rfl, hx⟩ := hl.last_ne_nl hcls hty
      rw [hcur, ← List.append_assoc, advs_snoc]
      exact adv_sameLine _ hx
    · rw [hcur]; rfl
  · rcases halt with ⟨hl, hcur⟩ | ⟨hat, _⟩
    · obtain ⟨t, x, rfl, ht⟩ := hl.single hty
      rw [hend, hstart, hcur, ← List.append_assoc, advs_snoc_pos,
        advPos_line (List.forall_mem_append.mpr ⟨hws', ht⟩), advPos_line hws']
    · rcases hat with ⟨_, h, _⟩ | ⟨h, _⟩ <;> rw [h] at hty <;> rcases hty with h | h <;> cases h

theorem nextToken_after_eol (cls : Cls) (c : Cur) (rest : List Rune) (he : (nextToken cls c rest).err = none)
    (hty : (nextToken cls c rest).tok.ty = .eol) :
    (nextToken cls c rest).cur.nxt.line = (nextToken cls c rest).tok.end_.line + 1 := by
  obtain ⟨⟨ws, text, _, _, _, halt⟩, hend⟩ := nextToken_lexed cls c rest he
  rcases halt with ⟨hl, hcur⟩ | ⟨⟨_, h, _⟩ | ⟨h, _⟩, _⟩
  · rw [hty] at hl
    rw [hend, hcur, hl.text_of_eol, advs_snoc]
    simp [Cur.adv]
  · rw [h] at hty; cases hty
  · rw [h] at hty; cases hty

/-! ## What an EOL / EOF result says about the consumed text -/

/-- an EOL token is a newline preceded by skipped white space; an EOF token means only white space
was left -/
theorem nextToken_eol_eof (cls : Cls) (c : Cur) (rest : List Rune)
    (he : (nextToken cls c rest).err = none) :
    ((nextToken cls c rest).tok.ty = .eol →
      ∃ ws, AllSpace cls ws ∧ rest = ws ++ cNL :: (nextToken cls c rest).rest) ∧
    ((nextToken cls c rest).tok.ty = .eof → AllSpace cls rest ∧ (nextToken cls c rest).rest = []) := by
  obtain ⟨⟨ws, text, hws, hsplit, _, halt⟩, _⟩ := nextToken_lexed cls c rest he
  rcases halt with ⟨hl, _⟩ | ⟨⟨rfl, h, _⟩ | ⟨h, _⟩, hr, _⟩
  · refine ⟨fun hty => ⟨ws, hws, ?_⟩, fun hty => absurd hty hl.ty_ne_eof⟩
    rw [hty] at hl
    rwa [hl.text_of_eol, List.append_assoc] at hsplit
  · rw [hr, List.append_nil, List.append_nil] at hsplit
    exact ⟨fun hty => (by rw [h] at hty; cases hty), fun _ => ⟨hsplit ▸ hws, hr⟩⟩
  · exact ⟨fun hty => (by rw [h] at hty; cases hty), fun hty => (by rw [h] at hty; cases hty)⟩

/-- consecutive tokens (starting with the one read last, if any) are related by `R` -/
def AdjChain (R : Token → Token → Prop) : Option Token → List Token → Prop
  | _, [] => True
  | p, u :: us => (∀ t, p = some t → R t u) ∧ AdjChain R (some u) us

theorem AdjChain.mono {R S : Token → Token → Prop} (h : ∀ t u, R t u → S t u) :
    ∀ (l : List Token) (p : Option Token), AdjChain R p l → AdjChain S p l := by
  intro l
  induction l with
  | nil => intro p _; trivial
  | cons u us ih => intro p hc; exact ⟨fun t ht => h t u (hc.1 t ht), ih _ hc.2⟩

theorem AdjChain.and {R S : Token → Token → Prop} :
    ∀ (l : List Token) (p : Option Token), AdjChain R p l → AdjChain S p l →
      AdjChain (fun t u => R t u ∧ S t u) p l := by
  intro l
  induction l with
  | nil => intro p _ _; trivial
  | cons u us ih => intro p h1 h2; exact ⟨fun t ht => ⟨h1.1 t ht, h2.1 t ht⟩, ih _ h1.2 h2.2⟩

/-- a relation `R` between consecutive tokens of an error-free lex, from a fact `I` about the lexer
state behind a token: `I` holds behind every token read, and makes the next token `R`-related -/
theorem LexAll.adjChain {cls : Cls} {R : Token → Token → Prop} {I : Token → Cur → List Rune → Prop}
    (hI : ∀ c rest, (nextToken cls c rest).err = none →
      I (nextToken cls c rest).tok (nextToken cls c rest).cur (nextToken cls c rest).rest)
    (hR : ∀ t c rest, I t c rest → (nextToken cls c rest).err = none →
      (nextToken cls c rest).tok.ty ≠ .eof → R t (nextToken cls c rest).tok)
    {c : Cur} {rest : List Rune} {out : List Token} (h : LexAll cls c rest out) :
    ∀ pt : Option Token, (∀ t, pt = some t → I t c rest) → AdjChain R pt out := by
  induction h with
  | eof => exact fun _ _ => trivial
  | step he hty _ ih =>
    exact fun pt hpt => ⟨fun t ht => hR t _ _ (hpt t ht) he hty,
      ih _ fun t ht => by cases ht; exact hI _ _ he⟩

/-- the tokens that end a line: `//` comments and descriptions -/
def IsLineTok (t : Token) : Prop := t.ty = .comment ∨ t.ty = .description

/-- a line token is followed by an EOL -/
def EolRel (t u : Token) : Prop := IsLineTok t → u.ty = .eol

/-- "a token of kind COMMENT or DESCRIPTION is followed by an EOL token or by nothing" -/
abbrev EolAfter : Option Token → List Token → Prop := AdjChain EolRel

def EolNextRel (t u : Token) : Prop := t.ty = .eol → u.start.line = t.end_.line + 1

/-- after a token that is not an EOL the next token starts on its last line -/
def LineAdjRel (t u : Token) : Prop := t.ty ≠ .eol → u.start.line = t.end_.line

/-- of one lexed token: its literal has the shape of its kind; a `//` comment or an EOL lies on one line -/
def LineP (cls : Cls) (t : Token) : Prop :=
  TokLitWF cls t ∧ ((t.ty = .comment ∨ t.ty = .eol) → t.end_.line = t.start.line)

/-- of two consecutive lexed tokens `t`, `u`: after a `//` comment or a description comes an EOL; `u` starts on
the last line of `t`, or one line further down if `t` is an EOL -/
def LineR (t u : Token) : Prop := EolRel t u ∧ LineAdjRel t u ∧ EolNextRel t u

theorem LineR.afterLine {t u : Token} (h : LineR t u) (ht : IsLineTok t) : u.ty = .eol := h.1 ht

theorem LineR.sameLine {t u : Token} (h : LineR t u) (ht : t.ty ≠ .eol) : u.start.line = t.end_.line := h.2.1 ht

theorem LineR.nextLine {t u : Token} (h : LineR t u) (ht : t.ty = .eol) : u.start.line = t.end_.line + 1 :=
  h.2.2 ht

theorem LineP.oneLine {cls : Cls} {t : Token} (h : LineP cls t) (ht : t.ty = .comment ∨ t.ty = .eol) :
    t.end_.line = t.start.line := h.2 ht

theorem nextToken_at_lineEnd (cls : Cls) (c : Cur) (rest : List Rune) (h : LineEnd rest) :
    (nextToken cls c rest).tok.ty = .eof ∨ (nextToken cls c rest).tok.ty = .eol := by
  cases rest with
  | nil => exact Or.inl (nextToken_nil cls c).2
  | cons r rs =>
    have hr : r = cNL := by
      rcases h with h | h
      · cases h
      · simpa using h
    subst hr
    rw [nextToken_eol]
    exact Or.inr rfl

theorem allTokens_eolAfter {cls : Cls} {ff : Bool} {src : List Rune} {ts : List Token}
    (h : allTokens cls ff src = .toks ts) : EolAfter none ts :=
  ((allTokens_toks_iff cls ff src ts).mp h).adjChain (R := EolRel)
    (I := fun t _ rest => IsLineTok t → LineEnd rest)
    (fun c rest he => (nextToken_lexed cls c rest he).lineEnd)
    (fun t c rest hI _ hty hl => (nextToken_at_lineEnd cls c rest (hI hl)).resolve_left hty)
    none (fun t ht => by cases ht)

theorem allTokens_eolNext {cls : Cls} (hcls : ClsNL cls) {ff : Bool} {src : List Rune}
    {ts : List Token} (h : allTokens cls ff src = .toks ts) : AdjChain EolNextRel none ts :=
  ((allTokens_toks_iff cls ff src ts).mp h).adjChain (R := EolNextRel)
    (I := fun t c _ => t.ty = .eol → c.nxt.line = t.end_.line + 1) (nextToken_after_eol cls)
    (fun t c rest hI he _ hty => by rw [(nextToken_lines cls hcls c rest he).start, hI hty])
    none (fun t ht => by cases ht)

theorem allTokens_lineAdj {cls : Cls} (hcls : ClsNL cls) {ff : Bool} {src : List Rune}
    {ts : List Token} (h : allTokens cls ff src = .toks ts) : AdjChain LineAdjRel none ts :=
  ((allTokens_toks_iff cls ff src ts).mp h).adjChain (R := LineAdjRel)
    (I := fun t c _ => t.ty ≠ .eol → c.nxt.line = t.end_.line)
    (fun c rest he => (nextToken_lines cls hcls c rest he).after)
    (fun t c rest hI he _ hty => by rw [(nextToken_lines cls hcls c rest he).start, hI hty])
    none (fun t ht => by cases ht)

theorem allTokens_lineChain {cls : Cls} (hcls : ClsNL cls) {ff : Bool} {src : List Rune} {ts : List Token}
    (h : allTokens cls ff src = .toks ts) : (∀ t ∈ ts, LineP cls t) ∧ AdjChain LineR none ts :=
  ⟨((allTokens_toks_iff cls ff src ts).mp h).forall fun c rest he =>
      ⟨nextToken_tokwf cls c rest he, (nextToken_lines cls hcls c rest he).single⟩,
    AdjChain.and _ _ (allTokens_eolAfter h) (AdjChain.and _ _ (allTokens_lineAdj hcls h) (allTokens_eolNext hcls h))⟩

/-! ## Coverage: every rune that is not white space lies inside a token that is not an EOL -/

/-- the runes of the prefix `p` are white space / newlines, or lie in a non-EOL token of `toks` that
ends on the same or a later line -/
def Cover (cls : Cls) (toks : List Token) (p : List Rune) : Prop :=
  ∀ u x v, p = u ++ x :: v → (cls.isSpace x = true ∨ x = cNL) ∨
    ∃ T ∈ toks, T.ty ≠ .eol ∧ (posAfter u).line ≤ T.end_.line

theorem Cover.mono {cls : Cls} {toks toks' : List Token} {p : List Rune} (h : Cover cls toks p)
    (hs : ∀ t ∈ toks, t ∈ toks') : Cover cls toks' p := by
  intro u x v e
  rcases h u x v e with h1 | ⟨T, hT, h2⟩
  · exact Or.inl h1
  · exact Or.inr ⟨T, hs T hT, h2⟩

theorem Cover.append {cls : Cls} {toks : List Token} {p pre : List Rune} (h : Cover cls toks p)
    (hpre : ∀ u x v, pre = u ++ x :: v → (cls.isSpace x = true ∨ x = cNL) ∨
      ∃ T ∈ toks, T.ty ≠ .eol ∧ (posAfter (p ++ u)).line ≤ T.end_.line) :
    Cover cls toks (p ++ pre) := by
  intro u x v e
  rcases List.append_eq_append_iff.mp e with ⟨t, h1, h2⟩ | ⟨t, h1, h2⟩
  ·     rw [h1]; exact hpre t x v h2
  ·     cases t with
    | nil =>
      rw [List.append_nil] at h1
      have := hpre [] x v h2.symm
      rwa [List.append_nil, h1] at this
    | cons y t' =>
      cases (List.cons.inj h2).1
      exact h u x t' h1

/-- the tokens `toks` read so far cover the prefix `p0` of `src`: those and the ones still to come cover
all of it -/
theorem LexAll.cover {cls : Cls} {src : List Rune} {c : Cur} {rest : List Rune} {out : List Token}
    (h : LexAll cls c rest out) : ∀ (p0 : List Rune) (toks : List Token), src = p0 ++ rest →
      (rest ≠ [] → c.nxt = posAfter p0) → Cover cls toks p0 → Cover cls (toks ++ out) src := by
  induction h with
  | @eof c rest he hty =>
    -- EOF: only white space was left
    intro p0 toks hsrc _ hcov
    obtain ⟨hall, _⟩ := (nextToken_eol_eof cls c rest he).2 hty
    rw [hsrc, List.append_nil]
    apply hcov.append
    intro u x v e
    exact Or.inl (Or.inl (hall x (by rw [e]; simp)).1)
  | @step c rest out he hty _ ih =>
    intro p0 toks hsrc hnxt hcov
    obtain ⟨⟨ws, text, hws, hsplit, _, halt⟩, hend⟩ := nextToken_lexed cls c rest he
    have hnxt0 : c.nxt = posAfter p0 := hnxt fun e => by subst e; exact hty (nextToken_nil cls c).2
    have hsrc' : src = (p0 ++ (ws ++ text)) ++ (nextToken cls c rest).rest := by
      rw [hsrc, List.append_assoc, List.append_assoc, ← List.append_assoc ws]; exact congrArg _ hsplit
    have hline : ∀ u x v, ws ++ text = u ++ x :: v →
        (posAfter (p0 ++ u)).line ≤ (nextToken cls c rest).tok.end_.line := by
      intro u x v e
      rw [hend, ← posAfter_append, ← hnxt0]
      apply Pos.line_le_of_le
      rcases halt with ⟨_, hcur⟩ | ⟨_, _, hcur⟩
      · rw [hcur, e]; exact advs_pos_ge c u x v
      · rw [hcur, advEOF_pos, advs_nxt, e, advPos_append]; exact advPos_ge _ _
    have := ih (p0 ++ (ws ++ text)) (toks ++ [(nextToken cls c rest).tok]) hsrc' (fun hne => ?_) ?_
    · simpa only [List.append_assoc, List.singleton_append] using this
    · rcases halt with ⟨_, hcur⟩ | ⟨_, hr, _⟩
      · rw [hcur, advs_nxt, hnxt0, posAfter_append]
      · exact absurd hr hne
    apply (hcov.mono (fun t ht => by simp [ht])).append
    intro u x v e
    by_cases hx : cls.isSpace x = true ∨ x = cNL
    · exact Or.inl hx
    -- a rune that is neither white space nor a newline was not skipped and is not an EOL: it is in the token
    refine Or.inr ⟨_, by simp, fun hE => hx ?_, hline u x v e⟩
    have hmem : x ∈ ws ++ text := by rw [e]; simp
    rcases halt with ⟨hl, _⟩ | ⟨⟨_, h, _⟩ | ⟨h, _⟩, _⟩
    · rw [hE] at hl
      rw [hl.text_of_eol] at hmem
      rcases List.mem_append.mp hmem with h | h
      · exact Or.inl (hws x h).1
      · exact Or.inr (List.mem_singleton.mp h)
    · exact absurd h hty
    · rw [h] at hE; cases hE

theorem allTokens_cover {cls : Cls} {ff : Bool} {src : List Rune} {ts : List Token}
    (h : allTokens cls ff src = .toks ts) : Cover cls ts src := by
  have := ((allTokens_toks_iff cls ff src ts).mp h).cover (src := src) [] [] rfl (fun _ => rfl)
    (fun u x v e => by simp at e)
  simpa using this

end J5V.Bcl
