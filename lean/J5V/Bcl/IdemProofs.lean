import J5V.Bcl.PreserveProofs
import J5V.Bcl.SpanProofs
import J5V.Bcl.IdemTextProofs
/-!
# Formatting twice changes nothing (lemmas for `C09_idempotent`)

The text printed for the fragments read back from the formatter's output is the text printed for the
original fragments (IdemTextProofs).  What remains is the blank-line decision between consecutive fragments:
`rounds_real` follows the rounds of the fragment loop over the real tokens of the output (whose erasure is
`fileToks`) along the known erased rounds, and computes the line numbers of the fragments read back from the
line facts of lexed tokens (`WI (LineP cls) LineR`) and `FragRun.span`.
-/
namespace J5V.Bcl

/-- how the end of the previous fragment (`le` in the source, `le'` in the output) is tied to the walker state:
in the output the last token read is the previous fragment's EOL -/
def Link (le le' : Option Nat) (w : W) : Prop :=
  match le with
  | none => le' = none
  | some _ => ∃ e, w.prev = some e ∧ e.ty = .eol ∧ le' = some (e.end_.line + 1)

/-- in the output the next token starts on the line `le'` names -/
theorem Link.next {cls : Cls} {le le' : Option Nat} {p : Option Token} {t : Token} {ts : List Token}
    (h : Link le le' ⟨p, t :: ts⟩) (hWI : WI (LineP cls) LineR ⟨p, t :: ts⟩) :
    le' = le.map fun _ => t.start.line := by
  cases le with
  | none => exact h
  | some l =>
    obtain ⟨e, hpe, hee, hle'⟩ := h
    cases hpe
    rw [hle', (hWI.rel rfl).nextLine hee]
    rfl

theorem erase_eq_eolTok {t : Token} (h : t.erase = eolTok) : t.ty = .eol := by
  have := congrArg Token.ty h
  simpa [Token.erase, eolTok] using this

theorem gapBefore_true_some {le : Option Nat} {n : Nat} (h : gapBefore le n = true) : ∃ l, le = some l := by
  cases le with
  | none => simp [gapBefore] at h
  | some l => exact ⟨l, rfl⟩

/-- a fragment whose erasure is the normal form of `f` leaves its EOL to the loop when `f` does -/
theorem NoEnd.of_norm {cls : Cls} {indent : Nat} {f' f : Fragment} (h : NoEnd f)
    (hn : f'.erase = normFrag cls indent f) : NoEnd f' := by
  rcases normFrag_cases hn with ⟨d', _, rfl, _, _⟩ | ⟨hnd, he⟩
  · exact NoEnd.desc d'
  · clear hn hnd
    cases f' <;> cases f <;> simp only [Fragment.erase, reduceCtorEq, Fragment.header.injEq] at he
    case header.header hd k =>
      obtain ⟨ho, hc⟩ := h.2 k rfl
      refine NoEnd.header ((congrArg BlockHeader.isOpen he).trans ho) ?_
      have h2 : hd.src.comment.map CommentNode.erase = k.src.comment.map CommentNode.erase :=
        congrArg (fun b => b.src.comment) he
      rw [hc] at h2
      cases hcm : hd.src.comment with
      | none => rfl
      | some c => rw [hcm] at h2; cases h2
    case assign.assign a b => exact absurd rfl (h.1 b)
    case desc.desc d e => exact NoEnd.desc d
    case comment.comment c _ => exact NoEnd.comment c
    case close.close c _ => exact NoEnd.close c

/-- the fragment `f'` read back for `f` from `w`; then the walker stands at `w'` behind the fragment's EOL `e`,
in front of the real tokens of `R` -/
structure RealRound (cls : Cls) (indent : Nat) (f f' : Fragment) (R : List Token) (w w' : W) (e : Token) :
    Prop where
  erase : f'.erase = normFrag cls indent f
  start : ∃ t ts, w.rest = t :: ts ∧ f'.src.start = t.start
  wi : WI (LineP cls) LineR w'
  noEof : ∀ t ∈ w'.rest, t.ty ≠ .eof
  rest : w'.rest.map Token.erase = R
  prev : w'.prev = some e
  eol : e.ty = .eol
  line : e.end_.line = f'.src.end_.line

theorem round_real (cls : Cls) (indent : Nat) (f : Fragment) (hwf : FragWF cls f) (R : List Token)
    (hdesc : ∀ d, f = .desc d → headTy R ≠ some .description) {w : W} {out : List Fragment}
    (hWI : WI (LineP cls) LineR w) (hne : ∀ t ∈ w.rest, t.ty ≠ .eof)
    (hshape : w.rest.map Token.erase = fragToks cls indent f ++ R) (hruns : FragsRun w out) :
    ∃ f' out' w' e, out = f' :: out' ∧ RealRound cls indent f f' R w w' e ∧ FragsRun w' out' := by
  -- the round over the erased tokens is known (`fragRun_frag`); the round over the real tokens mirrors it
  have he : w.erase = ⟨w.prev.map Token.erase, fragToks cls indent f ++ R⟩ := by
    simp [W.erase, hshape]
  obtain ⟨we, hfr, hr⟩ := fragRun_frag cls indent f hwf (w.prev.map Token.erase) R hdesc
  rw [← he] at hfr
  obtain ⟨x', w2, hx, hxe, rfl⟩ := hfr.mirror
  cases x' with
  | none => simp at hxe
  | some f' =>
    simp only [Option.map_some, Option.some.injEq] at hxe
    obtain ⟨hstart, hend, hprevEol, ⟨p, hp⟩⟩ := hx.span (hWI.noEof hne)
    have hWI2 : WI (LineP cls) LineR w2 := hWI.drop hx.drop
    have hne2 : ∀ t ∈ w2.rest, t.ty ≠ .eof := fun t ht => hne t (hx.drop.subset t ht)
    obtain ⟨out2, rfl, hruns2⟩ := hruns.frag_inv hx
    have hcur : w2.currentPos = p.end_ := currentPos_of_prev hp
    rw [W.erase_rest] at hr
    rcases hr with ⟨hw2r, hw2p⟩ | ⟨hw2r, hno⟩
    · -- the EOL was read by `endStatement`
      rw [W.erase_prev] at hw2p
      have hpe2 : p.erase = eolTok := by
        rw [hp] at hw2p; simpa using hw2p
      exact ⟨f', out2, w2, p, rfl, ⟨hxe, hstart, hWI2, hne2, hw2r, hp, erase_eq_eolTok hpe2,
        by rw [← hend, hcur]⟩, hruns2⟩
    · -- the EOL is the next token
      obtain ⟨e2, rs2, hw2rest, he2e, hrs2⟩ := List.map_eq_cons_iff.mp hw2r
      have he2 : e2.ty = .eol := erase_eq_eolTok he2e
      -- the last token read is not an EOL
      have hpne : p.ty ≠ .eol := by
        intro hpe
        have hno' := hno.of_norm hxe
        rcases hprevEol p hp hpe with ⟨a, ha⟩ | ⟨hd, hhd, hopen⟩
        · exact hno'.1 a ha
        · obtain ⟨ho, hc⟩ := hno'.2 hd hhd
          rcases hopen with q | q
          · rw [ho] at q; cases q
          · exact q hc
      have hw2eq : w2 = ⟨some p, e2 :: rs2⟩ := W.eq_mk hp hw2rest
      rw [hw2eq] at hWI2 hne2 hruns2
      have hrel : LineR p e2 := hWI2.rel rfl
      have hline : e2.end_.line = f'.src.end_.line := by
        have h1 : e2.start.line = p.end_.line := hrel.sameLine hpne
        have h2 : e2.end_.line = e2.start.line := hWI2.head.oneLine (Or.inr he2)
        rw [h2, h1, ← hend, hcur]
      exact ⟨f', out2, ⟨some e2, rs2⟩, e2, rfl, ⟨hxe, hstart, WI.tail hWI2,
        fun t ht => hne2 t (by simp [ht]), hrs2, rfl, he2, hline⟩, hruns2.eol he2⟩

/-- the fragments read back over the real tokens of a formatted file have the same blank-line decisions as the
original fragments -/
theorem rounds_real (cls : Cls) : ∀ (frags : List Fragment) (indent : Nat) (le le' : Option Nat)
    (w : W) (out : List Fragment),
    (∀ f ∈ frags, FragWF cls f) → DescGaps frags → WI (LineP cls) LineR w →
    (∀ t ∈ w.rest, t.ty ≠ .eof) →
    w.rest.map Token.erase = fileToks cls indent le frags → Link le le' w → FragsRun w out →
    gapsOf le' out = gapsOf le frags := by
  intro frags
  induction frags with
  | nil =>
    intro indent le le' w out _ _ _ _ hshape _ hruns
    have hrest : w.rest = [] := by simpa [fileToks] using hshape
    cases hruns with
    | eof _ => rfl
    | skip hne _ _ => exact absurd (nextType_of_rest_nil hrest) hne
    | frag hne _ _ => exact absurd (nextType_of_rest_nil hrest) hne
  | cons f fs ih =>
    intro indent le le' w out hwf hg hWI hne hshape hlink hruns
    obtain ⟨hwf_fs, hg_fs, hdesc⟩ := fileToks_cons_facts cls indent f fs hwf hg
    rw [fileToks_cons] at hshape
    obtain ⟨hfrom, hto⟩ := fmtFragment_lines cls indent f
    generalize hR : fileToks cls (fmtFragment cls indent f).2
      (some (fmtFragment cls indent f).1.toLine) fs = R at hshape hdesc
    -- from the state `w1` in front of the fragment's tokens, where the blank-line decision is the source's
    have main : ∀ (w1 : W), WI (LineP cls) LineR w1 → (∀ t ∈ w1.rest, t.ty ≠ .eof) →
        w1.rest.map Token.erase = fragToks cls indent f ++ R →
        (∀ t ts, w1.rest = t :: ts → gapBefore le' t.start.line = gapBefore le f.src.start.line) →
        FragsRun w1 out →
        gapsOf le' out = gapsOf le (f :: fs) := by
      intro w1 hWI1 hne1 hshape1 hstart hruns1
      obtain ⟨f', out', w', e, rfl, hr, hruns'⟩ :=
        round_real cls indent f (hwf f (by simp)) R hdesc hWI1 hne1 hshape1 hruns1
      obtain ⟨t, ts, hrest1, hst⟩ := hr.start
      have hg2 := ih (fmtFragment cls indent f).2
        (some (fmtFragment cls indent f).1.toLine) (some (f'.src.end_.line + 1)) w'
        out' hwf_fs hg_fs hr.wi hr.noEof (by rw [hR]; exact hr.rest) ⟨e, hr.prev, hr.eol, by rw [hr.line]⟩ hruns'
      simp only [gapsOf]
      rw [hst, hstart t ts hrest1, hg2, hto]
    -- the blank line in front of the fragment
    obtain ⟨p, rest⟩ := w
    cases hgp : gapBefore le (fmtFragment cls indent f).1.fromLine with
    | false =>
      rw [hgp] at hshape
      simp only [Bool.false_eq_true, if_false, List.nil_append] at hshape
      refine main _ hWI hne hshape ?_ hruns
      intro t ts hrest
      cases hrest
      rw [← hfrom, hgp, hlink.next hWI]
      cases le <;> simp [gapBefore]
    | true =>
      rw [hgp] at hshape
      simp only [if_true, List.cons_append, List.nil_append] at hshape
      obtain ⟨l, rfl⟩ := gapBefore_true_some hgp
      obtain ⟨eg, rest1, hwrest, hege, hrest1⟩ := List.map_eq_cons_iff.mp hshape
      cases hwrest
      have heg : eg.ty = .eol := erase_eq_eolTok hege
      refine main ⟨some eg, rest1⟩ hWI.tail (fun t ht => hne t (by simp [ht])) hrest1 ?_ (hruns.eol heg)
      intro t ts hrest
      cases hrest
      rw [← hfrom, hgp, hlink.next hWI, (hWI.tail.rel rfl).nextLine heg, hWI.head.oneLine (Or.inr heg)]
      simp [gapBefore]

/-- **formatting the formatter's output changes nothing** -/
theorem fmt_idempotent (cls : Cls) (hcls : ClsOK cls) (src out : List Rune)
    (h : fmt cls src = .ok out) : fmt cls out = .ok out := by
  obtain ⟨frags, hcf, rfl⟩ := fmt_ok_inv cls src out h
  have hwf := collectFragments_fragWF cls src frags hcf
  have hgaps := collectFragments_descGaps cls hcls.clsNL src frags hcf
  obtain ⟨_, ts', frags', hts', hshape, hwk', hnorm⟩ := fmt_roundtrip cls hcls src frags hcf
  have hWI : WI (LineP cls) LineR ⟨none, ts'⟩ := allTokens_lineChain hcls.clsNL hts'
  have hne := allTokens_noEof hts'
  have hg := rounds_real cls frags 0 none none ⟨none, ts'⟩ frags' hwf hgaps hWI hne hshape rfl
    (walkFragments_done hwk').2
  have hcf' := collectFragments_of hts' hwk'
  have : fmt cls (fmtJoin (diffFile cls 0 frags) none) = .ok (fmtJoin (diffFile cls 0 frags') none) := by
    simp [fmt, hcf']
  rw [this, fmtJoin_congr cls frags' frags 0 none none hnorm hcls.spSpace hg]

end J5V.Bcl
