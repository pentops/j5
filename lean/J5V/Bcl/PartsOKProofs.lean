import J5V.Bcl.LexerProofs
import J5V.Bcl.FmtInv
/-!
# The part lists the formatter prints for a well-formed fragment satisfy `PartsOK`

`PartsOK ps tail` asks of every token in `ps` that the text printed behind it does not continue it (`FollowOK`).
What stands behind a token of a printed line is a space, one of `,` `]` `:`, a newline, or the `.` of a dotted
name: the text is empty or starts with a rune at which identifiers, numbers and regexes all stop (`Stop`).
-/
namespace J5V.Bcl

/-! ## text that starts with a separator -/

/-- the text is empty, or starts with a rune that stops identifiers, numbers and regexes -/
structure Stop (cls : Cls) (s : List Rune) : Prop where
  ident : IdentStop cls s
  number : NumberStop cls s
  regex : s.head? ≠ some cSLASH

theorem identStop_cons (cls : Cls) (hcls : ClsOK cls) (r : Rune) (hr : r ∈ sepRunes)
    (s : List Rune) : IdentStop cls (r :: s) := by
  intro x hx
  simp only [List.head?_cons, Option.some.injEq] at hx
  subst hx
  have h := hcls.sep r hr
  intro hc
  rcases hc with hc | hc | hc
  · rw [h.1] at hc; cases hc
  · rw [h.2] at hc; cases hc
  · subst hc; revert hr; decide

/-- space, newline, `,`, `]`, `:` in front: everything stops -/
theorem stop_cons (cls : Cls) (hcls : ClsOK cls) (r : Rune)
    (hr : r = cSP ∨ r = cNL ∨ r = 44 ∨ r = 93 ∨ r = 58) (s : List Rune) : Stop cls (r :: s) := by
  have hmem : r ∈ sepRunes := by
    rcases hr with h | h | h | h | h <;> subst h <;> decide
  refine ⟨identStop_cons cls hcls r hmem s, ?_, ?_⟩
  · intro x hx
    simp only [List.head?_cons, Option.some.injEq] at hx
    subst hx
    refine ⟨(hcls.sep r hmem).2, ?_⟩
    rcases hr with h | h | h | h | h <;> subst h <;> decide
  · simp only [List.head?_cons, ne_eq, Option.some.injEq]
    rcases hr with h | h | h | h | h <;> subst h <;> decide

/-- what follows the parts of a line: the trailing comment (after a space) or the newline -/
theorem stop_lineTail (cls : Cls) (hcls : ClsOK cls) (cm : Option CommentNode) (tail : List Rune) :
    Stop cls (inlineComment cm ++ cNL :: tail) := by
  cases cm with
  | none => exact stop_cons cls hcls cNL (Or.inr (Or.inl rfl)) tail
  | some c => exact stop_cons cls hcls cSP (Or.inl rfl) _


theorem followOK_identlike (cls : Cls) (t : Token) (h : t.ty = .ident ∨ t.ty = .bool)
    (s : List Rune) (hs : IdentStop cls s) : FollowOK cls (lexTy t) s := by
  unfold lexTy
  rw [if_pos h]
  split <;> exact hs

theorem followOK_of_stop (cls : Cls) (ty : TokenType) (s : List Rune) (hs : Stop cls s)
    (h1 : ty ≠ .comment) (h2 : ty ≠ .description) : FollowOK cls ty s := by
  unfold FollowOK
  split
  · exact hs.regex
  · exact hs.ident
  · exact hs.ident
  · exact hs.number
  · exact hs.number
  · exact absurd rfl h1
  · exact absurd rfl h2
  · trivial

theorem lexTy_of_not_identlike (t : Token) (h1 : t.ty ≠ .ident) (h2 : t.ty ≠ .bool) :
    lexTy t = t.ty := by
  unfold lexTy
  rw [if_neg (by rintro (h | h) <;> contradiction)]


theorem partsOK_append (cls : Cls) (a b : List Token) (tail : List Rune) :
    PartsOK cls (a ++ b) tail ↔
      PartsOK cls a (b.flatMap tokenSource ++ tail) ∧ PartsOK cls b tail := by
  induction a with
  | nil => simp [PartsOK]
  | cons t a ih =>
    simp only [List.cons_append, PartsOK, ih, List.flatMap_append, List.append_assoc]
    constructor
    · rintro ⟨h1, h2, h3⟩; exact ⟨⟨h1, h2⟩, h3⟩
    · rintro ⟨⟨h1, h2⟩, h3⟩; exact ⟨h1, h2, h3⟩

theorem partsOK_space_cons (cls : Cls) (ps : List Token) (tail : List Rune)
    (h : PartsOK cls ps tail) : PartsOK cls (newToken .space [cSP] :: ps) tail :=
  ⟨Or.inl ⟨rfl, rfl⟩, h⟩

theorem partWF_op (cls : Cls) (ty : TokenType) (r : Rune) (hop : ty.isOperator = true)
    (hr : operatorOf r = some ty) : PartWF cls (newToken ty [r]) :=
  Or.inr ⟨(by show ty ≠ .ident; rintro rfl; cases hop), (by show ty ≠ .bool; rintro rfl; cases hop),
    Or.inr hop, operatorOf_isOp hr⟩

theorem followOK_op (cls : Cls) (ty : TokenType) (hop : ty.isOperator = true) (s : List Rune) :
    FollowOK cls ty s := by
  unfold FollowOK
  split <;> first | cases hop | trivial

theorem partsOK_op_cons (cls : Cls) (ty : TokenType) (r : Rune) (hop : ty.isOperator = true)
    (hr : operatorOf r = some ty) (ps : List Token) (tail : List Rune) (h : PartsOK cls ps tail) :
    PartsOK cls (newToken ty [r] :: ps) tail := by
  refine ⟨Or.inr ⟨partWF_op cls ty r hop hr, ?_⟩, h⟩
  rw [lexTy_of_not_identlike]
  · exact followOK_op cls ty hop _
  · show ty ≠ .ident
    rintro rfl; exact absurd hop (by decide)
  · show ty ≠ .bool
    rintro rfl; exact absurd hop (by decide)

theorem partsOK_cons (cls : Cls) (t : Token) (ps : List Token) (tail : List Rune)
    (hwf : PartWF cls t) (hf : FollowOK cls (lexTy t) (ps.flatMap tokenSource ++ tail))
    (h : PartsOK cls ps tail) : PartsOK cls (t :: ps) tail :=
  ⟨Or.inr ⟨hwf, hf⟩, h⟩

theorem partsOK_nil (cls : Cls) (tail : List Rune) : PartsOK cls [] tail := trivial


theorem tokenSource_dot : tokenSource (newToken .dot [cDOT]) = [cDOT] := rfl

theorem identStop_dotted (cls : Cls) (hcls : ClsOK cls) (is : List Ident) (tail : List Rune)
    (ht : IdentStop cls tail) :
    IdentStop cls
      ((is.flatMap fun p => [newToken .dot [cDOT], p.token]).flatMap tokenSource ++ tail) := by
  cases is with
  | nil => simpa using ht
  | cons p is =>
    simp only [List.flatMap_cons, List.cons_append, List.nil_append, tokenSource_dot]
    exact identStop_cons cls hcls cDOT (by decide) _

theorem dotted_partsOK (cls : Cls) (hcls : ClsOK cls) (is : List Ident)
    (h : ∀ i ∈ is, IdentWF cls i) (tail : List Rune) (ht : IdentStop cls tail) :
    PartsOK cls (is.flatMap fun p => [newToken .dot [cDOT], p.token]) tail := by
  induction is with
  | nil => exact trivial
  | cons p is ih =>
    have hp := h p (by simp)
    simp only [List.flatMap_cons, List.cons_append, List.nil_append]
    refine partsOK_op_cons cls .dot cDOT rfl (by decide) _ _ ?_
    refine partsOK_cons cls _ _ _ (Or.inl ⟨Or.inl hp.1, hp.2.1⟩) ?_
      (ih fun i hi => h i (by simp [hi]))
    exact followOK_identlike cls _ (Or.inl hp.1) _ (identStop_dotted cls hcls is tail ht)

theorem referenceTokens_partsOK (cls : Cls) (hcls : ClsOK cls) (r : Reference)
    (hwf : RefWF cls r) (tail : List Rune) (ht : IdentStop cls tail) :
    PartsOK cls (referenceTokens r) tail := by
  unfold referenceTokens
  obtain ⟨_, hall⟩ := hwf
  cases hi : r.idents with
  | nil => exact trivial
  | cons i is =>
    rw [hi] at hall
    have hp := hall i (by simp)
    show PartsOK cls (i.token :: _) tail
    refine partsOK_cons cls _ _ _ (Or.inl ⟨Or.inl hp.1, hp.2.1⟩) ?_
      (dotted_partsOK cls hcls is (fun j hj => hall j (by simp [hj])) tail ht)
    exact followOK_identlike cls _ (Or.inl hp.1) _ (identStop_dotted cls hcls is tail ht)


theorem partWF_scalar (cls : Cls) (t : Token) (h : ScalarWF cls t) : PartWF cls t := by
  by_cases hb : t.ty = .bool
  · exact Or.inl ⟨Or.inr hb, (h.2.2.of_bool hb).1⟩
  · exact Or.inr ⟨h.1, hb, Or.inl h.2.1, h.2.2⟩

theorem lexTy_scalar (cls : Cls) (t : Token) (h : ScalarWF cls t) : lexTy t = t.ty := by
  by_cases hb : t.ty = .bool
  · unfold lexTy
    rw [if_pos (Or.inr hb), if_pos (h.2.2.of_bool hb).2, hb]
  · exact lexTy_of_not_identlike t h.1 hb

theorem scalar_partsOK (cls : Cls) (t : Token) (h : ScalarWF cls t) (tail : List Rune)
    (hf : FollowOK cls t.ty tail) : PartsOK cls [t] tail := by
  refine partsOK_cons cls t [] tail (partWF_scalar cls t h) ?_ trivial
  rw [lexTy_scalar cls t h]
  simpa using hf

theorem stop_valueList (cls : Cls) (hcls : ClsOK cls) (vs : List Value) (tail : List Rune)
    (ht : Stop cls tail) : Stop cls ((valueListTokens false vs).flatMap tokenSource ++ tail) := by
  cases vs with
  | nil => simpa [valueListTokens] using ht
  | cons v vs =>
    have : tokenSource (newToken .comma [44]) = [44] := rfl
    simp only [valueListTokens, Bool.false_eq_true, if_false, List.cons_append, List.nil_append,
      List.flatMap_cons, this]
    exact stop_cons cls hcls 44 (by decide) _

/-- `[` elements `]` once the elements are fine in front of a separator -/
theorem array_partsOK (cls : Cls) (hcls : ClsOK cls) (vs : List Value)
    (hl : ∀ tail, Stop cls tail → PartsOK cls (valueListTokens true vs) tail) (tail : List Rune) :
    PartsOK cls ([newToken .lbrack [91]] ++ valueListTokens true vs ++ [newToken .rbrack [93]])
      tail := by
  rw [List.append_assoc, partsOK_append, partsOK_append]
  have h93 : tokenSource (newToken .rbrack [93]) = [93] := rfl
  refine ⟨partsOK_op_cons cls .lbrack 91 rfl (by decide) _ _ trivial, ?_,
    partsOK_op_cons cls .rbrack 93 rfl (by decide) _ _ trivial⟩
  apply hl
  simp only [List.flatMap_cons, List.flatMap_nil, List.append_nil, h93, List.cons_append,
    List.nil_append]
  exact stop_cons cls hcls 93 (by decide) _

mutual
theorem valueTokens_partsOK (cls : Cls) (hcls : ClsOK cls) :
    (v : Value) → ValueWF cls v → (tail : List Rune) → Stop cls tail →
      PartsOK cls (valueTokens v) tail
  | .scalar t _, hwf, tail, ht => by
    simp only [ValueWF] at hwf
    simp only [valueTokens]
    exact scalar_partsOK cls t hwf.1 tail (followOK_of_stop cls _ _ ht hwf.2.1 hwf.2.2)
  | .array vs _, hwf, tail, _ => by
    simp only [ValueWF] at hwf
    simp only [valueTokens]
    exact array_partsOK cls hcls vs
      (fun tl htl => valueListTokens_partsOK cls hcls true vs hwf tl htl) tail
theorem valueListTokens_partsOK (cls : Cls) (hcls : ClsOK cls) (first : Bool) :
    (vs : List Value) → ValueListWF cls vs → (tail : List Rune) → Stop cls tail →
      PartsOK cls (valueListTokens first vs) tail
  | [], _, _, _ => by simp only [valueListTokens]; exact trivial
  | v :: vs, hwf, tail, ht => by
    simp only [ValueListWF] at hwf
    simp only [valueListTokens]
    rw [partsOK_append, partsOK_append]
    refine ⟨⟨?_, valueTokens_partsOK cls hcls v hwf.1 _ (stop_valueList cls hcls vs tail ht)⟩,
      valueListTokens_partsOK cls hcls false vs hwf.2 tail ht⟩
    cases first with
    | true => exact partsOK_nil cls _
    | false =>
      exact partsOK_op_cons cls .comma 44 rfl (by decide) _ _
        (partsOK_space_cons cls _ _ (partsOK_nil cls _))
end

theorem topValue_partsOK (cls : Cls) (hcls : ClsOK cls) (v : Value) (cm : Option CommentNode)
    (hwf : TopValueWF cls v cm) (tail : List Rune) :
    PartsOK cls (valueTokens v) (inlineComment cm ++ cNL :: tail) := by
  cases v with
  | scalar t sp =>
    simp only [TopValueWF] at hwf
    simp only [valueTokens]
    refine scalar_partsOK cls t hwf.1 _ ?_
    by_cases hc : t.ty = .comment ∨ t.ty = .description
    · rw [hwf.2 hc]
      have : LineEnd (inlineComment none ++ cNL :: tail) := Or.inr rfl
      rcases hc with hc | hc <;> rw [hc] <;> exact this
    · exact followOK_of_stop cls _ _ (stop_lineTail cls hcls cm tail)
        (fun h => hc (Or.inl h)) (fun h => hc (Or.inr h))
  | array vs sp =>
    simp only [TopValueWF] at hwf
    simp only [valueTokens]
    exact array_partsOK cls hcls vs
      (fun tl htl => valueListTokens_partsOK cls hcls true vs hwf tl htl) _

/-! ## stored non-identifier tokens -/

theorem partsOK_lit_cons (cls : Cls) (t : Token) (h1 : t.ty ≠ .ident) (h2 : t.ty ≠ .bool)
    (hl : t.ty.isLiteral = true ∨ t.ty.isOperator = true) (hwf : TokLitWF cls t)
    (ps : List Token) (tail : List Rune) (hf : FollowOK cls t.ty (ps.flatMap tokenSource ++ tail))
    (h : PartsOK cls ps tail) : PartsOK cls (t :: ps) tail := by
  refine partsOK_cons cls t ps tail (Or.inr ⟨h1, h2, hl, hwf⟩) ?_ h
  rw [lexTy_of_not_identlike t h1 h2]
  exact hf

theorem partsOK_storedOp_cons (cls : Cls) (t : Token) (hop : t.ty.isOperator = true)
    (hwf : TokLitWF cls t) (ps : List Token) (tail : List Rune) (h : PartsOK cls ps tail) :
    PartsOK cls (t :: ps) tail := by
  refine partsOK_lit_cons cls t ?_ ?_ (Or.inr hop) hwf ps tail (followOK_op cls _ hop _) h
  · intro e; rw [e] at hop; exact absurd hop (by decide)
  · intro e; rw [e] at hop; exact absurd hop (by decide)


theorem MarkWF.marked {cls : Cls} {t : TagValue} (h : MarkWF cls t) (hm : t.mark ≠ .none) :
    ((t.mark = .bang ∧ t.markToken.ty = .bang) ∨
      (t.mark = .question ∧ t.markToken.ty = .question)) ∧ TokLitWF cls t.markToken := by
  unfold MarkWF at h
  cases hmk : t.mark with
  | none => exact absurd hmk hm
  | bang => rw [hmk] at h; exact ⟨Or.inl ⟨rfl, h.1⟩, h.2⟩
  | question => rw [hmk] at h; exact ⟨Or.inr ⟨rfl, h.1⟩, h.2⟩

theorem tagTokens_partsOK (cls : Cls) (hcls : ClsOK cls) (t : TagValue) (hwf : TagWF cls t)
    (tail : List Rune) (ht : IdentStop cls tail) : PartsOK cls (tagTokens t) tail := by
  obtain ⟨hmark, hval⟩ := hwf
  unfold tagTokens
  rw [partsOK_append, partsOK_append]
  refine ⟨⟨?_, ?_⟩, ?_⟩
  · by_cases hm : t.mark = .none
    · rw [if_neg (fun h => h hm)]; exact partsOK_nil cls _
    · rw [if_pos hm]
      obtain ⟨hty, hlit⟩ := hmark.marked hm
      exact partsOK_storedOp_cons cls _ (by rcases hty with ⟨_, e⟩ | ⟨_, e⟩ <;> rw [e] <;> rfl) hlit _ _
        (partsOK_space_cons cls _ _ (partsOK_nil cls _))
  · rcases hval with ⟨r, _, hv, _⟩ | ⟨tok, sp, _, hv, hty⟩
    · rw [hv]; exact partsOK_nil cls _
    · rw [hv]
      have hwf : TokLitWF cls tok := by unfold TokLitWF; rw [hty]; trivial
      refine partsOK_lit_cons cls tok (by rw [hty]; decide) (by rw [hty]; decide)
        (Or.inl (by rw [hty]; rfl)) hwf _ _ ?_ (partsOK_nil cls _)
      rw [hty]; trivial
  · rcases hval with ⟨r, hr, _, hrwf⟩ | ⟨tok, sp, hr, _, _⟩
    · rw [hr]; exact referenceTokens_partsOK cls hcls r hrwf tail ht
    · rw [hr]; exact partsOK_nil cls _

theorem identStop_nil (cls : Cls) : IdentStop cls [] := by
  intro r hr; cases hr

theorem identStop_append (cls : Cls) (a b : List Rune) (ha : IdentStop cls a)
    (hb : IdentStop cls b) : IdentStop cls (a ++ b) := by
  cases a with
  | nil => exact hb
  | cons x a => intro r hr; exact ha r hr

/-- the source of a list of tags, each after the separator token `s` -/
theorem identStop_tagListSrc (cls : Cls) (hcls : ClsOK cls) (s : Token) (r : Rune)
    (hr : r ∈ sepRunes) (hsrc : tokenSource s = [r]) (ts : List TagValue) :
    IdentStop cls ((ts.flatMap fun t => s :: tagTokens t).flatMap tokenSource) := by
  cases ts with
  | nil => exact identStop_nil cls
  | cons t ts =>
    simp only [List.flatMap_cons, List.cons_append, List.flatMap_append, hsrc, List.nil_append]
    exact identStop_cons cls hcls r hr _

theorem tagList_partsOK (cls : Cls) (hcls : ClsOK cls) (s : Token) (r : Rune)
    (hr : r ∈ sepRunes) (hsrc : tokenSource s = [r])
    (hs : ∀ ps tail, PartsOK cls ps tail → PartsOK cls (s :: ps) tail) (ts : List TagValue)
    (hwf : ∀ t ∈ ts, TagWF cls t) (tail : List Rune) (ht : IdentStop cls tail) :
    PartsOK cls (ts.flatMap fun t => s :: tagTokens t) tail := by
  induction ts with
  | nil => exact partsOK_nil cls _
  | cons t ts ih =>
    simp only [List.flatMap_cons]
    rw [partsOK_append]
    refine ⟨hs _ _ (tagTokens_partsOK cls hcls t (hwf t (by simp)) _ ?_),
      ih fun x hx => hwf x (by simp [hx])⟩
    exact identStop_append cls _ _ (identStop_tagListSrc cls hcls s r hr hsrc ts) ht


theorem header_core (cls : Cls) (hcls : ClsOK cls) (h : BlockHeader) (hty : RefWF cls h.type)
    (htags : ∀ t ∈ h.tags, TagWF cls t) (hquals : ∀ t ∈ h.qualifiers, TagWF cls t)
    (dp : List Token) (T : List Rune) (hS : IdentStop cls (dp.flatMap tokenSource ++ T))
    (hdp : PartsOK cls dp T) :
    PartsOK cls
      (referenceTokens h.type ++
        h.tags.flatMap (fun t => newToken .space [cSP] :: tagTokens t) ++
        h.qualifiers.flatMap (fun t => newToken .colon [58] :: tagTokens t) ++
        (if h.isOpen then [newToken .space [cSP], newToken .lbrace [123]] else []) ++ dp) T := by
  rw [partsOK_append, partsOK_append, partsOK_append, partsOK_append]
  have hOpen : IdentStop cls
      ((if h.isOpen then [newToken .space [cSP], newToken .lbrace [123]] else []).flatMap
          tokenSource ++ (dp.flatMap tokenSource ++ T)) := by
    cases h.isOpen with
    | false => simpa using hS
    | true =>
      have : tokenSource (newToken .space [cSP]) = [cSP] := rfl
      simp only [if_true, List.flatMap_cons, this, List.cons_append, List.nil_append]
      exact identStop_cons cls hcls cSP (by decide) _
  have hQ := identStop_append cls _ _
    (identStop_tagListSrc cls hcls (newToken .colon [58]) 58 (by decide) rfl h.qualifiers) hOpen
  have hTg := identStop_append cls _ _
    (identStop_tagListSrc cls hcls (newToken .space [cSP]) cSP (by decide) rfl h.tags) hQ
  refine ⟨⟨⟨⟨?_, ?_⟩, ?_⟩, ?_⟩, hdp⟩
  · exact referenceTokens_partsOK cls hcls h.type hty _ hTg
  · exact tagList_partsOK cls hcls _ cSP (by decide) rfl
      (fun ps tl hp => partsOK_space_cons cls ps tl hp) h.tags htags _ hQ
  · exact tagList_partsOK cls hcls _ 58 (by decide) rfl
      (fun ps tl hp => partsOK_op_cons cls .colon 58 rfl (by decide) ps tl hp) h.qualifiers
      hquals _ hOpen
  · cases h.isOpen with
    | false => exact partsOK_nil cls _
    | true =>
      exact partsOK_space_cons cls _ _
        (partsOK_op_cons cls .lbrace 123 rfl (by decide) _ _ (partsOK_nil cls _))

theorem headerTokens_partsOK (cls : Cls) (hcls : ClsOK cls) (h : BlockHeader)
    (hwf : HeaderWF cls h) (tail : List Rune) :
    PartsOK cls (headerTokens h) (inlineComment h.src.comment ++ cNL :: tail) := by
  obtain ⟨hty, htags, hquals, _, hdesc⟩ := hwf
  have hT := stop_lineTail cls hcls h.src.comment tail
  unfold headerTokens
  refine header_core cls hcls h hty htags hquals _ _ ?_ ?_
  · cases hd : h.description with
    | none => simpa using hT.ident
    | some d =>
      have : tokenSource (newToken .space [cSP]) = [cSP] := rfl
      simp only [List.flatMap_cons, this, List.cons_append, List.nil_append]
      exact identStop_cons cls hcls cSP (by decide) _
  · cases hd : h.description with
    | none => exact partsOK_nil cls _
    | some d =>
      obtain ⟨_, hcm, tok, htoks, htokty, htokwf, _⟩ := hdesc d hd
      simp only [htoks, hcm]
      refine partsOK_space_cons cls _ _ (partsOK_lit_cons cls tok (by rw [htokty]; decide)
        (by rw [htokty]; decide) (Or.inl (by rw [htokty]; rfl)) htokwf _ _ ?_ (partsOK_nil cls _))
      rw [htokty]
      exact Or.inr rfl

/-! ## assignments, `}` and comment lines -/

theorem assignTokens_partsOK (cls : Cls) (hcls : ClsOK cls) (a : Assignment)
    (hwf : AssignWF cls a) (tail : List Rune) :
    PartsOK cls (assignTokens a) (inlineComment a.src.comment ++ cNL :: tail) := by
  obtain ⟨hkey, hval, _⟩ := hwf
  unfold assignTokens
  rw [partsOK_append, partsOK_append]
  refine ⟨⟨referenceTokens_partsOK cls hcls a.key hkey _ ?_, ?_⟩,
    topValue_partsOK cls hcls a.value a.src.comment hval tail⟩
  · have : tokenSource (newToken .space [cSP]) = [cSP] := rfl
    cases a.append <;>
      simp only [if_true, Bool.false_eq_true, if_false, List.flatMap_cons, this, List.cons_append,
        List.nil_append] <;>
      exact identStop_cons cls hcls cSP (by decide) _
  · cases a.append with
    | false =>
      exact partsOK_space_cons cls _ _ (partsOK_op_cons cls .assign 61 rfl (by decide) _ _
        (partsOK_space_cons cls _ _ (partsOK_nil cls _)))
    | true =>
      exact partsOK_space_cons cls _ _ (partsOK_op_cons cls .plus 43 rfl (by decide) _ _
        (partsOK_op_cons cls .assign 61 rfl (by decide) _ _
          (partsOK_space_cons cls _ _ (partsOK_nil cls _))))

theorem closeToken_partsOK (cls : Cls) (c : CloseBlock) (hwf : CloseWF cls c)
    (tail : List Rune) : PartsOK cls [c.token] (cNL :: tail) :=
  partsOK_storedOp_cons cls c.token (by rw [hwf.1]; rfl) hwf.2 [] _ (partsOK_nil cls _)

theorem commentToken_partsOK (cls : Cls) (c : Comment) (hwf : CommentWF cls c)
    (tail : List Rune) : PartsOK cls [c.token] (cNL :: tail) := by
  obtain ⟨hty, htok, _⟩ := hwf
  rcases hty with hty | hty
  · refine partsOK_lit_cons cls c.token (by rw [hty]; decide) (by rw [hty]; decide)
      (Or.inl (by rw [hty]; rfl)) htok [] _ ?_ (partsOK_nil cls _)
    rw [hty]
    exact Or.inr rfl
  · refine partsOK_lit_cons cls c.token (by rw [hty]; decide) (by rw [hty]; decide)
      (Or.inl (by rw [hty]; rfl)) htok [] _ ?_ (partsOK_nil cls _)
    rw [hty]
    trivial

end J5V.Bcl
