import J5V.Bcl.Parser
/-!
# The grammar of BCL as the walker reads it

What a walker method reads when it returns without error, as inductive relations `X w a w'` between the
state before, the node returned and the state after: no fuel, no accumulator, no failing arm.

| relation | method of `parser.go` | condition `C` of its triple |
|---|---|---|
| `Pop` | `popToken` on a token of the slice (not the EOF it makes up past the end) | `NE w` |
| `Idents`, `RefRun` | `popReference` (`popIdent`, then `.` and `popIdent` while a dot follows; `NewReference`) | an identifier is next (its loop: `RefC`) |
| `ValRun`, `ElemsRun` | `popValue` and its array loop | `ValC fuel w`: `NE w`, `2 * rest < fuel` (the loop: one unit more) |
| `EndRun` | `endStatement` | `NE w` |
| `MarkRun`, `TagRun` | `popTag` | `ValC fuel w` |
| `TagsRun`, `QualsRun` | the two `for` loops over `popTag` in `walkStatement` | `LoopC pfuel fuel w`: also a round for every token |
| `AssignOp`, `HdrEnd`, `StmtRun` | `walkStatement` with `walkValueAssign` | `StmtC fuel w`: an identifier is next, `2 * rest < fuel` |
| `DescLines` | the loop of `popDescription` | `NE w` |
| `FragRun` | `nextFragment` | `ValC fuel w` |
| `FragsRun` | `walkFragments` in fail-fast mode, up to EOF | |

Each relation is its method, in two halves.  `X_wt` goes through the method once with a triple `WT` of three
arms: a successful run is a derivation; under the method's condition `C` a failing run has read some tokens and
popped the token it names, and the run does not panic.  `C` guards the last two arms only: what the derivation
itself needs (the kind of the next token) is a hypothesis of the lemma, what only keeps a panic away is in `C`.
`C` speaks of the state `w` the method starts from; a method called after some reading gets its own condition
by `.mono fun c => c.drop hd` from the `Drop` so far.  `X.run` evaluates the method along a derivation; here the fuel is accounted
for, two units for every token read (an array level costs a `popValue` and a `popValueElems`).
`Drop n w w'`: at least `n` tokens were read.  `EraseProofs` goes through the methods once more, for an equation
between all outcomes: an arm added to a method of `parser.go` is added in these two places.
-/
namespace J5V.Bcl

def WP {α : Type} (m : WM α) (w : W) (post : α → W → Prop) : Prop :=
  ∀ a w', m w = .ok a w' → post a w'

theorem bind_apply {α β : Type} (m : WM α) (k : α → WM β) (w : W) :
    (m >>= k) w = match m w with
      | .ok a w1 => k a w1
      | .fail e w1 => .fail e w1
      | .panic s => .panic s := rfl

theorem pure_apply {α : Type} (a : α) (w : W) : (pure a : WM α) w = .ok a w := rfl

theorem bind_eq_of_ok {α β : Type} {m : WM α} {k : α → WM β} {w w1 : W} {a : α}
    (h : m w = .ok a w1) : (m >>= k) w = k a w1 := by
  rw [bind_apply, h]

theorem getW_bind' {β : Type} (k : W → WM β) (w : W) : (getW >>= k) w = k w w := rfl

inductive Pop : W → Token → W → Prop
  | mk (p : Option Token) (t : Token) (rs : List Token) : Pop ⟨p, t :: rs⟩ t ⟨some t, rs⟩

theorem Pop.run {w w' : W} {t : Token} (h : Pop w t w') : popToken w = .ok t w' := by cases h; rfl

theorem Pop.nextType {w w' : W} {t : Token} (h : Pop w t w') : w.nextType = t.ty := by cases h; rfl

theorem Pop.currentPos {w w' : W} {t : Token} (h : Pop w t w') : w'.currentPos = t.end_ := by
  cases h; rfl

theorem Pop.prev {w w' : W} {t : Token} (h : Pop w t w') : w'.prev = some t := by cases h; rfl

theorem Pop.first {w w' : W} {t : Token} (hp : Pop w t w') : ∃ u us, w.rest = u :: us ∧ t.start = u.start := by
  cases hp; exact ⟨_, _, rfl, rfl⟩

theorem currentPos_of_prev {w : W} {t : Token} (h : w.prev = some t) : w.currentPos = t.end_ := by
  simp [W.currentPos, h]

theorem W.eq_mk {w : W} {p : Option Token} {rs : List Token} (hp : w.prev = p) (hr : w.rest = rs) :
    w = ⟨p, rs⟩ := by
  cases w; cases hp; cases hr; rfl

theorem popToken_ok {w : W} {t : Token} {w' : W} (h : popToken w = .ok t w') :
    Pop w t w' ∨ (w.rest = [] ∧ w' = w ∧ t.ty = .eof ∧ ∃ l, w.prev = some l) := by
  obtain ⟨p, rest⟩ := w
  unfold popToken at h
  cases rest with
  | cons u rs => cases h; exact Or.inl (.mk ..)
  | nil =>
    cases p with
    | none => cases h
    | some l =>
      simp only [] at h
      by_cases he : l.ty = .eof
      · rw [if_pos he] at h; cases h; exact Or.inr ⟨rfl, rfl, he, _, rfl⟩
      · rw [if_neg he] at h; cases h; exact Or.inr ⟨rfl, rfl, rfl, _, rfl⟩

theorem nextType_of_rest_nil {w : W} (h : w.rest = []) : w.nextType = .eof := by
  obtain ⟨p, rest⟩ := w; cases h; rfl

theorem popToken_ty {w : W} {t : Token} {w' : W} (h : popToken w = .ok t w') : t.ty = w.nextType := by
  rcases popToken_ok h with hp | ⟨h1, _, h3, _⟩
  · exact hp.nextType.symm
  · rw [h3, nextType_of_rest_nil h1]

theorem Pop.of_ok {w w' : W} {t : Token} (h : popToken w = .ok t w') (hne : t.ty ≠ .eof) :
    Pop w t w' :=
  (popToken_ok h).resolve_right fun h' => hne h'.2.2.1

theorem popToken_pop {w : W} {ty : TokenType} (hty : w.nextType = ty) (hne : ty ≠ .eof) :
    WP popToken w (fun t w' => Pop w t w' ∧ t.ty = ty) :=
  fun _ _ h => have e := (popToken_ty h).trans hty; ⟨.of_ok h (e ▸ hne), e⟩

def Drop (n : Nat) (w w' : W) : Prop :=
  ∃ d, n ≤ d.length ∧ w.rest = d ++ w'.rest ∧ w'.prev = d.getLast?.or w.prev

theorem getLast?_cons_or {α : Type} (a : α) (as : List α) (p : Option α) :
    (a :: as).getLast?.or p = as.getLast?.or (some a) := by
  cases as with
  | nil => rfl
  | cons b bs => rw [List.getLast?_cons_cons, List.getLast?_eq_some_getLast (List.cons_ne_nil b bs)]; rfl

theorem Drop.refl (w : W) : Drop 0 w w := ⟨[], Nat.le_refl _, rfl, rfl⟩

theorem Drop.trans {m n : Nat} {w w1 w' : W} (h1 : Drop m w w1) (h2 : Drop n w1 w') :
    Drop (m + n) w w' := by
  obtain ⟨d1, l1, e1, g1⟩ := h1
  obtain ⟨d2, l2, e2, g2⟩ := h2
  refine ⟨d1 ++ d2, by rw [List.length_append]; exact Nat.add_le_add l1 l2, by rw [e1, e2, List.append_assoc], ?_⟩
  rw [g2, g1, List.getLast?_append]
  cases d2.getLast? <;> cases d1.getLast? <;> rfl

theorem Drop.mono {m n : Nat} {w w' : W} (h : Drop m w w') (hn : n ≤ m) : Drop n w w' := by
  obtain ⟨d, l, e, g⟩ := h
  exact ⟨d, Nat.le_trans hn l, e, g⟩

theorem Drop.zero {n : Nat} {w w' : W} (h : Drop n w w') : Drop 0 w w' := h.mono (Nat.zero_le n)

theorem Drop.followed {m n : Nat} {w w1 w' : W} (h1 : Drop m w w1) (h2 : Drop n w1 w') : Drop m w w' :=
  (h1.trans h2).mono (Nat.le_add_right m n)

theorem Drop.len {n : Nat} {w w' : W} (h : Drop n w w') : w'.rest.length + n ≤ w.rest.length := by
  obtain ⟨d, l, e, _⟩ := h
  rw [e, List.length_append, Nat.add_comm]; exact Nat.add_le_add_right l _

theorem fuel_left {fuel n : Nat} {w w1 w' : W} (hf : 2 * (w.rest.length - w'.rest.length) ≤ fuel)
    (h : Drop n w1 w') : 2 * (w.rest.length - w1.rest.length) ≤ fuel :=
  Nat.le_trans (Nat.mul_le_mul_left 2 (Nat.sub_le_sub_left (Nat.le_trans (Nat.le_add_right _ n) h.len) _)) hf

theorem fuel_right {fuel n : Nat} {w w1 w' : W} (hf : 2 * (w.rest.length - w'.rest.length) ≤ fuel)
    (h : Drop n w w1) : 2 * (w1.rest.length - w'.rest.length) ≤ fuel :=
  Nat.le_trans (Nat.mul_le_mul_left 2 (Nat.sub_le_sub_right (Nat.le_trans (Nat.le_add_right _ n) h.len) _)) hf

theorem fuel_right_succ {fuel : Nat} {w w1 w' : W} (hf : 2 * (w.rest.length - w'.rest.length) ≤ fuel + 1)
    (h : Drop 1 w w1) : 2 * (w1.rest.length - w'.rest.length) ≤ fuel := by
  have := h.len; omega

theorem fuel_left_succ {fuel : Nat} {w w1 w' : W} (hf : 2 * (w.rest.length - w'.rest.length) ≤ fuel + 1)
    (h : Drop 1 w1 w') : 2 * (w.rest.length - w1.rest.length) ≤ fuel := by
  have := h.len; omega

theorem fuel_pos {fuel : Nat} {w w' : W} (hf : 2 * (w.rest.length - w'.rest.length) ≤ fuel)
    (h : Drop 1 w w') : 0 < fuel := by
  have := h.len; omega

theorem Drop.subset {n : Nat} {w w' : W} (h : Drop n w w') : ∀ t ∈ w'.rest, t ∈ w.rest := by
  obtain ⟨d, _, e, _⟩ := h
  exact fun t ht => e ▸ List.mem_append_right d ht

theorem Drop.ind {C : W → Prop} {n : Nat} {w w' : W} (h : Drop n w w')
    (step : ∀ p t rs, C ⟨p, t :: rs⟩ → C ⟨some t, rs⟩) (hw : C w) : C w' := by
  obtain ⟨d, -, e, g⟩ := h
  obtain ⟨p, rest⟩ := w
  obtain ⟨p', rest'⟩ := w'
  simp only at e g
  subst e g
  induction d generalizing p with
  | nil => exact hw
  | cons a as ih =>
    have := ih (some a) (step _ _ _ hw)
    rwa [← getLast?_cons_or] at this

theorem Drop.prev_some {w w' : W} (h : Drop 1 w w') : ∃ p, w'.prev = some p := by
  obtain ⟨d, l, _, g⟩ := h
  cases d with
  | nil => cases l
  | cons a as =>
    rw [g, List.getLast?_eq_some_getLast (List.cons_ne_nil a as)]
    exact ⟨_, rfl⟩

theorem Pop.drop {w w' : W} {t : Token} (h : Pop w t w') : Drop 1 w w' := by
  cases h; exact ⟨[t], Nat.le_refl _, rfl, rfl⟩

theorem popToken_drop {w w' : W} {t : Token} (h : popToken w = .ok t w') : Drop 0 w w' := by
  rcases popToken_ok h with hp | ⟨_, rfl, _⟩
  · exact hp.drop.zero
  · exact .refl _

/-- there is a token to pop or one was popped: what keeps `popToken` off its panic arm -/
def NE (w : W) : Prop := w.prev ≠ none ∨ w.rest ≠ []

theorem NE.drop {n : Nat} {w w' : W} (hw : NE w) (h : Drop n w w') : NE w' := by
  obtain ⟨d, _, e, g⟩ := h
  cases d with
  | nil =>
    obtain ⟨p, r⟩ := w
    obtain ⟨p', r'⟩ := w'
    simp only [List.nil_append, List.getLast?_nil, Option.or] at e g
    subst e g
    exact hw
  | cons a as =>
    refine Or.inl ?_
    rw [g, List.getLast?_eq_some_getLast (List.cons_ne_nil a as)]
    nofun

theorem NE.of_nextType {w : W} (h : w.nextType ≠ .eof) : NE w :=
  Or.inr fun hr => h (nextType_of_rest_nil hr)

/-! fuel: two units for every token in front of the walker; what is read only makes it cheaper -/

theorem Drop.fuel {n f : Nat} {w w' : W} (h : Drop n w w') (hf : 2 * w.rest.length < f) :
    2 * w'.rest.length < f := by have := h.len; omega

theorem Drop.fuel_lt {n f : Nat} {w w' : W} (h : Drop n w w') (hf : 2 * w.rest.length < f) :
    w'.rest.length < f := by have := h.len; omega

theorem Drop.fuel_succ {f : Nat} {w w' : W} (h : Drop 1 w w') (hf : 2 * w.rest.length < f + 1) :
    2 * w'.rest.length + 1 < f := by have := h.len; omega

theorem Drop.lt_succ {f : Nat} {w w' : W} (h : Drop 1 w w') (hf : w.rest.length < f + 1) :
    w'.rest.length < f := by have := h.len; omega

theorem popToken_cases (w : W) :
    (∃ t w', popToken w = .ok t w') ∨ (¬ NE w ∧ ∃ s, popToken w = .panic s) := by
  obtain ⟨p, r⟩ := w
  cases r with
  | cons t rs => exact Or.inl ⟨_, _, rfl⟩
  | nil =>
    cases p with
    | none => exact Or.inr ⟨fun h => h.elim (fun h => h rfl) (fun h => h rfl), _, rfl⟩
    | some l =>
      left
      show ∃ t w', (if l.ty = .eof then _ else _ : WR Token) = .ok t w'
      split <;> exact ⟨_, _, rfl⟩

/-- one triple for a walker action from `w`: a successful run satisfies `post`; under the condition `C`
(what rules out a panic: a token to pop, fuel) a failing run has read some tokens and then popped the token it
names, and the run does not panic -/
def WT {α : Type} (C : Prop) (m : WM α) (w : W) (post : α → W → Prop) : Prop :=
  match m w with
  | .ok a w' => post a w'
  | .fail e w' => C → ∃ w0, Drop 0 w w0 ∧ popToken w0 = .ok e.tok w'
  | .panic _ => ¬ C

theorem WT.sound {α : Type} {C : Prop} {m : WM α} {w : W} {post : α → W → Prop} (h : WT C m w post) :
    WP m w post := fun a w' e => by unfold WT at h; rwa [e] at h

theorem WT.pure {α : Type} {C : Prop} {a : α} {w : W} {post : α → W → Prop} (h : post a w) :
    WT C (Pure.pure a : WM α) w post := h

/-- the second action runs from a state reached by reading; failures are located from the first state -/
theorem WT.bind {α β : Type} {C : Prop} {m : WM α} {k : α → WM β} {w : W} {P : α → W → Prop}
    {R : β → W → Prop} (h1 : WT C m w P) (h2 : ∀ a w1, P a w1 → Drop 0 w w1 ∧ WT C (k a) w1 R) :
    WT C (m >>= k) w R := by
  show WT C (WM.bind m k) w R
  unfold WT at h1 ⊢
  unfold WM.bind
  cases hm : m w with
  | ok a w1 =>
    rw [hm] at h1
    obtain ⟨hd, h3⟩ := h2 a w1 h1
    unfold WT at h3
    simp only []
    cases hk : k a w1 with
    | ok b w2 => rw [hk] at h3; exact h3
    | fail e w2 =>
      rw [hk] at h3
      exact fun c => by obtain ⟨w0, d, hp⟩ := h3 c; exact ⟨w0, hd.trans d, hp⟩
    | panic s => rw [hk] at h3; exact h3
  | fail e w1 => rw [hm] at h1; exact h1
  | panic s => rw [hm] at h1; exact h1

theorem WT.getW_bind {β : Type} {C : Prop} {f : W → WM β} {w : W} {R : β → W → Prop}
    (h : WT C (f w) w R) : WT C (getW >>= f) w R := h

theorem WT.mono {α : Type} {C C' : Prop} {m : WM α} {w : W} {post : α → W → Prop} (h : WT C' m w post)
    (hC : C → C') : WT C m w post := by
  unfold WT at h ⊢
  cases hm : m w with
  | ok a w' => rw [hm] at h; exact h
  | fail e w' => rw [hm] at h; exact fun c => h (hC c)
  | panic s => rw [hm] at h; exact fun c => h (hC c)

theorem WT.weaken {α : Type} {C : Prop} {m : WM α} {w : W} {P R : α → W → Prop} (h : WT C m w P)
    (hpr : ∀ a w', P a w' → R a w') : WT C m w R := by
  unfold WT at h ⊢
  cases hm : m w with
  | ok a w' => rw [hm] at h; exact hpr a w' h
  | fail e w' => rw [hm] at h; exact h
  | panic s => rw [hm] at h; exact h

/-- `popToken`, then an action that may fail naming the token just popped -/
theorem WT.pop {α : Type} {C : Prop} {w : W} {k : Token → WM α} {R : α → W → Prop} (hne : C → NE w)
    (hk : ∀ t w1, popToken w = .ok t w1 → (∃ ex, k t = WM.fail ⟨t, ex⟩) ∨ WT C (k t) w1 R) :
    WT C (popToken >>= k) w R := by
  show WT C (WM.bind popToken k) w R
  unfold WT WM.bind
  cases h : popToken w with
  | ok t w1 =>
    simp only []
    rcases hk t w1 h with ⟨ex, e⟩ | hs
    · rw [e]; exact fun _ => ⟨w, .refl w, h⟩
    · unfold WT at hs
      cases hk2 : k t w1 with
      | ok b w2 => rw [hk2] at hs; exact hs
      | fail e w2 =>
        rw [hk2] at hs
        exact fun c => by obtain ⟨w0, d, hp⟩ := hs c; exact ⟨w0, (popToken_drop h).trans d, hp⟩
      | panic s => rw [hk2] at hs; exact hs
  | fail e w1 => rcases popToken_cases w with ⟨_, _, h'⟩ | ⟨_, _, h'⟩ <;> rw [h'] at h <;> cases h
  | panic s =>
    rcases popToken_cases w with ⟨_, _, h'⟩ | ⟨hn, _, _⟩
    · rw [h'] at h; cases h
    · exact fun c => hn (hne c)

/-- `popToken` where a token of kind `ty` is next -/
theorem popToken_self (w : W) : WT (NE w) popToken w (fun t w' => popToken w = .ok t w') := by
  unfold WT
  rcases popToken_cases w with ⟨t, w', h⟩ | ⟨hn, s, h⟩ <;> rw [h]
  exact hn

theorem popToken_wt {w : W} {ty : TokenType} (hty : w.nextType = ty) (hne : ty ≠ .eof) :
    WT (NE w) popToken w (fun t w' => Pop w t w' ∧ t.ty = ty) :=
  (popToken_self w).weaken (popToken_pop hty hne)

theorem failUnexpected_wt {α : Type} (ex : List TokenType) (w : W) (post : α → W → Prop) :
    WT (NE w) (failUnexpected ex : WM α) w post :=
  WT.pop id fun _ _ _ => Or.inl ⟨ex, rfl⟩

/-- the identifier `popIdent` makes of a token that `AsIdent` accepts -/
abbrev Token.ident (it : Token) : Ident := ⟨it, it.lit, ⟨it.start, it.end_⟩⟩

theorem asIdent_eq_some {t it : Token} (h : t.asIdent = some it) :
    it = ⟨.ident, t.lit, t.start, t.end_⟩ ∧ (t.ty = .ident ∨ t.ty = .bool) := by
  obtain ⟨ty, lit, s, e⟩ := t
  unfold Token.asIdent at h
  split at h
  · rename_i hty; cases h; cases hty; exact ⟨rfl, Or.inl rfl⟩
  · rename_i hty; cases h; exact ⟨rfl, Or.inr hty⟩
  · cases h

inductive Idents : W → List Ident → W → Prop
  | last {w w' : W} {t it : Token} : Pop w t w' → t.asIdent = some it → w'.nextType ≠ .dot →
      Idents w [it.ident] w'
  | dot {w w1 w2 w' : W} {t it d : Token} {is : List Ident} : Pop w t w1 → t.asIdent = some it →
      Pop w1 d w2 → d.ty = .dot → Idents w2 is w' → Idents w (it.ident :: is) w'

def RefRun (w : W) (r : Reference) (w' : W) : Prop := ∃ is, Idents w is w' ∧ newReference is = some r

theorem Idents.drop {w w' : W} {is : List Ident} (h : Idents w is w') : Drop 1 w w' := by
  induction h with
  | last hp _ _ => exact hp.drop
  | dot hp _ hp2 _ _ ih => exact hp.drop.followed (hp2.drop.followed ih)

theorem RefRun.drop {w w' : W} {r : Reference} (h : RefRun w r w') : Drop 1 w w' :=
  let ⟨_, hi, _⟩ := h; hi.drop

theorem newReference_eq_some {is : List Ident} {r : Reference} (h : newReference is = some r) :
    ∃ f l, is.head? = some f ∧ is.getLast? = some l ∧ r = ⟨is, ⟨f.span.start, l.span.end_⟩⟩ := by
  unfold newReference at h
  split at h
  · cases h; exact ⟨_, _, ‹_›, ‹_›, rfl⟩
  · cases h

theorem RefRun.idents {w w' : W} {r : Reference} (h : RefRun w r w') : Idents w r.idents w' := by
  obtain ⟨is, hi, hr⟩ := h
  obtain ⟨_, _, _, _, rfl⟩ := newReference_eq_some hr
  exact hi

theorem Idents.bounds {w w' : W} {is : List Ident} (h : Idents w is w') :
    (∃ t ts i is', w.rest = t :: ts ∧ is = i :: is' ∧ i.span.start = t.start) ∧
      ∃ j, is.getLast? = some j ∧ w'.currentPos = j.span.end_ := by
  induction h with
  | last hp hai _ =>
    obtain ⟨rfl, _⟩ := asIdent_eq_some hai
    cases hp
    exact ⟨⟨_, _, _, _, rfl, rfl, rfl⟩, _, rfl, rfl⟩
  | dot hp hai _ _ _ ih =>
    obtain ⟨rfl, _⟩ := asIdent_eq_some hai
    obtain ⟨⟨_, _, _, _, _, rfl, _⟩, j, hj, hc⟩ := ih
    cases hp
    exact ⟨⟨_, _, _, _, rfl, rfl, rfl⟩, j, by simpa using hj, hc⟩

theorem RefRun.bounds {w w' : W} {r : Reference} (h : RefRun w r w') :
    (∃ t ts, w.rest = t :: ts ∧ r.span.start = t.start) ∧ w'.currentPos = r.span.end_ := by
  obtain ⟨is, hi, hr⟩ := h
  obtain ⟨f, l, hf, hl, rfl⟩ := newReference_eq_some hr
  obtain ⟨⟨t, ts, i, is', e1, rfl, e2⟩, j, hj, hc⟩ := hi.bounds
  cases hf; cases hl.symm.trans hj
  exact ⟨⟨t, ts, e1, e2⟩, hc⟩

theorem Idents.run {w w' : W} {is : List Ident} (h : Idents w is w') :
    ∀ (acc : List Ident) {r : Reference}, newReference (acc ++ is) = some r →
      popReferenceLoop acc w.prev w.rest = .ok r w' := by
  induction h with
  | @last w w' t it hp hai hnd =>
    intro acc r hr
    cases hp with | mk p t rs =>
    unfold popReferenceLoop
    simp only [hai]
    cases rs with
    | nil => simp only [hr]
    | cons d rs2 =>
      have hd : ¬ d.ty = .dot := hnd
      simp only [hd, if_false, hr]
  | @dot w w1 w2 w' t it d is hp hai hp2 hd _ ih =>
    intro acc r hr
    cases hp with | mk p t rs =>
    cases hp2 with | mk _ d rs2 =>
    unfold popReferenceLoop
    simp only [hai, hd, if_true]
    exact ih _ (by simpa using hr)

theorem newReference_ne_none {acc : List Ident} (h : acc ≠ []) : newReference acc ≠ none := by
  unfold newReference
  cases acc with
  | nil => exact absurd rfl h
  | cons f as =>
    rw [List.head?_cons, List.getLast?_eq_some_getLast (List.cons_ne_nil f as)]
    nofun

/-- the condition of the loop of `popReference`: a token to pop, and an identifier read or next -/
abbrev RefC (acc : List Ident) (prev : Option Token) (rest : List Token) : Prop :=
  NE ⟨prev, rest⟩ ∧ (acc ≠ [] ∨ ∃ t rs, rest = t :: rs ∧ t.asIdent ≠ none)

theorem popReferenceLoop_wt (rest : List Token) (acc : List Ident) (prev : Option Token) :
    WT (RefC acc prev rest) (fun w => popReferenceLoop acc w.prev w.rest) ⟨prev, rest⟩
      (fun r w' => ∃ is, Idents ⟨prev, rest⟩ is w' ∧ newReference (acc ++ is) = some r) := by
  unfold WT
  simp only []
  fun_induction popReferenceLoop acc prev rest with
  | case1 acc prev tok w1 hpt hn =>
    exact fun c => absurd hn (newReference_ne_none (c.2.elim id fun ⟨_, _, e, _⟩ => by cases e))
  | case2 acc prev tok w1 hpt r hn => exact fun _ => ⟨_, Drop.refl _, hpt⟩
  | case3 acc prev e w1 hpt =>
    rcases popToken_cases ⟨prev, []⟩ with ⟨_, _, h'⟩ | ⟨_, _, h'⟩ <;> rw [h'] at hpt <;> cases hpt
  | case4 acc prev s hpt =>
    rcases popToken_cases ⟨prev, []⟩ with ⟨_, _, h'⟩ | ⟨hn, _, _⟩
    · rw [h'] at hpt; cases hpt
    · exact fun c => hn c.1
  | case5 acc prev t rs hai hn =>
    exact fun c => absurd hn (newReference_ne_none
      (c.2.elim id fun ⟨_, _, e, h⟩ => by cases e; exact absurd hai h))
  | case6 acc prev t rs hai r hn => exact fun _ => ⟨_, Drop.refl _, rfl⟩
  | case7 acc prev t it hai acc' d rs2 hdot ih =>
    have hd : Drop 0 ⟨prev, t :: d :: rs2⟩ ⟨some d, rs2⟩ :=
      ((Pop.mk prev t (d :: rs2)).drop.trans (Pop.mk (some t) d rs2).drop).zero
    have hc : RefC acc' (some d) rs2 := ⟨Or.inl nofun, Or.inl (by simp [acc'])⟩
    generalize popReferenceLoop acc' (some d) rs2 = res at ih ⊢
    cases res with
    | ok r w' =>
      obtain ⟨is, h1, h2⟩ := ih
      exact ⟨_, .dot (.mk ..) hai (.mk ..) hdot h1, by simpa [acc'] using h2⟩
    | fail e w' => exact fun _ => let ⟨w0, dd, hp⟩ := ih hc; ⟨w0, hd.trans dd, hp⟩
    | panic s => exact fun _ => ih hc
  | case8 acc prev t it hai acc' d rs2 _ hn | case10 acc prev t it hai acc' hn =>
    exact fun _ => absurd hn (newReference_ne_none (by simp [acc']))
  | case9 acc prev t it hai acc' d rs2 hd r hn => exact ⟨_, .last (.mk ..) hai hd, hn⟩
  | case11 acc prev t it hai acc' r hn => exact ⟨_, .last (.mk ..) hai (by simp [W.nextType]), hn⟩

theorem popReference_wt {w : W} :
    WT (w.nextType = .ident ∨ w.nextType = .bool) popReference w (RefRun w) := by
  obtain ⟨p, r⟩ := w
  refine ((popReferenceLoop_wt r [] p).mono fun hnext => ?_).weaken fun r w' h => by simpa [RefRun] using h
  cases r with
  | nil => rcases hnext with h | h <;> cases h
  | cons t rs =>
    refine ⟨Or.inr nofun, Or.inr ⟨t, rs, rfl, ?_⟩⟩
    have : t.ty = .ident ∨ t.ty = .bool := hnext
    unfold Token.asIdent
    rcases this with h | h <;> simp [h]

theorem RefRun.run {w w' : W} {r : Reference} (h : RefRun w r w') : popReference w = .ok r w' :=
  let ⟨_, hi, hr⟩ := h; hi.run [] hr

mutual
/-- a reference is stored as a STRING token -/
inductive ValRun : W → Value → W → Prop
  | ref {w w' : W} {r : Reference} : w.nextType = .ident → RefRun w r w' →
      ValRun w (.scalar ⟨.string, r.string, r.span.start, r.span.end_⟩ r.span) w'
  | lit {w w' : W} {t : Token} : Pop w t w' → t.ty ≠ .ident → t.ty.isLiteral = true →
      ValRun w (.scalar t ⟨t.start, t.end_⟩) w'
  | empty {w w1 w' : W} {o c : Token} : Pop w o w1 → o.ty = .lbrack → Pop w1 c w' → c.ty = .rbrack →
      ValRun w (.array [] ⟨o.start, c.end_⟩) w'
  | array {w w1 w2 w' : W} {o c : Token} {vs : List Value} : Pop w o w1 → o.ty = .lbrack →
      w1.nextType ≠ .rbrack → ElemsRun w1 vs w2 → Pop w2 c w' → c.ty = .rbrack →
      ValRun w (.array vs ⟨o.start, c.end_⟩) w'
inductive ElemsRun : W → List Value → W → Prop
  | last {w w' : W} {v : Value} : ValRun w v w' → w'.nextType = .rbrack → ElemsRun w [v] w'
  | comma {w w1 w2 w' : W} {v : Value} {c : Token} {vs : List Value} : ValRun w v w1 → Pop w1 c w2 →
      c.ty = .comma → ElemsRun w2 vs w' → ElemsRun w (v :: vs) w'
end

theorem ValRun.induct {mV : W → Value → W → Prop} {mE : W → List Value → W → Prop}
    (ref : ∀ {w w' : W} {r : Reference}, w.nextType = .ident → RefRun w r w' →
      mV w (.scalar ⟨.string, r.string, r.span.start, r.span.end_⟩ r.span) w')
    (lit : ∀ {w w' : W} {t : Token}, Pop w t w' → t.ty ≠ .ident → t.ty.isLiteral = true →
      mV w (.scalar t ⟨t.start, t.end_⟩) w')
    (empty : ∀ {w w1 w' : W} {o c : Token}, Pop w o w1 → o.ty = .lbrack → Pop w1 c w' →
      c.ty = .rbrack → mV w (.array [] ⟨o.start, c.end_⟩) w')
    (array : ∀ {w w1 w2 w' : W} {o c : Token} {vs : List Value}, Pop w o w1 → o.ty = .lbrack →
      w1.nextType ≠ .rbrack → ElemsRun w1 vs w2 → mE w1 vs w2 → Pop w2 c w' → c.ty = .rbrack →
      mV w (.array vs ⟨o.start, c.end_⟩) w')
    (last : ∀ {w w' : W} {v : Value}, ValRun w v w' → mV w v w' → w'.nextType = .rbrack →
      mE w [v] w')
    (comma : ∀ {w w1 w2 w' : W} {v : Value} {c : Token} {vs : List Value}, ValRun w v w1 →
      mV w v w1 → Pop w1 c w2 → c.ty = .comma → ElemsRun w2 vs w' → mE w2 vs w' →
      mE w (v :: vs) w') :
    (∀ {w w' : W} {v : Value}, ValRun w v w' → mV w v w') ∧
      (∀ {w w' : W} {vs : List Value}, ElemsRun w vs w' → mE w vs w') :=
  ⟨fun h => ValRun.rec (motive_1 := fun w v w' _ => mV w v w') (motive_2 := fun w vs w' _ => mE w vs w')
      (fun h1 h2 => ref h1 h2) (fun h1 h2 h3 => lit h1 h2 h3) (fun h1 h2 h3 h4 => empty h1 h2 h3 h4)
      (fun h1 h2 h3 h4 h5 h6 ih => array h1 h2 h3 h4 ih h5 h6) (fun h1 h2 ih => last h1 ih h2)
      (fun h1 h2 h3 h4 ih1 ih2 => comma h1 ih1 h2 h3 h4 ih2) h,
    fun h => ElemsRun.rec (motive_1 := fun w v w' _ => mV w v w') (motive_2 := fun w vs w' _ => mE w vs w')
      (fun h1 h2 => ref h1 h2) (fun h1 h2 h3 => lit h1 h2 h3) (fun h1 h2 h3 h4 => empty h1 h2 h3 h4)
      (fun h1 h2 h3 h4 h5 h6 ih => array h1 h2 h3 h4 ih h5 h6) (fun h1 h2 ih => last h1 ih h2)
      (fun h1 h2 h3 h4 ih1 ih2 => comma h1 ih1 h2 h3 h4 ih2) h⟩

theorem ValRun.drop_aux : (∀ {w w' : W} {v : Value}, ValRun w v w' → Drop 1 w w') ∧
    (∀ {w w' : W} {vs : List Value}, ElemsRun w vs w' → Drop 1 w w') :=
  ValRun.induct (mV := fun w _ w' => Drop 1 w w') (mE := fun w _ w' => Drop 1 w w')
    (fun _ hr => hr.drop) (fun hp _ _ => hp.drop)
    (fun hp _ hp2 _ => hp.drop.followed hp2.drop)
    (fun hp _ _ _ he hp2 _ => hp.drop.followed (he.followed hp2.drop))
    (fun _ hv _ => hv) (fun _ hv hp _ _ he => hv.followed (hp.drop.followed he))

theorem ValRun.drop {w w' : W} {v : Value} (h : ValRun w v w') : Drop 1 w w' := ValRun.drop_aux.1 h
theorem ElemsRun.drop {w w' : W} {vs : List Value} (h : ElemsRun w vs w') : Drop 1 w w' :=
  ValRun.drop_aux.2 h

theorem ValRun.bounds {w w' : W} {v : Value} (h : ValRun w v w') :
    (∃ t ts, w.rest = t :: ts ∧ v.span.start = t.start) ∧ w'.currentPos = v.span.end_ := by
  cases h with
  | ref _ hr => exact hr.bounds
  | lit hp _ _ => exact ⟨hp.first, hp.currentPos⟩
  | empty hp _ hp2 _ => exact ⟨hp.first, hp2.currentPos⟩
  | array hp _ _ _ hp2 _ => exact ⟨hp.first, hp2.currentPos⟩

/-- a token to pop and two units of fuel for every token in front (`popValue`, `popTag`, `nextFragment`) -/
abbrev ValC (fuel : Nat) (w : W) : Prop := NE w ∧ 2 * w.rest.length < fuel

theorem ValC.drop {fuel n : Nat} {w w' : W} (c : ValC fuel w) (hd : Drop n w w') : ValC fuel w' :=
  ⟨c.1.drop hd, hd.fuel c.2⟩

theorem popValue_wt_aux (fuel : Nat) :
    (∀ w : W, WT (ValC fuel w) (popValue fuel) w (ValRun w)) ∧
    (∀ (w : W) (o : Token) (acc : List Value),
      WT (NE w ∧ 2 * w.rest.length + 1 < fuel) (popValueElems fuel o acc) w (fun v w' =>
        ∃ vs w2 c, ElemsRun w vs w2 ∧ Pop w2 c w' ∧ c.ty = .rbrack ∧
          v = .array (acc ++ vs) ⟨o.start, c.end_⟩)) := by
  induction fuel with
  | zero => exact ⟨fun w => by unfold popValue; exact fun h => absurd h.2 (Nat.not_lt_zero _),
      fun w o a => by unfold popValueElems; exact fun h => absurd h.2 (Nat.not_lt_zero _)⟩
  | succ fuel ih =>
    obtain ⟨ihV, ihE⟩ := ih
    constructor
    · intro w
      unfold popValue
      show WT _ (fun w => _) w _
      unfold WT
      simp only []
      by_cases h1 : w.nextType = .ident
      · rw [if_pos h1]
        exact (popReference_wt.mono fun _ => Or.inl h1).bind fun r w1 hr =>
          ⟨hr.drop.zero, WT.pure (.ref h1 hr)⟩
      rw [if_neg h1]
      by_cases h2 : w.nextType.isLiteral = true
      · rw [if_pos h2]
        exact ((popToken_wt rfl (by intro e; rw [e] at h2; cases h2)).mono And.left).bind fun t w1 hp =>
          ⟨hp.1.drop.zero, WT.pure (.lit hp.1 (hp.2 ▸ h1) (hp.2 ▸ h2))⟩
      rw [if_neg h2]
      by_cases h3 : w.nextType = .lbrack
      · rw [if_pos h3]
        refine ((popToken_wt h3 (by decide)).mono And.left).bind
          fun o w1 hp => ⟨hp.1.drop.zero, ?_⟩
        apply WT.getW_bind
        by_cases h4 : w1.nextType = TokenType.rbrack
        · rw [if_pos h4]
          refine ((popToken_wt h4 (by decide)).mono fun c => c.1.drop hp.1.drop).bind
            fun c w2 hp2 => ⟨hp2.1.drop.zero, WT.getW_bind ?_⟩
          rw [hp2.1.currentPos]
          exact WT.pure (.empty hp.1 hp.2 hp2.1 hp2.2)
        · rw [if_neg h4]
          refine ((ihE w1 o []).mono fun c => ⟨c.1.drop hp.1.drop, hp.1.drop.fuel_succ c.2⟩).weaken ?_
          rintro v w' ⟨vs, w2, c, he, hp2, hc, rfl⟩
          exact .array hp.1 hp.2 h4 he hp2 hc
      · rw [if_neg h3]
        exact (failUnexpected_wt _ w _).mono And.left
    · intro w o acc
      unfold popValueElems
      refine ((ihV w).mono fun c => ⟨c.1, Nat.lt_of_succ_lt_succ c.2⟩).bind
        fun v w1 hv => ⟨hv.drop.zero, ?_⟩
      simp only []
      apply WT.getW_bind
      by_cases h1 : w1.nextType = .comma
      · rw [if_pos h1]
        refine ((popToken_wt h1 (by decide)).mono fun c => c.1.drop hv.drop).bind
          fun c w2 hp => ⟨hp.1.drop.zero, ?_⟩
        refine ((ihE w2 o (acc ++ [v])).mono fun c => ⟨c.1.drop (hv.drop.trans hp.1.drop),
          (hv.drop.trans hp.1.drop).mono (by decide) |>.fuel_succ (Nat.lt_of_succ_lt c.2)⟩).weaken ?_
        rintro _ w' ⟨vs, w3, c', he, hp2, hc, rfl⟩
        exact ⟨v :: vs, w3, c', .comma hv hp.1 hp.2 he, hp2, hc, by simp⟩
      rw [if_neg h1]
      by_cases h2 : w1.nextType = .rbrack
      · rw [if_pos h2]
        refine ((popToken_wt h2 (by decide)).mono fun c => c.1.drop hv.drop).bind
          fun c w2 hp => ⟨hp.1.drop.zero, WT.getW_bind ?_⟩
        rw [hp.1.currentPos]
        exact WT.pure ⟨[v], w1, c, .last hv h2, hp.1, hp.2, rfl⟩
      · rw [if_neg h2]
        exact (failUnexpected_wt _ w1 _).mono fun c => c.1.drop hv.drop

theorem ValRun.run_aux (fuel : Nat) :
    (∀ {w w' : W} {v : Value}, ValRun w v w' → 2 * (w.rest.length - w'.rest.length) ≤ fuel →
      popValue fuel w = .ok v w') ∧
    (∀ {w w2 w' : W} {vs : List Value} {c : Token} (o : Token) (acc : List Value), ElemsRun w vs w2 →
      Pop w2 c w' → c.ty = .rbrack → 2 * (w.rest.length - w'.rest.length) ≤ fuel →
      popValueElems fuel o acc w = .ok (.array (acc ++ vs) ⟨o.start, c.end_⟩) w') := by
  induction fuel with
  | zero =>
    refine ⟨fun h hf => ?_, fun o acc h hp _ hf => ?_⟩
    · exact absurd (fuel_pos hf h.drop) (Nat.lt_irrefl 0)
    · exact absurd (fuel_pos hf (h.drop.followed hp.drop)) (Nat.lt_irrefl 0)
  | succ fuel ih =>
    obtain ⟨ihV, ihE⟩ := ih
    refine ⟨fun h hf => ?_, fun o acc h hp hc hf => ?_⟩
    · rw [popValue]
      simp only []
      cases h with
      | ref h1 hr => rw [if_pos h1]; exact bind_eq_of_ok (hr.run)
      | lit hp h1 h2 =>
        rw [if_neg (by rw [hp.nextType]; exact h1), if_pos (by rw [hp.nextType]; exact h2)]
        exact bind_eq_of_ok hp.run
      | empty hp h1 hp2 h2 =>
        rw [if_neg (by rw [hp.nextType, h1]; decide), if_neg (by rw [hp.nextType, h1]; decide),
          if_pos (hp.nextType.trans h1), bind_eq_of_ok hp.run, getW_bind',
          if_pos (hp2.nextType.trans h2), bind_eq_of_ok hp2.run, getW_bind', hp2.currentPos]
        rfl
      | array hp h1 h3 he hp2 h2 =>
        rw [if_neg (by rw [hp.nextType, h1]; decide), if_neg (by rw [hp.nextType, h1]; decide),
          if_pos (hp.nextType.trans h1), bind_eq_of_ok hp.run, getW_bind', if_neg h3,
          ihE _ [] he hp2 h2 (fuel_right_succ hf hp.drop)]
        rfl
    · rw [popValueElems]
      cases h with
      | last hv h2 =>
        rw [bind_eq_of_ok (ihV hv (fuel_left_succ hf hp.drop)), getW_bind', if_neg (by rw [h2]; decide),
          if_pos h2, bind_eq_of_ok hp.run, getW_bind', hp.currentPos]
        rfl
      | comma hv hp1 h1 he =>
        rw [bind_eq_of_ok (ihV hv (fuel_left_succ hf (hp1.drop.followed (he.drop.followed hp.drop)))),
          getW_bind', if_pos (hp1.nextType.trans h1), bind_eq_of_ok hp1.run,
          ihE _ _ he hp hc (fuel_right_succ hf (hv.drop.followed hp1.drop)),
          List.append_assoc]
        rfl

theorem ValRun.run {fuel : Nat} {w w' : W} {v : Value} (h : ValRun w v w')
    (hf : 2 * (w.rest.length - w'.rest.length) ≤ fuel) : popValue fuel w = .ok v w' :=
  (ValRun.run_aux fuel).1 h hf

/-- an optional `//` comment, then an EOL or EOF token or the end of the tokens (where `popToken` makes up an
EOF token and the walker stays) -/
inductive EndRun : W → Option CommentNode → W → Prop
  | plain {w w' : W} {t : Token} : popToken w = .ok t w' → t.ty = .eol ∨ t.ty = .eof → EndRun w none w'
  | comment {w w1 w' : W} {t t2 : Token} : Pop w t w1 → t.ty = .comment → popToken w1 = .ok t2 w' →
      t2.ty = .eol ∨ t2.ty = .eof → EndRun w (some ⟨t.lit, ⟨t.start, t.end_⟩⟩) w'

theorem EndRun.drop {w w' : W} {c : Option CommentNode} (h : EndRun w c w') : Drop 0 w w' := by
  cases h with
  | plain hp _ => exact popToken_drop hp
  | comment hp _ hp2 _ => exact (hp.drop.trans (popToken_drop hp2)).zero

theorem endStatement_wt (w : W) : WT (NE w) endStatement w (EndRun w) := by
  unfold endStatement
  refine WT.pop id fun t w1 h1 => ?_
  split
  · rename_i hc
    refine Or.inr (WT.pop (fun c => c.drop (popToken_drop h1)) fun t2 w2 h2 => ?_)
    split
    · exact Or.inr (WT.pure (.comment (.of_ok h1 (by rw [hc]; decide)) hc h2 ‹_›))
    · exact Or.inl ⟨_, rfl⟩
  · split
    · exact Or.inr (WT.pure (.plain h1 ‹_›))
    · exact Or.inl ⟨_, rfl⟩

theorem EndRun.run {w w' : W} {c : Option CommentNode} (h : EndRun w c w') :
    endStatement w = .ok c w' := by
  cases h with
  | @plain _ t hp hty =>
    have hc : ¬ t.ty = .comment := fun e => by rcases hty with h | h <;> rw [e] at h <;> cases h
    simp [endStatement, bind_apply, hp, hc, hty, pure_apply]
  | comment hp hc hp2 hty => simp [endStatement, bind_apply, hp.run, hc, hp2, hty, pure_apply]

inductive MarkRun : W → TagMark → Token → W → Prop
  | none {w : W} : w.nextType ≠ .bang → w.nextType ≠ .question → MarkRun w .none Token.zero w
  | bang {w w' : W} {t : Token} : Pop w t w' → t.ty = .bang → MarkRun w .bang t w'
  | question {w w' : W} {t : Token} : Pop w t w' → t.ty = .question → MarkRun w .question t w'

inductive TagRun : W → TagValue → W → Prop
  | ref {w w1 w' : W} {mark : TagMark} {mt : Token} {r : Reference} : MarkRun w mark mt w1 →
      w1.nextType = .ident ∨ w1.nextType = .bool → RefRun w1 r w' →
      TagRun w ⟨mark, mt, some r, none, r.span⟩ w'
  | str {w w1 w' : W} {mark : TagMark} {mt t : Token} : MarkRun w mark mt w1 → Pop w1 t w' →
      t.ty = .string →
      TagRun w ⟨mark, mt, none, some (.scalar t ⟨t.start, t.end_⟩), ⟨t.start, t.end_⟩⟩ w'

inductive TagsRun : W → List TagValue → W → Prop
  | nil {w : W} : w.nextType.canStartTag = false → TagsRun w [] w
  | cons {w w1 w' : W} {t : TagValue} {ts : List TagValue} : w.nextType.canStartTag = true →
      TagRun w t w1 → TagsRun w1 ts w' → TagsRun w (t :: ts) w'

inductive QualsRun : W → List TagValue → W → Prop
  | nil {w : W} : w.nextType ≠ .colon → QualsRun w [] w
  | cons {w w1 w2 w' : W} {c : Token} {q : TagValue} {qs : List TagValue} : Pop w c w1 →
      c.ty = .colon → TagRun w1 q w2 → QualsRun w2 qs w' → QualsRun w (q :: qs) w'

theorem MarkRun.drop {w w' : W} {m : TagMark} {mt : Token} (h : MarkRun w m mt w') : Drop 0 w w' := by
  cases h with
  | none => exact .refl _
  | bang hp _ => exact hp.drop.zero
  | question hp _ => exact hp.drop.zero

theorem TagRun.drop {w w' : W} {t : TagValue} (h : TagRun w t w') : Drop 1 w w' := by
  cases h with
  | ref hm _ hr => exact (hm.drop.trans hr.drop).mono (Nat.le_refl _)
  | str hm hp _ => exact (hm.drop.trans hp.drop).mono (Nat.le_refl _)

theorem TagsRun.drop {w w' : W} {ts : List TagValue} (h : TagsRun w ts w') : Drop ts.length w w' := by
  induction h with
  | nil _ => exact .refl _
  | cons _ ht _ ih => exact (ht.drop.trans ih).mono (Nat.le_of_eq (Nat.add_comm _ 1))

theorem QualsRun.drop {w w' : W} {qs : List TagValue} (h : QualsRun w qs w') :
    Drop qs.length w w' := by
  induction h with
  | nil _ => exact .refl _
  | cons hp _ ht _ ih => exact ((hp.drop.followed ht.drop).trans ih).mono (Nat.le_of_eq (Nat.add_comm _ 1))

theorem TagRun.bounds {w w' : W} {t : TagValue} (h : TagRun w t w') :
    (∃ w1 x xs, Drop 0 w w1 ∧ w1.rest = x :: xs ∧ t.span.start = x.start) ∧
      w'.currentPos = t.span.end_ := by
  cases h with
  | ref hm _ hr =>
    obtain ⟨⟨x, xs, h1, h2⟩, h3⟩ := hr.bounds
    exact ⟨⟨_, x, xs, hm.drop, h1, h2⟩, h3⟩
  | str hm hp _ =>
    refine ⟨?_, hp.currentPos⟩
    cases hp
    exact ⟨_, _, _, hm.drop, rfl, rfl⟩

theorem popTag_wt (fuel : Nat) (w : W) : WT (ValC fuel w) (popTag fuel) w (TagRun w) := by
  unfold popTag
  apply WT.getW_bind
  have hmark : WT (NE w) (match w.nextType with
      | .bang => do let tok ← popToken; pure (TagMark.bang, tok)
      | .question => do let tok ← popToken; pure (TagMark.question, tok)
      | _ => pure (TagMark.none, Token.zero) : WM (TagMark × Token)) w
      (fun p w1 => MarkRun w p.1 p.2 w1) := by
    split
    · exact (popToken_wt ‹_› (by decide)).bind fun t w1 hp =>
        ⟨hp.1.drop.zero, WT.pure (.bang hp.1 hp.2)⟩
    · exact (popToken_wt ‹_› (by decide)).bind fun t w1 hp =>
        ⟨hp.1.drop.zero, WT.pure (.question hp.1 hp.2)⟩
    · rename_i h1 h2
      exact WT.pure (.none h1 h2)
  refine (hmark.mono And.left).bind fun p w1 hm => ⟨hm.drop, ?_⟩
  obtain ⟨mark, mt⟩ := p
  simp only []
  apply WT.getW_bind
  split
  · exact (popReference_wt.mono fun _ => Or.inl ‹_›).bind fun r w2 hr =>
      ⟨hr.drop.zero, WT.pure (.ref hm (Or.inl ‹_›) hr)⟩
  · exact (popReference_wt.mono fun _ => Or.inr ‹_›).bind fun r w2 hr =>
      ⟨hr.drop.zero, WT.pure (.ref hm (Or.inr ‹_›) hr)⟩
  · rename_i hty
    refine (((popValue_wt_aux fuel).1 w1).mono fun c => ValC.drop c hm.drop).bind
      fun v w2 hv => ⟨hv.drop.zero, ?_⟩
    cases hv with
    | ref h1 => rw [hty] at h1; cases h1
    | lit hp _ _ => exact WT.pure (.str hm hp (hp.nextType.symm.trans hty))
    | empty hp h1 => rw [← hp.nextType, hty] at h1; cases h1
    | array hp h1 => rw [← hp.nextType, hty] at h1; cases h1
  · exact (failUnexpected_wt _ _ _).mono fun c => c.1.drop hm.drop

theorem TagRun.run {fuel : Nat} {w w' : W} {t : TagValue} (h : TagRun w t w')
    (hf : 2 * (w.rest.length - w'.rest.length) ≤ fuel) : popTag fuel w = .ok t w' := by
  unfold popTag
  rw [getW_bind']
  have mark : ∀ {m : TagMark} {mt : Token} {w1 : W}, MarkRun w m mt w1 →
      (match w.nextType with
        | .bang => do let tok ← popToken; pure (TagMark.bang, tok)
        | .question => do let tok ← popToken; pure (TagMark.question, tok)
        | _ => pure (TagMark.none, Token.zero) : WM (TagMark × Token)) w = .ok (m, mt) w1 := by
    intro m mt w1 hm
    cases hm with
    | none n1 n2 =>
      generalize w.nextType = ty at n1 n2
      cases ty <;> first | rfl | exact absurd rfl n1 | exact absurd rfl n2
    | bang hp hb => rw [hp.nextType, hb]; exact bind_eq_of_ok hp.run
    | question hp hb => rw [hp.nextType, hb]; exact bind_eq_of_ok hp.run
  cases h with
  | ref hm hty hr =>
    refine (bind_eq_of_ok (mark hm)).trans ((getW_bind' _ _).trans ?_)
    rcases hty with e | e <;> rw [e] <;> exact bind_eq_of_ok hr.run
  | str hm hp hty =>
    have hv := (ValRun.lit hp (by rw [hty]; decide) (by rw [hty]; rfl)).run
      (fuel_right hf hm.drop)
    refine (bind_eq_of_ok (mark hm)).trans ((getW_bind' _ _).trans ?_)
    rw [hp.nextType, hty]
    exact bind_eq_of_ok hv

/-- the condition of a loop over tags: a token to pop, a round for every token left, fuel for `popTag` -/
abbrev LoopC (pfuel fuel : Nat) (w : W) : Prop :=
  NE w ∧ w.rest.length < fuel ∧ 2 * w.rest.length < pfuel

theorem LoopC.drop {pfuel fuel : Nat} {w w' : W} (c : LoopC pfuel (fuel + 1) w) (hd : Drop 1 w w') :
    LoopC pfuel fuel w' := ⟨c.1.drop hd, hd.lt_succ c.2.1, hd.fuel c.2.2⟩

theorem tagsLoop_wt (pfuel : Nat) (fuel : Nat) : ∀ (w : W) (acc : List TagValue),
    WT (LoopC pfuel fuel w) (tagsLoop pfuel fuel acc) w
      (fun ts w' => ∃ new, ts = acc ++ new ∧ TagsRun w new w') := by
  induction fuel with
  | zero => intro w acc; unfold tagsLoop; exact fun c => absurd c.2.1 (Nat.not_lt_zero _)
  | succ fuel ih =>
    intro w acc
    unfold tagsLoop
    apply WT.getW_bind
    split
    · rename_i hty
      refine ((popTag_wt pfuel w).mono fun c => ⟨c.1, c.2.2⟩).bind
        fun t w1 ht => ⟨ht.drop.zero, ((ih w1 _).mono fun c => LoopC.drop c ht.drop).weaken ?_⟩
      rintro _ w' ⟨new, rfl, hn⟩
      exact ⟨t :: new, by simp, .cons hty ht hn⟩
    · rename_i hty
      exact WT.pure ⟨[], by simp, .nil (by simpa using hty)⟩

theorem TagsRun.run {pfuel : Nat} {w w' : W} {ts : List TagValue} (h : TagsRun w ts w') :
    ∀ (fuel : Nat) (acc : List TagValue), ts.length < fuel →
      2 * (w.rest.length - w'.rest.length) ≤ pfuel → tagsLoop pfuel fuel acc w = .ok (acc ++ ts) w' := by
  induction h with
  | nil hty =>
    intro fuel acc hf _
    obtain ⟨f, rfl⟩ := Nat.exists_eq_add_one.2 (Nat.zero_lt_of_lt hf)
    rw [tagsLoop, getW_bind', if_neg (by rw [hty]; decide), List.append_nil]
    rfl
  | cons hty ht hts ih =>
    intro fuel acc hf hpf
    obtain ⟨f, rfl⟩ := Nat.exists_eq_add_one.2 (Nat.zero_lt_of_lt hf)
    rw [tagsLoop, getW_bind', if_pos hty, bind_eq_of_ok (ht.run (fuel_left hpf hts.drop)),
      ih f _ (Nat.lt_of_succ_lt_succ hf) (fuel_right hpf ht.drop), List.append_assoc]
    rfl

theorem qualsLoop_wt (pfuel : Nat) (fuel : Nat) : ∀ (w : W) (acc : List TagValue),
    WT (LoopC pfuel fuel w) (qualsLoop pfuel fuel acc) w
      (fun ts w' => ∃ new, ts = acc ++ new ∧ QualsRun w new w') := by
  induction fuel with
  | zero => intro w acc; unfold qualsLoop; exact fun c => absurd c.2.1 (Nat.not_lt_zero _)
  | succ fuel ih =>
    intro w acc
    unfold qualsLoop
    apply WT.getW_bind
    split
    · refine ((popToken_wt ‹_› (by decide)).mono And.left).bind
        fun c w1 hp => ⟨hp.1.drop.zero, ?_⟩
      refine ((popTag_wt pfuel w1).mono fun c => ⟨c.1.drop hp.1.drop, hp.1.drop.fuel c.2.2⟩).bind
        fun q w2 hq => ⟨hq.drop.zero,
          ((ih w2 _).mono fun c => LoopC.drop c (hp.1.drop.followed hq.drop)).weaken ?_⟩
      rintro _ w' ⟨new, rfl, hn⟩
      exact ⟨q :: new, by simp, .cons hp.1 hp.2 hq hn⟩
    · exact WT.pure ⟨[], by simp, .nil ‹_›⟩

theorem QualsRun.run {pfuel : Nat} {w w' : W} {qs : List TagValue} (h : QualsRun w qs w') :
    ∀ (fuel : Nat) (acc : List TagValue), qs.length < fuel →
      2 * (w.rest.length - w'.rest.length) ≤ pfuel → qualsLoop pfuel fuel acc w = .ok (acc ++ qs) w' := by
  induction h with
  | nil hty =>
    intro fuel acc hf _
    obtain ⟨f, rfl⟩ := Nat.exists_eq_add_one.2 (Nat.zero_lt_of_lt hf)
    rw [qualsLoop, getW_bind', if_neg hty, List.append_nil]
    rfl
  | cons hp hc ht hqs ih =>
    intro fuel acc hf hpf
    obtain ⟨f, rfl⟩ := Nat.exists_eq_add_one.2 (Nat.zero_lt_of_lt hf)
    rw [qualsLoop, getW_bind', if_pos (hp.nextType.trans hc), bind_eq_of_ok hp.run,
      bind_eq_of_ok (ht.run (fuel_left (fuel_right hpf hp.drop) hqs.drop)),
      ih f _ (Nat.lt_of_succ_lt_succ hf) (fuel_right (fuel_right hpf hp.drop) ht.drop),
      List.append_assoc]
    rfl

inductive AssignOp : W → Bool → W → Prop
  | set {w w' : W} {t : Token} : Pop w t w' → t.ty = .assign → AssignOp w false w'
  | append {w w1 w' : W} {p t : Token} : Pop w p w1 → p.ty = .plus → Pop w1 t w' → t.ty = .assign →
      AssignOp w true w'

/-- the end of a block header; `eol`: the line's end is left for the fragment loop.  `e` is where the header ends. -/
inductive HdrEnd : W → Option Description → Bool → Pos → Option CommentNode → W → Prop
  | opened {w w1 w' : W} {t : Token} {c : Option CommentNode} : Pop w t w1 → t.ty = .lbrace →
      EndRun w1 c w' → HdrEnd w none true t.end_ c w'
  | desc {w w' : W} {t : Token} : Pop w t w' → t.ty = .description →
      HdrEnd w (some ⟨[t], t.lit, ⟨t.start, t.end_⟩⟩) false t.end_ none w'
  | comment {w w' : W} {c : Option CommentNode} : w.nextType = .comment → EndRun w c w' →
      HdrEnd w none false w.currentPos c w'
  | eol {w : W} : w.nextType = .eol ∨ w.nextType = .eof → HdrEnd w none false w.currentPos none w

inductive StmtRun : W → Fragment → W → Prop
  | assign {w w1 w2 w3 w' : W} {r : Reference} {app : Bool} {v : Value} {c : Option CommentNode} :
      RefRun w r w1 → AssignOp w1 app w2 → ValRun w2 v w3 → EndRun w3 c w' →
      StmtRun w (.assign ⟨r, v, app, ⟨r.span.start, v.span.end_, c⟩⟩) w'
  | header {w w1 w2 w3 w' : W} {r : Reference} {ts qs : List TagValue} {d : Option Description}
      {o : Bool} {e : Pos} {c : Option CommentNode} : RefRun w r w1 → w1.nextType ≠ .assign →
      w1.nextType ≠ .plus → TagsRun w1 ts w2 → QualsRun w2 qs w3 → HdrEnd w3 d o e c w' →
      StmtRun w (.header ⟨r, ts, qs, d, o, ⟨r.span.start, e, c⟩⟩) w'

theorem AssignOp.drop {w w' : W} {app : Bool} (h : AssignOp w app w') : Drop 1 w w' := by
  cases h with
  | set hp _ => exact hp.drop
  | append hp _ hp2 _ => exact hp.drop.followed hp2.drop

theorem HdrEnd.drop {w w' : W} {d : Option Description} {o : Bool} {e : Pos} {c : Option CommentNode}
    (h : HdrEnd w d o e c w') : Drop 0 w w' := by
  cases h with
  | opened hp _ hc => exact (hp.drop.trans hc.drop).zero
  | desc hp _ => exact hp.drop.zero
  | comment _ hc => exact hc.drop
  | eol _ => exact .refl _

theorem StmtRun.drop {w w' : W} {f : Fragment} (h : StmtRun w f w') : Drop 1 w w' := by
  cases h with
  | assign hr hop hv hc =>
    exact hr.drop.followed (hop.drop.followed (hv.drop.followed hc.drop))
  | header hr _ _ hts hqs he =>
    exact hr.drop.followed (hts.drop.followed (hqs.drop.followed he.drop))

theorem popType_wt {tt : TokenType} (htt : tt ≠ .eof) (w : W) :
    WT (NE w) (popType tt) w (fun t w' => Pop w t w' ∧ t.ty = tt) := by
  unfold popType
  refine WT.pop id fun t w1 h1 => ?_
  split
  · exact Or.inl ⟨_, rfl⟩
  · rename_i hty
    have hty : t.ty = tt := by simpa using hty
    exact Or.inr (WT.pure ⟨.of_ok h1 (hty ▸ htt), hty⟩)

theorem walkValueAssign_wt (fuel : Nat) (ref : Reference) (app : Bool) (w : W) :
    WT (ValC fuel w) (walkValueAssign fuel ref app) w (fun a w' => ∃ t w1 v w2 c, Pop w t w1 ∧
      t.ty = .assign ∧ ValRun w1 v w2 ∧ EndRun w2 c w' ∧
      a = ⟨ref, v, app, ⟨ref.span.start, v.span.end_, c⟩⟩) := by
  unfold walkValueAssign
  refine ((popType_wt (by decide) w).mono And.left).bind
    fun t w1 hp => ⟨hp.1.drop.zero, ?_⟩
  refine (((popValue_wt_aux fuel).1 w1).mono fun c => ValC.drop c hp.1.drop).bind
    fun v w2 hv => ⟨hv.drop.zero, ?_⟩
  refine ((endStatement_wt w2).mono fun c => c.1.drop (hp.1.drop.followed hv.drop)).bind
    fun c w3 hc => ⟨hc.drop, WT.pure ⟨_, _, _, _, _, hp.1, hp.2, hv, hc, rfl⟩⟩

/-- the condition of `walkStatement`: it starts with a reference; two units of fuel for every token -/
abbrev StmtC (fuel : Nat) (w : W) : Prop :=
  (w.nextType = .ident ∨ w.nextType = .bool) ∧ 2 * w.rest.length < fuel

theorem walkStatement_wt (fuel : Nat) (w : W) : WT (StmtC fuel w) (walkStatement fuel) w (StmtRun w) := by
  -- what the condition gives after any reading
  have down : ∀ {n : Nat} {w' : W}, Drop n w w' → StmtC fuel w → LoopC fuel fuel w' := fun hd c =>
    ⟨(NE.of_nextType (by rcases c.1 with h | h <;> rw [h] <;> decide)).drop hd, hd.fuel_lt c.2, hd.fuel c.2⟩
  unfold walkStatement
  refine (popReference_wt.mono And.left).bind fun r w1 hr => ⟨hr.drop.zero, ?_⟩
  simp only []
  apply WT.getW_bind
  by_cases h1 : w1.nextType = .assign
  · simp only [h1, if_true]
    refine ((walkValueAssign_wt fuel r false w1).mono fun c => ⟨(down hr.drop c).1, (down hr.drop c).2.2⟩).bind
      fun a w2 ha => ?_
    obtain ⟨t, _, v, _, c, hp, hty, hv, hc, rfl⟩ := ha
    exact ⟨hp.drop.followed (hv.drop.followed hc.drop) |>.zero, WT.pure (.assign hr (.set hp hty) hv hc)⟩
  simp only [h1, if_false]
  by_cases h2 : w1.nextType = .plus
  · simp only [h2, if_true]
    refine ((popToken_wt h2 (by decide)).mono fun c => (down hr.drop c).1).bind
      fun p w2 hp => ⟨hp.1.drop.zero, ?_⟩
    have hd2 := hr.drop.followed hp.1.drop
    apply WT.getW_bind
    split
    · exact (failUnexpected_wt _ _ _).mono fun c => (down hd2 c).1
    · refine ((walkValueAssign_wt fuel r true w2).mono fun c => ⟨(down hd2 c).1, (down hd2 c).2.2⟩).bind
        fun a w3 ha => ?_
      obtain ⟨t, _, v, _, c, hp2, hty, hv, hc, rfl⟩ := ha
      exact ⟨hp2.drop.followed (hv.drop.followed hc.drop) |>.zero,
        WT.pure (.assign hr (.append hp.1 hp.2 hp2 hty) hv hc)⟩
  simp only [h2, if_false]
  refine ((tagsLoop_wt fuel fuel w1 []).mono (down hr.drop)).bind fun ts w2 hts => ?_
  obtain ⟨_, rfl, hts⟩ := hts
  refine ⟨hts.drop.zero, ?_⟩
  have hd2 := hr.drop.followed hts.drop
  refine ((qualsLoop_wt fuel fuel w2 []).mono (down hd2)).bind fun qs w3 hqs => ?_
  obtain ⟨_, rfl, hqs⟩ := hqs
  refine ⟨hqs.drop.zero, ?_⟩
  have hd3 := hd2.followed hqs.drop
  apply WT.getW_bind
  split
  · refine ((popToken_wt ‹_› (by decide)).mono fun c => (down hd3 c).1).bind
      fun t w4 hp => ⟨hp.1.drop.zero, WT.getW_bind ?_⟩
    refine ((endStatement_wt w4).mono fun c => (down (hd3.followed hp.1.drop) c).1).bind
      fun c w5 hc => ⟨hc.drop, ?_⟩
    rw [hp.1.currentPos]
    exact WT.pure (.header hr h1 h2 hts hqs (.opened hp.1 hp.2 hc))
  · refine ((popToken_wt ‹_› (by decide)).mono fun c => (down hd3 c).1).bind
      fun t w4 hp => ⟨hp.1.drop.zero, WT.getW_bind ?_⟩
    rw [hp.1.currentPos]
    exact WT.pure (.header hr h1 h2 hts hqs (.desc hp.1 hp.2))
  · exact ((endStatement_wt w3).mono fun c => (down hd3 c).1).bind fun c w4 hc =>
      ⟨hc.drop, WT.pure (.header hr h1 h2 hts hqs (.comment ‹_› hc))⟩
  · exact WT.pure (.header hr h1 h2 hts hqs (.eol (Or.inl ‹_›)))
  · exact WT.pure (.header hr h1 h2 hts hqs (.eol (Or.inr ‹_›)))
  · exact (failUnexpected_wt _ _ _).mono fun c => (down hd3 c).1


/-- fuel for the rounds of a header's two tag loops: a token for every tag and one for the reference -/
theorem rounds_lt {fuel a b c d m n : Nat} (hf : 2 * (a - d) ≤ fuel) (h1 : b + 1 ≤ a)
    (h2 : c + m ≤ b) (h3 : d + n ≤ c) : m < fuel ∧ n < fuel := by omega

theorem walkValueAssign_run {fuel : Nat} {w w1 w2 w' : W} {t : Token} {v : Value}
    {c : Option CommentNode} (ref : Reference) (app : Bool) (hp : Pop w t w1) (hty : t.ty = .assign)
    (hv : ValRun w1 v w2) (hc : EndRun w2 c w') (hf : 2 * (w1.rest.length - w2.rest.length) ≤ fuel) :
    walkValueAssign fuel ref app w = .ok ⟨ref, v, app, ⟨ref.span.start, v.span.end_, c⟩⟩ w' := by
  simp [walkValueAssign, popType, bind_apply, hp.run, hty, hv.run hf, hc.run, pure_apply]

theorem StmtRun.run {fuel : Nat} {w w' : W} {f : Fragment} (h : StmtRun w f w')
    (hf : 2 * (w.rest.length - w'.rest.length) ≤ fuel) : walkStatement fuel w = .ok f w' := by
  unfold walkStatement
  cases h with
  | assign hr hop hv hc =>
    have hfv := fuel_left (fuel_right (fuel_right hf hr.drop) hop.drop) hc.drop
    rw [bind_eq_of_ok (hr.run), getW_bind']
    cases hop with
    | set hp hty =>
      rw [if_pos (hp.nextType.trans hty),
        bind_eq_of_ok (walkValueAssign_run _ false hp hty hv hc hfv)]
      rfl
    | append hp hty hp2 hty2 =>
      rw [if_neg (by rw [hp.nextType, hty]; decide), if_pos (hp.nextType.trans hty),
        bind_eq_of_ok hp.run, getW_bind', if_neg (fun h => h (hp2.nextType.trans hty2)),
        bind_eq_of_ok (walkValueAssign_run _ true hp2 hty2 hv hc hfv)]
      rfl
  | header hr h1 h2 hts hqs he =>
    have hf1 := fuel_right hf hr.drop
    have hf2 := fuel_right hf1 hts.drop
    have hn := rounds_lt hf hr.drop.len hts.drop.len (hqs.drop.trans he.drop).len
    rw [bind_eq_of_ok (hr.run), getW_bind', if_neg h1, if_neg h2,
      bind_eq_of_ok (hts.run fuel [] hn.1 (fuel_left hf1 (hqs.drop.trans he.drop))),
      bind_eq_of_ok (hqs.run fuel [] hn.2 (fuel_left hf2 he.drop)), getW_bind']
    cases he with
    | opened hp hty hc =>
      rw [hp.nextType, hty]
      simp only []
      rw [bind_eq_of_ok hp.run, getW_bind', bind_eq_of_ok hc.run, hp.currentPos]
      rfl
    | desc hp hty =>
      rw [hp.nextType, hty]
      simp only []
      rw [bind_eq_of_ok hp.run, getW_bind', hp.currentPos]
      rfl
    | comment hty hc =>
      rw [hty]
      simp only []
      rw [bind_eq_of_ok hc.run]
      rfl
    | eol hty => rcases hty with e | e <;> rw [e] <;> rfl

/-- `EOL DESCRIPTION` follows: `popDescription` goes on -/
def DescCont (rest : List Token) : Prop :=
  ∃ e d rs, rest = e :: d :: rs ∧ e.ty = .eol ∧ d.ty = .description

inductive DescLines : W → List Token → Token → W → Prop
  | stop {w : W} {last : Token} : w.prev = some last → ¬ DescCont w.rest → DescLines w [] last w
  | line {w w1 w2 w' : W} {e d last : Token} {ds : List Token} : Pop w e w1 → e.ty = .eol →
      Pop w1 d w2 → d.ty = .description → DescLines w2 ds last w' → DescLines w (d :: ds) last w'

theorem DescLines.drop {w w' : W} {ds : List Token} {last : Token} (h : DescLines w ds last w') :
    Drop 0 w w' := by
  induction h with
  | stop _ _ => exact .refl _
  | line hp _ hp2 _ _ ih => exact ((hp.drop.trans hp2.drop).trans ih).zero

theorem DescLines.end {w w' : W} {ds : List Token} {last : Token} (h : DescLines w ds last w')
    (hp : ∀ l, w.prev = some l → l.ty = .description) :
    w'.prev = some last ∧ last.ty = .description ∧ ¬ DescCont w'.rest := by
  induction h with
  | stop hl hnc => exact ⟨hl, hp _ hl, hnc⟩
  | line _ _ hp2 hd _ ih => exact ih fun l hl => by cases hp2.prev.symm.trans hl; exact hd

theorem popDescLoop_lines : ∀ (rest toks : List Token) (last : Token),
    ∃ ds, (popDescLoop toks last rest).1 = toks ++ ds ∧
      DescLines ⟨some last, rest⟩ ds (popDescLoop toks last rest).2.1 (popDescLoop toks last rest).2.2
  | [], _, _ => ⟨[], by simp [popDescLoop], .stop rfl (by rintro ⟨_, _, _, h, _⟩; cases h)⟩
  | [_], _, _ => ⟨[], by simp [popDescLoop], .stop rfl (by rintro ⟨_, _, _, h, _⟩; cases h)⟩
  | e :: d :: rs, toks, last => by
    by_cases h : e.ty = .eol ∧ d.ty = .description
    · obtain ⟨ds, h1, h2⟩ := popDescLoop_lines rs (toks ++ [d]) d
      rw [popDescLoop, if_pos h]
      exact ⟨d :: ds, by simpa using h1, .line (.mk ..) h.1 (.mk ..) h.2 h2⟩
    · rw [popDescLoop, if_neg h]
      exact ⟨[], by simp, .stop rfl (by rintro ⟨_, _, _, h1, h2, h3⟩; cases h1; exact h ⟨h2, h3⟩)⟩

theorem DescLines.run {w w' : W} {ds : List Token} {l : Token} (h : DescLines w ds l w') :
    ∀ (toks : List Token) (last : Token), w.prev = some last →
      popDescLoop toks last w.rest = (toks ++ ds, l, w') := by
  induction h with
  | @stop w l hprev hnc =>
    intro toks last hl
    cases hprev.symm.trans hl
    obtain ⟨p, rest⟩ := w
    cases hl
    rw [List.append_nil]
    match rest, hnc with
    | [], _ => rfl
    | [_], _ => rfl
    | e :: d :: rs, hnc => rw [popDescLoop, if_neg fun h => hnc ⟨e, d, rs, rfl, h.1, h.2⟩]
  | line hp he hp2 hd _ ih =>
    intro toks last _
    cases hp; cases hp2
    rw [popDescLoop, if_pos ⟨he, hd⟩, ih _ _ rfl, List.append_assoc]
    rfl

theorem popDescription_wt {w : W} (hty : w.nextType = .description) :
    WT (NE w) popDescription w (fun d w' => ∃ t w1 ds last, Pop w t w1 ∧ t.ty = .description ∧
      DescLines w1 ds last w' ∧ d = mkDescription (t :: ds) t last) := by
  unfold popDescription
  refine (popToken_wt hty (by decide)).bind fun first w1 hp => ⟨hp.1.drop.zero, ?_⟩
  show WT _ (fun w => match popDescLoop [first] first w.rest with
    | (toks, last, w2) => WR.ok (mkDescription toks first last) w2) w1 _
  unfold WT
  simp only []
  obtain ⟨ds, h1, h2⟩ := popDescLoop_lines w1.rest [first] first
  generalize popDescLoop [first] first w1.rest = res at h1 h2 ⊢
  obtain ⟨toks, last, w2⟩ := res
  cases h1
  have hw1 : w1 = ⟨some first, w1.rest⟩ := by cases hp.1; rfl
  rw [← hw1] at h2
  exact ⟨first, w1, ds, last, hp.1, hp.2, h2, rfl⟩

theorem popDescription_run {w w1 w' : W} {t last : Token} {ds : List Token} (hp : Pop w t w1)
    (hl : DescLines w1 ds last w') : popDescription w = .ok (mkDescription (t :: ds) t last) w' := by
  unfold popDescription
  refine (bind_eq_of_ok hp.run).trans ?_
  simp only []
  rw [hl.run [t] t hp.prev]
  rfl

inductive FragRun : W → Option Fragment → W → Prop
  | blank {w w' : W} {t : Token} : w.nextType = .eof ∨ w.nextType = .eol → popToken w = .ok t w' →
      FragRun w none w'
  | close {w w' : W} {t : Token} : Pop w t w' → t.ty = .rbrace →
      FragRun w (some (.close ⟨t, ⟨t.start, t.end_⟩⟩)) w'
  | comment {w w' : W} {t : Token} : Pop w t w' → t.ty = .comment ∨ t.ty = .blockComment →
      FragRun w (some (.comment ⟨t, t.lit, ⟨t.start, t.end_⟩⟩)) w'
  | desc {w w1 w' : W} {t last : Token} {ds : List Token} : Pop w t w1 → t.ty = .description →
      DescLines w1 ds last w' → FragRun w (some (.desc (mkDescription (t :: ds) t last))) w'
  | stmt {w w' : W} {f : Fragment} : w.nextType = .ident ∨ w.nextType = .bool → StmtRun w f w' →
      FragRun w (some f) w'

inductive FragsRun : W → List Fragment → Prop
  | eof {w : W} : w.nextType = .eof → FragsRun w []
  | skip {w w1 : W} {fs : List Fragment} : w.nextType ≠ .eof → FragRun w none w1 → FragsRun w1 fs →
      FragsRun w fs
  | frag {w w1 : W} {f : Fragment} {fs : List Fragment} : w.nextType ≠ .eof → FragRun w (some f) w1 →
      FragsRun w1 fs → FragsRun w (f :: fs)

theorem FragRun.drop_pos {w w' : W} {r : Option Fragment} (h : FragRun w r w')
    (hne : w.nextType ≠ .eof) : Drop 1 w w' := by
  cases h with
  | blank _ hp => exact (Pop.of_ok hp (popToken_ty hp ▸ hne)).drop
  | close hp _ => exact hp.drop
  | comment hp _ => exact hp.drop
  | desc hp _ hl => exact hp.drop.followed hl.drop
  | stmt _ hs => exact hs.drop

theorem FragRun.drop {w w' : W} {r : Option Fragment} (h : FragRun w r w') : Drop 0 w w' := by
  cases h with
  | blank _ hp => exact popToken_drop hp
  | close hp _ => exact hp.drop.zero
  | comment hp _ => exact hp.drop.zero
  | desc hp _ hl => exact (hp.drop.followed hl.drop).zero
  | stmt _ hs => exact hs.drop.zero

theorem FragRun.ne_eof_eol {w w' : W} {f : Fragment} (h : FragRun w (some f) w') :
    w.nextType ≠ .eof ∧ w.nextType ≠ .eol := by
  cases h with
  | close hp hty => rw [hp.nextType, hty]; decide
  | comment hp hty => rw [hp.nextType]; rcases hty with e | e <;> rw [e] <;> decide
  | desc hp hty _ => rw [hp.nextType, hty]; decide
  | stmt hty _ => rcases hty with e | e <;> rw [e] <;> decide

theorem FragRun.none_eol {w w' : W} (h : FragRun w none w') (hne : w.nextType ≠ .eof) :
    ∃ e rs, w.rest = e :: rs ∧ e.ty = .eol ∧ w' = ⟨some e, rs⟩ := by
  cases h with
  | blank hty hp =>
    have hte := (popToken_ty hp).trans (hty.resolve_left hne)
    have := Pop.of_ok hp (by rw [hte]; decide)
    cases this
    exact ⟨_, _, rfl, hte, rfl⟩

theorem nextFragment_wt (fuel : Nat) (w : W) : WT (ValC fuel w) (nextFragment fuel) w (FragRun w) := by
  have tok : WT (ValC fuel w) popToken w (fun t w' => popToken w = .ok t w') :=
    (popToken_self w).mono And.left
  unfold nextFragment
  apply WT.getW_bind
  split
  · exact tok.bind fun _ _ h => ⟨popToken_drop h, WT.pure (.blank (Or.inl ‹_›) h)⟩
  · exact tok.bind fun _ _ h => ⟨popToken_drop h, WT.pure (.blank (Or.inr ‹_›) h)⟩
  · exact ((popToken_wt ‹_› (by decide)).mono And.left).bind fun _ _ hp =>
      ⟨hp.1.drop.zero, WT.pure (.close hp.1 hp.2)⟩
  · exact ((popToken_wt ‹_› (by decide)).mono And.left).bind fun _ _ hp =>
      ⟨hp.1.drop.zero, WT.pure (.comment hp.1 (Or.inl hp.2))⟩
  · exact ((popToken_wt ‹_› (by decide)).mono And.left).bind fun _ _ hp =>
      ⟨hp.1.drop.zero, WT.pure (.comment hp.1 (Or.inr hp.2))⟩
  · refine ((popDescription_wt ‹_›).mono And.left).bind fun d w1 hd => ?_
    obtain ⟨t, _, ds, last, hp, hty, hl, rfl⟩ := hd
    exact ⟨(hp.drop.followed hl.drop).zero, WT.pure (.desc hp hty hl)⟩
  · exact ((walkStatement_wt fuel w).mono fun c => ⟨Or.inl ‹_›, c.2⟩).bind fun f w1 hf =>
      ⟨hf.drop.zero, WT.pure (.stmt (Or.inl ‹_›) hf)⟩
  · exact ((walkStatement_wt fuel w).mono fun c => ⟨Or.inr ‹_›, c.2⟩).bind fun f w1 hf =>
      ⟨hf.drop.zero, WT.pure (.stmt (Or.inr ‹_›) hf)⟩
  · exact (failUnexpected_wt _ _ _).mono And.left

theorem nextFragment_sound {fuel : Nat} {w w' : W} {r : Option Fragment}
    (h : nextFragment fuel w = .ok r w') : FragRun w r w' :=
  (nextFragment_wt fuel w).sound r w' h

theorem FragRun.run {fuel : Nat} {w w' : W} {r : Option Fragment} (h : FragRun w r w')
    (hf : 2 * (w.rest.length - w'.rest.length) ≤ fuel) : nextFragment fuel w = .ok r w' := by
  unfold nextFragment
  rw [getW_bind']
  cases h with
  | blank hty hp => rcases hty with e | e <;> rw [e] <;> exact bind_eq_of_ok hp
  | close hp hty => rw [hp.nextType, hty]; exact bind_eq_of_ok hp.run
  | comment hp hty => rw [hp.nextType]; rcases hty with e | e <;> rw [e] <;> exact bind_eq_of_ok hp.run
  | desc hp hty hl => rw [hp.nextType, hty]; exact bind_eq_of_ok (popDescription_run hp hl)
  | stmt hty hs => rcases hty with e | e <;> rw [e] <;> exact bind_eq_of_ok (hs.run hf)

theorem walkFragmentsLoop_done (pfuel : Nat) (fuel : Nat) : ∀ (w : W) (acc : List Fragment)
    (errs : List Diag) (out : List Fragment) (errs' : List Diag),
    walkFragmentsLoop true pfuel fuel w acc errs = .done out errs' →
      errs' = errs ∧ ∃ fs, out = acc ++ fs ∧ FragsRun w fs := by
  induction fuel with
  | zero => intro w acc errs out errs' h; unfold walkFragmentsLoop at h; cases h
  | succ fuel ih =>
    intro w acc errs out errs' h
    unfold walkFragmentsLoop at h
    by_cases heof : w.nextType = .eof
    · rw [if_pos heof] at h; cases h
      exact ⟨rfl, [], by simp, .eof heof⟩
    rw [if_neg heof] at h
    cases hnf : nextFragment pfuel w with
    | panic s => rw [hnf] at h; cases h
    | fail e w1 => rw [hnf] at h; simp at h
    | ok r w1 =>
      rw [hnf] at h
      have hr := nextFragment_sound hnf
      cases r with
      | none =>
        obtain ⟨he, fs, ho, hfs⟩ := ih w1 acc errs out errs' h
        exact ⟨he, fs, ho, .skip heof hr hfs⟩
      | some f =>
        obtain ⟨he, fs, ho, hfs⟩ := ih w1 (acc ++ [f]) errs out errs' h
        exact ⟨he, f :: fs, by rw [ho]; simp, .frag heof hr hfs⟩

theorem round_fuel {a b fuel pfuel : Nat} (hf : a < fuel + 1) (hpf : 2 * a ≤ pfuel) (h : b + 1 ≤ a) :
    2 * (a - b) ≤ pfuel ∧ b < fuel ∧ 2 * b ≤ pfuel := by omega

theorem FragsRun.run {pfuel : Nat} {w : W} {fs : List Fragment} (h : FragsRun w fs) :
    ∀ (fuel : Nat) (acc : List Fragment) (errs : List Diag), w.rest.length < fuel →
      2 * w.rest.length ≤ pfuel →
      walkFragmentsLoop true pfuel fuel w acc errs = .done (acc ++ fs) errs := by
  induction h with
  | eof heof =>
    intro fuel acc errs hf _
    obtain ⟨f, rfl⟩ := Nat.exists_eq_add_one.2 (Nat.zero_lt_of_lt hf)
    unfold walkFragmentsLoop
    rw [if_pos heof, List.append_nil]
  | skip hne hr _ ih =>
    intro fuel acc errs hf hpf
    obtain ⟨f, rfl⟩ := Nat.exists_eq_add_one.2 (Nat.zero_lt_of_lt hf)
    obtain ⟨h1, h2, h3⟩ := round_fuel hf hpf (hr.drop_pos hne).len
    unfold walkFragmentsLoop
    rw [if_neg hne, hr.run h1]
    exact ih f acc errs h2 h3
  | frag hne hr _ ih =>
    intro fuel acc errs hf hpf
    obtain ⟨f, rfl⟩ := Nat.exists_eq_add_one.2 (Nat.zero_lt_of_lt hf)
    obtain ⟨h1, h2, h3⟩ := round_fuel hf hpf (hr.drop_pos hne).len
    unfold walkFragmentsLoop
    rw [if_neg hne, hr.run h1]
    simp only []
    rw [ih f _ errs h2 h3, List.append_assoc]
    rfl

/-- both are what `nextFragment` computes, with fuel for every token that is left -/
theorem FragRun.det {w w1 w2 : W} {r1 r2 : Option Fragment} (h1 : FragRun w r1 w1) (h2 : FragRun w r2 w2) :
    r1 = r2 ∧ w1 = w2 := by
  have hfuel : ∀ w' : W, 2 * (w.rest.length - w'.rest.length) ≤ 2 * w.rest.length :=
    fun _ => Nat.mul_le_mul_left 2 (Nat.sub_le _ _)
  cases (h1.run (hfuel _)).symm.trans (h2.run (hfuel _))
  exact ⟨rfl, rfl⟩

theorem FragsRun.frag_inv {w w1 : W} {f : Fragment} {out : List Fragment}
    (h : FragsRun w out) (hr : FragRun w (some f) w1) : ∃ fs, out = f :: fs ∧ FragsRun w1 fs := by
  cases h with
  | eof heof => exact absurd heof hr.ne_eof_eol.1
  | skip _ hr' _ => cases (hr'.det hr).1
  | frag _ hr' hfs => obtain ⟨e1, rfl⟩ := hr'.det hr; cases e1; exact ⟨_, rfl, hfs⟩

theorem FragsRun.eol {p : Option Token} {e : Token} {rs : List Token} {out : List Fragment}
    (h : FragsRun ⟨p, e :: rs⟩ out) (he : e.ty = .eol) : FragsRun ⟨some e, rs⟩ out := by
  cases h with
  | eof heof => rw [show (⟨p, e :: rs⟩ : W).nextType = e.ty from rfl, he] at heof; cases heof
  | skip _ hr hfs =>
    cases hr with
    | blank _ hp =>
      have hp' := Pop.of_ok hp (by rw [popToken_ty hp]; show e.ty ≠ .eof; rw [he]; decide)
      cases hp'
      exact hfs
  | frag _ hr _ => exact absurd he hr.ne_eof_eol.2

theorem FragsRun.done {ts : List Token} {fs : List Fragment} (h : FragsRun ⟨none, ts⟩ fs) :
    walkFragments true ts = .done fs [] :=
  h.run (ts.length + 1) [] [] (Nat.lt_succ_self _) (Nat.le_add_right _ 2)

theorem walkFragments_done {ts : List Token} {fs : List Fragment} {es : List Diag}
    (h : walkFragments true ts = .done fs es) : es = [] ∧ FragsRun ⟨none, ts⟩ fs := by
  obtain ⟨he, fs', ho, hfs⟩ := walkFragmentsLoop_done _ _ _ _ _ _ _ h
  rw [List.nil_append] at ho
  exact ⟨he, ho ▸ hfs⟩

end J5V.Bcl
