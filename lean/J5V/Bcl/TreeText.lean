import J5V.Bcl.FmtInv
/-!
# Printing a BCL syntax tree as text, two spaces per level (definitions; core only)

`flatBody gap` flattens a statement list to the fragment list the BCL walker reads it from (header, body,
closing brace), each fragment with a flag "a blank line is printed in front of it" decided by the rule `gap`
(parent block header, previous statement of the same body, the statement). `renderFrags` prints the
fragments: every fragment on its own line(s), indented by two spaces per open block, the token text of
`Fmt` (`headerTokens` / `assignTokens` / `tokenSource`: single spaces between tokens, `type:qualifier`,
`! tag`, `[a, b]`, strings quoted with `\\` before `"` and `\\`). `renderFile` adds the final blank line.
The plain style of the harness printer `j5sgen.PrintFile` is `renderFile plainGap (toBcl ast)`
(`J5V/Walker/PrintText.lean`), checked on every op of the stream `walker.print`.
-/
namespace J5V.Bcl

def spaces (n : Nat) : List Rune := List.replicate n cSP

/-- the closing brace fragment -/
def closeFrag : CloseBlock := ⟨⟨.rbrace, [125], ⟨0, 0⟩, ⟨0, 0⟩⟩, ⟨⟨0, 0⟩, ⟨0, 0⟩⟩⟩

/-- blank line in front of a statement? (parent block header, previous statement in the body, statement) -/
abbrev GapRule := Option BlockHeader → Option Statement → Statement → Bool

mutual
/-- fragments of a statement; `g` = blank line in front of it -/
def flatStmt (gap : GapRule) (g : Bool) : Statement → List (Bool × Fragment)
  | .block h body =>
    (g, .header h) :: (flatBody gap (some h) none body ++
      (if h.isOpen then [(false, Fragment.close closeFrag)] else []))
  | .assign a => [(g, .assign a)]
  | .desc d => [(g, .desc d)]
def flatBody (gap : GapRule) (parent : Option BlockHeader) (prev : Option Statement) :
    List Statement → List (Bool × Fragment)
  | [] => []
  | s :: rest => flatStmt gap (gap parent prev s) s ++ flatBody gap parent (some s) rest
end

/-- the lines of one fragment without indentation (the text `Fmt` prints at indent 0; stand-alone
descriptions do not occur in the trees printed here) -/
def fragText (f : Fragment) : List Rune := (fmtFragment asciiCls 0 f).1.newText

/-- the fragments as text: optional blank line, two spaces per open block, the fragment's text -/
def renderFrags : Nat → List (Bool × Fragment) → List Rune
  | _, [] => []
  | ind, (g, f) :: rest =>
    let here := match f with
      | .close _ => ind - 1
      | _ => ind
    let next := match f with
      | .header h => if h.isOpen then ind + 1 else ind
      | .close _ => ind - 1
      | _ => ind
    (if g then [cNL] else []) ++ (spaces (2 * here) ++ fragText f) ++ renderFrags next rest

/-- the text of a file: its statements, then one blank line -/
def renderFile (gap : GapRule) (body : List Statement) : List Rune :=
  renderFrags 0 (flatBody gap none none body) ++ [cNL]

/-! ## what the round-trip theorem needs from the tree -/

mutual
/-- every header / assignment has the shape the BCL walker produces (`HeaderWF` / `AssignWF`: identifier
literals, tags, literal values …), a block without `{` has no body, there is no stand-alone description -/
def StmtTextOK (cls : Cls) : Statement → Prop
  | .block h body => HeaderWF cls h ∧ (h.isOpen = false → body = []) ∧ BodyTextOK cls body
  | .assign a => AssignWF cls a
  | .desc _ => False
def BodyTextOK (cls : Cls) : List Statement → Prop
  | [] => True
  | s :: rest => StmtTextOK cls s ∧ BodyTextOK cls rest
end

/-- a fragment whose source node is moved to line `L` (the positions inside it stay): the line of the source
node is all that decides where `Fmt` puts blank lines -/
def Fragment.atLine (L : Nat) : Fragment → Fragment
  | .header h => .header { h with src := ⟨⟨L, 0⟩, ⟨L, 0⟩, h.src.comment⟩ }
  | .assign a => .assign { a with src := ⟨⟨L, 0⟩, ⟨L, 0⟩, a.src.comment⟩ }
  | .desc d => .desc { d with span := ⟨⟨L, 0⟩, ⟨L, 0⟩⟩ }
  | .comment c => .comment { c with span := ⟨⟨L, 0⟩, ⟨L, 0⟩⟩ }
  | .close c => .close { c with span := ⟨⟨L, 0⟩, ⟨L, 0⟩⟩ }

/-- the fragments placed on the lines they are printed on (`L` = the next free line) -/
def place : Nat → List (Bool × Fragment) → List Fragment
  | _, [] => []
  | L, (g, f) :: rest =>
    let L' := if g then L + 1 else L
    f.atLine L' :: place (L' + 1) rest

end J5V.Bcl
