import J5V.Bcl.Lexer
/-!
# Specification of the lexer (definitions only)

The shapes of literals by kind (`TokLitWF`) and of what may follow them, the token grammar `Lexeme`,
and `LexAll`, the error-free lex without fuel.
-/
namespace J5V.Bcl

/-- `\n` is neither a letter nor a digit (true of Go's tables; an identifier or number never contains it) -/
def ClsNL (cls : Cls) : Prop := cls.isLetter cNL = false ∧ cls.isDigit cNL = false

/-- the first rune of an identifier / keyword-like literal as the lexer requires it -/
structure IdentHead (cls : Cls) (r : Rune) : Prop where
  notOp : operatorOf r = none
  notSlash : r ≠ cSLASH
  notQuote : r ≠ cQUOTE
  notPipe : r ≠ cPIPE
  notNL : r ≠ cNL
  notSpace : cls.isSpace r = false
  notDigit : cls.isDigit r = false
  letter : cls.isLetter r = true

/-- the first rune of a number literal as the lexer requires it -/
structure DigitHead (cls : Cls) (r : Rune) : Prop where
  notOp : operatorOf r = none
  notSlash : r ≠ cSLASH
  notQuote : r ≠ cQUOTE
  notPipe : r ≠ cPIPE
  notNL : r ≠ cNL
  notSpace : cls.isSpace r = false
  digit : cls.isDigit r = true

/-- regex literals as the lexer produces them: non-empty, not starting with `/` or `*` (those
sources are comments), no newline -/
def RegexLitWF (lit : List Rune) : Prop :=
  (∃ r rs, lit = r :: rs ∧ r ≠ cSLASH ∧ r ≠ cSTAR) ∧ ∀ r ∈ lit, r ≠ cNL

/-- `rest` does not continue an identifier -/
def IdentStop (cls : Cls) (rest : List Rune) : Prop :=
  ∀ r, rest.head? = some r → ¬ (cls.isLetter r = true ∨ cls.isDigit r = true ∨ r = cUS)

/-- an identifier-like literal (IDENT, or BOOL when it spells `true` / `false`) -/
structure IdentLitWF (cls : Cls) (lit : List Rune) : Prop where
  ne : lit ≠ []
  head : ∀ r, lit.head? = some r → IdentHead cls r
  body : ∀ r ∈ lit.tail, cls.isLetter r = true ∨ cls.isDigit r = true ∨ r = cUS

/-- `rest` does not continue a number -/
def NumberStop (cls : Cls) (rest : List Rune) : Prop :=
  ∀ r, rest.head? = some r → cls.isDigit r = false ∧ r ≠ cDOT

/-- `rest` ends the line: empty or starting with a newline -/
def LineEnd (rest : List Rune) : Prop := rest = [] ∨ rest.head? = some cNL

/-- no `*/` inside the literal -/
def NoCloser : List Rune → Prop
  | [] => True
  | [_] => True
  | a :: b :: rest => ¬ (a = cSTAR ∧ b = cSLASH) ∧ NoCloser (b :: rest)

instance instDecidableNoCloser : (l : List Rune) → Decidable (NoCloser l)
  | [] => isTrue trivial
  | [_] => isTrue trivial
  | a :: b :: rest => by
    have := instDecidableNoCloser (b :: rest)
    unfold NoCloser
    exact inferInstance

/-- shape of a token's literal, by kind -/
def TokLitWF (cls : Cls) (t : Token) : Prop :=
  match t.ty with
  | .regex => RegexLitWF t.lit
  | .comment => ∀ r ∈ t.lit, r ≠ cNL
  | .blockComment => NoCloser t.lit
  | .description => (∀ r ∈ t.lit, r ≠ cNL) ∧ (∀ r, t.lit.head? = some r → cls.isSpace r = false)
  | .ident => IdentLitWF cls t.lit ∧ ¬ (t.lit = litTrue ∨ t.lit = litFalse)
  | .bool => IdentLitWF cls t.lit ∧ (t.lit = litTrue ∨ t.lit = litFalse)
  | .int => ∃ r ds, t.lit = r :: ds ∧ DigitHead cls r ∧ ∀ x ∈ ds, cls.isDigit x = true
  | .decimal => ∃ r ds fs, t.lit = r :: ds ++ cDOT :: fs ∧ DigitHead cls r ∧
      (∀ x ∈ ds, cls.isDigit x = true) ∧ (∀ x ∈ fs, cls.isDigit x = true) ∧ cls.isDigit cDOT = false
  | .eol => t.lit = [cNL]
  | .assign | .lbrace | .rbrace | .lbrack | .rbrack | .dot | .comma | .colon | .plus | .bang
  | .question => ∃ r, operatorOf r = some t.ty ∧ t.lit = [r]
  | _ => True

/-- white space the lexer skips in front of a token -/
def AllSpace (cls : Cls) (ws : List Rune) : Prop := ∀ r ∈ ws, cls.isSpace r = true ∧ r ≠ cNL

def escString (lit : List Rune) : List Rune :=
  lit.flatMap fun r => if r = cBSL ∨ r = cQUOTE ∨ r = cNL then [cBSL, r] else [r]

def escRegex (lit : List Rune) : List Rune :=
  lit.flatMap fun r => if r = cSLASH then [cSLASH, cSLASH] else [r]

/-- `Lexeme cls text rest ty lit`: in front of `rest`, the text `text` is one token of kind `ty` with
literal `lit`, and the lexer stops on its last rune.  It is `tokenSource` (Fmt) read backwards, except that
a description may have any white space after its `|`. -/
inductive Lexeme (cls : Cls) : List Rune → List Rune → TokenType → List Rune → Prop
  | op {r : Rune} {ty : TokenType} (rest : List Rune) : operatorOf r = some ty → Lexeme cls [r] rest ty [r]
  | eol (rest : List Rune) : Lexeme cls [cNL] rest .eol [cNL]
  | comment {lit rest : List Rune} : (∀ r ∈ lit, r ≠ cNL) → LineEnd rest →
      Lexeme cls (cSLASH :: cSLASH :: lit) rest .comment lit
  | blockComment {lit : List Rune} (rest : List Rune) : NoCloser lit →
      Lexeme cls (cSLASH :: cSTAR :: (lit ++ [cSTAR, cSLASH])) rest .blockComment lit
  | regex {lit rest : List Rune} : RegexLitWF lit → rest.head? ≠ some cSLASH →
      Lexeme cls (cSLASH :: (escRegex lit ++ [cSLASH])) rest .regex lit
  | string {lit : List Rune} (rest : List Rune) :
      Lexeme cls (cQUOTE :: (escString lit ++ [cQUOTE])) rest .string lit
  | description {sp lit rest : List Rune} : AllSpace cls sp → (∀ r ∈ lit, r ≠ cNL) →
      (∀ r, lit.head? = some r → cls.isSpace r = false) → LineEnd rest →
      Lexeme cls (cPIPE :: (sp ++ lit)) rest .description lit
  | int {r : Rune} {ds rest : List Rune} : DigitHead cls r → (∀ x ∈ ds, cls.isDigit x = true) →
      NumberStop cls rest → Lexeme cls (r :: ds) rest .int (r :: ds)
  | decimal {r : Rune} {ds fs rest : List Rune} : DigitHead cls r → (∀ x ∈ ds, cls.isDigit x = true) →
      (∀ x ∈ fs, cls.isDigit x = true) → cls.isDigit cDOT = false → NumberStop cls rest →
      Lexeme cls (r :: ds ++ cDOT :: fs) rest .decimal (r :: ds ++ cDOT :: fs)
  | ident {lit rest : List Rune} : IdentLitWF cls lit → IdentStop cls rest →
      Lexeme cls lit rest (if lit = litTrue ∨ lit = litFalse then .bool else .ident) lit

/-- what is read without error when the input ends: nothing, giving EOF; or a block comment that is
cut off, everything after `/*` being its literal -/
def AtEnd (text : List Rune) (t : Token) : Prop :=
  (text = [] ∧ t.ty = .eof ∧ t.lit = []) ∨
    (t.ty = .blockComment ∧ text = cSLASH :: cSTAR :: t.lit ∧ NoCloser t.lit)

/-- `LexAll cls c rest out`: from lexer state `c` on input `rest`, `NextToken` returns the tokens
`out` without error and then EOF -/
inductive LexAll (cls : Cls) : Cur → List Rune → List Token → Prop
  | eof {c : Cur} {rest : List Rune} : (nextToken cls c rest).err = none →
      (nextToken cls c rest).tok.ty = .eof → LexAll cls c rest []
  | step {c : Cur} {rest : List Rune} {out : List Token} : (nextToken cls c rest).err = none →
      (nextToken cls c rest).tok.ty ≠ .eof →
      LexAll cls (nextToken cls c rest).cur (nextToken cls c rest).rest out →
      LexAll cls c rest ((nextToken cls c rest).tok :: out)

end J5V.Bcl
