import J5V.Bcl.Lexer
/-!
# Positions

The lexicographic order on `Pos`; the position behind a run of runes (`advPos`, from the start of the
file `posAfter`; `InFile`: the positions a file has, its end included); and the lexer's cursor after
reading a run (`advs`): it stands on the last rune read and knows the position of the next.
-/
namespace J5V.Bcl

theorem Pos.le_def (p q : Pos) : p ≤ q ↔ p.line < q.line ∨ (p.line = q.line ∧ p.col ≤ q.col) :=
  Iff.rfl
theorem Pos.lt_def (p q : Pos) : p < q ↔ p.line < q.line ∨ (p.line = q.line ∧ p.col < q.col) :=
  Iff.rfl

theorem Pos.le_refl (p : Pos) : p ≤ p := by rw [Pos.le_def]; omega
theorem Pos.le_trans {p q r : Pos} (h1 : p ≤ q) (h2 : q ≤ r) : p ≤ r := by
  rw [Pos.le_def] at *; omega
theorem Pos.le_of_lt {p q : Pos} (h : p < q) : p ≤ q := by
  rw [Pos.lt_def] at h; rw [Pos.le_def]; omega
theorem Pos.lt_of_lt_of_le {p q r : Pos} (h1 : p < q) (h2 : q ≤ r) : p < r := by
  rw [Pos.lt_def] at *; rw [Pos.le_def] at h2; omega
theorem Pos.lt_of_le_of_lt {p q r : Pos} (h1 : p ≤ q) (h2 : q < r) : p < r := by
  rw [Pos.lt_def] at *; rw [Pos.le_def] at h1; omega
theorem Pos.zero_le (p : Pos) : (⟨0, 0⟩ : Pos) ≤ p := by
  exact if h : p.line = 0 then Or.inr ⟨h.symm, Nat.zero_le _⟩ else Or.inl (Nat.pos_of_ne_zero h)

theorem Pos.line_le_of_le {p q : Pos} (h : p ≤ q) : p.line ≤ q.line := by
  rw [Pos.le_def] at h; omega

/-- the position the rune after `r` gets, if `r` sits at `p` -/
def stepPos (p : Pos) (r : Rune) : Pos := if r = cNL then ⟨p.line + 1, 0⟩ else ⟨p.line, p.col + 1⟩

theorem stepPos_gt (p : Pos) (r : Rune) : p < stepPos p r := by
  unfold stepPos; rw [Pos.lt_def]; split
  · exact Or.inl (Nat.lt_succ_self _)
  · exact Or.inr ⟨rfl, Nat.lt_succ_self _⟩

/-- position after reading `pre` starting at `p` -/
def advPos (p : Pos) (pre : List Rune) : Pos := pre.foldl stepPos p

@[simp] theorem advPos_nil (p : Pos) : advPos p [] = p := rfl
@[simp] theorem advPos_cons (p : Pos) (r : Rune) (rs : List Rune) :
    advPos p (r :: rs) = advPos (stepPos p r) rs := rfl
theorem advPos_append (p : Pos) (a b : List Rune) : advPos p (a ++ b) = advPos (advPos p a) b := by
  simp [advPos, List.foldl_append]

theorem advPos_ge (p : Pos) (pre : List Rune) : p ≤ advPos p pre := by
  induction pre generalizing p with
  | nil => exact Pos.le_refl p
  | cons r rs ih => exact Pos.le_trans (Pos.le_of_lt (stepPos_gt p r)) (ih _)

theorem advPos_gt (p : Pos) (pre : List Rune) (h : pre ≠ []) : p < advPos p pre := by
  cases pre with
  | nil => exact absurd rfl h
  | cons r rs => exact Pos.lt_of_lt_of_le (stepPos_gt p r) (advPos_ge _ rs)

/-- position after the prefix `a` of the input, counted from the start of the file -/
def posAfter (a : List Rune) : Pos := advPos ⟨0, 0⟩ a

theorem posAfter_mono {a b : List Rune} (h : a <+: b) : posAfter a ≤ posAfter b := by
  obtain ⟨t, rfl⟩ := h
  unfold posAfter
  rw [advPos_append]
  exact advPos_ge _ _

theorem posAfter_append (p0 a : List Rune) : advPos (posAfter p0) a = posAfter (p0 ++ a) := by
  unfold posAfter; rw [advPos_append]

/-- `p` is the position of a rune of `src`, or the end-of-input position -/
def InFile (src : List Rune) (p : Pos) : Prop := ∃ a, a <+: src ∧ p = posAfter a

def advs (c : Cur) (pre : List Rune) : Cur := pre.foldl Cur.adv c

@[simp] theorem advs_nil (c : Cur) : advs c [] = c := rfl
@[simp] theorem advs_cons (c : Cur) (r : Rune) (rs : List Rune) :
    advs c (r :: rs) = advs (c.adv r) rs := rfl
theorem advs_append (c : Cur) (a b : List Rune) : advs c (a ++ b) = advs (advs c a) b := by
  simp [advs, List.foldl_append]
theorem advs_snoc (c : Cur) (a : List Rune) (r : Rune) : advs c (a ++ [r]) = (advs c a).adv r := by
  rw [advs_append]; rfl

theorem adv_nxt (c : Cur) (r : Rune) : (c.adv r).nxt = stepPos c.nxt r := by
  unfold Cur.adv stepPos; split <;> rfl
@[simp] theorem adv_pos (c : Cur) (r : Rune) : (c.adv r).pos = c.nxt := rfl
@[simp] theorem advEOF_pos (c : Cur) : c.advEOF.pos = c.nxt := rfl

theorem advs_nxt (c : Cur) (pre : List Rune) : (advs c pre).nxt = advPos c.nxt pre := by
  induction pre generalizing c with
  | nil => rfl
  | cons r rs ih => rw [advs_cons, ih, adv_nxt, advPos_cons]

theorem advs_snoc_pos (c : Cur) (a : List Rune) (r : Rune) :
    (advs c (a ++ [r])).pos = advPos c.nxt a := by
  rw [advs_snoc, adv_pos, advs_nxt]

theorem advs_pos_prefix (c : Cur) (pre : List Rune) (h : pre ≠ []) :
    ∃ b, b <+: pre ∧ b.length + 1 = pre.length ∧ (advs c pre).pos = advPos c.nxt b := by
  refine ⟨pre.dropLast, List.dropLast_prefix pre, ?_, ?_⟩
  · have := List.length_dropLast (xs := pre)
    have : pre.length ≠ 0 := fun e => h (List.eq_nil_of_length_eq_zero e)
    omega
  · conv => lhs; rw [← List.dropLast_concat_getLast h]
    exact advs_snoc_pos c _ _

theorem advs_pos_ge (c : Cur) (u : List Rune) (x : Rune) (v : List Rune) :
    advPos c.nxt u ≤ (advs c (u ++ x :: v)).pos := by
  have hne : x :: v ≠ [] := List.cons_ne_nil _ _
  rw [← List.dropLast_concat_getLast hne, ← List.append_assoc, advs_snoc_pos, advPos_append]
  exact advPos_ge _ _

end J5V.Bcl
