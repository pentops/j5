import J5V.Bcl.Parser
/-!
# One step of `fragsLoop`

`fragsLoop (f :: fs)` is `fragsLoop fs` after `fragStep f`; what is proved of `fragmentsToFile` is proved of
`fragStep` and lifted by induction on the list, once for any property of the nodes (`fragmentsToFile_inv`)
and once for the diagnostics (`fragmentsToFile_errors`).
-/
namespace J5V.Bcl

/-- add a finished statement to the innermost open block (or to the root) -/
def addTo (s : Statement) (root : List Statement) : List OpenBlock → List Statement × List OpenBlock
  | [] => (root ++ [s], [])
  | b :: rest => (root, ⟨b.hdr, b.stmts ++ [s]⟩ :: rest)

def fragStep (f : Fragment) (root : List Statement) (stack : List OpenBlock) (errs : List Diag) :
    List Statement × List OpenBlock × List Diag :=
  match f with
  | .header h =>
    if h.isOpen then (root, ⟨h, []⟩ :: stack, errs)
    else ((addTo (.block h []) root stack).1, (addTo (.block h []) root stack).2, errs)
  | .assign a => ((addTo (.assign a) root stack).1, (addTo (.assign a) root stack).2, errs)
  | .desc d => ((addTo (.desc d) root stack).1, (addTo (.desc d) root stack).2, errs)
  | .comment _ => (root, stack, errs)
  | .close c =>
    match stack with
    | [] => (root, [], errs ++ [⟨c.span.start, c.span.end_, .unexpectedClose⟩])
    | b :: rest =>
      ((addTo (.block b.hdr b.stmts) root rest).1, (addTo (.block b.hdr b.stmts) root rest).2, errs)

theorem fragsLoop_cons (f : Fragment) (fs : List Fragment) (root : List Statement)
    (stack : List OpenBlock) (errs : List Diag) :
    fragsLoop (f :: fs) root stack errs =
      fragsLoop fs (fragStep f root stack errs).1 (fragStep f root stack errs).2.1
        (fragStep f root stack errs).2.2 := by
  cases f with
  | header h =>
    cases stack <;> simp only [fragsLoop, fragStep, addTo] <;> split <;> rfl
  | assign a => cases stack <;> simp only [fragsLoop, fragStep, addTo]
  | desc d => cases stack <;> simp only [fragsLoop, fragStep, addTo]
  | comment c => simp only [fragsLoop, fragStep]
  | close c =>
    cases stack with
    | nil => simp only [fragsLoop, fragStep]
    | cons b rest => cases rest <;> simp only [fragsLoop, fragStep, addTo]

/-! `S` is asked of statements, `B` of bodies, `H` of block headers; `B` is kept by adding an `S` statement at
the end, and a block of an `H` header over a `B` body is `S`. -/

section
variable {S : Statement → Prop} {B : List Statement → Prop} {H : BlockHeader → Prop}
  (hsnoc : ∀ a s, B a → S s → B (a ++ [s])) (hblock : ∀ h b, H h → B b → S (.block h b))

def Fragment.contrib (S : Statement → Prop) (H : BlockHeader → Prop) : Fragment → Prop
  | .header h => H h
  | .assign a => S (.assign a)
  | .desc d => S (.desc d)
  | _ => True

def OpenBlock.inv (B : List Statement → Prop) (H : BlockHeader → Prop) (b : OpenBlock) : Prop :=
  H b.hdr ∧ B b.stmts

include hsnoc hblock

theorem closeInto_inv {root : List Statement} (hroot : B root) :
    ∀ (stack : List OpenBlock) (blk : Statement), S blk →
      (∀ b ∈ stack, OpenBlock.inv B H b) → B (closeInto root blk stack)
  | [], blk, hb, _ => hsnoc root blk hroot hb
  | p :: rest, blk, hb, hs =>
    closeInto_inv hroot rest _ (hblock _ _ (hs p (by simp)).1 (hsnoc _ _ (hs p (by simp)).2 hb))
      fun b hbm => hs b (by simp [hbm])

theorem closeAll_inv {root : List Statement} (hroot : B root) :
    ∀ stack : List OpenBlock, (∀ b ∈ stack, OpenBlock.inv B H b) → B (closeAll root stack)
  | [], _ => hroot
  | b :: rest, hs =>
    closeInto_inv hsnoc hblock hroot rest _ (hblock _ _ (hs b (by simp)).1 (hs b (by simp)).2)
      fun x hx => hs x (by simp [hx])

omit hblock in
theorem addTo_inv {s : Statement} {root : List Statement} {stack : List OpenBlock}
    (hs : S s) (hroot : B root) (hstack : ∀ b ∈ stack, OpenBlock.inv B H b) :
    B (addTo s root stack).1 ∧ ∀ b ∈ (addTo s root stack).2, OpenBlock.inv B H b := by
  cases stack with
  | nil => exact ⟨hsnoc _ _ hroot hs, fun b hb => by cases hb⟩
  | cons b rest =>
    have hb := hstack b (by simp)
    exact ⟨hroot, List.forall_mem_cons.mpr ⟨⟨hb.1, hsnoc _ _ hb.2 hs⟩,
      fun x hx => hstack x (by simp [hx])⟩⟩

theorem fragStep_inv (hnil : B []) {f : Fragment} {root : List Statement} {stack : List OpenBlock}
    (errs : List Diag) (hf : Fragment.contrib S H f) (hroot : B root)
    (hstack : ∀ b ∈ stack, OpenBlock.inv B H b) :
    B (fragStep f root stack errs).1 ∧ ∀ b ∈ (fragStep f root stack errs).2.1, OpenBlock.inv B H b := by
  cases f with
  | header h =>
    simp only [fragStep]
    split
    · exact ⟨hroot, List.forall_mem_cons.mpr ⟨⟨hf, hnil⟩, hstack⟩⟩
    · exact addTo_inv hsnoc (s := .block h []) (hblock _ _ hf hnil) hroot hstack
  | assign a => exact addTo_inv hsnoc (s := .assign a) hf hroot hstack
  | desc d => exact addTo_inv hsnoc (s := .desc d) hf hroot hstack
  | comment c => exact ⟨hroot, hstack⟩
  | close c =>
    cases stack with
    | nil => exact ⟨hroot, hstack⟩
    | cons b rest =>
      have hb := hstack b (by simp)
      exact addTo_inv hsnoc (stack := rest) (hblock _ _ hb.1 hb.2) hroot
        fun x hx => hstack x (List.mem_cons_of_mem _ hx)

theorem fragsLoop_inv (hnil : B []) : ∀ (frags : List Fragment) (root : List Statement)
    (stack : List OpenBlock) (errs : List Diag), (∀ f ∈ frags, Fragment.contrib S H f) → B root →
    (∀ b ∈ stack, OpenBlock.inv B H b) →
    B (fragsLoop frags root stack errs).1 ∧
      ∀ b ∈ (fragsLoop frags root stack errs).2.1, OpenBlock.inv B H b
  | [], _, _, _, _, h1, h2 => ⟨h1, h2⟩
  | f :: fs, root, stack, errs, hf, hroot, hstack => by
    obtain ⟨h1, h2⟩ := fragStep_inv hsnoc hblock hnil errs (hf f (by simp)) hroot hstack
    rw [fragsLoop_cons]
    exact fragsLoop_inv hnil fs _ _ _ (fun x hx => hf x (by simp [hx])) h1 h2

theorem fragmentsToFile_inv (hnil : B []) (frags : List Fragment)
    (hf : ∀ f ∈ frags, Fragment.contrib S H f) : B (fragmentsToFile frags).body := by
  have := fragsLoop_inv hsnoc hblock hnil frags [] [] [] hf hnil (fun b hb => by cases hb)
  unfold fragmentsToFile
  generalize fragsLoop frags [] [] [] = res at this ⊢
  exact closeAll_inv hsnoc hblock this.1 _ this.2

end

theorem fragStep_errors (f : Fragment) (root : List Statement) (stack : List OpenBlock) (errs : List Diag) :
    (fragStep f root stack errs).2.2 = errs ∨
      ∃ c, f = .close c ∧ (fragStep f root stack errs).2.2 =
        errs ++ [⟨c.span.start, c.span.end_, .unexpectedClose⟩] := by
  cases f with
  | header h => simp only [fragStep]; split <;> exact Or.inl rfl
  | close c =>
    cases stack with
    | nil => exact Or.inr ⟨c, rfl, rfl⟩
    | cons b rest => exact Or.inl rfl
  | _ => exact Or.inl rfl

theorem fragsLoop_errors {E : Diag → Prop} : ∀ (frags : List Fragment) (root : List Statement)
    (stack : List OpenBlock) (errs : List Diag),
    (∀ c, Fragment.close c ∈ frags → E ⟨c.span.start, c.span.end_, .unexpectedClose⟩) →
    (∀ d ∈ errs, E d) → ∀ d ∈ (fragsLoop frags root stack errs).2.2, E d
  | [], _, _, _, _, h => h
  | f :: fs, root, stack, errs, hc, h => by
    rw [fragsLoop_cons]
    refine fragsLoop_errors fs _ _ _ (fun c hm => hc c (List.mem_cons_of_mem _ hm)) ?_
    rcases fragStep_errors f root stack errs with e | ⟨c, rfl, e⟩ <;> rw [e]
    · exact h
    · exact List.forall_mem_append.mpr ⟨h, fun d hd => by
        cases List.mem_singleton.mp hd; exact hc c List.mem_cons_self⟩

/-- the code reports an unclosed block at the last fragment; `hl` asks `E` of every fragment, which callers have -/
theorem fragmentsToFile_errors {E : Diag → Prop} (frags : List Fragment)
    (hc : ∀ c, Fragment.close c ∈ frags → E ⟨c.span.start, c.span.end_, .unexpectedClose⟩)
    (hl : ∀ f ∈ frags, E ⟨f.src.start, f.src.end_, .unclosedBlock⟩) :
    ∀ d ∈ (fragmentsToFile frags).errors, E d := by
  have := fragsLoop_errors (E := E) frags [] [] [] hc (fun d hd => by cases hd)
  unfold fragmentsToFile
  generalize fragsLoop frags [] [] [] = res at this ⊢
  obtain ⟨root, stack, errs⟩ := res
  simp only at this ⊢
  split
  · rename_i last hlast
    exact List.forall_mem_append.mpr ⟨this, fun d hd => by
      cases List.mem_singleton.mp hd; exact hl last (List.mem_of_getLast? hlast)⟩
  · exact this

end J5V.Bcl
