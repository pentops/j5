/-!
# BCL model: runes, positions, tokens (core only)

Mirrors `/repo/internal/bcl/internal/parser/token.go` and `errpos.Point`.

* A Go `rune` is a `Nat` (code point).  The lexer works on `[]rune(data)`, so positions are in
  runes.  The end-of-input marker `lexerEofChr = -1` is `Option.none` wherever Go compares with it.
* `unicode.IsSpace / IsDigit / IsLetter` and `strconv.IsPrint` are the fields of the parameter
  `Cls`; every theorem holds for every classifier (the driver loads the real tables).
-/
namespace J5V.Bcl

abbrev Rune := Nat

/-- the classifier parameter (`unicode.IsSpace`, `unicode.IsDigit`, `unicode.IsLetter`,
`strconv.IsPrint`). -/
structure Cls where
  isSpace : Rune → Bool
  isDigit : Rune → Bool
  isLetter : Rune → Bool
  isPrint : Rune → Bool

/-! rune constants -/
abbrev cNL : Rune := 10      -- '\n'
abbrev cTAB : Rune := 9      -- '\t'
abbrev cSP : Rune := 32      -- ' '
abbrev cQUOTE : Rune := 34   -- '"'
abbrev cSTAR : Rune := 42    -- '*'
abbrev cDOT : Rune := 46     -- '.'
abbrev cSLASH : Rune := 47   -- '/'
abbrev cBSL : Rune := 92     -- '\\'
abbrev cUS : Rune := 95      -- '_'
abbrev cPIPE : Rune := 124   -- '|'

/-- `errpos.Point` (0-based line and column, in runes). -/
structure Pos where
  line : Nat
  col : Nat
  deriving DecidableEq, Repr, Inhabited

/-- lexicographic order on positions: "start not after end" -/
def Pos.le (p q : Pos) : Prop := p.line < q.line ∨ (p.line = q.line ∧ p.col ≤ q.col)
instance : LE Pos := ⟨Pos.le⟩
instance (p q : Pos) : Decidable (p ≤ q) := by unfold LE.le instLEPos Pos.le; exact inferInstance
def Pos.lt (p q : Pos) : Prop := p.line < q.line ∨ (p.line = q.line ∧ p.col < q.col)
instance : LT Pos := ⟨Pos.lt⟩
instance (p q : Pos) : Decidable (p < q) := by unfold LT.lt instLTPos Pos.lt; exact inferInstance

inductive TokenType where
  | invalid | eof | eol | space
  | ident | string | regex | int | decimal | bool | comment | blockComment | description
  | assign | lbrace | rbrace | lbrack | rbrack | dot | comma | colon | plus | bang | question
  | anyLiteral
  deriving DecidableEq, Repr, Inhabited

namespace TokenType

/-- `literal_beg < tok && tok < literal_end` -/
def isLiteral : TokenType → Bool
  | ident | string | regex | int | decimal | bool | comment | blockComment | description => true
  | _ => false

def isOperator : TokenType → Bool
  | assign | lbrace | rbrace | lbrack | rbrack | dot | comma | colon | plus | bang | question => true
  | _ => false

def canStartTag : TokenType → Bool
  | ident | string | regex | bang | question | bool => true
  | _ => false

/-- canonical name on the line protocol (= Go's `TokenType.String()` for named types) -/
def name : TokenType → String
  | invalid => "INVALID" | eof => "EOF" | eol => "EOL" | space => "SPACE"
  | ident => "IDENT" | string => "STRING" | regex => "REGEX" | int => "INT" | decimal => "DECIMAL"
  | bool => "BOOL" | comment => "COMMENT" | blockComment => "BLOCK_COMMENT"
  | description => "DESCRIPTION"
  | assign => "=" | lbrace => "{" | rbrace => "}" | lbrack => "[" | rbrack => "]" | dot => "."
  | comma => "," | colon => ":" | plus => "+" | bang => "!" | question => "?"
  | anyLiteral => "<Literal>"

end TokenType

/-- the `operators` map built in `init()` from the operator names. -/
def operatorOf (r : Rune) : Option TokenType :=
  if r = 61 then some .assign        -- =
  else if r = 123 then some .lbrace  -- {
  else if r = 125 then some .rbrace  -- }
  else if r = 91 then some .lbrack   -- [
  else if r = 93 then some .rbrack   -- ]
  else if r = 46 then some .dot      -- .
  else if r = 44 then some .comma    -- ,
  else if r = 58 then some .colon    -- :
  else if r = 43 then some .plus     -- +
  else if r = 33 then some .bang     -- !
  else if r = 63 then some .question -- ?
  else none

structure Token where
  ty : TokenType
  lit : List Rune
  start : Pos
  end_ : Pos
  deriving DecidableEq, Repr, Inhabited

/-- Go's zero `Token{}` -/
def Token.zero : Token := ⟨.invalid, [], ⟨0, 0⟩, ⟨0, 0⟩⟩

/-- `newToken(ty, value)` of fmt.go: no position -/
def newToken (ty : TokenType) (lit : List Rune) : Token := ⟨ty, lit, ⟨0, 0⟩, ⟨0, 0⟩⟩

/-- `true` / `false` as rune lists -/
def litTrue : List Rune := [116, 114, 117, 101]
def litFalse : List Rune := [102, 97, 108, 115, 101]

/-- `strings.Split(s, "\n")` on rune lists (always at least one line). -/
def splitLines : List Rune → List (List Rune)
  | [] => [[]]
  | r :: rs =>
    match splitLines rs with
    | [] => [[]]   -- unreachable
    | l :: ls => if r = cNL then [] :: l :: ls else (r :: l) :: ls

/-- `strings.Join(parts, sep)` -/
def joinWith (sep : List Rune) : List (List Rune) → List Rune
  | [] => []
  | [a] => a
  | a :: b :: rest => a ++ sep ++ joinWith sep (b :: rest)

/-- UTF-8 length of a rune as Go's `len(string(r))` (invalid code points become U+FFFD, 3 bytes). -/
def utf8Len (r : Rune) : Nat :=
  if r < 0x80 then 1 else if r < 0x800 then 2
  else if 0xD800 ≤ r ∧ r < 0xE000 then 3
  else if r < 0x10000 then 3 else if r < 0x110000 then 4 else 3

def byteLen (s : List Rune) : Nat := (s.map utf8Len).sum

end J5V.Bcl

namespace J5V.Bcl
/-- a concrete classifier (the ASCII restriction of Go's tables) used by non-vacuity examples and
counterexample witnesses, and by `TreeText.fragText` (which prints no description, the one place where the
formatter reads the classifier) -/
def asciiCls : Cls where
  isSpace r := (9 ≤ r && r ≤ 13) || r == 32
  isDigit r := 48 ≤ r && r ≤ 57
  isLetter r := (65 ≤ r && r ≤ 90) || (97 ≤ r && r ≤ 122)
  isPrint r := 32 ≤ r && r < 127

/-- ASCII string literal to runes / bytes (examples only) -/
def ofAscii (s : String) : List Nat := s.toList.map Char.toNat
end J5V.Bcl
