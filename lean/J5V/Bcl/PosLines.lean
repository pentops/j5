import J5V.Bcl.PosProofs
import J5V.Bcl.ParseSpec
import J5V.Bcl.SplitJoin
/-!
# Positions of prefixes are (line, column) pairs inside `strings.Split(src, "\n")`

`InFile src p` (a prefix-based notion used by the lexer proofs) implies the line/column bound the
property speaks about: `p.line < lineCount` and `p.col ≤ length of that line` (the EOL / EOF column
is allowed).
-/
namespace J5V.Bcl

def countNL : List Rune → Nat
  | [] => 0
  | r :: rs => (if r = cNL then 1 else 0) + countNL rs

/-- length of the part after the last newline -/
def lastSeg : List Rune → Nat
  | [] => 0
  | r :: rs => if r = cNL then lastSeg rs else if countNL rs = 0 then lastSeg rs + 1 else lastSeg rs

/-- by cases on the first rune being a newline and on whether a newline follows -/
theorem advPos_eq (a : List Rune) : ∀ (l c : Nat),
    advPos ⟨l, c⟩ a = ⟨l + countNL a, if countNL a = 0 then c + lastSeg a else lastSeg a⟩ := by
  induction a with
  | nil => intro l c; simp [countNL, lastSeg]
  | cons r rs ih =>
    intro l c
    rw [advPos_cons]
    unfold stepPos
    by_cases h : r = cNL
    · simp only [h, if_true]
      rw [ih]
      simp only [countNL, lastSeg, if_true]
      by_cases h0 : countNL rs = 0
      · simp [h0]
      · simp [h0]; omega
    · simp only [h, if_false]
      rw [ih]
      simp only [countNL, lastSeg, h, if_false]
      by_cases h0 : countNL rs = 0
      · simp [h0]; omega
      · simp [h0]

theorem posAfter_eq (a : List Rune) : posAfter a = ⟨countNL a, lastSeg a⟩ := by
  unfold posAfter
  rw [advPos_eq]
  by_cases h0 : countNL a = 0 <;> simp [h0]

theorem splitLines_length (s : List Rune) : (splitLines s).length = countNL s + 1 := by
  induction s with
  | nil => simp [splitLines, countNL]
  | cons r rs ih =>
    unfold splitLines
    split
    · rename_i h; exact absurd h (splitLines_ne_nil rs)
    · rename_i l ls h
      rw [h] at ih
      simp only [countNL]
      split <;> simp at ih ⊢ <;> omega

/-- same case distinction as `advPos_eq`, on the first line of `splitLines` -/
theorem lineLen_prefix (a t : List Rune) :
    lineLen (splitLines (a ++ t)) (countNL a) = lastSeg a + lineLen (splitLines t) 0 := by
  induction a with
  | nil => simp [countNL, lastSeg]
  | cons r rs ih =>
    show lineLen (splitLines (r :: (rs ++ t))) _ = _
    generalize lineLen (splitLines t) 0 = k at ih ⊢
    unfold splitLines
    split
    · rename_i h; exact absurd h (splitLines_ne_nil _)
    · rename_i l ls h
      rw [h] at ih
      simp only [countNL, lastSeg]
      by_cases hr : r = cNL
      · simp only [hr, if_true]
        rw [← ih]
        simp [lineLen, Nat.add_comm 1]
      · simp only [hr, if_false, Nat.zero_add]
        by_cases h0 : countNL rs = 0
        · simp only [h0, if_true]
          rw [h0] at ih
          simp [lineLen] at ih ⊢
          omega
        · simp only [h0, if_false]
          rw [← ih]
          obtain ⟨j, hj⟩ := Nat.exists_eq_succ_of_ne_zero h0
          rw [hj]
          simp [lineLen]

theorem countNL_append (a t : List Rune) : countNL (a ++ t) = countNL a + countNL t := by
  induction a with
  | nil => simp [countNL]
  | cons r rs ih => simp only [List.cons_append, countNL, ih]; omega

theorem InFile.toLC {src : List Rune} {p : Pos} (h : InFile src p) : InFileLC src p := by
  obtain ⟨a, ⟨t, rfl⟩, rfl⟩ := h
  rw [posAfter_eq]
  refine ⟨?_, ?_⟩
  · rw [splitLines_length, countNL_append]; simp only; omega
  · simp only
    rw [lineLen_prefix]; omega

theorem line_mem_decomp : ∀ (src : List Rune) (i : Nat) (l : List Rune),
    (splitLines src)[i]? = some l → ∀ x ∈ l, ∃ u v, src = u ++ x :: v ∧ countNL u = i := by
  intro src
  induction src with
  | nil =>
    intro i l h x hx
    cases i with
    | zero => simp [splitLines] at h; subst h; cases hx
    | succ i => simp [splitLines] at h
  | cons r rs ih =>
    intro i l h x hx
    rw [splitLines_cons] at h
    cases hs : splitLines rs with
    | nil => exact absurd hs (splitLines_ne_nil rs)
    | cons l0 ls =>
      rw [hs] at h ih
      simp only [] at h
      by_cases hr : r = cNL
      · rw [if_pos hr] at h
        cases i with
        | zero => simp at h; subst h; cases hx
        | succ i =>
          simp at h
          obtain ⟨u, v, e, c⟩ := ih i l (by simpa using h) x hx
          exact ⟨r :: u, v, by rw [e]; rfl, by simp [countNL, hr, c]; omega⟩
      · rw [if_neg hr] at h
        cases i with
        | zero =>
          simp at h; subst h
          rcases List.mem_cons.mp hx with rfl | hx
          · exact ⟨[], rs, rfl, rfl⟩
          · obtain ⟨u, v, e, c⟩ := ih 0 l0 (by simp) x hx
            exact ⟨r :: u, v, by rw [e]; rfl, by simp [countNL, hr, c]⟩
        | succ i =>
          simp at h
          obtain ⟨u, v, e, c⟩ := ih (i + 1) l (by simpa using h) x hx
          exact ⟨r :: u, v, by rw [e]; rfl, by simp [countNL, hr, c]⟩

end J5V.Bcl
