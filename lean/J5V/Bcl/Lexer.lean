import J5V.Bcl.Basic
/-!
# BCL lexer model (core only) — mirrors `/repo/internal/bcl/internal/parser/lexer.go`

Go keeps `(line, column, isEOL, offset, ch)` and `next()` moves them.  Here the input still to be
read is a list (`rest = data[offset:]`), `Cur.pos` is `getPosition()` (the position of `l.ch`) and
`Cur.nxt` is the position the next call of `next()` will assign: `(line+1, 0)` when `isEOL`, else
`(line, column+1)`.  Go starts with `column = -1`, i.e. `nxt = (0,0)`; `getPosition()` is never
called before the first `next()` (every entry point starts with `l.next()`).

Every loop of the Go lexer that reads with `next()`/`peek()` is a structural recursion over the
remaining input; only the token loop of `AllTokens` takes fuel (`len + 2`), and
`allTokens_ne_nofuel` (LexAllProofs) shows it is never exhausted.
-/
namespace J5V.Bcl

structure Cur where
  pos : Pos
  nxt : Pos
  deriving DecidableEq, Repr, Inhabited

/-- `NewLexer`: line 0, column -1 -/
def Cur.init : Cur := ⟨⟨0, 0⟩, ⟨0, 0⟩⟩

/-- `next()` reading rune `r` -/
def Cur.adv (c : Cur) (r : Rune) : Cur :=
  ⟨c.nxt, if r = cNL then ⟨c.nxt.line + 1, 0⟩ else ⟨c.nxt.line, c.nxt.col + 1⟩⟩

/-- `next()` at `offset >= len(data)`: `ch = EOF`, the column still moves -/
def Cur.advEOF (c : Cur) : Cur := ⟨c.nxt, ⟨c.nxt.line, c.nxt.col + 1⟩⟩

inductive LexErrKind where
  | unexpectedEOF | eolInString | eolInRegex | invalidEscape | secondDot | unexpectedChar
  deriving DecidableEq, Repr, Inhabited

/-- `l.errf(...)`: Start = End = current position -/
structure LexErr where
  pos : Pos
  kind : LexErrKind
  deriving DecidableEq, Repr, Inhabited

/-- result of one lexing routine: literal, lexer position state, remaining input, error -/
structure LitRes where
  lit : List Rune
  cur : Cur
  rest : List Rune
  err : Option LexErr := none
  deriving Repr

/-- `lexLineComment` after the second `/` was consumed: read up to (not including) `\n`/EOF -/
def lexLineLoop (c : Cur) (lit : List Rune) : List Rune → LitRes
  | [] => ⟨lit, c, [], none⟩
  | r :: rs => if r = cNL then ⟨lit, c, r :: rs, none⟩ else lexLineLoop (c.adv r) (lit ++ [r]) rs

/-- `lexLineComment`: `c` is at the first `/`, `rest` starts with the second `/` -/
def lexLineComment (c : Cur) : List Rune → LitRes
  | [] => ⟨[], c.advEOF, [], none⟩           -- not reached: caller peeked '/'
  | r :: rs => lexLineLoop (c.adv r) [] rs

/-- the loop of `lexBlockComment` -/
def lexBlockLoop (c : Cur) (txt : List Rune) : List Rune → LitRes
  | [] => ⟨txt, c.advEOF, [], none⟩          -- `l.ch == EOF`: unterminated comment is accepted
  | r :: rs =>
    if r = cSTAR ∧ rs.head? = some cSLASH then ⟨txt, (c.adv r).adv cSLASH, rs.drop 1, none⟩
    else lexBlockLoop (c.adv r) (txt ++ [r]) rs

def lexBlockComment (c : Cur) : List Rune → LitRes
  | [] => lexBlockLoop c.advEOF [] []         -- not reached: caller peeked '*'
  | r :: rs => lexBlockLoop (c.adv r) [] rs

/-- `lexString` (with `lexEscape` inlined): `c` is at the opening quote -/
def lexStringLoop (c : Cur) (lit : List Rune) : List Rune → LitRes
  | [] => ⟨[], c.advEOF, [], some ⟨c.advEOF.pos, .unexpectedEOF⟩⟩
  | r :: rs =>
    let c1 := c.adv r
    if r = cQUOTE then ⟨lit, c1, rs, none⟩
    else if r = cNL then ⟨[], c1, rs, some ⟨c1.pos, .eolInString⟩⟩
    else if r = cBSL then
      match rs with
      | [] => ⟨[], c1, [], some ⟨c1.pos, .invalidEscape⟩⟩
      | e :: rs2 =>
        if e = cBSL ∨ e = cNL ∨ e = cQUOTE then lexStringLoop (c1.adv e) (lit ++ [e]) rs2
        else ⟨[], c1, e :: rs2, some ⟨c1.pos, .invalidEscape⟩⟩
    else lexStringLoop c1 (lit ++ [r]) rs

/-- `lexRegex`: `c` is at the opening `/`; `//` is an escaped `/` -/
def lexRegexLoop (c : Cur) (lit : List Rune) : List Rune → LitRes
  | [] => ⟨[], c.advEOF, [], some ⟨c.advEOF.pos, .unexpectedEOF⟩⟩
  | r :: rs =>
    let c1 := c.adv r
    if r = cNL then ⟨[], c1, rs, some ⟨c1.pos, .eolInRegex⟩⟩
    else if r = cSLASH then
      match rs with
      | [] => ⟨lit, c1, [], none⟩
      | e :: rs2 =>
        if e = cSLASH then lexRegexLoop (c1.adv e) (lit ++ [cSLASH]) rs2
        else ⟨lit, c1, e :: rs2, none⟩
    else lexRegexLoop c1 (lit ++ [r]) rs

/-- `skipWhitespace`: spaces other than `\n` -/
def skipWhitespace (cls : Cls) (c : Cur) : List Rune → Cur × List Rune
  | [] => (c, [])
  | r :: rs =>
    if cls.isSpace r = true ∧ r ≠ cNL then skipWhitespace cls (c.adv r) rs else (c, r :: rs)

/-- `lexDescriptionLine`: `c` is at the `|` -/
def lexDescriptionLine (cls : Cls) (c : Cur) (rest : List Rune) : LitRes :=
  let (c1, rest1) := skipWhitespace cls c rest
  lexLineLoop c1 [] rest1

/-- the loop of `lexIdent` -/
def lexIdentLoop (cls : Cls) (c : Cur) (lit : List Rune) : List Rune → LitRes
  | [] => ⟨lit, c, [], none⟩
  | r :: rs =>
    if cls.isLetter r = true ∨ cls.isDigit r = true ∨ r = cUS then
      lexIdentLoop cls (c.adv r) (lit ++ [r]) rs
    else ⟨lit, c, r :: rs, none⟩

/-- result of `lexNumber`: the token (returned even with the error), state, error -/
structure NumRes where
  ty : TokenType
  lit : List Rune
  cur : Cur
  rest : List Rune
  err : Option LexErr
  deriving Repr

/-- the loop of `lexNumber` -/
def lexNumberLoop (cls : Cls) (c : Cur) (ty : TokenType) (lit : List Rune) (seenDot : Bool) :
    List Rune → NumRes
  | [] => ⟨ty, lit, c, [], none⟩
  | r :: rs =>
    if cls.isDigit r = true then lexNumberLoop cls (c.adv r) ty (lit ++ [r]) seenDot rs
    else if r = cDOT then
      if seenDot then ⟨ty, lit, c, r :: rs, some ⟨c.pos, .secondDot⟩⟩
      else lexNumberLoop cls (c.adv r) .decimal (lit ++ [cDOT]) true rs
    else ⟨ty, lit, c, r :: rs, none⟩

/-- result of `NextToken` -/
structure LexStep where
  tok : Token
  err : Option LexErr
  cur : Cur
  rest : List Rune
  deriving Repr

/-- `asKeyword`: the keyword table is empty (`keyword_beg+1 = keyword_end`). -/
def asKeyword (_lit : List Rune) : Option TokenType := none

def mkTok (ty : TokenType) (lit : List Rune) (s e : Pos) : Token := ⟨ty, lit, s, e⟩

def litStep (ty : TokenType) (startPos : Pos) (r : LitRes) : LexStep :=
  match r.err with
  | some e => ⟨Token.zero, some e, r.cur, r.rest⟩
  | none => ⟨mkTok ty r.lit startPos r.cur.pos, none, r.cur, r.rest⟩

/-- `NextToken` -/
def nextToken (cls : Cls) (c : Cur) : List Rune → LexStep
  | [] => let c1 := c.advEOF; ⟨mkTok .eof [] c1.pos c1.pos, none, c1, []⟩
  | r :: rs =>
    let c1 := c.adv r
    match operatorOf r with
    | some op => ⟨mkTok op [r] c1.pos c1.pos, none, c1, rs⟩
    | none =>
      if r = cSLASH then
        if rs.head? = some cSLASH then litStep .comment c1.pos (lexLineComment c1 rs)
        else if rs.head? = some cSTAR then litStep .blockComment c1.pos (lexBlockComment c1 rs)
        else litStep .regex c1.pos (lexRegexLoop c1 [] rs)
      else if r = cQUOTE then litStep .string c1.pos (lexStringLoop c1 [] rs)
      else if r = cPIPE then litStep .description c1.pos (lexDescriptionLine cls c1 rs)
      else if r = cNL then ⟨mkTok .eol [r] c1.pos c1.pos, none, c1, rs⟩
      else if cls.isSpace r = true then nextToken cls c1 rs
      else if cls.isDigit r = true then
        let n := lexNumberLoop cls c1 .int [r] false rs
        match n.err with
        | some e => ⟨mkTok n.ty n.lit c1.pos c1.pos, some e, n.cur, n.rest⟩
        | none => ⟨mkTok n.ty n.lit c1.pos n.cur.pos, none, n.cur, n.rest⟩
      else if cls.isLetter r = true then
        let i := lexIdentLoop cls c1 [r] rs
        match asKeyword i.lit with
        | some kw => ⟨mkTok kw [] c1.pos i.cur.pos, none, i.cur, i.rest⟩
        | none =>
          if i.lit = litTrue ∨ i.lit = litFalse then
            ⟨mkTok .bool i.lit c1.pos i.cur.pos, none, i.cur, i.rest⟩
          else ⟨mkTok .ident i.lit c1.pos i.cur.pos, none, i.cur, i.rest⟩
      else ⟨Token.zero, some ⟨c1.pos, .unexpectedChar⟩, c1, rs⟩

/-- what `AllTokens` returns: `(tokens, true)`, or `(nil, false)` with `l.Errors`. `nofuel` is the
model's "did not terminate"; `allTokens_ne_nofuel` proves it is never produced. -/
inductive LexOut where
  | toks (ts : List Token)
  | errs (es : List LexErr)
  | nofuel
  deriving Repr

/-- `AllTokens(failFast)` -/
def allTokensLoop (cls : Cls) (failFast : Bool) :
    Nat → Cur → List Rune → List Token → List LexErr → LexOut
  | 0, _, _, _, _ => .nofuel
  | fuel + 1, c, rest, toks, errs =>
    let s := nextToken cls c rest
    match s.err with
    | some e =>
      if failFast then .errs (errs ++ [e])
      else if s.tok.ty = .eof then .errs (errs ++ [e])      -- not reached: error tokens are never EOF
      else allTokensLoop cls failFast fuel s.cur s.rest (toks ++ [s.tok]) (errs ++ [e])
    | none =>
      if s.tok.ty = .eof then (if errs.isEmpty then .toks toks else .errs errs)
      else allTokensLoop cls failFast fuel s.cur s.rest (toks ++ [s.tok]) errs

def allTokens (cls : Cls) (failFast : Bool) (src : List Rune) : LexOut :=
  allTokensLoop cls failFast (src.length + 2) Cur.init src [] []

end J5V.Bcl
