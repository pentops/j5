import J5V.Bcl.Equiv
import J5V.Bcl.FragStepProofs
/-!
# The walker commutes with position erasure

The walker never branches on a position, it only copies them.  So running any walker function on
the erased state gives the erased result: `ERel g m' m` says this of one action, for all three outcomes, and
is closed under `bind`; every method follows its definition, so an arm added to a walker method needs its
case here as it does in `WalkRun`.
-/
namespace J5V.Bcl


theorem Value.eraseList_eq_map (vs : List Value) : Value.eraseList vs = vs.map Value.erase := by
  induction vs with
  | nil => simp [Value.eraseList]
  | cons v vs ih => simp [Value.eraseList, ih]

theorem Statement.eraseList_eq_map (ss : List Statement) :
    Statement.eraseList ss = ss.map Statement.erase := by
  induction ss with
  | nil => simp [Statement.eraseList]
  | cons s ss ih => simp [Statement.eraseList, ih]

@[simp] theorem Token.erase_ty (t : Token) : t.erase.ty = t.ty := rfl
@[simp] theorem Token.erase_lit (t : Token) : t.erase.lit = t.lit := rfl
@[simp] theorem Token.erase_start (t : Token) : t.erase.start = ⟨0, 0⟩ := rfl
@[simp] theorem Token.erase_end (t : Token) : t.erase.end_ = ⟨0, 0⟩ := rfl

@[simp] theorem W.erase_prev (w : W) : w.erase.prev = w.prev.map Token.erase := rfl
@[simp] theorem W.erase_rest (w : W) : w.erase.rest = w.rest.map Token.erase := rfl

@[simp] theorem W.erase_nextType (w : W) : w.erase.nextType = w.nextType := by
  cases w with | mk p r => cases r <;> rfl

@[simp] theorem W.erase_peekType1 (w : W) : w.erase.peekType1 = w.peekType1 := by
  cases w with | mk p r =>
  cases r with
  | nil => rfl
  | cons a r => cases r <;> rfl

@[simp] theorem W.erase_currentPos (w : W) : w.erase.currentPos = ⟨0, 0⟩ := by
  cases w with | mk p r => cases p <;> rfl

theorem Token.erase_asIdent (t : Token) : t.erase.asIdent = t.asIdent.map Token.erase := by
  cases t with | mk ty lit s e =>
  cases ty <;> rfl

@[simp] theorem Reference.erase_string (r : Reference) : r.erase.string = r.string := by
  simp [Reference.string, Reference.erase, Ident.erase, Function.comp_def]

@[simp] theorem Reference.erase_span (r : Reference) : r.erase.span = Span.zero := rfl

@[simp] theorem Value.erase_span (v : Value) : v.erase.span = Span.zero := by
  cases v <;> rfl

theorem newReference_erase (acc : List Ident) :
    newReference (acc.map Ident.erase) = (newReference acc).map Reference.erase := by
  unfold newReference
  cases acc with
  | nil => rfl
  | cons a as =>
    simp only [List.map_cons, List.head?_cons]
    rw [← List.map_cons, List.getLast?_map]
    cases h : (a :: as).getLast? with
    | none => simp at h
    | some l => simp [Reference.erase, Ident.erase, Span.zero]

@[simp] theorem Fragment.erase_src (f : Fragment) : f.erase.src = f.src.erase := by
  cases f <;> simp [Fragment.erase, Fragment.src, SourceNode.erase, BlockHeader.erase,
    Assignment.erase, Description.erase, Comment.erase, CloseBlock.erase, Span.zero]

@[simp] theorem UnexpErr.erase_diag (e : UnexpErr) : e.erase.diag = e.diag.erase := rfl

/-! ## the relation "erased run = erasure of the run" -/

/-- `m'` on the erased state computes the erasure (by `g` on values) of what `m` computes -/
def ERel {α : Type} (g : α → α) (m' m : WM α) : Prop := ∀ w : W, m' w.erase = (m w).erase g

theorem ERel.pure {α : Type} {g : α → α} {a' a : α} (h : a' = g a) :
    ERel g (Pure.pure a' : WM α) (Pure.pure a) := by
  intro w; subst h; rfl

theorem ERel.fail {α : Type} {g : α → α} {e' e : UnexpErr} (h : e' = e.erase) :
    ERel g (WM.fail e' : WM α) (WM.fail e) := by
  intro w; subst h; rfl

theorem ERel.panic {α : Type} {g : α → α} (s : String) :
    ERel g (WM.panic s : WM α) (WM.panic s) := by
  intro w; rfl

theorem ERel.getW : ERel W.erase getW getW := by
  intro w; rfl

theorem bind_erase_at {α β : Type} (gα : α → α) (gβ : β → β) (m' m : WM α) (k' k : α → WM β) (w : W)
    (hm : m' w.erase = (m w).erase gα)
    (hk : ∀ a w1, k' (gα a) w1.erase = (k a w1).erase gβ) :
    (m' >>= k') w.erase = ((m >>= k) w).erase gβ := by
  show WM.bind m' k' w.erase = (WM.bind m k w).erase gβ
  unfold WM.bind
  rw [hm]
  cases h : m w with
  | ok a w1 => simp only [WR.erase]; exact hk a w1
  | fail e w1 => rfl
  | panic s => rfl

theorem ERel.bind {α β : Type} (gα : α → α) {gβ : β → β} {m' m : WM α} {k' k : α → WM β}
    (hm : ERel gα m' m) (hk : ∀ a, ERel gβ (k' (gα a)) (k a)) :
    ERel gβ (m' >>= k') (m >>= k) :=
  fun w => bind_erase_at gα gβ m' m k' k w (hm w) (fun a w1 => hk a w1)

theorem bind_erase {α β : Type} (gα : α → α) (gβ : β → β) (m : WM α) (k : α → WM β) (w : W)
    (hm : m w.erase = (m w).erase gα)
    (hk : ∀ a w1, k (gα a) w1.erase = (k a w1).erase gβ) :
    (m >>= fun a => k a) w.erase = ((m >>= k) w).erase gβ :=
  bind_erase_at gα gβ m m k k w hm hk

theorem ERel.ite {α : Type} {g : α → α} {c : Prop} [Decidable c] {a' a b' b : WM α}
    (ha : ERel g a' a) (hb : ERel g b' b) : ERel g (if c then a' else b') (if c then a else b) := by
  split
  · exact ha
  · exact hb


theorem popToken_erase : ERel Token.erase popToken popToken := by
  intro w
  cases w with | mk p r =>
  cases r with
  | cons t rs => rfl
  | nil =>
    cases p with
    | none => rfl
    | some l =>
      simp only [popToken, W.erase, List.map_nil, Option.map_some, Token.erase_ty]
      split <;> rfl

theorem failUnexpected_erase {α : Type} (g : α → α) (ex : List TokenType) :
    ERel g (failUnexpected ex : WM α) (failUnexpected ex) := by
  unfold failUnexpected
  exact ERel.bind Token.erase popToken_erase (fun tok => ERel.fail rfl)

theorem popType_erase (tt : TokenType) : ERel Token.erase (popType tt) (popType tt) := by
  unfold popType
  refine ERel.bind Token.erase popToken_erase (fun tok => ?_)
  simp only [Token.erase_ty]
  exact ERel.ite (ERel.fail rfl) (ERel.pure rfl)

theorem popIdent_erase : ERel Ident.erase popIdent popIdent := by
  unfold popIdent
  refine ERel.bind Token.erase popToken_erase (fun tok => ?_)
  rw [Token.erase_asIdent]
  cases h : tok.asIdent with
  | none => exact ERel.fail rfl
  | some t => exact ERel.pure rfl

theorem popReferenceLoop_erase : ∀ (ts : List Token) (acc : List Ident) (prev : Option Token),
    popReferenceLoop (acc.map Ident.erase) (prev.map Token.erase) (ts.map Token.erase) =
      (popReferenceLoop acc prev ts).erase Reference.erase
  | [], acc, prev => by
    have h := popToken_erase ⟨prev, []⟩
    simp only [W.erase, List.map_nil] at h
    simp only [popReferenceLoop, List.map_nil, h, newReference_erase]
    cases popToken ⟨prev, []⟩ with
    | ok tok w1 => cases newReference acc <;> rfl
    | fail e w1 => rfl
    | panic s => rfl
  | t :: rs, acc, prev => by
    simp only [popReferenceLoop, List.map_cons, Token.erase_asIdent]
    cases hi : t.asIdent with
    | none =>
      simp only [Option.map_none, newReference_erase]
      cases newReference acc <;> rfl
    | some it =>
      simp only [Option.map_some]
      have hacc : acc.map Ident.erase ++
          [(⟨it.erase, it.erase.lit, ⟨it.erase.start, it.erase.end_⟩⟩ : Ident)]
          = (acc ++ [(⟨it, it.lit, ⟨it.start, it.end_⟩⟩ : Ident)]).map Ident.erase := by
        simp [Ident.erase, Span.zero]
      rw [hacc]
      match rs with
      | [] =>
        simp only [List.map_nil, newReference_erase]
        cases newReference (acc ++ [(⟨it, it.lit, ⟨it.start, it.end_⟩⟩ : Ident)]) <;> rfl
      | d :: rs2 =>
        simp only [List.map_cons, Token.erase_ty]
        by_cases hd : d.ty = .dot
        · simp only [hd, if_true]
          exact popReferenceLoop_erase rs2 _ (some d)
        · simp only [hd, if_false, newReference_erase]
          cases newReference (acc ++ [(⟨it, it.lit, ⟨it.start, it.end_⟩⟩ : Ident)]) <;> rfl

theorem popReference_erase : ERel Reference.erase popReference popReference := by
  intro w
  exact popReferenceLoop_erase w.rest [] w.prev

theorem popDescLoop_erase (toks : List Token) (last : Token) (ts : List Token) :
    popDescLoop (toks.map Token.erase) last.erase (ts.map Token.erase) =
      (((popDescLoop toks last ts).1).map Token.erase, ((popDescLoop toks last ts).2.1).erase,
        ((popDescLoop toks last ts).2.2).erase) := by
  induction toks, last, ts using popDescLoop.induct with
  | case1 toks last e d rs h ih =>
    simp only [popDescLoop, List.map_cons, Token.erase_ty, h, and_self, if_true]
    have := ih
    simp only [List.map_append, List.map_cons, List.map_nil] at this
    exact this
  | case2 toks last e d rs h =>
    simp only [popDescLoop, List.map_cons, Token.erase_ty, h, if_false]
    rfl
  | case3 rs toks last h =>
    cases rs with
    | nil => rfl
    | cons a rs =>
      cases rs with
      | nil => rfl
      | cons b rs => exact absurd rfl (h a b rs)

theorem mkDescription_erase (toks : List Token) (first last : Token) :
    mkDescription (toks.map Token.erase) first.erase last.erase =
      (mkDescription toks first last).erase := by
  simp [mkDescription, Description.erase, Span.zero, Function.comp_def]

theorem popDescription_erase : ERel Description.erase popDescription popDescription := by
  unfold popDescription
  refine ERel.bind Token.erase popToken_erase (fun first => ?_)
  intro w
  have h := popDescLoop_erase [first] first w.rest
  simp only [List.map_cons, List.map_nil] at h
  simp only [W.erase_rest, h, WR.erase, mkDescription_erase]

theorem popValue_popValueElems_erase (fuel : Nat) :
    ERel Value.erase (popValue fuel) (popValue fuel) ∧
    ∀ (opener : Token) (acc : List Value),
      ERel Value.erase (popValueElems fuel opener.erase (acc.map Value.erase))
        (popValueElems fuel opener acc) := by
  induction fuel with
  | zero =>
    refine ⟨?_, fun opener acc => ?_⟩
    · simp only [popValue]; exact ERel.panic _
    · simp only [popValueElems]; exact ERel.panic _
  | succ fuel ih =>
    obtain ⟨ihV, ihE⟩ := ih
    refine ⟨?_, fun opener acc => ?_⟩
    · intro w
      simp only [popValue, W.erase_nextType]
      by_cases h1 : w.nextType = .ident
      · simp only [h1, if_true]
        refine ERel.bind Reference.erase popReference_erase (fun ref => ?_) w
        exact ERel.pure (by simp [Value.erase, Span.zero, Token.erase])
      · simp only [h1, if_false]
        by_cases h2 : w.nextType.isLiteral = true
        · simp only [h2, if_true]
          refine ERel.bind Token.erase popToken_erase (fun tok => ?_) w
          exact ERel.pure (by simp [Value.erase, Span.zero])
        · simp only [h2]
          by_cases h3 : w.nextType = .lbrack
          · simp only [h3, if_true]
            refine ERel.bind Token.erase popToken_erase (fun opener => ?_) w
            refine ERel.bind W.erase ERel.getW (fun w1 => ?_)
            simp only [W.erase_nextType]
            refine ERel.ite ?_ ?_
            · refine ERel.bind Token.erase popToken_erase (fun _ => ?_)
              refine ERel.bind W.erase ERel.getW (fun w2 => ?_)
              exact ERel.pure (by simp [Value.erase, Value.eraseList, Span.zero])
            · exact ihE opener []
          · simp only [h3, if_false]
            exact failUnexpected_erase _ _ w
    · simp only [popValueElems]
      refine ERel.bind Value.erase ihV (fun value => ?_)
      refine ERel.bind W.erase ERel.getW (fun w1 => ?_)
      simp only [W.erase_nextType]
      have hacc : acc.map Value.erase ++ [value.erase] = (acc ++ [value]).map Value.erase := by simp
      refine ERel.ite ?_ (ERel.ite ?_ ?_)
      · refine ERel.bind Token.erase popToken_erase (fun _ => ?_)
        rw [hacc]
        exact ihE opener _
      · refine ERel.bind Token.erase popToken_erase (fun _ => ?_)
        refine ERel.bind W.erase ERel.getW (fun w2 => ?_)
        exact ERel.pure (by simp [Value.erase, Value.eraseList_eq_map, Span.zero])
      · exact failUnexpected_erase _ _

theorem popValue_erase (fuel : Nat) : ERel Value.erase (popValue fuel) (popValue fuel) :=
  (popValue_popValueElems_erase fuel).1

theorem popValueElems_erase (fuel : Nat) (opener : Token) (acc : List Value) :
    ERel Value.erase (popValueElems fuel opener.erase (acc.map Value.erase))
      (popValueElems fuel opener acc) :=
  (popValue_popValueElems_erase fuel).2 opener acc

theorem popTag_erase (fuel : Nat) : ERel TagValue.erase (popTag fuel) (popTag fuel) := by
  unfold popTag
  refine ERel.bind W.erase ERel.getW (fun w0 => ?_)
  simp only [W.erase_nextType]
  refine ERel.bind (fun p : TagMark × Token => (p.1, p.2.erase)) ?_ (fun p => ?_)
  · split
    · exact ERel.bind Token.erase popToken_erase (fun tok => ERel.pure rfl)
    · exact ERel.bind Token.erase popToken_erase (fun tok => ERel.pure rfl)
    · exact ERel.pure rfl
  · obtain ⟨mark, tok⟩ := p
    simp only []
    refine ERel.bind W.erase ERel.getW (fun w1 => ?_)
    simp only [W.erase_nextType]
    split
    · exact ERel.bind Reference.erase popReference_erase (fun ref => ERel.pure rfl)
    · exact ERel.bind Reference.erase popReference_erase (fun ref => ERel.pure rfl)
    · refine ERel.bind Value.erase (popValue_erase fuel) (fun v => ERel.pure ?_)
      simp [TagValue.erase]
    · exact failUnexpected_erase _ _

theorem endStatement_erase :
    ERel (Option.map CommentNode.erase) endStatement endStatement := by
  unfold endStatement
  refine ERel.bind Token.erase popToken_erase (fun tok => ?_)
  simp only [Token.erase_ty]
  refine ERel.ite ?_ (ERel.ite (ERel.pure rfl) (ERel.fail rfl))
  refine ERel.bind Token.erase popToken_erase (fun tok2 => ?_)
  simp only [Token.erase_ty]
  exact ERel.ite (ERel.pure rfl) (ERel.fail rfl)

theorem walkValueAssign_erase (fuel : Nat) (ref : Reference) (append : Bool) :
    ERel Assignment.erase (walkValueAssign fuel ref.erase append)
      (walkValueAssign fuel ref append) := by
  unfold walkValueAssign
  refine ERel.bind Token.erase (popType_erase _) (fun _ => ?_)
  refine ERel.bind Value.erase (popValue_erase fuel) (fun value => ?_)
  refine ERel.bind (Option.map CommentNode.erase) endStatement_erase (fun comment => ?_)
  exact ERel.pure (by simp [Assignment.erase, SourceNode.erase, Span.zero])

theorem tagsLoop_erase (pfuel fuel : Nat) (acc : List TagValue) :
    ERel (List.map TagValue.erase) (tagsLoop pfuel fuel (acc.map TagValue.erase))
      (tagsLoop pfuel fuel acc) := by
  induction fuel generalizing acc with
  | zero => simp only [tagsLoop]; exact ERel.panic _
  | succ fuel ih =>
    simp only [tagsLoop]
    refine ERel.bind W.erase ERel.getW (fun w => ?_)
    simp only [W.erase_nextType]
    refine ERel.ite ?_ (ERel.pure rfl)
    refine ERel.bind TagValue.erase (popTag_erase pfuel) (fun tag => ?_)
    have h := ih (acc ++ [tag])
    simp only [List.map_append, List.map_cons, List.map_nil] at h
    exact h

theorem qualsLoop_erase (pfuel fuel : Nat) (acc : List TagValue) :
    ERel (List.map TagValue.erase) (qualsLoop pfuel fuel (acc.map TagValue.erase))
      (qualsLoop pfuel fuel acc) := by
  induction fuel generalizing acc with
  | zero => simp only [qualsLoop]; exact ERel.panic _
  | succ fuel ih =>
    simp only [qualsLoop]
    refine ERel.bind W.erase ERel.getW (fun w => ?_)
    simp only [W.erase_nextType]
    refine ERel.ite ?_ (ERel.pure rfl)
    refine ERel.bind Token.erase popToken_erase (fun _ => ?_)
    refine ERel.bind TagValue.erase (popTag_erase pfuel) (fun q => ?_)
    have h := ih (acc ++ [q])
    simp only [List.map_append, List.map_cons, List.map_nil] at h
    exact h

theorem walkStatement_erase (fuel : Nat) :
    ERel Fragment.erase (walkStatement fuel) (walkStatement fuel) := by
  unfold walkStatement
  refine ERel.bind Reference.erase popReference_erase (fun ref => ?_)
  refine ERel.bind W.erase ERel.getW (fun w => ?_)
  simp only [W.erase_nextType]
  refine ERel.ite ?_ (ERel.ite ?_ ?_)
  · exact ERel.bind Assignment.erase (walkValueAssign_erase fuel ref false)
      (fun a => ERel.pure rfl)
  · refine ERel.bind Token.erase popToken_erase (fun _ => ?_)
    refine ERel.bind W.erase ERel.getW (fun w1 => ?_)
    simp only [W.erase_nextType]
    refine ERel.ite (failUnexpected_erase _ _) ?_
    exact ERel.bind Assignment.erase (walkValueAssign_erase fuel ref true)
      (fun a => ERel.pure rfl)
  · have ht := tagsLoop_erase fuel fuel []
    have hq := qualsLoop_erase fuel fuel []
    simp only [List.map_nil] at ht hq
    refine ERel.bind (List.map TagValue.erase) ht (fun tags => ?_)
    refine ERel.bind (List.map TagValue.erase) hq (fun quals => ?_)
    refine ERel.bind W.erase ERel.getW (fun w2 => ?_)
    simp only [W.erase_nextType]
    split
    · refine ERel.bind Token.erase popToken_erase (fun _ => ?_)
      refine ERel.bind W.erase ERel.getW (fun w3 => ?_)
      refine ERel.bind (Option.map CommentNode.erase) endStatement_erase (fun comment => ?_)
      exact ERel.pure (by simp [Fragment.erase, BlockHeader.erase, SourceNode.erase, Span.zero])
    · refine ERel.bind Token.erase popToken_erase (fun tok => ?_)
      refine ERel.bind W.erase ERel.getW (fun w3 => ?_)
      exact ERel.pure (by
        simp [Fragment.erase, BlockHeader.erase, SourceNode.erase, Description.erase, Span.zero])
    · refine ERel.bind (Option.map CommentNode.erase) endStatement_erase (fun comment => ?_)
      exact ERel.pure (by simp [Fragment.erase, BlockHeader.erase, SourceNode.erase, Span.zero])
    · exact ERel.pure (by simp [Fragment.erase, BlockHeader.erase, SourceNode.erase, Span.zero])
    · exact ERel.pure (by simp [Fragment.erase, BlockHeader.erase, SourceNode.erase, Span.zero])
    · exact failUnexpected_erase _ _

theorem nextFragment_erase (fuel : Nat) :
    ERel (Option.map Fragment.erase) (nextFragment fuel) (nextFragment fuel) := by
  unfold nextFragment
  refine ERel.bind W.erase ERel.getW (fun w => ?_)
  simp only [W.erase_nextType]
  split
  · exact ERel.bind Token.erase popToken_erase (fun _ => ERel.pure rfl)
  · exact ERel.bind Token.erase popToken_erase (fun _ => ERel.pure rfl)
  · exact ERel.bind Token.erase popToken_erase (fun tok => ERel.pure rfl)
  · exact ERel.bind Token.erase popToken_erase (fun tok => ERel.pure rfl)
  · exact ERel.bind Token.erase popToken_erase (fun tok => ERel.pure rfl)
  · exact ERel.bind Description.erase popDescription_erase (fun d => ERel.pure rfl)
  · exact ERel.bind Fragment.erase (walkStatement_erase fuel) (fun f => ERel.pure rfl)
  · exact ERel.bind Fragment.erase (walkStatement_erase fuel) (fun f => ERel.pure rfl)
  · exact failUnexpected_erase _ _

theorem skipToEOL_erase : ∀ (ts : List Token) (prev : Option Token),
    skipToEOL (prev.map Token.erase) (ts.map Token.erase) =
      (skipToEOL prev ts).erase (fun u => u)
  | [], prev => by
    have h := popToken_erase ⟨prev, []⟩
    simp only [W.erase, List.map_nil] at h
    simp only [skipToEOL, List.map_nil, h]
    cases popToken ⟨prev, []⟩ <;> rfl
  | t :: rs, prev => by
    simp only [skipToEOL, List.map_cons, Token.erase_ty]
    by_cases h : t.ty = .eol ∨ t.ty = .eof
    · simp only [h, if_true]; rfl
    · simp only [h, if_false]
      exact skipToEOL_erase rs (some t)

theorem walkFragmentsLoop_erase (ff : Bool) (pfuel fuel : Nat) (w : W) (frags : List Fragment)
    (errs : List Diag) :
    walkFragmentsLoop ff pfuel fuel w.erase (frags.map Fragment.erase) (errs.map Diag.erase) =
      (walkFragmentsLoop ff pfuel fuel w frags errs).erase := by
  induction fuel generalizing w frags errs with
  | zero => rfl
  | succ fuel ih =>
    simp only [walkFragmentsLoop, W.erase_nextType]
    by_cases h0 : w.nextType = .eof
    · simp only [h0, if_true]; rfl
    · simp only [h0, if_false]
      rw [nextFragment_erase pfuel w]
      cases hn : nextFragment pfuel w with
      | panic s => rfl
      | ok o w1 =>
        cases o with
        | none => exact ih w1 frags errs
        | some f =>
          have h := ih w1 (frags ++ [f]) errs
          simp only [List.map_append, List.map_cons, List.map_nil] at h
          exact h
      | fail e w1 =>
        simp only [WR.erase, UnexpErr.erase_diag]
        have herr : errs.map Diag.erase ++ [e.diag.erase] = (errs ++ [e.diag]).map Diag.erase := by
          simp
        rw [herr]
        cases ff with
        | true => rfl
        | false =>
          simp only [Bool.false_eq_true, if_false, W.erase_prev, W.erase_rest,
            skipToEOL_erase w1.rest w1.prev]
          cases skipToEOL w1.prev w1.rest with
          | panic s => rfl
          | fail e2 w2 => rfl
          | ok u w2 => exact ih w2 frags _

theorem walkFragments_erase (ff : Bool) (ts : List Token) :
    walkFragments ff (ts.map Token.erase) = (walkFragments ff ts).erase := by
  unfold walkFragments
  rw [List.length_map]
  exact walkFragmentsLoop_erase ff _ _ ⟨none, ts⟩ [] []

/-- a run on erased tokens that ends without a diagnostic is the erasure of such a run on the tokens
themselves -/
theorem walkFragments_done_of_erase {ff : Bool} {ts : List Token} {X : List Fragment}
    (h : walkFragments ff (ts.map Token.erase) = .done X []) :
    ∃ fr, walkFragments ff ts = .done fr [] ∧ fr.map Fragment.erase = X := by
  rw [walkFragments_erase] at h
  cases hw : walkFragments ff ts with
  | done fr es =>
    rw [hw] at h
    simp only [WalkOut.erase, WalkOut.done.injEq] at h
    rw [List.map_eq_nil_iff.mp h.2]
    exact ⟨fr, rfl, h.1⟩
  | hadErrors es => rw [hw] at h; cases h
  | panic s => rw [hw] at h; cases h


/-- erasure of an open block of `fragmentsToFile` -/
def OpenBlock.erase (b : OpenBlock) : OpenBlock := ⟨b.hdr.erase, b.stmts.map Statement.erase⟩

@[simp] theorem Statement.erase_block (h : BlockHeader) (body : List Statement) :
    (Statement.block h body).erase = .block h.erase (body.map Statement.erase) := by
  simp [Statement.erase, Statement.eraseList_eq_map]

theorem closeInto_erase (root : List Statement) (blk : Statement) (stack : List OpenBlock) :
    closeInto (root.map Statement.erase) blk.erase (stack.map OpenBlock.erase) =
      (closeInto root blk stack).map Statement.erase := by
  induction stack generalizing blk with
  | nil => simp [closeInto]
  | cons p rest ih =>
    simp only [closeInto, List.map_cons]
    rw [← ih]
    simp [OpenBlock.erase]

theorem closeAll_erase (root : List Statement) (stack : List OpenBlock) :
    closeAll (root.map Statement.erase) (stack.map OpenBlock.erase) =
      (closeAll root stack).map Statement.erase := by
  cases stack with
  | nil => rfl
  | cons b rest =>
    simp only [closeAll, List.map_cons]
    rw [← closeInto_erase]
    simp [OpenBlock.erase]

theorem addTo_erase {s' s : Statement} (h : s' = s.erase) (root : List Statement)
    (stack : List OpenBlock) :
    addTo s' (root.map Statement.erase) (stack.map OpenBlock.erase) =
      ((addTo s root stack).1.map Statement.erase, (addTo s root stack).2.map OpenBlock.erase) := by
  subst h
  cases stack <;> simp [addTo, OpenBlock.erase]

theorem fragStep_erase (f : Fragment) (root : List Statement) (stack : List OpenBlock)
    (errs : List Diag) :
    fragStep f.erase (root.map Statement.erase) (stack.map OpenBlock.erase) (errs.map Diag.erase) =
      ((fragStep f root stack errs).1.map Statement.erase,
        (fragStep f root stack errs).2.1.map OpenBlock.erase,
        (fragStep f root stack errs).2.2.map Diag.erase) := by
  cases f with
  | header h =>
    have hopen : h.erase.isOpen = h.isOpen := rfl
    simp only [Fragment.erase, fragStep, hopen, addTo_erase (s' := .block h.erase []) (s := .block h []) rfl]
    split <;> simp [OpenBlock.erase]
  | assign a => simp only [Fragment.erase, fragStep, addTo_erase (s' := .assign a.erase) (s := .assign a) rfl]
  | desc d => simp only [Fragment.erase, fragStep, addTo_erase (s' := .desc d.erase) (s := .desc d) rfl]
  | comment c => rfl
  | close c =>
    cases stack with
    | nil => simp [Fragment.erase, fragStep, Diag.erase, CloseBlock.erase, Span.zero]
    | cons b rest =>
      simp only [Fragment.erase, fragStep, List.map_cons, OpenBlock.erase,
        addTo_erase (Statement.erase_block b.hdr b.stmts).symm]

theorem fragsLoop_erase (fs : List Fragment) (root : List Statement) (stack : List OpenBlock)
    (errs : List Diag) :
    fragsLoop (fs.map Fragment.erase) (root.map Statement.erase) (stack.map OpenBlock.erase)
        (errs.map Diag.erase) =
      ((fragsLoop fs root stack errs).1.map Statement.erase,
        (fragsLoop fs root stack errs).2.1.map OpenBlock.erase,
        (fragsLoop fs root stack errs).2.2.map Diag.erase) := by
  induction fs generalizing root stack errs with
  | nil => rfl
  | cons f fs ih => rw [List.map_cons, fragsLoop_cons, fragStep_erase, ih, ← fragsLoop_cons]

theorem fragmentsToFile_erase (frags : List Fragment) :
    fragmentsToFile (frags.map Fragment.erase) = (fragmentsToFile frags).erase := by
  unfold fragmentsToFile
  have h := fragsLoop_erase frags [] [] []
  simp only [List.map_nil] at h
  rw [h]
  generalize fragsLoop frags [] [] [] = r
  obtain ⟨root, stack, errs⟩ := r
  simp only [File.erase, Statement.eraseList_eq_map, closeAll_erase, List.getLast?_map]
  congr 1
  cases stack with
  | nil => rfl
  | cons b rest =>
    cases frags.getLast? with
    | none => rfl
    | some last => simp [Diag.erase, SourceNode.erase]

theorem walk_erase (ff : Bool) (ts : List Token) :
    walk ff (ts.map Token.erase) = (walk ff ts).erase := by
  unfold walk
  rw [walkFragments_erase]
  cases walkFragments ff ts with
  | panic s => rfl
  | hadErrors es => rfl
  | done frags es =>
    simp only [WalkOut.erase, fragmentsToFile_erase]
    cases es with
    | cons e es => rfl
    | nil =>
      simp only [List.map_nil, ne_eq, not_true_eq_false, if_false]
      cases hf : (fragmentsToFile frags).errors with
      | nil => simp [File.erase, hf, ParseOut.erase]
      | cons d ds => simp [File.erase, hf, ParseOut.erase]

end J5V.Bcl
