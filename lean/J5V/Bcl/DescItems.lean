import J5V.Bcl.Fmt
/-!
# A description as a list of items: words, and blank-line markers (definitions; core only)

`canon` gives the words in order and the paragraph breaks of a description: the notion under which
`reformatDescription` keeps a description (`DescEquiv`, `C09_description_words`).
-/
namespace J5V.Bcl

inductive Item where
  | word (w : List Rune)
  | blank
  deriving DecidableEq, Repr

/-- items of one line: a blank-line marker, or its words (`strings.Fields`) -/
def itemsOfLine (cls : Cls) (line : List Rune) : List Item :=
  if line.all cls.isSpace then [.blank] else (fields cls line).map .word

def itemsOf (cls : Cls) (lines : List (List Rune)) : List Item := lines.flatMap (itemsOfLine cls)

/-! ## Canonical items: leading and repeated blank-line markers removed -/

def canonStep (s : List Item × Bool) : Item → List Item × Bool
  | .word w => (s.1 ++ [.word w], false)
  | .blank => (if !s.2 ∧ s.1 ≠ [] then s.1 ++ [.blank] else s.1, true)

def canonFrom (s : List Item × Bool) (items : List Item) : List Item × Bool := items.foldl canonStep s

/-- the words and paragraph breaks of a description -/
def canon (items : List Item) : List Item := (canonFrom ([], false) items).1

end J5V.Bcl
