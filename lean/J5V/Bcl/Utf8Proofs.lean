import J5V.Bcl.Utf8
import J5V.Bcl.PosLines
import J5V.Bcl.SplitJoin
/-!
# `[]rune(string)`: one rune, lines, valid runes

`Utf8Seq` is the grammar of one rune: `decodeOne` reads a well-formed sequence as its code point and nothing else
but single bytes as U+FFFD (`decodeOne_step`); `string(r)` is the sequence of a valid `r`.
Decoding commutes with splitting into lines (`splitLines_decodeRunes`), because `decodeOne` never looks past a
newline byte; `decodeRunes` only produces valid runes and inverts `encodeRunes` on them.
-/
namespace J5V.Bcl

theorem countNL_take_drop (bs : List Nat) (n : Nat) :
    countNL (bs.take n) + countNL (bs.drop n) = countNL bs := by
  rw [← countNL_append, List.take_append_drop]

theorem isCont_iff (b : Nat) : isCont b = true ↔ 0x80 ≤ b ∧ b ≤ 0xBF := by
  unfold isCont; simp

/-- a well-formed UTF-8 sequence (RFC 3629: shortest form, no surrogates, at most U+10FFFF) and the code point
it stands for; every byte is written as its marker plus its payload -/
inductive Utf8Seq : List Nat → Rune → Prop
  | one {b : Nat} : b < 0x80 → Utf8Seq [b] b
  | two {q l : Nat} : 2 ≤ q → q < 32 → l < 64 → Utf8Seq [0xC0 + q, 0x80 + l] (q * 64 + l)
  | three {q m l : Nat} : q < 16 → m < 64 → l < 64 → (q = 0 → 32 ≤ m) → (q = 13 → m < 32) →
      Utf8Seq [0xE0 + q, 0x80 + m, 0x80 + l] (q * 4096 + m * 64 + l)
  | four {q k m l : Nat} : q < 5 → k < 64 → m < 64 → l < 64 → (q = 0 → 16 ≤ k) → (q = 4 → k < 16) →
      Utf8Seq [0xF0 + q, 0x80 + k, 0x80 + m, 0x80 + l] (q * 262144 + k * 4096 + m * 64 + l)

theorem isCont_payload {l : Nat} (h : l < 64) : isCont (0x80 + l) = true :=
  (isCont_iff _).mpr ⟨Nat.le_add_right _ _, Nat.add_le_add_left (Nat.le_of_lt_succ h) _⟩

theorem payload_of_isCont {b : Nat} (h : isCont b = true) : ∃ l, l < 64 ∧ b = 0x80 + l := by
  obtain ⟨h1, h2⟩ := (isCont_iff b).mp h
  obtain ⟨l, rfl⟩ := Nat.exists_eq_add_of_le h1
  exact ⟨l, Nat.lt_succ_of_le (Nat.le_of_add_le_add_left (a := 0x80) (c := 63) h2), rfl⟩

theorem lead_not_lt {a b : Nat} (q : Nat) (h : a ≤ b) : ¬ b + q < a :=
  Nat.not_lt.mpr (Nat.le_add_right_of_le h)

theorem Utf8Seq.decode {s : List Nat} {r : Rune} (h : Utf8Seq s r) (t : List Nat) :
    decodeOne (s ++ t) = (r, s.length) := by
  cases h with
  | one h => exact if_pos h
  | @two q l h1 h2 hl =>
    show decodeOne ((0xC0 + q) :: (0x80 + l) :: t) = _
    rw [decodeOne, if_neg (lead_not_lt q (by decide)), if_neg (by omega),
      if_pos (Nat.add_lt_add_left h2 _)]
    simp only [isCont_payload hl, if_true, Nat.add_sub_cancel_left, List.length]
  | @three q m l hq hm hl h0 h13 =>
    show decodeOne ((0xE0 + q) :: (0x80 + m) :: (0x80 + l) :: t) = _
    have lo : (if 0xE0 + q = 0xE0 then 0xA0 else 0x80) ≤ 0x80 + m := by split <;> omega
    have hi : 0x80 + m ≤ (if 0xE0 + q = 0xED then 0x9F else 0xBF) := by split <;> omega
    rw [decodeOne, if_neg (lead_not_lt q (by decide)), if_neg (lead_not_lt q (by decide)),
      if_neg (lead_not_lt q (by decide)), if_pos (Nat.add_lt_add_left hq _)]
    simp only [isCont_payload hl, lo, hi, and_self, if_true, Nat.add_sub_cancel_left, List.length]
  | @four q k m l hq hk hm hl h0 h4 =>
    show decodeOne ((0xF0 + q) :: (0x80 + k) :: (0x80 + m) :: (0x80 + l) :: t) = _
    have lo : (if 0xF0 + q = 0xF0 then 0x90 else 0x80) ≤ 0x80 + k := by split <;> omega
    have hi : 0x80 + k ≤ (if 0xF0 + q = 0xF4 then 0x8F else 0xBF) := by split <;> omega
    rw [decodeOne, if_neg (lead_not_lt q (by decide)), if_neg (lead_not_lt q (by decide)),
      if_neg (lead_not_lt q (by decide)), if_neg (lead_not_lt q (by decide)),
      if_pos (Nat.add_lt_add_left hq _)]
    simp only [isCont_payload hm, isCont_payload hl, lo, hi, and_self, if_true,
      Nat.add_sub_cancel_left, List.length]

/-- one step of `utf8.DecodeRune`: a well-formed sequence is read, or one byte that is not ASCII as U+FFFD -/
inductive DecStep : List Nat → Rune × Nat → Prop
  | seq {s : List Nat} {r : Rune} (t : List Nat) : Utf8Seq s r → DecStep (s ++ t) (r, s.length)
  | err {b : Nat} (t : List Nat) : 0x80 ≤ b → DecStep (b :: t) (runeError, 1)

theorem DecStep.ite {b : Nat} {t : List Nat} {c : Prop} [Decidable c] {v : Rune × Nat}
    (h0 : 0x80 ≤ b) (h : c → DecStep (b :: t) v) :
    DecStep (b :: t) (if c then v else (runeError, 1)) := by
  split
  · exact h ‹_›
  · exact .err _ h0

theorem decodeOne_step (b0 : Nat) (rest : List Nat) : DecStep (b0 :: rest) (decodeOne (b0 :: rest)) := by
  simp only [decodeOne]
  by_cases h1 : b0 < 0x80
  · rw [if_pos h1]; exact .seq rest (.one h1)
  have h0 : 0x80 ≤ b0 := Nat.le_of_not_lt h1
  rw [if_neg h1]
  by_cases h2 : b0 < 0xC2
  · rw [if_pos h2]; exact .err _ h0
  rw [if_neg h2]
  by_cases h3 : b0 < 0xE0
  · rw [if_pos h3]
    match rest with
    | [] => exact .err _ h0
    | b1 :: t =>
      refine .ite h0 fun h => ?_
      obtain ⟨l, hl, rfl⟩ := payload_of_isCont h
      obtain ⟨q, rfl⟩ := Nat.exists_eq_add_of_le (Nat.le_trans (by decide : 0xC0 ≤ 0xC2) (Nat.le_of_not_lt h2))
      rw [Nat.add_sub_cancel_left, Nat.add_sub_cancel_left]
      exact .seq t (.two (by omega) (by omega) hl)
  rw [if_neg h3]
  by_cases h4 : b0 < 0xF0
  · rw [if_pos h4]
    match rest with
    | [] | [_] => exact .err _ h0
    | b1 :: b2 :: t =>
      refine .ite h0 fun ⟨h5, h6, h7⟩ => ?_
      obtain ⟨l, hl, rfl⟩ := payload_of_isCont h7
      obtain ⟨q, rfl⟩ := Nat.exists_eq_add_of_le (Nat.le_of_not_lt h3)
      obtain ⟨m, rfl⟩ := Nat.exists_eq_add_of_le (show 0x80 ≤ b1 by split at h5 <;> omega)
      rw [Nat.add_sub_cancel_left, Nat.add_sub_cancel_left, Nat.add_sub_cancel_left]
      exact .seq t (.three (by omega) (by split at h6 <;> omega) hl
        (by intro e; split at h5 <;> omega) (by intro e; split at h6 <;> omega))
  rw [if_neg h4]
  by_cases h5 : b0 < 0xF5
  · rw [if_pos h5]
    match rest with
    | [] | [_] | [_, _] => exact .err _ h0
    | b1 :: b2 :: b3 :: t =>
      refine .ite h0 fun ⟨h6, h7, h8, h9⟩ => ?_
      obtain ⟨m, hm, rfl⟩ := payload_of_isCont h8
      obtain ⟨l, hl, rfl⟩ := payload_of_isCont h9
      obtain ⟨q, rfl⟩ := Nat.exists_eq_add_of_le (Nat.le_of_not_lt h4)
      obtain ⟨k, rfl⟩ := Nat.exists_eq_add_of_le (show 0x80 ≤ b1 by split at h6 <;> omega)
      rw [Nat.add_sub_cancel_left, Nat.add_sub_cancel_left, Nat.add_sub_cancel_left,
        Nat.add_sub_cancel_left]
      exact .seq t (.four (by omega) (by split at h7 <;> omega) hm hl
        (by intro e; split at h6 <;> omega) (by intro e; split at h7 <;> omega))
  · rw [if_neg h5]; exact .err _ h0

theorem decodeOne_cases {motive : List Nat → Rune × Nat → Prop}
    (seq : ∀ {s : List Nat} {r : Rune} (t : List Nat), Utf8Seq s r → motive (s ++ t) (r, s.length))
    (err : ∀ {b : Nat} (t : List Nat), 0x80 ≤ b → motive (b :: t) (runeError, 1))
    (b0 : Nat) (rest : List Nat) : motive (b0 :: rest) (decodeOne (b0 :: rest)) := by
  have h := decodeOne_step b0 rest
  generalize decodeOne (b0 :: rest) = d at h
  generalize b0 :: rest = bs at h
  cases h with
  | seq t h => exact seq t h
  | err t h => exact err t h

theorem Utf8Seq.length_pos {s : List Nat} {r : Rune} (h : Utf8Seq s r) : 1 ≤ s.length := by
  cases h <;> exact Nat.le_add_left 1 _

theorem Utf8Seq.hi {s : List Nat} {r : Nat} (h : Utf8Seq s r) :
    (r < 0x80 ∧ s = [r]) ∨ (0x80 ≤ r ∧ ∀ x ∈ s, 0x80 ≤ x) := by
  cases h with
  | one h => exact Or.inl ⟨h, rfl⟩
  | two => exact Or.inr ⟨by omega, by simp [Nat.le_add_right_of_le]⟩
  | three => exact Or.inr ⟨by omega, by simp [Nat.le_add_right_of_le]⟩
  | four => exact Or.inr ⟨by omega, by simp [Nat.le_add_right_of_le]⟩

theorem decodeOne_le_length (b0 : Nat) (rest : List Nat) :
    (decodeOne (b0 :: rest)).2 ≤ (b0 :: rest).length :=
  decodeOne_cases (motive := fun bs d => d.2 ≤ bs.length)
    (fun t _ => by rw [List.length_append]; exact Nat.le_add_right _ _) (fun t _ => Nat.le_add_left 1 _)
    b0 rest

theorem countNL_zero_of_hi (l : List Nat) (h : ∀ x ∈ l, 0x80 ≤ x) : countNL l = 0 := by
  induction l with
  | nil => rfl
  | cons x xs ih =>
    have hx : x ≠ cNL := by have := h x (by simp); simp [cNL]; omega
    simp only [countNL, hx, if_false, Nat.zero_add]
    exact ih (fun y hy => h y (by simp [hy]))

/-- the rune decoded at the head occupies `1 ≤ n` bytes, and is a newline exactly when those bytes
contain one -/
theorem decodeOne_nl (b : Nat) (rest : List Nat) :
    1 ≤ (decodeOne (b :: rest)).2 ∧
    countNL ((b :: rest).take (decodeOne (b :: rest)).2) =
      (if (decodeOne (b :: rest)).1 = cNL then 1 else 0) := by
  refine decodeOne_cases (motive := fun bs d => 1 ≤ d.2 ∧ countNL (bs.take d.2) = if d.1 = cNL then 1 else 0)
    (fun {s r} t h => ⟨h.length_pos, ?_⟩) (fun {b} t h0 => ⟨Nat.le_refl 1, ?_⟩) b rest
  · simp only [List.take_left']
    rcases h.hi with ⟨_, rfl⟩ | ⟨h1, h2⟩
    · simp [countNL]
    · rw [countNL_zero_of_hi _ h2, if_neg]
      rintro rfl
      exact absurd h1 (by decide)
  · rw [if_neg (by decide)]
    exact countNL_zero_of_hi _ (by simpa using h0)

/-- decoding the head does not look past a newline byte -/
theorem decodeOne_before_nl (x : Nat) (a b : List Nat) :
    decodeOne (x :: a ++ cNL :: b) = decodeOne (x :: a) ∧ (decodeOne (x :: a)).2 ≤ (x :: a).length := by
  refine ⟨?_, decodeOne_le_length x a⟩
  have c : isCont cNL = false := rfl
  have lo3 : ¬ (if x = 0xE0 then 0xA0 else 0x80) ≤ cNL := by split <;> decide
  have lo4 : ¬ (if x = 0xF0 then 0x90 else 0x80) ≤ cNL := by split <;> decide
  match a, b with
  | [], [] | [], [_] | [], _ :: _ :: _ | [_], [] | [_], _ :: _ | [_, _], _ | _ :: _ :: _ :: _, _ =>
    simp [decodeOne, c, lo3, lo4]

theorem decodeRunesFuel_irrel (f : Nat) : ∀ (g : Nat) (bs : List Nat), bs.length ≤ f → bs.length ≤ g →
    decodeRunesFuel f bs = decodeRunesFuel g bs := by
  induction f with
  | zero =>
    intro g bs h _
    have : bs = [] := List.eq_nil_of_length_eq_zero (Nat.le_zero.mp h)
    subst this
    cases g <;> rfl
  | succ f ih =>
    intro g bs h hg
    cases bs with
    | nil => cases g <;> rfl
    | cons b rest =>
      cases g with
      | zero => simp at hg
      | succ g =>
        unfold decodeRunesFuel
        obtain ⟨h1, _⟩ := decodeOne_nl b rest
        generalize decodeOne (b :: rest) = d at h1
        obtain ⟨r, n⟩ := d
        simp only at h1 ⊢
        have hl1 : ((b :: rest).drop n).length ≤ f := by simp at h ⊢; omega
        have hl2 : ((b :: rest).drop n).length ≤ g := by simp at hg ⊢; omega
        rw [ih g _ hl1 hl2]

theorem decodeRunes_cons (b : Nat) (rest : List Nat) :
    decodeRunes (b :: rest) =
      (decodeOne (b :: rest)).1 :: decodeRunes ((b :: rest).drop (decodeOne (b :: rest)).2) := by
  have e : decodeRunes (b :: rest) = decodeRunesFuel (rest.length + 1) (b :: rest) := rfl
  rw [e]
  conv => lhs; unfold decodeRunesFuel
  obtain ⟨h1, _⟩ := decodeOne_nl b rest
  generalize decodeOne (b :: rest) = d at h1
  obtain ⟨r, n⟩ := d
  simp only at h1 ⊢
  congr 1
  exact decodeRunesFuel_irrel _ _ _ (by simp; omega) (Nat.le_refl _)

/-- induction along `decodeRunes`, one rune at a time (a rune occupies at least one byte, `decodeOne_nl`) -/
theorem decodeRunes_induct {motive : List Nat → Prop} (nil : motive [])
    (cons : ∀ b rest, motive ((b :: rest).drop (decodeOne (b :: rest)).2) → motive (b :: rest))
    (bs : List Nat) : motive bs := by
  suffices ∀ n (bs : List Nat), bs.length ≤ n → motive bs from this _ bs (Nat.le_refl _)
  intro n
  induction n with
  | zero => intro bs h; cases List.eq_nil_of_length_eq_zero (Nat.le_zero.mp h); exact nil
  | succ n ih =>
    intro bs h
    cases bs with
    | nil => exact nil
    | cons b rest =>
      have := (decodeOne_nl b rest).1
      exact cons b rest (ih _ (by rw [List.length_drop]; simp only [List.length_cons] at h ⊢; omega))

theorem countNL_decodeRunes (bs : List Nat) : countNL (decodeRunes bs) = countNL bs := by
  induction bs using decodeRunes_induct with
  | nil => rfl
  | cons b rest ih =>
    rw [decodeRunes_cons, ← countNL_take_drop (b :: rest) (decodeOne (b :: rest)).2, (decodeOne_nl b rest).2]
    simp only [countNL, ih]

/-- the lexer's view and `strings.Split` agree on the number of lines -/
theorem lineCount_decodeRunes (bs : List Nat) :
    (splitLines (decodeRunes bs)).length = (splitLines bs).length := by
  rw [splitLines_length, splitLines_length, countNL_decodeRunes]

theorem Utf8Seq.decodeRunes {s : List Nat} {r : Rune} (h : Utf8Seq s r) (rest : List Nat) :
    decodeRunes (s ++ rest) = r :: decodeRunes rest := by
  have h1 := h.decode rest
  have h2 := h.length_pos
  cases s with
  | nil => cases h2
  | cons b bs =>
    rw [List.cons_append] at h1 ⊢
    rw [decodeRunes_cons, h1]
    simp only []
    rw [← List.cons_append, List.drop_left]

theorem decodeRunes_nl_cons (b : List Nat) : decodeRunes (cNL :: b) = cNL :: decodeRunes b :=
  (Utf8Seq.one (by decide)).decodeRunes b

/-- decoding distributes over a newline byte -/
theorem decodeRunes_nl (a b : List Nat) :
    decodeRunes (a ++ cNL :: b) = decodeRunes a ++ cNL :: decodeRunes b := by
  induction a using decodeRunes_induct with
  | nil => exact decodeRunes_nl_cons b
  | cons x a' ih =>
    obtain ⟨e1, e2⟩ := decodeOne_before_nl x a' b
    show decodeRunes (x :: (a' ++ cNL :: b)) = _
    rw [decodeRunes_cons, decodeRunes_cons x a', show decodeOne (x :: (a' ++ cNL :: b)) = _ from e1,
      show x :: (a' ++ cNL :: b) = (x :: a') ++ cNL :: b from rfl, List.drop_append_of_le_length e2, ih]
    rfl

theorem countNL_eq_zero_iff (l : List Nat) : countNL l = 0 ↔ cNL ∉ l := by
  induction l with
  | nil => simp [countNL]
  | cons x xs ih =>
    simp only [countNL, List.mem_cons, not_or]
    by_cases hx : x = cNL
    · simp [hx]
    · simp only [hx, if_false, Nat.zero_add, ih]
      constructor
      · intro h; exact ⟨fun e => hx e.symm, h⟩
      · intro h; exact h.2

theorem decodeRunes_no_nl (bs : List Nat) (h : cNL ∉ bs) : cNL ∉ decodeRunes bs := by
  rw [← countNL_eq_zero_iff, countNL_decodeRunes, countNL_eq_zero_iff]
  exact h

/-- `strings.Split` on newlines and `[]rune` commute -/
theorem splitLines_decodeRunes (bs : List Nat) :
    splitLines (decodeRunes bs) = (splitLines bs).map decodeRunes := by
  -- by the number of bytes: split at the first newline, go on behind it
  suffices ∀ n (bs : List Nat), bs.length ≤ n →
      splitLines (decodeRunes bs) = (splitLines bs).map decodeRunes from this _ bs (Nat.le_refl _)
  intro n
  induction n with
  | zero =>
    intro bs h
    have : bs = [] := List.eq_nil_of_length_eq_zero (Nat.le_zero.mp h)
    subst this; rfl
  | succ n ih =>
    intro bs h
    by_cases hnl : cNL ∈ bs
    · obtain ⟨a', b', e', ha'⟩ := List.eq_append_cons_of_mem hnl
      subst e'
      have hb : b'.length ≤ n := by simp at h; omega
      rw [decodeRunes_nl a' b', splitLines_append_nl, splitLines_append_nl,
        ih b' hb, splitLines_no_nl a' ha', splitLines_no_nl _ (decodeRunes_no_nl a' ha')]
      simp
    · rw [splitLines_no_nl bs hnl, splitLines_no_nl _ (decodeRunes_no_nl bs hnl)]
      rfl

theorem validRune_iff (r : Nat) :
    validRune r = true ↔ (r < 0xD800 ∨ (0xE000 ≤ r ∧ r < 0x110000)) := by
  unfold validRune; simp

theorem Utf8Seq.valid {s : List Nat} {r : Rune} (h : Utf8Seq s r) : validRune r = true := by
  rw [validRune_iff]
  cases h <;> omega

theorem decodeOne_valid (bs : List Nat) : validRune (decodeOne bs).1 = true := by
  cases bs with
  | nil => rfl
  | cons b0 rest =>
    exact decodeOne_cases (motive := fun _ d => validRune d.1 = true) (fun _ h => h.valid) (fun _ _ => rfl)
      b0 rest

/-- `[]rune(s)` only contains valid code points (invalid bytes become U+FFFD); no bound on the
"bytes" is needed: a lead byte ≥ 0xF5 is an error and continuation bytes are range-checked -/
theorem decodeRunes_valid (bs : List Nat) : ∀ r ∈ decodeRunes bs, validRune r = true := by
  induction bs using decodeRunes_induct with
  | nil => exact fun r hr => nomatch hr
  | cons b rest ih =>
    rw [decodeRunes_cons]
    exact List.forall_mem_cons.mpr ⟨decodeOne_valid _, ih⟩

/-- `string(r)`: the payloads are the digits of `r` in base 64 -/
theorem encodeRune_seq {r : Nat} (hr : validRune r = true) : Utf8Seq (encodeRune r) r := by
  have hr' := (validRune_iff r).mp hr
  unfold encodeRune
  by_cases h1 : r < 0x80
  · rw [if_pos h1]; exact .one h1
  rw [if_neg h1]
  by_cases h2 : r < 0x800
  · rw [if_pos h2]
    have := Utf8Seq.two (q := r / 64) (l := r % 64) (by omega) (by omega) (Nat.mod_lt _ (by decide))
    rwa [Nat.div_add_mod'] at this
  rw [if_neg h2, hr]
  simp only [Bool.not_true, Bool.false_eq_true, if_false]
  have hl : r % 64 < 64 := Nat.mod_lt _ (by decide)
  have hm : r / 64 % 64 < 64 := Nat.mod_lt _ (by decide)
  -- the surrogate gap and the upper bound are what the range conditions on the second byte ask for
  by_cases h3 : r < 0x10000
  · rw [if_pos h3]
    have := Utf8Seq.three (q := r / 4096) (m := r / 64 % 64) (l := r % 64) (by omega) hm hl
      (by omega) (by omega)
    rwa [show r / 4096 * 4096 + r / 64 % 64 * 64 + r % 64 = r by omega] at this
  · rw [if_neg h3]
    have := Utf8Seq.four (q := r / 262144) (k := r / 4096 % 64) (m := r / 64 % 64) (l := r % 64)
      (by omega) (Nat.mod_lt _ (by decide)) hm hl (by omega) (by omega)
    rwa [show r / 262144 * 262144 + r / 4096 % 64 * 4096 + r / 64 % 64 * 64 + r % 64 = r by omega]
      at this

/-- `[]rune(string(rs)) = rs` for valid code points -/
theorem decode_encode (rs : List Rune) (h : ∀ r ∈ rs, validRune r = true) :
    decodeRunes (encodeRunes rs) = rs := by
  induction rs with
  | nil => rfl
  | cons r rs ih =>
    have : encodeRunes (r :: rs) = encodeRune r ++ encodeRunes rs := by
      simp [encodeRunes, List.flatMap_cons]
    rw [this, (encodeRune_seq (h r (by simp))).decodeRunes, ih (fun x hx => h x (by simp [hx]))]

theorem encodeRunes_append (a b : List Rune) : encodeRunes (a ++ b) = encodeRunes a ++ encodeRunes b := by
  simp [encodeRunes]

theorem encodeRunes_nl : encodeRunes [cNL] = [cNL] := by decide

end J5V.Bcl
