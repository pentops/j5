import J5V.Bcl.Equiv
import J5V.Bcl.FragStepProofs
/-!
# `fragmentsToFile` respects the position-free equivalence (C09)

`fragmentsToFile` only looks at the constructor of each fragment and at `isOpen` of headers, so
`Fragment.equivList`-related fragment lists give `File.equiv`-related trees, and the error list is
empty on one side iff it is empty on the other.

Also: reflexivity / symmetry / transitivity of `DescEquiv`, `Fragment.equiv(List)`,
`Statement.equiv(List)`, `File.equiv`, and a few characterisations.
-/
namespace J5V.Bcl


theorem DescEquiv.refl (cls : Cls) (d : Description) : DescEquiv cls d d := rfl

theorem DescEquiv.symm {cls : Cls} {d e : Description} (h : DescEquiv cls d e) :
    DescEquiv cls e d := Eq.symm h

theorem DescEquiv.trans {cls : Cls} {d e f : Description} (h : DescEquiv cls d e)
    (k : DescEquiv cls e f) : DescEquiv cls d f := Eq.trans h k

/-! ## lists related position by position

`Fragment.equivList`, `Statement.equivList` and `StackRel` are all of this form. -/

/-- lists of the same length whose elements are related position by position -/
inductive ListRel {α : Type} (R : α → α → Prop) : List α → List α → Prop
  | nil : ListRel R [] []
  | cons {a b : α} {l m : List α} : R a b → ListRel R l m → ListRel R (a :: l) (b :: m)

namespace ListRel
variable {α : Type} {R : α → α → Prop}

theorem cons_iff {a b : α} {l m : List α} : ListRel R (a :: l) (b :: m) ↔ R a b ∧ ListRel R l m :=
  ⟨fun h => by cases h with | cons h1 h2 => exact ⟨h1, h2⟩, fun h => .cons h.1 h.2⟩

/-- the recursive definitions unfold to `ListRel` -/
theorem of_rec {E : List α → List α → Prop} (hnil : E [] [])
    (hcons : ∀ a l b m, E (a :: l) (b :: m) ↔ R a b ∧ E l m)
    (hnc : ∀ b m, ¬ E [] (b :: m)) (hcn : ∀ a l, ¬ E (a :: l) []) :
    ∀ {l m : List α}, E l m ↔ ListRel R l m
  | [], [] => ⟨fun _ => .nil, fun _ => hnil⟩
  | [], b :: m => ⟨fun h => absurd h (hnc b m), fun h => nomatch h⟩
  | a :: l, [] => ⟨fun h => absurd h (hcn a l), fun h => nomatch h⟩
  | a :: l, b :: m => by rw [hcons, cons_iff, of_rec hnil hcons hnc hcn]

theorem refl (hR : ∀ a, R a a) : ∀ l, ListRel R l l
  | [] => .nil
  | a :: l => .cons (hR a) (refl hR l)

theorem symm {l m : List α} (h : ListRel R l m) (hR : ∀ a b, R a b → R b a) : ListRel R m l := by
  induction h with
  | nil => exact .nil
  | cons h1 _ ih => exact .cons (hR _ _ h1) ih

theorem trans {l m n : List α} (h : ListRel R l m) (h' : ListRel R m n)
    (hR : ∀ a b c, R a b → R b c → R a c) : ListRel R l n := by
  induction h generalizing n with
  | nil => exact h'
  | cons h1 _ ih => cases h' with | cons k1 k2 => exact .cons (hR _ _ _ h1 k1) (ih k2)

theorem length_eq {l m : List α} (h : ListRel R l m) : l.length = m.length := by
  induction h with
  | nil => rfl
  | cons _ _ ih => simp [ih]

theorem eq_nil_iff {l m : List α} (h : ListRel R l m) : l = [] ↔ m = [] := by
  cases h <;> simp

theorem append {l m l' m' : List α} (h : ListRel R l m) (h' : ListRel R l' m') :
    ListRel R (l ++ l') (m ++ m') := by
  induction h with
  | nil => exact h'
  | cons h1 _ ih => exact .cons h1 ih

theorem snoc {l m : List α} {a b : α} (h : ListRel R l m) (hab : R a b) :
    ListRel R (l ++ [a]) (m ++ [b]) := h.append (.cons hab .nil)

theorem snoc_iff {l m : List α} {a b : α} :
    ListRel R (l ++ [a]) (m ++ [b]) ↔ ListRel R l m ∧ R a b := by
  refine ⟨fun h => ?_, fun h => h.1.snoc h.2⟩
  induction l generalizing m with
  | nil =>
    cases m with
    | nil => cases h with | cons h1 _ => exact ⟨.nil, h1⟩
    | cons b' m => cases h with | cons _ h2 => cases m <;> cases h2
  | cons a' l ih =>
    cases m with
    | nil => cases h with | cons _ h2 => cases l <;> cases h2
    | cons b' m => cases h with | cons h1 h2 => exact ⟨.cons h1 (ih h2).1, (ih h2).2⟩

end ListRel


theorem Fragment.equiv_refl (cls : Cls) (f : Fragment) : Fragment.equiv cls f f := by
  cases f <;> simp [Fragment.equiv, DescEquiv.refl]

theorem Fragment.equiv_symm {cls : Cls} {f g : Fragment} (h : Fragment.equiv cls f g) :
    Fragment.equiv cls g f := by
  cases f <;> cases g <;> simp only [Fragment.equiv] at h ⊢
  all_goals first | exact h.symm | exact DescEquiv.symm h

theorem Fragment.equiv_trans {cls : Cls} {f g k : Fragment} (h : Fragment.equiv cls f g)
    (h' : Fragment.equiv cls g k) : Fragment.equiv cls f k := by
  cases f <;> cases g <;> simp only [Fragment.equiv] at h <;>
    cases k <;> simp only [Fragment.equiv] at h' ⊢
  all_goals first | exact h.trans h' | exact DescEquiv.trans h h'

theorem Fragment.equivList_iff {cls : Cls} {fs gs : List Fragment} :
    Fragment.equivList cls fs gs ↔ ListRel (Fragment.equiv cls) fs gs :=
  ListRel.of_rec trivial (fun _ _ _ _ => Iff.rfl) (fun _ _ => id) (fun _ _ => id)

theorem Fragment.equivList_refl (cls : Cls) (fs : List Fragment) :
    Fragment.equivList cls fs fs :=
  Fragment.equivList_iff.2 (ListRel.refl (Fragment.equiv_refl cls) fs)

theorem Fragment.equivList_symm {cls : Cls} {fs gs : List Fragment}
    (h : Fragment.equivList cls fs gs) : Fragment.equivList cls gs fs :=
  Fragment.equivList_iff.2 ((Fragment.equivList_iff.1 h).symm fun _ _ => Fragment.equiv_symm)

theorem Fragment.equivList_trans {cls : Cls} {fs gs ks : List Fragment}
    (h : Fragment.equivList cls fs gs) (h' : Fragment.equivList cls gs ks) :
    Fragment.equivList cls fs ks :=
  Fragment.equivList_iff.2
    ((Fragment.equivList_iff.1 h).trans (Fragment.equivList_iff.1 h') fun _ _ _ => Fragment.equiv_trans)

theorem Fragment.equivList_length {cls : Cls} {fs gs : List Fragment}
    (h : Fragment.equivList cls fs gs) : fs.length = gs.length :=
  (Fragment.equivList_iff.1 h).length_eq


theorem Statement.equivList_iff {cls : Cls} {ss ts : List Statement} :
    Statement.equivList cls ss ts ↔ ListRel (Statement.equiv cls) ss ts :=
  ListRel.of_rec (by simp [Statement.equivList]) (fun _ _ _ _ => by simp [Statement.equivList])
    (fun _ _ => by simp [Statement.equivList]) (fun _ _ => by simp [Statement.equivList])

theorem Statement.equiv_block_iff (cls : Cls) (h k : BlockHeader) (b c : List Statement) :
    Statement.equiv cls (.block h b) (.block k c) ↔
      h.erase = k.erase ∧ ListRel (Statement.equiv cls) b c := by
  simp [Statement.equiv, Statement.equivList_iff]

mutual
theorem Statement.equiv_refl (cls : Cls) : ∀ s : Statement, Statement.equiv cls s s
  | .block h b => (Statement.equiv_block_iff cls h h b b).2 ⟨rfl, Statement.listRel_refl cls b⟩
  | .assign a => by simp [Statement.equiv]
  | .desc d => by simp [Statement.equiv, DescEquiv.refl]
theorem Statement.listRel_refl (cls : Cls) :
    ∀ ss : List Statement, ListRel (Statement.equiv cls) ss ss
  | [] => .nil
  | s :: ss => .cons (Statement.equiv_refl cls s) (Statement.listRel_refl cls ss)
end

mutual
theorem Statement.equiv_symm (cls : Cls) :
    ∀ s t : Statement, Statement.equiv cls s t → Statement.equiv cls t s
  | .block h b, t, hh => by
    cases t with
    | block k c =>
      rw [Statement.equiv_block_iff] at hh ⊢
      exact ⟨hh.1.symm, Statement.listRel_symm cls b c hh.2⟩
    | assign _ => simp [Statement.equiv] at hh
    | desc _ => simp [Statement.equiv] at hh
  | .assign a, t, hh => by
    cases t <;> simp only [Statement.equiv] at hh ⊢
    exact hh.symm
  | .desc d, t, hh => by
    cases t <;> simp only [Statement.equiv] at hh ⊢
    exact DescEquiv.symm hh
theorem Statement.listRel_symm (cls : Cls) : ∀ ss ts : List Statement,
    ListRel (Statement.equiv cls) ss ts → ListRel (Statement.equiv cls) ts ss
  | [], _, .nil => .nil
  | s :: ss, _, .cons h1 h2 =>
    .cons (Statement.equiv_symm cls s _ h1) (Statement.listRel_symm cls ss _ h2)
end

mutual
theorem Statement.equiv_trans (cls : Cls) :
    ∀ s t u : Statement, Statement.equiv cls s t → Statement.equiv cls t u →
      Statement.equiv cls s u
  | .block h b, t, u, h1, h2 => by
    cases t with
    | block k c =>
      cases u with
      | block l d =>
        rw [Statement.equiv_block_iff] at h1 h2 ⊢
        exact ⟨h1.1.trans h2.1, Statement.listRel_trans cls b c d h1.2 h2.2⟩
      | assign _ => simp [Statement.equiv] at h2
      | desc _ => simp [Statement.equiv] at h2
    | assign _ => simp [Statement.equiv] at h1
    | desc _ => simp [Statement.equiv] at h1
  | .assign a, t, u, h1, h2 => by
    cases t <;> simp only [Statement.equiv] at h1
    cases u <;> simp only [Statement.equiv] at h2 ⊢
    exact h1.trans h2
  | .desc d, t, u, h1, h2 => by
    cases t <;> simp only [Statement.equiv] at h1
    cases u <;> simp only [Statement.equiv] at h2 ⊢
    exact DescEquiv.trans h1 h2
theorem Statement.listRel_trans (cls : Cls) : ∀ ss ts us : List Statement,
    ListRel (Statement.equiv cls) ss ts → ListRel (Statement.equiv cls) ts us →
      ListRel (Statement.equiv cls) ss us
  | [], _, _, .nil, h2 => h2
  | s :: ss, _, _, .cons h1 h1', .cons h2 h2' =>
    .cons (Statement.equiv_trans cls s _ _ h1 h2) (Statement.listRel_trans cls ss _ _ h1' h2')
end

theorem File.equiv_refl (cls : Cls) (f : File) : File.equiv cls f f :=
  Statement.equivList_iff.2 (Statement.listRel_refl cls f.body)

theorem File.equiv_symm {cls : Cls} {f g : File} (h : File.equiv cls f g) : File.equiv cls g f :=
  Statement.equivList_iff.2 (Statement.listRel_symm cls _ _ (Statement.equivList_iff.1 h))

theorem File.equiv_trans {cls : Cls} {f g k : File} (h : File.equiv cls f g)
    (h' : File.equiv cls g k) : File.equiv cls f k :=
  Statement.equivList_iff.2
    (Statement.listRel_trans cls _ _ _ (Statement.equivList_iff.1 h) (Statement.equivList_iff.1 h'))

theorem Statement.equivList_length {cls : Cls} {ss ts : List Statement}
    (h : Statement.equivList cls ss ts) : ss.length = ts.length :=
  (Statement.equivList_iff.1 h).length_eq

theorem Statement.equivList_snoc_iff {cls : Cls} {a b : List Statement} {s t : Statement} :
    Statement.equivList cls (a ++ [s]) (b ++ [t]) ↔
      Statement.equivList cls a b ∧ Statement.equiv cls s t := by
  rw [Statement.equivList_iff, Statement.equivList_iff, ListRel.snoc_iff]

theorem BlockHeader.isOpen_eq_of_erase_eq {h k : BlockHeader} (e : h.erase = k.erase) :
    h.isOpen = k.isOpen :=
  show h.erase.isOpen = k.erase.isOpen from congrArg BlockHeader.isOpen e

/-! ## the stack of open blocks -/

/-- open-block stacks of the same shape with related headers and bodies -/
def StackRel (cls : Cls) : List OpenBlock → List OpenBlock → Prop
  | [], [] => True
  | b :: s, c :: t =>
    b.hdr.erase = c.hdr.erase ∧ Statement.equivList cls b.stmts c.stmts ∧ StackRel cls s t
  | _, _ => False

/-- open blocks with related headers and bodies -/
def OpenBlock.Rel (cls : Cls) (b c : OpenBlock) : Prop :=
  b.hdr.erase = c.hdr.erase ∧ ListRel (Statement.equiv cls) b.stmts c.stmts

theorem StackRel_iff {cls : Cls} {s t : List OpenBlock} :
    StackRel cls s t ↔ ListRel (OpenBlock.Rel cls) s t :=
  ListRel.of_rec (by simp [StackRel])
    (fun _ _ _ _ => by simp [StackRel, OpenBlock.Rel, Statement.equivList_iff, and_assoc])
    (fun _ _ => by simp [StackRel]) (fun _ _ => by simp [StackRel])

theorem StackRel.refl (cls : Cls) (s : List OpenBlock) : StackRel cls s s :=
  StackRel_iff.2 (ListRel.refl (fun b => ⟨rfl, Statement.listRel_refl cls b.stmts⟩) s)

theorem StackRel.eq_nil_iff {cls : Cls} {s t : List OpenBlock} (h : StackRel cls s t) :
    s = [] ↔ t = [] :=
  (StackRel_iff.1 h).eq_nil_iff

theorem closeInto_equiv {cls : Cls} {s t : List OpenBlock} (hs : ListRel (OpenBlock.Rel cls) s t) :
    ∀ {r r' : List Statement} {blk blk' : Statement}, ListRel (Statement.equiv cls) r r' →
      Statement.equiv cls blk blk' →
      ListRel (Statement.equiv cls) (closeInto r blk s) (closeInto r' blk' t) := by
  induction hs with
  | nil => intro r r' blk blk' hr hb; exact hr.snoc hb
  | cons hbc _ ih =>
    intro r r' blk blk' hr hb
    exact ih hr ((Statement.equiv_block_iff cls _ _ _ _).2 ⟨hbc.1, hbc.2.snoc hb⟩)

theorem closeAll_equiv {cls : Cls} {s t : List OpenBlock} (hs : ListRel (OpenBlock.Rel cls) s t)
    {r r' : List Statement} (hr : ListRel (Statement.equiv cls) r r') :
    ListRel (Statement.equiv cls) (closeAll r s) (closeAll r' t) := by
  cases hs with
  | nil => exact hr
  | cons hbc hs => exact closeInto_equiv hs hr ((Statement.equiv_block_iff cls _ _ _ _).2 hbc)

/-! ## one step of `fragsLoop` -/

/-- the relation between two runs of `fragsLoop` -/
def StateRel (cls : Cls) (p q : List Statement × List OpenBlock × List Diag) : Prop :=
  ListRel (Statement.equiv cls) p.1 q.1 ∧ ListRel (OpenBlock.Rel cls) p.2.1 q.2.1 ∧
    (p.2.2 = [] ↔ q.2.2 = [])

theorem addTo_rel {cls : Cls} {r r' : List Statement} {s s' : List OpenBlock}
    {x y : Statement} (hr : ListRel (Statement.equiv cls) r r')
    (hs : ListRel (OpenBlock.Rel cls) s s') (hx : Statement.equiv cls x y) :
    ListRel (Statement.equiv cls) (addTo x r s).1 (addTo y r' s').1 ∧
      ListRel (OpenBlock.Rel cls) (addTo x r s).2 (addTo y r' s').2 := by
  cases hs with
  | nil => exact ⟨hr.snoc hx, .nil⟩
  | cons hbc hs => exact ⟨hr, .cons ⟨hbc.1, hbc.2.snoc hx⟩ hs⟩

theorem fragStep_rel {cls : Cls} {f g : Fragment} (hf : Fragment.equiv cls f g)
    {r r' : List Statement} {s s' : List OpenBlock} {e e' : List Diag}
    (hr : ListRel (Statement.equiv cls) r r') (hs : ListRel (OpenBlock.Rel cls) s s')
    (he : e = [] ↔ e' = []) :
    StateRel cls (fragStep f r s e) (fragStep g r' s' e') := by
  -- a statement added on both sides
  have add : ∀ {x y}, Statement.equiv cls x y → ∀ {s s'}, ListRel (OpenBlock.Rel cls) s s' →
      StateRel cls ((addTo x r s).1, (addTo x r s).2, e)
        ((addTo y r' s').1, (addTo y r' s').2, e') :=
    fun hx _ _ hs => ⟨(addTo_rel hr hs hx).1, (addTo_rel hr hs hx).2, he⟩
  cases f <;> cases g <;> simp only [Fragment.equiv] at hf
  case header.header h k =>
    simp only [fragStep, BlockHeader.isOpen_eq_of_erase_eq hf]
    split
    · exact ⟨hr, .cons ⟨hf, .nil⟩ hs, he⟩
    · exact add ((Statement.equiv_block_iff cls _ _ _ _).2 ⟨hf, .nil⟩) hs
  case assign.assign a b => exact add (by simp only [Statement.equiv]; exact hf) hs
  case desc.desc d d' => exact add (by simp only [Statement.equiv]; exact hf) hs
  case comment.comment c d => exact ⟨hr, hs, he⟩
  case close.close c d =>
    cases hs with
    | nil => exact ⟨hr, .nil, by simp [fragStep]⟩
    | cons hbc hs => exact add ((Statement.equiv_block_iff cls _ _ _ _).2 hbc) hs

theorem fragsLoop_rel {cls : Cls} {fs gs : List Fragment}
    (h : ListRel (Fragment.equiv cls) fs gs) :
    ∀ {p q : List Statement × List OpenBlock × List Diag}, StateRel cls p q →
      StateRel cls (fragsLoop fs p.1 p.2.1 p.2.2) (fragsLoop gs q.1 q.2.1 q.2.2) := by
  induction h with
  | nil => exact id
  | cons hfg _ ih =>
    intro p q hpq
    rw [fragsLoop_cons, fragsLoop_cons]
    exact ih (fragStep_rel hfg hpq.1 hpq.2.1 hpq.2.2)


theorem fragmentsToFile_eq (fs : List Fragment) :
    fragmentsToFile fs =
      ⟨closeAll (fragsLoop fs [] [] []).1 (fragsLoop fs [] [] []).2.1,
        match (fragsLoop fs [] [] []).2.1, fs.getLast? with
        | _ :: _, some last =>
          (fragsLoop fs [] [] []).2.2 ++ [⟨last.src.start, last.src.end_, .unclosedBlock⟩]
        | _, _ => (fragsLoop fs [] [] []).2.2⟩ := rfl

theorem fragmentsToFile_equiv (cls : Cls) (fs gs : List Fragment)
    (h : Fragment.equivList cls fs gs) :
    File.equiv cls (fragmentsToFile fs) (fragmentsToFile gs) ∧
      ((fragmentsToFile fs).errors = [] ↔ (fragmentsToFile gs).errors = []) := by
  have h := Fragment.equivList_iff.1 h
  have hrel : StateRel cls (fragsLoop fs [] [] []) (fragsLoop gs [] [] []) :=
    fragsLoop_rel h (p := ([], [], [])) (q := ([], [], [])) ⟨.nil, .nil, Iff.rfl⟩
  rw [fragmentsToFile_eq fs, fragmentsToFile_eq gs]
  generalize fragsLoop fs [] [] [] = p at hrel ⊢
  generalize fragsLoop gs [] [] [] = q at hrel ⊢
  obtain ⟨r, s, e⟩ := p
  obtain ⟨r', s', e'⟩ := q
  obtain ⟨hr, hs, he⟩ := hrel
  refine ⟨Statement.equivList_iff.2 (closeAll_equiv hs hr), ?_⟩
  -- an open block is left on one side iff on the other, a last fragment exists on both or on neither
  cases h with
  | nil => cases hs <;> exact he
  | cons hfg h' =>
    rw [List.getLast?_eq_some_getLast (List.cons_ne_nil _ _),
      List.getLast?_eq_some_getLast (List.cons_ne_nil _ _)]
    cases hs with
    | nil => exact he
    | cons _ _ => simp

end J5V.Bcl
