import J5V.Bcl.Equiv
import J5V.Bcl.Fmt
import J5V.Bcl.LexSpec
/-!
# Definitions for the whole-file theorems of C09

* `ClsOK`: what the proofs need from the classifier (Go's tables satisfy it: obligation
  `C09_src_sep_class` over the dumped ASCII class table).
* `LexesTo`, `FollowOK`: one token read back.
* `LexAll` (`LexSpec.lean`): the fuel-free description of `allTokens` (tokens up to EOF, no lexer error);
  `LexSeg`: lexing a piece of text in front of any tail.
* canonical (position-free) tokens of what the formatter prints: `canonParts`, `lineToks`,
  `fragToks`, `fileToks`; `normFrag`: the fragment obtained by reading them back.
* `PartsOK`: adjacent rendered tokens do not run into each other; `FragWF`: the shape of the
  fragments the walker produces from lexed tokens.
-/
namespace J5V.Bcl

/-! ## classifier -/

/-- the runes the formatter puts between / after tokens: space, newline, tab and the operators -/
def sepRunes : List Rune := [cSP, cNL, cTAB, 61, 123, 125, 91, 93, 46, 44, 58, 43, 33, 63]

/-- `' '` and tab are white space; separators are neither letters nor digits -/
structure ClsOK (cls : Cls) : Prop where
  spSpace : cls.isSpace cSP = true
  tabSpace : cls.isSpace cTAB = true
  sep : ∀ r ∈ sepRunes, cls.isLetter r = false ∧ cls.isDigit r = false

/-! ## one token -/

/-- lexing `src ++ rest` reads exactly one token `(ty, lit)` and stops before `rest` -/
def LexesTo (cls : Cls) (c : Cur) (src rest : List Rune) (ty : TokenType) (lit : List Rune) : Prop :=
  (nextToken cls c (src ++ rest)).err = none ∧ (nextToken cls c (src ++ rest)).tok.ty = ty ∧
    (nextToken cls c (src ++ rest)).tok.lit = lit ∧ (nextToken cls c (src ++ rest)).rest = rest

/-- what may follow the rendered token, by kind -/
def FollowOK (cls : Cls) (ty : TokenType) (rest : List Rune) : Prop :=
  match ty with
  | .regex => rest.head? ≠ some cSLASH
  | .ident | .bool => IdentStop cls rest
  | .int | .decimal => NumberStop cls rest
  | .comment | .description => LineEnd rest
  | _ => True

/-! ## the whole lex, without fuel -/

/-- lexing `text` in front of any `tail` yields the tokens `new` and then goes on with `tail` from
state `c'` -/
def LexSeg (cls : Cls) (c : Cur) (text tail : List Rune) (new : List Token) (c' : Cur) : Prop :=
  ∀ out, LexAll cls c' tail out → LexAll cls c (text ++ tail) (new ++ out)

/-! ## canonical tokens of the formatter's output -/

/-- the kind the lexer gives a rendered token: identifier-like literals are BOOL exactly when they
spell `true` / `false` -/
def lexTy (t : Token) : TokenType :=
  if t.ty = .ident ∨ t.ty = .bool then
    (if t.lit = litTrue ∨ t.lit = litFalse then .bool else .ident)
  else t.ty

def canonTok (t : Token) : Token := ⟨lexTy t, t.lit, ⟨0, 0⟩, ⟨0, 0⟩⟩

/-- the tokens of a rendered part list: the spaces disappear -/
def canonParts (ps : List Token) : List Token :=
  (ps.filter fun t => t.ty != .space).map canonTok

def eolTok : Token := ⟨.eol, [cNL], ⟨0, 0⟩, ⟨0, 0⟩⟩

def commentToks : Option CommentNode → List Token
  | none => []
  | some c => [⟨.comment, c.value, ⟨0, 0⟩, ⟨0, 0⟩⟩]

/-- tokens of one `singleLineTokens` line -/
def lineToks (parts : List Token) (cm : Option CommentNode) : List Token :=
  canonParts parts ++ commentToks cm ++ [eolTok]

def descTok (l : List Rune) : Token := ⟨.description, l, ⟨0, 0⟩, ⟨0, 0⟩⟩

/-- tokens of the lines of a re-flowed description -/
def descLineToks (lines : List (List Rune)) : List Token := lines.flatMap fun l => [descTok l, eolTok]

/-- the lines `doDescription` prints for a description at `indent` -/
def descLines (cls : Cls) (indent : Nat) (d : Description) : List (List Rune) :=
  let l := reformatDescription cls d.value (80 - (indent : Int) * 4)
  if l = [] then [[]] else l

/-- tokens of the text `fmtFragment` prints for a fragment -/
def fragToks (cls : Cls) (indent : Nat) : Fragment → List Token
  | .header h => lineToks (headerTokens h) h.src.comment
  | .close c => lineToks [c.token] none
  | .assign a => lineToks (assignTokens a) a.src.comment
  | .desc d => descLineToks (descLines cls indent d)
  | .comment c => lineToks [c.token] none

/-- the fragment one gets by reading `fragToks` back: the same up to positions; a stand-alone
description has been re-flowed -/
def normFrag (cls : Cls) (indent : Nat) : Fragment → Fragment
  | .desc d =>
    .desc ⟨(descLines cls indent d).map descTok, joinWith [cNL] (descLines cls indent d), Span.zero⟩
  | f => f.erase

/-- does `Fmt` put a blank line in front of a fragment starting at `fromLine`? -/
def gapBefore (lastEnd : Option Nat) (fromLine : Nat) : Bool :=
  match lastEnd with
  | some e => decide (fromLine > e)
  | none => false

/-- tokens of `fmtJoin (diffFile cls indent frags) lastEnd` -/
def fileToks (cls : Cls) : Nat → Option Nat → List Fragment → List Token
  | _, _, [] => []
  | indent, lastEnd, f :: fs =>
    (if gapBefore lastEnd (fmtFragment cls indent f).1.fromLine then [eolTok] else []) ++
      fragToks cls indent f ++ fileToks cls (fmtFragment cls indent f).2
        (some (fmtFragment cls indent f).1.toLine) fs

/-- the fragments one gets by reading `fileToks` back -/
def normFrags (cls : Cls) : Nat → List Fragment → List Fragment
  | _, [] => []
  | indent, f :: fs => normFrag cls indent f :: normFrags cls (fmtFragment cls indent f).2 fs

/-! ## rendered parts do not run into each other -/

/-- shape of the literal of a token stored in a fragment: as `TokLitWF`, except that identifiers
stored by the walker have kind IDENT also when they spell `true` / `false` (`AsIdent`) -/
def PartWF (cls : Cls) (t : Token) : Prop :=
  ((t.ty = .ident ∨ t.ty = .bool) ∧ IdentLitWF cls t.lit) ∨
  (t.ty ≠ .ident ∧ t.ty ≠ .bool ∧ (t.ty.isLiteral = true ∨ t.ty.isOperator = true) ∧ TokLitWF cls t)

/-- every part is the formatter's space token, or a well-shaped token in front of admissible text
(`tail` is what follows the whole part list) -/
def PartsOK (cls : Cls) : List Token → List Rune → Prop
  | [], _ => True
  | t :: ps, tail =>
    ((t.ty = .space ∧ t.lit = [cSP]) ∨
      (PartWF cls t ∧ FollowOK cls (lexTy t) (ps.flatMap tokenSource ++ tail))) ∧
    PartsOK cls ps tail

/-! ## the fragments the walker produces -/

def IdentWF (cls : Cls) (i : Ident) : Prop :=
  i.token.ty = .ident ∧ IdentLitWF cls i.token.lit ∧ i.value = i.token.lit

def RefWF (cls : Cls) (r : Reference) : Prop := r.idents ≠ [] ∧ ∀ i ∈ r.idents, IdentWF cls i

/-- a literal token in value position (a reference there has become a STRING token) -/
def ScalarWF (cls : Cls) (t : Token) : Prop :=
  t.ty ≠ .ident ∧ t.ty.isLiteral = true ∧ TokLitWF cls t

mutual
/-- values inside arrays: no `//` comment or description token (they end the line) -/
def ValueWF (cls : Cls) : Value → Prop
  | .scalar t _ => ScalarWF cls t ∧ t.ty ≠ .comment ∧ t.ty ≠ .description
  | .array vs _ => ValueListWF cls vs
def ValueListWF (cls : Cls) : List Value → Prop
  | [] => True
  | v :: vs => ValueWF cls v ∧ ValueListWF cls vs
end

/-- the value of an assignment: a `//` comment or description token as the value ends the line, so
there is no trailing comment then -/
def TopValueWF (cls : Cls) (v : Value) (cm : Option CommentNode) : Prop :=
  match v with
  | .scalar t _ => ScalarWF cls t ∧ ((t.ty = .comment ∨ t.ty = .description) → cm = none)
  | .array vs _ => ValueListWF cls vs

def MarkWF (cls : Cls) (t : TagValue) : Prop :=
  match t.mark with
  | .none => t.markToken = Token.zero
  | .bang => t.markToken.ty = .bang ∧ TokLitWF cls t.markToken
  | .question => t.markToken.ty = .question ∧ TokLitWF cls t.markToken

def TagWF (cls : Cls) (t : TagValue) : Prop :=
  MarkWF cls t ∧
  ((∃ r, t.reference = some r ∧ t.value = none ∧ RefWF cls r) ∨
   (∃ tok sp, t.reference = none ∧ t.value = some (.scalar tok sp) ∧ tok.ty = .string))

def CommentNodeWF (c : Option CommentNode) : Prop := ∀ cn, c = some cn → ∀ r ∈ cn.value, r ≠ cNL

def HeaderWF (cls : Cls) (h : BlockHeader) : Prop :=
  RefWF cls h.type ∧ (∀ t ∈ h.tags, TagWF cls t) ∧ (∀ t ∈ h.qualifiers, TagWF cls t) ∧
  CommentNodeWF h.src.comment ∧
  (∀ d, h.description = some d → h.isOpen = false ∧ h.src.comment = none ∧
    ∃ tok, d.tokens = [tok] ∧ tok.ty = .description ∧ TokLitWF cls tok ∧ d.value = tok.lit)

def AssignWF (cls : Cls) (a : Assignment) : Prop :=
  RefWF cls a.key ∧ TopValueWF cls a.value a.src.comment ∧ CommentNodeWF a.src.comment

def CloseWF (cls : Cls) (c : CloseBlock) : Prop := c.token.ty = .rbrace ∧ TokLitWF cls c.token

def CommentWF (cls : Cls) (c : Comment) : Prop :=
  (c.token.ty = .comment ∨ c.token.ty = .blockComment) ∧ TokLitWF cls c.token ∧ c.value = c.token.lit

/-- shape of a fragment produced by the walker from lexed tokens (`collectFragments_fragWF`) -/
def FragWF (cls : Cls) : Fragment → Prop
  | .header h => HeaderWF cls h
  | .assign a => AssignWF cls a
  | .desc _ => True
  | .comment c => CommentWF cls c
  | .close c => CloseWF cls c

/-- two stand-alone descriptions never follow each other without a blank line (they would have
been one description) -/
def DescGaps : List Fragment → Prop
  | [] => True
  | [_] => True
  | f :: g :: rest =>
    (∀ d e, f = .desc d → g = .desc e → e.span.start.line > d.span.end_.line + 1) ∧
      DescGaps (g :: rest)

end J5V.Bcl
