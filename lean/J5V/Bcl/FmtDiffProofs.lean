import J5V.Bcl.FmtDiffs
import J5V.Bcl.ParseFileProofs
import J5V.Bcl.Utf8Proofs
import J5V.Bcl.ApplyProofs
/-!
# `FmtDiffs`: the fragment ranges are well-formed (`RawWF`) for every source (from the parser's
position invariants), and applying the diffs to the source gives what `Fmt` prints
(`fmtDiffs_apply_eq_fmt`, with the `fmtJoin` / `TrailingBlank` lemmas it needs).
-/
namespace J5V.Bcl

theorem lastTo_diffFile (cls : Cls) : ∀ (frags : List Fragment) (indent lo : Nat),
    lastTo ((diffFile cls indent frags).map FmtFrag.toEdit) lo =
      (match frags.getLast? with
       | some f => f.src.end_.line + 1
       | none => lo) := by
  intro frags
  induction frags with
  | nil => intro indent lo; rfl
  | cons f fs ih =>
    intro indent lo
    obtain ⟨_, e2⟩ := fmtFragment_lines cls indent f
    unfold diffFile
    generalize fmtFragment cls indent f = res at e2
    obtain ⟨d, i⟩ := res
    simp only [List.map_cons, lastTo] at e2 ⊢
    rw [ih i]
    cases fs with
    | nil => simp [FmtFrag.toEdit, e2]
    | cons g gs =>
      have hne : (g :: gs).getLast? = some ((g :: gs).getLast (by simp)) :=
        List.getLast?_eq_some_getLast (by simp)
      rw [List.getLast?_cons_cons, hne]

theorem diffFile_rawWF (cls : Cls) (src : List Rune) (n : Nat)
    (hn : n = (splitLines src).length) :
    ∀ (frags : List Fragment) (indent : Nat) (p : Pos) (lo : Nat), lo ≤ p.line + 1 →
      FragChain (InFileLC src) p frags →
      RawWF n lo ((diffFile cls indent frags).map FmtFrag.toEdit) := by
  intro frags
  induction frags with
  | nil => intro indent p lo _ _; trivial
  | cons f fs ih =>
    intro indent p lo hlo hch
    obtain ⟨h1, h2, h3, h4⟩ := hch
    obtain ⟨e1, e2⟩ := fmtFragment_lines cls indent f
    unfold diffFile
    generalize fmtFragment cls indent f = res at e1 e2
    obtain ⟨d, i⟩ := res
    simp only [List.map_cons] at e1 e2 ⊢
    have hsrc := Fragment.src_ok (InFileLC src) h3
    refine ⟨?_, ?_, ?_, ?_⟩
    · show lo ≤ d.fromLine + 1
      rw [e1]; have := Pos.line_le_of_le h1; omega
    · show d.fromLine < d.toLine
      rw [e1, e2]; have := Pos.line_le_of_le h2; omega
    · show d.toLine ≤ n
      rw [e2, hn]; have := hsrc.2.2.1; omega
    · show RawWF n d.toLine _
      rw [e2]
      exact ih i f.src.end_ _ (Nat.le_refl _) h4

/-- for every source the collected fragment ranges satisfy `RawWF` w.r.t. `strings.Split(input, "\n")` -/
theorem fragEdits_rawWF (cls : Cls) (bytes : List Nat) (frags : List Fragment)
    (h : collectFragments cls (decodeRunes bytes) = .ok frags) :
    RawWF (splitLines bytes).length 0 (fragEdits cls frags) := by
  have hc := collectFragments_chain (InFileLC (decodeRunes bytes)) (fun _ h => h.toLC) h
  unfold fragEdits
  exact diffFile_rawWF cls (decodeRunes bytes) _ (lineCount_decodeRunes bytes).symm frags 0 ⟨0, 0⟩ 0
    (Nat.zero_le _) hc

/-! ## `Fmt`'s output is the join of the byte-level fragments; every fragment text ends in `\n` -/

theorem encode_fmtJoin (ds : List FmtFrag) (p : Option Nat) :
    encodeRunes (fmtJoin ds p) = joinFrags (ds.map FmtFrag.toEdit) p := by
  induction ds generalizing p with
  | nil => rfl
  | cons d ds ih =>
    simp only [fmtJoin, List.map_cons, joinFrags, encodeRunes_append, ih]
    congr 1
    congr 1
    cases p with
    | none => rfl
    | some e =>
      show encodeRunes (if d.fromLine > e then [cNL] else []) = if d.fromLine > e then [cNL] else []
      split
      · exact encodeRunes_nl
      · rfl

theorem fmtFragment_ends (cls : Cls) (indent : Nat) (f : Fragment) :
    ∃ x, (fmtFragment cls indent f).1.newText = x ++ [cNL] := by
  cases f <;> exact ⟨_, rfl⟩

theorem fragEdits_ends (cls : Cls) (frags : List Fragment) :
    ∀ d ∈ fragEdits cls frags, ∃ x, d.newText = x ++ [cNL] := by
  unfold fragEdits
  generalize (0 : Nat) = indent
  induction frags generalizing indent with
  | nil => intro d hd; simp [diffFile] at hd
  | cons f fs ih =>
    intro d hd
    unfold diffFile at hd
    obtain ⟨x, hx⟩ := fmtFragment_ends cls indent f
    generalize fmtFragment cls indent f = res at hd hx
    obtain ⟨e, i⟩ := res
    simp only [List.map_cons, List.mem_cons] at hd
    rcases hd with rfl | hd
    · refine ⟨encodeRunes x, ?_⟩
      show encodeRunes e.newText = _
      rw [hx, encodeRunes_append, encodeRunes_nl]
    · exact ih i d hd

theorem blankLine_nil (cls : Cls) : blankLine cls [] = true := rfl

theorem fmtDiffsSrc_ok (cls : Cls) (bytes : List Nat) (frags : List Fragment)
    (h : collectFragments cls (decodeRunes bytes) = .ok frags) :
    fmtDiffsSrc cls bytes =
      .ok (mergedEdits (splitLines bytes) (mergeFrags (fragEdits cls frags))) := by
  unfold fmtDiffsSrc
  rw [h]
  simp only [fmtDiffs_eq _ _ (fragEdits_rawWF cls bytes frags h)]

theorem fmtSrc_ok_inv (cls : Cls) (bytes out : List Nat) (h : fmtSrc cls bytes = .ok out) :
    ∃ text, fmt cls (decodeRunes bytes) = .ok text ∧ out = encodeRunes text := by
  unfold fmtSrc at h
  cases hf : fmt cls (decodeRunes bytes) with
  | ok text => rw [hf] at h; cases h; exact ⟨text, rfl, rfl⟩
  | err => rw [hf] at h; cases h
  | panic s => rw [hf] at h; cases h

theorem fmtSrc_ok_frags (cls : Cls) (bytes out : List Nat) (h : fmtSrc cls bytes = .ok out) :
    ∃ frags, collectFragments cls (decodeRunes bytes) = .ok frags ∧
      out = joinFrags (fragEdits cls frags) none := by
  obtain ⟨text, hf, rfl⟩ := fmtSrc_ok_inv cls bytes out h
  obtain ⟨frags, hc, rfl⟩ := fmt_ok_inv cls _ text hf
  exact ⟨frags, hc, encode_fmtJoin _ none⟩

theorem fmtDiffsSrc_ok_inv (cls : Cls) (bytes : List Nat) (es : List Edit)
    (h : fmtDiffsSrc cls bytes = .ok es) :
    ∃ frags, collectFragments cls (decodeRunes bytes) = .ok frags ∧
      es = mergedEdits (splitLines bytes) (mergeFrags (fragEdits cls frags)) := by
  cases hc : collectFragments cls (decodeRunes bytes) with
  | panic s => simp [fmtDiffsSrc, hc] at h
  | err => simp [fmtDiffsSrc, hc] at h
  | ok frags =>
    rw [fmtDiffsSrc_ok cls bytes frags hc] at h
    cases h
    exact ⟨frags, rfl, rfl⟩

theorem fmtDiffs_apply_eq_fmt (cls : Cls) (bytes : List Nat) (ht : TrailingBlank cls bytes)
    (out : List Nat) (hfmt : fmtSrc cls bytes = .ok out) :
    ∃ es, fmtDiffsSrc cls bytes = .ok es ∧
      EqT (blankLine cls) (applyEdits (splitLines bytes) es) out := by
  obtain ⟨frags, hc, rfl⟩ := fmtSrc_ok_frags cls bytes out hfmt
  obtain ⟨es, he, heq⟩ := apply_eqT (blankLine cls) (blankLine_nil cls) (splitLines bytes)
    (splitLines_ne_nil bytes) (splitLines_no_nl_mem bytes) (fragEdits cls frags)
    (fragEdits_rawWF cls bytes frags hc) (fragEdits_ends cls frags) (ht frags hc)
  rw [fmtDiffs_eq _ _ (fragEdits_rawWF cls bytes frags hc)] at he
  cases he
  exact ⟨_, fmtDiffsSrc_ok cls bytes frags hc, heq⟩

end J5V.Bcl
