import J5V.Bcl.SpanProofs
import J5V.Bcl.LexLineProofs
import J5V.Bcl.FmtDiffProofs
/-!
# After the last fragment only white space is left (`trailingBlank_all`, for the full `C19_apply_eq_fmt`)

Every fragment ends on the line of the last token consumed for it (`FragRun.span`: its
trailing comment and EOL are on the statement's last line), so every token that is not an EOL ends
on or before the last line of some fragment.
-/
namespace J5V.Bcl

/-- **cover**: every token that is not an EOL ends on or before the last line of some fragment -/
def FragCover (toks : List Token) (frags : List Fragment) : Prop :=
  ∀ t ∈ toks, t.ty ≠ .eol → ∃ f ∈ frags, t.end_.line ≤ f.src.end_.line

variable (Q : Pos → Prop)

/-- a token that is not an EOL is read for a fragment and ends before the walker's position after it, which is on
the fragment's last line -/
theorem FragsRun.cover (cls : Cls) {w : W} {fs : List Fragment} (h : FragsRun w fs) :
    (w.rest = [] ∨ WInv Q w) → WI (LineP cls) LineR w → FragCover w.rest fs := by
  induction h with
  | @eof w heof =>
    -- at EOF nothing is left: the token list holds no EOF token
    intro hw _ t ht
    obtain ⟨p, rest⟩ := w
    cases rest with
    | nil => cases ht
    | cons u us => exact absurd heof ((hw.resolve_left (by simp)).noEof u (by simp))
  | @skip w w1 fs hne hr _ ih =>
    intro hw hl t ht hty
    have hinv := hw.resolve_left fun e => hne (nextType_of_rest_nil e)
    obtain ⟨t0, rs, ht0, hty0, rfl⟩ := hr.none_eol hne
    rw [ht0] at ht
    rcases List.mem_cons.mp ht with rfl | ht
    · exact absurd hty0 hty
    · exact ih (Or.inr (WStep.of_drop Q hinv hr.drop).inv) (hl.drop hr.drop) t ht hty
  | @frag w w1 f fs hne hr _ ih =>
    intro hw hl t ht hty
    have hinv := hw.resolve_left fun e => hne (nextType_of_rest_nil e)
    have s1 := WStep.of_drop Q hinv hr.drop
    obtain ⟨d, hd1, hd2, _⟩ := s1.drop
    have hline := (hr.span (hl.noEof hinv.noEof)).2.1
    rw [hd1] at ht
    rcases List.mem_append.mp ht with ht | ht
    · exact ⟨f, by simp, by rw [← hline]; exact Pos.line_le_of_le (hd2 t ht)⟩
    · obtain ⟨g, hg1, hg2⟩ := ih (Or.inr s1.inv) (hl.drop hr.drop) t ht hty
      exact ⟨g, by simp [hg1], hg2⟩

/-! ## Assembly on rune sources -/

/-- one past the last line of the last fragment (0 if there is none) -/
def lastToR (frags : List Fragment) : Nat :=
  match frags.getLast? with
  | some f => f.src.end_.line + 1
  | none => 0

theorem FragChain.le_last {lo : Pos} {frags : List Fragment} (h : FragChain Q lo frags) :
    ∀ f ∈ frags, f.src.end_.line + 1 ≤ lastToR frags := by
  induction frags generalizing lo with
  | nil => intro f hf; cases hf
  | cons g gs ih =>
    intro f hf
    obtain ⟨h1, h2, h3, h4⟩ := h
    cases gs with
    | nil =>
      simp at hf; subst hf
      simp [lastToR]
    | cons g2 gs2 =>
      have hl : lastToR (g :: g2 :: gs2) = lastToR (g2 :: gs2) := by
        simp [lastToR, List.getLast?_cons_cons]
      rw [hl]
      rcases List.mem_cons.mp hf with rfl | hf
      · -- the first fragment ends before the second, which is ≤ the last
        have := ih h4 g2 (by simp)
        have hle : f.src.end_.line ≤ g2.src.end_.line :=
          Pos.line_le_of_le (Pos.le_trans h4.1 h4.2.1)
        omega
      · exact ih h4 f hf

theorem collectFragments_cover (cls : Cls) (hcls : ClsNL cls) (src : List Rune) (frags : List Fragment)
    (h : collectFragments cls src = .ok frags) :
    ∃ ts, allTokens cls true src = .toks ts ∧ FragCover ts frags ∧
      FragChain (InFile src) ⟨0, 0⟩ frags := by
  obtain ⟨ts, hts, _, hfs⟩ := collectFragments_ok h
  exact ⟨ts, hts, hfs.cover (InFile src) cls
    (WInv.init_or (InFile src) (inFile_zero src) (tokensOK_of_chain (InFile src) (fun _ h => h) (allTokens_chain hts)))
    (allTokens_lineChain hcls hts), collectFragments_chain (InFile src) (fun _ h => h) h⟩

/-- **after the last fragment only white space is left** -/
theorem trailing_blank_runes (cls : Cls) (hcls : ClsNL cls) (src : List Rune) (frags : List Fragment)
    (h : collectFragments cls src = .ok frags) (i : Nat) (l : List Rune)
    (hl : (splitLines src)[i]? = some l) (hi : lastToR frags ≤ i) :
    ∀ x ∈ l, cls.isSpace x = true := by
  intro x hx
  obtain ⟨ts, hts, hcover, hchain⟩ := collectFragments_cover cls hcls src frags h
  obtain ⟨u, v, e, c⟩ := line_mem_decomp src i l hl x hx
  have hxnl : x ≠ cNL := by
    intro e'
    have := splitLines_no_nl_mem src l (List.mem_of_getElem? hl)
    exact this (by rw [← e']; exact hx)
  rcases allTokens_cover hts u x v e with h1 | ⟨T, hT, hne, hline⟩
  · rcases h1 with h1 | h1
    · exact h1
    · exact absurd h1 hxnl
  · exfalso
    obtain ⟨f, hf, hle⟩ := hcover T hT hne
    have := FragChain.le_last (InFile src) hchain f hf
    rw [posAfter_eq] at hline
    simp only [] at hline
    omega

/-! ## on bytes: `TrailingBlank` holds for every source -/

theorem lastTo_fragEdits (cls : Cls) (frags : List Fragment) :
    lastTo (fragEdits cls frags) 0 = lastToR frags := by
  unfold fragEdits lastToR
  exact lastTo_diffFile cls frags 0 0

/-- **the lines after the last fragment are blank**, for every source -/
theorem trailingBlank_all (cls : Cls) (hcls : ClsNL cls) (bytes : List Nat) : TrailingBlank cls bytes := by
  intro frags hc l hl
  rw [lastTo_fragEdits] at hl
  obtain ⟨k, hk⟩ := List.mem_iff_getElem?.mp hl
  rw [List.getElem?_drop] at hk
  have hsplit := splitLines_decodeRunes bytes
  have hline : (splitLines (decodeRunes bytes))[lastToR frags + k]? = some (decodeRunes l) := by
    rw [hsplit, List.getElem?_map, hk]; rfl
  have := trailing_blank_runes cls hcls (decodeRunes bytes) frags hc _ _ hline (Nat.le_add_right _ _)
  unfold blankLine
  exact List.all_eq_true.mpr this

end J5V.Bcl
