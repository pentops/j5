import J5V.Bcl.PreserveProofs
/-!
# The text the formatter prints does not depend on positions (lemmas for C09, idempotence)

The printed text of a fragment is made of literals and kinds of its tokens, so it is that of its erasure
(`fmtFragment_erase`); the normal form prints as the fragment itself does, because re-flowing a re-flowed
description gives the same lines (`fmtFragment_of_norm`).  Positions enter the output in one place, the blank
line between two fragments (`gapsOf`, `fmtJoin_congr`).
-/
namespace J5V.Bcl


theorem tokenSource_erase (t : Token) : tokenSource t.erase = tokenSource t := rfl

theorem newToken_erase (ty : TokenType) (lit : List Rune) : (newToken ty lit).erase = newToken ty lit :=
  rfl

theorem Token.zero_erase : Token.zero.erase = Token.zero := rfl

theorem flatMap_tokenSource_erase (ps : List Token) :
    (ps.map Token.erase).flatMap tokenSource = ps.flatMap tokenSource := by
  induction ps with
  | nil => rfl
  | cons p ps ih => simp only [List.map_cons, List.flatMap_cons, ih, tokenSource_erase]

theorem dotIdents_erase (is : List Ident) :
    (is.map Ident.erase).flatMap (fun p => [newToken .dot [cDOT], p.token]) =
      (is.flatMap fun p => [newToken .dot [cDOT], p.token]).map Token.erase := by
  induction is with
  | nil => rfl
  | cons p ps ih =>
    simp only [List.map_cons, List.flatMap_cons, List.map_append, ih]
    rfl

theorem referenceTokens_erase (r : Reference) :
    referenceTokens r.erase = (referenceTokens r).map Token.erase := by
  obtain ⟨ids, sp⟩ := r
  cases ids with
  | nil => rfl
  | cons i is =>
    show i.erase.token :: (is.map Ident.erase).flatMap (fun p => [newToken .dot [cDOT], p.token]) =
      (i.token :: is.flatMap fun p => [newToken .dot [cDOT], p.token]).map Token.erase
    rw [dotIdents_erase]
    rfl

mutual
theorem valueTokens_erase : ∀ v : Value, valueTokens v.erase = (valueTokens v).map Token.erase
  | .scalar tok _ => by simp only [Value.erase, valueTokens, List.map_cons, List.map_nil]
  | .array vs _ => by
    simp only [Value.erase, valueTokens, List.map_append, valueListTokens_erase true vs]
    rfl
theorem valueListTokens_erase (first : Bool) : ∀ vs : List Value,
    valueListTokens first (Value.eraseList vs) = (valueListTokens first vs).map Token.erase
  | [] => by simp only [Value.eraseList, valueListTokens, List.map_nil]
  | v :: vs => by
    simp only [Value.eraseList, valueListTokens, List.map_append, valueTokens_erase v,
      valueListTokens_erase false vs]
    cases first <;> rfl
end

theorem tagTokens_erase (t : TagValue) : tagTokens t.erase = (tagTokens t).map Token.erase := by
  obtain ⟨mark, mt, ref, val, sp⟩ := t
  simp only [TagValue.erase, tagTokens, List.map_append]
  congr 1
  · congr 1
    · cases mark <;> rfl
    · cases val with
      | none => rfl
      | some v =>
        cases v with
        | scalar tok s => simp only [Option.map_some, Value.erase, List.map_cons, List.map_nil]
        | array vs s =>
          simp only [Option.map_some, Value.erase, List.map_cons, List.map_nil, Token.zero_erase]
  · cases ref with
    | none => rfl
    | some r => simp only [Option.map_some, referenceTokens_erase]

theorem tagsFlat_erase (sep : Token) (hsep : sep.erase = sep) (ts : List TagValue) :
    (ts.map TagValue.erase).flatMap (fun t => sep :: tagTokens t) =
      (ts.flatMap fun t => sep :: tagTokens t).map Token.erase := by
  induction ts with
  | nil => rfl
  | cons t ts ih =>
    simp only [List.map_cons, List.flatMap_cons, List.map_append, ih, tagTokens_erase, hsep,
      List.cons_append]

theorem headerTokens_erase (h : BlockHeader) :
    headerTokens h.erase = (headerTokens h).map Token.erase := by
  obtain ⟨ty, tags, quals, desc, isOpen, src⟩ := h
  simp only [BlockHeader.erase, headerTokens, List.map_append, referenceTokens_erase,
    tagsFlat_erase _ (newToken_erase _ _)]
  congr 1
  · congr 1
    cases isOpen <;> rfl
  · cases desc with
    | none => rfl
    | some d => rfl

theorem assignTokens_erase (a : Assignment) :
    assignTokens a.erase = (assignTokens a).map Token.erase := by
  obtain ⟨key, value, app, src⟩ := a
  simp only [Assignment.erase, assignTokens, List.map_append, referenceTokens_erase,
    valueTokens_erase]
  congr 2
  cases app <;> rfl

theorem inlineComment_erase (cm : Option CommentNode) :
    inlineComment (cm.map CommentNode.erase) = inlineComment cm := by
  cases cm <;> rfl


theorem fmtFragment_erase (cls : Cls) (indent : Nat) (f : Fragment) :
    (fmtFragment cls indent f.erase).1.newText = (fmtFragment cls indent f).1.newText ∧
      (fmtFragment cls indent f.erase).2 = (fmtFragment cls indent f).2 := by
  cases f with
  | header h =>
    refine ⟨?_, rfl⟩
    show tabs indent ++ ((headerTokens h.erase).flatMap tokenSource ++
        inlineComment (h.src.comment.map CommentNode.erase)) ++ [cNL] =
      tabs indent ++ ((headerTokens h).flatMap tokenSource ++ inlineComment h.src.comment) ++ [cNL]
    rw [headerTokens_erase, flatMap_tokenSource_erase, inlineComment_erase]
  | assign a =>
    refine ⟨?_, rfl⟩
    show tabs indent ++ ((assignTokens a.erase).flatMap tokenSource ++
        inlineComment (a.src.comment.map CommentNode.erase)) ++ [cNL] =
      tabs indent ++ ((assignTokens a).flatMap tokenSource ++ inlineComment a.src.comment) ++ [cNL]
    rw [assignTokens_erase, flatMap_tokenSource_erase, inlineComment_erase]
  | desc d => exact ⟨rfl, rfl⟩
  | comment c => exact ⟨rfl, rfl⟩
  | close c => exact ⟨rfl, rfl⟩

theorem descLines_of_joined (cls : Cls) (hsp : cls.isSpace cSP = true) (indent : Nat)
    (d' d : Description) (hv : d'.value = joinWith [cNL] (descLines cls indent d)) :
    descLines cls indent d' = descLines cls indent d := by
  have hr : reformatDescription cls d'.value (80 - (indent : Int) * 4) =
      reformatDescription cls d.value (80 - (indent : Int) * 4) := by
    rw [hv, joinWith_descLines]
    exact reformat_stable cls hsp d.value _
  unfold descLines
  simp only [hr]

theorem fmtFragment_of_norm (cls : Cls) (hsp : cls.isSpace cSP = true) (indent : Nat)
    (f' f : Fragment) (h : f'.erase = normFrag cls indent f) :
    (fmtFragment cls indent f').1.newText = (fmtFragment cls indent f).1.newText ∧
      (fmtFragment cls indent f').2 = (fmtFragment cls indent f).2 := by
  rcases normFrag_cases h with ⟨d', d, rfl, rfl, hv⟩ | ⟨_, he⟩
  · refine ⟨?_, rfl⟩
    show (multiLineFrag indent d'.span [cPIPE, cSP] (descLines cls indent d')).newText =
      (multiLineFrag indent d.span [cPIPE, cSP] (descLines cls indent d)).newText
    rw [descLines_of_joined cls hsp indent d' d hv]
    rfl
  · have h1 := fmtFragment_erase cls indent f'
    have h2 := fmtFragment_erase cls indent f
    rw [he] at h1
    exact ⟨h1.1.symm.trans h2.1, h1.2.symm.trans h2.2⟩


/-- the blank-line decisions of `Fmt` on a list of fragments -/
def gapsOf : Option Nat → List Fragment → List Bool
  | _, [] => []
  | lastEnd, f :: fs =>
    gapBefore lastEnd f.src.start.line :: gapsOf (some (f.src.end_.line + 1)) fs

theorem fmtJoin_congr (cls : Cls) : ∀ (fs' fs : List Fragment) (indent : Nat) (le' le : Option Nat),
    (normShape : fs'.map Fragment.erase = normFrags cls indent fs) → cls.isSpace cSP = true →
    gapsOf le' fs' = gapsOf le fs →
    fmtJoin (diffFile cls indent fs') le' = fmtJoin (diffFile cls indent fs) le := by
  intro fs' fs
  induction fs generalizing fs' with
  | nil =>
    intro indent le' le h _ _
    cases fs' with
    | nil => rfl
    | cons a as => simp [normFrags] at h
  | cons f fs ih =>
    intro indent le' le h hsp hg
    cases fs' with
    | nil => simp [normFrags] at h
    | cons f' fs' =>
      simp only [normFrags, List.map_cons, List.cons.injEq] at h
      simp only [gapsOf, List.cons.injEq] at hg
      obtain ⟨ht, hi⟩ := fmtFragment_of_norm cls hsp indent f' f h.1
      obtain ⟨l1, l2⟩ := fmtFragment_lines cls indent f
      obtain ⟨l1', l2'⟩ := fmtFragment_lines cls indent f'
      rw [diffFile_cons, diffFile_cons, fmtJoin_cons, fmtJoin_cons, ht, hi, l1, l2, l1', l2', hg.1,
        ih fs' (fmtFragment cls indent f).2 _ _ h.2 hsp hg.2]

end J5V.Bcl
