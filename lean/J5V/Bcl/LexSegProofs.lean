import J5V.Bcl.DescProofs
import J5V.Bcl.FmtInv
import J5V.Bcl.LexerProofs
/-!
# The lexer reads back the text the formatter prints (lemmas for C09)

`LexSeg cls c text tail new c'`: lexing `text` in front of any `tail` yields the tokens `new` and goes on
with `tail`; segments compose (`LexSeg.append`), so the text of a file is read back piece by piece.  The
statements are in `LexBack cls c text tail X` (defined here): such a segment exists with tokens whose
erasure is `X`; the lemmas about the pieces the formatter prints keep their names `LexSeg.parts`,
`LexSeg.singleLine`, … and conclude `LexBack`.  One token: what `tokenSource` prints for a well-shaped
token is a `Lexeme` of its kind (`Lexeme.of_source`), hence read back (`Lexeme.lexes`, `LexBack.ofLexesTo`).
-/
namespace J5V.Bcl

/-! ## `LexAll` / `LexSeg` algebra -/

/-- `LexAll` only depends on the value of `nextToken` -/
theorem LexAll.congr {cls : Cls} {c c' : Cur} {rest rest' : List Rune} {out : List Token}
    (e : nextToken cls c rest = nextToken cls c' rest') (h : LexAll cls c rest out) :
    LexAll cls c' rest' out := by
  cases h with
  | eof he hty =>
    rw [e] at he hty
    exact .eof he hty
  | step he hty hrest =>
    rw [e] at he hty hrest ⊢
    exact .step he hty hrest

theorem LexAll.congr_iff {cls : Cls} {c c' : Cur} {rest rest' : List Rune} {out : List Token}
    (e : nextToken cls c rest = nextToken cls c' rest') :
    LexAll cls c rest out ↔ LexAll cls c' rest' out :=
  ⟨LexAll.congr e, LexAll.congr e.symm⟩

theorem LexSeg.nil {cls : Cls} {c : Cur} {tail : List Rune} : LexSeg cls c [] tail [] c := by
  intro out h
  simpa using h

theorem LexSeg.append {cls : Cls} {c c1 c2 : Cur} {t1 t2 tail : List Rune} {n1 n2 : List Token}
    (h1 : LexSeg cls c t1 (t2 ++ tail) n1 c1) (h2 : LexSeg cls c1 t2 tail n2 c2) :
    LexSeg cls c (t1 ++ t2) tail (n1 ++ n2) c2 := by
  intro out h
  have := h1 (n2 ++ out) (h2 out h)
  simpa only [List.append_assoc] using this

theorem LexSeg.skip {cls : Cls} {c c' : Cur} {r : Rune} {text tail : List Rune} {new : List Token}
    (hs : cls.isSpace r = true) (hr : r = cSP ∨ r = cTAB)
    (h : LexSeg cls (c.adv r) text tail new c') : LexSeg cls c (r :: text) tail new c' := by
  intro out ho
  have h1 := h out ho
  have e : nextToken cls c (r :: (text ++ tail)) = nextToken cls (c.adv r) (text ++ tail) := by
    rcases hr with rfl | rfl
    · exact nextToken_skip_space cls c cSP hs (by decide) (by decide) (by decide) (by decide)
        (by decide) _
    · exact nextToken_skip_space cls c cTAB hs (by decide) (by decide) (by decide) (by decide)
        (by decide) _
  exact LexAll.congr e.symm h1

/-- one `nextToken` step that stops in front of `tail` is a one-token segment -/
theorem LexSeg.ofStep {cls : Cls} {c : Cur} {text tail : List Rune}
    (he : (nextToken cls c (text ++ tail)).err = none)
    (hty : (nextToken cls c (text ++ tail)).tok.ty ≠ .eof)
    (hrest : (nextToken cls c (text ++ tail)).rest = tail) :
    LexSeg cls c text tail [(nextToken cls c (text ++ tail)).tok]
      (nextToken cls c (text ++ tail)).cur := by
  intro out h
  have h' : LexAll cls (nextToken cls c (text ++ tail)).cur (nextToken cls c (text ++ tail)).rest
      out := by
    rw [hrest]; exact h
  exact LexAll.step he hty h'

/-! ### one token: `tokenSource` is read back (all kinds, as `C09_token_inv`) -/

theorem PartWF.lexTy_ne_eof {cls : Cls} {t : Token} (hwf : PartWF cls t) : lexTy t ≠ .eof := by
  unfold lexTy
  rcases hwf with ⟨hty, _⟩ | ⟨hni, hnb, hkind, _⟩
  · rw [if_pos hty]; split <;> simp
  · rw [if_neg (by simp [hni, hnb])]
    intro h
    rw [h] at hkind
    simp [TokenType.isLiteral, TokenType.isOperator] at hkind

theorem PartWF.ty_ne_space {cls : Cls} {t : Token} (hwf : PartWF cls t) : t.ty ≠ .space := by
  rcases hwf with ⟨hty, _⟩ | ⟨_, _, hkind, _⟩
  · rcases hty with h | h <;> rw [h] <;> simp
  · intro h
    rw [h] at hkind
    simp [TokenType.isLiteral, TokenType.isOperator] at hkind

theorem quoteString_eq (lit : List Rune) : quoteString lit = cQUOTE :: (escString lit ++ [cQUOTE]) := by
  simp [quoteString, escString]

theorem Lexeme.lexesTo {cls : Cls} {text rest : List Rune} {ty : TokenType} {lit : List Rune}
    (h : Lexeme cls text rest ty lit) (c : Cur) : LexesTo cls c text rest ty lit := by
  unfold LexesTo; rw [h.lexes c]; exact ⟨rfl, rfl, rfl, rfl⟩

/-- `hsp`: `' '` must be white space for the classifier (DESCRIPTION only) -/
theorem Lexeme.of_source (cls : Cls) (hsp : cls.isSpace cSP = true) {t : Token} (hwf : TokLitWF cls t)
    {rest : List Rune} (hf : FollowOK cls t.ty rest)
    (hkind : t.ty.isLiteral = true ∨ t.ty.isOperator = true) :
    Lexeme cls (tokenSource t) rest t.ty t.lit := by
  obtain ⟨ty, lit, p, q⟩ := t
  cases ty
  case string =>
    show Lexeme cls (quoteString lit) rest .string lit
    rw [quoteString_eq]; exact .string rest
  case regex => exact .regex hwf hf
  case ident => have := Lexeme.ident hwf.1 hf; rwa [if_neg hwf.2] at this
  case bool => have := Lexeme.ident hwf.1 hf; rwa [if_pos hwf.2] at this
  case int => obtain ⟨r, ds, rfl, h2, h3⟩ := hwf; exact .int h2 h3 hf
  case decimal => obtain ⟨r, ds, fs, rfl, h2, h3, h4, h5⟩ := hwf; exact .decimal h2 h3 h4 h5 hf
  case comment => exact .comment hwf hf
  case blockComment => exact .blockComment rest hwf
  case description =>
    exact .description (sp := [cSP])
      (fun r hr => by cases List.mem_singleton.mp hr; exact ⟨hsp, by decide⟩) hwf.1 hwf.2 hf
  case assign | lbrace | rbrace | lbrack | rbrack | dot | comma | colon | plus | bang | question =>
    obtain ⟨r, h1, rfl⟩ := hwf; exact .op rest h1
  all_goals rcases hkind with h | h <;> cases h

/-- **the lexer inverts `tokenSource`**: for a token of any literal or operator kind with a
well-shaped literal, in front of admissible text, `NextToken` reads the same kind and literal back and
leaves `rest` -/
theorem TokLitWF.lexesTo (cls : Cls) (hsp : cls.isSpace cSP = true) (c : Cur) (t : Token)
    (hwf : TokLitWF cls t) (rest : List Rune) (hf : FollowOK cls t.ty rest)
    (hkind : t.ty.isLiteral = true ∨ t.ty.isOperator = true) :
    LexesTo cls c (tokenSource t) rest t.ty t.lit :=
  (Lexeme.of_source cls hsp hwf hf hkind).lexesTo c

/-- a stored part (an identifier keeps kind IDENT when it spells `true` / `false`) is read back with
the kind `lexTy` -/
theorem PartWF.lexesTo {cls : Cls} (hcls : ClsOK cls) (c : Cur) {t : Token} (hwf : PartWF cls t)
    (rest : List Rune) (hf : FollowOK cls (lexTy t) rest) :
    LexesTo cls c (tokenSource t) rest (lexTy t) t.lit := by
  rcases hwf with ⟨hid, hlit⟩ | ⟨hni, hnb, hkind, hwf⟩
  · have hl : lexTy t = if t.lit = litTrue ∨ t.lit = litFalse then .bool else .ident := by
      unfold lexTy; rw [if_pos hid]
    rw [hl] at hf ⊢
    have hstop : IdentStop cls rest := by
      split at hf <;> exact hf
    have : tokenSource t = t.lit := by
      unfold tokenSource; rcases hid with h | h <;> rw [h]
    rw [this]
    exact (Lexeme.ident hlit hstop).lexesTo c
  · have hl : lexTy t = t.ty := by
      unfold lexTy; rw [if_neg (by simp [hni, hnb])]
    rw [hl] at hf ⊢
    exact TokLitWF.lexesTo cls hcls.spSpace c t hwf rest hf hkind

/-- `text`, in front of `tail`, lexes from the state `c` to tokens whose erasure is `X`.  The state behind the
text is not named, so whatever follows must be read back from any state (`LexBack.append`), and every
lemma is stated for all `c`. -/
def LexBack (cls : Cls) (c : Cur) (text tail : List Rune) (X : List Token) : Prop :=
  ∃ new c', new.map Token.erase = X ∧ LexSeg cls c text tail new c'

theorem LexBack.nil {cls : Cls} {c : Cur} {tail : List Rune} : LexBack cls c [] tail [] :=
  ⟨[], c, rfl, LexSeg.nil⟩

theorem LexBack.append {cls : Cls} {c : Cur} {a b tail : List Rune} {X Y : List Token}
    (h1 : LexBack cls c a (b ++ tail) X) (h2 : ∀ c1, LexBack cls c1 b tail Y) :
    LexBack cls c (a ++ b) tail (X ++ Y) := by
  obtain ⟨n1, c1, e1, s1⟩ := h1
  obtain ⟨n2, c2, e2, s2⟩ := h2 c1
  exact ⟨n1 ++ n2, c2, by rw [List.map_append, e1, e2], s1.append s2⟩

theorem LexBack.ofLexesTo {cls : Cls} {c : Cur} {text tail : List Rune} {ty : TokenType} {lit : List Rune}
    (h : LexesTo cls c text tail ty lit) (hne : ty ≠ .eof) :
    LexBack cls c text tail [⟨ty, lit, ⟨0, 0⟩, ⟨0, 0⟩⟩] := by
  obtain ⟨h1, h2, h3, h4⟩ := h
  exact ⟨[_], _, by simp only [List.map_cons, List.map_nil, Token.erase, h2, h3],
    LexSeg.ofStep h1 (by rw [h2]; exact hne) h4⟩

theorem LexBack.eol {cls : Cls} (c : Cur) (tail : List Rune) : LexBack cls c [cNL] tail [eolTok] :=
  .ofLexesTo ((Lexeme.eol (cls := cls) tail).lexesTo c) (by decide)

theorem LexBack.gap {cls : Cls} (g : Bool) (c : Cur) (tail : List Rune) :
    LexBack cls c (if g = true then [cNL] else []) tail (if g = true then [eolTok] else []) := by
  cases g with
  | false => exact .nil
  | true => exact .eol c tail

theorem LexBack.skip {cls : Cls} {c : Cur} {r : Rune} {text tail : List Rune} {X : List Token}
    (hs : cls.isSpace r = true) (hr : r = cSP ∨ r = cTAB) (h : LexBack cls (c.adv r) text tail X) :
    LexBack cls c (r :: text) tail X := by
  obtain ⟨new, c', e, s⟩ := h
  exact ⟨new, c', e, s.skip hs hr⟩

theorem LexBack.skipRun {cls : Cls} {r : Rune} (hs : cls.isSpace r = true) (hr : r = cSP ∨ r = cTAB)
    (n : Nat) {c : Cur} {text tail : List Rune} {X : List Token} (h : ∀ c1, LexBack cls c1 text tail X) :
    LexBack cls c (List.replicate n r ++ text) tail X := by
  induction n generalizing c with
  | zero => exact h c
  | succ n ih => exact .skip hs hr ih

theorem LexBack.lexAll {cls : Cls} {c : Cur} {text : List Rune} {X : List Token} (h : LexBack cls c text [] X) :
    ∃ toks, LexAll cls c text toks ∧ toks.map Token.erase = X := by
  obtain ⟨new, c', e, s⟩ := h
  have := s [] (LexAll.eof (nextToken_nil cls c').1 (nextToken_nil cls c').2)
  exact ⟨new, by simpa using this, e⟩

/-! ## a rendered part list -/

theorem canonParts_cons_space {t : Token} (ps : List Token) (h : t.ty = .space) :
    canonParts (t :: ps) = canonParts ps := by
  unfold canonParts
  rw [List.filter_cons_of_neg (by simp [h])]

theorem canonParts_cons {t : Token} (ps : List Token) (h : t.ty ≠ .space) :
    canonParts (t :: ps) = canonTok t :: canonParts ps := by
  unfold canonParts
  rw [List.filter_cons_of_pos (by simp [h]), List.map_cons]

theorem LexSeg.parts {cls : Cls} (hcls : ClsOK cls) :
    ∀ (ps : List Token) (c : Cur) (tail : List Rune), PartsOK cls ps tail →
      LexBack cls c (ps.flatMap tokenSource) tail (canonParts ps) := by
  intro ps
  induction ps with
  | nil => exact fun c tail _ => .nil
  | cons t ps ih =>
    intro c tail ⟨ht, hps⟩
    rw [List.flatMap_cons]
    rcases ht with ⟨hty, hlit⟩ | ⟨hwf, hf⟩
    · -- the formatter's space: skipped
      have hsrc : tokenSource t = [cSP] := by
        unfold tokenSource; rw [hty]; exact hlit
      rw [hsrc, canonParts_cons_space ps hty]
      exact .skip hcls.spSpace (Or.inl rfl) (ih _ tail hps)
    · rw [canonParts_cons ps hwf.ty_ne_space]
      exact (LexBack.ofLexesTo (PartWF.lexesTo hcls c hwf _ hf) hwf.lexTy_ne_eof).append fun c1 => ih c1 tail hps

/-! ## a whole `singleLineTokens` line -/

/-- the trailing comment of a line (or nothing) in front of the newline -/
theorem LexSeg.trailingComment {cls : Cls} (hcls : ClsOK cls) (cm : Option CommentNode)
    (hcm : CommentNodeWF cm) (c : Cur) (tail : List Rune) :
    LexBack cls c (inlineComment cm) (cNL :: tail) (commentToks cm) := by
  cases cm with
  | none => exact .nil
  | some cn =>
    have hv : ∀ r ∈ cn.value, r ≠ cNL := hcm cn rfl
    exact .skip hcls.spSpace (Or.inl rfl)
      (.ofLexesTo ((Lexeme.comment hv (Or.inr rfl)).lexesTo (c.adv cSP) (rest := cNL :: tail)) (by decide))

theorem LexSeg.singleLine {cls : Cls} (hcls : ClsOK cls) (indent : Nat) (src : SourceNode)
    (parts : List Token) (c : Cur) (tail : List Rune) (hcm : CommentNodeWF src.comment)
    (hp : PartsOK cls parts (inlineComment src.comment ++ cNL :: tail)) :
    LexBack cls c (singleLineFrag indent src parts).newText tail (lineToks parts src.comment) := by
  have := LexBack.skipRun hcls.tabSpace (Or.inr rfl) indent (c := c) (tail := tail) fun c1 =>
    LexBack.append (b := inlineComment src.comment ++ [cNL])
      (by simpa only [List.append_assoc, List.singleton_append] using LexSeg.parts hcls parts c1 _ hp)
      fun c2 => LexBack.append (b := [cNL]) (LexSeg.trailingComment hcls src.comment hcm c2 tail)
        fun c3 => .eol c3 tail
  simpa only [lineToks, singleLineFrag, tabs, List.append_assoc] using this

/-! ## a re-flowed description -/

theorem joinWith_nl_map {α : Type} (f : α → List Rune) (xs : List α) (h : xs ≠ []) :
    joinWith [cNL] (xs.map f) ++ [cNL] = xs.flatMap (fun x => f x ++ [cNL]) := by
  rw [joinWith_nl_flatMap _ (by simpa using h), List.flatMap_map]

theorem trimRightSpaces_concat (s : List Rune) (x : Rune) (hx : x ≠ cSP) :
    trimRightSpaces (s ++ [x]) = s ++ [x] := by
  simp [trimRightSpaces, hx]

theorem trimRightSpaces_concat_sp (s : List Rune) (x : Rune) (hx : x ≠ cSP) :
    trimRightSpaces (s ++ [x, cSP]) = s ++ [x] := by
  simp [trimRightSpaces, List.dropWhile, hx]

/-- shape of a printed description line: no newline, no white space at either end -/
structure DescLineOK (cls : Cls) (l : List Rune) : Prop where
  noNL : ∀ r ∈ l, r ≠ cNL
  head : ∀ r, l.head? = some r → cls.isSpace r = false
  last : ∀ r, l.getLast? = some r → cls.isSpace r = false

theorem DescLineOK.nil (cls : Cls) : DescLineOK cls [] where
  noNL := by intro r h; cases h
  head := by intro r h; simp at h
  last := by intro r h; simp at h

theorem renderLine_last (P : Rune → Prop) : ∀ (ws : List (List Rune)),
    (∀ w ∈ ws, w ≠ [] ∧ ∀ r ∈ w, P r) → ∀ r, (renderLine ws).getLast? = some r → P r
  | [], _, r, h => by simp [renderLine, joinWith] at h
  | [a], hw, r, h => by
    have e : renderLine [a] = a := by simp [renderLine, joinWith]
    rw [e] at h
    exact (hw a (by simp)).2 r (List.mem_of_getLast? h)
  | a :: b :: rest, hw, r, h => by
    have e : renderLine (a :: b :: rest) = a ++ [cSP] ++ renderLine (b :: rest) := by
      simp [renderLine, joinWith]
    have hne : renderLine (b :: rest) ≠ [] := by
      intro e0
      have := (renderLine_eq_nil (b :: rest) (fun w hw' => (hw w (by simp [hw'])).1)).mp e0
      cases this
    rw [e, List.getLast?_append] at h
    cases hl : (renderLine (b :: rest)).getLast? with
    | none => exact absurd (List.getLast?_eq_none_iff.mp hl) hne
    | some y =>
      rw [hl] at h
      simp at h
      subst h
      exact renderLine_last P (b :: rest) (fun w hw' => hw w (by simp [hw'])) y hl

theorem renderLine_head (P : Rune → Prop) (ws : List (List Rune))
    (hw : ∀ w ∈ ws, w ≠ [] ∧ ∀ r ∈ w, P r) : ∀ r, (renderLine ws).head? = some r → P r := by
  intro r h
  cases ws with
  | nil => simp [renderLine, joinWith] at h
  | cons a as =>
    obtain ⟨hne, hP⟩ := hw a (by simp)
    cases a with
    | nil => exact absurd rfl hne
    | cons x a' =>
      have : (renderLine ((x :: a') :: as)).head? = some x := by
        cases as with
        | nil => simp [renderLine, joinWith]
        | cons b rest => simp [renderLine, joinWith]
      rw [this] at h
      have hx : x = r := by simpa using h
      subst hx
      exact hP x (by simp)

theorem renderLine_descLineOK (cls : Cls) (ws : List (List Rune))
    (h : ∀ w ∈ ws, w ≠ [] ∧ DescWord cls w) : DescLineOK cls (renderLine ws) := by
  have hnl := renderLine_no_nl ws (fun w hw => (h w hw).2.2)
  have hw : ∀ w ∈ ws, w ≠ [] ∧ ∀ r ∈ w, cls.isSpace r = false :=
    fun w hw => ⟨(h w hw).1, (h w hw).2.1⟩
  exact ⟨fun r hr e => hnl (e ▸ hr), renderLine_head _ ws hw, renderLine_last _ ws hw⟩

/-- the lines `doDescription` prints: at least one, each of the printed shape -/
theorem descLines_ok (cls : Cls) (indent : Nat) (d : Description) :
    descLines cls indent d ≠ [] ∧ ∀ l ∈ descLines cls indent d, DescLineOK cls l := by
  unfold descLines
  simp only []
  rw [reformat_eq_layout]
  obtain ⟨linesW, h1, h2, _⟩ :=
    layout_rep cls (80 - (indent : Int) * 4) _ (items_desc_words cls d.value)
  rw [h1]
  split
  · refine ⟨by simp, fun l hl => ?_⟩
    have : l = [] := by simpa using hl
    subst this
    exact DescLineOK.nil cls
  · rename_i hne
    refine ⟨hne, fun l hl => ?_⟩
    obtain ⟨ws, hws, rfl⟩ := List.mem_map.mp hl
    exact renderLine_descLineOK cls ws (h2 ws hws)

/-- what is printed for a line: the empty line loses the space after the marker, nothing else is
trimmed -/
theorem printed_nil (indent : Nat) :
    trimRightSpaces ((tabs indent ++ [cPIPE, cSP]) ++ []) = tabs indent ++ [cPIPE] := by
  rw [List.append_nil]
  exact trimRightSpaces_concat_sp (tabs indent) cPIPE (by decide)

theorem printed_ne {cls : Cls} (hcls : ClsOK cls) (indent : Nat) {l : List Rune} (hl : l ≠ [])
    (hok : DescLineOK cls l) :
    trimRightSpaces ((tabs indent ++ [cPIPE, cSP]) ++ l) = (tabs indent ++ [cPIPE, cSP]) ++ l := by
  rcases List.eq_nil_or_concat l with h | ⟨l', x, h⟩
  · exact absurd h hl
  · rw [List.concat_eq_append] at h
    subst h
    have hx : x ≠ cSP := by
      intro e
      have := hok.last x List.getLast?_concat
      rw [e, hcls.spSpace] at this
      cases this
    rw [← List.append_assoc]
    exact trimRightSpaces_concat _ x hx

theorem LexSeg.descLine {cls : Cls} (hcls : ClsOK cls) (indent : Nat) (l : List Rune)
    (hok : DescLineOK cls l) (c : Cur) (tail : List Rune) :
    LexBack cls c (trimRightSpaces ((tabs indent ++ [cPIPE, cSP]) ++ l) ++ [cNL]) tail
      [descTok l, eolTok] := by
  -- what is printed after the tabs lexes to the DESCRIPTION token `l`
  have hlx : ∃ text, trimRightSpaces ((tabs indent ++ [cPIPE, cSP]) ++ l) = tabs indent ++ text ∧
      ∀ c1, LexesTo cls c1 text (cNL :: tail) .description l := by
    -- `|`, then a space unless the line is empty, then the line
    by_cases hl : l = []
    · subst hl
      exact ⟨[cPIPE], printed_nil indent, fun c1 =>
        (Lexeme.description (sp := []) (fun _ h => nomatch h) hok.noNL hok.head (Or.inr rfl)).lexesTo c1⟩
    · exact ⟨[cPIPE, cSP] ++ l, by rw [printed_ne hcls indent hl hok, List.append_assoc], fun c1 =>
        (Lexeme.description (sp := [cSP])
          (fun r hr => by cases List.mem_singleton.mp hr; exact ⟨hcls.spSpace, by decide⟩)
          hok.noNL hok.head (Or.inr rfl)).lexesTo c1⟩
  obtain ⟨text, htext, hlx⟩ := hlx
  have := LexBack.skipRun hcls.tabSpace (Or.inr rfl) indent (c := c) (tail := tail) fun c1 =>
    LexBack.append (b := [cNL]) (X := [descTok l]) (.ofLexesTo (hlx c1) (by decide)) fun c2 => .eol c2 tail
  rw [htext]
  simpa only [tabs, List.append_assoc, List.singleton_append] using this

theorem LexSeg.descLinesAux {cls : Cls} (hcls : ClsOK cls) (indent : Nat) :
    ∀ (lines : List (List Rune)), (∀ l ∈ lines, DescLineOK cls l) → ∀ (c : Cur) (tail : List Rune),
      LexBack cls c (lines.flatMap fun l =>
        trimRightSpaces ((tabs indent ++ [cPIPE, cSP]) ++ l) ++ [cNL]) tail (descLineToks lines) := by
  intro lines
  induction lines with
  | nil => exact fun _ c tail => .nil
  | cons l ls ih =>
    intro hok c tail
    rw [List.flatMap_cons]
    exact (LexSeg.descLine hcls indent l (hok l (by simp)) c _).append fun c1 =>
      ih (fun x hx => hok x (by simp [hx])) c1 tail

theorem LexSeg.descFrag {cls : Cls} (hcls : ClsOK cls) (indent : Nat) (d : Description)
    (span : Span) (c : Cur) (tail : List Rune) :
    LexBack cls c (multiLineFrag indent span [cPIPE, cSP] (descLines cls indent d)).newText tail
      (descLineToks (descLines cls indent d)) := by
  obtain ⟨hne, hok⟩ := descLines_ok cls indent d
  have htext : (multiLineFrag indent span [cPIPE, cSP] (descLines cls indent d)).newText =
      (descLines cls indent d).flatMap fun l =>
        trimRightSpaces ((tabs indent ++ [cPIPE, cSP]) ++ l) ++ [cNL] := by
    unfold multiLineFrag
    exact joinWith_nl_map _ _ hne
  rw [htext]
  exact LexSeg.descLinesAux hcls indent _ hok c tail

end J5V.Bcl
