import J5V.Bcl.ParserProofs
import J5V.Bcl.LexAllProofs
import J5V.Bcl.FragStepProofs
import J5V.Bcl.Fmt
/-!
# `fragmentsToFile`, `Walk`, `ParseFile`, `collectFragments`: what they return

Lexed tokens start the walker invariant (`TokensOK`, `WInv.init_or`), the loop keeps it and the assembly
inherits what holds of the fragments: a parse never panics and every node and diagnostic is well placed
(`parseFile_spec`).  Also the inversions whole-file arguments start from (`parseFile_tree_inv` / `_tree_of`,
`collectFragments_ok` / `_of`).
-/
namespace J5V.Bcl

variable (Q : Pos → Prop)

theorem Statement.okList_append (a b : List Statement) (ha : Statement.okList Q a)
    (hb : Statement.okList Q b) : Statement.okList Q (a ++ b) := by
  induction a with
  | nil => exact hb
  | cons v vs ih =>
    unfold Statement.okList at ha
    show Statement.okList Q (v :: (vs ++ b))
    unfold Statement.okList
    exact ⟨ha.1, ih ha.2⟩

theorem Statement.okList_snoc (a : List Statement) (s : Statement) (ha : Statement.okList Q a)
    (hs : Statement.ok Q s) : Statement.okList Q (a ++ [s]) :=
  Statement.okList_append Q a [s] ha (by unfold Statement.okList; exact ⟨hs, trivial⟩)

theorem Fragment.src_ok {f : Fragment} (h : Fragment.ok Q f) : PosPairOK Q f.src.start f.src.end_ := by
  cases f with
  | header hd => exact h.2.2.2.2.1
  | assign a => exact h.2.2.1
  | desc d => exact h.2
  | comment c => exact h.2
  | close c => exact h.2

theorem fragmentsToFile_ok (frags : List Fragment) (hf : ∀ f ∈ frags, Fragment.ok Q f) :
    Statement.okList Q (fragmentsToFile frags).body ∧
      ∀ d ∈ (fragmentsToFile frags).errors, Diag.ok Q d :=
  ⟨fragmentsToFile_inv (S := Statement.ok Q) (H := BlockHeader.ok Q) (Statement.okList_snoc Q)
      (fun h b hh hb => by unfold Statement.ok; exact ⟨hh, hb⟩) trivial frags
      fun f hm => by
        have := hf f hm
        cases f with
        | header _ => exact this
        | assign _ | desc _ => show Statement.ok Q _; unfold Statement.ok; exact this
        | comment _ | close _ => trivial,
    fragmentsToFile_errors frags (fun c hm => (hf _ hm).2) fun f hm => Fragment.src_ok Q (hf f hm)⟩

/-- what the walker needs from the lexer: tokens in order, well placed, no EOF token -/
structure TokensOK (tokens : List Token) : Prop where
  ordered : tokens.Pairwise (fun t u => t.end_ ≤ u.start)
  each : ∀ t ∈ tokens, t.start ≤ t.end_ ∧ Q t.start ∧ Q t.end_ ∧ t.ty ≠ .eof

theorem WInv.init (hQ0 : Q ⟨0, 0⟩) {tokens : List Token} (h : TokensOK Q tokens) (hne : tokens ≠ []) :
    WInv Q ⟨none, tokens⟩ where
  nonempty := Or.inr hne
  ordered := h.ordered
  spans := fun t ht => (h.each t ht).1
  after := fun t _ => Pos.zero_le _
  noEof := fun t ht => (h.each t ht).2.2.2
  prevNoEof := fun l hl => by cases hl
  qCur := hQ0
  qRest := fun t ht => ⟨(h.each t ht).2.1, (h.each t ht).2.2.1⟩

theorem WInv.init_or (hQ0 : Q ⟨0, 0⟩) {tokens : List Token} (h : TokensOK Q tokens) :
    (⟨none, tokens⟩ : W).rest = [] ∨ WInv Q ⟨none, tokens⟩ := by
  cases tokens with
  | nil => exact Or.inl rfl
  | cons t ts => exact Or.inr (WInv.init Q hQ0 h (List.cons_ne_nil _ _))

theorem FragChain.all_ok {lo : Pos} {fs : List Fragment} (h : FragChain Q lo fs) :
    ∀ f ∈ fs, Fragment.ok Q f := by
  induction fs generalizing lo with
  | nil => intro f hf; cases hf
  | cons f fs ih =>
    intro x hx
    rcases List.mem_cons.mp hx with rfl | hx
    · exact h.2.2.1
    · exact ih h.2.2.2 x hx

theorem walkFragments_spec (hQ0 : Q ⟨0, 0⟩) (ff : Bool) (tokens : List Token)
    (h : TokensOK Q tokens) :
    match walkFragments ff tokens with
    | .done frags errs => FragChain Q ⟨0, 0⟩ frags ∧ (∀ d ∈ errs, Diag.ok Q d) ∧ (ff = true → errs = [])
    | .hadErrors errs => ff = true ∧ ∃ d, errs = [d] ∧ Diag.ok Q d
    | .panic _ => False := by
  unfold walkFragments
  have := walkFragmentsLoop_spec Q hQ0 ff (2 * tokens.length + 2) (tokens.length + 1)
    ⟨none, tokens⟩ [] [] (WInv.init_or Q hQ0 h) (by simp) (by simp)
  generalize walkFragmentsLoop ff (2 * tokens.length + 2) (tokens.length + 1) ⟨none, tokens⟩ [] [] = res
    at this ⊢
  cases res with
  | done f e =>
    obtain ⟨⟨new, h1, h2⟩, ⟨newe, h3, h4, h5⟩⟩ := this
    simp at h1 h3; subst h1; subst h3
    exact ⟨h2, h4, h5⟩
  | hadErrors e =>
    obtain ⟨h1, d, h2, h3⟩ := this
    exact ⟨h1, d, by simpa using h2, h3⟩
  | panic s => exact this

/-- `Walk` + the error wrapping of `ParseFile`: a tree with well-placed nodes, or a non-empty list of
well-placed diagnostics; never a panic -/
theorem walk_spec (hQ0 : Q ⟨0, 0⟩) (ff : Bool) (tokens : List Token) (h : TokensOK Q tokens) :
    match walk ff tokens with
    | .tree f => Statement.okList Q f.body
    | .errors es => es ≠ [] ∧ ∀ d ∈ es, Diag.ok Q d
    | .panic _ => False := by
  unfold walk
  have := walkFragments_spec Q hQ0 ff tokens h
  generalize walkFragments ff tokens = res at this ⊢
  cases res with
  | panic s => exact this
  | hadErrors es =>
    obtain ⟨_, d, h1, h2⟩ := this
    subst h1
    exact ⟨by simp, fun x hx => by simp at hx; subst hx; exact h2⟩
  | done frags es =>
    obtain ⟨h1, h2, _⟩ := this
    simp only []
    by_cases hne : es ≠ []
    · rw [if_pos hne]; exact ⟨hne, h2⟩
    · rw [if_neg hne]
      have hf := fragmentsToFile_ok Q frags (FragChain.all_ok Q h1)
      by_cases hne2 : (fragmentsToFile frags).errors ≠ []
      · rw [if_pos hne2]; exact ⟨hne2, hf.2⟩
      · rw [if_neg hne2]; exact hf.1

theorem tokensOK_of_chain {src : List Rune} {ts : List Token} (hQ : ∀ p, InFile src p → Q p)
    (h : TokChain src [] ts) : TokensOK Q ts := by
  obtain ⟨h1, h2⟩ := h.props
  exact ⟨h1, fun t ht => ⟨(h2 t ht).2.1, hQ _ (h2 t ht).2.2.1, hQ _ (h2 t ht).2.2.2.1,
    (h2 t ht).2.2.2.2⟩⟩

theorem inFile_zero (src : List Rune) : InFile src ⟨0, 0⟩ := ⟨[], List.nil_prefix, rfl⟩

/-- `ParseFile`: total, positions inside the file (`Q` = any consequence of `InFile src`) -/
theorem parseFile_spec (cls : Cls) (src : List Rune) (ff : Bool) (hQ : ∀ p, InFile src p → Q p) :
    match parseFile cls src ff with
    | .tree f => Statement.okList Q f.body
    | .errors es => es ≠ [] ∧ ∀ d ∈ es, Diag.ok Q d
    | .panic _ => False := by
  unfold parseFile
  cases hres : allTokens cls ff src with
  | nofuel => exact allTokens_ne_nofuel cls ff src hres
  | errs es =>
    refine ⟨by simpa using allTokens_errs_ne_nil hres, fun d hd => ?_⟩
    obtain ⟨e, he, rfl⟩ := List.mem_map.mp hd
    have := hQ _ (allTokens_errs_inFile hres e he)
    exact ⟨Pos.le_refl _, this, this⟩
  | toks ts => exact walk_spec Q (hQ _ (inFile_zero src)) ff ts (tokensOK_of_chain Q hQ (allTokens_chain hres))

theorem parseFile_total (cls : Cls) (src : List Rune) (ff : Bool) :
    (∃ es, es ≠ [] ∧ parseFile cls src ff = .errors es) ∨ (∃ f, parseFile cls src ff = .tree f) := by
  have := parseFile_spec (fun _ => True) cls src ff (fun _ _ => trivial)
  cases h : parseFile cls src ff with
  | tree f => exact Or.inr ⟨f, rfl⟩
  | errors es => rw [h] at this; exact Or.inl ⟨es, this.1, rfl⟩
  | panic s => rw [h] at this; exact this.elim

/-- the fragment list the formatter works on: in source order, every node well placed -/
theorem collectFragments_spec (cls : Cls) (src : List Rune) (hQ : ∀ p, InFile src p → Q p) :
    match collectFragments cls src with
    | .ok frags => FragChain Q ⟨0, 0⟩ frags
    | .err => True
    | .panic _ => False := by
  unfold collectFragments
  cases hres : allTokens cls true src with
  | nofuel => exact allTokens_ne_nofuel cls true src hres
  | errs es => trivial
  | toks ts =>
    simp only []
    have := walkFragments_spec Q (hQ _ (inFile_zero src)) true ts
      (tokensOK_of_chain Q hQ (allTokens_chain hres))
    generalize walkFragments true ts = res at this ⊢
    cases res with
    | panic s => exact this
    | hadErrors es => trivial
    | done frags es => exact this.1

theorem parseFile_tree_inv {cls : Cls} {src : List Rune} {ff : Bool} {f : File}
    (h : parseFile cls src ff = .tree f) :
    ∃ ts frags, allTokens cls ff src = .toks ts ∧ walkFragments ff ts = .done frags [] ∧
      f = fragmentsToFile frags ∧ (fragmentsToFile frags).errors = [] := by
  unfold parseFile at h
  cases hts : allTokens cls ff src with
  | nofuel => rw [hts] at h; cases h
  | errs es => rw [hts] at h; cases h
  | toks ts =>
    rw [hts] at h
    simp only [walk] at h
    cases hw : walkFragments ff ts with
    | panic s => rw [hw] at h; cases h
    | hadErrors es => rw [hw] at h; cases h
    | done frags es =>
      rw [hw] at h
      simp only [] at h
      split at h
      · cases h
      · rename_i hes
        split at h
        · cases h
        · rename_i hfe
          cases h
          exact ⟨ts, frags, rfl, by rw [hw, show es = [] by simpa using hes], rfl, by simpa using hfe⟩

theorem parseFile_tree_of {cls : Cls} {src : List Rune} {ff : Bool} {ts : List Token} {frags : List Fragment}
    (h1 : allTokens cls ff src = .toks ts) (h2 : walkFragments ff ts = .done frags [])
    (h3 : (fragmentsToFile frags).errors = []) : parseFile cls src ff = .tree (fragmentsToFile frags) := by
  unfold parseFile
  rw [h1]
  simp only [walk]
  rw [h2]
  simp [h3]

theorem collectFragments_ok {cls : Cls} {src : List Rune} {frags : List Fragment}
    (h : collectFragments cls src = .ok frags) :
    ∃ ts, allTokens cls true src = .toks ts ∧ walkFragments true ts = .done frags [] ∧
      FragsRun ⟨none, ts⟩ frags := by
  unfold collectFragments at h
  cases hts : allTokens cls true src with
  | nofuel => rw [hts] at h; cases h
  | errs es => rw [hts] at h; cases h
  | toks ts =>
    rw [hts] at h
    simp only [] at h
    cases hwf : walkFragments true ts with
    | panic s => rw [hwf] at h; cases h
    | hadErrors es => rw [hwf] at h; cases h
    | done out es =>
      rw [hwf] at h
      cases h
      obtain ⟨rfl, hfs⟩ := walkFragments_done hwf
      exact ⟨ts, rfl, hwf, hfs⟩

theorem collectFragments_of {cls : Cls} {src : List Rune} {ts : List Token} {frags : List Fragment}
    {es : List Diag} (h1 : allTokens cls true src = .toks ts) (h2 : walkFragments true ts = .done frags es) :
    collectFragments cls src = .ok frags := by
  unfold collectFragments
  rw [h1]
  simp only []
  rw [h2]

theorem parseFile_tree_ok {cls : Cls} {src : List Rune} {ff : Bool} (hQ : ∀ p, InFile src p → Q p) {f : File}
    (h : parseFile cls src ff = .tree f) : Statement.okList Q f.body := by
  have := parseFile_spec Q cls src ff hQ
  rwa [h] at this

theorem parseFile_errors_ok {cls : Cls} {src : List Rune} {ff : Bool} (hQ : ∀ p, InFile src p → Q p)
    {es : List Diag} (h : parseFile cls src ff = .errors es) : es ≠ [] ∧ ∀ d ∈ es, Diag.ok Q d := by
  have := parseFile_spec Q cls src ff hQ
  rwa [h] at this

theorem collectFragments_chain {cls : Cls} {src : List Rune} (hQ : ∀ p, InFile src p → Q p)
    {frags : List Fragment} (h : collectFragments cls src = .ok frags) : FragChain Q ⟨0, 0⟩ frags := by
  have := collectFragments_spec Q cls src hQ
  rwa [h] at this

theorem collectFragments_ne_panic (cls : Cls) (src : List Rune) (s : String) :
    collectFragments cls src ≠ .panic s := by
  intro h
  have := collectFragments_spec (fun _ => True) cls src (fun _ _ => trivial)
  rwa [h] at this

theorem fmtFragment_lines (cls : Cls) (indent : Nat) (f : Fragment) :
    (fmtFragment cls indent f).1.fromLine = f.src.start.line ∧
      (fmtFragment cls indent f).1.toLine = f.src.end_.line + 1 := by
  cases f <;> exact ⟨rfl, rfl⟩

theorem fmt_ok_inv (cls : Cls) (src out : List Rune) (h : fmt cls src = .ok out) :
    ∃ frags, collectFragments cls src = .ok frags ∧ out = fmtJoin (diffFile cls 0 frags) none := by
  unfold fmt at h
  cases hc : collectFragments cls src with
  | panic s => rw [hc] at h; cases h
  | err => rw [hc] at h; cases h
  | ok frags =>
    rw [hc] at h
    cases h
    exact ⟨frags, rfl, rfl⟩

end J5V.Bcl
