import J5V.Bcl.FragWFProofs
/-!
# Where a fragment starts and ends, relative to the walker (`nextFragment_span`)

For one successful round `nextFragment fuel w = .ok (some f) w'` of the fragment loop:
* START: `f.src.start` is the start of the first token of `w.rest`;
* END LINE: the walker stands (`w'.currentPos`) on the line where the fragment ends;
* PREV: the token read last is an EOL only after an assignment, an open header, or a header with a
  trailing comment (only `endStatement` reads an EOL);
* a token has been read (`w'.prev ≠ none`; needs no hypothesis on the tokens: `nextFragment_prev_some`).

The proofs go by induction over the grammar of `WalkRun`, with the invariant `WI` of `FragWFProofs`.
`WI (LineP cls) LineR w` alone is not enough for END LINE: an EOF token *in the token list* that
spans several lines is a counterexample (`nextFragment_span_counterexample`), so
`nextFragment_span` also asks that such tokens are on one line (`nextFragment_span_noEof`: that
there are none, as in a lexed token list).
-/
namespace J5V.Bcl

/-- the token read last is not an EOL -/
def PrevOk (w : W) : Prop := ∃ t, w.prev = some t ∧ t.ty ≠ .eol

/-- a statement about "the EOL read last" holds where the token read last is not an EOL -/
theorem PrevOk.elim {w : W} (h : PrevOk w) {X : Prop} (e : Token) (he : w.prev = some e)
    (hty : e.ty = .eol) : X := by
  obtain ⟨t, h1, h2⟩ := h
  rw [h1] at he; cases he
  exact absurd hty h2

theorem Pop.prevOk {w w' : W} {t : Token} (h : Pop w t w') (hne : t.ty ≠ .eol) : PrevOk w' :=
  ⟨t, h.prev, hne⟩

theorem Idents.prevOk {w w' : W} {is : List Ident} (h : Idents w is w') : PrevOk w' := by
  induction h with
  | last hp hai _ =>
    exact hp.prevOk (by rcases (asIdent_eq_some hai).2 with e | e <;> rw [e] <;> decide)
  | dot _ _ _ _ _ ih => exact ih

theorem RefRun.prevOk {w w' : W} {r : Reference} (h : RefRun w r w') : PrevOk w' :=
  let ⟨_, hi, _⟩ := h; hi.prevOk

theorem ValRun.prevOk {w w' : W} {v : Value} (h : ValRun w v w') : PrevOk w' := by
  cases h with
  | ref _ hr => exact hr.prevOk
  | lit hp _ h2 => exact hp.prevOk (by intro e; rw [e] at h2; cases h2)
  | empty _ _ hp2 h2 => exact hp2.prevOk (by rw [h2]; decide)
  | array _ _ _ _ hp2 h2 => exact hp2.prevOk (by rw [h2]; decide)

theorem TagRun.prevOk {w w' : W} {t : TagValue} (h : TagRun w t w') : PrevOk w' := by
  cases h with
  | ref _ _ hr => exact hr.prevOk
  | str _ hp hty => exact hp.prevOk (by rw [hty]; decide)

theorem TagsRun.prevOk {w w' : W} {ts : List TagValue} (h : TagsRun w ts w') (hp : PrevOk w) :
    PrevOk w' := by
  induction h with
  | nil _ => exact hp
  | cons _ ht _ ih => exact ih ht.prevOk

theorem QualsRun.prevOk {w w' : W} {qs : List TagValue} (h : QualsRun w qs w') (hp : PrevOk w) :
    PrevOk w' := by
  induction h with
  | nil _ => exact hp
  | cons _ _ ht _ ih => exact ih ht.prevOk

/-! ## the end of a statement stays on its line -/

/-- the token predicate of the line invariant, plus: a (real) EOF token is on one line -/
def LinePE (cls : Cls) (t : Token) : Prop :=
  LineP cls t ∧ (t.ty = .eof → t.end_.line = t.start.line)

/-- COMMENT, EOL and EOF tokens are on one line -/
theorem LinePE.oneLine {cls : Cls} {t : Token} (h : LinePE cls t)
    (hty : t.ty = .comment ∨ t.ty = .eol ∨ t.ty = .eof) : t.end_.line = t.start.line := by
  rcases hty with e | e | e
  · exact h.1.2 (Or.inl e)
  · exact h.1.2 (Or.inr e)
  · exact h.2 e

theorem WI.noEof {cls : Cls} {w : W} (hw : WI (LineP cls) LineR w) (hne : ∀ t ∈ w.rest, t.ty ≠ .eof) :
    WI (LinePE cls) LineR w :=
  ⟨fun t ht => ⟨hw.1 t ht, fun e => absurd e (hne t ht)⟩, hw.2⟩

section Walker
variable {cls : Cls}

theorem popToken_sameLine {w w' : W} {t : Token} (hw : WI (LinePE cls) LineR w)
    (hp : PrevOk w) (h : popToken w = .ok t w')
    (hty : t.ty = .comment ∨ t.ty = .eol ∨ t.ty = .eof) : w'.currentPos.line = w.currentPos.line := by
  obtain ⟨p0, hp1, hp2⟩ := hp
  rcases popToken_ok h with hpop | ⟨_, rfl, _⟩
  · cases hpop
    cases hp1
    show t.end_.line = p0.end_.line
    rw [hw.head.oneLine hty]
    exact (hw.rel rfl).sameLine hp2
  · rfl

theorem EndRun.span {w w' : W} {c : Option CommentNode}
    (h : EndRun w c w') (hw : WI (LinePE cls) LineR w) (hp : PrevOk w) :
    w'.currentPos.line = w.currentPos.line ∧ (w.nextType = .comment → c ≠ none) := by
  cases h with
  | plain hpop hty =>
    refine ⟨popToken_sameLine hw hp hpop (Or.inr hty), fun hc => ?_⟩
    rw [← popToken_ty hpop] at hc
    rcases hty with e | e <;> rw [hc] at e <;> cases e
  | comment hpop hc hpop2 hty =>
    refine ⟨?_, fun _ => nofun⟩
    rw [popToken_sameLine (hw.pop hpop).2 (hpop.prevOk (by rw [hc]; decide)) hpop2 (Or.inr hty),
      popToken_sameLine hw hp hpop.run (Or.inl hc)]

theorem HdrEnd.span {w w' : W} {d : Option Description} {o : Bool}
    {e : Pos} {c : Option CommentNode} (h : HdrEnd w d o e c w') (hw : WI (LinePE cls) LineR w) (hp : PrevOk w) :
    w'.currentPos.line = e.line ∧ ∀ x, w'.prev = some x → x.ty = .eol → o = true ∨ c ≠ none := by
  cases h with
  | opened hp1 hty hc =>
    have := hc.span (hw.pop hp1).2 (hp1.prevOk (by rw [hty]; decide))
    exact ⟨by rw [this.1, hp1.currentPos], fun _ _ _ => Or.inl rfl⟩
  | desc hp1 hty =>
    exact ⟨by rw [hp1.currentPos], fun x hx hte => (hp1.prevOk (by rw [hty]; decide)).elim x hx hte⟩
  | comment hty hc =>
    have := hc.span hw hp
    exact ⟨this.1, fun _ _ _ => Or.inr (this.2 hty)⟩
  | eol _ => exact ⟨rfl, fun x hx hte => hp.elim x hx hte⟩

/-- what `nextFragment_span` says of a fragment `f` read from `w`, arriving at `w'` -/
def SpanPost (w : W) (f : Fragment) (w' : W) : Prop :=
  (∃ t ts, w.rest = t :: ts ∧ f.src.start = t.start) ∧
  w'.currentPos.line = f.src.end_.line ∧
  (∀ e, w'.prev = some e → e.ty = .eol →
    (∃ a, f = .assign a) ∨
      (∃ hd, f = .header hd ∧ (hd.isOpen = true ∨ hd.src.comment ≠ none))) ∧
  (∃ p, w'.prev = some p)

theorem StmtRun.span {w w' : W} {f : Fragment} (h : StmtRun w f w')
    (hw : WI (LinePE cls) LineR w) : SpanPost w f w' := by
  refine (fun h3 => ⟨h3.1, h3.2.1, h3.2.2, h.drop.prev_some⟩ : _ ∧ _ ∧ _ → _) ?_
  cases h with
  | assign hr hop hv hc =>
    have hw3 := ((hw.drop hr.drop).drop hop.drop).drop hv.drop
    refine ⟨hr.bounds.1, ?_, fun _ _ _ => Or.inl ⟨_, rfl⟩⟩
    rw [(hc.span hw3 hv.prevOk).1, hv.bounds.2]
    rfl
  | header hr _ _ hts hqs he =>
    have hw3 := ((hw.drop hr.drop).drop hts.drop).drop hqs.drop
    obtain ⟨h1, h2⟩ := he.span hw3 (hqs.prevOk (hts.prevOk hr.prevOk))
    exact ⟨hr.bounds.1, h1, fun x hx hte => Or.inr ⟨_, rfl, h2 x hx hte⟩⟩

theorem FragRun.span {w w' : W} {f : Fragment}
    (h : FragRun w (some f) w') (hw : WI (LinePE cls) LineR w) : SpanPost w f w' := by
  -- a fragment that is the one token `t`, not an EOL
  have one : ∀ {t : Token} {g : Fragment}, Pop w t w' → t.ty ≠ .eol → g.src.start = t.start →
      g.src.end_ = t.end_ → SpanPost w g w' := by
    intro t g hp hne hs he
    refine ⟨?_, by rw [he, hp.currentPos], fun x hx hte => (hp.prevOk hne).elim x hx hte, _, hp.prev⟩
    cases hp
    exact ⟨_, _, rfl, hs⟩
  cases h with
  | close hp hty => exact one hp (by rw [hty]; decide) rfl rfl
  | comment hp hty => exact one hp (by rcases hty with e | e <;> rw [e] <;> decide) rfl rfl
  | desc hp hty hl =>
    obtain ⟨h1, h2, _⟩ := hl.end fun l hl' => by cases hp.prev.symm.trans hl'; exact hty
    refine ⟨?_, by rw [currentPos_of_prev h1]; rfl, fun x hx hte => ?_, _, h1⟩
    · exact hp.first
    · cases h1.symm.trans hx; rw [h2] at hte; cases hte
  | stmt _ hs => exact hs.span hw

end Walker

/-- **span of a fragment**.  The extra hypothesis `hE` (every EOF token *in the token list* is on
one line; in particular: the list has no EOF token, as for lexed tokens) is needed: see
`nextFragment_span_counterexample`. -/
theorem nextFragment_span (cls : Cls) (fuel : Nat) {w w' : W} {f : Fragment}
    (hw : WI (LineP cls) LineR w)
    (hE : ∀ t ∈ w.rest, t.ty = .eof → t.end_.line = t.start.line)
    (h : nextFragment fuel w = .ok (some f) w') : SpanPost w f w' :=
  (nextFragment_sound h).span ⟨fun t ht => ⟨hw.1 t ht, hE t ht⟩, hw.2⟩

/-- `nextFragment_span` for a token list without EOF tokens (what the lexer produces) -/
theorem nextFragment_span_noEof (cls : Cls) (fuel : Nat) {w w' : W} {f : Fragment}
    (hw : WI (LineP cls) LineR w) (hne : ∀ t ∈ w.rest, t.ty ≠ .eof)
    (h : nextFragment fuel w = .ok (some f) w') : SpanPost w f w' :=
  nextFragment_span cls fuel hw (fun t ht e => absurd e (hne t ht)) h

theorem nextFragment_rest_subset {fuel : Nat} {w w' : W} {r : Option Fragment}
    (h : nextFragment fuel w = .ok r w') : ∀ t ∈ w'.rest, t ∈ w.rest :=
  (nextFragment_sound h).drop.subset

theorem nextFragment_keeps_eofLine (cls : Cls) (fuel : Nat) {w w' : W} {r : Option Fragment}
    (hw : WI (LineP cls) LineR w)
    (hE : ∀ t ∈ w.rest, t.ty = .eof → t.end_.line = t.start.line)
    (h : nextFragment fuel w = .ok r w') :
    ∀ t ∈ w'.rest, t.ty = .eof → t.end_.line = t.start.line :=
  fun t ht => hE t (nextFragment_rest_subset h t ht)

/-! ## after a fragment a token has been read (needs no hypothesis on the tokens) -/

theorem nextFragment_prev_some (fuel : Nat) {w w' : W} {f : Fragment}
    (h : nextFragment fuel w = .ok (some f) w') : ∃ p, w'.prev = some p :=
  have hr := nextFragment_sound h
  (hr.drop_pos hr.ne_eof_eol.1).prev_some

/-! ## why `hE` is needed

`WI (LineP cls) LineR w` says nothing about the end of an EOF token that is *in the token list*
(`TokLitWF` is `True` for it, `LineP` asks one line only of COMMENT and EOL tokens).
`endStatement` reads such a token as the end of the statement, so the walker then stands at its
end — which may be on a later line than the statement. -/

namespace SpanCex

/-- every rune is a letter -/
def cls : Cls := ⟨fun _ => false, fun _ => false, fun _ => true, fun _ => true⟩

/-- `a` at 0:0–0:1 -/
def tA : Token := ⟨.ident, [97], ⟨0, 0⟩, ⟨0, 1⟩⟩
/-- `{` at 0:2–0:3 -/
def tL : Token := ⟨.lbrace, [123], ⟨0, 2⟩, ⟨0, 3⟩⟩
/-- an EOF token from 0:3 to 5:0 -/
def tE : Token := ⟨.eof, [], ⟨0, 3⟩, ⟨5, 0⟩⟩

def w0 : W := ⟨none, [tA, tL, tE]⟩

theorem wi : WI (LineP cls) LineR w0 := by
  refine ⟨?_, ?_⟩
  · intro t ht
    have ht' : t = tA ∨ t = tL ∨ t = tE := by simpa [w0] using ht
    rcases ht' with e | e | e <;> subst e
    · refine ⟨?_, fun h => by rcases h with h | h <;> cases h⟩
      show IdentLitWF cls [97] ∧ ¬ (([97] : List Rune) = litTrue ∨ ([97] : List Rune) = litFalse)
      refine ⟨⟨by decide, ?_, fun r hr => by cases hr⟩, by decide⟩
      intro r hr
      have : r = 97 := by simpa using hr.symm
      subst this
      exact ⟨by decide, by decide, by decide, by decide, by decide, rfl, rfl, rfl⟩
    · refine ⟨?_, fun h => by rcases h with h | h <;> cases h⟩
      exact ⟨123, by decide, rfl⟩
    · exact ⟨trivial, fun h => by rcases h with h | h <;> cases h⟩
  · refine ⟨fun t h => (by cases h), ⟨fun t h => ?_, ⟨fun t h => ?_, trivial⟩⟩⟩
    · cases h
      refine ⟨?_, fun _ => rfl, ?_⟩
      · intro hl
        rcases hl with hl | hl <;> cases hl
      · intro hl
        cases hl
    · cases h
      refine ⟨?_, fun _ => rfl, ?_⟩
      · intro hl
        rcases hl with hl | hl <;> cases hl
      · intro hl
        cases hl

/-- the header `a {` ends on line 0, the walker stands on line 5 -/
theorem run : ∃ f w', nextFragment 1 w0 = .ok (some f) w' ∧ f.src.end_.line = 0 ∧
    w'.currentPos.line = 5 := ⟨_, _, rfl, rfl, rfl⟩

end SpanCex

/-- `nextFragment_span` without `hE` is false -/
theorem nextFragment_span_counterexample :
    ¬ (∀ (cls : Cls) (fuel : Nat) (w w' : W) (f : Fragment), WI (LineP cls) LineR w →
      nextFragment fuel w = .ok (some f) w' → w'.currentPos.line = f.src.end_.line) := by
  intro hall
  obtain ⟨f, w', h1, h2, h3⟩ := SpanCex.run
  have := hall SpanCex.cls 1 SpanCex.w0 w' f SpanCex.wi h1
  rw [h2, h3] at this
  cases this

end J5V.Bcl

