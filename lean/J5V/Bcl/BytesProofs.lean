import J5V.Bcl.IdemProofs
import J5V.Bcl.FmtDiffProofs
/-!
# Byte-level forms of the formatter theorems

Go strings are bytes; the lexer reads `[]rune(input)` and `Fmt` returns a `string`.

* Part 1 (in `Utf8Proofs`): `decodeRunes` only produces valid runes; `decodeRunes ∘ encodeRunes` is the
  identity on valid runes.
* Part 2: the formatter only prints runes of the source and ASCII punctuation (`fmt_runes`, for any predicate
  `P` on runes: a statement of provenance).
* Part 3: `fmtSrc_idempotent`, `parse_roundtrip_bytes`.
-/
namespace J5V.Bcl
open J5V.Go

/-! ## Part 2: the formatter prints runes of the source and ASCII punctuation -/

/-- the runes the formatter inserts -/
def fmtConsts : List Rune :=
  [cNL, cTAB, cSP, cQUOTE, cBSL, cSLASH, cSTAR, cPIPE, cDOT, 61, 123, 125, 91, 93, 44, 58, 43, 33, 63]

/-- every rune of `l` satisfies `P` -/
def RunesP (P : Rune → Prop) (l : List Rune) : Prop := ∀ r ∈ l, P r

/-- `P` holds for the constants the formatter inserts between tokens, by name (`fmtConsts` also lists `}`, `!`
and `?`, which only occur as token literals of the source) -/
structure PConsts (P : Rune → Prop) : Prop where
  nl : P cNL
  tab : P cTAB
  sp : P cSP
  quote : P cQUOTE
  bsl : P cBSL
  slash : P cSLASH
  star : P cSTAR
  pipe : P cPIPE
  dot : P cDOT
  assign : P 61
  lbrace : P 123
  lbrack : P 91
  rbrack : P 93
  comma : P 44
  colon : P 58
  plus : P 43

theorem PConsts.of_list {P : Rune → Prop} (h : ∀ r ∈ fmtConsts, P r) : PConsts P := by
  constructor <;> exact h _ (by decide)

section Runes
variable {P : Rune → Prop}

theorem RunesP.nil : RunesP P [] := List.forall_mem_nil _

theorem RunesP.cons {a : Rune} {l : List Rune} (ha : P a) (hl : RunesP P l) : RunesP P (a :: l) :=
  List.forall_mem_cons.mpr ⟨ha, hl⟩

theorem RunesP.head {a : Rune} {l : List Rune} (h : RunesP P (a :: l)) : P a :=
  (List.forall_mem_cons.mp h).1

theorem RunesP.tail {a : Rune} {l : List Rune} (h : RunesP P (a :: l)) : RunesP P l :=
  (List.forall_mem_cons.mp h).2

theorem RunesP.append {a b : List Rune} (ha : RunesP P a) (hb : RunesP P b) : RunesP P (a ++ b) :=
  List.forall_mem_append.mpr ⟨ha, hb⟩

theorem RunesP.snoc {l : List Rune} {a : Rune} (hl : RunesP P l) (ha : P a) : RunesP P (l ++ [a]) :=
  hl.append (RunesP.cons ha RunesP.nil)

theorem RunesP.flatMap {l : List Rune} {f : Rune → List Rune} (hl : RunesP P l)
    (hf : ∀ r, P r → RunesP P (f r)) : RunesP P (l.flatMap f) := by
  intro x hx
  obtain ⟨r, hr, hxr⟩ := List.mem_flatMap.mp hx
  exact hf r (hl r hr) x hxr

theorem joinWith_runes {sep : List Rune} (hs : RunesP P sep) : ∀ (ls : List (List Rune)),
    (∀ l ∈ ls, RunesP P l) → RunesP P (joinWith sep ls)
  | [], _ => RunesP.nil
  | [a], h => by unfold joinWith; exact h a (by simp)
  | a :: b :: rest, h => by
    unfold joinWith
    exact ((h a (by simp)).append hs).append
      (joinWith_runes hs (b :: rest) (fun l hl => h l (List.mem_cons_of_mem _ hl)))

/-! ### lexer -/

def TokP (P : Rune → Prop) (t : Token) : Prop := RunesP P t.lit

theorem LexAll.runes {cls : Cls} {c : Cur} {rest : List Rune} {out : List Token}
    (h : LexAll cls c rest out) : RunesP P rest → ∀ t ∈ out, TokP P t := by
  induction h with
  | eof => exact fun _ => List.forall_mem_nil _
  | step he _ _ ih =>
    have hs := (nextToken_lexed cls _ _ he).sub
    exact fun hr => List.forall_mem_cons.mpr ⟨fun r h => hr r (hs.1 r h), ih fun r h => hr r (hs.2 r h)⟩

theorem allTokens_runes (cls : Cls) (ff : Bool) (src : List Rune) (ts : List Token)
    (hsrc : RunesP P src) (h : allTokens cls ff src = .toks ts) : ∀ t ∈ ts, TokP P t :=
  ((allTokens_toks_iff cls ff src ts).mp h).runes hsrc

/-! ### walker -/

def ToksP (P : Rune → Prop) (ts : List Token) : Prop := ∀ t ∈ ts, TokP P t

theorem ToksP.nil : ToksP P [] := List.forall_mem_nil _

theorem ToksP.cons {a : Token} {l : List Token} (ha : TokP P a) (hl : ToksP P l) :
    ToksP P (a :: l) :=
  List.forall_mem_cons.mpr ⟨ha, hl⟩

theorem ToksP.append {a b : List Token} (ha : ToksP P a) (hb : ToksP P b) : ToksP P (a ++ b) :=
  List.forall_mem_append.mpr ⟨ha, hb⟩

theorem ToksP.flatMap {α : Type} {l : List α} {f : α → List Token}
    (hf : ∀ x ∈ l, ToksP P (f x)) : ToksP P (l.flatMap f) := by
  intro t ht
  obtain ⟨x, hx, htx⟩ := List.mem_flatMap.mp ht
  exact hf x hx t htx

theorem tokP_new (ty : TokenType) {lit : List Rune} (h : RunesP P lit) : TokP P (newToken ty lit) := h

def IdentP (P : Rune → Prop) (i : Ident) : Prop := TokP P i.token ∧ RunesP P i.value

def RefP (P : Rune → Prop) (r : Reference) : Prop := ∀ i ∈ r.idents, IdentP P i

mutual
def ValueP (P : Rune → Prop) : Value → Prop
  | .scalar t _ => TokP P t
  | .array vs _ => ValueListP P vs
def ValueListP (P : Rune → Prop) : List Value → Prop
  | [] => True
  | v :: vs => ValueP P v ∧ ValueListP P vs
end

def TagP (P : Rune → Prop) (t : TagValue) : Prop :=
  TokP P t.markToken ∧ (∀ r, t.reference = some r → RefP P r) ∧ (∀ v, t.value = some v → ValueP P v)

def DescP (P : Rune → Prop) (d : Description) : Prop := ToksP P d.tokens ∧ RunesP P d.value

def CommentP (P : Rune → Prop) (c : Option CommentNode) : Prop := ∀ cn, c = some cn → RunesP P cn.value

def HeaderP (P : Rune → Prop) (h : BlockHeader) : Prop :=
  RefP P h.type ∧ (∀ t ∈ h.tags, TagP P t) ∧ (∀ t ∈ h.qualifiers, TagP P t) ∧
    (∀ d, h.description = some d → DescP P d) ∧ CommentP P h.src.comment

def AssignP (P : Rune → Prop) (a : Assignment) : Prop :=
  RefP P a.key ∧ ValueP P a.value ∧ CommentP P a.src.comment

/-- every rune stored in the fragment (token literals, identifier values, description and comment
values) satisfies `P` -/
def FragRunes (P : Rune → Prop) : Fragment → Prop
  | .header h => HeaderP P h
  | .assign a => AssignP P a
  | .desc d => DescP P d
  | .comment c => TokP P c.token ∧ RunesP P c.value
  | .close c => TokP P c.token

theorem ToksP.drop {n : Nat} {w w' : W} (hw : ToksP P w.rest) (h : Drop n w w') : ToksP P w'.rest :=
  fun t ht => hw t (h.subset t ht)

theorem ToksP.pop {w w' : W} {t : Token} (hw : ToksP P w.rest) (h : Pop w t w') : TokP P t := by
  cases h; exact hw t (by simp)

theorem asIdent_tokP {t it : Token} (ht : TokP P t) (h : t.asIdent = some it) : TokP P it := by
  obtain ⟨rfl, _⟩ := asIdent_eq_some h
  exact ht

theorem Idents.runes {w w' : W} {is : List Ident} (h : Idents w is w') (hw : ToksP P w.rest) :
    ∀ i ∈ is, IdentP P i := by
  induction h with
  | last hp hai _ =>
    have := asIdent_tokP (hw.pop hp) hai
    exact fun i hi => by cases List.mem_singleton.mp hi; exact ⟨this, this⟩
  | dot hp hai hp2 _ _ ih =>
    have := asIdent_tokP (hw.pop hp) hai
    exact List.forall_mem_cons.mpr ⟨⟨this, this⟩, ih (hw.drop (hp.drop.trans hp2.drop))⟩

theorem RefRun.runes {w w' : W} {r : Reference} (h : RefRun w r w') (hw : ToksP P w.rest) :
    RefP P r :=
  h.idents.runes hw

theorem refString_runes (hc : PConsts P) {r : Reference} (h : RefP P r) : RunesP P r.string := by
  unfold Reference.string
  refine joinWith_runes (RunesP.cons hc.dot RunesP.nil) _ ?_
  intro l hl
  obtain ⟨i, hi, rfl⟩ := List.mem_map.mp hl
  exact (h i hi).2

theorem ValRun.runes_aux (hc : PConsts P) :
    (∀ {w w' : W} {v : Value}, ValRun w v w' → ToksP P w.rest → ValueP P v) ∧
    (∀ {w w' : W} {vs : List Value}, ElemsRun w vs w' → ToksP P w.rest → ValueListP P vs) := by
  refine ValRun.induct (mV := fun w v _ => ToksP P w.rest → ValueP P v)
    (mE := fun w vs _ => ToksP P w.rest → ValueListP P vs) ?ref ?lit ?empty ?array ?last ?comma
  case ref =>
    intro w w' r _ hr hw
    unfold ValueP
    exact refString_runes hc (hr.runes hw)
  case lit =>
    intro w w' t hp _ _ hw
    unfold ValueP
    exact hw.pop hp
  case empty =>
    intro w w1 w' o c _ _ _ _ _
    unfold ValueP ValueListP
    trivial
  case array =>
    intro w w1 w2 w' o c vs hp _ _ _ ih _ _ hw
    unfold ValueP
    exact ih (hw.drop hp.drop)
  case last =>
    intro w w' v _ ih _ hw
    unfold ValueListP ValueListP
    exact ⟨ih hw, trivial⟩
  case comma =>
    intro w w1 w2 w' v c vs hv ihv hp _ _ ihe hw
    unfold ValueListP
    exact ⟨ihv hw, ihe (hw.drop (hv.drop.trans hp.drop))⟩

theorem ValRun.runes (hc : PConsts P) {w w' : W} {v : Value} (h : ValRun w v w')
    (hw : ToksP P w.rest) : ValueP P v := (ValRun.runes_aux hc).1 h hw

theorem TagRun.runes {w w' : W} {t : TagValue} (h : TagRun w t w')
    (hw : ToksP P w.rest) : TagP P t := by
  have mark : ∀ {m : TagMark} {mt : Token} {w1 : W}, MarkRun w m mt w1 → TokP P mt := by
    intro m mt w1 hm
    cases hm with
    | none _ _ => exact RunesP.nil
    | bang hp _ => exact hw.pop hp
    | question hp _ => exact hw.pop hp
  cases h with
  | ref hm _ hr =>
    exact ⟨mark hm, fun r h => (by cases h; exact hr.runes (hw.drop hm.drop)), nofun⟩
  | str hm hp _ =>
    refine ⟨mark hm, nofun, fun v h => ?_⟩
    cases h
    unfold ValueP
    exact (hw.drop hm.drop).pop hp

theorem TagsRun.runes {w w' : W} {ts : List TagValue} (h : TagsRun w ts w')
    (hw : ToksP P w.rest) : ∀ t ∈ ts, TagP P t := by
  induction h with
  | nil _ => exact List.forall_mem_nil _
  | cons _ ht _ ih => exact List.forall_mem_cons.mpr ⟨ht.runes hw, ih (hw.drop ht.drop)⟩

theorem QualsRun.runes {w w' : W} {qs : List TagValue} (h : QualsRun w qs w')
    (hw : ToksP P w.rest) : ∀ t ∈ qs, TagP P t := by
  induction h with
  | nil _ => exact List.forall_mem_nil _
  | cons hp _ ht _ ih =>
    have hw1 := hw.drop hp.drop
    exact List.forall_mem_cons.mpr ⟨ht.runes hw1, ih (hw1.drop ht.drop)⟩

theorem commentP_none : CommentP P none := fun cn h => by cases h

theorem EndRun.runes {w w' : W} {c : Option CommentNode} (h : EndRun w c w') (hw : ToksP P w.rest) :
    CommentP P c := by
  cases h with
  | plain _ _ => exact commentP_none
  | comment hp _ _ _ => exact fun _ h => by cases h; exact hw.pop hp

theorem HdrEnd.runes {w w' : W} {d : Option Description} {o : Bool} {e : Pos} {c : Option CommentNode}
    (h : HdrEnd w d o e c w') (hw : ToksP P w.rest) :
    (∀ x, d = some x → DescP P x) ∧ CommentP P c := by
  cases h with
  | opened hp _ hc => exact ⟨nofun, hc.runes (hw.drop hp.drop)⟩
  | desc hp _ =>
    refine ⟨fun x h => ?_, commentP_none⟩
    cases h
    exact ⟨ToksP.cons (hw.pop hp) ToksP.nil, hw.pop hp⟩
  | comment _ hc => exact ⟨nofun, hc.runes hw⟩
  | eol _ => exact ⟨nofun, commentP_none⟩

theorem StmtRun.runes (hc : PConsts P) {w w' : W} {f : Fragment} (h : StmtRun w f w')
    (hw : ToksP P w.rest) : FragRunes P f := by
  cases h with
  | assign hr hop hv hcm =>
    have hw2 := (hw.drop hr.drop).drop hop.drop
    exact ⟨hr.runes hw, hv.runes hc hw2, hcm.runes (hw2.drop hv.drop)⟩
  | header hr _ _ hts hqs he =>
    have hw1 := hw.drop hr.drop
    have hw2 := hw1.drop hts.drop
    obtain ⟨hd, hcm⟩ := he.runes (hw2.drop hqs.drop)
    exact ⟨hr.runes hw, hts.runes hw1, hqs.runes hw2, hd, hcm⟩

theorem DescLines.runes {w w' : W} {ds : List Token} {last : Token} (h : DescLines w ds last w')
    (hw : ToksP P w.rest) : ToksP P ds := by
  induction h with
  | stop _ _ => exact ToksP.nil
  | line hp _ hp2 _ _ ih =>
    have hw1 := hw.drop hp.drop
    exact ToksP.cons (hw1.pop hp2) (ih (hw1.drop hp2.drop))

theorem FragRun.runes (hc : PConsts P) {w w' : W} {r : Option Fragment} (h : FragRun w r w')
    (hw : ToksP P w.rest) : ∀ f, r = some f → FragRunes P f := by
  cases h with
  | blank _ _ => intro f hf; cases hf
  | close hp _ => intro f hf; cases hf; exact hw.pop hp
  | comment hp _ => intro f hf; cases hf; exact ⟨hw.pop hp, hw.pop hp⟩
  | desc hp _ hl =>
    intro f hf; cases hf
    have ht := ToksP.cons (hw.pop hp) (hl.runes (hw.drop hp.drop))
    refine ⟨ht, joinWith_runes (RunesP.cons hc.nl RunesP.nil) _ fun l hl' => ?_⟩
    obtain ⟨t, htm, rfl⟩ := List.mem_map.mp hl'
    exact ht t htm
  | stmt _ hs => intro f hf; cases hf; exact hs.runes hc hw

theorem FragsRun.runes (hc : PConsts P) {w : W} {fs : List Fragment} (h : FragsRun w fs)
    (hw : ToksP P w.rest) : ∀ f ∈ fs, FragRunes P f := by
  induction h with
  | eof _ => exact List.forall_mem_nil _
  | skip _ hr _ ih => exact ih (hw.drop hr.drop)
  | frag _ hr _ ih => exact List.forall_mem_cons.mpr ⟨hr.runes hc hw _ rfl, ih (hw.drop hr.drop)⟩

/-- the fragments read from a source of `P` runes only store `P` runes -/
theorem collectFragments_runes (hc : PConsts P) (cls : Cls) (src : List Rune) (frags : List Fragment)
    (hsrc : RunesP P src) (h : collectFragments cls src = .ok frags) :
    ∀ f ∈ frags, FragRunes P f := by
  obtain ⟨ts, hts, _, hfs⟩ := collectFragments_ok h
  exact hfs.runes hc (allTokens_runes cls true src ts hsrc hts)

/-! ### formatter -/

theorem quoteString_runes (hc : PConsts P) {lit : List Rune} (h : RunesP P lit) :
    RunesP P (quoteString lit) := by
  unfold quoteString
  refine ((RunesP.cons hc.quote RunesP.nil).append (h.flatMap ?_)).append
    (RunesP.cons hc.quote RunesP.nil)
  intro r hr
  split
  · exact RunesP.cons hc.bsl (RunesP.cons hr RunesP.nil)
  · exact RunesP.cons hr RunesP.nil

theorem doubleSlashes_runes (hc : PConsts P) {lit : List Rune} (h : RunesP P lit) :
    RunesP P (doubleSlashes lit) := by
  unfold doubleSlashes
  refine h.flatMap ?_
  intro r hr
  split
  · exact RunesP.cons hc.slash (RunesP.cons hc.slash RunesP.nil)
  · exact RunesP.cons hr RunesP.nil

theorem tokenSource_runes (hc : PConsts P) {t : Token} (h : TokP P t) : RunesP P (tokenSource t) := by
  unfold tokenSource
  split
  · exact quoteString_runes hc h
  · exact ((RunesP.cons hc.slash RunesP.nil).append (doubleSlashes_runes hc h)).append
      (RunesP.cons hc.slash RunesP.nil)
  · exact (RunesP.cons hc.pipe (RunesP.cons hc.sp RunesP.nil)).append h
  · exact (RunesP.cons hc.slash (RunesP.cons hc.slash RunesP.nil)).append h
  · exact ((RunesP.cons hc.slash (RunesP.cons hc.star RunesP.nil)).append h).append
      (RunesP.cons hc.star (RunesP.cons hc.slash RunesP.nil))
  · exact h

theorem flatMap_tokenSource_runes (hc : PConsts P) {ts : List Token} (h : ToksP P ts) :
    RunesP P (ts.flatMap tokenSource) := by
  intro x hx
  obtain ⟨t, ht, hxt⟩ := List.mem_flatMap.mp hx
  exact tokenSource_runes hc (h t ht) x hxt

theorem referenceTokens_toks (hc : PConsts P) {r : Reference} (h : RefP P r) :
    ToksP P (referenceTokens r) := by
  unfold referenceTokens
  unfold RefP at h
  generalize r.idents = ids at h
  cases ids with
  | nil => exact ToksP.nil
  | cons i is =>
    simp only []
    refine ToksP.cons (h i (by simp)).1 (ToksP.flatMap ?_)
    intro p hp
    exact ToksP.cons (tokP_new .dot (RunesP.cons hc.dot RunesP.nil))
      (ToksP.cons (h p (List.mem_cons_of_mem _ hp)).1 ToksP.nil)

mutual
theorem valueTokens_toks (hc : PConsts P) : (v : Value) → ValueP P v → ToksP P (valueTokens v)
  | .scalar t _, h => by
    simp only [ValueP] at h
    simp only [valueTokens]
    exact ToksP.cons h ToksP.nil
  | .array vs _, h => by
    simp only [ValueP] at h
    simp only [valueTokens]
    exact ((ToksP.cons (tokP_new .lbrack (RunesP.cons hc.lbrack RunesP.nil)) ToksP.nil).append
      (valueListTokens_toks hc true vs h)).append
      (ToksP.cons (tokP_new .rbrack (RunesP.cons hc.rbrack RunesP.nil)) ToksP.nil)
theorem valueListTokens_toks (hc : PConsts P) (first : Bool) :
    (vs : List Value) → ValueListP P vs → ToksP P (valueListTokens first vs)
  | [], _ => by simp only [valueListTokens]; exact ToksP.nil
  | v :: vs, h => by
    simp only [ValueListP] at h
    simp only [valueListTokens]
    refine (ToksP.append ?_ (valueTokens_toks hc v h.1)).append (valueListTokens_toks hc false vs h.2)
    cases first with
    | true => exact ToksP.nil
    | false =>
      exact ToksP.cons (tokP_new .comma (RunesP.cons hc.comma RunesP.nil))
        (ToksP.cons (tokP_new .space (RunesP.cons hc.sp RunesP.nil)) ToksP.nil)
end

theorem tagTokens_toks (hc : PConsts P) {v : TagValue} (h : TagP P v) : ToksP P (tagTokens v) := by
  unfold tagTokens
  refine (ToksP.append ?_ ?_).append ?_
  · split
    · exact ToksP.cons h.1 (ToksP.cons (tokP_new .space (RunesP.cons hc.sp RunesP.nil)) ToksP.nil)
    · exact ToksP.nil
  · split
    · rename_i tok sp heq
      have := h.2.2 _ heq
      simp only [ValueP] at this
      exact ToksP.cons this ToksP.nil
    · exact ToksP.cons RunesP.nil ToksP.nil
    · exact ToksP.nil
  · split
    · rename_i r heq
      exact referenceTokens_toks hc (h.2.1 r heq)
    · exact ToksP.nil

theorem headerTokens_toks (hc : PConsts P) {b : BlockHeader} (h : HeaderP P b) :
    ToksP P (headerTokens b) := by
  unfold headerTokens
  obtain ⟨h1, h2, h3, h4, _⟩ := h
  refine ((((referenceTokens_toks hc h1).append ?_).append ?_).append ?_).append ?_
  · exact ToksP.flatMap (fun t ht =>
      ToksP.cons (tokP_new .space (RunesP.cons hc.sp RunesP.nil)) (tagTokens_toks hc (h2 t ht)))
  · exact ToksP.flatMap (fun t ht =>
      ToksP.cons (tokP_new .colon (RunesP.cons hc.colon RunesP.nil)) (tagTokens_toks hc (h3 t ht)))
  · split
    · exact ToksP.cons (tokP_new .space (RunesP.cons hc.sp RunesP.nil))
        (ToksP.cons (tokP_new .lbrace (RunesP.cons hc.lbrace RunesP.nil)) ToksP.nil)
    · exact ToksP.nil
  · split
    · rename_i d heq
      exact ToksP.cons (tokP_new .space (RunesP.cons hc.sp RunesP.nil)) (h4 d heq).1
    · exact ToksP.nil

theorem assignTokens_toks (hc : PConsts P) {a : Assignment} (h : AssignP P a) :
    ToksP P (assignTokens a) := by
  unfold assignTokens
  refine ((referenceTokens_toks hc h.1).append ?_).append (valueTokens_toks hc _ h.2.1)
  have hsp : TokP P (newToken .space [cSP]) := tokP_new .space (RunesP.cons hc.sp RunesP.nil)
  have has : TokP P (newToken .assign [61]) := tokP_new .assign (RunesP.cons hc.assign RunesP.nil)
  have hpl : TokP P (newToken .plus [43]) := tokP_new .plus (RunesP.cons hc.plus RunesP.nil)
  split
  · exact ToksP.cons hsp (ToksP.cons hpl (ToksP.cons has (ToksP.cons hsp ToksP.nil)))
  · exact ToksP.cons hsp (ToksP.cons has (ToksP.cons hsp ToksP.nil))

theorem inlineComment_runes (hc : PConsts P) {c : Option CommentNode} (h : CommentP P c) :
    RunesP P (inlineComment c) := by
  cases c with
  | none => exact RunesP.nil
  | some cn =>
    exact (RunesP.cons hc.sp (RunesP.cons hc.slash (RunesP.cons hc.slash RunesP.nil))).append
      (h cn rfl)

theorem tabs_runes (hc : PConsts P) (n : Nat) : RunesP P (tabs n) := by
  intro r hr
  unfold tabs at hr
  rw [List.eq_of_mem_replicate hr]
  exact hc.tab

theorem singleLineFrag_runes (hc : PConsts P) (indent : Nat) (src : SourceNode) (parts : List Token)
    (hp : ToksP P parts) (hcm : CommentP P src.comment) :
    RunesP P (singleLineFrag indent src parts).newText := by
  show RunesP P (tabs indent ++ (parts.flatMap tokenSource ++ inlineComment src.comment) ++ [cNL])
  exact ((tabs_runes hc indent).append ((flatMap_tokenSource_runes hc hp).append
    (inlineComment_runes hc hcm))).append (RunesP.cons hc.nl RunesP.nil)

/-- every line of the list only holds `P` runes -/
def LinesP (P : Rune → Prop) (ls : List (List Rune)) : Prop := ∀ l ∈ ls, RunesP P l

theorem LinesP.nil : LinesP P [] := List.forall_mem_nil _

theorem LinesP.cons {a : List Rune} {l : List (List Rune)} (ha : RunesP P a) (hl : LinesP P l) :
    LinesP P (a :: l) :=
  List.forall_mem_cons.mpr ⟨ha, hl⟩

theorem LinesP.snoc {a : List Rune} {l : List (List Rune)} (hl : LinesP P l) (ha : RunesP P a) :
    LinesP P (l ++ [a]) :=
  List.forall_mem_append.mpr ⟨hl, fun x hx => by cases List.mem_singleton.mp hx; exact ha⟩

theorem LinesP.ite {c : Prop} [Decidable c] {a b : List (List Rune)} (ha : LinesP P a)
    (hb : LinesP P b) : LinesP P (if c then a else b) := by
  split
  · exact ha
  · exact hb

theorem fieldsAux_runes (cls : Cls) : ∀ (rs cur : List Rune), RunesP P rs → RunesP P cur →
    LinesP P (fieldsAux cls rs cur) := by
  intro rs
  induction rs with
  | nil =>
    intro cur _ hcur
    unfold fieldsAux
    split
    · exact LinesP.nil
    · exact LinesP.cons hcur LinesP.nil
  | cons r rs ih =>
    intro cur hrs hcur
    unfold fieldsAux
    split
    · split
      · exact ih [] hrs.tail RunesP.nil
      · exact LinesP.cons hcur (ih [] hrs.tail RunesP.nil)
    · exact ih _ hrs.tail (hcur.snoc hrs.head)

theorem fields_runes (cls : Cls) {s : List Rune} (h : RunesP P s) : LinesP P (fields cls s) :=
  fieldsAux_runes cls s [] h RunesP.nil

theorem rdWords_runes (hc : PConsts P) (maxWidth : Int) : ∀ (ws out : List (List Rune))
    (pend : List Rune), LinesP P ws → LinesP P out → RunesP P pend →
    LinesP P (rdWords maxWidth ws out pend).1 ∧ RunesP P (rdWords maxWidth ws out pend).2 := by
  intro ws
  induction ws with
  | nil => intro out pend _ ho hp; unfold rdWords; exact ⟨ho, hp⟩
  | cons word ws ih =>
    intro out pend hws ho hp
    have hw : RunesP P word := hws word (by simp)
    have hws' : LinesP P ws := fun l hl => hws l (List.mem_cons_of_mem _ hl)
    unfold rdWords
    split
    · exact ih out word hws' ho hw
    · split
      · exact ih _ word hws' (ho.snoc hp) hw
      · exact ih out _ hws' ho ((hp.append (RunesP.cons hc.sp RunesP.nil)).append hw)

theorem rdLines_runes (hc : PConsts P) (cls : Cls) (maxWidth : Int) : ∀ (ls : List (List Rune))
    (st : RDState), LinesP P ls → LinesP P st.out → RunesP P st.pend →
    LinesP P (rdLines cls maxWidth ls st).out ∧ RunesP P (rdLines cls maxWidth ls st).pend := by
  intro ls
  induction ls with
  | nil => intro st _ ho hp; unfold rdLines; exact ⟨ho, hp⟩
  | cons line ls ih =>
    intro st hls ho hp
    have hl : RunesP P line := hls line (by simp)
    have hls' : LinesP P ls := fun l hl => hls l (List.mem_cons_of_mem _ hl)
    unfold rdLines
    split
    · have ho1 : LinesP P (if st.pend ≠ [] then st.out ++ [st.pend] else st.out) := by
        split
        · exact ho.snoc hp
        · exact ho
      simp only []
      refine ih _ hls' ?_ RunesP.nil
      exact LinesP.ite (ho1.snoc RunesP.nil) ho1
    · have hw := rdWords_runes hc maxWidth (fields cls line) st.out st.pend (fields_runes cls hl) ho hp
      generalize rdWords maxWidth (fields cls line) st.out st.pend = res at hw
      obtain ⟨out, pend⟩ := res
      exact ih _ hls' hw.1 hw.2

theorem splitOn_runes (sep : Rune) : ∀ (s : List Rune), RunesP P s → LinesP P (splitOn sep s) := by
  intro s
  induction s with
  | nil => intro _; unfold splitOn; exact LinesP.cons RunesP.nil LinesP.nil
  | cons r rs ih =>
    intro h
    have ih' := ih h.tail
    unfold splitOn
    generalize splitOn sep rs = res at ih'
    cases res with
    | nil => exact LinesP.cons RunesP.nil LinesP.nil
    | cons l ls =>
      simp only []
      split
      · exact LinesP.cons RunesP.nil ih'
      · exact LinesP.cons (RunesP.cons h.head (ih' l (by simp)))
          (fun x hx => ih' x (List.mem_cons_of_mem _ hx))

theorem reformatDescription_runes (hc : PConsts P) (cls : Cls) (input : List Rune) (maxWidth : Int)
    (h : RunesP P input) : LinesP P (reformatDescription cls input maxWidth) := by
  unfold reformatDescription
  have hst := rdLines_runes hc cls maxWidth (splitOn cNL input) ⟨[], [], false⟩
    (splitOn_runes cNL input h) LinesP.nil RunesP.nil
  generalize rdLines cls maxWidth (splitOn cNL input) ⟨[], [], false⟩ = st at hst
  simp only []
  split
  · exact hst.1.snoc hst.2
  · exact hst.1

theorem trimRightSpaces_runes {s : List Rune} (h : RunesP P s) : RunesP P (trimRightSpaces s) := by
  intro r hr
  unfold trimRightSpaces at hr
  have h1 := List.mem_reverse.mp hr
  have h2 := (List.dropWhile_sublist _).subset h1
  exact h r (List.mem_reverse.mp h2)

theorem multiLineFrag_runes (hc : PConsts P) (indent : Nat) (span : Span) (pfx : List Rune)
    (lines : List (List Rune)) (hpfx : RunesP P pfx) (hl : LinesP P lines) :
    RunesP P (multiLineFrag indent span pfx lines).newText := by
  show RunesP P (joinWith [cNL] (lines.map fun part => trimRightSpaces (tabs indent ++ pfx ++ part))
    ++ [cNL])
  refine (joinWith_runes (RunesP.cons hc.nl RunesP.nil) _ ?_).append (RunesP.cons hc.nl RunesP.nil)
  intro l hlm
  obtain ⟨part, hp, rfl⟩ := List.mem_map.mp hlm
  exact trimRightSpaces_runes (((tabs_runes hc indent).append hpfx).append (hl part hp))

theorem fmtFragment_runes (hc : PConsts P) (cls : Cls) (indent : Nat) (f : Fragment)
    (h : FragRunes P f) : RunesP P (fmtFragment cls indent f).1.newText := by
  cases f with
  | header b =>
    show RunesP P (singleLineFrag indent b.src (headerTokens b)).newText
    have hb : HeaderP P b := h
    exact singleLineFrag_runes hc _ _ _ (headerTokens_toks hc hb) hb.2.2.2.2
  | assign a =>
    show RunesP P (singleLineFrag indent a.src (assignTokens a)).newText
    have ha : AssignP P a := h
    exact singleLineFrag_runes hc _ _ _ (assignTokens_toks hc ha) ha.2.2
  | desc d =>
    have hd : DescP P d := h
    unfold fmtFragment
    simp only []
    refine multiLineFrag_runes hc _ _ _ _ (RunesP.cons hc.pipe (RunesP.cons hc.sp RunesP.nil)) ?_
    split
    · exact LinesP.cons RunesP.nil LinesP.nil
    · exact reformatDescription_runes hc cls _ _ hd.2
  | comment c =>
    have hcm : TokP P c.token ∧ RunesP P c.value := h
    show RunesP P (singleLineFrag indent ⟨c.span.start, c.span.end_, none⟩ [c.token]).newText
    exact singleLineFrag_runes hc _ _ _ (ToksP.cons hcm.1 ToksP.nil) commentP_none
  | close c =>
    have hcl : TokP P c.token := h
    show RunesP P (singleLineFrag (indent - 1) ⟨c.span.start, c.span.end_, none⟩ [c.token]).newText
    exact singleLineFrag_runes hc _ _ _ (ToksP.cons hcl ToksP.nil) commentP_none

theorem diffFile_runes (hc : PConsts P) (cls : Cls) : ∀ (frags : List Fragment) (indent : Nat),
    (∀ f ∈ frags, FragRunes P f) → ∀ d ∈ diffFile cls indent frags, RunesP P d.newText := by
  intro frags
  induction frags with
  | nil => intro indent _ d hd; unfold diffFile at hd; cases hd
  | cons f fs ih =>
    intro indent h d hd
    rw [diffFile_cons] at hd
    rcases List.mem_cons.mp hd with e | e
    · rw [e]; exact fmtFragment_runes hc cls indent f (h f (by simp))
    · exact ih _ (fun x hx => h x (List.mem_cons_of_mem _ hx)) d e

theorem fmtJoin_runes (hc : PConsts P) : ∀ (ds : List FmtFrag) (le : Option Nat),
    (∀ d ∈ ds, RunesP P d.newText) → RunesP P (fmtJoin ds le) := by
  intro ds
  induction ds with
  | nil => intro le _; unfold fmtJoin; exact RunesP.nil
  | cons d ds ih =>
    intro le h
    rw [fmtJoin_cons]
    refine RunesP.append ?_ ((h d (by simp)).append (ih _ (fun x hx => h x (List.mem_cons_of_mem _ hx))))
    split
    · exact RunesP.cons hc.nl RunesP.nil
    · exact RunesP.nil

end Runes

/-- **Part 2**: `Fmt` only prints runes of its input and the punctuation `fmtConsts` -/
theorem fmt_runes (cls : Cls) (P : Rune → Prop) (hP : ∀ r ∈ fmtConsts, P r) (src out : List Rune)
    (hsrc : ∀ r ∈ src, P r) (h : fmt cls src = .ok out) : ∀ r ∈ out, P r := by
  obtain ⟨frags, hcf, rfl⟩ := fmt_ok_inv cls src out h
  have hc := PConsts.of_list hP
  exact fmtJoin_runes hc _ none
    (diffFile_runes hc cls frags 0 (collectFragments_runes hc cls src frags hsrc hcf))

/-! ## Part 3: byte-level corollaries -/

theorem validRune_consts : ∀ r ∈ fmtConsts, validRune r = true := by decide

/-- the text `Fmt` prints for a decoded source survives `string(…)` / `[]rune(…)` -/
theorem decode_encode_fmt (cls : Cls) (bytes : List Nat) (text : List Rune)
    (h : fmt cls (decodeRunes bytes) = .ok text) : decodeRunes (encodeRunes text) = text :=
  decode_encode text (fmt_runes cls (fun r => validRune r = true) validRune_consts _ _
    (decodeRunes_valid bytes) h)

/-- `Fmt` is idempotent on byte strings -/
theorem fmtSrc_idempotent (cls : Cls) (hcls : ClsOK cls) (bytes out : List Nat)
    (h : fmtSrc cls bytes = .ok out) : fmtSrc cls out = .ok out := by
  obtain ⟨text, hf, rfl⟩ := fmtSrc_ok_inv cls bytes out h
  have hd := decode_encode_fmt cls bytes text hf
  have hi := fmt_idempotent cls hcls _ _ hf
  unfold fmtSrc
  rw [hd, hi]

/-- a source that parses is formatted to a source that parses to an equivalent tree, on bytes -/
theorem parse_roundtrip_bytes (cls : Cls) (hcls : ClsOK cls) (bytes : List Nat) (ff : Bool) (f : File)
    (h : parseFile cls (decodeRunes bytes) ff = .tree f) :
    ∃ out, fmtSrc cls bytes = .ok out ∧
      ∃ f', parseFile cls (decodeRunes out) ff = .tree f' ∧ File.equiv cls f' f := by
  obtain ⟨text, hf, f', hp, he⟩ := parse_roundtrip cls hcls _ ff f h
  have hd := decode_encode_fmt cls bytes text hf
  refine ⟨encodeRunes text, ?_, f', ?_, he⟩
  · unfold fmtSrc; rw [hf]
  · rw [hd]; exact hp

end J5V.Bcl

