import J5V.Bcl.PartsOKProofs
import J5V.Bcl.LexSegProofs
import J5V.Bcl.EraseProofs
import J5V.Bcl.WalkRun
import J5V.Bcl.ReadBackSpec
/-!
# The walker reads the canonical tokens of a formatted file back to the normalised fragments
(lemmas for C09: `walkFragments_fileToks`).  For every node a derivation in the grammar of `WalkRun` is built
over its canonical tokens.  These carry position `0:0`, but the token read last is arbitrary at the start: where
a node ends at the walker's position (a header without `{`), that this is `0:0` is earned from the tokens read
(`currentPos_zero_of_drop`).
-/
namespace J5V.Bcl

theorem canonParts_nil : canonParts [] = [] := rfl

theorem canonParts_append (a b : List Token) : canonParts (a ++ b) = canonParts a ++ canonParts b := by
  simp [canonParts, List.filter_append]

theorem canonParts_cons_spaceTok (lit : List Rune) (ps : List Token) :
    canonParts (newToken .space lit :: ps) = canonParts ps :=
  canonParts_cons_space ps rfl

theorem canonParts_flatMap {α : Type} (f : α → List Token) (l : List α) :
    canonParts (l.flatMap f) = l.flatMap (fun x => canonParts (f x)) := by
  induction l with
  | nil => rfl
  | cons x xs ih => simp [List.flatMap_cons, canonParts_append, ih]

theorem canonTok_newToken (ty : TokenType) (lit : List Rune) (h1 : ty ≠ .ident) (h2 : ty ≠ .bool) :
    canonTok (newToken ty lit) = ⟨ty, lit, ⟨0, 0⟩, ⟨0, 0⟩⟩ := by
  simp [canonTok, lexTy, newToken, h1, h2]

theorem canonTok_ty_ne {t : Token} (h1 : t.ty ≠ .ident) (h2 : t.ty ≠ .bool) : canonTok t = t.erase := by
  unfold canonTok; rw [lexTy_of_not_identlike t h1 h2]; rfl

theorem canonTok_asIdent {t : Token} (h : t.ty = .ident) : (canonTok t).asIdent = some t.erase := by
  unfold canonTok lexTy Token.asIdent Token.erase
  simp only [h, true_or, if_true]
  by_cases hb : t.lit = litTrue ∨ t.lit = litFalse
  · simp only [hb, if_true]
  · simp only [hb, if_false]

theorem canonTok_ident_ty {t : Token} (h : t.ty = .ident) :
    (canonTok t).ty = .ident ∨ (canonTok t).ty = .bool := by
  unfold canonTok lexTy
  simp only [h, true_or, if_true]
  split <;> simp

@[simp] theorem headTy_nil : headTy [] = none := rfl
@[simp] theorem headTy_cons (t : Token) (ts : List Token) : headTy (t :: ts) = some t.ty := rfl

theorem nextType_eq (prev : Option Token) (ts : List Token) :
    (⟨prev, ts⟩ : W).nextType = (headTy ts).getD .eof := by
  cases ts <;> rfl

theorem canonParts_refTail (is : List Ident) (h : ∀ j ∈ is, j.token.ty = .ident) :
    canonParts (is.flatMap fun p => [newToken .dot [cDOT], p.token]) = refTailToks is := by
  induction is with
  | nil => rfl
  | cons p ps ih =>
    have hpt : p.token.ty ≠ .space := by rw [h p (by simp)]; decide
    simp only [List.flatMap_cons, refTailToks, List.cons_append, List.nil_append]
    rw [canonParts_cons _ (by simp [newToken]), canonParts_cons _ hpt,
      canonTok_newToken _ _ (by decide) (by decide), ih (fun j hj => h j (by simp [hj]))]
    rfl

theorem canonParts_referenceTokens (i : Ident) (is : List Ident) (sp : Span)
    (h : ∀ j ∈ i :: is, j.token.ty = .ident) :
    canonParts (referenceTokens ⟨i :: is, sp⟩) = canonTok i.token :: refTailToks is := by
  have hi : i.token.ty ≠ .space := by rw [h i (by simp)]; decide
  simp only [referenceTokens]
  rw [canonParts_cons _ hi, canonParts_refTail is (fun j hj => h j (by simp [hj]))]

theorem newReference_erased (l : List Ident) (h : l ≠ []) :
    newReference (l.map Ident.erase) = some ⟨l.map Ident.erase, Span.zero⟩ := by
  unfold newReference
  have h1 : (l.map Ident.erase).head? = some (l.head h).erase := by
    cases l with
    | nil => exact absurd rfl h
    | cons a as => rfl
  have h2 : (l.map Ident.erase).getLast? = some (l.getLast h).erase := by
    rw [List.getLast?_map, List.getLast?_eq_some_getLast h]; rfl
  rw [h1, h2]
  rfl

theorem ident_erase_of_wf {cls : Cls} {i : Ident} (h : IdentWF cls i) :
    (⟨i.token.erase, i.token.erase.lit, ⟨i.token.erase.start, i.token.erase.end_⟩⟩ : Ident) = i.erase := by
  unfold Ident.erase Span.zero
  rw [h.2.2]
  rfl

theorem nextType_ne_of_headTy {prev : Option Token} {ts : List Token} {ty : TokenType}
    (h : headTy ts ≠ some ty) (hne : ty ≠ .eof) : (⟨prev, ts⟩ : W).nextType ≠ ty := by
  cases ts with
  | nil => intro e; exact hne (by simpa [W.nextType] using e.symm)
  | cons x xs =>
    intro e
    apply h
    simpa [W.nextType] using e

theorem idents_canon (cls : Cls) : ∀ (is : List Ident) (i : Ident) (prev : Option Token)
    (rest : List Token), (∀ j ∈ i :: is, IdentWF cls j) → headTy rest ≠ some .dot →
    ∃ p, Idents ⟨prev, canonTok i.token :: refTailToks is ++ rest⟩ ((i :: is).map Ident.erase) ⟨p, rest⟩ := by
  intro is
  induction is with
  | nil =>
    intro i prev rest hwf hrest
    have hi := hwf i (by simp)
    refine ⟨some (canonTok i.token), ?_⟩
    rw [List.map_singleton, ← ident_erase_of_wf hi]
    exact .last (.mk ..) (canonTok_asIdent hi.1) (nextType_ne_of_headTy hrest (by decide))
  | cons j js ih =>
    intro i prev rest hwf hrest
    have hi := hwf i (by simp)
    obtain ⟨p, hp⟩ := ih j (some dotTok) rest (fun k hk => hwf k (List.mem_cons_of_mem _ hk)) hrest
    refine ⟨p, ?_⟩
    rw [List.map_cons, ← ident_erase_of_wf hi]
    exact .dot (.mk ..) (canonTok_asIdent hi.1) (.mk ..) rfl hp

theorem refRun_canon (cls : Cls) (r : Reference) (hwf : RefWF cls r) (prev : Option Token)
    (rest : List Token) (hrest : headTy rest ≠ some .dot) :
    ∃ p, RefRun ⟨prev, canonParts (referenceTokens r) ++ rest⟩ r.erase ⟨p, rest⟩ := by
  obtain ⟨ids, sp⟩ := r
  obtain ⟨hne, hall⟩ := hwf
  cases ids with
  | nil => exact absurd rfl hne
  | cons i is =>
    rw [canonParts_referenceTokens i is sp (fun j hj => (hall j hj).1)]
    obtain ⟨p, hp⟩ := idents_canon cls is i prev rest hall hrest
    exact ⟨p, _, hp, newReference_erased _ (by simp)⟩

theorem referenceToks_head (cls : Cls) (r : Reference) (hwf : RefWF cls r) :
    ∃ t ts, canonParts (referenceTokens r) = t :: ts ∧ (t.ty = .ident ∨ t.ty = .bool) := by
  obtain ⟨ids, sp⟩ := r
  obtain ⟨hne, hall⟩ := hwf
  cases ids with
  | nil => exact absurd rfl hne
  | cons i is =>
    rw [canonParts_referenceTokens i is sp (fun j hj => (hall j hj).1)]
    exact ⟨_, _, rfl, canonTok_ident_ty (hall i (by simp)).1⟩

theorem VOK_of_ValueWF {cls : Cls} {v : Value} (h : ValueWF cls v) : VOK cls v := by
  cases v with
  | scalar t sp => unfold ValueWF at h; exact h.1
  | array vs sp => unfold ValueWF at h; exact h

theorem canonTok_scalar {cls : Cls} {t : Token} (h : ScalarWF cls t) : canonTok t = t.erase := by
  unfold canonTok; rw [lexTy_scalar cls t h]; rfl

theorem scalar_ne_space {cls : Cls} {t : Token} (h : ScalarWF cls t) : t.ty ≠ .space := by
  intro e
  have := h.2.1
  rw [e] at this
  simp [TokenType.isLiteral] at this

mutual
theorem canonParts_valueTokens (cls : Cls) : (v : Value) → VOK cls v →
    canonParts (valueTokens v) = valToks v
  | .scalar t sp, h => by
    unfold valueTokens valToks
    rw [canonParts_cons _ (scalar_ne_space h), canonTok_scalar h]
    rfl
  | .array vs sp, h => by
    unfold valueTokens valToks
    rw [canonParts_append, canonParts_append, canonParts_cons _ (by simp [newToken]),
      canonTok_newToken _ _ (by decide) (by decide), canonParts_nil]
    have := canonParts_valueListTokens cls vs true h
    simp only [List.cons_append, List.nil_append]
    rw [canonParts_append] at this
    simp only [true_or, if_true, List.nil_append] at this
    exact congrArg (List.cons lbrackTok) this
theorem canonParts_valueListTokens (cls : Cls) : (vs : List Value) → (first : Bool) →
    ValueListWF cls vs →
    canonParts (valueListTokens first vs ++ [newToken .rbrack [93]]) =
      (if first = true ∨ vs = [] then [] else [commaTok]) ++ elemsToks vs
  | [], first, _ => by
    unfold valueListTokens elemsToks
    simp only [List.nil_append, or_true, if_true]
    rw [canonParts_cons _ (by simp [newToken]), canonTok_newToken _ _ (by decide) (by decide)]
    rfl
  | v :: vs, first, h => by
    unfold ValueListWF at h
    unfold valueListTokens elemsToks
    have hv := canonParts_valueTokens cls v (VOK_of_ValueWF h.1)
    have hvs := canonParts_valueListTokens cls vs false h.2
    rw [List.append_assoc, List.append_assoc, canonParts_append, canonParts_append, hv, hvs]
    congr 1
    · cases first with
      | true => simp [canonParts_nil]
      | false =>
        simp only [Bool.false_eq_true, if_false, false_or, List.cons_ne_nil]
        rw [canonParts_cons _ (by simp [newToken]), canonParts_cons_spaceTok,
          canonTok_newToken _ _ (by decide) (by decide)]
        rfl
    · congr 1
      cases vs <;> simp
end

theorem valToks_head (cls : Cls) (v : Value) (h : VOK cls v) :
    ∃ t ts, valToks v = t :: ts ∧ t.ty ≠ .ident ∧ (t.ty.isLiteral = true ∨ t.ty = .lbrack) := by
  cases v with
  | scalar t sp =>
    unfold VOK at h
    exact ⟨t.erase, [], by simp [valToks], h.1, Or.inl h.2.1⟩
  | array vs sp => exact ⟨lbrackTok, elemsToks vs, by simp [valToks], by decide, Or.inr rfl⟩

theorem elemsToks_cons₂ (v v' : Value) (vs : List Value) (rest : List Token) :
    elemsToks (v :: v' :: vs) ++ rest = valToks v ++ commaTok :: (elemsToks (v' :: vs) ++ rest) := by
  conv => lhs; unfold elemsToks
  simp

mutual
theorem valRun_canon (cls : Cls) : (v : Value) → VOK cls v → ∀ (prev : Option Token)
    (rest : List Token), ∃ p, ValRun ⟨prev, valToks v ++ rest⟩ v.erase ⟨p, rest⟩
  | .scalar t _, hv, _, _ => ⟨_, .lit (.mk ..) hv.1 hv.2.1⟩
  | .array [] _, _, _, _ => ⟨_, .empty (.mk ..) rfl (.mk ..) rfl⟩
  | .array (v :: vs) _, hv, _, rest => by
    obtain ⟨p, hp⟩ := elemsRun_canon cls (v :: vs) (by simp) hv (some lbrackTok) rest
    obtain ⟨t, ts, e, _, htl⟩ := valToks_head cls v (VOK_of_ValueWF hv.1)
    -- the first element does not start with `]`
    have hn : (⟨some lbrackTok, elemsToks (v :: vs) ++ rest⟩ : W).nextType ≠ .rbrack := by
      unfold elemsToks
      rw [e]
      intro (hc : t.ty = .rbrack)
      rcases htl with h | h <;> rw [hc] at h <;> cases h
    refine ⟨some rbrackTok, ?_⟩
    rw [Value.erase, Value.eraseList_eq_map]
    exact .array (.mk ..) rfl hn hp (.mk ..) rfl
theorem elemsRun_canon (cls : Cls) : (vs : List Value) → vs ≠ [] → ValueListWF cls vs →
    ∀ (prev : Option Token) (rest : List Token), ∃ p, ElemsRun ⟨prev, elemsToks vs ++ rest⟩
      (vs.map Value.erase) ⟨p, rbrackTok :: rest⟩
  | [], h, _, _, _ => absurd rfl h
  | [v], _, hv, prev, rest => by
    obtain ⟨p, hp⟩ := valRun_canon cls v (VOK_of_ValueWF hv.1) prev (rbrackTok :: rest)
    have e : elemsToks [v] ++ rest = valToks v ++ rbrackTok :: rest := by simp [elemsToks]
    rw [e]
    exact ⟨p, .last hp rfl⟩
  | v :: v' :: vs, _, hv, prev, rest => by
    obtain ⟨p, hp⟩ := valRun_canon cls v (VOK_of_ValueWF hv.1) prev
      (commaTok :: (elemsToks (v' :: vs) ++ rest))
    obtain ⟨q, hq⟩ := elemsRun_canon cls (v' :: vs) (by simp) hv.2 (some commaTok) rest
    rw [elemsToks_cons₂]
    exact ⟨q, .comma hp (.mk ..) rfl hq⟩
end

theorem tagToks_eq (cls : Cls) (t : TagValue) (h : TagWF cls t) :
    tagToks t = (if t.mark ≠ .none then [t.markToken.erase] else []) ++ tagBodyToks t := by
  obtain ⟨hm, hv⟩ := h
  unfold tagToks tagTokens tagBodyToks
  rw [List.append_assoc, canonParts_append, canonParts_append]
  congr 1
  · by_cases hmk : t.mark = .none
    · simp [hmk, canonParts_nil]
    · have hty : t.markToken.ty ≠ .space ∧ t.markToken.ty ≠ .ident ∧ t.markToken.ty ≠ .bool := by
        rcases (hm.marked hmk).1 with ⟨_, e⟩ | ⟨_, e⟩ <;> rw [e] <;> decide
      rw [if_pos hmk, if_pos hmk, canonParts_cons _ hty.1, canonParts_cons_spaceTok, canonParts_nil,
        canonTok_ty_ne hty.2.1 hty.2.2]
  · congr 1
    · rcases hv with ⟨r, h1, h2, _⟩ | ⟨tok, sp, h1, h2, h3⟩
      · rw [h2]; rfl
      · rw [h2]
        simp only []
        rw [canonParts_cons _ (by rw [h3]; decide), canonParts_nil,
          canonTok_ty_ne (by rw [h3]; decide) (by rw [h3]; decide)]
    · rcases hv with ⟨r, h1, h2, _⟩ | ⟨tok, sp, h1, h2, h3⟩
      · rw [h1]
      · rw [h1]; rfl

theorem tagToks_head (cls : Cls) (t : TagValue) (hwf : TagWF cls t) :
    ∃ x xs, tagToks t = x :: xs ∧ x.ty.canStartTag = true := by
  rw [tagToks_eq cls t hwf]
  obtain ⟨hm, hv⟩ := hwf
  have bodyHead : ∃ x xs, tagBodyToks t = x :: xs ∧ x.ty.canStartTag = true := by
    unfold tagBodyToks
    rcases hv with ⟨r, h1, h2, h3⟩ | ⟨tok, sp, h1, h2, h3⟩
    · rw [h1, h2]
      obtain ⟨x, xs, e, hx⟩ := referenceToks_head cls r h3
      refine ⟨x, xs, by simpa using e, ?_⟩
      rcases hx with h | h <;> rw [h] <;> rfl
    · rw [h1, h2]
      exact ⟨tok.erase, [], rfl, by simp [h3, TokenType.canStartTag]⟩
  by_cases hmk : t.mark = .none
  · simpa [hmk] using bodyHead
  · refine ⟨t.markToken.erase, tagBodyToks t, by simp [hmk], ?_⟩
    rcases (hm.marked hmk).1 with ⟨_, e⟩ | ⟨_, e⟩ <;> rw [Token.erase_ty, e] <;> rfl

theorem tagRun_canon (cls : Cls) (t : TagValue) (hwf : TagWF cls t) (prev : Option Token)
    (rest : List Token) (hrest : headTy rest ≠ some .dot) :
    ∃ p, TagRun ⟨prev, tagToks t ++ rest⟩ t.erase ⟨p, rest⟩ := by
  rw [tagToks_eq cls t hwf]
  obtain ⟨hm, hv⟩ := hwf
  -- the mark, in front of a body `B` whose first token is not a mark
  have mark : ∀ (B : List Token) (x : Token) (xs : List Token), B = x :: xs → x.ty ≠ .bang →
      x.ty ≠ .question → ∃ p1, MarkRun
        ⟨prev, (if t.mark ≠ .none then [t.markToken.erase] else []) ++ B ++ rest⟩ t.mark
        t.markToken.erase ⟨p1, B ++ rest⟩ := by
    intro B x xs e h1 h2
    by_cases hmk : t.mark = .none
    · have hzero : t.markToken = Token.zero := by unfold MarkWF at hm; rw [hmk] at hm; exact hm
      rw [if_neg (fun h => h hmk), hmk, hzero, e]
      exact ⟨prev, .none h1 h2⟩
    · rw [if_pos hmk]
      rcases (hm.marked hmk).1 with ⟨e1, e2⟩ | ⟨e1, e2⟩ <;> rw [e1]
      · exact ⟨_, .bang (.mk ..) e2⟩
      · exact ⟨_, .question (.mk ..) e2⟩
  unfold tagBodyToks
  rcases hv with ⟨r, h1, h2, h3⟩ | ⟨tok, sp, h1, h2, h3⟩
  · obtain ⟨x, xs, e, hx⟩ := referenceToks_head cls r h3
    obtain ⟨p1, hmark⟩ := mark (canonParts (referenceTokens r)) x xs e
      (by rcases hx with h | h <;> rw [h] <;> decide) (by rcases hx with h | h <;> rw [h] <;> decide)
    obtain ⟨p, hr⟩ := refRun_canon cls r h3 p1 rest hrest
    refine ⟨p, ?_⟩
    show TagRun _ ⟨t.mark, t.markToken.erase, t.reference.map Reference.erase,
      t.value.map Value.erase, Span.zero⟩ _
    rw [h1, h2]
    simp only [List.nil_append]
    exact .ref hmark (by rw [e]; exact hx) hr
  · obtain ⟨p1, hmark⟩ := mark [tok.erase] tok.erase [] rfl (by simp [h3])
      (by simp [h3])
    refine ⟨some tok.erase, ?_⟩
    show TagRun _ ⟨t.mark, t.markToken.erase, t.reference.map Reference.erase,
      t.value.map Value.erase, Span.zero⟩ _
    rw [h1, h2]
    simp only [List.append_nil]
    exact .str hmark (.mk ..) h3

theorem headTy_append_of_cons {a : List Token} {x : Token} {xs : List Token} (h : a = x :: xs)
    (b : List Token) : headTy (a ++ b) = some x.ty := by
  rw [h]; rfl

/-- if the list starts with a token, its kind is in `S`: what the walker's loops look at to go on or to stop -/
def Starts (S : TokenType → Prop) (l : List Token) : Prop := ∀ ty, headTy l = some ty → S ty

theorem Starts.ne {S : TokenType → Prop} {l : List Token} {ty : TokenType} (h : Starts S l) (hty : ¬ S ty) :
    headTy l ≠ some ty := fun e => hty (h ty e)

theorem tagsToks_starts (cls : Cls) (ts : List TagValue) (hwf : ∀ t ∈ ts, TagWF cls t) {S : TokenType → Prop}
    {rest : List Token} (h : Starts S rest) :
    Starts (fun ty => ty.canStartTag = true ∨ S ty) (ts.flatMap tagToks ++ rest) := by
  cases ts with
  | nil => exact fun ty e => Or.inr (h ty (by simpa using e))
  | cons t ts' =>
    obtain ⟨x, xs, e, hx⟩ := tagToks_head cls t (hwf t (by simp))
    simp only [List.flatMap_cons, List.append_assoc]
    rw [Starts, headTy_append_of_cons e]
    exact fun ty e' => by cases e'; exact Or.inl hx

theorem tagsRun_canon (cls : Cls) : ∀ (tags : List TagValue) (prev : Option Token)
    (rest : List Token), (∀ t ∈ tags, TagWF cls t) →
    (∀ ty, headTy rest = some ty → ty.canStartTag = false) → headTy rest ≠ some .dot →
    ∃ p, TagsRun ⟨prev, tags.flatMap tagToks ++ rest⟩ (tags.map TagValue.erase) ⟨p, rest⟩ := by
  intro tags
  induction tags with
  | nil =>
    intro prev rest _ hrest _
    refine ⟨prev, .nil ?_⟩
    rw [List.flatMap_nil, List.nil_append, nextType_eq]
    cases h : headTy rest with
    | none => rfl
    | some ty => exact hrest ty h
  | cons t ts ih =>
    intro prev rest hwf hrest hdot
    obtain ⟨x, xs, e, hx⟩ := tagToks_head cls t (hwf t (by simp))
    have hdot' : headTy (ts.flatMap tagToks ++ rest) ≠ some .dot :=
      (tagsToks_starts cls ts (fun u hu => hwf u (by simp [hu])) (S := (· ≠ .dot))
        (fun ty e h => hdot (h ▸ e))).ne (by simp [TokenType.canStartTag])
    obtain ⟨p, hp⟩ := tagRun_canon cls t (hwf t (by simp)) prev (ts.flatMap tagToks ++ rest) hdot'
    obtain ⟨p', h'⟩ := ih p rest (fun u hu => hwf u (by simp [hu])) hrest hdot
    refine ⟨p', ?_⟩
    rw [List.flatMap_cons, List.append_assoc]
    exact .cons (by rw [e]; exact hx) hp h'

theorem qualsRun_canon (cls : Cls) : ∀ (quals : List TagValue) (prev : Option Token)
    (rest : List Token), (∀ t ∈ quals, TagWF cls t) → headTy rest ≠ some .colon →
    headTy rest ≠ some .dot →
    ∃ p, QualsRun ⟨prev, qualsToks quals ++ rest⟩ (quals.map TagValue.erase) ⟨p, rest⟩ := by
  intro quals
  induction quals with
  | nil =>
    intro prev rest _ hrest _
    exact ⟨prev, .nil (nextType_ne_of_headTy hrest (by decide))⟩
  | cons t ts ih =>
    intro prev rest hwf hrest hdot
    have hdot' : headTy (qualsToks ts ++ rest) ≠ some .dot := by
      cases ts with
      | nil => simpa [qualsToks] using hdot
      | cons u us => simp [qualsToks, colonTok]
    obtain ⟨p, hp⟩ := tagRun_canon cls t (hwf t (by simp)) (some colonTok) (qualsToks ts ++ rest) hdot'
    obtain ⟨p', h'⟩ := ih p rest (fun u hu => hwf u (by simp [hu])) hrest hdot
    have e : qualsToks (t :: ts) ++ rest = colonTok :: (tagToks t ++ (qualsToks ts ++ rest)) := by
      simp [qualsToks]
    rw [e]
    exact ⟨p', .cons (.mk ..) rfl hp h'⟩

theorem endRun_canon (cm : Option CommentNode) (prev : Option Token) (rest : List Token) :
    EndRun ⟨prev, commentToks cm ++ eolTok :: rest⟩ (cm.map CommentNode.erase) ⟨some eolTok, rest⟩ := by
  cases cm with
  | none => exact .plain (t := eolTok) rfl (Or.inl rfl)
  | some c => exact .comment (t2 := eolTok) (.mk ..) rfl rfl (Or.inl rfl)

theorem canonParts_headerTokens (cls : Cls) (h : BlockHeader) (hwf : HeaderWF cls h) :
    canonParts (headerTokens h) = canonParts (referenceTokens h.type) ++
      (h.tags.flatMap tagToks ++ (qualsToks h.qualifiers ++ hdrEndToks h)) := by
  unfold headerTokens hdrEndToks
  simp only [canonParts_append, List.append_assoc]
  congr 1
  congr 1
  · rw [canonParts_flatMap]
    rfl
  congr 1
  · rw [canonParts_flatMap]
    rfl
  congr 1
  · cases h.isOpen with
    | true =>
      simp only [if_true]
      rw [canonParts_cons_spaceTok, canonParts_cons _ (by simp [newToken]),
        canonTok_newToken _ _ (by decide) (by decide), canonParts_nil]
      rfl
    | false => simp [canonParts_nil]
  · cases hd : h.description with
    | none => simp [canonParts_nil]
    | some d =>
      obtain ⟨_, _, tok, h1, h2, _, _⟩ := hwf.2.2.2.2 d hd
      simp only []
      rw [canonParts_cons_spaceTok, h1, canonParts_cons _ (by rw [h2]; decide), canonParts_nil,
        canonTok_ty_ne (by rw [h2]; decide) (by rw [h2]; decide)]
      rfl

theorem hdrEnd_canon (cls : Cls) (h : BlockHeader) (hwf : HeaderWF cls h) (prev : Option Token)
    (rest : List Token)
    (hcur : (⟨prev, hdrEndToks h ++ (commentToks h.src.comment ++ eolTok :: rest)⟩ : W).currentPos = ⟨0, 0⟩) :
    ∃ w', HdrEnd ⟨prev, hdrEndToks h ++ (commentToks h.src.comment ++ eolTok :: rest)⟩
        (h.description.map Description.erase) h.isOpen ⟨0, 0⟩ (h.src.comment.map CommentNode.erase) w' ∧
      ((w'.rest = rest ∧ w'.prev = some eolTok) ∨
        (w'.rest = eolTok :: rest ∧ h.isOpen = false ∧ h.src.comment = none)) := by
  have hc0 : ∀ X : List Token, (⟨prev, X⟩ : W).currentPos = ⟨0, 0⟩ := fun _ => hcur
  clear hcur
  unfold hdrEndToks
  cases hd : h.description with
  | some d =>
    obtain ⟨ho, hc, tok, h1, h2, _, h4⟩ := hwf.2.2.2.2 d hd
    refine ⟨⟨some tok.erase, eolTok :: rest⟩, ?_, Or.inr ⟨rfl, ho, hc⟩⟩
    have e : (some d).map Description.erase =
        some ⟨[tok.erase], tok.erase.lit, ⟨tok.erase.start, tok.erase.end_⟩⟩ := by
      simp [Description.erase, h1, h4, Token.erase, Span.zero]
    rw [e, ho, hc]
    simp only [h1, Bool.false_eq_true, if_false, List.nil_append, List.map_cons, List.map_nil,
      commentToks, List.cons_append, Option.map_none]
    exact .desc (.mk ..) h2
  | none =>
    cases ho : h.isOpen with
    | true =>
      simp only [if_true, List.cons_append, List.nil_append, List.append_nil, Option.map_none]
      exact ⟨_, .opened (t := lbraceTok) (.mk ..) rfl (endRun_canon _ _ _), Or.inl ⟨rfl, rfl⟩⟩
    | false =>
      simp only [Bool.false_eq_true, if_false, List.nil_append, Option.map_none]
      cases hc : h.src.comment with
      | some c =>
        have := HdrEnd.comment (w := ⟨prev, commentToks (some c) ++ eolTok :: rest⟩) rfl
          (endRun_canon (some c) prev rest)
        rw [hc0] at this
        exact ⟨_, this, Or.inl ⟨rfl, rfl⟩⟩
      | none =>
        have := HdrEnd.eol (w := ⟨prev, commentToks none ++ eolTok :: rest⟩) (Or.inl rfl)
        rw [hc0] at this
        exact ⟨_, this, Or.inr (by simp [commentToks])⟩

theorem hdrEnd_head (cls : Cls) (h : BlockHeader) (hwf : HeaderWF cls h) (rest : List Token) :
    ∃ ty, headTy (hdrEndToks h ++ (commentToks h.src.comment ++ eolTok :: rest)) = some ty ∧ EndTy ty := by
  unfold hdrEndToks
  cases ho : h.isOpen with
  | true => exact ⟨.lbrace, rfl, Or.inl rfl⟩
  | false =>
    simp only [Bool.false_eq_true, if_false, List.nil_append]
    cases hd : h.description with
    | some d =>
      obtain ⟨_, _, tok, h1, h2, _, _⟩ := hwf.2.2.2.2 d hd
      simp only [h1, List.map_cons, List.map_nil, List.cons_append]
      exact ⟨.description, by simp [h2], Or.inr (Or.inl rfl)⟩
    | none =>
      simp only [List.nil_append]
      cases h.src.comment with
      | none => exact ⟨.eol, rfl, Or.inr (Or.inr (Or.inr rfl))⟩
      | some c => exact ⟨.comment, rfl, Or.inr (Or.inr (Or.inl rfl))⟩

theorem qualsToks_starts (qs : List TagValue) {S : TokenType → Prop} {E : List Token} (h : Starts S E) :
    Starts (fun ty => ty = .colon ∨ S ty) (qualsToks qs ++ E) := by
  cases qs with
  | nil => exact fun ty e => Or.inr (h ty (by simpa [qualsToks] using e))
  | cons q qs => exact fun ty e => Or.inl (by simpa [qualsToks, colonTok] using e.symm)

theorem canonParts_end (ps : List Token) : ∀ t ∈ canonParts ps, t.end_ = ⟨0, 0⟩ := by
  intro t ht
  obtain ⟨u, _, rfl⟩ := List.mem_map.mp ht
  rfl

theorem currentPos_zero_of_drop {w w' : W} {A : List Token} (h : Drop 1 w w')
    (hA : w.rest = A ++ w'.rest) (hz : ∀ t ∈ A, t.end_ = ⟨0, 0⟩) : w'.currentPos = ⟨0, 0⟩ := by
  obtain ⟨d, hn, e, g⟩ := h
  cases List.append_cancel_right (e.symm.trans hA)
  cases A with
  | nil => cases hn
  | cons a as =>
    unfold W.currentPos
    rw [g, List.getLast?_eq_some_getLast (List.cons_ne_nil a as)]
    exact hz _ (List.getLast_mem _)

theorem stmtRun_header (cls : Cls) (h : BlockHeader) (hwf : HeaderWF cls h) (prev : Option Token)
    (rest : List Token) :
    ∃ w', StmtRun ⟨prev, canonParts (headerTokens h) ++ (commentToks h.src.comment ++ eolTok :: rest)⟩
        (.header h.erase) w' ∧
      ((w'.rest = rest ∧ w'.prev = some eolTok) ∨
        (w'.rest = eolTok :: rest ∧ h.isOpen = false ∧ h.src.comment = none)) := by
  rw [canonParts_headerTokens cls h hwf]
  simp only [List.append_assoc]
  -- each loop of the walker stops on the next token, so what can come first behind each part is needed
  obtain ⟨ety, hE, hEty⟩ := hdrEnd_head cls h hwf rest
  generalize hEdef : hdrEndToks h ++ (commentToks h.src.comment ++ eolTok :: rest) = E at hE
  have sE : Starts EndTy E := fun ty e => by rw [hE] at e; cases e; exact hEty
  have sQ := qualsToks_starts h.qualifiers sE
  have sT := tagsToks_starts cls h.tags hwf.2.1 sQ
  obtain ⟨p, hr⟩ := refRun_canon cls h.type hwf.1 prev
    (h.tags.flatMap tagToks ++ (qualsToks h.qualifiers ++ E)) (sT.ne (by simp [EndTy, TokenType.canStartTag]))
  obtain ⟨p1, hts⟩ := tagsRun_canon cls h.tags p (qualsToks h.qualifiers ++ E) hwf.2.1
    (fun ty e => by rcases sQ ty e with r | r | r | r | r <;> rw [r] <;> rfl) (sQ.ne (by simp [EndTy]))
  obtain ⟨p2, hqs⟩ := qualsRun_canon cls h.qualifiers p1 E hwf.2.2.1 (sE.ne (by simp [EndTy]))
    (sE.ne (by simp [EndTy]))
  -- the header ends at `0:0`: the reference, the tags and the qualifiers are canonical tokens
  have hcur : (⟨p2, E⟩ : W).currentPos = ⟨0, 0⟩ :=
    currentPos_zero_of_drop (A := canonParts (referenceTokens h.type) ++
        (h.tags.flatMap tagToks ++ qualsToks h.qualifiers))
      (hr.drop.followed (hts.drop.followed hqs.drop)) (by simp)
      (fun t ht => canonParts_end (headerTokens h) t (by
        rw [canonParts_headerTokens cls h hwf]
        simp only [List.mem_append] at ht ⊢
        rcases ht with a | b | c
        · exact Or.inl a
        · exact Or.inr (Or.inl b)
        · exact Or.inr (Or.inr (Or.inl c))))
  subst hEdef
  obtain ⟨w', he, hr'⟩ := hdrEnd_canon cls h hwf p2 rest hcur
  exact ⟨w', .header hr
    (nextType_ne_of_headTy (sT.ne (by simp [EndTy, TokenType.canStartTag])) (by decide))
    (nextType_ne_of_headTy (sT.ne (by simp [EndTy, TokenType.canStartTag])) (by decide)) hts hqs he, hr'⟩

theorem VOK_of_TopValueWF {cls : Cls} {v : Value} {cm : Option CommentNode}
    (h : TopValueWF cls v cm) : VOK cls v := by
  cases v with
  | scalar t sp => exact h.1
  | array vs sp => exact h

theorem canonParts_assignTokens (cls : Cls) (a : Assignment) (hwf : AssignWF cls a) :
    canonParts (assignTokens a) = canonParts (referenceTokens a.key) ++
      ((if a.append then [plusTok, assignTok] else [assignTok]) ++ valToks a.value) := by
  unfold assignTokens
  rw [canonParts_append, canonParts_append, List.append_assoc,
    canonParts_valueTokens cls a.value (VOK_of_TopValueWF hwf.2.1)]
  congr 2
  cases a.append with
  | true =>
    simp only [if_true]
    rw [canonParts_cons_spaceTok, canonParts_cons _ (by simp [newToken]), canonParts_cons _ (by simp [newToken]),
      canonParts_cons_spaceTok, canonParts_nil, canonTok_newToken _ _ (by decide) (by decide),
      canonTok_newToken _ _ (by decide) (by decide)]
    rfl
  | false =>
    simp only [Bool.false_eq_true, if_false]
    rw [canonParts_cons_spaceTok, canonParts_cons _ (by simp [newToken]),
      canonParts_cons_spaceTok, canonParts_nil, canonTok_newToken _ _ (by decide) (by decide)]
    rfl

theorem stmtRun_assign (cls : Cls) (a : Assignment) (hwf : AssignWF cls a) (prev : Option Token)
    (rest : List Token) :
    StmtRun ⟨prev, canonParts (assignTokens a) ++ (commentToks a.src.comment ++ eolTok :: rest)⟩
      (.assign a.erase) ⟨some eolTok, rest⟩ := by
  rw [canonParts_assignTokens cls a hwf]
  simp only [List.append_assoc]
  have hv := VOK_of_TopValueWF hwf.2.1
  have hres : Fragment.assign a.erase = .assign ⟨a.key.erase, a.value.erase, a.append,
      ⟨a.key.erase.span.start, a.value.erase.span.end_, a.src.comment.map CommentNode.erase⟩⟩ := by
    simp [Assignment.erase, SourceNode.erase, Span.zero]
  rw [hres]
  cases happ : a.append with
  | false =>
    simp only [Bool.false_eq_true, if_false, List.cons_append, List.nil_append]
    obtain ⟨p, hr⟩ := refRun_canon cls a.key hwf.1 prev
      (assignTok :: (valToks a.value ++ (commentToks a.src.comment ++ eolTok :: rest)))
      (by simp [assignTok])
    obtain ⟨q, hq⟩ := valRun_canon cls a.value hv (some assignTok)
      (commentToks a.src.comment ++ eolTok :: rest)
    exact .assign hr (.set (.mk ..) rfl) hq (endRun_canon _ _ _)
  | true =>
    simp only [if_true, List.cons_append, List.nil_append]
    obtain ⟨p, hr⟩ := refRun_canon cls a.key hwf.1 prev
      (plusTok :: assignTok :: (valToks a.value ++ (commentToks a.src.comment ++ eolTok :: rest)))
      (by simp [plusTok])
    obtain ⟨q, hq⟩ := valRun_canon cls a.value hv (some assignTok)
      (commentToks a.src.comment ++ eolTok :: rest)
    exact .assign hr (.append (.mk ..) rfl (.mk ..) rfl) hq (endRun_canon _ _ _)

theorem descLineToks_cons (l : List Rune) (ls : List (List Rune)) :
    descLineToks (l :: ls) = descTok l :: (descRestToks ls ++ [eolTok]) := by
  induction ls generalizing l with
  | nil => rfl
  | cons l' ls ih =>
    have := ih l'
    simp only [descLineToks, List.flatMap_cons, List.cons_append, List.nil_append, descRestToks] at this ⊢
    rw [this]

theorem descLines_canon : ∀ (ls : List (List Rune)) (last : Token) (rest : List Token),
    last.end_ = ⟨0, 0⟩ → headTy rest ≠ some .description →
    ∃ l, DescLines ⟨some last, descRestToks ls ++ eolTok :: rest⟩ (ls.map descTok) l
      ⟨some l, eolTok :: rest⟩ ∧ l.end_ = ⟨0, 0⟩ := by
  intro ls
  induction ls with
  | nil =>
    intro last rest hl hrest
    refine ⟨last, .stop rfl ?_, hl⟩
    rintro ⟨e, d, rs, h1, _, h3⟩
    cases h1
    exact hrest (by simp [h3])
  | cons l ls ih =>
    intro last rest _ hrest
    obtain ⟨l', h', hl'⟩ := ih (descTok l) rest rfl hrest
    have e : descRestToks (l :: ls) ++ eolTok :: rest =
        eolTok :: descTok l :: (descRestToks ls ++ eolTok :: rest) := by
      simp [descRestToks]
    rw [e]
    exact ⟨l', .line (.mk ..) rfl (.mk ..) rfl h', hl'⟩

theorem lineToks_append (parts : List Token) (cm : Option CommentNode) (rest : List Token) :
    lineToks parts cm ++ rest = canonParts parts ++ (commentToks cm ++ eolTok :: rest) := by
  simp [lineToks]

theorem lineToks_single {t : Token} (h1 : t.ty ≠ .space) (h2 : t.ty ≠ .ident) (h3 : t.ty ≠ .bool) :
    lineToks [t] none = [t.erase, eolTok] := by
  simp only [lineToks]
  rw [canonParts_cons _ h1, canonParts_nil, canonTok_ty_ne h2 h3]
  rfl

theorem fragToks_close (cls : Cls) (indent : Nat) (c : CloseBlock) (hwf : CloseWF cls c) :
    fragToks cls indent (.close c) = [c.token.erase, eolTok] :=
  lineToks_single (by rw [hwf.1]; decide) (by rw [hwf.1]; decide) (by rw [hwf.1]; decide)

theorem fragToks_comment (cls : Cls) (indent : Nat) (c : Comment) (hwf : CommentWF cls c) :
    fragToks cls indent (.comment c) = [c.token.erase, eolTok] := by
  have h : c.token.ty ≠ .space ∧ c.token.ty ≠ .ident ∧ c.token.ty ≠ .bool := by
    rcases hwf.1 with h | h <;> rw [h] <;> decide
  exact lineToks_single h.1 h.2.1 h.2.2

theorem NoEnd.close (c : CloseBlock) : NoEnd (.close c) :=
  ⟨(fun a ha => by cases ha), (fun h hh => by cases hh)⟩
theorem NoEnd.comment (c : Comment) : NoEnd (.comment c) :=
  ⟨(fun a ha => by cases ha), (fun h hh => by cases hh)⟩
theorem NoEnd.desc (d : Description) : NoEnd (.desc d) :=
  ⟨(fun a ha => by cases ha), (fun h hh => by cases hh)⟩
theorem NoEnd.header {h : BlockHeader} (h1 : h.isOpen = false) (h2 : h.src.comment = none) :
    NoEnd (.header h) :=
  ⟨(fun a ha => by cases ha), (fun h' hh => by cases hh; exact ⟨h1, h2⟩)⟩

theorem fragRun_frag (cls : Cls) (indent : Nat) (f : Fragment) (hwf : FragWF cls f)
    (prev : Option Token) (rest : List Token)
    (hdesc : ∀ d, f = .desc d → headTy rest ≠ some .description) :
    ∃ w', FragRun ⟨prev, fragToks cls indent f ++ rest⟩ (some (normFrag cls indent f)) w' ∧
      ((w'.rest = rest ∧ w'.prev = some eolTok) ∨ (w'.rest = eolTok :: rest ∧ NoEnd f)) := by
  cases f with
  | header h =>
    have hwf' : HeaderWF cls h := hwf
    simp only [fragToks]
    rw [lineToks_append]
    obtain ⟨t, ts, e, hty⟩ := referenceToks_head cls h.type hwf'.1
    obtain ⟨w', hs, hr⟩ := stmtRun_header cls h hwf' prev rest
    refine ⟨w', .stmt ?_ hs, hr.imp id fun ⟨h1, h2, h3⟩ => ⟨h1, NoEnd.header h2 h3⟩⟩
    rw [canonParts_headerTokens cls h hwf', e]
    exact hty
  | assign a =>
    have hwf' : AssignWF cls a := hwf
    simp only [fragToks]
    rw [lineToks_append]
    obtain ⟨t, ts, e, hty⟩ := referenceToks_head cls a.key hwf'.1
    refine ⟨_, .stmt ?_ (stmtRun_assign cls a hwf' prev rest), Or.inl ⟨rfl, rfl⟩⟩
    rw [canonParts_assignTokens cls a hwf', e]
    exact hty
  | close c =>
    have hwf' : CloseWF cls c := hwf
    rw [fragToks_close cls indent c hwf']
    exact ⟨⟨some c.token.erase, eolTok :: rest⟩, .close (.mk ..) hwf'.1, Or.inr ⟨rfl, NoEnd.close c⟩⟩
  | comment c =>
    have hwf' : CommentWF cls c := hwf
    rw [fragToks_comment cls indent c hwf']
    have hres : normFrag cls indent (.comment c) = .comment ⟨c.token.erase, c.token.erase.lit,
        ⟨c.token.erase.start, c.token.erase.end_⟩⟩ := by
      simp [normFrag, Fragment.erase, Comment.erase, hwf'.2.2, Token.erase, Span.zero]
    rw [hres]
    exact ⟨⟨some c.token.erase, eolTok :: rest⟩, .comment (.mk ..) hwf'.1, Or.inr ⟨rfl, NoEnd.comment c⟩⟩
  | desc d =>
    simp only [fragToks, normFrag]
    have hne := (descLines_ok cls indent d).1
    cases hl : descLines cls indent d with
    | nil => exact absurd hl hne
    | cons l ls =>
      obtain ⟨last, hlines, hle⟩ := descLines_canon ls (descTok l) rest rfl (hdesc d rfl)
      rw [descLineToks_cons]
      simp only [List.cons_append, List.append_assoc, List.nil_append]
      refine ⟨⟨some last, eolTok :: rest⟩, ?_, Or.inr ⟨rfl, NoEnd.desc d⟩⟩
      have hres : Fragment.desc ⟨(l :: ls).map descTok, joinWith [cNL] (l :: ls), Span.zero⟩ =
          .desc (mkDescription (descTok l :: ls.map descTok) (descTok l) last) := by
        simp [mkDescription, descTok, Function.comp_def, hle, Span.zero]
      rw [hres]
      exact .desc (.mk ..) rfl hlines

/-- `nextFragment` reads the canonical tokens of a well-formed fragment back to the normalised fragment;
the fragment's final EOL is consumed or is the next token -/
theorem nextFragment_frag (cls : Cls) (pfuel : Nat) (indent : Nat) (f : Fragment) (hwf : FragWF cls f)
    (prev : Option Token) (rest : List Token)
    (hdesc : ∀ d, f = .desc d → headTy rest ≠ some .description)
    (hfuel : 2 * (fragToks cls indent f).length ≤ pfuel) :
    ∃ prev' rest', nextFragment pfuel ⟨prev, fragToks cls indent f ++ rest⟩ =
        .ok (some (normFrag cls indent f)) ⟨prev', rest'⟩ ∧
      ((rest' = rest ∧ prev' = some eolTok) ∨ (rest' = eolTok :: rest ∧ NoEnd f)) := by
  obtain ⟨⟨prev', rest'⟩, h, hr⟩ := fragRun_frag cls indent f hwf prev rest hdesc
  refine ⟨prev', rest', h.run ?_, hr⟩
  have : rest.length ≤ rest'.length := by rcases hr with ⟨e, _⟩ | ⟨e, _⟩ <;> simp at e <;> simp [e]
  simp only [List.length_append]
  omega

/-! ## the fragment loop over a whole file, followed by blank lines -/

theorem fragToks_head (cls : Cls) (indent : Nat) (f : Fragment) (hwf : FragWF cls f) :
    ∃ x xs, fragToks cls indent f = x :: xs ∧ ((∃ d, f = .desc d) ∨ x.ty ≠ .description) := by
  cases f with
  | header h =>
    have hwf' : HeaderWF cls h := hwf
    obtain ⟨t, ts, e, hty⟩ := referenceToks_head cls h.type hwf'.1
    refine ⟨t, ts ++ (h.tags.flatMap tagToks ++ (qualsToks h.qualifiers ++ hdrEndToks h)) ++
      (commentToks h.src.comment ++ [eolTok]), ?_, Or.inr ?_⟩
    · simp only [fragToks, lineToks, canonParts_headerTokens cls h hwf', e]
      simp
    · rcases hty with q | q <;> rw [q] <;> decide
  | assign a =>
    have hwf' : AssignWF cls a := hwf
    obtain ⟨t, ts, e, hty⟩ := referenceToks_head cls a.key hwf'.1
    refine ⟨t, ts ++ ((if a.append then [plusTok, assignTok] else [assignTok]) ++ valToks a.value) ++
      (commentToks a.src.comment ++ [eolTok]), ?_, Or.inr ?_⟩
    · simp only [fragToks, lineToks, canonParts_assignTokens cls a hwf', e]
      simp
    · rcases hty with q | q <;> rw [q] <;> decide
  | close c =>
    have hwf' : CloseWF cls c := hwf
    exact ⟨c.token.erase, [eolTok], fragToks_close cls indent c hwf',
      Or.inr (by simp [hwf'.1])⟩
  | comment c =>
    have hwf' : CommentWF cls c := hwf
    refine ⟨c.token.erase, [eolTok], fragToks_comment cls indent c hwf', Or.inr ?_⟩
    rcases hwf'.1 with h | h <;> simp [h]
  | desc d =>
    have hne := (descLines_ok cls indent d).1
    cases hl : descLines cls indent d with
    | nil => exact absurd hl hne
    | cons l ls =>
      refine ⟨descTok l, descRestToks ls ++ [eolTok], ?_, Or.inl ⟨d, rfl⟩⟩
      simp only [fragToks, hl, descLineToks_cons]

theorem fileToks_cons (cls : Cls) (indent : Nat) (lastEnd : Option Nat) (f : Fragment)
    (fs : List Fragment) :
    fileToks cls indent lastEnd (f :: fs) =
      (if gapBefore lastEnd (fmtFragment cls indent f).1.fromLine then [eolTok] else []) ++
        (fragToks cls indent f ++ fileToks cls (fmtFragment cls indent f).2
          (some (fmtFragment cls indent f).1.toLine) fs) := by
  simp [fileToks]

theorem fileToks_after_desc (cls : Cls) (indent : Nat) (d : Description) (fs : List Fragment)
    (hwf : ∀ f ∈ fs, FragWF cls f) (hg : DescGaps (.desc d :: fs)) :
    headTy (fileToks cls (fmtFragment cls indent (.desc d)).2
      (some (fmtFragment cls indent (.desc d)).1.toLine) fs) ≠ some .description := by
  cases fs with
  | nil => simp [fileToks]
  | cons g gs =>
    rw [fileToks_cons]
    obtain ⟨x, xs, e, hx⟩ := fragToks_head cls (fmtFragment cls indent (.desc d)).2 g (hwf g (by simp))
    rcases hx with ⟨e', rfl⟩ | hx
    · have hgap := hg.1 d e' rfl rfl
      have : gapBefore (some (fmtFragment cls indent (.desc d)).1.toLine)
          (fmtFragment cls (fmtFragment cls indent (.desc d)).2 (.desc e')).1.fromLine = true := by
        simp only [fmtFragment, multiLineFrag, gapBefore]
        simpa using hgap
      rw [this]
      simp [eolTok]
    · cases hgp : gapBefore (some (fmtFragment cls indent (.desc d)).1.toLine)
          (fmtFragment cls (fmtFragment cls indent (.desc d)).2 g).1.fromLine with
      | true => simp [eolTok]
      | false =>
        simp only [Bool.false_eq_true, if_false, List.nil_append]
        rw [e]
        simpa using hx

theorem fileToks_cons_facts (cls : Cls) (indent : Nat) (f : Fragment) (fs : List Fragment)
    (hwf : ∀ g ∈ f :: fs, FragWF cls g) (hg : DescGaps (f :: fs)) :
    (∀ g ∈ fs, FragWF cls g) ∧ DescGaps fs ∧
      ∀ d, f = .desc d → headTy (fileToks cls (fmtFragment cls indent f).2
        (some (fmtFragment cls indent f).1.toLine) fs) ≠ some .description := by
  have hwf_fs : ∀ g ∈ fs, FragWF cls g := fun g hg' => hwf g (by simp [hg'])
  refine ⟨hwf_fs, ?_, ?_⟩
  · cases fs with
    | nil => trivial
    | cons g gs => exact hg.2
  · rintro d rfl
    exact fileToks_after_desc cls indent d fs hwf_fs hg

theorem headTy_append_eols (R : List Token) (k : Nat) (h : headTy R ≠ some .description) :
    headTy (R ++ List.replicate k eolTok) ≠ some .description := by
  cases R with
  | cons x xs => simpa using h
  | nil =>
    cases k with
    | zero => simp
    | succ k => simp [List.replicate_succ, eolTok]

theorem fragsRun_eols : ∀ (k : Nat) (prev : Option Token),
    FragsRun ⟨prev, List.replicate k eolTok⟩ []
  | 0, _ => .eof rfl
  | k + 1, _ => .skip (by simp [W.nextType, List.replicate_succ, eolTok])
      (.blank (t := eolTok) (Or.inr rfl) rfl) (fragsRun_eols k _)

/-- `k` further EOL tokens may follow (`TreeText.renderFile` ends with one more than `Fmt`'s output) -/
theorem fragsRun_fileToks (cls : Cls) (k : Nat) : ∀ (frags : List Fragment) (indent : Nat)
    (lastEnd : Option Nat) (prev : Option Token), (∀ f ∈ frags, FragWF cls f) → DescGaps frags →
    FragsRun ⟨prev, fileToks cls indent lastEnd frags ++ List.replicate k eolTok⟩
      (normFrags cls indent frags) := by
  intro frags
  induction frags with
  | nil => intro indent lastEnd prev _ _; exact fragsRun_eols k prev
  | cons f fs ih =>
    intro indent lastEnd prev hwf hg
    obtain ⟨hwf_fs, hg_fs, hdesc⟩ := fileToks_cons_facts cls indent f fs hwf hg
    rw [fileToks_cons]
    generalize hR : fileToks cls (fmtFragment cls indent f).2
      (some (fmtFragment cls indent f).1.toLine) fs = R at hdesc
    have hR' := fun p => hR ▸ ih (fmtFragment cls indent f).2 (some (fmtFragment cls indent f).1.toLine) p
      hwf_fs hg_fs
    -- from the state in front of the fragment's tokens
    have main : ∀ prev1 : Option Token,
        FragsRun ⟨prev1, fragToks cls indent f ++ (R ++ List.replicate k eolTok)⟩
          (normFrags cls indent (f :: fs)) := by
      intro prev1
      obtain ⟨⟨p', r'⟩, hfr, hr⟩ := fragRun_frag cls indent f (hwf f (by simp)) prev1
        (R ++ List.replicate k eolTok) (fun d hd => headTy_append_eols R k (hdesc d hd))
      refine .frag hfr.ne_eof_eol.1 hfr ?_
      rcases hr with ⟨rfl, _⟩ | ⟨rfl, _⟩
      · exact hR' p'
      · exact .skip (by simp [W.nextType, eolTok]) (.blank (t := eolTok) (Or.inr rfl) rfl) (hR' _)
    cases hgp : gapBefore lastEnd (fmtFragment cls indent f).1.fromLine with
    | false =>
      simp only [Bool.false_eq_true, if_false, List.nil_append, List.append_assoc]
      exact main prev
    | true =>
      simp only [if_true, List.cons_append, List.nil_append, List.append_assoc]
      exact .skip (by simp [W.nextType, eolTok]) (.blank (t := eolTok) (Or.inr rfl) rfl) (main _)

theorem loop_fileToks_trail (cls : Cls) (pf : Nat) (k : Nat) (frags : List Fragment) (indent : Nat)
    (lastEnd : Option Nat) (prev : Option Token) (acc : List Fragment) (fuel : Nat)
    (hwf : ∀ f ∈ frags, FragWF cls f) (hg : DescGaps frags)
    (hpf : 2 * ((fileToks cls indent lastEnd frags).length + k) ≤ pf)
    (hf : (fileToks cls indent lastEnd frags).length + k < fuel) :
    walkFragmentsLoop true pf fuel ⟨prev, fileToks cls indent lastEnd frags ++ List.replicate k eolTok⟩ acc [] =
      .done (acc ++ normFrags cls indent frags) [] :=
  (fragsRun_fileToks cls k frags indent lastEnd prev hwf hg).run fuel acc [] (by simpa using hf)
    (by simpa using hpf)

/-- **the walker reads the canonical tokens of a formatted file back to the normalised fragments** -/
theorem walkFragments_fileToks (cls : Cls) (frags : List Fragment) (hwf : ∀ f ∈ frags, FragWF cls f)
    (hg : DescGaps frags) :
    walkFragments true (fileToks cls 0 none frags) = .done (normFrags cls 0 frags) [] := by
  simpa using (fragsRun_fileToks cls 0 frags 0 none none hwf hg).done

end J5V.Bcl
