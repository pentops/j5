import J5V.Bcl.ErrPrint
import J5V.Go.OutcomeLemmas
/-! Lemmas for `C11_render_total`: `humanString` never reaches a `.panic` arm. -/
namespace J5V.Bcl
open J5V.Go

theorem contextLoop_no_panic (lines : List (List Nat)) (startLine : Int)
    (h : startLine ≤ (lines.length : Int)) (k : Nat) :
    ∃ out, contextLoop lines startLine k = .ok out := by
  induction k with
  | zero => exact ⟨[], rfl⟩
  | succ k ih =>
    obtain ⟨rest, hrest⟩ := ih
    unfold contextLoop
    simp only []
    split
    · exact ⟨rest, hrest⟩
    · rename_i hge
      have hlt : (startLine - ((k + 1 : Nat) : Int) - 1).toNat < lines.length := by omega
      rw [List.getElem?_eq_getElem hlt]
      simp only [hrest]
      exact ⟨_, rfl⟩

theorem humanString_no_panic (pos : Option IPosition) (lines : List (List Nat)) (context : Int) :
    ∃ out, humanString pos lines context = .ok out := by
  unfold humanString
  cases pos with
  | none => exact ⟨_, rfl⟩
  | some p =>
    -- `exists_ok_ite` instead of `split`, which has to rewrite the whole rendered text at every branch
    refine exists_ok_ite (fun _ => ⟨_, rfl⟩) fun _ => ?_
    refine exists_ok_ite (fun _ => ⟨_, rfl⟩) fun _ => ?_
    refine exists_ok_ite (fun _ => ⟨_, rfl⟩) fun hle => ?_
    obtain ⟨ctx, hctx⟩ := contextLoop_no_panic lines (p.start.line + 1) (by omega) context.toNat
    rw [hctx]
    refine exists_ok_ite (fun _ => ⟨_, rfl⟩) fun hin => ?_
    have hlt : (p.start.line + 1 - 1).toNat < lines.length := by omega
    rw [List.getElem?_eq_getElem hlt]
    refine exists_ok_ite (fun _ => ⟨_, rfl⟩) fun hcol => ?_
    -- `hcol` puts the column inside the line (with the blank appended at its end): the slice is in bounds
    exact exists_ok_ite (fun hhi => by omega) fun _ => ⟨_, rfl⟩

theorem humanStringParts_no_panic (lines : List (List Nat)) (context : Int)
    (errs : List (Option IPosition)) (first : Bool) :
    ∃ out, humanStringParts lines context errs first = .ok out := by
  induction errs generalizing first with
  | nil => exact ⟨[], rfl⟩
  | cons e es ih =>
    obtain ⟨s, hs⟩ := humanString_no_panic e lines context
    obtain ⟨rest, hrest⟩ := ih false
    unfold humanStringParts
    rw [hs]; simp only [hrest]
    exact ⟨_, rfl⟩

theorem humanStringAll_no_panic (errs : List (Option IPosition)) (lines : List (List Nat))
    (context : Int) : ∃ out, humanStringAll errs lines context = .ok out := by
  unfold humanStringAll
  split
  · exact ⟨_, rfl⟩
  · obtain ⟨parts, hp⟩ := humanStringParts_no_panic lines context errs true
    rw [hp]
    exact ⟨_, rfl⟩

end J5V.Bcl
