import J5V.Bcl.LexSegProofs
import J5V.Bcl.PartsOKProofs
import J5V.Bcl.FragWFProofs
import J5V.Bcl.WalkInvProofs
import J5V.Bcl.TreeEquivProofs
import J5V.Bcl.FirstErrorProofs
/-!
# Formatting, then lexing and walking the output, gives the same fragments (lemmas for C09)

What the formatter prints is the source text of a list of tokens (`fileToks`), and reading back goes through
these: the text lexes to tokens whose erasure is `fileToks` (segment by segment, `LexSeg`), the walker never looks
at positions, so it returns what it returns on `fileToks`, the normal form of the fragments (`fmt_roundtrip`);
the normal form differs in re-flowed descriptions only and denotes the same document (`normFrags_equiv`).
`fragment_roundtrip` is the same for one fragment alone.
-/
namespace J5V.Bcl

theorem ClsOK.clsNL {cls : Cls} (h : ClsOK cls) : ClsNL cls :=
  h.sep cNL (by simp [sepRunes])

theorem lexSeg_fragment (cls : Cls) (hcls : ClsOK cls) (indent : Nat) (f : Fragment)
    (hwf : FragWF cls f) (c : Cur) (tail : List Rune) :
    LexBack cls c (fmtFragment cls indent f).1.newText tail (fragToks cls indent f) := by
  cases f with
  | header h =>
    have hwf' : HeaderWF cls h := hwf
    exact LexSeg.singleLine hcls indent h.src (headerTokens h) c tail hwf'.2.2.2.1
      (headerTokens_partsOK cls hcls h hwf' tail)
  | assign a =>
    have hwf' : AssignWF cls a := hwf
    exact LexSeg.singleLine hcls indent a.src (assignTokens a) c tail hwf'.2.2
      (assignTokens_partsOK cls hcls a hwf' tail)
  | close cl =>
    have hwf' : CloseWF cls cl := hwf
    exact LexSeg.singleLine hcls (indent - 1) ⟨cl.span.start, cl.span.end_, none⟩ [cl.token] c tail
      (fun cn h => by cases h) (by simpa [inlineComment] using closeToken_partsOK cls cl hwf' tail)
  | comment cm =>
    have hwf' : CommentWF cls cm := hwf
    exact LexSeg.singleLine hcls indent ⟨cm.span.start, cm.span.end_, none⟩ [cm.token] c tail
      (fun cn h => by cases h) (by simpa [inlineComment] using commentToken_partsOK cls cm hwf' tail)
  | desc d => exact LexSeg.descFrag hcls indent d d.span c tail

theorem diffFile_cons (cls : Cls) (indent : Nat) (f : Fragment) (fs : List Fragment) :
    diffFile cls indent (f :: fs) =
      (fmtFragment cls indent f).1 :: diffFile cls (fmtFragment cls indent f).2 fs := by
  simp [diffFile]

theorem fmtJoin_cons (d : FmtFrag) (ds : List FmtFrag) (lastEnd : Option Nat) :
    fmtJoin (d :: ds) lastEnd =
      (if gapBefore lastEnd d.fromLine then [cNL] else []) ++
        (d.newText ++ fmtJoin ds (some d.toLine)) := by
  cases lastEnd with
  | none => simp [fmtJoin, gapBefore]
  | some e =>
    by_cases h : d.fromLine > e <;> simp [fmtJoin, gapBefore, h]

theorem lexBack_fmtJoin (cls : Cls) (hcls : ClsOK cls) : ∀ (frags : List Fragment) (indent : Nat)
    (lastEnd : Option Nat) (c : Cur), (∀ f ∈ frags, FragWF cls f) →
    LexBack cls c (fmtJoin (diffFile cls indent frags) lastEnd) [] (fileToks cls indent lastEnd frags) := by
  intro frags
  induction frags with
  | nil => intro indent lastEnd c _; exact .nil
  | cons f fs ih =>
    intro indent lastEnd c hwf
    rw [diffFile_cons, fmtJoin_cons, fileToks_cons]
    exact (LexBack.gap _ c _).append fun c1 =>
      (lexSeg_fragment cls hcls indent f (hwf f (by simp)) c1 _).append fun c2 =>
        ih _ _ c2 fun g hg => hwf g (by simp [hg])

theorem lexAll_fmtJoin (cls : Cls) (hcls : ClsOK cls) (frags : List Fragment) (indent : Nat)
    (lastEnd : Option Nat) (c : Cur) (hwf : ∀ f ∈ frags, FragWF cls f) :
    ∃ toks, LexAll cls c (fmtJoin (diffFile cls indent frags) lastEnd) toks ∧
      toks.map Token.erase = fileToks cls indent lastEnd frags :=
  (lexBack_fmtJoin cls hcls frags indent lastEnd c hwf).lexAll

/-- **round trip at the fragment level**: the formatter's output lexes without error and the walker
reads it back to fragments whose erasure is the normal form of the original fragments -/
theorem fmt_roundtrip (cls : Cls) (hcls : ClsOK cls) (src : List Rune) (frags : List Fragment)
    (h : collectFragments cls src = .ok frags) :
    fmt cls src = .ok (fmtJoin (diffFile cls 0 frags) none) ∧
    ∃ ts' frags', allTokens cls true (fmtJoin (diffFile cls 0 frags) none) = .toks ts' ∧
      ts'.map Token.erase = fileToks cls 0 none frags ∧
      walkFragments true ts' = .done frags' [] ∧
      frags'.map Fragment.erase = normFrags cls 0 frags := by
  have hwf := collectFragments_fragWF cls src frags h
  have hgaps := collectFragments_descGaps cls hcls.clsNL src frags h
  refine ⟨by simp [fmt, h], ?_⟩
  obtain ⟨ts', hlex, hts⟩ := lexAll_fmtJoin cls hcls frags 0 none Cur.init hwf
  obtain ⟨fr, hw, hfr⟩ := walkFragments_done_of_erase (ff := true) (ts := ts')
    (by rw [hts]; exact walkFragments_fileToks cls frags hwf hgaps)
  exact ⟨ts', fr, (allTokens_toks_iff cls true _ _).mpr hlex, hts, hw, hfr⟩

/-! ## the normal form denotes the same document -/

theorem joinWith_descLines (cls : Cls) (indent : Nat) (d : Description) :
    joinWith [cNL] (descLines cls indent d) =
      joinWith [cNL] (reformatDescription cls d.value (80 - (indent : Int) * 4)) := by
  unfold descLines
  simp only []
  split
  · rename_i h; rw [h]; rfl
  · rfl

/-- a fragment whose erasure is the normal form of `f`: a description whose text is the re-flowed text
of `f`, or a fragment with the erasure of `f` -/
theorem normFrag_cases {cls : Cls} {indent : Nat} {f' f : Fragment}
    (h : f'.erase = normFrag cls indent f) :
    (∃ d' d, f' = .desc d' ∧ f = .desc d ∧ d'.value = joinWith [cNL] (descLines cls indent d)) ∨
      ((∀ d, f ≠ .desc d) ∧ f'.erase = f.erase) := by
  cases f with
  | desc d =>
    cases f' <;> simp only [normFrag, Fragment.erase, Fragment.desc.injEq, reduceCtorEq] at h
    exact Or.inl ⟨_, d, rfl, rfl, congrArg Description.value h⟩
  | _ => exact Or.inr ⟨(fun d hd => nomatch hd), h⟩

theorem Fragment.equiv_of_erase_eq (cls : Cls) {f' f : Fragment} (h : f'.erase = f.erase)
    (hnd : ∀ d, f ≠ .desc d) : Fragment.equiv cls f' f := by
  cases f <;> cases f' <;> simp only [Fragment.erase, reduceCtorEq] at h
  case desc.desc d d' => exact absurd rfl (hnd d)
  case header.header => exact Fragment.header.inj h
  case assign.assign => exact Fragment.assign.inj h
  case comment.comment => exact Fragment.comment.inj h
  case close.close => exact Fragment.close.inj h

theorem equiv_of_normFrag (cls : Cls) (hsp : cls.isSpace cSP = true) (indent : Nat) (f' f : Fragment)
    (h : f'.erase = normFrag cls indent f) : Fragment.equiv cls f' f := by
  rcases normFrag_cases h with ⟨d', d, rfl, rfl, hv⟩ | ⟨hnd, he⟩
  · show DescEquiv cls d' d
    unfold DescEquiv
    rw [hv, joinWith_descLines]
    exact reformat_preserves_words cls hsp d.value _
  · exact Fragment.equiv_of_erase_eq cls he hnd

theorem normFrags_equiv (cls : Cls) (hsp : cls.isSpace cSP = true) : ∀ (frags frags' : List Fragment)
    (indent : Nat), frags'.map Fragment.erase = normFrags cls indent frags →
    Fragment.equivList cls frags' frags := by
  intro frags
  induction frags with
  | nil =>
    intro frags' indent h
    cases frags' with
    | nil => trivial
    | cons a as => simp [normFrags] at h
  | cons f fs ih =>
    intro frags' indent h
    cases frags' with
    | nil => simp [normFrags] at h
    | cons f' fs' =>
      simp only [normFrags, List.map_cons, List.cons.injEq] at h
      exact ⟨equiv_of_normFrag cls hsp indent f' f h.1, ih fs' _ h.2⟩

/-! ## one fragment, on the real tokens -/

/-- mirror of a walker step: what `nextFragment` does on the erased state determines what it does on
the real state -/
theorem nextFragment_mirror (fuel : Nat) (w : W) (x : Option Fragment) (we : W)
    (h : nextFragment fuel w.erase = .ok x we) :
    ∃ x' w', nextFragment fuel w = .ok x' w' ∧ x'.map Fragment.erase = x ∧ w'.erase = we := by
  have hm := nextFragment_erase fuel w
  rw [h] at hm
  cases hr : nextFragment fuel w with
  | ok a w1 =>
    rw [hr] at hm
    simp only [WR.erase, WR.ok.injEq] at hm
    exact ⟨a, w1, rfl, hm.1.symm, hm.2.symm⟩
  | fail e w1 => rw [hr] at hm; simp [WR.erase] at hm
  | panic s => rw [hr] at hm; simp [WR.erase] at hm

/-- `nextFragment_mirror` for the grammar; the fuel it needs is supplied here, once -/
theorem FragRun.mirror {w we : W} {x : Option Fragment} (h : FragRun w.erase x we) :
    ∃ x' w', FragRun w x' w' ∧ x'.map Fragment.erase = x ∧ w'.erase = we := by
  obtain ⟨x', w', hx, hxe, hwe⟩ := nextFragment_mirror (2 * w.erase.rest.length) w x we
    (h.run (Nat.mul_le_mul_left 2 (Nat.sub_le _ _)))
  exact ⟨x', w', nextFragment_sound hx, hxe, hwe⟩

/-- **one fragment**: the text printed for a well-formed fragment (any indent, any lexer state, any
following text) lexes to tokens from which `nextFragment` reads a fragment denoting the same thing.
(`rest` = the tokens that follow; after a description they must not start with a description.) -/
theorem fragment_roundtrip (cls : Cls) (hcls : ClsOK cls) (indent : Nat) (f : Fragment)
    (hwf : FragWF cls f) (c : Cur) (tail : List Rune) :
    ∃ new c', LexSeg cls c (fmtFragment cls indent f).1.newText tail new c' ∧
      ∀ (prev : Option Token) (rest : List Token) (pfuel : Nat),
        (∀ d, f = .desc d → headTy rest ≠ some .description) → 2 * new.length ≤ pfuel →
        ∃ f' w', nextFragment pfuel ⟨prev, new ++ rest⟩ = .ok (some f') w' ∧
          Fragment.equiv cls f' f := by
  obtain ⟨new, c', hnew, hseg⟩ := lexSeg_fragment cls hcls indent f hwf c tail
  refine ⟨new, c', hseg, ?_⟩
  intro prev rest pfuel hdesc hfuel
  have hlen : new.length = (fragToks cls indent f).length := by rw [← hnew]; simp
  obtain ⟨prev', rest', hn, _⟩ := nextFragment_frag cls pfuel indent f hwf (prev.map Token.erase)
    (rest.map Token.erase)
    (fun d hd => by
      have := hdesc d hd
      cases rest with
      | nil => simp
      | cons x xs => simpa [headTy, Token.erase] using this)
    (by rw [← hlen]; exact hfuel)
  have he : (⟨prev, new ++ rest⟩ : W).erase =
      ⟨prev.map Token.erase, fragToks cls indent f ++ rest.map Token.erase⟩ := by
    simp [W.erase, hnew]
  rw [← he] at hn
  obtain ⟨x', w', hx, hxe, _⟩ := nextFragment_mirror pfuel _ _ _ hn
  cases x' with
  | none => simp at hxe
  | some f' =>
    simp only [Option.map_some, Option.some.injEq] at hxe
    exact ⟨f', w', hx, equiv_of_normFrag cls hcls.spSpace indent f' f hxe⟩


/-- **whole-file round trip**: if the parser accepts `src` (tree `f`), then `Fmt` succeeds and its
output is accepted with a tree denoting the same document -/
theorem parse_roundtrip (cls : Cls) (hcls : ClsOK cls) (src : List Rune) (ff : Bool) (f : File)
    (h : parseFile cls src ff = .tree f) :
    ∃ out, fmt cls src = .ok out ∧ ∃ f', parseFile cls out ff = .tree f' ∧ File.equiv cls f' f := by
  obtain ⟨f1, h1, hb1⟩ := parseFile_tree_true cls src ff f h
  obtain ⟨ts, frags, hts, hwk, hf1, herr⟩ := parseFile_tree_inv h1
  have hcf := collectFragments_of hts hwk
  obtain ⟨hfmt, ts', frags', hts', _, hwk', hnorm⟩ := fmt_roundtrip cls hcls src frags hcf
  have heq := normFrags_equiv cls hcls.spSpace frags frags' 0 hnorm
  obtain ⟨hfe, herr'⟩ := fragmentsToFile_equiv cls frags' frags heq
  have hp' := parseFile_tree_of hts' hwk' (herr'.mpr herr)
  obtain ⟨f0, hp0, hb0⟩ := parseFile_tree_false cls _ ff _ hp'
  refine ⟨_, hfmt, f0, hp0, ?_⟩
  unfold File.equiv at hfe ⊢
  rw [hb0, ← hb1, hf1]
  exact hfe

end J5V.Bcl
