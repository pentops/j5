import J5V.Bcl.FmtInv
/-!
# What the read-back statements speak of

The canonical tokens (position `0:0`) node by node, written out as the walker meets them; `headTy`, the kind of
the token that follows; `NoEnd`.  Definitions only.
-/
namespace J5V.Bcl

/-- the type of the first token of a list, `none` at the end -/
def headTy (ts : List Token) : Option TokenType := ts.head?.map (·.ty)

def dotTok : Token := ⟨.dot, [cDOT], ⟨0, 0⟩, ⟨0, 0⟩⟩

/-- canonical tokens of the identifiers after the first one -/
def refTailToks (is : List Ident) : List Token := is.flatMap fun p => [dotTok, canonTok p.token]

def lbrackTok : Token := ⟨.lbrack, [91], ⟨0, 0⟩, ⟨0, 0⟩⟩
def rbrackTok : Token := ⟨.rbrack, [93], ⟨0, 0⟩, ⟨0, 0⟩⟩
def commaTok : Token := ⟨.comma, [44], ⟨0, 0⟩, ⟨0, 0⟩⟩

mutual
/-- canonical tokens of a value -/
def valToks : Value → List Token
  | .scalar tok _ => [tok.erase]
  | .array vs _ => lbrackTok :: elemsToks vs
/-- canonical tokens of the elements of an array, with the commas and the closing bracket -/
def elemsToks : List Value → List Token
  | [] => [rbrackTok]
  | v :: vs => valToks v ++ ((match vs with | [] => [] | _ :: _ => [commaTok]) ++ elemsToks vs)
end

/-- the hypothesis under which a value is read back: scalars are literal tokens, arrays contain no
line-ending tokens -/
def VOK (cls : Cls) : Value → Prop
  | .scalar t _ => ScalarWF cls t
  | .array vs _ => ValueListWF cls vs

/-- canonical tokens of a tag -/
def tagToks (t : TagValue) : List Token := canonParts (tagTokens t)

/-- canonical tokens of a tag after its mark: a string or a reference -/
def tagBodyToks (t : TagValue) : List Token :=
  (match t.value with | some (.scalar tok _) => [tok.erase] | _ => []) ++
    (match t.reference with | some r => canonParts (referenceTokens r) | none => [])

def colonTok : Token := ⟨.colon, [58], ⟨0, 0⟩, ⟨0, 0⟩⟩

/-- canonical tokens of the qualifiers -/
def qualsToks (qs : List TagValue) : List Token := qs.flatMap fun q => colonTok :: tagToks q

def lbraceTok : Token := ⟨.lbrace, [123], ⟨0, 0⟩, ⟨0, 0⟩⟩

/-- canonical tokens of the end of a header: the optional `{`, the optional description -/
def hdrEndToks (h : BlockHeader) : List Token :=
  (if h.isOpen then [lbraceTok] else []) ++
    (match h.description with | some d => d.tokens.map Token.erase | none => [])

/-- kinds of the token after the tags and qualifiers of a header -/
def EndTy (ty : TokenType) : Prop := ty = .lbrace ∨ ty = .description ∨ ty = .comment ∨ ty = .eol

def assignTok : Token := ⟨.assign, [61], ⟨0, 0⟩, ⟨0, 0⟩⟩
def plusTok : Token := ⟨.plus, [43], ⟨0, 0⟩, ⟨0, 0⟩⟩

/-- the lines after the first one of a description: `EOL DESCRIPTION` pairs -/
def descRestToks (ls : List (List Rune)) : List Token := ls.flatMap fun l => [eolTok, descTok l]

/-- the fragment's own EOL is left for the loop: not an assignment, not an open header, no trailing
comment -/
def NoEnd (f : Fragment) : Prop :=
  (∀ a, f ≠ .assign a) ∧ ∀ h, f = .header h → h.isOpen = false ∧ h.src.comment = none

end J5V.Bcl
