import J5V.Bcl.Parser
/-!
# What is said of a parse: positions inside the file, well-placed nodes, agreement of the two modes

Definitions only, for the statements of C11.  `InFileLC src p`: `p` is a (line, column) of the source split
at newlines, the column behind the last rune of a line included.  `X.ok Q x`: `x` and every node below it
(down to the tokens stored in them) has `start ≤ end` with both ends in `Q`.  `ParseAgree`: what fail-fast
and collect-all mode have in common.
-/
namespace J5V.Bcl

/-- length of line `i` (0 when out of range) -/
def lineLen (L : List (List Rune)) (i : Nat) : Nat := (L.getD i []).length

/-- `0 ≤ line < lineCount` and `0 ≤ col ≤ runeLen(line)` -/
def InFileLC (src : List Rune) (p : Pos) : Prop :=
  p.line < (splitLines src).length ∧ p.col ≤ lineLen (splitLines src) p.line

instance (src : List Rune) (p : Pos) : Decidable (InFileLC src p) := by
  unfold InFileLC; exact inferInstance

variable (Q : Pos → Prop)

/-- `start ≤ end`, both satisfying `Q` -/
def PosPairOK (s e : Pos) : Prop := s ≤ e ∧ Q s ∧ Q e
def Token.ok (t : Token) : Prop := PosPairOK Q t.start t.end_

def Span.ok (s : Span) : Prop := PosPairOK Q s.start s.end_
def Ident.ok (i : Ident) : Prop := Token.ok Q i.token ∧ Span.ok Q i.span
def Reference.ok (r : Reference) : Prop := (∀ i ∈ r.idents, Ident.ok Q i) ∧ Span.ok Q r.span

mutual
def Value.ok : Value → Prop
  | .scalar tok s => Token.ok Q tok ∧ Span.ok Q s
  | .array vs s => Value.okList vs ∧ Span.ok Q s
def Value.okList : List Value → Prop
  | [] => True
  | v :: vs => Value.ok v ∧ Value.okList vs
end

def TagValue.ok (t : TagValue) : Prop :=
  Token.ok Q t.markToken ∧ (∀ r, t.reference = some r → Reference.ok Q r) ∧
    (∀ v, t.value = some v → Value.ok Q v) ∧ Span.ok Q t.span
def Description.ok (d : Description) : Prop := (∀ t ∈ d.tokens, Token.ok Q t) ∧ Span.ok Q d.span
def CommentNode.ok (c : CommentNode) : Prop := Span.ok Q c.span
def SourceNode.ok (s : SourceNode) : Prop :=
  PosPairOK Q s.start s.end_ ∧ ∀ c, s.comment = some c → CommentNode.ok Q c
def BlockHeader.ok (h : BlockHeader) : Prop :=
  Reference.ok Q h.type ∧ (∀ t ∈ h.tags, TagValue.ok Q t) ∧ (∀ t ∈ h.qualifiers, TagValue.ok Q t) ∧
    (∀ d, h.description = some d → Description.ok Q d) ∧ SourceNode.ok Q h.src
def Assignment.ok (a : Assignment) : Prop :=
  Reference.ok Q a.key ∧ Value.ok Q a.value ∧ SourceNode.ok Q a.src
def Fragment.ok : Fragment → Prop
  | .header h => BlockHeader.ok Q h
  | .assign a => Assignment.ok Q a
  | .desc d => Description.ok Q d
  | .comment c => Token.ok Q c.token ∧ Span.ok Q c.span
  | .close c => Token.ok Q c.token ∧ Span.ok Q c.span

mutual
def Statement.ok : Statement → Prop
  | .block h body => BlockHeader.ok Q h ∧ Statement.okList body
  | .assign a => Assignment.ok Q a
  | .desc d => Description.ok Q d
def Statement.okList : List Statement → Prop
  | [] => True
  | s :: ss => Statement.ok s ∧ Statement.okList ss
end

def Diag.ok (d : Diag) : Prop := PosPairOK Q d.start d.end_

/-- fragments in source order, each well placed, starting at or after `lo` -/
def FragChain : Pos → List Fragment → Prop
  | _, [] => True
  | lo, f :: fs => lo ≤ f.src.start ∧ f.src.start ≤ f.src.end_ ∧ Fragment.ok Q f ∧
      FragChain f.src.end_ fs

/-- agreement of the two lexing modes -/
def LexAgree : LexOut → LexOut → Prop
  | .toks a, .toks b => a = b
  | .errs a, .errs b => ∃ e more, a = [e] ∧ b = e :: more
  | _, _ => False

/-- agreement of the two walking modes -/
def WalkAgree : WalkOut → WalkOut → Prop
  | .done f1 e1, .done f0 e0 => f1 = f0 ∧ e1 = [] ∧ e0 = []
  | .hadErrors e1, .done _ e0 => ∃ d more, e1 = [d] ∧ e0 = d :: more
  | _, _ => False

/-- agreement of the two parse modes: same tree, or errors with the same first diagnostic -/
def ParseAgree : ParseOut → ParseOut → Prop
  | .tree f1, .tree f0 => f1.body = f0.body ∧ f1.errors = f0.errors
  | .errors e1, .errors e0 => e1 ≠ [] ∧ e0.head? = e1.head?
  | _, _ => False

end J5V.Bcl
