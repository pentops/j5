import J5V.Bcl.Basic
import J5V.Compile.StrProofs
/-!
# Lines and joins of the BCL model are `strings.Split` / `strings.Join` of the compile model

`splitLines` and `joinWith` are written out in `Basic.lean` as the compile model writes `splitOnByte`
and `joinWith` (`Rune` and byte are both `Nat`); through these two equations (`splitLines_eq`,
`joinWith_eq`) what `Compile/StrProofs.lean` proves holds of them.
-/
namespace J5V.Bcl

theorem joinWith_eq (sep : List Rune) : ∀ l, joinWith sep l = Compile.joinWith sep l
  | [] => rfl
  | [_] => rfl
  | a :: b :: rest => congrArg (a ++ sep ++ ·) (joinWith_eq sep (b :: rest))

theorem splitLines_eq (s : List Rune) : splitLines s = Compile.splitOnByte cNL s := by
  induction s with
  | nil => rfl
  | cons r rs ih =>
    obtain ⟨p, ps, h1, h2⟩ := Compile.splitOnByte_cons cNL r rs
    rw [h2, splitLines, ih, h1]

theorem splitLines_ne_nil (s : List Rune) : splitLines s ≠ [] := by
  rw [splitLines_eq]; exact Compile.splitOnByte_ne_nil _ s

theorem splitLines_cons (r : Nat) (rs : List Nat) : splitLines (r :: rs) =
    (match splitLines rs with
     | [] => [[]]
     | l :: ls => if r = cNL then [] :: l :: ls else (r :: l) :: ls) := rfl

theorem splitLines_append_nl (a b : List Nat) :
    splitLines (a ++ cNL :: b) = splitLines a ++ splitLines b := by
  simp only [splitLines_eq]; exact Compile.splitOnByte_append _ a b

theorem splitLines_no_nl (l : List Nat) (h : cNL ∉ l) : splitLines l = [l] := by
  rw [splitLines_eq]; exact Compile.splitOnByte_of_not_mem _ l h

theorem splitLines_snoc_nl (x : List Nat) : splitLines (x ++ [cNL]) = splitLines x ++ [[]] := by
  rw [splitLines_append_nl]; rfl

theorem splitLines_no_nl_mem (s : List Nat) : ∀ l ∈ splitLines s, cNL ∉ l := by
  rw [splitLines_eq]; exact Compile.splitOnByte_no_sep _ s

theorem splitLines_joinWith (O : List (List Nat)) (h1 : O ≠ []) (h2 : ∀ l ∈ O, cNL ∉ l) :
    splitLines (joinWith [cNL] O) = O := by
  rw [splitLines_eq, joinWith_eq]; exact Compile.splitOnByte_joinWith _ O h1 h2

theorem joinWith_splitLines (bs : List Nat) : joinWith [cNL] (splitLines bs) = bs := by
  rw [splitLines_eq, joinWith_eq]; exact Compile.joinWith_splitOnByte _ bs

theorem joinWith_snoc (sep : List Rune) (ws : List (List Rune)) (w : List Rune) (h : ws ≠ []) :
    joinWith sep (ws ++ [w]) = joinWith sep ws ++ sep ++ w := by
  simp only [joinWith_eq]; exact Compile.joinWith_append sep ws [w] h (List.cons_ne_nil _ _)

theorem joinWith_nl_flatMap : ∀ (ls : List (List Nat)), ls ≠ [] →
    joinWith [cNL] ls ++ [cNL] = ls.flatMap (fun l => l ++ [cNL])
  | [], h => absurd rfl h
  | [a], _ => by simp [joinWith]
  | a :: b :: rest, _ => by
    have ih := joinWith_nl_flatMap (b :: rest) (by simp)
    simp only [joinWith, List.flatMap_cons, List.append_assoc] at ih ⊢
    rw [ih]

end J5V.Bcl
