import J5V.Bcl.ParseFileProofs
import J5V.Bcl.FragStepProofs
import J5V.Bcl.WalkRun
import J5V.Walker.OrderDefs
/-!
# Every `parseFile` tree is `BodyOrdered`

The specs of `ParserProofs` place every node span inside `[lo, hi]` but forget the SOURCE ORDER between the
elements of an array, between the tags and between the qualifiers of a header. These facts are read off the
grammar of `WalkRun`: every such node starts with the first token it reads and ends where the walker then
stands, and under the invariant `WInv` the walker only moves forward (`WInv.drop`).  They are then lifted
through the fragment loop (`walkFragmentsLoop_induct`), the tree building (`fragmentsToFile_inv`) and
`parseFile` (`parseFile_tree_inv`).
-/
namespace J5V.Bcl
open J5V.Walker

/-- the trivial position predicate: every `Q` obligation of the `ParserProofs` specs is `trivial` -/
abbrev QT : Pos → Prop := fun _ => True

theorem valuesOrdered_nil : ValuesOrdered [] := by unfold ValuesOrdered; trivial

theorem ValRun.ord_aux :
    (∀ {w w' : W} {v : Value}, ValRun w v w' → WInv QT w → ValueOrdered v) ∧
    (∀ {w w' : W} {vs : List Value}, ElemsRun w vs w' → WInv QT w →
      ValuesOrdered vs ∧ InOrder (vs.map Value.span) ∧ ∀ u ∈ vs, w.currentPos ≤ u.span.start) := by
  refine ValRun.induct (mV := fun w v _ => WInv QT w → ValueOrdered v)
    (mE := fun w vs _ => WInv QT w →
      ValuesOrdered vs ∧ InOrder (vs.map Value.span) ∧ ∀ u ∈ vs, w.currentPos ≤ u.span.start)
    ?ref ?lit ?empty ?array ?last ?comma
  case ref =>
    intro w w' r _ hr hw
    unfold ValueOrdered
    exact (hw.within hr.drop hr.bounds.1 hr.bounds.2).2.1
  case lit =>
    intro w w' t hp _ _ hw
    unfold ValueOrdered
    exact (hw.pop hp).2.2
  case empty =>
    intro w w1 w' o c hp _ hp2 _ hw
    obtain ⟨hw1, _, h1⟩ := hw.pop hp
    obtain ⟨_, h2, h3⟩ := hw1.pop hp2
    unfold ValueOrdered
    rw [hp.currentPos] at h2
    exact ⟨Pos.le_trans h1 (Pos.le_trans h2 h3), valuesOrdered_nil, List.Pairwise.nil⟩
  case array =>
    intro w w1 w2 w' o c vs hp _ _ he ih hp2 _ hw
    obtain ⟨hw1, _, h1⟩ := hw.pop hp
    obtain ⟨hw2, h4, _⟩ := hw1.drop he.drop
    obtain ⟨_, h2, h3⟩ := hw2.pop hp2
    obtain ⟨i1, i2, _⟩ := ih hw1
    unfold ValueOrdered
    rw [hp.currentPos] at h4
    exact ⟨Pos.le_trans h1 (Pos.le_trans h4 (Pos.le_trans h2 h3)), i1, i2⟩
  case last =>
    intro w w' v hv ih _ hw
    refine ⟨?_, List.pairwise_singleton _ _, fun u hu => ?_⟩
    · unfold ValuesOrdered; exact ⟨ih hw, valuesOrdered_nil⟩
    · cases List.mem_singleton.mp hu
      exact (hw.within hv.drop hv.bounds.1 hv.bounds.2).1
  case comma =>
    intro w w1 w2 w' v c vs hv ihv hp _ _ ihe hw
    obtain ⟨hw1, h1, _⟩ := hw.drop hv.drop
    obtain ⟨hw2, h2, h3⟩ := hw1.pop hp
    obtain ⟨i1, i2, i3⟩ := ihe hw2
    have h12 : w1.currentPos ≤ w2.currentPos := by rw [hp.currentPos]; exact Pos.le_trans h2 h3
    refine ⟨by unfold ValuesOrdered; exact ⟨ihv hw, i1⟩, ?_, fun u hu => ?_⟩
    · refine List.pairwise_cons.mpr ⟨fun b hb => ?_, i2⟩
      obtain ⟨u, hu, rfl⟩ := List.mem_map.mp hb
      rw [← hv.bounds.2]
      exact Pos.le_trans h12 (i3 u hu)
    · rcases List.mem_cons.mp hu with rfl | hu
      · exact (hw.within hv.drop hv.bounds.1 hv.bounds.2).1
      · exact Pos.le_trans h1 (Pos.le_trans h12 (i3 u hu))

theorem ValRun.ord {w w' : W} {v : Value} (h : ValRun w v w') (hw : WInv QT w) : ValueOrdered v :=
  ValRun.ord_aux.1 h hw

theorem TagRun.within {w w' : W} {t : TagValue} (h : TagRun w t w') (hw : WInv QT w) :
    w.currentPos ≤ t.span.start ∧ w'.currentPos = t.span.end_ := by
  obtain ⟨⟨w1, x, xs, hd, h1, h2⟩, h3⟩ := h.bounds
  obtain ⟨hw1, h4, _⟩ := hw.drop hd
  refine ⟨?_, h3⟩
  rw [h2]
  exact Pos.le_trans h4 (hw1.after x (by rw [h1]; simp))

theorem TagsRun.ord {w w' : W} {ts : List TagValue} (h : TagsRun w ts w') (hw : WInv QT w) :
    InOrder (ts.map (·.span)) ∧ ∀ t ∈ ts, w.currentPos ≤ t.span.start := by
  induction h with
  | nil _ => exact ⟨List.Pairwise.nil, List.forall_mem_nil _⟩
  | cons _ ht _ ih =>
    obtain ⟨hw1, h1, _⟩ := hw.drop ht.drop
    obtain ⟨i1, i2⟩ := ih hw1
    obtain ⟨h2, h3⟩ := ht.within hw
    refine ⟨List.pairwise_cons.mpr ⟨fun b hb => ?_, i1⟩, List.forall_mem_cons.mpr ⟨h2, fun u hu => ?_⟩⟩
    · obtain ⟨u, hu, rfl⟩ := List.mem_map.mp hb
      rw [← h3]
      exact i2 u hu
    · exact Pos.le_trans h1 (i2 u hu)

theorem QualsRun.ord {w w' : W} {qs : List TagValue} (h : QualsRun w qs w') (hw : WInv QT w) :
    InOrder (qs.map (·.span)) ∧ ∀ t ∈ qs, w.currentPos ≤ t.span.start := by
  induction h with
  | nil _ => exact ⟨List.Pairwise.nil, List.forall_mem_nil _⟩
  | cons hp _ ht _ ih =>
    obtain ⟨hw1, h0, _⟩ := hw.drop hp.drop
    obtain ⟨hw2, h1, _⟩ := hw1.drop ht.drop
    obtain ⟨i1, i2⟩ := ih hw2
    obtain ⟨h2, h3⟩ := ht.within hw1
    refine ⟨List.pairwise_cons.mpr ⟨fun b hb => ?_, i1⟩,
      List.forall_mem_cons.mpr ⟨Pos.le_trans h0 h2, fun u hu => ?_⟩⟩
    · obtain ⟨u, hu, rfl⟩ := List.mem_map.mp hb
      rw [← h3]
      exact i2 u hu
    · exact Pos.le_trans h0 (Pos.le_trans h1 (i2 u hu))

/-- the order facts `Fragment.ok` does not give -/
def FragExtra : Fragment → Prop
  | .header h => InOrder (h.tags.map (·.span)) ∧ InOrder (h.qualifiers.map (·.span))
  | .assign a => ValueOrdered a.value
  | _ => True

theorem FragRun.extra {w w' : W} {f : Fragment} (h : FragRun w (some f) w') (hw : WInv QT w) :
    FragExtra f := by
  cases h with
  | close _ _ => trivial
  | comment _ _ => trivial
  | desc _ _ _ => trivial
  | stmt _ hs =>
    cases hs with
    | assign hr hop hv _ => exact hv.ord ((hw.drop hr.drop).1.drop hop.drop).1
    | header hr _ _ hts hqs _ =>
      have hw1 := (hw.drop hr.drop).1
      exact ⟨(hts.ord hw1).1, (hqs.ord (hw1.drop hts.drop).1).1⟩

/-! ## From `ok` (every node span `start ≤ end_`) and the extra order facts to the `Ordered` predicates -/

theorem Reference.ok_idents_ord {r : Reference} (h : Reference.ok QT r) :
    ∀ i, i ∈ r.idents → SpanOrd i.span := fun i hi => (h.1 i hi).2.1

theorem TagValue.ok_ord {t : TagValue} (h : TagValue.ok QT t) : TagOrdered t :=
  ⟨h.2.2.2.1, fun ref hr => Reference.ok_idents_ord (h.2.1 ref hr)⟩

theorem BlockHeader.ok_ord {h : BlockHeader} (hok : BlockHeader.ok QT h)
    (ht : InOrder (h.tags.map (·.span))) (hq : InOrder (h.qualifiers.map (·.span))) :
    HeaderOrdered h where
  typeIdents := Reference.ok_idents_ord hok.1
  tags := fun t htm => TagValue.ok_ord (hok.2.1 t htm)
  tagsInOrder := ht
  qualifiers := fun t htm => TagValue.ok_ord (hok.2.2.1 t htm)
  qualifiersInOrder := hq
  description := fun d hd => (hok.2.2.2.1 d hd).2.1
  src := hok.2.2.2.2.1.1

theorem Assignment.ok_ord {a : Assignment} (hok : Assignment.ok QT a) (hv : ValueOrdered a.value) :
    StmtOrdered (.assign a) := by
  unfold StmtOrdered
  exact ⟨hok.2.2.1.1, Reference.ok_idents_ord hok.1, hv⟩

/-- what a fragment contributes to the tree is ordered -/
def FragOrdered : Fragment → Prop
  | .header h => HeaderOrdered h
  | .assign a => StmtOrdered (.assign a)
  | .desc d => SpanOrd d.span
  | _ => True

theorem FragOrdered.of_ok {f : Fragment} (hok : Fragment.ok QT f) (hx : FragExtra f) : FragOrdered f := by
  cases f with
  | header h => exact BlockHeader.ok_ord hok hx.1 hx.2
  | assign a => exact Assignment.ok_ord hok hx
  | desc d => exact hok.2.1
  | comment c => trivial
  | close c => trivial

theorem walkFragmentsLoop_ord (ff : Bool) (pfuel : Nat) (fuel : Nat) :
    ∀ (w : W) (frags : List Fragment) (errs : List Diag), (w.rest = [] ∨ WInv QT w) →
      w.rest.length < fuel → 2 * w.rest.length < pfuel →
      (∀ f ∈ frags, FragOrdered f) →
      match walkFragmentsLoop ff pfuel fuel w frags errs with
      | .done frags' _ => ∀ f ∈ frags', FragOrdered f
      | _ => True := by
  refine walkFragmentsLoop_induct QT trivial ff pfuel
    (motive := fun _ frags _ res => (∀ f ∈ frags, FragOrdered f) →
      match res with
      | .done frags' _ => ∀ f ∈ frags', FragOrdered f
      | _ => True) ?_ ?_ ?_ ?_ ?_ fuel
  · intro w frags errs _ h; exact h
  · intro w w1 frags errs res _ _ _ _ ih; exact ih
  · intro w f w1 frags errs res hinv _ hnf _ hfin ih hfr
    exact ih (List.forall_mem_append.mpr ⟨hfr, fun x hx => by
      cases List.mem_singleton.mp hx
      exact FragOrdered.of_ok hfin.1 ((nextFragment_sound hnf).extra hinv)⟩)
  · intros; trivial
  · intro w e w1 w2 frags errs res _ _ _ _ _ _ _ ih; exact ih

theorem walkFragments_ord {ff : Bool} {tokens : List Token} {frags : List Fragment} {es : List Diag}
    (h : TokensOK QT tokens) (hw : walkFragments ff tokens = .done frags es) : ∀ f ∈ frags, FragOrdered f := by
  have := walkFragmentsLoop_ord ff (2 * tokens.length + 2) (tokens.length + 1)
    ⟨none, tokens⟩ [] [] (WInv.init_or QT trivial h) (by simp) (by simp) (fun f hf => by cases hf)
  unfold walkFragments at hw
  rwa [hw] at this

theorem bodyOrdered_nil : BodyOrdered [] := by unfold BodyOrdered; trivial

theorem block_ord {h : BlockHeader} {body : List Statement} (hh : HeaderOrdered h)
    (hb : BodyOrdered body) : StmtOrdered (.block h body) := by
  unfold StmtOrdered; exact ⟨hh, hb⟩

theorem fragmentsToFile_ord (frags : List Fragment) (hf : ∀ f ∈ frags, FragOrdered f) :
    BodyOrdered (fragmentsToFile frags).body :=
  fragmentsToFile_inv (S := StmtOrdered) (H := HeaderOrdered) (fun _ _ ha hs => ha.snoc hs)
    (fun _ _ => block_ord) bodyOrdered_nil frags fun f hfm => by
      have := hf f hfm
      cases f with
      | desc d => show StmtOrdered (.desc d); unfold StmtOrdered; exact this
      | _ => exact this

/-- **every tree `ParseFile` returns is `BodyOrdered`** -/
theorem parseFile_bodyOrdered (cls : Cls) (src : List Rune) (ff : Bool) (f : File)
    (h : parseFile cls src ff = .tree f) : J5V.Walker.BodyOrdered f.body := by
  obtain ⟨ts, frags, hts, hw, rfl, _⟩ := parseFile_tree_inv h
  exact fragmentsToFile_ord frags
    (walkFragments_ord (tokensOK_of_chain QT (fun _ _ => trivial) (allTokens_chain hts)) hw)

end J5V.Bcl

