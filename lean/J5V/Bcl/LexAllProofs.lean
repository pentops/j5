import J5V.Bcl.LexerProofs
/-!
# The whole lex

`AllTokens` is a fuelled loop over `NextToken`.  The fuel is dealt with once: the steps taken from a
state are a list (`Steps`), never longer than the input plus one, and the loop returns `lexOut` of that
list, a function that looks at no input (`allTokensLoop_eq`).  An error-free result is exactly the
fuel-free relation `LexAll` (`allTokens_toks_iff`).
-/
namespace J5V.Bcl

/-- tokens in source order: each spans `posAfter a … posAfter b` for prefixes `lo ≤ a ≤ b` of `src`,
and the next token starts at or after `b` -/
def TokChain (src : List Rune) : List Rune → List Token → Prop
  | _, [] => True
  | lo, t :: ts => ∃ a b, lo <+: a ∧ a <+: b ∧ b <+: src ∧ t.start = posAfter a ∧
      t.end_ = posAfter b ∧ t.ty ≠ .eof ∧ TokChain src b ts

theorem TokChain.mono {src lo lo' : List Rune} {ts : List Token} (h : TokChain src lo ts)
    (hl : lo' <+: lo) : TokChain src lo' ts := by
  cases ts with
  | nil => trivial
  | cons t ts =>
    obtain ⟨a, b, h1, h2⟩ := h
    exact ⟨a, b, hl.trans h1, h2⟩

theorem TokChain.props {src lo : List Rune} {ts : List Token} (h : TokChain src lo ts) :
    ts.Pairwise (fun t u => t.end_ ≤ u.start) ∧
    (∀ t ∈ ts, posAfter lo ≤ t.start ∧ t.start ≤ t.end_ ∧ InFile src t.start ∧ InFile src t.end_ ∧
      t.ty ≠ .eof) := by
  induction ts generalizing lo with
  | nil => exact ⟨List.Pairwise.nil, fun t h => by cases h⟩
  | cons t ts ih =>
    obtain ⟨a, b, h1, h2, h3, h4, h5, h6, h7⟩ := h
    obtain ⟨p1, p2⟩ := ih h7
    refine ⟨List.pairwise_cons.mpr ⟨?_, p1⟩, ?_⟩
    · intro u hu
      rw [h5]; exact (p2 u hu).1
    · intro u hu
      rcases List.mem_cons.mp hu with rfl | hu
      · refine ⟨by rw [h4]; exact posAfter_mono h1, by rw [h4, h5]; exact posAfter_mono h2,
          ⟨a, h2.trans h3, h4⟩, ⟨b, h3, h5⟩, h6⟩
      · obtain ⟨q1, q2⟩ := p2 u hu
        exact ⟨Pos.le_trans (posAfter_mono (h1.trans h2)) q1, q2⟩

/-- the steps `NextToken` takes from `(c, rest)`, up to and including the first that returns an EOF token -/
inductive Steps (cls : Cls) : Cur → List Rune → List LexStep → Prop
  | last {c : Cur} {rest : List Rune} : (nextToken cls c rest).tok.ty = .eof →
      Steps cls c rest [nextToken cls c rest]
  | more {c : Cur} {rest : List Rune} {ss : List LexStep} : (nextToken cls c rest).tok.ty ≠ .eof →
      Steps cls (nextToken cls c rest).cur (nextToken cls c rest).rest ss →
      Steps cls c rest (nextToken cls c rest :: ss)

/-- what `AllTokens` makes of the steps, given what was collected before them (in fail-fast mode only the
first error) -/
def lexOut (ff : Bool) (toks : List Token) (errs : List LexErr) (ss : List LexStep) : LexOut :=
  let es := ss.filterMap (·.err)
  let all := errs ++ (if ff then es.take 1 else es)
  if all.isEmpty then .toks (toks ++ ss.dropLast.map (·.tok)) else .errs all

theorem Steps.ne_nil {cls : Cls} {c : Cur} {rest : List Rune} {ss : List LexStep}
    (h : Steps cls c rest ss) : ss ≠ [] := by cases h <;> simp

/-- a step that does not read EOF consumes input (`nextToken_progress`), so the steps are at most
`rest.length + 1` -/
theorem Steps.exists (cls : Cls) : ∀ (n : Nat) (c : Cur) (rest : List Rune), rest.length < n →
    ∃ ss, Steps cls c rest ss ∧ ss.length ≤ n := by
  intro n
  induction n with
  | zero => intro c rest h; omega
  | succ n ih =>
    intro c rest h
    by_cases hty : (nextToken cls c rest).tok.ty = .eof
    · exact ⟨_, .last hty, by simp⟩
    · cases rest with
      | nil => exact absurd (nextToken_nil cls c).2 hty
      | cons r rs =>
        have := nextToken_progress cls c r rs
        obtain ⟨ss, hs, hl⟩ := ih (nextToken cls c (r :: rs)).cur (nextToken cls c (r :: rs)).rest
          (by simp only [List.length_cons] at *; omega)
        exact ⟨_, .more hty hs, by simpa using hl⟩

/-- in fail-fast mode the loop returns at the first error, so it is only ever entered with no error collected -/
theorem allTokensLoop_eq {cls : Cls} (ff : Bool) {c : Cur} {rest : List Rune} {ss : List LexStep}
    (h : Steps cls c rest ss) : ∀ (fuel : Nat) (toks : List Token) (errs : List LexErr),
      ss.length ≤ fuel → (ff = true → errs = []) →
      allTokensLoop cls ff fuel c rest toks errs = lexOut ff toks errs ss := by
  induction h with
  | @last c rest hty =>
    intro fuel toks errs hf hff
    cases fuel with
    | zero => simp at hf
    | succ fuel =>
      unfold allTokensLoop lexOut
      cases he : (nextToken cls c rest).err with
      | none => simp [hty, he]
      | some e => cases ff <;> simp [hty, he]
  | @more c rest ss hty hs ih =>
    intro fuel toks errs hf hff
    cases fuel with
    | zero => simp at hf
    | succ fuel =>
      have hf' : ss.length ≤ fuel := by simpa using hf
      unfold allTokensLoop
      simp only []
      cases he : (nextToken cls c rest).err with
      | none =>
        simp only [hty, if_false]
        rw [ih fuel _ _ hf' hff]
        simp [lexOut, he, List.dropLast_cons_of_ne_nil hs.ne_nil]
      | some e =>
        cases ff with
        | true => simp [lexOut, he, hff rfl]
        | false =>
          simp only [hty, if_false, Bool.false_eq_true]
          rw [ih fuel _ _ hf' (by simp)]
          simp [lexOut, he]

/-- at most `len + 1` steps (`Steps.exists`), and the loop is given `len + 2`: one unit is spare -/
theorem allTokens_eq (cls : Cls) (src : List Rune) :
    ∃ ss, Steps cls Cur.init src ss ∧ ∀ ff, allTokens cls ff src = lexOut ff [] [] ss := by
  obtain ⟨ss, h, hl⟩ := Steps.exists cls (src.length + 1) Cur.init src (Nat.lt_succ_self _)
  exact ⟨ss, h, fun ff => allTokensLoop_eq ff h _ _ _ (by omega) (fun _ => rfl)⟩

theorem lexOut_toks {ff : Bool} {out : List Token} {ss : List LexStep} (h : lexOut ff [] [] ss = .toks out) :
    (∀ s ∈ ss, s.err = none) ∧ out = ss.dropLast.map (·.tok) := by
  simp only [lexOut, List.nil_append] at h
  generalize hall : (if ff = true then (ss.filterMap (·.err)).take 1 else ss.filterMap (·.err)) = all at h
  cases all with
  | cons a as => cases h
  | nil =>
    cases h
    refine ⟨List.filterMap_eq_nil_iff.mp ?_, rfl⟩
    cases ff
    · exact hall
    · exact (List.take_eq_nil_iff.mp hall).resolve_left (by decide)

theorem lexOut_ne_nofuel {ff : Bool} {ss : List LexStep} : lexOut ff [] [] ss ≠ .nofuel := by
  simp only [lexOut]
  generalize [] ++ (if ff = true then (ss.filterMap (·.err)).take 1 else ss.filterMap (·.err)) = all
  cases all <;> simp

theorem lexOut_errs {ff : Bool} {es : List LexErr} {ss : List LexStep} (h : lexOut ff [] [] ss = .errs es) :
    es ≠ [] ∧ ∀ e ∈ es, ∃ s ∈ ss, s.err = some e := by
  simp only [lexOut, List.nil_append] at h
  generalize hall : (if ff = true then (ss.filterMap (·.err)).take 1 else ss.filterMap (·.err)) = all at h
  cases all with
  | nil => cases h
  | cons a as =>
    cases h
    refine ⟨List.cons_ne_nil _ _, fun e he => List.mem_filterMap.mp ?_⟩
    rw [← hall] at he
    cases ff
    · exact he
    · exact List.mem_of_mem_take he

/-- the lexer stands at `p0` only while input is left (`rest ≠ [] →`): having read past the end (`advEOF`) its
cursor is one column behind the file -/
theorem Steps.chain {cls : Cls} {src : List Rune} {c : Cur} {rest : List Rune} {ss : List LexStep}
    (h : Steps cls c rest ss) : ∀ p0 : List Rune, (rest ≠ [] → src = p0 ++ rest ∧ c.nxt = posAfter p0) →
      (∀ s ∈ ss, ∀ e, s.err = some e → InFile src e.pos) ∧
      ((∀ s ∈ ss, s.err = none) → TokChain src p0 (ss.dropLast.map (·.tok))) := by
  have herr : ∀ {c : Cur} {rest : List Rune} (p0 : List Rune),
      (rest ≠ [] → src = p0 ++ rest ∧ c.nxt = posAfter p0) →
      ∀ e, (nextToken cls c rest).err = some e → InFile src e.pos := by
    intro c rest p0 hclean e he
    cases rest with
    | nil => rw [(nextToken_nil cls c).1] at he; cases he
    | cons r rs =>
      obtain ⟨hsrc, hnxt⟩ := hclean (by simp)
      obtain ⟨pre, a, b, e1, _, bpre, _, _, _, herr⟩ := (nextToken_spec cls c (r :: rs)).spans
      exact ⟨p0 ++ b, hsrc ▸ (List.prefix_append_right_inj p0).mpr (bpre.trans ⟨_, e1.symm⟩),
        by rw [herr e he, hnxt, posAfter_append]⟩
  induction h with
  | @last c rest hty =>
    intro p0 hclean
    exact ⟨fun s hs e he => by cases List.mem_singleton.mp hs; exact herr p0 hclean e he, fun _ => trivial⟩
  | @more c rest ss hty hs ih =>
    intro p0 hclean
    have hrest : rest ≠ [] := by intro e; subst e; exact hty (nextToken_nil cls c).2
    obtain ⟨hsrc, hnxt⟩ := hclean hrest
    obtain ⟨pre, a, b, e1, ab, bpre, _, hcur, htok, _⟩ := (nextToken_spec cls c rest).spans
    obtain ⟨i1, i2⟩ := ih (p0 ++ pre) fun hne => by
      rcases hcur with ⟨_, _, g3⟩ | ⟨g1, _⟩
      · exact ⟨by rw [hsrc, List.append_assoc, ← e1], by rw [g3, advs_nxt, hnxt, posAfter_append]⟩
      · exact absurd g1 hne
    refine ⟨fun s hs e he => ?_, fun hall => ?_⟩
    · rcases List.mem_cons.mp hs with rfl | hs
      · exact herr p0 hclean e he
      · exact i1 s hs e he
    · obtain ⟨ts, te⟩ := htok (hall _ List.mem_cons_self)
      rw [List.dropLast_cons_of_ne_nil hs.ne_nil, List.map_cons]
      exact ⟨p0 ++ a, p0 ++ b, List.prefix_append _ _, (List.prefix_append_right_inj p0).mpr ab,
        hsrc ▸ (List.prefix_append_right_inj p0).mpr (bpre.trans ⟨_, e1.symm⟩),
        by rw [ts, hnxt, posAfter_append], by rw [te, hnxt, posAfter_append], hty,
        (i2 fun s hs => hall s (List.mem_cons_of_mem _ hs)).mono
          ((List.prefix_append_right_inj p0).mpr bpre)⟩

theorem allTokens_ne_nofuel (cls : Cls) (ff : Bool) (src : List Rune) : allTokens cls ff src ≠ .nofuel := by
  obtain ⟨ss, _, e⟩ := allTokens_eq cls src
  rw [e ff]; exact lexOut_ne_nofuel

theorem allTokens_chain {cls : Cls} {ff : Bool} {src : List Rune} {ts : List Token}
    (h : allTokens cls ff src = .toks ts) : TokChain src [] ts := by
  obtain ⟨ss, hs, e⟩ := allTokens_eq cls src
  obtain ⟨g1, g2⟩ := lexOut_toks ((e ff).symm.trans h)
  rw [g2]
  exact (hs.chain (src := src) [] fun _ => ⟨rfl, rfl⟩).2 g1

theorem allTokens_noEof {cls : Cls} {ff : Bool} {src : List Rune} {ts : List Token}
    (hts : allTokens cls ff src = .toks ts) : ∀ t ∈ ts, t.ty ≠ .eof :=
  fun t ht => ((TokChain.props (allTokens_chain hts)).2 t ht).2.2.2.2

theorem allTokens_errs_inFile {cls : Cls} {ff : Bool} {src : List Rune} {es : List LexErr}
    (h : allTokens cls ff src = .errs es) : ∀ e ∈ es, InFile src e.pos := by
  obtain ⟨ss, hs, e⟩ := allTokens_eq cls src
  intro x hx
  obtain ⟨s, hs', hse⟩ := (lexOut_errs ((e ff).symm.trans h)).2 x hx
  exact (hs.chain (src := src) [] fun _ => ⟨rfl, rfl⟩).1 s hs' x hse

theorem allTokens_spec (cls : Cls) (ff : Bool) (src : List Rune) :
    match allTokens cls ff src with
    | .toks ts => TokChain src [] ts
    | .errs es => ∀ e ∈ es, InFile src e.pos
    | .nofuel => False := by
  cases h : allTokens cls ff src with
  | toks ts => exact allTokens_chain h
  | errs es => exact allTokens_errs_inFile h
  | nofuel => exact allTokens_ne_nofuel cls ff src h

theorem allTokens_errs_ne_nil {cls : Cls} {ff : Bool} {src : List Rune} {es : List LexErr}
    (h : allTokens cls ff src = .errs es) : es ≠ [] := by
  obtain ⟨ss, _, e⟩ := allTokens_eq cls src
  exact (lexOut_errs ((e ff).symm.trans h)).1

theorem Steps.lexAll {cls : Cls} {c : Cur} {rest : List Rune} {ss : List LexStep}
    (h : Steps cls c rest ss) (he : ∀ s ∈ ss, s.err = none) :
    LexAll cls c rest (ss.dropLast.map (·.tok)) := by
  induction h with
  | last hty => exact .eof (he _ (by simp)) hty
  | more hty hs ih =>
    rw [List.dropLast_cons_of_ne_nil hs.ne_nil]
    exact .step (he _ (by simp)) hty (ih fun s h => he s (by simp [h]))

theorem LexAll.steps {cls : Cls} {c : Cur} {rest : List Rune} {out : List Token}
    (h : LexAll cls c rest out) :
    ∃ ss, Steps cls c rest ss ∧ (∀ s ∈ ss, s.err = none) ∧ out = ss.dropLast.map (·.tok) := by
  induction h with
  | eof he hty => exact ⟨_, .last hty, by simpa using he, rfl⟩
  | step he hty _ ih =>
    obtain ⟨ss, h1, h2, h3⟩ := ih
    exact ⟨_, .more hty h1, List.forall_mem_cons.mpr ⟨he, h2⟩,
      by rw [List.dropLast_cons_of_ne_nil h1.ne_nil, h3]; rfl⟩

theorem Steps.unique {cls : Cls} {c : Cur} {rest : List Rune} {ss ss' : List LexStep}
    (h : Steps cls c rest ss) (h' : Steps cls c rest ss') : ss = ss' := by
  induction h generalizing ss' with
  | last hty =>
    cases h' with
    | last _ => rfl
    | more hty' _ => exact absurd hty hty'
  | more hty _ ih =>
    cases h' with
    | last hty' => exact absurd hty' hty
    | more _ hs' => rw [ih hs']

theorem allTokens_toks_iff (cls : Cls) (ff : Bool) (src : List Rune) (ts : List Token) :
    allTokens cls ff src = .toks ts ↔ LexAll cls Cur.init src ts := by
  obtain ⟨ss, hs, e⟩ := allTokens_eq cls src
  rw [e ff]
  constructor
  · intro h
    obtain ⟨h1, h2⟩ := lexOut_toks h
    rw [h2]
    exact hs.lexAll h1
  · intro h
    obtain ⟨ss', hs', h1, h2⟩ := h.steps
    cases hs.unique hs'
    have : ss.filterMap (·.err) = [] := List.filterMap_eq_nil_iff.mpr h1
    simp [lexOut, this, h2]

theorem LexAll.forall {cls : Cls} {P : Token → Prop}
    (hP : ∀ c rest, (nextToken cls c rest).err = none → P (nextToken cls c rest).tok)
    {c : Cur} {rest : List Rune} {out : List Token} (h : LexAll cls c rest out) : ∀ t ∈ out, P t := by
  induction h with
  | eof => exact List.forall_mem_nil _
  | step he _ _ ih => exact List.forall_mem_cons.mpr ⟨hP _ _ he, ih⟩

theorem allTokens_tokwf {cls : Cls} {ff : Bool} {src : List Rune} {ts : List Token}
    (h : allTokens cls ff src = .toks ts) : ∀ t ∈ ts, TokLitWF cls t :=
  ((allTokens_toks_iff cls ff src ts).mp h).forall (nextToken_tokwf cls)

end J5V.Bcl
