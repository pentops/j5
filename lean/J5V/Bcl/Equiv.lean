import J5V.Bcl.DescItems
/-!
# Position-free view of tokens, fragments and trees (definitions for C09)

`erase` sets every position of a node to `0:0` and keeps everything else (types, literals, marks,
nesting, values, comments).  Two trees denote the same document when their erasures are equal —
except that stand-alone descriptions (`Statement.desc` / `Fragment.desc`, the ones the formatter
re-flows) are compared as word / paragraph-break sequences (`DescEquiv`).
-/
namespace J5V.Bcl

def Span.zero : Span := ⟨⟨0, 0⟩, ⟨0, 0⟩⟩

def Token.erase (t : Token) : Token := ⟨t.ty, t.lit, ⟨0, 0⟩, ⟨0, 0⟩⟩

def Ident.erase (i : Ident) : Ident := ⟨i.token.erase, i.value, Span.zero⟩

def Reference.erase (r : Reference) : Reference := ⟨r.idents.map Ident.erase, Span.zero⟩

mutual
def Value.erase : Value → Value
  | .scalar tok _ => .scalar tok.erase Span.zero
  | .array vs _ => .array (Value.eraseList vs) Span.zero
def Value.eraseList : List Value → List Value
  | [] => []
  | v :: vs => v.erase :: Value.eraseList vs
end

def TagValue.erase (t : TagValue) : TagValue :=
  ⟨t.mark, t.markToken.erase, t.reference.map Reference.erase, t.value.map Value.erase, Span.zero⟩

def Description.erase (d : Description) : Description :=
  ⟨d.tokens.map Token.erase, d.value, Span.zero⟩

def CommentNode.erase (c : CommentNode) : CommentNode := ⟨c.value, Span.zero⟩

def SourceNode.erase (s : SourceNode) : SourceNode :=
  ⟨⟨0, 0⟩, ⟨0, 0⟩, s.comment.map CommentNode.erase⟩

def BlockHeader.erase (h : BlockHeader) : BlockHeader :=
  ⟨h.type.erase, h.tags.map TagValue.erase, h.qualifiers.map TagValue.erase,
    h.description.map Description.erase, h.isOpen, h.src.erase⟩

def Assignment.erase (a : Assignment) : Assignment :=
  ⟨a.key.erase, a.value.erase, a.append, a.src.erase⟩

def CloseBlock.erase (c : CloseBlock) : CloseBlock := ⟨c.token.erase, Span.zero⟩

def Comment.erase (c : Comment) : Comment := ⟨c.token.erase, c.value, Span.zero⟩

def Fragment.erase : Fragment → Fragment
  | .header h => .header h.erase
  | .assign a => .assign a.erase
  | .desc d => .desc d.erase
  | .comment c => .comment c.erase
  | .close c => .close c.erase

mutual
def Statement.erase : Statement → Statement
  | .block h body => .block h.erase (Statement.eraseList body)
  | .assign a => .assign a.erase
  | .desc d => .desc d.erase
def Statement.eraseList : List Statement → List Statement
  | [] => []
  | s :: ss => s.erase :: Statement.eraseList ss
end

def Diag.erase (d : Diag) : Diag := ⟨⟨0, 0⟩, ⟨0, 0⟩, d.kind⟩

def File.erase (f : File) : File := ⟨Statement.eraseList f.body, f.errors.map Diag.erase⟩

/-! walker state and results -/

def W.erase (w : W) : W := ⟨w.prev.map Token.erase, w.rest.map Token.erase⟩

def UnexpErr.erase (e : UnexpErr) : UnexpErr := ⟨e.tok.erase, e.expected⟩

def WR.erase {α : Type} (g : α → α) : WR α → WR α
  | .ok a w => .ok (g a) w.erase
  | .fail e w => .fail e.erase w.erase
  | .panic s => .panic s

def WalkOut.erase : WalkOut → WalkOut
  | .done frags errors => .done (frags.map Fragment.erase) (errors.map Diag.erase)
  | .hadErrors errors => .hadErrors (errors.map Diag.erase)
  | .panic s => .panic s

def ParseOut.erase : ParseOut → ParseOut
  | .tree f => .tree f.erase
  | .errors es => .errors (es.map Diag.erase)
  | .panic s => .panic s

/-! ## "Denotes the same document" -/

/-- descriptions with the same words and paragraph breaks -/
def DescEquiv (cls : Cls) (d e : Description) : Prop :=
  canon (itemsOf cls (splitOn cNL d.value)) = canon (itemsOf cls (splitOn cNL e.value))

/-- fragments equal up to positions; stand-alone descriptions up to re-flowing -/
def Fragment.equiv (cls : Cls) : Fragment → Fragment → Prop
  | .desc d, .desc e => DescEquiv cls d e
  | .header h, .header k => h.erase = k.erase
  | .assign a, .assign b => a.erase = b.erase
  | .comment c, .comment d => c.erase = d.erase
  | .close c, .close d => c.erase = d.erase
  | _, _ => False

def Fragment.equivList (cls : Cls) : List Fragment → List Fragment → Prop
  | [], [] => True
  | f :: fs, g :: gs => Fragment.equiv cls f g ∧ Fragment.equivList cls fs gs
  | _, _ => False

mutual
/-- statements (recursively, with their bodies) equal up to positions; stand-alone descriptions
up to re-flowing -/
def Statement.equiv (cls : Cls) : Statement → Statement → Prop
  | .block h b, .block k c => h.erase = k.erase ∧ Statement.equivList cls b c
  | .assign a, .assign b => a.erase = b.erase
  | .desc d, .desc e => DescEquiv cls d e
  | _, _ => False
def Statement.equivList (cls : Cls) : List Statement → List Statement → Prop
  | [], [] => True
  | s :: ss, t :: ts => Statement.equiv cls s t ∧ Statement.equivList cls ss ts
  | _, _ => False
end

/-- files denoting the same document -/
def File.equiv (cls : Cls) (f g : File) : Prop := Statement.equivList cls f.body g.body

end J5V.Bcl
