import J5V.Bcl.PosProofs
import J5V.Bcl.ParseSpec
import J5V.Bcl.WalkRun
/-!
# The walker under a position invariant: where nodes lie, no panic, the fragment loop

`Q` is any predicate on positions that holds for the positions of all tokens: whatever `InFile src`
implies (C11 takes `InFileLC src`), `fun _ => True` where positions do not matter (C19's absence of panics,
`OrderProofs`' `QT`).  `hQ0 : Q ⟨0, 0⟩` is asked wherever tags are read: an unmarked tag stores
`Token.zero` as its mark token (`MarkRun.placed`).
What a method reads when it succeeds is the grammar of `WalkRun`; under `WInv Q` every node read is well
placed (`X.placed`).  Of the other outcomes the triples of `WalkRun` say: under its condition no method panics,
and a failing one has read some tokens and then popped the token it names; `WT.spec` takes a triple to `WSpec`.
-/
namespace J5V.Bcl

variable (Q : Pos → Prop)

/-- invariant of the walker state.  `nonempty` keeps `popToken` off its panic arm.  `ordered`, `spans`, `after`
put every token still to come at or after where the walker stands.  `noEof`, `prevNoEof` (a lexed list holds
no EOF token): past the end `popToken` makes up an EOF at the end of the token read last, so that it too
lies at or after `currentPos`; a stored EOF would be handed out again as it is. -/
structure WInv (w : W) : Prop where
  nonempty : w.prev ≠ none ∨ w.rest ≠ []
  ordered : w.rest.Pairwise (fun t u => t.end_ ≤ u.start)
  spans : ∀ t ∈ w.rest, t.start ≤ t.end_
  after : ∀ t ∈ w.rest, w.currentPos ≤ t.start
  noEof : ∀ t ∈ w.rest, t.ty ≠ .eof
  prevNoEof : ∀ l, w.prev = some l → l.ty ≠ .eof
  qCur : Q w.currentPos
  qRest : ∀ t ∈ w.rest, Q t.start ∧ Q t.end_

/-- the walker moved from `w` to `w'`, dropping the tokens `d` -/
structure WStep (w w' : W) : Prop where
  inv : WInv Q w'
  mono : w.currentPos ≤ w'.currentPos
  len : w'.rest.length ≤ w.rest.length
  drop : ∃ d, w.rest = d ++ w'.rest ∧ (∀ t ∈ d, t.end_ ≤ w'.currentPos) ∧
    w'.prev = d.getLast?.or w.prev

theorem WStep.refl {w : W} (h : WInv Q w) : WStep Q w w :=
  ⟨h, Pos.le_refl _, Nat.le_refl _, [], rfl, (fun t ht => by cases ht), rfl⟩

theorem WStep.trans {w1 w2 w3 : W} (h1 : WStep Q w1 w2) (h2 : WStep Q w2 w3) : WStep Q w1 w3 := by
  obtain ⟨d1, e1, f1, g1⟩ := h1.drop
  obtain ⟨d2, e2, f2, g2⟩ := h2.drop
  refine ⟨h2.inv, Pos.le_trans h1.mono h2.mono, Nat.le_trans h2.len h1.len, d1 ++ d2,
    by rw [e1, e2]; simp, ?_, ?_⟩
  · intro t ht
    rcases List.mem_append.mp ht with h | h
    · exact Pos.le_trans (f1 t h) h2.mono
    · exact f2 t h
  · rw [g2, g1, List.getLast?_append]
    cases d2.getLast? <;> cases d1.getLast? <;> rfl

/-- a token handed out by the walker standing at `lo` (a real token, or the synthesised EOF) -/
structure TokOK (lo : Pos) (t : Token) : Prop where
  lo : lo ≤ t.start
  span : t.start ≤ t.end_
  qs : Q t.start
  qe : Q t.end_

theorem TokOK.mono {lo lo' : Pos} {t : Token} (h : TokOK Q lo t) (hl : lo' ≤ lo) : TokOK Q lo' t :=
  ⟨Pos.le_trans hl h.lo, h.span, h.qs, h.qe⟩

theorem TokOK.tokOk {lo : Pos} {t : Token} (h : TokOK Q lo t) : Token.ok Q t := ⟨h.span, h.qs, h.qe⟩

/-- under the invariant the action does not panic; on success the walker has made a step and `post` holds; a
failure names a well-placed token.  The rules `WSpec.pure` / `.bind` / `.fail` serve `popIdent_spec` only. -/
def WSpec {α : Type} (m : WM α) (w : W) (post : α → W → Prop) : Prop :=
  WInv Q w →
    match m w with
    | .ok a w' => WStep Q w w' ∧ post a w'
    | .fail e w' => WStep Q w w' ∧ Token.ok Q e.tok
    | .panic _ => False

theorem WSpec.pure {α : Type} {a : α} {w : W} {post : α → W → Prop} (h : post a w) :
    WSpec Q (Pure.pure a : WM α) w post := fun hw => ⟨WStep.refl Q hw, h⟩

theorem WSpec.bind {α β : Type} {m : WM α} {f : α → WM β} {w : W} {P : α → W → Prop}
    {R : β → W → Prop} (h1 : WSpec Q m w P)
    (h2 : ∀ a w1, WStep Q w w1 → P a w1 → WSpec Q (f a) w1 R) : WSpec Q (m >>= f) w R := by
  intro hw
  have h1 := h1 hw
  show match WM.bind m f w with
    | .ok a w' => WStep Q w w' ∧ R a w'
    | .fail e w' => WStep Q w w' ∧ Token.ok Q e.tok
    | .panic _ => False
  unfold WM.bind
  cases hm : m w with
  | ok a w1 =>
    rw [hm] at h1
    obtain ⟨s1, p1⟩ := h1
    have h2 := h2 a w1 s1 p1 s1.inv
    simp only []
    cases hf : f a w1 with
    | ok b w2 =>
      rw [hf] at h2
      exact ⟨s1.trans Q h2.1, h2.2⟩
    | fail e w2 =>
      rw [hf] at h2
      exact ⟨s1.trans Q h2.1, h2.2⟩
    | panic s => rw [hf] at h2; exact h2
  | fail e w1 => rw [hm] at h1; exact h1
  | panic s => rw [hm] at h1; exact h1

theorem WSpec.getW {w : W} : WSpec Q getW w (fun a w' => a = w ∧ w' = w) :=
  fun hw => ⟨WStep.refl Q hw, rfl, rfl⟩

theorem WSpec.fail {α : Type} {e : UnexpErr} {w : W} {post : α → W → Prop}
    (h : Token.ok Q e.tok) : WSpec Q (WM.fail e : WM α) w post :=
  fun hw => ⟨WStep.refl Q hw, h⟩

/-- a popped token together with where the walker stands afterwards -/
def Popped (w : W) (t : Token) (w' : W) : Prop :=
  TokOK Q w.currentPos t ∧ t.end_ ≤ w'.currentPos ∧ t.ty = w.nextType ∧
    (w.rest ≠ [] → w'.rest.length < w.rest.length ∧ w'.prev = some t)

/-- `popToken`: never panics under the invariant; hands out a well-placed token -/
theorem popToken_spec' (w : W) : WSpec Q popToken w (fun t w' => Popped Q w t w') := by
  intro hw
  unfold popToken
  cases hr : w.rest with
  | cons t rs =>
    simp only []
    have hmem : t ∈ w.rest := by rw [hr]; simp
    have hord := hw.ordered
    rw [hr] at hord
    have hord' := List.pairwise_cons.mp hord
    have hinv : WInv Q ⟨some t, rs⟩ :=
      { nonempty := Or.inl (by simp)
        ordered := hord'.2
        spans := fun u hu => hw.spans u (by rw [hr]; simp [hu])
        after := fun u hu => hord'.1 u hu
        noEof := fun u hu => hw.noEof u (by rw [hr]; simp [hu])
        prevNoEof := fun l hl => by cases hl; exact hw.noEof t hmem
        qCur := (hw.qRest t hmem).2
        qRest := fun u hu => hw.qRest u (by rw [hr]; simp [hu]) }
    have hstep : WStep Q w ⟨some t, rs⟩ :=
      { inv := hinv
        mono := Pos.le_trans (hw.after t hmem) (hw.spans t hmem)
        len := by simp [hr]
        drop := ⟨[t], by simp [hr], fun u hu => by simp at hu; subst hu; exact Pos.le_refl _, rfl⟩ }
    have htok : TokOK Q w.currentPos t :=
      { lo := hw.after t hmem, span := hw.spans t hmem, qs := (hw.qRest t hmem).1, qe := (hw.qRest t hmem).2 }
    exact ⟨hstep, htok, Pos.le_refl _, by simp [W.nextType, hr], fun _ => by simp [hr]⟩
  | nil =>
    simp only []
    cases hp : w.prev with
    | none =>
      rcases hw.nonempty with h | h
      · exact absurd hp h
      · exact absurd hr h
    | some l =>
      simp only []
      have hne : l.ty ≠ .eof := hw.prevNoEof l hp
      simp only [hne, if_false]
      have hcur : w.currentPos = l.end_ := by simp [W.currentPos, hp]
      have htok : TokOK Q w.currentPos ⟨.eof, [], l.end_, l.end_⟩ :=
        { lo := by rw [hcur]; exact Pos.le_refl _, span := Pos.le_refl _
          qs := by rw [← hcur]; exact hw.qCur, qe := by rw [← hcur]; exact hw.qCur }
      exact ⟨WStep.refl Q hw, htok, by rw [hcur]; exact Pos.le_refl _, by simp [W.nextType, hr],
        fun h => absurd hr h⟩

/-- `lo ≤ s ≤ e ≤ hi` -/
def Within (lo hi s e : Pos) : Prop := lo ≤ s ∧ s ≤ e ∧ e ≤ hi

theorem Within.mono {lo lo' hi hi' s e : Pos} (h : Within lo hi s e) (h1 : lo' ≤ lo) (h2 : hi ≤ hi') :
    Within lo' hi' s e := ⟨Pos.le_trans h1 h.1, h.2.1, Pos.le_trans h.2.2 h2⟩

theorem Popped.within {w : W} {t : Token} {w' : W} (h : Popped Q w t w') :
    Within w.currentPos w'.currentPos t.start t.end_ := ⟨h.1.lo, h.1.span, h.2.1⟩

def IdentIn (lo hi : Pos) (i : Ident) : Prop :=
  Ident.ok Q i ∧ Within lo hi i.span.start i.span.end_

/-- the identifier made of a popped IDENT / BOOL token lies where the token lies -/
theorem Popped.identIn {w : W} {tok t : Token} {w' : W} (hp : Popped Q w tok w')
    (ht : tok.asIdent = some t) :
    IdentIn Q w.currentPos w'.currentPos ⟨t, t.lit, ⟨t.start, t.end_⟩⟩ := by
  obtain ⟨rfl, _⟩ := asIdent_eq_some ht
  exact ⟨⟨hp.1.tokOk, hp.1.tokOk⟩, hp.within⟩

theorem popIdent_spec (w : W) :
    WSpec Q popIdent w (fun i w' => IdentIn Q w.currentPos w'.currentPos i ∧
      w'.rest.length < w.rest.length) := by
  unfold popIdent
  refine WSpec.bind Q (popToken_spec' Q w) ?_
  intro tok w1 s1 hp
  split
  · exact WSpec.fail Q hp.1.tokOk
  · rename_i t ht
    refine WSpec.pure Q ⟨hp.identIn Q ht, (hp.2.2.2 ?_).1⟩
    intro hr
    have : w.nextType = .eof := by simp [W.nextType, hr]
    rw [← hp.2.2.1] at this
    rcases (asIdent_eq_some ht).2 with h | h <;> rw [h] at this <;> cases this

theorem WStep.of_drop {n : Nat} {w w' : W} (hw : WInv Q w) (h : Drop n w w') : WStep Q w w' := by
  obtain ⟨d, hn, e, g⟩ := h
  clear hn
  obtain ⟨p, rest⟩ := w
  obtain ⟨p', rest'⟩ := w'
  simp only at e g
  subst e g
  induction d generalizing p with
  | nil => exact WStep.refl Q hw
  | cons a as ih =>
    have h1 := popToken_spec' Q ⟨p, a :: (as ++ rest')⟩ hw
    rw [getLast?_cons_or]
    exact h1.1.trans Q (ih (some a) h1.1.inv)

theorem WInv.drop {Q : Pos → Prop} {n : Nat} {w w' : W} (hw : WInv Q w) (h : Drop n w w') :
    WInv Q w' ∧ w.currentPos ≤ w'.currentPos ∧
      (1 ≤ n → ∃ t ts, w.rest = t :: ts ∧ w.currentPos ≤ t.start ∧ t.start ≤ t.end_ ∧
        t.end_ ≤ w'.currentPos) := by
  have s := WStep.of_drop Q hw h
  refine ⟨s.inv, s.mono, fun h1 => ?_⟩
  obtain ⟨d, hn, e, g⟩ := h
  obtain ⟨p, rest⟩ := w
  obtain ⟨p', rest'⟩ := w'
  simp only at e g
  subst e g
  cases d with
  | nil => exact absurd h1 (by simp at hn; omega)
  | cons a as =>
    have hm : a ∈ a :: as ++ rest' := List.mem_cons_self
    refine ⟨a, as ++ rest', rfl, hw.after a hm, hw.spans a hm, ?_⟩
    rw [getLast?_cons_or]
    exact (WStep.of_drop Q (popToken_spec' Q _ hw).1.inv ⟨as, Nat.zero_le _, rfl, rfl⟩).mono

theorem WInv.within {Q : Pos → Prop} {w w' : W} (hw : WInv Q w) (h : Drop 1 w w') {s e : Pos}
    (hs : ∃ t ts, w.rest = t :: ts ∧ s = t.start) (he : w'.currentPos = e) :
    Within w.currentPos w'.currentPos s e := by
  obtain ⟨t, ts, h1, h2, h3, h4⟩ := (hw.drop h).2.2 (Nat.le_refl 1)
  obtain ⟨t', ts', h1', rfl⟩ := hs
  cases h1.symm.trans h1'
  subst he
  exact ⟨h2, Pos.le_trans h3 h4, Pos.le_refl _⟩

theorem WInv.span {w w' : W} (hw : WInv Q w) (h : Drop 1 w w') {s e : Pos}
    (hs : ∃ t ts, w.rest = t :: ts ∧ s = t.start) (he : w'.currentPos = e) :
    PosPairOK Q s e ∧ Within w.currentPos w'.currentPos s e := by
  have hin := hw.within h hs he
  obtain ⟨t, ts, h1, rfl⟩ := hs
  subst he
  exact ⟨⟨hin.2.1, (hw.qRest t (by rw [h1]; simp)).1, (hw.drop h).1.qCur⟩, hin⟩

theorem Pop.popped {w w' : W} {t : Token} (hp : Pop w t w') (hw : WInv Q w) : Popped Q w t w' := by
  have := popToken_spec' Q w hw
  rw [hp.run] at this
  exact this.2

theorem WInv.pop {Q : Pos → Prop} {w w' : W} {t : Token} (hw : WInv Q w) (hp : Pop w t w') :
    WInv Q w' ∧ w.currentPos ≤ t.start ∧ t.start ≤ t.end_ :=
  ⟨(hw.drop hp.drop).1, (hp.popped Q hw).1.lo, (hp.popped Q hw).1.span⟩

theorem Idents.placed {w w' : W} {is : List Ident} (h : Idents w is w') (hw : WInv Q w) :
    ∀ i ∈ is, Ident.ok Q i := by
  induction h with
  | last hp hai _ =>
    intro i hi
    cases List.mem_singleton.mp hi
    exact ((hp.popped Q hw).identIn Q hai).1
  | dot hp hai hp2 _ _ ih =>
    intro i hi
    rcases List.mem_cons.mp hi with rfl | hi
    · exact ((hp.popped Q hw).identIn Q hai).1
    · exact ih ((hw.drop hp.drop).1.drop hp2.drop).1 i hi

theorem RefRun.placed {w w' : W} {r : Reference} (h : RefRun w r w') (hw : WInv Q w) :
    Reference.ok Q r := by
  have hsp := (hw.span Q h.drop h.bounds.1 h.bounds.2).1
  obtain ⟨is, hi, hr⟩ := h
  obtain ⟨f, l, _, _, rfl⟩ := newReference_eq_some hr
  exact ⟨hi.placed Q hw, hsp⟩

theorem ValRun.placed_aux :
    (∀ {w w' : W} {v : Value}, ValRun w v w' → WInv Q w → Value.ok Q v) ∧
      (∀ {w w' : W} {vs : List Value}, ElemsRun w vs w' → WInv Q w → Value.okList Q vs) := by
  -- the span of every kind of value is that of `WInv.span`
  have sp : ∀ {w w' : W} {v : Value}, ValRun w v w' → WInv Q w → Span.ok Q v.span :=
    fun h hw => (hw.span Q h.drop h.bounds.1 h.bounds.2).1
  refine ValRun.induct (mV := fun w v _ => WInv Q w → Value.ok Q v)
    (mE := fun w vs _ => WInv Q w → Value.okList Q vs) ?ref ?lit ?empty ?array ?last ?comma
  case ref =>
    intro w w' r hty hr hw
    have := sp (.ref hty hr) hw
    exact ⟨this, this⟩
  case lit =>
    intro w w' t hp h1 h2 hw
    exact ⟨(hp.popped Q hw).1.tokOk, sp (.lit hp h1 h2) hw⟩
  case empty =>
    intro w w1 w' o c hp h1 hp2 h2 hw
    exact ⟨trivial, sp (.empty hp h1 hp2 h2) hw⟩
  case array =>
    intro w w1 w2 w' o c vs hp h1 h2 he ihE hp2 h3 hw
    exact ⟨ihE (hw.drop hp.drop).1, sp (.array hp h1 h2 he hp2 h3) hw⟩
  case last =>
    intro w w' v _ ihV _ hw
    exact ⟨ihV hw, trivial⟩
  case comma =>
    intro w w1 w2 w' v c vs hv ihV hp _ _ ihE hw
    exact ⟨ihV hw, ihE ((hw.drop hv.drop).1.drop hp.drop).1⟩

theorem ValRun.placed {w w' : W} {v : Value} (h : ValRun w v w') (hw : WInv Q w) :
    Value.ok Q v := (ValRun.placed_aux Q).1 h hw

theorem EndRun.placed {w w' : W} {c : Option CommentNode} (h : EndRun w c w') (hw : WInv Q w) :
    ∀ x, c = some x → CommentNode.ok Q x := by
  cases h with
  | plain _ _ => exact nofun
  | comment hp _ _ _ =>
    intro x hx
    cases hx
    exact (hp.popped Q hw).1.tokOk

theorem MarkRun.placed (hQ0 : Q ⟨0, 0⟩) {w w' : W} {m : TagMark} {mt : Token} (h : MarkRun w m mt w')
    (hw : WInv Q w) : Token.ok Q mt := by
  cases h with
  | none _ _ => exact ⟨Pos.le_refl _, hQ0, hQ0⟩
  | bang hp _ | question hp _ => exact (hp.popped Q hw).1.tokOk

theorem TagRun.placed (hQ0 : Q ⟨0, 0⟩) {w w' : W} {t : TagValue} (h : TagRun w t w') (hw : WInv Q w) :
    TagValue.ok Q t := by
  cases h with
  | ref hm _ hr =>
    have hok := hr.placed Q (hw.drop hm.drop).1
    exact ⟨hm.placed Q hQ0 hw, fun r e => by cases e; exact hok, nofun, hok.2⟩
  | str hm hp _ =>
    have hok := (hp.popped Q (hw.drop hm.drop).1).1.tokOk
    exact ⟨hm.placed Q hQ0 hw, nofun, fun v e => by cases e; exact ⟨hok, hok⟩, hok⟩

theorem TagsRun.placed (hQ0 : Q ⟨0, 0⟩) {w w' : W} {ts : List TagValue} (h : TagsRun w ts w')
    (hw : WInv Q w) : ∀ t ∈ ts, TagValue.ok Q t := by
  induction h with
  | nil _ => exact List.forall_mem_nil _
  | cons _ ht _ ih =>
    intro t hm
    rcases List.mem_cons.mp hm with rfl | hm
    · exact ht.placed Q hQ0 hw
    · exact ih (hw.drop ht.drop).1 t hm

theorem QualsRun.placed (hQ0 : Q ⟨0, 0⟩) {w w' : W} {qs : List TagValue} (h : QualsRun w qs w')
    (hw : WInv Q w) : ∀ t ∈ qs, TagValue.ok Q t := by
  induction h with
  | nil _ => exact List.forall_mem_nil _
  | cons hp _ ht _ ih =>
    have hw1 := (hw.drop hp.drop).1
    intro t hm
    rcases List.mem_cons.mp hm with rfl | hm
    · exact ht.placed Q hQ0 hw1
    · exact ih (hw1.drop ht.drop).1 t hm

/-- the end of a header: the description and the trailing comment are well placed, and `e` is where the
walker stands at some point of it -/
theorem HdrEnd.placed {w w' : W} {d : Option Description} {o : Bool} {e : Pos} {c : Option CommentNode}
    (h : HdrEnd w d o e c w') (hw : WInv Q w) :
    (∀ x, d = some x → Description.ok Q x) ∧ (∀ x, c = some x → CommentNode.ok Q x) ∧
      ∃ w4, Drop 0 w w4 ∧ Drop 0 w4 w' ∧ w4.currentPos = e := by
  cases h with
  | opened hp _ hc =>
    exact ⟨nofun, hc.placed Q (hw.drop hp.drop).1,
      _, hp.drop.mono (Nat.zero_le _), hc.drop, hp.currentPos⟩
  | desc hp _ =>
    have hok := (hp.popped Q hw).1.tokOk
    exact ⟨fun x hx => by cases hx; exact ⟨fun t ht => by cases List.mem_singleton.mp ht; exact hok, hok⟩,
      nofun, _, hp.drop.mono (Nat.zero_le _), .refl _, hp.currentPos⟩
  | comment _ hc => exact ⟨nofun, hc.placed Q hw, _, .refl _, hc.drop, rfl⟩
  | eol _ => exact ⟨nofun, nofun, _, .refl _, .refl _, rfl⟩

def FragIn (lo hi : Pos) (f : Fragment) : Prop :=
  Fragment.ok Q f ∧ Within lo hi f.src.start f.src.end_

theorem StmtRun.placed (hQ0 : Q ⟨0, 0⟩) {w w' : W} {f : Fragment} (h : StmtRun w f w') (hw : WInv Q w) :
    FragIn Q w.currentPos w'.currentPos f := by
  cases h with
  | assign hr hop hv hc =>
    obtain ⟨hw1, _, _⟩ := hw.drop hr.drop
    obtain ⟨hw2, _, _⟩ := hw1.drop hop.drop
    obtain ⟨hw3, _, _⟩ := hw2.drop hv.drop
    -- the statement spans from the first token of the reference to the end of the value
    obtain ⟨hsp, hin⟩ := hw.span Q (((hr.drop.trans hop.drop).trans hv.drop).mono (by omega)) hr.bounds.1
      hv.bounds.2
    exact ⟨⟨hr.placed Q hw, hv.placed Q hw2, hsp, hc.placed Q hw3⟩,
      hin.mono (Pos.le_refl _) (hw3.drop hc.drop).2.1⟩
  | header hr _ _ hts hqs he =>
    obtain ⟨hw1, _, _⟩ := hw.drop hr.drop
    obtain ⟨hw2, _, _⟩ := hw1.drop hts.drop
    obtain ⟨hw3, _, _⟩ := hw2.drop hqs.drop
    obtain ⟨hd, hc, w4, d4, d5, rfl⟩ := he.placed Q hw3
    obtain ⟨hsp, hin⟩ := hw.span Q ((((hr.drop.trans hts.drop).trans hqs.drop).trans d4).mono (by omega))
      hr.bounds.1 rfl
    exact ⟨⟨hr.placed Q hw, hts.placed Q hQ0 hw1, hqs.placed Q hQ0 hw2, hd, hsp, hc⟩,
      hin.mono (Pos.le_refl _) ((hw3.drop d4).1.drop d5).2.1⟩

theorem DescLines.placed {w w' : W} {ds : List Token} {last : Token} (h : DescLines w ds last w')
    (hw : WInv Q w) : (∀ d ∈ ds, Token.ok Q d) ∧ w'.currentPos = last.end_ := by
  induction h with
  | stop hl _ => exact ⟨List.forall_mem_nil _, by simp [W.currentPos, hl]⟩
  | line hp _ hp2 _ _ ih =>
    obtain ⟨hw1, _, _⟩ := hw.drop hp.drop
    obtain ⟨i1, i2⟩ := ih (hw1.drop hp2.drop).1
    exact ⟨fun d hd => by
      rcases List.mem_cons.mp hd with rfl | hd
      · exact (hp2.popped Q hw1).1.tokOk
      · exact i1 d hd, i2⟩

theorem FragRun.placed (hQ0 : Q ⟨0, 0⟩) {w w' : W} {f : Fragment} (h : FragRun w (some f) w')
    (hw : WInv Q w) : FragIn Q w.currentPos w'.currentPos f := by
  generalize hr : some f = r at h
  cases h with
  | blank _ _ => cases hr
  | close hp _ | comment hp _ =>
    cases hr
    have hpp := hp.popped Q hw
    exact ⟨⟨hpp.1.tokOk, hpp.1.tokOk⟩, hpp.within⟩
  | desc hp _ hl =>
    cases hr
    obtain ⟨hw1, _, _⟩ := hw.drop hp.drop
    obtain ⟨hds, he⟩ := hl.placed Q hw1
    obtain ⟨hsp, hin⟩ := hw.span Q ((hp.drop.trans hl.drop).mono (Nat.le_refl _)) hp.first he
    exact ⟨⟨fun t ht => by
      rcases List.mem_cons.mp ht with rfl | ht
      · exact (hp.popped Q hw).1.tokOk
      · exact hds t ht, hsp⟩, hin⟩
  | stmt _ hs => cases hr; exact hs.placed Q hQ0 hw

/-- from the triple of `WalkRun` to `WSpec`: what was read is a step of the invariant, and the token a failure names
is well placed because it was popped under the invariant -/
theorem WT.spec {α : Type} {C : Prop} {m : WM α} {w : W} {P post : α → W → Prop} (h : WT C m w P) (hC : C)
    (hp : ∀ a w', P a w' → WInv Q w → Drop 0 w w' ∧ post a w') : WSpec Q m w post := by
  intro hw
  unfold WT at h
  cases hm : m w with
  | ok a w' =>
    rw [hm] at h
    obtain ⟨d, p⟩ := hp a w' h hw
    exact ⟨WStep.of_drop Q hw d, p⟩
  | fail e w' =>
    rw [hm] at h
    obtain ⟨w0, d, hpop⟩ := h hC
    have h0 := popToken_spec' Q w0 (hw.drop d).1
    rw [hpop] at h0
    exact ⟨(WStep.of_drop Q hw d).trans Q h0.1, h0.2.1.tokOk⟩
  | panic s => rw [hm] at h; exact h hC

/-- the result of a non-monadic walker helper, in the shape of `WSpec` -/
def WRSpec {α : Type} (res : WR α) (w : W) (post : α → W → Prop) : Prop :=
  match res with
  | .ok a w' => WStep Q w w' ∧ post a w'
  | .fail e w' => WStep Q w w' ∧ Token.ok Q e.tok
  | .panic _ => False

theorem WSpec.of_fun {α : Type} {m : WM α} {w : W} {post : α → W → Prop}
    (h : WInv Q w → WSpec Q m w post) : WSpec Q m w post := fun hw => h hw hw

theorem nextFragment_spec (hQ0 : Q ⟨0, 0⟩) (fuel : Nat) (w : W) (hne : w.nextType ≠ .eof)
    (hf2 : 2 * w.rest.length < fuel) :
    WSpec Q (nextFragment fuel) w (fun r w' =>
      (∀ f, r = some f → FragIn Q w.currentPos w'.currentPos f) ∧
      w'.rest.length < w.rest.length) :=
  (nextFragment_wt fuel w).spec Q ⟨.of_nextType hne, hf2⟩ fun r w' hr hw =>
    ⟨hr.drop, fun f hf => by subst hf; exact hr.placed Q hQ0 hw, by have := (hr.drop_pos hne).len; omega⟩

theorem skipToEOL_spec : ∀ (rest : List Token) (prev : Option Token), WInv Q ⟨prev, rest⟩ →
    WRSpec Q (skipToEOL prev rest) ⟨prev, rest⟩ (fun _ w' =>
      (rest ≠ [] → w'.rest.length < rest.length) ∧ (rest = [] → w'.rest = [])) := by
  intro rest prev hw
  fun_induction skipToEOL prev rest with
  | case1 prev tok w1 hpt =>
    have hp := popToken_spec' Q ⟨prev, []⟩ hw
    rw [hpt] at hp
    exact ⟨hp.1, fun h => absurd rfl h, fun _ => List.eq_nil_of_length_eq_zero (Nat.le_zero.mp hp.1.len)⟩
  | case2 prev e w1 hpt => have hp := popToken_spec' Q ⟨prev, []⟩ hw; rwa [hpt] at hp
  | case3 prev s hpt => have hp := popToken_spec' Q ⟨prev, []⟩ hw; rwa [hpt] at hp
  | case4 prev t rs _ =>
    exact ⟨(popToken_spec' Q ⟨prev, t :: rs⟩ hw).1, fun _ => by simp, fun h => by cases h⟩
  | case5 prev t rs _ ih =>
    obtain ⟨s1, _⟩ := popToken_spec' Q ⟨prev, t :: rs⟩ hw
    have := ih s1.inv
    unfold WRSpec at this ⊢
    split at this
    · refine ⟨s1.trans Q this.1, fun _ => ?_, fun h => by cases h⟩
      have h1 := this.1.len
      simp at h1 ⊢; omega
    · exact ⟨s1.trans Q this.1, this.2⟩
    · exact this

theorem skipToEOL_no_fail : ∀ (rest : List Token) (prev : Option Token) (e : UnexpErr) (w : W),
    skipToEOL prev rest ≠ .fail e w := by
  intro rest
  induction rest with
  | nil =>
    intro prev e w
    unfold skipToEOL
    rcases popToken_cases ⟨prev, []⟩ with ⟨_, _, h⟩ | ⟨_, _, h⟩ <;> rw [h] <;> nofun
  | cons t rs ih =>
    intro prev e w
    unfold skipToEOL
    split
    · simp
    · exact ih _ _ _

/-- `recoverError` after a failed `nextFragment`: the skip loop succeeds and consumes input -/
theorem skipToEOL_after_fail {w w1 : W} (s1 : WStep Q w w1) (hrest : w.rest ≠ []) :
    ∃ w2, skipToEOL w1.prev w1.rest = .ok () w2 ∧ WStep Q w1 w2 ∧
      w2.rest.length < w.rest.length := by
  have hsk := skipToEOL_spec Q w1.rest w1.prev s1.inv
  cases hskr : skipToEOL w1.prev w1.rest with
  | panic s => rw [hskr] at hsk; exact hsk.elim
  | fail e2 w2 => exact absurd hskr (skipToEOL_no_fail _ _ _ _)
  | ok u w2 =>
    rw [hskr] at hsk
    obtain ⟨s2, hsk1, hsk2⟩ := hsk
    refine ⟨w2, rfl, s2, ?_⟩
    by_cases h1 : w1.rest = []
    · rw [hsk2 h1]
      exact List.length_pos_iff.mpr hrest
    · have := hsk1 h1; have := s1.len; omega

theorem FragChain.mono {lo lo' : Pos} {fs : List Fragment} (h : FragChain Q lo fs) (hl : lo' ≤ lo) :
    FragChain Q lo' fs := by
  cases fs with
  | nil => trivial
  | cons f fs => exact ⟨Pos.le_trans hl h.1, h.2⟩

theorem UnexpErr.diag_ok {e : UnexpErr} (h : Token.ok Q e.tok) : Diag.ok Q e.diag := h

theorem loop_fuel {a b f p : Nat} (h : b < a) (h1 : a < f + 1) (h2 : 2 * a < p) :
    b < f ∧ 2 * b < p := by omega

/-- induction along `walkFragments` from a state that satisfies the invariant with the fuel
`walkFragments` gives: the loop does not panic and does not run out of fuel, so a property of what it
returns follows from what one round does (stop at EOF; a blank line; a fragment; the first error in
fail-fast mode; an error skipped by `recoverError`) -/
theorem walkFragmentsLoop_induct (hQ0 : Q ⟨0, 0⟩) (ff : Bool) (pfuel : Nat)
    {motive : W → List Fragment → List Diag → WalkOut → Prop}
    (done : ∀ w frags errs, w.nextType = .eof → motive w frags errs (.done frags errs))
    (skip : ∀ w w1 frags errs res, WInv Q w → w.nextType ≠ .eof →
      nextFragment pfuel w = .ok none w1 → WStep Q w w1 →
      motive w1 frags errs res → motive w frags errs res)
    (frag : ∀ w f w1 frags errs res, WInv Q w → w.nextType ≠ .eof →
      nextFragment pfuel w = .ok (some f) w1 → WStep Q w w1 →
      FragIn Q w.currentPos w1.currentPos f →
      motive w1 (frags ++ [f]) errs res → motive w frags errs res)
    (stop : ∀ w e w1 frags errs, ff = true → WInv Q w → nextFragment pfuel w = .fail e w1 →
      Token.ok Q e.tok → motive w frags errs (.hadErrors (errs ++ [e.diag])))
    (recover : ∀ w e w1 w2 frags errs res, ff = false → WInv Q w →
      nextFragment pfuel w = .fail e w1 → WStep Q w w1 → Token.ok Q e.tok →
      skipToEOL w1.prev w1.rest = .ok () w2 → WStep Q w1 w2 →
      motive w2 frags (errs ++ [e.diag]) res → motive w frags errs res)
    (fuel : Nat) : ∀ (w : W) (frags : List Fragment) (errs : List Diag), (w.rest = [] ∨ WInv Q w) →
      w.rest.length < fuel → 2 * w.rest.length < pfuel →
      motive w frags errs (walkFragmentsLoop ff pfuel fuel w frags errs) := by
  induction fuel with
  | zero => intro w frags errs _ h; omega
  | succ fuel ih =>
    intro w frags errs hw hf1 hf3
    unfold walkFragmentsLoop
    by_cases heof : w.nextType = .eof
    · simp only [heof, if_true]
      exact done w frags errs heof
    simp only [heof, if_false]
    have hrest : w.rest ≠ [] := fun e => heof (nextType_of_rest_nil e)
    have hinv : WInv Q w := hw.elim (fun h => absurd h hrest) id
    have hnf := nextFragment_spec Q hQ0 pfuel w heof hf3 hinv
    cases hres : nextFragment pfuel w with
    | panic s => rw [hres] at hnf; exact hnf.elim
    | ok r w1 =>
      rw [hres] at hnf
      obtain ⟨s1, hfr, hlt⟩ := hnf
      obtain ⟨g1, g3⟩ := loop_fuel hlt hf1 hf3
      cases r with
      | none => exact skip w w1 frags errs _ hinv heof hres s1 (ih w1 frags errs (Or.inr s1.inv) g1 g3)
      | some f =>
        exact frag w f w1 frags errs _ hinv heof hres s1 (hfr f rfl)
          (ih w1 (frags ++ [f]) errs (Or.inr s1.inv) g1 g3)
    | fail e w1 =>
      rw [hres] at hnf
      obtain ⟨s1, hetok⟩ := hnf
      simp only []
      cases ff with
      | true => exact stop w e w1 frags errs rfl hinv hres hetok
      | false =>
        simp only [Bool.false_eq_true, if_false]
        obtain ⟨w2, hskr, s2, hlen2⟩ := skipToEOL_after_fail Q s1 hrest
        obtain ⟨g1, g3⟩ := loop_fuel hlen2 hf1 hf3
        rw [hskr]
        exact recover w e w1 w2 frags errs _ rfl hinv hres s1 hetok hskr s2
          (ih w2 frags (errs ++ [e.diag]) (Or.inr s2.inv) g1 g3)

/-- `walkFragments`: no panic, enough fuel, fragments in order, diagnostics well placed -/
theorem walkFragmentsLoop_spec (hQ0 : Q ⟨0, 0⟩) (ff : Bool) (pfuel : Nat) (fuel : Nat) :
    ∀ (w : W) (frags : List Fragment) (errs : List Diag), (w.rest = [] ∨ WInv Q w) →
      w.rest.length < fuel → 2 * w.rest.length < pfuel →
      match walkFragmentsLoop ff pfuel fuel w frags errs with
      | .done frags' errs' =>
        (∃ new, frags' = frags ++ new ∧ FragChain Q w.currentPos new) ∧
        (∃ newe, errs' = errs ++ newe ∧ (∀ d ∈ newe, Diag.ok Q d) ∧ (ff = true → newe = []))
      | .hadErrors errs' => ff = true ∧ ∃ d, errs' = errs ++ [d] ∧ Diag.ok Q d
      | .panic _ => False := by
  apply walkFragmentsLoop_induct Q hQ0 ff pfuel (motive := fun w frags errs res =>
    match res with
    | .done frags' errs' =>
      (∃ new, frags' = frags ++ new ∧ FragChain Q w.currentPos new) ∧
      (∃ newe, errs' = errs ++ newe ∧ (∀ d ∈ newe, Diag.ok Q d) ∧ (ff = true → newe = []))
    | .hadErrors errs' => ff = true ∧ ∃ d, errs' = errs ++ [d] ∧ Diag.ok Q d
    | .panic _ => False)
  case done =>
    intro w frags errs _
    exact ⟨⟨[], by simp, trivial⟩, ⟨[], by simp, fun d h => (by cases h), fun _ => rfl⟩⟩
  case skip =>
    intro w w1 frags errs res _ _ _ s1 ih
    cases res with
    | done f' e' =>
      obtain ⟨⟨new, h1, h2⟩, h3⟩ := ih
      exact ⟨⟨new, h1, h2.mono Q s1.mono⟩, h3⟩
    | hadErrors e' => exact ih
    | panic s => exact ih
  case frag =>
    intro w f w1 frags errs res _ _ _ _ hfin ih
    cases res with
    | done f' e' =>
      obtain ⟨⟨new, h1, h2⟩, h3⟩ := ih
      exact ⟨⟨f :: new, by simp [h1], hfin.2.1, hfin.2.2.1, hfin.1, h2.mono Q hfin.2.2.2⟩, h3⟩
    | hadErrors e' => exact ih
    | panic s => exact ih
  case stop => intro w e w1 frags errs hff _ _ hetok; exact ⟨hff, e.diag, rfl, hetok⟩
  case recover =>
    intro w e w1 w2 frags errs res hff _ _ s1 hetok _ s2 ih
    cases res with
    | done f' e' =>
      obtain ⟨⟨new, h1, h2⟩, ⟨newe, h3, h4, h5⟩⟩ := ih
      refine ⟨⟨new, h1, h2.mono Q (Pos.le_trans s1.mono s2.mono)⟩,
        ⟨e.diag :: newe, by simp [h3], ?_, fun h => by rw [hff] at h; cases h⟩⟩
      intro d hd
      rcases List.mem_cons.mp hd with h | h
      · subst h; exact hetok
      · exact h4 d h
    | hadErrors e' => exact absurd ih.1 (by simp [hff])
    | panic s => exact ih

end J5V.Bcl
