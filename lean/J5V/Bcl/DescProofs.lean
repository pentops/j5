import J5V.Bcl.DescItems
import J5V.Bcl.SplitJoin
/-!
# `reformatDescription`: words and paragraph breaks are preserved, and re-flowing is stable
(lemmas for C09).  A description is seen as a list of *items*: words, and blank-line markers.
-/
namespace J5V.Bcl

/-- one step of `reformatDescription` on an item -/
def stepItem (maxWidth : Int) (st : RDState) : Item → RDState
  | .blank =>
    let out1 := if st.pend ≠ [] then st.out ++ [st.pend] else st.out
    let out2 := if !st.lastWasEmpty ∧ out1 ≠ [] then out1 ++ [[]] else out1
    ⟨out2, [], true⟩
  | .word wd =>
    if st.pend = [] then ⟨st.out, wd, false⟩
    else if ((byteLen st.pend + byteLen wd : Nat) : Int) > maxWidth then ⟨st.out ++ [st.pend], wd, false⟩
    else ⟨st.out, st.pend ++ [cSP] ++ wd, false⟩

theorem rdWords_fold (maxWidth : Int) (ws : List (List Rune)) (st : RDState) (hne : ws ≠ []) :
    (⟨(rdWords maxWidth ws st.out st.pend).1, (rdWords maxWidth ws st.out st.pend).2, false⟩ : RDState)
      = (ws.map Item.word).foldl (stepItem maxWidth) st := by
  induction ws generalizing st with
  | nil => exact absurd rfl hne
  | cons w ws ih =>
    simp only [List.map_cons, List.foldl_cons]
    unfold rdWords
    by_cases hp : st.pend = []
    · rw [if_pos hp]
      cases ws with
      | nil => simp [rdWords, stepItem, hp]
      | cons w2 ws2 =>
        have := ih ⟨st.out, w, false⟩ (by simp)
        simp only [stepItem, hp, if_true] at this ⊢
        exact this
    · rw [if_neg hp]
      by_cases hw : ((byteLen st.pend + byteLen w : Nat) : Int) > maxWidth
      · rw [if_pos hw]
        cases ws with
        | nil => simp only [rdWords, List.map_nil, List.foldl_nil, stepItem, if_neg hp, if_pos hw]
        | cons w2 ws2 =>
          have := ih ⟨st.out ++ [st.pend], w, false⟩ (by simp)
          simp only [stepItem, hp, hw, if_true, if_false] at this ⊢
          exact this
      · rw [if_neg hw]
        cases ws with
        | nil => simp only [rdWords, List.map_nil, List.foldl_nil, stepItem, if_neg hp, if_neg hw]
        | cons w2 ws2 =>
          have := ih ⟨st.out, st.pend ++ [cSP] ++ w, false⟩ (by simp)
          simp only [stepItem, hp, hw, if_false] at this ⊢
          exact this

theorem fieldsAux_ne_nil (cls : Cls) (line cur : List Rune)
    (h : cur ≠ [] ∨ ¬ line.all cls.isSpace = true) : fieldsAux cls line cur ≠ [] := by
  induction line generalizing cur with
  | nil =>
    rcases h with h | h
    · simp [fieldsAux, h]
    · simp at h
  | cons r rs ih =>
    unfold fieldsAux
    by_cases hs : cls.isSpace r = true
    · rw [if_pos hs]
      by_cases hc : cur = []
      · rw [if_pos hc]
        apply ih
        rcases h with h | h
        · exact absurd hc h
        · right; simpa [hs] using h
      · rw [if_neg hc]; simp
    · rw [if_neg hs]
      apply ih
      left; simp

theorem fields_ne_nil (cls : Cls) (line : List Rune) (h : ¬ line.all cls.isSpace = true) :
    fields cls line ≠ [] := fieldsAux_ne_nil cls line [] (Or.inr h)

theorem rdLines_fold (cls : Cls) (maxWidth : Int) (lines : List (List Rune)) (st : RDState) :
    rdLines cls maxWidth lines st = (itemsOf cls lines).foldl (stepItem maxWidth) st := by
  induction lines generalizing st with
  | nil => rfl
  | cons line ls ih =>
    unfold rdLines
    simp only [itemsOf, List.flatMap_cons, List.foldl_append]
    by_cases hb : line.all cls.isSpace = true
    · rw [if_pos hb]
      simp only [itemsOfLine, hb, if_true, List.foldl_cons, List.foldl_nil]
      rw [ih]
      rfl
    · rw [if_neg hb]
      simp only [itemsOfLine, hb, Bool.false_eq_true, if_false]
      have := rdWords_fold maxWidth (fields cls line) st (fields_ne_nil cls line hb)
      rw [← this, ih]
      rfl

/-! ## The layout depends on the canonical items only -/

def rdInit : RDState := ⟨[], [], false⟩
def rdFinish (st : RDState) : List (List Rune) := if st.pend ≠ [] then st.out ++ [st.pend] else st.out

/-- `reformatDescription` as a function of the items -/
def layout (maxWidth : Int) (items : List Item) : List (List Rune) :=
  rdFinish (items.foldl (stepItem maxWidth) rdInit)

theorem reformat_eq_layout (cls : Cls) (v : List Rune) (maxWidth : Int) :
    reformatDescription cls v maxWidth = layout maxWidth (itemsOf cls (splitOn cNL v)) := by
  unfold reformatDescription layout rdFinish
  rw [rdLines_fold]
  rfl

/-- a blank-line marker read now adds no empty line: nothing has been printed yet, or the last item
was a blank-line marker.  It is also the rule by which `canonStep` drops a marker. -/
def dropsBlank (st : RDState) : Prop := st.lastWasEmpty = true ∨ (st.out = [] ∧ st.pend = [])

theorem stepItem_blank_drop (maxWidth : Int) {st : RDState} (hp : st.lastWasEmpty = true → st.pend = [])
    (h : dropsBlank st) : stepItem maxWidth st .blank = ⟨st.out, [], true⟩ ∧ st.pend = [] := by
  rcases h with h | ⟨ho, hp'⟩
  · simp [stepItem, hp h, h]
  · simp [stepItem, ho, hp']

theorem stepItem_blank_keep (maxWidth : Int) {st : RDState} (h : ¬ dropsBlank st) :
    stepItem maxWidth st .blank = ⟨rdFinish st ++ [[]], [], true⟩ := by
  have hl : st.lastWasEmpty = false := by
    cases hl : st.lastWasEmpty with
    | false => rfl
    | true => exact absurd (Or.inl hl) h
  by_cases hp : st.pend = []
  · have ho : st.out ≠ [] := fun ho => h (Or.inr ⟨ho, hp⟩)
    simp [stepItem, rdFinish, hl, hp, ho]
  · simp [stepItem, rdFinish, hl, hp]

theorem stepItem_word_congr (maxWidth : Int) (L R : RDState) (w : List Rune) (h1 : L.out = R.out)
    (h2 : L.pend = R.pend) :
    (stepItem maxWidth L (.word w)).out = (stepItem maxWidth R (.word w)).out ∧
    (stepItem maxWidth L (.word w)).pend = (stepItem maxWidth R (.word w)).pend := by
  simp [stepItem, h1, h2]

theorem stepItem_word_drops (maxWidth : Int) (L : RDState) (w : List Rune) (hw : w ≠ []) :
    (stepItem maxWidth L (.word w)).lastWasEmpty = false ∧ ¬ dropsBlank (stepItem maxWidth L (.word w)) := by
  simp only [stepItem, dropsBlank]
  split
  · simp [hw]
  · split <;> simp [hw]

/-- `L`, the run on the items read, against `R`, the run on their canonical form `acc` (`lwe`: the
flag of `canonFrom`): the same lines, and both drop a blank-line marker exactly when `canonStep` does -/
structure Sim (L R : RDState) (acc : List Item) (lwe : Bool) : Prop where
  out : L.out = R.out
  pend : L.pend = R.pend
  pendNil : L.lastWasEmpty = true → L.pend = []
  dropL : dropsBlank L ↔ (lwe = true ∨ acc = [])
  dropR : dropsBlank R ↔ (lwe = true ∨ acc = [])

theorem sim_fold (maxWidth : Int) (items : List Item) (hw : ∀ w, Item.word w ∈ items → w ≠ []) :
    ∀ (L : RDState) (acc : List Item) (lwe : Bool),
      Sim L (acc.foldl (stepItem maxWidth) rdInit) acc lwe →
      Sim (items.foldl (stepItem maxWidth) L)
        ((canonFrom (acc, lwe) items).1.foldl (stepItem maxWidth) rdInit)
        (canonFrom (acc, lwe) items).1 (canonFrom (acc, lwe) items).2 := by
  induction items with
  | nil => intro L acc lwe h; exact h
  | cons x xs ih =>
    intro L acc lwe h
    have hxs : ∀ w, Item.word w ∈ xs → w ≠ [] := fun w hm => hw w (by simp [hm])
    simp only [List.foldl_cons, canonFrom]
    apply ih hxs
    cases x with
    | word w =>
      have hwne : w ≠ [] := hw w (by simp)
      simp only [List.foldl_append, List.foldl_cons, List.foldl_nil]
      obtain ⟨c1, c2⟩ := stepItem_word_congr maxWidth L (acc.foldl (stepItem maxWidth) rdInit) w
        h.out h.pend
      have hno : ¬ ((false : Bool) = true ∨ acc ++ [Item.word w] = []) := by simp
      exact ⟨c1, c2, fun hl => absurd ((stepItem_word_drops maxWidth L w hwne).1.symm.trans hl) (by decide),
        iff_of_false (stepItem_word_drops maxWidth L w hwne).2 hno,
        iff_of_false (stepItem_word_drops maxWidth _ w hwne).2 hno⟩
    | blank =>
      by_cases hk : (!lwe) = true ∧ acc ≠ []
      · -- kept by `canonStep`: both runs flush the pending line and add an empty one
        have hno : ¬ (lwe = true ∨ acc = []) := by
          rintro (e | e)
          · simp [e] at hk
          · exact hk.2 e
        rw [if_pos hk]
        simp only [List.foldl_append, List.foldl_cons, List.foldl_nil]
        rw [stepItem_blank_keep maxWidth (mt h.dropL.mp hno), stepItem_blank_keep maxWidth (mt h.dropR.mp hno)]
        refine ⟨by simp only [rdFinish, h.out, h.pend], rfl, fun _ => rfl,
          iff_of_true (Or.inl rfl) (Or.inl rfl), iff_of_true (Or.inl rfl) (Or.inl rfl)⟩
      · -- dropped: the run on the items only sets its flag
        have hyes : lwe = true ∨ acc = [] := by
          cases lwe with
          | true => exact Or.inl rfl
          | false => exact Or.inr (Decidable.not_not.mp fun e => hk ⟨rfl, e⟩)
        rw [if_neg hk]
        obtain ⟨hstep, hp⟩ := stepItem_blank_drop maxWidth h.pendNil (h.dropL.mpr hyes)
        rw [hstep]
        exact ⟨h.out, by rw [← h.pend, hp], fun _ => rfl, iff_of_true (Or.inl rfl) (Or.inl rfl),
          iff_of_true (h.dropR.mpr hyes) (Or.inl rfl)⟩

theorem layout_canon (maxWidth : Int) (items : List Item) (hw : ∀ w, Item.word w ∈ items → w ≠ []) :
    layout maxWidth items = layout maxWidth (canon items) := by
  have h0 : Sim rdInit (([] : List Item).foldl (stepItem maxWidth) rdInit) [] false :=
    ⟨rfl, rfl, fun h => Bool.noConfusion h, iff_of_true (Or.inr ⟨rfl, rfl⟩) (Or.inr rfl),
      iff_of_true (Or.inr ⟨rfl, rfl⟩) (Or.inr rfl)⟩
  have := sim_fold maxWidth items hw rdInit [] false h0
  unfold layout rdFinish canon
  rw [this.out, this.pend]

/-! ## The output lines, read back as items, are the canonical items of the input -/

def renderLine (ws : List (List Rune)) : List Rune := joinWith [cSP] ws
def lineItems (ws : List (List Rune)) : List Item := if ws = [] then [.blank] else ws.map .word

theorem renderLine_eq_nil (ws : List (List Rune)) (hw : ∀ w ∈ ws, w ≠ []) :
    renderLine ws = [] ↔ ws = [] := by
  cases ws with
  | nil => simp [renderLine, joinWith]
  | cons a as =>
    have ha := hw a (by simp)
    cases as with
    | nil => simp [renderLine, joinWith, ha]
    | cons b bs => simp [renderLine, joinWith, ha]

theorem lineItems_ne_nil (ws : List (List Rune)) : lineItems ws ≠ [] := by
  unfold lineItems; split <;> simp_all

theorem flatMap_lineItems_eq_nil (ls : List (List (List Rune))) :
    ls.flatMap lineItems = [] ↔ ls = [] := by
  cases ls with
  | nil => simp
  | cons a as => simp [lineItems_ne_nil]

/-- the state is the rendering of structured lines whose items are `acc` -/
def Rep (P : List Rune → Prop) (st : RDState) (acc : List Item) : Prop :=
  ∃ (linesW : List (List (List Rune))) (pw : List (List Rune)),
    st.out = linesW.map renderLine ∧ st.pend = renderLine pw ∧ (∀ w ∈ pw, w ≠ [] ∧ P w) ∧
    (∀ ws ∈ linesW, ∀ w ∈ ws, w ≠ [] ∧ P w) ∧ acc = linesW.flatMap lineItems ++ pw.map Item.word

/-- flushing the pending line keeps the representation: `rdFinish st` is rendered lines with the
items `acc` -/
theorem Rep.flush {P : List Rune → Prop} {st : RDState} {acc : List Item} (h : Rep P st acc) :
    ∃ linesW : List (List (List Rune)), rdFinish st = linesW.map renderLine ∧
      (∀ ws ∈ linesW, ∀ w ∈ ws, w ≠ [] ∧ P w) ∧ acc = linesW.flatMap lineItems := by
  obtain ⟨linesW, pw, h1, h2, h3, h4, h5⟩ := h
  unfold rdFinish
  by_cases hp : st.pend = []
  · have hpw : pw = [] := (renderLine_eq_nil pw (fun w h => (h3 w h).1)).mp (by rw [← h2, hp])
    exact ⟨linesW, by simp [hp, h1], h4, by rw [h5, hpw]; simp⟩
  · have hpw : pw ≠ [] := fun e => hp (by rw [h2, e]; rfl)
    have hp2 : ¬ renderLine pw = [] := by rw [← h2]; exact hp
    refine ⟨linesW ++ [pw], by simp [hp2, h1, h2], ?_, by rw [h5]; simp [lineItems, hpw]⟩
    intro ws hws
    rcases List.mem_append.mp hws with hh | hh
    · exact h4 ws hh
    · simp at hh; subst hh; exact h3

theorem Rep.flushed {P : List Rune → Prop} {st : RDState} {acc : List Item} (h : Rep P st acc) (b : Bool) :
    Rep P ⟨rdFinish st, [], b⟩ acc := by
  obtain ⟨linesW, f1, f2, f3⟩ := h.flush
  exact ⟨linesW, [], f1, rfl, List.forall_mem_nil _, f2, by rw [f3]; simp⟩

theorem Rep.newLine {P : List Rune → Prop} {out : List (List Rune)} {b b' : Bool} {acc : List Item}
    (h : Rep P ⟨out, [], b⟩ acc) {w : List Rune} (hw : w ≠ [] ∧ P w) : Rep P ⟨out, w, b'⟩ (acc ++ [.word w]) := by
  obtain ⟨linesW, pw, h1, h2, h3, h4, h5⟩ := h
  have hpw : pw = [] := (renderLine_eq_nil pw (fun w h => (h3 w h).1)).mp h2.symm
  refine ⟨linesW, [w], h1, by simp [renderLine, joinWith], ?_, h4, by rw [h5, hpw]; simp⟩
  intro x hx; simp at hx; subst hx; exact hw

/-- a word starts a line on the flushed state, or joins the pending line -/
theorem Rep.word {P : List Rune → Prop} {L : RDState} {acc : List Item} (h : Rep P L acc) (maxWidth : Int)
    {w : List Rune} (hw : w ≠ [] ∧ P w) : Rep P (stepItem maxWidth L (.word w)) (acc ++ [.word w]) := by
  have hnew : Rep P ⟨rdFinish L, w, false⟩ (acc ++ [.word w]) := (h.flushed false).newLine hw
  simp only [stepItem]
  by_cases hp : L.pend = []
  · rw [if_pos hp]
    simpa [rdFinish, hp] using hnew
  · rw [if_neg hp]
    by_cases hlen : ((byteLen L.pend + byteLen w : Nat) : Int) > maxWidth
    · rw [if_pos hlen]
      simpa [rdFinish, hp] using hnew
    · rw [if_neg hlen]
      obtain ⟨linesW, pw, h1, h2, h3, h4, h5⟩ := h
      have hpw : pw ≠ [] := fun e => hp (by rw [h2, e]; rfl)
      refine ⟨linesW, pw ++ [w], h1, ?_, ?_, h4, by rw [h5]; simp⟩
      · show L.pend ++ [cSP] ++ w = renderLine (pw ++ [w])
        unfold renderLine
        rw [joinWith_snoc _ _ _ hpw, h2]; rfl
      · intro x hx
        rcases List.mem_append.mp hx with hh | hh
        · exact h3 x hh
        · simp at hh; subst hh; exact hw

/-- a blank flushes, and adds an empty line exactly when `canonStep` keeps the marker -/
theorem Rep.blank {P : List Rune → Prop} {L : RDState} {acc : List Item} (h : Rep P L acc) (maxWidth : Int) :
    Rep P (stepItem maxWidth L .blank)
      (if (!L.lastWasEmpty) = true ∧ acc ≠ [] then acc ++ [.blank] else acc) := by
  obtain ⟨linesW, f1, f2, f3⟩ := h.flush
  have hne : rdFinish L ≠ [] ↔ acc ≠ [] := by
    rw [f1, f3, Ne, Ne, List.map_eq_nil_iff, flatMap_lineItems_eq_nil]
  show Rep P ⟨if (!L.lastWasEmpty) = true ∧ rdFinish L ≠ [] then rdFinish L ++ [[]] else rdFinish L, [], true⟩ _
  by_cases hc : (!L.lastWasEmpty) = true ∧ acc ≠ []
  · rw [if_pos hc, if_pos ⟨hc.1, hne.mpr hc.2⟩]
    refine ⟨linesW ++ [[]], [], by rw [f1]; simp [renderLine, joinWith], rfl, List.forall_mem_nil _, ?_,
      by rw [f3]; simp [lineItems]⟩
    intro ws hws
    rcases List.mem_append.mp hws with hh | hh
    · exact f2 ws hh
    · simp at hh; subst hh; intro w h; cases h
  · rw [if_neg hc, if_neg fun hh => hc ⟨hh.1, hne.mp hh.2⟩]
    exact ⟨linesW, [], f1, rfl, List.forall_mem_nil _, f2, by rw [f3]; simp⟩

theorem rep_fold (P : List Rune → Prop) (maxWidth : Int) (items : List Item)
    (hw : ∀ w, Item.word w ∈ items → w ≠ [] ∧ P w) :
    ∀ (L : RDState) (acc : List Item), Rep P L acc →
      Rep P (items.foldl (stepItem maxWidth) L) (canonFrom (acc, L.lastWasEmpty) items).1 ∧
      (items.foldl (stepItem maxWidth) L).lastWasEmpty = (canonFrom (acc, L.lastWasEmpty) items).2 := by
  induction items with
  | nil => intro L acc h; exact ⟨h, rfl⟩
  | cons x xs ih =>
    intro L acc h
    have hxs : ∀ w, Item.word w ∈ xs → w ≠ [] ∧ P w := fun w hm => hw w (by simp [hm])
    simp only [List.foldl_cons, canonFrom, canonStep]
    cases x with
    | word w =>
      have hwne := hw w (by simp)
      have := ih hxs _ _ (h.word maxWidth hwne)
      rwa [(stepItem_word_drops maxWidth L w hwne.1).1] at this
    | blank => exact ih hxs _ _ (h.blank maxWidth)

/-- a word: non-empty, no white space -/
def WordWF (cls : Cls) (w : List Rune) : Prop := w ≠ [] ∧ ∀ r ∈ w, cls.isSpace r = false

theorem fieldsAux_words (cls : Cls) (line : List Rune) : ∀ (cur : List Rune),
    (∀ r ∈ cur, cls.isSpace r = false) →
    ∀ w ∈ fieldsAux cls line cur, WordWF cls w ∧ ∀ r ∈ w, r ∈ cur ++ line := by
  induction line with
  | nil =>
    intro cur hc w hw
    unfold fieldsAux at hw
    split at hw
    · cases hw
    · rename_i hne
      simp at hw; subst hw
      exact ⟨⟨hne, hc⟩, fun r hr => by simpa using hr⟩
  | cons x xs ih =>
    intro cur hc w hw
    unfold fieldsAux at hw
    by_cases hs : cls.isSpace x = true
    · rw [if_pos hs] at hw
      have tail : w ∈ fieldsAux cls xs [] → WordWF cls w ∧ ∀ r ∈ w, r ∈ cur ++ x :: xs := fun h =>
        ⟨(ih [] (fun r h => by cases h) w h).1, fun r hr => by
          have := (ih [] (fun r h => by cases h) w h).2 r hr
          simp at this ⊢; exact Or.inr (Or.inr this)⟩
      split at hw
      · exact tail hw
      · rename_i hcur
        rcases List.mem_cons.mp hw with rfl | hw
        · exact ⟨⟨hcur, hc⟩, fun r hr => by simp [hr]⟩
        · exact tail hw
    · rw [if_neg hs] at hw
      obtain ⟨h1, h2⟩ := ih (cur ++ [x]) (by
        intro r hr
        rcases List.mem_append.mp hr with h | h
        · exact hc r h
        · simp at h; subst h; simpa using hs) w hw
      exact ⟨h1, fun r hr => by simpa using h2 r hr⟩
theorem fields_words (cls : Cls) (line : List Rune) :
    ∀ w ∈ fields cls line, WordWF cls w ∧ ∀ r ∈ w, r ∈ line := by
  intro w hw
  obtain ⟨h1, h2⟩ := fieldsAux_words cls line [] (fun r h => by cases h) w hw
  exact ⟨h1, fun r hr => by simpa using h2 r hr⟩

theorem fieldsAux_word (cls : Cls) (w : List Rune) (hw : ∀ r ∈ w, cls.isSpace r = false)
    (rest cur : List Rune) : fieldsAux cls (w ++ rest) cur = fieldsAux cls rest (cur ++ w) := by
  induction w generalizing cur with
  | nil => simp
  | cons x xs ih =>
    have hx : ¬ cls.isSpace x = true := by simp [hw x (by simp)]
    simp only [List.cons_append]
    conv => lhs; unfold fieldsAux
    rw [if_neg hx, ih (fun r hr => hw r (by simp [hr]))]
    simp

theorem fields_renderLine (cls : Cls) (hsp : cls.isSpace cSP = true) (ws : List (List Rune))
    (hw : ∀ w ∈ ws, WordWF cls w) : fields cls (renderLine ws) = ws := by
  unfold fields renderLine
  induction ws with
  | nil => rfl
  | cons a as ih =>
    have ha := hw a (by simp)
    cases as with
    | nil =>
      simp only [joinWith]
      have := fieldsAux_word cls a ha.2 [] []
      simp only [List.append_nil, List.nil_append] at this
      rw [this]
      simp [fieldsAux, ha.1]
    | cons b bs =>
      have ih' := ih (fun w h => hw w (by simp [h]))
      simp only [joinWith]
      have := fieldsAux_word cls a ha.2 ([cSP] ++ joinWith [cSP] (b :: bs)) []
      simp only [List.nil_append, List.append_assoc] at this ⊢
      rw [this]
      show fieldsAux cls (cSP :: joinWith [cSP] (b :: bs)) a = _
      conv => lhs; unfold fieldsAux
      rw [if_pos hsp, if_neg ha.1, ih']

theorem itemsOfLine_renderLine (cls : Cls) (hsp : cls.isSpace cSP = true) (ws : List (List Rune))
    (hw : ∀ w ∈ ws, WordWF cls w) : itemsOfLine cls (renderLine ws) = lineItems ws := by
  unfold itemsOfLine lineItems
  cases ws with
  | nil => simp [renderLine, joinWith]
  | cons a as =>
    have ha := hw a (by simp)
    have hnot : ¬ (renderLine (a :: as)).all cls.isSpace = true := by
      obtain ⟨x, xs, hx⟩ := List.exists_cons_of_ne_nil ha.1
      have hxs : cls.isSpace x = false := ha.2 x (by rw [hx]; simp)
      have : ∃ t, renderLine (a :: as) = x :: t := by
        cases as with
        | nil => exact ⟨xs, by simp [renderLine, joinWith, hx]⟩
        | cons b bs => exact ⟨xs ++ [cSP] ++ joinWith [cSP] (b :: bs), by simp [renderLine, joinWith, hx]⟩
      obtain ⟨t, ht⟩ := this
      rw [ht]; simp [hxs]
    rw [if_neg hnot, fields_renderLine cls hsp _ hw]
    simp

theorem itemsOf_words (cls : Cls) (lines : List (List Rune)) :
    ∀ w, Item.word w ∈ itemsOf cls lines → WordWF cls w ∧ ∃ l ∈ lines, ∀ r ∈ w, r ∈ l := by
  intro w hw
  unfold itemsOf at hw
  obtain ⟨l, hl, hm⟩ := List.mem_flatMap.mp hw
  unfold itemsOfLine at hm
  split at hm
  · simp at hm
  · obtain ⟨w', hw', he⟩ := List.mem_map.mp hm
    cases he
    obtain ⟨h1, h2⟩ := fields_words cls l w hw'
    exact ⟨h1, l, hl, h2⟩

/-- a word of a description: no white space, no newline -/
def DescWord (cls : Cls) (w : List Rune) : Prop := (∀ r ∈ w, cls.isSpace r = false) ∧ cNL ∉ w

theorem renderLine_no_nl (ws : List (List Rune)) (h : ∀ w ∈ ws, cNL ∉ w) : cNL ∉ renderLine ws := by
  unfold renderLine
  induction ws with
  | nil => simp [joinWith]
  | cons a as ih =>
    cases as with
    | nil => simpa [joinWith] using h a (by simp)
    | cons b bs =>
      have := ih (fun w hw => h w (by simp [hw]))
      have ha := h a (by simp)
      simp only [joinWith, List.mem_append, not_or]
      exact ⟨⟨ha, by decide⟩, this⟩

/-- structure of the output of `layout`: rendered word lines whose items are the canonical input -/
theorem layout_rep (cls : Cls) (maxWidth : Int) (items : List Item)
    (hw : ∀ w, Item.word w ∈ items → w ≠ [] ∧ DescWord cls w) :
    ∃ linesW : List (List (List Rune)), layout maxWidth items = linesW.map renderLine ∧
      (∀ ws ∈ linesW, ∀ w ∈ ws, w ≠ [] ∧ DescWord cls w) ∧ canon items = linesW.flatMap lineItems := by
  have h0 : Rep (DescWord cls) rdInit [] :=
    ⟨[], [], rfl, rfl, (fun w h => by cases h), (fun ws h => by cases h), rfl⟩
  exact (rep_fold (DescWord cls) maxWidth items hw rdInit [] h0).1.flush

theorem itemsOf_map_renderLine (cls : Cls) (hsp : cls.isSpace cSP = true)
    (linesW : List (List (List Rune))) (h : ∀ ws ∈ linesW, ∀ w ∈ ws, w ≠ [] ∧ DescWord cls w) :
    itemsOf cls (linesW.map renderLine) = linesW.flatMap lineItems := by
  induction linesW with
  | nil => rfl
  | cons ws rest ih =>
    simp only [itemsOf, List.map_cons, List.flatMap_cons]
    rw [itemsOfLine_renderLine cls hsp ws (fun w hw => ⟨(h ws (by simp) w hw).1, (h ws (by simp) w hw).2.1⟩)]
    congr 1
    exact ih (fun ws' hws' => h ws' (by simp [hws']))

theorem splitOn_eq_splitLines (s : List Rune) : splitOn cNL s = splitLines s := by
  induction s with
  | nil => rfl
  | cons r rs ih =>
    unfold splitOn
    rw [ih, splitLines_cons]
    cases splitLines rs <;> rfl

theorem items_desc_words (cls : Cls) (v : List Rune) :
    ∀ w, Item.word w ∈ itemsOf cls (splitOn cNL v) → w ≠ [] ∧ DescWord cls w := by
  intro w hw
  obtain ⟨⟨h1, h2⟩, l, hl, h3⟩ := itemsOf_words cls _ w hw
  refine ⟨h1, h2, ?_⟩
  intro hnl
  rw [splitOn_eq_splitLines] at hl
  exact splitLines_no_nl_mem v l hl (h3 _ hnl)

theorem canon_idem_aux (items : List Item) : ∀ (acc : List Item) (lwe b : Bool),
    canonFrom ([], false) acc = (acc, b) → (b = true → lwe = true) →
    ∃ b', canonFrom ([], false) (canonFrom (acc, lwe) items).1 = ((canonFrom (acc, lwe) items).1, b') := by
  induction items with
  | nil => intro acc lwe b h _; exact ⟨b, h⟩
  | cons x xs ih =>
    intro acc lwe b h hb
    have hstep : canonFrom (acc, lwe) (x :: xs) = canonFrom (canonStep (acc, lwe) x) xs := rfl
    rw [hstep]
    cases x with
    | word w =>
      have e : canonStep (acc, lwe) (.word w) = (acc ++ [.word w], false) := rfl
      rw [e]
      refine ih (acc ++ [.word w]) false false ?_ (fun e => by cases e)
      unfold canonFrom at h ⊢
      rw [List.foldl_append, h]
      rfl
    | blank =>
      by_cases hk : (!lwe) = true ∧ acc ≠ []
      · have e : canonStep (acc, lwe) .blank = (acc ++ [.blank], true) := by
          simp only [canonStep]; rw [if_pos hk]
        rw [e]
        have hbf : b = false := by
          cases hb' : b with
          | false => rfl
          | true => have := hb hb'; simp [this] at hk
        refine ih (acc ++ [.blank]) true true ?_ (fun _ => rfl)
        unfold canonFrom at h ⊢
        rw [List.foldl_append, h, hbf]
        simp [canonStep, hk.2]
      · have e : canonStep (acc, lwe) .blank = (acc, true) := by
          simp only [canonStep]; rw [if_neg hk]
        rw [e]
        exact ih acc true b h (fun _ => rfl)

theorem canon_idem (items : List Item) : canon (canon items) = canon items := by
  obtain ⟨b', h⟩ := canon_idem_aux items [] false false rfl (fun e => by cases e)
  unfold canon
  rw [h]

/-- canonical items of the re-read output (`strings.Join(lines, "\n")`, split again) -/
theorem canon_reread (cls : Cls) (hsp : cls.isSpace cSP = true) (maxWidth : Int) (items : List Item)
    (hw : ∀ w, Item.word w ∈ items → w ≠ [] ∧ DescWord cls w) :
    canon (itemsOf cls (splitOn cNL (joinWith [cNL] (layout maxWidth items)))) = canon items := by
  obtain ⟨linesW, h1, h2, h3⟩ := layout_rep cls maxWidth items hw
  rw [splitOn_eq_splitLines]
  by_cases he : linesW = []
  · subst he
    rw [h1, h3]
    simp [joinWith, splitLines, itemsOf, itemsOfLine, canon, canonFrom, canonStep]
  · have hne : layout maxWidth items ≠ [] := by rw [h1]; simpa using he
    have hnl : ∀ l ∈ layout maxWidth items, cNL ∉ l := by
      rw [h1]
      intro l hl
      obtain ⟨ws, hws, rfl⟩ := List.mem_map.mp hl
      exact renderLine_no_nl ws (fun w hw' => (h2 ws hws w hw').2.2)
    rw [splitLines_joinWith _ hne hnl, h1, itemsOf_map_renderLine cls hsp linesW h2, ← h3]
    exact canon_idem items

/-- **Words and paragraph breaks are preserved**: reading the re-flowed lines back gives the same
canonical items (words in order, paragraph breaks) as the original description value. -/
theorem reformat_preserves_words (cls : Cls) (hsp : cls.isSpace cSP = true) (v : List Rune)
    (maxWidth : Int) :
    canon (itemsOf cls (splitOn cNL (joinWith [cNL] (reformatDescription cls v maxWidth)))) =
      canon (itemsOf cls (splitOn cNL v)) := by
  rw [reformat_eq_layout]
  exact canon_reread cls hsp maxWidth _ (items_desc_words cls v)

/-- **Re-flowing is stable**: re-flowing the joined output at the same width changes nothing. -/
theorem reformat_stable (cls : Cls) (hsp : cls.isSpace cSP = true) (v : List Rune) (maxWidth : Int) :
    reformatDescription cls (joinWith [cNL] (reformatDescription cls v maxWidth)) maxWidth =
      reformatDescription cls v maxWidth := by
  rw [reformat_eq_layout cls (joinWith [cNL] (reformatDescription cls v maxWidth))]
  rw [layout_canon maxWidth _ (fun w hw => (items_desc_words cls _ w hw).1)]
  rw [reformat_preserves_words cls hsp v maxWidth]
  rw [← layout_canon maxWidth _ (fun w hw => (items_desc_words cls v w hw).1)]
  rw [← reformat_eq_layout]

end J5V.Bcl
