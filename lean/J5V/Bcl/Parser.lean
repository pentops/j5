import J5V.Bcl.Lexer
/-!
# BCL parser model (core only) — mirrors `/repo/internal/bcl/internal/parser/`
`parser.go` (ParseFile, Walk, Walker, fragmentsToFile), `statements.go`, `expressions.go`,
`value.go` (shapes only), `errors.go` (unexpectedTokenError positions).

The Go `Walker` indexes `tokens[offset]`.  Here the walker state `W` is `rest = tokens[offset:]`
plus `prev = tokens[offset-1]` (none at offset 0): this is all `popToken`, `peekType` and
`currentPos` read (`tokens[len-1]` is read only when `offset = len`, where it *is* `prev`).

Go's partial operations are explicit `.panic` results:
* `popToken` past the end of an empty token slice (`tokens[len(tokens)-1]` with `len = 0`);
* `NewReference(idents)` with no idents (`idents[0]`).
Loops whose continuation is the state returned by a callee take `fuel` (`.panic "fuel"` when
exhausted); the fuel given by `walkFragments` (`2·len(tokens)+2` for the value recursion — each array
level uses two calls —, `len(tokens)+1` for the fragment loop) is always enough (`WalkRun` for the value
recursion, `ParserProofs` for the loop, `ParseFileProofs` for these two figures).
-/
namespace J5V.Bcl

structure Span where
  start : Pos
  end_ : Pos
  deriving DecidableEq, Repr, Inhabited

/-- a `*Comment` attached to a `SourceNode` by `endStatement` (its `Token` is the zero token) -/
structure CommentNode where
  value : List Rune
  span : Span
  deriving DecidableEq, Repr, Inhabited

/-- `SourceNode` -/
structure SourceNode where
  start : Pos
  end_ : Pos
  comment : Option CommentNode := none
  deriving DecidableEq, Repr, Inhabited

structure Ident where
  token : Token
  value : List Rune
  span : Span
  deriving DecidableEq, Repr, Inhabited

structure Reference where
  idents : List Ident
  span : Span
  deriving DecidableEq, Repr, Inhabited

/-- `Reference.String()` -/
def Reference.string (r : Reference) : List Rune := joinWith [cDOT] (r.idents.map (·.value))

/-- `Value`: a token, or a (non-nil) array -/
inductive Value where
  | scalar (tok : Token) (span : Span)
  | array (vs : List Value) (span : Span)
  deriving Repr, Inhabited

def Value.span : Value → Span
  | .scalar _ s => s
  | .array _ s => s

inductive TagMark where
  | none | bang | question
  deriving DecidableEq, Repr, Inhabited

structure TagValue where
  mark : TagMark
  markToken : Token
  reference : Option Reference
  value : Option Value
  span : Span
  deriving Repr, Inhabited

structure Description where
  tokens : List Token
  value : List Rune
  span : Span
  deriving DecidableEq, Repr, Inhabited

structure BlockHeader where
  type : Reference
  tags : List TagValue
  qualifiers : List TagValue
  description : Option Description
  isOpen : Bool
  src : SourceNode
  deriving Repr, Inhabited

structure Assignment where
  key : Reference
  value : Value
  append : Bool
  src : SourceNode
  deriving Repr, Inhabited

structure CloseBlock where
  token : Token
  span : Span
  deriving DecidableEq, Repr, Inhabited

structure Comment where
  token : Token
  value : List Rune
  span : Span
  deriving DecidableEq, Repr, Inhabited

inductive Fragment where
  | header (h : BlockHeader)
  | assign (a : Assignment)
  | desc (d : Description)
  | comment (c : Comment)
  | close (c : CloseBlock)
  deriving Repr, Inhabited

/-- `Fragment.Source()` -/
def Fragment.src : Fragment → SourceNode
  | .header h => h.src
  | .assign a => a.src
  | .desc d => ⟨d.span.start, d.span.end_, none⟩
  | .comment c => ⟨c.span.start, c.span.end_, none⟩
  | .close c => ⟨c.span.start, c.span.end_, none⟩

/-- `Statement` of a `Body` -/
inductive Statement where
  | block (h : BlockHeader) (body : List Statement)
  | assign (a : Assignment)
  | desc (d : Description)
  deriving Repr, Inhabited

/-- a positioned diagnostic (`errpos.Err` with `Pos.Start/End`); `kind` classifies the message -/
inductive DiagKind where
  | lex (k : LexErrKind)
  | unexpectedToken (got : TokenType) (want : List TokenType)
  | unexpectedClose
  | unclosedBlock
  deriving DecidableEq, Repr, Inhabited

structure Diag where
  start : Pos
  end_ : Pos
  kind : DiagKind
  deriving DecidableEq, Repr, Inhabited

structure File where
  body : List Statement
  errors : List Diag
  deriving Repr, Inhabited

/-! ## Walker -/

structure W where
  prev : Option Token
  rest : List Token
  deriving Repr, Inhabited

/-- `unexpectedTokenError` -/
structure UnexpErr where
  tok : Token
  expected : List TokenType
  deriving Repr, Inhabited

/-- `ErrorPosition()` + `msg()` class -/
def UnexpErr.diag (e : UnexpErr) : Diag := ⟨e.tok.start, e.tok.end_, .unexpectedToken e.tok.ty e.expected⟩

/-- result of a walker method returning `(T, *unexpectedTokenError)` -/
inductive WR (α : Type) where
  | ok (a : α) (w : W)
  | fail (e : UnexpErr) (w : W)
  | panic (why : String)
  deriving Repr

def WM (α : Type) := W → WR α

def WM.pure {α} (a : α) : WM α := fun w => .ok a w
def WM.bind {α β} (m : WM α) (f : α → WM β) : WM β := fun w =>
  match m w with
  | .ok a w1 => f a w1
  | .fail e w1 => .fail e w1
  | .panic s => .panic s

instance : Monad WM where
  pure := WM.pure
  bind := WM.bind

def WM.fail {α} (e : UnexpErr) : WM α := fun w => .fail e w
def WM.panic {α} (s : String) : WM α := fun _ => .panic s

/-- `currentPos()` -/
def W.currentPos (w : W) : Pos :=
  match w.prev with
  | none => ⟨0, 0⟩
  | some t => t.end_

/-- `peekType(0)` -/
def W.nextType (w : W) : TokenType :=
  match w.rest with
  | [] => .eof
  | t :: _ => t.ty

/-- `peekType(1)` -/
def W.peekType1 (w : W) : TokenType :=
  match w.rest with
  | _ :: t :: _ => t.ty
  | _ => .eof

/-- `popToken()` -/
def popToken : WM Token := fun w =>
  match w.rest with
  | t :: rs => .ok t ⟨some t, rs⟩
  | [] =>
    match w.prev with
    | none => .panic "index out of range [-1]"     -- tokens[len(tokens)-1] with len = 0
    | some l =>
      if l.ty = .eof then .ok l w
      else .ok ⟨.eof, [], l.end_, l.end_⟩ w

def getW : WM W := fun w => .ok w w

/-- `unexpectedToken(ww.popToken(), expected...)` -/
def failUnexpected {α} (expected : List TokenType) : WM α := do
  let tok ← popToken
  WM.fail ⟨tok, expected⟩

/-- `popType(tt)` -/
def popType (tt : TokenType) : WM Token := do
  let tok ← popToken
  if tok.ty ≠ tt then WM.fail ⟨tok, [tt]⟩ else pure tok

/-- `Token.AsIdent()` -/
def Token.asIdent (t : Token) : Option Token :=
  match t.ty with
  | .ident => some t
  | .bool => some { t with ty := .ident }
  | _ => none

/-- `popIdent()` -/
def popIdent : WM Ident := do
  let tok ← popToken
  match tok.asIdent with
  | none => WM.fail ⟨tok, [.ident]⟩
  | some t => pure ⟨t, t.lit, ⟨t.start, t.end_⟩⟩

/-- `NewReference(idents)`: `idents[0]` and `idents[len-1]` (`none` = index out of range) -/
def newReference (idents : List Ident) : Option Reference :=
  match idents.head?, idents.getLast? with
  | some f, some l => some ⟨idents, ⟨f.span.start, l.span.end_⟩⟩
  | _, _ => none

/-- the loop of `popReference()`; structural over the token list: each round reads an ident and,
if a `.` follows, the dot.  `w` is threaded by hand because the recursion is on `w.rest`. -/
def popReferenceLoop (acc : List Ident) (prev : Option Token) : List Token → WR Reference
  | [] =>
    -- popIdent → popToken past the end (synthesised EOF) → not an ident → NewReference(acc)
    match popToken ⟨prev, []⟩ with
    | .ok tok w1 =>
      match newReference acc with
      | none => .panic "index out of range [0]"
      | some _ => .fail ⟨tok, [.ident]⟩ w1
    | .fail e w1 => .fail e w1
    | .panic s => .panic s
  | t :: rs =>
    match t.asIdent with
    | none =>
      match newReference acc with
      | none => .panic "index out of range [0]"
      | some _ => .fail ⟨t, [.ident]⟩ ⟨some t, rs⟩
    | some it =>
      let acc' := acc ++ [(⟨it, it.lit, ⟨it.start, it.end_⟩⟩ : Ident)]
      match rs with
      | d :: rs2 =>
        if d.ty = .dot then popReferenceLoop acc' (some d) rs2
        else
          match newReference acc' with
          | none => .panic "index out of range [0]"
          | some r => .ok r ⟨some t, d :: rs2⟩
      | [] =>
        match newReference acc' with
        | none => .panic "index out of range [0]"
        | some r => .ok r ⟨some t, []⟩

/-- `popReference()` -/
def popReference : WM Reference := fun w => popReferenceLoop [] w.prev w.rest

/-- the loop of `popDescription()`: `first` has been popped; while `EOL DESCRIPTION` follows, pop
both. -/
def popDescLoop (toks : List Token) (last : Token) : List Token → List Token × Token × W
  | e :: d :: rs =>
    if e.ty = .eol ∧ d.ty = .description then popDescLoop (toks ++ [d]) d rs
    else (toks, last, ⟨some last, e :: d :: rs⟩)
  | rs => (toks, last, ⟨some last, rs⟩)

def mkDescription (toks : List Token) (first last : Token) : Description :=
  ⟨toks, joinWith [cNL] (toks.map (·.lit)), ⟨first.start, last.end_⟩⟩

/-- `popDescription()` (never fails; `tokens[0]` / `tokens[len-1]` are safe: one token is always
popped) -/
def popDescription : WM Description := do
  let first ← popToken
  fun w =>
    let (toks, last, w1) := popDescLoop [first] first w.rest
    .ok (mkDescription toks first last) w1

mutual
/-- `popValue()` -/
def popValue : Nat → WM Value
  | 0 => WM.panic "fuel"
  | fuel + 1 => fun w =>
    if w.nextType = .ident then
      (do
        let ref ← popReference
        pure (Value.scalar ⟨.string, ref.string, ref.span.start, ref.span.end_⟩ ref.span)) w
    else if w.nextType.isLiteral then
      (do
        let token ← popToken
        pure (Value.scalar token ⟨token.start, token.end_⟩)) w
    else if w.nextType = .lbrack then
      (do
        let opener ← popToken
        let w1 ← getW
        if w1.nextType = TokenType.rbrack then
          let _ ← popToken
          let w2 ← getW
          pure (Value.array [] ⟨opener.start, w2.currentPos⟩)
        else popValueElems fuel opener []) w
    else failUnexpected [.anyLiteral, .lbrack] w
/-- the `for` loop reading array elements -/
def popValueElems : Nat → Token → List Value → WM Value
  | 0, _, _ => WM.panic "fuel"
  | fuel + 1, opener, acc => do
    let value ← popValue fuel
    let acc' := acc ++ [value]
    let w1 ← getW
    if w1.nextType = .comma then
      let _ ← popToken
      popValueElems fuel opener acc'
    else if w1.nextType = .rbrack then
      let _ ← popToken
      let w2 ← getW
      pure (Value.array acc' ⟨opener.start, w2.currentPos⟩)
    else failUnexpected [.comma, .rbrack]
end

/-- `popTag()` -/
def popTag (fuel : Nat) : WM TagValue := do
  let w0 ← getW
  let (mark, markToken) ←
    (match w0.nextType with
     | .bang => do let tok ← popToken; pure (TagMark.bang, tok)
     | .question => do let tok ← popToken; pure (TagMark.question, tok)
     | _ => pure (TagMark.none, Token.zero) : WM (TagMark × Token))
  let w1 ← getW
  match w1.nextType with
  | .ident | .bool =>
    let ref ← popReference
    pure ⟨mark, markToken, some ref, none, ref.span⟩
  | .string =>
    let v ← popValue fuel
    pure ⟨mark, markToken, none, some v, v.span⟩
  | _ => failUnexpected [.ident, .bool, .string]

/-- `endStatement()` -/
def endStatement : WM (Option CommentNode) := do
  let tok ← popToken
  if tok.ty = .comment then
    let c : CommentNode := ⟨tok.lit, ⟨tok.start, tok.end_⟩⟩
    let tok2 ← popToken
    if tok2.ty = .eol ∨ tok2.ty = .eof then pure (some c)
    else WM.fail ⟨tok2, [.comment, .eol]⟩
  else if tok.ty = .eol ∨ tok.ty = .eof then pure none
  else WM.fail ⟨tok, [.comment, .eol]⟩

/-- `walkValueAssign(ref)` -/
def walkValueAssign (fuel : Nat) (ref : Reference) (append : Bool) : WM Assignment := do
  let _ ← popType .assign
  let value ← popValue fuel
  let comment ← endStatement
  pure ⟨ref, value, append, ⟨ref.span.start, value.span.end_, comment⟩⟩

/-- `for ww.nextType().CanStartTag() { popTag }` -/
def tagsLoop (pfuel : Nat) : Nat → List TagValue → WM (List TagValue)
  | 0, _ => WM.panic "fuel"
  | fuel + 1, acc => do
    let w ← getW
    if w.nextType.canStartTag then
      let tag ← popTag pfuel
      tagsLoop pfuel fuel (acc ++ [tag])
    else pure acc

/-- `for ww.nextType() == COLON { pop; popTag }` -/
def qualsLoop (pfuel : Nat) : Nat → List TagValue → WM (List TagValue)
  | 0, _ => WM.panic "fuel"
  | fuel + 1, acc => do
    let w ← getW
    if w.nextType = .colon then
      let _ ← popToken
      let q ← popTag pfuel
      qualsLoop pfuel fuel (acc ++ [q])
    else pure acc

/-- `walkStatement()` -/
def walkStatement (fuel : Nat) : WM Fragment := do
  let ref ← popReference
  let start := ref.span.start
  let w ← getW
  if w.nextType = .assign then
    let a ← walkValueAssign fuel ref false
    pure (.assign a)
  else if w.nextType = .plus then
    let _ ← popToken
    let w1 ← getW
    if w1.nextType ≠ .assign then failUnexpected [.assign]
    else
      let a ← walkValueAssign fuel ref true
      pure (.assign a)
  else
    let tags ← tagsLoop fuel fuel []
    let quals ← qualsLoop fuel fuel []
    let w2 ← getW
    match w2.nextType with
    | .lbrace =>
      let _ ← popToken
      let w3 ← getW
      let comment ← endStatement
      pure (.header ⟨ref, tags, quals, none, true, ⟨start, w3.currentPos, comment⟩⟩)
    | .description =>
      let tok ← popToken
      let desc : Description := ⟨[tok], tok.lit, ⟨tok.start, tok.end_⟩⟩
      let w3 ← getW
      pure (.header ⟨ref, tags, quals, some desc, false, ⟨start, w3.currentPos, none⟩⟩)
    | .comment =>
      -- `hdr.End = ww.currentPos()` (fix 11ea558), then the trailing comment
      let comment ← endStatement
      pure (.header ⟨ref, tags, quals, none, false, ⟨start, w2.currentPos, comment⟩⟩)
    | .eol | .eof =>
      pure (.header ⟨ref, tags, quals, none, false, ⟨start, w2.currentPos, none⟩⟩)
    | _ => failUnexpected [.lbrace, .eol, .description, .ident]

/-- `nextFragment()`; `none` = no fragment (blank line) -/
def nextFragment (fuel : Nat) : WM (Option Fragment) := do
  let w ← getW
  match w.nextType with
  | .eof => let _ ← popToken; pure none
  | .eol => let _ ← popToken; pure none
  | .rbrace =>
    let tok ← popToken
    pure (some (.close ⟨tok, ⟨tok.start, tok.end_⟩⟩))
  | .comment | .blockComment =>
    let tok ← popToken
    pure (some (.comment ⟨tok, tok.lit, ⟨tok.start, tok.end_⟩⟩))
  | .description =>
    let d ← popDescription
    pure (some (.desc d))
  | .ident | .bool =>
    let f ← walkStatement fuel
    pure (some f)
  | _ => failUnexpected [.ident, .comment, .description, .rbrace, .eol]

/-- the skip loop of `recoverError`: pop up to and including the next EOL (or one synthesised
EOF).  Structural over the token list. -/
def skipToEOL (prev : Option Token) : List Token → WR Unit
  | [] =>
    match popToken ⟨prev, []⟩ with
    | .ok _ w1 => .ok () w1
    | .fail e w1 => .fail e w1
    | .panic s => .panic s
  | t :: rs => if t.ty = .eol ∨ t.ty = .eof then .ok () ⟨some t, rs⟩ else skipToEOL (some t) rs

/-- outcome of `walkFragments()`: fragments, accumulated errors, and whether `HadErrors` was
returned (fail-fast) -/
inductive WalkOut where
  | done (frags : List Fragment) (errors : List Diag)
  | hadErrors (errors : List Diag)
  | panic (why : String)
  deriving Repr

/-- `walkFragments()` with `recoverError` inlined -/
def walkFragmentsLoop (failFast : Bool) (pfuel : Nat) :
    Nat → W → List Fragment → List Diag → WalkOut
  | 0, _, _, _ => .panic "fuel"
  | fuel + 1, w, frags, errs =>
    if w.nextType = .eof then .done frags errs
    else
      match nextFragment pfuel w with
      | .panic s => .panic s
      | .ok none w1 => walkFragmentsLoop failFast pfuel fuel w1 frags errs
      | .ok (some f) w1 => walkFragmentsLoop failFast pfuel fuel w1 (frags ++ [f]) errs
      | .fail e w1 =>
        let errs' := errs ++ [e.diag]
        if failFast then .hadErrors errs'
        else
          match skipToEOL w1.prev w1.rest with
          | .panic s => .panic s
          | .fail _ _ => .panic "unreachable"
          | .ok _ w2 => walkFragmentsLoop failFast pfuel fuel w2 frags errs'

def walkFragments (failFast : Bool) (tokens : List Token) : WalkOut :=
  walkFragmentsLoop failFast (2 * tokens.length + 2) (tokens.length + 1) ⟨none, tokens⟩ [] []

/-! ## fragmentsToFile

Go keeps a chain of `walkingBlock`s pointing into the tree under construction.  The model keeps
the open blocks as a stack (innermost first) of `(header, statements so far)`; closing a block
appends the finished `Block` to its parent — the same statement order, because a parent receives
no statement while a child is open. -/

structure OpenBlock where
  hdr : BlockHeader
  stmts : List Statement

/-- append a finished block to the innermost open parent, closing outwards -/
def closeInto (root : List Statement) (blk : Statement) : List OpenBlock → List Statement
  | [] => root ++ [blk]
  | p :: rest => closeInto root (.block p.hdr (p.stmts ++ [blk])) rest

/-- close every block still open (EOF inside a block: Go leaves the partial tree in place) -/
def closeAll (root : List Statement) : List OpenBlock → List Statement
  | [] => root
  | b :: rest => closeInto root (.block b.hdr b.stmts) rest

def fragsLoop : List Fragment → List Statement → List OpenBlock → List Diag →
    List Statement × List OpenBlock × List Diag
  | [], root, stack, errs => (root, stack, errs)
  | f :: fs, root, stack, errs =>
    let add (s : Statement) : List Statement × List OpenBlock :=
      match stack with
      | [] => (root ++ [s], [])
      | b :: rest => (root, ⟨b.hdr, b.stmts ++ [s]⟩ :: rest)
    match f with
    | .header h =>
      if h.isOpen then fragsLoop fs root (⟨h, []⟩ :: stack) errs
      else let (r, s) := add (.block h []); fragsLoop fs r s errs
    | .assign a => let (r, s) := add (.assign a); fragsLoop fs r s errs
    | .desc d => let (r, s) := add (.desc d); fragsLoop fs r s errs
    | .comment _ => fragsLoop fs root stack errs
    | .close c =>
      match stack with
      | [] => fragsLoop fs root stack (errs ++ [⟨c.span.start, c.span.end_, .unexpectedClose⟩])
      | b :: rest =>
        let blk := Statement.block b.hdr b.stmts
        match rest with
        | [] => fragsLoop fs (root ++ [blk]) [] errs
        | p :: rest' => fragsLoop fs root (⟨p.hdr, p.stmts ++ [blk]⟩ :: rest') errs

/-- `fragmentsToFile(fragments)`: the file, with `Errors` non-empty iff `HadErrors` -/
def fragmentsToFile (fragments : List Fragment) : File :=
  let (root, stack, errs) := fragsLoop fragments [] [] []
  let errs' :=
    match stack, fragments.getLast? with
    | _ :: _, some last => errs ++ [⟨last.src.start, last.src.end_, .unclosedBlock⟩]
    | _, _ => errs
  ⟨closeAll root stack, errs'⟩

/-- what `ParseFile` returns: a tree with `err == nil`, or positioned diagnostics (non-`nil`
error wrapping `Errors`), or a panic. -/
inductive ParseOut where
  | tree (f : File)
  | errors (es : List Diag)
  | panic (why : String)
  deriving Repr

def LexErr.diag (e : LexErr) : Diag := ⟨e.pos, e.pos, .lex e.kind⟩

/-- `Walk(tokens, failFast)` followed by the error wrapping of `ParseFile` -/
def walk (failFast : Bool) (tokens : List Token) : ParseOut :=
  match walkFragments failFast tokens with
  | .panic s => .panic s
  | .hadErrors es => .errors es
  | .done frags es =>
    if es ≠ [] then .errors es
    else
      let f := fragmentsToFile frags
      if f.errors ≠ [] then .errors f.errors else .tree f

/-- `ParseFile(input, failFast)` -/
def parseFile (cls : Cls) (src : List Rune) (failFast : Bool) : ParseOut :=
  match allTokens cls failFast src with
  | .nofuel => .panic "lexer fuel"
  | .errs es => .errors (es.map LexErr.diag)
  | .toks ts => walk failFast ts

end J5V.Bcl
