import J5V.Bcl.PosProofs
import J5V.Bcl.LexSpec
import J5V.Go.ListLemmas
/-!
# One step of the lexer

`NextToken` dispatches on the first rune and hands over to one of seven reading loops.  Each loop is
stated once in each direction: what it returns on any input, and what on the text of a literal.  From
these `nextToken_lexed` (an error-free step has skipped white space and read the text of one `Lexeme`, or
has hit the end of the input), its converse `Lexeme.lexes`, and `nextToken_spec` (where any step, failed or
not, stops).  Nothing outside this file unfolds `nextToken`.
-/
namespace J5V.Bcl

theorem ite_some_cases {p : Prop} [Decidable p] {a ty : TokenType} {e : Option TokenType}
    (h : (if p then some a else e) = some ty) : a = ty ∨ e = some ty := by
  by_cases hp : p
  · rw [if_pos hp] at h; exact Or.inl (Option.some.inj h)
  · rw [if_neg hp] at h; exact Or.inr h

theorem operatorOf_isOperator {r : Rune} {ty : TokenType} (h : operatorOf r = some ty) :
    ty.isOperator = true := by
  unfold operatorOf at h
  repeat (rcases ite_some_cases h with rfl | h; rfl)
  cases h

theorem operatorOf_isOp {r : Rune} {ty : TokenType} (h : operatorOf r = some ty) :
    TokLitWF cls ⟨ty, [r], p, q⟩ := by
  have hop := operatorOf_isOperator h
  unfold TokLitWF
  cases ty <;> first | exact ⟨r, h, rfl⟩ | cases hop

/-! `advs c` of what was read is where the lexer stands. -/

theorem of_mem_takeWhile {α : Type} {p : α → Bool} {l : List α} {a : α} (h : a ∈ l.takeWhile p) :
    p a = true := List.all_eq_true.mp List.all_takeWhile a h

theorem head?_of_takeWhile {α : Type} {p : α → Bool} {l : List α} {a : α}
    (h : (l.takeWhile p).head? = some a) : l.head? = some a := by
  cases l with
  | nil => cases h
  | cons x xs =>
    rw [List.takeWhile_cons] at h
    split at h
    · exact h
    · cases h

theorem mem_takeWhile_ne_nl {l : List Rune} : ∀ r ∈ l.takeWhile (· != cNL), r ≠ cNL :=
  fun r hr => by simpa using of_mem_takeWhile hr

theorem lineEnd_dropWhile (l : List Rune) : LineEnd (l.dropWhile (· != cNL)) := by
  have := List.head?_dropWhile_not (· != cNL) l
  cases h : l.dropWhile (· != cNL) with
  | nil => exact Or.inl rfl
  | cons x xs => rw [h] at this; exact Or.inr (by simpa using this)

theorem LineEnd.head {rest : List Rune} (h : LineEnd rest) : ∀ a r, rest = a :: r → (a != cNL) = false := by
  intro a r e
  rcases h with h | h
  · rw [h] at e; cases e
  · rw [e] at h; cases h; rfl

theorem lexLineLoop_eq (c : Cur) (acc rest : List Rune) :
    lexLineLoop c acc rest = ⟨acc ++ rest.takeWhile (· != cNL), advs c (rest.takeWhile (· != cNL)),
      rest.dropWhile (· != cNL), none⟩ := by
  induction rest generalizing c acc with
  | nil => simp [lexLineLoop]
  | cons r rs ih =>
    unfold lexLineLoop
    by_cases h : r = cNL
    · simp [h]
    · rw [if_neg h, ih]; simp [h]

def spaceChar (cls : Cls) (r : Rune) : Bool := cls.isSpace r && r != cNL

theorem skipWhitespace_eq (cls : Cls) (c : Cur) (rest : List Rune) :
    skipWhitespace cls c rest = (advs c (rest.takeWhile (spaceChar cls)), rest.dropWhile (spaceChar cls)) := by
  induction rest generalizing c with
  | nil => simp [skipWhitespace]
  | cons r rs ih =>
    unfold skipWhitespace
    by_cases h : cls.isSpace r = true ∧ r ≠ cNL
    · rw [if_pos h, ih]; simp [spaceChar, h.1, h.2]
    · rw [if_neg h]
      have : spaceChar cls r = false := by
        cases hs : cls.isSpace r <;> simp_all [spaceChar]
      simp [this]

theorem lexDescriptionLine_eq (cls : Cls) (c : Cur) (rest : List Rune) :
    lexDescriptionLine cls c rest =
      ⟨(rest.dropWhile (spaceChar cls)).takeWhile (· != cNL),
        advs c (rest.takeWhile (spaceChar cls) ++ (rest.dropWhile (spaceChar cls)).takeWhile (· != cNL)),
        (rest.dropWhile (spaceChar cls)).dropWhile (· != cNL), none⟩ := by
  unfold lexDescriptionLine
  rw [skipWhitespace_eq]
  simp only []
  rw [lexLineLoop_eq, advs_append, List.nil_append]

def identChar (cls : Cls) (r : Rune) : Bool := cls.isLetter r || cls.isDigit r || r == cUS

theorem lexIdentLoop_eq (cls : Cls) (c : Cur) (acc rest : List Rune) :
    lexIdentLoop cls c acc rest = ⟨acc ++ rest.takeWhile (identChar cls),
      advs c (rest.takeWhile (identChar cls)), rest.dropWhile (identChar cls), none⟩ := by
  induction rest generalizing c acc with
  | nil => simp [lexIdentLoop]
  | cons r rs ih =>
    unfold lexIdentLoop
    by_cases h : cls.isLetter r = true ∨ cls.isDigit r = true ∨ r = cUS
    · have : identChar cls r = true := by simpa [identChar, Bool.or_assoc] using h
      rw [if_pos h, ih]; simp [this]
    · have : identChar cls r = false := by
        simpa [identChar, Bool.or_assoc, not_or] using h
      rw [if_neg h]; simp [this]

theorem escString_cons_esc {e : Rune} (h : e = cBSL ∨ e = cNL ∨ e = cQUOTE) (lit : List Rune) :
    escString (e :: lit) = cBSL :: e :: escString lit := by
  have : e = cBSL ∨ e = cQUOTE ∨ e = cNL := by rcases h with h | h | h <;> simp [h]
  simp [escString, this]

theorem escString_cons {r : Rune} (hq : r ≠ cQUOTE) (hn : r ≠ cNL) (hb : r ≠ cBSL) (lit : List Rune) :
    escString (r :: lit) = r :: escString lit := by
  simp [escString, hq, hn, hb]

theorem lexStringLoop_sound (c : Cur) (acc rest : List Rune) (he : (lexStringLoop c acc rest).err = none) :
    ∃ lit, rest = escString lit ++ cQUOTE :: (lexStringLoop c acc rest).rest ∧
      (lexStringLoop c acc rest).lit = acc ++ lit ∧
      (lexStringLoop c acc rest).cur = advs c (escString lit ++ [cQUOTE]) := by
  revert he
  -- arms of `lexStringLoop`: 1 end of input, 2 closing quote, 3 newline, 4 backslash at the end, 5 escape,
  -- 6 bad escape, 7 any other rune
  fun_induction lexStringLoop c acc rest with
  | case1 | case3 | case4 | case6 => nofun
  | case2 c acc rs => exact fun _ => ⟨[], rfl, by simp, rfl⟩
  | case5 c acc e rs hesc c1 _ _ ih =>
    intro he
    obtain ⟨lit, h1, h2, h3⟩ := ih he
    exact ⟨e :: lit, by rw [escString_cons_esc hesc, List.cons_append, List.cons_append, ← h1],
      by simp [h2], by rw [escString_cons_esc hesc, h3]; rfl⟩
  | case7 c acc r rs c1 hq hn hb ih =>
    intro he
    obtain ⟨lit, h1, h2, h3⟩ := ih he
    exact ⟨r :: lit, by rw [escString_cons hq hn hb, List.cons_append, ← h1], by simp [h2],
      by rw [escString_cons hq hn hb, h3]; rfl⟩

theorem lexStringLoop_esc (lit : List Rune) (c : Cur) (acc rest : List Rune) :
    lexStringLoop c acc (escString lit ++ cQUOTE :: rest) =
      ⟨acc ++ lit, advs c (escString lit ++ [cQUOTE]), rest, none⟩ := by
  induction lit generalizing c acc with
  | nil =>
    simp only [escString, List.flatMap_nil, List.nil_append, List.append_nil]
    unfold lexStringLoop
    simp
  | cons r lit ih =>
    by_cases h : r = cBSL ∨ r = cNL ∨ r = cQUOTE
    · rw [escString_cons_esc h, List.cons_append, List.cons_append]
      unfold lexStringLoop
      have h1 : ¬ (cBSL = cQUOTE) := by decide
      have h2 : ¬ (cBSL = cNL) := by decide
      simp only [h1, h2, h, if_false, if_true]
      rw [ih]; simp
    · have hq : r ≠ cQUOTE := fun e => h (Or.inr (Or.inr e))
      have hn : r ≠ cNL := fun e => h (Or.inr (Or.inl e))
      have hb : r ≠ cBSL := fun e => h (Or.inl e)
      rw [escString_cons hq hn hb, List.cons_append]
      unfold lexStringLoop
      simp only [hq, hn, hb, if_false]
      rw [ih]; simp

theorem escRegex_cons_slash (lit : List Rune) :
    escRegex (cSLASH :: lit) = cSLASH :: cSLASH :: escRegex lit := by
  simp [escRegex]

theorem escRegex_cons {r : Rune} (h : r ≠ cSLASH) (lit : List Rune) :
    escRegex (r :: lit) = r :: escRegex lit := by
  simp [escRegex, h]

theorem lexRegexLoop_sound (c : Cur) (acc rest : List Rune) (he : (lexRegexLoop c acc rest).err = none) :
    ∃ lit, rest = escRegex lit ++ cSLASH :: (lexRegexLoop c acc rest).rest ∧
      (lexRegexLoop c acc rest).lit = acc ++ lit ∧ (∀ r ∈ lit, r ≠ cNL) ∧
      (lexRegexLoop c acc rest).rest.head? ≠ some cSLASH ∧
      (lexRegexLoop c acc rest).cur = advs c (escRegex lit ++ [cSLASH]) := by
  revert he
  -- arms of `lexRegexLoop`: 1 end of input, 2 newline, 3 closing `/` at the end, 4 `//`, 5 closing `/`, 6 any other rune
  fun_induction lexRegexLoop c acc rest with
  | case1 | case2 => nofun
  | case3 c acc => exact fun _ => ⟨[], rfl, by simp, nofun, nofun, rfl⟩
  | case4 c acc rs c1 _ ih =>
    intro he
    obtain ⟨lit, h1, h2, h3, h4, h5⟩ := ih he
    exact ⟨cSLASH :: lit, by rw [escRegex_cons_slash, List.cons_append, List.cons_append, ← h1],
      by simp [h2], List.forall_mem_cons.mpr ⟨by decide, h3⟩, h4,
      by rw [escRegex_cons_slash, h5]; rfl⟩
  | case5 c acc e rs he' c1 _ =>
    exact fun _ => ⟨[], rfl, by simp, nofun, by simpa using he', rfl⟩
  | case6 c acc r rs c1 hn hs ih =>
    intro he
    obtain ⟨lit, h1, h2, h3, h4, h5⟩ := ih he
    exact ⟨r :: lit, by rw [escRegex_cons hs, List.cons_append, ← h1], by simp [h2],
      List.forall_mem_cons.mpr ⟨hn, h3⟩, h4, by rw [escRegex_cons hs, h5]; rfl⟩

theorem lexRegexLoop_esc (lit : List Rune) (hnl : ∀ r ∈ lit, r ≠ cNL) (c : Cur) (acc rest : List Rune)
    (hrest : rest.head? ≠ some cSLASH) :
    lexRegexLoop c acc (escRegex lit ++ cSLASH :: rest) =
      ⟨acc ++ lit, advs c (escRegex lit ++ [cSLASH]), rest, none⟩ := by
  have h1 : ¬ (cSLASH = cNL) := by decide
  induction lit generalizing c acc with
  | nil =>
    simp only [escRegex, List.flatMap_nil, List.nil_append, List.append_nil]
    unfold lexRegexLoop
    simp only [h1, if_false, if_true]
    cases rest with
    | nil => rfl
    | cons e rs =>
      have : ¬ e = cSLASH := fun h => hrest (by simp [h])
      simp only [this, if_false]; rfl
  | cons r lit ih =>
    have hl : ∀ r ∈ lit, r ≠ cNL := fun x hx => hnl x (by simp [hx])
    by_cases h : r = cSLASH
    · subst h
      rw [escRegex_cons_slash, List.cons_append, List.cons_append]
      unfold lexRegexLoop
      simp only [h1, if_false, if_true]
      rw [ih hl]; simp
    · rw [escRegex_cons h, List.cons_append]
      unfold lexRegexLoop
      simp only [hnl r (by simp), h, if_false]
      rw [ih hl]; simp

theorem NoCloser_cons {a : Rune} {l : List Rune} (h1 : ¬ (a = cSTAR ∧ l.head? = some cSLASH))
    (h2 : NoCloser l) : NoCloser (a :: l) := by
  cases l with
  | nil => trivial
  | cons b rest => exact ⟨by simpa using h1, h2⟩

theorem lexBlockLoop_sound (c : Cur) (acc rest : List Rune) :
    ∃ lit, (lexBlockLoop c acc rest).lit = acc ++ lit ∧ NoCloser lit ∧
      ((rest = lit ++ cSTAR :: cSLASH :: (lexBlockLoop c acc rest).rest ∧
          (lexBlockLoop c acc rest).cur = advs c (lit ++ [cSTAR, cSLASH])) ∨
        (rest = lit ∧ (lexBlockLoop c acc rest).rest = [] ∧
          (lexBlockLoop c acc rest).cur = (advs c lit).advEOF)) := by
  induction rest generalizing c acc with
  | nil => exact ⟨[], by simp [lexBlockLoop], trivial, Or.inr ⟨rfl, rfl, rfl⟩⟩
  | cons r rs ih =>
    unfold lexBlockLoop
    by_cases h : r = cSTAR ∧ rs.head? = some cSLASH
    · rw [if_pos h]
      obtain ⟨rfl, h2⟩ := h
      match rs, h2 with
      | _ :: rs, h2 => cases h2; exact ⟨[], by simp, trivial, Or.inl ⟨rfl, rfl⟩⟩
    · rw [if_neg h]
      obtain ⟨lit, h1, h2, h3⟩ := ih (c.adv r) (acc ++ [r])
      have hhead : ∀ x, lit.head? = some x → rs.head? = some x := by
        intro x hx
        cases lit with
        | nil => cases hx
        | cons y ys => rcases h3 with ⟨e, _⟩ | ⟨e, _⟩ <;> rw [e] <;> exact hx
      refine ⟨r :: lit, by rw [h1]; simp, NoCloser_cons (fun ⟨e1, e2⟩ => h ⟨e1, hhead _ e2⟩) h2, ?_⟩
      rcases h3 with ⟨e, hc⟩ | ⟨e, hr, hc⟩
      · exact Or.inl ⟨by rw [List.cons_append, ← e], by rw [hc]; rfl⟩
      · exact Or.inr ⟨by rw [e], hr, by rw [hc]; rfl⟩

theorem lexBlockLoop_err (c : Cur) (acc rest : List Rune) : (lexBlockLoop c acc rest).err = none := by
  induction rest generalizing c acc with
  | nil => rfl
  | cons r rs ih =>
    unfold lexBlockLoop
    split
    · rfl
    · exact ih _ _

theorem lexBlockLoop_body : ∀ (lit : List Rune), NoCloser lit → ∀ (c : Cur) (acc rest : List Rune),
    lexBlockLoop c acc (lit ++ cSTAR :: cSLASH :: rest) =
      ⟨acc ++ lit, advs c (lit ++ [cSTAR, cSLASH]), rest, none⟩
  | [], _, c, acc, rest => by
    simp only [List.nil_append, List.append_nil]
    unfold lexBlockLoop
    simp
  | [a], _, c, acc, rest => by
    have : ¬ (a = cSTAR ∧ (cSTAR :: cSLASH :: rest).head? = some cSLASH) := by
      simp; intro _; decide
    show lexBlockLoop c acc (a :: cSTAR :: cSLASH :: rest) = _
    unfold lexBlockLoop
    rw [if_neg this]
    have := lexBlockLoop_body [] trivial (c.adv a) (acc ++ [a]) rest
    simp only [List.nil_append, List.append_nil] at this
    rw [this]; simp
  | a :: b :: lit, h, c, acc, rest => by
    have : ¬ (a = cSTAR ∧ (b :: lit ++ cSTAR :: cSLASH :: rest).head? = some cSLASH) := by
      simpa using h.1
    show lexBlockLoop c acc (a :: (b :: lit ++ cSTAR :: cSLASH :: rest)) = _
    unfold lexBlockLoop
    rw [if_neg this, lexBlockLoop_body (b :: lit) h.2]
    simp

/-- digits, or (no dot seen before) digits, a dot and more digits -/
theorem lexNumberLoop_sound (cls : Cls) (c : Cur) (ty : TokenType) (acc : List Rune) (sd : Bool)
    (rest : List Rune) (he : (lexNumberLoop cls c ty acc sd rest).err = none) :
    NumberStop cls (lexNumberLoop cls c ty acc sd rest).rest ∧
    ((∃ ds, (∀ x ∈ ds, cls.isDigit x = true) ∧ rest = ds ++ (lexNumberLoop cls c ty acc sd rest).rest ∧
        (lexNumberLoop cls c ty acc sd rest).ty = ty ∧ (lexNumberLoop cls c ty acc sd rest).lit = acc ++ ds ∧
        (lexNumberLoop cls c ty acc sd rest).cur = advs c ds) ∨
      (sd = false ∧ ∃ ds fs, (∀ x ∈ ds, cls.isDigit x = true) ∧ (∀ x ∈ fs, cls.isDigit x = true) ∧
        cls.isDigit cDOT = false ∧ rest = ds ++ cDOT :: fs ++ (lexNumberLoop cls c ty acc sd rest).rest ∧
        (lexNumberLoop cls c ty acc sd rest).ty = .decimal ∧
        (lexNumberLoop cls c ty acc sd rest).lit = acc ++ ds ++ cDOT :: fs ∧
        (lexNumberLoop cls c ty acc sd rest).cur = advs c (ds ++ cDOT :: fs))) := by
  revert he
  -- arms of `lexNumberLoop`: 1 end of input, 2 digit, 3 second dot, 4 first dot, 5 any other rune
  fun_induction lexNumberLoop cls c ty acc sd rest with
  | case1 c ty acc sd => exact fun _ => ⟨nofun, Or.inl ⟨[], nofun, rfl, rfl, by simp, rfl⟩⟩
  | case2 c ty acc sd r rs hd ih =>
    intro he
    obtain ⟨hs, ih⟩ := ih he
    refine ⟨hs, ?_⟩
    rcases ih with ⟨ds, d1, d2, d3, d4, d5⟩ | ⟨hsd, ds, fs, d1, d1', d0, d2, d3, d4, d5⟩
    · exact Or.inl ⟨r :: ds, List.forall_mem_cons.mpr ⟨hd, d1⟩, by rw [List.cons_append, ← d2], d3,
        by rw [d4]; simp, by rw [d5]; rfl⟩
    · exact Or.inr ⟨hsd, r :: ds, fs, List.forall_mem_cons.mpr ⟨hd, d1⟩, d1', d0,
        by rw [List.cons_append, List.cons_append, ← d2], d3, by rw [d4]; simp, by rw [d5]; rfl⟩
  | case3 => nofun
  | case4 c ty acc sd rs hsd hd ih =>
    intro he
    obtain ⟨hs, ih⟩ := ih he
    refine ⟨hs, Or.inr ⟨by simpa using hsd, [], ?_⟩⟩
    rcases ih with ⟨fs, d1, d2, d3, d4, d5⟩ | ⟨h, _⟩
    · exact ⟨fs, nofun, d1, by simpa using hd, by rw [List.nil_append, List.cons_append, ← d2], d3,
        by rw [d4]; simp, by rw [d5]; rfl⟩
    · cases h
  | case5 c ty acc sd r rs hd hdot =>
    exact fun _ => ⟨fun x hx => by cases hx; exact ⟨by simpa using hd, hdot⟩,
      Or.inl ⟨[], nofun, rfl, rfl, by simp, rfl⟩⟩

theorem lexNumberLoop_digits (cls : Cls) {ds : List Rune} (hds : ∀ r ∈ ds, cls.isDigit r = true)
    (c : Cur) (ty : TokenType) (acc : List Rune) (sd : Bool) (rest : List Rune) :
    lexNumberLoop cls c ty acc sd (ds ++ rest) = lexNumberLoop cls (advs c ds) ty (acc ++ ds) sd rest := by
  induction ds generalizing c acc with
  | nil => simp
  | cons r ds ih =>
    rw [List.cons_append]
    conv => lhs; unfold lexNumberLoop
    rw [if_pos (hds r (by simp)), ih (fun x hx => hds x (by simp [hx]))]
    simp

theorem lexNumberLoop_stop (cls : Cls) (c : Cur) (ty : TokenType) (acc : List Rune) (sd : Bool)
    {rest : List Rune} (hstop : NumberStop cls rest) :
    lexNumberLoop cls c ty acc sd rest = ⟨ty, acc, c, rest, none⟩ := by
  cases rest with
  | nil => rfl
  | cons r rs =>
    obtain ⟨h1, h2⟩ := hstop r rfl
    unfold lexNumberLoop
    simp [h1, h2]

/-! ### where a run that can fail stops: behind what it has read, the error at that place -/

/-- the routine consumed exactly `pre` and stopped before `rest'` -/
def CleanRun (c : Cur) (rest : List Rune) (c' : Cur) (rest' : List Rune) : Prop :=
  ∃ pre, rest = pre ++ rest' ∧ c' = advs c pre

/-- the routine consumed everything and called `next()` once more at end of input -/
def EofRun (c : Cur) (rest : List Rune) (c' : Cur) (rest' : List Rune) : Prop :=
  rest' = [] ∧ c' = (advs c rest).advEOF

theorem CleanRun.refl (c : Cur) (rest : List Rune) : CleanRun c rest c rest := ⟨[], rfl, rfl⟩

theorem CleanRun.cons {c : Cur} {r : Rune} {rs : List Rune} {c' : Cur} {rest' : List Rune}
    (h : CleanRun (c.adv r) rs c' rest') : CleanRun c (r :: rs) c' rest' := by
  obtain ⟨pre, h1, h2⟩ := h
  exact ⟨r :: pre, by simp [h1], by simp [h2]⟩

theorem EofRun.cons {c : Cur} {r : Rune} {rs : List Rune} {c' : Cur} {rest' : List Rune}
    (h : EofRun (c.adv r) rs c' rest') : EofRun c (r :: rs) c' rest' := by
  obtain ⟨h1, h2⟩ := h
  exact ⟨h1, by simp [h2]⟩

theorem lexStringLoop_run (c : Cur) (lit rest : List Rune) :
    (CleanRun c rest (lexStringLoop c lit rest).cur (lexStringLoop c lit rest).rest ∨
      EofRun c rest (lexStringLoop c lit rest).cur (lexStringLoop c lit rest).rest) ∧
      (∀ e, (lexStringLoop c lit rest).err = some e → e.pos = (lexStringLoop c lit rest).cur.pos) := by
  fun_induction lexStringLoop c lit rest with
  | case1 c lit => exact ⟨Or.inr ⟨rfl, rfl⟩, fun e he => by cases he; rfl⟩
  | case2 c lit rs => exact ⟨Or.inl ⟨[_], rfl, rfl⟩, nofun⟩
  | case3 c lit rs => exact ⟨Or.inl ⟨[_], rfl, rfl⟩, fun e he => by cases he; rfl⟩
  | case4 c lit => exact ⟨Or.inl ⟨[_], rfl, rfl⟩, fun e he => by cases he; rfl⟩
  | case5 c lit r rs _ c1 _ _ ih => exact ⟨ih.1.imp (·.cons.cons) (·.cons.cons), ih.2⟩
  | case6 c lit r rs => exact ⟨Or.inl ⟨[_], rfl, rfl⟩, fun e he => by cases he; rfl⟩
  | case7 c lit r rs c1 _ _ _ ih => exact ⟨ih.1.imp (·.cons) (·.cons), ih.2⟩

theorem lexRegexLoop_run (c : Cur) (lit rest : List Rune) :
    (CleanRun c rest (lexRegexLoop c lit rest).cur (lexRegexLoop c lit rest).rest ∨
      EofRun c rest (lexRegexLoop c lit rest).cur (lexRegexLoop c lit rest).rest) ∧
      (∀ e, (lexRegexLoop c lit rest).err = some e → e.pos = (lexRegexLoop c lit rest).cur.pos) := by
  fun_induction lexRegexLoop c lit rest with
  | case1 c lit => exact ⟨Or.inr ⟨rfl, rfl⟩, fun e he => by cases he; rfl⟩
  | case2 c lit rs => exact ⟨Or.inl ⟨[_], rfl, rfl⟩, fun e he => by cases he; rfl⟩
  | case3 c lit => exact ⟨Or.inl ⟨[_], rfl, rfl⟩, nofun⟩
  | case4 c lit rs c1 _ ih => exact ⟨ih.1.imp (·.cons.cons) (·.cons.cons), ih.2⟩
  | case5 c lit r rs => exact ⟨Or.inl ⟨[_], rfl, rfl⟩, nofun⟩
  | case6 c lit r rs c1 _ _ ih => exact ⟨ih.1.imp (·.cons) (·.cons), ih.2⟩

theorem lexNumberLoop_run (cls : Cls) (c : Cur) (ty : TokenType) (lit : List Rune) (sd : Bool)
    (rest : List Rune) :
    CleanRun c rest (lexNumberLoop cls c ty lit sd rest).cur (lexNumberLoop cls c ty lit sd rest).rest ∧
      (∀ e, (lexNumberLoop cls c ty lit sd rest).err = some e →
        e.pos = (lexNumberLoop cls c ty lit sd rest).cur.pos) := by
  fun_induction lexNumberLoop cls c ty lit sd rest with
  | case1 | case5 => exact ⟨CleanRun.refl _ _, nofun⟩
  | case2 c ty lit sd r rs _ ih => exact ⟨ih.1.cons, ih.2⟩
  | case3 => exact ⟨CleanRun.refl _ _, fun e he => by cases he; rfl⟩
  | case4 c ty lit sd rs _ _ ih => exact ⟨ih.1.cons, ih.2⟩

/-- a literal step without error: the loop had none, and the token is the literal from `p` to the cursor -/
theorem litStep_tok_none (ty : TokenType) (p : Pos) (lr : LitRes) (h : (litStep ty p lr).err = none) :
    lr.err = none ∧ (litStep ty p lr).tok = ⟨ty, lr.lit, p, lr.cur.pos⟩ := by
  unfold litStep at h ⊢
  cases he : lr.err with
  | none => simp [mkTok]
  | some e => rw [he] at h; simp at h

theorem litStep_fields (ty : TokenType) (p : Pos) (lr : LitRes) :
    (litStep ty p lr).cur = lr.cur ∧ (litStep ty p lr).rest = lr.rest ∧
      (litStep ty p lr).err = lr.err := by
  unfold litStep
  cases lr.err <;> exact ⟨rfl, rfl, rfl⟩

/-- `NextToken` by the first rune: one premise per kind of step, the routines that cannot fail in closed
form.  A space step is the step taken after the space; the number loop is named `n`. -/
theorem nextToken_cases (cls : Cls) {motive : Cur → List Rune → LexStep → Prop}
    (eof : ∀ c, motive c [] ⟨mkTok .eof [] c.advEOF.pos c.advEOF.pos, none, c.advEOF, []⟩)
    (op : ∀ c r rs ty, operatorOf r = some ty →
      motive c (r :: rs) ⟨mkTok ty [r] (c.adv r).pos (c.adv r).pos, none, c.adv r, rs⟩)
    (comment : ∀ c rs, motive c (cSLASH :: cSLASH :: rs)
      (litStep .comment (c.adv cSLASH).pos ⟨rs.takeWhile (· != cNL),
        advs c (cSLASH :: cSLASH :: rs.takeWhile (· != cNL)), rs.dropWhile (· != cNL), none⟩))
    (blockComment : ∀ c rs, motive c (cSLASH :: cSTAR :: rs)
      (litStep .blockComment (c.adv cSLASH).pos (lexBlockComment (c.adv cSLASH) (cSTAR :: rs))))
    (regex : ∀ c rs, rs.head? ≠ some cSLASH → rs.head? ≠ some cSTAR → motive c (cSLASH :: rs)
      (litStep .regex (c.adv cSLASH).pos (lexRegexLoop (c.adv cSLASH) [] rs)))
    (string : ∀ c rs, motive c (cQUOTE :: rs)
      (litStep .string (c.adv cQUOTE).pos (lexStringLoop (c.adv cQUOTE) [] rs)))
    (description : ∀ c rs, motive c (cPIPE :: rs)
      (litStep .description (c.adv cPIPE).pos ⟨(rs.dropWhile (spaceChar cls)).takeWhile (· != cNL),
        advs c (cPIPE :: (rs.takeWhile (spaceChar cls) ++ (rs.dropWhile (spaceChar cls)).takeWhile (· != cNL))),
        (rs.dropWhile (spaceChar cls)).dropWhile (· != cNL), none⟩))
    (eol : ∀ c rs, motive c (cNL :: rs)
      ⟨mkTok .eol [cNL] (c.adv cNL).pos (c.adv cNL).pos, none, c.adv cNL, rs⟩)
    (space : ∀ c r rs, cls.isSpace r = true → r ≠ cNL →
      motive (c.adv r) rs (nextToken cls (c.adv r) rs) →
      motive c (r :: rs) (nextToken cls (c.adv r) rs))
    (numberErr : ∀ c r rs n e, DigitHead cls r → n = lexNumberLoop cls (c.adv r) .int [r] false rs →
      n.err = some e →
      motive c (r :: rs) ⟨mkTok n.ty n.lit (c.adv r).pos (c.adv r).pos, some e, n.cur, n.rest⟩)
    (number : ∀ c r rs n, DigitHead cls r → n = lexNumberLoop cls (c.adv r) .int [r] false rs →
      n.err = none →
      motive c (r :: rs) ⟨mkTok n.ty n.lit (c.adv r).pos n.cur.pos, none, n.cur, n.rest⟩)
    (ident : ∀ c r rs, IdentHead cls r →
      motive c (r :: rs) ⟨mkTok
          (if r :: rs.takeWhile (identChar cls) = litTrue ∨ r :: rs.takeWhile (identChar cls) = litFalse
            then .bool else .ident)
          (r :: rs.takeWhile (identChar cls)) (c.adv r).pos (advs c (r :: rs.takeWhile (identChar cls))).pos,
        none, advs c (r :: rs.takeWhile (identChar cls)), rs.dropWhile (identChar cls)⟩)
    (bad : ∀ c r rs,
      motive c (r :: rs) ⟨Token.zero, some ⟨(c.adv r).pos, .unexpectedChar⟩, c.adv r, rs⟩)
    (c : Cur) (rest : List Rune) : motive c rest (nextToken cls c rest) := by
  induction rest generalizing c with
  | nil => exact eof c
  | cons r rs ih =>
    unfold nextToken
    simp only []
    split
    · exact op c r rs _ ‹_›
    rename_i hop
    by_cases h1 : r = cSLASH
    · subst h1
      rw [if_pos rfl]
      by_cases h2 : rs.head? = some cSLASH
      · rw [if_pos h2]
        match rs, h2 with
        | _ :: rs, h2 =>
          cases h2
          rw [show lexLineComment (c.adv cSLASH) (cSLASH :: rs) = _ from lexLineLoop_eq _ [] rs]
          exact comment c rs
      rw [if_neg h2]
      by_cases h3 : rs.head? = some cSTAR
      · rw [if_pos h3]
        match rs, h3 with
        | _ :: rs, h3 => cases h3; exact blockComment c rs
      rw [if_neg h3]
      exact regex c rs h2 h3
    rw [if_neg h1]
    by_cases h2 : r = cQUOTE
    · subst h2; rw [if_pos rfl]; exact string c rs
    rw [if_neg h2]
    by_cases h3 : r = cPIPE
    · subst h3; rw [if_pos rfl, lexDescriptionLine_eq]; exact description c rs
    rw [if_neg h3]
    by_cases h4 : r = cNL
    · subst h4; rw [if_pos rfl]; exact eol c rs
    rw [if_neg h4]
    by_cases h5 : cls.isSpace r = true
    · rw [if_pos h5]; exact space c r rs h5 h4 (ih _)
    rw [if_neg h5]
    have h5 : cls.isSpace r = false := by simpa using h5
    by_cases h6 : cls.isDigit r = true
    · rw [if_pos h6]
      have hh : DigitHead cls r := ⟨hop, h1, h2, h3, h4, h5, h6⟩
      split
      · exact numberErr c r rs _ _ hh rfl ‹_›
      · exact number c r rs _ hh rfl ‹_›
    rw [if_neg h6]
    have h6 : cls.isDigit r = false := by simpa using h6
    by_cases h7 : cls.isLetter r = true
    · rw [if_pos h7]
      have hh : IdentHead cls r := ⟨hop, h1, h2, h3, h4, h5, h6, h7⟩
      have key := ident c r rs hh
      simp only [asKeyword, lexIdentLoop_eq]
      split
      · rename_i hb
        rw [if_pos (show r :: rs.takeWhile (identChar cls) = litTrue ∨
          r :: rs.takeWhile (identChar cls) = litFalse from hb)] at key
        exact key
      · rename_i hb
        rw [if_neg (show ¬ (r :: rs.takeWhile (identChar cls) = litTrue ∨
          r :: rs.takeWhile (identChar cls) = litFalse) from hb)] at key
        exact key
    rw [if_neg h7]
    exact bad c r rs

theorem nextToken_nil (cls : Cls) (c : Cur) :
    (nextToken cls c []).err = none ∧ (nextToken cls c []).tok.ty = .eof := by
  unfold nextToken; exact ⟨rfl, rfl⟩

theorem nextToken_slash (cls : Cls) (c : Cur) (rs : List Rune) :
    nextToken cls c (cSLASH :: rs) =
      if rs.head? = some cSLASH then litStep .comment (c.adv cSLASH).pos (lexLineComment (c.adv cSLASH) rs)
      else if rs.head? = some cSTAR then
        litStep .blockComment (c.adv cSLASH).pos (lexBlockComment (c.adv cSLASH) rs)
      else litStep .regex (c.adv cSLASH).pos (lexRegexLoop (c.adv cSLASH) [] rs) := by
  have h0 : operatorOf cSLASH = none := by decide
  simp only [nextToken, h0, if_true]

theorem nextToken_quote (cls : Cls) (c : Cur) (rs : List Rune) :
    nextToken cls c (cQUOTE :: rs) =
      litStep .string (c.adv cQUOTE).pos (lexStringLoop (c.adv cQUOTE) [] rs) := by
  have h0 : operatorOf cQUOTE = none := by decide
  have h1 : ¬ (cQUOTE = cSLASH) := by decide
  simp only [nextToken, h0, h1, if_false, if_true]

theorem nextToken_pipe (cls : Cls) (c : Cur) (rs : List Rune) :
    nextToken cls c (cPIPE :: rs) =
      litStep .description (c.adv cPIPE).pos (lexDescriptionLine cls (c.adv cPIPE) rs) := by
  have h0 : operatorOf cPIPE = none := by decide
  have h1 : ¬ (cPIPE = cSLASH) := by decide
  have h2 : ¬ (cPIPE = cQUOTE) := by decide
  simp only [nextToken, h0, h1, h2, if_false, if_true]

theorem nextToken_eol (cls : Cls) (c : Cur) (rest : List Rune) :
    nextToken cls c (cNL :: rest) =
      ⟨mkTok .eol [cNL] (c.adv cNL).pos (c.adv cNL).pos, none, c.adv cNL, rest⟩ := by
  have h0 : operatorOf cNL = none := by decide
  have h1 : ¬ (cNL = cSLASH) := by decide
  have h2 : ¬ (cNL = cQUOTE) := by decide
  have h3 : ¬ (cNL = cPIPE) := by decide
  simp only [nextToken, h0, h1, h2, h3, if_false, if_true]

theorem nextToken_op (cls : Cls) (c : Cur) {r : Rune} {ty : TokenType} (hop : operatorOf r = some ty)
    (rest : List Rune) :
    nextToken cls c (r :: rest) = ⟨mkTok ty [r] (c.adv r).pos (c.adv r).pos, none, c.adv r, rest⟩ := by
  simp [nextToken, hop]

theorem nextToken_skip_space (cls : Cls) (c : Cur) (r : Rune) (hs : cls.isSpace r = true)
    (hop : operatorOf r = none) (h1 : r ≠ cSLASH) (h2 : r ≠ cQUOTE) (h3 : r ≠ cPIPE) (h4 : r ≠ cNL)
    (rest : List Rune) : nextToken cls c (r :: rest) = nextToken cls (c.adv r) rest := by
  conv => lhs; unfold nextToken
  simp [hop, h1, h2, h3, h4, hs]

theorem nextToken_digit (cls : Cls) (c : Cur) {r : Rune} (rs : List Rune) (hh : DigitHead cls r)
    {n : NumRes} (hn : lexNumberLoop cls (c.adv r) .int [r] false rs = n) (he : n.err = none) :
    nextToken cls c (r :: rs) = ⟨mkTok n.ty n.lit (c.adv r).pos n.cur.pos, none, n.cur, n.rest⟩ := by
  simp only [nextToken, hh.notOp, hh.notSlash, hh.notQuote, hh.notPipe, hh.notNL, hh.notSpace, hh.digit,
    if_false, if_true, Bool.false_eq_true, hn, he]

theorem nextToken_letter (cls : Cls) (c : Cur) {r : Rune} (rs : List Rune) (hh : IdentHead cls r)
    {i : LitRes} (hi : lexIdentLoop cls (c.adv r) [r] rs = i) :
    nextToken cls c (r :: rs) =
      ⟨mkTok (if i.lit = litTrue ∨ i.lit = litFalse then .bool else .ident) i.lit (c.adv r).pos
        i.cur.pos, none, i.cur, i.rest⟩ := by
  simp only [nextToken, hh.notOp, hh.notSlash, hh.notQuote, hh.notPipe, hh.notNL, hh.notSpace,
    hh.notDigit, hh.letter, if_false, if_true, Bool.false_eq_true, hi, asKeyword]
  split <;> rfl

theorem Lexeme.ne_nil {cls : Cls} {text rest : List Rune} {ty : TokenType} {lit : List Rune}
    (h : Lexeme cls text rest ty lit) : text ≠ [] := by
  cases h with
  | ident hwf _ => exact hwf.ne
  | _ => exact List.cons_ne_nil _ _

theorem Lexeme.ty_ne_eof {cls : Cls} {text rest : List Rune} {ty : TokenType} {lit : List Rune}
    (h : Lexeme cls text rest ty lit) : ty ≠ .eof := by
  cases h with
  | op _ hop => rintro rfl; cases operatorOf_isOperator hop
  | ident => split <;> nofun
  | _ => nofun

theorem Lexeme.text_of_eol {cls : Cls} {text rest lit : List Rune} (h : Lexeme cls text rest .eol lit) :
    text = [cNL] := by
  generalize hty : TokenType.eol = ty at h
  cases h with
  | eol => rfl
  | op _ hop => subst hty; cases operatorOf_isOperator hop
  | ident => split at hty <;> cases hty
  | _ => cases hty

theorem Lexeme.lineEnd {cls : Cls} {text rest : List Rune} {ty : TokenType} {lit : List Rune}
    (h : Lexeme cls text rest ty lit) (hty : ty = .comment ∨ ty = .description) : LineEnd rest := by
  cases h with
  | comment _ h | description _ _ _ h => exact h
  | op _ hop => rcases hty with rfl | rfl <;> cases operatorOf_isOperator hop
  | ident => split at hty <;> rcases hty with h | h <;> cases h
  | _ => rcases hty with h | h <;> cases h

theorem Lexeme.lit_sub {cls : Cls} {text rest : List Rune} {ty : TokenType} {lit : List Rune}
    (h : Lexeme cls text rest ty lit) : ∀ r ∈ lit, r ∈ text := by
  intro r hr
  cases h with
  | regex =>
    refine List.mem_cons_of_mem _ (List.mem_append_left _ (List.mem_flatMap.mpr ⟨r, hr, ?_⟩))
    split <;> simp [*]
  | string =>
    refine List.mem_cons_of_mem _ (List.mem_append_left _ (List.mem_flatMap.mpr ⟨r, hr, ?_⟩))
    split <;> simp
  | op | eol | int | decimal | ident => exact hr
  | comment | blockComment | description => simp [hr]

theorem Lexeme.litWF {cls : Cls} {text rest : List Rune} {ty : TokenType} {lit : List Rune}
    (h : Lexeme cls text rest ty lit) (p q : Pos) : TokLitWF cls ⟨ty, lit, p, q⟩ := by
  cases h with
  | op _ hop => exact operatorOf_isOp hop
  | eol => exact rfl
  | comment h1 _ => exact h1
  | blockComment _ h1 => exact h1
  | regex h1 _ => exact h1
  | string => exact trivial
  | description _ h1 h2 _ => exact ⟨h1, h2⟩
  | int hh h1 _ => exact ⟨_, _, rfl, hh, h1⟩
  | decimal hh h1 h2 h0 _ => exact ⟨_, _, _, rfl, hh, h1, h2, h0⟩
  | ident hwf _ => split <;> exact ⟨hwf, ‹_›⟩

theorem TokLitWF.of_ident {cls : Cls} {t : Token} (h : TokLitWF cls t) (hty : t.ty = .ident) :
    IdentLitWF cls t.lit ∧ ¬ (t.lit = litTrue ∨ t.lit = litFalse) := by
  unfold TokLitWF at h; rw [hty] at h; exact h

theorem TokLitWF.of_bool {cls : Cls} {t : Token} (h : TokLitWF cls t) (hty : t.ty = .bool) :
    IdentLitWF cls t.lit ∧ (t.lit = litTrue ∨ t.lit = litFalse) := by
  unfold TokLitWF at h; rw [hty] at h; exact h

theorem TokLitWF.of_comment {cls : Cls} {t : Token} (h : TokLitWF cls t) (hty : t.ty = .comment) :
    ∀ r ∈ t.lit, r ≠ cNL := by
  unfold TokLitWF at h; rw [hty] at h; exact h

/-- what an error-free step has done: skipped white space `ws`, then read the text of one token and
stopped on its last rune; or it hit the end of the input (`AtEnd`) and stands behind it -/
structure Lexed (cls : Cls) (c : Cur) (rest : List Rune) (s : LexStep) : Prop where
  split : ∃ ws text, AllSpace cls ws ∧ rest = ws ++ text ++ s.rest ∧ s.tok.start = advPos c.nxt ws ∧
    ((Lexeme cls text s.rest s.tok.ty s.tok.lit ∧ s.cur = advs c (ws ++ text)) ∨
      (AtEnd text s.tok ∧ s.rest = [] ∧ s.cur = (advs c (ws ++ text)).advEOF))
  end_ : s.tok.end_ = s.cur.pos

theorem Lexed.space {cls : Cls} {c : Cur} {r : Rune} {rs : List Rune} {s : LexStep}
    (hr : cls.isSpace r = true ∧ r ≠ cNL) (h : Lexed cls (c.adv r) rs s) : Lexed cls c (r :: rs) s := by
  obtain ⟨⟨ws, text, h1, h2, h3, h4⟩, h5⟩ := h
  refine ⟨⟨r :: ws, text, List.forall_mem_cons.mpr ⟨hr, h1⟩, by rw [h2]; rfl, ?_, h4⟩, h5⟩
  rw [h3, adv_nxt]; rfl

theorem Lexed.ofLit {cls : Cls} {c : Cur} {r : Rune} {rs : List Rune} {ty : TokenType} {lr : LitRes}
    {text : List Rune} (he : (litStep ty (c.adv r).pos lr).err = none)
    (hsplit : r :: rs = text ++ lr.rest) (hl : Lexeme cls text lr.rest ty lr.lit)
    (hc : lr.cur = advs c text) : Lexed cls c (r :: rs) (litStep ty (c.adv r).pos lr) := by
  obtain ⟨_, ht⟩ := litStep_tok_none _ _ _ he
  obtain ⟨f1, f2, _⟩ := litStep_fields ty (c.adv r).pos lr
  exact ⟨⟨[], text, (fun _ h => nomatch h), by rw [f2]; exact hsplit, by rw [ht]; rfl,
    Or.inl ⟨by rw [ht, f2]; exact hl, by rw [f1]; exact hc⟩⟩, by rw [ht, f1]⟩

theorem Lexed.ofTok {cls : Cls} {c : Cur} {r : Rune} {rs : List Rune} {ty : TokenType}
    {lit text rest : List Rune} (hsplit : r :: rs = text ++ rest) (hl : Lexeme cls text rest ty lit) :
    Lexed cls c (r :: rs) ⟨mkTok ty lit (c.adv r).pos (advs c text).pos, none, advs c text, rest⟩ :=
  ⟨⟨[], text, (fun _ h => nomatch h), hsplit, rfl, Or.inl ⟨hl, rfl⟩⟩, rfl⟩

theorem lexeme_ident (cls : Cls) {r : Rune} (hh : IdentHead cls r) (rs : List Rune) :
    Lexeme cls (r :: rs.takeWhile (identChar cls)) (rs.dropWhile (identChar cls))
      (if r :: rs.takeWhile (identChar cls) = litTrue ∨ r :: rs.takeWhile (identChar cls) = litFalse
        then .bool else .ident) (r :: rs.takeWhile (identChar cls)) :=
  .ident ⟨List.cons_ne_nil _ _, fun x hx => by cases hx; exact hh,
      fun x hx => by simpa [identChar, Bool.or_assoc] using of_mem_takeWhile hx⟩
    fun x hx => by
      have := List.head?_dropWhile_not (identChar cls) rs
      rw [hx] at this
      simpa [identChar, Bool.or_assoc, not_or] using this

/-- **every error-free step reads one lexeme**, or ends the input -/
theorem nextToken_lexed (cls : Cls) (c : Cur) (rest : List Rune)
    (he : (nextToken cls c rest).err = none) : Lexed cls c rest (nextToken cls c rest) := by
  revert he
  apply nextToken_cases cls (motive := fun c rest s => s.err = none → Lexed cls c rest s)
  case eof =>
    intro c _
    exact ⟨⟨[], [], (fun _ h => nomatch h), rfl, rfl, Or.inr ⟨Or.inl ⟨rfl, rfl, rfl⟩, rfl, rfl⟩⟩, rfl⟩
  case op => intro c r rs ty hop _; exact Lexed.ofTok (text := [r]) rfl (.op rs hop)
  case comment =>
    intro c rs he
    exact Lexed.ofLit he (text := cSLASH :: cSLASH :: rs.takeWhile (· != cNL)) (by simp)
      (.comment mem_takeWhile_ne_nl (lineEnd_dropWhile rs)) rfl
  case blockComment =>
    intro c rs he
    obtain ⟨lit, h1, h2, h3⟩ := lexBlockLoop_sound ((c.adv cSLASH).adv cSTAR) [] rs
    have e : lexBlockComment (c.adv cSLASH) (cSTAR :: rs) = lexBlockLoop ((c.adv cSLASH).adv cSTAR) [] rs := rfl
    rw [e] at he ⊢
    generalize lexBlockLoop ((c.adv cSLASH).adv cSTAR) [] rs = lr at *
    rw [List.nil_append] at h1
    rcases h3 with ⟨e1, e2⟩ | ⟨e1, e2, e3⟩
    · exact Lexed.ofLit he (text := cSLASH :: cSTAR :: (lit ++ [cSTAR, cSLASH])) (by rw [e1]; simp)
        (by rw [h1]; exact .blockComment _ h2) e2
    · obtain ⟨_, ht⟩ := litStep_tok_none _ _ _ he
      obtain ⟨f1, f2, _⟩ := litStep_fields .blockComment (c.adv cSLASH).pos lr
      exact ⟨⟨[], cSLASH :: cSTAR :: lit, (fun _ h => nomatch h), by rw [f2, e1, e2]; simp, by rw [ht]; rfl,
        Or.inr ⟨by rw [ht]; exact Or.inr ⟨rfl, by rw [h1], by rw [h1]; exact h2⟩, by rw [f2]; exact e2,
          by rw [f1]; exact e3⟩⟩, by rw [ht, f1]⟩
  case regex =>
    intro c rs hs1 hs2 he
    obtain ⟨lit, h1, h2, h3, h4, h5⟩ := lexRegexLoop_sound (c.adv cSLASH) [] rs (litStep_tok_none _ _ _ he).1
    generalize lexRegexLoop (c.adv cSLASH) [] rs = lr at *
    rw [List.nil_append] at h2
    have hwf : RegexLitWF lit := by
      refine ⟨?_, h3⟩
      cases lit with
      | nil => rw [h1] at hs1; exact absurd rfl hs1
      | cons x xs =>
        refine ⟨x, xs, rfl, ?_, ?_⟩
        · rintro rfl; rw [h1, escRegex_cons_slash] at hs1; exact hs1 rfl
        · rintro rfl; rw [h1, escRegex_cons (by decide)] at hs2; exact hs2 rfl
    exact Lexed.ofLit he (text := cSLASH :: (escRegex lit ++ [cSLASH]))
      (by rw [List.cons_append, List.append_assoc]; exact congrArg _ h1) (by rw [h2]; exact .regex hwf h4) h5
  case string =>
    intro c rs he
    obtain ⟨lit, h1, h2, h3⟩ := lexStringLoop_sound (c.adv cQUOTE) [] rs (litStep_tok_none _ _ _ he).1
    generalize lexStringLoop (c.adv cQUOTE) [] rs = lr at *
    rw [List.nil_append] at h2
    exact Lexed.ofLit he (text := cQUOTE :: (escString lit ++ [cQUOTE]))
      (by rw [List.cons_append, List.append_assoc]; exact congrArg _ h1) (by rw [h2]; exact .string _) h3
  case description =>
    intro c rs he
    refine Lexed.ofLit he
      (text := cPIPE :: (rs.takeWhile (spaceChar cls) ++ (rs.dropWhile (spaceChar cls)).takeWhile (· != cNL)))
      (by simp) (.description (fun x hx => by simpa [spaceChar] using of_mem_takeWhile hx)
        mem_takeWhile_ne_nl (fun x hx => ?_) (lineEnd_dropWhile _)) rfl
    -- the literal starts where skipping stopped, and not with a newline
    have h0 := List.head?_dropWhile_not (spaceChar cls) rs
    rw [head?_of_takeWhile hx] at h0
    simpa [spaceChar, mem_takeWhile_ne_nl x (List.mem_of_head? hx)] using h0
  case eol => intro c rs _; exact Lexed.ofTok (text := [cNL]) rfl (.eol rs)
  case space => intro c r rs hs hn ih he; exact Lexed.space ⟨hs, hn⟩ (ih he)
  case numberErr => intro c r rs n e _ _ _ he; cases he
  case number =>
    intro c r rs n hh hn hne _
    obtain ⟨hstop, h⟩ := lexNumberLoop_sound cls (c.adv r) .int [r] false rs (hn ▸ hne)
    rw [← hn] at hstop h
    clear hn
    rcases h with ⟨ds, d1, d2, d3, d4, d5⟩ | ⟨_, ds, fs, d1, d1', d0, d2, d3, d4, d5⟩
    · rw [d3, d4, d5]
      exact Lexed.ofTok (text := r :: ds) (congrArg _ d2) (.int hh d1 hstop)
    · rw [d3, d4, d5]
      exact Lexed.ofTok (text := r :: ds ++ cDOT :: fs) (by rw [d2]; simp) (.decimal hh d1 d1' d0 hstop)
  case bad => intro c r rs he; cases he
  case ident =>
    intro c r rs hh _
    exact Lexed.ofTok (text := r :: rs.takeWhile (identChar cls)) (by simp) (lexeme_ident cls hh rs)

theorem Lexed.lineEnd {cls : Cls} {c : Cur} {rest : List Rune} {s : LexStep} (h : Lexed cls c rest s)
    (hty : s.tok.ty = .comment ∨ s.tok.ty = .description) : LineEnd s.rest := by
  obtain ⟨⟨_, _, _, _, _, ⟨hl, _⟩ | ⟨_, hr, _⟩⟩, _⟩ := h
  · exact hl.lineEnd hty
  · exact Or.inl hr

theorem Lexed.sub {cls : Cls} {c : Cur} {rest : List Rune} {s : LexStep} (h : Lexed cls c rest s) :
    (∀ r ∈ s.tok.lit, r ∈ rest) ∧ ∀ r ∈ s.rest, r ∈ rest := by
  obtain ⟨⟨ws, text, _, hsplit, _, halt⟩, _⟩ := h
  refine ⟨fun r hr => ?_, fun r hr => by rw [hsplit]; exact List.mem_append_right _ hr⟩
  have : r ∈ text := by
    rcases halt with ⟨hl, _⟩ | ⟨⟨_, _, h⟩ | ⟨_, h, _⟩, _⟩
    · exact hl.lit_sub r hr
    · rw [h] at hr; cases hr
    · rw [h]; exact List.mem_cons_of_mem _ (List.mem_cons_of_mem _ hr)
  rw [hsplit]
  exact List.mem_append_left _ (List.mem_append_right _ this)

theorem nextToken_tokwf (cls : Cls) (c : Cur) (rest : List Rune)
    (he : (nextToken cls c rest).err = none) : TokLitWF cls (nextToken cls c rest).tok := by
  obtain ⟨⟨_, _, _, _, _, ⟨h, _⟩ | ⟨⟨_, h, _⟩ | ⟨h1, _, h2⟩, _⟩⟩, _⟩ := nextToken_lexed cls c rest he
  · exact h.litWF _ _
  · unfold TokLitWF; rw [h]; trivial
  · unfold TokLitWF; rw [h1]; exact h2

/-- **the text of a lexeme in front of `rest` is read as that lexeme**, from any lexer state -/
theorem Lexeme.lexes {cls : Cls} {text rest : List Rune} {ty : TokenType} {lit : List Rune}
    (h : Lexeme cls text rest ty lit) (c : Cur) :
    nextToken cls c (text ++ rest) = ⟨⟨ty, lit, c.nxt, (advs c text).pos⟩, none, advs c text, rest⟩ := by
  cases h with
  | @op r _ _ hop => exact nextToken_op cls c hop rest
  | eol => exact nextToken_eol cls c rest
  | @comment lit _ h1 h2 =>
    obtain ⟨e1, e2⟩ := Go.takeWhile_all (· != cNL) lit rest (fun a ha => by simpa using h1 a ha) h2.head
    rw [List.cons_append, List.cons_append, nextToken_slash, if_pos List.head?_cons, lexLineComment,
      lexLineLoop_eq, e1, e2]
    rfl
  | @blockComment lit _ h1 =>
    have e : cSLASH :: cSTAR :: (lit ++ [cSTAR, cSLASH]) ++ rest =
        cSLASH :: cSTAR :: (lit ++ cSTAR :: cSLASH :: rest) := by simp
    rw [e, nextToken_slash, if_neg (by simp; decide), if_pos List.head?_cons, lexBlockComment,
      lexBlockLoop_body lit h1]
    rfl
  | @regex lit _ hwf hrest =>
    obtain ⟨⟨r, rs, rfl, hr1, hr2⟩, hnl⟩ := hwf
    have e : cSLASH :: (escRegex (r :: rs) ++ [cSLASH]) ++ rest =
        cSLASH :: (escRegex (r :: rs) ++ cSLASH :: rest) := by simp
    have hd : (escRegex (r :: rs) ++ cSLASH :: rest).head? = some r := by
      rw [escRegex_cons hr1]; rfl
    rw [e, nextToken_slash, hd, if_neg (by simpa using hr1), if_neg (by simpa using hr2),
      lexRegexLoop_esc _ hnl _ _ _ hrest]
    rfl
  | @string lit _ =>
    have e : cQUOTE :: (escString lit ++ [cQUOTE]) ++ rest = cQUOTE :: (escString lit ++ cQUOTE :: rest) := by
      simp
    rw [e, nextToken_quote, lexStringLoop_esc]
    rfl
  | @description sp lit _ hsp h1 h2 h3 =>
    obtain ⟨e1, e2⟩ := Go.takeWhile_all (spaceChar cls) sp (lit ++ rest)
      (fun a ha => by simpa [spaceChar] using hsp a ha)
      (fun a r e => by
        cases lit with
        | nil => rw [spaceChar, h3.head a r e, Bool.and_false]
        | cons x xs => cases e; rw [spaceChar, h2 a rfl, Bool.false_and])
    obtain ⟨e3, e4⟩ := Go.takeWhile_all (· != cNL) lit rest (fun a ha => by simpa using h1 a ha) h3.head
    rw [List.cons_append, List.append_assoc, nextToken_pipe, lexDescriptionLine_eq, e1, e2, e3, e4]
    rfl
  | @int r ds _ hh h1 hstop =>
    rw [List.cons_append, nextToken_digit cls c _ hh
      ((lexNumberLoop_digits cls h1 _ _ _ _ _).trans (lexNumberLoop_stop cls _ _ _ _ hstop)) rfl]
    rfl
  | @decimal r ds fs _ hh h1 h2 h0 hstop =>
    have e : r :: ds ++ cDOT :: fs ++ rest = r :: (ds ++ cDOT :: (fs ++ rest)) := by simp
    have hstep : lexNumberLoop cls (advs (c.adv r) ds) .int ([r] ++ ds) false (cDOT :: (fs ++ rest)) =
        lexNumberLoop cls ((advs (c.adv r) ds).adv cDOT) .decimal ([r] ++ ds ++ [cDOT]) true (fs ++ rest) := by
      conv => lhs; unfold lexNumberLoop
      simp [h0]
    rw [e, nextToken_digit cls c _ hh
      ((lexNumberLoop_digits cls h1 _ _ _ _ _).trans (hstep.trans
        ((lexNumberLoop_digits cls h2 _ _ _ _ _).trans (lexNumberLoop_stop cls _ _ _ _ hstop)))) rfl]
    simp [mkTok, advs_append]
  | ident hwf hstop =>
    cases text with
    | nil => exact absurd rfl hwf.ne
    | cons r body =>
      obtain ⟨e1, e2⟩ := Go.takeWhile_all (identChar cls) body rest
        (fun a ha => by simpa [identChar, Bool.or_assoc] using hwf.body a ha)
        (fun a r e => by simpa [identChar, Bool.or_assoc, not_or] using hstop a (by rw [e]; rfl))
      rw [List.cons_append, nextToken_letter cls c _ (hwf.head r rfl) (lexIdentLoop_eq _ _ _ _), e1, e2]
      rfl

/-- what one call of `nextToken` from `(c, rest)` does: it skips white space `ws` and reads `pre`, then
stands on the last rune read or, if the input ended, behind it; a token starts behind `ws` and ends
where the lexer stands, and so does an error -/
def StepSpec (cls : Cls) (c : Cur) (rest : List Rune) (s : LexStep) : Prop :=
  ∃ ws pre, AllSpace cls ws ∧ rest = ws ++ pre ++ s.rest ∧
    ((pre ≠ [] ∧ s.cur = advs c (ws ++ pre)) ∨ (s.rest = [] ∧ s.cur = (advs c (ws ++ pre)).advEOF)) ∧
    (s.err = none → s.tok.start = advPos c.nxt ws ∧ s.tok.end_ = s.cur.pos) ∧
    (∀ e, s.err = some e → e.pos = s.cur.pos)

/-- the same in prefixes of the input: the step consumes `pre`, the token spans `a … b` (relative to
`c.nxt`), where `a ≤ b` are prefixes of `pre`, `b` a proper one unless the end of input was hit; an
error sits at `b` -/
theorem StepSpec.spans {cls : Cls} {c : Cur} {rest : List Rune} {s : LexStep} (h : StepSpec cls c rest s) :
    ∃ pre a b, rest = pre ++ s.rest ∧ a <+: b ∧ b <+: pre ∧ AllSpace cls a ∧
      ((pre ≠ [] ∧ b.length + 1 = pre.length ∧ s.cur = advs c pre) ∨
        (s.rest = [] ∧ s.cur = (advs c pre).advEOF ∧ b = pre)) ∧
      (s.err = none → s.tok.start = advPos c.nxt a ∧ s.tok.end_ = advPos c.nxt b) ∧
      (∀ e, s.err = some e → e.pos = advPos c.nxt b) := by
  obtain ⟨ws, pre, hws, hsplit, hstop, htok, herr⟩ := h
  rcases hstop with ⟨hne, hcur⟩ | ⟨hr, hcur⟩
  · have hne' : ws ++ pre ≠ [] := by simp [hne]
    obtain ⟨b, hb1, hb2, hb3⟩ := advs_pos_prefix c (ws ++ pre) hne'
    refine ⟨ws ++ pre, ws, b, hsplit, ?_, hb1, hws, Or.inl ⟨hne', hb2, hcur⟩,
      fun he => ⟨(htok he).1, by rw [(htok he).2, hcur, hb3]⟩, fun e he => by rw [herr e he, hcur, hb3]⟩
    apply List.prefix_of_prefix_length_le (List.prefix_append _ _) hb1
    have := List.length_pos_iff.mpr hne
    rw [List.length_append] at hb2; omega
  · exact ⟨ws ++ pre, ws, ws ++ pre, hsplit, List.prefix_append _ _, List.prefix_refl _, hws,
      Or.inr ⟨hr, hcur, rfl⟩, fun he => ⟨(htok he).1, by rw [(htok he).2, hcur, advEOF_pos, advs_nxt]⟩,
      fun e he => by rw [herr e he, hcur, advEOF_pos, advs_nxt]⟩

theorem StepSpec.space {cls : Cls} {c : Cur} {r : Rune} {rs : List Rune} {s : LexStep}
    (hr : cls.isSpace r = true ∧ r ≠ cNL) (h : StepSpec cls (c.adv r) rs s) :
    StepSpec cls c (r :: rs) s := by
  obtain ⟨ws, pre, h1, h2, h3, h4, h5⟩ := h
  exact ⟨r :: ws, pre, List.forall_mem_cons.mpr ⟨hr, h1⟩, by rw [h2]; rfl, h3,
    fun he => ⟨by rw [(h4 he).1, adv_nxt]; rfl, (h4 he).2⟩, h5⟩

theorem stepSpec_of_run (cls : Cls) {c : Cur} {r : Rune} {rs : List Rune} {s : LexStep}
    (hrun : CleanRun (c.adv r) rs s.cur s.rest ∨ EofRun (c.adv r) rs s.cur s.rest)
    (he : s.err ≠ none) (herr : ∀ e, s.err = some e → e.pos = s.cur.pos) : StepSpec cls c (r :: rs) s := by
  rcases hrun with ⟨pre, h1, h2⟩ | ⟨h1, h2⟩
  · exact ⟨[], r :: pre, (fun _ h => nomatch h), by rw [h1]; rfl, Or.inl ⟨List.cons_ne_nil _ _, h2⟩,
      fun h => absurd h he, herr⟩
  · exact ⟨[], r :: rs, (fun _ h => nomatch h), by rw [h1]; simp, Or.inr ⟨h1, h2⟩, fun h => absurd h he, herr⟩

theorem nextToken_spec (cls : Cls) (c : Cur) (rest : List Rune) :
    StepSpec cls c rest (nextToken cls c rest) := by
  cases he : (nextToken cls c rest).err with
  | none =>
    obtain ⟨⟨ws, text, hws, hsplit, hstart, halt⟩, hend⟩ := nextToken_lexed cls c rest he
    exact ⟨ws, text, hws, hsplit, halt.imp (fun h => ⟨h.1.ne_nil, h.2⟩) (·.2), fun _ => ⟨hstart, hend⟩,
      fun e h => by rw [he] at h; cases h⟩
  | some e =>
    -- only a string, a regex, a number and a rune that starts no token fail: the error sits where the lexer stops
    revert e
    apply nextToken_cases cls (motive := fun c rest s => ∀ e, s.err = some e → StepSpec cls c rest s)
    case eof | op | eol | number | ident | comment | description => intros; contradiction
    case blockComment =>
      intro c rs e he
      have h0 : (lexBlockComment (c.adv cSLASH) (cSTAR :: rs)).err = none := lexBlockLoop_err _ [] rs
      rw [(litStep_fields _ _ _).2.2, h0] at he
      cases he
    case regex =>
      intro c rs _ _ e he
      obtain ⟨f1, f2, f3⟩ := litStep_fields .regex (c.adv cSLASH).pos (lexRegexLoop (c.adv cSLASH) [] rs)
      exact stepSpec_of_run cls (by rw [f1, f2]; exact (lexRegexLoop_run _ _ _).1) (by rw [he]; nofun)
        (by rw [f1, f3]; exact (lexRegexLoop_run _ _ _).2)
    case string =>
      intro c rs e he
      obtain ⟨f1, f2, f3⟩ := litStep_fields .string (c.adv cQUOTE).pos (lexStringLoop (c.adv cQUOTE) [] rs)
      exact stepSpec_of_run cls (by rw [f1, f2]; exact (lexStringLoop_run _ _ _).1) (by rw [he]; nofun)
        (by rw [f1, f3]; exact (lexStringLoop_run _ _ _).2)
    case space => intro c r rs hs hn ih e he; exact StepSpec.space ⟨hs, hn⟩ (ih e he)
    case numberErr =>
      intro c r rs n e _ hn he _ _
      have hr := lexNumberLoop_run cls (c.adv r) .int [r] false rs
      rw [← hn] at hr
      exact stepSpec_of_run cls (Or.inl hr.1) nofun (fun e' he' => by cases he'; exact hr.2 e he)
    case bad =>
      intro c r rs _ _
      exact stepSpec_of_run cls (Or.inl (CleanRun.refl _ _)) nofun (fun e he => by cases he; rfl)

theorem nextToken_progress (cls : Cls) (c : Cur) (r : Rune) (rs : List Rune) :
    (nextToken cls c (r :: rs)).rest.length < (r :: rs).length := by
  obtain ⟨pre, a, b, e1, _, _, _, hcur, _, _⟩ := (nextToken_spec cls c (r :: rs)).spans
  generalize nextToken cls c (r :: rs) = s at *
  rcases hcur with ⟨g1, _, _⟩ | ⟨g1, _⟩
  · have : (r :: rs).length = pre.length + s.rest.length := by rw [e1]; simp
    have : pre.length ≠ 0 := fun e => g1 (List.eq_nil_of_length_eq_zero e)
    omega
  · rw [g1]; simp

end J5V.Bcl
