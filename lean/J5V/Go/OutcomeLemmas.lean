import J5V.Go.Outcome
/-!
# Outcomes: results, "no panic" and loops (core only)

A result (`f x = .ok y → …`) is taken apart one Go statement at a time (`bind_eq_ok`, `map_eq_ok`,
`ite_eq_ok`). "No panic" is `∀ w, o ≠ .panic w` in every statement (`Codec.NP`, `Schema.NoPanic` unfold to
it); `noPanic_iff` turns it into `o.isPanic = false`, which `simp` pushes through `if`s to the leaves.
A Go loop that calls a function per element and returns at the first `err != nil` (or panics) is
written out in the models as a recursion of one shape (`summaries`, `seqLoad`, `convertAll`,
`mapMOutcome`, `writeAll`); `Outcome.seq` is that shape, whatever the order of the `match` arms
(`seq_unique`).
-/
namespace J5V.Go
variable {α β : Type}

theorem bind_eq_ok {x : Outcome α} {f : α → Outcome β} {b : β} (h : x.bind f = .ok b) :
    ∃ a, x = .ok a ∧ f a = .ok b := by
  cases x with
  | ok a => exact ⟨a, rfl, h⟩
  | err e => cases h
  | panic w => cases h

theorem map_eq_ok {x : Outcome α} {f : α → β} {b : β} (h : x.map f = .ok b) :
    ∃ a, x = .ok a ∧ f a = b := by
  cases x with
  | ok a => cases h; exact ⟨a, rfl, rfl⟩
  | err t => cases h
  | panic w => cases h

theorem map_ok_iff {x : Outcome α} {g : α → β} {y : β} :
    x.map g = .ok y ↔ ∃ a, x = .ok a ∧ y = g a := by
  cases x <;> simp [Outcome.map, eq_comm]

/-- Go's `if bad { return err }`: a result means the guard did not fire -/
theorem ite_eq_ok {c : Prop} [Decidable c] {e : String} {x : Outcome α} {a : α}
    (h : (if c then .err e else x) = .ok a) : ¬c ∧ x = .ok a := by
  by_cases hc : c
  · rw [if_pos hc] at h; cases h
  · rw [if_neg hc] at h; exact ⟨hc, h⟩

theorem exists_ok_ite {c : Prop} [Decidable c] {a b : Outcome α}
    (ha : c → ∃ x, a = .ok x) (hb : ¬c → ∃ x, b = .ok x) : ∃ x, (if c then a else b) = .ok x := by
  by_cases h : c
  · rw [if_pos h]; exact ha h
  · rw [if_neg h]; exact hb h

theorem isOk_iff {x : Outcome α} : x.isOk = true ↔ ∃ a, x = .ok a := by
  cases x <;> simp [Outcome.isOk]

theorem noPanic_iff {o : Outcome α} : (∀ w, o ≠ .panic w) ↔ o.isPanic = false := by
  cases o <;> simp [Outcome.isPanic]

@[simp] theorem isPanic_ok (a : α) : (Outcome.ok a).isPanic = false := rfl
@[simp] theorem isPanic_err (t : String) : (Outcome.err t : Outcome α).isPanic = false := rfl
@[simp] theorem isPanic_ite (c : Prop) [Decidable c] (a b : Outcome α) :
    (if c then a else b).isPanic = if c then a.isPanic else b.isPanic := apply_ite ..

theorem noPanic_ok (a : α) : ∀ w, Outcome.ok a ≠ .panic w := nofun
theorem noPanic_err (e : String) : ∀ w, (Outcome.err e : Outcome α) ≠ .panic w := nofun

theorem bind_noPanic {x : Outcome α} {f : α → Outcome β} (hx : ∀ w, x ≠ .panic w)
    (hf : ∀ a, x = .ok a → ∀ w, f a ≠ .panic w) : ∀ w, x.bind f ≠ .panic w := by
  cases x with
  | ok a => exact hf a rfl
  | err e => exact nofun
  | panic w' => exact absurd rfl (hx w')

theorem map_noPanic {x : Outcome α} {f : α → β} (hx : ∀ w, x ≠ .panic w) :
    ∀ w, x.map f ≠ .panic w := by
  cases x with
  | ok a => exact nofun
  | err e => exact nofun
  | panic w' => exact absurd rfl (hx w')

theorem ite_noPanic {c : Prop} [Decidable c] {x y : Outcome α} (hx : c → ∀ w, x ≠ .panic w)
    (hy : ¬c → ∀ w, y ≠ .panic w) : ∀ w, (if c then x else y) ≠ .panic w := by
  by_cases h : c
  · rw [if_pos h]; exact hx h
  · rw [if_neg h]; exact hy h

theorem foldl_noPanic {γ : Type} (f : Outcome α → γ → Outcome α)
    (hf : ∀ a c, ∀ w, f (.ok a) c ≠ .panic w) (hp : ∀ x c, (∀ a, x ≠ .ok a) → f x c = x)
    (l : List γ) (init : Outcome α) (hi : ∀ w, init ≠ .panic w) : ∀ w, l.foldl f init ≠ .panic w := by
  induction l generalizing init with
  | nil => exact hi
  | cons c t ih =>
    refine ih _ ?_
    cases init with
    | ok a => exact hf a c
    | err e => rw [hp _ _ (by intro a h; cases h)]; exact noPanic_err e
    | panic w => exact absurd rfl (hi w)

theorem err_of_notOk_noPanic {o : Outcome α} (h1 : ∀ a, o ≠ .ok a) (h2 : ∀ w, o ≠ .panic w) :
    ∃ e, o = .err e := by
  cases o with
  | ok a => exact absurd rfl (h1 a)
  | err e => exact ⟨e, rfl⟩
  | panic w => exact absurd rfl (h2 w)

end J5V.Go

namespace J5V.Go.Outcome
variable {α β : Type}

def get [Inhabited α] : Outcome α → α
  | ok a => a
  | _ => default

/-- `f` on every element in turn, stopping at the first failure -/
def seq (f : α → Outcome β) : List α → Outcome (List β)
  | [] => ok []
  | a :: rest =>
    match f a with
    | err t => err t
    | panic w => panic w
    | ok b =>
      match seq f rest with
      | ok bs => ok (b :: bs)
      | o => o

theorem seq_cons (f : α → Outcome β) (a : α) (l : List α) :
    seq f (a :: l) = (f a).bind fun b => (seq f l).map (b :: ·) := by
  rw [seq]; cases f a <;> cases seq f l <;> rfl

theorem seq_unique (f : α → Outcome β) (g : List α → Outcome (List β)) (hnil : g [] = ok [])
    (hcons : ∀ a l, g (a :: l) = (f a).bind fun b => (g l).map (b :: ·)) : ∀ l, g l = seq f l
  | [] => hnil
  | a :: l => by rw [hcons, seq_cons, seq_unique f g hnil hcons l]

theorem seq_cons_ok {f : α → Outcome β} {a : α} {l : List α} {bs : List β} :
    seq f (a :: l) = ok bs ↔ ∃ b bs', bs = b :: bs' ∧ f a = ok b ∧ seq f l = ok bs' := by
  rw [seq_cons]
  constructor
  · intro h
    obtain ⟨b, hb, h⟩ := bind_eq_ok h
    obtain ⟨bs', hl, rfl⟩ := map_eq_ok h
    exact ⟨b, bs', rfl, hb, hl⟩
  · rintro ⟨b, bs', rfl, ha, hl⟩
    rw [ha, hl]; rfl

/-- a sequence that succeeds: every call succeeded, and the result lists their values -/
theorem seq_ok [Inhabited β] (f : α → Outcome β) (l : List α) (bs : List β)
    (h : seq f l = ok bs) : bs = l.map (fun a => (f a).get) ∧ ∀ a ∈ l, f a = ok (f a).get := by
  induction l generalizing bs with
  | nil => cases h; exact ⟨rfl, nofun⟩
  | cons a rest ih =>
    obtain ⟨b, more, rfl, ha, hr⟩ := seq_cons_ok.mp h
    obtain ⟨e1, e2⟩ := ih more hr
    have hb : f a = ok (f a).get := by rw [ha]; rfl
    exact ⟨by rw [List.map_cons, ha, e1]; rfl, List.forall_mem_cons.mpr ⟨hb, e2⟩⟩

theorem seq_ok_all {f : α → Outcome β} :
    ∀ {l : List α} {bs : List β}, seq f l = ok bs → ∀ a ∈ l, ∃ b, f a = ok b
  | [], _, _ => nofun
  | _ :: _, _, h =>
    let ⟨b, _, _, ha, hl⟩ := seq_cons_ok.mp h
    List.forall_mem_cons.mpr ⟨⟨b, ha⟩, seq_ok_all hl⟩

theorem seq_ok_mem {f : α → Outcome β} :
    ∀ {l : List α} {bs : List β}, seq f l = ok bs → ∀ b ∈ bs, ∃ a ∈ l, f a = ok b
  | [], _, h, b, hb => by cases h; cases hb
  | a :: l, _, h, b, hb => by
    obtain ⟨b0, bs', rfl, ha, hl⟩ := seq_cons_ok.mp h
    rcases List.mem_cons.mp hb with rfl | hb'
    · exact ⟨a, List.mem_cons_self, ha⟩
    · obtain ⟨x, hx, hfx⟩ := seq_ok_mem hl b hb'
      exact ⟨x, List.mem_cons_of_mem _ hx, hfx⟩

theorem seq_of_all_ok (f : α → Outcome β) (l : List α) (g : α → β)
    (h : ∀ a ∈ l, f a = ok (g a)) : seq f l = ok (l.map g) := by
  induction l with
  | nil => rfl
  | cons a rest ih =>
    exact seq_cons_ok.mpr ⟨_, _, rfl, h a List.mem_cons_self, ih fun x hx => h x (List.mem_cons_of_mem _ hx)⟩

theorem seq_exists_ok (f : α → Outcome β) (l : List α) (h : ∀ a ∈ l, ∃ b, f a = ok b) :
    ∃ bs, seq f l = ok bs := by
  induction l with
  | nil => exact ⟨[], rfl⟩
  | cons a l ih =>
    obtain ⟨b, hb⟩ := h a List.mem_cons_self
    obtain ⟨bs, hbs⟩ := ih fun x hx => h x (List.mem_cons_of_mem _ hx)
    exact ⟨b :: bs, seq_cons_ok.mpr ⟨b, bs, rfl, hb, hbs⟩⟩

theorem seq_congr (f f' : α → Outcome β) (l : List α) (h : ∀ a ∈ l, f a = f' a) :
    seq f l = seq f' l := by
  induction l with
  | nil => rfl
  | cons a rest ih =>
    rw [seq_cons, seq_cons, h a List.mem_cons_self, ih fun x hx => h x (List.mem_cons_of_mem _ hx)]

theorem seq_noPanic {f : α → Outcome β} {l : List α} (h : ∀ a ∈ l, ∀ w, f a ≠ panic w) :
    ∀ w, seq f l ≠ panic w := by
  induction l with
  | nil => exact nofun
  | cons a rest ih =>
    rw [seq_cons]
    exact bind_noPanic (h a List.mem_cons_self) fun _ _ =>
      map_noPanic (ih fun x hx => h x (List.mem_cons_of_mem _ hx))

theorem seq_isPanic (f : α → Outcome β) (l : List α)
    (h : ∀ a ∈ l, (f a).isPanic = false) : (seq f l).isPanic = false :=
  noPanic_iff.mp (seq_noPanic fun a ha => noPanic_iff.mpr (h a ha))

theorem map_isPanic (g : α → β) (x : Outcome α) : (x.map g).isPanic = x.isPanic := by
  cases x <;> rfl

end J5V.Go.Outcome
