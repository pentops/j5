/-!
# Facts about lists that several models need (core only)

Go compares strings bytewise and the models write that out by recursion on two byte lists: any such
function is core's `<` on `List Nat` (`lexLt_eq_decide_lt`). Registries are lists with distinct keys
(`find?_unique`, `find?_perm_of_unique`); guarded walks terminate because a filtered list of unseen
nodes gets shorter (`filter_length_lt`); the lexers read while a class test holds (`takeWhile` over `++`).
-/
namespace J5V.Go

theorem lexLt_eq_decide_lt (lt : List Nat → List Nat → Bool) (h00 : lt [] [] = false)
    (h01 : ∀ b bs, lt [] (b :: bs) = true) (h10 : ∀ a as, lt (a :: as) [] = false)
    (h11 : ∀ a as b bs, lt (a :: as) (b :: bs) =
      if a < b then true else if b < a then false else lt as bs) :
    ∀ a b, lt a b = decide (a < b)
  | [], [] => by simp [h00]
  | [], _ :: _ => by simp [h01]
  | _ :: _, [] => by simp [h10]
  | a :: as, b :: bs => by
    rw [h11, lexLt_eq_decide_lt lt h00 h01 h10 h11 as bs]
    simp only [List.cons_lt_cons_iff]
    by_cases h1 : a < b
    · simp [h1]
    · by_cases h2 : b < a
      · simp [h1, h2, show a ≠ b by omega]
      · simp [show a = b by omega]

theorem lt_or_lt_of_ne {a b : List Nat} (h : a ≠ b) : a < b ∨ b < a := by
  by_cases h1 : a < b
  · exact Or.inl h1
  · by_cases h2 : b < a
    · exact Or.inr h2
    · exact absurd (List.le_antisymm (List.not_lt.mp h2) (List.not_lt.mp h1)) h

theorem inj_of_nodup_map {α β : Type} (f : α → β) (l : List α) (h : (l.map f).Nodup) :
    ∀ a ∈ l, ∀ b ∈ l, f a = f b → a = b := by
  induction l with
  | nil => intro a ha; cases ha
  | cons x xs ih =>
    rw [List.map_cons, List.nodup_cons] at h
    intro a ha b hb hab
    rcases List.mem_cons.mp ha with rfl | ha' <;> rcases List.mem_cons.mp hb with rfl | hb'
    · rfl
    · exact absurd (List.mem_map.mpr ⟨b, hb', hab.symm⟩) h.1
    · exact absurd (List.mem_map.mpr ⟨a, ha', hab⟩) h.1
    · exact ih h.2 a ha' b hb' hab

theorem find?_unique {α β : Type} [BEq β] [LawfulBEq β] (f : α → β) (l : List α)
    (h : (l.map f).Nodup) (x : α) (hx : x ∈ l) : l.find? (fun y => f y == f x) = some x := by
  induction l with
  | nil => cases hx
  | cons a t ih =>
    rw [List.map_cons, List.nodup_cons] at h
    rcases List.mem_cons.mp hx with rfl | hx'
    · exact List.find?_cons_of_pos (beq_self_eq_true _)
    · rw [List.find?_cons_of_neg (by
        rw [beq_iff_eq]; exact fun e => h.1 (e ▸ List.mem_map.mpr ⟨x, hx', rfl⟩)), ih h.2 hx']

theorem find?_perm_of_unique {α : Type} (p : α → Bool) {l₁ l₂ : List α} (h : l₁.Perm l₂)
    (huniq : ∀ a ∈ l₁, ∀ b ∈ l₁, p a = true → p b = true → a = b) :
    l₁.find? p = l₂.find? p := by
  induction h with
  | nil => rfl
  | cons x hp ih =>
    simp only [List.find?_cons]
    split
    · rfl
    · exact ih (fun a ha b hb => huniq a (List.mem_cons_of_mem _ ha) b (List.mem_cons_of_mem _ hb))
  | swap x y l =>
    simp only [List.find?_cons]
    cases hx : p x <;> cases hy : p y <;> simp
    exact huniq y (by simp) x (by simp) hy hx
  | trans h1 h2 ih1 ih2 =>
    rw [ih1 huniq]
    exact ih2 fun a ha b hb => huniq a (h1.mem_iff.mpr ha) b (h1.mem_iff.mpr hb)

/-- an update of the elements that does not change what `q` says of them commutes with `find?` -/
theorem find?_map_keep {α} (l : List α) (q : α → Bool) (g : α → α) (hg : ∀ x, q (g x) = q x) :
    (l.map g).find? q = (l.find? q).map g := by
  rw [List.find?_map, show q ∘ g = q from funext hg]

theorem filter_length_le {α} (p q : α → Bool) (l : List α) (h : ∀ x, p x = true → q x = true) :
    (l.filter p).length ≤ (l.filter q).length := by
  simpa only [List.countP_eq_length_filter] using List.countP_mono_left fun x _ => h x

/-- a filter that lets through less, and drops an element the other keeps, yields a shorter list -/
theorem filter_length_lt {α} (p q : α → Bool) (l : List α) (h : ∀ x, p x = true → q x = true)
    (x0 : α) (hm : x0 ∈ l) (hq0 : q x0 = true) (hp0 : p x0 = false) :
    (l.filter p).length < (l.filter q).length := by
  have : l.filter p = (l.filter q).filter p := by
    rw [List.filter_filter]
    exact List.filter_congr fun x _ => by cases hp : p x <;> simp [h x, hp]
  rw [this]
  exact List.length_filter_lt_length_iff_exists.mpr ⟨x0, List.mem_filter.mpr ⟨hm, hq0⟩, by simp [hp0]⟩

theorem nodup_length_le (n : Nat) (l : List Nat) (hl : l.Nodup) (h : ∀ x ∈ l, x < n) : l.length ≤ n := by
  simpa using hl.length_le_of_subset (l₂ := List.range n) fun x hx => List.mem_range.mpr (h x hx)

theorem takeWhile_append_stop {α} (p : α → Bool) (x : α) (hx : p x = false) (a b : List α) :
    (a ++ x :: b).takeWhile p = a.takeWhile p := by
  induction a with
  | nil => rw [List.nil_append, List.takeWhile_cons_of_neg (by simp [hx])]; rfl
  | cons y ys ih =>
    rw [List.cons_append, List.takeWhile_cons, List.takeWhile_cons, ih]

theorem dropWhile_append_stop {α} (p : α → Bool) (x : α) (hx : p x = false) (a b : List α) :
    (a ++ x :: b).dropWhile p = a.dropWhile p ++ x :: b := by
  induction a with
  | nil => rw [List.nil_append, List.dropWhile_cons_of_neg (by simp [hx])]; rfl
  | cons y ys ih =>
    rw [List.cons_append, List.dropWhile_cons, List.dropWhile_cons, ih]
    split <;> rfl

theorem takeWhile_all {α} (p : α → Bool) (l rest : List α) (hl : ∀ x ∈ l, p x = true)
    (hr : ∀ c r, rest = c :: r → p c = false) :
    (l ++ rest).takeWhile p = l ∧ (l ++ rest).dropWhile p = rest := by
  rw [List.takeWhile_append_of_pos hl, List.dropWhile_append_of_pos hl]
  cases rest with
  | nil => exact ⟨List.append_nil l, rfl⟩
  | cons c r =>
    have hc : ¬ p c = true := by simp [hr c r rfl]
    rw [List.takeWhile_cons_of_neg hc, List.dropWhile_cons_of_neg hc]
    exact ⟨List.append_nil l, rfl⟩

theorem induct2 {α : Type} {P : List α → Prop} (nil : P [])
    (cons : ∀ a l, P l → (∀ b l', l = b :: l' → P l') → P (a :: l)) : ∀ l, P l := by
  have : ∀ l, P l ∧ ∀ b l', l = b :: l' → P l' := by
    intro l
    induction l with
    | nil => exact ⟨nil, nofun⟩
    | cons a l ih => exact ⟨cons a l ih.1 ih.2, fun b l' h => by cases h; exact ih.1⟩
  exact fun l => (this l).1
end J5V.Go
