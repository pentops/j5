import J5V.Walker.Walk
import J5V.Walker.WF
/-!
# The vocabulary of the statements about the walk (definitions only)

What the theorems of `Props/C07Walker.lean` and the specs of the proof modules are stated with, beyond the model: the
typing invariant of the tree, the hypothesis `bodyTypesOK` on the input, the spans of the input an error may carry (for a
set of positions `P`, and for an arbitrary set `S` of spans with the hulls asked for), observers of a result, `ClsAscii`.
-/
namespace J5V.Walker
open J5V.Bcl

/-! ## The type of an address -/

/-- the referenced schema of an object / oneof type -/
def FieldType.msgSchema (env : Env) : FieldType → Option Schema
  | .object r => some (env.schemaOf r)
  | .oneof r => some (env.schemaOf r)
  | _ => none

/-- the type of the `i`-th child slot of a value of type `t` -/
def FieldType.child (env : Env) : FieldType → Nat → Option FieldType
  | .object r, i => ((env.schemaOf r).props[i]?).map (·.type)
  | .oneof r, i => ((env.schemaOf r).props[i]?).map (·.type)
  | .array item, _ => some item
  | .map item, _ => some item
  | _, _ => none

/-- the type of the slot at address `a` below a slot of type `t` -/
def typeAtFrom (env : Env) : FieldType → Addr → Option FieldType
  | t, [] => some t
  | t, i :: rest =>
    match t.child env i with
    | some t' => typeAtFrom env t' rest
    | none => none

/-- the type of the slot at address `a` of the root message -/
def Env.typeAt (env : Env) (a : Addr) : Option FieldType := typeAtFrom env (.object env.root) a

/-! ## Typing -/

/-- `VOK env t touched n`: `n` is a value of type `t`; `touched`: the slot has been touched (a
container-typed slot is then not `.absent`). The elements of a list / a map are typed at `touched = true`: an
element is there only once `newContainerElement` / `mapElement` / `appendScalar` has created it. -/
inductive VOK (env : Env) : FieldType → Bool → Node → Prop where
  | absent (t : FieldType) : VOK env t false .absent
  | leaf (t : FieldType) (b : Bool) (n : Node) : t.isContainer = false → VOK env t b n
  | msg (t : FieldType) (s : Schema) (b : Bool) (touched : List Bool) (props : List Node) :
      t.msgSchema env = some s →
      touched.length = s.props.length →
      props.length = s.props.length →
      (∀ (i : Nat) (p : Property) (tb : Bool) (c : Node),
        s.props[i]? = some p → touched[i]? = some tb → props[i]? = some c → VOK env p.type tb c) →
      VOK env t b (.msg touched props)
  | arr (item : FieldType) (b : Bool) (xs : List Node) :
      (∀ c, c ∈ xs → VOK env item true c) → VOK env (.array item) b (.list xs)
  | map (item : FieldType) (b : Bool) (ks : List Str) (vs : List Node) :
      ks.length = vs.length →
      (∀ c, c ∈ vs → VOK env item true c) → VOK env (.map item) b (.map ks vs)

/-- `.msg touched props` is a message of schema `s` -/
def MsgOK (env : Env) (s : Schema) (touched : List Bool) (props : List Node) : Prop :=
  touched.length = s.props.length ∧ props.length = s.props.length ∧
  ∀ (i : Nat) (p : Property) (tb : Bool) (c : Node),
    s.props[i]? = some p → touched[i]? = some tb → props[i]? = some c → VOK env p.type tb c

/-- the tree is a message of the root schema -/
def TreeOK (env : Env) (root : Node) : Prop := VOK env (.object env.root) true root

/-! ## The tree only grows -/

/-- a message stays a message, a list a list, a map a map -/
def ShapeLe (n n' : Node) : Prop :=
  match n with
  | .msg _ _ => ∃ t ps, n' = .msg t ps
  | .list _ => ∃ xs, n' = .list xs
  | .map _ _ => ∃ ks vs, n' = .map ks vs
  | _ => True

/-- below a slot of type `t`: every typed address valid in `n` is valid in `n'`, with the same
container shape. Nothing is said of a leaf slot: `storeScalar` overwrites it, with `.absent` for a zero value. -/
def ExtFrom (env : Env) (t : FieldType) (n n' : Node) : Prop :=
  ∀ a t' m, typeAtFrom env t a = some t' → n.get? a = some m →
    ∃ m', n'.get? a = some m' ∧ (t'.isContainer = true → ShapeLe m m')

/-- the tree only grows -/
def Ext (env : Env) (st st' : Node) : Prop := ExtFrom env (.object env.root) st st'

/-! ## A necessary hypothesis on the statements

`walkSchema` DOES panic on a block whose type reference has no ident (`buildScope … .resetScope` with an
empty path returns `tailScope`, whose `root` is `none`; a description statement in the body then
dereferences it — `WalkMain.lean`). The parser never builds such a reference (`newReference`). -/

mutual
/-- every block type reference of the statement has at least one ident -/
def statementTypesOK : Statement → Bool
  | .block h body => !h.type.idents.isEmpty && bodyTypesOK body
  | .assign _ => true
  | .desc _ => true
/-- every block type reference of the body has at least one ident -/
def bodyTypesOK : List Statement → Bool
  | [] => true
  | s :: rest => statementTypesOK s && bodyTypesOK rest
end

/-- every span of the value (nested array elements included) is in `S` -/
inductive ValueIn (S : Span → Prop) : Value → Prop where
  | scalar (tok : Token) (sp : Span) : S sp → ValueIn S (.scalar tok sp)
  | array (vs : List Value) (sp : Span) : S sp → (∀ v, v ∈ vs → ValueIn S v) → ValueIn S (.array vs sp)

/-- every node span of the value is in `S` (all an error may carry if `S` is closed under hulls: `AVIn.avInS`) -/
def AVIn (S : Span → Prop) : AV → Prop
  | .value v => ValueIn S v
  | .tag t => S t.span
  | .str _ sp => S sp
  | .bool _ => S Span.zero

def HullsIn (S : Span → Prop) (l : List Span) : Prop :=
  ∀ l' : List Span, l'.Sublist l → ∀ first last, l'.head? = some first → l'.getLast? = some last →
    S ⟨first.start, last.end_⟩

/-- every span of the value (nested array elements included) is in `S`, and so is the hull of every
non-empty sublist of the elements of every array -/
inductive ValueInS (S : Span → Prop) : Value → Prop where
  | scalar (tok : Token) (sp : Span) : S sp → ValueInS S (.scalar tok sp)
  | array (vs : List Value) (sp : Span) : S sp → (∀ v, v ∈ vs → ValueInS S v) →
      HullsIn S (vs.map Value.span) → ValueInS S (.array vs sp)

/-- every span an error about this value may carry is in `S`: node spans and the hulls of `ValueInS` -/
def AVInS (S : Span → Prop) : AV → Prop
  | .value v => ValueInS S v
  | .tag t => S t.span
  | .str _ sp => S sp
  | .bool _ => S Span.zero

/-- a span between two positions of `P` -/
def SpanOf (P : Pos → Prop) (sp : Span) : Prop := P sp.start ∧ P sp.end_

/-- the spans of a tag: its own and those of the idents of its reference -/
def TagIn (P : Pos → Prop) (t : TagValue) : Prop :=
  SpanOf P t.span ∧ ∀ ref, t.reference = some ref → ∀ i, i ∈ ref.idents → SpanOf P i.span

/-- the spans of a block header are between positions of `P`; the type reference has an ident -/
structure HeaderIn (P : Pos → Prop) (h : BlockHeader) : Prop where
  typeNonempty : h.type.idents ≠ []
  typeIdents : ∀ i, i ∈ h.type.idents → SpanOf P i.span
  typeEnd : P h.type.span.end_
  tags : ∀ t, t ∈ h.tags → TagIn P t
  qualifiers : ∀ t, t ∈ h.qualifiers → TagIn P t
  description : ∀ d, h.description = some d → SpanOf P d.span
  span : SpanOf P (headerSpan h)

/-- every span of the statement is between positions of `P`, and every block type reference has an
ident (the parser guarantees it: `newReference`) -/
inductive StmtIn (P : Pos → Prop) : Statement → Prop where
  | desc (d : Description) : SpanOf P d.span → StmtIn P (.desc d)
  | assign (a : Assignment) : SpanOf P (assignSpan a) → (∀ i, i ∈ a.key.idents → SpanOf P i.span) →
      ValueIn (SpanOf P) a.value → StmtIn P (.assign a)
  | block (h : BlockHeader) (body : List Statement) : HeaderIn P h → (∀ s, s ∈ body → StmtIn P s) →
      StmtIn P (.block h body)

/-- the spans of a tag: its own, the point at its end, and those of the idents of its reference -/
def TagInS (S : Span → Prop) (t : TagValue) : Prop :=
  S t.span ∧ S (pointSpan t.span.end_) ∧
    ∀ ref, t.reference = some ref → ∀ i, i ∈ ref.idents → S i.span

/-- every span the walker can take from the block header is in `S`; the type reference has an ident -/
structure HeaderInS (S : Span → Prop) (h : BlockHeader) : Prop where
  typeNonempty : h.type.idents ≠ []
  typeIdents : ∀ i, i ∈ h.type.idents → S i.span
  typeEnd : S (pointSpan h.type.span.end_)
  tags : ∀ t, t ∈ h.tags → TagInS S t
  tagsHull : HullsIn S (h.tags.map (·.span))
  qualifiers : ∀ t, t ∈ h.qualifiers → TagInS S t
  qualifiersHull : HullsIn S (h.qualifiers.map (·.span))
  description : ∀ d, h.description = some d → S d.span
  span : S (headerSpan h)

/-- every span the walker can take from the statement is in `S`, and every block type reference has an
ident -/
inductive StmtInS (S : Span → Prop) : Statement → Prop where
  | desc (d : Description) : S d.span → StmtInS S (.desc d)
  | assign (a : Assignment) : S (assignSpan a) → (∀ i, i ∈ a.key.idents → S i.span) →
      ValueInS S a.value → StmtInS S (.assign a)
  | block (h : BlockHeader) (body : List Statement) : HeaderInS S h → (∀ s, s ∈ body → StmtInS S s) →
      StmtInS S (.block h body)

/-- the positions of the statements: the least set that contains `0:0` (the span of the synthetic `true`
of a `!` / `?` mark) and makes every span of the statements a span between two of its members. (`StmtIn` asks
for a non-empty type reference on every block: of a body without `bodyTypesOK` every position is a `BodyPos`.) -/
def BodyPos (body : List Statement) (p : Pos) : Prop :=
  ∀ P : Pos → Prop, P ⟨0, 0⟩ → (∀ s, s ∈ body → StmtIn P s) → P p

def Res.isOk {α : Type} : Res α → Bool
  | .ok _ => true
  | _ => false

def Res.isPanic {α : Type} : Res α → Bool
  | .panic _ => true
  | _ => false

/-- forget the position of an error -/
def Res.dropPos {α} : Res α → Res α
  | .ok a => .ok a
  | .err e => .err { e with pos := none }
  | .panic w => .panic w

/-- the classifier agrees with ASCII on ASCII: letters, digits, white space of runes < 128 -/
def ClsAscii (cls : Cls) : Prop :=
  ∀ r, r < 128 → cls.isLetter r = asciiCls.isLetter r ∧ cls.isDigit r = asciiCls.isDigit r ∧
    cls.isSpace r = asciiCls.isSpace r

end J5V.Walker
