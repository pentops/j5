import J5V.Bcl.Parser
import J5V.Bcl.PosProofs
/-!
# `BodyOrdered`: the ORDER facts about a BCL syntax tree the walker's error spans rest on

The walker (`Walk.lean`) puts on an error the span of ONE node, a POINT span, the zero span, or a HULL
`⟨first.span.start, last.span.end_⟩` of a non-empty run of tags / qualifiers (`finishTags`,
`walkQualifiers`) or of array elements (`setContainerFromScalar`, the `remaining` values). For
`start ≤ end_` of every such span it is enough that

* every node span the walker reads has `start ≤ end_` (`SpanOrd`), and
* the tags of a header, its qualifiers, and the elements of every array value (nested ones included) are in
  SOURCE ORDER: each one ends before every later one starts (`InOrder`, a `List.Pairwise`).

The definitions and their elementary facts live here: the parser side (`J5V/Bcl/OrderProofs.lean`:
every `parseFile` tree is `BodyOrdered`) and the walker side (`WalkMain.lean`) both import this file.
-/
namespace J5V.Walker
open J5V.Bcl

/-- the span is not reversed: `start ≤ end_` (lexicographic `Pos.le`) -/
def SpanOrd (sp : Span) : Prop := sp.start ≤ sp.end_

/-- spans in source order: each one ends before (or where) every later one starts -/
def InOrder (l : List Span) : Prop := l.Pairwise (fun a b => a.end_ ≤ b.start)

mutual
/-- every span of the value is not reversed, and the elements of every array (nested ones included) are in
source order -/
def ValueOrdered : Value → Prop
  | .scalar _ sp => SpanOrd sp
  | .array vs sp => SpanOrd sp ∧ ValuesOrdered vs ∧ InOrder (vs.map Value.span)
/-- `ValueOrdered` for every value of the list -/
def ValuesOrdered : List Value → Prop
  | [] => True
  | v :: vs => ValueOrdered v ∧ ValuesOrdered vs
end

/-- the spans of a tag the walker reads: its own and those of the idents of its reference -/
def TagOrdered (t : TagValue) : Prop :=
  SpanOrd t.span ∧ ∀ ref, t.reference = some ref → ∀ i, i ∈ ref.idents → SpanOrd i.span

/-- the spans of a block header the walker reads are not reversed; tags and qualifiers are in source
order -/
structure HeaderOrdered (h : BlockHeader) : Prop where
  typeIdents : ∀ i, i ∈ h.type.idents → SpanOrd i.span
  tags : ∀ t, t ∈ h.tags → TagOrdered t
  tagsInOrder : InOrder (h.tags.map (·.span))
  qualifiers : ∀ t, t ∈ h.qualifiers → TagOrdered t
  qualifiersInOrder : InOrder (h.qualifiers.map (·.span))
  description : ∀ d, h.description = some d → SpanOrd d.span
  src : h.src.start ≤ h.src.end_

mutual
/-- the order hypothesis on one statement -/
def StmtOrdered : Statement → Prop
  | .desc d => SpanOrd d.span
  | .assign a => a.src.start ≤ a.src.end_ ∧ (∀ i, i ∈ a.key.idents → SpanOrd i.span) ∧ ValueOrdered a.value
  | .block h body => HeaderOrdered h ∧ BodyOrdered body
/-- **the order hypothesis of `C07W_walk_error_span_ordered`**: every statement, at any depth, is `StmtOrdered` -/
def BodyOrdered : List Statement → Prop
  | [] => True
  | s :: rest => StmtOrdered s ∧ BodyOrdered rest
end

theorem ValuesOrdered_iff {vs : List Value} : ValuesOrdered vs ↔ ∀ v, v ∈ vs → ValueOrdered v := by
  induction vs with
  | nil => simp [ValuesOrdered]
  | cons x xs ih => simp [ValuesOrdered, ih]

theorem ValuesOrdered.mem {vs : List Value} (h : ValuesOrdered vs) : ∀ v, v ∈ vs → ValueOrdered v :=
  ValuesOrdered_iff.mp h

theorem ValuesOrdered.of_mem {vs : List Value} (h : ∀ v, v ∈ vs → ValueOrdered v) : ValuesOrdered vs :=
  ValuesOrdered_iff.mpr h

theorem ValuesOrdered.append {a b : List Value} (ha : ValuesOrdered a) (hb : ValuesOrdered b) :
    ValuesOrdered (a ++ b) :=
  .of_mem fun v hv => (List.mem_append.mp hv).elim (ha.mem v) (hb.mem v)

theorem ValueOrdered.span {v : Value} (h : ValueOrdered v) : SpanOrd v.span := by
  cases v with
  | scalar tok sp => unfold ValueOrdered at h; exact h
  | array vs sp => unfold ValueOrdered at h; exact h.1

theorem BodyOrdered_iff {body : List Statement} : BodyOrdered body ↔ ∀ s, s ∈ body → StmtOrdered s := by
  induction body with
  | nil => simp [BodyOrdered]
  | cons x xs ih => simp [BodyOrdered, ih]

theorem BodyOrdered.mem {body : List Statement} (h : BodyOrdered body) : ∀ s, s ∈ body → StmtOrdered s :=
  BodyOrdered_iff.mp h

theorem BodyOrdered.of_mem {body : List Statement} (h : ∀ s, s ∈ body → StmtOrdered s) : BodyOrdered body :=
  BodyOrdered_iff.mpr h

theorem BodyOrdered.append {a b : List Statement} (ha : BodyOrdered a) (hb : BodyOrdered b) :
    BodyOrdered (a ++ b) :=
  .of_mem fun s hs => (List.mem_append.mp hs).elim (ha.mem s) (hb.mem s)

theorem BodyOrdered.snoc {a : List Statement} {s : Statement} (ha : BodyOrdered a) (hs : StmtOrdered s) :
    BodyOrdered (a ++ [s]) :=
  ha.append (.of_mem fun _ h => List.mem_singleton.mp h ▸ hs)

/-! ## Hulls -/

/-- every span of the list is not reversed, and the hull `⟨a.start, b.end_⟩` of an earlier `a` and a later
`b` is not reversed either. Holds for spans in source order (`hullOK_of_inOrder`) and for copies of one
span (`hullOK_replicate`: the `strings.Split` pieces of ONE value all carry that value's span). Inherited
by sublists (`HullOK.sublist`). -/
def HullOK (l : List Span) : Prop :=
  (∀ a, a ∈ l → SpanOrd a) ∧ l.Pairwise (fun a b => a.start ≤ b.end_)

theorem hullOK_of_inOrder {l : List Span} (h1 : ∀ a, a ∈ l → SpanOrd a) (h2 : InOrder l) : HullOK l := by
  refine ⟨h1, ?_⟩
  unfold InOrder at h2
  induction l with
  | nil => exact List.Pairwise.nil
  | cons x xs ih =>
    rw [List.pairwise_cons] at h2 ⊢
    refine ⟨fun b hb => ?_, ih (fun a ha => h1 a (List.mem_cons_of_mem _ ha)) h2.2⟩
    exact Pos.le_trans (h1 x List.mem_cons_self)
      (Pos.le_trans (h2.1 b hb) (h1 b (List.mem_cons_of_mem _ hb)))

theorem hullOK_replicate (n : Nat) {sp : Span} (h : SpanOrd sp) : HullOK (List.replicate n sp) := by
  refine ⟨fun a ha => by rw [List.eq_of_mem_replicate ha]; exact h, ?_⟩
  rw [List.pairwise_replicate]
  exact Or.inr h

theorem HullOK.sublist {l l' : List Span} (h : HullOK l) (hs : l'.Sublist l) : HullOK l' :=
  ⟨fun a ha => h.1 a (hs.subset ha), h.2.sublist hs⟩

/-- the hull of the first and the last span of a non-empty list -/
theorem HullOK.hull {l : List Span} (h : HullOK l) {first last : Span} (hf : l.head? = some first)
    (hl : l.getLast? = some last) : SpanOrd ⟨first.start, last.end_⟩ := by
  cases l with
  | nil => cases hf
  | cons x xs =>
    simp only [List.head?_cons, Option.some.injEq] at hf
    subst hf
    cases xs with
    | nil =>
      simp only [List.getLast?_singleton, Option.some.injEq] at hl
      subst hl
      exact h.1 x List.mem_cons_self
    | cons y ys =>
      have hmem : last ∈ y :: ys := by
        rw [List.getLast?_cons_cons] at hl
        exact List.mem_of_getLast? hl
      exact (List.pairwise_cons.mp h.2).1 last hmem

end J5V.Walker
