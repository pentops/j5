import J5V.Walker.SpecProofs
/-!
# From a valid block with a scalar split to `Env.splitOK`

`splitPaths_ok`: if a valid block (`ContainerFieldOK`) has a spec with a scalar split, its container is
a MESSAGE container of a schema `s`, and every path of the split satisfies `splitPathOK env (.msg s)`
(a map container has the empty given spec: `Env.mapNamesFresh`). Together with the kind clauses of
`childBlock_spec` / `scopeField_spec` (`walkKinds`, `kindOfValue`) and `findBlock_single` (`resolveName`)
this is what bounds the recursion `setAttribute → setContainerFromScalar → setAttribute` of `Walk.lean`.
-/
namespace J5V.Walker

theorem msgSchema_eq {env : Env} {t : FieldType} {s : Schema} (h : t.msgSchema env = some s) :
    s = env.schemaOf s.name := by
  cases t <;> simp [FieldType.msgSchema] at h <;> subst h <;> rw [schemaOf_name]

/-- the schema of a valid message container is the schema of its name -/
theorem ContOK.schema_eq {env : Env} {st : Node} {a : Addr} {s : Schema}
    (h : ContOK env st ⟨a, .msg s⟩) : s = env.schemaOf s.name := by
  obtain ⟨⟨t, _, hs⟩, _⟩ := h
  exact msgSchema_eq hs

/-- a valid map container has no given block (`Env.mapNamesFresh`) -/
theorem givenSpec_map {env : Env} (hwf : env.WF = true) {st : Node} {a : Addr} {n : Str} {item : FieldType}
    (h : ContOK env st ⟨a, .map n item⟩) : givenSpec env ⟨a, .map n item⟩ = BlockSpec.empty := by
  obtain ⟨⟨hta, _, c, i, t, s, p, rfl, htc, hs, hp, rfl⟩, _⟩ := h
  have hpt := Env.typeAt_prop htc hs hp
  simp only at hta
  rw [hpt] at hta
  simp only [Option.some.injEq] at hta
  have hs' := msgSchema_eq hs
  have hmem : s ∈ env.schemas := by
    rw [hs'] at hp ⊢
    exact schemaOf_mem hp
  have hfresh := WF_mapNamesFresh hwf
  simp only [Env.mapNamesFresh, List.all_eq_true] at hfresh
  have := hfresh s hmem p (List.mem_of_getElem? hp)
  rw [hta] at this
  simp only [Bool.and_eq_true, Option.isNone_iff_eq_none] at this
  unfold givenSpec
  simp only [Cont.schemaName, this.2]

/-- the paths of the scalar split of a valid block are those `Env.splitOK` checked, and the block is a
message container -/
theorem splitPaths_ok {env : Env} (hwf : env.WF = true) {st : Node} {cf : ContainerField} {ss : ScalarSplit}
    (h : ContainerFieldOK env st cf) (hss : cf.spec.scalarSplit = some ss) :
    ∃ s, cf.container.kind = .msg s ∧ ∀ path, path ∈ ss.paths → splitPathOK env (.msg s) path = true := by
  obtain ⟨sn, ⟨a, k⟩, spec⟩ := cf
  obtain ⟨hc, _, hspec⟩ := h
  simp only at hc hspec hss ⊢
  -- the split of the spec is the split of the given block
  have hk : some ss = (givenSpec env ⟨a, k⟩).scalarSplit := hss ▸ specOf_scalarSplit hspec
  cases k with
  | map n item => rw [givenSpec_map hwf hc] at hk; cases hk
  | msg s =>
    refine ⟨s, rfl, ?_⟩
    unfold givenSpec at hk
    cases hg : findGiven (Cont.schemaName ⟨a, .msg s⟩) env.given with
    | none => rw [hg] at hk; cases hk
    | some spec =>
      rw [hg] at hk
      -- that block is a member `g` of `env.given`, named after `s` …
      obtain ⟨g, hgm, hgn, hgs⟩ := findGiven_mem hg
      have hsch : env.schemaOf g.schemaName = s := hgn ▸ (ContOK.schema_eq hc).symm
      -- … for which `Env.splitOK` checked every path of the split from `schemaOf g.schemaName`
      have hso : g.spec.scalarSplit = some ss →
          ss.paths.all (splitPathOK env (.msg (env.schemaOf g.schemaName))) = true := fun hgss => by
        have := List.all_eq_true.mp (WF_splitOK hwf) g hgm
        rwa [hgss] at this
      rw [hsch] at hso
      exact List.all_eq_true.mp (hso (hgs ▸ hk.symm))

end J5V.Walker
