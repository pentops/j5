import J5V.Walker.Typing
/-!
# A Hoare triple for the state monad `M` of the walk

`MSpec env m pre post epost`: from a well-typed state (`TreeOK`) satisfying `pre`, the computation `m`
does not panic; a result `a` comes with a well-typed final state that extends the initial one (`Ext`)
and satisfies `post a initial final`; an error satisfies `epost`.

The postcondition sees the INITIAL state because two specs say "the state is unchanged" (`listLength_spec`,
`allAsString_spec`; `MSpec.unchanged`). Every other spec is written `fun a _ st' => …` and composed with `MSpec.seq`.
Conventions of the specs: what depends on the state stands on the left of a postcondition, state-independent facts
on the right, and `MSpec.fact` takes such a fact off a precondition; a computation keeps its own precondition with
`.inv`, one of its caller's with `.keep` (the predicate is `Stable` along `Ext`).
`Res.Holds r ok err`: the same three-way statement for a step that does not touch the state (`liftH`).
-/
namespace J5V.Walker

/-- the outcome of a run: a result satisfies `ok`, an error `err`, and there is no panic. (A
definition of its own so that `split` / `simp` on a goal `(m st).Sat …` work on `m st`.) -/
def Res.Sat {α : Type} (r : Res (α × Node)) (ok : α → Node → Prop) (err : WErr → Prop) : Prop :=
  match r with
  | .ok (a, st') => ok a st'
  | .err e => err e
  | .panic _ => False

@[simp] theorem Res.Sat_ok {α : Type} (a : α) (st' : Node) (ok : α → Node → Prop) (err : WErr → Prop) :
    (Res.ok (a, st')).Sat ok err ↔ ok a st' := Iff.rfl
@[simp] theorem Res.Sat_err {α : Type} (e : WErr) (ok : α → Node → Prop) (err : WErr → Prop) :
    (Res.err e : Res (α × Node)).Sat ok err ↔ err e := Iff.rfl
@[simp] theorem Res.Sat_panic {α : Type} (w : String) (ok : α → Node → Prop) (err : WErr → Prop) :
    (Res.panic w : Res (α × Node)).Sat ok err ↔ False := Iff.rfl

/-- from a well-typed state satisfying `pre`, `m` does not panic; a result comes with a well-typed
state that extends the initial one and satisfies `post result initial final`; an error satisfies
`epost` (unfolded: `MSpec_iff`) -/
def MSpec {α : Type} (env : Env) (m : M α) (pre : Node → Prop) (post : α → Node → Node → Prop)
    (epost : WErr → Prop) : Prop :=
  ∀ st, TreeOK env st → pre st →
    (m st).Sat (fun a st' => TreeOK env st' ∧ Ext env st st' ∧ post a st st') epost

theorem MSpec_iff {α : Type} (env : Env) (m : M α) (pre : Node → Prop) (post : α → Node → Node → Prop)
    (epost : WErr → Prop) :
    MSpec env m pre post epost ↔ ∀ st, TreeOK env st → pre st →
      match m st with
      | .ok (a, st') => TreeOK env st' ∧ Ext env st st' ∧ post a st st'
      | .err e => epost e
      | .panic _ => False := Iff.rfl

theorem Res.Sat.imp {α : Type} {r : Res (α × Node)} {ok ok' : α → Node → Prop} {err err' : WErr → Prop}
    (h : r.Sat ok err) (hok : ∀ a st', ok a st' → ok' a st') (herr : ∀ e, err e → err' e) :
    r.Sat ok' err' := by
  cases r with
  | ok x => obtain ⟨a, st'⟩ := x; exact hok a st' h
  | err e => exact herr e h
  | panic w => exact h

/-- the outcome of a step that does not touch the state (`classify`, `specOf`, `setSpecs`, `scalarFromAST`, …) -/
def Res.Holds {α : Type} (r : Res α) (ok : α → Prop) (err : WErr → Prop) : Prop :=
  match r with
  | .ok a => ok a
  | .err e => err e
  | .panic _ => False

namespace Res.Holds
variable {α : Type} {r : Res α} {ok ok' : α → Prop} {err err' : WErr → Prop}

theorem ok_of (h : r.Holds ok err) {a : α} (hr : r = .ok a) : ok a := by subst hr; exact h

theorem err_of (h : r.Holds ok err) {e : WErr} (hr : r = .err e) : err e := by subst hr; exact h

theorem ne_panic (h : r.Holds ok err) (w : String) : r ≠ .panic w := fun hr => by subst hr; exact h

theorem imp (h : r.Holds ok err) (hok : ∀ a, ok a → ok' a) (herr : ∀ e, err e → err' e) :
    r.Holds ok' err' := by
  cases r with
  | ok a => exact hok a h
  | err e => exact herr e h
  | panic w => exact h

end Res.Holds

theorem Res.Sat.ite {α : Type} {c : Prop} [Decidable c] {m1 m2 : M α} {st : Node} {ok : α → Node → Prop}
    {err : WErr → Prop} (h1 : c → (m1 st).Sat ok err) (h2 : ¬ c → (m2 st).Sat ok err) :
    ((if c then m1 else m2) st).Sat ok err := by
  rw [M.ite_apply]; split
  · exact h1 ‹_›
  · exact h2 ‹_›

namespace MSpec
variable {env : Env} {α β : Type}

theorem ok {m : M α} {pre post epost} (h : MSpec env m pre post epost) {st st' : Node} {a : α}
    (hst : TreeOK env st) (hpre : pre st) (hr : m st = .ok (a, st')) :
    TreeOK env st' ∧ Ext env st st' ∧ post a st st' := by
  have := h st hst hpre; rw [hr] at this; exact this

theorem err {m : M α} {pre post epost} (h : MSpec env m pre post epost) {st : Node} {e : WErr}
    (hst : TreeOK env st) (hpre : pre st) (hr : m st = .err e) : epost e := by
  have := h st hst hpre; rw [hr] at this; exact this

theorem no_panic {m : M α} {pre post epost} (h : MSpec env m pre post epost) {st : Node} {w : String}
    (hst : TreeOK env st) (hpre : pre st) : m st ≠ .panic w := by
  intro hr; have := h st hst hpre; rw [hr] at this; exact this

theorem intro {m : M α} {pre post epost}
    (h : ∀ st, TreeOK env st → pre st →
      (∀ a st', m st = .ok (a, st') → TreeOK env st' ∧ Ext env st st' ∧ post a st st') ∧
      (∀ e, m st = .err e → epost e) ∧ (∀ w, m st ≠ .panic w)) :
    MSpec env m pre post epost := by
  intro st hst hpre
  obtain ⟨h1, h2, h3⟩ := h st hst hpre
  cases hr : m st with
  | ok r => obtain ⟨a, st'⟩ := r; exact h1 a st' hr
  | err e => exact h2 e hr
  | panic w => exact h3 w hr

theorem pure {a : α} {pre : Node → Prop} {post : α → Node → Node → Prop} {epost}
    (h : ∀ st, TreeOK env st → pre st → post a st st) :
    MSpec env (Pure.pure a : M α) pre post epost :=
  fun st hst hpre => ⟨hst, Ext.refl env st, h st hst hpre⟩

theorem throw {e : WErr} {pre : Node → Prop} {post : α → Node → Node → Prop} {epost : WErr → Prop}
    (h : epost e) : MSpec env (M.err e : M α) pre post epost :=
  fun _ _ _ => h

/-- `M.err` under a precondition that may be needed to justify `epost` -/
theorem throw' {e : WErr} {pre : Node → Prop} {post : α → Node → Node → Prop} {epost : WErr → Prop}
    (h : ∀ st, TreeOK env st → pre st → epost e) : MSpec env (M.err e : M α) pre post epost :=
  fun st hst hpre => h st hst hpre

/-- a panic arm is fine when the precondition is contradictory -/
theorem panic {w : String} {pre : Node → Prop} {post : α → Node → Node → Prop} {epost : WErr → Prop}
    (h : ∀ st, TreeOK env st → pre st → False) : MSpec env (M.panic w : M α) pre post epost :=
  fun st hst hpre => h st hst hpre

theorem lift {r : Res α} {pre : Node → Prop} {post : α → Node → Node → Prop} {epost : WErr → Prop}
    (hok : ∀ a, r = .ok a → ∀ st, TreeOK env st → pre st → post a st st)
    (herr : ∀ e, r = .err e → epost e)
    (hpanic : ∀ w, r ≠ .panic w) : MSpec env (M.lift r) pre post epost := by
  cases r with
  | ok a => exact MSpec.pure (hok a rfl)
  | err e => exact MSpec.throw (herr e rfl)
  | panic w => exact absurd rfl (hpanic w)

theorem liftH {r : Res α} {ok : α → Prop} {pre : Node → Prop} {epost : WErr → Prop} (h : r.Holds ok epost) :
    MSpec env (M.lift r) pre (fun a _ st' => pre st' ∧ ok a) epost := by
  cases r with
  | ok a => exact MSpec.pure (fun _ _ hp => ⟨hp, h⟩)
  | err e => exact MSpec.throw h
  | panic w => exact h.elim

/-- sequencing. The continuation is verified from any intermediate state `st1` reached from an
initial state `st0` (a ghost): it may use `pre st0`, `Ext env st0 st1` and the first postcondition;
its postcondition is relative to `st0`. -/
theorem bind {m : M α} {f : α → M β} {pre : Node → Prop} {post1 : α → Node → Node → Prop}
    {post2 : β → Node → Node → Prop} {epost : WErr → Prop}
    (hm : MSpec env m pre post1 epost)
    (hf : ∀ a st0, MSpec env (f a)
      (fun st1 => TreeOK env st0 ∧ pre st0 ∧ Ext env st0 st1 ∧ post1 a st0 st1)
      (fun b _ st2 => post2 b st0 st2) epost) :
    MSpec env (m >>= f) pre post2 epost := by
  intro st hst hpre
  have h1 := hm st hst hpre
  rw [M.bind_apply]
  cases hr : m st with
  | ok r =>
    obtain ⟨a, st1⟩ := r
    rw [hr] at h1
    obtain ⟨ht1, he1, hp1⟩ := h1
    have h2 := hf a st st1 ht1 ⟨hst, hpre, he1, hp1⟩
    show (f a st1).Sat _ _
    cases hr2 : f a st1 with
    | ok r2 =>
      obtain ⟨b, st2⟩ := r2
      rw [hr2] at h2
      exact ⟨h2.1, he1.trans h2.2.1, h2.2.2⟩
    | err e => rw [hr2] at h2; exact h2
    | panic w => rw [hr2] at h2; exact h2
  | err e => rw [hr] at h1; exact h1
  | panic w => rw [hr] at h1; exact h1

/-- `bind` for postconditions about the final state: the continuation starts from the first postcondition -/
theorem seq {m : M α} {f : α → M β} {pre : Node → Prop} {Q : α → Node → Prop} {R : β → Node → Prop}
    {epost : WErr → Prop}
    (hm : MSpec env m pre (fun a _ st' => Q a st') epost)
    (hf : ∀ a, MSpec env (f a) (Q a) (fun b _ st' => R b st') epost) :
    MSpec env (m >>= f) pre (fun b _ st' => R b st') epost :=
  bind hm (fun a _ st1 hst1 h => hf a st1 hst1 h.2.2.2)

theorem conseq {m : M α} {pre pre' : Node → Prop} {post post' : α → Node → Node → Prop}
    {epost epost' : WErr → Prop}
    (h : MSpec env m pre post epost)
    (hpre : ∀ st, TreeOK env st → pre' st → pre st)
    (hpost : ∀ a st st', TreeOK env st → pre' st → TreeOK env st' → Ext env st st' → post a st st' →
      post' a st st')
    (hepost : ∀ e, epost e → epost' e) :
    MSpec env m pre' post' epost' :=
  fun st hst hp => (h st hst (hpre st hst hp)).imp
    (fun a st' h1 => ⟨h1.1, h1.2.1, hpost a st st' hst hp h1.1 h1.2.1 h1.2.2⟩) hepost

theorem weaken_pre {m : M α} {pre pre' : Node → Prop} {post : α → Node → Node → Prop} {epost}
    (h : MSpec env m pre post epost) (hpre : ∀ st, TreeOK env st → pre' st → pre st) :
    MSpec env m pre' post epost :=
  h.conseq hpre (fun _ _ _ _ _ _ _ hp => hp) (fun _ he => he)

theorem weaken_post {m : M α} {pre : Node → Prop} {post post' : α → Node → Node → Prop} {epost}
    (h : MSpec env m pre post epost)
    (hpost : ∀ a st st', TreeOK env st → pre st → TreeOK env st' → Ext env st st' → post a st st' →
      post' a st st') :
    MSpec env m pre post' epost :=
  h.conseq (fun _ _ hp => hp) hpost (fun _ he => he)

theorem weaken_err {m : M α} {pre : Node → Prop} {post : α → Node → Node → Prop} {epost epost' : WErr → Prop}
    (h : MSpec env m pre post epost) (he : ∀ e, epost e → epost' e) :
    MSpec env m pre post epost' :=
  h.conseq (fun _ _ hp => hp) (fun _ _ _ _ _ _ _ hp => hp) he

/-- sequencing after weakening the precondition to what the first part needs (`pre0`); the
continuation then starts from `pre0 st0`, `Ext env st0 st1` and the first postcondition -/
theorem bind_from {m : M α} {f : α → M β} {pre pre0 : Node → Prop} {post1 : α → Node → Node → Prop}
    {post2 : β → Node → Node → Prop} {epost : WErr → Prop}
    (hpre : ∀ st, TreeOK env st → pre st → pre0 st)
    (hm : MSpec env m pre0 post1 epost)
    (hf : ∀ a st0, MSpec env (f a)
      (fun st1 => TreeOK env st0 ∧ pre0 st0 ∧ Ext env st0 st1 ∧ post1 a st0 st1)
      (fun b _ st2 => post2 b st0 st2) epost) :
    MSpec env (m >>= f) pre post2 epost :=
  (bind hm hf).weaken_pre hpre

theorem and {m : M α} {pre1 pre2 : Node → Prop} {post1 post2 : α → Node → Node → Prop}
    {epost1 epost2 : WErr → Prop}
    (h1 : MSpec env m pre1 post1 epost1) (h2 : MSpec env m pre2 post2 epost2) :
    MSpec env m (fun st => pre1 st ∧ pre2 st) (fun a st st' => post1 a st st' ∧ post2 a st st')
      (fun e => epost1 e ∧ epost2 e) := by
  intro st hst hp
  have a1 := h1 st hst hp.1
  have a2 := h2 st hst hp.2
  cases hr : m st with
  | ok r =>
    obtain ⟨a, st'⟩ := r
    rw [hr] at a1 a2
    exact ⟨a1.1, a1.2.1, a1.2.2, a2.2.2⟩
  | err e => rw [hr] at a1 a2; exact ⟨a1, a2⟩
  | panic w => rw [hr] at a1; exact a1

/-- the precondition is available in the postcondition, and what is stable along `Ext` can be framed
(`frame`) -/
theorem keep_pre {m : M α} {pre : Node → Prop} {post : α → Node → Node → Prop} {epost}
    (h : MSpec env m pre post epost) :
    MSpec env m pre (fun a st st' => pre st ∧ post a st st') epost :=
  h.conseq (fun _ _ hp => hp) (fun _ _ _ _ hp _ _ hq => ⟨hp, hq⟩) (fun _ he => he)

/-- frame: a predicate preserved along `Ext` (`ContOK.ext`, `FieldOK.ext`, `ScopeOK.ext`) survives -/
theorem frame {m : M α} {pre : Node → Prop} {post : α → Node → Node → Prop} {epost} {R : Node → Prop}
    (h : MSpec env m pre post epost) (hR : ∀ st st', R st → Ext env st st' → R st') :
    MSpec env m (fun st => pre st ∧ R st) (fun a st st' => post a st st' ∧ R st') epost :=
  h.conseq (fun _ _ hp => hp.1) (fun _ _ _ _ hp _ he hq => ⟨hq, hR _ _ hp.2 he⟩) (fun _ he => he)

theorem keep {m : M α} {pre : Node → Prop} {Q : α → Node → Prop} {epost} {R : Node → Prop}
    (h : MSpec env m pre (fun a _ st' => Q a st') epost) (hR : Stable env R) :
    MSpec env m (fun st => pre st ∧ R st) (fun a _ st' => Q a st' ∧ R st') epost :=
  h.frame hR

theorem post {m : M α} {pre : Node → Prop} {Q Q' : α → Node → Prop} {epost}
    (h : MSpec env m pre (fun a _ st' => Q a st') epost) (hq : ∀ a st', Q a st' → Q' a st') :
    MSpec env m pre (fun a _ st' => Q' a st') epost :=
  h.weaken_post (fun a _ st' _ _ _ _ hp => hq a st' hp)

theorem unchanged {m : M α} {pre : Node → Prop} {epost}
    (h : MSpec env m pre (fun _ st st' => st' = st) epost) : MSpec env m pre (fun _ _ st' => pre st') epost :=
  h.conseq (fun _ _ hp => hp) (fun _ _ _ _ hp _ _ he => he ▸ hp) (fun _ he => he)

/-- an invariant stable along `Ext` holds again afterwards -/
theorem inv {m : M α} {Inv : Node → Prop} {post : α → Node → Node → Prop} {epost}
    (h : MSpec env m Inv post epost) (hI : ∀ st st', Inv st → Ext env st st' → Inv st') :
    MSpec env m Inv (fun a st st' => post a st st' ∧ Inv st') epost :=
  h.conseq (fun _ _ hp => hp) (fun _ _ _ _ hp _ he hq => ⟨hq, hI _ _ hp he⟩) (fun _ he => he)

/-- the precondition may assume a pure fact -/
theorem assume {m : M α} {P : Prop} {pre : Node → Prop} {post : α → Node → Node → Prop} {epost}
    (h : P → MSpec env m pre post epost) : MSpec env m (fun st => P ∧ pre st) post epost :=
  fun st hst hp => h hp.1 st hst hp.2

theorem fact {m : M α} {F : Prop} {pre : Node → Prop} {post : α → Node → Node → Prop} {epost}
    (h : F → MSpec env m pre post epost) : MSpec env m (fun st => pre st ∧ F) post epost :=
  fun st hst hp => h hp.2 st hst hp.1

theorem mapErr {m : M α} {g : WErr → WErr} {pre : Node → Prop} {post : α → Node → Node → Prop}
    {epost epost' : WErr → Prop}
    (h : MSpec env m pre post epost) (hg : ∀ e, epost e → epost' (g e)) :
    MSpec env (m.mapErr g) pre post epost' := by
  intro st hst hp
  have h1 := h st hst hp
  rw [M.mapErr_apply]
  cases hr : m st with
  | ok r => obtain ⟨a, st'⟩ := r; rw [hr] at h1; exact h1
  | err e => rw [hr] at h1; exact hg e h1
  | panic w => rw [hr] at h1; exact h1

theorem addPosition {m : M α} {p : J5V.Bcl.Span} {pre : Node → Prop} {post : α → Node → Node → Prop}
    {epost epost' : WErr → Prop}
    (h : MSpec env m pre post epost) (hg : ∀ e, epost e → epost' (e.addPosition p)) :
    MSpec env (m.addPosition p) pre post epost' :=
  MSpec.mapErr h hg

/-- `getNode` at an address known to be valid -/
theorem getNode {a : Addr} {pre : Node → Prop} {post : Node → Node → Node → Prop} {epost : WErr → Prop}
    (h : ∀ st, TreeOK env st → pre st → ∃ n, st.get? a = some n ∧ post n st st) :
    MSpec env (J5V.Walker.getNode a) pre post epost := by
  intro st hst hp
  obtain ⟨n, hn, hq⟩ := h st hst hp
  rw [getNode_apply, hn]
  exact ⟨hst, Ext.refl env st, hq⟩

/-- `setNode` of a value of the slot's type that extends the old node -/
theorem setNode {a : Addr} {v : Node} {pre : Node → Prop} {post : Unit → Node → Node → Prop}
    {epost : WErr → Prop}
    (h : ∀ st, TreeOK env st → pre st → ∃ t old, env.typeAt a = some t ∧ st.get? a = some old ∧
      VOK env t true v ∧ ExtFrom env t old v ∧ post () st (st.set a v)) :
    MSpec env (J5V.Walker.setNode a v) pre post epost := by
  intro st hst hp
  obtain ⟨t, old, ht, hold, hv, hext, hq⟩ := h st hst hp
  exact ⟨hst.set ht hv, Ext.set hold ht hext, hq⟩

/-- a state-independent fact that follows from the precondition may be used to verify `m` -/
theorem of_pre {m : M α} {P : Prop} {pre : Node → Prop} {post : α → Node → Node → Prop} {epost}
    (h1 : ∀ st, TreeOK env st → pre st → P) (h2 : P → MSpec env m pre post epost) :
    MSpec env m pre post epost :=
  fun st hst hp => h2 (h1 st hst hp) st hst hp

theorem ite {c : Prop} [Decidable c] {m1 m2 : M α} {pre : Node → Prop}
    {post : α → Node → Node → Prop} {epost}
    (h1 : c → MSpec env m1 pre post epost) (h2 : ¬ c → MSpec env m2 pre post epost) :
    MSpec env (if c then m1 else m2) pre post epost := by
  split
  · exact h1 ‹_›
  · exact h2 ‹_›

end MSpec

theorem MSpec.posIn {env : Env} {α : Type} {m : M α} {pre : Node → Prop} {post : α → Node → Node → Prop}
    (h : MSpec env m pre post NoPos) (S : J5V.Bcl.Span → Prop) : MSpec env m pre post (PosIn S) :=
  h.weaken_err (fun _ he => he.posIn S)

end J5V.Walker
