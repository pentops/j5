import J5V.Walker.WalkAttr
import J5V.Go.ListLemmas
/-!
# `Walk.lean` verified: tags, qualifiers, statements, `walkSchema`

The scope invariant is `ScopeOK` + `root.isSome` (`setDescription` dereferences the root). Below a statement
errors satisfy `PosIn S`; `doStatement` adds the statement span: `HasPosIn S`.

`S : Span → Prop` is any set of spans with `S Span.zero` (the span of the synthetic `true` of a `!` / `?`
mark); `StmtInS S s` says that every span the walker can take from the statement is in `S`:

* node spans (statement, key / type idents, tags and qualifiers with their reference idents, values incl.
  array elements, descriptions);
* the POINT spans `walkTags` builds: at the end of the type reference and at the end of every tag;
* the HULLS `⟨first.span.start, last.span.end_⟩` of every non-empty sublist of the tags (`finishTags`: a
  suffix), of the qualifiers (`walkQualifiers`: a suffix) and of the elements of every array value
  (`setContainerFromScalar`: `ValueInS`, `WalkAttr.lean`);

and that every block type reference has an ident (without that `walkSchema` panics: `WalkMain.lean`).
Result: `walkSchema_specS`. Two instances: `S := SpanOrd` (`WalkMain.lean`), and `S := SpanOf P`, the spans
between two positions of a set `P : Pos → Prop` with `P ⟨0, 0⟩`, which is closed under hulls, so that
`StmtIn P s` (node spans only) is enough: `walkSchema_spec`.
-/
namespace J5V.Walker
open J5V.Bcl

theorem SpanOf.hull {P : Pos → Prop} (a b : Span) (ha : SpanOf P a) (hb : SpanOf P b) :
    SpanOf P ⟨a.start, b.end_⟩ := ⟨ha.1, hb.2⟩

theorem SpanOf.point {P : Pos → Prop} {p : Pos} (h : P p) : SpanOf P (pointSpan p) := ⟨h, h⟩

theorem SpanOf.zero {P : Pos → Prop} (h : P ⟨0, 0⟩) : SpanOf P Span.zero := ⟨h, h⟩

theorem HullsIn.tail {S : Span → Prop} {x : Span} {l : List Span} (h : HullsIn S (x :: l)) : HullsIn S l :=
  HullsIn.sublist h (List.sublist_cons_self x l)

theorem hullsIn_nil (S : Span → Prop) : HullsIn S [] := by
  intro l' hs first last hf _
  rw [List.sublist_nil.mp hs] at hf; cases hf

variable {env : Env}

section
-- `hz`: for the synthetic `true` that `checkBang` assigns for a `!` / `?` mark, whose span is the zero span
variable (hwf : env.WF = true) (S : Span → Prop) (hz : S Span.zero)
include hwf hz

omit hz in
theorem setAttrS (sc : Scope) (path : PathSpec) (ref : List Ident) (val : AV) (app : Bool)
    (hv : AVInS S val) (hS : ∀ i, i ∈ ref → S i.span) :
    MSpec env (setAttribute env (fuelOf env) sc path ref val app)
      (fun st => ScopeOK env st sc) (fun _ _ st' => ScopeOK env st' sc) (PosIn S) := by
  obtain ⟨n, hn⟩ := fuelOf_ge env
  rw [hn]
  exact ((setAttribute_specS hwf S (n + 1) sc path ref val app hv hS).inv (ScopeOK.stable sc)).post
    (fun _ _ h => h.2)

omit hz in
theorem setDescription_specS (sc : Scope) (d : AV) (hroot : sc.root.isSome = true)
    (hv : AVInS S d) :
    MSpec env (setDescription env sc d) (fun st => ScopeOK env st sc)
      (fun _ _ st' => ScopeOK env st' sc) (PosIn S) := by
  unfold setDescription
  cases hr : sc.root with
  | none => rw [hr] at hroot; cases hroot
  | some root =>
    simp only
    cases root.spec.description with
    | none => exact MSpec.throw ((NoPos_mk0 _ _).posIn _)
    | some descSpec => exact setAttrS hwf S sc _ _ d false hv (fun _ h => by cases h)

theorem checkBang_specS (sc : Scope) (tagSpec : Tag) (gotTag : TagValue) (ht : TagInS S gotTag) :
    MSpec env (checkBang env sc tagSpec gotTag) (fun st => ScopeOK env st sc)
      (fun _ _ st' => ScopeOK env st' sc) (PosIn S) := by
  unfold checkBang
  cases gotTag.mark with
  | none => exact MSpec.pure (fun _ _ h => h)
  | bang =>
    simp only
    cases tagSpec.bangFieldName with
    | none => exact MSpec.errAt (HasPosIn.mk ht.1 _ _).posIn
    | some f => exact setAttrS hwf S sc _ _ _ false (show AVInS S (.bool true) from hz) (fun _ h => by cases h)
  | question =>
    simp only
    cases tagSpec.questionFieldName with
    | none => exact MSpec.errAt (HasPosIn.mk ht.1 _ _).posIn
    | some f => exact setAttrS hwf S sc _ _ _ false (show AVInS S (.bool true) from hz) (fun _ h => by cases h)

theorem applyNameTag_specS (sc : Scope) (tagSpec : Tag) (gotTag : TagValue) (ht : TagInS S gotTag) :
    MSpec env (applyNameTag env sc tagSpec gotTag) (fun st => ScopeOK env st sc)
      (fun _ _ st' => ScopeOK env st' sc) (PosIn S) := by
  unfold applyNameTag
  exact MSpec.seq (checkBang_specS hwf S hz sc tagSpec gotTag ht) fun _ =>
    setAttrS hwf S sc _ _ (.tag gotTag) false (show AVInS S (.tag gotTag) from ht.1) (fun _ h => by cases h)

omit hz in
theorem buildScope_keepS (sc : Scope) (schemaPath : PathSpec) (userPath : List Ident)
    (hS : ∀ i, i ∈ userPath → S i.span) :
    MSpec env (buildScope env sc schemaPath userPath .keepScope) (fun st => ScopeOK env st sc)
      (fun res _ st' => ScopeOK env st' res ∧ res.root = sc.root) (PosIn S) :=
  (buildScope_spec hwf S sc schemaPath userPath .keepScope hS).post (fun _ _ h => ⟨h.1, h.2.1 rfl⟩)

theorem selectType_specS (sc : Scope) (tagSpec : Tag) (gotTag : TagValue) (ht : TagInS S gotTag) :
    MSpec env (selectType env sc tagSpec gotTag) (fun st => ScopeOK env st sc)
      (fun res _ st' => ScopeOK env st' res ∧ res.root = sc.root) (PosIn S) := by
  unfold selectType
  cases href : gotTag.reference with
  | none => exact MSpec.throw ((NoPos_mk0 _ _).posIn _)
  | some ref =>
    apply MSpec.seq (buildScope_keepS hwf S sc _ ref.idents (ht.2.2 ref href))
    intro typeScope
    apply MSpec.fact; intro hroot
    apply MSpec.seq (checkBang_specS hwf S hz typeScope tagSpec gotTag ht)
    intro _
    exact MSpec.pure (fun _ _ h => ⟨h, hroot⟩)

omit hz in
/-- `finishTags` on a list of tags whose sublist hulls are in `S` -/
theorem finishTags_specS (sc : Scope) (spec : BlockSpec) (items : List TagValue)
    (hi : ∀ t, t ∈ items → TagInS S t) (hh : HullsIn S (items.map (·.span))) :
    MSpec env (finishTags env sc spec items) (fun st => ScopeOK env st sc)
      (fun res _ st' => ScopeOK env st' res.1 ∧ res.1.root = sc.root) (PosIn S) := by
  unfold finishTags
  cases items with
  | nil => exact MSpec.pure (fun _ _ h => ⟨h, rfl⟩)
  | cons first rest =>
    simp only
    cases hfind : (first :: rest).find? (fun t => t.mark != .none) with
    | some tag =>
      exact MSpec.errAt (HasPosIn.mk (hi tag (List.mem_of_find?_eq_some hfind)).1 _ _).posIn
    | none =>
      simp only
      cases spec.scalarSplit with
      | some _ =>
        simp only
        apply MSpec.ite
        · intro _; exact MSpec.throw ((NoPos_mk0 _ _).posIn _)
        · intro _
          obtain ⟨n, hn⟩ := fuelOf_ge env
          rw [hn]
          apply MSpec.seq ((setContainerFromScalar_specS hwf S n sc spec (.tag first)
            (show AVInS S (.tag first) from (hi first List.mem_cons_self).1)).inv (ScopeOK.stable sc))
          intro _
          exact MSpec.pure (fun _ _ h => ⟨h.2, rfl⟩)
      | none =>
        simp only
        obtain ⟨last, hl, hS⟩ := hh.cons_hull (f := TagValue.span) (List.Sublist.refl _)
        rw [hl]
        exact MSpec.errAt (HasPosIn.mk hS _ _).posIn

/-- by `induct2`: with a name tag AND a type select in the spec one step of `walkTags` consumes two tags -/
theorem walkTags_specS (tags : List TagValue) (lastPosition : Pos) (sc : Scope) (spec : BlockSpec)
    (hp : S (pointSpan lastPosition)) (ht : ∀ t, t ∈ tags → TagInS S t)
    (hh : HullsIn S (tags.map (·.span))) :
    MSpec env (walkTags env tags lastPosition sc spec) (fun st => ScopeOK env st sc)
      (fun res _ st' => ScopeOK env st' res.1 ∧ res.1.root = sc.root) (PosIn S) := by
  induction tags using J5V.Go.induct2 generalizing lastPosition sc spec with
  | nil =>
    rw [walkTags]
    cases spec.name with
    | some nameSpec =>
      simp only
      apply MSpec.ite
      · intro _; exact MSpec.pure (fun _ _ h => ⟨h, rfl⟩)
      · intro _; exact MSpec.errAt (HasPosIn.mk hp _ _).posIn
    | none =>
      simp only
      cases spec.typeSelect with
      | some _ => exact MSpec.errAt (HasPosIn.mk hp _ _).posIn
      | none => exact finishTags_specS hwf S sc spec [] (fun _ h => by cases h) (hullsIn_nil S)
  | cons gotTag rest ih ih2 =>
    have hgot := ht gotTag List.mem_cons_self
    have hrest : ∀ t, t ∈ rest → TagInS S t := fun t h => ht t (List.mem_cons_of_mem _ h)
    have hhrest : HullsIn S (rest.map (·.span)) := HullsIn.tail hh
    rw [walkTags]
    cases spec.name with
    | some nameSpec =>
      simp only
      apply MSpec.seq (applyNameTag_specS hwf S hz sc nameSpec gotTag hgot)
      intro _
      cases spec.typeSelect with
      | none => exact finishTags_specS hwf S sc spec rest hrest hhrest
      | some typeSpec =>
        simp only
        cases rest with
        | nil => exact MSpec.errAt (HasPosIn.mk hgot.2.1 _ _).posIn
        | cons typeTag rest2 =>
          simp only
          have htt := hrest typeTag List.mem_cons_self
          apply MSpec.seq (selectType_specS hwf S hz sc typeSpec typeTag htt)
          intro typeScope
          apply MSpec.fact; intro hroot
          exact (ih2 typeTag rest2 rfl typeTag.span.end_ typeScope _ htt.2.1
            (fun t h => hrest t (List.mem_cons_of_mem _ h)) (HullsIn.tail hhrest)).post
            (fun _ _ h => ⟨h.1, h.2.trans hroot⟩)
    | none =>
      simp only
      cases spec.typeSelect with
      | none => exact finishTags_specS hwf S sc spec (gotTag :: rest) ht hh
      | some typeSpec =>
        simp only
        apply MSpec.seq (selectType_specS hwf S hz sc typeSpec gotTag hgot)
        intro typeScope
        apply MSpec.fact; intro hroot
        exact (ih gotTag.span.end_ typeScope _ hgot.2.1 hrest hhrest).post
          (fun _ _ h => ⟨h.1, h.2.trans hroot⟩)

theorem walkQualifiers_specS : ∀ (quals : List TagValue) (sc : Scope) (spec : BlockSpec),
    (∀ t, t ∈ quals → TagInS S t) → HullsIn S (quals.map (·.span)) →
    MSpec env (walkQualifiers env quals sc spec) (fun st => ScopeOK env st sc)
      (fun res _ st' => ScopeOK env st' res.1 ∧ res.1.root = sc.root) (PosIn S) := by
  intro quals
  induction quals with
  | nil => intro sc spec _ _; exact MSpec.pure (fun _ _ h => ⟨h, rfl⟩)
  | cons qualifier rest ih =>
    intro sc spec ht hh
    have hq := ht qualifier List.mem_cons_self
    have hrest : ∀ t, t ∈ rest → TagInS S t := fun t h => ht t (List.mem_cons_of_mem _ h)
    have hhrest : HullsIn S (rest.map (·.span)) := HullsIn.tail hh
    rw [walkQualifiers]
    cases spec.qualifier with
    | none => exact MSpec.errAt (HasPosIn.mk hq.1 _ _).posIn
    | some tagSpec =>
      simp only
      apply MSpec.ite
      · intro _
        apply MSpec.seq (checkBang_specS hwf S hz sc tagSpec qualifier hq)
        intro _
        apply MSpec.seq (setAttrS hwf S sc _ _ (.tag qualifier) false (show AVInS S (.tag qualifier) from hq.1)
          (fun _ h => by cases h))
        · intro _
          apply MSpec.ite
          · intro _; exact MSpec.pure (fun _ _ h => ⟨h, rfl⟩)
          · intro hne
            cases rest with
            | nil => simp at hne
            | cons first rest2 =>
              obtain ⟨last, hlast, hS⟩ := hhrest.cons_hull (f := TagValue.span) (List.Sublist.refl _)
              simp only [List.head?_cons, hlast]
              exact MSpec.errAt (HasPosIn.mk hS _ _).posIn
      · intro _
        cases href : qualifier.reference with
        | none => exact MSpec.throw ((NoPos_mk0 _ _).posIn _)
        | some ref =>
          simp only
          apply MSpec.seq (buildScope_keepS hwf S sc _ ref.idents (hq.2.2 ref href))
          intro newScope
          apply MSpec.fact; intro hroot
          apply MSpec.seq (checkBang_specS hwf S hz newScope tagSpec qualifier hq)
          intro _
          exact (ih newScope _ hrest hhrest).post (fun _ _ h => ⟨h.1, h.2.trans hroot⟩)

omit hz in
theorem doAssign_specS (sc : Scope) (a : Assignment) (hk : ∀ i, i ∈ a.key.idents → S i.span)
    (hv : ValueInS S a.value) :
    MSpec env (doAssign env sc a) (fun st => ScopeOK env st sc)
      (fun _ _ st' => ScopeOK env st' sc) (PosIn S) :=
  setAttrS hwf S sc [] a.key.idents (.value a.value) a.append hv hk

omit hz in
theorem doDescription_specS (sc : Scope) (d : Description) (hroot : sc.root.isSome = true)
    (hd : S d.span) :
    MSpec env (doDescription env sc d) (fun st => ScopeOK env st sc)
      (fun _ _ st' => ScopeOK env st' sc) (HasPosIn S) :=
  MSpec.addPosition (setDescription_specS hwf S sc _ hroot (show AVInS S (.str _ d.span) from hd))
    (fun _ h => h.addPosition hd)

omit hz in
theorem doBlockDescription_specS (sc : Scope) (rootBlockSpec : BlockSpec) (h : BlockHeader)
    (hh : HeaderInS S h) :
    MSpec env (doBlockDescription env sc rootBlockSpec h) (fun st => ScopeOK env st sc)
      (fun _ _ st' => ScopeOK env st' sc) (PosIn S) := by
  unfold doBlockDescription
  cases hd : h.description with
  | none => exact MSpec.pure (fun _ _ h => h)
  | some desc =>
    simp only
    cases rootBlockSpec.description with
    | none => exact MSpec.errAt (HasPosIn.mk (hh.description desc hd) _ _).posIn
    | some f =>
      exact setAttrS hwf S sc _ _ _ false (show AVInS S (.str _ (headerSpan h)) from hh.span)
        (fun _ h => by cases h)

theorem doBlockHead_specS (sc : Scope) (spec : BlockSpec) (h : BlockHeader) (hh : HeaderInS S h) :
    MSpec env (doBlockHead env sc spec h) (fun st => ScopeOK env st sc)
      (fun res _ st' => ScopeOK env st' res ∧ res.root = sc.root) (PosIn S) := by
  unfold doBlockHead
  apply MSpec.seq (walkTags_specS hwf S hz h.tags h.type.span.end_ sc spec hh.typeEnd hh.tags hh.tagsHull)
  rintro ⟨sc1, spec1⟩
  apply MSpec.fact; intro hr1
  apply MSpec.seq (walkQualifiers_specS hwf S hz h.qualifiers sc1 spec1 hh.qualifiers hh.qualifiersHull)
  rintro ⟨sc2, spec2⟩
  apply MSpec.fact; intro hr2
  apply MSpec.seq (doBlockDescription_specS hwf S sc2 spec h hh)
  intro _
  exact MSpec.pure (fun _ _ h => ⟨h, hr2.trans hr1⟩)

theorem doFullBlockHead_specS (sc : Scope) (h : BlockHeader) (hh : HeaderInS S h) :
    MSpec env (doFullBlockHead env sc h) (fun st => ScopeOK env st sc)
      (fun res _ st' => ScopeOK env st' res ∧ res.root.isSome = true) (PosIn S) := by
  unfold doFullBlockHead
  have hne : combinePath [] h.type.idents ≠ [] := by
    simp only [combinePath, List.map_nil, List.nil_append, ne_eq, List.map_eq_nil_iff]
    exact hh.typeNonempty
  apply MSpec.seq ((buildScope_spec hwf S sc [] h.type.idents .resetScope hh.typeIdents).post
    (Q' := fun res st' => ScopeOK env st' res ∧ res.root.isSome = true)
    (fun res _ hp => ⟨hp.1, by rw [hp.2.2 rfl hne]; rfl⟩))
  intro newScope
  apply MSpec.fact; intro hroot
  exact (doBlockHead_specS hwf S hz newScope _ h hh).post (fun _ _ hp => ⟨hp.1, by rw [hp.2]; exact hroot⟩)

omit hwf hz in
/-- `doBody` from the specs of its statements -/
theorem doBody_of_statementsS : ∀ (body : List Statement) (sc : Scope),
    (∀ s, s ∈ body → MSpec env (doStatement env sc s) (fun st => ScopeOK env st sc)
      (fun _ _ st' => ScopeOK env st' sc) (HasPosIn S)) →
    MSpec env (doBody env sc body) (fun st => ScopeOK env st sc)
      (fun _ _ st' => ScopeOK env st' sc) (HasPosIn S) := by
  intro body
  induction body with
  | nil => intro sc _; rw [doBody]; exact MSpec.pure (fun _ _ h => h)
  | cons decl rest ih =>
    intro sc hs
    rw [doBody]
    exact MSpec.seq (hs decl List.mem_cons_self) fun _ => ih sc (fun s h => hs s (List.mem_cons_of_mem _ h))

theorem doStatement_specS (s : Statement) (hs : StmtInS S s) : ∀ (sc : Scope), sc.root.isSome = true →
    MSpec env (doStatement env sc s) (fun st => ScopeOK env st sc)
      (fun _ _ st' => ScopeOK env st' sc) (HasPosIn S) := by
  induction hs with
  | desc d hd =>
    intro sc hroot
    rw [doStatement]
    exact MSpec.addPosition (doDescription_specS hwf S sc d hroot hd) (fun _ h => h.addPosition _)
  | assign a hsp hk hv =>
    intro sc hroot
    rw [doStatement]
    exact MSpec.addPosition (doAssign_specS hwf S sc a hk hv) (fun _ h => h.addPosition hsp)
  | block h body hh _ ih =>
    intro sc hroot
    rw [doStatement]
    apply MSpec.addPosition (epost := PosIn S) _ (fun _ h => h.addPosition hh.span)
    apply MSpec.seq ((doFullBlockHead_specS hwf S hz sc h hh).inv (ScopeOK.stable sc))
    intro bodyScope
    refine (MSpec.fact (pre := fun st => ScopeOK env st bodyScope ∧ ScopeOK env st sc) fun hbroot => ?_).weaken_pre
      (fun _ _ hp => ⟨⟨hp.1.1, hp.2⟩, hp.1.2⟩)
    exact (((doBody_of_statementsS S body bodyScope (fun s hs => ih s hs bodyScope hbroot)).keep
      (ScopeOK.stable sc)).post (fun _ _ hp => hp.2)).weaken_err (fun _ h => h.posIn)

theorem doBody_specS (body : List Statement) (hb : ∀ s, s ∈ body → StmtInS S s) (sc : Scope)
    (hroot : sc.root.isSome = true) :
    MSpec env (doBody env sc body) (fun st => ScopeOK env st sc)
      (fun _ _ st' => ScopeOK env st' sc) (HasPosIn S) :=
  doBody_of_statementsS S body sc (fun s hs => doStatement_specS hwf S hz s (hb s hs) sc hroot)

/-- **the walk, for a set of spans**: from a well-typed message, over statements all of whose walker
spans (node spans, point spans, hulls of runs of tags / qualifiers / array elements) are in `S`, with
`S Span.zero`: no panic; a result is well typed and extends the message; an error of the walk carries a span
of `S`; an error of `newRootSchemaWalker` carries none -/
theorem walkSchema_specS (body : List Statement) (msg : Node) (hb : ∀ s, s ∈ body → StmtInS S s)
    (hmsg : TreeOK env msg) :
    match walkSchema env body msg with
    | .ok tree => TreeOK env tree ∧ Ext env msg tree
    | .err e => HasPosIn S e ∨ (NoPos e ∧ newRootSchemaWalker env = .err e)
    | .panic _ => False := by
  have hn := newRootSchemaWalker_spec env
  unfold walkSchema
  cases hr : newRootSchemaWalker env with
  | panic w => exact hn.ne_panic w hr
  | err e => exact .inr ⟨hn.err_of hr, rfl⟩
  | ok scope =>
    simp only
    obtain ⟨hsc, hroot⟩ := hn.ok_of hr msg hmsg
    have := doBody_specS hwf S hz body hb scope hroot msg hmsg hsc
    cases hd : doBody env scope body msg with
    | ok r =>
      obtain ⟨u, tree⟩ := r
      rw [hd] at this
      exact ⟨this.1, this.2.1⟩
    | err e => rw [hd] at this; exact .inl this
    | panic w => rw [hd] at this; exact this
end

/-! ## The instance `S := SpanOf P` -/

theorem TagIn.tagInS {P : Pos → Prop} {t : TagValue} (h : TagIn P t) : TagInS (SpanOf P) t :=
  ⟨h.1, .point h.1.2, h.2⟩

theorem HeaderIn.headerInS {P : Pos → Prop} {h : BlockHeader} (hh : HeaderIn P h) : HeaderInS (SpanOf P) h where
  typeNonempty := hh.typeNonempty
  typeIdents := hh.typeIdents
  typeEnd := .point hh.typeEnd
  tags := fun t ht => (hh.tags t ht).tagInS
  tagsHull := hullsIn_of_hull SpanOf.hull fun _ ha =>
    let ⟨t, ht, e⟩ := List.mem_map.mp ha; e ▸ (hh.tags t ht).1
  qualifiers := fun t ht => (hh.qualifiers t ht).tagInS
  qualifiersHull := hullsIn_of_hull SpanOf.hull fun _ ha =>
    let ⟨t, ht, e⟩ := List.mem_map.mp ha; e ▸ (hh.qualifiers t ht).1
  description := hh.description
  span := hh.span

theorem StmtIn.stmtInS {P : Pos → Prop} {s : Statement} (h : StmtIn P s) : StmtInS (SpanOf P) s := by
  induction h with
  | desc d h => exact .desc d h
  | assign a h1 h2 h3 => exact .assign a h1 h2 (h3.valueInS SpanOf.hull)
  | block hd body h1 _ ih => exact .block hd body h1.headerInS ih

/-- `walkSchema` from a well-typed message over statements that are `StmtIn P`: no panic; a result is well
typed and extends the message; an error of the walk carries a position between two positions of `P` (the
positions of the statements, and `0:0`); an error of `newRootSchemaWalker` (the spec of the root schema
cannot be built) carries none -/
theorem walkSchema_spec (hwf : env.WF = true) (P : Pos → Prop) (hz : P ⟨0, 0⟩) (body : List Statement)
    (msg : Node) (hb : ∀ s, s ∈ body → StmtIn P s) (hmsg : TreeOK env msg) :
    match walkSchema env body msg with
    | .ok tree => TreeOK env tree ∧ Ext env msg tree
    | .err e => HasPosIn (SpanOf P) e ∨ (NoPos e ∧ newRootSchemaWalker env = .err e)
    | .panic _ => False :=
  walkSchema_specS hwf (SpanOf P) (.zero hz) body msg (fun s hs => (hb s hs).stmtInS) hmsg

end J5V.Walker
