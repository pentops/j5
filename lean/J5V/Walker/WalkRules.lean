import J5V.Walker.ScopeProofs
import J5V.Walker.Walk
/-!
# Rules for the combinators of `Walk.lean` and the first two functions (`walkScope`, `buildScope`)

`MSpec.tryCatch`, `MSpec.errAt`, `wrapErr`; `walkScope_spec` (the `(nil, nil)` arm is dead because a valid
scope has a block) and `buildScope_spec`, as worked examples of the two proof styles: RAW (a function
written as `fun st => match … st with`, verified through `MSpec.ok` / `MSpec.err` / `MSpec.no_panic`) and
RULES (`do` blocks, verified with `MSpec.seq` / `MSpec.ite` / `MSpec.inv` …).

Positions: `S : Span → Prop` is "a span of the input tree"; the functions below a statement raise errors
with `PosIn S` (no position, or one of `S`); `doStatement` adds the statement span (`PosIn.addPosition`:
`HasPosIn S`).
-/
namespace J5V.Walker
open J5V.Bcl

theorem M.tryCatch_apply {α : Type} (m : M α) (h : WErr → M α) (st : Node) :
    m.tryCatch h st = match m st with
      | .ok r => .ok r
      | .err e => h e st
      | .panic w => .panic w := rfl

/-- the handler runs in the INITIAL state (the state of a failed computation is dropped) -/
theorem MSpec.tryCatch {env : Env} {α : Type} {m : M α} {h : WErr → M α} {pre : Node → Prop}
    {post : α → Node → Node → Prop} {e1 e2 : WErr → Prop}
    (hm : MSpec env m pre post e1) (hh : ∀ e, e1 e → MSpec env (h e) pre post e2) :
    MSpec env (m.tryCatch h) pre post e2 := by
  intro st hst hp
  have h1 := hm st hst hp
  rw [M.tryCatch_apply]
  cases hr : m st with
  | ok r => obtain ⟨a, st'⟩ := r; rw [hr] at h1; exact h1
  | err e => rw [hr] at h1; exact hh e h1 st hst hp
  | panic w => rw [hr] at h1; exact h1

@[simp] theorem wrapErr_some {α : Type} (e : WErr) (pos : Span) :
    (wrapErr (some e) pos : Res α) = .err (e.wrapped.addPosition pos) := rfl

/-- `errAt what pos` raises an error AT `pos` -/
theorem MSpec.errAt {env : Env} {α : Type} {what : String} {pos : Span} {pre : Node → Prop}
    {post : α → Node → Node → Prop} {epost : WErr → Prop} (h : epost ⟨some pos, .plain, what⟩) :
    MSpec env (J5V.Walker.errAt what pos : M α) pre post epost :=
  MSpec.throw h

/-- `M.lift (wrapErr (some e) pos)` -/
theorem MSpec.wrapErr {env : Env} {α : Type} {e : WErr} {pos : Span} {pre : Node → Prop}
    {post : α → Node → Node → Prop} {epost : WErr → Prop} (h : epost (e.wrapped.addPosition pos)) :
    MSpec env (M.lift (J5V.Walker.wrapErr (some e) pos) : M α) pre post epost :=
  MSpec.throw h

/-! ## `walkScope` (raw style) -/

/-- `walkScope`: the scope reached is valid; after at least one step it is a one-block scope with a
root; an error has no position or the position of an element of the path -/
theorem walkScope_spec {env : Env} (hwf : env.WF = true) (S : Span → Prop) :
    ∀ (path : List PathElement) (scope : Scope),
      (∀ el, el ∈ path → ∀ p, el.position = some p → S p) →
      MSpec env (walkScope env scope path) (fun st => ScopeOK env st scope)
        (fun sc _ st' => ScopeOK env st' sc ∧ (path = [] → sc = scope) ∧
          (path ≠ [] → sc = Scope.newChild sc.leaf))
        (PosIn S) := by
  intro path
  induction path with
  | nil =>
    intro scope _
    exact MSpec.pure (fun _ _ h => ⟨h, fun _ => rfl, fun h => absurd rfl h⟩)
  | cons ident rest ih =>
    intro scope hS st hst hpre
    have hcb := childBlock_spec hwf scope ident.name
    show (walkScope env scope (ident :: rest) st).Sat _ _
    simp only [walkScope]
    cases hr : childBlock env scope ident.name st with
    | panic w => exact absurd hr (hcb.no_panic hst hpre)
    | ok r =>
      obtain ⟨next, st1⟩ := r
      obtain ⟨ht1, he1, hsc1, hnew, _⟩ := hcb.ok hst hpre hr
      have := ih next (fun el hel => hS el (List.mem_cons_of_mem _ hel)) st1 ht1 hsc1
      refine this.imp ?_ (fun _ h => h)
      rintro sc st' ⟨htree, hext, hsc, hnil, hcons⟩
      refine ⟨htree, he1.trans hext, hsc, fun h => (by cases h), fun _ => ?_⟩
      by_cases hrest : rest = []
      · rw [hnil hrest]; exact hnew
      · exact hcons hrest
    | err werr =>
      have hnp : NoPos werr := hcb.err hst hpre hr
      simp only
      cases hpos : ident.position with
      | none => exact hnp.wrapped.posIn S
      | some pos =>
        simp only
        split
        · rename_i hc
          have := hpre.1
          simp at hc
          exact absurd hc.2 this
        · exact (HasPosIn.mk (hS ident List.mem_cons_self pos hpos) _ _).posIn

/-! ## `buildScope` (rules style) -/

theorem combinePath_positions {S : Span → Prop} {path : PathSpec} {ref : List Ident}
    (h : ∀ i, i ∈ ref → S i.span) :
    ∀ el, el ∈ combinePath path ref → ∀ p, el.position = some p → S p := by
  intro el hel p hp
  simp only [combinePath, List.mem_append, List.mem_map] at hel
  rcases hel with ⟨n, _, rfl⟩ | ⟨i, hi, rfl⟩
  · cases hp
  · simp only [Option.some.injEq] at hp; subst hp; exact h i hi

/-- `BuildScope`: the scope built is valid. (`.resetScope` with an empty path gives `tailScope`, whose
`root` is `none`: the caller of `setDescription` must know the path is not empty.) -/
theorem buildScope_spec {env : Env} (hwf : env.WF = true) (S : Span → Prop) (sc : Scope)
    (schemaPath : PathSpec) (userPath : List Ident) (flag : ScopeFlag)
    (hS : ∀ i, i ∈ userPath → S i.span) :
    MSpec env (buildScope env sc schemaPath userPath flag) (fun st => ScopeOK env st sc)
      (fun res _ st' => ScopeOK env st' res ∧
        (flag = .keepScope → res.root = sc.root) ∧
        (flag = .resetScope → combinePath schemaPath userPath ≠ [] → res = Scope.newChild res.leaf))
      (PosIn S) := by
  unfold buildScope
  simp only
  apply MSpec.ite
  · intro hempty
    have hempty' : combinePath schemaPath userPath = [] := by simpa using hempty
    cases flag with
    | keepScope => exact MSpec.pure (fun _ _ h => ⟨h, fun _ => rfl, fun h => by cases h⟩)
    | resetScope =>
      exact MSpec.pure (fun _ _ h => ⟨h.tailScope, fun h => (by cases h), fun _ hne => absurd hempty' hne⟩)
  · intro hne
    have hne' : combinePath schemaPath userPath ≠ [] := by simpa using hne
    apply MSpec.seq ((walkScope_spec hwf S _ sc (combinePath_positions hS)).inv (ScopeOK.stable sc))
    intro container
    cases flag with
    | resetScope => exact MSpec.pure (fun _ _ h => ⟨h.1.1, nofun, fun _ _ => h.1.2.2 hne'⟩)
    | keepScope => exact MSpec.pure (fun _ _ h => ⟨h.2.mergeScope h.1.1, fun _ => rfl, nofun⟩)

end J5V.Walker
