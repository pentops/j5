import J5V.Walker.Spec
/-!
# Lemmas about the definitions of `Types.lean`, `State.lean`, `Spec.lean` that no invariant enters (core only)

Runs of `M`, `Node.get?` / `Node.set`, lists, lookups by name, the position of an error: what the invariant proofs
and the exact runs of `PP/` both use.
-/
namespace J5V.Walker

theorem M.ite_apply {α : Type} (c : Prop) [Decidable c] (m1 m2 : M α) (st : Node) :
    (if c then m1 else m2) st = if c then m1 st else m2 st := by
  split <;> rfl

@[simp] theorem M.pure_apply {α : Type} (a : α) (st : Node) : (Pure.pure a : M α) st = .ok (a, st) := rfl

theorem M.bind_apply {α β : Type} (m : M α) (f : α → M β) (st : Node) :
    (m >>= f) st = match m st with
      | .ok (a, st1) => f a st1
      | .err e => .err e
      | .panic w => .panic w := rfl

@[simp] theorem M.err_apply {α : Type} (e : WErr) (st : Node) : (M.err e : M α) st = .err e := rfl
@[simp] theorem M.panic_apply {α : Type} (w : String) (st : Node) : (M.panic w : M α) st = .panic w := rfl

@[simp] theorem M.lift_ok {α : Type} (a : α) : M.lift (.ok a) = (Pure.pure a : M α) := rfl
@[simp] theorem M.lift_err {α : Type} (e : WErr) : (M.lift (.err e) : M α) = M.err e := rfl
@[simp] theorem M.lift_panic {α : Type} (w : String) : (M.lift (.panic w) : M α) = M.panic w := rfl

theorem M.mapErr_apply {α : Type} (m : M α) (h : WErr → WErr) (st : Node) :
    m.mapErr h st = match m st with
      | .ok r => .ok r
      | .err e => .err (h e)
      | .panic w => .panic w := rfl

theorem getNode_apply (a : Addr) (st : Node) :
    getNode a st = match st.get? a with
      | some n => .ok (n, st)
      | none => .panic "model: dangling address" := rfl

@[simp] theorem setNode_apply (a : Addr) (n st : Node) : setNode a n st = .ok ((), st.set a n) := rfl

/-! ## `modifyNth`, `Node.get?`, `Node.set` -/

theorem modifyNth_length (f : Node → Node) (l : List Node) (i : Nat) :
    (modifyNth f l i).length = l.length := by
  induction l generalizing i with
  | nil => rfl
  | cons c cs ih => cases i <;> simp [modifyNth, ih]

theorem modifyNth_getElem? (f : Node → Node) (l : List Node) (i j : Nat) :
    (modifyNth f l i)[j]? = if j = i then l[j]?.map f else l[j]? := by
  induction l generalizing i j with
  | nil => simp [modifyNth]
  | cons c cs ih =>
    cases i with
    | zero => cases j <;> simp [modifyNth]
    | succ i => cases j <;> simp [modifyNth, ih]

theorem modifyNth_eq_set (f : Node → Node) (l : List Node) (i : Nat) (c : Node)
    (h : l[i]? = some c) : modifyNth f l i = l.set i (f c) := by
  apply List.ext_getElem?
  intro j
  rw [modifyNth_getElem?, List.getElem?_set]
  by_cases hj : j = i
  · subst hj
    obtain ⟨hlt, heq⟩ := List.getElem?_eq_some_iff.mp h
    simp [hlt, heq]
  · have : ¬ i = j := fun e => hj e.symm
    simp [hj, this]

@[simp] theorem Node.get?_nil (n : Node) : n.get? [] = some n := by
  cases n <;> rfl

theorem Node.get?_cons (n : Node) (i : Nat) (rest : Addr) :
    n.get? (i :: rest) = (n.children[i]?).bind (fun c => c.get? rest) := by
  rw [Node.get?]; cases n.children[i]? <;> rfl

theorem Node.get?_cons_some {n m : Node} {i : Nat} {rest : Addr} :
    n.get? (i :: rest) = some m ↔ ∃ c, n.children[i]? = some c ∧ c.get? rest = some m := by
  rw [Node.get?_cons, Option.bind_eq_some_iff]

theorem Node.get?_append (n : Node) (a b : Addr) :
    n.get? (a ++ b) = (n.get? a).bind (fun m => m.get? b) := by
  induction a generalizing n with
  | nil => simp
  | cons i rest ih =>
    rw [List.cons_append, Node.get?_cons, Node.get?_cons]
    cases n.children[i]? with
    | none => rfl
    | some c => simp [ih]

@[simp] theorem Node.set_nil (n v : Node) : n.set [] v = v := by
  cases n <;> rfl

theorem Node.set_cons (n : Node) (i : Nat) (rest : Addr) (v : Node) :
    n.set (i :: rest) v = n.withChildren (modifyNth (fun c => c.set rest v) n.children i) := by
  cases n <;> simp [Node.set, Node.withChildren, Node.children]

theorem Node.children_withChildren (n : Node) (cs : List Node) :
    (n.withChildren cs).children = match n with
      | .absent => [] | .scalar _ => [] | _ => cs := by
  cases n <;> rfl

theorem Node.children_set_cons (n : Node) (i : Nat) (rest : Addr) (v : Node) :
    (n.set (i :: rest) v).children = modifyNth (fun c => c.set rest v) n.children i := by
  cases n <;> simp [Node.set, Node.children, modifyNth]

/-- reading below the address just written -/
theorem Node.get?_set_append (n : Node) (a b : Addr) (v : Node) (h : (n.get? a).isSome) :
    (n.set a v).get? (a ++ b) = v.get? b := by
  induction a generalizing n with
  | nil => simp
  | cons i rest ih =>
    rw [Node.get?_cons] at h
    rw [List.cons_append, Node.get?_cons, Node.children_set_cons, modifyNth_getElem?]
    cases hc : n.children[i]? with
    | none => simp [hc] at h
    | some c =>
      simp only [hc, Option.bind_some] at h
      simp [ih c h]

theorem Node.get?_set_same (n : Node) (a : Addr) (v : Node) (h : (n.get? a).isSome) :
    (n.set a v).get? a = some v := by
  have := Node.get?_set_append n a [] v h
  simpa using this

theorem Node.get?_snoc (n : Node) (a : Addr) (i : Nat) :
    n.get? (a ++ [i]) = (n.get? a).bind (·.children[i]?) := by
  rw [Node.get?_append]
  cases n.get? a with
  | none => rfl
  | some m => simp only [Option.bind_some, Node.get?_cons]; cases m.children[i]? <;> simp

/-- reading a child of the node just written -/
theorem Node.get?_set_snoc (n : Node) (a : Addr) (i : Nat) (v : Node) (h : (n.get? a).isSome) :
    (n.set a v).get? (a ++ [i]) = v.children[i]? := by
  rw [Node.get?_set_append n a [i] v h, Node.get?_cons]; cases v.children[i]? <;> simp

/-! ## The list bookkeeping of `setContainerFromScalar`, which writes `take` / `drop` under an `if` as the Go code does -/

theorem ite_take {α : Type} (l : List α) (n : Nat) : (if l.length > n then l.take n else l) = l.take n := by
  split
  · rfl
  · exact (List.take_of_length_le (by omega)).symm

theorem ite_drop {α : Type} (l : List α) (n : Nat) : (if l.length > n then l.drop n else []) = l.drop n := by
  split
  · rfl
  · exact (List.drop_of_length_le (by omega)).symm

theorem mem_ite_reverse {α : Type} {c : Prop} [Decidable c] {l : List α} {a : α} :
    a ∈ (if c then l.reverse else l) ↔ a ∈ l := by
  split <;> simp

theorem ite_reverse_eq_nil {α : Type} {c : Prop} [Decidable c] {l : List α} :
    (if c then l.reverse else l) = [] ↔ l = [] := by
  split <;> simp

theorem sublist_ite_reverse {α : Type} {c : Prop} [Decidable c] {l l0 : List α}
    (h : l.Sublist (if c then l0.reverse else l0)) : (if c then l.reverse else l).Sublist l0 := by
  split
  · rename_i hc; rw [if_pos hc] at h
    have := List.reverse_sublist.mpr h
    rwa [List.reverse_reverse] at this
  · rename_i hc; rw [if_neg hc] at h; exact h


theorem getElem?_of_props {α : Type} {s : Schema} {i : Nat} {p : Property} {l : List α}
    (hp : s.props[i]? = some p) (hl : l.length = s.props.length) : ∃ x, l[i]? = some x := by
  have hi : i < l.length := by
    rw [hl]
    rcases Nat.lt_or_ge i s.props.length with h | h
    · exact h
    · rw [List.getElem?_eq_none h] at hp; cases hp
  exact ⟨l[i], List.getElem?_eq_getElem hi⟩



theorem findSchema_mem {name : Str} {l : List Schema} {s : Schema} (h : findSchema name l = some s) :
    s ∈ l ∧ s.name = name := by
  induction l with
  | nil => cases h
  | cons x rest ih =>
    simp only [findSchema] at h
    split at h
    · cases h; exact ⟨List.mem_cons_self, ‹_›⟩
    · exact ⟨List.mem_cons_of_mem _ (ih h).1, (ih h).2⟩

theorem schemaOf_name (env : Env) (r : Str) : (env.schemaOf r).name = r := by
  unfold Env.schemaOf
  cases h : findSchema r env.schemas with
  | none => rfl
  | some s => exact (findSchema_mem h).2

/-- a schema `schemaOf` returns with at least one property is in the table -/
theorem schemaOf_mem {env : Env} {r : Str} {i : Nat} {p : Property}
    (hp : (env.schemaOf r).props[i]? = some p) : env.schemaOf r ∈ env.schemas := by
  unfold Env.schemaOf at hp ⊢
  cases h : findSchema r env.schemas with
  | none => simp [h] at hp
  | some s => exact (findSchema_mem h).1

theorem findGiven_mem {name : Str} {l : List GivenBlock} {spec : BlockSpec}
    (h : findGiven name l = some spec) : ∃ g, g ∈ l ∧ g.schemaName = name ∧ g.spec = spec := by
  induction l with
  | nil => cases h
  | cons g rest ih =>
    simp only [findGiven] at h
    cases hr : findGiven name rest with
    | some s' =>
      simp only [hr, Option.some.injEq] at h
      subst h
      obtain ⟨g', hg', h1, h2⟩ := ih hr
      exact ⟨g', List.mem_cons_of_mem _ hg', h1, h2⟩
    | none =>
      simp only [hr] at h
      split at h
      · rename_i hn
        cases h
        exact ⟨g, List.mem_cons_self, hn, rfl⟩
      · cases h

theorem findProp_some {name : Str} {k : Nat} {ps : List Property} {i : Nat} {p : Property}
    (h : findProp name k ps = some (i, p)) : k ≤ i ∧ ps[i - k]? = some p ∧ p.name = name := by
  induction ps generalizing k with
  | nil => cases h
  | cons q rest ih =>
    rw [findProp] at h
    by_cases hq : q.name = name
    · rw [if_pos hq] at h; cases h; exact ⟨Nat.le_refl _, by rw [Nat.sub_self]; rfl, hq⟩
    · rw [if_neg hq] at h
      obtain ⟨h1, h2, h3⟩ := ih h
      refine ⟨by omega, ?_, h3⟩
      rw [show i - k = (i - (k + 1)) + 1 by omega]; exact h2

theorem findProp_zero {name : Str} {ps : List Property} {i : Nat} {p : Property}
    (h : findProp name 0 ps = some (i, p)) : ps[i]? = some p ∧ p.name = name := by
  have := findProp_some h
  simpa using this.2

theorem findKey_some {k : Str} {n : Nat} {keys : List Str} {j : Nat} (h : findKey k n keys = some j) :
    j < n + keys.length ∧ n ≤ j := by
  induction keys generalizing n with
  | nil => cases h
  | cons k' rest ih =>
    simp only [findKey] at h
    split at h
    · cases h; simp
    · have := ih h
      simp only [List.length_cons]; omega

/-- the spec depends on the kind of the container only, not on where it sits -/
theorem specOf_addr (env : Env) (a a' : Addr) (k : ContKind) : specOf env ⟨a, k⟩ = specOf env ⟨a', k⟩ := rfl

theorem resolveRef_ok {env : Env} {w : Bool} {r : Str} {s : Schema} (h : resolveRef env w r = .ok s) :
    s = env.schemaOf r := by
  by_cases hh : (env.schemaOf r).isOneof = w
  · simp [resolveRef, hh] at h; exact h.symm
  · simp [resolveRef, hh] at h

theorem resolveRef_eq_ok {env : Env} {w : Bool} {r : Str} (h : (env.schemaOf r).isOneof = w) :
    resolveRef env w r = .ok (env.schemaOf r) := by
  simp [resolveRef, h]

/-- the error carries no position (as every error raised in `State.lean`, `Spec.lean`, `Scope.lean`, `Literal.lean`
does: the `*_spec` lemmas of those layers conclude it) -/
def NoPos (e : WErr) : Prop := e.pos = none

@[simp] theorem NoPos_mk0 (what : String) (kind : ErrKind) : NoPos (.mk0 what kind) := rfl

theorem NoPos.withKind {e : WErr} (h : NoPos e) (k : ErrKind) : NoPos { e with kind := k } := h

theorem NoPos.wrapped {e : WErr} (h : NoPos e) : NoPos e.wrapped := h

/-- after `addPosition p`, an error without position sits at `p` -/
theorem NoPos.addPosition {e : WErr} (h : NoPos e) (p : J5V.Bcl.Span) : (e.addPosition p).pos = some p := by
  unfold NoPos at h
  simp [WErr.addPosition, h]

/-- if the error carries a position, it is one of `S` (the spans of the input tree) -/
def PosIn (S : J5V.Bcl.Span → Prop) (e : WErr) : Prop := ∀ p, e.pos = some p → S p

def HasPosIn (S : J5V.Bcl.Span → Prop) (e : WErr) : Prop := ∃ p, e.pos = some p ∧ S p

theorem NoPos.posIn {e : WErr} (h : NoPos e) (S : J5V.Bcl.Span → Prop) : PosIn S e := by
  intro p hp; unfold NoPos at h; rw [h] at hp; cases hp

theorem HasPosIn.posIn {S : J5V.Bcl.Span → Prop} {e : WErr} (h : HasPosIn S e) : PosIn S e := by
  obtain ⟨p, hp, hs⟩ := h
  intro q hq; rw [hp] at hq; cases hq; exact hs

theorem PosIn.wrapped {S : J5V.Bcl.Span → Prop} {e : WErr} (h : PosIn S e) : PosIn S e.wrapped := h

theorem PosIn.withKind {S : J5V.Bcl.Span → Prop} {e : WErr} (h : PosIn S e) (k : ErrKind) :
    PosIn S { e with kind := k } := h

/-- `addPosition p` with `p` of `S` turns "maybe a position of `S`" into "a position of `S`" -/
theorem PosIn.addPosition {S : J5V.Bcl.Span → Prop} {e : WErr} (h : PosIn S e) {p : J5V.Bcl.Span}
    (hp : S p) : HasPosIn S (e.addPosition p) := by
  unfold WErr.addPosition
  cases he : e.pos with
  | none => exact ⟨p, rfl, hp⟩
  | some q => exact ⟨q, he, h q he⟩

theorem HasPosIn.addPosition {S : J5V.Bcl.Span → Prop} {e : WErr} (h : HasPosIn S e) (p : J5V.Bcl.Span) :
    HasPosIn S (e.addPosition p) := by
  obtain ⟨q, hq, hs⟩ := h
  unfold WErr.addPosition
  simp only [hq]
  exact ⟨q, hq, hs⟩

theorem HasPosIn.wrapped {S : J5V.Bcl.Span → Prop} {e : WErr} (h : HasPosIn S e) : HasPosIn S e.wrapped := h

theorem PosIn.mono {S T : J5V.Bcl.Span → Prop} {e : WErr} (h : PosIn S e) (hst : ∀ p, S p → T p) :
    PosIn T e := fun p hp => hst p (h p hp)

theorem HasPosIn.mono {S T : J5V.Bcl.Span → Prop} {e : WErr} (h : HasPosIn S e) (hst : ∀ p, S p → T p) :
    HasPosIn T e := by
  obtain ⟨p, hp, hs⟩ := h; exact ⟨p, hp, hst p hs⟩

theorem WErr.addPosition_pos (e : WErr) (p : J5V.Bcl.Span) :
    (e.addPosition p).pos = some p ∨ ((e.addPosition p).pos = e.pos ∧ e.pos ≠ none) := by
  unfold WErr.addPosition
  cases h : e.pos with
  | none => simp
  | some q => simp [h]

/-- an error at a position of `S` -/
theorem HasPosIn.mk {S : J5V.Bcl.Span → Prop} {pos : J5V.Bcl.Span} (h : S pos) (k : ErrKind) (what : String) :
    HasPosIn S ⟨some pos, k, what⟩ := ⟨pos, rfl, h⟩

end J5V.Walker
