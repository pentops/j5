import J5V.Walker.Scope
import J5V.Walker.Literal
/-!
# Package `walker`: `walk_context.go` + `c2.go` (core only) — walker-semantics §7

Function by function after the Go code. What differs in FORM, not in behaviour:

* **Contexts.** A `walkContext` is `{scope, path, depth, blockLocation, verbose}`; `path`, `depth`,
  `verbose` only feed logging / message text and `blockLocation` is always the zero position
  (`SetLocation` is never called), so a context IS its `Scope`. `WithScope(newScope, fn)` runs `fn`
  with `(child context, newScope.leaf.spec)`: here the caller continues in `newScope` with
  `withScopeSpec newScope`. `run` wraps a new error into `scopedError{&errpos.Err{Err: err}}`; its
  `Unwrap` gives that `*Err`, so for the position rule (`WErr.addPosition`) `run`, `newSchemaError`
  and the `fmt.Errorf("…: %w")` wrappers are the identity (semantics §3).
* **Callbacks.** `walkTags(sc, spec, tags, k)` and `walkQualifiers(sc, spec, quals, k)` end with
  `k(sc', spec')` in the innermost child context. They have ONE call site each (`doBlock`) with a fixed
  `k`, so the model's `walkTags` / `walkQualifiers` RETURN `(sc', spec')` and `doBlock` goes on with
  it (qualifiers, header description, body). Errors raised in `k` pass through more `run`s in Go —
  the identity, see above.
* **Recursion.** `doBody` / `doStatement` (with `doFullBlockHead` / `doBlockHead`, the parts of Go's
  `doFullBlock` / `doBlock` before the body) are structural over the statement tree, `walkTags` / `walkQualifiers` over the tag list (the `popSet` is the remaining list + the last
  position), `walkScope` over the path. The recursion `setAttribute → setContainerFromScalar →
  SetAttribute → …` follows the SPEC: it takes fuel (`.panic "fuel"`); each level enters a container
  whose spec has a scalar split and sets the split paths inside it. For `j5Env` it stops after one
  level: the split paths of `Ref` / `EntityRef` (`schema`, `entity`, `package`) are string properties.
  `fuelOf env` is generous. A cyclic spec makes the Go code recurse until the stack overflows.

Partial operations of Go, as explicit arms here: `WrapErr` with a nil error; `walkScope` returning
`(nil, nil)` when the scope has no blocks (every caller dereferences the nil scope at once:
`WithScope` → `newScope.CurrentBlock()`, `MergeScope` → `other.blockSet`, `Field` → `sw.blockSet`);
`SetDescription` on a nil `rootBlock`; `fullPath[len-1]`; `gotTags.items[len-1]`;
`gotQualifiers.items[0]` / `items[len-1]`;
`remaining[0]` / `remaining[len-1]`; `ss.Required[idx]` / `ss.Optional[idx]`.
-/
namespace J5V.Walker
open J5V.Bcl

namespace M
/-- handle the error of `m` -/
def tryCatch {α} (m : M α) (h : WErr → M α) : M α := fun st =>
  match m st with
  | .ok r => .ok r
  | .err e => h e st
  | .panic w => .panic w
end M

/-- `walkContext.WrapErr(err, pos)`: `AddContext` (creates the `*errpos.Err` if there is none) then
`AddPosition` -/
def wrapErr {α} (err : Option WErr) (pos : Span) : Res α :=
  match err with
  | none => .panic "WrapErr called with nil error"
  | some e => .err (e.wrapped.addPosition pos)

/-- `sc.WrapErr(fmt.Errorf(what), pos)` / `errpos.AddPosition(fmt.Errorf(what), pos)` -/
def errAt {α} (what : String) (pos : Span) : M α := M.lift (wrapErr (some (.mk0 what)) pos)

/-- `pathElement`: `position = none` for an element supplied by the spec -/
structure PathElement where
  name : Str
  position : Option Span
  deriving Repr, Inhabited

/-- `combinePath(path, ref)` -/
def combinePath (path : PathSpec) (ref : List Ident) : List PathElement :=
  path.map (fun n => ⟨n, none⟩) ++ ref.map (fun i => ⟨encodeRunes i.value, some i.span⟩)

/-- `walkScope(scope, path, loc)` -/
def walkScope (env : Env) : Scope → List PathElement → M Scope
  | scope, [] => pure scope
  | scope, ident :: rest => fun st =>
    match childBlock env scope ident.name st with
    | .ok (next, st1) => walkScope env next rest st1
    | .panic w => .panic w
    | .err werr =>
      match ident.position with
      | none => .err werr.wrapped                         -- newSchemaError(werr)
      | some pos =>
        -- `switch werr.Type`: a fresh `fmt.Errorf` per case; RootNotFound with `len(blocks) == 0`
        -- leaves `err` nil, `AddPosition(nil)` is nil, and `(nil, nil)` is returned
        if werr.kind = .rootNotFound ∧ scope.blockSet.isEmpty then
          .panic "nil pointer dereference: walkScope returned (nil, nil)"
        else .err ⟨some pos, .plain, werr.what⟩

inductive ScopeFlag where
  | resetScope | keepScope
  deriving Repr, DecidableEq

/-- `walkContext.BuildScope(schemaPath, userPath, flag)` (Go's `default:` arm needs a third flag
value, which does not exist) -/
def buildScope (env : Env) (sc : Scope) (schemaPath : PathSpec) (userPath : List Ident)
    (flag : ScopeFlag) : M Scope :=
  let fullPath := combinePath schemaPath userPath
  if fullPath.isEmpty then
    match flag with
    | .keepScope => pure sc
    | .resetScope => pure sc.tailScope
  else do
    let container ← walkScope env sc fullPath
    match flag with
    | .resetScope => pure container
    | .keepScope => pure (sc.mergeScope container)

/-- `WithScope(newScope, fn)`: the spec `fn` receives (`lastBlock.Spec()`) -/
def withScopeSpec (newScope : Scope) : BlockSpec := newScope.leaf.spec

/-! ## strings.Split / strings.Join -/

/-- `genSplit(s, sep, 0, -1)` for `sep ≠ ""`: leftmost non-overlapping matches. `skip` = bytes of a
matched separator still to drop, `cur` = the part being collected (reversed). -/
def splitSepAux (sep : Str) : Str → Nat → Str → List Str
  | [], _, cur => [cur.reverse]
  | _ :: rest, skip + 1, cur => splitSepAux sep rest skip cur
  | c :: rest, 0, cur =>
    if sep.isPrefixOf (c :: rest) then cur.reverse :: splitSepAux sep rest (sep.length - 1) []
    else splitSepAux sep rest 0 (c :: cur)

/-- `explode(s, -1)` (empty separator): one part per UTF-8 sequence, an invalid byte alone -/
def explodeAux : Str → Nat → Str → List Str
  | [], _, cur => if cur.isEmpty then [] else [cur.reverse]
  | c :: rest, skip + 1, cur => explodeAux rest skip (c :: cur)
  | c :: rest, 0, cur =>
    let size := (decodeOne (c :: rest)).2
    (if cur.isEmpty then [] else [cur.reverse]) ++ explodeAux rest (size - 1) [c]

/-- `strings.Split(s, sep)` -/
def stringsSplit (s sep : Str) : List Str :=
  if sep.isEmpty then explodeAux s 0 [] else splitSepAux sep s 0 []

/-- `strings.Join(parts, sep)` -/
def stringsJoin (sep : Str) : List Str → Str
  | [] => []
  | [a] => a
  | a :: b :: rest => a ++ sep ++ stringsJoin sep (b :: rest)

/-! ## walk_context.go -/

/-- the loop `for _, val := range vals { fieldArray.AppendASTValue(val) }` of `setAttribute`; a
failing element is reported at the ELEMENT's span -/
def appendValues (env : Env) (arr : Addr) (item : FieldType) : List AV → M Unit
  | [] => pure ()
  | v :: rest =>
    match scalarFromAST env item v with
    | .ok s => do
      appendScalar arr s
      appendValues env arr item rest
    | .err e => M.lift (wrapErr (some e) v.span)
    | .panic w => M.panic w

/-- `for idx, val := range vals { sc.SetAttribute(paths[idx], nil, val) }` -/
def forEach2 (f : PathSpec → AV → M Unit) : List PathSpec → List AV → M Unit
  | _, [] => pure ()
  | [], _ :: _ => M.panic "index out of range (ss.Required[idx] / ss.Optional[idx])"
  | p :: ps, v :: vs => do
    f p v
    forEach2 f ps vs

/-- `remainingStr[idx], err = val.AsString()`; an error is wrapped at that value's span -/
def allAsString : List AV → M (List Str)
  | [] => pure []
  | v :: rest =>
    match v.asString with
    | none => errAt "literal-type.string (remainder)" v.span
    | some s => do
      let ss ← allAsString rest
      pure (s :: ss)

mutual
/-- `walkContext.setAttribute(path, ref, val, appendValue)` (`SetAttribute` / `AppendAttribute`) -/
def setAttribute (env : Env) : Nat → Scope → PathSpec → List Ident → AV → Bool → M Unit
  | 0, _, _, _, _, _ => M.panic "fuel"
  | fuel + 1, sc, path, ref, val, appendValue =>
    let fullPath := combinePath path ref
    if fullPath.isEmpty then M.err (.mk0 "empty path for SetAttribute")
    else
      match fullPath.getLast? with
      | none => M.panic "index out of range [-1] (fullPath[len(fullPath)-1])"
      | some last => do
        let parentScope ← walkScope env sc fullPath.dropLast
        let field ← (scopeField env parentScope last.name appendValue).tryCatch fun walkPathErr =>
          match last.position with
          | some pos => M.lift (wrapErr (some walkPathErr) pos)
          | none => M.err walkPathErr.wrapped                 -- newSchemaError(walkPathErr)
        match field.kind with
        | .container _ =>
          if appendValue then errAt "append-container: cannot append to container" val.span
          else do
            -- walks the alias path AGAIN (semantics §11 note A)
            let containerScope ← (childBlock env parentScope last.name).tryCatch fun e =>
              M.lift (wrapErr (some e) val.span)
            setContainerFromScalar env fuel containerScope (withScopeSpec containerScope) val
        | kind =>
          let vals : Option (List AV) :=
            match val.asArray with
            | some vs => some vs
            | none => if appendValue then some [val] else none
          match vals with
          | some vs =>
            match kind with
            | .arrayOfScalar item => do
              let len ← listLength field.addr
              if !appendValue ∧ len > 0 then errAt "value already set" val.span
              else appendValues env field.addr item vs
            | _ => errAt "badtype.ArrayOfScalar" val.span
          | none =>
            match kind with
            | .scalar t presence =>
              match scalarFromAST env t val with
              | .ok s => storeScalar field.addr presence s
              | .err e => M.lift (wrapErr (some e) val.span)
              | .panic w => M.panic w
            | _ => errAt "badtype.Scalar" val.span

/-- `walkContext.setContainerFromScalar(bs, val)`; runs in the scope of the container -/
def setContainerFromScalar (env : Env) : Nat → Scope → BlockSpec → AV → M Unit
  | 0, _, _, _ => M.panic "fuel"
  | fuel + 1, sc, bs, val =>
    match bs.scalarSplit with
    | none => M.err (.mk0 "no-scalar-split: container has no method to set from array")
    | some ss =>
      let setVals0 : M (List AV) :=
        match ss.delimiter with
        | some delim =>
          match val.asString with
          | none => errAt "literal-type.string (scalar split)" val.span
          | some strVal => pure ((stringsSplit strVal delim).map fun s => AV.str s val.span)
        | none =>
          match val.asArray with
          | none => M.err (.mk0 "container requires an array when setting from value")
          | some vs => pure vs
      do
        let setVals0 ← setVals0
        let setVals := if ss.rightToLeft then setVals0.reverse else setVals0
        if setVals.length < ss.required.length then M.err (.mk0 "split-too-few: container requires more values")
        else do
          let intoRequired := setVals.take ss.required.length
          let remaining := setVals.drop ss.required.length
          forEach2 (fun rr v => setAttribute env fuel sc rr [] v false) ss.required intoRequired
          if remaining.isEmpty then pure ()
          else do
            let optional := if remaining.length > ss.optional.length then remaining.take ss.optional.length else remaining
            let remaining := if remaining.length > ss.optional.length then remaining.drop ss.optional.length else []
            forEach2 (fun ro v => setAttribute env fuel sc ro [] v false) ss.optional optional
            if remaining.isEmpty then pure ()
            else
              match ss.remainder with
              | none => M.err (.mk0 "split-too-many: more array fields than we know what to do with")
              | some remainder => do
                let remaining := if ss.rightToLeft then remaining.reverse else remaining
                let remainingStr ← allAsString remaining
                let delim := match ss.delimiter with
                  | some d => d
                  | none => [46]
                let singleString := stringsJoin delim remainingStr
                match remaining.head?, remaining.getLast? with
                | some first, some last =>
                  setAttribute env fuel sc remainder []
                    (.str singleString ⟨first.span.start, last.span.end_⟩) false
                | _, _ => M.panic "index out of range (remaining[0])"
end

/-- fuel for the spec-following recursion, one unit per call of either function. Under `Env.WF` four are enough
(`WalkAttr.lean`: `fuelOf_ge` is all the proofs use); the rest is room for specs whose split paths lead into further
containers with a split -/
def fuelOf (env : Env) : Nat := 2 * env.given.length + env.schemas.length + 8

/-- `walkContext.SetDescription(description)` -/
def setDescription (env : Env) (sc : Scope) (description : AV) : M Unit :=
  match sc.root with
  | none => M.panic "nil pointer dereference: Scope.rootBlock (after TailScope)"
  | some root =>
    match root.spec.description with
    | none => M.err (.mk0 "no-description: no description field")        -- newSchemaError
    | some descSpec => setAttribute env (fuelOf env) sc [descSpec] [] description false

/-! ## c2.go -/

/-- `checkBang(sc, tagSpec, gotTag)` -/
def checkBang (env : Env) (sc : Scope) (tagSpec : Tag) (gotTag : TagValue) : M Unit :=
  match gotTag.mark with
  | .none => pure ()
  | .bang =>
    match tagSpec.bangFieldName with
    | none => errAt "no-bang: tag does not support bang" gotTag.span
    | some f => setAttribute env (fuelOf env) sc [f] [] (.bool true) false
  | .question =>
    match tagSpec.questionFieldName with
    | none => errAt "no-question: tag does not support question" gotTag.span
    | some f => setAttribute env (fuelOf env) sc [f] [] (.bool true) false

/-- the Name part of `walkTags` once a tag has been popped -/
def applyNameTag (env : Env) (sc : Scope) (tagSpec : Tag) (gotTag : TagValue) : M Unit := do
  checkBang env sc tagSpec gotTag
  setAttribute env (fuelOf env) sc [tagSpec.fieldName] [] (.tag gotTag) false

/-- the TypeSelect part of `walkTags` once a tag has been popped: the scope `walkTags` recurses in
(`BuildScope(pathToType, ref, KeepScope)`, then `checkBang` inside `WithScope`) -/
def selectType (env : Env) (sc : Scope) (tagSpec : Tag) (gotTag : TagValue) : M Scope :=
  match gotTag.reference with
  | none => M.err (.mk0 "needs-reference: type-select needs to be a reference")
  | some ref => do
    let pathToType : PathSpec :=
      if tagSpec.fieldName = [] ∨ tagSpec.fieldName = [46] then [] else [tagSpec.fieldName]
    let typeScope ← buildScope env sc pathToType ref.idents .keepScope
    checkBang env typeScope tagSpec gotTag
    pure typeScope

/-- the end of `walkTags` (`if gotTags.hasMore() { … }`, then the callback) -/
def finishTags (env : Env) (sc : Scope) (spec : BlockSpec) (items : List TagValue) :
    M (Scope × BlockSpec) :=
  match items with
  | [] => pure (sc, spec)
  | first :: _ =>
    match items.find? (fun t => t.mark != .none) with
    | some tag => errAt "tag-mark: unexpected tag mark" tag.span
    | none =>
      match spec.scalarSplit with
      | some _ =>
        if items.length != 1 then M.err (.mk0 "split-tags: expected exactly one tag")
        else do
          setContainerFromScalar env (fuelOf env) sc spec (.tag first)
          pure (sc, spec)
      | none =>
        match items.getLast? with
        | none => M.panic "index out of range [-1] (gotTags.items[len-1])"
        | some last => errAt "extra-tags: no more tags expected" ⟨first.span.start, last.span.end_⟩

/-- `walkTags(sc, spec, gotTags, outerCallback)`; `gotTags = popSet{items, lastPosition}`. Returns
the `(sc, spec)` the callback is called with. -/
def walkTags (env : Env) : List TagValue → Pos → Scope → BlockSpec → M (Scope × BlockSpec)
  | [], lastPosition, sc, spec =>
    match spec.name with
    | some nameSpec =>
      if nameSpec.isOptional then pure (sc, spec)
      else errAt "expected-tag.name" (pointSpan lastPosition)
    | none =>
      match spec.typeSelect with
      | some _ => errAt "expected-tag.type-select" (pointSpan lastPosition)
      | none => finishTags env sc spec []
  | gotTag :: rest, _, sc, spec =>
    match spec.name with
    | some nameSpec => do
      applyNameTag env sc nameSpec gotTag
      match spec.typeSelect with
      | none => finishTags env sc spec rest
      | some typeSpec =>
        match rest with
        | [] => errAt "expected-tag.type-select" (pointSpan gotTag.span.end_)
        | typeTag :: rest2 => do
          let typeScope ← selectType env sc typeSpec typeTag
          walkTags env rest2 typeTag.span.end_ typeScope (withScopeSpec typeScope)
    | none =>
      match spec.typeSelect with
      | none => finishTags env sc spec (gotTag :: rest)
      | some typeSpec => do
        let typeScope ← selectType env sc typeSpec gotTag
        walkTags env rest gotTag.span.end_ typeScope (withScopeSpec typeScope)

/-- `walkQualifiers(sc, spec, gotQualifiers, outerCallback)`; returns the `(sc, spec)` the callback
is called with -/
def walkQualifiers (env : Env) : List TagValue → Scope → BlockSpec → M (Scope × BlockSpec)
  | [], sc, spec => pure (sc, spec)
  | qualifier :: rest, sc, spec =>
    match spec.qualifier with
    | none => errAt "no-qualifier: not expecting a qualifier" qualifier.span
    | some tagSpec =>
      if !tagSpec.isBlock then do
        checkBang env sc tagSpec qualifier
        setAttribute env (fuelOf env) sc [tagSpec.fieldName] [] (.tag qualifier) false
        if rest.isEmpty then pure (sc, spec)
        else
          match rest.head?, rest.getLast? with
          | some first, some last =>
            errAt "unexpected-qualifier" ⟨first.span.start, last.span.end_⟩
          | _, _ => M.panic "index out of range (gotQualifiers.items[0] / items[len-1])"
      else
        match qualifier.reference with
        | none => M.err (.mk0 "needs-reference: qualifier needs to be a reference to specify a block")
        | some ref => do
          let newScope ← buildScope env sc [tagSpec.fieldName] ref.idents .keepScope
          checkBang env newScope tagSpec qualifier
          walkQualifiers env rest newScope (withScopeSpec newScope)

/-- `doAssign(sc, a)` -/
def doAssign (env : Env) (sc : Scope) (a : Assignment) : M Unit :=
  setAttribute env (fuelOf env) sc [] a.key.idents (.value a.value) a.append

/-- `doDescription(sc, decl)` -/
def doDescription (env : Env) (sc : Scope) (decl : Description) : M Unit :=
  (setDescription env sc (.str (encodeRunes decl.value) decl.span)).addPosition decl.span

/-- the span of a block statement: `decl.Position()` = the header's `SourceNode` -/
def headerSpan (h : BlockHeader) : Span := ⟨h.src.start, h.src.end_⟩

def assignSpan (a : Assignment) : Span := ⟨a.src.start, a.src.end_⟩

/-- the innermost callback of `doBlock` up to `doBody`: the header description -/
def doBlockDescription (env : Env) (sc : Scope) (rootBlockSpec : BlockSpec) (h : BlockHeader) : M Unit :=
  match h.description with
  | none => pure ()
  | some desc =>
    match rootBlockSpec.description with
    | none => errAt "no-description: block has no description field" desc.span
    | some f =>
      -- `NewStringValue(bs.Description.Value, bs.SourceNode)`: the value's span is the HEADER span
      setAttribute env (fuelOf env) sc [f] [] (.str (encodeRunes desc.value) (headerSpan h)) false

/-- `doBlock(sc, spec, bs)` up to its last step `doBody(sc, bs.Body)`: tags, qualifiers and header
description; returns the scope (context) the body is walked in -/
def doBlockHead (env : Env) (sc : Scope) (spec : BlockSpec) (h : BlockHeader) : M Scope := do
  let rootBlockSpec := spec
  let (sc1, spec1) ← walkTags env h.tags h.type.span.end_ sc spec
  let (sc2, _) ← walkQualifiers env h.qualifiers sc1 spec1
  doBlockDescription env sc2 rootBlockSpec h
  pure sc2

/-- `doFullBlock(sc, decl)` up to the `doBody` at the end of `doBlock`:
`BuildScope(nil, type idents, ResetScope)`, then `WithScope(newScope, doBlock)` -/
def doFullBlockHead (env : Env) (sc : Scope) (h : BlockHeader) : M Scope := do
  let newScope ← buildScope env sc [] h.type.idents .resetScope
  doBlockHead env newScope (withScopeSpec newScope) h

mutual
/-- `doBody(sc, body)` -/
def doBody (env : Env) (sc : Scope) : List Statement → M Unit
  | [] => pure ()
  | decl :: rest => do
    doStatement env sc decl
    doBody env sc rest

/-- one iteration of the loop of `doBody`: the type switch (its `default:` arm needs a statement
type the parser does not have). The `*parser.Block` arm is `doFullBlock` → `doBlock`, whose last step
is `doBody(sc', decl.Body)`. -/
def doStatement (env : Env) (sc : Scope) : Statement → M Unit
  | .desc decl => (doDescription env sc decl).addPosition decl.span
  | .assign decl => (doAssign env sc decl).addPosition (assignSpan decl)
  | .block h body =>
    (do
      let bodyScope ← doFullBlockHead env sc h
      doBody env bodyScope body).addPosition (headerSpan h)
end

/-- `ParseAST` minus `validateFile`: `NewObject`, `NewRootSchemaWalker`, `WalkSchema(scope, body)` on
the message `msg`. `.ok tree` = the walk returned nil. -/
def walkSchema (env : Env) (body : List Statement) (msg : Node) : Res Node :=
  match newRootSchemaWalker env with
  | .err e => .err e
  | .panic w => .panic w
  | .ok scope =>
    match doBody env scope body msg with
    | .ok (_, tree) => .ok tree
    | .err e => .err e
    | .panic w => .panic w

end J5V.Walker
