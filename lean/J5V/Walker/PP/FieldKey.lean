import J5V.Walker.PP.FieldScalars
import J5V.Walker.PP.ElemTables
/-!
# `FieldFacts` of `key` fields (formats, entity-key options), and of every scalar kind (`scalarFacts`)
-/
namespace J5V.Walker
open J5V.Bcl

abbrev keyCF (d : Addr) : ContainerField := cfOf sKeyField specKeyField d

theorem findBlock_format_key {outer : List ContainerField} (hmiss : ∀ o ∈ outer, Misses o b!"format") (d : Addr)
    (rest : List ContainerField) :
    findBlock b!"format" (outer ++ (keyCF d :: rest)) = some (keyCF d, [b!"format"]) :=
  (findBlock_skip_all hmiss).trans
    (findBlock_head rfl)

theorem keyFmt_select {w : Str} {j : Nat} {sw : Schema} {specw : BlockSpec}
    (hw : isAscii w = true)
    (hpi : propInfo j5Env sKeyFormat w = some (j, some gKeyFormat, .container sw))
    (hspec : ∀ c, specOf j5Env ⟨c, .msg sw⟩ = .ok specw)
    {outer : List ContainerField} (hmiss : ∀ o ∈ outer, Misses o b!"format") (root : Option ContainerField)
    (d : Addr) :
    Exact (walkQualifiers j5Env [tagRef .none (refOf [w])] (typeScope outer (keyCF d) root) specKeyField) d
      (freshMsg sKeyField)
      ((typeScope outer (keyCF d) root).mergeScope (Scope.newChild (cfOf sw specw (d ++ [1, j]))), specw)
      (mkMsgS sKeyField [(b!"format", mkMsgS sKeyFormat [(w, freshMsg sw)])]) := by
  rw [freshMsg_eq_mkMsgS]
  exact walkQualifiers_block (tagSpec := ⟨b!"format", none, none, false, true⟩) (ref := refOf [w])
    (show specKeyField.qualifier = _ by decide +kernel) rfl rfl
    (selectMember_exactS (findBlock_format_key hmiss d []) pi_KeyField_format specOf_KeyFormat
      (blockPath_prop rfl (propInfo_hasProperty hpi)) hw hpi hspec (distinct_of schemaOf_KeyField)
      (distinct_of schemaOf_KeyFormat) rfl (.inl rfl))
    (checkBang_none rfl) (walkQualifiers_nil)

/-!
## The entity-key options of a `key` field

`entity.primaryKey = true|false`, `foreign = "pkg.entity"` (alias `foreign → entity.foreignKey`, scalar
split of `j5.schema.v1.EntityRef`), `entity.tenantKey = "…"`.
-/

theorem no_dot_of_hasDot {s : Str} (h : hasDot s = false) : ∀ b ∈ s, b ≠ 46 := by
  intro b hb e
  subst e
  simp [hasDot, List.contains_eq_mem, hb] at h

theorem entRefSplit_exact {pkg ent : Str} (hp : okString pkg = true) (he : okString ent = true)
    (hnd : hasDot ent = false) (fuel : Nat) (r : Addr) :
    Exact (setContainerFromScalar j5Env (fuel + 1 + 1) (Scope.newChild (cfOf sEntityRef specEntityRef r))
      specEntityRef (.value (strValue (pkg ++ [46] ++ ent)))) r (freshMsg sEntityRef) ()
      (mkMsgS sEntityRef [(b!"entity", sStr ent), (b!"package", sStr pkg)]) := by
  have hascii : isAscii (pkg ++ [46] ++ ent) = true := by
    rw [isAscii_append, isAscii_append, isAscii_of_okString hp, isAscii_of_okString he]; rfl
  have hsplit : stringsSplit (pkg ++ [46] ++ ent) [46] = J5V.Compile.splitOnByte 46 pkg ++ [ent] := by
    rw [stringsSplit_byte, List.append_assoc, List.singleton_append, splitOnByte_append_sep,
      splitOnByte_no_sep (no_dot_of_hasDot hnd)]
  have h := splitTwo_exact (env := j5Env) (distinct_of schemaOf_EntityRef)
    (show specEntityRef.scalarSplit = _ by decide +kernel) rfl rfl pi_EntityRef_entity pi_EntityRef_package (by decide)
    (asString_strValue hascii) hsplit fuel r
  rwa [if_neg (splitOnByte_ne_nil 46 pkg), stringsJoin_split] at h

/-- what the entity-key lines of a key field write into its `entity` message -/
def entKeyInner : J5V.Compile.EntKey → List (Str × Node)
  | .nokey => []
  | .ek kind tenant =>
    (match kind with
     | .plain => []
     | .primary b => [(b!"primaryKey", pBool b)]
     | .foreign pkg ent =>
       [(b!"foreignKey", mkMsgS sEntityRef [(b!"entity", sStr ent), (b!"package", sStr pkg)])]) ++
    (match tenant with
     | none => []
     | some t => [(b!"tenantKey", pStr t)])

/-- the `entity` entry of a key field: there unless no line was written (`.ek .plain none`) -/
theorem entKeyVals_eq (ek : J5V.Compile.EntKey) :
    entKeyVals j5Env ek = childVal b!"entity" (msgOpt sEntityKeyMsg (entKeyInner ek)) := by
  rcases ek with _ | ⟨_ | b | ⟨pkg, ent⟩, _ | t⟩
  · rfl
  · rfl
  all_goals
    show [(b!"entity", mkMsg j5Env nEntityKey _)] = _
    simp only [mkMsg_eq_mkMsgS schemaOf_EntityKeyMsg, mkMsg_eq_mkMsgS schemaOf_EntityRef]
    rfl

section
variable {sc : Scope} {pfx : List Str} {a b : Addr} {C : Option Node → Node} {P : Str → Prop}

/-- `pfx.foreign = "pkg.entity"`: the alias `foreign → entity.foreignKey` creates both containers, then the split of
`EntityRef` -/
theorem foreignLine_exact (hr : BodyReach sc pfx sKeyField specKeyField a b C P) (hn : P b!"foreign")
    {kvals : List (Str × Node)} (hl : lookupVal b!"entity" kvals = none)
    {pkg ent : Str} (hp : okString pkg = true) (he : okString ent = true) (hnd : hasDot ent = false) :
    Exact (doStatement j5Env sc (assignStmt (pfx ++ [b!"foreign"]) (strValue (pkg ++ [46] ++ ent)))) a
      (C (some (mkMsgS sKeyField kvals))) ()
      (C (some (mkMsgS sKeyField (kvals ++ [(b!"entity", mkMsgS sEntityKeyMsg
        [(b!"foreignKey", mkMsgS sEntityRef [(b!"entity", sStr ent), (b!"package", sStr pkg)])])])))) := by
  obtain ⟨sc', hwalk, hfind⟩ := hr.walk
  have hdK := distinct_of schemaOf_KeyField
  have hdE := distinct_of schemaOf_EntityKeyMsg
  have hLE : Lens (fun Y => C (some (mkMsgS sKeyField (kvals ++ [(b!"entity", Y)])))) (b ++ [4]) :=
    Lens.comp hr.lens (mkMsgS_lens hdK (propInfo_find pi_KeyField_entity) hl)
  have hLF : Lens (fun Y => C (some (mkMsgS sKeyField (kvals ++
      [(b!"entity", mkMsgS sEntityKeyMsg [(b!"foreignKey", Y)])])))) (b ++ [4] ++ [1]) :=
    Lens.comp hLE (mkMsgS_lens (vals1 := []) (vals2 := []) hdE
      (propInfo_find pi_EntityKeyMsg_foreignKey) rfl)
  have hfb : findBlock b!"foreign" sc'.blockSet =
      some (cfOf sKeyField specKeyField (a ++ b), [b!"entity", b!"foreignKey"]) := by
    rw [hfind _ hn]
    exact findBlock_head rfl
  have hw := hwalk (some (mkMsgS sKeyField kvals))
  have haddr4 : a ++ b ++ [4] = a ++ (b ++ [4]) := List.append_assoc _ _ _
  -- `Scope.Field`: the entity container is built, then the foreign-key container
  have hwp1 : Exact (walkPath j5Env (cfOf sKeyField specKeyField (a ++ b)) [b!"entity"]) a
      (C (some (mkMsgS sKeyField kvals))) [cf0 sEntityKeyMsg (a ++ b ++ [4])]
      (C (some (mkMsgS sKeyField (kvals ++ [(b!"entity", freshMsg sEntityKeyMsg)])))) :=
    walkPath_container (propInfo_hasProperty pi_KeyField_entity)
      (Exact.lens hr.lens (propSetValue_newS (c := a ++ b) false hdK pi_KeyField_entity hl (.inl rfl)))
      (walkRest_nil)
  have hval : Exact (propSetValue j5Env (a ++ b ++ [4]) sEntityKeyMsg b!"foreignKey" (!false)) a
      (C (some (mkMsgS sKeyField (kvals ++ [(b!"entity", freshMsg sEntityKeyMsg)]))))
      ⟨a ++ b ++ [4] ++ [1], .container sEntityRef⟩
      (C (some (mkMsgS sKeyField (kvals ++ [(b!"entity",
        mkMsgS sEntityKeyMsg [(b!"foreignKey", freshMsg sEntityRef)])])))) := by
    rw [haddr4, freshMsg_eq_mkMsgS sEntityKeyMsg]
    exact Exact.lens hLE (propSetValue_newS (c := a ++ (b ++ [4])) true hdE pi_EntityKeyMsg_foreignKey rfl (.inr rfl))
  have hsf := scopeField_of_walk (pre := [b!"entity"]) (existingIsOk := false) hfb
    (walkToChild_exact hwp1 (setSpecs_cons (specOf_EntityKeyMsg _) (setSpecs_nil)))
    (propInfo_hasProperty pi_EntityKeyMsg_foreignKey) hval
  -- the second walk of the same alias, now both cached: Go walks an alias path twice when a scalar is assigned to a
  -- container (`Scope.Field`, then `ChildBlock`; notes/walker-semantics.md, note A)
  have hwp2 : Exact (walkPath j5Env (cfOf sKeyField specKeyField (a ++ b)) [b!"entity", b!"foreignKey"]) a
      (C (some (mkMsgS sKeyField (kvals ++ [(b!"entity",
        mkMsgS sEntityKeyMsg [(b!"foreignKey", freshMsg sEntityRef)])]))))
      ([cf0 sEntityRef (a ++ b ++ [4] ++ [1])] ++ [cf0 sEntityKeyMsg (a ++ b ++ [4])])
      (C (some (mkMsgS sKeyField (kvals ++ [(b!"entity",
        mkMsgS sEntityKeyMsg [(b!"foreignKey", freshMsg sEntityRef)])])))) :=
    Exact.lens hr.lens (walkPath_cachedS (vals2 := []) hdK pi_KeyField_entity hl
      (walkRest_cons (walkPath_cachedS (spec := BlockSpec.empty) (vals1 := []) (vals2 := []) hdE
        pi_EntityKeyMsg_foreignKey rfl (walkRest_nil))))
  have hcb := childBlock_of_walkPath hfb hwp2
    (setSpecs_cons (specOf_EntityRef _) (setSpecs_cons (specOf_EntityKeyMsg _) (setSpecs_nil)))
  have haddrR : a ++ b ++ [4] ++ [1] = a ++ (b ++ [4] ++ [1]) := by simp
  -- fuel: `fuelOf j5Env` less the three levels `setAttribute → setContainerFromScalar → setAttribute` (`fuelOf_succ3`)
  have hset := Exact.lens hLF
    (entRefSplit_exact hp he hnd (2 * j5Env.given.length + j5Env.schemas.length + 5) (a ++ (b ++ [4] ++ [1])))
  rw [← haddrR] at hset
  refine doStatement_assign ?_
  rw [fuelOf_succ3]
  exact setAttribute_container (last := pathElem b!"foreign")
    (combinePath_refOf_concat hr.ascii (by decide)) hw hsf hcb hset

end

/-- the entity-key lines of a key field, however its three kinds of lines are written (`kP`, `kF`, `kT`: the keys of
the `primary`, `foreign` and `tenant` line); `St evals` is the state when `evals` was written into the `entity`
message -/
theorem entKeyLines_exact {sc : Scope} {a : Addr} {St : List (Str × Node) → Node} {kP kF kT : List Str}
    (hprimary : ∀ bb : Bool, Exact (doStatement j5Env sc (assignStmt kP (boolValue bb))) a (St []) ()
      (St [(b!"primaryKey", pBool bb)]))
    (hforeign : ∀ pkg ent : Str, okString pkg = true → okString ent = true → hasDot ent = false →
      Exact (doStatement j5Env sc (assignStmt kF (strValue (pkg ++ [46] ++ ent)))) a (St []) ()
        (St [(b!"foreignKey", mkMsgS sEntityRef [(b!"entity", sStr ent), (b!"package", sStr pkg)])]))
    (htenant : ∀ (evals : List (Str × Node)) (tn : Str), okString tn = true →
      KeysIn [b!"primaryKey", b!"foreignKey"] evals →
      Exact (doStatement j5Env sc (assignStmt kT (strValue tn))) a (St evals) ()
        (St (evals ++ [(b!"tenantKey", pStr tn)])))
    {ek : J5V.Compile.EntKey} (hok : entKeyOk ek = true) :
    Exact (doBody j5Env sc (match (generalizing := false) ek with
      | .nokey => []
      | .ek kind tenant =>
        (match (generalizing := false) kind with
         | .plain => []
         | .primary b => [assignStmt kP (boolValue b)]
         | .foreign pkg ent => [assignStmt kF (strValue (pkg ++ [46] ++ ent))]) ++
        (match (generalizing := false) tenant with
         | none => []
         | some t => [assignStmt kT (strValue t)]))) a (St []) () (St (entKeyInner ek)) := by
  cases ek with
  | nokey => exact doBody_nil
  | ek kind tenant =>
    simp only [entKeyOk, Bool.and_eq_true] at hok
    obtain ⟨hkind, hten⟩ := hok
    have ten : ∀ (evals : List (Str × Node)), KeysIn [b!"primaryKey", b!"foreignKey"] evals →
        Exact (doBody j5Env sc (match (generalizing := false) tenant with | none => [] | some t => [assignStmt kT (strValue t)])) a
          (St evals) () (St (evals ++ match (generalizing := false) tenant with | none => [] | some t => [(b!"tenantKey", pStr t)])) := by
      intro evals hk
      cases tenant with
      | none => rw [List.append_nil]; exact doBody_nil
      | some tn => exact doBody_cons (htenant evals tn hten hk) (doBody_nil)
    cases kind with
    | plain => exact ten [] (.nil _)
    | primary bb =>
      exact doBody_cons (hprimary bb) (ten [(b!"primaryKey", pBool bb)] (fun kv h => by
        simp only [List.mem_singleton] at h; subst h; exact List.mem_cons_self))
    | foreign pkg ent =>
      simp only [Bool.and_eq_true, Bool.not_eq_true'] at hkind
      obtain ⟨⟨hp, he⟩, hnd⟩ := hkind
      exact doBody_cons (hforeign pkg ent hp he hnd) (ten [(b!"foreignKey", _)] (fun kv h => by
        simp only [List.mem_singleton] at h; subst h; exact List.mem_cons_of_mem _ List.mem_cons_self))

section
variable {sc : Scope} {pfx : List Str} {a b : Addr} {C : Option Node → Node} {P : Str → Prop}

/-- the entity-key lines of a key field (written through `pfx`, not as a directly typed entity key) -/
theorem entKey_fills (hr : BodyReach sc pfx sKeyField specKeyField a b C P) (hnE : P b!"entity")
    (hnF : P b!"foreign") {ek : J5V.Compile.EntKey} (hok : entKeyOk ek = true) :
    Fills sc a (fun vals => C (some (mkMsgS sKeyField vals))) [b!"entity"] (entKeyBcl pfx false ek)
      (entKeyVals j5Env ek) := by
  rw [entKeyVals_eq]
  refine ⟨.childVal _ _, fun kvals hv => ?_⟩
  have hl := hv _ (List.mem_singleton.mpr rfl)
  have hdE := distinct_of schemaOf_EntityKeyMsg
  have hrE := hr.childS (Presents.some _) (distinct_of schemaOf_KeyField) (vals := kvals) hnE (by decide) rfl
    pi_KeyField_entity specOf_EntityKeyMsg hl (fun _ _ _ h => absurd rfl h)
  have hkey : ∀ n : Str, pfx ++ [b!"entity"] ++ [n] = pfx ++ [b!"entity", n] := by intro n; simp
  have h := entKeyLines_exact (sc := sc) (a := a) (kF := pfx ++ [b!"foreign"])
    (St := fun evals => C (some (mkMsgS sKeyField (kvals ++ childVal b!"entity" (msgOpt sEntityKeyMsg evals)))))
    (fun bb => by
      have h1 := hrE.attrS (Presents.msgOpt _) hdE (vals := []) (n := b!"primaryKey") trivial (by decide) rfl
        pi_EntityKeyMsg_primaryKey rfl (.inr rfl) (val := boolValue bb) (v := .bool bb) (asArray_boolValue _)
        (by simp only [scalarFromAST, asBool_boolValue]; rfl)
      rw [hkey, storeNode_pres] at h1
      exact h1)
    (fun pkg ent hp he hnd => by
      have h1 := foreignLine_exact hr hnF hl hp he hnd
      show Exact _ a (C (some (mkMsgS sKeyField (kvals ++ [])))) () _
      rw [List.append_nil]
      exact h1)
    (fun evals tn htn hk => by
      have h1 := hrE.attrS (Presents.msgOpt _) hdE (vals := evals) (n := b!"tenantKey") trivial (by decide) rfl
        pi_EntityKeyMsg_tenantKey (hk.fresh (by decide)) (.inl rfl) (val := strValue tn) (v := .str tn)
        (asArray_strValue _) (by simp only [scalarFromAST, asString_strValue (isAscii_of_okString htn)]; rfl)
      rw [hkey, storeNode_pres] at h1
      exact h1) hok
  simp only [childVal_msgOpt_nil, List.append_nil] at h
  refine Exact.congr h ?_
  cases ek with
  | nokey => rfl
  | ek kind tenant => cases kind <;> cases tenant <;> rfl

end

/-!
## `keyFacts`, and `scalarFacts` for every scalar kind

`keyFacts` runs its body by hand, not through `FieldFacts.ofS` / `FieldRunB.ofFills` as the other kinds do: the line
`format.custom.pattern = "…"` rewrites the entry `format` that the qualifier wrote (`keyFmtS fmt false` becomes
`keyFmtS fmt true`), which a `Fills` (entries are appended) does not express.
-/

theorem key_fieldBody (fmt : J5V.Compile.KeyFmt) (ek : J5V.Compile.EntKey) (l : Bool) (pfx : List Str) :
    fieldBody (.key fmt ek [] l) pfx false = keyFmtBody pfx fmt ++ entKeyBcl pfx false ek := by
  show rulesBcl pfx [] ++ keyFmtBody pfx fmt ++ entKeyBcl pfx false ek = _
  simp [rulesBcl]

/-- the `format` entry of a key field: after the qualifier (`final = false`: the member selected, fresh) and at the
end (`final = true`: a custom format holds its pattern) -/
def keyFmtS : J5V.Compile.KeyFmt → Bool → List (Str × Node)
  | .none, _ => []
  | .informal, _ => [(b!"format", mkMsgS sKeyFormat [(b!"informal", freshMsg sKeyFormatInformal)])]
  | .custom p, final =>
    [(b!"format", mkMsgS sKeyFormat [(b!"custom",
      if final then mkMsgS sKeyFormatCustom [(b!"pattern", sStr p)] else freshMsg sKeyFormatCustom)])]
  | .uuid, _ => [(b!"format", mkMsgS sKeyFormat [(b!"uuid", freshMsg sKeyFormatUUID)])]
  | .id62, _ => [(b!"format", mkMsgS sKeyFormat [(b!"id62", freshMsg sKeyFormatID62)])]

theorem keyFmtS_keys (fmt : J5V.Compile.KeyFmt) (final : Bool) : KeysIn [b!"format"] (keyFmtS fmt final) := by
  cases fmt <;> first | exact .nil _ | exact .single _ _

theorem keyFmtVals_eq (fmt : J5V.Compile.KeyFmt) : keyFmtVals j5Env fmt = keyFmtS fmt true := by
  cases fmt <;>
    simp only [keyFmtVals, mkMsg_eq_mkMsgS schemaOf_KeyFormat, mkMsg_eq_mkMsgS schemaOf_KeyFormatInformal,
      mkMsg_eq_mkMsgS schemaOf_KeyFormatCustom, mkMsg_eq_mkMsgS schemaOf_KeyFormatUUID,
      mkMsg_eq_mkMsgS schemaOf_KeyFormatID62] <;> rfl

theorem key_fieldMsg (fmt : J5V.Compile.KeyFmt) (ek : J5V.Compile.EntKey) :
    fieldMsg j5Env (.key fmt ek [] false) =
      oneofMsg 15 14 (mkMsgS sKeyField (keyFmtS fmt true ++ entKeyVals j5Env ek)) := by
  refine (fieldOneof_eq (.key fmt ek [] false) _).trans (congrArg _ ?_)
  rw [mkMsg_eq_mkMsgS (kind_schemaOf (.key fmt ek [] false)), keyFmtVals_eq]
  rfl

theorem keyQ_of_select {fmt : J5V.Compile.KeyFmt} {ek : J5V.Compile.EntKey} {w : Str} {j : Nat} {sw : Schema}
    {specw : BlockSpec} (hq : keyFmtQuals fmt = [tagRef .none (refOf [w])])
    (hw : isAscii w = true)
    (hpi : propInfo j5Env sKeyFormat w = some (j, some gKeyFormat, .container sw))
    (hspec : ∀ c, specOf j5Env ⟨c, .msg sw⟩ = .ok specw) :
    FieldRunQ (.key fmt ek [] false) [b!"format"] (fun _ _ => True)
      (mkMsgS sKeyField [(b!"format", mkMsgS sKeyFormat [(w, freshMsg sw)])]) := by
  intro outer root d hmiss
  have hmiss' : ∀ o ∈ outer, Misses o b!"format" := hmiss _ (by simp)
  refine ⟨(typeScope outer (keyCF d) root).mergeScope (Scope.newChild (cfOf sw specw (d ++ [1, j]))), specw,
    [cfOf sw specw (d ++ [1, j])], ?_, trivial, ?_⟩
  · simp [typeScope, Scope.mergeScope, Scope.newChild, tcfOf, kindSchema, kindSpec]
  · show Exact (walkQualifiers j5Env (keyFmtQuals fmt) _ _) _ _ _ _
    rw [hq]
    exact keyFmt_select hw hpi hspec hmiss' root d

def keyFacts (fmt : J5V.Compile.KeyFmt) (ek : J5V.Compile.EntKey) (hfmt : keyFmtOk fmt = true)
    (hek : entKeyOk ek = true) : FieldFacts (.key fmt ek [] false) :=
  .of [b!"format"] [b!"format", b!"entity", b!"foreign"] [] (fun _ _ => True)
    (mkMsgS sKeyField (keyFmtS fmt false))
    (mkMsgS sKeyField (keyFmtS fmt true ++ entKeyVals j5Env ek))
    (key_fieldMsg fmt ek)
    rfl (fun _ => rfl) rfl rfl
    (by
    cases fmt with
    | none =>
      intro outer root d _
      exact ⟨typeScope outer (keyCF d) root, specKeyField, [], rfl, trivial,
        (walkQualifiers_nil).conv (freshMsg_eq_mkMsgS _)⟩
    | informal =>
      exact keyQ_of_select (w := b!"informal") rfl (by decide) pi_KeyFormat_informal specOf_KeyFormatInformal
    | custom p =>
      exact keyQ_of_select (w := b!"custom") rfl (by decide) pi_KeyFormat_custom specOf_KeyFormatCustom
    | uuid =>
      exact keyQ_of_select (w := b!"uuid") rfl (by decide) pi_KeyFormat_uuid specOf_KeyFormatUUID
    | id62 =>
      exact keyQ_of_select (w := b!"id62") rfl (by decide) pi_KeyFormat_id62 specOf_KeyFormatID62)
    (by
    intro sc pfx a b C hr _
    rw [key_fieldBody fmt ek false pfx]
    have hnE : b!"entity" ∈ [b!"format", b!"entity", b!"foreign"] := by simp
    have hnF : b!"foreign" ∈ [b!"format", b!"entity", b!"foreign"] := by simp
    have hfmtB : Exact (doBody j5Env sc (keyFmtBody pfx fmt)) a (C (some (mkMsgS sKeyField (keyFmtS fmt false)))) ()
        (C (some (mkMsgS sKeyField (keyFmtS fmt true)))) := by
      cases fmt with
      | none => exact doBody_nil
      | informal => exact doBody_nil
      | uuid => exact doBody_nil
      | id62 => exact doBody_nil
      | custom p =>
        have hr1 := hr.touchedS (distinct_of schemaOf_KeyField) (vals1 := []) (vals2 := []) (n := b!"format")
          (by simp) (by decide) rfl pi_KeyField_format specOf_KeyFormat rfl
        have hr2 := hr1.touchedS (distinct_of schemaOf_KeyFormat) (vals1 := []) (vals2 := []) (n := b!"custom")
          trivial (by decide) rfl pi_KeyFormat_custom specOf_KeyFormatCustom rfl
        have hfmt' : okString p = true := hfmt
        have h3 := hr2.attrS (Presents.some _) (distinct_of schemaOf_KeyFormatCustom) (vals := [])
          (n := b!"pattern") trivial (by decide) rfl pi_KeyFormatCustom_pattern rfl (.inl rfl)
          (val := strValue p) (v := .str p) (asArray_strValue _)
          (by simp only [scalarFromAST, asString_strValue (isAscii_of_okString hfmt')]; rfl)
        have hkey : pfx ++ [b!"format"] ++ [b!"custom"] ++ [b!"pattern"] =
            pfx ++ [b!"format", b!"custom", b!"pattern"] := by simp
        rw [hkey, storeNode_str] at h3
        exact doBody_cons h3 (doBody_nil)
    exact doBody_append hfmtB ((entKey_fills hr hnE hnF hek).run (keyFmtS_keys fmt true) rfl))

theorem scalarFacts {f : CField} (h : fieldOk2 f = true) : ∃ ff : FieldFacts f, ff.blockNames = [] := by
  cases f with
  | string rules l =>
    simp only [fieldOk2, Bool.and_eq_true, Bool.not_eq_true'] at h
    exact ⟨plainFacts rulesRow_String rfl (fun _ => rfl) rfl h.2, rfl⟩
  | bool rules l =>
    simp only [fieldOk2, Bool.and_eq_true, Bool.not_eq_true'] at h
    exact ⟨plainFacts rulesRow_Bool rfl (fun _ => rfl) rfl h.2, rfl⟩
  | bytes rules => exact ⟨plainFacts rulesRow_Bytes rfl (fun _ => rfl) rfl h, rfl⟩
  | date rules l =>
    simp only [fieldOk2, Bool.and_eq_true, Bool.not_eq_true'] at h
    exact ⟨plainFacts rulesRow_Date rfl (fun _ => rfl) rfl h.2, rfl⟩
  | decimal rules l =>
    simp only [fieldOk2, Bool.and_eq_true, Bool.not_eq_true'] at h
    exact ⟨plainFacts rulesRow_Decimal rfl (fun _ => rfl) rfl h.2, rfl⟩
  | timestamp rules => exact ⟨plainFacts rulesRow_Timestamp rfl (fun _ => rfl) rfl h, rfl⟩
  | any => exact ⟨anyFacts, rfl⟩
  | integer fmt rules l =>
    simp only [fieldOk2, Bool.and_eq_true, Bool.not_eq_true'] at h
    exact ⟨integerFacts fmt rules l h.2, rfl⟩
  | float fmt rules l =>
    simp only [fieldOk2, Bool.and_eq_true, Bool.not_eq_true'] at h
    exact ⟨floatFacts fmt rules l h.2, rfl⟩
  | key fmt ek rules l =>
    simp only [fieldOk2, Bool.and_eq_true, Bool.not_eq_true'] at h
    obtain ⟨⟨⟨hl, hr⟩, hfmt⟩, hek⟩ := h
    have hnil := rulesRow_Key.nil_of_no_props rfl hr
    subst hnil
    subst hl
    exact ⟨keyFacts fmt ek hfmt hek, rfl⟩
  | _ => cases h

end J5V.Walker
