import J5V.Walker.PP.ElemTables
/-!
# The file level: root scope, `package`, imports

`rootNode` is the root message slot by slot, because the stub presets `path` and `package`. `print_parse_of`: the
theorem for a file, given that every element appends its message to `elements` (slot 3 of `SourceFile`; imports are
slot 2). `opNode`, `propMsg_eq`, `fresh_OP_eq`, `Exact.lift_oneof`, `elemMsg_object_eq` state messages slot by slot; the
proofs work with `gMsg` (`PropBlock.lean`) and `mkMsgS` instead.
-/
namespace J5V.Walker
open J5V.Bcl

def rootCF : ContainerField := cfOf sSourceFile specSourceFile []

def rootScope : Scope := Scope.newChild rootCF

theorem newRootSchemaWalker_j5 : newRootSchemaWalker j5Env = .ok rootScope := by
  unfold newRootSchemaWalker wrapContainer
  rw [j5Env_root, schemaOf_SourceFile, specOf_SourceFile]
  rfl

/-- the root message while the file is walked -/
def rootNode (p pkg : Node) (ti : Bool) (imports : Node) (te : Bool) (elems loc : Node) (tp : Bool) : Node :=
  .msg [false, tp, ti, te, false] [p, pkg, imports, elems, loc]

/-- `package a.b` -/
theorem package_exact {decl : Str} (hd : isDotted decl = true) (p q I E L : Node) (ti te : Bool) :
    Exact (doStatement j5Env rootScope (packageBcl decl)) []
      (rootNode p (.msg [false] [q]) ti I te E L false) ()
      (rootNode p (.msg [true] [sStr decl]) ti I te E L true) := by
  have hfb : findBlock b!"package" rootScope.blockSet = some (rootCF, [b!"package"]) :=
    findBlock_alias (by decide +kernel)
  -- the scope of the block
  have h1 : Exact (childBlock j5Env rootScope b!"package") [] (rootNode p (.msg [false] [q]) ti I te E L false)
      (Scope.newChild (cfOf sPackage specPackage [1])) (rootNode p (.msg [false] [q]) ti I te E L true) :=
    childBlock_of_walkPath hfb
      (walkPath_container (propInfo_hasProperty pi_SourceFile_package)
        (propSetValue_build false pi_SourceFile_package (cur := .msg [false] [q]) rfl rfl (.inl rfl))
        (walkRest_nil))
      (setSpecs_cons (specOf_Package _) (setSpecs_nil))
  refine doStatement_block (bs := Scope.newChild (cfOf sPackage specPackage [1])) (doFullBlockHead_exact
    (buildScope_reset (combinePath_ident (by decide) []) (walkScope_cons h1 (walkScope_nil))) ?_)
    (doBody_nil)
  refine doBlockHead_exact (spec2 := specPackage) rfl (walkTags_name (ns := ⟨strName, none, none, true, false⟩) ?_ rfl
    (applyNameTag_exact (checkBang_none rfl) ?_)) (walkQualifiers_nil)
  · decide +kernel
  · -- `name = a.b` inside the package message at `[1]`
    refine (Exact.lift (a := []) (b := [1]) (setAttr_direct (n := strName) (pos := none) (c := [1]) (cur := q)
      (v := .str decl) rfl (findBlock_head rfl) pi_Package_name rfl rfl (.inl rfl)
      (asArray_tag _) (by simp only [scalarFromAST, asString_tagRef_dotted hd]; rfl)) rfl).conv ?_
    rw [storeNode_str]; rfl

/-!
## The `ObjectProperty` message of a property block (`field NAME [!|?] TYPE:QUAL… { … }`), slot by slot
-/

/-- the type-select tag of a property block -/
def opTypeSpec : Tag := ⟨b!"schema", some b!"required", some b!"optional", false, false⟩

/-- an `ObjectProperty` message: `schema` (touched `t0`), `name` (touched `t1`), `required`,
`explicitlyOptional` -/
def opNode (t0 : Bool) (F : Node) (t1 : Bool) (nm : Node) (r o : Bool) : Node :=
  .msg [t0, t1, r, o, false, false]
    [F, nm, if r then bTrue else .absent, if o then bTrue else .absent, .absent, .absent]

theorem propMsg_eq (name : Str) (req opt : Bool) (f : CField) :
    propMsg j5Env (.mk name req opt f) = opNode true (fieldMsg j5Env f) true (sStr name) req opt := by
  simp only [propMsg]
  rw [mkMsg_of schemaOf_ObjectProperty]
  cases req <;> cases opt <;> rfl

theorem fresh_OP_eq : freshMsg sObjectProperty = opNode false .absent false .absent false false := rfl

theorem Exact.lift_oneof {α : Type} {m : M α} {a : Addr} {n k : Nat} {Y Y' : Node} {r : α} (hk : k < n)
    (h : Exact m (a ++ [k]) Y r Y') : Exact m a (oneofMsg n k Y) r (oneofMsg n k Y') := by
  have hv : ((List.replicate n Node.absent).set k Y)[k]? = some Y := by
    rw [List.getElem?_set_self (by simpa using hk)]
  have h' := Exact.lift_prop (t := (List.replicate n false).set k true) hv h
  rw [List.set_set] at h'
  exact h'

/-!
## Top-level objects, imports

`import_appends`: the three forms of `import` append `{path[, alias]}` to `imports`.
-/

theorem elemMsg_object_eq (o : J5V.Compile.ObjDecl) :
    elemMsg j5Env (.object o) = oneofMsg 6 2 (objectMsg j5Env false o) := by
  simp only [elemMsg, rootOneof]
  rw [mkMsg_of schemaOf_RootElement]
  rfl

abbrev objCF (d : Addr) : ContainerField := cfOf sObject specObject d

theorem findBlock_field_objCF (d : Addr) :
    findBlock wField (Scope.newChild (objCF d)).blockSet = some (objCF d, [b!"properties"]) :=
  findBlock_head rfl

abbrev importCF (e : Addr) : ContainerField := cfOf sImport specImport e

/-- `import "a/b.proto"`, `import a.b`, `import a.b:alias` -/
theorem import_appends {i : J5V.Compile.Import} (hi : importOk i = true) :
    Appends j5Env rootScope [] 2 (importBcl i) (importMsg j5Env i) := by
  intro xs t vs ht hv
  rw [importMsg, mkMsg_eq_mkMsgS schemaOf_Import]
  have hd := distinct_of schemaOf_Import
  have hn : specImport.name = some ⟨b!"path", none, none, false, false⟩ := by decide +kernel
  have hts : specImport.typeSelect = none := by decide +kernel
  -- the block, given how its tag reads as the path and what its qualifiers write
  have block : ∀ {tag : TagValue} {quals : List TagValue} {E : Node}, tag.mark = .none →
      (AV.tag tag).asString = some i.path →
      Exact (walkQualifiers j5Env quals (Scope.newChild (importCF ([] ++ [2, xs.length]))) specImport)
        ([] ++ [2, xs.length]) (mkMsgS sImport [(b!"path", sStr i.path)])
        (Scope.newChild (importCF ([] ++ [2, xs.length])), specImport) E →
      Exact (doStatement j5Env rootScope (blockStmt b!"import" [tag] quals false [])) [] (.msg t vs) ()
        (.msg (t.set 2 true) (vs.set 2 (.list (xs ++ [E])))) :=
    fun hm has hq => arrayBlock_exact (kw := b!"import") (by decide) (findBlock_head rfl) pi_SourceFile_imports
      (specOf_Import _) ht hv
      (doBlockHead_exact (spec2 := specImport) rfl
        (walkTags_name hn hts (by
          rw [← storeNode_str]; exact strTag_exactS hd (findBlock_head rfl) pi_Import_path hm has)) hq)
      (doBody_nil)
  unfold importBcl
  unfold importOk at hi
  by_cases hslash : i.path.contains 47 = true
  · -- a quoted path
    rw [if_pos hslash] at hi ⊢
    rw [hslash]
    exact block rfl (asString_tagStr (isAscii_of_okString hi)) (walkQualifiers_nil)
  · rw [if_neg hslash] at hi ⊢
    simp only [Bool.and_eq_true, Bool.or_eq_true, decide_eq_true_eq] at hi
    obtain ⟨hpath, halias⟩ := hi
    have hslash' : i.path.contains 47 = false := by simpa using hslash
    rw [hslash']
    by_cases hal : i.alias = []
    · rw [if_pos hal, hal]
      exact block rfl (asString_tagRef_dotted hpath .none) (walkQualifiers_nil)
    · -- an alias: the qualifier
      rw [if_neg hal]
      have hid : isIdent i.alias = true := halias.resolve_left hal
      have hne : (i.alias != []) = true := by simpa using hal
      rw [hne]
      refine block rfl (asString_tagRef_dotted hpath .none)
        (walkQualifiers_attr (tagSpec := ⟨b!"alias", none, none, false, false⟩) (by decide +kernel) rfl
          (checkBang_none rfl) ?_)
      refine (setAttr_directS (n := b!"alias") (pos := none) (v := .str i.alias) hd rfl (findBlock_head rfl)
        pi_Import_alias rfl (.inl rfl) (asArray_tag _)
        (by simp only [scalarFromAST, asString_tagRef_single (isAscii_of_isIdent hid)]; rfl)).conv ?_
      rw [storeNode_str]; rfl

/-!
The model writes property names as `str "…"`, the printer and these proofs as `b!"…"`: `str_path` … turn the one into
the other.
-/

theorem str_path : str "path" = b!"path" := by decide +kernel
theorem str_package : str "package" = b!"package" := by decide +kernel
theorem str_sourceLocations : str "sourceLocations" = b!"sourceLocations" := by decide +kernel
theorem propSchema_package : propSchema j5Env sSourceFile b!"package" = sPackage := by
  rw [j5Env_nf]; decide +kernel
theorem propSchema_sourceLocations : propSchema j5Env sSourceFile b!"sourceLocations" = sSourceLocation := by
  rw [j5Env_nf]; decide +kernel

theorem stub_eq (filename : Str) :
    stub j5Env filename =
      rootNode (stringNode filename) (.msg [false] [stringNode (stubPackage filename)]) false .absent false .absent
        (freshMsg sSourceLocation) false := by
  unfold stub
  rw [j5Env_root, schemaOf_SourceFile]
  dsimp only
  rw [str_path, str_package, str_sourceLocations, propSchema_package, propSchema_sourceLocations]
  rfl

theorem rootMsg_eq (filename decl : Str) (imports elems : List Node) :
    rootMsg j5Env filename decl imports elems =
      rootNode (stringNode filename) (.msg [true] [sStr decl]) (!imports.isEmpty) (listSlot imports)
        (!elems.isEmpty) (listSlot elems) (freshMsg sSourceLocation) true := by
  unfold rootMsg
  rw [j5Env_root, schemaOf_SourceFile]
  dsimp only
  rw [propSchema_sourceLocations, mkMsg_of schemaOf_Package]
  cases imports <;> cases elems <;> rfl

/-- the file level: `package`, imports, then elements that append to `elements` -/
theorem print_parse_of (filename path decl : Str) (imports : List J5V.Compile.Import)
    (elems : List J5V.Compile.Elem) (hdecl : isDotted decl = true) (himports : ∀ i ∈ imports, importOk i = true)
    (hel : AppendsAll j5Env rootScope [] 3 (elems.map elemBcl) (elems.map (elemMsg j5Env))) :
    walkSchema j5Env (toBcl (.j5s path imports elems decl)) (stub j5Env filename) =
      .ok (toMsg filename (.j5s path imports elems decl)) := by
  have himp : AppendsAll j5Env rootScope [] 2 (imports.map importBcl) (imports.map (importMsg j5Env)) :=
    appendsAll_map _ _ _ (fun i hi => import_appends (himports i hi))
  refine walkSchema_of_exact newRootSchemaWalker_j5 ?_
  rw [stub_eq]
  simp only [toBcl, toMsg, toMsgEnv]
  rw [rootMsg_eq]
  refine doBody_cons (package_exact hdecl _ _ _ _ _ _ _) ?_
  refine doBody_append (appends_fold himp [] _ _ rfl rfl) ?_
  refine (appends_fold hel [] _ _ rfl rfl).conv ?_
  rw [List.nil_append, List.nil_append]
  rfl

end J5V.Walker
