import J5V.Walker.StateLemmas
import J5V.Walker.Walk
/-!
# Exact, local runs of the state monad `M`, and lenses

The relation the print/parse proof executes the walker with (`Exact`), the algebra of `Node.get?` / `Node.set` it
rests on, and how a subtree sits in a larger tree (`Lens`).
-/
namespace J5V.Walker

/-!
## `Exact`

`Exact m a X r X'`: started in ANY tree whose subtree at address `a` is `X`, the computation `m`
succeeds with result `r` and leaves `X'` at `a`; the rest of the tree is untouched. This is the relation
for symbolic execution of the walker on a concrete statement: control flow is concrete, names and list
lengths are symbolic, and the state stays in the normal form `S.set a X`. It says nothing about runs that fail: it
composes along the successful path only.
-/

theorem modifyNth_modifyNth (f g : Node → Node) (l : List Node) (i : Nat) :
    modifyNth f (modifyNth g l i) i = modifyNth (fun c => f (g c)) l i := by
  induction l generalizing i with
  | nil => rfl
  | cons c cs ih => cases i <;> simp [modifyNth, ih]

theorem modifyNth_congr {f g : Node → Node} (l : List Node) (i : Nat)
    (h : ∀ c, l[i]? = some c → f c = g c) : modifyNth f l i = modifyNth g l i := by
  induction l generalizing i with
  | nil => rfl
  | cons c cs ih =>
    cases i with
    | zero => simp [modifyNth, h c]
    | succ i =>
      simp only [modifyNth]
      rw [ih i (fun c hc => h c (by simpa using hc))]

theorem modifyNth_id (l : List Node) (i : Nat) (f : Node → Node)
    (h : ∀ c, l[i]? = some c → f c = c) : modifyNth f l i = l := by
  induction l generalizing i with
  | nil => rfl
  | cons c cs ih =>
    cases i with
    | zero => simp [modifyNth, h c]
    | succ i =>
      simp only [modifyNth]
      rw [ih i (fun c hc => h c (by simpa using hc))]

theorem modifyNth_concat_length (f : Node → Node) (xs : List Node) (x : Node) :
    modifyNth f (xs ++ [x]) xs.length = xs ++ [f x] := by
  induction xs with
  | nil => rfl
  | cons c cs ih => simp [modifyNth, ih]

theorem Node.set_set (S : Node) (a : Addr) (X Y : Node) : (S.set a X).set a Y = S.set a Y := by
  induction a generalizing S with
  | nil => simp
  | cons i rest ih =>
    cases S <;> simp only [Node.set] <;> rw [modifyNth_modifyNth] <;>
      simp only [ih]

theorem Node.set_get_self {S : Node} {a : Addr} {X : Node} (h : S.get? a = some X) : S.set a X = S := by
  induction a generalizing S with
  | nil => simp at h; simp [h]
  | cons i rest ih =>
    rw [Node.get?_cons] at h
    cases hc : S.children[i]? with
    | none => simp [hc] at h
    | some c =>
      simp only [hc, Option.bind_some] at h
      cases S <;> simp only [Node.children] at hc <;> simp only [Node.set] <;>
        first
        | (congr 1; apply modifyNth_id; intro c' hc'; rw [hc] at hc'; cases hc'; exact ih h)
        | simp at hc

theorem Node.set_append {S : Node} {a : Addr} {X : Node} (h : S.get? a = some X) (b : Addr) (Y : Node) :
    S.set (a ++ b) Y = S.set a (X.set b Y) := by
  induction a generalizing S with
  | nil => simp at h; simp [h]
  | cons i rest ih =>
    rw [Node.get?_cons] at h
    cases hc : S.children[i]? with
    | none => simp [hc] at h
    | some c =>
      simp only [hc, Option.bind_some] at h
      cases S <;> simp only [Node.children] at hc <;> simp only [List.cons_append, Node.set] <;>
        first
        | (congr 1; apply modifyNth_congr; intro c' hc'; rw [hc] at hc'; cases hc'; exact ih h)
        | simp at hc

theorem Node.get?_set_self' {S : Node} {a : Addr} {X : Node} (h : S.get? a = some X) (Y : Node) :
    (S.set a Y).get? a = some Y :=
  Node.get?_set_same S a Y (by rw [h]; rfl)

@[simp] theorem Node.get?_msg_cons (t : List Bool) (ps : List Node) (i : Nat) (rest : Addr) :
    (Node.msg t ps).get? (i :: rest) = (ps[i]?).bind (fun c => c.get? rest) :=
  Node.get?_cons _ _ _

@[simp] theorem Node.get?_list_cons (xs : List Node) (i : Nat) (rest : Addr) :
    (Node.list xs).get? (i :: rest) = (xs[i]?).bind (fun c => c.get? rest) :=
  Node.get?_cons _ _ _

theorem Node.set_msg_cons (t : List Bool) (ps : List Node) (i : Nat) (rest : Addr) (v c : Node)
    (h : ps[i]? = some c) : (Node.msg t ps).set (i :: rest) v = .msg t (ps.set i (c.set rest v)) := by
  simp only [Node.set]; rw [modifyNth_eq_set _ _ _ _ h]

theorem Node.set_list_cons (xs : List Node) (i : Nat) (rest : Addr) (v c : Node)
    (h : xs[i]? = some c) : (Node.list xs).set (i :: rest) v = .list (xs.set i (c.set rest v)) := by
  simp only [Node.set]; rw [modifyNth_eq_set _ _ _ _ h]

theorem Node.set_list_concat (xs : List Node) (x : Node) (rest : Addr) (v : Node) :
    (Node.list (xs ++ [x])).set (xs.length :: rest) v = .list (xs ++ [x.set rest v]) := by
  simp only [Node.set]; rw [modifyNth_concat_length]

theorem Node.get?_list_concat (xs : List Node) (x : Node) (rest : Addr) :
    (Node.list (xs ++ [x])).get? (xs.length :: rest) = x.get? rest := by
  rw [Node.get?_list_cons, List.getElem?_concat_length]; rfl

theorem Node.get?_msg_list_last (t : List Bool) (ps : List Node) (i : Nat) (xs : List Node) (x : Node)
    (h : ps[i]? = some (.list (xs ++ [x]))) : (Node.msg t ps).get? [i, xs.length] = some x := by
  rw [Node.get?_msg_cons, h, Option.bind_some, Node.get?_list_concat]; rfl

theorem Node.set_msg_list_last (t : List Bool) (ps : List Node) (i : Nat) (xs : List Node) (x v : Node)
    (h : ps[i]? = some (.list (xs ++ [x]))) :
    (Node.msg t ps).set [i, xs.length] v = .msg t (ps.set i (.list (xs ++ [v]))) := by
  rw [Node.set_msg_cons _ _ _ _ _ _ h, Node.set_list_concat, Node.set_nil]

theorem Node.get?_msg_single (t : List Bool) (ps : List Node) (i : Nat) (x : Node)
    (h : ps[i]? = some x) : (Node.msg t ps).get? [i] = some x := by
  rw [Node.get?_msg_cons, h]; rfl

theorem Node.set_msg_single (t : List Bool) (ps : List Node) (i : Nat) (x v : Node)
    (h : ps[i]? = some x) : (Node.msg t ps).set [i] v = .msg t (ps.set i v) := by
  rw [Node.set_msg_cons _ _ _ _ _ _ h, Node.set_nil]

/-- started in any tree whose subtree at `a` is `X`, `m` returns `r` and leaves `X'` at `a` -/
def Exact {α : Type} (m : M α) (a : Addr) (X : Node) (r : α) (X' : Node) : Prop :=
  ∀ S, S.get? a = some X → m S = .ok (r, S.set a X')

namespace Exact
variable {α β : Type}

theorem pure {a : Addr} {X : Node} {r : α} : Exact (Pure.pure r : M α) a X r X := by
  intro S hS; rw [Node.set_get_self hS]; rfl

theorem bind {m : M α} {k : α → M β} {a : Addr} {X X1 X2 : Node} {r : α} {r' : β}
    (h1 : Exact m a X r X1) (h2 : Exact (k r) a X1 r' X2) : Exact (m >>= k) a X r' X2 := by
  intro S hS
  rw [M.bind_apply, h1 S hS]
  show k r (S.set a X1) = _
  rw [h2 _ (Node.get?_set_self' hS X1), Node.set_set]

theorem conv {m : M α} {a : Addr} {X X1 X1' : Node} {r : α}
    (h : Exact m a X r X1) (e : X1 = X1') : Exact m a X r X1' := e ▸ h

theorem conv_res {m : M α} {a : Addr} {X X1 : Node} {r r' : α}
    (h : Exact m a X r X1) (e : r = r') : Exact m a X r' X1 := e ▸ h

theorem congr {m m' : M α} {a : Addr} {X X1 : Node} {r : α}
    (h : Exact m a X r X1) (e : m' = m) : Exact m' a X r X1 := e ▸ h

theorem lift {m : M α} {a b : Addr} {X Y Y' : Node} {r : α}
    (h : Exact m (a ++ b) Y r Y') (hX : X.get? b = some Y) : Exact m a X r (X.set b Y') := by
  intro S hS
  have : S.get? (a ++ b) = some Y := by rw [Node.get?_append, hS]; exact hX
  rw [h S this, Node.set_append hS]

theorem lift' {m : M α} {a b : Addr} {X Y Y' X' : Node} {r : α}
    (h : Exact m (a ++ b) Y r Y') (hX : X.get? b = some Y) (e : X.set b Y' = X') : Exact m a X r X' :=
  (h.lift hX).conv e

theorem getNode {a b : Addr} {X Y : Node} (h : X.get? b = some Y) :
    Exact (J5V.Walker.getNode (a ++ b)) a X Y X := by
  intro S hS
  have : S.get? (a ++ b) = some Y := by rw [Node.get?_append, hS]; exact h
  rw [getNode_apply, this, Node.set_get_self hS]

theorem getNode_self {a : Addr} {X : Node} : Exact (J5V.Walker.getNode a) a X X X := by
  intro S hS
  rw [getNode_apply, hS, Node.set_get_self hS]

theorem setNode {a b : Addr} {X : Node} (v : Node) :
    Exact (J5V.Walker.setNode (a ++ b) v) a X () (X.set b v) := by
  intro S hS
  rw [setNode_apply, Node.set_append hS]

theorem setNode_self {a : Addr} {X : Node} (v : Node) : Exact (J5V.Walker.setNode a v) a X () v := by
  intro S _; rfl

theorem liftRes {a : Addr} {X : Node} {r : α} {res : Res α} (h : res = .ok r) :
    Exact (M.lift res) a X r X := by
  subst h; exact Exact.pure

theorem mapErr {m : M α} {a : Addr} {X X1 : Node} {r : α} (h : Exact m a X r X1) (g : WErr → WErr) :
    Exact (m.mapErr g) a X r X1 := by
  intro S hS; rw [M.mapErr_apply, h S hS]

theorem addPosition {m : M α} {a : Addr} {X X1 : Node} {r : α} (h : Exact m a X r X1)
    (p : J5V.Bcl.Span) : Exact (m.addPosition p) a X r X1 := h.mapErr _

theorem tryCatch {m : M α} {a : Addr} {X X1 : Node} {r : α} (h : Exact m a X r X1)
    (g : WErr → M α) : Exact (m.tryCatch g) a X r X1 := by
  intro S hS; show (match m S with | .ok r => Res.ok r | .err e => g e S | .panic w => .panic w) = _
  rw [h S hS]

theorem ite_pos {c : Prop} [Decidable c] {m1 m2 : M α} {a : Addr} {X X1 : Node} {r : α}
    (hc : c) (h : Exact m1 a X r X1) : Exact (if c then m1 else m2) a X r X1 := by
  rw [if_pos hc]; exact h

theorem ite_neg {c : Prop} [Decidable c] {m1 m2 : M α} {a : Addr} {X X1 : Node} {r : α}
    (hc : ¬ c) (h : Exact m2 a X r X1) : Exact (if c then m1 else m2) a X r X1 := by
  rw [if_neg hc]; exact h

theorem lift_prop {m : M α} {a : Addr} {t : List Bool} {vs : List Node} {i : Nat} {Y Y' : Node} {r : α}
    (hv : vs[i]? = some Y) (h : Exact m (a ++ [i]) Y r Y') :
    Exact m a (.msg t vs) r (.msg t (vs.set i Y')) :=
  (h.lift (X := .msg t vs) (Node.get?_msg_single t vs i Y hv)).conv (Node.set_msg_single t vs i Y Y' hv)

theorem lift_elem {m : M α} {a : Addr} {t : List Bool} {vs : List Node} {i : Nat} {xs : List Node}
    {E E' : Node} {r : α}
    (hv : vs[i]? = some (.list (xs ++ [E]))) (h : Exact m (a ++ [i, xs.length]) E r E') :
    Exact m a (.msg t vs) r (.msg t (vs.set i (.list (xs ++ [E'])))) :=
  (h.lift (X := .msg t vs) (Node.get?_msg_list_last t vs i xs E hv)).conv
    (Node.set_msg_list_last t vs i xs E E' hv)

theorem run_root {m : M α} {X X' : Node} {r : α} (h : Exact m [] X r X') : m X = .ok (r, X') := by
  have := h X (by simp); simpa using this

end Exact

/-!
## Lenses — how a subtree sits in a larger one

`Lens F b`: `F Y` is a tree whose subtree at `b` is `Y`, and writing `Y'` there gives `F Y'`.
`Exact.lens`: a run inside the subtree is a run inside the tree. Composition (`Lens.comp`), a message
slot (`Lens.slot`), the last element of a list (`Lens.last`).
-/

structure Lens (F : Node → Node) (b : Addr) : Prop where
  get : ∀ Y, (F Y).get? b = some Y
  set : ∀ Y Y', (F Y).set b Y' = F Y'

theorem Lens.id : Lens (fun Y => Y) [] := ⟨fun Y => Node.get?_nil Y, fun Y Y' => Node.set_nil Y Y'⟩

theorem Lens.comp {F G : Node → Node} {b1 b2 : Addr} (h1 : Lens F b1) (h2 : Lens G b2) :
    Lens (fun Y => F (G Y)) (b1 ++ b2) where
  get := fun Y => by rw [Node.get?_append, h1.get, Option.bind_some, h2.get]
  set := fun Y Y' => by rw [Node.set_append (h1.get _), h2.set, h1.set]

theorem Lens.slot (t : List Bool) (vs : List Node) {i : Nat} (hlt : i < vs.length) :
    Lens (fun Y => Node.msg t (vs.set i Y)) [i] where
  get := fun Y => Node.get?_msg_single _ _ _ _ (by rw [List.getElem?_set_self hlt])
  set := fun Y Y' => by
    rw [Node.set_msg_single _ _ _ Y _ (by rw [List.getElem?_set_self hlt]), List.set_set]

theorem Lens.last (xs : List Node) : Lens (fun Y => Node.list (xs ++ [Y])) [xs.length] where
  get := fun Y => by rw [Node.get?_list_concat]; rfl
  set := fun Y Y' => by rw [Node.set_list_concat, Node.set_nil]

theorem Exact.lens {α : Type} {m : M α} {F : Node → Node} {a b : Addr} {Y Y' : Node} {r : α}
    (hl : Lens F b) (h : Exact m (a ++ b) Y r Y') : Exact m a (F Y) r (F Y') :=
  (h.lift (hl.get Y)).conv (hl.set Y Y')

end J5V.Walker
