import J5V.Walker.PP.FieldInline
/-!
# The elements of a file other than `entity`: `object`, `oneof`, `enum`, `service`, `topic`

A declaration block `kw NAME { body }` appends one member of the oneof `RootElement` (or `NestedSchema`) to an array
(`memberDecl_appends`); each element kind supplies the segments of its body (`Fills`). `elem_appends`: every such
element appends its message to `elements`. The numbers in `Appends j5Env rootScope [] 3`, `[3, xs.length, 4]` … are
slots: the index of the `pi_` fact passed beside them. `(by rfl)` for a `disjointKeys` argument delays the check until
the key lists are known.
-/
namespace J5V.Walker
open J5V.Bcl

/-!
## Declarations — `object` (with nested objects), `oneof`, `enum` elements

The keyword of a declaration block is an alias `kw → [arr, member]` of the enclosing block (top level:
`elements.object`; in an object: `schemas.object`).
-/

theorem declHead_exact {kw : Str} {sD : Schema} {specD : BlockSpec} (d : Addr) {isOpt pres : Bool}
    (hname : specD.name = some ⟨wName, none, none, isOpt, false⟩) (hts : specD.typeSelect = none)
    (hna : blockPath wName sD specD = some [wName]) {j : Nat}
    (hpiN : propInfo j5Env sD wName = some (j, none, .scalar (.scalar .string) pres)) (hdD : sD.namesDistinct = true)
    {name : Str} (hid : isIdent name = true) (isOpen : Bool) :
    Exact (doBlockHead j5Env (Scope.newChild (cfOf sD specD d)) specD
      ⟨refOf [kw], [nameTag name], [], none, isOpen, src0⟩) d (freshMsg sD)
      (Scope.newChild (cfOf sD specD d)) (mkMsgS sD [(wName, storeNode pres (.str name))]) :=
  doBlockHead_exact (spec2 := specD) rfl
    (walkTags_name hname hts (nameTag_exactS hdD (findBlock_head hna) hpiN hid)) (walkQualifiers_nil)

/-- a named declaration block `kw NAME { body }` appended to an array of oneofs, the member `member` selected: the body
fills the declaration after its name -/
theorem memberDecl_appends {sc : Scope} {kw : Str} (hkw : isAscii kw = true)
    {s : Schema} {spec : BlockSpec} {c : Addr} {arr member : Str} {i k : Nat} {sE sD : Schema}
    {specE specD : BlockSpec} {og : Option (Str × List Nat)}
    (hfb : findBlock kw sc.blockSet = some (cfOf s spec c, [arr, member]))
    (hpiA : propInfo j5Env s arr = some (i, none, .arrayOfContainer sE))
    (hpiM : propInfo j5Env sE member = some (k, og, .container sD))
    (hspecE : ∀ c, specOf j5Env ⟨c, .msg sE⟩ = .ok specE) (hspecD : ∀ c, specOf j5Env ⟨c, .msg sD⟩ = .ok specD)
    (hdE : sE.namesDistinct = true) (hdD : sD.namesDistinct = true) {isOpt pres : Bool}
    (hname : specD.name = some ⟨wName, none, none, isOpt, false⟩) (hts : specD.typeSelect = none)
    (hna : blockPath wName sD specD = some [wName]) {j : Nat}
    (hpiN : propInfo j5Env sD wName = some (j, none, .scalar (.scalar .string) pres))
    {name : Str} (hid : isIdent name = true) {nm : Node} (hnm : storeNode pres (.str name) = nm)
    {ks : List Str} {body : List Statement} {new : List (Str × Node)}
    (hbody : ∀ d, Fills (Scope.newChild (cfOf sD specD d)) d (mkMsgS sD) ks body new)
    (hks : disjointKeys [wName] ks = true) :
    Appends j5Env sc c i (blockStmt kw [nameTag name] [] true body)
      (mkMsgS sE [(member, mkMsgS sD ((wName, nm) :: new))]) := by
  subst hnm
  intro xs t vs ht hv
  exact arrayMemberBlock_exact hkw hfb hpiA hpiM (hspecE _) (hspecD _) ht hv hdE
    (declHead_exact _ hname hts hna hpiN hdD hid true) ((hbody _).run (.single _ _) hks)

/-- a named declaration block `kw NAME { body }` appended to the array-of-containers property `arr` -/
theorem arrayDecl_appends {sc : Scope} {kw : Str} (hkw : isAscii kw = true)
    {s : Schema} {spec : BlockSpec} {c : Addr} {arr : Str} {i : Nat} {sD : Schema} {specD : BlockSpec}
    (hfb : findBlock kw sc.blockSet = some (cfOf s spec c, [arr]))
    (hpiA : propInfo j5Env s arr = some (i, none, .arrayOfContainer sD))
    (hspecD : ∀ c, specOf j5Env ⟨c, .msg sD⟩ = .ok specD) (hdD : sD.namesDistinct = true) {isOpt pres : Bool}
    (hname : specD.name = some ⟨wName, none, none, isOpt, false⟩) (hts : specD.typeSelect = none)
    (hna : blockPath wName sD specD = some [wName]) {j : Nat}
    (hpiN : propInfo j5Env sD wName = some (j, none, .scalar (.scalar .string) pres))
    {name : Str} (hid : isIdent name = true) {nm : Node} (hnm : storeNode pres (.str name) = nm) {isOpen : Bool}
    {ks : List Str} {body : List Statement} {new : List (Str × Node)}
    (hbody : ∀ d, Fills (Scope.newChild (cfOf sD specD d)) d (mkMsgS sD) ks body new)
    (hks : disjointKeys [wName] ks = true) :
    Appends j5Env sc c i (blockStmt kw [nameTag name] [] isOpen body) (mkMsgS sD ((wName, nm) :: new)) := by
  subst hnm
  exact arrayBlock_appendsS hkw hfb hpiA hspecD (fun d => declHead_exact d hname hts hna hpiN hdD hid isOpen)
    (.single _ _) hbody hks

theorem rootOneof_eq (kind : Str) (v : Node) : rootOneof j5Env kind v = mkMsgS sRootElement [(kind, v)] :=
  mkMsg_eq_mkMsgS schemaOf_RootElement _

theorem nestedOneof_eq (kind : Str) (v : Node) : nestedOneof j5Env kind v = mkMsgS sNestedSchema [(kind, v)] :=
  mkMsg_eq_mkMsgS schemaOf_NestedSchema _

/-! ## `object NAME { fields nested-objects }` -/

theorem objectMsg_eq (name : Str) (props : List CProperty) (nested : List J5V.Compile.Nested)
    (psm : Option J5V.Compile.Psm) :
    objectMsg j5Env false (.mk name props nested psm) =
      mkMsgS sObject ((wName, sStr name) ::
        (listVal b!"properties" (propsMsg j5Env props) ++ listVal b!"schemas" (nestedMsg j5Env nested))) := by
  simp only [objectMsg, Bool.false_eq_true, if_false]
  exact mkMsg_eq_mkMsgS schemaOf_Object _

theorem objectBody_fills (d : Addr) {props : List CProperty} {nested : List J5V.Compile.Nested}
    (hprops : AppendsAll j5Env (Scope.newChild (objCF d)) d 3 (propsBcl wField props) (propsMsg j5Env props))
    (hnested : AppendsAll j5Env (Scope.newChild (objCF d)) d 5 (nestedBcl nested) (nestedMsg j5Env nested)) :
    Fills (Scope.newChild (objCF d)) d (mkMsgS sObject) ([b!"properties"] ++ [b!"schemas"])
      (propsBcl wField props ++ nestedBcl nested)
      (listVal b!"properties" (propsMsg j5Env props) ++ listVal b!"schemas" (nestedMsg j5Env nested)) :=
  (Fills.list (distinct_of schemaOf_Object) pi_Object_properties hprops).append
    (Fills.list (distinct_of schemaOf_Object) pi_Object_schemas hnested) rfl

theorem props_appendsAll_objCF (d : Addr) {props : List CProperty} (hps : ∀ p ∈ props, PropHas p) :
    AppendsAll j5Env (Scope.newChild (objCF d)) d 3 (propsBcl wField props) (propsMsg j5Env props) :=
  props_appendsAll (kw := wField) (by decide) (findBlock_field_objCF d) pi_Object_properties props hps

/-- an object declaration appends `<object={…}>` wherever `object` is an alias `[arr, object]` -/
def ObjDeclAppends (o : J5V.Compile.ObjDecl) : Prop :=
  ∀ {sc : Scope} {s : Schema} {spec : BlockSpec} {c : Addr} {arr : Str} {i k : Nat} {sE : Schema}
    {specE : BlockSpec} {og : Option (Str × List Nat)},
    findBlock wObject sc.blockSet = some (cfOf s spec c, [arr, wObject]) →
    propInfo j5Env s arr = some (i, none, .arrayOfContainer sE) →
    propInfo j5Env sE wObject = some (k, og, .container sObject) →
    (∀ c, specOf j5Env ⟨c, .msg sE⟩ = .ok specE) → sE.namesDistinct = true →
    Appends j5Env sc c i (objectBcl wObject wField o) (mkMsgS sE [(wObject, objectMsg j5Env false o)])

theorem objectDecl_appends {name : Str} {props : List CProperty} {nested : List J5V.Compile.Nested}
    {psm : Option J5V.Compile.Psm} (hname : isIdent name = true)
    (hprops : ∀ d, AppendsAll j5Env (Scope.newChild (objCF d)) d 3 (propsBcl wField props) (propsMsg j5Env props))
    (hnested : ∀ d, AppendsAll j5Env (Scope.newChild (objCF d)) d 5 (nestedBcl nested) (nestedMsg j5Env nested)) :
    ObjDeclAppends (.mk name props nested psm) := by
  intro sc s spec c arr i k sE specE og hfb hpiA hpiM hspecE hdE
  rw [objectMsg_eq]
  exact memberDecl_appends (kw := wObject) (by decide) hfb hpiA hpiM hspecE specOf_Object hdE
    (distinct_of schemaOf_Object) (show specObject.name = some ⟨wName, none, none, false, false⟩ by decide +kernel)
    (show specObject.typeSelect = none by decide +kernel) rfl pi_Object_name hname (storeNode_str _)
    (fun d => objectBody_fills d (hprops d) (hnested d)) rfl

theorem objectDecl_appends_of {name : Str} {props : List CProperty} {nested : List J5V.Compile.Nested}
    {psm : Option J5V.Compile.Psm} (hname : isIdent name = true) (hps : ∀ p ∈ props, PropHas p)
    (hnested : ∀ d, AppendsAll j5Env (Scope.newChild (objCF d)) d 5 (nestedBcl nested) (nestedMsg j5Env nested)) :
    ObjDeclAppends (.mk name props nested psm) :=
  objectDecl_appends hname (fun d => props_appendsAll_objCF d hps) hnested

theorem ObjDeclAppends.root {o : J5V.Compile.ObjDecl} (h : ObjDeclAppends o) :
    Appends j5Env rootScope [] 3 (elemBcl (.object o)) (elemMsg j5Env (.object o)) := by
  show Appends _ _ _ _ _ (rootOneof j5Env wObject (objectMsg j5Env false o))
  rw [rootOneof_eq]
  exact h (sc := rootScope) (findBlock_head rfl) pi_SourceFile_elements pi_RootElement_object specOf_RootElement
    (distinct_of schemaOf_RootElement)

mutual
def objDeclOk6 : J5V.Compile.ObjDecl → Bool
  | .mk name props nested psm => isIdent name && psm.isNone && propsOk5 props && nestedOk6 nested

def nestedOk6 : List J5V.Compile.Nested → Bool
  | [] => true
  | .object o :: rest => objDeclOk6 o && nestedOk6 rest
  | _ :: _ => false
end

theorem findBlock_object_objCF (d : Addr) :
    findBlock wObject (Scope.newChild (objCF d)).blockSet = some (objCF d, [b!"schemas", wObject]) :=
  findBlock_head rfl

mutual
theorem objDecl6 : (o : J5V.Compile.ObjDecl) → objDeclOk6 o = true → ObjDeclAppends o
  | .mk name props nested psm, h => by
    simp only [objDeclOk6, Bool.and_eq_true] at h
    exact objectDecl_appends_of h.1.1.1 (propsHas5 props h.1.2) (nested6 nested h.2)

theorem nested6 : (ns : List J5V.Compile.Nested) → nestedOk6 ns = true →
    ∀ d, AppendsAll j5Env (Scope.newChild (objCF d)) d 5 (nestedBcl ns) (nestedMsg j5Env ns)
  | [], _ => fun _ => .nil
  | .object o :: rest, h => by
    simp only [nestedOk6, Bool.and_eq_true] at h
    intro d
    simp only [nestedBcl, nestedMsg]
    refine .cons ?_ (nested6 rest h.2 d)
    rw [nestedOneof_eq]
    exact objDecl6 o h.1 (findBlock_object_objCF d) pi_Object_schemas pi_NestedSchema_object
      specOf_NestedSchema (distinct_of schemaOf_NestedSchema)
  | .oneof _ :: _, h => by simp [nestedOk6] at h
  | .enum _ :: _, h => by simp [nestedOk6] at h
end

/-! ## `oneof NAME { options }` -/

/-- a oneof declaration appends `<oneof={…}>` wherever `oneof` is an alias `[arr, oneof]` -/
theorem oneofDecl_appendsG {name : Str} {props : List CProperty} {psm : Option J5V.Compile.Psm}
    (hname : isIdent name = true) (hps : ∀ p ∈ props, PropHas p)
    {sc : Scope} {s : Schema} {spec : BlockSpec} {c : Addr} {arr : Str} {i k : Nat} {sE : Schema}
    {specE : BlockSpec} {og : Option (Str × List Nat)}
    (hfb : findBlock wOneof sc.blockSet = some (cfOf s spec c, [arr, wOneof]))
    (hpiA : propInfo j5Env s arr = some (i, none, .arrayOfContainer sE))
    (hpiM : propInfo j5Env sE wOneof = some (k, og, .container sOneofDecl))
    (hspecE : ∀ c, specOf j5Env ⟨c, .msg sE⟩ = .ok specE) (hdE : sE.namesDistinct = true) :
    Appends j5Env sc c i (objectBcl wOneof wOption (.mk name props [] psm))
      (mkMsgS sE [(wOneof, objectMsg j5Env true (.mk name props [] psm))]) := by
  have hd := distinct_of schemaOf_OneofDecl
  simp only [objectMsg, if_true]
  rw [mkMsg_eq_mkMsgS schemaOf_OneofDecl]
  exact memberDecl_appends (kw := wOneof) (by decide) hfb hpiA hpiM hspecE specOf_OneofDecl hdE hd
    (show specOneofDecl.name = some ⟨wName, none, none, false, false⟩ by decide +kernel) (show specOneofDecl.typeSelect = none by decide +kernel)
    rfl pi_OneofDecl_name hname (storeNode_str _)
    (fun d => (Fills.list hd pi_OneofDecl_properties (props_appendsAll (kw := wOption) (by decide)
      (sc := Scope.newChild (cfOf sOneofDecl specOneofDecl d)) (findBlock_head rfl) pi_OneofDecl_properties props
      hps)).append (Fills.nil [b!"schemas"]) rfl) rfl

theorem oneofDecl_appends {name : Str} {props : List CProperty} {psm : Option J5V.Compile.Psm}
    (hname : isIdent name = true) (hps : ∀ p ∈ props, PropHas p) :
    Appends j5Env rootScope [] 3 (elemBcl (.oneof (.mk name props [] psm)))
      (elemMsg j5Env (.oneof (.mk name props [] psm))) := by
  show Appends _ _ _ _ _ (rootOneof j5Env wOneof _)
  rw [rootOneof_eq]
  exact oneofDecl_appendsG hname hps (sc := rootScope) (findBlock_head rfl) pi_SourceFile_elements
    pi_RootElement_oneof specOf_RootElement (distinct_of schemaOf_RootElement)

/-! ## `enum NAME { prefix = "…" option A … }` -/

abbrev enumCF (d : Addr) : ContainerField := cfOf sSEnum specSEnum d

theorem option_appends (d : Addr) {o : Str} (ho : isIdent o = true) :
    Appends j5Env (Scope.newChild (enumCF d)) d 3 (optionBcl o) (enumOptionMsg j5Env o) :=
  appends_of_entry (findBlock_head rfl) pi_SEnum_options specOf_EnumOption fun hl hcb =>
    optionBlock_exact ho hl hcb

theorem enumBody_fills (d : Addr) {pfx : Str} {opts : List Str} (hpfx : okString pfx = true)
    (hopts : opts.all isIdent = true) :
    Fills (Scope.newChild (enumCF d)) d (mkMsgS sSEnum) ([b!"prefix"] ++ [b!"options"])
      ((if pfx = [] then [] else [assignStmt [b!"prefix"] (strValue pfx)]) ++ opts.map optionBcl)
      (optVal (pfx != []) b!"prefix" (sStr pfx) ++ listVal b!"options" (opts.map (enumOptionMsg j5Env))) :=
  (Fills.optStr (by decide) (distinct_of schemaOf_SEnum) (findBlock_head rfl) pi_SEnum_prefix hpfx).append
    (Fills.list (distinct_of schemaOf_SEnum) pi_SEnum_options
      (appendsAll_map _ _ _ (fun o ho => option_appends d (List.all_eq_true.mp hopts o ho)))) rfl

/-- an enum declaration appends `<enum={…}>` wherever `enum` is an alias `[arr, enum]` -/
theorem enumDecl_appendsG {e : J5V.Compile.EnumDecl} (he : enumDeclOk true e = true)
    {sc : Scope} {s : Schema} {spec : BlockSpec} {c : Addr} {arr : Str} {i k : Nat} {sE : Schema}
    {specE : BlockSpec} {og : Option (Str × List Nat)}
    (hfb : findBlock wEnum sc.blockSet = some (cfOf s spec c, [arr, wEnum]))
    (hpiA : propInfo j5Env s arr = some (i, none, .arrayOfContainer sE))
    (hpiM : propInfo j5Env sE wEnum = some (k, og, .container sSEnum))
    (hspecE : ∀ c, specOf j5Env ⟨c, .msg sE⟩ = .ok specE) (hdE : sE.namesDistinct = true) :
    Appends j5Env sc c i (enumBcl e) (mkMsgS sE [(wEnum, enumMsg j5Env e)]) := by
  obtain ⟨name, pfx, opts⟩ := e
  simp only [enumDeclOk, if_true, Bool.and_eq_true] at he
  obtain ⟨⟨hname, hpfx⟩, hopts⟩ := he
  have hne : (name != []) = true := by
    cases name with
    | nil => cases hname
    | cons c cs => rfl
  simp only [enumMsg]
  rw [mkMsg_eq_mkMsgS schemaOf_SEnum, hne]
  exact memberDecl_appends (kw := wEnum) (by decide) hfb hpiA hpiM hspecE specOf_SEnum hdE
    (distinct_of schemaOf_SEnum) (show specSEnum.name = some ⟨wName, none, none, false, false⟩ by decide +kernel)
    (show specSEnum.typeSelect = none by decide +kernel) rfl pi_SEnum_name hname (storeNode_str _)
    (fun d => enumBody_fills d hpfx hopts) rfl

theorem enumDecl_appends {e : J5V.Compile.EnumDecl} (he : enumDeclOk true e = true) :
    Appends j5Env rootScope [] 3 (elemBcl (.enum e)) (elemMsg j5Env (.enum e)) := by
  show Appends _ _ _ _ _ (rootOneof j5Env wEnum _)
  rw [rootOneof_eq]
  exact enumDecl_appendsG he (sc := rootScope) (findBlock_head rfl) pi_SourceFile_elements pi_RootElement_enum
    specOf_RootElement (distinct_of schemaOf_RootElement)

mutual
theorem objDeclOk6_eq : (o : J5V.Compile.ObjDecl) → objDeclOk6 o = objDeclOk j5Env false o
  | .mk name props nested psm => by
    simp only [objDeclOk6, objDeclOk, Bool.false_eq_true, if_false, propsOk5_eq props, nestedOk6_eq nested]

theorem nestedOk6_eq : (ns : List J5V.Compile.Nested) → nestedOk6 ns = nestedOk j5Env true ns
  | [] => rfl
  | .object o :: rest => by simp only [nestedOk6, nestedOk, objDeclOk6_eq o, nestedOk6_eq rest]
  | .oneof _ :: _ => by simp only [nestedOk6, nestedOk, Bool.not_true, Bool.false_and]
  | .enum _ :: _ => by simp only [nestedOk6, nestedOk, Bool.not_true, Bool.false_and]
end

theorem objDeclOk6_of_objDeclOk : (o : J5V.Compile.ObjDecl) → objDeclOk j5Env false o = true → objDeclOk6 o = true :=
  fun o h => (objDeclOk6_eq o).symm ▸ h

theorem nestedOk_of_nestedOk6 : (ns : List J5V.Compile.Nested) → nestedOk6 ns = true → nestedOk j5Env true ns = true :=
  fun ns h => nestedOk6_eq ns ▸ h

theorem nestedOk6_of_nestedOk : (ns : List J5V.Compile.Nested) → nestedOk j5Env true ns = true → nestedOk6 ns = true :=
  fun ns h => (nestedOk6_eq ns).symm ▸ h

/-! ## `service NAME { basePath = … method … }` -/

theorem verb_scalar (v : J5V.Compile.Verb) :
    scalarFromAST j5Env (.enum b!"j5.client.v1.HTTPMethod") (.value (strValue (verbWord v))) =
      .ok (.enum (verbNumber v)) := by
  rw [j5Env_nf]; cases v <;> decide +kernel

/-- the fields of an anonymous object at `d` -/
theorem anonBody_fills (d : Addr) (props : List CProperty) (hps : ∀ p ∈ props, PropHas p) :
    Fills (Scope.newChild (cfOf sAnonObject specAnonObject d)) d (mkMsgS sAnonObject) [b!"properties"]
      (propsBcl wField props) (listVal b!"properties" (propsMsg j5Env props)) :=
  Fills.list (distinct_of schemaOf_AnonObject) pi_AnonObject_properties (props_appendsAll (kw := wField)
    (by decide) (findBlock_head rfl) pi_AnonObject_properties props hps)

/-- every property list of the covered fragment has the facts -/
theorem propsHas_all {ps : List CProperty} (h : propsOk j5Env ps = true) : ∀ p ∈ ps, PropHas p :=
  propsHas5 ps (propsOk5_of_propsOk ps h)

/-! ## `method NAME { httpMethod = … httpPath = … request { … } [response { … }] }` -/

abbrev serviceCF (d : Addr) : ContainerField := cfOf sService specService d

theorem method_appends (d : Addr) {m : J5V.Compile.Method} (hm : methodOk j5Env m = true) :
    Appends j5Env (Scope.newChild (serviceCF d)) d 3 (methodBcl m) (methodMsg j5Env m) := by
  obtain ⟨name, verb, path, request, response, mopt⟩ := m
  simp only [methodOk, Bool.and_eq_true] at hm
  obtain ⟨⟨⟨⟨⟨hname, _⟩, hpath⟩, _⟩, hreq⟩, hresp⟩ := hm
  cases request with
  | none => cases hreq
  | some reqPs =>
    have hreq' : propsOk j5Env reqPs = true := hreq
    have hd := distinct_of schemaOf_APIMethod
    rw [methodMsg, mkMsg_eq_mkMsgS schemaOf_APIMethod, ← storeNode_enum]
    have anon : ∀ {kw : Str} {i : Nat} (ps : List CProperty), isAscii kw = true → propsOk j5Env ps = true →
        blockPath kw sAPIMethod specAPIMethod = some [kw] →
        propInfo j5Env sAPIMethod kw = some (i, none, .container sAnonObject) → ∀ dm,
        Fills (Scope.newChild (cfOf sAPIMethod specAPIMethod dm)) dm (mkMsgS sAPIMethod) [kw] [anonBcl kw ps]
          [(kw, anonMsg j5Env ps)] :=
      fun ps hkw hps hp hpi dm => by
        rw [anonMsg, mkMsg_eq_mkMsgS schemaOf_AnonObject]
        exact Fills.cont hkw hd (findBlock_head hp) hpi specOf_AnonObject
          (noHead_exact _ (by decide +kernel) (by decide +kernel) true) (.nil []) (anonBody_fills _ ps (propsHas_all hps))
          (by rfl)
    have lines := fun dm => ((Fills.attr (sc := Scope.newChild (cfOf sAPIMethod specAPIMethod dm)) (n := b!"httpMethod")
        (by decide) hd (findBlock_head rfl) pi_APIMethod_httpMethod (asArray_strValue _) (verb_scalar verb)).append
      (Fills.str (n := b!"httpPath") (by decide) hd (findBlock_head rfl) pi_APIMethod_httpPath hpath) rfl).append
      (anon reqPs (by decide) hreq' rfl pi_APIMethod_request dm) rfl
    have decl := fun {ks body new} => arrayDecl_appends (kw := b!"method") (sc := Scope.newChild (serviceCF d))
      (c := d) (ks := ks) (body := body) (new := new) (by decide) (findBlock_head rfl) pi_Service_methods
      specOf_APIMethod hd (isOpen := true)
      (show specAPIMethod.name = some ⟨wName, none, none, true, false⟩ by decide +kernel)
      (show specAPIMethod.typeSelect = none by decide +kernel) rfl pi_APIMethod_name hname (storeNode_str _)
    cases response with
    | none => exact decl (fun dm => (lines dm).append (Fills.nil []) rfl) (by rfl)
    | some respPs =>
      exact decl (fun dm => (lines dm).append (anon respPs (by decide) hresp rfl pi_APIMethod_response dm) rfl)
        (by rfl)

/-! ## `service NAME { [basePath = "…"] methods }` -/

theorem serviceTail_fills (d : Addr) {bp : Option Str} {methods : List J5V.Compile.Method}
    (hbp : ∀ p, bp = some p → okString p = true) (hms : methods.all (methodOk j5Env) = true) :
    Fills (Scope.newChild (serviceCF d)) d (mkMsgS sService) ([b!"basePath"] ++ [b!"methods"])
      ((match (generalizing := false) bp with
        | none => []
        | some p => [assignStmt [b!"basePath"] (strValue p)]) ++ methods.map methodBcl)
      ((match (generalizing := false) bp with
        | none => []
        | some p => [(b!"basePath", pStr p)]) ++ listVal b!"methods" (methods.map (methodMsg j5Env))) := by
  have hd := distinct_of schemaOf_Service
  refine Fills.append ?_ (Fills.list hd pi_Service_methods
    (appendsAll_map _ _ _ (fun m hm => method_appends d (List.all_eq_true.mp hms m hm)))) rfl
  cases bp with
  | none => exact Fills.nil _
  | some p => exact Fills.pstr (by decide) hd (findBlock_head rfl) pi_Service_basePath (hbp p rfl)

theorem service_appends {sv : J5V.Compile.Service} (hs : serviceOk j5Env true sv = true) :
    Appends j5Env rootScope [] 3 (elemBcl (.service sv)) (elemMsg j5Env (.service sv)) := by
  obtain ⟨name, basePath, methods, sopt⟩ := sv
  simp only [serviceOk, Bool.and_eq_true] at hs
  obtain ⟨⟨⟨_, hname⟩, hbp⟩, hms⟩ := hs
  cases name with
  | none => simp at hname
  | some n =>
    have hn : isIdent n = true := by simpa using hname
    have hne : (n != []) = true := by
      cases n with
      | nil => cases hn
      | cons c cs => rfl
    show Appends _ _ _ _ _ (rootOneof j5Env b!"service" (serviceMsg j5Env ⟨some n, basePath, methods, sopt⟩))
    rw [rootOneof_eq, serviceMsg, mkMsg_eq_mkMsgS schemaOf_Service]
    simp only [Option.getD_some, hne]
    exact memberDecl_appends (kw := b!"service") (by decide) (findBlock_head rfl) pi_SourceFile_elements
      pi_RootElement_service specOf_RootElement specOf_Service (distinct_of schemaOf_RootElement)
      (distinct_of schemaOf_Service)
      (show specService.name = some ⟨wName, none, none, true, false⟩ by decide +kernel)
      (show specService.typeSelect = none by decide +kernel) rfl pi_Service_name hn rfl
      (fun d => serviceTail_fills d (bp := basePath) (fun p hp => by subst hp; exact hbp) hms) (by rfl)

/-!
## `topic NAME KIND { message|request|reply [NAME] { fields } }`
-/

/-! ## `message [NAME] { fields }` -/

abbrev tmCF (d : Addr) : ContainerField := cfOf sTopicMethod specTopicMethod d

theorem topicFields_fills (d : Addr) {props : List CProperty} (hps : propsOk j5Env props = true) :
    Fills (Scope.newChild (tmCF d)) d (mkMsgS sTopicMethod) [b!"fields"] (propsBcl wField props)
      (listVal b!"fields" (propsMsg j5Env props)) :=
  Fills.list (distinct_of schemaOf_TopicMethod) pi_TopicMethod_fields (props_appendsAll (kw := wField) (by decide)
    (findBlock_head rfl) pi_TopicMethod_fields props (propsHas_all hps))

theorem topicMethodHead_exact (kw : Str) (d : Addr) {name : Option Str}
    (hname : ∀ n, name = some n → isIdent n = true) :
    Exact (doBlockHead j5Env (Scope.newChild (tmCF d)) specTopicMethod
      ⟨refOf [kw], match (generalizing := false) name with | none => [] | some n => [nameTag n], [], none, true, src0⟩) d
      (freshMsg sTopicMethod) (Scope.newChild (tmCF d))
      (mkMsgS sTopicMethod (match (generalizing := false) name with | none => [] | some n => [(wName, pStr n)])) := by
  have hsn : specTopicMethod.name = some ⟨wName, none, none, true, false⟩ := by decide +kernel
  cases name with
  | none => exact emptyHead_exact d hsn rfl true
  | some n =>
    exact declHead_exact d hsn (by decide +kernel) rfl pi_TopicMethod_name (distinct_of schemaOf_TopicMethod)
      (hname n rfl) true

theorem topicName_keys (name : Option Str) :
    KeysIn [wName] (match name with | none => [] | some n => [(wName, pStr n)]) := by
  cases name with
  | none => exact .nil _
  | some n => exact .single _ _

/-- a topic method block appended to an array of `TopicMethod` (`message` of publish, `request` / `reply`) -/
theorem topicMethod_appends {sc : Scope} {kw : Str} (hkw : isAscii kw = true) {s : Schema} {spec : BlockSpec}
    {c : Addr} {arr : Str} {i : Nat}
    (hfb : findBlock kw sc.blockSet = some (cfOf s spec c, [arr]))
    (hpiA : propInfo j5Env s arr = some (i, none, .arrayOfContainer sTopicMethod))
    {m : J5V.Compile.TopicMsg} (hm : topicMsgOk j5Env m = true) :
    Appends j5Env sc c i (topicMsgBcl kw m) (topicMsgMsg j5Env m) := by
  obtain ⟨name, props⟩ := m
  simp only [topicMsgOk, Bool.and_eq_true] at hm
  rw [topicMsgMsg, mkMsg_eq_mkMsgS schemaOf_TopicMethod]
  exact arrayBlock_appendsS hkw hfb hpiA specOf_TopicMethod
    (fun d => topicMethodHead_exact kw d (name := name) (fun n hn => by subst hn; exact hm.1)) (topicName_keys name)
    (fun d => topicFields_fills d hm.2) (by rfl)

abbrev topicCF (d : Addr) : ContainerField := cfOf sTopic specTopic d

def topicTypeSpec : Tag := ⟨b!"type", none, none, false, false⟩

/-- the topic block, then the block of its kind (`type.publish` / `.reqres` / `.upsert`) that the type-select tag
entered -/
abbrev topicBodyScope (d : Addr) (sK : Schema) (specK : BlockSpec) (k : Nat) : Scope :=
  (Scope.newChild (topicCF d)).mergeScope (Scope.newChild (cfOf sK specK (d ++ [2, k])))

/-- name tag and kind tag of a topic block: the scope `[topic block, kind block]`, the kind selected -/
theorem topicHead_exact {name w : Str} (hname : isIdent name = true) (hw : isAscii w = true) {k : Nat}
    {sK : Schema} {specK : BlockSpec}
    (hpiK : propInfo j5Env sTopicType w = some (k, some gTopicType, .container sK))
    (hspecK : ∀ c, specOf j5Env ⟨c, .msg sK⟩ = .ok specK)
    (hKn : specK.name = none) (hKt : specK.typeSelect = none)
    (d : Addr) :
    Exact (doBlockHead j5Env (Scope.newChild (topicCF d)) specTopic
      ⟨refOf [b!"topic"], [nameTag name, tagRef .none (refOf [w])], [], none, true, src0⟩) d (freshMsg sTopic)
      (topicBodyScope d sK specK k)
      (mkMsgS sTopic ([(wName, sStr name)] ++ [(b!"type", mkMsgS sTopicType [(w, freshMsg sK)])])) := by
  rw [← storeNode_str]
  exact doBlockHead_exact rfl
    (walkTags_name_type (ns := ⟨wName, none, none, false, false⟩) (typeSpec := topicTypeSpec)
      (show specTopic.name = _ by decide +kernel) (show specTopic.typeSelect = _ by decide +kernel)
      (nameTag_exactS (distinct_of schemaOf_Topic) (findBlock_head rfl) pi_Topic_name hname)
      (selectType_exact (ref := refOf [w]) rfl
        (selectMember_exactS (findBlock_head rfl) pi_Topic_type specOf_TopicType
          (blockPath_prop rfl (propInfo_hasProperty hpiK)) hw hpiK hspecK (distinct_of schemaOf_Topic)
          (distinct_of schemaOf_TopicType) rfl (.inl rfl))
        (checkBang_none rfl))
      (walkTags_nil_none _ _ hKn hKt))
    (walkQualifiers_nil)

theorem topicCF_misses (d : Addr) {n : Str} (h : n = b!"message" ∨ n = b!"request" ∨ n = b!"reply") :
    Misses (topicCF d) n := by
  rcases h with rfl | rfl | rfl <;> exact misses_cfOf rfl

/-- a keyword of the kind block, looked up in the body scope of the topic -/
theorem findBlock_topicBody {d : Addr} {sK : Schema} {specK : BlockSpec} {k : Nat} {kw : Str} {p : PathSpec}
    (hm : kw = b!"message" ∨ kw = b!"request" ∨ kw = b!"reply")
    (h : blockPath kw sK specK = some p) :
    findBlock kw (topicBodyScope d sK specK k).blockSet = some (cfOf sK specK (d ++ [2, k]), p) := by
  show findBlock kw ([topicCF d] ++ [cfOf sK specK (d ++ [2, k])]) = _
  rw [findBlock_skip_all (fun o ho => by
    simp only [List.mem_singleton] at ho; subst ho; exact topicCF_misses d hm)]
  exact findBlock_head h

theorem topic_appends {t : J5V.Compile.Topic} (ht : topicOk j5Env t = true) :
    Appends j5Env rootScope [] 3 (elemBcl (.topic t)) (elemMsg j5Env (.topic t)) := by
  obtain ⟨name, type⟩ := t
  simp only [topicOk, Bool.and_eq_true] at ht
  obtain ⟨hname, htype⟩ := ht
  show Appends _ _ _ _ _ (rootOneof j5Env b!"topic" (topicMsg j5Env ⟨name, type⟩))
  rw [rootOneof_eq, topicMsg, mkMsg_eq_mkMsgS schemaOf_Topic]
  intro xs tt vs htt hvs
  -- the block, given the kind word `w` and how the body fills the message of that kind
  have block : ∀ {w : Str} {k : Nat} {sK : Schema} {specK : BlockSpec} {ks : List Str} {body : List Statement}
      {new : List (Str × Node)}, isAscii w = true →
      propInfo j5Env sTopicType w = some (k, some gTopicType, .container sK) →
      (∀ c, specOf j5Env ⟨c, .msg sK⟩ = .ok specK) → specK.name = none → specK.typeSelect = none →
      sK.namesDistinct = true →
      Fills (topicBodyScope ([] ++ [3, xs.length, 4]) sK specK k) ([] ++ [3, xs.length, 4] ++ [2, k]) (mkMsgS sK) ks
        body new →
      Exact (doStatement j5Env rootScope (blockStmt b!"topic" [nameTag name, tagRef .none (refOf [w])] [] true body))
        [] (.msg tt vs) ()
        (.msg (tt.set 3 true) (vs.set 3 (.list (xs ++ [mkMsgS sRootElement [(b!"topic",
          mkMsgS sTopic [(wName, sStr name), (b!"type", mkMsgS sTopicType [(w, mkMsgS sK new)])])]])))) :=
    fun hw hpiK hspecK hKn hKt hdK hbody =>
      arrayMemberBlock_exact (kw := b!"topic") (by decide) (findBlock_head rfl) pi_SourceFile_elements
        pi_RootElement_topic (specOf_RootElement _) (specOf_Topic _) htt hvs (distinct_of schemaOf_RootElement)
        (topicHead_exact hname hw hpiK hspecK hKn hKt _)
        (Exact.lens (selectMember_lens pi_Topic_type hpiK (distinct_of schemaOf_Topic) (distinct_of schemaOf_TopicType)
          (vals := [(wName, sStr name)]) rfl) hbody.fresh)
  cases type with
  | publish msgs =>
    have hmsgs : msgs.all (topicMsgOk j5Env) = true := htype
    simp only [topicTypeMsg]
    rw [mkMsg_eq_mkMsgS schemaOf_TopicType, mkMsg_eq_mkMsgS schemaOf_TopicPublish]
    exact block (w := b!"publish") (by decide) pi_TopicType_publish specOf_TopicPublish (by decide +kernel)
      (by decide +kernel) (distinct_of schemaOf_TopicPublish)
      (Fills.list (distinct_of schemaOf_TopicPublish) pi_TopicPublish_messages
        (appendsAll_map _ _ _ (fun m hm => topicMethod_appends (by decide) (findBlock_topicBody (.inl rfl) rfl)
          pi_TopicPublish_messages (List.all_eq_true.mp hmsgs m hm))))
  | reqres reqs reps =>
    simp only [Bool.and_eq_true] at htype
    obtain ⟨hreqs, hreps⟩ := htype
    simp only [topicTypeMsg]
    rw [mkMsg_eq_mkMsgS schemaOf_TopicType, mkMsg_eq_mkMsgS schemaOf_TopicReqRes]
    exact block (w := b!"reqres") (by decide) pi_TopicType_reqres specOf_TopicReqRes (by decide +kernel)
      (by decide +kernel) (distinct_of schemaOf_TopicReqRes)
      ((Fills.list (distinct_of schemaOf_TopicReqRes) pi_TopicReqRes_request
        (appendsAll_map _ _ _ (fun m hm => topicMethod_appends (by decide) (findBlock_topicBody (.inr (.inl rfl)) rfl)
          pi_TopicReqRes_request (List.all_eq_true.mp hreqs m hm)))).append
      (Fills.list (distinct_of schemaOf_TopicReqRes) pi_TopicReqRes_reply
        (appendsAll_map _ _ _ (fun m hm => topicMethod_appends (by decide) (findBlock_topicBody (.inr (.inr rfl)) rfl)
          pi_TopicReqRes_reply (List.all_eq_true.mp hreps m hm)))) rfl)
  | upsert en msg =>
    simp only [Bool.and_eq_true, decide_eq_true_eq] at htype
    obtain ⟨_, hmsg⟩ := htype
    obtain ⟨mname, mprops⟩ := msg
    simp only [topicMsgOk, Bool.and_eq_true] at hmsg
    simp only [topicTypeMsg, topicMsgMsg]
    rw [mkMsg_eq_mkMsgS schemaOf_TopicType, mkMsg_eq_mkMsgS schemaOf_TopicUpsert,
      mkMsg_eq_mkMsgS schemaOf_TopicMethod]
    exact block (w := b!"upsert") (by decide) pi_TopicType_upsert specOf_TopicUpsert (by decide +kernel)
      (by decide +kernel) (distinct_of schemaOf_TopicUpsert)
      (Fills.cont (kw := b!"message") (by decide) (distinct_of schemaOf_TopicUpsert)
        (findBlock_topicBody (.inl rfl) rfl) pi_TopicUpsert_message specOf_TopicMethod
        (topicMethodHead_exact b!"message" _ (name := mname) (fun n hn => by subst hn; exact hmsg.1))
        (topicName_keys mname)
        (topicFields_fills _ hmsg.2) (by rfl))
  | event en msg => cases htype

def isEntity : J5V.Compile.Elem → Bool
  | .entity _ => true
  | _ => false

/-- every element of the covered fragment that is not an entity appends its message to `elements` -/
theorem elem_appends {e : J5V.Compile.Elem} (hok : elemOk j5Env e = true) (hne : isEntity e = false) :
    Appends j5Env rootScope [] 3 (elemBcl e) (elemMsg j5Env e) := by
  cases e with
  | object o => exact ObjDeclAppends.root (objDecl6 o (objDeclOk6_of_objDeclOk o hok))
  | oneof o =>
    obtain ⟨name, props, nested, psm⟩ := o
    simp only [elemOk, objDeclOk, Bool.and_eq_true, if_true, List.isEmpty_iff] at hok
    obtain ⟨⟨⟨hname, _⟩, hprops⟩, hnested⟩ := hok
    subst hnested
    exact oneofDecl_appends hname (propsHas_all hprops)
  | enum en => exact enumDecl_appends hok
  | service sv => exact service_appends hok
  | topic t => exact topic_appends hok
  | entity en => cases hne

end J5V.Walker
