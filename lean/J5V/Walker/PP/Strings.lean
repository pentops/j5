import J5V.Walker.Print
import J5V.Bcl.SplitJoin
/-!
# Names and strings of the covered fragment as the walker reads them

ASCII byte strings are their own rune lists: `decodeRunes s = s`, `encodeRunes s = s`. So the string an
identifier tag (`refOf [name]`, `isIdent name`), a dotted reference (`dottedRef s`, `isDotted s`) or a
quoted string (`strValue s`, `okString s`) hands to the walker is the string of the AST.
-/
namespace J5V.Walker
open J5V.Bcl

def isAscii (s : Str) : Bool := s.all fun b => b < 128

theorem decodeRunesFuel_ascii (s : Str) (h : isAscii s = true) (f : Nat) (hf : s.length ≤ f) :
    decodeRunesFuel f s = s := by
  induction s generalizing f with
  | nil => cases f <;> rfl
  | cons b bs ih =>
    cases f with
    | zero => simp at hf
    | succ f =>
      simp only [isAscii, List.all_cons, Bool.and_eq_true, decide_eq_true_eq] at h
      have hb : b < 0x80 := h.1
      simp only [decodeRunesFuel, decodeOne, hb, if_true, List.drop_succ_cons, List.drop_zero]
      rw [ih (by simpa [isAscii] using h.2) f (by simpa using hf)]

theorem decodeRunes_ascii {s : Str} (h : isAscii s = true) : decodeRunes s = s :=
  decodeRunesFuel_ascii s h _ (Nat.le_refl _)

theorem encodeRunes_ascii {s : Str} (h : isAscii s = true) : encodeRunes s = s := by
  induction s with
  | nil => rfl
  | cons b bs ih =>
    simp only [isAscii, List.all_cons, Bool.and_eq_true, decide_eq_true_eq] at h
    have hb : b < 0x80 := h.1
    simp only [encodeRunes, List.flatMap_cons, encodeRune, hb, if_true]
    have := ih (by simpa [isAscii] using h.2)
    simp only [encodeRunes] at this
    rw [this]; rfl

theorem encode_decode_ascii {s : Str} (h : isAscii s = true) : encodeRunes (decodeRunes s) = s := by
  rw [decodeRunes_ascii h, encodeRunes_ascii h]

theorem isAscii_of_okString {s : Str} (h : okString s = true) : isAscii s = true := by
  simp only [okString, List.all_eq_true, Bool.and_eq_true, decide_eq_true_eq] at h
  simp only [isAscii, List.all_eq_true, decide_eq_true_eq]
  exact fun b hb => (h b hb).1

theorem isAscii_of_isIdent {s : Str} (h : isIdent s = true) : isAscii s = true := by
  cases s with
  | nil => cases h
  | cons c rest =>
    simp only [isIdent, Bool.and_eq_true, List.all_eq_true, Bool.or_eq_true, decide_eq_true_eq] at h
    simp only [isAscii, List.all_cons, Bool.and_eq_true, decide_eq_true_eq, List.all_eq_true]
    refine ⟨?_, ?_⟩
    · have := h.1
      simp only [isAsciiLetter, Bool.or_eq_true, Bool.and_eq_true, decide_eq_true_eq] at this
      omega
    · intro b hb
      have := h.2 b hb
      simp only [isAsciiLetter, isAsciiDigit, Bool.or_eq_true, Bool.and_eq_true, decide_eq_true_eq] at this
      omega

theorem isIdent_no_dot {s : Str} (h : isIdent s = true) : ∀ b ∈ s, b ≠ 46 := by
  cases s with
  | nil => cases h
  | cons c rest =>
    simp only [isIdent, Bool.and_eq_true, List.all_eq_true, Bool.or_eq_true, decide_eq_true_eq] at h
    intro b hb
    rcases List.mem_cons.mp hb with rfl | hb
    · have := h.1
      simp only [isAsciiLetter, Bool.or_eq_true, Bool.and_eq_true, decide_eq_true_eq] at this
      omega
    · have := h.2 b hb
      simp only [isAsciiLetter, isAsciiDigit, Bool.or_eq_true, Bool.and_eq_true, decide_eq_true_eq] at this
      omega

theorem isDotted_refString {pkg schema : Str} (hs : isIdent schema = true) (hp : pkg = [] ∨ isDotted pkg = true) :
    isDotted (refString pkg schema) = true := by
  have hid : isDotted schema = true := by
    simp [isDotted, J5V.Compile.splitOnByte_of_not_mem 46 schema (fun hm => isIdent_no_dot hs 46 hm rfl), hs]
  unfold refString
  split
  · exact hid
  · rename_i hne
    rcases hp with hp | hp
    · exact absurd hp hne
    · rw [show pkg ++ [46] ++ schema = pkg ++ 46 :: schema by simp]
      simp only [isDotted, J5V.Compile.splitOnByte_append, List.all_append, Bool.and_eq_true]
      exact ⟨hp, hid⟩

theorem splitOnByte_ne_nil (c : Nat) (s : Str) : J5V.Compile.splitOnByte c s ≠ [] :=
  J5V.Compile.splitOnByte_ne_nil c s

theorem joinWith_cons_cons (sep a : List Nat) (b : List Nat) (rest : List (List Nat)) :
    joinWith sep (a :: b :: rest) = a ++ sep ++ joinWith sep (b :: rest) := rfl

/-- `strings.Join(strings.Split(s, "."), ".") = s` -/
theorem joinWith_splitOnByte (c : Nat) (s : Str) : joinWith [c] (J5V.Compile.splitOnByte c s) = s := by
  rw [joinWith_eq]; exact J5V.Compile.joinWith_splitOnByte c s

theorem isAscii_append {a b : Str} : isAscii (a ++ b) = (isAscii a && isAscii b) := by
  simp [isAscii, List.all_append]

theorem isAscii_joinWith_dot (parts : List Str) (h : ∀ p ∈ parts, isAscii p = true) :
    isAscii (joinWith [46] parts) = true := by
  induction parts with
  | nil => rfl
  | cons a rest ih =>
    cases rest with
    | nil => exact h a (by simp)
    | cons b rest =>
      rw [joinWith_cons_cons, isAscii_append, isAscii_append, h a (by simp),
        ih (fun p hp => h p (List.mem_cons_of_mem _ hp))]
      rfl

theorem isAscii_of_isDotted {s : Str} (h : isDotted s = true) : isAscii s = true := by
  rw [← joinWith_splitOnByte 46 s]
  apply isAscii_joinWith_dot
  intro p hp
  simp only [isDotted, List.all_eq_true] at h
  exact isAscii_of_isIdent (h p hp)

/-- `Reference.String()` of a dotted reference, as a Go string -/
theorem dottedRef_string {s : Str} (h : isDotted s = true) : encodeRunes (dottedRef s).string = s := by
  have hparts : (J5V.Compile.splitOnByte 46 s).map decodeRunes = J5V.Compile.splitOnByte 46 s := by
    simp only [isDotted, List.all_eq_true] at h
    have : (J5V.Compile.splitOnByte 46 s).map decodeRunes = (J5V.Compile.splitOnByte 46 s).map id :=
      List.map_congr_left (fun p hp => decodeRunes_ascii (isAscii_of_isIdent (h p hp)))
    rw [this, List.map_id]
  simp only [dottedRef, refOf, Reference.string, List.map_map]
  have : ((fun x => x.value) ∘ identOf) = decodeRunes := by funext x; rfl
  rw [this, hparts]
  show encodeRunes (joinWith [46] _) = s
  rw [joinWith_splitOnByte, encodeRunes_ascii (isAscii_of_isDotted h)]

/-- `Reference.String()` of a one-identifier reference -/
theorem refOf_single_string {s : Str} (h : isAscii s = true) : encodeRunes (refOf [s]).string = s := by
  show encodeRunes (decodeRunes s) = s
  exact encode_decode_ascii h

theorem combinePath_ident {s : Str} (h : isAscii s = true) (path : PathSpec) :
    combinePath path (refOf [s]).idents = path.map (fun n => ⟨n, none⟩) ++ [⟨s, some Span.zero⟩] := by
  simp only [combinePath, refOf, List.map_cons, List.map_nil, identOf]
  rw [encode_decode_ascii h]

/-- `AsString()` of a tag that is a one-identifier reference -/
theorem asString_tagRef_single {s : Str} (h : isAscii s = true) (mark : TagMark) :
    (AV.tag (tagRef mark (refOf [s]))).asString = some s := by
  simp only [AV.asString, tagRef]
  rw [refOf_single_string h]

theorem asString_tagRef_dotted {s : Str} (h : isDotted s = true) (mark : TagMark) :
    (AV.tag (tagRef mark (dottedRef s))).asString = some s := by
  simp only [AV.asString, tagRef]
  rw [dottedRef_string h]

/-- `AsString()` of a quoted tag -/
theorem asString_tagStr {s : Str} (h : isAscii s = true) : (AV.tag (tagStr s)).asString = some s := by
  simp only [AV.asString, tagStr, strValue, valueAsString, valueToken, tok0]
  rw [encode_decode_ascii h]

/-- `AsString()` of a quoted value -/
theorem asString_strValue {s : Str} (h : isAscii s = true) : (AV.value (strValue s)).asString = some s := by
  simp only [AV.asString, strValue, valueAsString, valueToken, tok0]
  rw [encode_decode_ascii h]

theorem asArray_tag (t : TagValue) : (AV.tag t).asArray = none := rfl
theorem asArray_bool (b : Bool) : (AV.bool b).asArray = none := rfl
theorem asArray_strValue (s : Str) : (AV.value (strValue s)).asArray = none := rfl
theorem asArray_boolValue (b : Bool) : (AV.value (boolValue b)).asArray = none := rfl

theorem asBool_boolValue (b : Bool) : (AV.value (boolValue b)).asBool = some b := by
  cases b <;> rfl

end J5V.Walker
