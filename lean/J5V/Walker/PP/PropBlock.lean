import J5V.Walker.PP.FieldKey
import J5V.Walker.PP.File
import J5V.Walker.PP.FieldRefs
/-!
# The property block over any field with `FieldFacts`

`prop_stmt_exact`: in any scope where the keyword is an alias `kw → [pn]` of an array of
`j5.schema.v1.ObjectProperty` of the block at `c`, the statement `propBcl kw p` appends exactly
`propMsg j5Env p` to that array. The field is given by its `FieldFacts` (so that new field kinds, and the
recursion through inline objects, only have to supply the facts); the block itself is the instance at
`ObjectProperty` of the property-like block (`gBlock_exact`; `g…`: stated for any block schema with `OuterOK`), which
the `key` blocks of an entity share. The aliases of these blocks (`optional → explicitlyOptional`; `primary` / `tenant`
of `EntityKey`) are those of `J5SchemaSpec` in `internal/j5s/j5parse/schema.go`, read off the specs `specX` by `rfl`.
-/
namespace J5V.Walker
open J5V.Bcl

/-!
## The head of a property-like block, generic in the block's schema

`ObjectProperty` and `j5.sourcedef.v1.EntityKey` (the `key` blocks of an entity) have the same first four properties
(`schema`, `name`, `required`, `explicitlyOptional`) and the same tags (name, type-select with `!` → `required`,
`?` → `optional`). `OuterOK sO specO` collects the table facts; `gMsg` is the message of such a block after its head;
`gHead_exact` is the exact run of the block head (name tag, type-select tag with its mark, qualifier chain of the
field), `gBlock_exact` the whole block.
-/

structure OuterOK (sO : Schema) (specO : BlockSpec) : Prop where
  pi_schema : propInfo j5Env sO b!"schema" = some (0, none, .container sField)
  pi_name : propInfo j5Env sO wName = some (1, none, .scalar (.scalar .string) false)
  pi_required : propInfo j5Env sO b!"required" = some (2, none, .scalar (.scalar .bool) false)
  pi_expl : propInfo j5Env sO b!"explicitlyOptional" = some (3, none, .scalar (.scalar .bool) false)
  specName : specO.name = some ⟨wName, none, none, false, false⟩
  specTS : specO.typeSelect = some opTypeSpec
  pSchema : blockPath b!"schema" sO specO = some [b!"schema"]
  pName : blockPath wName sO specO = some [wName]
  pRequired : blockPath b!"required" sO specO = some [b!"required"]
  pOptional : blockPath b!"optional" sO specO = some [b!"explicitlyOptional"]
  misses : ∀ n ∈ fieldLineNames, blockPath n sO specO = none
  distinct : sO.namesDistinct = true

/-- the message of a property-like block after its head: the name, the field with the message `T` of its type, then
what the marks and lines wrote (`rest`) -/
def gMsg (sO : Schema) (name : Str) (f : CField) (T : Node) (rest : List (Str × Node)) : Node :=
  mkMsgS sO ([(wName, sStr name)] ++ (b!"schema", mkMsgS sField [(fieldKind f, T)]) :: rest)

/-- what `!` / `?` and the line `optional = true` write -/
abbrev markVals (req opt : Bool) : List (Str × Node) :=
  optVal req b!"required" bTrue ++ optVal opt b!"explicitlyOptional" bTrue

section
variable {sO : Schema} {specO : BlockSpec} (hO : OuterOK sO specO) {e : Addr} {sc : Scope}
  {tail : List ContainerField}

abbrev outerCF (sO : Schema) (specO : BlockSpec) (e : Addr) : ContainerField := cfOf sO specO e

omit hO in
/-- the message `gMsg … T rest` is the one the printer lists with `schema` first -/
theorem gMsg_eq {sn : Str} (hs : j5Env.schemaOf sn = sO) {name : Str} {f : CField} (ff : FieldFacts f)
    (rest : List (Str × Node)) :
    mkMsg j5Env sn ([(b!"schema", fieldMsg j5Env f), (wName, sStr name)] ++ rest) =
      gMsg sO name f ff.typeVal rest := by
  rw [mkMsg_eq_mkMsgS hs, ff.msg]
  show mkMsgS sO ((b!"schema", oneofMsg sField.props.length (kindIdx f) ff.typeVal) :: (wName, sStr name) :: rest) = _
  rw [oneofMsg_eq_mkMsgS (distinct_of schemaOf_Field) (propInfo_find ff.pi)]
  exact mkMsgS_swap sO (show b!"schema" ≠ wName by decide) rest

include hO in
/-- the lens from the block's message to the type message of its field -/
theorem gType_lens (name : Str) (f : CField) (rest : List (Str × Node)) :
    Lens (fun T => gMsg sO name f T rest) ([0] ++ [kindIdx f]) :=
  Lens.comp (mkMsgS_lens hO.distinct (propInfo_find hO.pi_schema) rfl)
    (mkMsgS_lens (vals1 := []) (vals2 := []) (distinct_of schemaOf_Field) (propInfo_find (kind_pi f)) rfl)

abbrev gTypeScope (sO : Schema) (specO : BlockSpec) (e : Addr) (f : CField) : Scope :=
  typeScope [outerCF sO specO e] (cfOf (kindSchema f) (kindSpec f) (e ++ [0, kindIdx f])) (some (outerCF sO specO e))

include hO in
theorem g_setMark {n final : Str} {i : Nat} (hp : blockPath n sO specO = some [final])
    (hpi : propInfo j5Env sO final = some (i, none, .scalar (.scalar .bool) false))
    (hbs : sc.blockSet = outerCF sO specO e :: tail) {vals : List (Str × Node)} (hl : lookupVal final vals = none) :
    Exact (setAttribute j5Env (fuelOf j5Env) sc [n] [] (.bool true) false) e (mkMsgS sO vals) ()
      (mkMsgS sO (vals ++ [(final, bTrue)])) := by
  rw [← storeNode_true]
  exact setAttr_directS (pos := none) (v := .bool true) hO.distinct rfl (by rw [hbs]; exact findBlock_head hp) hpi hl
    (.inl rfl) (asArray_bool _) rfl

include hO in
theorem g_setOptionalLine (hbs : sc.blockSet = outerCF sO specO e :: tail) {vals : List (Str × Node)}
    (hl : lookupVal b!"explicitlyOptional" vals = none) :
    Exact (doStatement j5Env sc (assignStmt [b!"optional"] (boolValue true))) e (mkMsgS sO vals) ()
      (mkMsgS sO (vals ++ [(b!"explicitlyOptional", bTrue)])) := by
  rw [← storeNode_true]
  exact doStatement_assign
    (setAttr_directS (pos := some Span.zero) (v := .bool true) hO.distinct (combinePath_ident (by decide) [])
      (by rw [hbs]; exact findBlock_head hO.pOptional) hO.pi_expl hl (.inl rfl) (asArray_boolValue _)
      (by simp only [scalarFromAST, asBool_boolValue]; rfl))

include hO in
theorem outerCF_misses (e : Addr) : ∀ n ∈ fieldLineNames, Misses (outerCF sO specO e) n :=
  fun n hn => misses_cfOf (hO.misses n hn)

/-- the mark of the type-select tag of a property-like block -/
def propMark (req opt : Bool) : TagMark := if req then .bang else if opt then .question else .none

include hO in
/-- the head of a property-like block: name tag, type-select tag with its mark, the field's qualifiers.
`required` is set by `!`, `explicitlyOptional` by `?` (only when not `!`) -/
theorem gHead_exact {name : Str} {req opt : Bool} {f : CField} (hname : isIdent name = true) (ff : FieldFacts f)
    (kw : Str) (isOpen : Bool) (e : Addr) :
    ∃ (sc2 : Scope) (tail : List ContainerField),
      sc2.blockSet = outerCF sO specO e :: (tcfOf f (e ++ [0, kindIdx f]) :: tail) ∧
      ff.tailP (e ++ [0, kindIdx f]) tail ∧
      Exact (doBlockHead j5Env (Scope.newChild (outerCF sO specO e)) specO
        ⟨refOf [kw], [nameTag name, tagRef (propMark req opt) (refOf [fieldKind f])], fieldQuals f, none, isOpen,
          src0⟩) e (freshMsg sO) sc2 (gMsg sO name f ff.qualVal (markVals req (!req && opt))) := by
  obtain ⟨sc2, spec2, tail, hbs, htail, hq⟩ := ff.runQ [outerCF sO specO e] (some (outerCF sO specO e))
    (e ++ [0, kindIdx f])
    (fun n hn o ho => by
      simp only [List.mem_singleton] at ho; subst ho
      exact outerCF_misses hO e n (ff.namesSub n (.inl hn)))
  refine ⟨sc2, tail, hbs, htail, ?_⟩
  have hsetname : Exact (applyNameTag j5Env (Scope.newChild (outerCF sO specO e)) ⟨wName, none, none, false, false⟩
      (nameTag name)) e (freshMsg sO) () (mkMsgS sO [(wName, sStr name)]) := by
    rw [← storeNode_str]
    exact nameTag_exactS hO.distinct (findBlock_head hO.pName) hO.pi_name hname
  have hbuild : Exact (buildScope j5Env (Scope.newChild (outerCF sO specO e)) (pathToType opTypeSpec)
      (refOf [fieldKind f]).idents .keepScope) e (mkMsgS sO [(wName, sStr name)]) (gTypeScope sO specO e f)
      (gMsg sO name f (freshMsg (kindSchema f)) []) :=
    selectMember_exactS (findBlock_head hO.pSchema) hO.pi_schema specOf_Field (kind_path f) (kind_ascii f) ff.pi
      ff.spec hO.distinct (distinct_of schemaOf_Field) rfl (.inl rfl)
  have hts : (gTypeScope sO specO e f).blockSet =
      outerCF sO specO e :: [cfOf (kindSchema f) (kindSpec f) (e ++ [0, kindIdx f])] := rfl
  have hq' := fun marks => Exact.lens (gType_lens hO name f marks) (a := e) (by simpa using hq)
  have hhead : ∀ (mark : TagMark) (marks : List (Str × Node)),
      Exact (checkBang j5Env (gTypeScope sO specO e f) opTypeSpec (tagRef mark (refOf [fieldKind f]))) e
        (gMsg sO name f (freshMsg (kindSchema f)) []) () (gMsg sO name f (freshMsg (kindSchema f)) marks) →
      Exact (doBlockHead j5Env (Scope.newChild (outerCF sO specO e)) specO
        ⟨refOf [kw], [nameTag name, tagRef mark (refOf [fieldKind f])], fieldQuals f, none, isOpen, src0⟩) e
        (freshMsg sO) sc2 (gMsg sO name f ff.qualVal marks) :=
    fun mark marks hcb => doBlockHead_exact rfl
      (walkTags_name_type hO.specName hO.specTS hsetname
        (selectType_exact (ref := refOf [fieldKind f]) rfl hbuild hcb)
        (walkTags_nil_none _ _ ff.specName ff.specTypeSelect))
      (hq' marks)
  cases req <;> cases opt
  · exact hhead .none [] (checkBang_none rfl)
  · exact hhead .question _ (checkBang_question rfl rfl (g_setMark hO hO.pOptional hO.pi_expl hts rfl))
  · exact hhead .bang _ (checkBang_bang rfl rfl (g_setMark hO hO.pRequired hO.pi_required hts rfl))
  · exact hhead .bang _ (checkBang_bang rfl rfl (g_setMark hO hO.pRequired hO.pi_required hts rfl))

include hO in
/-- how the body lines of the directly typed field reach the type block: through the block's message -/
theorem gReach {f : CField} (ff : FieldFacts f) {e : Addr} {sc2 : Scope} {tail : List ContainerField}
    (hbs : sc2.blockSet = [outerCF sO specO e] ++ (tcfOf f (e ++ [0, kindIdx f]) :: tail))
    (name : Str) (rest : List (Str × Node)) :
    BodyReach sc2 [] (kindSchema f) (kindSpec f) e [0, kindIdx f]
      (fun Y => gMsg sO name f (Y.getD (freshMsg (kindSchema f))) rest) (· ∈ ff.bodyNames) where
  get := fun Y => (gType_lens hO name f rest).get Y
  set := fun Y Y' => (gType_lens hO name f rest).set Y Y'
  ascii := by simp
  walk := ⟨sc2, fun Y => walkScope_nil, fun n hn => by
    rw [hbs, findBlock_skip_all (outer := [outerCF sO specO e])
      (fun o ho => by
        simp only [List.mem_singleton] at ho; subst ho
        exact outerCF_misses hO e n (ff.namesSub n (.inr hn))),
      findBlock_cons_of_isSome (ff.found _ n hn)]⟩

include hO in
theorem outerCF_misses_block {f : CField} (ff : FieldFacts f) (e : Addr) :
    ∀ kw ∈ ff.blockNames, ∀ o ∈ [outerCF sO specO e], Misses o kw := by
  intro kw hkw o ho
  simp only [List.mem_singleton] at ho; subst ho
  rcases ff.blockSub kw hkw with rfl | rfl <;> exact outerCF_misses hO e _ (by decide)

include hO in
/-- the lines of the directly typed field, not as the field of an entity key -/
theorem gBody_exact {f : CField} (ff : FieldFacts f) {e : Addr} {sc2 : Scope} {tail : List ContainerField}
    (hbs : sc2.blockSet = outerCF sO specO e :: (tcfOf f (e ++ [0, kindIdx f]) :: tail))
    (htail : ff.tailP (e ++ [0, kindIdx f]) tail) (name : Str) (rest : List (Str × Node)) :
    Exact (doBody j5Env sc2 (fieldBody f [] false)) e (gMsg sO name f ff.qualVal rest) ()
      (gMsg sO name f ff.typeVal rest) :=
  ff.runB sc2 [] e [0, kindIdx f] _ (gReach hO ff hbs name rest)
    ⟨[outerCF sO specO e], tail, hbs, outerCF_misses_block hO ff e, htail⟩

include hO in
/-- the block `kw NAME [!|?] TYPE:QUAL… { [optional = true] rest }`, given how its keyword enters a new element
at `a ++ e'` and how `rest` runs in the scope the head leaves -/
theorem gBlock_exact {name : Str} {req opt : Bool} {f : CField} (hname : isIdent name = true) (ff : FieldFacts f)
    {kw : Str} (hkw : isAscii kw = true) (isOpen : Bool) {sc : Scope} {a e' : Addr} {F : Node → Node}
    (hl : Lens F e') {X : Node}
    (hcb : Exact (childBlock j5Env sc kw) a X (Scope.newChild (outerCF sO specO (a ++ e'))) (F (freshMsg sO)))
    {rest : List Statement} {Y : Node}
    (hrest : ∀ {sc2 : Scope} {tail : List ContainerField},
      sc2.blockSet = outerCF sO specO (a ++ e') :: (tcfOf f (a ++ e' ++ [0, kindIdx f]) :: tail) →
      ff.tailP (a ++ e' ++ [0, kindIdx f]) tail →
      Exact (doBody j5Env sc2 rest) (a ++ e') (gMsg sO name f ff.qualVal (markVals req opt)) () Y) :
    Exact (doStatement j5Env sc (blockStmt kw [nameTag name, tagRef (propMark req opt) (refOf [fieldKind f])]
      (fieldQuals f) isOpen
      ((if (req && opt) = true then [assignStmt [b!"optional"] (boolValue true)] else []) ++ rest))) a X () (F Y) := by
  obtain ⟨sc2, tail, hbs, htail, hhead⟩ := gHead_exact hO (req := req) (opt := opt) hname ff kw isOpen (a ++ e')
  have hpre : Exact (doBody j5Env sc2 (if (req && opt) = true then [assignStmt [b!"optional"] (boolValue true)] else []))
      (a ++ e') (gMsg sO name f ff.qualVal (markVals req (!req && opt))) ()
      (gMsg sO name f ff.qualVal (markVals req opt)) := by
    cases req <;> cases opt
    · exact doBody_nil
    · exact doBody_nil
    · exact doBody_nil
    · exact doBody_cons (g_setOptionalLine hO hbs rfl) (doBody_nil)
  exact blockStmt_exact hkw hcb (Exact.lens hl hhead) (Exact.lens hl (doBody_append hpre (hrest hbs htail)))

end

abbrev propCF (e : Addr) : ContainerField := cfOf sObjectProperty specObjectProperty e

theorem outerOK_OP : OuterOK sObjectProperty specObjectProperty where
  pi_schema := pi_OP_schema
  pi_name := pi_OP_name
  pi_required := pi_OP_required
  pi_expl := pi_OP_explicitlyOptional
  specName := by decide +kernel
  specTS := by decide +kernel
  pSchema := rfl
  pName := rfl
  pRequired := rfl
  pOptional := rfl
  misses := by decide +kernel
  distinct := distinct_of schemaOf_ObjectProperty

theorem specOP_name : specObjectProperty.name = some ⟨wName, none, none, false, false⟩ := outerOK_OP.specName
theorem specOP_typeSelect : specObjectProperty.typeSelect = some opTypeSpec := outerOK_OP.specTS

section
variable {e : Addr} {sc : Scope} {tail : List ContainerField}

theorem op_setName {name : Str} (hname : isIdent name = true) (hbs : sc.blockSet = propCF e :: tail)
    (t0 : Bool) (F : Node) (r o : Bool) :
    Exact (setAttribute j5Env (fuelOf j5Env) sc [wName] [] (.tag (nameTag name)) false) e
      (opNode t0 F false .absent r o) () (opNode t0 F true (sStr name) r o) := by
  rw [← storeNode_str]
  exact setAttr_direct (n := wName) (pos := none) (v := .str name) rfl (by rw [hbs]; exact findBlock_head rfl)
    pi_OP_name rfl rfl (.inl rfl) (asArray_tag _)
    (by simp only [scalarFromAST, nameTag, asString_tagRef_single (isAscii_of_isIdent hname)]; rfl)

theorem op_setRequired (hbs : sc.blockSet = propCF e :: tail) (t0 : Bool) (F : Node) (t1 : Bool) (nm : Node)
    (o : Bool) :
    Exact (setAttribute j5Env (fuelOf j5Env) sc [b!"required"] [] (.bool true) false) e
      (opNode t0 F t1 nm false o) () (opNode t0 F t1 nm true o) := by
  refine (setAttr_direct (n := b!"required") (pos := none) (v := .bool true) (cur := .absent) rfl
    (by rw [hbs]; exact findBlock_head rfl) pi_OP_required rfl rfl (.inl rfl) (asArray_bool _) rfl).conv ?_
  rw [storeNode_true]; rfl

theorem op_setOptionalMark (hbs : sc.blockSet = propCF e :: tail) (t0 : Bool) (F : Node) (t1 : Bool) (nm : Node)
    (r : Bool) :
    Exact (setAttribute j5Env (fuelOf j5Env) sc [b!"optional"] [] (.bool true) false) e
      (opNode t0 F t1 nm r false) () (opNode t0 F t1 nm r true) := by
  refine (setAttr_direct (n := b!"optional") (pos := none) (v := .bool true) (cur := .absent) rfl
    (by rw [hbs]; exact findBlock_head rfl) pi_OP_explicitlyOptional rfl rfl (.inl rfl) (asArray_bool _) rfl).conv ?_
  rw [storeNode_true]; rfl

theorem op_setOptionalLine (hbs : sc.blockSet = propCF e :: tail) (t0 : Bool) (F : Node) (t1 : Bool) (nm : Node)
    (r : Bool) :
    Exact (doStatement j5Env sc (assignStmt [b!"optional"] (boolValue true))) e
      (opNode t0 F t1 nm r false) () (opNode t0 F t1 nm r true) := by
  refine doStatement_assign ((setAttr_direct (n := b!"optional") (pos := some Span.zero) (v := .bool true)
    (cur := .absent) (combinePath_ident (by decide) []) (by rw [hbs]; exact findBlock_head rfl)
    pi_OP_explicitlyOptional rfl rfl (.inl rfl) (asArray_boolValue _)
    (by simp only [scalarFromAST, asBool_boolValue]; rfl)).conv ?_)
  rw [storeNode_true]; rfl

end

theorem Exact.lift_type {α : Type} {m : M α} {e : Addr} {k : Nat} {Y Y' nm : Node} {t1 rq o : Bool} {r : α}
    (hk : k < 15) (h : Exact m (e ++ [0, k]) Y r Y') :
    Exact m e (opNode true (oneofMsg 15 k Y) t1 nm rq o) r (opNode true (oneofMsg 15 k Y') t1 nm rq o) := by
  rw [show e ++ [0, k] = e ++ [0] ++ [k] by simp] at h
  exact Exact.lift_prop (i := 0) rfl (Exact.lift_oneof hk h)

/-- the block `kw NAME [!|?] TYPE:QUAL… { [optional = true] lines }`, given how its keyword enters a new
`ObjectProperty` element at `a ++ e'` (`F Y` = the state below `a` when the element is `Y`) -/
theorem propBlock_exact {name : Str} {req opt : Bool} {f : CField} (hname : isIdent name = true)
    (ff : FieldFacts f) {kw : Str} (hkw : isAscii kw = true) {sc : Scope} {a e' : Addr} {F : Node → Node}
    (hl : Lens F e') {X : Node}
    (hcb : Exact (childBlock j5Env sc kw) a X (Scope.newChild (propCF (a ++ e'))) (F (freshMsg sObjectProperty))) :
    Exact (doStatement j5Env sc (propBcl kw (.mk name req opt f))) a X ()
      (F (propMsg j5Env (.mk name req opt f))) := by
  rw [propMsg, List.append_assoc, gMsg_eq schemaOf_ObjectProperty ff]
  exact gBlock_exact outerOK_OP hname ff hkw _ hl hcb
    (fun hbs htail => gBody_exact outerOK_OP ff hbs htail name _)

/-- `kw NAME [!|?] TYPE:QUAL… { … }` where `kw` is an alias `kw → [pn]` of an array of `ObjectProperty` of
the block at `c`: one element appended -/
theorem prop_stmt_exact {name : Str} {req opt : Bool} {f : CField} (hname : isIdent name = true)
    (ff : FieldFacts f) {kw : Str} (hkw : isAscii kw = true)
    {sc : Scope} {s : Schema} {spec : BlockSpec} {c : Addr} {pn : Str} {i : Nat} {t : List Bool}
    {vs : List Node} {xs : List Node}
    (hfb : findBlock kw sc.blockSet = some (cfOf s spec c, [pn]))
    (hpi : propInfo j5Env s pn = some (i, none, .arrayOfContainer sObjectProperty))
    (ht : t[i]? = some (!xs.isEmpty)) (hv : vs[i]? = some (listSlot xs)) :
    Exact (doStatement j5Env sc (propBcl kw (.mk name req opt f))) c (.msg t vs) ()
      (.msg (t.set i true) (vs.set i (.list (xs ++ [propMsg j5Env (.mk name req opt f)])))) :=
  appends_of_entry hfb hpi specOf_ObjectProperty (fun hl hcb => propBlock_exact hname ff hkw hl hcb) xs t vs ht hv

/-- the property is covered: its name is an identifier and its field has the facts -/
def PropHas : CProperty → Prop
  | .mk name _ _ f => isIdent name = true ∧ Nonempty (FieldFacts f)

theorem props_appendsAll {kw : Str} (hkw : isAscii kw = true) {sc : Scope} {s : Schema} {spec : BlockSpec}
    {c : Addr} {pn : Str} {i : Nat}
    (hfb : findBlock kw sc.blockSet = some (cfOf s spec c, [pn]))
    (hpi : propInfo j5Env s pn = some (i, none, .arrayOfContainer sObjectProperty))
    (ps : List CProperty) (hps : ∀ p ∈ ps, PropHas p) :
    AppendsAll j5Env sc c i (propsBcl kw ps) (propsMsg j5Env ps) := by
  induction ps with
  | nil => exact .nil
  | cons p ps ih =>
    simp only [propsBcl, propsMsg]
    obtain ⟨name, req, opt, f⟩ := p
    obtain ⟨hname, ⟨ff⟩⟩ := hps (.mk name req opt f) (by simp)
    exact .cons (fun xs t vs ht hv => prop_stmt_exact hname ff hkw hfb hpi ht hv)
      (ih (fun p hp => hps p (List.mem_cons_of_mem _ hp)))

/-!
`facts3` collects `scalarFacts` and the three `…RefFacts`; `facts5` (`FieldInline.lean`) falls through to it for these
kinds.
-/

/-- scalar fields with rules, and references -/
def fieldOk3 : CField → Bool
  | .objectRef pkg schema _ rules => rulesOk j5Env b!"j5.schema.v1.ObjectField" rules && refOk pkg schema
  | .oneofRef pkg schema rules l => !l && rulesOk j5Env b!"j5.schema.v1.OneofField" rules && refOk pkg schema
  | .enumRef pkg schema rules lr =>
    rulesOk j5Env b!"j5.schema.v1.EnumField" rules && listRulesOk lr && refOk pkg schema
  | f => fieldOk2 f

theorem facts3 {f : CField} (h : fieldOk3 f = true) : ∃ ff : FieldFacts f, ff.blockNames = [] := by
  cases f with
  | objectRef pkg schema flatten rules =>
    simp only [fieldOk3, Bool.and_eq_true] at h
    exact ⟨objectRefFacts pkg schema flatten rules h.1 h.2, rfl⟩
  | oneofRef pkg schema rules l =>
    simp only [fieldOk3, Bool.and_eq_true, Bool.not_eq_true'] at h
    obtain ⟨⟨hl, hr⟩, href⟩ := h
    have hnil := rulesRow_Oneof.nil_of_no_props rfl hr
    subst hnil
    subst hl
    exact ⟨oneofRefFacts pkg schema href, rfl⟩
  | enumRef pkg schema rules lr =>
    simp only [fieldOk3, Bool.and_eq_true] at h
    exact ⟨enumRefFacts pkg schema rules lr h.1.1 h.1.2 h.2, rfl⟩
  | string | bool | bytes | date | decimal | timestamp | any | integer | float | key =>
    exact scalarFacts h
  | _ => cases h

end J5V.Walker
