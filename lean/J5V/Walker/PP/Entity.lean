import J5V.Walker.PP.Elems
/-!
# `entity` elements, and the theorem for the whole covered fragment (`C07W_print_parse`)

The `key` blocks (a property-like block whose directly typed `key` field writes its entity-key options through short
aliases), one `Appends` lemma per kind of statement of an entity body (the slot numbers are the indices of the
`pi_Entity_…` facts), `entityBody_fills`, and `C07W_print_parse`. `[0] ++ [14] ++ [4]` leads from a key block to the
`entity` message of its key field: `schema`, the member `key` of `Field`, `entity`.
-/
namespace J5V.Walker
open J5V.Bcl

/-!
## The `key` blocks of an entity (`j5.sourcedef.v1.EntityKey`)

`key NAME [!|?] TYPE… { [optional = true] [shardKey = true] lines }`: a property-like block (`gHead_exact`) with a
seventh slot `shardKey`; a directly typed `key` field writes its entity-key options through the SHORT
aliases `primary` / `tenant` of the block (`→ schema.key.entity.primaryKey / tenantKey`: `Scope.Field`
walks three containers, `scopeField_of_walk`).
-/

theorem outerOK_EKD : OuterOK sEntityKeyDecl specEntityKeyDecl where
  pi_schema := pi_EKD_schema
  pi_name := pi_EKD_name
  pi_required := pi_EKD_required
  pi_expl := pi_EKD_expl
  specName := by decide +kernel
  specTS := by decide +kernel
  pSchema := rfl
  pName := rfl
  pRequired := rfl
  pOptional := rfl
  misses := by decide +kernel
  distinct := distinct_of schemaOf_EntityKeyDecl

/-! ## The short aliases `primary` / `tenant` -/

abbrev ekdCF (e : Addr) : ContainerField := cfOf sEntityKeyDecl specEntityKeyDecl e

/-- the message of a key block whose field is a key: `kvals` written into the `KeyField` message, then the entries
`ent` (the `entity` entry or nothing) -/
abbrev ekdMsg (name : Str) (fmt : J5V.Compile.KeyFmt) (ek : J5V.Compile.EntKey) (kvals : List (Str × Node))
    (ent rest : List (Str × Node)) : Node :=
  gMsg sEntityKeyDecl name (.key fmt ek [] false) (mkMsgS sKeyField (kvals ++ ent)) rest

section
variable {e : Addr} {sc : Scope} {tail : List ContainerField} {name : Str} {fmt : J5V.Compile.KeyFmt}
  {ek : J5V.Compile.EntKey} {rest kvals : List (Str × Node)}

theorem ekdEntity_lens (hl : lookupVal b!"entity" kvals = none) :
    Lens (fun Y => ekdMsg name fmt ek kvals [(b!"entity", Y)] rest) ([0] ++ [14] ++ [4]) :=
  Lens.comp (gType_lens outerOK_EKD name (.key fmt ek [] false) rest)
    (mkMsgS_lens (distinct_of schemaOf_KeyField) (propInfo_find pi_KeyField_entity) hl)

theorem ekdWalk_exact (hl : lookupVal b!"entity" kvals = none) (evals : List (Str × Node)) :
    Exact (walkPath j5Env (ekdCF e) [b!"schema", b!"key", b!"entity"]) e
      (ekdMsg name fmt ek kvals (childVal b!"entity" (msgOpt sEntityKeyMsg evals)) rest)
      ([cf0 sEntityKeyMsg (e ++ [0] ++ [14] ++ [4])] ++ [cf0 sKeyField (e ++ [0] ++ [14])] ++ [cf0 sField (e ++ [0])])
      (ekdMsg name fmt ek kvals [(b!"entity", mkMsgS sEntityKeyMsg evals)] rest) :=
  walkPath_cachedS outerOK_EKD.distinct pi_EKD_schema rfl
    (walkRest_cons (walkPath_cachedS (spec := BlockSpec.empty) (vals1 := []) (vals2 := [])
      (distinct_of schemaOf_Field) pi_Field_key rfl
      (walkRest_cons (walkPath_lazyS (spec := BlockSpec.empty) (distinct_of schemaOf_KeyField) pi_KeyField_entity hl
        (fun _ _ _ h => absurd rfl h) (walkRest_nil)))))

/-- `hconf`: Go checks a proto oneof when a member is first touched, against what is populated — `primaryKey` is in the
oneof of `EntityKey` and is written first, `tenantKey` is in none -/
theorem shortAttr_exact {n final : Str} (hna : isAscii n = true)
    (hbs : sc.blockSet = ekdCF e :: tail)
    (halias : blockPath n sEntityKeyDecl specEntityKeyDecl = some [b!"schema", b!"key", b!"entity", final])
    {i : Nat} {og : Option (Str × List Nat)} {ty : FieldType}
    (hpi : propInfo j5Env sEntityKeyMsg final = some (i, og, .scalar ty true))
    (hl : lookupVal b!"entity" kvals = none) {evals : List (Str × Node)} (hlE : lookupVal final evals = none)
    (hconf : og = none ∨ evals = []) {val : Value} {v : Scalar}
    (hva : (AV.value val).asArray = none) (hsc : scalarFromAST j5Env ty (.value val) = .ok v) :
    Exact (doStatement j5Env sc (assignStmt [n] val)) e
      (ekdMsg name fmt ek kvals (childVal b!"entity" (msgOpt sEntityKeyMsg evals)) rest) ()
      (ekdMsg name fmt ek kvals [(b!"entity", mkMsgS sEntityKeyMsg (evals ++ [(final, .scalar v)]))] rest) := by
  obtain ⟨_, hf, _⟩ := propInfo_spec hpi
  obtain ⟨tE, vsE, hmk, hti, hvi, hfin⟩ := mkMsgS_slot (distinct_of schemaOf_EntityKeyMsg) hf hlE
  have hli : i < vsE.length := (List.getElem?_eq_some_iff.mp hvi).1
  have hfb : findBlock n sc.blockSet = some (ekdCF e, [b!"schema", b!"key", b!"entity", final]) := by
    rw [hbs]; exact findBlock_head halias
  have hLE := ekdEntity_lens (name := name) (fmt := fmt) (ek := ek) (rest := rest) hl
  have haddr : e ++ [0] ++ [14] ++ [4] = e ++ ([0] ++ [14] ++ [4]) := by simp
  have hwp := ekdWalk_exact (e := e) (name := name) (fmt := fmt) (ek := ek) (rest := rest) hl evals
  rw [hmk] at hwp
  have hval : Exact (propSetValue j5Env (e ++ [0] ++ [14] ++ [4]) sEntityKeyMsg final (!false)) e
      (ekdMsg name fmt ek kvals [(b!"entity", .msg tE vsE)] rest)
      ⟨e ++ [0] ++ [14] ++ [4] ++ [i], .scalar ty true⟩
      (ekdMsg name fmt ek kvals [(b!"entity", .msg (tE.set i true) (vsE.set i .absent))] rest) := by
    rw [haddr]
    exact Exact.lens hLE (propSetValue_build (c := e ++ ([0] ++ [14] ++ [4])) (cur := .absent) true hpi hti hvi
      (noConflict_mkMsgS hmk hconf))
  have hsf := scopeField_of_walk (pre := [b!"schema", b!"key", b!"entity"]) (existingIsOk := false) hfb
    (walkToChild_exact hwp (setSpecs_cons (specOf_EntityKeyMsg _) (setSpecs_cons (specOf_of_nil specOf_KeyField0 _)
      (setSpecs_cons (specOf_Field _) (setSpecs_nil)))))
    (propInfo_hasProperty hpi) hval
  refine doStatement_assign ?_
  refine setAttribute_scalar (pre := []) (last := pathElem n) (combinePath_ident hna []) (walkScope_nil)
    hsf hva hsc ?_
  -- the store
  have hLI : Lens (fun Y => ekdMsg name fmt ek kvals [(b!"entity", .msg (tE.set i true) (vsE.set i Y))] rest)
      ([0] ++ [14] ++ [4] ++ [i]) :=
    Lens.comp hLE (Lens.slot (tE.set i true) vsE hli)
  have haddr2 : e ++ [0] ++ [14] ++ [4] ++ [i] = e ++ ([0] ++ [14] ++ [4] ++ [i]) := by simp
  rw [haddr2, ← hfin]
  exact Exact.lens hLI (storeScalar_exact (e ++ ([0] ++ [14] ++ [4] ++ [i])) true v .absent)

end

/-!
## The block `key NAME [!|?] TYPE… { [optional = true] [shardKey = true] lines }` of an entity

`keyBlock_exact`: the block fills a fresh `j5.sourcedef.v1.EntityKey` with `keyMsg`. The field lines are
`fieldBody f [] true`: the same as `fieldBody f [] false` unless `f` is a `key` field, whose entity-key
options then go through the short aliases (`entKeyShort_exact`).
-/

/-- only `key` fields print differently as the field of an entity key -/
theorem fieldBody_flag {f : CField} (h : ∀ fmt ek r l, f ≠ .key fmt ek r l) (pfx : List Str) :
    fieldBody f pfx true = fieldBody f pfx false := by
  cases f with
  | key fmt ek r l => exact absurd rfl (h fmt ek r l)
  | _ => simp only [fieldBody]

/-- the entity-key lines of the directly typed field of an entity key: `primary = …`, `foreign = "…"`,
`tenant = "…"` -/
theorem entKeyShort_exact {e : Addr} {sc : Scope} {tail : List ContainerField} {name : Str}
    {fmt : J5V.Compile.KeyFmt} {ek0 : J5V.Compile.EntKey} {rest kvals : List (Str × Node)} {P : Str → Prop}
    (hbs : sc.blockSet = ekdCF e :: tail)
    (hr : BodyReach sc [] sKeyField specKeyField e [0, 14]
      (fun Y => gMsg sEntityKeyDecl name (.key fmt ek0 [] false) (Y.getD (freshMsg sKeyField)) rest) P)
    (hnF : P b!"foreign") (hl : lookupVal b!"entity" kvals = none) {ek : J5V.Compile.EntKey}
    (hok : entKeyOk ek = true) :
    Exact (doBody j5Env sc (entKeyBcl [] true ek)) e (ekdMsg name fmt ek0 kvals [] rest) ()
      (ekdMsg name fmt ek0 kvals (entKeyVals j5Env ek) rest) := by
  rw [entKeyVals_eq]
  have h := entKeyLines_exact (sc := sc) (a := e) (kP := [b!"primary"]) (kF := [] ++ [b!"foreign"])
    (kT := [b!"tenant"])
    (St := fun evals => ekdMsg name fmt ek0 kvals (childVal b!"entity" (msgOpt sEntityKeyMsg evals)) rest)
    (fun bb => shortAttr_exact (n := b!"primary") (final := b!"primaryKey") (by decide) hbs rfl
      pi_EntityKeyMsg_primaryKey hl (evals := []) rfl (.inr rfl) (val := boolValue bb) (v := .bool bb)
      (asArray_boolValue _) (by simp only [scalarFromAST, asBool_boolValue]; rfl))
    (fun pkg ent hp he hnd => by
      have h1 := foreignLine_exact hr hnF hl hp he hnd
      show Exact _ e (gMsg sEntityKeyDecl name (.key fmt ek0 [] false) (mkMsgS sKeyField (kvals ++ [])) rest) () _
      rw [List.append_nil]
      exact h1)
    (fun evals tn htn hk => by
      rw [(Presents.msgOpt sEntityKeyMsg).snoc]
      exact shortAttr_exact (e := e) (name := name) (fmt := fmt) (ek := ek0) (rest := rest) (n := b!"tenant")
        (final := b!"tenantKey") (by decide) hbs rfl pi_EntityKeyMsg_tenantKey hl (evals := evals)
        (hk.fresh (by decide)) (.inl rfl) (val := strValue tn) (v := .str tn) (asArray_strValue _)
        (by simp only [scalarFromAST, asString_strValue (isAscii_of_okString htn)]; rfl))
    hok
  refine Exact.congr h ?_
  cases ek with
  | nokey => rfl
  | ek kind tenant => cases kind <;> cases tenant <;> rfl

/-- what `keyBlock_exact` needs of the field: its facts, and the run of its lines as the field of an entity
key, in the scope the head leaves -/
def KeyFieldRun (f : CField) (ff : FieldFacts f) : Prop :=
  ∀ {e : Addr} {sc2 : Scope} {tail : List ContainerField},
    sc2.blockSet = ekdCF e :: (tcfOf f (e ++ [0, kindIdx f]) :: tail) →
    ff.tailP (e ++ [0, kindIdx f]) tail → ∀ (name : Str) (rest : List (Str × Node)),
    Exact (doBody j5Env sc2 (fieldBody f [] true)) e (gMsg sEntityKeyDecl name f ff.qualVal rest) ()
      (gMsg sEntityKeyDecl name f ff.typeVal rest)

theorem keyFieldRun_of_ne {f : CField} (hk : ∀ fmt ek r l, f ≠ .key fmt ek r l) (ff : FieldFacts f) :
    KeyFieldRun f ff := by
  intro e sc2 tail hbs htail name rest
  rw [fieldBody_flag hk]
  exact gBody_exact outerOK_EKD ff hbs htail name rest

theorem keyFieldRun_key (fmt : J5V.Compile.KeyFmt) (ek : J5V.Compile.EntKey) (hfmt : keyFmtOk fmt = true)
    (hek : entKeyOk ek = true) : KeyFieldRun (.key fmt ek [] false) (keyFacts fmt ek hfmt hek) := by
  intro e sc2 tail hbs htail name rest
  have hbody : fieldBody (.key fmt ek [] false) [] true = keyFmtBody [] fmt ++ entKeyBcl [] true ek := by
    show rulesBcl [] [] ++ keyFmtBody [] fmt ++ entKeyBcl [] true ek = _
    simp [rulesBcl]
  rw [hbody]
  -- the format line, as for a key without entity options
  let ff0 := keyFacts fmt .nokey hfmt rfl
  have hbs0 : sc2.blockSet = [ekdCF e] ++ (tcfOf (.key fmt .nokey [] false) (e ++ [0, 14]) :: tail) := hbs
  have hr' := gReach outerOK_EKD ff0 hbs0 name rest
  have h1 := gBody_exact outerOK_EKD ff0 hbs0 trivial name rest
  rw [key_fieldBody, show entKeyBcl [] false .nokey = [] from rfl, List.append_nil] at h1
  -- the entity-key lines
  have h2 := entKeyShort_exact (kvals := keyFmtS fmt true) hbs hr'
    (show b!"foreign" ∈ [b!"format", b!"entity", b!"foreign"] by simp) ((keyFmtS_keys fmt true).fresh (by decide)) hek
  exact doBody_append h1 h2

theorem keyFieldRun_all {f : CField} (hf : fieldOk j5Env f = true) : ∃ ff : FieldFacts f, KeyFieldRun f ff := by
  by_cases hk : ∀ fmt ek r l, f ≠ .key fmt ek r l
  · obtain ⟨ff, _⟩ := facts5 f (fieldOk5_of_fieldOk f hf)
    exact ⟨ff, keyFieldRun_of_ne hk ff⟩
  · have : ∃ fmt ek r l, f = .key fmt ek r l := by
      cases f with
      | key fmt ek r l => exact ⟨fmt, ek, r, l, rfl⟩
      | _ => exact absurd (fun _ _ _ _ h => by cases h) hk
    obtain ⟨fmt, ek, rules, l, rfl⟩ := this
    simp only [fieldOk, Bool.and_eq_true, Bool.not_eq_true'] at hf
    obtain ⟨⟨⟨hl, hr⟩, hfmt⟩, hek⟩ := hf
    have hnil := rulesRow_Key.nil_of_no_props rfl hr
    subst hnil
    subst hl
    exact ⟨keyFacts fmt ek hfmt hek, keyFieldRun_key fmt ek hfmt hek⟩

/-- the block `key NAME [!|?] TYPE:QUAL… { … }`, given how its keyword enters a new `EntityKey` element at
`a ++ e'` -/
theorem keyBlock_exact {name : Str} {req opt : Bool} {f : CField} {shard : Bool} (hname : isIdent name = true)
    (hf : fieldOk j5Env f = true) {sc : Scope} {a e' : Addr} {F : Node → Node} (hl : Lens F e') {X : Node}
    (hcb : Exact (childBlock j5Env sc b!"key") a X (Scope.newChild (ekdCF (a ++ e'))) (F (freshMsg sEntityKeyDecl))) :
    Exact (doStatement j5Env sc (keyBcl ⟨.mk name req opt f, shard⟩)) a X ()
      (F (keyMsg j5Env ⟨.mk name req opt f, shard⟩)) := by
  obtain ⟨ff, hrun⟩ := keyFieldRun_all hf
  simp only [keyMsg, keyBcl, List.append_assoc]
  rw [gMsg_eq schemaOf_EntityKeyDecl ff]
  refine gBlock_exact outerOK_EKD hname ff (by decide) _ hl hcb (fun {sc2 tail} hbs htail => ?_)
  have hshard : Exact (doBody j5Env sc2 (if shard = true then [assignStmt [b!"shardKey"] (boolValue true)] else []))
      (a ++ e') (gMsg sEntityKeyDecl name f ff.qualVal (markVals req opt)) ()
      (gMsg sEntityKeyDecl name f ff.qualVal (markVals req opt ++ optVal shard b!"shardKey" bTrue)) := by
    cases shard
    · rw [show optVal false b!"shardKey" bTrue = [] from rfl, List.append_nil]; exact doBody_nil
    · refine doBody_cons (doStatement_assign ?_) (doBody_nil)
      rw [← storeNode_true]
      exact setAttr_directS (n := b!"shardKey") (pos := some Span.zero) (v := .bool true)
        outerOK_EKD.distinct (combinePath_ident (by decide) []) (by rw [hbs]; exact findBlock_head rfl)
        pi_EKD_shardKey (by cases req <;> cases opt <;> rfl) (.inl rfl) (asArray_boolValue _)
        (by simp only [scalarFromAST, asBool_boolValue]; rfl)
  rw [← List.append_assoc (optVal req b!"required" bTrue)]
  exact doBody_append hshard (hrun hbs htail name _)

abbrev entityCF (d : Addr) : ContainerField := cfOf sEntity specEntity d

theorem elemMsg_entity_eq (e : J5V.Compile.Entity) :
    elemMsg j5Env (.entity e) = oneofMsg 6 0 (entityMsg j5Env e) := by
  simp only [elemMsg, rootOneof]
  rw [mkMsg_of schemaOf_RootElement]
  rfl

/-!
## The statements of an entity body, one `Appends` lemma per kind

In the scope of the entity block at `d`: `key` (→ `keys`), `status` (→ `status`), `event` (→ `events`),
`command` (→ `commands`), `summary` (→ `summaries`), `query { … }` (the container property), nested
`object` / `oneof` / `enum` (→ `schemas.X`).
-/

abbrev entityScope (d : Addr) : Scope := Scope.newChild (entityCF d)

theorem key_appends (d : Addr) {k : J5V.Compile.EntityKeyDecl} (hk : keyOk j5Env k = true) :
    Appends j5Env (entityScope d) d 5 (keyBcl k) (keyMsg j5Env k) := by
  obtain ⟨⟨name, req, opt, f⟩, shard⟩ := k
  simp only [keyOk, propOk, Bool.and_eq_true] at hk
  exact appends_of_entry (findBlock_head rfl) pi_Entity_keys specOf_EntityKeyDecl fun hl hcb =>
    keyBlock_exact hk.1 hk.2 hl hcb

/-! ## `status NAME` -/

theorem status_appends (d : Addr) {s : Str} (hs : isIdent s = true) :
    Appends j5Env (entityScope d) d 4 (statusBcl s) (enumOptionMsg j5Env s) := by
  rw [enumOptionMsg, mkMsg_eq_mkMsgS schemaOf_EnumOption]
  exact arrayDecl_appends (kw := b!"status") (by decide) (findBlock_head rfl) pi_Entity_status specOf_EnumOption
    (distinct_of schemaOf_EnumOption)
    (show specEnumOption.name = some ⟨wName, none, none, true, false⟩ by decide +kernel)
    (show specEnumOption.typeSelect = none by decide +kernel) rfl pi_EnumOption_name hs (storeNode_str _)
    (fun _ => Fills.nil []) (by rfl)

/-! ## `event NAME { fields nested-objects }` -/

theorem event_appends (d : Addr) {o : J5V.Compile.ObjDecl} (ho : objDeclOk j5Env false o = true) :
    Appends j5Env (entityScope d) d 7 (objectBcl b!"event" wField o) (objectMsg j5Env false o) := by
  have h6 := objDeclOk6_of_objDeclOk o ho
  obtain ⟨name, props, nested, psm⟩ := o
  simp only [objDeclOk6, Bool.and_eq_true] at h6
  rw [objectMsg_eq]
  exact arrayDecl_appends (kw := b!"event") (by decide) (findBlock_head rfl) pi_Entity_events specOf_Object
    (distinct_of schemaOf_Object)
    (show specObject.name = some ⟨wName, none, none, false, false⟩ by decide +kernel)
    (show specObject.typeSelect = none by decide +kernel) rfl pi_Object_name h6.1.1.1 (storeNode_str _)
    (fun dd => objectBody_fills dd (props_appendsAll_objCF dd (propsHas5 props h6.1.2)) (nested6 nested h6.2 dd))
    (by rfl)

/-! ## `command { [name = "…"] [basePath = "…"] methods }` -/

theorem command_appends (d : Addr) {sv : J5V.Compile.Service} (hs : serviceOk j5Env false sv = true) :
    Appends j5Env (entityScope d) d 9 (commandBcl sv) (serviceMsg j5Env sv) := by
  obtain ⟨name, basePath, methods, sopt⟩ := sv
  simp only [serviceOk, Bool.and_eq_true] at hs
  obtain ⟨⟨⟨_, hname⟩, hbp⟩, hms⟩ := hs
  have hd := distinct_of schemaOf_Service
  rw [serviceMsg, mkMsg_eq_mkMsgS schemaOf_Service]
  -- the `name` line, written unless the name is empty
  have hnameLine : ∀ dd, Fills (Scope.newChild (serviceCF dd)) dd (mkMsgS sService) [wName]
      (if (false || decide (name.getD [] = [])) = true then [] else [assignStmt [wName] (strValue (name.getD []))])
      (optVal (name.getD [] != []) wName (pStr (name.getD []))) := by
    intro dd
    by_cases hn : name.getD [] = []
    · simp only [hn, decide_true, Bool.or_true, if_true, bne_self_eq_false]
      exact Fills.nil _
    · have hne : (name.getD [] != []) = true := by simpa using hn
      have hok : okString (name.getD []) = true := by
        cases name with
        | none => exact absurd rfl hn
        | some n => simpa using hname
      simp only [hn, decide_false, Bool.or_false, Bool.false_eq_true, if_false, hne]
      exact Fills.pstr (by decide) hd (findBlock_head rfl) pi_Service_name hok
  exact arrayBlock_appendsS (kw := b!"command") (by decide) (findBlock_head rfl) pi_Entity_commands specOf_Service
    (fun dd => emptyHead_exact dd (show specService.name = some ⟨wName, none, none, true, false⟩ by decide +kernel) rfl
      true) (.nil [])
    (fun dd => by
      have h := (hnameLine dd).append
        (serviceTail_fills dd (bp := basePath) (fun p hp => by subst hp; exact hbp) hms) rfl
      simp only [← List.append_assoc] at h
      exact h) (by rfl)

/-! ## `summary { [name = "…"] fields }` -/

theorem summary_appends (d : Addr) {s : J5V.Compile.Summary} (hn : okString s.name = true)
    (hps : propsOk j5Env s.props = true) :
    Appends j5Env (entityScope d) d 10 (summaryBcl s) (summaryMsg j5Env s) := by
  obtain ⟨name, props⟩ := s
  have hd := distinct_of schemaOf_EntitySummary
  rw [summaryMsg, mkMsg_eq_mkMsgS schemaOf_EntitySummary]
  exact arrayBlock_appendsS (kw := b!"summary") (by decide) (findBlock_head rfl) pi_Entity_summaries
    specOf_EntitySummary (fun dd => emptyHead_exact dd
      (show specEntitySummary.name = some ⟨wName, none, none, true, false⟩ by decide +kernel) rfl true) (.nil [])
    (fun dd => (Fills.optStr (by decide) hd (findBlock_head rfl) pi_EntitySummary_name hn).append
      (Fills.list hd pi_EntitySummary_fields (props_appendsAll (kw := wField) (by decide) (findBlock_head rfl)
        pi_EntitySummary_fields props (propsHas_all hps))) (by rfl)) (by rfl)

/-! ## `query { [eventsInGet = true] [defaultStatusFilter = […]] }` -/

theorem query_fills (d : Addr) {q : J5V.Compile.EntityQuery} (hq : q.filters.all okString = true) :
    Fills (entityScope d) d (mkMsgS sEntity) [b!"query"] [queryBcl q] [(b!"query", queryMsg j5Env q)] := by
  obtain ⟨eg, filters⟩ := q
  have hd := distinct_of schemaOf_EntityQuery
  rw [queryMsg, mkMsg_eq_mkMsgS schemaOf_EntityQuery]
  exact Fills.cont (kw := b!"query") (by decide) (distinct_of schemaOf_Entity) (findBlock_head rfl) pi_Entity_query
    specOf_EntityQuery (noHead_exact _ (by decide +kernel) (by decide +kernel) true) (.nil [])
    ((Fills.optTrue (n := b!"eventsInGet") (by decide) hd (findBlock_head rfl) pi_EntityQuery_eventsInGet eg).append
      (Fills.optStrs (n := b!"defaultStatusFilter") (by decide) hd (findBlock_head rfl) pi_EntityQuery_filter hq)
      (by rfl)) (by rfl)

/-! ## Nested `object` / `oneof` / `enum` -/

theorem nestedE : (ns : List J5V.Compile.Nested) → nestedOk j5Env false ns = true →
    ∀ d, AppendsAll j5Env (entityScope d) d 8 (nestedBcl ns) (nestedMsg j5Env ns)
  | [], _ => fun _ => .nil
  | .object o :: rest, h => by
    simp only [nestedOk, Bool.and_eq_true] at h
    intro d
    simp only [nestedBcl, nestedMsg]
    refine .cons ?_ (nestedE rest h.2 d)
    rw [nestedOneof_eq]
    exact objDecl6 o (objDeclOk6_of_objDeclOk o h.1) (findBlock_head rfl) pi_Entity_schemas pi_NestedSchema_object
      specOf_NestedSchema (distinct_of schemaOf_NestedSchema)
  | .oneof o :: rest, h => by
    simp only [nestedOk, Bool.and_eq_true, Bool.not_false, Bool.true_and] at h
    intro d
    simp only [nestedBcl, nestedMsg]
    refine .cons ?_ (nestedE rest h.2 d)
    rw [nestedOneof_eq]
    obtain ⟨name, props, nested, psm⟩ := o
    have ho := h.1
    simp only [objDeclOk, Bool.and_eq_true, if_true, List.isEmpty_iff] at ho
    obtain ⟨⟨⟨hname, _⟩, hprops⟩, hnested⟩ := ho
    subst hnested
    exact oneofDecl_appendsG hname (propsHas_all hprops) (findBlock_head rfl) pi_Entity_schemas
      pi_NestedSchema_oneof specOf_NestedSchema (distinct_of schemaOf_NestedSchema)
  | .enum en :: rest, h => by
    simp only [nestedOk, Bool.and_eq_true, Bool.not_false, Bool.true_and] at h
    intro d
    simp only [nestedBcl, nestedMsg]
    refine .cons ?_ (nestedE rest h.2 d)
    rw [nestedOneof_eq]
    exact enumDecl_appendsG h.1 (findBlock_head rfl) pi_Entity_schemas pi_NestedSchema_enum specOf_NestedSchema
      (distinct_of schemaOf_NestedSchema)

/-!
## `entity NAME { baseUrlPath keys data statuses events commands summaries query nested }`,
and the theorem for the whole covered fragment

`entity_appends`: the entity block appends `<entity={…}>` to `elements`; the body is nine segments, in the order
`entityBcl` prints them and `entityMsg` lists them. `C07W_print_parse`.
-/

theorem entityBody_fills (d : Addr) {e : J5V.Compile.Entity} (he : entityOk j5Env e = true) :
    Fills (entityScope d) d (mkMsgS sEntity)
      ([b!"baseUrlPath"] ++ [b!"keys"] ++ [b!"data"] ++ [b!"status"] ++ [b!"events"] ++ [b!"commands"] ++
        [b!"summaries"] ++ [b!"query"] ++ [b!"schemas"])
      ((if e.baseUrl = [] then [] else [assignStmt [b!"baseUrlPath"] (strValue e.baseUrl)]) ++
        e.keys.map keyBcl ++ propsBcl b!"data" e.data ++ e.statuses.map statusBcl ++
        e.events.map (objectBcl b!"event" wField) ++ e.commands.map commandBcl ++ e.summaries.map summaryBcl ++
        (match e.query with | none => [] | some q => [queryBcl q]) ++ nestedBcl e.nested)
      (optVal (e.baseUrl != []) b!"baseUrlPath" (sStr e.baseUrl) ++
        listVal b!"keys" (e.keys.map (keyMsg j5Env)) ++ listVal b!"data" (propsMsg j5Env e.data) ++
        listVal b!"status" (e.statuses.map (enumOptionMsg j5Env)) ++
        listVal b!"events" (e.events.map (objectMsg j5Env false)) ++
        listVal b!"commands" (e.commands.map (serviceMsg j5Env)) ++
        listVal b!"summaries" (e.summaries.map (summaryMsg j5Env)) ++
        (match e.query with | none => [] | some q => [(b!"query", queryMsg j5Env q)]) ++
        listVal b!"schemas" (nestedMsg j5Env e.nested)) := by
  obtain ⟨name, baseUrl, keys, data, statuses, events, commands, summaries, query, nested⟩ := e
  simp only [entityOk, Bool.and_eq_true] at he
  obtain ⟨⟨⟨⟨⟨⟨⟨⟨⟨_, hbu⟩, hkeys⟩, hdata⟩, hst⟩, hev⟩, hcmd⟩, hsum⟩, hq⟩, hnested⟩ := he
  have hd := distinct_of schemaOf_Entity
  have hquery : Fills (entityScope d) d (mkMsgS sEntity) [b!"query"]
      (match (generalizing := false) query with | none => [] | some q => [queryBcl q])
      (match (generalizing := false) query with | none => [] | some q => [(b!"query", queryMsg j5Env q)]) := by
    cases query with
    | none => exact Fills.nil _
    | some q => exact query_fills d hq
  exact ((((((((Fills.optStr (by decide) hd (findBlock_head rfl) pi_Entity_baseUrlPath hbu).append
    (Fills.list hd pi_Entity_keys
      (appendsAll_map _ _ _ (fun k hk => key_appends d (List.all_eq_true.mp hkeys k hk)))) rfl).append
    (Fills.list hd pi_Entity_data
      (props_appendsAll (kw := b!"data") (by decide) (findBlock_head rfl) pi_Entity_data data (propsHas_all hdata)))
      rfl).append
    (Fills.list hd pi_Entity_status
      (appendsAll_map _ _ _ (fun s hs => status_appends d (List.all_eq_true.mp hst s hs)))) rfl).append
    (Fills.list hd pi_Entity_events
      (appendsAll_map _ _ _ (fun o ho => event_appends d (List.all_eq_true.mp hev o ho)))) rfl).append
    (Fills.list hd pi_Entity_commands
      (appendsAll_map _ _ _ (fun s hs => command_appends d (List.all_eq_true.mp hcmd s hs)))) rfl).append
    (Fills.list hd pi_Entity_summaries
      (appendsAll_map summaryBcl (summaryMsg j5Env) summaries (fun s hs =>
        have h := Bool.and_eq_true_iff.mp (List.all_eq_true.mp hsum s hs)
        summary_appends d h.1 h.2))) rfl).append hquery rfl).append
    (Fills.list hd pi_Entity_schemas (nestedE nested hnested d)) rfl

theorem entity_appends {e : J5V.Compile.Entity} (he : entityOk j5Env e = true) :
    Appends j5Env rootScope [] 3 (elemBcl (.entity e)) (elemMsg j5Env (.entity e)) := by
  have hname : isIdent e.name = true := by
    simp only [entityOk, Bool.and_eq_true] at he
    exact he.1.1.1.1.1.1.1.1.1
  show Appends _ _ _ _ _ (rootOneof j5Env b!"entity" (entityMsg j5Env e))
  rw [rootOneof_eq, entityMsg, mkMsg_eq_mkMsgS schemaOf_Entity]
  exact memberDecl_appends (kw := b!"entity") (by decide) (findBlock_head rfl) pi_SourceFile_elements
    pi_RootElement_entity specOf_RootElement specOf_Entity (distinct_of schemaOf_RootElement)
    (distinct_of schemaOf_Entity) (show specEntity.name = some ⟨wName, none, none, false, false⟩ by decide +kernel)
    (show specEntity.typeSelect = none by decide +kernel) rfl pi_Entity_name hname (storeNode_str _)
    (fun d => entityBody_fills d he) (by rfl)

/-- every element of the covered fragment appends its message to `elements` -/
theorem elem_appends_all {e : J5V.Compile.Elem} (hok : elemOk j5Env e = true) :
    Appends j5Env rootScope [] 3 (elemBcl e) (elemMsg j5Env e) := by
  cases e with
  | entity en => exact entity_appends hok
  | object o => exact elem_appends hok rfl
  | oneof o => exact elem_appends hok rfl
  | enum en => exact elem_appends hok rfl
  | service sv => exact elem_appends hok rfl
  | topic t => exact elem_appends hok rfl

/-- **print/parse (C07W)**: for every source file of the covered fragment, the walker run on the printed BCL
tree, from the file stub, yields exactly the message of the AST -/
theorem C07W_print_parse (filename : Str) (ast : J5V.Compile.SrcFile) (h : supported ast = true) :
    walkSchema j5Env (toBcl ast) (stub j5Env filename) = .ok (toMsg filename ast) := by
  cases ast with
  | proto _ _ _ => cases h
  | j5s path imports elems decl =>
    simp only [supported, supportedEnv, Bool.and_eq_true, List.all_eq_true] at h
    obtain ⟨⟨hdecl, himports⟩, helems⟩ := h
    refine print_parse_of filename path decl imports elems hdecl himports ?_
    exact appendsAll_map _ _ _ (fun e he => elem_appends_all (helems e he))

end J5V.Walker
