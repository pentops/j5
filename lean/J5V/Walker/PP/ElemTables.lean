import J5V.Walker.PP.FieldTables
/-!
# Tables of the schemas of files, declarations and elements

Literals and kernel-checked lookups as in `J5Tables`. The `index` of a `pi_X_prop` fact is the slot number that the
proofs write in addresses and in `Appends … i`.
-/
namespace J5V.Walker
open J5V.Bcl


theorem pi_SourceFile_package :
    propInfo j5Env sSourceFile b!"package" = some (1, none, .container sPackage) :=
  propInfo_container schemaOf_Package rfl
theorem pi_Package_name :
    propInfo j5Env sPackage wName = some (0, none, .scalar (.scalar .string) false) := by
      rw [j5Env_nf]; decide +kernel
theorem pi_OP_schema : propInfo j5Env sObjectProperty b!"schema" = some (0, none, .container sField) :=
  propInfo_container schemaOf_Field rfl
theorem pi_OP_name : propInfo j5Env sObjectProperty wName = some (1, none, .scalar (.scalar .string) false) := by
  rw [j5Env_nf]; decide +kernel
theorem pi_OP_required :
    propInfo j5Env sObjectProperty b!"required" = some (2, none, .scalar (.scalar .bool) false) := by
      rw [j5Env_nf]; decide +kernel
theorem pi_OP_explicitlyOptional :
    propInfo j5Env sObjectProperty b!"explicitlyOptional" = some (3, none, .scalar (.scalar .bool) false) := by
      rw [j5Env_nf]; decide +kernel
theorem pi_SourceFile_imports :
    propInfo j5Env sSourceFile b!"imports" = some (2, none, .arrayOfContainer sImport) :=
  propInfo_arrayOfContainer schemaOf_Import rfl
theorem pi_SourceFile_elements :
    propInfo j5Env sSourceFile b!"elements" = some (3, none, .arrayOfContainer sRootElement) :=
  propInfo_arrayOfContainer schemaOf_RootElement rfl
/-- the proto oneof of `j5.sourcedef.v1.RootElement` -/
def gRootElement : Str × List Nat := (b!"j5.sourcedef.v1.RootElement.type", [])
theorem pi_RootElement_object :
    propInfo j5Env sRootElement wObject = some (2, some gRootElement, .container sObject) :=
  propInfo_container schemaOf_Object rfl
theorem pi_Object_name : propInfo j5Env sObject wName = some (0, none, .scalar (.scalar .string) false) := by
  rw [j5Env_nf]; decide +kernel
theorem pi_Object_properties :
    propInfo j5Env sObject b!"properties" = some (3, none, .arrayOfContainer sObjectProperty) :=
  propInfo_arrayOfContainer schemaOf_ObjectProperty rfl
theorem pi_Import_path : propInfo j5Env sImport b!"path" = some (0, none, .scalar (.scalar .string) false) := by
  rw [j5Env_nf]; decide +kernel
theorem pi_Import_alias : propInfo j5Env sImport b!"alias" = some (1, none, .scalar (.scalar .string) false) := by
  rw [j5Env_nf]; decide +kernel

def sEntityKeyMsg : Schema := j5_schema_lit% "j5.schema.v1.EntityKey"
def specEntityKeyMsg : BlockSpec := j5_spec_lit% "j5.schema.v1.EntityKey"
def sEntityRef : Schema := j5_schema_lit% "j5.schema.v1.EntityRef"
def specEntityRef : BlockSpec := j5_spec_lit% "j5.schema.v1.EntityRef"
theorem schemaOf_EntityKeyMsg : j5Env.schemaOf nEntityKey = sEntityKeyMsg := by rw [j5Env_nf]; decide +kernel
theorem schemaOf_EntityRef : j5Env.schemaOf nEntityRef = sEntityRef := by rw [j5Env_nf]; decide +kernel
theorem specOf_EntityKeyMsg (c : Addr) : specOf j5Env ⟨c, .msg sEntityKeyMsg⟩ = .ok specEntityKeyMsg := by
  apply specOf_of_nil; rw [j5Env_nf]; decide +kernel
theorem specOf_EntityRef (c : Addr) : specOf j5Env ⟨c, .msg sEntityRef⟩ = .ok specEntityRef := by
  apply specOf_of_nil; rw [j5Env_nf]; decide +kernel
/-- the proto oneof of `j5.schema.v1.EntityKey` -/
def gEntityKeyType : Str × List Nat := (b!"j5.schema.v1.EntityKey.type", [])
theorem pi_KeyField_entity : propInfo j5Env sKeyField b!"entity" = some (4, none, .container sEntityKeyMsg) :=
  propInfo_container schemaOf_EntityKeyMsg rfl
theorem pi_EntityKeyMsg_primaryKey : propInfo j5Env sEntityKeyMsg b!"primaryKey" =
    some (0, some gEntityKeyType, .scalar (.scalar .bool) true) := by rw [j5Env_nf]; decide +kernel
theorem pi_EntityKeyMsg_foreignKey : propInfo j5Env sEntityKeyMsg b!"foreignKey" =
    some (1, some gEntityKeyType, .container sEntityRef) :=
  propInfo_container schemaOf_EntityRef rfl
theorem pi_EntityKeyMsg_tenantKey : propInfo j5Env sEntityKeyMsg b!"tenantKey" =
    some (2, none, .scalar (.scalar .string) true) := by rw [j5Env_nf]; decide +kernel
theorem pi_EntityRef_package : propInfo j5Env sEntityRef b!"package" =
    some (0, none, .scalar (.scalar .string) false) := by rw [j5Env_nf]; decide +kernel
theorem pi_EntityRef_entity : propInfo j5Env sEntityRef b!"entity" =
    some (1, none, .scalar (.scalar .string) false) := by rw [j5Env_nf]; decide +kernel

def sSObject : Schema := j5_schema_lit% "j5.schema.v1.Object"
def specSObject : BlockSpec := j5_spec_lit% "j5.schema.v1.Object"
def sSOneof : Schema := j5_schema_lit% "j5.schema.v1.Oneof"
def specSOneof : BlockSpec := j5_spec_lit% "j5.schema.v1.Oneof"
theorem schemaOf_SObject : j5Env.schemaOf nSObject = sSObject := by rw [j5Env_nf]; decide +kernel
theorem schemaOf_SOneof : j5Env.schemaOf nSOneof = sSOneof := by rw [j5Env_nf]; decide +kernel
theorem specOf_SObject (c : Addr) : specOf j5Env ⟨c, .msg sSObject⟩ = .ok specSObject := by
  apply specOf_of_nil; rw [j5Env_nf]; decide +kernel
theorem specOf_SOneof (c : Addr) : specOf j5Env ⟨c, .msg sSOneof⟩ = .ok specSOneof := by
  apply specOf_of_nil; rw [j5Env_nf]; decide +kernel
theorem pi_ObjectField_object :
    propInfo j5Env sObjectField wObject = some (1, some gObjectFieldSchema, .container sSObject) :=
  propInfo_container schemaOf_SObject rfl
theorem pi_OneofField_oneof :
    propInfo j5Env sOneofField wOneof = some (1, some gOneofFieldSchema, .container sSOneof) :=
  propInfo_container schemaOf_SOneof rfl
theorem pi_SObject_name : propInfo j5Env sSObject wName = some (0, none, .scalar (.scalar .string) false) := by
  rw [j5Env_nf]; decide +kernel
theorem pi_SObject_properties :
    propInfo j5Env sSObject b!"properties" = some (3, none, .arrayOfContainer sObjectProperty) :=
  propInfo_arrayOfContainer schemaOf_ObjectProperty rfl
theorem pi_SOneof_name : propInfo j5Env sSOneof wName = some (0, none, .scalar (.scalar .string) false) := by
  rw [j5Env_nf]; decide +kernel
theorem pi_SOneof_properties :
    propInfo j5Env sSOneof b!"properties" = some (2, none, .arrayOfContainer sObjectProperty) :=
  propInfo_arrayOfContainer schemaOf_ObjectProperty rfl
/-- `ref` is the only other member of the oneof of the inner declaration -/
theorem grp_ObjectField : sObjectField.props.all
    (fun q => q.oneofGroup != some gObjectFieldSchema || [wObject, b!"ref"].contains q.name) = true := by
  decide +kernel
theorem grp_OneofField : sOneofField.props.all
    (fun q => q.oneofGroup != some gOneofFieldSchema || [wOneof, b!"ref"].contains q.name) = true := by
  decide +kernel
def sSEnum : Schema := j5_schema_lit% "j5.schema.v1.Enum"
def specSEnum : BlockSpec := j5_spec_lit% "j5.schema.v1.Enum"
def sEnumOption : Schema := j5_schema_lit% "j5.schema.v1.Enum_Option"
def specEnumOption : BlockSpec := j5_spec_lit% "j5.schema.v1.Enum_Option"
theorem schemaOf_SEnum : j5Env.schemaOf nSEnum = sSEnum := by rw [j5Env_nf]; decide +kernel
theorem schemaOf_EnumOption : j5Env.schemaOf nEnumOption = sEnumOption := by rw [j5Env_nf]; decide +kernel
theorem specOf_SEnum (c : Addr) : specOf j5Env ⟨c, .msg sSEnum⟩ = .ok specSEnum := by
  apply specOf_of_nil; rw [j5Env_nf]; decide +kernel
theorem specOf_EnumOption (c : Addr) : specOf j5Env ⟨c, .msg sEnumOption⟩ = .ok specEnumOption := by
  apply specOf_of_nil; rw [j5Env_nf]; decide +kernel
theorem pi_EnumField_enum :
    propInfo j5Env sEnumField wEnum = some (1, some gEnumFieldSchema, .container sSEnum) :=
  propInfo_container schemaOf_SEnum rfl
theorem pi_SEnum_name : propInfo j5Env sSEnum wName = some (0, none, .scalar (.scalar .string) false) := by
  rw [j5Env_nf]; decide +kernel
theorem pi_SEnum_prefix : propInfo j5Env sSEnum b!"prefix" = some (2, none, .scalar (.scalar .string) false) := by
  rw [j5Env_nf]; decide +kernel
theorem pi_SEnum_options :
    propInfo j5Env sSEnum b!"options" = some (3, none, .arrayOfContainer sEnumOption) :=
  propInfo_arrayOfContainer schemaOf_EnumOption rfl
theorem pi_EnumOption_name :
    propInfo j5Env sEnumOption wName = some (0, none, .scalar (.scalar .string) false) := by
      rw [j5Env_nf]; decide +kernel
theorem grp_EnumField : sEnumField.props.all
    (fun q => q.oneofGroup != some gEnumFieldSchema || [wEnum, b!"ref"].contains q.name) = true := by
  decide +kernel

def sOneofDecl : Schema := j5_schema_lit% "j5.sourcedef.v1.Oneof"
def specOneofDecl : BlockSpec := j5_spec_lit% "j5.sourcedef.v1.Oneof"
def sNestedSchema : Schema := j5_schema_lit% "j5.sourcedef.v1.NestedSchema"
def specNestedSchema : BlockSpec := j5_spec_lit% "j5.sourcedef.v1.NestedSchema"
theorem schemaOf_OneofDecl : j5Env.schemaOf b!"j5.sourcedef.v1.Oneof" = sOneofDecl := by rw [j5Env_nf]; decide +kernel
theorem schemaOf_NestedSchema : j5Env.schemaOf b!"j5.sourcedef.v1.NestedSchema" = sNestedSchema := by
  rw [j5Env_nf]; decide +kernel
theorem specOf_OneofDecl (c : Addr) : specOf j5Env ⟨c, .msg sOneofDecl⟩ = .ok specOneofDecl := by
  apply specOf_of_nil; rw [j5Env_nf]; decide +kernel
theorem specOf_NestedSchema (c : Addr) : specOf j5Env ⟨c, .msg sNestedSchema⟩ = .ok specNestedSchema := by
  apply specOf_of_nil; rw [j5Env_nf]; decide +kernel
/-- the proto oneof of `j5.sourcedef.v1.NestedSchema` -/
def gNestedSchema : Str × List Nat := (b!"j5.sourcedef.v1.NestedSchema.type", [])
theorem pi_RootElement_oneof :
    propInfo j5Env sRootElement wOneof = some (1, some gRootElement, .container sOneofDecl) :=
  propInfo_container schemaOf_OneofDecl rfl
theorem pi_RootElement_enum :
    propInfo j5Env sRootElement wEnum = some (3, some gRootElement, .container sSEnum) :=
  propInfo_container schemaOf_SEnum rfl
theorem pi_OneofDecl_name : propInfo j5Env sOneofDecl wName = some (0, none, .scalar (.scalar .string) false) := by
  rw [j5Env_nf]; decide +kernel
theorem pi_OneofDecl_properties :
    propInfo j5Env sOneofDecl b!"properties" = some (2, none, .arrayOfContainer sObjectProperty) :=
  propInfo_arrayOfContainer schemaOf_ObjectProperty rfl
theorem pi_Object_schemas :
    propInfo j5Env sObject b!"schemas" = some (5, none, .arrayOfContainer sNestedSchema) :=
  propInfo_arrayOfContainer schemaOf_NestedSchema rfl
theorem pi_NestedSchema_object :
    propInfo j5Env sNestedSchema wObject = some (1, some gNestedSchema, .container sObject) :=
  propInfo_container schemaOf_Object rfl
theorem pi_NestedSchema_oneof :
    propInfo j5Env sNestedSchema wOneof = some (0, some gNestedSchema, .container sOneofDecl) :=
  propInfo_container schemaOf_OneofDecl rfl
theorem pi_NestedSchema_enum :
    propInfo j5Env sNestedSchema wEnum = some (2, some gNestedSchema, .container sSEnum) :=
  propInfo_container schemaOf_SEnum rfl
def sService : Schema := j5_schema_lit% "j5.sourcedef.v1.Service"
def specService : BlockSpec := j5_spec_lit% "j5.sourcedef.v1.Service"
def sAPIMethod : Schema := j5_schema_lit% "j5.sourcedef.v1.APIMethod"
def specAPIMethod : BlockSpec := j5_spec_lit% "j5.sourcedef.v1.APIMethod"
def sAnonObject : Schema := j5_schema_lit% "j5.sourcedef.v1.AnonymousObject"
def specAnonObject : BlockSpec := j5_spec_lit% "j5.sourcedef.v1.AnonymousObject"
theorem schemaOf_Service : j5Env.schemaOf b!"j5.sourcedef.v1.Service" = sService := by rw [j5Env_nf]; decide +kernel
theorem schemaOf_APIMethod : j5Env.schemaOf b!"j5.sourcedef.v1.APIMethod" = sAPIMethod := by
  rw [j5Env_nf]; decide +kernel
theorem schemaOf_AnonObject : j5Env.schemaOf b!"j5.sourcedef.v1.AnonymousObject" = sAnonObject := by
  rw [j5Env_nf]; decide +kernel
theorem specOf_Service (c : Addr) : specOf j5Env ⟨c, .msg sService⟩ = .ok specService := by
  apply specOf_of_nil; rw [j5Env_nf]; decide +kernel
theorem specOf_APIMethod (c : Addr) : specOf j5Env ⟨c, .msg sAPIMethod⟩ = .ok specAPIMethod := by
  apply specOf_of_nil; rw [j5Env_nf]; decide +kernel
theorem specOf_AnonObject (c : Addr) : specOf j5Env ⟨c, .msg sAnonObject⟩ = .ok specAnonObject := by
  apply specOf_of_nil; rw [j5Env_nf]; decide +kernel
theorem pi_RootElement_service :
    propInfo j5Env sRootElement b!"service" = some (5, some gRootElement, .container sService) :=
  propInfo_container schemaOf_Service rfl
theorem pi_Service_name : propInfo j5Env sService wName = some (0, none, .scalar (.scalar .string) true) := by
  rw [j5Env_nf]; decide +kernel
theorem pi_Service_basePath :
    propInfo j5Env sService b!"basePath" = some (1, none, .scalar (.scalar .string) true) := by
      rw [j5Env_nf]; decide +kernel
theorem pi_Service_methods :
    propInfo j5Env sService b!"methods" = some (3, none, .arrayOfContainer sAPIMethod) :=
  propInfo_arrayOfContainer schemaOf_APIMethod rfl
theorem pi_APIMethod_name : propInfo j5Env sAPIMethod wName = some (0, none, .scalar (.scalar .string) false) := by
  rw [j5Env_nf]; decide +kernel
theorem pi_APIMethod_httpPath :
    propInfo j5Env sAPIMethod b!"httpPath" = some (1, none, .scalar (.scalar .string) false) := by
      rw [j5Env_nf]; decide +kernel
theorem pi_APIMethod_httpMethod : propInfo j5Env sAPIMethod b!"httpMethod" =
    some (3, none, .scalar (.enum b!"j5.client.v1.HTTPMethod") false) := by rw [j5Env_nf]; decide +kernel
theorem pi_APIMethod_request :
    propInfo j5Env sAPIMethod b!"request" = some (4, none, .container sAnonObject) :=
  propInfo_container schemaOf_AnonObject rfl
theorem pi_APIMethod_response :
    propInfo j5Env sAPIMethod b!"response" = some (5, none, .container sAnonObject) :=
  propInfo_container schemaOf_AnonObject rfl
theorem pi_AnonObject_properties :
    propInfo j5Env sAnonObject b!"properties" = some (0, none, .arrayOfContainer sObjectProperty) :=
  propInfo_arrayOfContainer schemaOf_ObjectProperty rfl
def sTopic : Schema := j5_schema_lit% "j5.sourcedef.v1.Topic"
def specTopic : BlockSpec := j5_spec_lit% "j5.sourcedef.v1.Topic"
def sTopicType : Schema := j5_schema_lit% "j5.sourcedef.v1.TopicType"
def specTopicType : BlockSpec := j5_spec_lit% "j5.sourcedef.v1.TopicType"
def sTopicPublish : Schema := j5_schema_lit% "j5.sourcedef.v1.TopicType_Publish"
def specTopicPublish : BlockSpec := j5_spec_lit% "j5.sourcedef.v1.TopicType_Publish"
def sTopicReqRes : Schema := j5_schema_lit% "j5.sourcedef.v1.TopicType_ReqRes"
def specTopicReqRes : BlockSpec := j5_spec_lit% "j5.sourcedef.v1.TopicType_ReqRes"
def sTopicUpsert : Schema := j5_schema_lit% "j5.sourcedef.v1.TopicType_Upsert"
def specTopicUpsert : BlockSpec := j5_spec_lit% "j5.sourcedef.v1.TopicType_Upsert"
def sTopicMethod : Schema := j5_schema_lit% "j5.sourcedef.v1.TopicMethod"
def specTopicMethod : BlockSpec := j5_spec_lit% "j5.sourcedef.v1.TopicMethod"
theorem schemaOf_Topic : j5Env.schemaOf b!"j5.sourcedef.v1.Topic" = sTopic := by rw [j5Env_nf]; decide +kernel
theorem schemaOf_TopicType : j5Env.schemaOf b!"j5.sourcedef.v1.TopicType" = sTopicType := by
  rw [j5Env_nf]; decide +kernel
theorem schemaOf_TopicPublish : j5Env.schemaOf b!"j5.sourcedef.v1.TopicType_Publish" = sTopicPublish := by
  rw [j5Env_nf]; decide +kernel
theorem schemaOf_TopicReqRes : j5Env.schemaOf b!"j5.sourcedef.v1.TopicType_ReqRes" = sTopicReqRes := by
  rw [j5Env_nf]; decide +kernel
theorem schemaOf_TopicUpsert : j5Env.schemaOf b!"j5.sourcedef.v1.TopicType_Upsert" = sTopicUpsert := by
  rw [j5Env_nf]; decide +kernel
theorem schemaOf_TopicMethod : j5Env.schemaOf b!"j5.sourcedef.v1.TopicMethod" = sTopicMethod := by
  rw [j5Env_nf]; decide +kernel
theorem specOf_Topic (c : Addr) : specOf j5Env ⟨c, .msg sTopic⟩ = .ok specTopic := by
  apply specOf_of_nil; rw [j5Env_nf]; decide +kernel
theorem specOf_TopicType (c : Addr) : specOf j5Env ⟨c, .msg sTopicType⟩ = .ok specTopicType := by
  apply specOf_of_nil; rw [j5Env_nf]; decide +kernel
theorem specOf_TopicPublish (c : Addr) : specOf j5Env ⟨c, .msg sTopicPublish⟩ = .ok specTopicPublish := by
  apply specOf_of_nil; rw [j5Env_nf]; decide +kernel
theorem specOf_TopicReqRes (c : Addr) : specOf j5Env ⟨c, .msg sTopicReqRes⟩ = .ok specTopicReqRes := by
  apply specOf_of_nil; rw [j5Env_nf]; decide +kernel
theorem specOf_TopicUpsert (c : Addr) : specOf j5Env ⟨c, .msg sTopicUpsert⟩ = .ok specTopicUpsert := by
  apply specOf_of_nil; rw [j5Env_nf]; decide +kernel
theorem specOf_TopicMethod (c : Addr) : specOf j5Env ⟨c, .msg sTopicMethod⟩ = .ok specTopicMethod := by
  apply specOf_of_nil; rw [j5Env_nf]; decide +kernel
def gTopicType : Str × List Nat := (b!"j5.sourcedef.v1.TopicType.type", [])
theorem pi_RootElement_topic :
    propInfo j5Env sRootElement b!"topic" = some (4, some gRootElement, .container sTopic) :=
  propInfo_container schemaOf_Topic rfl
theorem pi_Topic_name : propInfo j5Env sTopic wName = some (0, none, .scalar (.scalar .string) false) := by
  rw [j5Env_nf]; decide +kernel
theorem pi_Topic_type : propInfo j5Env sTopic b!"type" = some (2, none, .container sTopicType) :=
  propInfo_container schemaOf_TopicType rfl
theorem pi_TopicType_publish :
    propInfo j5Env sTopicType b!"publish" = some (0, some gTopicType, .container sTopicPublish) :=
  propInfo_container schemaOf_TopicPublish rfl
theorem pi_TopicType_reqres :
    propInfo j5Env sTopicType b!"reqres" = some (1, some gTopicType, .container sTopicReqRes) :=
  propInfo_container schemaOf_TopicReqRes rfl
theorem pi_TopicType_upsert :
    propInfo j5Env sTopicType b!"upsert" = some (2, some gTopicType, .container sTopicUpsert) :=
  propInfo_container schemaOf_TopicUpsert rfl
theorem pi_TopicPublish_messages :
    propInfo j5Env sTopicPublish b!"messages" = some (0, none, .arrayOfContainer sTopicMethod) :=
  propInfo_arrayOfContainer schemaOf_TopicMethod rfl
theorem pi_TopicReqRes_request :
    propInfo j5Env sTopicReqRes b!"request" = some (0, none, .arrayOfContainer sTopicMethod) :=
  propInfo_arrayOfContainer schemaOf_TopicMethod rfl
theorem pi_TopicReqRes_reply :
    propInfo j5Env sTopicReqRes b!"reply" = some (1, none, .arrayOfContainer sTopicMethod) :=
  propInfo_arrayOfContainer schemaOf_TopicMethod rfl
theorem pi_TopicUpsert_message :
    propInfo j5Env sTopicUpsert b!"message" = some (1, none, .container sTopicMethod) :=
  propInfo_container schemaOf_TopicMethod rfl
theorem pi_TopicMethod_name :
    propInfo j5Env sTopicMethod wName = some (0, none, .scalar (.scalar .string) true) := by
      rw [j5Env_nf]; decide +kernel
theorem pi_TopicMethod_fields :
    propInfo j5Env sTopicMethod b!"fields" = some (2, none, .arrayOfContainer sObjectProperty) :=
  propInfo_arrayOfContainer schemaOf_ObjectProperty rfl

def sEntityKeyDecl : Schema := j5_schema_lit% "j5.sourcedef.v1.EntityKey"
def specEntityKeyDecl : BlockSpec := j5_spec_lit% "j5.sourcedef.v1.EntityKey"
theorem schemaOf_EntityKeyDecl : j5Env.schemaOf b!"j5.sourcedef.v1.EntityKey" = sEntityKeyDecl := by
  rw [j5Env_nf]; decide +kernel
theorem specOf_EntityKeyDecl (c : Addr) : specOf j5Env ⟨c, .msg sEntityKeyDecl⟩ = .ok specEntityKeyDecl := by
  apply specOf_of_nil; rw [j5Env_nf]; decide +kernel
theorem pi_EKD_schema : propInfo j5Env sEntityKeyDecl b!"schema" = some (0, none, .container sField) :=
  propInfo_container schemaOf_Field rfl
theorem pi_EKD_name : propInfo j5Env sEntityKeyDecl wName = some (1, none, .scalar (.scalar .string) false) := by
  rw [j5Env_nf]; decide +kernel
theorem pi_EKD_required :
    propInfo j5Env sEntityKeyDecl b!"required" = some (2, none, .scalar (.scalar .bool) false) := by
      rw [j5Env_nf]; decide +kernel
theorem pi_EKD_expl :
    propInfo j5Env sEntityKeyDecl b!"explicitlyOptional" = some (3, none, .scalar (.scalar .bool) false) := by
      rw [j5Env_nf]; decide +kernel
theorem pi_EKD_shardKey :
    propInfo j5Env sEntityKeyDecl b!"shardKey" = some (6, none, .scalar (.scalar .bool) false) := by
      rw [j5Env_nf]; decide +kernel
theorem pi_Field_key : propInfo j5Env sField b!"key" = some (14, some gField, .container sKeyField) :=
  propInfo_container schemaOf_KeyField rfl
def sEntity : Schema := j5_schema_lit% "j5.sourcedef.v1.Entity"
def specEntity : BlockSpec := j5_spec_lit% "j5.sourcedef.v1.Entity"
def sEntitySummary : Schema := j5_schema_lit% "j5.sourcedef.v1.EntitySummary"
def specEntitySummary : BlockSpec := j5_spec_lit% "j5.sourcedef.v1.EntitySummary"
def sEntityQuery : Schema := j5_schema_lit% "j5.sourcedef.v1.EntityQuery"
def specEntityQuery : BlockSpec := j5_spec_lit% "j5.sourcedef.v1.EntityQuery"
theorem schemaOf_Entity : j5Env.schemaOf b!"j5.sourcedef.v1.Entity" = sEntity := by rw [j5Env_nf]; decide +kernel
theorem schemaOf_EntitySummary : j5Env.schemaOf b!"j5.sourcedef.v1.EntitySummary" = sEntitySummary := by
  rw [j5Env_nf]; decide +kernel
theorem schemaOf_EntityQuery : j5Env.schemaOf b!"j5.sourcedef.v1.EntityQuery" = sEntityQuery := by
  rw [j5Env_nf]; decide +kernel
theorem specOf_Entity (c : Addr) : specOf j5Env ⟨c, .msg sEntity⟩ = .ok specEntity := by
  apply specOf_of_nil; rw [j5Env_nf]; decide +kernel
theorem specOf_EntitySummary (c : Addr) : specOf j5Env ⟨c, .msg sEntitySummary⟩ = .ok specEntitySummary := by
  apply specOf_of_nil; rw [j5Env_nf]; decide +kernel
theorem specOf_EntityQuery (c : Addr) : specOf j5Env ⟨c, .msg sEntityQuery⟩ = .ok specEntityQuery := by
  apply specOf_of_nil; rw [j5Env_nf]; decide +kernel
theorem pi_RootElement_entity :
    propInfo j5Env sRootElement b!"entity" = some (0, some gRootElement, .container sEntity) :=
  propInfo_container schemaOf_Entity rfl
theorem pi_Entity_name : propInfo j5Env sEntity wName = some (0, none, .scalar (.scalar .string) false) := by
  rw [j5Env_nf]; decide +kernel
theorem pi_Entity_baseUrlPath :
    propInfo j5Env sEntity b!"baseUrlPath" = some (2, none, .scalar (.scalar .string) false) := by
      rw [j5Env_nf]; decide +kernel
theorem pi_Entity_query : propInfo j5Env sEntity b!"query" = some (3, none, .container sEntityQuery) :=
  propInfo_container schemaOf_EntityQuery rfl
theorem pi_Entity_status : propInfo j5Env sEntity b!"status" = some (4, none, .arrayOfContainer sEnumOption) :=
  propInfo_arrayOfContainer schemaOf_EnumOption rfl
theorem pi_Entity_keys : propInfo j5Env sEntity b!"keys" = some (5, none, .arrayOfContainer sEntityKeyDecl) :=
  propInfo_arrayOfContainer schemaOf_EntityKeyDecl rfl
theorem pi_Entity_data : propInfo j5Env sEntity b!"data" = some (6, none, .arrayOfContainer sObjectProperty) :=
  propInfo_arrayOfContainer schemaOf_ObjectProperty rfl
theorem pi_Entity_events : propInfo j5Env sEntity b!"events" = some (7, none, .arrayOfContainer sObject) :=
  propInfo_arrayOfContainer schemaOf_Object rfl
theorem pi_Entity_schemas :
    propInfo j5Env sEntity b!"schemas" = some (8, none, .arrayOfContainer sNestedSchema) :=
  propInfo_arrayOfContainer schemaOf_NestedSchema rfl
theorem pi_Entity_commands : propInfo j5Env sEntity b!"commands" = some (9, none, .arrayOfContainer sService) :=
  propInfo_arrayOfContainer schemaOf_Service rfl
theorem pi_Entity_summaries :
    propInfo j5Env sEntity b!"summaries" = some (10, none, .arrayOfContainer sEntitySummary) :=
  propInfo_arrayOfContainer schemaOf_EntitySummary rfl
theorem pi_EntitySummary_name :
    propInfo j5Env sEntitySummary wName = some (0, none, .scalar (.scalar .string) false) := by
      rw [j5Env_nf]; decide +kernel
theorem pi_EntitySummary_fields :
    propInfo j5Env sEntitySummary b!"fields" = some (2, none, .arrayOfContainer sObjectProperty) :=
  propInfo_arrayOfContainer schemaOf_ObjectProperty rfl
theorem pi_EntityQuery_eventsInGet :
    propInfo j5Env sEntityQuery b!"eventsInGet" = some (0, none, .scalar (.scalar .bool) false) := by
      rw [j5Env_nf]; decide +kernel
theorem pi_EntityQuery_filter :
    propInfo j5Env sEntityQuery b!"defaultStatusFilter" = some (3, none, .arrayOfScalar (.scalar .string)) := by
      rw [j5Env_nf]; decide +kernel

end J5V.Walker
