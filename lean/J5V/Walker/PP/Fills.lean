import J5V.Walker.PP.Reach
/-!
# Bodies that fill a message

`Fills`: a list of statements writes a list of entries into the message `St vals` of a block (`MsgState`), provided none
of their keys was written before; a body is a concatenation (`Fills.append`) of attribute lines, optional lines, lists of
blocks and container blocks.
-/
namespace J5V.Walker
open J5V.Bcl

/-- the keys of `vals` are among `ks` -/
def KeysIn (ks : List Str) (vals : List (Str × Node)) : Prop := ∀ kv ∈ vals, kv.1 ∈ ks

theorem KeysIn.nil (ks : List Str) : KeysIn ks [] := fun _ h => by cases h

theorem KeysIn.single (n : Str) (v : Node) : KeysIn [n] [(n, v)] := fun kv h => by
  simp only [List.mem_singleton] at h; subst h; exact List.mem_singleton.mpr rfl

theorem KeysIn.optVal (c : Bool) (n : Str) (v : Node) : KeysIn [n] (optVal c n v) := by
  cases c
  · exact .nil _
  · exact .single n v

theorem KeysIn.listVal (n : Str) (xs : List Node) : KeysIn [n] (listVal n xs) := by
  unfold J5V.Walker.listVal
  split
  · exact .nil _
  · exact .single n _

theorem KeysIn.append {ks1 ks2 : List Str} {a b : List (Str × Node)} (ha : KeysIn ks1 a) (hb : KeysIn ks2 b) :
    KeysIn (ks1 ++ ks2) (a ++ b) := fun kv h => by
  rcases List.mem_append.mp h with h | h
  · exact List.mem_append_left _ (ha kv h)
  · exact List.mem_append_right _ (hb kv h)

theorem KeysIn.fresh {ks : List Str} {vals : List (Str × Node)} (h : KeysIn ks vals) {n : Str} (hn : n ∉ ks) :
    lookupVal n vals = none := by
  induction vals with
  | nil => rfl
  | cons kv rest ih =>
    obtain ⟨k, v⟩ := kv
    have hk : k ≠ n := fun e => hn (e ▸ h (k, v) List.mem_cons_self)
    simp only [lookupVal, if_neg hk]
    exact ih (fun kv hkv => h kv (List.mem_cons_of_mem _ hkv))

/-- none of `ks2` is among `ks1` (a closed check on literal names) -/
abbrev disjointKeys (ks1 ks2 : List Str) : Bool := ks2.all fun k => !ks1.contains k

theorem not_mem_of_disjointKeys {ks1 ks2 : List Str} (h : disjointKeys ks1 ks2 = true) {k : Str} (hk : k ∈ ks2) :
    k ∉ ks1 := by
  have := List.all_eq_true.mp h k hk
  simpa using this

theorem KeysIn.rulesVals (ts : Str) (rules : J5V.Compile.Rules) : KeysIn [wRules] (rulesVals j5Env ts rules) := by
  unfold J5V.Walker.rulesVals
  split
  · exact .nil _
  · exact .single _ _

theorem KeysIn.listRulesVals (lr : Option (List Str)) : KeysIn [b!"listRules"] (listRulesVals j5Env lr) := by
  cases lr
  · exact .nil _
  · exact .single _ _

theorem disjointKeys_nil (ks : List Str) : disjointKeys [] ks = true := by simp [disjointKeys]

/-!
`new` may depend on the AST (`optVal`, `listVal`, `childVal`: an entry that is there or not); `ks` is a fixed list of
names that contains its keys, so that two segments are seen to write different entries by a closed check on literals
(`disjointKeys`, by `rfl`).
-/

/-- the statements `sts`, run in `sc` on the message `St vals` below `a` (`vals`: what was written into the block so
far), write the entries `new`, whose keys are among `ks`, provided none of `ks` was written before -/
def Fills (sc : Scope) (a : Addr) (St : List (Str × Node) → Node) (ks : List Str) (sts : List Statement)
    (new : List (Str × Node)) : Prop :=
  KeysIn ks new ∧
  ∀ vals, (∀ k ∈ ks, lookupVal k vals = none) → Exact (doBody j5Env sc sts) a (St vals) () (St (vals ++ new))

namespace Fills
variable {sc : Scope} {a : Addr} {St : List (Str × Node) → Node}

theorem nil (ks : List Str) : Fills sc a St ks [] [] :=
  ⟨.nil _, fun vals _ => by rw [List.append_nil]; exact doBody_nil⟩

theorem append {ks1 ks2 : List Str} {sts1 sts2 : List Statement} {new1 new2 : List (Str × Node)}
    (h1 : Fills sc a St ks1 sts1 new1) (h2 : Fills sc a St ks2 sts2 new2) (hd : disjointKeys ks1 ks2 = true) :
    Fills sc a St (ks1 ++ ks2) (sts1 ++ sts2) (new1 ++ new2) := by
  refine ⟨h1.1.append h2.1, fun vals hv => ?_⟩
  have e := h2.2 (vals ++ new1) (fun k hk => by
    rw [lookupVal_append, hv k (List.mem_append_right _ hk), h1.1.fresh (not_mem_of_disjointKeys hd hk)]; rfl)
  rw [List.append_assoc] at e
  exact doBody_append (h1.2 vals (fun k hk => hv k (List.mem_append_left _ hk))) e

theorem run {ks : List Str} {sts : List Statement} {new : List (Str × Node)} (h : Fills sc a St ks sts new)
    {vals : List (Str × Node)} {ks0 : List Str} (hk : KeysIn ks0 vals) (hd : disjointKeys ks0 ks = true) :
    Exact (doBody j5Env sc sts) a (St vals) () (St (vals ++ new)) :=
  h.2 vals (fun _ hk' => hk.fresh (not_mem_of_disjointKeys hd hk'))

theorem ite {ks : List Str} {sts : List Statement} {new : List (Str × Node)} (c : Bool)
    (h : c = true → Fills sc a St ks sts new) :
    Fills sc a St ks (if c then sts else []) (if c then new else []) := by
  cases c
  · exact nil ks
  · exact h rfl

theorem single {n : Str} {st : Statement} {v : Node}
    (h : ∀ vals, lookupVal n vals = none → Exact (doStatement j5Env sc st) a (St vals) () (St (vals ++ [(n, v)]))) :
    Fills sc a St [n] [st] [(n, v)] :=
  ⟨.single n v, fun vals hv => doBody_cons (h vals (hv n (List.mem_singleton.mpr rfl))) (doBody_nil)⟩

theorem nonempty {n : Str} {st : Statement} {v : Node} (x : Str) (h : Fills sc a St [n] [st] [(n, v)]) :
    Fills sc a St [n] (if x = [] then [] else [st]) (optVal (x != []) n v) := by
  cases x with
  | nil => exact nil _
  | cons c cs => exact h

end Fills

/-!
## Lines through a reach

Some blocks are created only by the first line that writes into them (`rules`, `ref`, `entity`,
`listRules.filtering`, an inline declaration): the lines fill `fun vals => C (O vals)` (`Presents s O`).
-/

theorem KeysIn.childVal (pn : Str) (o : Option Node) : KeysIn [pn] (childVal pn o) := by
  cases o
  · exact .nil _
  · exact .single pn _

section
variable {sc : Scope} {pfx : List Str} {s : Schema} {spec : BlockSpec} {a b : Addr} {C : Option Node → Node}
  {P : Str → Prop} {O : List (Str × Node) → Option Node}

theorem BodyReach.fillsAttr (hr : BodyReach sc pfx s spec a b C P) (hO : Presents s O) (hd : s.namesDistinct = true)
    {n final : Str} (hn : P n) (hna : isAscii n = true) (hfb : blockPath n s spec = some [final])
    {i : Nat} {ty : FieldType} {pres : Bool} (hpi : propInfo j5Env s final = some (i, none, .scalar ty pres))
    {val : Value} {v : Scalar} (hva : (AV.value val).asArray = none)
    (hsc : scalarFromAST j5Env ty (.value val) = .ok v) :
    Fills sc a (fun vals => C (O vals)) [final] [assignStmt (pfx ++ [n]) val] [(final, storeNode pres v)] :=
  .single fun _ hl => hr.attrS hO hd hn hna hfb hpi hl (.inl rfl) hva hsc

theorem BodyReach.fillsStr (hr : BodyReach sc pfx s spec a b C P) (hO : Presents s O) (hd : s.namesDistinct = true)
    {n final : Str} (hn : P n) (hna : isAscii n = true) (hfb : blockPath n s spec = some [final])
    {i : Nat} (hpi : propInfo j5Env s final = some (i, none, .scalar (.scalar .string) false))
    {x : Str} (hx : okString x = true) :
    Fills sc a (fun vals => C (O vals)) [final] [assignStmt (pfx ++ [n]) (strValue x)] [(final, sStr x)] := by
  rw [← storeNode_str]
  exact hr.fillsAttr hO hd hn hna hfb hpi (asArray_strValue _)
    (by simp only [scalarFromAST, asString_strValue (isAscii_of_okString hx)]; rfl)

theorem BodyReach.fillsOptStr (hr : BodyReach sc pfx s spec a b C P) (hO : Presents s O)
    (hd : s.namesDistinct = true) {n final : Str} (hn : P n) (hna : isAscii n = true)
    (hfb : blockPath n s spec = some [final])
    {i : Nat} (hpi : propInfo j5Env s final = some (i, none, .scalar (.scalar .string) false))
    {x : Str} (hx : okString x = true) :
    Fills sc a (fun vals => C (O vals)) [final] (if x = [] then [] else [assignStmt (pfx ++ [n]) (strValue x)])
      (optVal (x != []) final (sStr x)) :=
  (hr.fillsStr hO hd hn hna hfb hpi hx).nonempty x

theorem BodyReach.fillsOptTrue (hr : BodyReach sc pfx s spec a b C P) (hO : Presents s O)
    (hd : s.namesDistinct = true) {n final : Str} (hn : P n) (hna : isAscii n = true)
    (hfb : blockPath n s spec = some [final])
    {i : Nat} (hpi : propInfo j5Env s final = some (i, none, .scalar (.scalar .bool) false)) (c : Bool) :
    Fills sc a (fun vals => C (O vals)) [final] (if c then [assignStmt (pfx ++ [n]) (boolValue true)] else [])
      (optVal c final bTrue) :=
  Fills.ite c (fun _ => hr.fillsAttr hO hd hn hna hfb hpi (asArray_boolValue _) (v := .bool true)
    (by simp only [scalarFromAST, asBool_boolValue]; rfl))

theorem BodyReach.fillsOptStrs (hr : BodyReach sc pfx s spec a b C P) (hO : Presents s O)
    (hd : s.namesDistinct = true) {n : Str} (hn : P n) (hna : isAscii n = true)
    (hfb : blockPath n s spec = some [n]) {i : Nat}
    (hpi : propInfo j5Env s n = some (i, none, .arrayOfScalar (.scalar .string))) {xs : List Str}
    (hok : xs.all okString = true) :
    Fills sc a (fun vals => C (O vals)) [n] (if xs = [] then [] else [assignStmt (pfx ++ [n]) (strsValue xs)])
      (listVal n (xs.map fun s => .scalar (.str s))) := by
  cases xs with
  | nil => exact .nil _
  | cons x xs =>
    rw [if_neg (by simp)]
    exact ⟨.listVal _ _, fun vals hv => doBody_cons
      (hr.strsS hO hd hn hna hfb hpi (hv n (List.mem_singleton.mpr rfl)) hok) (doBody_nil)⟩

/-- the lines into a container property `pn` that the first of them creates: the block gains the entry `pn` unless
there is no line. `grp`: the other properties of the oneof of `pn`, none of which may have been written -/
theorem BodyReach.fillsChildG (hr : BodyReach sc pfx s spec a b C P) (hO : Presents s O)
    (hd : s.namesDistinct = true) {n pn : Str} (hn : P n) (hna : isAscii n = true)
    (hfb : blockPath n s spec = some [pn])
    {i : Nat} {og : Option (Str × List Nat)} {s' : Schema} {spec' : BlockSpec}
    (hpi : propInfo j5Env s pn = some (i, og, .container s'))
    (hspec : ∀ c, specOf j5Env ⟨c, .msg s'⟩ = .ok spec') {grp : List Str}
    (hgrp : og ≠ none → s.props.all (fun q => q.oneofGroup != og || (pn :: grp).contains q.name) = true)
    {ks' : List Str} {sts : List Statement} {new' : List (Str × Node)}
    (hchild : ∀ {C' : Option Node → Node}, BodyReach sc (pfx ++ [n]) s' spec' a (b ++ [i]) C' (fun _ => True) →
      Fills sc a (fun vals' => C' (msgOpt s' vals')) ks' sts new') :
    Fills sc a (fun vals => C (O vals)) (pn :: grp) sts (childVal pn (msgOpt s' new')) := by
  refine ⟨fun kv hkv => List.mem_cons.mpr (.inl (List.mem_singleton.mp (KeysIn.childVal _ _ kv hkv))),
    fun vals hv => ?_⟩
  have hrC := hr.childS hO hd (vals := vals) hn hna hfb hpi hspec (hv pn List.mem_cons_self) (fun q hq hqg hog => by
    have := List.all_eq_true.mp (hgrp hog) q hq
    simp only [hqg, bne_self_eq_false, Bool.false_or, List.contains_eq_mem, decide_eq_true_eq] at this
    exact hv _ this)
  have h := (hchild hrC).run (vals := []) (ks0 := []) (.nil _) (by simp [disjointKeys])
  simp only [List.nil_append, childVal_msgOpt_nil, List.append_nil] at h
  exact h

theorem BodyReach.fillsChild (hr : BodyReach sc pfx s spec a b C P) (hO : Presents s O)
    (hd : s.namesDistinct = true) {n pn : Str} (hn : P n) (hna : isAscii n = true)
    (hfb : blockPath n s spec = some [pn])
    {i : Nat} {s' : Schema} {spec' : BlockSpec}
    (hpi : propInfo j5Env s pn = some (i, none, .container s'))
    (hspec : ∀ c, specOf j5Env ⟨c, .msg s'⟩ = .ok spec') {ks' : List Str} {sts : List Statement}
    {new' : List (Str × Node)}
    (hchild : ∀ {C' : Option Node → Node}, BodyReach sc (pfx ++ [n]) s' spec' a (b ++ [i]) C' (fun _ => True) →
      Fills sc a (fun vals' => C' (msgOpt s' vals')) ks' sts new') :
    Fills sc a (fun vals => C (O vals)) [pn] sts (childVal pn (msgOpt s' new')) :=
  hr.fillsChildG hO hd hn hna hfb hpi hspec (grp := []) (fun h => absurd rfl h) hchild

theorem BodyReach.fillsRuleLines {sR : Schema} {specR : BlockSpec} (hR : RulesSchemaOK sR specR) {pfx0 : List Str}
    (hr : BodyReach sc (pfx0 ++ [wRules]) sR specR a b C (fun _ => True)) (hO : Presents sR O) :
    (rules : J5V.Compile.Rules) → rules.all (fun r => ruleOk sR r && strOk r.lit) = true →
      distinct (rules.map (·.name)) = true →
      Fills sc a (fun vals => C (O vals)) (rules.map (·.name)) (rulesBcl pfx0 rules) (rules.map (ruleVal sR))
  | [], _, _ => Fills.nil _
  | r :: rest, hok, hdist => by
    simp only [List.all_cons, Bool.and_eq_true] at hok
    simp only [List.map_cons, distinct, Bool.and_eq_true, Bool.not_eq_true', List.contains_eq_mem,
      decide_eq_false_iff_not] at hdist
    have e : (r.name, (ruleVal sR r).2) = ruleVal sR r := by rw [← ruleVal_fst sR r]
    have h1 : Fills sc a (fun vals => C (O vals)) [r.name] [assignStmt (pfx0 ++ [wRules, r.name]) (litValue r.lit)]
        [(r.name, (ruleVal sR r).2)] := .single fun vals hl => by
      have h := hr.ruleLine hR hO (vals := vals) hok.1.1 hok.1.2 hl
      rw [← e, List.append_assoc] at h
      exact h
    rw [e] at h1
    exact h1.append (hr.fillsRuleLines hR hO rest hok.2 hdist.2)
      (List.all_eq_true.mpr fun k hk => by
        simp only [List.contains_eq_mem, List.mem_singleton, Bool.not_eq_true', decide_eq_false_iff_not]
        rintro rfl
        exact hdist.1 hk)

theorem BodyReach.fillsRules (hr : BodyReach sc pfx s spec a b C P) (hn : P wRules) {ts : Str} {ri : Nat}
    {sR : Schema} {specR : BlockSpec} (row : RulesRow ts s spec ri sR specR) {rules : J5V.Compile.Rules}
    (h : rulesOk j5Env ts rules = true) :
    Fills sc a (fun vals => C (some (mkMsgS s vals))) [wRules] (rulesBcl pfx rules) (rulesVals j5Env ts rules) := by
  rw [row.vals]
  exact hr.fillsChild (.some s) row.distinctT hn (by decide) row.path row.pi row.specOf fun hrR =>
    hrR.fillsRuleLines row.ok (.msgOpt sR) rules (row.unpack h).1 (row.unpack h).2

end

/-!
## The lines of the block at hand

Each is the lemma of the previous section at the reach `BodyReach.here`: `St := mkMsgS s`, a name is looked up by
`findBlock` in the scope.
-/

section
variable {sc : Scope} {s : Schema} {spec : BlockSpec} {c : Addr}

theorem Fills.attr {n : Str} (hn : isAscii n = true) (hd : s.namesDistinct = true) {final : Str}
    (hfb : findBlock n sc.blockSet = some (cfOf s spec c, [final])) {i : Nat} {ty : FieldType} {pres : Bool}
    (hpi : propInfo j5Env s final = some (i, none, .scalar ty pres)) {val : Value} {v : Scalar}
    (hna : (AV.value val).asArray = none) (hsc : scalarFromAST j5Env ty (.value val) = .ok v) :
    Fills sc c (mkMsgS s) [final] [assignStmt [n] val] [(final, storeNode pres v)] :=
  (BodyReach.here sc s spec c).fillsAttr (.some s) hd ⟨_, hfb⟩ hn (blockPath_of_findBlock hfb) hpi hna hsc

theorem Fills.str {n : Str} (hn : isAscii n = true) (hd : s.namesDistinct = true) {final : Str}
    (hfb : findBlock n sc.blockSet = some (cfOf s spec c, [final])) {i : Nat}
    (hpi : propInfo j5Env s final = some (i, none, .scalar (.scalar .string) false)) {x : Str}
    (hx : okString x = true) :
    Fills sc c (mkMsgS s) [final] [assignStmt [n] (strValue x)] [(final, sStr x)] :=
  (BodyReach.here sc s spec c).fillsStr (.some s) hd ⟨_, hfb⟩ hn (blockPath_of_findBlock hfb) hpi hx

theorem Fills.pstr {n : Str} (hn : isAscii n = true) (hd : s.namesDistinct = true) {final : Str}
    (hfb : findBlock n sc.blockSet = some (cfOf s spec c, [final])) {i : Nat}
    (hpi : propInfo j5Env s final = some (i, none, .scalar (.scalar .string) true)) {x : Str}
    (hx : okString x = true) :
    Fills sc c (mkMsgS s) [final] [assignStmt [n] (strValue x)] [(final, pStr x)] :=
  .attr hn hd hfb hpi (asArray_strValue _) (v := .str x)
    (by simp only [scalarFromAST, asString_strValue (isAscii_of_okString hx)]; rfl)

theorem Fills.optStr {n : Str} (hn : isAscii n = true) (hd : s.namesDistinct = true) {final : Str}
    (hfb : findBlock n sc.blockSet = some (cfOf s spec c, [final])) {i : Nat}
    (hpi : propInfo j5Env s final = some (i, none, .scalar (.scalar .string) false)) {x : Str}
    (hx : okString x = true) :
    Fills sc c (mkMsgS s) [final] (if x = [] then [] else [assignStmt [n] (strValue x)])
      (optVal (x != []) final (sStr x)) :=
  (BodyReach.here sc s spec c).fillsOptStr (.some s) hd ⟨_, hfb⟩ hn (blockPath_of_findBlock hfb) hpi hx

theorem Fills.optTrue {n : Str} (hn : isAscii n = true) (hd : s.namesDistinct = true) {final : Str}
    (hfb : findBlock n sc.blockSet = some (cfOf s spec c, [final])) {i : Nat}
    (hpi : propInfo j5Env s final = some (i, none, .scalar (.scalar .bool) false)) (b : Bool) :
    Fills sc c (mkMsgS s) [final] (if b then [assignStmt [n] (boolValue true)] else []) (optVal b final bTrue) :=
  (BodyReach.here sc s spec c).fillsOptTrue (.some s) hd ⟨_, hfb⟩ hn (blockPath_of_findBlock hfb) hpi b

theorem Fills.optStrs {n : Str} (hn : isAscii n = true) (hd : s.namesDistinct = true)
    (hfb : findBlock n sc.blockSet = some (cfOf s spec c, [n])) {i : Nat}
    (hpi : propInfo j5Env s n = some (i, none, .arrayOfScalar (.scalar .string))) {xs : List Str}
    (hok : xs.all okString = true) :
    Fills sc c (mkMsgS s) [n] (if xs = [] then [] else [assignStmt [n] (strsValue xs)])
      (listVal n (xs.map fun s => .scalar (.str s))) :=
  (BodyReach.here sc s spec c).fillsOptStrs (.some s) hd ⟨_, hfb⟩ hn (blockPath_of_findBlock hfb) hpi hok

theorem Fills.list (hd : s.namesDistinct = true) {n : Str} {i : Nat} {sD : Schema}
    (hpi : propInfo j5Env s n = some (i, none, .arrayOfContainer sD)) {sts : List Statement} {ms : List Node}
    (h : AppendsAll j5Env sc c i sts ms) : Fills sc c (mkMsgS s) [n] sts (listVal n ms) := by
  refine ⟨.listVal n ms, fun vals hv => ?_⟩
  have hl := hv n (List.mem_singleton.mpr rfl)
  cases ms with
  | nil => cases h; exact (doBody_nil).conv (by rw [show listVal n [] = [] from rfl, List.append_nil])
  | cons m rest =>
    obtain ⟨p, hf, _⟩ := propInfo_spec hpi
    obtain ⟨t, vs, hmk, ht, hv, hfin⟩ := mkMsgS_slot hd hf hl
    have h1 := appends_fold h [] t vs ht hv
    rw [hmk]
    exact h1.conv (hfin _)

/-- the head of the block writes `vals0` into the new message, the body fills it -/
theorem Fills.cont {kw : Str} (hkw : isAscii kw = true) (hd : s.namesDistinct = true)
    (hfb : findBlock kw sc.blockSet = some (cfOf s spec c, [kw])) {i : Nat} {sD : Schema} {specD : BlockSpec}
    (hpi : propInfo j5Env s kw = some (i, none, .container sD))
    (hspecD : ∀ c, specOf j5Env ⟨c, .msg sD⟩ = .ok specD) {tags : List TagValue} {isOpen : Bool}
    {vals0 : List (Str × Node)} {ks0 : List Str}
    (hhead : Exact (doBlockHead j5Env (Scope.newChild (cfOf sD specD (c ++ [i]))) specD
      ⟨refOf [kw], tags, [], none, isOpen, src0⟩) (c ++ [i]) (freshMsg sD) (Scope.newChild (cfOf sD specD (c ++ [i])))
      (mkMsgS sD vals0)) (hk0 : KeysIn ks0 vals0)
    {ks : List Str} {body : List Statement} {new : List (Str × Node)}
    (hbody : Fills (Scope.newChild (cfOf sD specD (c ++ [i]))) (c ++ [i]) (mkMsgS sD) ks body new)
    (hks : disjointKeys ks0 ks = true) :
    Fills sc c (mkMsgS s) [kw] [blockStmt kw tags [] isOpen body] [(kw, mkMsgS sD (vals0 ++ new))] :=
  .single fun vals hl => by
    obtain ⟨p, hf, _⟩ := propInfo_spec hpi
    have hL := mkMsgS_lens (vals2 := []) hd hf hl
    exact blockStmt_exact hkw
      (childBlock_of_walkPath hfb
        (walkPath_container (propInfo_hasProperty hpi) (propSetValue_newS false hd hpi hl (.inl rfl))
          (walkRest_nil))
        (setSpecs_cons (hspecD _) (setSpecs_nil)))
      (Exact.lens hL hhead) (Exact.lens hL (hbody.run hk0 hks))

theorem Fills.fresh {ks : List Str} {sts : List Statement} {new : List (Str × Node)}
    (h : Fills sc c (mkMsgS s) ks sts new) : Exact (doBody j5Env sc sts) c (freshMsg s) () (mkMsgS s new) := by
  rw [freshMsg_eq_mkMsgS]
  exact h.run (ks0 := []) (.nil _) (by simp)

end

theorem noHead_exact {kw : Str} {sD : Schema} {specD : BlockSpec} (d : Addr) (hname : specD.name = none)
    (hts : specD.typeSelect = none) (isOpen : Bool) :
    Exact (doBlockHead j5Env (Scope.newChild (cfOf sD specD d)) specD ⟨refOf [kw], [], [], none, isOpen, src0⟩) d
      (freshMsg sD) (Scope.newChild (cfOf sD specD d)) (mkMsgS sD []) := by
  rw [← freshMsg_eq_mkMsgS]
  exact doBlockHead_exact (spec2 := specD) rfl (walkTags_nil_none _ _ hname hts) (walkQualifiers_nil)

theorem emptyHead_exact {kw : Str} {sD : Schema} {specD : BlockSpec} (d : Addr) {nt : Tag}
    (hname : specD.name = some nt) (hopt : nt.isOptional = true) (isOpen : Bool) :
    Exact (doBlockHead j5Env (Scope.newChild (cfOf sD specD d)) specD ⟨refOf [kw], [], [], none, isOpen, src0⟩) d
      (freshMsg sD) (Scope.newChild (cfOf sD specD d)) (mkMsgS sD []) := by
  rw [← freshMsg_eq_mkMsgS]
  refine doBlockHead_exact (spec2 := specD) rfl ?_ (walkQualifiers_nil)
  show Exact (walkTags j5Env [] _ _ specD) _ _ _ _
  rw [walkTags, hname]
  dsimp only
  rw [hopt]
  exact Exact.pure

/-- a block that appends one element to the array-of-oneofs property `name` and selects the member `member` of the new
element (alias `kw → [name, member]`): head and body run inside the member -/
theorem arrayMemberBlock_exact {sc bs : Scope} {kw : Str} {tags quals : List TagValue}
    {isOpen : Bool} {body : List Statement} {s : Schema} {spec : BlockSpec} {c : Addr} {name member : Str}
    {i k : Nat} {s' s'' : Schema} {spec' spec'' : BlockSpec} {og : Option (Str × List Nat)}
    {t : List Bool} {vs : List Node} {xs : List Node} {D1 D2 : Node}
    (hkw : isAscii kw = true)
    (hfb : findBlock kw sc.blockSet = some (cfOf s spec c, [name, member]))
    (hpi : propInfo j5Env s name = some (i, none, .arrayOfContainer s'))
    (hpm : propInfo j5Env s' member = some (k, og, .container s''))
    (hspec' : specOf j5Env ⟨c ++ [i, xs.length], .msg s'⟩ = .ok spec')
    (hspec'' : specOf j5Env ⟨c ++ [i, xs.length, k], .msg s''⟩ = .ok spec'')
    (ht : t[i]? = some (!xs.isEmpty)) (hv : vs[i]? = some (listSlot xs)) (hd' : s'.namesDistinct = true)
    (hhead : Exact (doBlockHead j5Env (Scope.newChild (cfOf s'' spec'' (c ++ [i, xs.length, k]))) spec''
      ⟨refOf [kw], tags, quals, none, isOpen, src0⟩) (c ++ [i, xs.length, k]) (freshMsg s'') bs D1)
    (hbody : Exact (doBody j5Env bs body) (c ++ [i, xs.length, k]) D1 () D2) :
    Exact (doStatement j5Env sc (blockStmt kw tags quals isOpen body)) c (.msg t vs) ()
      (.msg (t.set i true) (vs.set i (.list (xs ++ [mkMsgS s' [(member, D2)]])))) := by
  have hlt : i < vs.length := (List.getElem?_eq_some_iff.mp hv).1
  obtain ⟨_, hf, _⟩ := propInfo_spec hpm
  have hL : Lens (fun Y => Node.msg (t.set i true) (vs.set i (.list (xs ++ [mkMsgS s' [(member, Y)]]))))
      ([i] ++ [xs.length] ++ [k]) :=
    Lens.comp (Lens.comp (Lens.slot (t.set i true) vs hlt) (Lens.last xs))
      (mkMsgS_lens (vals1 := []) (vals2 := []) hd' hf rfl)
  have hmem : Exact (walkPath j5Env (cf0 s' (c ++ [i, xs.length])) [member]) (c ++ [i, xs.length]) (freshMsg s')
      [cf0 s'' (c ++ [i, xs.length, k])] (mkMsgS s' [(member, freshMsg s'')]) := by
    rw [freshMsg_eq_mkMsgS s', show c ++ [i, xs.length, k] = c ++ [i, xs.length] ++ [k] by simp]
    exact walkPath_container (propInfo_hasProperty hpm) (propSetValue_newS false hd' hpm rfl (.inr rfl))
      (walkRest_nil)
  exact blockStmt_exact (bs := bs) hkw
    (childBlock_of_walkPath hfb (walkPath_array_exact hpi ht hv (walkRest_cons hmem))
      (setSpecs_cons hspec'' (setSpecs_cons hspec' (setSpecs_nil)))) (Exact.lens hL hhead) (Exact.lens hL hbody)
theorem arrayBlock_appendsS {sc : Scope} {kw : Str} (hkw : isAscii kw = true)
    {s : Schema} {spec : BlockSpec} {c : Addr} {arr : Str} {i : Nat} {sD : Schema} {specD : BlockSpec}
    (hfb : findBlock kw sc.blockSet = some (cfOf s spec c, [arr]))
    (hpiA : propInfo j5Env s arr = some (i, none, .arrayOfContainer sD))
    (hspecD : ∀ c, specOf j5Env ⟨c, .msg sD⟩ = .ok specD) {tags quals : List TagValue} {isOpen : Bool}
    {vals0 : List (Str × Node)} {ks0 : List Str}
    (hhead : ∀ d, Exact (doBlockHead j5Env (Scope.newChild (cfOf sD specD d)) specD
      ⟨refOf [kw], tags, quals, none, isOpen, src0⟩) d (freshMsg sD) (Scope.newChild (cfOf sD specD d))
      (mkMsgS sD vals0)) (hk0 : KeysIn ks0 vals0)
    {ks : List Str} {body : List Statement} {new : List (Str × Node)}
    (hbody : ∀ d, Fills (Scope.newChild (cfOf sD specD d)) d (mkMsgS sD) ks body new)
    (hks : disjointKeys ks0 ks = true) :
    Appends j5Env sc c i (blockStmt kw tags quals isOpen body) (mkMsgS sD (vals0 ++ new)) :=
  fun _ _ _ ht hv => arrayBlock_exact hkw hfb hpiA (hspecD _) ht hv (hhead _) ((hbody _).run hk0 hks)

/-- two steps of a type-select tag / block qualifier `w` through the property `c1` of the block found: the container
`c1` (a oneof, not written yet) is created and its member `w` selected -/
theorem selectMember_exactS {sc : Scope} {c1 w : Str} {s : Schema} {spec : BlockSpec} {d : Addr}
    (hfb : findBlock c1 sc.blockSet = some (cfOf s spec d, [c1]))
    {i1 : Nat} {og1 : Option (Str × List Nat)} {s1 : Schema} {spec1 : BlockSpec}
    (hpi1 : propInfo j5Env s c1 = some (i1, og1, .container s1))
    (hspec1 : ∀ c, specOf j5Env ⟨c, .msg s1⟩ = .ok spec1)
    (hpath : blockPath w s1 spec1 = some [w]) (hw : isAscii w = true)
    {k : Nat} {og2 : Option (Str × List Nat)} {s2 : Schema} {spec2 : BlockSpec}
    (hpi2 : propInfo j5Env s1 w = some (k, og2, .container s2))
    (hspec2 : ∀ c, specOf j5Env ⟨c, .msg s2⟩ = .ok spec2)
    (hd : s.namesDistinct = true) (hd1 : s1.namesDistinct = true)
    {vals : List (Str × Node)} (hl : lookupVal c1 vals = none) (hconf : og1 = none ∨ vals = []) :
    Exact (buildScope j5Env sc [c1] (refOf [w]).idents .keepScope) d (mkMsgS s vals)
      (sc.mergeScope (Scope.newChild (cfOf s2 spec2 (d ++ [i1, k]))))
      (mkMsgS s (vals ++ [(c1, mkMsgS s1 [(w, freshMsg s2)])])) := by
  have h1 : Exact (childBlock j5Env sc c1) d (mkMsgS s vals) (Scope.newChild (cfOf s1 spec1 (d ++ [i1])))
      (mkMsgS s (vals ++ [(c1, freshMsg s1)])) :=
    childBlock_of_walkPath hfb
      (walkPath_container (propInfo_hasProperty hpi1) (propSetValue_newS false hd hpi1 hl hconf) (walkRest_nil))
      (setSpecs_cons (hspec1 _) (setSpecs_nil))
  have h2 : Exact (childBlock j5Env (Scope.newChild (cfOf s1 spec1 (d ++ [i1]))) w) (d ++ [i1]) (freshMsg s1)
      (Scope.newChild (cfOf s2 spec2 (d ++ [i1] ++ [k]))) (mkMsgS s1 [(w, freshMsg s2)]) := by
    rw [freshMsg_eq_mkMsgS s1]
    exact childBlock_of_walkPath (findBlock_head hpath)
      (walkPath_container (propInfo_hasProperty hpi2) (propSetValue_newS false hd1 hpi2 rfl (.inr rfl))
        (walkRest_nil))
      (setSpecs_cons (hspec2 _) (setSpecs_nil))
  have h2' := Exact.lens (mkMsgS_lens (vals2 := []) hd (propInfo_find hpi1) hl) h2
  rw [List.append_assoc] at h2'
  exact buildScope_keep_run (combinePath_ident hw [c1]) (walkScope_cons h1 (walkScope_cons h2' (walkScope_nil)))

theorem selectMember_lens {c1 w : Str} {s s1 : Schema} {i1 k : Nat} {og1 og2 : Option (Str × List Nat)}
    {k1 k2 : FieldKind} (hpi1 : propInfo j5Env s c1 = some (i1, og1, k1)) (hpi2 : propInfo j5Env s1 w = some (k, og2, k2))
    (hd : s.namesDistinct = true) (hd1 : s1.namesDistinct = true) {vals : List (Str × Node)}
    (hl : lookupVal c1 vals = none) :
    Lens (fun Y => mkMsgS s (vals ++ [(c1, mkMsgS s1 [(w, Y)])])) ([i1] ++ [k]) :=
  Lens.comp (mkMsgS_lens hd (propInfo_find hpi1) hl)
    (mkMsgS_lens hd1 (propInfo_find hpi2) (vals1 := []) rfl)

end J5V.Walker
