import J5V.Walker.PP.Exact
import J5V.Walker.PP.J5Tables
import J5V.Walker.PP.Strings
/-!
# Exact lemmas for the walker's building blocks, generic over the schema and spec data

State and scope layer, walk layer, where a name leads from a block (`blockPath`), statements appending to a
repeated property, scalar splits. No lemma here names a schema of the table: the hypotheses are closed table facts
that `J5Tables` and the files after it supply.

The oneof check of `buildValue` is a hypothesis in two forms: `NoConflictAt s i og vs` says exactly that the check
passes; `NoConflict og vs` (no group, or nothing populated) implies it and is what a caller with a fresh message or a
property outside every oneof has at hand.

Fuel: lemmas about one level of `setAttribute` / `setContainerFromScalar` are stated for `fuel + 1`, lemmas whose
callers run them at the top for `fuelOf env`, which is a successor by `rfl` (`fuelOf_succ`): the two meet by unification.

`storeNode`, `walkRest` and `pathToType` are written-out parts of the model's `storeScalar`, `walkPath` and
`selectType`: the lemmas that use them rely on the model functions unfolding to these very terms.
-/
namespace J5V.Walker
open J5V.Bcl

/-!
## State and scope layer

State layer (`propSetValue`, `newContainerElement`, `storeScalar`), scope layer (`walkPath`,
`childBlock`, `walkScope`, `buildScope`, `scopeField`). Hypotheses are closed table facts
(`propInfo env s name = some (i, og, kind)`, `findBlock n blocks = some (b, path)`,
`specOf env ⟨c, .msg s⟩ = .ok spec`) and the shape of the message at the address (`t[i]? = …`,
`vs[i]? = …`).
-/

theorem propInfo_spec {env : Env} {s : Schema} {n : Str} {i : Nat} {og : Option (Str × List Nat)}
    {k : FieldKind} (h : propInfo env s n = some (i, og, k)) :
    ∃ p, findProp n 0 s.props = some (i, p) ∧ p.oneofGroup = og ∧ classify env s.name p = .ok k := by
  unfold propInfo at h
  split at h
  · rename_i j p hf
    split at h
    · rename_i k' hk
      simp only [Option.some.injEq, Prod.mk.injEq] at h
      obtain ⟨rfl, rfl, rfl⟩ := h
      exact ⟨p, hf, rfl, hk⟩
    · cases h
  · cases h

theorem propInfo_find {env : Env} {s : Schema} {n : Str} {i : Nat} {og : Option (Str × List Nat)} {k : FieldKind}
    (h : propInfo env s n = some (i, og, k)) : findProp n 0 s.props = some (i, (propInfo_spec h).choose) :=
  (propInfo_spec h).choose_spec.1

theorem propInfo_of {env : Env} {s : Schema} {n : Str} {i : Nat} {p : Property} {k : FieldKind}
    (hf : findProp n 0 s.props = some (i, p)) (hk : classify env s.name p = .ok k) :
    propInfo env s n = some (i, p.oneofGroup, k) := by
  unfold propInfo; rw [hf]; dsimp only; rw [hk]

theorem propInfo_hasProperty {env : Env} {s : Schema} {n : Str} {i : Nat} {og : Option (Str × List Nat)}
    {k : FieldKind} (h : propInfo env s n = some (i, og, k)) : s.hasProperty n = true := by
  obtain ⟨p, hf, _⟩ := propInfo_spec h
  simp [Schema.hasProperty, hf]

/-- index, proto oneof group and type of the property `name`: what `propInfo` reads off the schema alone -/
def propType (s : Schema) (name : Str) : Option (Nat × Option (Str × List Nat) × FieldType) :=
  (findProp name 0 s.props).map fun ip => (ip.1, ip.2.oneofGroup, ip.2.type)

theorem propInfo_of_type {env : Env} {s : Schema} {n : Str} {i : Nat} {og : Option (Str × List Nat)}
    {ty : FieldType} {k : FieldKind} (hp : propType s n = some (i, og, ty))
    (hk : ∀ p : Property, p.type = ty → classify env s.name p = .ok k) :
    propInfo env s n = some (i, og, k) := by
  unfold propType at hp
  cases hf : findProp n 0 s.props with
  | none => rw [hf] at hp; cases hp
  | some ip =>
    rw [hf] at hp
    simp only [Option.map_some, Option.some.injEq, Prod.mk.injEq] at hp
    obtain ⟨rfl, rfl, ht⟩ := hp
    exact propInfo_of hf (hk _ ht)

/-- the type that refers to the schema `s'` by the name `r` -/
def refType (r : Str) (s' : Schema) : FieldType := if s'.isOneof then .oneof r else .object r

/-- a property that refers to a schema: the one table fact needed is the lookup of the schema itself -/
theorem propInfo_container {env : Env} {s s' : Schema} {n r : Str} {i : Nat} {og : Option (Str × List Nat)}
    (hs : env.schemaOf r = s') (hp : propType s n = some (i, og, refType r s')) :
    propInfo env s n = some (i, og, .container s') := by
  refine propInfo_of_type hp (fun p ht => ?_)
  subst hs
  unfold refType at ht
  cases ho : (env.schemaOf r).isOneof <;> rw [ho] at ht <;>
    simp only [classify, ht, resolveRef, ho, Bool.false_eq_true, if_false, if_true]

theorem propInfo_arrayOfContainer {env : Env} {s s' : Schema} {n r : Str} {i : Nat}
    {og : Option (Str × List Nat)}
    (hs : env.schemaOf r = s') (hp : propType s n = some (i, og, .array (refType r s'))) :
    propInfo env s n = some (i, og, .arrayOfContainer s') := by
  refine propInfo_of_type hp (fun p ht => ?_)
  subst hs
  unfold refType at ht
  cases ho : (env.schemaOf r).isOneof <;> rw [ho] at ht <;>
    simp only [classify, ht, resolveRef, ho, Bool.false_eq_true, if_false, if_true]

/-- the schema a container property refers to is the schema of the table under its own name -/
theorem propInfo_container_spec {env : Env} {s s' : Schema} {n : Str} {i : Nat} {og : Option (Str × List Nat)}
    (h : propInfo env s n = some (i, og, .container s')) :
    propSchema env s n = s' ∧ env.schemaOf s'.name = s' := by
  obtain ⟨p, hf, _, hk⟩ := propInfo_spec h
  unfold propSchema
  rw [hf]
  cases ht : p.type <;> simp only [classify, ht] at hk ⊢ <;> first
    | (split at hk <;> cases hk
       cases resolveRef_ok (by assumption)
       exact ⟨rfl, by rw [schemaOf_name]⟩)
    | (split at hk <;> first | cases hk | (split at hk <;> cases hk))
    | cases hk

/-- a block over a message -/
def cfOf (s : Schema) (spec : BlockSpec) (c : Addr) : ContainerField := ⟨s.name, ⟨c, .msg s⟩, spec⟩

/-- a block as `walkPath` returns it: no spec yet -/
abbrev cf0 (s : Schema) (c : Addr) : ContainerField := cfOf s BlockSpec.empty c

theorem oneofConflict_unpop (g : Str × List Nat) (i : Nat) (props : List Property) (vs : List Node)
    (h : vs.all (fun v => !v.populated) = true) (j : Nat) : oneofConflict g i j props vs = false := by
  induction vs generalizing props j with
  | nil => cases props <;> rfl
  | cons v vs ih =>
    cases props with
    | nil => rfl
    | cons p ps =>
      simp only [List.all_cons, Bool.and_eq_true, Bool.not_eq_true'] at h
      simp only [oneofConflict, h.1, Bool.and_false, Bool.false_or]
      exact ih ps h.2 (j + 1)

/-- the oneof check of `buildValue` passes -/
def NoConflict (og : Option (Str × List Nat)) (vs : List Node) : Prop :=
  og = none ∨ vs.all (fun v => !v.populated) = true

theorem NoConflict.eq (og : Option (Str × List Nat)) (vs : List Node) (i : Nat) (props : List Property) :
    NoConflict og vs →
    (match og with
      | some g => oneofConflict g i 0 props vs
      | none => false) = false := by
  intro h
  rcases h with h | h
  · subst h; rfl
  · cases og with
    | none => rfl
    | some g => exact oneofConflict_unpop g i props vs h 0

/-- the oneof check of `buildValue` for property `i` of schema `s` passes -/
def NoConflictAt (s : Schema) (i : Nat) (og : Option (Str × List Nat)) (vs : List Node) : Prop :=
  ∀ g, og = some g → oneofConflict g i 0 s.props vs = false

theorem NoConflict.at {og : Option (Str × List Nat)} {vs : List Node} (h : NoConflict og vs) (s : Schema)
    (i : Nat) : NoConflictAt s i og vs := by
  intro g hg
  rcases h with h | h
  · rw [h] at hg; cases hg
  · exact oneofConflict_unpop g i s.props vs h 0

/-- `buildValue` on a property without oneof conflict -/
theorem buildValue_exact' {env : Env} {c : Addr} {s : Schema} {i : Nat} {p : Property}
    {kind : FieldKind} {t : List Bool} {vs : List Node} {cur : Node}
    (hk : classify env s.name p = .ok kind) (hv : vs[i]? = some cur)
    (hconf : NoConflictAt s i p.oneofGroup vs) :
    Exact (buildValue env c s i p) c (.msg t vs) ⟨c ++ [i], kind⟩
      (.msg (t.set i true) (vs.set i (builtValue kind cur))) := by
  unfold buildValue
  refine Exact.bind Exact.getNode_self ?_
  dsimp only
  refine Exact.ite_neg ?_ ?_
  · cases hg : p.oneofGroup with
    | none => simp
    | some g => simp [hconf g hg]
  · rw [hk, hv]
    refine Exact.bind (Exact.liftRes rfl) ?_
    dsimp only
    refine Exact.bind (Exact.setNode_self _) ?_
    exact Exact.pure

/-- `GetOrCreateValue` / `NewValue` on a property not touched yet: the wrapper is built -/
theorem propSetValue_build' {env : Env} {c : Addr} {s : Schema} {name : Str} {i : Nat}
    {og : Option (Str × List Nat)} {kind : FieldKind} {t : List Bool} {vs : List Node} {cur : Node}
    (mustBeNew : Bool)
    (hpi : propInfo env s name = some (i, og, kind)) (ht : t[i]? = some false) (hv : vs[i]? = some cur)
    (hconf : NoConflictAt s i og vs) :
    Exact (propSetValue env c s name mustBeNew) c (.msg t vs) ⟨c ++ [i], kind⟩
      (.msg (t.set i true) (vs.set i (builtValue kind cur))) := by
  obtain ⟨p, hf, hog, hk⟩ := propInfo_spec hpi
  subst hog
  unfold propSetValue
  rw [hf]
  dsimp only
  intro S hS
  rw [M.bind_apply, getNode_apply, hS]
  dsimp only
  rw [ht, if_neg (by simp)]
  exact buildValue_exact' hk hv hconf S hS

theorem propSetValue_build {env : Env} {c : Addr} {s : Schema} {name : Str} {i : Nat}
    {og : Option (Str × List Nat)} {kind : FieldKind} {t : List Bool} {vs : List Node} {cur : Node}
    (mustBeNew : Bool)
    (hpi : propInfo env s name = some (i, og, kind)) (ht : t[i]? = some false) (hv : vs[i]? = some cur)
    (hconf : NoConflict og vs) :
    Exact (propSetValue env c s name mustBeNew) c (.msg t vs) ⟨c ++ [i], kind⟩
      (.msg (t.set i true) (vs.set i (builtValue kind cur))) :=
  propSetValue_build' mustBeNew hpi ht hv (hconf.at s i)

/-- `GetOrCreateValue` on a touched property: the cached wrapper, nothing changes -/
theorem propSetValue_cached {env : Env} {c : Addr} {s : Schema} {name : Str} {i : Nat}
    {og : Option (Str × List Nat)} {kind : FieldKind} {t : List Bool} {vs : List Node}
    (hpi : propInfo env s name = some (i, og, kind)) (ht : t[i]? = some true) :
    Exact (propSetValue env c s name false) c (.msg t vs) ⟨c ++ [i], kind⟩ (.msg t vs) := by
  obtain ⟨p, hf, _, hk⟩ := propInfo_spec hpi
  intro S hS
  simp only [propSetValue, hf, M.bind_apply, getNode_apply, hS, ht, if_true, Bool.false_eq_true,
    if_false, hk, M.lift_ok, M.pure_apply, Node.set_get_self hS]

/-- `NewContainerElement` -/
theorem newContainerElement_exact (f : Addr) (s : Schema) (xs : List Node) :
    Exact (newContainerElement f s) f (.list xs) ⟨f ++ [xs.length], .msg s⟩ (.list (xs ++ [freshMsg s])) := by
  intro S hS
  simp only [newContainerElement, M.bind_apply, getNode_apply, hS, setNode_apply, M.pure_apply]

/-- the node `storeScalar` leaves -/
def storeNode (presence : Bool) (v : Scalar) : Node := if presence || !v.isZero then .scalar v else .absent

theorem storeNode_str (s : Str) : storeNode false (.str s) = sStr s := by
  cases s <;> rfl

theorem storeNode_true : storeNode false (.bool true) = bTrue := rfl

theorem storeScalar_exact (f : Addr) (presence : Bool) (v : Scalar) (X : Node) :
    Exact (storeScalar f presence v) f X () (storeNode presence v) := by
  intro S _; rfl

/-- the slot of a repeated property holding `xs` (`Print.listVal`: touched iff non-empty) -/
def listSlot (xs : List Node) : Node := if xs.isEmpty then .absent else .list xs

theorem list_set_self {α : Type} {l : List α} {i : Nat} {x : α} (h : l[i]? = some x) : l.set i x = l := by
  obtain ⟨hlt, he⟩ := List.getElem?_eq_some_iff.mp h
  rw [← he]; exact List.set_getElem_self hlt

/-- `GetOrCreateValue` of an array-of-containers property holding `xs` (first visit: built, the slot
becomes `[]`; later visits: the cached wrapper) -/
theorem propSetValue_array {env : Env} {c : Addr} {s : Schema} {name : Str} {i : Nat} {s' : Schema}
    {t : List Bool} {vs : List Node} {xs : List Node}
    (hpi : propInfo env s name = some (i, none, .arrayOfContainer s'))
    (ht : t[i]? = some (!xs.isEmpty)) (hv : vs[i]? = some (listSlot xs)) :
    Exact (propSetValue env c s name false) c (.msg t vs) ⟨c ++ [i], .arrayOfContainer s'⟩
      (.msg (t.set i true) (vs.set i (.list xs))) := by
  cases xs with
  | nil => exact propSetValue_build false hpi ht hv (.inl rfl)
  | cons x xs =>
    have hv' : vs[i]? = some (.list (x :: xs)) := hv
    rw [list_set_self (show t[i]? = some true from ht), list_set_self hv']
    exact propSetValue_cached hpi ht

/-- the tail of `walkPath` after the child has been made -/
def walkRest (env : Env) (child : ContainerField) (rest : List Str) : M (List ContainerField) :=
  if rest.isEmpty then pure [child]
  else do
    let endField ← walkPath env child rest
    pure (endField ++ [child])

theorem walkRest_nil {env : Env} {child : ContainerField} {a : Addr} {X : Node} :
    Exact (walkRest env child []) a X [child] X := Exact.pure

theorem walkRest_cons {env : Env} {child : ContainerField} {n : Str} {rest : List Str} {a : Addr}
    {X X1 : Node} {more : List ContainerField}
    (h : Exact (walkPath env child (n :: rest)) a X more X1) :
    Exact (walkRest env child (n :: rest)) a X (more ++ [child]) X1 := by
  unfold walkRest
  rw [if_neg (by simp)]
  exact Exact.bind h (Exact.pure)

/-- one step of `walkPath` through a container-typed property -/
theorem walkPath_container {env : Env} {s : Schema} {spec : BlockSpec} {c : Addr} {name : Str}
    {rest : List Str} {a : Addr} {X X1 X2 : Node} {f : Addr} {s' : Schema} {res : List ContainerField}
    (hhas : s.hasProperty name = true)
    (hval : Exact (propSetValue env c s name false) a X ⟨f, .container s'⟩ X1)
    (hrest : Exact (walkRest env (cf0 s' f) rest) a X1 res X2) :
    Exact (walkPath env (cfOf s spec c) (name :: rest)) a X res X2 := by
  rw [walkPath]
  have : (cfOf s spec c).container.hasProperty name = true := hhas
  rw [this]
  dsimp only [Bool.not_true]
  rw [if_neg (by simp)]
  refine Exact.bind (hval.mapErr _) ?_
  dsimp only
  refine Exact.bind (Exact.pure) ?_
  exact hrest

/-- one step of `walkPath` through an array of containers: a NEW element -/
theorem walkPath_array {env : Env} {s : Schema} {spec : BlockSpec} {c : Addr} {name : Str}
    {rest : List Str} {a : Addr} {X X1 X2 X3 : Node} {f f' : Addr} {s' : Schema}
    {res : List ContainerField}
    (hhas : s.hasProperty name = true)
    (hval : Exact (propSetValue env c s name false) a X ⟨f, .arrayOfContainer s'⟩ X1)
    (hnew : Exact (newContainerElement f s') a X1 ⟨f', .msg s'⟩ X2)
    (hrest : Exact (walkRest env (cf0 s' f') rest) a X2 res X3) :
    Exact (walkPath env (cfOf s spec c) (name :: rest)) a X res X3 := by
  rw [walkPath]
  have : (cfOf s spec c).container.hasProperty name = true := hhas
  rw [this]
  dsimp only [Bool.not_true]
  rw [if_neg (by simp)]
  refine Exact.bind (hval.mapErr _) ?_
  dsimp only
  refine Exact.bind hnew ?_
  exact hrest

/-- `walkPath` through an array-of-containers property: a new element is appended -/
theorem walkPath_array_exact {env : Env} {s : Schema} {spec : BlockSpec} {c : Addr} {name : Str}
    {rest : List Str} {i : Nat} {s' : Schema} {t : List Bool} {vs : List Node} {xs : List Node}
    {E' : Node} {res : List ContainerField}
    (hpi : propInfo env s name = some (i, none, .arrayOfContainer s'))
    (ht : t[i]? = some (!xs.isEmpty)) (hv : vs[i]? = some (listSlot xs))
    (hrest : Exact (walkRest env (cf0 s' (c ++ [i, xs.length])) rest) (c ++ [i, xs.length]) (freshMsg s') res E') :
    Exact (walkPath env (cfOf s spec c) (name :: rest)) c (.msg t vs) res
      (.msg (t.set i true) (vs.set i (.list (xs ++ [E'])))) := by
  have hlt : i < vs.length := (List.getElem?_eq_some_iff.mp hv).1
  have hnew : Exact (newContainerElement (c ++ [i]) s') c (.msg (t.set i true) (vs.set i (.list xs)))
      ⟨c ++ [i, xs.length], .msg s'⟩ (.msg (t.set i true) (vs.set i (.list (xs ++ [freshMsg s'])))) := by
    have h := Exact.lift_prop (t := t.set i true) (vs := vs.set i (.list xs)) (i := i) (a := c)
      (by rw [List.getElem?_set_self hlt]) (newContainerElement_exact (c ++ [i]) s' xs)
    rw [List.set_set] at h
    refine h.conv_res ?_
    rw [List.append_assoc]; rfl
  refine walkPath_array (propInfo_hasProperty hpi) (propSetValue_array hpi ht hv) hnew ?_
  have h := Exact.lift_elem (t := t.set i true) (vs := vs.set i (.list (xs ++ [freshMsg s']))) (i := i) (a := c)
    (by rw [List.getElem?_set_self hlt]) hrest
  rw [List.set_set] at h
  exact h

theorem setSpecs_nil {env : Env} : setSpecs env [] = .ok [] := rfl

theorem setSpecs_cons {env : Env} {s : Schema} {c : Addr} {spec : BlockSpec} {rest rest' : List ContainerField}
    (h : specOf env ⟨c, .msg s⟩ = .ok spec) (hr : setSpecs env rest = .ok rest') :
    setSpecs env (cf0 s c :: rest) = .ok (cfOf s spec c :: rest') := by
  have : specOf env (cf0 s c).container = .ok spec := h
  simp only [setSpecs, this, hr]
  rfl

theorem walkToChild_exact {env : Env} {root : ContainerField} {p : Str} {path : List Str} {a : Addr} {X X1 : Node}
    {visited : List ContainerField} {main : ContainerField} {more : List ContainerField}
    (hwp : Exact (walkPath env root (p :: path)) a X visited X1)
    (hss : setSpecs env visited = .ok (main :: more)) :
    Exact (walkToChild env root (p :: path)) a X main X1 := by
  unfold walkToChild
  rw [if_neg (by simp)]
  exact Exact.bind hwp (Exact.bind (Exact.liftRes hss) (Exact.pure))

/-- `ChildBlock` from an exact run of `walkPath` -/
theorem childBlock_of_walkPath {env : Env} {sc : Scope} {n : Str} {root : ContainerField} {p : Str}
    {path : List Str} {a : Addr} {X X1 : Node} {visited : List ContainerField} {main : ContainerField}
    {more : List ContainerField}
    (hfb : findBlock n sc.blockSet = some (root, p :: path))
    (hwp : Exact (walkPath env root (p :: path)) a X visited X1)
    (hss : setSpecs env visited = .ok (main :: more)) :
    Exact (childBlock env sc n) a X (Scope.newChild main) X1 := by
  unfold childBlock
  rw [hfb]
  exact Exact.bind (walkToChild_exact hwp hss) (Exact.pure)

theorem findBlock_alias {n : Str} {b : ContainerField} {rest : List ContainerField} {p : PathSpec}
    (h : aliasLookup n b.spec.aliases = some p) : findBlock n (b :: rest) = some (b, p) := by
  simp only [findBlock, h]

theorem findBlock_prop {n : Str} {b : ContainerField} {rest : List ContainerField}
    (h : aliasLookup n b.spec.aliases = none) (hp : b.container.hasProperty n = true) :
    findBlock n (b :: rest) = some (b, [n]) := by
  simp only [findBlock, h, hp, if_true]

theorem findBlock_skip {n : Str} {b : ContainerField} {rest : List ContainerField}
    (h : aliasLookup n b.spec.aliases = none) (hp : b.container.hasProperty n = false) :
    findBlock n (b :: rest) = findBlock n rest := by
  simp only [findBlock, h, hp, Bool.false_eq_true, if_false]

theorem walkScope_nil {env : Env} {sc : Scope} {a : Addr} {X : Node} :
    Exact (walkScope env sc []) a X sc X := Exact.pure

theorem walkScope_cons {env : Env} {sc next : Scope} {id : PathElement} {rest : List PathElement}
    {a : Addr} {X X1 X2 : Node} {r : Scope}
    (h1 : Exact (childBlock env sc id.name) a X next X1)
    (h2 : Exact (walkScope env next rest) a X1 r X2) :
    Exact (walkScope env sc (id :: rest)) a X r X2 := by
  intro S hS
  rw [walkScope]
  dsimp only
  rw [h1 S hS]
  dsimp only
  rw [h2 _ (Node.get?_set_self' hS X1), Node.set_set]

theorem buildScope_reset {env : Env} {sc : Scope} {sp : PathSpec} {up : List Ident} {e : PathElement}
    {es : List PathElement} {a : Addr} {X X1 : Node} {r : Scope}
    (hp : combinePath sp up = e :: es)
    (h : Exact (walkScope env sc (e :: es)) a X r X1) :
    Exact (buildScope env sc sp up .resetScope) a X r X1 := by
  unfold buildScope
  dsimp only
  rw [hp, if_neg (by simp)]
  exact Exact.bind h (Exact.pure)

theorem buildScope_keep_run {env : Env} {sc : Scope} {sp : PathSpec} {up : List Ident} {e : PathElement}
    {es : List PathElement} {a : Addr} {X X1 : Node} {r : Scope}
    (hp : combinePath sp up = e :: es)
    (h : Exact (walkScope env sc (e :: es)) a X r X1) :
    Exact (buildScope env sc sp up .keepScope) a X (sc.mergeScope r) X1 := by
  unfold buildScope
  dsimp only
  rw [hp, if_neg (by simp)]
  exact Exact.bind h (Exact.pure)

theorem scopeField_of_walk {env : Env} {ps : Scope} {n final : Str} {pre : List Str} {root : ContainerField}
    {existingIsOk : Bool} {a : Addr} {X X1 X2 : Node} {s : Schema} {spec : BlockSpec} {c : Addr} {fld : Field}
    (hfb : findBlock n ps.blockSet = some (root, pre ++ [final]))
    (hwc : Exact (walkToChild env root pre) a X (cfOf s spec c) X1)
    (hhas : s.hasProperty final = true)
    (hval : Exact (propSetValue env c s final (!existingIsOk)) a X1 fld X2) :
    Exact (scopeField env ps n existingIsOk) a X fld X2 := by
  unfold scopeField
  rw [hfb]
  dsimp only
  rw [if_neg (by simp), List.getLast?_concat, List.dropLast_concat]
  dsimp only
  refine Exact.bind hwc ?_
  have : (cfOf s spec c).container.hasProperty final = true := hhas
  refine Exact.ite_neg (by simp [this]) ?_
  exact hval.mapErr _

/-- `Scope.Field` when the block found holds the property itself (path of length one) -/
theorem scopeField_direct {env : Env} {sc : Scope} {n final : Str} {s : Schema} {spec : BlockSpec}
    {c : Addr} {existingIsOk : Bool} {a : Addr} {X X1 : Node} {f : Field}
    (hfb : findBlock n sc.blockSet = some (cfOf s spec c, [final]))
    (hhas : s.hasProperty final = true)
    (hval : Exact (propSetValue env c s final (!existingIsOk)) a X f X1) :
    Exact (scopeField env sc n existingIsOk) a X f X1 :=
  scopeField_of_walk (pre := []) hfb (Exact.ite_pos rfl (Exact.pure)) hhas hval

/-!
## The walk layer (`walk_context.go`, `c2.go`)

`setAttribute` into a scalar field, `checkBang`, `applyNameTag`, `selectType`, `walkTags` (name tag,
name tag + type select, no tag), `walkQualifiers` (none, one attribute qualifier, one block qualifier),
`doBlockHead`, `doFullBlockHead`, `doStatement` on a block / an assignment, `doBody` on `++`.
-/

/-- `SetAttribute` on a path that ends in a scalar field -/
theorem setAttribute_scalar {env : Env} {fuel : Nat} {sc : Scope} {path : PathSpec} {ref : List Ident}
    {val : AV} {pre : List PathElement} {last : PathElement} {a : Addr} {X X1 X2 X3 : Node} {ps : Scope}
    {f : Addr} {ty : FieldType} {pres : Bool} {v : Scalar}
    (hfp : combinePath path ref = pre ++ [last])
    (hws : Exact (walkScope env sc pre) a X ps X1)
    (hsf : Exact (scopeField env ps last.name false) a X1 ⟨f, .scalar ty pres⟩ X2)
    (hna : val.asArray = none) (hsc : scalarFromAST env ty val = .ok v)
    (hst : Exact (storeScalar f pres v) a X2 () X3) :
    Exact (setAttribute env (fuel + 1) sc path ref val false) a X () X3 := by
  rw [setAttribute]
  dsimp only
  rw [hfp]
  rw [if_neg (by simp), List.getLast?_concat, List.dropLast_concat]
  dsimp only
  refine Exact.bind hws ?_
  refine Exact.bind (hsf.tryCatch _) ?_
  dsimp only
  rw [hna]
  dsimp only [Bool.false_eq_true, if_false]
  rw [hsc]
  exact hst

/-- `SetAttribute` whose last name is found (alias of length one, or the property itself) in a block at
`a ++ b`, into a scalar property not touched yet; `pre` = the part of the path walked before -/
theorem setAttr_walk {env : Env} {fuel : Nat} {sc ps : Scope} {path : PathSpec} {ref : List Ident} {val : AV}
    {pre : List PathElement} {n : Str} {pos : Option Span} {s : Schema} {spec : BlockSpec} {a b : Addr}
    {final : Str} {i : Nat} {og : Option (Str × List Nat)} {ty : FieldType} {pres : Bool} {X X1 : Node}
    {t : List Bool} {vs : List Node} {cur : Node} {v : Scalar}
    (hfp : combinePath path ref = pre ++ [⟨n, pos⟩])
    (hws : Exact (walkScope env sc pre) a X ps X1)
    (hfb : findBlock n ps.blockSet = some (cfOf s spec (a ++ b), [final]))
    (hpi : propInfo env s final = some (i, og, .scalar ty pres))
    (hX1 : X1.get? b = some (.msg t vs))
    (ht : t[i]? = some false) (hv : vs[i]? = some cur) (hconf : NoConflict og vs)
    (hna : val.asArray = none) (hsc : scalarFromAST env ty val = .ok v) :
    Exact (setAttribute env (fuel + 1) sc path ref val false) a X ()
      (X1.set b (.msg (t.set i true) (vs.set i (storeNode pres v)))) := by
  have hlt : i < vs.length := (List.getElem?_eq_some_iff.mp hv).1
  refine setAttribute_scalar (last := ⟨n, pos⟩) hfp hws
    ((scopeField_direct hfb (propInfo_hasProperty hpi) (propSetValue_build _ hpi ht hv hconf)).lift hX1)
    hna hsc ?_
  have h := Exact.setNode (a := a) (b := b ++ [i])
    (X := X1.set b (.msg (t.set i true) (vs.set i (builtValue (.scalar ty pres) cur)))) (storeNode pres v)
  rw [← List.append_assoc] at h
  refine h.conv ?_
  rw [Node.set_append (Node.get?_set_self' hX1 _), Node.set_set,
    Node.set_msg_single _ _ _ cur _ (by rw [List.getElem?_set_self hlt]; rfl), List.set_set]

theorem setAttr_direct {env : Env} {fuel : Nat} {sc : Scope} {path : PathSpec} {ref : List Ident} {val : AV}
    {n : Str} {pos : Option Span} {s : Schema} {spec : BlockSpec} {c : Addr} {final : Str} {i : Nat}
    {og : Option (Str × List Nat)} {ty : FieldType} {pres : Bool} {t : List Bool} {vs : List Node}
    {cur : Node} {v : Scalar}
    (hfp : combinePath path ref = [⟨n, pos⟩])
    (hfb : findBlock n sc.blockSet = some (cfOf s spec c, [final]))
    (hpi : propInfo env s final = some (i, og, .scalar ty pres))
    (ht : t[i]? = some false) (hv : vs[i]? = some cur) (hconf : NoConflict og vs)
    (hna : val.asArray = none) (hsc : scalarFromAST env ty val = .ok v) :
    Exact (setAttribute env (fuel + 1) sc path ref val false) c (.msg t vs) ()
      (.msg (t.set i true) (vs.set i (storeNode pres v))) := by
  have h := setAttr_walk (fuel := fuel) (a := c) (b := []) (pre := []) (X := .msg t vs) hfp (walkScope_nil)
    (by rw [List.append_nil]; exact hfb) hpi (Node.get?_nil _) ht hv hconf hna hsc
  exact h.conv (Node.set_nil _ _)

theorem setAttr_in {env : Env} {sc : Scope} {path : PathSpec} {ref : List Ident} {val : AV}
    {n : Str} {pos : Option Span} {s : Schema} {spec : BlockSpec} {c b : Addr} {final : Str} {i : Nat}
    {og : Option (Str × List Nat)} {ty : FieldType} {pres : Bool} {X : Node} {t : List Bool} {vs : List Node}
    {cur : Node} {v : Scalar}
    (hfp : combinePath path ref = [⟨n, pos⟩])
    (hfb : findBlock n sc.blockSet = some (cfOf s spec (c ++ b), [final]))
    (hpi : propInfo env s final = some (i, og, .scalar ty pres))
    (hX : X.get? b = some (.msg t vs))
    (ht : t[i]? = some false) (hv : vs[i]? = some cur) (hconf : NoConflict og vs)
    (hna : val.asArray = none) (hsc : scalarFromAST env ty val = .ok v) :
    Exact (setAttribute env (fuelOf env) sc path ref val false) c X ()
      (X.set b (.msg (t.set i true) (vs.set i (storeNode pres v)))) :=
  setAttr_walk (pre := []) hfp (walkScope_nil) hfb hpi hX ht hv hconf hna hsc

theorem appendScalar_exact (f : Addr) (v : Scalar) (xs : List Node) :
    Exact (appendScalar f v) f (.list xs) () (.list (xs ++ [.scalar v])) := by
  intro S hS
  simp only [appendScalar, M.bind_apply, getNode_apply, hS, setNode_apply]

theorem listLength_exact (f : Addr) (xs : List Node) :
    Exact (listLength f) f (.list xs) xs.length (.list xs) := by
  intro S hS
  simp only [listLength, M.bind_apply, getNode_apply, hS, M.pure_apply, Node.set_get_self hS]

/-- `AppendASTValue` of quoted strings -/
theorem appendValues_strs (env : Env) (f : Addr) (ss : List Str) (h : ss.all okString = true) (xs : List Node) :
    Exact (appendValues env f (.scalar .string) ((ss.map strValue).map .value)) f (.list xs) ()
      (.list (xs ++ ss.map fun s => .scalar (.str s))) := by
  induction ss generalizing xs with
  | nil => simp only [List.map_nil, List.append_nil]; exact Exact.pure
  | cons s rest ih =>
    simp only [List.all_cons, Bool.and_eq_true] at h
    simp only [List.map_cons, appendValues, scalarFromAST, asString_strValue (isAscii_of_okString h.1),
      Option.map_some]
    refine Exact.bind (appendScalar_exact f _ xs) ?_
    have := ih h.2 (xs ++ [.scalar (.str s)])
    rw [List.append_assoc] at this
    exact this

/-- `SetAttribute` on a path that ends in an array-of-scalars field, with an array value -/
theorem setAttribute_array {env : Env} {sc : Scope} {path : PathSpec} {ref : List Ident}
    {val : AV} {pre : List PathElement} {last : PathElement} {a : Addr} {X X1 X2 X3 : Node} {ps : Scope}
    {f : Addr} {item : FieldType} {avs : List AV}
    (hfp : combinePath path ref = pre ++ [last])
    (hws : Exact (walkScope env sc pre) a X ps X1)
    (hsf : Exact (scopeField env ps last.name false) a X1 ⟨f, .arrayOfScalar item⟩ X2)
    (hva : val.asArray = some avs)
    (hlen : Exact (listLength f) a X2 0 X2)
    (happ : Exact (appendValues env f item avs) a X2 () X3) :
    Exact (setAttribute env (fuelOf env) sc path ref val false) a X () X3 := by
  rw [fuelOf_succ, setAttribute]
  dsimp only
  rw [hfp]
  rw [if_neg (by simp), List.getLast?_concat, List.dropLast_concat]
  dsimp only
  refine Exact.bind hws ?_
  refine Exact.bind (hsf.tryCatch _) ?_
  dsimp only
  rw [hva]
  dsimp only
  refine Exact.bind hlen ?_
  rw [if_neg (by simp)]
  exact happ

/-- a string list into an array-of-strings property, not touched yet, of a block at `a ++ b` -/
theorem setAttr_walk_strs {env : Env} {sc ps : Scope} {path : PathSpec} {ref : List Ident}
    {pre : List PathElement} {n : Str} {pos : Option Span} {s : Schema} {spec : BlockSpec} {a b : Addr}
    {final : Str} {i : Nat} {og : Option (Str × List Nat)} {X X1 : Node}
    {t : List Bool} {vs : List Node} {x : Str} {xs : List Str}
    (hfp : combinePath path ref = pre ++ [⟨n, pos⟩])
    (hws : Exact (walkScope env sc pre) a X ps X1)
    (hfb : findBlock n ps.blockSet = some (cfOf s spec (a ++ b), [final]))
    (hpi : propInfo env s final = some (i, og, .arrayOfScalar (.scalar .string)))
    (hX1 : X1.get? b = some (.msg t vs))
    (ht : t[i]? = some false) (hv : vs[i]? = some .absent) (hconf : NoConflict og vs)
    (hok : (x :: xs).all okString = true) :
    Exact (setAttribute env (fuelOf env) sc path ref (.value (strsValue (x :: xs))) false) a X ()
      (X1.set b (.msg (t.set i true) (vs.set i (.list ((x :: xs).map fun s => .scalar (.str s)))))) := by
  have hlt : i < vs.length := (List.getElem?_eq_some_iff.mp hv).1
  have hM : (X1.set b (Node.msg (t.set i true) (vs.set i (.list [])))).get? b =
      some (Node.msg (t.set i true) (vs.set i (.list []))) := Node.get?_set_self' hX1 _
  have hX2 : (X1.set b (.msg (t.set i true) (vs.set i (.list [])))).get? (b ++ [i]) = some (.list []) := by
    rw [Node.get?_append, hM, Option.bind_some, Node.get?_msg_single _ _ _ (.list [])]
    rw [List.getElem?_set_self hlt]
  have hsf := (scopeField_direct (existingIsOk := false) hfb (propInfo_hasProperty hpi)
    (propSetValue_build (c := a ++ b) (cur := .absent) true hpi ht hv hconf)).lift hX1
  have hf : a ++ b ++ [i] = a ++ (b ++ [i]) := List.append_assoc _ _ _
  refine setAttribute_array (last := ⟨n, pos⟩) (avs := ((x :: xs).map strValue).map .value) hfp hws hsf rfl ?_ ?_
  · have h := (listLength_exact (a ++ (b ++ [i])) []).lift (a := a) (b := b ++ [i]) hX2
    rw [Node.set_get_self hX2] at h
    rw [hf]
    exact h
  · have h := (appendValues_strs env (a ++ (b ++ [i])) (x :: xs) hok []).lift (a := a) (b := b ++ [i]) hX2
    rw [hf]
    refine h.conv ?_
    rw [Node.set_append hM, Node.set_set,
      Node.set_msg_single _ _ _ (.list []) _ (by rw [List.getElem?_set_self hlt]), List.set_set, List.nil_append]

theorem checkBang_none {env : Env} {sc : Scope} {tagSpec : Tag} {gotTag : TagValue} {a : Addr} {X : Node}
    (hm : gotTag.mark = .none) : Exact (checkBang env sc tagSpec gotTag) a X () X := by
  unfold checkBang; rw [hm]; exact Exact.pure

theorem checkBang_bang {env : Env} {sc : Scope} {tagSpec : Tag} {gotTag : TagValue} {a : Addr}
    {X X1 : Node} {f : Str} (hm : gotTag.mark = .bang) (hf : tagSpec.bangFieldName = some f)
    (h : Exact (setAttribute env (fuelOf env) sc [f] [] (.bool true) false) a X () X1) :
    Exact (checkBang env sc tagSpec gotTag) a X () X1 := by
  unfold checkBang; rw [hm]; dsimp only; rw [hf]; exact h

theorem checkBang_question {env : Env} {sc : Scope} {tagSpec : Tag} {gotTag : TagValue} {a : Addr}
    {X X1 : Node} {f : Str} (hm : gotTag.mark = .question) (hf : tagSpec.questionFieldName = some f)
    (h : Exact (setAttribute env (fuelOf env) sc [f] [] (.bool true) false) a X () X1) :
    Exact (checkBang env sc tagSpec gotTag) a X () X1 := by
  unfold checkBang; rw [hm]; dsimp only; rw [hf]; exact h

theorem applyNameTag_exact {env : Env} {sc : Scope} {tagSpec : Tag} {gotTag : TagValue} {a : Addr}
    {X X1 X2 : Node}
    (hcb : Exact (checkBang env sc tagSpec gotTag) a X () X1)
    (hset : Exact (setAttribute env (fuelOf env) sc [tagSpec.fieldName] [] (.tag gotTag) false) a X1 () X2) :
    Exact (applyNameTag env sc tagSpec gotTag) a X () X2 := by
  unfold applyNameTag
  exact Exact.bind hcb hset

/-- the schema path of a type-select tag -/
def pathToType (tagSpec : Tag) : PathSpec :=
  if tagSpec.fieldName = [] ∨ tagSpec.fieldName = [46] then [] else [tagSpec.fieldName]

theorem selectType_exact {env : Env} {sc ts : Scope} {tagSpec : Tag} {gotTag : TagValue} {ref : Reference}
    {a : Addr} {X X1 X2 : Node}
    (href : gotTag.reference = some ref)
    (hbs : Exact (buildScope env sc (pathToType tagSpec) ref.idents .keepScope) a X ts X1)
    (hcb : Exact (checkBang env ts tagSpec gotTag) a X1 () X2) :
    Exact (selectType env sc tagSpec gotTag) a X ts X2 := by
  unfold selectType
  rw [href]
  dsimp only
  refine Exact.bind hbs ?_
  refine Exact.bind hcb ?_
  exact Exact.pure

theorem walkTags_nil_none {env : Env} {pos : Pos} {sc : Scope} {spec : BlockSpec} (a : Addr) (X : Node)
    (hn : spec.name = none) (ht : spec.typeSelect = none) :
    Exact (walkTags env [] pos sc spec) a X (sc, spec) X := by
  rw [walkTags, hn]; dsimp only; rw [ht]; dsimp only
  unfold finishTags
  exact Exact.pure

theorem walkTags_name {env : Env} {g : TagValue} {pos : Pos} {sc : Scope} {spec : BlockSpec} {ns : Tag}
    {a : Addr} {X X1 : Node}
    (hn : spec.name = some ns) (ht : spec.typeSelect = none)
    (hname : Exact (applyNameTag env sc ns g) a X () X1) :
    Exact (walkTags env [g] pos sc spec) a X (sc, spec) X1 := by
  rw [walkTags, hn]; dsimp only
  refine Exact.bind hname ?_
  rw [ht]; dsimp only
  unfold finishTags
  exact Exact.pure

/-- a name tag and a type-select tag; the rest of the tags is walked in the type's scope -/
theorem walkTags_name_type {env : Env} {g tt : TagValue} {rest : List TagValue} {pos : Pos}
    {sc ts : Scope} {spec : BlockSpec} {ns typeSpec : Tag} {a : Addr} {X X1 X2 X3 : Node}
    {r : Scope × BlockSpec}
    (hn : spec.name = some ns) (ht : spec.typeSelect = some typeSpec)
    (hname : Exact (applyNameTag env sc ns g) a X () X1)
    (hsel : Exact (selectType env sc typeSpec tt) a X1 ts X2)
    (hrest : Exact (walkTags env rest tt.span.end_ ts (withScopeSpec ts)) a X2 r X3) :
    Exact (walkTags env (g :: tt :: rest) pos sc spec) a X r X3 := by
  rw [walkTags, hn]; dsimp only
  refine Exact.bind hname ?_
  rw [ht]; dsimp only
  refine Exact.bind hsel ?_
  exact hrest

theorem walkQualifiers_nil {env : Env} {sc : Scope} {spec : BlockSpec} {a : Addr} {X : Node} :
    Exact (walkQualifiers env [] sc spec) a X (sc, spec) X := by
  rw [walkQualifiers]; exact Exact.pure

/-- one qualifier that is an attribute (`integer:INT32`, `import p:alias`) -/
theorem walkQualifiers_attr {env : Env} {q : TagValue} {sc : Scope} {spec : BlockSpec} {tagSpec : Tag}
    {a : Addr} {X X1 X2 : Node}
    (hq : spec.qualifier = some tagSpec) (hb : tagSpec.isBlock = false)
    (hcb : Exact (checkBang env sc tagSpec q) a X () X1)
    (hset : Exact (setAttribute env (fuelOf env) sc [tagSpec.fieldName] [] (.tag q) false) a X1 () X2) :
    Exact (walkQualifiers env [q] sc spec) a X (sc, spec) X2 := by
  rw [walkQualifiers, hq]; dsimp only
  refine Exact.ite_pos (by simp [hb]) ?_
  refine Exact.bind hcb ?_
  refine Exact.bind hset ?_
  dsimp only [List.isEmpty_nil, if_true]
  exact Exact.pure

/-- a qualifier that selects a block (`key:id62`, `array:string`); the rest is walked inside -/
theorem walkQualifiers_block {env : Env} {q : TagValue} {rest : List TagValue} {sc ns : Scope}
    {spec : BlockSpec} {tagSpec : Tag} {ref : Reference} {a : Addr} {X X1 X2 X3 : Node}
    {r : Scope × BlockSpec}
    (hq : spec.qualifier = some tagSpec) (hb : tagSpec.isBlock = true)
    (href : q.reference = some ref)
    (hbs : Exact (buildScope env sc [tagSpec.fieldName] ref.idents .keepScope) a X ns X1)
    (hcb : Exact (checkBang env ns tagSpec q) a X1 () X2)
    (hrest : Exact (walkQualifiers env rest ns (withScopeSpec ns)) a X2 r X3) :
    Exact (walkQualifiers env (q :: rest) sc spec) a X r X3 := by
  rw [walkQualifiers, hq]; dsimp only
  refine Exact.ite_neg (by simp [hb]) ?_
  rw [href]; dsimp only
  refine Exact.bind hbs ?_
  refine Exact.bind hcb ?_
  exact hrest

theorem doBlockHead_exact {env : Env} {sc sc1 sc2 : Scope} {spec spec1 spec2 : BlockSpec} {h : BlockHeader}
    {a : Addr} {X X1 X2 : Node}
    (hd : h.description = none)
    (ht : Exact (walkTags env h.tags h.type.span.end_ sc spec) a X (sc1, spec1) X1)
    (hq : Exact (walkQualifiers env h.qualifiers sc1 spec1) a X1 (sc2, spec2) X2) :
    Exact (doBlockHead env sc spec h) a X sc2 X2 := by
  unfold doBlockHead
  refine Exact.bind ht ?_
  dsimp only
  refine Exact.bind hq ?_
  dsimp only
  unfold doBlockDescription
  rw [hd]; dsimp only
  refine Exact.bind (Exact.pure) ?_
  exact Exact.pure

theorem doFullBlockHead_exact {env : Env} {sc ns sc2 : Scope} {h : BlockHeader} {a : Addr} {X X1 X2 : Node}
    (hbs : Exact (buildScope env sc [] h.type.idents .resetScope) a X ns X1)
    (hh : Exact (doBlockHead env ns (withScopeSpec ns) h) a X1 sc2 X2) :
    Exact (doFullBlockHead env sc h) a X sc2 X2 := by
  unfold doFullBlockHead
  exact Exact.bind hbs hh

theorem doStatement_block {env : Env} {sc bs : Scope} {h : BlockHeader} {body : List Statement} {a : Addr}
    {X X1 X2 : Node}
    (hh : Exact (doFullBlockHead env sc h) a X bs X1)
    (hb : Exact (doBody env bs body) a X1 () X2) :
    Exact (doStatement env sc (.block h body)) a X () X2 := by
  rw [doStatement]
  exact (Exact.bind hh hb).addPosition _

theorem doStatement_assign {env : Env} {sc : Scope} {d : Assignment} {a : Addr} {X X1 : Node}
    (h : Exact (setAttribute env (fuelOf env) sc [] d.key.idents (.value d.value) d.append) a X () X1) :
    Exact (doStatement env sc (.assign d)) a X () X1 := by
  rw [doStatement]
  exact Exact.addPosition h _

theorem doBody_nil {env : Env} {sc : Scope} {a : Addr} {X : Node} : Exact (doBody env sc []) a X () X := by
  rw [doBody]; exact Exact.pure

theorem doBody_cons {env : Env} {sc : Scope} {st : Statement} {rest : List Statement} {a : Addr}
    {X X1 X2 : Node}
    (h1 : Exact (doStatement env sc st) a X () X1) (h2 : Exact (doBody env sc rest) a X1 () X2) :
    Exact (doBody env sc (st :: rest)) a X () X2 := by
  rw [doBody]; exact Exact.bind h1 h2

theorem doBody_append_eq (env : Env) (sc : Scope) (l1 l2 : List Statement) :
    doBody env sc (l1 ++ l2) = (doBody env sc l1 >>= fun _ => doBody env sc l2) := by
  induction l1 with
  | nil =>
    funext S
    rw [List.nil_append, M.bind_apply, doBody]
    rfl
  | cons st rest ih =>
    funext S
    rw [List.cons_append, doBody, doBody, M.bind_apply, M.bind_apply, M.bind_apply, ih]
    cases doStatement env sc st S with
    | ok r => rfl
    | err e => rfl
    | panic w => rfl

theorem doBody_append {env : Env} {sc : Scope} {l1 l2 : List Statement} {a : Addr} {X X1 X2 : Node}
    (h1 : Exact (doBody env sc l1) a X () X1) (h2 : Exact (doBody env sc l2) a X1 () X2) :
    Exact (doBody env sc (l1 ++ l2)) a X () X2 := by
  rw [doBody_append_eq]
  exact Exact.bind h1 h2

/-- `walkSchema` from an exact run of the body in the root scope -/
theorem walkSchema_of_exact {env : Env} {sc : Scope} {body : List Statement} {msg tree : Node}
    (hs : newRootSchemaWalker env = .ok sc) (h : Exact (doBody env sc body) [] msg () tree) :
    walkSchema env body msg = .ok tree := by
  unfold walkSchema
  rw [hs]
  dsimp only
  rw [h.run_root]

/-- the block `o` has neither an alias nor a property `n` -/
def Misses (o : ContainerField) (n : Str) : Prop :=
  aliasLookup n o.spec.aliases = none ∧ o.container.hasProperty n = false

theorem findBlock_skip_all {n : Str} {outer rest : List ContainerField} (h : ∀ o ∈ outer, Misses o n) :
    findBlock n (outer ++ rest) = findBlock n rest := by
  induction outer with
  | nil => rfl
  | cons o os ih =>
    rw [List.cons_append, findBlock_skip (h o (by simp)).1 (h o (by simp)).2]
    exact ih (fun o' ho' => h o' (List.mem_cons_of_mem _ ho'))

/-- where the name `n` leads from a block of schema `s` with spec `spec`: an alias of the spec, else the property
itself — what `findBlock` answers on the block, whatever its address -/
def blockPath (n : Str) (s : Schema) (spec : BlockSpec) : Option PathSpec :=
  match aliasLookup n spec.aliases with
  | some p => some p
  | none => if s.hasProperty n then some [n] else none

theorem findBlock_cfOf (n : Str) (s : Schema) (spec : BlockSpec) (c : Addr) (rest : List ContainerField) :
    findBlock n (cfOf s spec c :: rest) =
      match blockPath n s spec with
      | some p => some (cfOf s spec c, p)
      | none => findBlock n rest := by
  show (match aliasLookup n spec.aliases with
    | some path => some (cfOf s spec c, path)
    | none => if s.hasProperty n = true then some (cfOf s spec c, [n]) else findBlock n rest) = _
  unfold blockPath
  cases aliasLookup n spec.aliases with
  | some p => rfl
  | none => cases s.hasProperty n <;> rfl

theorem findBlock_head {n : Str} {s : Schema} {spec : BlockSpec} {c : Addr} {rest : List ContainerField}
    {p : PathSpec} (h : blockPath n s spec = some p) :
    findBlock n (cfOf s spec c :: rest) = some (cfOf s spec c, p) := by
  rw [findBlock_cfOf, h]

theorem blockPath_of_findBlock {n : Str} {bs : List ContainerField} {s : Schema} {spec : BlockSpec} {c : Addr}
    {p : PathSpec} (h : findBlock n bs = some (cfOf s spec c, p)) : blockPath n s spec = some p := by
  induction bs with
  | nil => cases h
  | cons b rest ih =>
    simp only [findBlock] at h
    split at h
    · rename_i path ha
      cases h
      simp only [blockPath, show aliasLookup n spec.aliases = some p from ha]
    · rename_i ha
      split at h
      · rename_i hp
        cases h
        simp only [blockPath, show aliasLookup n spec.aliases = none from ha,
          show s.hasProperty n = true from hp, if_true]
      · exact ih h

theorem blockPath_prop {n : Str} {s : Schema} {spec : BlockSpec} (ha : aliasLookup n spec.aliases = none)
    (hp : s.hasProperty n = true) : blockPath n s spec = some [n] := by
  simp only [blockPath, ha, hp, if_true]

theorem findBlock_prop' {n : Str} {s : Schema} {spec : BlockSpec} {c : Addr} {rest : List ContainerField}
    (h : aliasLookup n spec.aliases = none) (hp : s.hasProperty n = true) :
    findBlock n (cfOf s spec c :: rest) = some (cfOf s spec c, [n]) :=
  findBlock_head (blockPath_prop h hp)

theorem findBlock_alias' {n : Str} {s : Schema} {spec : BlockSpec} {c : Addr} {rest : List ContainerField}
    {p : PathSpec} (h : aliasLookup n spec.aliases = some p) :
    findBlock n (cfOf s spec c :: rest) = some (cfOf s spec c, p) :=
  findBlock_alias h

theorem misses_cfOf {n : Str} {s : Schema} {spec : BlockSpec} {c : Addr} (h : blockPath n s spec = none) :
    Misses (cfOf s spec c) n := by
  unfold blockPath at h
  cases ha : aliasLookup n spec.aliases with
  | some p => rw [ha] at h; cases h
  | none =>
    rw [ha] at h
    cases hp : s.hasProperty n with
    | true => rw [hp] at h; cases h
    | false => exact ⟨ha, hp⟩

/-- `kw tags… :quals… { body }` -/
theorem blockStmt_exact {env : Env} {sc ns bs : Scope} {kw : Str} {tags quals : List TagValue} {isOpen : Bool}
    {body : List Statement} {a : Addr} {X X1 X2 X3 : Node}
    (hkw : isAscii kw = true)
    (hcb : Exact (childBlock env sc kw) a X ns X1)
    (hhead : Exact (doBlockHead env ns (withScopeSpec ns) ⟨refOf [kw], tags, quals, none, isOpen, src0⟩) a X1 bs X2)
    (hbody : Exact (doBody env bs body) a X2 () X3) :
    Exact (doStatement env sc (blockStmt kw tags quals isOpen body)) a X () X3 :=
  doStatement_block (doFullBlockHead_exact
    (buildScope_reset (combinePath_ident hkw []) (walkScope_cons hcb (walkScope_nil))) hhead) hbody

/-- a block that appends ONE element to the array-of-containers property `name` of the message at `c`
(alias `kw → [name]`) and fills it: head and body run inside the new element -/
theorem arrayBlock_exact {env : Env} {sc bs : Scope} {kw : Str} {tags quals : List TagValue} {isOpen : Bool}
    {body : List Statement} {s : Schema} {spec : BlockSpec} {c : Addr} {name : Str} {i : Nat}
    {s' : Schema} {spec' : BlockSpec} {t : List Bool} {vs : List Node} {xs : List Node} {E1 E2 : Node}
    (hkw : isAscii kw = true)
    (hfb : findBlock kw sc.blockSet = some (cfOf s spec c, [name]))
    (hpi : propInfo env s name = some (i, none, .arrayOfContainer s'))
    (hspec : specOf env ⟨c ++ [i, xs.length], .msg s'⟩ = .ok spec')
    (ht : t[i]? = some (!xs.isEmpty)) (hv : vs[i]? = some (listSlot xs))
    (hhead : Exact (doBlockHead env (Scope.newChild (cfOf s' spec' (c ++ [i, xs.length]))) spec'
      ⟨refOf [kw], tags, quals, none, isOpen, src0⟩) (c ++ [i, xs.length]) (freshMsg s') bs E1)
    (hbody : Exact (doBody env bs body) (c ++ [i, xs.length]) E1 () E2) :
    Exact (doStatement env sc (blockStmt kw tags quals isOpen body)) c (.msg t vs) ()
      (.msg (t.set i true) (vs.set i (.list (xs ++ [E2])))) := by
  have hlt : i < vs.length := (List.getElem?_eq_some_iff.mp hv).1
  have hg : ∀ E, (vs.set i (Node.list (xs ++ [E])))[i]? = some (Node.list (xs ++ [E])) := by
    intro E; rw [List.getElem?_set_self hlt]
  refine blockStmt_exact (bs := bs) (X2 := .msg (t.set i true) (vs.set i (.list (xs ++ [E1])))) hkw
    (childBlock_of_walkPath hfb (walkPath_array_exact hpi ht hv (walkRest_nil))
      (setSpecs_cons hspec (setSpecs_nil))) ?_ ?_
  · have h := Exact.lift_elem (t := t.set i true) (a := c) (hg _) hhead
    rw [List.set_set] at h
    exact h
  · have h := Exact.lift_elem (t := t.set i true) (a := c) (hg _) hbody
    rw [List.set_set] at h
    exact h

/-!
## Statements that append to one repeated property (the list-level lemma)

`Appends env sc c i st m`: whatever the array in slot `i` of the message at `c` holds (`xs`), the statement
`st` appends exactly `m`. `appends_fold`: a list of such statements appends the list of their messages
("the array holds `xs`; after the statements it holds `xs ++ ms`") — by induction with the accumulator
`xs`. The slot of an EMPTY array is untouched and `.absent` (`listSlot`), as in `Print.listVal`.
-/

/-- the statement `st`, run in `sc`, appends `m` to the array in slot `i` of the message at `c` -/
def Appends (env : Env) (sc : Scope) (c : Addr) (i : Nat) (st : Statement) (m : Node) : Prop :=
  ∀ (xs : List Node) (t : List Bool) (vs : List Node),
    t[i]? = some (!xs.isEmpty) → vs[i]? = some (listSlot xs) →
    Exact (doStatement env sc st) c (.msg t vs) () (.msg (t.set i true) (vs.set i (.list (xs ++ [m]))))

/-- `F Y` is the state when the new element, at `c ++ e'`, is `Y` -/
theorem appends_of_entry {env : Env} {sc : Scope} {kw : Str} {s : Schema} {spec : BlockSpec} {c : Addr} {arr : Str}
    {i : Nat} {sD : Schema} {specD : BlockSpec}
    (hfb : findBlock kw sc.blockSet = some (cfOf s spec c, [arr]))
    (hpi : propInfo env s arr = some (i, none, .arrayOfContainer sD))
    (hspecD : ∀ c, specOf env ⟨c, .msg sD⟩ = .ok specD) {st : Statement} {m : Node}
    (h : ∀ {e' : Addr} {F : Node → Node} {X : Node}, Lens F e' →
      Exact (childBlock env sc kw) c X (Scope.newChild (cfOf sD specD (c ++ e'))) (F (freshMsg sD)) →
      Exact (doStatement env sc st) c X () (F m)) :
    Appends env sc c i st m := fun xs t vs ht hv =>
  h (Lens.comp (Lens.slot (t.set i true) vs (List.getElem?_eq_some_iff.mp hv).1) (Lens.last xs))
    (childBlock_of_walkPath hfb (walkPath_array_exact hpi ht hv (walkRest_nil))
      (setSpecs_cons (hspecD _) (setSpecs_nil)))

theorem listSlot_concat (xs : List Node) (m : Node) : listSlot (xs ++ [m]) = .list (xs ++ [m]) := by
  unfold listSlot
  rw [if_neg (by simp)]

inductive AppendsAll (env : Env) (sc : Scope) (c : Addr) (i : Nat) : List Statement → List Node → Prop where
  | nil : AppendsAll env sc c i [] []
  | cons {st : Statement} {m : Node} {sts : List Statement} {ms : List Node} :
      Appends env sc c i st m → AppendsAll env sc c i sts ms → AppendsAll env sc c i (st :: sts) (m :: ms)

theorem appends_fold {env : Env} {sc : Scope} {c : Addr} {i : Nat} {sts : List Statement} {ms : List Node}
    (h : AppendsAll env sc c i sts ms)
    (xs : List Node) (t : List Bool) (vs : List Node)
    (ht : t[i]? = some (!xs.isEmpty)) (hv : vs[i]? = some (listSlot xs)) :
    Exact (doBody env sc sts) c (.msg t vs) ()
      (.msg (t.set i (!(xs ++ ms).isEmpty)) (vs.set i (listSlot (xs ++ ms)))) := by
  induction h generalizing xs t vs with
  | nil =>
    rw [List.append_nil, list_set_self ht, list_set_self hv]
    exact doBody_nil
  | @cons st m sts ms h1 _ ih =>
    have hlt : i < t.length := (List.getElem?_eq_some_iff.mp ht).1
    have hlv : i < vs.length := (List.getElem?_eq_some_iff.mp hv).1
    have h2 := ih (xs ++ [m]) (t.set i true) (vs.set i (.list (xs ++ [m])))
      (by rw [List.getElem?_set_self hlt]; simp)
      (by rw [List.getElem?_set_self hlv, listSlot_concat])
    rw [List.set_set, List.set_set, List.append_assoc] at h2
    exact doBody_cons (h1 xs t vs ht hv) h2

theorem appendsAll_map {env : Env} {sc : Scope} {c : Addr} {i : Nat} {α : Type} (f : α → Statement)
    (g : α → Node) (l : List α) (h : ∀ a ∈ l, Appends env sc c i (f a) (g a)) :
    AppendsAll env sc c i (l.map f) (l.map g) := by
  induction l with
  | nil => exact .nil
  | cons a rest ih =>
    exact .cons (h a (by simp)) (ih (fun b hb => h b (List.mem_cons_of_mem _ hb)))

/-!
## A scalar assigned to a container with a scalar split (`object:foo.v1.Bar`)

* `stringsSplit s "." = splitOnByte 46 s`, `stringsJoin "." (splitOnByte 46 s) = s`, the split of
  `pkg ++ "." ++ schema`;
* `setContainerFromScalar_split1`: the split `{delimiter, rightToLeft, required = [req], optional = [],
  remainder = rem}` of `j5.schema.v1.Ref` / `EntityRef`: the LAST part goes to `req`, the parts before it,
  joined again, to `rem` (nothing if there is none);
* `setAttribute_container`: `SetAttribute` of a scalar into a container-typed property.
-/

theorem splitSepAux_byte (c : Nat) (s : Str) (cur : Str) :
    splitSepAux [c] s 0 cur =
      match J5V.Compile.splitOnByte c s with
      | p :: ps => (cur.reverse ++ p) :: ps
      | [] => [] := by
  induction s generalizing cur with
  | nil => simp [splitSepAux, J5V.Compile.splitOnByte]
  | cons v rest ih =>
    simp only [splitSepAux, J5V.Compile.splitOnByte]
    by_cases hv : v = c
    · subst hv
      have hp : ([v] : List Nat).isPrefixOf (v :: rest) = true := by simp [List.isPrefixOf]
      rw [if_pos hp, if_pos rfl]
      have := ih []
      simp only [List.length_singleton, Nat.sub_self, List.reverse_nil, List.nil_append] at this ⊢
      rw [this]
      cases hs : J5V.Compile.splitOnByte v rest with
      | nil => exact absurd hs (splitOnByte_ne_nil v rest)
      | cons p ps => simp
    · have hp : ([c] : List Nat).isPrefixOf (v :: rest) = false := by
        simp [List.isPrefixOf]
        exact fun e => hv e.symm
      rw [if_neg (by rw [hp]; simp), if_neg hv, ih (v :: cur)]
      cases hs : J5V.Compile.splitOnByte c rest with
      | nil => exact absurd hs (splitOnByte_ne_nil c rest)
      | cons p ps => simp

theorem stringsSplit_byte (c : Nat) (s : Str) : stringsSplit s [c] = J5V.Compile.splitOnByte c s := by
  simp only [stringsSplit, List.isEmpty_cons, Bool.false_eq_true, if_false]
  rw [splitSepAux_byte]
  cases hs : J5V.Compile.splitOnByte c s with
  | nil => exact absurd hs (splitOnByte_ne_nil c s)
  | cons p ps => simp

theorem stringsJoin_eq_joinWith (sep : Str) (l : List Str) : stringsJoin sep l = joinWith sep l := by
  induction l with
  | nil => rfl
  | cons a rest ih =>
    cases rest with
    | nil => rfl
    | cons b rest => simp only [stringsJoin, joinWith]; rw [ih]

theorem stringsJoin_split (c : Nat) (s : Str) : stringsJoin [c] (J5V.Compile.splitOnByte c s) = s := by
  rw [stringsJoin_eq_joinWith, joinWith_splitOnByte]

theorem splitOnByte_no_sep {c : Nat} {s : Str} (h : ∀ b ∈ s, b ≠ c) : J5V.Compile.splitOnByte c s = [s] :=
  J5V.Compile.splitOnByte_of_not_mem c s fun hm => h c hm rfl

theorem splitOnByte_append_sep (c : Nat) (a b : Str) :
    J5V.Compile.splitOnByte c (a ++ c :: b) = J5V.Compile.splitOnByte c a ++ J5V.Compile.splitOnByte c b :=
  J5V.Compile.splitOnByte_append c a b

/-- the parts of `pkg.Schema` / `Schema` -/
theorem split_refString {pkg schema : Str} (hs : isIdent schema = true) :
    stringsSplit (refString pkg schema) [46] =
      (if pkg = [] then [] else J5V.Compile.splitOnByte 46 pkg) ++ [schema] := by
  rw [stringsSplit_byte]
  unfold refString
  by_cases hp : pkg = []
  · rw [if_pos hp, if_pos hp, List.nil_append, splitOnByte_no_sep (isIdent_no_dot hs)]
  · rw [if_neg hp, if_neg hp]
    show J5V.Compile.splitOnByte 46 (pkg ++ [46] ++ schema) = _
    rw [List.append_assoc, List.singleton_append, splitOnByte_append_sep,
      splitOnByte_no_sep (isIdent_no_dot hs)]

theorem allAsString_strs (parts : List Str) (sp : Span) (a : Addr) (X : Node) :
    Exact (allAsString (parts.map fun s => AV.str s sp)) a X parts X := by
  induction parts with
  | nil => exact Exact.pure
  | cons p rest ih =>
    simp only [List.map_cons, allAsString, AV.asString]
    exact Exact.bind ih (Exact.pure)

/-- the split `{delimiter, rightToLeft, [req], [], rem}`: last part → `req`, the parts before → `rem` -/
theorem setContainerFromScalar_split1 {env : Env} {fuel : Nat} {sc : Scope} {bs : BlockSpec} {val : AV}
    {delim : Str} {req rem : PathSpec} {s : Str} {parts : List Str} {lastPart : Str} {a : Addr}
    {X X1 X2 : Node}
    (hss : bs.scalarSplit = some ⟨some delim, true, [req], [], some rem⟩)
    (hstr : val.asString = some s)
    (hsplit : stringsSplit s delim = parts ++ [lastPart])
    (hreq : Exact (setAttribute env fuel sc req [] (.str lastPart val.span) false) a X () X1)
    (hrem : if parts = [] then X2 = X1
      else ∀ sp, Exact (setAttribute env fuel sc rem [] (.str (stringsJoin delim parts) sp) false) a X1 () X2) :
    Exact (setContainerFromScalar env (fuel + 1) sc bs val) a X () X2 := by
  rw [setContainerFromScalar, hss]
  dsimp only
  rw [hstr]
  dsimp only
  refine Exact.bind (Exact.pure) ?_
  rw [hsplit]
  simp only [List.map_append, List.map_cons, List.map_nil, List.reverse_append, List.reverse_cons,
    List.reverse_nil, List.nil_append, List.singleton_append, List.length_cons,
    List.length_nil, List.take_succ_cons, List.take_zero, List.drop_succ_cons, List.drop_zero, if_true,
    Nat.zero_add]
  rw [if_neg (by simp)]
  simp only [forEach2]
  refine Exact.bind (Exact.bind hreq (Exact.pure)) ?_
  cases parts with
  | nil =>
    rw [if_pos rfl] at hrem
    subst hrem
    simp only [List.map_nil, List.reverse_nil, List.isEmpty_nil, if_true]
    exact Exact.pure
  | cons p rest =>
    rw [if_neg (by simp)] at hrem
    rw [if_neg (by simp)]
    -- no optional part: everything left goes to the remainder
    have hlen : ((p :: rest).map fun s => AV.str s val.span).reverse.length > 0 := by simp
    simp only [hlen, if_true, forEach2]
    refine Exact.bind (Exact.pure) ?_
    rw [if_neg (by simp)]
    simp only [List.reverse_reverse]
    refine Exact.bind (allAsString_strs (p :: rest) val.span a X1) ?_
    simp only [List.map_cons, List.head?_cons]
    cases hl : (AV.str p val.span :: rest.map fun s => AV.str s val.span).getLast? with
    | none => simp at hl
    | some last => exact hrem _

/-- `SetAttribute` of a scalar into a container-typed property: the container is entered (a second
walk of the name: the cached wrapper) and set from the scalar -/
theorem setAttribute_container {env : Env} {fuel : Nat} {sc ps cs : Scope} {path : PathSpec} {ref : List Ident}
    {val : AV} {pre : List PathElement} {last : PathElement} {a : Addr} {X X1 X2 X3 X4 : Node}
    {f : Addr} {s' : Schema}
    (hfp : combinePath path ref = pre ++ [last])
    (hws : Exact (walkScope env sc pre) a X ps X1)
    (hsf : Exact (scopeField env ps last.name false) a X1 ⟨f, .container s'⟩ X2)
    (hcb : Exact (childBlock env ps last.name) a X2 cs X3)
    (hset : Exact (setContainerFromScalar env fuel cs (withScopeSpec cs) val) a X3 () X4) :
    Exact (setAttribute env (fuel + 1) sc path ref val false) a X () X4 := by
  rw [setAttribute]
  dsimp only
  rw [hfp]
  rw [if_neg (by simp), List.getLast?_concat, List.dropLast_concat]
  dsimp only
  refine Exact.bind hws ?_
  refine Exact.bind (hsf.tryCatch _) ?_
  dsimp only [Bool.false_eq_true, if_false]
  refine Exact.bind (hcb.tryCatch _) ?_
  exact hset

end J5V.Walker
