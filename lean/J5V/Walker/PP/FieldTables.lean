import J5V.Walker.PP.Reach
/-!
# Tables of the field types

The member of `j5.schema.v1.Field` a field kind selects (`kindIdx` 0 … 14; `oneofMsg 15 k v` is a `Field` message with
member `k` selected), the `…Field_Rules` schemas with their rows (`rulesRow_X`), the key formats, `Ref`, list rules,
items: literals and kernel-checked lookups, as in `J5Tables`. `typeScope` is the scope after a type-select tag or block
qualifier, of which `FieldRunQ` speaks.
-/
namespace J5V.Walker
open J5V.Bcl

def kindIdx : CField → Nat
  | .any => 0
  | .oneofRef .. => 1 | .oneofInl .. => 1
  | .objectRef .. => 2 | .objectInl .. => 2
  | .enumRef .. => 3 | .enumInl .. => 3
  | .array .. => 4 | .map .. => 5
  | .string .. => 6 | .integer .. => 7 | .float .. => 8 | .bool .. => 9 | .bytes .. => 10
  | .decimal .. => 11 | .date .. => 12 | .timestamp .. => 13 | .key .. => 14

def kindSchema : CField → Schema
  | .string .. => sStringField | .bool .. => sBoolField | .bytes .. => sBytesField
  | .date .. => sDateField | .decimal .. => sDecimalField | .timestamp .. => sTimestampField
  | .integer .. => sIntegerField | .float .. => sFloatField | .key .. => sKeyField
  | .any => sAnyField
  | .objectRef .. => sObjectField | .objectInl .. => sObjectField
  | .oneofRef .. => sOneofField | .oneofInl .. => sOneofField
  | .enumRef .. => sEnumField | .enumInl .. => sEnumField
  | .array .. => sArrayField | .map .. => sMapField

def kindSpec : CField → BlockSpec
  | .string .. => specStringField | .bool .. => specBoolField | .bytes .. => specBytesField
  | .date .. => specDateField | .decimal .. => specDecimalField | .timestamp .. => specTimestampField
  | .integer .. => specIntegerField | .float .. => specFloatField | .key .. => specKeyField
  | .any => specAnyField
  | .objectRef .. => specObjectField | .objectInl .. => specObjectField
  | .oneofRef .. => specOneofField | .oneofInl .. => specOneofField
  | .enumRef .. => specEnumField | .enumInl .. => specEnumField
  | .array .. => specArrayField | .map .. => specMapField

/-- the proto oneof of `j5.schema.v1.Field` -/
def gField : Str × List Nat := (b!"j5.schema.v1.Field.type", [])

theorem kind_schemaOf (f : CField) : j5Env.schemaOf (typeSchema f) = kindSchema f := by
  cases f with
  | string => exact schemaOf_StringField
  | bool => exact schemaOf_BoolField
  | bytes => exact schemaOf_BytesField
  | date => exact schemaOf_DateField
  | decimal => exact schemaOf_DecimalField
  | timestamp => exact schemaOf_TimestampField
  | any => exact schemaOf_AnyField
  | integer => exact schemaOf_IntegerField
  | float => exact schemaOf_FloatField
  | key => exact schemaOf_KeyField
  | objectRef => exact schemaOf_ObjectField
  | objectInl => exact schemaOf_ObjectField
  | oneofRef => exact schemaOf_OneofField
  | oneofInl => exact schemaOf_OneofField
  | enumRef => exact schemaOf_EnumField
  | enumInl => exact schemaOf_EnumField
  | array => exact schemaOf_ArrayField
  | map => exact schemaOf_MapField

theorem kind_pi (f : CField) :
    propInfo j5Env sField (fieldKind f) = some (kindIdx f, some gField, .container (kindSchema f)) := by
  cases f <;> exact propInfo_container (kind_schemaOf _) rfl

theorem kind_spec (f : CField) (c : Addr) : specOf j5Env ⟨c, .msg (kindSchema f)⟩ = .ok (kindSpec f) := by
  apply specOf_of_nil
  cases f with
  | string => exact specOf_StringField0
  | bool => exact specOf_BoolField0
  | bytes => exact specOf_BytesField0
  | date => exact specOf_DateField0
  | decimal => exact specOf_DecimalField0
  | timestamp => exact specOf_TimestampField0
  | any => exact specOf_AnyField0
  | integer => exact specOf_IntegerField0
  | float => exact specOf_FloatField0
  | key => exact specOf_KeyField0
  | objectRef => exact specOf_ObjectField0
  | objectInl => exact specOf_ObjectField0
  | oneofRef => exact specOf_OneofField0
  | oneofInl => exact specOf_OneofField0
  | enumRef => exact specOf_EnumField0
  | enumInl => exact specOf_EnumField0
  | array => exact specOf_ArrayField0
  | map => exact specOf_MapField0

theorem kind_path (f : CField) : blockPath (fieldKind f) sField specField = some [fieldKind f] :=
  blockPath_prop rfl (propInfo_hasProperty (kind_pi f))

theorem pi_Field_object : propInfo j5Env sField wObject = some (2, some gField, .container sObjectField) :=
  kind_pi (.objectRef [] [] false [])

theorem kind_lt (f : CField) : kindIdx f < 15 := by cases f <;> (dsimp only [kindIdx]; decide)

theorem kind_ascii (f : CField) : isAscii (fieldKind f) = true := by
  cases f <;> (dsimp only [fieldKind, wObject, wOneof, wEnum]; decide)

theorem kindSpec_name {f : CField} : (kindSpec f).name = none := by
  cases f <;> (dsimp only [kindSpec]; decide +kernel)
theorem kindSpec_typeSelect {f : CField} : (kindSpec f).typeSelect = none := by
  cases f <;> (dsimp only [kindSpec]; decide +kernel)

theorem pi_IntegerField_format : propInfo j5Env sIntegerField b!"format" =
    some (0, none, .scalar (.enum b!"j5.schema.v1.IntegerField_Format") false) := by rw [j5Env_nf]; decide +kernel
theorem pi_FloatField_format : propInfo j5Env sFloatField b!"format" =
    some (0, none, .scalar (.enum b!"j5.schema.v1.FloatField_Format") false) := by rw [j5Env_nf]; decide +kernel
theorem pi_KeyField_format : propInfo j5Env sKeyField b!"format" = some (1, none, .container sKeyFormat) :=
  propInfo_container schemaOf_KeyFormat rfl

/-- the proto oneof of `j5.schema.v1.KeyFormat` -/
def gKeyFormat : Str × List Nat := (b!"j5.schema.v1.KeyFormat.type", [])

theorem pi_KeyFormat_informal : propInfo j5Env sKeyFormat b!"informal" =
    some (0, some gKeyFormat, .container sKeyFormatInformal) :=
  propInfo_container schemaOf_KeyFormatInformal rfl
theorem pi_KeyFormat_custom : propInfo j5Env sKeyFormat b!"custom" =
    some (1, some gKeyFormat, .container sKeyFormatCustom) :=
  propInfo_container schemaOf_KeyFormatCustom rfl
theorem pi_KeyFormat_uuid : propInfo j5Env sKeyFormat b!"uuid" =
    some (2, some gKeyFormat, .container sKeyFormatUUID) :=
  propInfo_container schemaOf_KeyFormatUUID rfl
theorem pi_KeyFormat_id62 : propInfo j5Env sKeyFormat b!"id62" =
    some (3, some gKeyFormat, .container sKeyFormatID62) :=
  propInfo_container schemaOf_KeyFormatID62 rfl
theorem pi_KeyFormatCustom_pattern : propInfo j5Env sKeyFormatCustom b!"pattern" =
    some (0, none, .scalar (.scalar .string) false) := by rw [j5Env_nf]; decide +kernel

/-!
## The `…Field_Rules` schemas

For every field type `X`: the literal `sXRules` / `specXRules`, `schemaOf_XRules`, `specOf_XRules`,
`rulesOK_X : RulesSchemaOK sXRules specXRules` and
`pi_X_rules : propInfo j5Env sXField "rules" = some (index, none, .container sXRules)` (with `schemaOf_XField` this
determines `rulesSchema j5Env "…XField"`: `RulesRow.rulesSchema`).
-/

def sStringRules : Schema := j5_schema_lit% "j5.schema.v1.StringField_Rules"
def specStringRules : BlockSpec := j5_spec_lit% "j5.schema.v1.StringField_Rules"
theorem schemaOf_StringRules : j5Env.schemaOf b!"j5.schema.v1.StringField_Rules" = sStringRules := by
  rw [j5Env_nf]; decide +kernel
theorem specOf_StringRules (c : Addr) : specOf j5Env ⟨c, .msg sStringRules⟩ = .ok specStringRules := by
  apply specOf_of_nil; rw [j5Env_nf]; decide +kernel
theorem rulesOK_String : RulesSchemaOK sStringRules specStringRules :=
  ⟨by decide +kernel, by decide +kernel, by decide +kernel⟩

def sBoolRules : Schema := j5_schema_lit% "j5.schema.v1.BoolField_Rules"
def specBoolRules : BlockSpec := j5_spec_lit% "j5.schema.v1.BoolField_Rules"
theorem schemaOf_BoolRules : j5Env.schemaOf b!"j5.schema.v1.BoolField_Rules" = sBoolRules := by
  rw [j5Env_nf]; decide +kernel
theorem specOf_BoolRules (c : Addr) : specOf j5Env ⟨c, .msg sBoolRules⟩ = .ok specBoolRules := by
  apply specOf_of_nil; rw [j5Env_nf]; decide +kernel
theorem rulesOK_Bool : RulesSchemaOK sBoolRules specBoolRules :=
  ⟨by decide +kernel, by decide +kernel, by decide +kernel⟩

def sBytesRules : Schema := j5_schema_lit% "j5.schema.v1.BytesField_Rules"
def specBytesRules : BlockSpec := j5_spec_lit% "j5.schema.v1.BytesField_Rules"
theorem schemaOf_BytesRules : j5Env.schemaOf b!"j5.schema.v1.BytesField_Rules" = sBytesRules := by
  rw [j5Env_nf]; decide +kernel
theorem specOf_BytesRules (c : Addr) : specOf j5Env ⟨c, .msg sBytesRules⟩ = .ok specBytesRules := by
  apply specOf_of_nil; rw [j5Env_nf]; decide +kernel
theorem rulesOK_Bytes : RulesSchemaOK sBytesRules specBytesRules :=
  ⟨by decide +kernel, by decide +kernel, by decide +kernel⟩

def sDateRules : Schema := j5_schema_lit% "j5.schema.v1.DateField_Rules"
def specDateRules : BlockSpec := j5_spec_lit% "j5.schema.v1.DateField_Rules"
theorem schemaOf_DateRules : j5Env.schemaOf b!"j5.schema.v1.DateField_Rules" = sDateRules := by
  rw [j5Env_nf]; decide +kernel
theorem specOf_DateRules (c : Addr) : specOf j5Env ⟨c, .msg sDateRules⟩ = .ok specDateRules := by
  apply specOf_of_nil; rw [j5Env_nf]; decide +kernel
theorem rulesOK_Date : RulesSchemaOK sDateRules specDateRules :=
  ⟨by decide +kernel, by decide +kernel, by decide +kernel⟩

def sDecimalRules : Schema := j5_schema_lit% "j5.schema.v1.DecimalField_Rules"
def specDecimalRules : BlockSpec := j5_spec_lit% "j5.schema.v1.DecimalField_Rules"
theorem schemaOf_DecimalRules : j5Env.schemaOf b!"j5.schema.v1.DecimalField_Rules" = sDecimalRules := by
  rw [j5Env_nf]; decide +kernel
theorem specOf_DecimalRules (c : Addr) : specOf j5Env ⟨c, .msg sDecimalRules⟩ = .ok specDecimalRules := by
  apply specOf_of_nil; rw [j5Env_nf]; decide +kernel
theorem rulesOK_Decimal : RulesSchemaOK sDecimalRules specDecimalRules :=
  ⟨by decide +kernel, by decide +kernel, by decide +kernel⟩

def sTimestampRules : Schema := j5_schema_lit% "j5.schema.v1.TimestampField_Rules"
def specTimestampRules : BlockSpec := j5_spec_lit% "j5.schema.v1.TimestampField_Rules"
theorem schemaOf_TimestampRules : j5Env.schemaOf b!"j5.schema.v1.TimestampField_Rules" = sTimestampRules := by
  rw [j5Env_nf]; decide +kernel
theorem specOf_TimestampRules (c : Addr) : specOf j5Env ⟨c, .msg sTimestampRules⟩ = .ok specTimestampRules := by
  apply specOf_of_nil; rw [j5Env_nf]; decide +kernel
theorem rulesOK_Timestamp : RulesSchemaOK sTimestampRules specTimestampRules :=
  ⟨by decide +kernel, by decide +kernel, by decide +kernel⟩

def sIntegerRules : Schema := j5_schema_lit% "j5.schema.v1.IntegerField_Rules"
def specIntegerRules : BlockSpec := j5_spec_lit% "j5.schema.v1.IntegerField_Rules"
theorem schemaOf_IntegerRules : j5Env.schemaOf b!"j5.schema.v1.IntegerField_Rules" = sIntegerRules := by
  rw [j5Env_nf]; decide +kernel
theorem specOf_IntegerRules (c : Addr) : specOf j5Env ⟨c, .msg sIntegerRules⟩ = .ok specIntegerRules := by
  apply specOf_of_nil; rw [j5Env_nf]; decide +kernel
theorem rulesOK_Integer : RulesSchemaOK sIntegerRules specIntegerRules :=
  ⟨by decide +kernel, by decide +kernel, by decide +kernel⟩

def sFloatRules : Schema := j5_schema_lit% "j5.schema.v1.FloatField_Rules"
def specFloatRules : BlockSpec := j5_spec_lit% "j5.schema.v1.FloatField_Rules"
theorem schemaOf_FloatRules : j5Env.schemaOf b!"j5.schema.v1.FloatField_Rules" = sFloatRules := by
  rw [j5Env_nf]; decide +kernel
theorem specOf_FloatRules (c : Addr) : specOf j5Env ⟨c, .msg sFloatRules⟩ = .ok specFloatRules := by
  apply specOf_of_nil; rw [j5Env_nf]; decide +kernel
theorem rulesOK_Float : RulesSchemaOK sFloatRules specFloatRules :=
  ⟨by decide +kernel, by decide +kernel, by decide +kernel⟩

def sObjectRules : Schema := j5_schema_lit% "j5.schema.v1.ObjectField_Rules"
def specObjectRules : BlockSpec := j5_spec_lit% "j5.schema.v1.ObjectField_Rules"
theorem schemaOf_ObjectRules : j5Env.schemaOf b!"j5.schema.v1.ObjectField_Rules" = sObjectRules := by
  rw [j5Env_nf]; decide +kernel
theorem specOf_ObjectRules (c : Addr) : specOf j5Env ⟨c, .msg sObjectRules⟩ = .ok specObjectRules := by
  apply specOf_of_nil; rw [j5Env_nf]; decide +kernel
theorem rulesOK_Object : RulesSchemaOK sObjectRules specObjectRules :=
  ⟨by decide +kernel, by decide +kernel, by decide +kernel⟩

def sEnumRules : Schema := j5_schema_lit% "j5.schema.v1.EnumField_Rules"
def specEnumRules : BlockSpec := j5_spec_lit% "j5.schema.v1.EnumField_Rules"
theorem schemaOf_EnumRules : j5Env.schemaOf b!"j5.schema.v1.EnumField_Rules" = sEnumRules := by
  rw [j5Env_nf]; decide +kernel
theorem specOf_EnumRules (c : Addr) : specOf j5Env ⟨c, .msg sEnumRules⟩ = .ok specEnumRules := by
  apply specOf_of_nil; rw [j5Env_nf]; decide +kernel
theorem rulesOK_Enum : RulesSchemaOK sEnumRules specEnumRules :=
  ⟨by decide +kernel, by decide +kernel, by decide +kernel⟩

def sArrayRules : Schema := j5_schema_lit% "j5.schema.v1.ArrayField_Rules"
def specArrayRules : BlockSpec := j5_spec_lit% "j5.schema.v1.ArrayField_Rules"
theorem schemaOf_ArrayRules : j5Env.schemaOf b!"j5.schema.v1.ArrayField_Rules" = sArrayRules := by
  rw [j5Env_nf]; decide +kernel
theorem specOf_ArrayRules (c : Addr) : specOf j5Env ⟨c, .msg sArrayRules⟩ = .ok specArrayRules := by
  apply specOf_of_nil; rw [j5Env_nf]; decide +kernel
theorem rulesOK_Array : RulesSchemaOK sArrayRules specArrayRules :=
  ⟨by decide +kernel, by decide +kernel, by decide +kernel⟩

def sMapRules : Schema := j5_schema_lit% "j5.schema.v1.MapField_Rules"
def specMapRules : BlockSpec := j5_spec_lit% "j5.schema.v1.MapField_Rules"
theorem schemaOf_MapRules : j5Env.schemaOf b!"j5.schema.v1.MapField_Rules" = sMapRules := by
  rw [j5Env_nf]; decide +kernel
theorem specOf_MapRules (c : Addr) : specOf j5Env ⟨c, .msg sMapRules⟩ = .ok specMapRules := by
  apply specOf_of_nil; rw [j5Env_nf]; decide +kernel
theorem rulesOK_Map : RulesSchemaOK sMapRules specMapRules :=
  ⟨by decide +kernel, by decide +kernel, by decide +kernel⟩

def sOneofRules : Schema := j5_schema_lit% "j5.schema.v1.OneofField_Rules"
def specOneofRules : BlockSpec := j5_spec_lit% "j5.schema.v1.OneofField_Rules"
theorem schemaOf_OneofRules : j5Env.schemaOf b!"j5.schema.v1.OneofField_Rules" = sOneofRules := by
  rw [j5Env_nf]; decide +kernel
theorem specOf_OneofRules (c : Addr) : specOf j5Env ⟨c, .msg sOneofRules⟩ = .ok specOneofRules := by
  apply specOf_of_nil; rw [j5Env_nf]; decide +kernel
theorem rulesOK_Oneof : RulesSchemaOK sOneofRules specOneofRules :=
  ⟨by decide +kernel, by decide +kernel, by decide +kernel⟩

def sKeyRules : Schema := j5_schema_lit% "j5.schema.v1.KeyField_Rules"
def specKeyRules : BlockSpec := j5_spec_lit% "j5.schema.v1.KeyField_Rules"
theorem schemaOf_KeyRules : j5Env.schemaOf b!"j5.schema.v1.KeyField_Rules" = sKeyRules := by
  rw [j5Env_nf]; decide +kernel
theorem specOf_KeyRules (c : Addr) : specOf j5Env ⟨c, .msg sKeyRules⟩ = .ok specKeyRules := by
  apply specOf_of_nil; rw [j5Env_nf]; decide +kernel
theorem rulesOK_Key : RulesSchemaOK sKeyRules specKeyRules :=
  ⟨by decide +kernel, by decide +kernel, by decide +kernel⟩

theorem pi_String_rules : propInfo j5Env sStringField wRules = some (1, none, .container sStringRules) :=
  propInfo_container schemaOf_StringRules rfl
theorem pi_Bool_rules : propInfo j5Env sBoolField wRules = some (0, none, .container sBoolRules) :=
  propInfo_container schemaOf_BoolRules rfl
theorem pi_Bytes_rules : propInfo j5Env sBytesField wRules = some (0, none, .container sBytesRules) :=
  propInfo_container schemaOf_BytesRules rfl
theorem pi_Date_rules : propInfo j5Env sDateField wRules = some (0, none, .container sDateRules) :=
  propInfo_container schemaOf_DateRules rfl
theorem pi_Decimal_rules : propInfo j5Env sDecimalField wRules = some (0, none, .container sDecimalRules) :=
  propInfo_container schemaOf_DecimalRules rfl
theorem pi_Timestamp_rules : propInfo j5Env sTimestampField wRules = some (0, none, .container sTimestampRules) :=
  propInfo_container schemaOf_TimestampRules rfl
theorem pi_Integer_rules : propInfo j5Env sIntegerField wRules = some (1, none, .container sIntegerRules) :=
  propInfo_container schemaOf_IntegerRules rfl
theorem pi_Float_rules : propInfo j5Env sFloatField wRules = some (1, none, .container sFloatRules) :=
  propInfo_container schemaOf_FloatRules rfl
theorem pi_Object_rules : propInfo j5Env sObjectField wRules = some (2, none, .container sObjectRules) :=
  propInfo_container schemaOf_ObjectRules rfl
theorem pi_Enum_rules : propInfo j5Env sEnumField wRules = some (2, none, .container sEnumRules) :=
  propInfo_container schemaOf_EnumRules rfl
theorem pi_Array_rules : propInfo j5Env sArrayField wRules = some (0, none, .container sArrayRules) :=
  propInfo_container schemaOf_ArrayRules rfl
theorem pi_Map_rules : propInfo j5Env sMapField wRules = some (2, none, .container sMapRules) :=
  propInfo_container schemaOf_MapRules rfl
theorem pi_Oneof_rules : propInfo j5Env sOneofField wRules = some (2, none, .container sOneofRules) :=
  propInfo_container schemaOf_OneofRules rfl
theorem pi_Key_rules : propInfo j5Env sKeyField wRules = some (0, none, .container sKeyRules) :=
  propInfo_container schemaOf_KeyRules rfl

theorem rulesRow_String :
    RulesRow b!"j5.schema.v1.StringField" sStringField specStringField 1 sStringRules specStringRules :=
  ⟨schemaOf_StringField, pi_String_rules, rfl, rfl, specOf_StringRules, rulesOK_String⟩
theorem rulesRow_Bool :
    RulesRow b!"j5.schema.v1.BoolField" sBoolField specBoolField 0 sBoolRules specBoolRules :=
  ⟨schemaOf_BoolField, pi_Bool_rules, rfl, rfl, specOf_BoolRules, rulesOK_Bool⟩
theorem rulesRow_Bytes :
    RulesRow b!"j5.schema.v1.BytesField" sBytesField specBytesField 0 sBytesRules specBytesRules :=
  ⟨schemaOf_BytesField, pi_Bytes_rules, rfl, rfl, specOf_BytesRules, rulesOK_Bytes⟩
theorem rulesRow_Date :
    RulesRow b!"j5.schema.v1.DateField" sDateField specDateField 0 sDateRules specDateRules :=
  ⟨schemaOf_DateField, pi_Date_rules, rfl, rfl, specOf_DateRules, rulesOK_Date⟩
theorem rulesRow_Decimal :
    RulesRow b!"j5.schema.v1.DecimalField" sDecimalField specDecimalField 0 sDecimalRules specDecimalRules :=
  ⟨schemaOf_DecimalField, pi_Decimal_rules, rfl, rfl, specOf_DecimalRules, rulesOK_Decimal⟩
theorem rulesRow_Timestamp :
    RulesRow b!"j5.schema.v1.TimestampField" sTimestampField specTimestampField 0 sTimestampRules specTimestampRules :=
  ⟨schemaOf_TimestampField, pi_Timestamp_rules, rfl, rfl, specOf_TimestampRules, rulesOK_Timestamp⟩
theorem rulesRow_Integer :
    RulesRow b!"j5.schema.v1.IntegerField" sIntegerField specIntegerField 1 sIntegerRules specIntegerRules :=
  ⟨schemaOf_IntegerField, pi_Integer_rules, rfl, rfl, specOf_IntegerRules, rulesOK_Integer⟩
theorem rulesRow_Float :
    RulesRow b!"j5.schema.v1.FloatField" sFloatField specFloatField 1 sFloatRules specFloatRules :=
  ⟨schemaOf_FloatField, pi_Float_rules, rfl, rfl, specOf_FloatRules, rulesOK_Float⟩
theorem rulesRow_Object :
    RulesRow b!"j5.schema.v1.ObjectField" sObjectField specObjectField 2 sObjectRules specObjectRules :=
  ⟨schemaOf_ObjectField, pi_Object_rules, rfl, rfl, specOf_ObjectRules, rulesOK_Object⟩
theorem rulesRow_Enum :
    RulesRow b!"j5.schema.v1.EnumField" sEnumField specEnumField 2 sEnumRules specEnumRules :=
  ⟨schemaOf_EnumField, pi_Enum_rules, rfl, rfl, specOf_EnumRules, rulesOK_Enum⟩
theorem rulesRow_Array :
    RulesRow b!"j5.schema.v1.ArrayField" sArrayField specArrayField 0 sArrayRules specArrayRules :=
  ⟨schemaOf_ArrayField, pi_Array_rules, rfl, rfl, specOf_ArrayRules, rulesOK_Array⟩
theorem rulesRow_Map :
    RulesRow b!"j5.schema.v1.MapField" sMapField specMapField 2 sMapRules specMapRules :=
  ⟨schemaOf_MapField, pi_Map_rules, rfl, rfl, specOf_MapRules, rulesOK_Map⟩
theorem rulesRow_Oneof :
    RulesRow b!"j5.schema.v1.OneofField" sOneofField specOneofField 2 sOneofRules specOneofRules :=
  ⟨schemaOf_OneofField, pi_Oneof_rules, rfl, rfl, specOf_OneofRules, rulesOK_Oneof⟩
theorem rulesRow_Key :
    RulesRow b!"j5.schema.v1.KeyField" sKeyField specKeyField 0 sKeyRules specKeyRules :=
  ⟨schemaOf_KeyField, pi_Key_rules, rfl, rfl, specOf_KeyRules, rulesOK_Key⟩

theorem rulesSchema_String : rulesSchema j5Env b!"j5.schema.v1.StringField" = b!"j5.schema.v1.StringField_Rules" :=
  rulesRow_String.rulesSchema_name
theorem rulesSchema_Bool : rulesSchema j5Env b!"j5.schema.v1.BoolField" = b!"j5.schema.v1.BoolField_Rules" :=
  rulesRow_Bool.rulesSchema_name
theorem rulesSchema_Bytes : rulesSchema j5Env b!"j5.schema.v1.BytesField" = b!"j5.schema.v1.BytesField_Rules" :=
  rulesRow_Bytes.rulesSchema_name
theorem rulesSchema_Date : rulesSchema j5Env b!"j5.schema.v1.DateField" = b!"j5.schema.v1.DateField_Rules" :=
  rulesRow_Date.rulesSchema_name
theorem rulesSchema_Decimal : rulesSchema j5Env b!"j5.schema.v1.DecimalField" = b!"j5.schema.v1.DecimalField_Rules" :=
  rulesRow_Decimal.rulesSchema_name
theorem rulesSchema_Timestamp :
    rulesSchema j5Env b!"j5.schema.v1.TimestampField" = b!"j5.schema.v1.TimestampField_Rules" :=
  rulesRow_Timestamp.rulesSchema_name
theorem rulesSchema_Integer : rulesSchema j5Env b!"j5.schema.v1.IntegerField" = b!"j5.schema.v1.IntegerField_Rules" :=
  rulesRow_Integer.rulesSchema_name
theorem rulesSchema_Float : rulesSchema j5Env b!"j5.schema.v1.FloatField" = b!"j5.schema.v1.FloatField_Rules" :=
  rulesRow_Float.rulesSchema_name
theorem rulesSchema_Object : rulesSchema j5Env b!"j5.schema.v1.ObjectField" = b!"j5.schema.v1.ObjectField_Rules" :=
  rulesRow_Object.rulesSchema_name
theorem rulesSchema_Enum : rulesSchema j5Env b!"j5.schema.v1.EnumField" = b!"j5.schema.v1.EnumField_Rules" :=
  rulesRow_Enum.rulesSchema_name
theorem rulesSchema_Array : rulesSchema j5Env b!"j5.schema.v1.ArrayField" = b!"j5.schema.v1.ArrayField_Rules" :=
  rulesRow_Array.rulesSchema_name
theorem rulesSchema_Map : rulesSchema j5Env b!"j5.schema.v1.MapField" = b!"j5.schema.v1.MapField_Rules" :=
  rulesRow_Map.rulesSchema_name
theorem rulesSchema_Oneof : rulesSchema j5Env b!"j5.schema.v1.OneofField" = b!"j5.schema.v1.OneofField_Rules" :=
  rulesRow_Oneof.rulesSchema_name
theorem rulesSchema_Key : rulesSchema j5Env b!"j5.schema.v1.KeyField" = b!"j5.schema.v1.KeyField_Rules" :=
  rulesRow_Key.rulesSchema_name

theorem mkMsg_of {env : Env} {sn : Str} {s : Schema} (h : env.schemaOf sn = s) (vals : List (Str × Node)) :
    mkMsg env sn vals =
      .msg (s.props.map fun p => (lookupVal p.name vals).isSome)
        (s.props.map fun p => (lookupVal p.name vals).getD .absent) := by
  unfold mkMsg; rw [h]

/-- a oneof message with member `k` selected -/
def oneofMsg (n k : Nat) (v : Node) : Node :=
  .msg ((List.replicate n false).set k true) ((List.replicate n Node.absent).set k v)

theorem oneofMsg_eq_mkMsgS {s : Schema} {n : Str} {k : Nat} {p : Property} (hd : s.namesDistinct = true)
    (hf : findProp n 0 s.props = some (k, p)) (v : Node) : oneofMsg s.props.length k v = mkMsgS s [(n, v)] := by
  obtain ⟨t, vs, hmk, _, _, hfin⟩ := mkMsgS_slot hd hf (vals := []) rfl
  rw [← freshMsg_eq_mkMsgS] at hmk
  cases hmk
  exact hfin v

/-- the member of the oneof `j5.schema.v1.Field` a field kind selects -/
theorem fieldOneof_eq (f : CField) (v : Node) :
    fieldOneof j5Env (fieldKind f) v = oneofMsg 15 (kindIdx f) v := by
  unfold fieldOneof
  rw [mkMsg_eq_mkMsgS schemaOf_Field]
  exact (oneofMsg_eq_mkMsgS (distinct_of schemaOf_Field) (propInfo_find (kind_pi f)) v).symm

theorem rules_nil_of_isEmpty {r : J5V.Compile.Rules} (h : r.isEmpty = true) : r = [] := by
  cases r with
  | nil => rfl
  | cons a b => cases h

theorem storeNode_enum (n : Nat) : storeNode false (.enum n) = sEnum n := by
  by_cases h : n = 0
  · subst h; rfl
  · simp [storeNode, sEnum, Scalar.isZero, h]

/-- the scope after a type-select / block qualifier: the outer blocks, then the selected block -/
def typeScope (outer : List ContainerField) (tcf : ContainerField) (root : Option ContainerField) : Scope :=
  ⟨outer ++ [tcf], tcf, root⟩

theorem intFmt_scalar (fmt : J5V.Compile.IntFmt) :
    scalarFromAST j5Env (.enum b!"j5.schema.v1.IntegerField_Format")
      (.tag (tagRef .none (refOf [intFmtWord fmt]))) = .ok (.enum (intFmtNumber fmt)) := by
  rw [j5Env_nf]; cases fmt <;> decide +kernel

theorem floatFmt_scalar (fmt : J5V.Compile.FloatFmt) :
    scalarFromAST j5Env (.enum b!"j5.schema.v1.FloatField_Format")
      (.tag (tagRef .none (refOf [floatFmtWord fmt]))) = .ok (.enum (floatFmtNumber fmt)) := by
  rw [j5Env_nf]; cases fmt <;> decide +kernel

theorem storeNode_intFmt (fmt : J5V.Compile.IntFmt) :
    storeNode false (.enum (intFmtNumber fmt)) = sEnum (intFmtNumber fmt) := by cases fmt <;> rfl

theorem storeNode_floatFmt (fmt : J5V.Compile.FloatFmt) :
    storeNode false (.enum (floatFmtNumber fmt)) = sEnum (floatFmtNumber fmt) := by cases fmt <;> rfl

theorem specOf_KeyFormatInformal (c : Addr) :
    specOf j5Env ⟨c, .msg sKeyFormatInformal⟩ = .ok specKeyFormatInformal := specOf_of_nil specOf_KeyFormatInformal0 c
theorem specOf_KeyFormatCustom (c : Addr) :
    specOf j5Env ⟨c, .msg sKeyFormatCustom⟩ = .ok specKeyFormatCustom := specOf_of_nil specOf_KeyFormatCustom0 c
theorem specOf_KeyFormatUUID (c : Addr) :
    specOf j5Env ⟨c, .msg sKeyFormatUUID⟩ = .ok specKeyFormatUUID := specOf_of_nil specOf_KeyFormatUUID0 c
theorem specOf_KeyFormatID62 (c : Addr) :
    specOf j5Env ⟨c, .msg sKeyFormatID62⟩ = .ok specKeyFormatID62 := specOf_of_nil specOf_KeyFormatID620 c

def sRef : Schema := j5_schema_lit% "j5.schema.v1.Ref"
def specRef : BlockSpec := j5_spec_lit% "j5.schema.v1.Ref"
theorem schemaOf_Ref : j5Env.schemaOf nRef = sRef := by rw [j5Env_nf]; decide +kernel
theorem specOf_Ref (c : Addr) : specOf j5Env ⟨c, .msg sRef⟩ = .ok specRef := by
  apply specOf_of_nil; rw [j5Env_nf]; decide +kernel
theorem pi_Ref_package : propInfo j5Env sRef b!"package" = some (0, none, .scalar (.scalar .string) false) := by
  rw [j5Env_nf]; decide +kernel
theorem pi_Ref_schema : propInfo j5Env sRef b!"schema" = some (1, none, .scalar (.scalar .string) false) := by
  rw [j5Env_nf]; decide +kernel

def gObjectFieldSchema : Str × List Nat := (b!"j5.schema.v1.ObjectField.schema", [])
def gOneofFieldSchema : Str × List Nat := (b!"j5.schema.v1.OneofField.schema", [])
def gEnumFieldSchema : Str × List Nat := (b!"j5.schema.v1.EnumField.schema", [])
theorem pi_ObjectField_ref :
    propInfo j5Env sObjectField b!"ref" = some (0, some gObjectFieldSchema, .container sRef) :=
  propInfo_container schemaOf_Ref rfl
theorem pi_ObjectField_flatten :
    propInfo j5Env sObjectField b!"flatten" = some (4, none, .scalar (.scalar .bool) false) := by
      rw [j5Env_nf]; decide +kernel
theorem pi_OneofField_ref :
    propInfo j5Env sOneofField b!"ref" = some (0, some gOneofFieldSchema, .container sRef) :=
  propInfo_container schemaOf_Ref rfl
theorem pi_EnumField_ref :
    propInfo j5Env sEnumField b!"ref" = some (0, some gEnumFieldSchema, .container sRef) :=
  propInfo_container schemaOf_Ref rfl
def sEnumListRules : Schema := j5_schema_lit% "j5.list.v1.EnumRules"
def specEnumListRules : BlockSpec := j5_spec_lit% "j5.list.v1.EnumRules"
def sFiltering : Schema := j5_schema_lit% "j5.list.v1.FilteringConstraint"
def specFiltering : BlockSpec := j5_spec_lit% "j5.list.v1.FilteringConstraint"
theorem schemaOf_EnumListRules : j5Env.schemaOf nEnumRules = sEnumListRules := by rw [j5Env_nf]; decide +kernel
theorem schemaOf_Filtering : j5Env.schemaOf nFiltering = sFiltering := by rw [j5Env_nf]; decide +kernel
theorem specOf_EnumListRules (c : Addr) : specOf j5Env ⟨c, .msg sEnumListRules⟩ = .ok specEnumListRules := by
  apply specOf_of_nil; rw [j5Env_nf]; decide +kernel
theorem specOf_Filtering (c : Addr) : specOf j5Env ⟨c, .msg sFiltering⟩ = .ok specFiltering := by
  apply specOf_of_nil; rw [j5Env_nf]; decide +kernel
theorem pi_EnumField_listRules :
    propInfo j5Env sEnumField b!"listRules" = some (3, none, .container sEnumListRules) :=
  propInfo_container schemaOf_EnumListRules rfl
theorem pi_EnumListRules_filtering :
    propInfo j5Env sEnumListRules b!"filtering" = some (0, none, .container sFiltering) :=
  propInfo_container schemaOf_Filtering rfl
theorem pi_Filtering_filterable :
    propInfo j5Env sFiltering b!"filterable" = some (0, none, .scalar (.scalar .bool) false) := by
      rw [j5Env_nf]; decide +kernel
theorem pi_Filtering_defaultFilters :
    propInfo j5Env sFiltering b!"defaultFilters" = some (1, none, .arrayOfScalar (.scalar .string)) := by
      rw [j5Env_nf]; decide +kernel
theorem pi_ArrayField_items : propInfo j5Env sArrayField wItems = some (1, none, .container sField) :=
  propInfo_container schemaOf_Field rfl
theorem pi_MapField_itemSchema : propInfo j5Env sMapField wItemSchema = some (0, none, .container sField) :=
  propInfo_container schemaOf_Field rfl

end J5V.Walker
