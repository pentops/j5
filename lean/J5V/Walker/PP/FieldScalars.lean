import J5V.Walker.PP.FieldTables
import J5V.Walker.PP.Fills
/-!
# `FieldFacts`: the shape of a field lemma, and the scalar field kinds

`FieldFacts f` is what the property-level lemma needs to know about a field; here for string, bool, bytes, date,
decimal, timestamp, any, integer and float; and the scalar split of the two reference schemas (`splitTwo_exact`).
-/
namespace J5V.Walker
open J5V.Bcl

/-!
## The general shape of a field lemma

`FieldFacts f` is what the property-level lemma (`prop_stmt_exact`) needs to know about a field:
* the member of `j5.schema.v1.Field` it selects (`kindIdx`, `kindSchema`, `kindSpec` and their tables),
* `fieldMsg j5Env f = oneofMsg 15 (kindIdx f) (typeVal f)`,
* `runQ`: the qualifier chain runs exactly inside the type's message, from the fresh message to `qualVal f`
  (scope: `outer ++ [type block]`, `outer` missing the names `qualNames f`),
* `runB`: the body lines `fieldBody f pfx ek` run exactly, from `qualVal f` to `typeVal f`, for EVERY way the
  lines reach the type block (`BodyReach`: directly, or through the prefix of an array / map item).
-/

/-- the type block of `f` at `d` -/
abbrev tcfOf (f : CField) (d : Addr) : ContainerField := cfOf (kindSchema f) (kindSpec f) d

/-- where the type block sits in the scope the body runs in: behind blocks (`pre`) that do not know the
block keywords of the field (`field`, `option`), followed by the blocks its qualifiers added (`tailP`) -/
def ScopeAt (sc : Scope) (tcf : ContainerField) (blockNames : List Str) (tailP : List ContainerField → Prop) :
    Prop :=
  ∃ pre tail, sc.blockSet = pre ++ tcf :: tail ∧ (∀ kw ∈ blockNames, ∀ o ∈ pre, Misses o kw) ∧ tailP tail

/-- the qualifier chain of `f`, from the fresh type message to `qv` -/
def FieldRunQ (f : CField) (qualNames : List Str) (tailP : Addr → List ContainerField → Prop) (qv : Node) : Prop :=
  ∀ (outer : List ContainerField) (root : Option ContainerField) (d : Addr),
    (∀ n ∈ qualNames, ∀ o ∈ outer, Misses o n) →
    ∃ (sc2 : Scope) (spec2 : BlockSpec) (tail : List ContainerField),
      sc2.blockSet = outer ++ (tcfOf f d :: tail) ∧ tailP d tail ∧
      Exact (walkQualifiers j5Env (fieldQuals f) (typeScope outer (tcfOf f d) root) (kindSpec f)) d
        (freshMsg (kindSchema f)) (sc2, spec2) qv

/-- the body lines of `f` (not as a directly typed entity key: `entityKey = false`), from `qv` to `tv`,
however they reach the type block -/
def FieldRunB (f : CField) (bodyNames blockNames : List Str) (tailP : Addr → List ContainerField → Prop)
    (qv tv : Node) : Prop :=
  ∀ (sc : Scope) (pfx : List Str) (a b : Addr) (C : Option Node → Node),
    BodyReach sc pfx (kindSchema f) (kindSpec f) a b C (· ∈ bodyNames) →
    ScopeAt sc (tcfOf f (a ++ b)) blockNames (tailP (a ++ b)) →
    Exact (doBody j5Env sc (fieldBody f pfx false)) a (C (some qv)) () (C (some tv))

/-- every name a field's qualifiers / body lines look up first (the blocks a field is written in — property,
entity key, array / map — must not know them) -/
def fieldLineNames : List Str :=
  [b!"format", wRules, b!"ref", b!"flatten", wObject, wOneof, wEnum, wItems, wItemSchema, b!"listRules",
   b!"entity", b!"foreign", wField, wOption]

structure FieldFacts (f : CField) where
  qualNames : List Str
  bodyNames : List Str
  /-- the keywords of the block statements in the body (`field`, `option`) -/
  blockNames : List Str
  /-- the blocks the qualifier chain leaves in the scope behind the type block -/
  tailP : Addr → List ContainerField → Prop
  qualVal : Node
  typeVal : Node
  pi : propInfo j5Env sField (fieldKind f) = some (kindIdx f, some gField, .container (kindSchema f))
  spec : ∀ c, specOf j5Env ⟨c, .msg (kindSchema f)⟩ = .ok (kindSpec f)
  specName : (kindSpec f).name = none
  specTypeSelect : (kindSpec f).typeSelect = none
  msg : fieldMsg j5Env f = oneofMsg 15 (kindIdx f) typeVal
  namesSub : ∀ n, n ∈ qualNames ∨ n ∈ bodyNames → n ∈ fieldLineNames
  /-- the qualifiers of a field that is not a collection only look up `format` / `ref` -/
  qualSub : isCollection f = false → ∀ n ∈ qualNames, n = b!"format" ∨ n = b!"ref"
  blockSub : ∀ kw ∈ blockNames, kw = wField ∨ kw = wOption
  /-- the names the lines use are found in the type block -/
  found : ∀ d, ∀ n ∈ bodyNames, (findBlock n [tcfOf f d]).isSome = true
  runQ : FieldRunQ f qualNames tailP qualVal
  runB : FieldRunB f bodyNames blockNames tailP qualVal typeVal

/-- `FieldFacts` from the run lemmas: the table facts hold for every kind, the side conditions on the names are
closed checks -/
def FieldFacts.of {f : CField} (qualNames bodyNames blockNames : List Str)
    (tailP : Addr → List ContainerField → Prop) (qualVal typeVal : Node)
    (msg : fieldMsg j5Env f = oneofMsg 15 (kindIdx f) typeVal)
    (names : (qualNames ++ bodyNames).all (fieldLineNames.contains ·) = true)
    (quals : isCollection f = false → qualNames.all (fun n => n == b!"format" || n == b!"ref") = true)
    (blocks : blockNames.all (fun kw => kw == wField || kw == wOption) = true)
    (found : bodyNames.all (fun n => (blockPath n (kindSchema f) (kindSpec f)).isSome) = true)
    (runQ : FieldRunQ f qualNames tailP qualVal)
    (runB : FieldRunB f bodyNames blockNames tailP qualVal typeVal) : FieldFacts f where
  qualNames := qualNames
  bodyNames := bodyNames
  blockNames := blockNames
  tailP := tailP
  qualVal := qualVal
  typeVal := typeVal
  pi := kind_pi f
  spec := kind_spec f
  specName := kindSpec_name
  specTypeSelect := kindSpec_typeSelect
  msg := msg
  namesSub := fun n hn => by
    have := List.all_eq_true.mp names n (List.mem_append.mpr hn)
    simpa using this
  qualSub := fun hc n hn => by
    have := List.all_eq_true.mp (quals hc) n hn
    simpa using this
  blockSub := fun kw hkw => by
    have := List.all_eq_true.mp blocks kw hkw
    simpa using this
  found := fun d n hn => by
    have := List.all_eq_true.mp found n hn
    cases hp : blockPath n (kindSchema f) (kindSpec f) with
    | none => rw [hp] at this; cases this
    | some p => rw [findBlock_head hp]; rfl
  runQ := runQ
  runB := runB

def fieldOk2 : CField → Bool
  | .string rules l => !l && rulesOk j5Env (typeSchema (.string rules l)) rules
  | .bool rules l => !l && rulesOk j5Env (typeSchema (.bool rules l)) rules
  | .bytes rules => rulesOk j5Env (typeSchema (.bytes rules)) rules
  | .date rules l => !l && rulesOk j5Env (typeSchema (.date rules l)) rules
  | .decimal rules l => !l && rulesOk j5Env (typeSchema (.decimal rules l)) rules
  | .timestamp rules => rulesOk j5Env (typeSchema (.timestamp rules)) rules
  | .any => true
  | .integer fmt rules l => !l && rulesOk j5Env (typeSchema (.integer fmt rules l)) rules
  | .float fmt rules l => !l && rulesOk j5Env (typeSchema (.float fmt rules l)) rules
  | .key fmt ek rules l =>
    !l && rulesOk j5Env (typeSchema (.key fmt ek rules l)) rules && keyFmtOk fmt && entKeyOk ek
  | _ => false

/-! ## A scalar split with two paths (`j5.schema.v1.Ref`, `EntityRef`) -/

/-- the fuel of the walk leaves room for the levels of a scalar split -/
theorem fuelOf_succ3 (env : Env) :
    fuelOf env = (2 * env.given.length + env.schemas.length + 5) + 1 + 1 + 1 := rfl

/-- a scalar split `{".", right to left, [[req]], [], [rem]}` into a fresh block of schema `s` whose properties `req`
and `rem` are strings: the last part of the string goes to `req`, the parts before it, joined again, to `rem` -/
theorem splitTwo_exact {env : Env} {s : Schema} {spec : BlockSpec} {req rem : Str} {ireq irem : Nat}
    {ogreq : Option (Str × List Nat)} (hd : s.namesDistinct = true)
    (hss : spec.scalarSplit = some ⟨some [46], true, [[req]], [], some [rem]⟩)
    (hpreq : blockPath req s spec = some [req]) (hprem : blockPath rem s spec = some [rem])
    (hireq : propInfo env s req = some (ireq, ogreq, .scalar (.scalar .string) false))
    (hirem : propInfo env s rem = some (irem, none, .scalar (.scalar .string) false))
    (hne : rem ≠ req) {val : AV} {str : Str} {parts : List Str} {last : Str}
    (hstr : val.asString = some str) (hsplit : stringsSplit str [46] = parts ++ [last]) (fuel : Nat) (r : Addr) :
    Exact (setContainerFromScalar env (fuel + 1 + 1) (Scope.newChild (cfOf s spec r)) spec val) r (freshMsg s) ()
      (mkMsgS s ((req, sStr last) ::
        if parts = [] then [] else [(rem, sStr (stringsJoin [46] parts))])) := by
  rw [freshMsg_eq_mkMsgS]
  refine setContainerFromScalar_split1 (X1 := mkMsgS s [(req, sStr last)]) hss hstr hsplit ?_ ?_
  · rw [← storeNode_str]
    exact setAttr_directS (n := req) (pos := none) (v := .str last) hd rfl (findBlock_head hpreq) hireq rfl
      (.inr rfl) rfl rfl
  · by_cases hp : parts = []
    · rw [if_pos hp, if_pos hp]
    · rw [if_neg hp, if_neg hp]
      intro sp
      rw [← storeNode_str (stringsJoin [46] parts)]
      exact setAttr_directS (n := rem) (pos := none) (v := .str (stringsJoin [46] parts))
        (vals := [(req, sStr last)]) hd rfl (findBlock_head hprem) hirem (by simp [lookupVal, hne.symm]) (.inl rfl) rfl rfl


/-!
## `FieldFacts` of the scalar field kinds

The message of the type block is kept as `mkMsgS (kindSchema f) vals`: `qvals` after the qualifiers, and at the end the
list `tvals` the printer writes (`FieldFacts.ofS`); the body is a `Fills` through any reach (`FieldRunB.ofFills`).
`plainFacts` (a kind whose only lines are rules: string, bool, bytes, date, decimal, timestamp), `anyFacts`, `fmtFacts`
(a format qualifier, then rules: integer, float).
-/

/-- `FieldFacts` of a field whose type block holds `mkMsgS (kindSchema f) qvals` after the qualifiers and the printer's
`tvals` at the end -/
def FieldFacts.ofS {f : CField} (qualNames bodyNames blockNames : List Str)
    (tailP : Addr → List ContainerField → Prop) (qvals tvals : List (Str × Node))
    (msg : fieldMsg j5Env f = fieldOneof j5Env (fieldKind f) (mkMsg j5Env (typeSchema f) tvals))
    (names : (qualNames ++ bodyNames).all (fieldLineNames.contains ·) = true)
    (quals : isCollection f = false → qualNames.all (fun n => n == b!"format" || n == b!"ref") = true)
    (blocks : blockNames.all (fun kw => kw == wField || kw == wOption) = true)
    (found : bodyNames.all (fun n => (blockPath n (kindSchema f) (kindSpec f)).isSome) = true)
    (runQ : FieldRunQ f qualNames tailP (mkMsgS (kindSchema f) qvals))
    (runB : FieldRunB f bodyNames blockNames tailP (mkMsgS (kindSchema f) qvals) (mkMsgS (kindSchema f) tvals)) :
    FieldFacts f :=
  .of qualNames bodyNames blockNames tailP (mkMsgS (kindSchema f) qvals) (mkMsgS (kindSchema f) tvals)
    (msg.trans ((fieldOneof_eq f _).trans (congrArg _ (mkMsg_eq_mkMsgS (kind_schemaOf f) tvals))))
    names quals blocks found runQ runB

/-- the body of a field as a `Fills` of the type block through any reach: from `qvals` (keys `ks0`) it writes `new`;
`tvals` lists the same entries in the printer's order -/
theorem FieldRunB.ofFills {f : CField} {bodyNames blockNames : List Str} {tailP : Addr → List ContainerField → Prop}
    {qvals new tvals : List (Str × Node)} {ks0 ks : List Str} (hq : KeysIn ks0 qvals)
    (hdis : disjointKeys ks0 ks = true)
    (hfin : mkMsgS (kindSchema f) (qvals ++ new) = mkMsgS (kindSchema f) tvals)
    (h : ∀ (sc : Scope) (pfx : List Str) (a b : Addr) (C : Option Node → Node),
      BodyReach sc pfx (kindSchema f) (kindSpec f) a b C (· ∈ bodyNames) →
      ScopeAt sc (tcfOf f (a ++ b)) blockNames (tailP (a ++ b)) →
      Fills sc a (fun vals => C (some (mkMsgS (kindSchema f) vals))) ks (fieldBody f pfx false) new) :
    FieldRunB f bodyNames blockNames tailP (mkMsgS (kindSchema f) qvals) (mkMsgS (kindSchema f) tvals) :=
  fun sc pfx a b C hr hsc => ((h sc pfx a b C hr hsc).run hq hdis).conv (congrArg (fun X => C (some X)) hfin)

/-- no qualifier: the type block stays fresh -/
theorem FieldRunQ.nil {f : CField} (hq : fieldQuals f = []) :
    FieldRunQ f [] (fun _ _ => True) (mkMsgS (kindSchema f) []) := fun outer root d _ =>
  ⟨typeScope outer (tcfOf f d) root, kindSpec f, [], rfl, trivial, by
    rw [hq, ← freshMsg_eq_mkMsgS]; exact walkQualifiers_nil⟩

/-- a field kind without qualifier whose only lines are its rules -/
def plainFacts {f : CField} {ri : Nat} {sR : Schema} {specR : BlockSpec}
    (row : RulesRow (typeSchema f) (kindSchema f) (kindSpec f) ri sR specR) (hq : fieldQuals f = [])
    {rules : J5V.Compile.Rules} (hb : ∀ pfx, fieldBody f pfx false = rulesBcl pfx rules)
    (hfm : fieldMsg j5Env f = fieldOneof j5Env (fieldKind f)
      (mkMsg j5Env (typeSchema f) (rulesVals j5Env (typeSchema f) rules)))
    (h : rulesOk j5Env (typeSchema f) rules = true) : FieldFacts f :=
  .ofS [] [wRules] [] (fun _ _ => True) [] (rulesVals j5Env (typeSchema f) rules) hfm
    rfl (fun _ => rfl) rfl (by rw [List.all_cons, row.path]; rfl) (.nil hq)
    (.ofFills (.nil []) rfl rfl fun sc pfx a b C hr _ => by
      rw [hb]; exact hr.fillsRules (List.mem_singleton.mpr rfl) row h)

def anyFacts : FieldFacts .any :=
  .ofS [] [] [] (fun _ _ => True) [] [] rfl rfl (fun _ => rfl) rfl rfl (.nil rfl)
    (.ofFills (.nil []) rfl rfl fun _ _ _ _ _ _ _ => .nil [])

/-- the qualifier `:FMT` of a field whose type has the enum property `format` -/
theorem fmtQual_exact {sT : Schema} {specT : BlockSpec} {en w : Str} {num i : Nat} (hd : sT.namesDistinct = true)
    (hq : specT.qualifier = some ⟨b!"format", none, none, false, false⟩)
    (hpath : blockPath b!"format" sT specT = some [b!"format"])
    (hpi : propInfo j5Env sT b!"format" = some (i, none, .scalar (.enum en) false))
    (hsc : scalarFromAST j5Env (.enum en) (.tag (tagRef .none (refOf [w]))) = .ok (.enum num))
    {outer : List ContainerField} (root : Option ContainerField) (d : Addr)
    (hmiss : ∀ o ∈ outer, Misses o b!"format") :
    Exact (walkQualifiers j5Env [tagRef .none (refOf [w])] (typeScope outer (cfOf sT specT d) root) specT) d
      (freshMsg sT) (typeScope outer (cfOf sT specT d) root, specT) (mkMsgS sT [(b!"format", sEnum num)]) := by
  rw [freshMsg_eq_mkMsgS, ← storeNode_enum]
  exact walkQualifiers_attr (tagSpec := ⟨b!"format", none, none, false, false⟩) hq rfl (checkBang_none rfl)
    (setAttr_directS (n := b!"format") (pos := none) hd rfl
      ((findBlock_skip_all hmiss).trans (findBlock_head hpath)) hpi rfl (.inl rfl) (asArray_tag _) hsc)

/-- a field kind with the format qualifier `:W` whose only lines are its rules -/
def fmtFacts {f : CField} {ri : Nat} {sR : Schema} {specR : BlockSpec}
    (row : RulesRow (typeSchema f) (kindSchema f) (kindSpec f) ri sR specR) {w en : Str} {num i : Nat}
    (hq : fieldQuals f = [tagRef .none (refOf [w])])
    (hqual : (kindSpec f).qualifier = some ⟨b!"format", none, none, false, false⟩)
    (hpath : blockPath b!"format" (kindSchema f) (kindSpec f) = some [b!"format"])
    (hpi : propInfo j5Env (kindSchema f) b!"format" = some (i, none, .scalar (.enum en) false))
    (hsc : scalarFromAST j5Env (.enum en) (.tag (tagRef .none (refOf [w]))) = .ok (.enum num))
    {rules : J5V.Compile.Rules} (hb : ∀ pfx, fieldBody f pfx false = rulesBcl pfx rules)
    (hfm : fieldMsg j5Env f = fieldOneof j5Env (fieldKind f)
      (mkMsg j5Env (typeSchema f) ((b!"format", sEnum num) :: rulesVals j5Env (typeSchema f) rules)))
    (h : rulesOk j5Env (typeSchema f) rules = true) : FieldFacts f :=
  .ofS [b!"format"] [wRules] [] (fun _ _ => True) [(b!"format", sEnum num)]
    ((b!"format", sEnum num) :: rulesVals j5Env (typeSchema f) rules) hfm
    rfl (fun _ => rfl) rfl (by rw [List.all_cons, row.path]; rfl)
    (fun outer root d hmiss => ⟨typeScope outer (tcfOf f d) root, kindSpec f, [], rfl, trivial, by
      rw [hq]; exact fmtQual_exact row.distinctT hqual hpath hpi hsc root d (hmiss _ (by simp))⟩)
    (.ofFills (.single _ _) rfl rfl fun sc pfx a b C hr _ => by
      rw [hb]; exact hr.fillsRules (List.mem_singleton.mpr rfl) row h)

def integerFacts (fmt : J5V.Compile.IntFmt) (rules : J5V.Compile.Rules) (l : Bool)
    (h : rulesOk j5Env b!"j5.schema.v1.IntegerField" rules = true) : FieldFacts (.integer fmt rules l) :=
  fmtFacts rulesRow_Integer rfl (show specIntegerField.qualifier = _ by decide +kernel) rfl pi_IntegerField_format
    (intFmt_scalar fmt) (fun _ => rfl) rfl h

def floatFacts (fmt : J5V.Compile.FloatFmt) (rules : J5V.Compile.Rules) (l : Bool)
    (h : rulesOk j5Env b!"j5.schema.v1.FloatField" rules = true) : FieldFacts (.float fmt rules l) :=
  fmtFacts rulesRow_Float rfl (show specFloatField.qualifier = _ by decide +kernel) rfl pi_FloatField_format
    (floatFmt_scalar fmt) (fun _ => rfl) rfl h

end J5V.Walker
