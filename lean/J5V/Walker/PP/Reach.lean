import J5V.Walker.PP.MsgState
import J5V.Compile.AstValueProofs
/-!
# How body lines reach a block; rule lines

`BodyReach`: the ways the body lines of a field reach the message of its type. Its first client: the lines
`rules.NAME = LIT`, with `RulesRow`, the table facts about the `rules` property of a field type.
-/
namespace J5V.Walker
open J5V.Bcl

/-!
## Rule literals — what the walker reads from a printed literal

Quoted strings, `true` / `false`, decimal integers for the unsigned / signed / float targets (`strconv.ParseUint` /
`ParseInt` / `ParseFloat` of `strconv.FormatUint`).
-/

theorem digitChar_toNat : ∀ d, d < 10 → (Nat.digitChar d).toNat = 48 + d := by decide

theorem natDigits_lt {n : Nat} (h : n < 10) : natDigits n = [48 + n] := by
  unfold natDigits
  rw [Nat.toDigits_of_lt_base h]
  simp [digitChar_toNat n h]

theorem natDigits_ge {n : Nat} (h : 10 ≤ n) : natDigits n = natDigits (n / 10) ++ [48 + n % 10] := by
  unfold natDigits
  rw [Nat.toDigits_of_base_le (by decide) h]
  simp [digitChar_toNat (n % 10) (Nat.mod_lt _ (by decide))]

def digitsVal (acc : Nat) (ds : List Nat) : Nat := ds.foldl (fun a c => a * 10 + (c - 48)) acc

def allDigits (ds : List Nat) : Bool := ds.all fun c => decide (48 ≤ c) && decide (c ≤ 57)

theorem natDigits_spec (n : Nat) : allDigits (natDigits n) = true ∧ digitsVal 0 (natDigits n) = n ∧ natDigits n ≠ [] := by
  induction n using Nat.strongRecOn with
  | _ n ih =>
    by_cases h : n < 10
    · rw [natDigits_lt h]
      refine ⟨?_, ?_, by simp⟩
      · simp only [allDigits, List.all_cons, List.all_nil, Bool.and_true, Bool.and_eq_true, decide_eq_true_eq]
        omega
      · simp only [digitsVal, List.foldl_cons, List.foldl_nil]; omega
    · have h10 : 10 ≤ n := by omega
      rw [natDigits_ge h10]
      obtain ⟨h1, h2, _⟩ := ih (n / 10) (by omega)
      refine ⟨?_, ?_, by simp⟩
      · simp only [allDigits, List.all_append, List.all_cons, List.all_nil, Bool.and_true, Bool.and_eq_true,
          decide_eq_true_eq]
        exact ⟨h1, by omega, by omega⟩
      · simp only [digitsVal, List.foldl_append, List.foldl_cons, List.foldl_nil]
        simp only [digitsVal] at h2
        rw [h2]; omega

theorem isAscii_of_allDigits {ds : List Nat} (h : allDigits ds = true) : isAscii ds = true := by
  simp only [allDigits, List.all_eq_true, Bool.and_eq_true, decide_eq_true_eq] at h
  simp only [isAscii, List.all_eq_true, decide_eq_true_eq]
  intro b hb
  have := h b hb
  omega

theorem encodeRunes_natDigits (n : Nat) : encodeRunes (natDigits n) = natDigits n :=
  encodeRunes_ascii (isAscii_of_allDigits (natDigits_spec n).1)

/-- the printer's digits are `strconv.FormatUint`'s of the compile model, whose parsers read them back -/
theorem natDigits_eq_fmtNat (n : Nat) : natDigits n = J5V.Compile.fmtNat n := by
  rw [J5V.Compile.fmtNat_eq]
  induction n using Nat.strongRecOn with
  | _ n ih =>
    rw [J5V.Compile.digitsSpec]
    by_cases h : n < 10
    · rw [dif_pos h, natDigits_lt h]
    · rw [dif_neg h, natDigits_ge (by omega), ih _ (by omega)]

theorem parseUint_natDigits {n bits : Nat} (h : n < 2 ^ bits) :
    J5V.Compile.parseUint (natDigits n) bits = some n := by
  rw [natDigits_eq_fmtNat, J5V.Compile.parseUint_fmtNat_eq, if_pos h]

theorem parseInt_natDigits {n bits : Nat} (h : n < 2 ^ (bits - 1)) :
    J5V.Compile.parseInt (natDigits n) bits = some (n : Int) := by
  rw [natDigits_eq_fmtNat, J5V.Compile.parseInt_fmtNat, if_pos h]

theorem scanDecimal_digits {ds : List Nat} (h : allDigits ds = true) (acc k : Nat) (sawDigit : Bool)
    (hs : sawDigit = true ∨ ds ≠ []) :
    scanDecimal ds acc k false sawDigit = some (digitsVal acc ds, k) := by
  induction ds generalizing acc sawDigit with
  | nil =>
    rcases hs with hs | hs
    · subst hs; rfl
    · exact absurd rfl hs
  | cons c rest ih =>
    simp only [allDigits, List.all_cons, Bool.and_eq_true, decide_eq_true_eq] at h
    simp only [scanDecimal, h.1, and_self, if_true, Bool.false_eq_true, if_false, digitsVal, List.foldl_cons]
    exact ih (by simpa [allDigits] using h.2) _ true (.inl rfl)

theorem parseFloat64_natDigits (n : Nat) : parseFloat64 (natDigits n) = natF64 n := by
  obtain ⟨h1, h2, h3⟩ := natDigits_spec n
  simp only [parseFloat64, scanDecimal_digits h1 0 0 false (.inr h3), h2, natF64, Nat.pow_zero]

theorem parseFloat32_natDigits (n : Nat) : parseFloat32 (natDigits n) = natF32 n := by
  obtain ⟨h1, h2, h3⟩ := natDigits_spec n
  simp only [parseFloat32, scanDecimal_digits h1 0 0 false (.inr h3), h2, natF32, Nat.pow_zero]

def Lit.isScalar : J5V.Compile.Lit → Bool
  | .strs _ => false
  | _ => true

theorem asArray_litValue {l : J5V.Compile.Lit} (h : Lit.isScalar l = true) :
    (AV.value (litValue l)).asArray = none := by
  cases l <;> first | rfl | cases h

theorem litScalar_isScalar {t : FieldType} {l : J5V.Compile.Lit} {v : Scalar} (h : litScalar t l = some v) :
    Lit.isScalar l = true := by
  cases l <;> first | rfl | (unfold litScalar at h; split at h <;> simp_all)

theorem asUint_intValue {n bits : Nat} (h : n < 2 ^ bits) : (AV.value (intValue n)).asUint bits = some n := by
  simp only [intValue, AV.asUint, valueToken, tok0, if_true, encodeRunes_natDigits, parseUint_natDigits h]

theorem asInt_intValue {n bits : Nat} (h : n < 2 ^ (bits - 1)) :
    (AV.value (intValue n)).asInt bits = some (n : Int) := by
  simp only [intValue, AV.asInt, valueToken, tok0, if_true, encodeRunes_natDigits, parseInt_natDigits h]

theorem asFloatLit_intValue (n : Nat) : (AV.value (intValue n)).asFloatLit = some (natDigits n) := by
  simp only [intValue, AV.asFloatLit, valueToken, tok0, true_or, if_true, encodeRunes_natDigits]

/-- each arm of `litScalar` is read back by the `AV.as…` function `scalarFromAST` calls for that type -/
theorem scalarFromAST_litValue (env : Env) {t : FieldType} {l : J5V.Compile.Lit} {v : Scalar}
    (h : litScalar t l = some v) (hs : strOk l = true) :
    scalarFromAST env t (.value (litValue l)) = .ok v := by
  unfold litScalar at h
  split at h
  · -- string, string
    cases h
    simp only [scalarFromAST, litValue, asString_strValue (isAscii_of_okString hs), Option.map_some]
  · -- key, string
    cases h
    simp only [scalarFromAST, litValue, asString_strValue (isAscii_of_okString hs), Option.map_some]
  · -- bool
    cases h
    simp only [scalarFromAST, litValue, asBool_boolValue, Option.map_some]
  · -- uint64
    split at h <;> cases h
    rename_i n hn
    simp only [scalarFromAST, litValue, asUint_intValue hn, Option.map_some]
  · -- uint32
    split at h <;> cases h
    rename_i n hn
    simp only [scalarFromAST, litValue, asUint_intValue hn, Option.map_some]
  · -- int64
    split at h <;> cases h
    rename_i n hn
    simp only [scalarFromAST, litValue, asInt_intValue (bits := 64) hn, Option.map_some]
  · -- int32
    split at h <;> cases h
    rename_i n hn
    simp only [scalarFromAST, litValue, asInt_intValue (bits := 32) hn, Option.map_some]
  · -- float64
    rename_i n
    simp only [scalarFromAST, litValue, asFloatLit_intValue, parseFloat64_natDigits]
    cases hf : natF64 n with
    | none => rw [hf] at h; cases h
    | some b => rw [hf] at h; cases h; rfl
  · -- float32
    rename_i n
    simp only [scalarFromAST, litValue, asFloatLit_intValue, parseFloat32_natDigits]
    cases hf : natF32 n with
    | none => rw [hf] at h; cases h
    | some b => rw [hf] at h; cases h; rfl
  · cases h

/-- a rule literal that fits its property is a list of strings in an array-of-strings property, or a scalar of the
property's scalar type -/
theorem litNode_cases {p : Property} {l : J5V.Compile.Lit} {node : Node} (h : litNode p l = some node) :
    (∃ x xs, p.type = .array (.scalar .string) ∧ l = .strs (x :: xs) ∧
      node = .list ((x :: xs).map fun s => .scalar (.str s))) ∨
    (∃ k v, p.type = .scalar k ∧ litScalar p.type l = some v ∧ node = storeNode p.presence v) := by
  unfold litNode at h
  split at h
  · rename_i _ _ x xs hty
    cases h
    exact .inl ⟨x, xs, hty, rfl, rfl⟩
  · cases h
  · rename_i l _ _ _ _
    cases hls : litScalar p.type l with
    | none => rw [hls] at h; cases h
    | some v =>
      rw [hls] at h
      cases h
      -- `litScalar` is defined for scalar types only
      have hty : ∃ k, p.type = .scalar k := by
        unfold litScalar at hls
        split at hls <;> first | exact ⟨_, by assumption⟩ | cases hls
      obtain ⟨k, hk⟩ := hty
      exact .inr ⟨k, v, hk, rfl, rfl⟩

theorem ruleOk_spec {sR : Schema} {r : J5V.Compile.Rule} (h : ruleOk sR r = true) :
    ∃ i p node, findProp r.name 0 sR.props = some (i, p) ∧ litNode p r.lit = some node ∧
      ruleVal sR r = (r.name, node) := by
  simp only [ruleOk, Bool.and_eq_true] at h
  cases hf : findProp r.name 0 sR.props with
  | none => rw [hf] at h; cases h.2
  | some ip =>
    obtain ⟨i, p⟩ := ip
    rw [hf] at h
    dsimp only at h
    cases hn : litNode p r.lit with
    | none => rw [hn] at h; cases h.2
    | some node => exact ⟨i, p, node, rfl, hn, by simp only [ruleVal, hf, hn, Option.getD_some]⟩

/-- what the tables must say about a rules schema `sR`: names distinct, no proto oneof, no alias -/
structure RulesSchemaOK (sR : Schema) (specR : BlockSpec) : Prop where
  distinct : sR.namesDistinct = true
  noOneof : sR.props.all (fun p => p.oneofGroup.isNone) = true
  noAlias : specR.aliases = []

theorem findProp_mem {n : Str} {k : Nat} {props : List Property} {i : Nat} {p : Property}
    (h : findProp n k props = some (i, p)) : p ∈ props := by
  obtain ⟨j, _, hp, _⟩ := findProp_spec h
  exact List.mem_of_getElem? hp

theorem combinePath_refOf {l : List Str} (h : ∀ s ∈ l, isAscii s = true) :
    combinePath [] (refOf l).idents = l.map fun s => ⟨s, some Span.zero⟩ := by
  simp only [combinePath, refOf, List.map_nil, List.nil_append, List.map_map]
  apply List.map_congr_left
  intro s hs
  simp only [Function.comp, identOf]
  rw [encode_decode_ascii (h s hs)]

/-- one rule line, given the walk to the rules container at `a ++ b` holding `mkMsgS sR vals` (the scope
reached looks names up in the rules block) -/
theorem ruleLine_exact {sR : Schema} {specR : BlockSpec} (hR : RulesSchemaOK sR specR)
    {sc ps : Scope} {key : List Str} {pre : List PathElement} {a b : Addr} {X X1 : Node}
    {vals : List (Str × Node)} {r : J5V.Compile.Rule}
    (hfp : combinePath [] (refOf key).idents = pre ++ [⟨r.name, some Span.zero⟩])
    (hws : Exact (walkScope j5Env sc pre) a X ps X1)
    (hps : ∀ n, findBlock n ps.blockSet = findBlock n [cfOf sR specR (a ++ b)])
    (hX1 : X1.get? b = some (mkMsgS sR vals))
    (hok : ruleOk sR r = true) (hstr : strOk r.lit = true) (hnew : lookupVal r.name vals = none) :
    Exact (doStatement j5Env sc (assignStmt key (litValue r.lit))) a X ()
      (X1.set b (mkMsgS sR (vals ++ [ruleVal sR r]))) := by
  obtain ⟨i, p, node, hf, hn, hrv⟩ := ruleOk_spec hok
  have hog : p.oneofGroup = none := by
    have := List.all_eq_true.mp hR.noOneof p (findProp_mem hf)
    simpa using this
  have hfb : findBlock r.name ps.blockSet = some (cfOf sR specR (a ++ b), [r.name]) :=
    (hps r.name).trans (findBlock_head (by simp [blockPath, hR.noAlias, aliasLookup, Schema.hasProperty, hf]))
  refine doStatement_assign ?_
  dsimp only [assignStmt]
  rw [hrv]
  obtain ⟨t, vs, hmk, ht, hv, hfin⟩ := mkMsgS_touch hR.distinct hf hnew node
  rw [hmk] at hX1
  rw [← hfin]
  rcases litNode_cases hn with ⟨x, xs, hty, hlit, rfl⟩ | ⟨k, v, hk, hls, rfl⟩
  · have hpi : propInfo j5Env sR r.name = some (i, p.oneofGroup, .arrayOfScalar (.scalar .string)) :=
      propInfo_of hf (by simp only [classify, hty])
    rw [hlit] at hstr ⊢
    exact setAttr_walk_strs hfp hws hfb hpi hX1 ht hv (.inl hog) hstr
  · have hpi : propInfo j5Env sR r.name = some (i, p.oneofGroup, .scalar p.type p.presence) :=
      propInfo_of hf (by simp only [classify, hk])
    exact setAttr_walk hfp hws hfb hpi hX1 ht hv (.inl hog)
      (asArray_litValue (litScalar_isScalar hls)) (scalarFromAST_litValue j5Env hls hstr)

theorem ruleVal_fst (s : Schema) (r : J5V.Compile.Rule) : (ruleVal s r).1 = r.name := by
  unfold ruleVal; split <;> rfl

/-!
## How the body lines of a field reach the type's message

The body lines of a field (`fieldBody f pfx ek`) address the type's block through the prefix `pfx`:
`[]` for a directly typed property (the type block is in the scope, behind blocks that do not know the
names used: `gReach` in `PropBlock.lean`), `[items, KIND]` / `[itemSchema, KIND]` for the item type of an array / a
map (every line first walks the prefix, through containers that exist already, to the singleton scope of the type
block). `BodyReach` abstracts both: where the first name of a line is looked up, and how the block's message sits
in the state below the address `a` of the statement (`C o`, at `a ++ b`). The message may not exist yet
(`o = none`): a container such as `rules`, `ref`, `listRules.filtering` is CREATED by the first line that
walks into it — `BodyReach.childS` extends a reach into such a lazy child, `BodyReach.touchedS` into a
child that exists already (both from `BodyReach.down`). The block's message is `O vals` (`Presents`).
-/

abbrev pathElem (s : Str) : PathElement := ⟨s, some Span.zero⟩

theorem walkScope_append (env : Env) (sc : Scope) (l1 l2 : List PathElement) (S : Node) :
    walkScope env sc (l1 ++ l2) S =
      match walkScope env sc l1 S with
      | .ok (s1, S1) => walkScope env s1 l2 S1
      | .err e => .err e
      | .panic w => .panic w := by
  induction l1 generalizing sc S with
  | nil => rw [List.nil_append]; rfl
  | cons id rest ih =>
    rw [List.cons_append, walkScope, walkScope]
    dsimp only
    cases childBlock env sc id.name S with
    | ok r1 =>
      obtain ⟨next, S1⟩ := r1
      exact ih next S1
    | err e =>
      dsimp only
      split
      · rfl
      · split <;> rfl
    | panic w => rfl

theorem walkScope_append_exact {env : Env} {sc s1 r : Scope} {l1 l2 : List PathElement} {a : Addr}
    {X X1 X2 : Node}
    (h1 : Exact (walkScope env sc l1) a X s1 X1) (h2 : Exact (walkScope env s1 l2) a X1 r X2) :
    Exact (walkScope env sc (l1 ++ l2)) a X r X2 := by
  intro S hS
  rw [walkScope_append, h1 S hS]
  dsimp only
  rw [h2 _ (Node.get?_set_self' hS X1), Node.set_set]

/-- how the lines `pfx.NAME… = …` reach the block of schema `s` at `a ++ b`. `C o` is the state below `a`
when the block's message is `o` (`none`: not created yet). Walking the prefix creates the message if it
has to (`o.getD (freshMsg s)`). `P`: the first names of the lines. -/
structure BodyReach (sc : Scope) (pfx : List Str) (s : Schema) (spec : BlockSpec) (a b : Addr)
    (C : Option Node → Node) (P : Str → Prop) : Prop where
  ascii : ∀ x ∈ pfx, isAscii x = true
  get : ∀ Y, (C (some Y)).get? b = some Y
  set : ∀ Y Y', (C (some Y)).set b Y' = C (some Y')
  walk : ∃ sc' : Scope,
    (∀ o, Exact (walkScope j5Env sc (pfx.map pathElem)) a (C o) sc' (C (some (o.getD (freshMsg s))))) ∧
    ∀ n, P n → findBlock n sc'.blockSet = findBlock n [cfOf s spec (a ++ b)]

theorem findBlock_cons_of_isSome {n : Str} {b : ContainerField} {rest : List ContainerField}
    (h : (findBlock n [b]).isSome = true) : findBlock n (b :: rest) = findBlock n [b] := by
  simp only [findBlock] at h ⊢
  split
  · rfl
  · rename_i ha
    rw [ha] at h
    dsimp only at h
    split
    · rfl
    · rename_i hp
      rw [if_neg hp] at h
      cases h

/-- the directly typed property: the type block is in the scope, behind blocks that miss the names -/
theorem BodyReach.direct {sc : Scope} {s : Schema} {spec : BlockSpec} {outer tail : List ContainerField}
    {d : Addr} {names : List Str}
    (hbs : sc.blockSet = outer ++ cfOf s spec d :: tail)
    (hmiss : ∀ n ∈ names, ∀ o ∈ outer, Misses o n)
    (hfound : ∀ n ∈ names, (findBlock n [cfOf s spec d]).isSome = true) :
    BodyReach sc [] s spec d [] (fun o => o.getD (freshMsg s)) (· ∈ names) where
  ascii := by simp
  get := fun Y => Node.get?_nil Y
  set := fun Y Y' => Node.set_nil Y Y'
  walk := ⟨sc, fun o => walkScope_nil, fun n hn => by
    rw [List.append_nil, hbs, findBlock_skip_all (hmiss n hn), findBlock_cons_of_isSome (hfound n hn)]⟩

/-- the block is in the scope itself, its message the whole state at `c` -/
theorem BodyReach.here (sc : Scope) (s : Schema) (spec : BlockSpec) (c : Addr) :
    BodyReach sc [] s spec c [] (fun o => o.getD (freshMsg s))
      (fun n => ∃ p, findBlock n sc.blockSet = some (cfOf s spec c, p)) where
  ascii := by simp
  get := fun Y => Node.get?_nil Y
  set := fun Y Y' => Node.set_nil Y Y'
  walk := ⟨sc, fun o => walkScope_nil, fun n ⟨p, hp⟩ => by
    rw [List.append_nil, hp, findBlock_head (blockPath_of_findBlock hp)]⟩

theorem combinePath_refOf_concat {pfx : List Str} (hpfx : ∀ s ∈ pfx, isAscii s = true) {n : Str}
    (hn : isAscii n = true) :
    combinePath [] (refOf (pfx ++ [n])).idents = pfx.map pathElem ++ [pathElem n] := by
  rw [combinePath_refOf]
  · simp
  · intro s hs
    simp only [List.mem_append, List.mem_singleton] at hs
    rcases hs with hs | rfl
    · exact hpfx s hs
    · exact hn

section
variable {sc : Scope} {pfx : List Str} {s : Schema} {spec : BlockSpec} {a b : Addr} {C : Option Node → Node}
  {P : Str → Prop} {O : List (Str × Node) → Option Node}

theorem BodyReach.mono (hr : BodyReach sc pfx s spec a b C P) {Q : Str → Prop} (h : ∀ n, Q n → P n) :
    BodyReach sc pfx s spec a b C Q where
  ascii := hr.ascii
  get := hr.get
  set := hr.set
  walk := by
    obtain ⟨sc', hwalk, hfind⟩ := hr.walk
    exact ⟨sc', hwalk, fun n hn => hfind n (h n hn)⟩

theorem BodyReach.lens (hr : BodyReach sc pfx s spec a b C P) : Lens (fun Y => C (some Y)) b := ⟨hr.get, hr.set⟩

/-- a line `pfx.n = val` into the scalar property `final` of the block (`n` is `final` or an alias of length one), not
written yet -/
theorem BodyReach.attrS (hr : BodyReach sc pfx s spec a b C P) (hO : Presents s O) (hd : s.namesDistinct = true)
    {vals : List (Str × Node)} {n final : Str} (hn : P n) (hna : isAscii n = true)
    (hfb : blockPath n s spec = some [final])
    {i : Nat} {og : Option (Str × List Nat)} {ty : FieldType} {pres : Bool}
    (hpi : propInfo j5Env s final = some (i, og, .scalar ty pres))
    (hl : lookupVal final vals = none) (hconf : og = none ∨ vals = []) {val : Value} {v : Scalar}
    (hva : (AV.value val).asArray = none) (hsc : scalarFromAST j5Env ty (.value val) = .ok v) :
    Exact (doStatement j5Env sc (assignStmt (pfx ++ [n]) val)) a (C (O vals)) ()
      (C (O (vals ++ [(final, storeNode pres v)]))) := by
  obtain ⟨sc', hwalk, hfind⟩ := hr.walk
  obtain ⟨p, hf, _⟩ := propInfo_spec hpi
  obtain ⟨t, vs, hmk, ht, hv, hfin⟩ := mkMsgS_slot hd hf hl
  have hw := hwalk (O vals)
  rw [hO.getD, hmk] at hw
  rw [hO.snoc, ← hfin]
  exact doStatement_assign ((setAttr_walk (combinePath_refOf_concat hr.ascii hna) hw
    (by rw [hfind n hn]; exact findBlock_head hfb) hpi (hr.get _) ht hv (noConflict_mkMsgS hmk hconf) hva hsc).conv
    (hr.set _ _))

theorem BodyReach.strsS (hr : BodyReach sc pfx s spec a b C P) (hO : Presents s O) (hd : s.namesDistinct = true)
    {vals : List (Str × Node)} {n : Str} (hn : P n) (hna : isAscii n = true)
    (hfb : blockPath n s spec = some [n]) {i : Nat}
    (hpi : propInfo j5Env s n = some (i, none, .arrayOfScalar (.scalar .string)))
    (hl : lookupVal n vals = none) {x : Str} {xs : List Str} (hok : (x :: xs).all okString = true) :
    Exact (doStatement j5Env sc (assignStmt (pfx ++ [n]) (strsValue (x :: xs)))) a (C (O vals)) ()
      (C (O (vals ++ listVal n ((x :: xs).map fun s => .scalar (.str s))))) := by
  obtain ⟨sc', hwalk, hfind⟩ := hr.walk
  obtain ⟨p, hf, _⟩ := propInfo_spec hpi
  obtain ⟨t, vs, hmk, ht, hv, hfin⟩ := mkMsgS_slot hd hf hl
  have hw := hwalk (O vals)
  rw [hO.getD, hmk] at hw
  show Exact _ a _ () (C (O (vals ++ [(n, .list ((x :: xs).map fun s => .scalar (.str s)))])))
  rw [hO.snoc, ← hfin]
  exact doStatement_assign ((setAttr_walk_strs (combinePath_refOf_concat hr.ascii hna) hw
    (by rw [hfind n hn]; exact findBlock_head hfb) hpi (hr.get _) ht hv (.inl rfl) hok).conv (hr.set _ _))

/-- `par o'` is the block's message when the child's is `o'`, `M Y` the block's message holding the child `Y` -/
theorem BodyReach.down (hr : BodyReach sc pfx s spec a b C P) {n pn : Str} (hn : P n) (hna : isAscii n = true)
    (hfb : blockPath n s spec = some [pn])
    {i : Nat} {og : Option (Str × List Nat)} {s' : Schema} {spec' : BlockSpec}
    (hpi : propInfo j5Env s pn = some (i, og, .container s'))
    (hspec : ∀ c, specOf j5Env ⟨c, .msg s'⟩ = .ok spec')
    {par : Option Node → Option Node} {M : Node → Node} (hL : Lens M [i]) (hpar : ∀ Y, par (some Y) = some (M Y))
    (hps : ∀ o', Exact (propSetValue j5Env (a ++ b) s pn false) (a ++ b) ((par o').getD (freshMsg s))
      ⟨a ++ b ++ [i], .container s'⟩ (M (o'.getD (freshMsg s')))) :
    BodyReach sc (pfx ++ [n]) s' spec' a (b ++ [i]) (fun o' => C (par o')) (fun _ => True) where
  ascii := by
    intro x hx
    simp only [List.mem_append, List.mem_singleton] at hx
    rcases hx with hx | rfl
    · exact hr.ascii x hx
    · exact hna
  get := fun Y => by
    show (C (par (some Y))).get? (b ++ [i]) = some Y
    rw [hpar, Node.get?_append, hr.get, Option.bind_some, hL.get]
  set := fun Y Y' => by
    show (C (par (some Y))).set (b ++ [i]) Y' = C (par (some Y'))
    rw [hpar, hpar, Node.set_append (hr.get _), hr.set, hL.set]
  walk := by
    obtain ⟨sc', hwalk, hfind⟩ := hr.walk
    refine ⟨Scope.newChild (cfOf s' spec' (a ++ (b ++ [i]))), fun o' => ?_, fun _ _ => rfl⟩
    rw [List.map_append]
    refine walkScope_append_exact (hwalk (par o')) (walkScope_cons ?_ (walkScope_nil))
    have hc := childBlock_of_walkPath (n := n) (sc := sc') (by rw [hfind _ hn]; exact findBlock_head hfb)
      (walkPath_container (propInfo_hasProperty hpi) (((hps o').lift (hr.get _)).conv (hr.set _ _)) (walkRest_nil))
      (setSpecs_cons (hspec _) (setSpecs_nil))
    rw [List.append_assoc] at hc
    show Exact _ a _ _ (C (par (some (o'.getD (freshMsg s')))))
    rw [hpar]
    exact hc

/-- reach extended into the container property `pn` of the block, not written yet: the first line that walks `pfx.n`
creates it (no property of the oneof of `pn`, if it is in one, was written) -/
theorem BodyReach.childS (hr : BodyReach sc pfx s spec a b C P) (hO : Presents s O) (hd : s.namesDistinct = true)
    {vals : List (Str × Node)} {n pn : Str} (hn : P n) (hna : isAscii n = true)
    (hfb : blockPath n s spec = some [pn])
    {i : Nat} {og : Option (Str × List Nat)} {s' : Schema} {spec' : BlockSpec}
    (hpi : propInfo j5Env s pn = some (i, og, .container s'))
    (hspec : ∀ c, specOf j5Env ⟨c, .msg s'⟩ = .ok spec') (hl : lookupVal pn vals = none)
    (hgrp : ∀ q ∈ s.props, q.oneofGroup = og → og ≠ none → lookupVal q.name vals = none) :
    BodyReach sc (pfx ++ [n]) s' spec' a (b ++ [i]) (fun o' => C (O (vals ++ childVal pn o'))) (fun _ => True) :=
  hr.down hn hna hfb hpi hspec (M := fun Y => mkMsgS s (vals ++ [(pn, Y)]))
    (mkMsgS_lens (vals2 := []) hd (propInfo_find hpi) hl) (fun Y => hO.snoc vals (pn, Y)) (fun o' => by
      cases o' with
      | none =>
        show Exact _ _ ((O (vals ++ [])).getD _) _ _
        rw [List.append_nil, hO.getD]
        exact propSetValue_newG false hd hpi hl hgrp
      | some Y =>
        show Exact _ _ ((O (vals ++ [(pn, Y)])).getD _) _ _
        rw [hO.snoc]
        exact propSetValue_cachedS (vals2 := []) hd hpi hl)

/-- reach extended into the container property `pn` that the block holds already (a qualifier created it): every line
takes the cached wrapper -/
theorem BodyReach.touchedS (hr : BodyReach sc pfx s spec a b C P) (hd : s.namesDistinct = true)
    {vals1 vals2 : List (Str × Node)} {n pn : Str} (hn : P n) (hna : isAscii n = true)
    (hfb : blockPath n s spec = some [pn])
    {i : Nat} {og : Option (Str × List Nat)} {s' : Schema} {spec' : BlockSpec}
    (hpi : propInfo j5Env s pn = some (i, og, .container s'))
    (hspec : ∀ c, specOf j5Env ⟨c, .msg s'⟩ = .ok spec') (hl : lookupVal pn vals1 = none) :
    BodyReach sc (pfx ++ [n]) s' spec' a (b ++ [i])
      (fun o' => C (some (mkMsgS s (vals1 ++ (pn, o'.getD (freshMsg s')) :: vals2)))) (fun _ => True) :=
  hr.down hn hna hfb hpi hspec (par := fun o' => some (mkMsgS s (vals1 ++ (pn, o'.getD (freshMsg s')) :: vals2)))
    (M := fun Y => mkMsgS s (vals1 ++ (pn, Y) :: vals2)) (mkMsgS_lens hd (propInfo_find hpi) hl)
    (fun _ => rfl) (fun _ => propSetValue_cachedS hd hpi hl)

theorem BodyReach.ruleLine {sR : Schema} {specR : BlockSpec} (hR : RulesSchemaOK sR specR)
    (hr : BodyReach sc pfx sR specR a b C (fun _ => True)) (hO : Presents sR O) {vals : List (Str × Node)}
    {r : J5V.Compile.Rule} (hok : ruleOk sR r = true) (hstr : strOk r.lit = true)
    (hnew : lookupVal r.name vals = none) :
    Exact (doStatement j5Env sc (assignStmt (pfx ++ [r.name]) (litValue r.lit))) a (C (O vals)) ()
      (C (O (vals ++ [ruleVal sR r]))) := by
  obtain ⟨sc', hwalk, hfind⟩ := hr.walk
  have hident : isIdent r.name = true := by
    simp only [ruleOk, Bool.and_eq_true] at hok; exact hok.1
  have hw := hwalk (O vals)
  rw [hO.getD] at hw
  have h := ruleLine_exact hR (combinePath_refOf_concat hr.ascii (isAscii_of_isIdent hident)) hw
    (fun n => hfind n trivial) (hr.get _) hok hstr hnew
  rw [hr.set] at h
  rw [hO.snoc]
  exact h

/-- what the tables say about the `rules` property of a field type: the type's schema `sT` (name `ts`, spec
`specT`) holds it in slot `ri`, reached by its own name; the rules schema `sR` has spec `specR` -/
structure RulesRow (ts : Str) (sT : Schema) (specT : BlockSpec) (ri : Nat) (sR : Schema) (specR : BlockSpec) :
    Prop where
  schemaOf : j5Env.schemaOf ts = sT
  pi : propInfo j5Env sT wRules = some (ri, none, .container sR)
  path : blockPath wRules sT specT = some [wRules]
  distinctT : sT.namesDistinct = true
  specOf : ∀ c, specOf j5Env ⟨c, .msg sR⟩ = .ok specR
  ok : RulesSchemaOK sR specR

theorem rulesOk_unpack {ts nR : Str} {sR : Schema} {rules : J5V.Compile.Rules}
    (h : rulesOk j5Env ts rules = true) (hn : rulesSchema j5Env ts = nR) (hs : j5Env.schemaOf nR = sR) :
    rules.all (fun r => ruleOk sR r && strOk r.lit) = true ∧ distinct (rules.map (·.name)) = true := by
  simp only [rulesOk, hn, hs, Bool.and_eq_true] at h
  exact h

theorem rulesVals_eq {ts nR : Str} {sR : Schema} (hn : rulesSchema j5Env ts = nR) (hs : j5Env.schemaOf nR = sR)
    (rules : J5V.Compile.Rules) :
    rulesVals j5Env ts rules =
      if rules.isEmpty then [] else [(wRules, mkMsgS sR (rules.map (ruleVal sR)))] := by
  simp only [rulesVals, hn, hs, mkMsg_eq_mkMsgS hs]

theorem rules_nil_of_no_props {sR : Schema} (hp : sR.props = []) {rules : J5V.Compile.Rules}
    (h : rules.all (fun r => ruleOk sR r && strOk r.lit) = true) : rules = [] := by
  cases rules with
  | nil => rfl
  | cons r rest =>
    simp only [List.all_cons, Bool.and_eq_true, ruleOk, hp, findProp] at h
    exact absurd h.1.1.2 (by simp)

section
variable {ts : Str} {sT : Schema} {specT : BlockSpec} {ri : Nat} {sR : Schema} {specR : BlockSpec}

theorem RulesRow.rulesSchema_name (row : RulesRow ts sT specT ri sR specR) : rulesSchema j5Env ts = sR.name := by
  unfold J5V.Walker.rulesSchema
  rw [row.schemaOf, (propInfo_container_spec row.pi).1]

theorem RulesRow.rulesSchema (row : RulesRow ts sT specT ri sR specR) :
    j5Env.schemaOf (rulesSchema j5Env ts) = sR := by
  rw [row.rulesSchema_name, (propInfo_container_spec row.pi).2]

theorem RulesRow.unpack (row : RulesRow ts sT specT ri sR specR) {rules : J5V.Compile.Rules}
    (h : rulesOk j5Env ts rules = true) :
    rules.all (fun r => ruleOk sR r && strOk r.lit) = true ∧ distinct (rules.map (·.name)) = true :=
  rulesOk_unpack h rfl row.rulesSchema

theorem RulesRow.vals (row : RulesRow ts sT specT ri sR specR) (rules : J5V.Compile.Rules) :
    rulesVals j5Env ts rules = childVal wRules (msgOpt sR (rules.map (ruleVal sR))) := by
  rw [rulesVals_eq rfl row.rulesSchema rules]
  cases rules <;> rfl

theorem RulesRow.nil_of_no_props (row : RulesRow ts sT specT ri sR specR) (hp : sR.props = [])
    {rules : J5V.Compile.Rules} (h : rulesOk j5Env ts rules = true) : rules = [] :=
  rules_nil_of_no_props hp (row.unpack h).1

end

end

end J5V.Walker
