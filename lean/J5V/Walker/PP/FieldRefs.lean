import J5V.Walker.PP.FieldScalars
/-!
# `FieldFacts` of references to declared types, arrays and maps

`object:Foo`, `oneof:p.Foo`, `enum:Foo`; `array:ITEM`, `map:ITEM` from the facts of the item type, whose qualifiers and
lines run one level down.
-/
namespace J5V.Walker
open J5V.Bcl

/-!
## References to declared types — `object:Foo`, `oneof:p.Foo`, `enum:Foo`

The `ref` entry is written by the qualifier or, for a dotted schema name, by the `ref.package` / `ref.schema` lines at
the end of the body; the other lines (`rules`, `flatten`, `listRules`) come in between.
-/

theorem refMsg_eq (pkg schema : Str) :
    refMsg j5Env pkg schema = mkMsgS sRef (optVal (pkg != []) b!"package" (sStr pkg) ++ [(b!"schema", sStr schema)]) :=
  mkMsg_eq_mkMsgS schemaOf_Ref _

abbrev refCF (r : Addr) : ContainerField := cfOf sRef specRef r

/-- the qualifier string `pkg.Schema` / `Schema` set into a fresh `Ref`: `schema` first, then `package` if there is one -/
theorem refSplit_exact {pkg schema : Str} (hs : isIdent schema = true) (hp : pkg = [] ∨ isDotted pkg = true)
    (fuel : Nat) (mark : TagMark) (r : Addr) :
    Exact (setContainerFromScalar j5Env (fuel + 1 + 1) (Scope.newChild (refCF r)) specRef
      (.tag (tagRef mark (dottedRef (refString pkg schema))))) r (freshMsg sRef) () (refMsg j5Env pkg schema) := by
  have h := splitTwo_exact (env := j5Env) (distinct_of schemaOf_Ref) (show specRef.scalarSplit = _ by decide +kernel)
    rfl rfl pi_Ref_schema pi_Ref_package (by decide)
    (asString_tagRef_dotted (isDotted_refString hs hp) mark) (split_refString hs) fuel r
  -- the printer lists `package` first; the parts of `pkg` join to `pkg` again
  rw [refMsg_eq]
  by_cases hpe : pkg = []
  · subst hpe; exact h
  · rw [if_neg hpe, if_neg (splitOnByte_ne_nil 46 pkg), stringsJoin_split] at h
    rw [show (pkg != []) = true by simpa using hpe]
    rw [show optVal true b!"package" (sStr pkg) = [(b!"package", sStr pkg)] from rfl, List.singleton_append,
      mkMsgS_swap sRef (a := (b!"package", sStr pkg)) (b := (b!"schema", sStr schema))
        (show (b!"package" : Str) ≠ b!"schema" by decide)]
    exact h

theorem refQual_exact {sT : Schema} {specT : BlockSpec} {i : Nat} {og : Option (Str × List Nat)}
    (hd : sT.namesDistinct = true)
    (hq : specT.qualifier = some ⟨b!"ref", none, none, false, false⟩)
    (hpath : blockPath b!"ref" sT specT = some [b!"ref"])
    (hpi : propInfo j5Env sT b!"ref" = some (i, og, .container sRef))
    {outer : List ContainerField} (root : Option ContainerField) (d : Addr)
    (hmiss : ∀ o ∈ outer, Misses o b!"ref")
    {pkg schema : Str} (hs : isIdent schema = true) (hp : pkg = [] ∨ isDotted pkg = true) :
    Exact (walkQualifiers j5Env [tagRef .none (dottedRef (refString pkg schema))]
      (typeScope outer (cfOf sT specT d) root) specT) d (freshMsg sT)
      (typeScope outer (cfOf sT specT d) root, specT) (mkMsgS sT [(b!"ref", refMsg j5Env pkg schema)]) := by
  obtain ⟨p, hf, _⟩ := propInfo_spec hpi
  obtain ⟨t, vs, hfresh, ht, hv, hunpop, hfin⟩ := freshMsg_slot hd hf
  rw [hfresh, ← hfin]
  have hlt : i < vs.length := (List.getElem?_eq_some_iff.mp hv).1
  have hfb : findBlock b!"ref" (typeScope outer (cfOf sT specT d) root).blockSet =
      some (cfOf sT specT d, [b!"ref"]) :=
    (findBlock_skip_all hmiss).trans (findBlock_head hpath)
  refine walkQualifiers_attr (tagSpec := ⟨b!"ref", none, none, false, false⟩) hq rfl (checkBang_none rfl) ?_
  rw [fuelOf_succ3]
  -- the field wrapper (built), the second walk (cached), the split with the fuel of `fuelOf_succ3`
  have hsf := scopeField_direct (existingIsOk := false) hfb (propInfo_hasProperty hpi)
    (propSetValue_build (c := d) (cur := .absent) true hpi ht hv (.inr hunpop))
  have hcb : Exact (childBlock j5Env (typeScope outer (cfOf sT specT d) root) b!"ref") d
      (.msg (t.set i true) (vs.set i (freshMsg sRef))) (Scope.newChild (refCF (d ++ [i])))
      (.msg (t.set i true) (vs.set i (freshMsg sRef))) :=
    childBlock_of_walkPath hfb
      (walkPath_container (propInfo_hasProperty hpi)
        (propSetValue_cached hpi (by
          have : i < t.length := (List.getElem?_eq_some_iff.mp ht).1
          rw [List.getElem?_set_self this]))
        (walkRest_nil))
      (setSpecs_cons (specOf_Ref _) (setSpecs_nil))
  have hsplit := Exact.lift_prop (t := t.set i true) (vs := vs.set i (freshMsg sRef)) (i := i) (a := d)
    (by rw [List.getElem?_set_self hlt])
    (refSplit_exact hs hp (2 * j5Env.given.length + j5Env.schemas.length + 5) .none (d ++ [i]))
  rw [List.set_set] at hsplit
  exact setAttribute_container (pre := []) (last := ⟨b!"ref", none⟩) rfl (walkScope_nil) hsf hcb hsplit

theorem refOk_dot {pkg schema : Str} (h : refOk pkg schema = true) (hd : hasDot schema = true) :
    okString schema = true ∧ okString pkg = true := by
  simp only [refOk, hd, if_true, Bool.and_eq_true] at h; exact h

theorem refOk_nodot {pkg schema : Str} (h : refOk pkg schema = true) (hd : hasDot schema = false) :
    isIdent schema = true ∧ (pkg = [] ∨ isDotted pkg = true) := by
  simp only [refOk, hd, Bool.false_eq_true, if_false, Bool.and_eq_true, Bool.or_eq_true, decide_eq_true_eq] at h
  exact h

theorem refQuals_dot {pkg schema : Str} (hd : hasDot schema = true) : refQuals pkg schema = [] := by
  simp [refQuals, hd]

theorem refQuals_nodot {pkg schema : Str} (hd : hasDot schema = false) :
    refQuals pkg schema = [tagRef .none (dottedRef (refString pkg schema))] := by
  simp [refQuals, hd]

theorem refBody_nodot {pfx : List Str} {pkg schema : Str} (hd : hasDot schema = false) :
    refBody pfx pkg schema = [] := by
  simp [refBody, hd]

theorem refBody_dot {pfx : List Str} {pkg schema : Str} (hd : hasDot schema = true) :
    refBody pfx pkg schema =
      (if pkg = [] then [] else [assignStmt (pfx ++ [b!"ref"] ++ [b!"package"]) (strValue pkg)]) ++
        [assignStmt (pfx ++ [b!"ref"] ++ [b!"schema"]) (strValue schema)] := by
  simp [refBody, hd]

/-- the qualifier chain of a reference field: `ref` is written unless the schema name is dotted -/
theorem refRunQ {f : CField} {pkg schema : Str} (hq : fieldQuals f = refQuals pkg schema)
    (href : refOk pkg schema = true) (hd : (kindSchema f).namesDistinct = true)
    (hqual : (kindSpec f).qualifier = some ⟨b!"ref", none, none, false, false⟩)
    (hpath : blockPath b!"ref" (kindSchema f) (kindSpec f) = some [b!"ref"])
    {i : Nat} {og : Option (Str × List Nat)}
    (hpi : propInfo j5Env (kindSchema f) b!"ref" = some (i, og, .container sRef)) :
    FieldRunQ f [b!"ref"] (fun _ _ => True)
      (mkMsgS (kindSchema f) (optVal (!hasDot schema) b!"ref" (refMsg j5Env pkg schema))) := by
  intro outer root d hmiss
  refine ⟨typeScope outer (tcfOf f d) root, kindSpec f, [], rfl, trivial, ?_⟩
  rw [hq]
  cases hdot : hasDot schema with
  | true =>
    rw [refQuals_dot hdot, show optVal (!true) b!"ref" (refMsg j5Env pkg schema) = [] from rfl, ← freshMsg_eq_mkMsgS]
    exact walkQualifiers_nil
  | false =>
    rw [refQuals_nodot hdot]
    obtain ⟨hs, hp⟩ := refOk_nodot href hdot
    exact refQual_exact hd hqual hpath hpi root d (hmiss _ (by simp)) hs hp

section
variable {sc : Scope} {pfx : List Str} {sT : Schema} {specT : BlockSpec} {a b : Addr} {C : Option Node → Node}
  {P : Str → Prop}

/-- the `ref.package` / `ref.schema` lines at the end of the body: they write `ref` iff the schema name is dotted.
`grp`: the other properties of the oneof of `ref` -/
theorem refTail_fills (hr : BodyReach sc pfx sT specT a b C P) (hd : sT.namesDistinct = true) (hn : P b!"ref")
    (hfb : blockPath b!"ref" sT specT = some [b!"ref"])
    {i : Nat} {og : Option (Str × List Nat)} (hpi : propInfo j5Env sT b!"ref" = some (i, og, .container sRef))
    {grp : List Str} (hgrp : sT.props.all (fun q => q.oneofGroup != og || (b!"ref" :: grp).contains q.name) = true)
    {pkg schema : Str} (href : refOk pkg schema = true) :
    Fills sc a (fun vals => C (some (mkMsgS sT vals))) (if hasDot schema then b!"ref" :: grp else [])
      (refBody pfx pkg schema) (optVal (hasDot schema) b!"ref" (refMsg j5Env pkg schema)) := by
  cases hdot : hasDot schema with
  | false => rw [refBody_nodot hdot]; exact .nil _
  | true =>
    obtain ⟨hoks, hokp⟩ := refOk_dot href hdot
    have hdR := distinct_of schemaOf_Ref
    have h := hr.fillsChildG (Presents.some sT) hd hn (by decide) hfb hpi specOf_Ref (fun _ => hgrp) fun hrR =>
      (hrR.fillsOptStr (.msgOpt sRef) hdR (n := b!"package") trivial (by decide) rfl pi_Ref_package hokp).append
        (hrR.fillsStr (.msgOpt sRef) hdR (n := b!"schema") trivial (by decide) rfl pi_Ref_schema hoks) rfl
    rw [(Presents.msgOpt sRef).snoc, ← refMsg_eq] at h
    rw [refBody_dot hdot]
    exact h

end

section
variable {sc : Scope} {pfx : List Str} {s : Schema} {spec : BlockSpec} {a b : Addr} {C : Option Node → Node}
  {P : Str → Prop} {O : List (Str × Node) → Option Node}

/-- `pfx.listRules.filtering.filterable = true` [+ `defaultFilters = […]`] -/
theorem listRules_fills (hr : BodyReach sc pfx s spec a b C P) (hd : s.namesDistinct = true)
    (hn : P b!"listRules") (hfb : blockPath b!"listRules" s spec = some [b!"listRules"]) {i : Nat}
    (hpi : propInfo j5Env s b!"listRules" = some (i, none, .container sEnumListRules))
    (lr : Option (List Str)) (hok : listRulesOk lr = true) :
    Fills sc a (fun vals => C (some (mkMsgS s vals))) [b!"listRules"] (listRulesBcl pfx lr)
      (listRulesVals j5Env lr) := by
  cases lr with
  | none => exact .nil _
  | some fs =>
    have hdF := distinct_of schemaOf_Filtering
    have h := hr.fillsChild (Presents.some s) hd hn (by decide) hfb hpi specOf_EnumListRules fun hrL =>
      hrL.fillsChild (.msgOpt sEnumListRules) (distinct_of schemaOf_EnumListRules) (n := b!"filtering") trivial
        (by decide) rfl pi_EnumListRules_filtering specOf_Filtering fun hrF =>
        (hrF.fillsAttr (.msgOpt sFiltering) hdF (n := b!"filterable") trivial (by decide) rfl
          pi_Filtering_filterable (asArray_boolValue true) (v := .bool true)
          (by simp only [scalarFromAST, asBool_boolValue]; rfl)).append
          (hrF.fillsOptStrs (.msgOpt sFiltering) hdF (n := b!"defaultFilters") trivial (by decide) rfl
            pi_Filtering_defaultFilters hok) rfl
    rw [storeNode_true] at h
    have e1 : listRulesBcl pfx (some fs) =
        [assignStmt (pfx ++ [b!"listRules"] ++ [b!"filtering"] ++ [b!"filterable"]) (boolValue true)] ++
          (if fs = [] then []
           else [assignStmt (pfx ++ [b!"listRules"] ++ [b!"filtering"] ++ [b!"defaultFilters"]) (strsValue fs)]) := by
      simp [listRulesBcl]
    have e2 : listRulesVals j5Env (some fs) = childVal b!"listRules" (msgOpt sEnumListRules
        (childVal b!"filtering" (msgOpt sFiltering
          ([(b!"filterable", bTrue)] ++ listVal b!"defaultFilters" (fs.map fun s => .scalar (.str s)))))) := by
      simp only [listRulesVals, mkMsg_eq_mkMsgS schemaOf_EnumListRules, mkMsg_eq_mkMsgS schemaOf_Filtering]
      rfl
    rw [e1, e2]
    exact h

end

/-- the table facts of a reference field type. `grp`: the other members of the oneof of `ref`; `bodyNames`: the names
the body lines start with; `ks`: the keys the lines other than `ref.…` write -/
structure RefRow (sT : Schema) (specT : BlockSpec) (i : Nat) (og : Option (Str × List Nat))
    (grp bodyNames ks : List Str) : Prop where
  qualifier : specT.qualifier = some ⟨b!"ref", none, none, false, false⟩
  path : blockPath b!"ref" sT specT = some [b!"ref"]
  pi : propInfo j5Env sT b!"ref" = some (i, og, .container sRef)
  group : sT.props.all (fun q => q.oneofGroup != og || (b!"ref" :: grp).contains q.name) = true
  names : ([b!"ref"] ++ bodyNames).all (fieldLineNames.contains ·) = true
  found : bodyNames.all (fun n => (blockPath n sT specT).isSome) = true
  hasRef : b!"ref" ∈ bodyNames
  keysGroup : disjointKeys ks (b!"ref" :: grp) = true
  keysRef : disjointKeys [b!"ref"] ks = true

theorem refRow_Object : RefRow sObjectField specObjectField 0 (some gObjectFieldSchema) [wObject]
    [wRules, b!"flatten", b!"ref"] [wRules, b!"flatten"] where
  qualifier := by decide +kernel
  path := rfl
  pi := pi_ObjectField_ref
  group := rfl
  names := rfl
  found := rfl
  hasRef := by simp
  keysGroup := rfl
  keysRef := rfl

theorem refRow_Oneof : RefRow sOneofField specOneofField 0 (some gOneofFieldSchema) [wOneof] [b!"ref"] [] where
  qualifier := by decide +kernel
  path := rfl
  pi := pi_OneofField_ref
  group := rfl
  names := rfl
  found := rfl
  hasRef := by simp
  keysGroup := rfl
  keysRef := rfl

theorem refRow_Enum : RefRow sEnumField specEnumField 0 (some gEnumFieldSchema) [wEnum]
    [wRules, b!"listRules", b!"ref"] [wRules, b!"listRules"] where
  qualifier := by decide +kernel
  path := rfl
  pi := pi_EnumField_ref
  group := rfl
  names := rfl
  found := rfl
  hasRef := by simp
  keysGroup := rfl
  keysRef := rfl

/-- from the `Fills` of the other lines `other pfx` (entries `rest`): `ref` is written first by the qualifier or last by
the `ref.…` lines; the printer lists it last -/
def refFacts {f : CField} {pkg schema : Str} (hq : fieldQuals f = refQuals pkg schema) (href : refOk pkg schema = true)
    {i : Nat} {og : Option (Str × List Nat)} {grp bodyNames ks : List Str}
    (row : RefRow (kindSchema f) (kindSpec f) i og grp bodyNames ks)
    {other : List Str → List Statement} {rest : List (Str × Node)}
    (hb : ∀ pfx, fieldBody f pfx false = other pfx ++ refBody pfx pkg schema)
    (hfm : fieldMsg j5Env f = fieldOneof j5Env (fieldKind f)
      (mkMsg j5Env (typeSchema f) (rest ++ [(b!"ref", refMsg j5Env pkg schema)])))
    (hkeys : KeysIn ks rest)
    (hother : ∀ (sc : Scope) (pfx : List Str) (a b : Addr) (C : Option Node → Node),
      BodyReach sc pfx (kindSchema f) (kindSpec f) a b C (· ∈ bodyNames) →
      Fills sc a (fun vals => C (some (mkMsgS (kindSchema f) vals))) ks (other pfx) rest) : FieldFacts f :=
  have hd := distinct_of (kind_schemaOf f)
  .ofS [b!"ref"] bodyNames [] (fun _ _ => True) (optVal (!hasDot schema) b!"ref" (refMsg j5Env pkg schema))
    (rest ++ [(b!"ref", refMsg j5Env pkg schema)]) hfm row.names (fun _ => rfl) rfl row.found
    (refRunQ hq href hd row.qualifier row.path row.pi)
    (.ofFills (ks0 := if hasDot schema then [] else [b!"ref"])
      (ks := ks ++ if hasDot schema then b!"ref" :: grp else [])
      (new := rest ++ optVal (hasDot schema) b!"ref" (refMsg j5Env pkg schema))
      (by cases hasDot schema
          · exact .single _ _
          · exact .nil _)
      (by cases hasDot schema
          · show disjointKeys [b!"ref"] (ks ++ []) = true
            rw [List.append_nil]; exact row.keysRef
          · exact disjointKeys_nil _)
      (by cases hasDot schema
          · show mkMsgS _ ((b!"ref", _) :: (rest ++ [])) = _
            rw [List.append_nil]
            exact mkMsgS_rotate _ _ (hkeys.fresh (not_mem_of_disjointKeys row.keysGroup List.mem_cons_self))
          · rfl)
      fun sc pfx a b C hr _ => by
        rw [hb]
        refine (hother sc pfx a b C hr).append
          (refTail_fills hr hd row.hasRef row.path row.pi row.group href) ?_
        cases hasDot schema
        · rfl
        · exact row.keysGroup)

def objectRefFacts (pkg schema : Str) (flatten : Bool) (rules : J5V.Compile.Rules)
    (h : rulesOk j5Env b!"j5.schema.v1.ObjectField" rules = true) (href : refOk pkg schema = true) :
    FieldFacts (.objectRef pkg schema flatten rules) :=
  refFacts rfl href refRow_Object (other := fun pfx => rulesBcl pfx rules ++ flattenBcl pfx flatten) (fun _ => rfl) rfl
    ((KeysIn.rulesVals _ rules).append (.optVal flatten _ _))
    fun sc pfx a b C hr => (hr.fillsRules (by simp) rulesRow_Object h).append
      (hr.fillsOptTrue (Presents.some _) rulesRow_Object.distinctT (n := b!"flatten") (by simp) (by decide) rfl
        pi_ObjectField_flatten flatten) rfl

def oneofRefFacts (pkg schema : Str) (href : refOk pkg schema = true) :
    FieldFacts (.oneofRef pkg schema [] false) :=
  refFacts rfl href refRow_Oneof (other := fun _ => []) (fun _ => rfl) rfl (.nil _) fun _ _ _ _ _ _ => .nil _

def enumRefFacts (pkg schema : Str) (rules : J5V.Compile.Rules) (lr : Option (List Str))
    (h : rulesOk j5Env b!"j5.schema.v1.EnumField" rules = true) (hlr : listRulesOk lr = true)
    (href : refOk pkg schema = true) : FieldFacts (.enumRef pkg schema rules lr) :=
  refFacts rfl href refRow_Enum (other := fun pfx => rulesBcl pfx rules ++ listRulesBcl pfx lr) (fun _ => rfl) rfl
    ((KeysIn.rulesVals _ rules).append (.listRulesVals lr))
    fun sc pfx a b C hr => (hr.fillsRules (by simp) rulesRow_Enum h).append
      (listRules_fills hr rulesRow_Enum.distinctT (by simp) rfl pi_EnumField_listRules lr hlr) rfl

/-!
## `array:ITEM`, `map:ITEM` from the facts of the item type

Array and map differ in the property `wn` that holds the item schema (`items` / `itemSchema`) and in their tables. The
block qualifier `wn` selects the item kind, then the item's qualifier chain runs with the collection block added to the
outer blocks; the body is the collection's own rules, then the item's lines through the prefix `[wn, KIND]`. The entry
`wn` is written first and printed last.
-/

/-- the collection block misses the names an item's qualifiers look up -/
theorem arrayCF_misses (d : Addr) {n : Str} (h : n = b!"format" ∨ n = b!"ref") :
    Misses (cfOf sArrayField specArrayField d) n := by
  rcases h with rfl | rfl <;> exact misses_cfOf rfl

theorem mapCF_misses (d : Addr) {n : Str} (h : n = b!"format" ∨ n = b!"ref") :
    Misses (cfOf sMapField specMapField d) n := by
  rcases h with rfl | rfl <;> exact misses_cfOf rfl

theorem mapCF_misses_block (d : Addr) {kw : Str} (h : kw = wField ∨ kw = wOption) :
    Misses (cfOf sMapField specMapField d) kw := by
  rcases h with rfl | rfl <;> exact misses_cfOf rfl

/-- the scope shape of the item type, from the shape of the collection -/
theorem scopeAt_item {sc : Scope} {sC : Schema} {specC : BlockSpec} {items : CField} (ffi : FieldFacts items)
    {d d' : Addr}
    (hCmiss : ∀ kw ∈ ffi.blockNames, Misses (cfOf sC specC d) kw)
    (h : ScopeAt sc (cfOf sC specC d) ffi.blockNames
      (fun tail => ∃ tail', tail = tcfOf items d' :: tail' ∧ ffi.tailP d' tail')) :
    ScopeAt sc (tcfOf items d') ffi.blockNames (ffi.tailP d') := by
  obtain ⟨pre, tail, hbs, hpre, tail', rfl, htail⟩ := h
  refine ⟨pre ++ [cfOf sC specC d], tail', by rw [hbs]; simp, ?_, htail⟩
  intro kw hkw o ho
  rcases List.mem_append.mp ho with ho | ho
  · exact hpre kw hkw o ho
  · simp only [List.mem_singleton] at ho; subst ho
    exact hCmiss kw hkw

/-- the item entry of a collection: the oneof `j5.schema.v1.Field` with the item's kind selected -/
abbrev itemVal (items : CField) (wn : Str) (v : Node) : Str × Node := (wn, mkMsgS sField [(fieldKind items, v)])

/-- what is left in the scope behind a collection block: the item's type block and what its qualifiers added -/
abbrev collTail (items : CField) (ffi : FieldFacts items) (si : Nat) (d : Addr) (tail : List ContainerField) : Prop :=
  ∃ tail', tail = tcfOf items (d ++ [si, kindIdx items]) :: tail' ∧ ffi.tailP (d ++ [si, kindIdx items]) tail'

/-- the block qualifier `:KIND` of a collection whose item schema is the property `wn` (slot `si`) -/
theorem collQual_exact {sC : Schema} {specC : BlockSpec} {wn : Str} {si : Nat} {items : CField}
    (ffi : FieldFacts items) (hdC : sC.namesDistinct = true)
    (hq : specC.qualifier = some ⟨wn, none, none, false, true⟩)
    (hpath : blockPath wn sC specC = some [wn])
    (hpi : propInfo j5Env sC wn = some (si, none, .container sField))
    (hCmiss : ∀ d n, n = b!"format" ∨ n = b!"ref" → Misses (cfOf sC specC d) n)
    (hnc : isCollection items = false)
    {outer : List ContainerField} (root : Option ContainerField) (d : Addr)
    (hmiss : ∀ n, n = wn ∨ n ∈ ffi.qualNames → ∀ o ∈ outer, Misses o n) :
    ∃ (sc2 : Scope) (spec2 : BlockSpec) (tail : List ContainerField),
      sc2.blockSet = outer ++ (cfOf sC specC d :: tail) ∧ collTail items ffi si d tail ∧
      Exact (walkQualifiers j5Env (tagRef .none (refOf [fieldKind items]) :: fieldQuals items)
        (typeScope outer (cfOf sC specC d) root) specC) d (freshMsg sC) (sc2, spec2)
        (mkMsgS sC [itemVal items wn ffi.qualVal]) := by
  have hdF := distinct_of schemaOf_Field
  -- the item's qualifiers, with the collection block among the outer blocks
  obtain ⟨sc2, spec2, tail, hbs, htail, hq2⟩ := ffi.runQ (outer ++ [cfOf sC specC d]) root (d ++ [si, kindIdx items])
    (fun n hn o ho => by
      rcases List.mem_append.mp ho with ho | ho
      · exact hmiss n (.inr hn) o ho
      · simp only [List.mem_singleton] at ho; subst ho
        exact hCmiss d n (ffi.qualSub hnc n hn))
  refine ⟨sc2, spec2, tcfOf items (d ++ [si, kindIdx items]) :: tail, by rw [hbs]; simp, ⟨tail, rfl, htail⟩, ?_⟩
  rw [freshMsg_eq_mkMsgS]
  exact walkQualifiers_block (tagSpec := ⟨wn, none, none, false, true⟩) (ref := refOf [fieldKind items]) hq rfl rfl
    (selectMember_exactS ((findBlock_skip_all (hmiss wn (.inl rfl))).trans (findBlock_head hpath))
      hpi specOf_Field (kind_path items) (kind_ascii items) ffi.pi ffi.spec hdC hdF (vals := []) rfl (.inl rfl))
    (checkBang_none rfl)
    (Exact.lens (selectMember_lens hpi ffi.pi hdC hdF (vals := []) rfl) hq2)

section
variable {f items : CField} {rules : J5V.Compile.Rules} {ri : Nat} {sR : Schema} {specR : BlockSpec} {wn : Str}
  {si : Nat}

def collFactsWith (row : RulesRow (typeSchema f) (kindSchema f) (kindSpec f) ri sR specR) (ffi : FieldFacts items)
    (hnc : isCollection items = false) (hcoll : isCollection f = true)
    (hq : fieldQuals f = tagRef .none (refOf [fieldKind items]) :: fieldQuals items)
    (hqual : (kindSpec f).qualifier = some ⟨wn, none, none, false, true⟩)
    (hpath : blockPath wn (kindSchema f) (kindSpec f) = some [wn])
    (hpi : propInfo j5Env (kindSchema f) wn = some (si, none, .container sField))
    (hCmiss : ∀ d n, n = b!"format" ∨ n = b!"ref" → Misses (cfOf (kindSchema f) (kindSpec f) d) n)
    (hwn : [wRules, wn].all (fieldLineNames.contains ·) = true)
    (hfm : fieldMsg j5Env f = fieldOneof j5Env (fieldKind f)
      (mkMsg j5Env (typeSchema f) (rulesVals j5Env (typeSchema f) rules ++ [(wn, fieldMsg j5Env items)])))
    (hB : FieldRunB f [wRules, wn] ffi.blockNames (collTail items ffi si)
      (mkMsgS (kindSchema f) [itemVal items wn ffi.qualVal])
      (mkMsgS (kindSchema f) (rulesVals j5Env (typeSchema f) rules ++ [itemVal items wn ffi.typeVal]))) :
    FieldFacts f where
  qualNames := wn :: ffi.qualNames
  bodyNames := [wRules, wn]
  blockNames := ffi.blockNames
  tailP := collTail items ffi si
  qualVal := mkMsgS (kindSchema f) [itemVal items wn ffi.qualVal]
  typeVal := mkMsgS (kindSchema f) (rulesVals j5Env (typeSchema f) rules ++ [itemVal items wn ffi.typeVal])
  pi := kind_pi _
  spec := kind_spec _
  specName := kindSpec_name
  specTypeSelect := kindSpec_typeSelect
  msg := by
    refine hfm.trans ((fieldOneof_eq f _).trans (congrArg _ ?_))
    rw [mkMsg_eq_mkMsgS (kind_schemaOf f), ffi.msg, ← fieldOneof_eq, fieldOneof, mkMsg_eq_mkMsgS schemaOf_Field]
  namesSub := by
    have hw : ∀ n ∈ [wRules, wn], n ∈ fieldLineNames := fun n hn => by
      simpa using List.all_eq_true.mp hwn n hn
    intro n hn
    rcases hn with hn | hn
    · rcases List.mem_cons.mp hn with rfl | hn
      · exact hw _ (by simp)
      · exact ffi.namesSub n (.inl hn)
    · exact hw n hn
  qualSub := by intro hc; rw [hcoll] at hc; cases hc
  blockSub := ffi.blockSub
  found := by
    intro d n hn
    simp only [List.mem_cons, List.not_mem_nil, or_false] at hn
    rcases hn with rfl | rfl
    · rw [findBlock_head row.path]; rfl
    · rw [findBlock_head hpath]; rfl
  runQ := by
    intro outer root d hmiss
    rw [hq]
    exact collQual_exact ffi row.distinctT hqual hpath hpi hCmiss hnc root d
      (fun n hn => hmiss n (by
        rcases hn with rfl | hn
        · exact List.mem_cons_self
        · exact List.mem_cons_of_mem _ hn))
  runB := hB

/-- the body of a collection whose block misses the block keywords of its item type: the collection's rules, then
the item's lines through `wn.KIND` -/
theorem coll_runB (row : RulesRow (typeSchema f) (kindSchema f) (kindSpec f) ri sR specR) (ffi : FieldFacts items)
    (hpath : blockPath wn (kindSchema f) (kindSpec f) = some [wn]) (hwn : isAscii wn = true) (hne : wn ≠ wRules)
    (hpi : propInfo j5Env (kindSchema f) wn = some (si, none, .container sField))
    (hBmiss : ∀ d, ∀ kw ∈ ffi.blockNames, Misses (cfOf (kindSchema f) (kindSpec f) d) kw)
    (hb : ∀ pfx, fieldBody f pfx false = rulesBcl pfx rules ++ fieldBody items (pfx ++ [wn, fieldKind items]) false)
    (h : rulesOk j5Env (typeSchema f) rules = true) :
    FieldRunB f [wRules, wn] ffi.blockNames (collTail items ffi si)
      (mkMsgS (kindSchema f) [itemVal items wn ffi.qualVal])
      (mkMsgS (kindSchema f) (rulesVals j5Env (typeSchema f) rules ++ [itemVal items wn ffi.typeVal])) := by
  intro sc pfx a b C hr hsc
  have hdF := distinct_of schemaOf_Field
  have hlR : lookupVal wn (rulesVals j5Env (typeSchema f) rules) = none :=
    (KeysIn.rulesVals _ rules).fresh (by simpa using hne)
  have h1 := (hr.fillsRules (by simp) row h).run (vals := [itemVal items wn ffi.qualVal]) (ks0 := [wn])
    (.single _ _) (by simpa [disjointKeys] using hne.symm)
  have hr1 := hr.touchedS row.distinctT (vals1 := []) (vals2 := rulesVals j5Env (typeSchema f) rules) (n := wn)
    (by simp) hwn hpath hpi specOf_Field rfl
  have hr2 := hr1.touchedS hdF (vals1 := []) (vals2 := []) (n := fieldKind items) trivial (kind_ascii items)
    (kind_path items) ffi.pi ffi.spec rfl
  have hsc' : ScopeAt sc (tcfOf items (a ++ (b ++ [si] ++ [kindIdx items]))) ffi.blockNames
      (ffi.tailP (a ++ (b ++ [si] ++ [kindIdx items]))) := by
    have e : a ++ (b ++ [si] ++ [kindIdx items]) = a ++ b ++ [si, kindIdx items] := by simp
    rw [e]
    exact scopeAt_item ffi (hBmiss _) hsc
  have h2 := ffi.runB sc (pfx ++ [wn] ++ [fieldKind items]) a (b ++ [si] ++ [kindIdx items]) _
    (hr2.mono (fun _ _ => trivial)) hsc'
  have hkey : pfx ++ [wn] ++ [fieldKind items] = pfx ++ [wn, fieldKind items] := by simp
  rw [hkey] at h2
  have h2' : Exact (doBody j5Env sc (fieldBody items (pfx ++ [wn, fieldKind items]) false)) a
      (C (some (mkMsgS (kindSchema f) ([itemVal items wn ffi.qualVal] ++ rulesVals j5Env (typeSchema f) rules)))) ()
      (C (some (mkMsgS (kindSchema f) (itemVal items wn ffi.typeVal :: rulesVals j5Env (typeSchema f) rules)))) := h2
  rw [hb]
  exact (doBody_append h1 h2').conv (congrArg (fun X => C (some X)) (mkMsgS_rotate _ _ hlR))

end

/-- the facts of an array, given the run of its body -/
def arrayFactsWithS {items : CField} (ffi : FieldFacts items) (hnc : isCollection items = false)
    (rules : J5V.Compile.Rules)
    (hB : FieldRunB (.array items rules) [wRules, wItems] ffi.blockNames (collTail items ffi 1)
      (mkMsgS sArrayField [itemVal items wItems ffi.qualVal])
      (mkMsgS sArrayField (rulesVals j5Env b!"j5.schema.v1.ArrayField" rules ++ [itemVal items wItems ffi.typeVal]))) :
    FieldFacts (.array items rules) :=
  collFactsWith rulesRow_Array ffi hnc rfl rfl (show specArrayField.qualifier = _ by decide +kernel) rfl
    pi_ArrayField_items (fun d n => arrayCF_misses d) rfl rfl hB

def arrayFacts {items : CField} (ffi : FieldFacts items) (hnc : isCollection items = false)
    (hnf : wField ∉ ffi.blockNames)
    (rules : J5V.Compile.Rules) (h : rulesOk j5Env b!"j5.schema.v1.ArrayField" rules = true) :
    FieldFacts (.array items rules) :=
  arrayFactsWithS ffi hnc rules (coll_runB (f := .array items rules) rulesRow_Array ffi rfl (by decide) (by decide)
    pi_ArrayField_items
    (fun d kw hkw => by
      rcases ffi.blockSub kw hkw with rfl | rfl
      · exact absurd hkw hnf
      · exact misses_cfOf rfl) (fun _ => rfl) h)

def mapFacts {items : CField} (ffi : FieldFacts items) (hnc : isCollection items = false)
    (rules : J5V.Compile.Rules) (h : rulesOk j5Env b!"j5.schema.v1.MapField" rules = true) :
    FieldFacts (.map items rules) :=
  collFactsWith rulesRow_Map ffi hnc rfl rfl (show specMapField.qualifier = _ by decide +kernel) rfl
    pi_MapField_itemSchema
    (fun d n => mapCF_misses d) rfl rfl
    (coll_runB (f := .map items rules) rulesRow_Map ffi rfl (by decide) (by decide) pi_MapField_itemSchema
      (fun d kw hkw => mapCF_misses_block _ (ffi.blockSub kw hkw)) (fun _ => rfl) h)

end J5V.Walker
