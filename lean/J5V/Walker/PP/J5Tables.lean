import J5V.Walker.WFj5
import J5V.Walker.StateLemmas
import J5V.Walker.Print
/-!
# Table lookups of `j5Env` as closed rewrite rules

Every schema / block spec the proof consults is written out ONCE as a literal produced by an elaborator
(`j5_schema_lit%`, `j5_spec_lit%`: the elaborator evaluates `j5Env.schemaOf …` / `specOf j5Env …` and
quotes the value; nothing is trusted) and tied to `j5Env` by a kernel-checked equation
(`rw [j5Env_nf]; decide +kernel`). Proofs with a symbolic state NEVER unfold `j5Env`: they rewrite with

* `schemaOf_X : j5Env.schemaOf n = sX`,
* `specOf_X c : specOf j5Env ⟨c, .msg sX⟩ = .ok specX` (any address: `specOf_addr`),
* `pi_X_name : propInfo j5Env sX name = some (index, oneof group, kind)`, in `FieldTables` / `ElemTables`
  (`propInfo` = `findProp` +
  `classify`; `propInfo_spec` and its neighbours in `Gen` give `findProp`, `hasProperty`, `classify` facts from it;
  for a property that refers to a schema it follows from the lookup of that schema: `propInfo_container`),

and decide `aliasLookup` / `hasProperty` questions about the LITERALS `sX`, `specX` by `decide`.
`specOf_X0` is the spec at the address `[]` (the closed evaluation). The proofs do not rewrite with the `fresh_X`.
-/
namespace J5V.Walker
open Lean Elab Term Meta

deriving instance DecidableEq for FieldKind
deriving instance DecidableEq for Res

/-- `findProp` + `classify`: index, proto oneof group and wrapper kind of the property `name` -/
def propInfo (env : Env) (s : Schema) (name : Str) : Option (Nat × Option (Str × List Nat) × FieldKind) :=
  match findProp name 0 s.props with
  | some (i, p) =>
    match classify env s.name p with
    | .ok k => some (i, p.oneofGroup, k)
    | _ => none
  | none => none

elab "j5_schema_lit%" s:str : term => return toExpr (j5Env.schemaOf (str s.getString))

elab "j5_spec_lit%" s:str : term => do
  match specOf j5Env ⟨[], .msg (j5Env.schemaOf (str s.getString))⟩ with
  | .ok spec => return toExpr spec
  | _ => throwError "specOf fails"

def sSourceFile : Schema := j5_schema_lit% "j5.sourcedef.v1.SourceFile"
def sPackage : Schema := j5_schema_lit% "j5.sourcedef.v1.Package"
def sImport : Schema := j5_schema_lit% "j5.sourcedef.v1.Import"
def sRootElement : Schema := j5_schema_lit% "j5.sourcedef.v1.RootElement"
def sObject : Schema := j5_schema_lit% "j5.sourcedef.v1.Object"
def sObjectProperty : Schema := j5_schema_lit% "j5.schema.v1.ObjectProperty"
def sField : Schema := j5_schema_lit% "j5.schema.v1.Field"
def sStringField : Schema := j5_schema_lit% "j5.schema.v1.StringField"
def sBoolField : Schema := j5_schema_lit% "j5.schema.v1.BoolField"
def sBytesField : Schema := j5_schema_lit% "j5.schema.v1.BytesField"
def sDateField : Schema := j5_schema_lit% "j5.schema.v1.DateField"
def sDecimalField : Schema := j5_schema_lit% "j5.schema.v1.DecimalField"
def sTimestampField : Schema := j5_schema_lit% "j5.schema.v1.TimestampField"
def sAnyField : Schema := j5_schema_lit% "j5.schema.v1.AnyField"
def sIntegerField : Schema := j5_schema_lit% "j5.schema.v1.IntegerField"
def sFloatField : Schema := j5_schema_lit% "j5.schema.v1.FloatField"
def sKeyField : Schema := j5_schema_lit% "j5.schema.v1.KeyField"
def sKeyFormat : Schema := j5_schema_lit% "j5.schema.v1.KeyFormat"
def sKeyFormatInformal : Schema := j5_schema_lit% "j5.schema.v1.KeyFormat_Informal"
def sKeyFormatCustom : Schema := j5_schema_lit% "j5.schema.v1.KeyFormat_Custom"
def sKeyFormatUUID : Schema := j5_schema_lit% "j5.schema.v1.KeyFormat_UUID"
def sKeyFormatID62 : Schema := j5_schema_lit% "j5.schema.v1.KeyFormat_ID62"
def sSourceLocation : Schema := j5_schema_lit% "j5.bcl.v1.SourceLocation"

theorem j5Env_root : j5Env.root = b!"j5.sourcedef.v1.SourceFile" := j5_root_nf

theorem schemaOf_SourceFile : j5Env.schemaOf b!"j5.sourcedef.v1.SourceFile" = sSourceFile := by
  rw [j5Env_nf]; decide +kernel
theorem schemaOf_Package : j5Env.schemaOf b!"j5.sourcedef.v1.Package" = sPackage := by rw [j5Env_nf]; decide +kernel
theorem schemaOf_Import : j5Env.schemaOf b!"j5.sourcedef.v1.Import" = sImport := by rw [j5Env_nf]; decide +kernel
theorem schemaOf_RootElement : j5Env.schemaOf b!"j5.sourcedef.v1.RootElement" = sRootElement := by
  rw [j5Env_nf]; decide +kernel
theorem schemaOf_Object : j5Env.schemaOf b!"j5.sourcedef.v1.Object" = sObject := by rw [j5Env_nf]; decide +kernel
theorem schemaOf_ObjectProperty : j5Env.schemaOf nObjectProperty = sObjectProperty := by rw [j5Env_nf]; decide +kernel
theorem schemaOf_Field : j5Env.schemaOf nField = sField := by rw [j5Env_nf]; decide +kernel
theorem schemaOf_StringField : j5Env.schemaOf b!"j5.schema.v1.StringField" = sStringField := by
  rw [j5Env_nf]; decide +kernel
theorem schemaOf_BoolField : j5Env.schemaOf b!"j5.schema.v1.BoolField" = sBoolField := by
  rw [j5Env_nf]; decide +kernel
theorem schemaOf_BytesField : j5Env.schemaOf b!"j5.schema.v1.BytesField" = sBytesField := by
  rw [j5Env_nf]; decide +kernel
theorem schemaOf_DateField : j5Env.schemaOf b!"j5.schema.v1.DateField" = sDateField := by
  rw [j5Env_nf]; decide +kernel
theorem schemaOf_DecimalField : j5Env.schemaOf b!"j5.schema.v1.DecimalField" = sDecimalField := by
  rw [j5Env_nf]; decide +kernel
theorem schemaOf_TimestampField : j5Env.schemaOf b!"j5.schema.v1.TimestampField" = sTimestampField := by
  rw [j5Env_nf]; decide +kernel
theorem schemaOf_AnyField : j5Env.schemaOf b!"j5.schema.v1.AnyField" = sAnyField := by rw [j5Env_nf]; decide +kernel
theorem schemaOf_IntegerField : j5Env.schemaOf b!"j5.schema.v1.IntegerField" = sIntegerField := by
  rw [j5Env_nf]; decide +kernel
theorem schemaOf_FloatField : j5Env.schemaOf b!"j5.schema.v1.FloatField" = sFloatField := by
  rw [j5Env_nf]; decide +kernel
theorem schemaOf_KeyField : j5Env.schemaOf b!"j5.schema.v1.KeyField" = sKeyField := by rw [j5Env_nf]; decide +kernel
theorem schemaOf_KeyFormat : j5Env.schemaOf nKeyFormat = sKeyFormat := by rw [j5Env_nf]; decide +kernel
theorem schemaOf_KeyFormatInformal : j5Env.schemaOf b!"j5.schema.v1.KeyFormat_Informal" = sKeyFormatInformal := by
  rw [j5Env_nf]; decide +kernel
theorem schemaOf_KeyFormatCustom : j5Env.schemaOf b!"j5.schema.v1.KeyFormat_Custom" = sKeyFormatCustom := by
  rw [j5Env_nf]; decide +kernel
theorem schemaOf_KeyFormatUUID : j5Env.schemaOf b!"j5.schema.v1.KeyFormat_UUID" = sKeyFormatUUID := by
  rw [j5Env_nf]; decide +kernel
theorem schemaOf_KeyFormatID62 : j5Env.schemaOf b!"j5.schema.v1.KeyFormat_ID62" = sKeyFormatID62 := by
  rw [j5Env_nf]; decide +kernel
theorem schemaOf_SourceLocation : j5Env.schemaOf b!"j5.bcl.v1.SourceLocation" = sSourceLocation := by
  rw [j5Env_nf]; decide +kernel

def specSourceFile : BlockSpec := j5_spec_lit% "j5.sourcedef.v1.SourceFile"
def specPackage : BlockSpec := j5_spec_lit% "j5.sourcedef.v1.Package"
def specImport : BlockSpec := j5_spec_lit% "j5.sourcedef.v1.Import"
def specRootElement : BlockSpec := j5_spec_lit% "j5.sourcedef.v1.RootElement"
def specObject : BlockSpec := j5_spec_lit% "j5.sourcedef.v1.Object"
def specObjectProperty : BlockSpec := j5_spec_lit% "j5.schema.v1.ObjectProperty"
def specField : BlockSpec := j5_spec_lit% "j5.schema.v1.Field"
def specStringField : BlockSpec := j5_spec_lit% "j5.schema.v1.StringField"
def specBoolField : BlockSpec := j5_spec_lit% "j5.schema.v1.BoolField"
def specBytesField : BlockSpec := j5_spec_lit% "j5.schema.v1.BytesField"
def specDateField : BlockSpec := j5_spec_lit% "j5.schema.v1.DateField"
def specDecimalField : BlockSpec := j5_spec_lit% "j5.schema.v1.DecimalField"
def specTimestampField : BlockSpec := j5_spec_lit% "j5.schema.v1.TimestampField"
def specAnyField : BlockSpec := j5_spec_lit% "j5.schema.v1.AnyField"
def specIntegerField : BlockSpec := j5_spec_lit% "j5.schema.v1.IntegerField"
def specFloatField : BlockSpec := j5_spec_lit% "j5.schema.v1.FloatField"
def specKeyField : BlockSpec := j5_spec_lit% "j5.schema.v1.KeyField"
def specKeyFormat : BlockSpec := j5_spec_lit% "j5.schema.v1.KeyFormat"
def specKeyFormatInformal : BlockSpec := j5_spec_lit% "j5.schema.v1.KeyFormat_Informal"
def specKeyFormatCustom : BlockSpec := j5_spec_lit% "j5.schema.v1.KeyFormat_Custom"
def specKeyFormatUUID : BlockSpec := j5_spec_lit% "j5.schema.v1.KeyFormat_UUID"
def specKeyFormatID62 : BlockSpec := j5_spec_lit% "j5.schema.v1.KeyFormat_ID62"

/-- the spec does not depend on the address: a closed fact at `[]` gives the fact everywhere -/
theorem specOf_of_nil {env : Env} {s : Schema} {spec : BlockSpec}
    (h : specOf env ⟨[], .msg s⟩ = .ok spec) (c : Addr) : specOf env ⟨c, .msg s⟩ = .ok spec :=
  (specOf_addr env c [] (.msg s)).trans h

theorem specOf_SourceFile0 : specOf j5Env ⟨[], .msg sSourceFile⟩ = .ok specSourceFile := by
  rw [j5Env_nf]; decide +kernel
theorem specOf_Package0 : specOf j5Env ⟨[], .msg sPackage⟩ = .ok specPackage := by rw [j5Env_nf]; decide +kernel
theorem specOf_Import0 : specOf j5Env ⟨[], .msg sImport⟩ = .ok specImport := by rw [j5Env_nf]; decide +kernel
theorem specOf_RootElement0 : specOf j5Env ⟨[], .msg sRootElement⟩ = .ok specRootElement := by
  rw [j5Env_nf]; decide +kernel
theorem specOf_Object0 : specOf j5Env ⟨[], .msg sObject⟩ = .ok specObject := by rw [j5Env_nf]; decide +kernel
theorem specOf_ObjectProperty0 : specOf j5Env ⟨[], .msg sObjectProperty⟩ = .ok specObjectProperty := by
  rw [j5Env_nf]; decide +kernel
theorem specOf_Field0 : specOf j5Env ⟨[], .msg sField⟩ = .ok specField := by rw [j5Env_nf]; decide +kernel
theorem specOf_StringField0 : specOf j5Env ⟨[], .msg sStringField⟩ = .ok specStringField := by
  rw [j5Env_nf]; decide +kernel
theorem specOf_BoolField0 : specOf j5Env ⟨[], .msg sBoolField⟩ = .ok specBoolField := by rw [j5Env_nf]; decide +kernel
theorem specOf_BytesField0 : specOf j5Env ⟨[], .msg sBytesField⟩ = .ok specBytesField := by
  rw [j5Env_nf]; decide +kernel
theorem specOf_DateField0 : specOf j5Env ⟨[], .msg sDateField⟩ = .ok specDateField := by rw [j5Env_nf]; decide +kernel
theorem specOf_DecimalField0 : specOf j5Env ⟨[], .msg sDecimalField⟩ = .ok specDecimalField := by
  rw [j5Env_nf]; decide +kernel
theorem specOf_TimestampField0 : specOf j5Env ⟨[], .msg sTimestampField⟩ = .ok specTimestampField := by
  rw [j5Env_nf]; decide +kernel
theorem specOf_AnyField0 : specOf j5Env ⟨[], .msg sAnyField⟩ = .ok specAnyField := by rw [j5Env_nf]; decide +kernel
theorem specOf_IntegerField0 : specOf j5Env ⟨[], .msg sIntegerField⟩ = .ok specIntegerField := by
  rw [j5Env_nf]; decide +kernel
theorem specOf_FloatField0 : specOf j5Env ⟨[], .msg sFloatField⟩ = .ok specFloatField := by
  rw [j5Env_nf]; decide +kernel
theorem specOf_KeyField0 : specOf j5Env ⟨[], .msg sKeyField⟩ = .ok specKeyField := by rw [j5Env_nf]; decide +kernel
theorem specOf_KeyFormat0 : specOf j5Env ⟨[], .msg sKeyFormat⟩ = .ok specKeyFormat := by rw [j5Env_nf]; decide +kernel
theorem specOf_KeyFormatInformal0 : specOf j5Env ⟨[], .msg sKeyFormatInformal⟩ = .ok specKeyFormatInformal := by
  rw [j5Env_nf]; decide +kernel
theorem specOf_KeyFormatCustom0 : specOf j5Env ⟨[], .msg sKeyFormatCustom⟩ = .ok specKeyFormatCustom := by
  rw [j5Env_nf]; decide +kernel
theorem specOf_KeyFormatUUID0 : specOf j5Env ⟨[], .msg sKeyFormatUUID⟩ = .ok specKeyFormatUUID := by
  rw [j5Env_nf]; decide +kernel
theorem specOf_KeyFormatID620 : specOf j5Env ⟨[], .msg sKeyFormatID62⟩ = .ok specKeyFormatID62 := by
  rw [j5Env_nf]; decide +kernel

theorem specOf_SourceFile (c : Addr) : specOf j5Env ⟨c, .msg sSourceFile⟩ = .ok specSourceFile :=
  specOf_of_nil specOf_SourceFile0 c
theorem specOf_Package (c : Addr) : specOf j5Env ⟨c, .msg sPackage⟩ = .ok specPackage :=
  specOf_of_nil specOf_Package0 c
theorem specOf_Import (c : Addr) : specOf j5Env ⟨c, .msg sImport⟩ = .ok specImport :=
  specOf_of_nil specOf_Import0 c
theorem specOf_RootElement (c : Addr) : specOf j5Env ⟨c, .msg sRootElement⟩ = .ok specRootElement :=
  specOf_of_nil specOf_RootElement0 c
theorem specOf_Object (c : Addr) : specOf j5Env ⟨c, .msg sObject⟩ = .ok specObject :=
  specOf_of_nil specOf_Object0 c
theorem specOf_ObjectProperty (c : Addr) : specOf j5Env ⟨c, .msg sObjectProperty⟩ = .ok specObjectProperty :=
  specOf_of_nil specOf_ObjectProperty0 c
theorem specOf_Field (c : Addr) : specOf j5Env ⟨c, .msg sField⟩ = .ok specField :=
  specOf_of_nil specOf_Field0 c
theorem specOf_KeyFormat (c : Addr) : specOf j5Env ⟨c, .msg sKeyFormat⟩ = .ok specKeyFormat :=
  specOf_of_nil specOf_KeyFormat0 c

def sObjectField : Schema := j5_schema_lit% "j5.schema.v1.ObjectField"
def sOneofField : Schema := j5_schema_lit% "j5.schema.v1.OneofField"
def sEnumField : Schema := j5_schema_lit% "j5.schema.v1.EnumField"
def sArrayField : Schema := j5_schema_lit% "j5.schema.v1.ArrayField"
def sMapField : Schema := j5_schema_lit% "j5.schema.v1.MapField"
def specObjectField : BlockSpec := j5_spec_lit% "j5.schema.v1.ObjectField"
def specOneofField : BlockSpec := j5_spec_lit% "j5.schema.v1.OneofField"
def specEnumField : BlockSpec := j5_spec_lit% "j5.schema.v1.EnumField"
def specArrayField : BlockSpec := j5_spec_lit% "j5.schema.v1.ArrayField"
def specMapField : BlockSpec := j5_spec_lit% "j5.schema.v1.MapField"

theorem schemaOf_ObjectField : j5Env.schemaOf b!"j5.schema.v1.ObjectField" = sObjectField := by
  rw [j5Env_nf]; decide +kernel
theorem schemaOf_OneofField : j5Env.schemaOf b!"j5.schema.v1.OneofField" = sOneofField := by
  rw [j5Env_nf]; decide +kernel
theorem schemaOf_EnumField : j5Env.schemaOf b!"j5.schema.v1.EnumField" = sEnumField := by
  rw [j5Env_nf]; decide +kernel
theorem schemaOf_ArrayField : j5Env.schemaOf b!"j5.schema.v1.ArrayField" = sArrayField := by
  rw [j5Env_nf]; decide +kernel
theorem schemaOf_MapField : j5Env.schemaOf b!"j5.schema.v1.MapField" = sMapField := by rw [j5Env_nf]; decide +kernel
theorem specOf_ObjectField0 : specOf j5Env ⟨[], .msg sObjectField⟩ = .ok specObjectField := by
  rw [j5Env_nf]; decide +kernel
theorem specOf_OneofField0 : specOf j5Env ⟨[], .msg sOneofField⟩ = .ok specOneofField := by
  rw [j5Env_nf]; decide +kernel
theorem specOf_EnumField0 : specOf j5Env ⟨[], .msg sEnumField⟩ = .ok specEnumField := by rw [j5Env_nf]; decide +kernel
theorem specOf_ArrayField0 : specOf j5Env ⟨[], .msg sArrayField⟩ = .ok specArrayField := by
  rw [j5Env_nf]; decide +kernel
theorem specOf_MapField0 : specOf j5Env ⟨[], .msg sMapField⟩ = .ok specMapField := by rw [j5Env_nf]; decide +kernel

theorem fresh_Package : freshMsg sPackage = .msg [false] [.absent] := rfl
theorem fresh_Import : freshMsg sImport = .msg [false, false] [.absent, .absent] := rfl
theorem fresh_RootElement : freshMsg sRootElement =
    .msg (List.replicate 6 false) (List.replicate 6 .absent) := rfl
theorem fresh_Object : freshMsg sObject =
    .msg [false, false, false, false, false, false] [.absent, .absent, .absent, .absent, .absent, .absent] := rfl
theorem fresh_ObjectProperty : freshMsg sObjectProperty =
    .msg [false, false, false, false, false, false] [.absent, .absent, .absent, .absent, .absent, .absent] := rfl
theorem fresh_Field : freshMsg sField = .msg (List.replicate 15 false) (List.replicate 15 .absent) := rfl
theorem fresh_KeyFormat : freshMsg sKeyFormat = .msg (List.replicate 4 false) (List.replicate 4 .absent) := rfl

theorem fuelOf_succ (env : Env) : fuelOf env = (2 * env.given.length + env.schemas.length + 7) + 1 := rfl

end J5V.Walker
