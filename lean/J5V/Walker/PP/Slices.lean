import J5V.Walker.PP.Entity
/-!
# Sub-fragments of the covered fragment, and the print/parse theorem restricted to each

`supported1` … `supported7` are smaller fragments of `supported`, each with the theorem that it is one
(`supportedN_supported`) and the print/parse theorem for it (`C07W_print_parse_sliceN`), which is `C07W_print_parse`
applied to a file of the fragment; `supportedBy fok` is the fragment of top-level objects over a predicate on fields,
with `print_parse_by`. They are results of their own; the proof of `C07W_print_parse` uses nothing of this file.
-/
namespace J5V.Walker
open J5V.Bcl

/-- the scalar field kinds without rules and without list rules -/
def fieldOk1 : CField → Bool
  | .string rules l => rules.isEmpty && !l
  | .bool rules l => rules.isEmpty && !l
  | .bytes rules => rules.isEmpty
  | .date rules l => rules.isEmpty && !l
  | .decimal rules l => rules.isEmpty && !l
  | .timestamp rules => rules.isEmpty
  | .any => true
  | .integer _ rules l => rules.isEmpty && !l
  | .float _ rules l => rules.isEmpty && !l
  | .key fmt ek rules l =>
    rules.isEmpty && !l && keyFmtOk fmt &&
      (match ek with
       | .nokey => true
       | .ek .plain none => true
       | _ => false)
  | _ => false

/-- a property whose field is a scalar kind without rules -/
def propOk1 : CProperty → Bool
  | .mk name _ _ f => isIdent name && fieldOk1 f

def propsOk1 : List CProperty → Bool
  | [] => true
  | p :: ps => propOk1 p && propsOk1 ps

/-- an object declaration with such properties only -/
def objDeclOk1 : J5V.Compile.ObjDecl → Bool
  | .mk name props nested psm => isIdent name && psm.isNone && propsOk1 props && nested.isEmpty

def elemOk1 : J5V.Compile.Elem → Bool
  | .object o => objDeclOk1 o
  | _ => false

/-- `package`, imports, top-level objects of scalar fields without rules -/
def supported1 : J5V.Compile.SrcFile → Bool
  | .j5s _ imports elems decl => isDotted decl && imports.all importOk && elems.all elemOk1
  | .proto .. => false

theorem rulesOk_nil (env : Env) (ts : Str) : rulesOk env ts [] = true := rfl

theorem fieldOk_of_fieldOk1 {f : CField} (h : fieldOk1 f = true) : fieldOk j5Env f = true := by
  cases f with
  | string rules l | bool rules l | date rules l | decimal rules l | integer fmt rules l | float fmt rules l =>
    simp only [fieldOk1, Bool.and_eq_true, Bool.not_eq_true'] at h
    cases rules_nil_of_isEmpty h.1
    simp [fieldOk, h.2, rulesOk_nil]
  | bytes rules | timestamp rules =>
    simp only [fieldOk1] at h
    cases rules_nil_of_isEmpty h
    simp [fieldOk, rulesOk_nil]
  | any => rfl
  | key fmt ek rules l =>
    simp only [fieldOk1, Bool.and_eq_true, Bool.not_eq_true'] at h
    obtain ⟨⟨⟨h1, h2⟩, h3⟩, h4⟩ := h
    cases rules_nil_of_isEmpty h1
    have hek : entKeyOk ek = true := by
      cases ek with
      | nokey => rfl
      | ek k t => cases k <;> cases t <;> first | rfl | cases h4
    simp [fieldOk, h2, h3, hek, rulesOk_nil]
  | _ => cases h

theorem propsOk_of_propsOk1 {ps : List CProperty} (h : propsOk1 ps = true) : propsOk j5Env ps = true := by
  induction ps with
  | nil => rfl
  | cons p ps ih =>
    obtain ⟨name, req, opt, f⟩ := p
    simp only [propsOk1, propOk1, Bool.and_eq_true] at h
    simp only [propsOk, propOk, Bool.and_eq_true]
    exact ⟨⟨h.1.1, fieldOk_of_fieldOk1 h.1.2⟩, ih h.2⟩

theorem elemOk_of_elemOk1 {e : J5V.Compile.Elem} (h : elemOk1 e = true) : elemOk j5Env e = true := by
  cases e with
  | object o =>
    obtain ⟨name, props, nested, psm⟩ := o
    simp only [elemOk1, objDeclOk1, Bool.and_eq_true, List.isEmpty_iff] at h
    obtain ⟨⟨⟨h1, h2⟩, h3⟩, h4⟩ := h
    subst h4
    simp only [elemOk, objDeclOk, Bool.and_eq_true, Bool.false_eq_true, if_false, nestedOk]
    exact ⟨⟨⟨h1, h2⟩, propsOk_of_propsOk1 h3⟩, trivial⟩
  | _ => cases h

theorem supported1_supported {ast : J5V.Compile.SrcFile} (h : supported1 ast = true) : supported ast = true := by
  cases ast with
  | j5s path imports elems decl =>
    simp only [supported1, Bool.and_eq_true, List.all_eq_true] at h
    simp only [supported, supportedEnv, Bool.and_eq_true, List.all_eq_true]
    exact ⟨⟨h.1.1, h.1.2⟩, fun e he => elemOk_of_elemOk1 (h.2 e he)⟩
  | proto _ _ _ => cases h

section
variable (fok : CField → Bool)

def propOkBy : CProperty → Bool
  | .mk name _ _ f => isIdent name && fok f

def propsOkBy : List CProperty → Bool
  | [] => true
  | p :: ps => propOkBy fok p && propsOkBy ps

def objDeclOkBy : J5V.Compile.ObjDecl → Bool
  | .mk name props nested psm => isIdent name && psm.isNone && propsOkBy fok props && nested.isEmpty

def elemOkBy : J5V.Compile.Elem → Bool
  | .object o => objDeclOkBy fok o
  | _ => false

/-- `package` + imports + top-level objects whose fields satisfy `fok` -/
def supportedBy : J5V.Compile.SrcFile → Bool
  | .j5s _ imports elems decl => isDotted decl && imports.all importOk && elems.all (elemOkBy fok)
  | .proto .. => false

variable {fok}

theorem propsHas_of_propsOkBy (hfacts : ∀ f, fok f = true → Nonempty (FieldFacts f)) {ps : List CProperty}
    (h : propsOkBy fok ps = true) : ∀ p ∈ ps, PropHas p := by
  induction ps with
  | nil => intro p hp; cases hp
  | cons q ps ih =>
    simp only [propsOkBy, Bool.and_eq_true] at h
    intro p hp
    rcases List.mem_cons.mp hp with rfl | hp
    · obtain ⟨name, req, opt, f⟩ := p
      simp only [propOkBy, Bool.and_eq_true] at h
      exact ⟨h.1.1, hfacts f h.1.2⟩
    · exact ih h.2 p hp

theorem propsOk_of_propsOkBy (hsub : ∀ f, fok f = true → fieldOk j5Env f = true) {ps : List CProperty}
    (h : propsOkBy fok ps = true) : propsOk j5Env ps = true := by
  induction ps with
  | nil => rfl
  | cons p ps ih =>
    obtain ⟨name, req, opt, f⟩ := p
    simp only [propsOkBy, propOkBy, Bool.and_eq_true] at h
    simp only [propsOk, propOk, Bool.and_eq_true]
    exact ⟨⟨h.1.1, hsub f h.1.2⟩, ih h.2⟩

theorem supportedBy_supported (hsub : ∀ f, fok f = true → fieldOk j5Env f = true)
    {ast : J5V.Compile.SrcFile} (h : supportedBy fok ast = true) : supported ast = true := by
  cases ast with
  | j5s path imports elems decl =>
    simp only [supportedBy, Bool.and_eq_true, List.all_eq_true] at h
    simp only [supported, supportedEnv, Bool.and_eq_true, List.all_eq_true]
    refine ⟨⟨h.1.1, h.1.2⟩, fun e he => ?_⟩
    have hok := h.2 e he
    cases e with
    | object o =>
      obtain ⟨name, props, nested, psm⟩ := o
      simp only [elemOkBy, objDeclOkBy, Bool.and_eq_true, List.isEmpty_iff] at hok
      obtain ⟨⟨⟨h1, h2⟩, h3⟩, h4⟩ := hok
      subst h4
      simp only [elemOk, objDeclOk, Bool.and_eq_true, Bool.false_eq_true, if_false, nestedOk]
      exact ⟨⟨⟨h1, h2⟩, propsOk_of_propsOkBy hsub h3⟩, trivial⟩
    | _ => cases hok
  | proto _ _ _ => cases h

end

theorem fieldOk_of_fieldOk2 {f : CField} (h : fieldOk2 f = true) : fieldOk j5Env f = true := by
  cases f with
  | key | string | bool | bytes | date | decimal | timestamp | integer | float => exact h
  | any => rfl
  | _ => cases h

/-- files of top-level objects whose fields are scalar, with rules -/
def supported2 : J5V.Compile.SrcFile → Bool := supportedBy fieldOk2

theorem supported2_supported {ast : J5V.Compile.SrcFile} (h : supported2 ast = true) : supported ast = true :=
  supportedBy_supported (fun _ => fieldOk_of_fieldOk2) h

theorem fieldOk_of_fieldOk3 {f : CField} (h : fieldOk3 f = true) : fieldOk j5Env f = true := by
  cases f with
  | objectRef | oneofRef | enumRef => exact h
  | string | bool | bytes | date | decimal | timestamp | integer | float | key =>
    exact fieldOk_of_fieldOk2 h
  | any => rfl
  | _ => cases h

/-- … and references to declared types -/
def supported3 : J5V.Compile.SrcFile → Bool := supportedBy fieldOk3

theorem supported3_supported {ast : J5V.Compile.SrcFile} (h : supported3 ast = true) : supported ast = true :=
  supportedBy_supported (fun _ => fieldOk_of_fieldOk3) h

/-- `fieldOk3`, and arrays / maps of it -/
def fieldOk4 : CField → Bool
  | .array items rules => rulesOk j5Env b!"j5.schema.v1.ArrayField" rules && !isCollection items && fieldOk3 items
  | .map items rules => rulesOk j5Env b!"j5.schema.v1.MapField" rules && !isCollection items && fieldOk3 items
  | f => fieldOk3 f

theorem fieldOk_of_fieldOk4 {f : CField} (h : fieldOk4 f = true) : fieldOk j5Env f = true := by
  cases f with
  | array items rules | map items rules =>
    simp only [fieldOk4, Bool.and_eq_true] at h
    simp only [fieldOk, Bool.and_eq_true]
    exact ⟨h.1, fieldOk_of_fieldOk3 h.2⟩
  | objectRef | oneofRef | enumRef | string | bool | bytes | date | decimal | timestamp
  | integer | float | key => exact fieldOk_of_fieldOk3 h
  | any => rfl
  | _ => cases h

/-- … and arrays / maps of those -/
def supported4 : J5V.Compile.SrcFile → Bool := supportedBy fieldOk4

theorem supported4_supported {ast : J5V.Compile.SrcFile} (h : supported4 ast = true) : supported ast = true :=
  supportedBy_supported (fun _ => fieldOk_of_fieldOk4) h

/-- files of top-level objects over every field of the covered fragment -/
def supported5 : J5V.Compile.SrcFile → Bool := supportedBy fieldOk5

theorem supported5_supported {ast : J5V.Compile.SrcFile} (h : supported5 ast = true) : supported ast = true :=
  supportedBy_supported (fun f => fieldOk_of_fieldOk5 f) h

/-- `object NAME { fields }` at the top level, given that the field blocks append the property messages -/
theorem object_appends_of {name : Str} {props : List CProperty} {psm : Option J5V.Compile.Psm}
    (hname : isIdent name = true)
    (hall : ∀ d, AppendsAll j5Env (Scope.newChild (objCF d)) d 3 (propsBcl wField props) (propsMsg j5Env props)) :
    Appends j5Env rootScope [] 3 (elemBcl (.object (.mk name props [] psm)))
      (elemMsg j5Env (.object (.mk name props [] psm))) :=
  ObjDeclAppends.root (objectDecl_appends hname hall (fun _ => .nil))

/-- print/parse for the files of top-level objects whose fields satisfy `fok`, when every such field has the facts -/
theorem print_parse_by {fok : CField → Bool} (hfacts : ∀ f, fok f = true → Nonempty (FieldFacts f))
    (filename : Str) (ast : J5V.Compile.SrcFile) (h : supportedBy fok ast = true) :
    walkSchema j5Env (toBcl ast) (stub j5Env filename) = .ok (toMsg filename ast) := by
  cases ast with
  | proto _ _ _ => cases h
  | j5s path imports elems decl =>
    simp only [supportedBy, Bool.and_eq_true, List.all_eq_true] at h
    obtain ⟨⟨hdecl, himports⟩, helems⟩ := h
    refine print_parse_of filename path decl imports elems hdecl himports ?_
    refine appendsAll_map _ _ _ (fun e he => ?_)
    have hok := helems e he
    cases e with
    | object o =>
      obtain ⟨name, props, nested, psm⟩ := o
      simp only [elemOkBy, objDeclOkBy, Bool.and_eq_true, List.isEmpty_iff] at hok
      obtain ⟨⟨⟨hname, _⟩, hprops⟩, hnested⟩ := hok
      subst hnested
      exact object_appends_of hname (fun d => props_appendsAll_objCF d (propsHas_of_propsOkBy hfacts hprops))
    | _ => cases hok

def elemOk6 : J5V.Compile.Elem → Bool
  | .object o => objDeclOk6 o
  | .oneof (.mk name props nested psm) => isIdent name && psm.isNone && propsOk5 props && nested.isEmpty
  | .enum e => enumDeclOk true e
  | _ => false

/-- files of top-level objects (with nested objects), oneofs and enums -/
def supported6 : J5V.Compile.SrcFile → Bool
  | .j5s _ imports elems decl => isDotted decl && imports.all importOk && elems.all elemOk6
  | .proto .. => false

theorem supported6_supported {ast : J5V.Compile.SrcFile} (h : supported6 ast = true) : supported ast = true := by
  cases ast with
  | j5s path imports elems decl =>
    simp only [supported6, Bool.and_eq_true, List.all_eq_true] at h
    simp only [supported, supportedEnv, Bool.and_eq_true, List.all_eq_true]
    refine ⟨⟨h.1.1, h.1.2⟩, fun e he => ?_⟩
    have hok := h.2 e he
    cases e with
    | object o => exact (objDeclOk6_eq o ▸ hok : objDeclOk j5Env false o = true)
    | oneof o =>
      obtain ⟨name, props, nested, psm⟩ := o
      simp only [elemOk6, Bool.and_eq_true, List.isEmpty_iff] at hok
      obtain ⟨⟨⟨h1, h2⟩, h3⟩, h4⟩ := hok
      subst h4
      simp only [elemOk, objDeclOk, Bool.and_eq_true, if_true, List.isEmpty_nil]
      exact ⟨⟨⟨h1, h2⟩, propsOk_of_propsOk5 props h3⟩, trivial⟩
    | enum e => exact hok
    | _ => cases hok
  | proto _ _ _ => cases h

/-- the covered fragment without `entity` elements -/
def supported7 : J5V.Compile.SrcFile → Bool
  | .j5s p imports elems decl => supported (.j5s p imports elems decl) && elems.all (fun e => !isEntity e)
  | .proto .. => false

theorem supported7_supported {ast : J5V.Compile.SrcFile} (h : supported7 ast = true) : supported ast = true := by
  cases ast with
  | j5s p imports elems decl =>
    simp only [supported7, Bool.and_eq_true] at h
    exact h.1
  | proto _ _ _ => cases h

theorem object_appends {o : J5V.Compile.ObjDecl} (ho : objDeclOk1 o = true) :
    Appends j5Env rootScope [] 3 (elemBcl (.object o)) (elemMsg j5Env (.object o)) :=
  elem_appends (elemOk_of_elemOk1 (e := .object o) ho) rfl

/-- **print/parse for `supported1`**: for a file of `package`, imports and top-level objects with scalar
fields, the walk of the printed tree over the file stub returns exactly the message the file denotes -/
theorem C07W_print_parse_slice1 (filename : Str) (ast : J5V.Compile.SrcFile) (h : supported1 ast = true) :
    walkSchema j5Env (toBcl ast) (stub j5Env filename) = .ok (toMsg filename ast) :=
  C07W_print_parse filename ast (supported1_supported h)

/-- **print/parse for `supported2`**: `package`, imports, top-level objects whose properties are scalar
fields with rules -/
theorem C07W_print_parse_slice2 (filename : Str) (ast : J5V.Compile.SrcFile) (h : supported2 ast = true) :
    walkSchema j5Env (toBcl ast) (stub j5Env filename) = .ok (toMsg filename ast) :=
  C07W_print_parse filename ast (supported2_supported h)

/-- **print/parse for `supported3`**: `package`, imports, top-level objects whose properties are scalar fields
(with rules) or references to declared objects / oneofs / enums -/
theorem C07W_print_parse_slice3 (filename : Str) (ast : J5V.Compile.SrcFile) (h : supported3 ast = true) :
    walkSchema j5Env (toBcl ast) (stub j5Env filename) = .ok (toMsg filename ast) :=
  C07W_print_parse filename ast (supported3_supported h)

/-- **print/parse for `supported4`**: `package`, imports, top-level objects whose properties are scalar fields
(with rules), references, and arrays / maps of those -/
theorem C07W_print_parse_slice4 (filename : Str) (ast : J5V.Compile.SrcFile) (h : supported4 ast = true) :
    walkSchema j5Env (toBcl ast) (stub j5Env filename) = .ok (toMsg filename ast) :=
  C07W_print_parse filename ast (supported4_supported h)

/-- **print/parse for `supported5`**: `package`, imports, top-level objects whose properties are scalar fields
(with rules), references, inline objects / oneofs / enums (recursively), and arrays / maps of those: every
field of the covered fragment (`fieldOk5_eq`) -/
theorem C07W_print_parse_slice5 (filename : Str) (ast : J5V.Compile.SrcFile) (h : supported5 ast = true) :
    walkSchema j5Env (toBcl ast) (stub j5Env filename) = .ok (toMsg filename ast) :=
  C07W_print_parse filename ast (supported5_supported h)

/-- **print/parse for `supported6`**: `package`, imports, top-level objects (with nested objects), oneofs and
enums; properties as for `supported5` -/
theorem C07W_print_parse_slice6 (filename : Str) (ast : J5V.Compile.SrcFile) (h : supported6 ast = true) :
    walkSchema j5Env (toBcl ast) (stub j5Env filename) = .ok (toMsg filename ast) :=
  C07W_print_parse filename ast (supported6_supported h)

/-- **print/parse for `supported7`**: every file of the covered fragment without `entity` elements -/
theorem C07W_print_parse_slice7 (filename : Str) (ast : J5V.Compile.SrcFile) (h : supported7 ast = true) :
    walkSchema j5Env (toBcl ast) (stub j5Env filename) = .ok (toMsg filename ast) :=
  C07W_print_parse filename ast (supported7_supported h)

end J5V.Walker
