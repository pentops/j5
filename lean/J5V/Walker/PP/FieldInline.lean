import J5V.Walker.PP.PropBlock
/-!
# `FieldFacts` of inline object / oneof / enum fields, and of every field of the covered fragment (`facts5`)

The type message of an inline field holds an inner declaration that the first line or block creates (`inlT`); its
property / option blocks append to an array of that declaration (`StepsAll`). `inlDecl_fills` for objects, oneofs and
enums, arrays of inline objects; then the recursion over the nested AST.
-/
namespace J5V.Walker
open J5V.Bcl

/-!
## Inline types — the inner declaration of an object / oneof / enum field

The type message of the field has a container property `cn` (`object` / `oneof` / `enum`) for the inner declaration,
created by the first line or block that needs it; the inner declaration has an array property `an` (`properties` /
`options`) that the block statements (`field` / `option`) of the body append to, through the alias
`kw → [cn, an]` of the type block.
-/

/-- the type message of an inline field: `tvals`, then the inner declaration `cn` (created by the first line or block)
with `ivals` and the array `an` holding `xs` -/
abbrev inlT (sT : Schema) (cn : Str) (sI : Schema) (an : Str) (tvals ivals : List (Str × Node)) (xs : List Node) :
    Node :=
  mkMsgS sT (tvals ++ childVal cn (msgOpt sI (ivals ++ listVal an xs)))

/-- … once a block appended the element `Y` -/
abbrev inlT' (sT : Schema) (cn : Str) (sI : Schema) (an : Str) (tvals ivals : List (Str × Node)) (xs : List Node)
    (Y : Node) : Node :=
  mkMsgS sT (tvals ++ [(cn, mkMsgS sI (ivals ++ [(an, .list (xs ++ [Y]))]))])

theorem inlT'_eq (sT : Schema) (cn : Str) (sI : Schema) (an : Str) (tvals ivals : List (Str × Node)) (xs : List Node)
    (Y : Node) : inlT' sT cn sI an tvals ivals xs Y = inlT sT cn sI an tvals ivals (xs ++ [Y]) := by
  show _ = mkMsgS sT (tvals ++ childVal cn (msgOpt sI (ivals ++ listVal an (xs ++ [Y]))))
  rw [listVal_concat, (Presents.msgOpt sI).snoc]
  rfl

section
variable {sT : Schema} {cn an : Str} {ci ai : Nat} {og : Option (Str × List Nat)} {sI sE : Schema}
  {tvals ivals : List (Str × Node)}

theorem inlElem_lens (hdT : sT.namesDistinct = true) (hdI : sI.namesDistinct = true)
    (hpiC : propInfo j5Env sT cn = some (ci, og, .container sI))
    (hpiA : propInfo j5Env sI an = some (ai, none, .arrayOfContainer sE))
    (hlT : lookupVal cn tvals = none) (hlI : lookupVal an ivals = none) (xs : List Node) :
    Lens (fun Y => inlT' sT cn sI an tvals ivals xs Y) ([ci] ++ ([ai] ++ [xs.length])) := by
  have h := Lens.comp (mkMsgS_lens (vals2 := []) hdT (propInfo_find hpiC) hlT)
    (Lens.comp (mkMsgS_lens (vals2 := []) hdI (propInfo_find hpiA) hlI) (Lens.last xs))
  exact h

theorem innerWalkPath_exact {specT : BlockSpec} {d : Addr} (hdT : sT.namesDistinct = true)
    (hdI : sI.namesDistinct = true) (hpiC : propInfo j5Env sT cn = some (ci, og, .container sI))
    (hpiA : propInfo j5Env sI an = some (ai, none, .arrayOfContainer sE))
    (hlT : lookupVal cn tvals = none)
    (hgrp : ∀ q ∈ sT.props, q.oneofGroup = og → og ≠ none → lookupVal q.name tvals = none)
    (hlI : lookupVal an ivals = none) (xs : List Node) :
    Exact (walkPath j5Env (cfOf sT specT d) [cn, an]) d (inlT sT cn sI an tvals ivals xs)
      ([cf0 sE (d ++ [ci, ai, xs.length])] ++ [cf0 sI (d ++ [ci])])
      (inlT' sT cn sI an tvals ivals xs (freshMsg sE)) := by
  have h := walkPath_lazyS (spec := specT) (c := d) hdT hpiC hlT hgrp
    (walkRest_cons (walkPath_arrayS (spec := BlockSpec.empty) (xs := xs) hdI hpiA hlI (walkRest_nil)))
  rw [show d ++ [ci] ++ [ai, xs.length] = d ++ [ci, ai, xs.length] by simp] at h
  exact h

/-- the entry of a block keyword that is an alias `kw → [cn, an]` of the type block itself -/
theorem inlEntry_direct {sc : Scope} {kw : Str} {specT : BlockSpec} {a b : Addr} {C : Option Node → Node}
    (hl : Lens (fun Y => C (some Y)) b) {specI specE : BlockSpec}
    (hfb : findBlock kw sc.blockSet = some (cfOf sT specT (a ++ b), [cn, an]))
    (hdT : sT.namesDistinct = true) (hdI : sI.namesDistinct = true)
    (hpiC : propInfo j5Env sT cn = some (ci, og, .container sI))
    (hpiA : propInfo j5Env sI an = some (ai, none, .arrayOfContainer sE))
    (hspecI : ∀ c, specOf j5Env ⟨c, .msg sI⟩ = .ok specI)
    (hspecE : ∀ c, specOf j5Env ⟨c, .msg sE⟩ = .ok specE)
    (hlT : lookupVal cn tvals = none)
    (hgrp : ∀ q ∈ sT.props, q.oneofGroup = og → og ≠ none → lookupVal q.name tvals = none)
    (hlI : lookupVal an ivals = none) (xs : List Node) :
    Exact (childBlock j5Env sc kw) a (C (some (inlT sT cn sI an tvals ivals xs)))
      (Scope.newChild (cfOf sE specE (a ++ (b ++ ([ci] ++ ([ai] ++ [xs.length]))))))
      (C (some (inlT' sT cn sI an tvals ivals xs (freshMsg sE)))) := by
  have h := Exact.lens hl (childBlock_of_walkPath hfb
    (innerWalkPath_exact (specT := specT) (d := a ++ b) hdT hdI hpiC hpiA hlT hgrp hlI xs)
    (setSpecs_cons (hspecE _) (setSpecs_cons (hspecI _) (setSpecs_nil))))
  have haddr : a ++ b ++ [ci, ai, xs.length] = a ++ (b ++ ([ci] ++ ([ai] ++ [xs.length]))) := by simp
  rw [haddr] at h
  exact h

end

/-- pointwise: statement `st` takes `St xs` to `St (xs ++ [m])`, for every `xs` -/
inductive StepsAll (env : Env) (sc : Scope) (a : Addr) (St : List Node → Node) :
    List Statement → List Node → Prop where
  | nil : StepsAll env sc a St [] []
  | cons {st : Statement} {m : Node} {sts : List Statement} {ms : List Node} :
      (∀ xs, Exact (doStatement env sc st) a (St xs) () (St (xs ++ [m]))) →
      StepsAll env sc a St sts ms → StepsAll env sc a St (st :: sts) (m :: ms)

theorem steps_fold {env : Env} {sc : Scope} {a : Addr} {St : List Node → Node} {sts : List Statement}
    {ms : List Node} (h : StepsAll env sc a St sts ms) (xs : List Node) :
    Exact (doBody env sc sts) a (St xs) () (St (xs ++ ms)) := by
  induction h generalizing xs with
  | nil => rw [List.append_nil]; exact doBody_nil
  | @cons st m sts ms h1 _ ih =>
    have h2 := ih (xs ++ [m])
    rw [List.append_assoc] at h2
    exact doBody_cons (h1 xs) h2

theorem stepsAll_map {env : Env} {sc : Scope} {a : Addr} {St : List Node → Node} {α : Type}
    (f : α → Statement) (g : α → Node) (l : List α)
    (h : ∀ x ∈ l, ∀ xs, Exact (doStatement env sc (f x)) a (St xs) () (St (xs ++ [g x]))) :
    StepsAll env sc a St (l.map f) (l.map g) := by
  induction l with
  | nil => exact .nil
  | cons x rest ih =>
    exact .cons (h x (by simp)) (ih (fun y hy => h y (List.mem_cons_of_mem _ hy)))

section
variable {sc : Scope} {pfx : List Str} {sT : Schema} {specT : BlockSpec} {a b : Addr} {C : Option Node → Node}
  {P : Str → Prop}

/-- the lines and blocks of the inner declaration `cn` as one segment of the type message: the lines fill the
declaration (which the first of them creates), the blocks append to its array `an` -/
theorem inlDecl_fills (hr : BodyReach sc pfx sT specT a b C P) (hdT : sT.namesDistinct = true) {cn : Str}
    (hn : P cn) (hcn : isAscii cn = true) (hpathC : blockPath cn sT specT = some [cn])
    {ci : Nat} {og : Option (Str × List Nat)} {sI : Schema} {specI : BlockSpec}
    (hpiC : propInfo j5Env sT cn = some (ci, og, .container sI))
    (hspecI : ∀ c, specOf j5Env ⟨c, .msg sI⟩ = .ok specI) {grp : List Str}
    (hgrp : sT.props.all (fun q => q.oneofGroup != og || (cn :: grp).contains q.name) = true)
    {an : Str} {ksL : List Str} {lines : List Statement} {ivals : List (Str × Node)}
    (hlines : ∀ {C' : Option Node → Node}, BodyReach sc (pfx ++ [cn]) sI specI a (b ++ [ci]) C' (fun _ => True) →
      Fills sc a (fun iv => C' (msgOpt sI iv)) ksL lines ivals)
    (hna : disjointKeys ksL [an] = true) {blocks : List Statement} {ms : List Node}
    (hblocks : ∀ tvals : List (Str × Node), lookupVal cn tvals = none →
      (∀ q ∈ sT.props, q.oneofGroup = og → og ≠ none → lookupVal q.name tvals = none) →
      lookupVal an ivals = none →
      StepsAll j5Env sc a (fun xs => C (some (inlT sT cn sI an tvals ivals xs))) blocks ms) :
    Fills sc a (fun tvals => C (some (mkMsgS sT tvals))) (cn :: grp) (lines ++ blocks)
      (childVal cn (msgOpt sI (ivals ++ listVal an ms))) := by
  refine ⟨fun kv hkv => List.mem_cons.mpr (.inl (List.mem_singleton.mp (KeysIn.childVal _ _ kv hkv))),
    fun tvals hv => ?_⟩
  have hlT := hv cn List.mem_cons_self
  have hg : ∀ q ∈ sT.props, q.oneofGroup = og → og ≠ none → lookupVal q.name tvals = none := fun q hq hqg _ => by
    have := List.all_eq_true.mp hgrp q hq
    simp only [hqg, bne_self_eq_false, Bool.false_or, List.contains_eq_mem, decide_eq_true_eq] at this
    exact hv _ this
  have hrO := hr.childS (Presents.some _) hdT (vals := tvals) hn hcn hpathC hpiC hspecI hlT hg
  have hL := hlines hrO
  have hlI : lookupVal an ivals = none :=
    hL.1.fresh (not_mem_of_disjointKeys hna (List.mem_singleton.mpr rfl))
  have h1 := hL.run (vals := []) (ks0 := []) (.nil _) (by simp [disjointKeys])
  have h2 := steps_fold (hblocks tvals hlT hg hlI) []
  simp only [List.nil_append, childVal_msgOpt_nil, List.append_nil] at h1
  rw [List.nil_append] at h2
  refine doBody_append h1 ?_
  have e1 : inlT sT cn sI an tvals ivals [] = mkMsgS sT (tvals ++ childVal cn (msgOpt sI ivals)) := by
    show mkMsgS sT (tvals ++ childVal cn (msgOpt sI (ivals ++ []))) = _
    rw [List.append_nil]
  rw [← e1]
  exact h2

theorem inlProps_steps {kw : Str} (hkw : isAscii kw = true) (hdT : sT.namesDistinct = true) {cn an : Str}
    {ci ai : Nat} {og : Option (Str × List Nat)} {sI : Schema} (hdI : sI.namesDistinct = true)
    (hpiC : propInfo j5Env sT cn = some (ci, og, .container sI))
    (hpiA : propInfo j5Env sI an = some (ai, none, .arrayOfContainer sObjectProperty))
    (hl : Lens (fun Y => C (some Y)) b) {tvals ivals : List (Str × Node)}
    (hlT : lookupVal cn tvals = none) (hlI : lookupVal an ivals = none)
    (hcb : ∀ xs, Exact (childBlock j5Env sc kw) a (C (some (inlT sT cn sI an tvals ivals xs)))
      (Scope.newChild (propCF (a ++ (b ++ ([ci] ++ ([ai] ++ [xs.length]))))))
      (C (some (inlT' sT cn sI an tvals ivals xs (freshMsg sObjectProperty)))))
    (props : List CProperty) (hps : ∀ p ∈ props, PropHas p) :
    StepsAll j5Env sc a (fun xs => C (some (inlT sT cn sI an tvals ivals xs)))
      (propsBcl kw props) (propsMsg j5Env props) := by
  induction props with
  | nil => exact .nil
  | cons p ps ih =>
    simp only [propsBcl, propsMsg]
    obtain ⟨name, req, opt, f⟩ := p
    obtain ⟨hname, ⟨ff⟩⟩ := hps (.mk name req opt f) (by simp)
    refine .cons (fun xs => ?_) (ih (fun p hp => hps p (List.mem_cons_of_mem _ hp)))
    rw [← inlT'_eq]
    exact propBlock_exact (req := req) (opt := opt) hname ff hkw
      (Lens.comp hl (inlElem_lens hdT hdI hpiC hpiA hlT hlI xs)) (hcb xs)

theorem inlName_fills {cn : Str} {sI : Schema} {specI : BlockSpec} {bI : Addr} {C' : Option Node → Node}
    (hrO : BodyReach sc (pfx ++ [cn]) sI specI a bI C' (fun _ => True)) (hdI : sI.namesDistinct = true)
    (hpathN : blockPath wName sI specI = some [wName]) {j : Nat}
    (hpiN : propInfo j5Env sI wName = some (j, none, .scalar (.scalar .string) false)) {name : Str}
    (hname : okString name = true) :
    Fills sc a (fun iv => C' (msgOpt sI iv)) [wName] (inlNameBcl pfx cn name)
      (optVal (name != []) wName (sStr name)) := by
  have h := hrO.fillsOptStr (Presents.msgOpt _) hdI (n := wName) trivial (by decide) hpathN hpiN hname
  have hkey : pfx ++ [cn] ++ [wName] = pfx ++ [cn, wName] := by simp
  rw [hkey] at h
  exact h

end

/-!
## Inline object / oneof fields (`field x object { … fields … }`)

`objectInlFacts`, `oneofInlFacts`: `FieldFacts` of an inline declaration from `PropHas` of its properties
(the recursion of the AST: the caller supplies the facts of the nested fields).
-/

/-- the keyword of the blocks is found in the type block (alias), behind the blocks of `pre` -/
theorem findBlock_of_scopeAt {sc : Scope} {sT : Schema} {specT : BlockSpec} {d : Addr} {kw : Str}
    {names : List Str} {tailP : List ContainerField → Prop} {p : PathSpec}
    (h : ScopeAt sc (cfOf sT specT d) names tailP) (hkw : kw ∈ names)
    (ha : blockPath kw sT specT = some p) :
    findBlock kw sc.blockSet = some (cfOf sT specT d, p) := by
  obtain ⟨pre, tail, hbs, hpre, _⟩ := h
  rw [hbs, findBlock_skip_all (hpre kw hkw)]
  exact findBlock_head ha

theorem propsMsg_isEmpty (env : Env) (props : List CProperty) :
    props.isEmpty = (propsMsg env props).isEmpty := by
  cases props <;> rfl

/-- the entry of an inline declaration as the printer lists it: written iff it has a name or a property -/
theorem inlVal_eq {sn : Str} {sI : Schema} (hs : j5Env.schemaOf sn = sI) (cn an : Str) (c : Bool) (v : Node)
    (ps : List Node) :
    optVal (c || !ps.isEmpty) cn (mkMsg j5Env sn (optVal c wName v ++ listVal an ps)) =
      childVal cn (msgOpt sI (optVal c wName v ++ listVal an ps)) := by
  rw [mkMsg_eq_mkMsgS hs]
  cases c <;> cases ps <;> rfl

theorem objInl_body_fills {sc : Scope} {pfx : List Str} {a b : Addr} {C : Option Node → Node}
    {name : Str} {props : List CProperty} {flatten : Bool} {rules : J5V.Compile.Rules}
    (h : rulesOk j5Env b!"j5.schema.v1.ObjectField" rules = true) (hname : okString name = true)
    (hps : ∀ p ∈ props, PropHas p)
    (hr : BodyReach sc pfx sObjectField specObjectField a b C (· ∈ [wRules, b!"flatten", wObject]))
    (hentry : ∀ (tvals : List (Str × Node)) (xs : List Node), lookupVal wObject tvals = none →
      (∀ q ∈ sObjectField.props, q.oneofGroup = some gObjectFieldSchema → some gObjectFieldSchema ≠ none →
        lookupVal q.name tvals = none) →
      Exact (childBlock j5Env sc wField) a
        (C (some (inlT sObjectField wObject sSObject b!"properties" tvals (optVal (name != []) wName (sStr name)) xs)))
        (Scope.newChild (propCF (a ++ (b ++ ([1] ++ ([3] ++ [xs.length]))))))
        (C (some (inlT' sObjectField wObject sSObject b!"properties" tvals (optVal (name != []) wName (sStr name)) xs
          (freshMsg sObjectProperty))))) :
    Fills sc a (fun tvals => C (some (mkMsgS sObjectField tvals)))
      ([wRules] ++ [b!"flatten"] ++ [wObject, b!"ref"])
      (rulesBcl pfx rules ++ flattenBcl pfx flatten ++ (inlNameBcl pfx wObject name ++ propsBcl wField props))
      (rulesVals j5Env b!"j5.schema.v1.ObjectField" rules ++ flattenVals flatten ++
        childVal wObject (msgOpt sSObject (optVal (name != []) wName (sStr name) ++
          listVal b!"properties" (propsMsg j5Env props)))) :=
  have hd := distinct_of schemaOf_ObjectField
  have hdI := distinct_of schemaOf_SObject
  ((hr.fillsRules (by simp) rulesRow_Object h).append
    (hr.fillsOptTrue (Presents.some _) hd (n := b!"flatten") (by simp) (by decide) rfl pi_ObjectField_flatten flatten)
    rfl).append
    (inlDecl_fills hr hd (cn := wObject) (by simp) (by decide) rfl pi_ObjectField_object specOf_SObject
      (grp := [b!"ref"]) grp_ObjectField (an := b!"properties")
      (fun hrO => inlName_fills hrO hdI rfl pi_SObject_name hname) rfl
      (fun tvals hlT hg hlI => inlProps_steps (kw := wField) (by decide) hd hdI pi_ObjectField_object
        pi_SObject_properties hr.lens hlT hlI (fun xs => hentry tvals xs hlT hg) props hps)) rfl

def objectInlFacts (name : Str) (props : List CProperty) (flatten : Bool) (rules : J5V.Compile.Rules)
    (h : rulesOk j5Env b!"j5.schema.v1.ObjectField" rules = true) (hname : okString name = true)
    (hps : ∀ p ∈ props, PropHas p) : FieldFacts (.objectInl name props flatten rules) :=
  .of [] [wRules, b!"flatten", wObject] [wField] (fun _ _ => True)
    (mkMsgS sObjectField [])
    (mkMsgS sObjectField (rulesVals j5Env b!"j5.schema.v1.ObjectField" rules ++ flattenVals flatten ++
      childVal wObject (msgOpt sSObject (optVal (name != []) wName (sStr name) ++
        listVal b!"properties" (propsMsg j5Env props)))))
    (by
    refine (fieldOneof_eq (.objectInl name props flatten rules) _).trans (congrArg _ ?_)
    rw [mkMsg_eq_mkMsgS schemaOf_ObjectField, propsMsg_isEmpty j5Env props, inlVal_eq schemaOf_SObject])
    rfl (fun _ => rfl) rfl rfl
    (fun outer root d _ =>
      ⟨typeScope outer (cfOf sObjectField specObjectField d) root, specObjectField, [], rfl, trivial,
        (walkQualifiers_nil).conv (freshMsg_eq_mkMsgS _)⟩)
    (fun sc pfx a b C hr hsc => by
      have hfb := findBlock_of_scopeAt hsc (List.mem_singleton.mpr rfl)
        (show blockPath wField sObjectField specObjectField = some [wObject, b!"properties"] from rfl)
      show Exact (doBody j5Env sc (rulesBcl pfx rules ++ flattenBcl pfx flatten ++ inlNameBcl pfx wObject name ++
        propsBcl wField props)) _ _ _ _
      rw [List.append_assoc]
      exact (objInl_body_fills h hname hps hr (fun tvals xs hlT hg =>
        inlEntry_direct hr.lens hfb (distinct_of schemaOf_ObjectField) (distinct_of schemaOf_SObject)
          pi_ObjectField_object pi_SObject_properties specOf_SObject specOf_ObjectProperty hlT hg
          ((KeysIn.optVal _ _ _).fresh (by decide)) xs)).run (vals := []) (ks0 := []) (.nil _) rfl)

/-! ## `oneof { options }` -/

def oneofInlFacts (name : Str) (props : List CProperty) (hname : okString name = true)
    (hps : ∀ p ∈ props, PropHas p) : FieldFacts (.oneofInl name props [] false) :=
  .of [] [wOneof] [wOption] (fun _ _ => True)
    (mkMsgS sOneofField [])
    (mkMsgS sOneofField (childVal wOneof (msgOpt sSOneof (optVal (name != []) wName (sStr name) ++
      listVal b!"properties" (propsMsg j5Env props)))))
    (by
    refine (fieldOneof_eq (.oneofInl name props [] false) _).trans (congrArg _ ?_)
    rw [mkMsg_eq_mkMsgS schemaOf_OneofField, propsMsg_isEmpty j5Env props, inlVal_eq schemaOf_SOneof]
    rfl)
    rfl (fun _ => rfl) rfl rfl
    (fun outer root d _ =>
      ⟨typeScope outer (cfOf sOneofField specOneofField d) root, specOneofField, [], rfl, trivial,
        (walkQualifiers_nil).conv (freshMsg_eq_mkMsgS _)⟩)
    (fun sc pfx a b C hr hsc => by
      have hd := distinct_of schemaOf_OneofField
      have hdI := distinct_of schemaOf_SOneof
      have hfb := findBlock_of_scopeAt hsc (List.mem_singleton.mpr rfl)
        (show blockPath wOption sOneofField specOneofField = some [wOneof, b!"properties"] from rfl)
      show Exact (doBody j5Env sc (rulesBcl pfx [] ++ inlNameBcl pfx wOneof name ++ propsBcl wOption props)) _ _ _ _
      rw [show rulesBcl pfx [] = [] from rfl, List.nil_append]
      exact (inlDecl_fills hr hd (cn := wOneof) (List.mem_singleton.mpr rfl) (by decide) rfl pi_OneofField_oneof
        specOf_SOneof (grp := [b!"ref"]) grp_OneofField (an := b!"properties")
        (fun hrO => inlName_fills hrO hdI rfl pi_SOneof_name hname) rfl
        (fun tvals hlT hg hlI => inlProps_steps (kw := wOption) (by decide) hd hdI pi_OneofField_oneof
          pi_SOneof_properties hr.lens hlT hlI (fun xs =>
            inlEntry_direct hr.lens hfb hd hdI pi_OneofField_oneof pi_SOneof_properties specOf_SOneof
              specOf_ObjectProperty hlT hg hlI xs) props hps)).run (vals := []) (ks0 := []) (.nil _) rfl)

/-!
## Arrays of inline objects (`field xs array:object { field … }`)

The `field` blocks of the item are found in the ARRAY block (it comes first in the scope), through its alias
`field → [items, object, object, properties]`: the first two steps take cached wrappers (the qualifier
`:object` created them), the last two are the steps of the item's own alias. `arrayObjInlFacts`.
-/

/-- `ChildBlock(field)` resolved by the array block at `a ++ b`: four steps down to a new property of the
inline object of the item type (`ObjectField` at `a ++ b ++ [1, 2]`) -/
theorem arrEntry_exact {sc : Scope} {a b : Addr} {C : Option Node → Node} (hl : Lens (fun Y => C (some Y)) b)
    (hfb : findBlock wField sc.blockSet =
      some (cfOf sArrayField specArrayField (a ++ b), [wItems, wObject, wObject, b!"properties"]))
    {avals tvals ivals : List (Str × Node)} (hlT : lookupVal wObject tvals = none)
    (hgrp : ∀ q ∈ sObjectField.props, q.oneofGroup = some gObjectFieldSchema → some gObjectFieldSchema ≠ none →
      lookupVal q.name tvals = none)
    (hlI : lookupVal b!"properties" ivals = none) (xs : List Node) :
    Exact (childBlock j5Env sc wField) a
      (C (some (mkMsgS sArrayField ((wItems, mkMsgS sField
        [(wObject, inlT sObjectField wObject sSObject b!"properties" tvals ivals xs)]) :: avals))))
      (Scope.newChild (propCF (a ++ (b ++ [1] ++ [2] ++ ([1] ++ ([3] ++ [xs.length]))))))
      (C (some (mkMsgS sArrayField ((wItems, mkMsgS sField
        [(wObject, inlT' sObjectField wObject sSObject b!"properties" tvals ivals xs (freshMsg sObjectProperty))]) ::
          avals)))) := by
  have hdA := distinct_of schemaOf_ArrayField
  have hdF := distinct_of schemaOf_Field
  -- two cached steps, `items` and `object`, then the alias of the object field itself
  have hwp := Exact.lens hl (walkPath_cachedS (spec := specArrayField) (c := a ++ b) (vals1 := []) (vals2 := avals) hdA
    pi_ArrayField_items rfl
    (walkRest_cons (walkPath_cachedS (spec := BlockSpec.empty) (vals1 := []) (vals2 := []) hdF pi_Field_object rfl
      (walkRest_cons (innerWalkPath_exact (specT := BlockSpec.empty) (d := a ++ b ++ [1] ++ [2])
        (distinct_of schemaOf_ObjectField) (distinct_of schemaOf_SObject) pi_ObjectField_object
        pi_SObject_properties hlT hgrp hlI xs)))))
  have hc := childBlock_of_walkPath hfb hwp
    (setSpecs_cons (specOf_ObjectProperty _) (setSpecs_cons (specOf_SObject _)
      (setSpecs_cons (specOf_of_nil specOf_ObjectField0 _) (setSpecs_cons (specOf_Field _) (setSpecs_nil)))))
  have haddr : a ++ b ++ [1] ++ [2] ++ [1, 3, xs.length] =
      a ++ (b ++ [1] ++ [2] ++ ([1] ++ ([3] ++ [xs.length]))) := by simp
  rw [haddr] at hc
  exact hc

def arrayObjInlFacts (name : Str) (props : List CProperty) (flatten : Bool) (rulesI : J5V.Compile.Rules)
    (hI : rulesOk j5Env b!"j5.schema.v1.ObjectField" rulesI = true) (hname : okString name = true)
    (hps : ∀ p ∈ props, PropHas p) (rules : J5V.Compile.Rules)
    (h : rulesOk j5Env b!"j5.schema.v1.ArrayField" rules = true) :
    FieldFacts (.array (.objectInl name props flatten rulesI) rules) :=
  arrayFactsWithS (objectInlFacts name props flatten rulesI hI hname hps) rfl rules (by
    intro sc pfx a b C hr hsc
    have hdA := distinct_of schemaOf_ArrayField
    have hdF := distinct_of schemaOf_Field
    -- the array's own rules
    have h1 := (hr.fillsRules (by simp) rulesRow_Array h).run (vals := [(wItems, mkMsgS sField
      [(wObject, mkMsgS sObjectField [])])]) (ks0 := [wItems]) (.single _ _) rfl
    -- the item's lines, through `items.object`
    have hr1 := hr.touchedS hdA (vals1 := []) (vals2 := rulesVals j5Env b!"j5.schema.v1.ArrayField" rules)
      (n := wItems) (by simp) (by decide) rfl pi_ArrayField_items specOf_Field rfl
    have hr2 := hr1.touchedS hdF (vals1 := []) (vals2 := []) (n := wObject) trivial (by decide) rfl pi_Field_object
      (fun c => specOf_of_nil specOf_ObjectField0 c) rfl
    -- the `field` blocks: resolved by the array block
    have hfb := findBlock_of_scopeAt hsc (List.mem_singleton.mpr rfl)
      (show blockPath wField sArrayField specArrayField = some [wItems, wObject, wObject, b!"properties"] from rfl)
    have h2 := (objInl_body_fills (name := name) (props := props) (flatten := flatten) hI hname hps
      (hr2.mono (fun _ _ => trivial))
      (fun tvals xs hlT hg => arrEntry_exact hr.lens hfb hlT hg ((KeysIn.optVal _ _ _).fresh (by decide)) xs)).run
        (vals := []) (ks0 := []) (.nil _) rfl
    have hkey : pfx ++ [wItems] ++ [wObject] = pfx ++ [wItems, wObject] := by simp
    rw [hkey] at h2
    show Exact (doBody j5Env sc (rulesBcl pfx rules ++ (rulesBcl (pfx ++ [wItems, wObject]) rulesI ++
      flattenBcl (pfx ++ [wItems, wObject]) flatten ++ inlNameBcl (pfx ++ [wItems, wObject]) wObject name ++
      propsBcl wField props))) _ _ _ _
    rw [List.append_assoc (rulesBcl (pfx ++ [wItems, wObject]) rulesI ++ flattenBcl (pfx ++ [wItems, wObject]) flatten)]
    exact (doBody_append h1 h2).conv (congrArg (fun X => C (some X))
      (mkMsgS_rotate _ _ ((KeysIn.rulesVals _ rules).fresh (by decide)))))

/-!
## Inline enum fields (`field x enum { enum.name = … option A … }`)

`optionBlock_exact` (the block `option NAME`, also used by top-level enums), `enumInlFacts`.
-/

/-- the block `option NAME`, given how its keyword enters a new `Enum_Option` element at `a ++ e'` -/
theorem optionBlock_exact {o : Str} (ho : isIdent o = true) {sc : Scope} {a e' : Addr} {F : Node → Node}
    (hl : Lens F e') {X : Node}
    (hcb : Exact (childBlock j5Env sc wOption) a X
      (Scope.newChild (cfOf sEnumOption specEnumOption (a ++ e'))) (F (freshMsg sEnumOption))) :
    Exact (doStatement j5Env sc (optionBcl o)) a X () (F (enumOptionMsg j5Env o)) := by
  rw [enumOptionMsg, mkMsg_eq_mkMsgS schemaOf_EnumOption, ← storeNode_str]
  exact blockStmt_exact (by decide) hcb
    (Exact.lens hl (doBlockHead_exact (spec2 := specEnumOption) rfl
      (walkTags_name (ns := ⟨wName, none, none, true, false⟩)
        (show specEnumOption.name = _ by decide +kernel) (show specEnumOption.typeSelect = none by decide +kernel)
        (nameTag_exactS (distinct_of schemaOf_EnumOption) (findBlock_head rfl) pi_EnumOption_name ho))
      (walkQualifiers_nil)))
    (doBody_nil)

theorem enumOptions_steps {sc : Scope} {sT : Schema} {specT : BlockSpec}
    {a b : Addr} {C : Option Node → Node} (hl : Lens (fun Y => C (some Y)) b)
    {cn an : Str} {ci ai : Nat} {og : Option (Str × List Nat)} {sI : Schema} {specI : BlockSpec}
    (hfb : findBlock wOption sc.blockSet = some (cfOf sT specT (a ++ b), [cn, an]))
    (hdT : sT.namesDistinct = true) (hdI : sI.namesDistinct = true)
    (hpiC : propInfo j5Env sT cn = some (ci, og, .container sI))
    (hpiA : propInfo j5Env sI an = some (ai, none, .arrayOfContainer sEnumOption))
    (hspecI : ∀ c, specOf j5Env ⟨c, .msg sI⟩ = .ok specI)
    {tvals ivals : List (Str × Node)} (hlT : lookupVal cn tvals = none)
    (hgrp : ∀ q ∈ sT.props, q.oneofGroup = og → og ≠ none → lookupVal q.name tvals = none)
    (hlI : lookupVal an ivals = none) (opts : List Str) (hopts : opts.all isIdent = true) :
    StepsAll j5Env sc a (fun xs => C (some (inlT sT cn sI an tvals ivals xs)))
      (opts.map optionBcl) (opts.map (enumOptionMsg j5Env)) := by
  refine stepsAll_map _ _ _ (fun o ho xs => ?_)
  rw [← inlT'_eq]
  exact optionBlock_exact (List.all_eq_true.mp hopts o ho) (Lens.comp hl (inlElem_lens hdT hdI hpiC hpiA hlT hlI xs))
    (inlEntry_direct hl hfb hdT hdI hpiC hpiA hspecI specOf_EnumOption hlT hgrp hlI xs)

/-- the entry of an inline enum as the printer lists it: written iff it has a name, a prefix or an option -/
theorem enumInlVal_eq (c1 c2 : Bool) (v1 v2 : Node) (ps : List Node) :
    optVal (c1 || c2 || !ps.isEmpty) wEnum
        (mkMsgS sSEnum (optVal c1 wName v1 ++ optVal c2 b!"prefix" v2 ++ listVal b!"options" ps)) =
      childVal wEnum (msgOpt sSEnum (optVal c1 wName v1 ++ optVal c2 b!"prefix" v2 ++ listVal b!"options" ps)) := by
  cases c1 <;> cases c2 <;> cases ps <;> rfl

def enumInlFacts (e : J5V.Compile.EnumDecl) (rules : J5V.Compile.Rules) (lr : Option (List Str))
    (h : rulesOk j5Env b!"j5.schema.v1.EnumField" rules = true) (hlr : listRulesOk lr = true)
    (he : enumDeclOk false e = true) : FieldFacts (.enumInl e rules lr) :=
  .of [] [wRules, b!"listRules", wEnum] [wOption] (fun _ _ => True)
    (mkMsgS sEnumField [])
    (mkMsgS sEnumField (rulesVals j5Env b!"j5.schema.v1.EnumField" rules ++ listRulesVals j5Env lr ++
      childVal wEnum (msgOpt sSEnum (optVal (e.name != []) wName (sStr e.name) ++
        optVal (e.pfx != []) b!"prefix" (sStr e.pfx) ++ listVal b!"options" (e.opts.map (enumOptionMsg j5Env))))))
    (by
    refine (fieldOneof_eq (.enumInl e rules lr) _).trans (congrArg _ ?_)
    obtain ⟨name, epfx, opts⟩ := e
    have hemp : opts.isEmpty = (opts.map (enumOptionMsg j5Env)).isEmpty := by cases opts <;> rfl
    simp only [enumMsg]
    rw [mkMsg_eq_mkMsgS schemaOf_EnumField, mkMsg_eq_mkMsgS schemaOf_SEnum, hemp, enumInlVal_eq])
    rfl (fun _ => rfl) rfl rfl
    (fun outer root d _ =>
      ⟨typeScope outer (cfOf sEnumField specEnumField d) root, specEnumField, [], rfl, trivial,
        (walkQualifiers_nil).conv (freshMsg_eq_mkMsgS _)⟩)
    (by
    intro sc pfx a b C hr hsc
    obtain ⟨name, epfx, opts⟩ := e
    simp only [enumDeclOk, Bool.false_eq_true, if_false, Bool.and_eq_true] at he
    obtain ⟨⟨hname, hepfx⟩, hopts⟩ := he
    have hd := distinct_of schemaOf_EnumField
    have hdI := distinct_of schemaOf_SEnum
    have hfb := findBlock_of_scopeAt hsc (List.mem_singleton.mpr rfl)
      (show blockPath wOption sEnumField specEnumField = some [wEnum, b!"options"] from rfl)
    show Exact (doBody j5Env sc (rulesBcl pfx rules ++ listRulesBcl pfx lr ++
      (inlNameBcl pfx wEnum name ++
        (if epfx = [] then [] else [assignStmt (pfx ++ [wEnum, b!"prefix"]) (strValue epfx)]) ++
        opts.map optionBcl))) _ _ _ _
    exact (((hr.fillsRules (by simp) rulesRow_Enum h).append (listRules_fills hr hd (by simp) rfl pi_EnumField_listRules lr hlr) rfl).append
      (inlDecl_fills hr hd (cn := wEnum) (by simp) (by decide) rfl pi_EnumField_enum specOf_SEnum
        (grp := [b!"ref"]) grp_EnumField (an := b!"options")
        (fun hrO => (inlName_fills hrO hdI rfl pi_SEnum_name hname).append (by
          have h4 := hrO.fillsOptStr (Presents.msgOpt _) hdI (n := b!"prefix") trivial (by decide) rfl
            pi_SEnum_prefix hepfx
          have hkeyP : pfx ++ [wEnum] ++ [b!"prefix"] = pfx ++ [wEnum, b!"prefix"] := by simp
          rw [hkeyP] at h4
          exact h4) rfl) rfl
        (fun tvals hlT hg hlI => enumOptions_steps hr.lens hfb hd hdI pi_EnumField_enum pi_SEnum_options
          specOf_SEnum hlT hg hlI opts hopts)) rfl).run (vals := []) (ks0 := []) (.nil _) rfl)

/-!
## `fieldOk5`, `facts5`: every field of the covered fragment (the recursion over the nested AST)

`fieldOk5` / `propOk5` / `propsOk5` are `fieldOk j5Env` / `propOk j5Env` / `propsOk j5Env` (`fieldOk5_eq`,
`propsOk5_eq`); the facts are stated with them, callers that hold the covered fragment's predicate convert.
-/

def isObjectInl : CField → Bool
  | .objectInl .. => true
  | _ => false

mutual
def fieldOk5 : CField → Bool
  | .objectInl name props _ rules =>
    rulesOk j5Env b!"j5.schema.v1.ObjectField" rules && okString name && propsOk5 props
  | .oneofInl name props rules l =>
    !l && rulesOk j5Env b!"j5.schema.v1.OneofField" rules && okString name && propsOk5 props
  | .enumInl e rules lr =>
    rulesOk j5Env b!"j5.schema.v1.EnumField" rules && listRulesOk lr && enumDeclOk false e
  | .array items rules =>
    rulesOk j5Env b!"j5.schema.v1.ArrayField" rules && !isCollection items && fieldOk5 items
  | .map items rules => rulesOk j5Env b!"j5.schema.v1.MapField" rules && !isCollection items && fieldOk5 items
  | .objectRef pkg schema fl rules => fieldOk3 (.objectRef pkg schema fl rules)
  | .oneofRef pkg schema rules l => fieldOk3 (.oneofRef pkg schema rules l)
  | .enumRef pkg schema rules lr => fieldOk3 (.enumRef pkg schema rules lr)
  | .string rules l => fieldOk3 (.string rules l)
  | .bool rules l => fieldOk3 (.bool rules l)
  | .bytes rules => fieldOk3 (.bytes rules)
  | .date rules l => fieldOk3 (.date rules l)
  | .decimal rules l => fieldOk3 (.decimal rules l)
  | .timestamp rules => fieldOk3 (.timestamp rules)
  | .any => true
  | .integer fmt rules l => fieldOk3 (.integer fmt rules l)
  | .float fmt rules l => fieldOk3 (.float fmt rules l)
  | .key fmt ek rules l => fieldOk3 (.key fmt ek rules l)

def propOk5 : CProperty → Bool
  | .mk name _ _ f => isIdent name && fieldOk5 f

def propsOk5 : List CProperty → Bool
  | [] => true
  | p :: ps => propOk5 p && propsOk5 ps
end

def blockNamesOf : CField → List Str
  | .objectInl .. => [wField]
  | .oneofInl .. => [wOption]
  | .enumInl .. => [wOption]
  | .array items _ => blockNamesOf items
  | .map items _ => blockNamesOf items
  | _ => []

theorem blockNamesOf_noField {items : CField} (hc : isCollection items = false) (ho : isObjectInl items = false) :
    wField ∉ blockNamesOf items := by
  cases items <;> first | (cases hc; done) | (cases ho; done) | (simp [blockNamesOf]; done) |
    (simp only [blockNamesOf, List.mem_singleton]; decide)

mutual
theorem facts5 : (f : CField) → fieldOk5 f = true → ∃ ff : FieldFacts f, ff.blockNames = blockNamesOf f
  | .objectInl name props flatten rules, h => by
    simp only [fieldOk5, Bool.and_eq_true] at h
    exact ⟨objectInlFacts name props flatten rules h.1.1 h.1.2 (propsHas5 props h.2), rfl⟩
  | .oneofInl name props rules l, h => by
    simp only [fieldOk5, Bool.and_eq_true, Bool.not_eq_true'] at h
    obtain ⟨⟨⟨hl, hr⟩, hname⟩, hps⟩ := h
    have hnil := rulesRow_Oneof.nil_of_no_props rfl hr
    subst hnil
    subst hl
    exact ⟨oneofInlFacts name props hname (propsHas5 props hps), rfl⟩
  | .enumInl e rules lr, h => by
    simp only [fieldOk5, Bool.and_eq_true] at h
    exact ⟨enumInlFacts e rules lr h.1.1 h.1.2 h.2, rfl⟩
  | .array items rules, h => by
    simp only [fieldOk5, Bool.and_eq_true, Bool.not_eq_true'] at h
    obtain ⟨⟨hr, hnc⟩, hi⟩ := h
    cases hio : isObjectInl items with
    | false =>
      obtain ⟨ffi, hb⟩ := facts5 items hi
      exact ⟨arrayFacts ffi hnc (by rw [hb]; exact blockNamesOf_noField hnc hio) rules hr, hb⟩
    | true =>
      cases items with
      | objectInl name props flatten rulesI =>
        simp only [fieldOk5, Bool.and_eq_true] at hi
        exact ⟨arrayObjInlFacts name props flatten rulesI hi.1.1 hi.1.2 (propsHas5 props hi.2) rules hr, rfl⟩
      | _ => cases hio
  | .map items rules, h => by
    simp only [fieldOk5, Bool.and_eq_true, Bool.not_eq_true'] at h
    obtain ⟨⟨hr, hnc⟩, hi⟩ := h
    obtain ⟨ffi, hb⟩ := facts5 items hi
    exact ⟨mapFacts ffi hnc rules hr, hb⟩
  | .objectRef .., h | .oneofRef .., h | .enumRef .., h | .string .., h | .bool .., h | .bytes .., h | .date .., h
  | .decimal .., h | .timestamp .., h | .integer .., h | .float .., h | .key .., h =>
    facts3 (by simpa only [fieldOk5] using h)
  | .any, _ => facts3 rfl

theorem propHas5 : (p : CProperty) → propOk5 p = true → PropHas p
  | .mk name _ _ f, h => by
    simp only [propOk5, Bool.and_eq_true] at h
    obtain ⟨ff, _⟩ := facts5 f h.2
    exact ⟨h.1, ⟨ff⟩⟩

theorem propsHas5 : (ps : List CProperty) → propsOk5 ps = true → ∀ p ∈ ps, PropHas p
  | [], _ => by intro p hp; cases hp
  | q :: ps, h => by
    simp only [propsOk5, Bool.and_eq_true] at h
    intro p hp
    rcases List.mem_cons.mp hp with hpq | hp
    · rw [hpq]; exact propHas5 q h.1
    · exact propsHas5 ps h.2 p hp
end

mutual
theorem fieldOk5_eq : (f : CField) → fieldOk5 f = fieldOk j5Env f
  | .objectInl name props flatten rules => by simp only [fieldOk5, fieldOk, propsOk5_eq props]
  | .oneofInl name props rules l => by simp only [fieldOk5, fieldOk, propsOk5_eq props]
  | .enumInl e rules lr => by simp only [fieldOk5, fieldOk]
  | .array items rules => by simp only [fieldOk5, fieldOk, fieldOk5_eq items]
  | .map items rules => by simp only [fieldOk5, fieldOk, fieldOk5_eq items]
  | .objectRef .. | .oneofRef .. | .enumRef .. | .string .. | .bool .. | .bytes .. | .date .. | .decimal ..
  | .timestamp .. | .any | .integer .. | .float .. | .key .. => rfl

theorem propsOk5_eq : (ps : List CProperty) → propsOk5 ps = propsOk j5Env ps
  | [] => rfl
  | .mk name req opt f :: ps => by
    simp only [propsOk5, propOk5, propsOk, propOk, fieldOk5_eq f, propsOk5_eq ps]
end

theorem fieldOk_of_fieldOk5 : (f : CField) → fieldOk5 f = true → fieldOk j5Env f = true :=
  fun f h => fieldOk5_eq f ▸ h

theorem propsOk_of_propsOk5 : (ps : List CProperty) → propsOk5 ps = true → propsOk j5Env ps = true :=
  fun ps h => propsOk5_eq ps ▸ h

/-- `fieldOk5` accepts every field of the covered fragment -/
theorem fieldOk5_of_fieldOk : (f : CField) → fieldOk j5Env f = true → fieldOk5 f = true :=
  fun f h => (fieldOk5_eq f).symm ▸ h

theorem propsOk5_of_propsOk : (ps : List CProperty) → propsOk j5Env ps = true → propsOk5 ps = true :=
  fun ps h => (propsOk5_eq ps).symm ▸ h

end J5V.Walker
