import J5V.Walker.ScopeProofs
import J5V.Walker.Walk
/-!
# Kinds along a spec path in a ONE-BLOCK scope

In a scope `Scope.newChild cf` the walk of names is determined by the KIND of `cf.container`:
`childBlock` reaches the kind `childKind` computes, `scopeField` a field of the kind `fieldKindOf`
computes, `walkScope` the kind `walkChildKinds` computes. `splitPathOK_iff` restates `splitPathOK`
(the condition `Env.splitOK` puts on every path of a scalar split) in these terms.
-/
namespace J5V.Walker

/-- `childKind` along a list of names -/
def walkChildKinds (env : Env) : ContKind → List Str → Option ContKind
  | k, [] => some k
  | k, name :: rest =>
    match childKind env k name with
    | some k' => walkChildKinds env k' rest
    | none => none

theorem splitPathOK_iff (env : Env) (k : ContKind) (path : PathSpec) :
    splitPathOK env k path = true ↔
      ∃ last k' t pr, path.getLast? = some last ∧ walkChildKinds env k path.dropLast = some k' ∧
        fieldKindOf env k' last = some (.scalar t pr) := by
  induction path generalizing k with
  | nil => simp [splitPathOK]
  | cons name rest ih =>
    cases rest with
    | nil =>
      simp only [splitPathOK, List.getLast?_singleton, Option.some.injEq, List.dropLast_singleton,
        walkChildKinds]
      constructor
      · intro h
        split at h
        · rename_i t pr hk; exact ⟨name, k, t, pr, rfl, rfl, hk⟩
        · cases h
      · rintro ⟨last, k', t, pr, rfl, hk', hf⟩
        cases hk'
        rw [hf]
    | cons name2 rest2 =>
      have hdl : (name :: name2 :: rest2).dropLast = name :: (name2 :: rest2).dropLast := rfl
      have hgl : (name :: name2 :: rest2).getLast? = (name2 :: rest2).getLast? := by
        simp [List.getLast?_cons_cons]
      rw [hdl, hgl]
      simp only [splitPathOK, walkChildKinds]
      cases hck : childKind env k name with
      | none => simp
      | some k1 => simp only; exact ih k1

/-- in a one-block scope `findBlock` is `resolveName` of the block's kind -/
theorem findBlock_newChild {env : Env} {st : Node} {cf : ContainerField} {name : Str}
    (h : ContainerFieldOK env st cf) {root : ContainerField} {path : PathSpec}
    (hf : findBlock name (Scope.newChild cf).blockSet = some (root, path)) :
    root = cf ∧ resolveName env cf.container.kind name = some path := by
  have hmem := (findBlock_some hf).1
  simp only [Scope.newChild, List.mem_singleton] at hmem
  subst hmem
  have := findBlock_single (name := name) h.2.2
  simp only [Scope.newChild] at hf
  rw [hf] at this
  exact ⟨rfl, this.symm⟩

/-- `childBlock` in a one-block scope reaches `childKind` -/
theorem childBlock_single_spec {env : Env} (hwf : env.WF = true) (cf : ContainerField) (name : Str) :
    MSpec env (childBlock env (Scope.newChild cf) name) (fun st => ContainerFieldOK env st cf)
      (fun sc _ st' => ContainerFieldOK env st' sc.leaf ∧ sc = Scope.newChild sc.leaf ∧
        childKind env cf.container.kind name = some sc.leaf.container.kind)
      NoPos := by
  intro st hst hpre
  have := childBlock_spec hwf (Scope.newChild cf) name st hst (ScopeOK.newChild hpre)
  refine this.imp ?_ (fun _ h => h)
  rintro sc st' ⟨htree, hext, hsc, hnew, root, path, hfb, hk⟩
  obtain ⟨rfl, hres⟩ := findBlock_newChild hpre hfb
  refine ⟨htree, hext, hsc.2.2.1, hnew, ?_⟩
  simp only [childKind, hres]
  exact hk

/-- `scopeField` in a one-block scope returns a field of the kind `fieldKindOf` computes -/
theorem scopeField_single_spec {env : Env} (hwf : env.WF = true) (cf : ContainerField) (name : Str)
    (existingIsOk : Bool) :
    MSpec env (scopeField env (Scope.newChild cf) name existingIsOk) (fun st => ContainerFieldOK env st cf)
      (fun f _ st' => FieldOK env st' f ∧ fieldKindOf env cf.container.kind name = some f.kind)
      NoPos := by
  intro st hst hpre
  have := scopeField_spec hwf (Scope.newChild cf) name existingIsOk st hst (ScopeOK.newChild hpre)
  -- the `hasProperty` test of `scopeField` is the one of `fieldKindOf`: a field was returned, so it passed
  refine this.imp ?_ (fun _ h => h)
  rintro f st' ⟨htree, hext, hf, root, path, final, k', hfb, hl, hwk, hkv⟩
  obtain ⟨rfl, hres⟩ := findBlock_newChild hpre hfb
  refine ⟨htree, hext, hf, ?_⟩
  simp only [fieldKindOf, hres, hl, hwk]
  split
  · exact hkv
  · -- `kindOfValue` answers `some` only for a name the container has
    rename_i hnp
    exfalso
    apply hnp
    cases k' with
    | map n item => rfl
    | msg s =>
      simp only [kindOfValue] at hkv
      simp only [Cont.hasProperty, Schema.hasProperty]
      cases hfp : findProp final 0 s.props with
      | none => rw [hfp] at hkv; cases hkv
      | some ip => rfl

/-- `walkScope` over spec-supplied names (no position) in a one-block scope: the kind reached is
`walkChildKinds`; errors carry no position -/
theorem walkScope_single_spec {env : Env} (hwf : env.WF = true) :
    ∀ (names : List Str) (cf : ContainerField),
      MSpec env (walkScope env (Scope.newChild cf) (names.map fun n => ⟨n, none⟩))
        (fun st => ContainerFieldOK env st cf)
        (fun sc _ st' => ContainerFieldOK env st' sc.leaf ∧ sc = Scope.newChild sc.leaf ∧
          walkChildKinds env cf.container.kind names = some sc.leaf.container.kind)
        NoPos := by
  intro names
  induction names with
  | nil =>
    intro cf
    exact MSpec.pure (fun _ _ h => ⟨h, rfl, rfl⟩)
  | cons name rest ih =>
    intro cf st hst hpre
    have hcb := childBlock_single_spec hwf cf name
    show (walkScope env (Scope.newChild cf) (⟨name, none⟩ :: rest.map fun n => ⟨n, none⟩) st).Sat _ _
    simp only [walkScope]
    cases hr : childBlock env (Scope.newChild cf) name st with
    | panic w => exact absurd hr (hcb.no_panic hst hpre)
    | err werr => exact (hcb.err hst hpre hr).wrapped
    | ok r =>
      obtain ⟨next, st1⟩ := r
      obtain ⟨ht1, he1, hleaf, hnew, hk⟩ := hcb.ok hst hpre hr
      have := ih next.leaf st1 ht1 hleaf
      rw [← hnew] at this
      refine this.imp ?_ (fun _ h => h)
      rintro sc st' ⟨htree, hext, hleaf', hnew', hkinds⟩
      refine ⟨htree, he1.trans hext, hleaf', hnew', ?_⟩
      simp only [walkChildKinds, hk]
      exact hkinds

end J5V.Walker
