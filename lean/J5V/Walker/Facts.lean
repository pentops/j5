import J5V.Walker.Types
import J5V.Generated.WalkerspecFacts
import J5V.Generated.WalkerschemaFacts
/-!
# Conversion of the generated facts into the model's `Env` (core only)

`WalkerschemaFacts.lean` (the j5 schema closure of `SourceFile`) and `WalkerspecFacts.lean` (the
literal `J5SchemaSpec`) are regenerated from the source on every check run; this file only CONVERTS
their values (strings to bytes, `RawBlock` to what `convertBlocks` builds). `j5Env` is the only
environment-specific definition of the walker model (`Types` … `Walk` take an arbitrary `Env`); the printer side
(`Print.lean`: `toMsg`, `supported`) and the theorems for j5s files are stated for it.
-/
namespace J5V.Walker
open J5V.Generated

def convKind : Walkerschema.ScalarKind → ScalarKind
  | .string => .string | .bool => .bool | .bytes => .bytes | .date => .date
  | .timestamp => .timestamp | .decimal => .decimal | .float32 => .float32 | .float64 => .float64
  | .int32 => .int32 | .int64 => .int64 | .uint32 => .uint32 | .uint64 => .uint64 | .key => .key

def convType : Walkerschema.FieldType → FieldType
  | .object r => .object (str r)
  | .oneof r => .oneof (str r)
  | .enum r => .enum (str r)
  | .any => .any
  | .scalar k => .scalar (convKind k)
  | .array i => .array (convType i)
  | .map i => .map (convType i)
  | .unknown => .unknown

def convProperty (p : Walkerschema.Property) : Property where
  name := str p.name
  required := p.required
  type := convType p.type
  singleForm := p.singleForm.map str
  arrayAlias := p.arrayAlias.map str
  presence := p.presence
  oneofGroup := p.protoOneof.map fun g => (str g, p.protoNumbers.dropLast)

def convSchema (s : Walkerschema.Schema) : Schema :=
  ⟨str s.name, s.isOneof, s.props.map convProperty⟩

def convEnum (e : Walkerschema.Enum) : EnumDef :=
  ⟨str e.name, str e.prefix, e.options.map fun o => ⟨str o.name, o.number⟩⟩

/-- `convertTag` -/
def convTag (t : Walkerspec.RawTag) : Tag :=
  ⟨str t.fieldName, t.bang.map str, t.question.map str, t.optional, t.isBlock⟩

def convSplit (s : Walkerspec.RawSplit) : ScalarSplit :=
  ⟨s.delimiter.map str, s.rightToLeft, s.required.map (·.map str), s.optional.map (·.map str),
    s.remainder.map (·.map str)⟩

/-- the alias map of `convertBlocks`: `aliases[alias.Name] = alias.Path.Path` in literal order -/
def convAliases : List (String × List String) → List (Str × PathSpec) → List (Str × PathSpec)
  | [], acc => acc
  | (n, p) :: rest, acc => convAliases rest (aliasInsert (str n) (p.map str) acc)

/-- one iteration of `convertBlocks` -/
def convBlock (b : Walkerspec.RawBlock) : GivenBlock :=
  ⟨str b.schemaName,
    { description := b.description.map str
      aliases := convAliases b.aliases []
      name := b.name.map convTag
      typeSelect := b.typeSelect.map convTag
      qualifier := b.qualifier.map convTag
      onlyDefined := b.onlyExplicit
      scalarSplit := b.scalarSplit.map convSplit }⟩

/-- the environment of the j5s parser: `J5SchemaSpec` over the closure of `SourceFile` -/
def j5Env : Env where
  root := str Walkerschema.rootSchema
  schemas := Walkerschema.schemas.map convSchema
  enums := Walkerschema.enums.map convEnum
  given := Walkerspec.blocks.map convBlock

/-- what the extractors could not represent (the obligations want all three empty) -/
def factsProblems : List String :=
  Walkerschema.problems ++ Walkerspec.fileUnknown ++ Walkerspec.blocks.flatMap (·.unknown)

end J5V.Walker
