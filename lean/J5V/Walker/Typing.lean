import J5V.Walker.WalkSpec
import J5V.Walker.StateLemmas
/-!
# The typing invariant of the tree and the validity of containers / fields / scopes

(`typeAtFrom`, `VOK`, `Ext` themselves: `WalkSpec.lean`.)

* `typeAtFrom env t a` / `env.typeAt a`: the TYPE of the slot at address `a` — a function of the schema
  and the address only (a message of schema `s` has the slot `i` of type `s.props[i].type`, the
  elements of an array / a map have the item type). The state is not involved.
* `VOK env t touched n`: the node `n` is a value of type `t` (`touched = true`: the slot has been
  touched, so a container-typed slot is not `.absent` — this is what the cached-wrapper arm of
  `propSetValue` relies on). Slots of a non-container type (scalar, enum, any) hold anything.
  `TreeOK env root` = the root is a message of the root schema.
* `Ext env st st'`: the tree only grows — every address that has a type and is valid in `st` is valid
  in `st'`, and at a container-typed address a message stays a message, a list a list, a map a map.
  (With `TreeOK` on both sides this gives: messages keep schema and length, lists / maps only grow.)
* `ContOK`, `FieldOK`, `ContainerFieldOK` (`ContainerFieldOK0`: before `setSpecs`), `ScopeOK`: what the interpreter
  holds points into the current tree at a slot of the right type holding a node of the right shape. All are
  preserved along `Ext` (`*.ext`; `Stable`).
* consequences of `Env.WF` for slot types at the end. The triple `MSpec` is in `Hoare.lean`.
-/
namespace J5V.Walker

/-! ## The type of an address -/

@[simp] theorem typeAtFrom_nil (env : Env) (t : FieldType) : typeAtFrom env t [] = some t := rfl

theorem typeAtFrom_cons (env : Env) (t : FieldType) (i : Nat) (rest : Addr) :
    typeAtFrom env t (i :: rest) = (t.child env i).bind (fun t' => typeAtFrom env t' rest) := by
  simp only [typeAtFrom]; cases t.child env i <;> rfl

theorem typeAtFrom_cons_some {env : Env} {t t' : FieldType} {i : Nat} {rest : Addr} :
    typeAtFrom env t (i :: rest) = some t' ↔
      ∃ t1, t.child env i = some t1 ∧ typeAtFrom env t1 rest = some t' := by
  rw [typeAtFrom_cons, Option.bind_eq_some_iff]

theorem typeAtFrom_append (env : Env) (t : FieldType) (a b : Addr) :
    typeAtFrom env t (a ++ b) = (typeAtFrom env t a).bind (fun t' => typeAtFrom env t' b) := by
  induction a generalizing t with
  | nil => simp
  | cons i rest ih =>
    rw [List.cons_append, typeAtFrom_cons, typeAtFrom_cons]
    cases t.child env i with
    | none => rfl
    | some t' => simp [ih]

theorem Env.typeAt_append (env : Env) (a b : Addr) :
    env.typeAt (a ++ b) = (env.typeAt a).bind (fun t' => typeAtFrom env t' b) :=
  typeAtFrom_append env _ a b

theorem FieldType.child_msgSchema {env : Env} {t : FieldType} {s : Schema} (h : t.msgSchema env = some s)
    (i : Nat) : t.child env i = (s.props[i]?).map (·.type) := by
  cases t <;> simp [FieldType.msgSchema] at h <;> subst h <;> rfl

theorem FieldType.isContainer_of_msgSchema {env : Env} {t : FieldType} {s : Schema}
    (h : t.msgSchema env = some s) : t.isContainer = true := by
  cases t <;> simp [FieldType.msgSchema] at h <;> rfl

theorem FieldType.child_none_of_not_container {env : Env} {t : FieldType} (h : t.isContainer = false)
    (i : Nat) : t.child env i = none := by
  cases t <;> simp [FieldType.isContainer] at h <;> rfl

theorem Env.typeAt_child {env : Env} {a : Addr} {t t' : FieldType} {i : Nat}
    (ht : env.typeAt a = some t) (hc : t.child env i = some t') : env.typeAt (a ++ [i]) = some t' := by
  rw [Env.typeAt_append, ht]
  simp [typeAtFrom_cons, hc]

/-- the type of the slot of property `i` of a message at `a` -/
theorem Env.typeAt_prop {env : Env} {a : Addr} {t : FieldType} {s : Schema} {i : Nat} {p : Property}
    (ht : env.typeAt a = some t) (hs : t.msgSchema env = some s) (hp : s.props[i]? = some p) :
    env.typeAt (a ++ [i]) = some p.type :=
  Env.typeAt_child ht (by rw [FieldType.child_msgSchema hs, hp]; rfl)

/-! ## Typing -/

theorem VOK.of_msgOK {env : Env} {t : FieldType} {s : Schema} {b : Bool} {tc : List Bool} {ps : List Node}
    (ht : t.msgSchema env = some s) (h : MsgOK env s tc ps) : VOK env t b (.msg tc ps) :=
  VOK.msg t s b tc ps ht h.1 h.2.1 h.2.2

theorem VOK.msg_inv {env : Env} {t : FieldType} {s : Schema} {b : Bool} {tc : List Bool} {ps : List Node}
    (h : VOK env t b (.msg tc ps)) (ht : t.msgSchema env = some s) : MsgOK env s tc ps := by
  cases h with
  | leaf _ _ _ hl =>
    rw [FieldType.isContainer_of_msgSchema ht] at hl; cases hl
  | msg _ s' _ _ _ ht' h1 h2 h3 =>
    rw [ht] at ht'; cases ht'
    exact ⟨h1, h2, h3⟩

theorem VOK.list_inv {env : Env} {item : FieldType} {b : Bool} {xs : List Node}
    (h : VOK env (.array item) b (.list xs)) : ∀ c, c ∈ xs → VOK env item true c := by
  cases h with
  | leaf _ _ _ hl => cases hl
  | arr _ _ _ h => exact h

theorem VOK.map_inv {env : Env} {item : FieldType} {b : Bool} {ks : List Str} {vs : List Node}
    (h : VOK env (.map item) b (.map ks vs)) :
    ks.length = vs.length ∧ ∀ c, c ∈ vs → VOK env item true c := by
  cases h with
  | leaf _ _ _ hl => cases hl
  | map _ _ _ _ h1 h2 => exact ⟨h1, h2⟩

theorem VOK.msg_shape {env : Env} {t : FieldType} {s : Schema} {b : Bool} {n : Node}
    (h : VOK env t b n) (ht : t.msgSchema env = some s) :
    (n = .absent ∧ b = false) ∨ ∃ tc ps, n = .msg tc ps := by
  cases h with
  | absent => exact .inl ⟨rfl, rfl⟩
  | leaf _ _ _ hl => rw [FieldType.isContainer_of_msgSchema ht] at hl; cases hl
  | msg _ _ _ tc ps => exact .inr ⟨tc, ps, rfl⟩
  | arr | map => simp [FieldType.msgSchema] at ht

theorem VOK.list_shape {env : Env} {item : FieldType} {b : Bool} {n : Node}
    (h : VOK env (.array item) b n) : (n = .absent ∧ b = false) ∨ ∃ xs, n = .list xs := by
  cases h with
  | absent => exact .inl ⟨rfl, rfl⟩
  | leaf _ _ _ hl => cases hl
  | msg _ _ _ _ _ h0 => simp [FieldType.msgSchema] at h0
  | arr _ _ xs => exact .inr ⟨xs, rfl⟩

theorem VOK.map_shape {env : Env} {item : FieldType} {b : Bool} {n : Node}
    (h : VOK env (.map item) b n) : (n = .absent ∧ b = false) ∨ ∃ ks vs, n = .map ks vs := by
  cases h with
  | absent => exact .inl ⟨rfl, rfl⟩
  | leaf _ _ _ hl => cases hl
  | msg _ _ _ _ _ h0 => simp [FieldType.msgSchema] at h0
  | map _ _ ks vs => exact .inr ⟨ks, vs, rfl⟩

/-- only `.absent` in an untouched slot depends on the flag -/
theorem VOK.retouch {env : Env} {t : FieldType} {b b' : Bool} {n : Node} (h : VOK env t b n)
    (hb : b = false → n = .absent → b' = false) : VOK env t b' n := by
  cases h with
  | absent => rw [hb rfl rfl]; exact .absent _
  | leaf _ _ _ hl => exact .leaf _ _ _ hl
  | msg _ s _ _ _ h0 h1 h2 h3 => exact .msg _ s _ _ _ h0 h1 h2 h3
  | arr _ _ _ h => exact .arr _ _ _ h
  | map _ _ _ _ h1 h2 => exact .map _ _ _ _ h1 h2

/-- a touched value is a value -/
theorem VOK.weaken {env : Env} {t : FieldType} {b : Bool} {n : Node} (h : VOK env t true n) :
    VOK env t b n := h.retouch nofun

/-- a value that is not `.absent` is a touched value -/
theorem VOK.strengthen {env : Env} {t : FieldType} {b : Bool} {n : Node} (h : VOK env t b n)
    (hn : n ≠ .absent) : VOK env t true n := h.retouch fun _ e => absurd e hn

theorem VOK.untouch {env : Env} {t : FieldType} {b : Bool} {n : Node} (h : VOK env t b n) :
    VOK env t false n := h.retouch fun _ _ => rfl

/-- a new, empty message is a message -/
theorem MsgOK.fresh (env : Env) (s : Schema) :
    MsgOK env s (List.replicate s.props.length false) (List.replicate s.props.length .absent) := by
  refine ⟨by simp, by simp, ?_⟩
  intro i p tb c _ h2 h3
  rw [List.getElem?_replicate] at h2 h3
  by_cases hi : i < s.props.length
  · rw [if_pos hi] at h2 h3; cases h2; cases h3; exact .absent _
  · rw [if_neg hi] at h2; cases h2

theorem VOK.freshMsg {env : Env} {t : FieldType} {s : Schema} (b : Bool) (ht : t.msgSchema env = some s) :
    VOK env t b (freshMsg s) :=
  VOK.of_msgOK ht (MsgOK.fresh env s)

/-- the typing of a child -/
theorem VOK.child {env : Env} {t t' : FieldType} {b : Bool} {n c : Node} {i : Nat}
    (h : VOK env t b n) (ht : t.child env i = some t') (hc : n.children[i]? = some c) :
    ∃ b', VOK env t' b' c := by
  cases h with
  | absent => simp [Node.children] at hc
  | leaf _ _ _ hl => rw [FieldType.child_none_of_not_container hl] at ht; cases ht
  | msg _ s _ touched props h0 h1 h2 h3 =>
    rw [FieldType.child_msgSchema h0] at ht
    simp only [Node.children] at hc
    cases hp : s.props[i]? with
    | none => simp [hp] at ht
    | some p =>
      simp only [hp, Option.map_some, Option.some.injEq] at ht
      subst ht
      obtain ⟨tb, htb⟩ := getElem?_of_props hp h1
      exact ⟨tb, h3 i p _ c hp htb hc⟩
  | arr item _ xs h =>
    simp only [FieldType.child, Option.some.injEq] at ht
    subst ht
    exact ⟨true, h c (List.mem_of_getElem? hc)⟩
  | map item _ ks vs h1 h2 =>
    simp only [FieldType.child, Option.some.injEq] at ht
    subst ht
    exact ⟨true, h2 c (List.mem_of_getElem? hc)⟩

/-- the node at a typed address is a value of that type -/
theorem VOK.get {env : Env} {t t' : FieldType} {b : Bool} {n m : Node} {a : Addr}
    (h : VOK env t b n) (ht : typeAtFrom env t a = some t') (hm : n.get? a = some m) :
    ∃ b', VOK env t' b' m := by
  induction a generalizing t b n with
  | nil =>
    simp at ht hm; subst ht; subst hm; exact ⟨b, h⟩
  | cons i rest ih =>
    obtain ⟨t1, ht1, ht⟩ := typeAtFrom_cons_some.mp ht
    obtain ⟨c, hc, hm⟩ := Node.get?_cons_some.mp hm
    obtain ⟨b1, h1⟩ := h.child ht1 hc
    exact ih h1 ht hm

theorem mem_modifyNth {f : Node → Node} {l : List Node} {i : Nat} {c : Node}
    (h : c ∈ modifyNth f l i) : c ∈ l ∨ ∃ c0, l[i]? = some c0 ∧ c = f c0 := by
  obtain ⟨j, hj⟩ := List.getElem?_of_mem h
  rw [modifyNth_getElem?] at hj
  split at hj
  · rename_i e
    subst e
    cases hl : l[j]? with
    | none => simp [hl] at hj
    | some c0 =>
      simp only [hl, Option.map_some, Option.some.injEq] at hj
      exact .inr ⟨c0, rfl, hj.symm⟩
  · exact .inl (List.mem_of_getElem? hj)

/-- changing one child into a value of the same slot keeps the typing -/
theorem VOK.modify_child {env : Env} {t : FieldType} {b : Bool} {n : Node} {i : Nat} {f : Node → Node}
    (h : VOK env t b n)
    (hf : ∀ t' b' c, t.child env i = some t' → n.children[i]? = some c → VOK env t' b' c →
      VOK env t' b' (f c)) :
    VOK env t b (n.withChildren (modifyNth f n.children i)) := by
  cases h with
  | absent => exact .absent _
  | leaf _ _ _ hl => exact .leaf _ _ _ hl
  | msg _ s _ touched props h0 h1 h2 h3 =>
    refine .msg _ s _ _ _ h0 h1 (by simp [Node.children, modifyNth_length, h2]) ?_
    intro j p tb c hp htb hc
    simp only [Node.children] at hc hf
    rw [modifyNth_getElem?] at hc
    split at hc
    · rename_i e
      subst e
      cases hl : props[j]? with
      | none => simp [hl] at hc
      | some c0 =>
        simp only [hl, Option.map_some, Option.some.injEq] at hc
        subst hc
        apply hf p.type tb c0 _ hl (h3 j p tb c0 hp htb hl)
        rw [FieldType.child_msgSchema h0, hp]; rfl
    · exact h3 j p tb c hp htb hc
  | arr item _ xs h =>
    refine .arr _ _ _ ?_
    intro c hc
    simp only [Node.children] at hc hf
    rcases mem_modifyNth hc with hc | ⟨c0, h0, rfl⟩
    · exact h c hc
    · exact hf item true c0 rfl h0 (h c0 (List.mem_of_getElem? h0))
  | map item _ ks vs h1 h2 =>
    refine .map _ _ _ _ (by simp [Node.children, modifyNth_length, h1]) ?_
    intro c hc
    simp only [Node.children] at hc hf
    rcases mem_modifyNth hc with hc | ⟨c0, h0, rfl⟩
    · exact h2 c hc
    · exact hf item true c0 rfl h0 (h2 c0 (List.mem_of_getElem? h0))

/-- writing a (touched) value of the slot's type at a typed address keeps the typing -/
theorem VOK.set {env : Env} {t t' : FieldType} {b : Bool} {n v : Node} {a : Addr}
    (h : VOK env t b n) (ht : typeAtFrom env t a = some t') (hv : VOK env t' true v) :
    VOK env t b (n.set a v) := by
  induction a generalizing t b n with
  | nil =>
    simp at ht; subst ht; simpa using hv.weaken
  | cons i rest ih =>
    rw [Node.set_cons]
    apply h.modify_child
    intro t1 b1 c ht1 _ hc
    rw [typeAtFrom_cons, ht1] at ht
    exact ih hc ht

theorem TreeOK.set {env : Env} {st v : Node} {a : Addr} {t : FieldType}
    (h : TreeOK env st) (ht : env.typeAt a = some t) (hv : VOK env t true v) :
    TreeOK env (st.set a v) :=
  VOK.set h ht hv

theorem TreeOK.get {env : Env} {st m : Node} {a : Addr} {t : FieldType}
    (h : TreeOK env st) (ht : env.typeAt a = some t) (hm : st.get? a = some m) :
    ∃ b, VOK env t b m :=
  VOK.get h ht hm

/-! ## The tree only grows -/

theorem ShapeLe.refl (n : Node) : ShapeLe n n := by
  cases n <;> simp [ShapeLe]

theorem ShapeLe.trans {a b c : Node} (h1 : ShapeLe a b) (h2 : ShapeLe b c) : ShapeLe a c := by
  cases a <;> simp only [ShapeLe] at h1 ⊢
  · obtain ⟨t, ps, rfl⟩ := h1; exact h2
  · obtain ⟨xs, rfl⟩ := h1; exact h2
  · obtain ⟨ks, vs, rfl⟩ := h1; exact h2

theorem ShapeLe.absent (n : Node) : ShapeLe .absent n := trivial

theorem ShapeLe.set_cons (n : Node) (i : Nat) (rest : Addr) (v : Node) :
    ShapeLe n (n.set (i :: rest) v) := by
  cases n <;> simp [ShapeLe, Node.set]

theorem ExtFrom.refl (env : Env) (t : FieldType) (n : Node) : ExtFrom env t n n :=
  fun _ _ m _ hm => ⟨m, hm, fun _ => ShapeLe.refl m⟩

theorem ExtFrom.trans {env : Env} {t : FieldType} {a b c : Node}
    (h1 : ExtFrom env t a b) (h2 : ExtFrom env t b c) : ExtFrom env t a c := by
  intro ad t' m ht hm
  obtain ⟨m1, hm1, hs1⟩ := h1 ad t' m ht hm
  obtain ⟨m2, hm2, hs2⟩ := h2 ad t' m1 ht hm1
  exact ⟨m2, hm2, fun hc => (hs1 hc).trans (hs2 hc)⟩

theorem Ext.refl (env : Env) (st : Node) : Ext env st st := ExtFrom.refl env _ st

theorem Ext.trans {env : Env} {a b c : Node} (h1 : Ext env a b) (h2 : Ext env b c) : Ext env a c :=
  ExtFrom.trans h1 h2

/-- `ExtFrom` from the same fact about the children -/
theorem ExtFrom.of_children {env : Env} {t : FieldType} {n n' : Node}
    (hs : t.isContainer = true → ShapeLe n n')
    (hc : ∀ i t' c, t.child env i = some t' → n.children[i]? = some c →
      ∃ c', n'.children[i]? = some c' ∧ ExtFrom env t' c c') :
    ExtFrom env t n n' := by
  intro a t' m ht hm
  cases a with
  | nil =>
    simp at ht hm; subst ht; subst hm
    exact ⟨n', by simp, hs⟩
  | cons i rest =>
    obtain ⟨t1, ht1, ht⟩ := typeAtFrom_cons_some.mp ht
    obtain ⟨c, hc1, hm⟩ := Node.get?_cons_some.mp hm
    obtain ⟨c', hc', hext⟩ := hc i t1 c ht1 hc1
    obtain ⟨m', hm', hsh⟩ := hext rest t' m ht hm
    exact ⟨m', Node.get?_cons_some.mpr ⟨c', hc', hm'⟩, hsh⟩

/-- nothing is below `.absent` -/
theorem ExtFrom.absent (env : Env) (t : FieldType) (v : Node) : ExtFrom env t .absent v := by
  apply ExtFrom.of_children
  · intro _; trivial
  · intro i t' c _ hc; simp [Node.children] at hc

/-- nothing typed is below a slot of a non-container type -/
theorem ExtFrom.leaf (env : Env) {t : FieldType} (ht : t.isContainer = false) (n v : Node) :
    ExtFrom env t n v := by
  apply ExtFrom.of_children
  · intro h; rw [ht] at h; cases h
  · intro i t' c h _; rw [FieldType.child_none_of_not_container ht] at h; cases h

/-- replacing the node at `a` by one that extends it extends the tree -/
theorem ExtFrom.set {env : Env} {t t1 : FieldType} {n old v : Node} {a : Addr}
    (hold : n.get? a = some old) (ht : typeAtFrom env t a = some t1) (hv : ExtFrom env t1 old v) :
    ExtFrom env t n (n.set a v) := by
  induction a generalizing t n with
  | nil =>
    simp at hold ht; subst hold; subst ht; simpa using hv
  | cons i rest ih =>
    apply ExtFrom.of_children
    · intro _; exact ShapeLe.set_cons n i rest v
    · intro j t' c htj hcj
      rw [Node.children_set_cons, modifyNth_getElem?]
      by_cases hj : j = i
      · subst hj
        simp only [hcj, if_true, Option.map_some]
        refine ⟨_, rfl, ?_⟩
        rw [typeAtFrom_cons, htj] at ht
        rw [Node.get?_cons, hcj] at hold
        exact ih hold ht
      · simp only [hj, if_false]
        exact ⟨c, hcj, ExtFrom.refl env t' c⟩

theorem Ext.set {env : Env} {st old v : Node} {a : Addr} {t : FieldType}
    (hold : st.get? a = some old) (ht : env.typeAt a = some t) (hv : ExtFrom env t old v) :
    Ext env st (st.set a v) :=
  ExtFrom.set hold ht hv

/-- what `Ext` says about one address -/
theorem Ext.get {env : Env} {st st' m : Node} {a : Addr} {t : FieldType}
    (h : Ext env st st') (ht : env.typeAt a = some t) (hm : st.get? a = some m) :
    ∃ m', st'.get? a = some m' ∧ (t.isContainer = true → ShapeLe m m') :=
  h a t m ht hm

/-! ## Validity of what the interpreter holds -/

/-- what a map container may hold: object / oneof / scalar / enum (`classify` rejects `any`) -/
def FieldType.isMapItem : FieldType → Bool
  | .object _ => true
  | .oneof _ => true
  | .scalar _ => true
  | .enum _ => true
  | _ => false

/-- `n` is the name of the map container at `a` (`mapNode.FullTypeName()`): the map is the value of
property `p` of a message of schema `s`, and `n = s.name ++ "." ++ p.name` -/
def MapNameOK (env : Env) (a : Addr) (n : Str) : Prop :=
  ∃ c i t s p, a = c ++ [i] ∧ env.typeAt c = some t ∧ t.msgSchema env = some s ∧
    s.props[i]? = some p ∧ n = s.name ++ [46] ++ p.name

/-- the address of the container is that of a slot of the right type, which holds a message / a map
(`MapNameOK`: the spec of a map container is looked up by its name, `givenSpec_map`) -/
def ContOK (env : Env) (st : Node) (c : Cont) : Prop :=
  match c.kind with
  | .msg s =>
    (∃ t, env.typeAt c.addr = some t ∧ t.msgSchema env = some s) ∧
    ∃ tc ps, st.get? c.addr = some (.msg tc ps)
  | .map n item =>
    (env.typeAt c.addr = some (.map item) ∧ item.isMapItem = true ∧ MapNameOK env c.addr n) ∧
    ∃ ks vs, st.get? c.addr = some (.map ks vs)

/-- per `FieldKind`: the slot type and the shape of the node (`.any`: the walk raises an error on such a field
whatever it holds) -/
def FieldOK (env : Env) (st : Node) (f : Field) : Prop :=
  match f.kind with
  | .container s => ContOK env st ⟨f.addr, .msg s⟩
  | .arrayOfContainer s =>
    (∃ item, env.typeAt f.addr = some (.array item) ∧ item.msgSchema env = some s) ∧
    ∃ xs, st.get? f.addr = some (.list xs)
  | .arrayOfScalar item =>
    (env.typeAt f.addr = some (.array item) ∧ item.isLeaf = true) ∧
    ∃ xs, st.get? f.addr = some (.list xs)
  | .map n item => ContOK env st ⟨f.addr, .map n item⟩
  | .scalar t _ =>
    (env.typeAt f.addr = some t ∧ t.isLeaf = true) ∧ ∃ n, st.get? f.addr = some n
  | .any => True

/-- a block: its container is valid, its name is the container's, its spec is `specOf` of the container -/
def ContainerFieldOK (env : Env) (st : Node) (cf : ContainerField) : Prop :=
  ContOK env st cf.container ∧ cf.schemaName = cf.container.schemaName ∧
  specOf env cf.container = .ok cf.spec

/-- a block as `walkPath` returns it: no spec yet -/
def ContainerFieldOK0 (env : Env) (st : Node) (cf : ContainerField) : Prop :=
  ContOK env st cf.container ∧ cf.schemaName = cf.container.schemaName

def ScopeOK (env : Env) (st : Node) (sc : Scope) : Prop :=
  sc.blockSet ≠ [] ∧ (∀ b, b ∈ sc.blockSet → ContainerFieldOK env st b) ∧
  ContainerFieldOK env st sc.leaf ∧ (∀ r, sc.root = some r → ContainerFieldOK env st r)

theorem ContOK_msg {env : Env} {st : Node} {a : Addr} {s : Schema} :
    ContOK env st ⟨a, .msg s⟩ ↔
      (∃ t, env.typeAt a = some t ∧ t.msgSchema env = some s) ∧
      ∃ tc ps, st.get? a = some (.msg tc ps) := Iff.rfl

theorem ContOK_map {env : Env} {st : Node} {a : Addr} {n : Str} {item : FieldType} :
    ContOK env st ⟨a, .map n item⟩ ↔
      (env.typeAt a = some (.map item) ∧ item.isMapItem = true ∧ MapNameOK env a n) ∧
      ∃ ks vs, st.get? a = some (.map ks vs) := Iff.rfl

theorem FieldType.isContainer_of_isLeaf {t : FieldType} (h : t.isLeaf = true) : t.isContainer = false := by
  cases t <;> simp [FieldType.isLeaf] at h <;> rfl

/-- a valid message container holds a message of its schema -/
theorem ContOK.msgOK {env : Env} {st : Node} {a : Addr} {s : Schema}
    (h : ContOK env st ⟨a, .msg s⟩) (hst : TreeOK env st) :
    ∃ tc ps, st.get? a = some (.msg tc ps) ∧ MsgOK env s tc ps := by
  obtain ⟨⟨t, ht, hs⟩, tc, ps, hg⟩ := h
  obtain ⟨b, hv⟩ := hst.get ht hg
  exact ⟨tc, ps, hg, hv.msg_inv hs⟩

theorem ext_get_msg {env : Env} {st st' : Node} {a : Addr} {t : FieldType} {tc : List Bool} {ps : List Node}
    (h : Ext env st st') (ht : env.typeAt a = some t) (hc : t.isContainer = true)
    (hg : st.get? a = some (.msg tc ps)) : ∃ tc' ps', st'.get? a = some (.msg tc' ps') := by
  obtain ⟨m', hm', hs⟩ := h.get ht hg
  obtain ⟨tc', ps', rfl⟩ := hs hc
  exact ⟨tc', ps', hm'⟩

theorem ext_get_list {env : Env} {st st' : Node} {a : Addr} {t : FieldType} {xs : List Node}
    (h : Ext env st st') (ht : env.typeAt a = some t) (hc : t.isContainer = true)
    (hg : st.get? a = some (.list xs)) : ∃ xs', st'.get? a = some (.list xs') := by
  obtain ⟨m', hm', hs⟩ := h.get ht hg
  obtain ⟨xs', rfl⟩ := hs hc
  exact ⟨xs', hm'⟩

theorem ext_get_map {env : Env} {st st' : Node} {a : Addr} {t : FieldType} {ks : List Str} {vs : List Node}
    (h : Ext env st st') (ht : env.typeAt a = some t) (hc : t.isContainer = true)
    (hg : st.get? a = some (.map ks vs)) : ∃ ks' vs', st'.get? a = some (.map ks' vs') := by
  obtain ⟨m', hm', hs⟩ := h.get ht hg
  obtain ⟨ks', vs', rfl⟩ := hs hc
  exact ⟨ks', vs', hm'⟩

theorem ContOK.ext {env : Env} {st st' : Node} {c : Cont} (h : ContOK env st c) (he : Ext env st st') :
    ContOK env st' c := by
  obtain ⟨a, k⟩ := c
  cases k with
  | msg s =>
    obtain ⟨⟨t, ht, hs⟩, tc, ps, hg⟩ := h
    exact ⟨⟨t, ht, hs⟩, ext_get_msg he ht (FieldType.isContainer_of_msgSchema hs) hg⟩
  | map n item =>
    obtain ⟨⟨ht, hi⟩, ks, vs, hg⟩ := h
    exact ⟨⟨ht, hi⟩, ext_get_map he ht rfl hg⟩

theorem FieldOK.ext {env : Env} {st st' : Node} {f : Field} (h : FieldOK env st f) (he : Ext env st st') :
    FieldOK env st' f := by
  obtain ⟨a, k⟩ := f
  cases k with
  | container s => exact ContOK.ext (c := ⟨a, .msg s⟩) h he
  | arrayOfContainer s =>
    obtain ⟨⟨item, ht, hs⟩, xs, hg⟩ := h
    exact ⟨⟨item, ht, hs⟩, ext_get_list he ht rfl hg⟩
  | arrayOfScalar item =>
    obtain ⟨⟨ht, hs⟩, xs, hg⟩ := h
    exact ⟨⟨ht, hs⟩, ext_get_list he ht rfl hg⟩
  | map n item => exact ContOK.ext (c := ⟨a, .map n item⟩) h he
  | scalar t p =>
    obtain ⟨⟨ht, hs⟩, n, hg⟩ := h
    obtain ⟨m', hm', _⟩ := he.get ht hg
    exact ⟨⟨ht, hs⟩, m', hm'⟩
  | any => trivial

theorem ContainerFieldOK.ext {env : Env} {st st' : Node} {cf : ContainerField}
    (h : ContainerFieldOK env st cf) (he : Ext env st st') : ContainerFieldOK env st' cf :=
  ⟨h.1.ext he, h.2⟩

theorem ContainerFieldOK0.ext {env : Env} {st st' : Node} {cf : ContainerField}
    (h : ContainerFieldOK0 env st cf) (he : Ext env st st') : ContainerFieldOK0 env st' cf :=
  ⟨h.1.ext he, h.2⟩

theorem ContainerFieldOK.weak {env : Env} {st : Node} {cf : ContainerField}
    (h : ContainerFieldOK env st cf) : ContainerFieldOK0 env st cf := ⟨h.1, h.2.1⟩

theorem ScopeOK.ext {env : Env} {st st' : Node} {sc : Scope} (h : ScopeOK env st sc) (he : Ext env st st') :
    ScopeOK env st' sc :=
  ⟨h.1, fun b hb => (h.2.1 b hb).ext he, h.2.2.1.ext he, fun r hr => (h.2.2.2 r hr).ext he⟩

def Stable (env : Env) (R : Node → Prop) : Prop := ∀ st st', R st → Ext env st st' → R st'

theorem ContOK.stable {env : Env} (c : Cont) : Stable env (fun st => ContOK env st c) :=
  fun _ _ h he => h.ext he

theorem ScopeOK.stable {env : Env} (sc : Scope) : Stable env (fun st => ScopeOK env st sc) :=
  fun _ _ h he => h.ext he

/-! ### The scope constructors of `Scope.lean` -/

theorem ScopeOK.newChild {env : Env} {st : Node} {c : ContainerField} (h : ContainerFieldOK env st c) :
    ScopeOK env st (Scope.newChild c) := by
  refine ⟨by simp [Scope.newChild], ?_, h, ?_⟩
  · intro b hb; simp [Scope.newChild] at hb; subst hb; exact h
  · intro r hr; simp [Scope.newChild] at hr; subst hr; exact h

theorem ScopeOK.mergeScope {env : Env} {st : Node} {sw other : Scope}
    (h1 : ScopeOK env st sw) (h2 : ScopeOK env st other) : ScopeOK env st (sw.mergeScope other) := by
  refine ⟨?_, ?_, h2.2.2.1, h1.2.2.2⟩
  · simp only [Scope.mergeScope]
    intro h
    exact h1.1 (List.append_eq_nil_iff.mp h).1
  · intro b hb
    simp only [Scope.mergeScope, List.mem_append] at hb
    rcases hb with hb | hb
    · exact h1.2.1 b hb
    · exact h2.2.1 b hb

theorem ScopeOK.tailScope {env : Env} {st : Node} {sw : Scope} (h : ScopeOK env st sw) :
    ScopeOK env st sw.tailScope := by
  refine ⟨by simp [Scope.tailScope], ?_, h.2.2.1, ?_⟩
  · intro b hb; simp [Scope.tailScope] at hb; subst hb; exact h.2.2.1
  · intro r hr; simp [Scope.tailScope] at hr

/-! ## Consequences of `Env.WF`

No proof uses `closed` (where a reference is followed, `typesOK` makes it resolve); it is part of `Env.WF` so that
`j5Env.WF = true` fails on generated facts with a dangling reference. -/

theorem Env.WF_iff (env : Env) : env.WF = true ↔ env.closed = true ∧ env.typesOK = true ∧ env.rootOK = true ∧
    env.stubOK = true ∧ env.splitOK = true ∧ env.mapNamesFresh = true := by
  simp only [Env.WF, Bool.and_eq_true, and_assoc]

theorem WF_closed {env : Env} (h : env.WF = true) : env.closed = true := (env.WF_iff.mp h).1
theorem WF_typesOK {env : Env} (h : env.WF = true) : env.typesOK = true := (env.WF_iff.mp h).2.1
theorem WF_rootOK {env : Env} (h : env.WF = true) : env.rootOK = true := (env.WF_iff.mp h).2.2.1
theorem WF_stubOK {env : Env} (h : env.WF = true) : env.stubOK = true := (env.WF_iff.mp h).2.2.2.1
theorem WF_splitOK {env : Env} (h : env.WF = true) : env.splitOK = true := (env.WF_iff.mp h).2.2.2.2.1
theorem WF_mapNamesFresh {env : Env} (h : env.WF = true) : env.mapNamesFresh = true := (env.WF_iff.mp h).2.2.2.2.2

/-- every property of every schema `schemaOf` returns has a type `classify` accepts -/
theorem WF_prop_ok {env : Env} (h : env.WF = true) (r : Str) {p : Property}
    (hp : p ∈ (env.schemaOf r).props) : p.type.ok env = true := by
  unfold Env.schemaOf at hp
  cases hf : findSchema r env.schemas with
  | none => simp [hf] at hp
  | some s =>
    simp only [hf] at hp
    have hall := WF_typesOK h
    simp only [Env.typesOK, List.all_eq_true] at hall
    have := hall s (findSchema_mem hf).1
    simp only [Schema.typesOK, List.all_eq_true] at this
    exact this p hp

theorem FieldType.ok_of_itemOK {env : Env} {t : FieldType} (h : t.itemOK env = true) : t.ok env = true := by
  cases t <;> simp [FieldType.itemOK] at h <;> simp [FieldType.ok, FieldType.itemOK, h]

theorem FieldType.child_ok {env : Env} (hwf : env.WF = true) {t t' : FieldType} {i : Nat}
    (h : t.ok env = true) (hc : t.child env i = some t') : t'.ok env = true := by
  cases t with
  | object r | oneof r =>
    simp only [FieldType.child] at hc
    cases hp : (env.schemaOf r).props[i]? with
    | none => simp [hp] at hc
    | some p =>
      simp only [hp, Option.map_some, Option.some.injEq] at hc
      subst hc
      exact WF_prop_ok hwf r (List.mem_of_getElem? hp)
  | array item | map item =>
    simp only [FieldType.child, Option.some.injEq] at hc
    subst hc
    exact FieldType.ok_of_itemOK (by simpa [FieldType.ok] using h)
  | _ => simp [FieldType.child] at hc

theorem typeAtFrom_ok {env : Env} (hwf : env.WF = true) {t t' : FieldType} {a : Addr}
    (h : t.ok env = true) (ht : typeAtFrom env t a = some t') : t'.ok env = true := by
  induction a generalizing t with
  | nil => simp at ht; subst ht; exact h
  | cons i rest ih =>
    obtain ⟨t1, hc, ht⟩ := typeAtFrom_cons_some.mp ht
    exact ih (FieldType.child_ok hwf h hc) ht

/-- every slot type is one `classify` accepts -/
theorem WF_typeAt_ok {env : Env} (hwf : env.WF = true) {a : Addr} {t : FieldType}
    (ht : env.typeAt a = some t) : t.ok env = true := by
  apply typeAtFrom_ok hwf _ ht
  have := WF_rootOK hwf
  simp only [Env.rootOK, Bool.and_eq_true, Bool.not_eq_true'] at this
  simp [FieldType.ok, FieldType.itemOK, this.2]

end J5V.Walker
