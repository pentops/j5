import Lean
import J5V.Walker.Walk
import J5V.Walker.Stub
/-!
# Termination of the walker model: a check of HOW its functions are defined

Lean accepts a recursive `def` by STRUCTURAL recursion or by well-founded recursion (`WellFounded.fix`).
The command below walks over every
constant that `walkSchema` and `stub` reach (definitions and their types; proofs are not entered) and FAILS
the build if a constant of the project (`J5V.*`) among them

* is defined through anything of the `WellFounded` namespace (`WellFounded.fix`, `WellFounded.Nat.fix`, …)
  or `Acc.rec`, or
* is `partial`, `unsafe` or an `opaque` constant (nothing the kernel cannot unfold).

So: every function of the model is a structural recursion — over the statements, the values, the lists of
the spec, or the explicit fuel of `setAttribute` ⇄ `setContainerFromScalar` (the only recursion that follows
the SPEC rather than the input; `C07W_terminates` shows that this fuel is never exhausted). The core-library
functions the model calls that ARE well-founded recursions (with their termination proofs in core) are
`Nat.bitwise` (`&&&`, `|||`, `^^^` on `Nat`) and `ByteArray.utf8Decode?.go` (string literals →
`String.toList`); the command reports a change of that list as an error too.
-/
open Lean Elab Command

run_cmd do
  let env ← getEnv
  let mut seen : NameSet := {}
  let mut todo : List Name := [`J5V.Walker.walkSchema, `J5V.Walker.stub]
  let mut bad : Array Name := #[]
  let mut core : Array Name := #[]
  while !todo.isEmpty do
    match todo with
    | [] => pure ()
    | c :: rest =>
      todo := rest
      if seen.contains c then continue
      seen := seen.insert c
      match env.find? c with
      | none => pure ()
      | some ci =>
        let deps := ci.type.getUsedConstants ++
          (match ci.value? with | some v => v.getUsedConstants | none => #[])
        if deps.any (fun d => d == ``Acc.rec || (`WellFounded).isPrefixOf d) then
          if (`J5V).isPrefixOf c then bad := bad.push c else core := core.push c
        if (`J5V).isPrefixOf c && (ci.isUnsafe || ci.isPartial || ci matches .opaqueInfo _) then
          bad := bad.push c
        if ci matches .thmInfo _ then continue
        for d in deps do
          if !seen.contains d then todo := d :: todo
  unless seen.contains `J5V.Walker.setAttribute && seen.contains `J5V.Walker.doBody do
    throwError "termination check: the walk no longer reaches setAttribute / doBody"
  unless bad.isEmpty do
    throwError "termination check: not a structural recursion (well-founded, partial, opaque or not safe): {bad}"
  let coreDefs := core.filter (fun n => !(`WellFounded).isPrefixOf n)
  unless coreDefs.all (fun n => n == `Nat.bitwise._unary || n == `ByteArray.utf8Decode?.go._unary) do
    throwError "termination check: core functions defined by well-founded recursion changed: {coreDefs}"
