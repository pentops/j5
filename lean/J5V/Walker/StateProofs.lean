import J5V.Walker.Hoare
/-!
# Specs of `State.lean`

On a well-typed tree: no function panics, the tree stays well typed and only grows, the returned
`Field` / `Cont` is valid in the new state, errors carry no position. Under `env.WF = true` for the functions that
classify a property; the operations on a field already classified hold for every `env`.
-/
namespace J5V.Walker

theorem resolveRef_object {env : Env} {r : Str} (h : (FieldType.object r).itemOK env = true) :
    resolveRef env false r = .ok (env.schemaOf r) :=
  resolveRef_eq_ok (by simpa [FieldType.itemOK] using h)

theorem resolveRef_oneof {env : Env} {r : Str} (h : (FieldType.oneof r).itemOK env = true) :
    resolveRef env true r = .ok (env.schemaOf r) :=
  resolveRef_eq_ok (by simpa [FieldType.itemOK] using h)

/-- the wrapper kind `k` is one `classify` builds for a slot of type `t` -/
def KindFits (env : Env) (t : FieldType) (k : FieldKind) : Prop :=
  match k with
  | .container s => t.msgSchema env = some s
  | .arrayOfContainer s => ∃ item, t = .array item ∧ item.msgSchema env = some s
  | .arrayOfScalar item => t = .array item ∧ item.isLeaf = true
  | .map _ item => t = .map item ∧ item.isMapItem = true
  | .scalar t' _ => t' = t ∧ t.isLeaf = true
  | .any => t.isContainer = false

/-- the node has the shape the wrapper kind expects -/
def NodeFits (k : FieldKind) (n : Node) : Prop :=
  match k with
  | .container _ => ∃ tc ps, n = .msg tc ps
  | .arrayOfContainer _ => ∃ xs, n = .list xs
  | .arrayOfScalar _ => ∃ xs, n = .list xs
  | .map _ _ => ∃ ks vs, n = .map ks vs
  | .scalar _ _ => True
  | .any => True

theorem classify_spec {env : Env} {owner : Str} {p : Property} (h : p.type.ok env = true) :
    (classify env owner p).Holds
      (fun k => KindFits env p.type k ∧ ∀ nm item, k = .map nm item → nm = owner ++ [46] ++ p.name) NoPos := by
  unfold classify
  cases ht : p.type with
  | object r => rw [ht] at h; simp only [resolveRef_object h]; exact ⟨rfl, nofun⟩
  | oneof r => rw [ht] at h; simp only [resolveRef_oneof h]; exact ⟨rfl, nofun⟩
  | enum r | scalar k => exact ⟨⟨rfl, rfl⟩, nofun⟩
  | any => exact ⟨rfl, nofun⟩
  | unknown => rw [ht] at h; cases h
  | array item =>
    rw [ht] at h
    cases item with
    | object r => simp only [resolveRef_object h]; exact ⟨⟨_, rfl, rfl⟩, nofun⟩
    | oneof r => simp only [resolveRef_oneof h]; exact ⟨⟨_, rfl, rfl⟩, nofun⟩
    | enum r | scalar k => exact ⟨⟨rfl, rfl⟩, nofun⟩
    | any => exact NoPos_mk0 _ _
    | _ => cases h
  | map item =>
    rw [ht] at h
    cases item with
    | object r => simp only [resolveRef_object h]; exact ⟨⟨rfl, rfl⟩, fun _ _ e => (FieldKind.map.inj e).1.symm⟩
    | oneof r => simp only [resolveRef_oneof h]; exact ⟨⟨rfl, rfl⟩, fun _ _ e => (FieldKind.map.inj e).1.symm⟩
    | enum r | scalar k => exact ⟨⟨rfl, rfl⟩, fun _ _ e => (FieldKind.map.inj e).1.symm⟩
    | any => exact NoPos_mk0 _ _
    | _ => cases h

theorem classify_no_panic {env : Env} {owner : Str} {p : Property} (h : p.type.ok env = true) (w : String) :
    classify env owner p ≠ .panic w := (classify_spec h).ne_panic w

theorem nodeFits_builtValue (k : FieldKind) (cur : Node) : NodeFits k (builtValue k cur) := by
  cases k with
  | scalar | any => trivial
  | arrayOfContainer | arrayOfScalar => simp only [NodeFits, builtValue]; split <;> exact ⟨_, rfl⟩
  | map | container => simp only [NodeFits, builtValue]; split <;> exact ⟨_, _, rfl⟩

/-- a touched slot holds a node of the wrapper's shape -/
theorem nodeFits_of_touched {env : Env} {t : FieldType} {k : FieldKind} {n : Node}
    (h : VOK env t true n) (hk : KindFits env t k) : NodeFits k n := by
  cases k with
  | container s =>
    rcases h.msg_shape hk with ⟨_, hb⟩ | hm
    · cases hb
    · exact hm
  | arrayOfContainer s =>
    obtain ⟨item, rfl, _⟩ := hk
    rcases h.list_shape with ⟨_, hb⟩ | hm
    · cases hb
    · exact hm
  | arrayOfScalar item =>
    obtain ⟨rfl, _⟩ := hk
    rcases h.list_shape with ⟨_, hb⟩ | hm
    · cases hb
    · exact hm
  | map nm item =>
    obtain ⟨rfl, _⟩ := hk
    rcases h.map_shape with ⟨_, hb⟩ | hm
    · cases hb
    · exact hm
  | scalar _ _ | any => trivial

/-- a message seen through a fresh property set is still a message of the schema -/
theorem MsgOK.retouch {env : Env} {s : Schema} {tc : List Bool} {ps : List Node} (h : MsgOK env s tc ps) :
    MsgOK env s (List.replicate ps.length false) ps := by
  obtain ⟨h1, h2, h3⟩ := h
  refine ⟨by simp [h2], h2, ?_⟩
  intro i p tb c hp htb hc
  rw [List.getElem?_replicate] at htb
  obtain ⟨tb', htb'⟩ := getElem?_of_props hp h1
  split at htb
  · cases htb
    exact (h3 i p tb' c hp htb' hc).untouch
  · cases htb

/-- an existing container stays (a message under a fresh property set), `.absent` becomes the empty container -/
theorem builtValue_spec {env : Env} {t : FieldType} {b : Bool} {k : FieldKind} {cur : Node}
    (h : VOK env t b cur) (hk : KindFits env t k) :
    VOK env t true (builtValue k cur) ∧ ExtFrom env t cur (builtValue k cur) := by
  cases k with
  | container s =>
    rcases h.msg_shape hk with ⟨rfl, _⟩ | ⟨tc, ps, rfl⟩
    · exact ⟨VOK.freshMsg true hk, ExtFrom.absent _ _ _⟩
    · exact ⟨VOK.of_msgOK hk (h.msg_inv hk).retouch,
        ExtFrom.of_children (fun _ => ⟨_, _, rfl⟩) (fun i t' c _ hc => ⟨c, hc, ExtFrom.refl _ _ _⟩)⟩
  | arrayOfContainer s =>
    obtain ⟨item, rfl, _⟩ := hk
    rcases h.list_shape with ⟨rfl, _⟩ | ⟨xs, rfl⟩
    · exact ⟨.arr _ _ _ (by simp), ExtFrom.absent _ _ _⟩
    · exact ⟨h.strengthen (by simp), ExtFrom.refl _ _ _⟩
  | arrayOfScalar item =>
    obtain ⟨rfl, _⟩ := hk
    rcases h.list_shape with ⟨rfl, _⟩ | ⟨xs, rfl⟩
    · exact ⟨.arr _ _ _ (by simp), ExtFrom.absent _ _ _⟩
    · exact ⟨h.strengthen (by simp), ExtFrom.refl _ _ _⟩
  | map nm item =>
    obtain ⟨rfl, _⟩ := hk
    rcases h.map_shape with ⟨rfl, _⟩ | ⟨ks, vs, rfl⟩
    · exact ⟨.map _ _ _ _ rfl (by simp), ExtFrom.absent _ _ _⟩
    · exact ⟨h.strengthen (by simp), ExtFrom.refl _ _ _⟩
  | scalar t' pr =>
    obtain ⟨rfl, hl⟩ := hk
    exact ⟨.leaf _ _ _ (FieldType.isContainer_of_isLeaf hl), ExtFrom.refl _ _ _⟩
  | any => exact ⟨.leaf _ _ _ hk, ExtFrom.leaf env hk _ _⟩

theorem VOK_builtValue {env : Env} {t : FieldType} {b : Bool} {k : FieldKind} {cur : Node}
    (h : VOK env t b cur) (hk : KindFits env t k) : VOK env t true (builtValue k cur) :=
  (builtValue_spec h hk).1

theorem ExtFrom_builtValue {env : Env} {t : FieldType} {b : Bool} {k : FieldKind} {cur : Node}
    (h : VOK env t b cur) (hk : KindFits env t k) : ExtFrom env t cur (builtValue k cur) :=
  (builtValue_spec h hk).2

/-- a wrapper of a fitting kind over a node of the right shape is a valid field -/
theorem FieldOK.intro {env : Env} {st n : Node} {a : Addr} {t : FieldType} {k : FieldKind}
    (ht : env.typeAt a = some t) (hk : KindFits env t k)
    (hname : ∀ nm item, k = .map nm item → MapNameOK env a nm)
    (hg : st.get? a = some n) (hn : NodeFits k n) :
    FieldOK env st ⟨a, k⟩ := by
  cases k with
  | container s => obtain ⟨tc, ps, rfl⟩ := hn; exact ⟨⟨t, ht, hk⟩, tc, ps, hg⟩
  | arrayOfContainer s =>
    obtain ⟨item, rfl, hs⟩ := hk
    obtain ⟨xs, rfl⟩ := hn
    exact ⟨⟨item, ht, hs⟩, xs, hg⟩
  | arrayOfScalar item =>
    obtain ⟨rfl, hs⟩ := hk
    obtain ⟨xs, rfl⟩ := hn
    exact ⟨⟨ht, hs⟩, xs, hg⟩
  | map nm item =>
    obtain ⟨rfl, hs⟩ := hk
    obtain ⟨ks, vs, rfl⟩ := hn
    exact ⟨⟨ht, hs, hname nm item rfl⟩, ks, vs, hg⟩
  | scalar t' pr =>
    obtain ⟨rfl, hs⟩ := hk
    exact ⟨⟨ht, hs⟩, n, hg⟩
  | any => trivial

/-- replacing the value of property `i` by a value of its type under the flag it then has; the other flags stay -/
theorem MsgOK.set {env : Env} {s : Schema} {tc tc' : List Bool} {ps : List Node} {i : Nat} {p : Property} {v : Node}
    (h : MsgOK env s tc ps) (hp : s.props[i]? = some p) (hlen : tc'.length = tc.length)
    (hother : ∀ j, j ≠ i → tc'[j]? = tc[j]?) (hv : ∀ tb, tc'[i]? = some tb → VOK env p.type tb v) :
    MsgOK env s tc' (ps.set i v) := by
  obtain ⟨h1, h2, h3⟩ := h
  refine ⟨hlen.trans h1, by simp [h2], ?_⟩
  intro j q tb c hq htb hc
  rw [List.getElem?_set] at hc
  by_cases hj : i = j
  · subst hj
    rw [hp] at hq; cases hq
    simp only [if_true] at hc
    split at hc
    · cases hc; exact hv tb htb
    · cases hc
  · simp only [hj, if_false] at hc
    exact h3 j q tb c hq (hother j (Ne.symm hj) ▸ htb) hc

theorem MsgOK.set_prop {env : Env} {s : Schema} {tc : List Bool} {ps : List Node} {i : Nat} {p : Property}
    {v : Node} (h : MsgOK env s tc ps) (hp : s.props[i]? = some p) (hv : VOK env p.type true v) :
    MsgOK env s (tc.set i true) (ps.set i v) :=
  h.set hp (by simp) (fun j hj => by rw [List.getElem?_set_ne (Ne.symm hj)]) (fun _ _ => hv.weaken)

theorem ExtFrom.of_children_set {env : Env} {t : FieldType} {n n' : Node} {j : Nat} {cur v : Node}
    (hs : ShapeLe n n') (hch : n'.children = n.children.set j v) (hcur : n.children[j]? = some cur)
    (hv : ∀ tj, t.child env j = some tj → ExtFrom env tj cur v) : ExtFrom env t n n' := by
  apply ExtFrom.of_children
  · intro _; exact hs
  · intro i t' c ht' hc
    rw [hch, List.getElem?_set]
    by_cases hj : j = i
    · subst hj
      rw [hcur] at hc; cases hc
      have hi : j < n.children.length := (List.getElem?_eq_some_iff.mp hcur).1
      exact ⟨v, by simp [hi], hv t' ht'⟩
    · simp only [hj, if_false]
      exact ⟨c, hc, ExtFrom.refl _ _ _⟩

theorem ExtFrom.of_children_append {env : Env} {t : FieldType} {n n' : Node} {extra : List Node}
    (hs : ShapeLe n n') (hch : n'.children = n.children ++ extra) : ExtFrom env t n n' := by
  apply ExtFrom.of_children
  · intro _; exact hs
  · intro i t' c _ hc
    refine ⟨c, ?_, ExtFrom.refl _ _ _⟩
    rw [hch, List.getElem?_append_left (List.getElem?_eq_some_iff.mp hc).1]
    exact hc

theorem ExtFrom.msg_set_prop {env : Env} {t : FieldType} {s : Schema} {tc tc' : List Bool} {ps : List Node}
    {i : Nat} {p : Property} {cur v : Node} (hs : t.msgSchema env = some s) (hp : s.props[i]? = some p)
    (hcur : ps[i]? = some cur) (hv : ExtFrom env p.type cur v) :
    ExtFrom env t (.msg tc ps) (.msg tc' (ps.set i v)) :=
  ExtFrom.of_children_set ⟨_, _, rfl⟩ rfl hcur fun tj htj => by
    rw [FieldType.child_msgSchema hs, hp] at htj; cases htj; exact hv

theorem buildValue_spec {env : Env} (hwf : env.WF = true) {c : Addr} {s : Schema} {i : Nat} {p : Property}
    (hp : s.props[i]? = some p) :
    MSpec env (buildValue env c s i p) (fun st => ContOK env st ⟨c, .msg s⟩)
      (fun f _ st' => FieldOK env st' f ∧ f.addr = c ++ [i] ∧ classify env s.name p = .ok f.kind)
      NoPos := by
  intro st hst hpre
  obtain ⟨tc, ps, hg, hm⟩ := hpre.msgOK hst
  obtain ⟨⟨t, ht, hs⟩, _⟩ := hpre
  simp only at ht
  simp only [buildValue, bind, M.bind, getNode, hg]
  have hpt : env.typeAt (c ++ [i]) = some p.type := Env.typeAt_prop ht hs hp
  have hok := WF_typeAt_ok hwf hpt
  obtain ⟨cur, hcur⟩ := getElem?_of_props hp hm.2.1
  obtain ⟨tb, htb⟩ := getElem?_of_props hp hm.1
  have hvcur := hm.2.2 i p tb cur hp htb hcur
  refine Res.Sat.ite (fun _ => NoPos_mk0 _ _) (fun _ => ?_)
  have hcl := classify_spec (owner := s.name) hok
  cases hk : classify env s.name p with
  | panic w => exact hcl.ne_panic w hk
  | err e => exact hcl.err_of hk
  | ok k =>
    obtain ⟨hfit, hname⟩ := hcl.ok_of hk
    simp only [M.lift, M.pure, M.bind, hcur, setNode, pure]
    have hv : VOK env t true (.msg (tc.set i true) (ps.set i (builtValue k cur))) :=
      VOK.of_msgOK hs (hm.set_prop hp (VOK_builtValue hvcur hfit))
    refine ⟨hst.set ht hv, Ext.set hg ht (ExtFrom.msg_set_prop hs hp hcur (ExtFrom_builtValue hvcur hfit)),
      ?_, rfl, rfl⟩
    apply FieldOK.intro hpt hfit (fun nm item hk' => ⟨c, i, t, s, p, rfl, ht, hs, hp, hname nm item hk'⟩) _
      (nodeFits_builtValue k cur)
    rw [Node.get?_set_snoc _ _ _ _ (by simp [hg])]
    exact List.getElem?_set_self (List.getElem?_eq_some_iff.mp hcur).1

theorem propSetValue_spec {env : Env} (hwf : env.WF = true) {c : Addr} {s : Schema} {name : Str}
    {mustBeNew : Bool} :
    MSpec env (propSetValue env c s name mustBeNew) (fun st => ContOK env st ⟨c, .msg s⟩)
      (fun f _ st' => FieldOK env st' f ∧
        ∃ i p, findProp name 0 s.props = some (i, p) ∧ f.addr = c ++ [i] ∧
          classify env s.name p = .ok f.kind)
      NoPos := by
  intro st hst hpre
  unfold propSetValue
  cases hf : findProp name 0 s.props with
  | none => exact NoPos_mk0 _ _
  | some ip =>
    obtain ⟨i, p⟩ := ip
    have hp := (findProp_zero hf).1
    obtain ⟨tc, ps, hg, hm⟩ := hpre.msgOK hst
    obtain ⟨⟨t, ht, hs⟩, _⟩ := id hpre
    simp only at ht
    simp only [bind, M.bind, getNode, hg]
    split
    · rename_i htouched
      split
      · exact NoPos_mk0 _ _
      · have hpt : env.typeAt (c ++ [i]) = some p.type := Env.typeAt_prop ht hs hp
        have hok := WF_typeAt_ok hwf hpt
        obtain ⟨cur, hcur⟩ := getElem?_of_props hp hm.2.1
        have hvcur := hm.2.2 i p true cur hp htouched hcur
        have hcl := classify_spec (owner := s.name) hok
        cases hk : classify env s.name p with
        | panic w => exact hcl.ne_panic w hk
        | err e => exact hcl.err_of hk
        | ok k =>
          obtain ⟨hfit, hname⟩ := hcl.ok_of hk
          refine ⟨hst, Ext.refl _ _, ?_, i, p, rfl, rfl, hk⟩
          apply FieldOK.intro hpt hfit (fun nm item hk' => ⟨c, i, t, s, p, rfl, ht, hs, hp, hname nm item hk'⟩) _
            (nodeFits_of_touched hvcur hfit)
          rw [Node.get?_snoc, hg]; exact hcur
    · exact (buildValue_spec hwf hp).post (fun f _ h => ⟨h.1, i, p, rfl, h.2⟩) st hst hpre

theorem VOK.map_set {env : Env} {item : FieldType} {b : Bool} {ks : List Str} {vs : List Node} {j : Nat}
    {v : Node} (h : VOK env (.map item) b (.map ks vs))
    (hv : VOK env item true v) : VOK env (.map item) true (.map ks (vs.set j v)) := by
  obtain ⟨h1, h2⟩ := h.map_inv
  refine .map _ _ _ _ (by simp [h1]) ?_
  intro c hc
  rcases List.mem_or_eq_of_mem_set hc with hc | rfl
  · exact h2 c hc
  · exact hv

theorem VOK.map_append {env : Env} {item : FieldType} {b : Bool} {ks : List Str} {vs : List Node}
    {k : Str} {v : Node} (h : VOK env (.map item) b (.map ks vs))
    (hv : VOK env item true v) : VOK env (.map item) true (.map (ks ++ [k]) (vs ++ [v])) := by
  obtain ⟨h1, h2⟩ := h.map_inv
  refine .map _ _ _ _ (by simp [h1]) ?_
  intro c hc
  rcases List.mem_append.mp hc with hc | hc
  · exact h2 c hc
  · simp at hc; subst hc; exact hv

theorem VOK.list_append {env : Env} {item : FieldType} {b : Bool} {xs : List Node}
    {v : Node} (h : VOK env (.array item) b (.list xs))
    (hv : VOK env item true v) : VOK env (.array item) true (.list (xs ++ [v])) := by
  have h2 := h.list_inv
  refine .arr _ _ _ ?_
  intro c hc
  rcases List.mem_append.mp hc with hc | hc
  · exact h2 c hc
  · simp at hc; subst hc; exact hv

theorem kindOfValue_map_msg {env : Env} {nm key : Str} {item : FieldType} {s : Schema}
    (hs : item.msgSchema env = some s) (hok : item.itemOK env = true) :
    kindOfValue env (.map nm item) key = some (.container s) := by
  cases item with
  | object r => cases hs; simp only [kindOfValue, resolveRef_object hok]
  | oneof r => cases hs; simp only [kindOfValue, resolveRef_oneof hok]
  | _ => cases hs

/-- `MapField.NewElement` / `GetOrCreateElement`: the field is valid, sits directly below the map and has
the kind the state-free shadow `kindOfValue` predicts -/
theorem mapElement_spec {env : Env} (hwf : env.WF = true) {c : Addr} {nm : Str} {item : FieldType}
    {key : Str} {mustBeNew : Bool} :
    MSpec env (mapElement env c item key mustBeNew) (fun st => ContOK env st ⟨c, .map nm item⟩)
      (fun f _ st' => FieldOK env st' f ∧ (∃ j, f.addr = c ++ [j]) ∧
        kindOfValue env (.map nm item) key = some f.kind)
      NoPos := by
  intro st hst hpre
  obtain ⟨⟨ht, hmi, _⟩, ks, vs, hg⟩ := hpre
  simp only at ht hg
  obtain ⟨b, hv⟩ := hst.get ht hg
  obtain ⟨hlen, hall⟩ := hv.map_inv
  have hok := WF_typeAt_ok hwf ht
  simp only [FieldType.ok] at hok
  have hc : (st.get? c).isSome = true := by rw [hg]; rfl
  have hcur : ∀ {j}, findKey key 0 ks = some j → ∃ cur, vs[j]? = some cur := fun hfk => by
    have := (findKey_some hfk).1
    exact ⟨_, List.getElem?_eq_getElem (show _ < vs.length by omega)⟩
  simp only [mapElement, bind, M.bind, getNode, hg]
  have hfit : ∀ s, item.msgSchema env = some s → KindFits env item (.container s) := fun _ h => h
  -- four arms: the item is a container (the entry is rebuilt in place / a fresh message appended) or a leaf (nothing changes /
  -- the zero value appended), the key there or new
  cases item with
  | object r | oneof r =>
    -- `resolveRef` succeeds (`Env.typesOK`); one of the two rewrites fits the arm
    have hkv := kindOfValue_map_msg (nm := nm) (key := key) (s := env.schemaOf r) rfl hok
    first
      | simp only [resolveRef_object hok, M.lift, M.bind, M.pure]
      | simp only [resolveRef_oneof hok, M.lift, M.bind, M.pure]
    have hfit := hfit (env.schemaOf r) rfl
    cases hfk : findKey key 0 ks with
    | some j =>
      simp only
      split
      · exact NoPos_mk0 _ _
      · obtain ⟨cur, hcur⟩ := hcur hfk
        have hvcur := hall cur (List.mem_of_getElem? hcur)
        simp only [hcur, pure]
        refine ⟨hst.set ht (VOK.map_set hv (VOK_builtValue hvcur hfit)),
          Ext.set hg ht (ExtFrom.of_children_set ⟨_, _, rfl⟩ rfl hcur
            (fun tj htj => by cases htj; exact ExtFrom_builtValue hvcur hfit)), ?_, ⟨j, rfl⟩, hkv⟩
        apply FieldOK.intro (Env.typeAt_child (i := j) ht rfl) hfit (fun _ _ h => by cases h) _ (nodeFits_builtValue _ cur)
        rw [Node.get?_set_snoc _ _ _ _ hc]
        exact List.getElem?_set_self (List.getElem?_eq_some_iff.mp hcur).1
    | none =>
      simp only [pure]
      refine ⟨hst.set ht (VOK.map_append hv (VOK.freshMsg true rfl)),
        Ext.set hg ht (ExtFrom.of_children_append ⟨_, _, rfl⟩ (extra := [_]) rfl), ?_, ⟨ks.length, rfl⟩, hkv⟩
      apply FieldOK.intro (n := freshMsg (env.schemaOf r)) (Env.typeAt_child ht rfl) hfit (fun _ _ h => by cases h) _
        ⟨_, _, rfl⟩
      rw [Node.get?_set_snoc _ _ _ _ hc]
      simp [Node.children, hlen]
  | scalar r | enum r =>
    cases hfk : findKey key 0 ks with
    | some j =>
      simp only
      split
      · exact NoPos_mk0 _ _
      · obtain ⟨cur, hcur⟩ := hcur hfk
        simp only [pure, M.pure]
        refine ⟨hst, Ext.refl _ _, ⟨⟨Env.typeAt_child (i := j) ht rfl, rfl⟩, cur, ?_⟩, ⟨j, rfl⟩, rfl⟩
        rw [Node.get?_snoc, hg]; exact hcur
    | none =>
      simp only [setNode, pure, M.pure, M.bind]
      refine ⟨hst.set ht (VOK.map_append hv (.leaf _ _ _ rfl)),
        Ext.set hg ht (ExtFrom.of_children_append ⟨_, _, rfl⟩ (extra := [_]) rfl),
        ⟨⟨Env.typeAt_child ht rfl, rfl⟩, ?_⟩, ⟨ks.length, rfl⟩, rfl⟩
      rw [Node.get?_set_snoc _ _ _ _ hc]
      simp [Node.children, hlen]
  | _ => simp [FieldType.isMapItem] at hmi

/-- `j5PropSet.GetOrCreateValue` / `NewValue`: the field is valid, sits directly below the container
and has the kind the state-free shadow `kindOfValue` predicts -/
theorem Cont.value_spec {env : Env} (hwf : env.WF = true) {c : Cont} {name : Str} {mustBeNew : Bool} :
    MSpec env (c.value env name mustBeNew) (fun st => ContOK env st c)
      (fun f _ st' => FieldOK env st' f ∧ (∃ j, f.addr = c.addr ++ [j]) ∧
        kindOfValue env c.kind name = some f.kind)
      NoPos := by
  obtain ⟨a, k⟩ := c
  cases k with
  | msg s =>
    refine (propSetValue_spec hwf).post ?_
    rintro f st' ⟨hf, i, p, hfp, ha, hk⟩
    exact ⟨hf, ⟨i, ha⟩, by simp [kindOfValue, hfp, hk]⟩
  | map nm item => exact mapElement_spec hwf

theorem newContainerElement_spec {env : Env} {f : Addr} {s : Schema} :
    MSpec env (newContainerElement f s) (fun st => FieldOK env st ⟨f, .arrayOfContainer s⟩)
      (fun c _ st' => ContOK env st' c ∧ c.kind = .msg s ∧ ∃ j, c.addr = f ++ [j])
      NoPos := by
  intro st hst hpre
  obtain ⟨⟨item, ht, hs⟩, xs, hg⟩ := hpre
  simp only at ht hg
  obtain ⟨b, hv⟩ := hst.get ht hg
  simp only [newContainerElement, bind, M.bind, getNode, hg, pure]
  refine ⟨hst.set ht (VOK.list_append hv (VOK.freshMsg true hs)),
    Ext.set hg ht (ExtFrom.of_children_append ⟨_, rfl⟩ (extra := [_]) rfl), ?_, rfl, _, rfl⟩
  refine ⟨⟨item, Env.typeAt_child ht rfl, hs⟩, List.replicate s.props.length false,
    List.replicate s.props.length .absent, ?_⟩
  show (Node.set st f _).get? (f ++ [xs.length]) = _
  rw [Node.get?_set_snoc _ _ _ _ (by simp [hg])]
  simp [Node.children, freshMsg]

/-- `ArrayField.Length`: no effect -/
theorem listLength_spec {env : Env} {f : Addr} {item : FieldType} :
    MSpec env (listLength f) (fun st => FieldOK env st ⟨f, .arrayOfScalar item⟩)
      (fun _ st st' => st' = st) NoPos := by
  intro st hst hpre
  obtain ⟨_, xs, hg⟩ := hpre
  simp only at hg
  simp only [listLength, bind, M.bind, getNode, hg, pure]
  exact ⟨hst, Ext.refl _ _, rfl⟩

theorem appendScalar_spec {env : Env} {f : Addr} {item : FieldType} {v : Scalar} :
    MSpec env (appendScalar f v) (fun st => FieldOK env st ⟨f, .arrayOfScalar item⟩)
      (fun _ _ st' => FieldOK env st' ⟨f, .arrayOfScalar item⟩) NoPos := by
  intro st hst hpre
  obtain ⟨⟨ht, hl⟩, xs, hg⟩ := hpre
  simp only at ht hg
  obtain ⟨b, hv⟩ := hst.get ht hg
  simp only [appendScalar, bind, M.bind, getNode, hg]
  refine ⟨hst.set ht (VOK.list_append hv (.leaf _ _ _ (FieldType.isContainer_of_isLeaf hl))),
    Ext.set hg ht (ExtFrom.of_children_append ⟨_, rfl⟩ (extra := [_]) rfl), ⟨ht, hl⟩,
    xs ++ [.scalar v], ?_⟩
  exact Node.get?_set_same _ _ _ (by simp [hg])

/-- for any `pr`: the `presence` of the field kind is not read -/
theorem storeScalar_spec {env : Env} {f : Addr} {t : FieldType} {presence pr : Bool} {v : Scalar} :
    MSpec env (storeScalar f pr v) (fun st => FieldOK env st ⟨f, .scalar t presence⟩)
      (fun _ _ st' => FieldOK env st' ⟨f, .scalar t presence⟩) NoPos := by
  intro st hst hpre
  obtain ⟨⟨ht, hl⟩, n, hg⟩ := hpre
  simp only at ht hg
  have hc := FieldType.isContainer_of_isLeaf hl
  simp only [storeScalar]
  refine ⟨hst.set ht (.leaf _ _ _ hc), Ext.set hg ht (ExtFrom.leaf env hc _ _), ⟨ht, hl⟩,
    (if pr || !v.isZero then .scalar v else .absent), ?_⟩
  exact Node.get?_set_same _ _ _ (by simp [hg])

end J5V.Walker
