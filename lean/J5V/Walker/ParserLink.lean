import J5V.Bcl.ParseFileProofs
import J5V.Bcl.PosLines
import J5V.Bcl.FragWFProofs
import J5V.Bcl.FirstErrorProofs
import J5V.Bcl.OrderProofs
import J5V.Walker.WalkMain
/-!
# The parser's output meets the hypotheses of the walker theorems

The walker theorems (`WalkMain.lean`) speak about an arbitrary statement list `body` with
`bodyTypesOK body` (every block type reference has an ident) and give error positions in terms of
`BodyPos body`. Here `body` is tied to the parser model: for `parseFile cls src ff = .tree f`

* `parseFile_bodyTypesOK`: `bodyTypesOK f.body = true` — every block header of the tree is the header of a
  `.header` fragment (`fragmentsToFile_inv`, the general lemma about `fragsLoop` / `closeInto` /
  `closeAll` in `Bcl/FragStepProofs.lean`), and a header fragment of an accepted source has a non-empty type reference
  (`collectFragments_fragWF`: `popReference` pops at least one ident before `newReference`);
* `parseFile_stmtIn`: `StmtIn (InFileLC src) s` for every statement: every span the walker can put on an
  error is `start`/`end` inside the file (`C11`'s `Statement.okList (InFileLC src) f.body`; `Statement.ok`
  covers every span `StmtIn` asks for);
* `parseFile_bodyPos`: `BodyPos f.body p → InFileLC src p`;
* `J5V.Bcl.parseFile_bodyOrdered` (`J5V/Bcl/OrderProofs.lean`): every `parseFile` tree is `BodyOrdered` — the
  walker of the parser reads tokens in source order (`WInv.ordered`), so consecutive tags / qualifiers / array
  elements are in source order, and every node span has `start ≤ end_`. So the span of every walk error of a
  parsed file lies inside the file AND is not reversed (`parse_walk_error_span_ordered`).
-/
namespace J5V.Walker
open J5V.Bcl

/-! ## no block of `fragmentsToFile frags` has an empty type reference if no `.header` fragment has -/

theorem bodyTypesOK_snoc : ∀ (a : List Statement) (s : Statement), bodyTypesOK a = true →
    statementTypesOK s = true → bodyTypesOK (a ++ [s]) = true
  | [], s, _, hs => by simp [bodyTypesOK, hs]
  | x :: xs, s, ha, hs => by
    simp only [List.cons_append, bodyTypesOK, Bool.and_eq_true] at ha ⊢
    exact ⟨ha.1, bodyTypesOK_snoc xs s ha.2 hs⟩

theorem fragmentsToFile_bodyTypesOK (frags : List Fragment)
    (hf : ∀ h, Fragment.header h ∈ frags → h.type.idents ≠ []) :
    bodyTypesOK (fragmentsToFile frags).body = true :=
  fragmentsToFile_inv (S := fun s => statementTypesOK s = true) (H := fun h => h.type.idents ≠ [])
    bodyTypesOK_snoc (fun h b hh hb => by simp [statementTypesOK, hh, hb]) rfl frags
    fun f hm => by
      cases f with
      | header h => exact hf h hm
      | assign _ | desc _ => exact rfl
      | comment _ | close _ => trivial

/-- **the parser's trees have no empty block type reference** (both modes, every classifier, every
source): the hypothesis `bodyTypesOK` of the walker theorems holds for every `parseFile` tree -/
theorem parseFile_bodyTypesOK (cls : Cls) (src : List Rune) (ff : Bool) (f : File)
    (h : parseFile cls src ff = .tree f) : bodyTypesOK f.body = true := by
  obtain ⟨f1, h1, hb1⟩ := parseFile_tree_true cls src ff f h
  obtain ⟨ts, frags, hts, hwk, hf1, _⟩ := parseFile_tree_inv h1
  have hcf := collectFragments_of hts hwk
  have hwf := collectFragments_fragWF cls src frags hcf
  rw [← hb1, hf1]
  apply fragmentsToFile_bodyTypesOK
  intro hd hmem
  have : HeaderWF cls hd := hwf _ hmem
  exact this.1.1

/-! ## `Statement.ok Q` (C11) gives `StmtIn Q` (walker) -/

section
variable {Q : Pos → Prop}

theorem spanOf_of_pair {s e : Pos} (h : PosPairOK Q s e) : SpanOf Q ⟨s, e⟩ := ⟨h.2.1, h.2.2⟩

theorem spanOf_of_ok {sp : Span} (h : Span.ok Q sp) : SpanOf Q sp := ⟨h.2.1, h.2.2⟩

mutual
theorem valueIn_of_ok : ∀ v : Value, Value.ok Q v → J5V.Walker.ValueIn (SpanOf Q) v
  | .scalar tok sp, h => by
    unfold Value.ok at h
    exact .scalar tok sp (spanOf_of_ok h.2)
  | .array vs sp, h => by
    unfold Value.ok at h
    exact .array vs sp (spanOf_of_ok h.2) (valuesIn_of_ok vs h.1)
theorem valuesIn_of_ok : ∀ vs : List Value, Value.okList Q vs →
    ∀ v, v ∈ vs → J5V.Walker.ValueIn (SpanOf Q) v
  | [], _, _, hv => nomatch hv
  | x :: xs, h, v, hv => by
    unfold Value.okList at h
    rcases List.mem_cons.mp hv with hx | hv
    · rw [hx]; exact valueIn_of_ok x h.1
    · exact valuesIn_of_ok xs h.2 v hv
end

theorem tagIn_of_ok {t : TagValue} (h : TagValue.ok Q t) : J5V.Walker.TagIn Q t :=
  ⟨spanOf_of_ok h.2.2.2, fun ref href i hi => spanOf_of_ok ((h.2.1 ref href).1 i hi).2⟩

theorem headerIn_of_ok {h : BlockHeader} (hh : BlockHeader.ok Q h) (hne : h.type.idents ≠ []) :
    HeaderIn Q h where
  typeNonempty := hne
  typeIdents := fun i hi => spanOf_of_ok (hh.1.1 i hi).2
  typeEnd := hh.1.2.2.2
  tags := fun t ht => tagIn_of_ok (hh.2.1 t ht)
  qualifiers := fun t ht => tagIn_of_ok (hh.2.2.1 t ht)
  description := fun d hd => spanOf_of_ok (hh.2.2.2.1 d hd).2
  span := spanOf_of_pair hh.2.2.2.2.1

mutual
theorem stmtIn_of_ok : ∀ s : Statement, Statement.ok Q s → statementTypesOK s = true → StmtIn Q s
  | .desc d, h, _ => by
    unfold Statement.ok at h
    exact .desc d (spanOf_of_ok h.2)
  | .assign a, h, _ => by
    unfold Statement.ok at h
    exact .assign a (spanOf_of_pair h.2.2.1) (fun i hi => spanOf_of_ok (h.1.1 i hi).2)
      (valueIn_of_ok a.value h.2.1)
  | .block hd body, h, ht => by
    unfold Statement.ok at h
    simp only [statementTypesOK, Bool.and_eq_true, Bool.not_eq_true', List.isEmpty_eq_false_iff] at ht
    exact .block hd body (headerIn_of_ok h.1 ht.1) (bodyIn_of_ok body h.2 ht.2)
theorem bodyIn_of_ok : ∀ body : List Statement, Statement.okList Q body → bodyTypesOK body = true →
    ∀ s, s ∈ body → StmtIn Q s
  | [], _, _, _, hs => nomatch hs
  | x :: xs, h, ht, s, hs => by
    unfold Statement.okList at h
    simp only [bodyTypesOK, Bool.and_eq_true] at ht
    rcases List.mem_cons.mp hs with hx | hs
    · rw [hx]; exact stmtIn_of_ok x h.1 ht.1
    · exact bodyIn_of_ok xs h.2 ht.2 s hs
end

end

/-- the origin `0:0` is a position of every file (also of the empty one) -/
theorem inFileLC_zero (src : List Rune) : InFileLC src ⟨0, 0⟩ := (inFile_zero src).toLC

/-- **every span of a parsed statement lies in the file** (in the form the walker theorems use): for a
`parseFile` tree every statement satisfies `StmtIn (InFileLC src)` -/
theorem parseFile_stmtIn (cls : Cls) (src : List Rune) (ff : Bool) (f : File)
    (h : parseFile cls src ff = .tree f) : ∀ s, s ∈ f.body → StmtIn (InFileLC src) s := by
  exact bodyIn_of_ok f.body (parseFile_tree_ok (InFileLC src) (fun _ h => h.toLC) h)
    (parseFile_bodyTypesOK cls src ff f h)

/-- **positions of the statements are positions of the file** -/
theorem parseFile_bodyPos (cls : Cls) (src : List Rune) (ff : Bool) (f : File)
    (h : parseFile cls src ff = .tree f) : ∀ p, BodyPos f.body p → InFileLC src p :=
  fun _ hp => hp (InFileLC src) (inFileLC_zero src) (parseFile_stmtIn cls src ff f h)

/-! ## The walker theorems at source level (j5 environment, file stub) -/

theorem parse_walk_no_panic (cls : Cls) (src : List Rune) (ff : Bool) (f : File) (filename : Str)
    (h : parseFile cls src ff = .tree f) (why : String) :
    walkSchema j5Env f.body (stub j5Env filename) ≠ .panic why :=
  C07W_j5_walk_no_panic filename f.body (parseFile_bodyTypesOK cls src ff f h) why

theorem parse_walk_error_position (cls : Cls) (src : List Rune) (ff : Bool) (f : File) (filename : Str)
    (h : parseFile cls src ff = .tree f) {e : WErr}
    (he : walkSchema j5Env f.body (stub j5Env filename) = .err e) :
    ∃ sp, e.pos = some sp ∧ InFileLC src sp.start ∧ InFileLC src sp.end_ := by
  obtain ⟨sp, h1, h2, h3⟩ :=
    C07W_j5_walk_error_position filename f.body (parseFile_bodyTypesOK cls src ff f h) he
  exact ⟨sp, h1, parseFile_bodyPos cls src ff f h _ h2, parseFile_bodyPos cls src ff f h _ h3⟩

theorem parse_walk_ok (cls : Cls) (src : List Rune) (ff : Bool) (f : File) (filename : Str)
    (h : parseFile cls src ff = .tree f) {tree : Node}
    (hw : walkSchema j5Env f.body (stub j5Env filename) = .ok tree) :
    TreeOK j5Env tree ∧ Ext j5Env (stub j5Env filename) tree :=
  C07W_j5_walk_ok filename f.body (parseFile_bodyTypesOK cls src ff f h) hw

/-- parse + walk of any source: diagnostics; or a tree whose walk is a well-typed extension of the stub
or an error positioned inside the file -/
theorem parse_walk_total (cls : Cls) (src : List Rune) (ff : Bool) (filename : Str) :
    (∃ es, es ≠ [] ∧ parseFile cls src ff = .errors es) ∨
    (∃ f, parseFile cls src ff = .tree f ∧
      ((∃ tree, walkSchema j5Env f.body (stub j5Env filename) = .ok tree ∧
          TreeOK j5Env tree ∧ Ext j5Env (stub j5Env filename) tree) ∨
       (∃ e sp, walkSchema j5Env f.body (stub j5Env filename) = .err e ∧
          e.pos = some sp ∧ InFileLC src sp.start ∧ InFileLC src sp.end_))) := by
  rcases parseFile_total cls src ff with h | ⟨f, h⟩
  · exact Or.inl h
  · refine Or.inr ⟨f, h, ?_⟩
    cases hw : walkSchema j5Env f.body (stub j5Env filename) with
    | ok tree => exact Or.inl ⟨tree, rfl, parse_walk_ok cls src ff f filename h hw⟩
    | err e =>
      obtain ⟨sp, h1, h2, h3⟩ := parse_walk_error_position cls src ff f filename h hw
      exact Or.inr ⟨e, sp, rfl, h1, h2, h3⟩
    | panic why => exact absurd hw (parse_walk_no_panic cls src ff f filename h why)

/-! ## Helpers for the non-vacuity examples (a closed Bool, evaluated by the kernel) -/

/-- the span of an error result -/
def Res.errPos {α : Type} : Res α → Option Span
  | .err e => e.pos
  | _ => none

/-- from the Bool the kernel evaluates to the statement it stands for -/
theorem tree_of_match {p : ParseOut} {P : File → Prop} [∀ f, Decidable (P f)]
    (h : (match p with | .tree f => decide (P f) | _ => false) = true) : ∃ f, p = .tree f ∧ P f := by
  cases p with
  | tree f => exact ⟨f, rfl, of_decide_eq_true h⟩
  | errors es => cases h
  | panic s => cases h

/-! ## The span of a walk error of a parsed file is not reversed -/

/-- an error of the walk of a parsed file carries a span that is not reversed -/
theorem parse_walk_error_span_le (cls : Cls) (src : List Rune) (ff : Bool) (f : File) (filename : Str)
    (h : parseFile cls src ff = .tree f) {e : WErr}
    (he : walkSchema j5Env f.body (stub j5Env filename) = .err e) :
    ∃ sp, e.pos = some sp ∧ sp.start ≤ sp.end_ :=
  C07W_j5_walk_error_span_ordered filename f.body (parseFile_bodyTypesOK cls src ff f h)
    (J5V.Bcl.parseFile_bodyOrdered cls src ff f h) he

/-- **source level**: the span of a walk error of a parsed file has both ends inside the file and
`start ≤ end_` -/
theorem parse_walk_error_span_ordered (cls : Cls) (src : List Rune) (ff : Bool) (f : File) (filename : Str)
    (h : parseFile cls src ff = .tree f) {e : WErr}
    (he : walkSchema j5Env f.body (stub j5Env filename) = .err e) :
    ∃ sp, e.pos = some sp ∧ InFileLC src sp.start ∧ InFileLC src sp.end_ ∧ sp.start ≤ sp.end_ := by
  obtain ⟨sp, h1, h2, h3⟩ := parse_walk_error_position cls src ff f filename h he
  obtain ⟨sp', h1', h4⟩ := parse_walk_error_span_le cls src ff f filename h he
  rw [h1] at h1'; cases h1'
  exact ⟨sp, h1, h2, h3, h4⟩

end J5V.Walker
