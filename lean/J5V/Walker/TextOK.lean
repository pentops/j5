import J5V.Walker.PrintText
import J5V.Walker.TextOKField
/-!
# `toBcl ast` satisfies `BodyTextOK` on the supported fragment

`toBcl_textOK`: for every classifier that agrees with ASCII on ASCII, the tree of a supported file
has well-shaped headers and assignments (identifier literals that lex as one IDENT, non-empty
references, STRING / INT / BOOL values), a block without `{` has no body, and there is no stand-alone
description: the hypotheses of the text round trip of `J5V/Bcl/TreeText.lean` (used in `TextRoundtrip.lean`).
-/
namespace J5V.Walker
open J5V.Bcl

variable {cls : Cls}

theorem open_true {body : List Statement} : true = false → body = [] := fun h => by cases h

theorem enumBcl_ok (hc : ClsAscii cls) {e : J5V.Compile.EnumDecl} (h : enumDeclOk true e = true) :
    StmtTextOK cls (enumBcl e) := by
  simp only [enumDeclOk, if_true, Bool.and_eq_true] at h
  unfold enumBcl
  exact stmtOK_block hc (by decide) (forall_mem_one (tagWF_nameTag hc h.1.1)) (forall_mem_nil _) open_true
    (bodyOK_append (bodyOK_ite' _ (bodyOK_assign hc (KeyOK.one (by decide)) (topWF_str cls _)))
      (optsBcl_ok hc h.2))

mutual
theorem objectBcl_ok (hc : ClsAscii cls) (env : Env) : ∀ (kw pkw : Str) (o : J5V.Compile.ObjDecl),
    isIdent kw = true → isIdent pkw = true → ∀ isOneof : Bool, objDeclOk env isOneof o = true →
    StmtTextOK cls (objectBcl kw pkw o)
  | kw, pkw, .mk name props nested psm, hkw, hpkw, isOneof, h => by
    simp only [objDeclOk, Bool.and_eq_true] at h
    simp only [objectBcl]
    refine stmtOK_block hc hkw (forall_mem_one (tagWF_nameTag hc h.1.1.1)) (forall_mem_nil _) open_true
      (bodyOK_append (propsBcl_ok hc env pkw props hpkw h.1.2) ?_)
    have h2 := h.2
    cases isOneof with
    | true =>
      cases nested with
      | nil => simp only [nestedBcl]; exact bodyOK_nil cls
      | cons a rest => simp at h2
    | false =>
      simp only [Bool.false_eq_true, if_false] at h2
      exact nestedBcl_ok hc env true nested h2

theorem nestedBcl_ok (hc : ClsAscii cls) (env : Env) : ∀ (inObject : Bool) (l : List J5V.Compile.Nested),
    nestedOk env inObject l = true → BodyTextOK cls (nestedBcl l)
  | _, [], _ => by
    simp only [nestedBcl]; exact bodyOK_nil cls
  | inObject, .object o :: rest, h => by
    simp only [nestedOk, Bool.and_eq_true] at h
    simp only [nestedBcl]
    exact bodyOK_cons (objectBcl_ok hc env wObject wField o (by decide) (by decide) false h.1)
      (nestedBcl_ok hc env inObject rest h.2)
  | inObject, .oneof o :: rest, h => by
    simp only [nestedOk, Bool.and_eq_true] at h
    simp only [nestedBcl]
    exact bodyOK_cons (objectBcl_ok hc env wOneof wOption o (by decide) (by decide) true h.1.2)
      (nestedBcl_ok hc env inObject rest h.2)
  | inObject, .enum e :: rest, h => by
    simp only [nestedOk, Bool.and_eq_true] at h
    simp only [nestedBcl]
    exact bodyOK_cons (enumBcl_ok hc h.1.2) (nestedBcl_ok hc env inObject rest h.2)
end

theorem anonBcl_ok (hc : ClsAscii cls) (env : Env) {kw : Str} (hkw : isIdent kw = true)
    {props : List CProperty} (h : propsOk env props = true) : StmtTextOK cls (anonBcl kw props) :=
  stmtOK_block hc hkw (forall_mem_nil _) (forall_mem_nil _) open_true
    (propsBcl_ok hc env wField props (by decide) h)

theorem methodBcl_ok (hc : ClsAscii cls) (env : Env) (m : J5V.Compile.Method) (h : methodOk env m = true) :
    StmtTextOK cls (methodBcl m) := by
  obtain ⟨name, verb, path, request, response, mopt⟩ := m
  simp only [methodOk, Bool.and_eq_true] at h
  obtain ⟨⟨⟨⟨⟨hn, _⟩, _⟩, _⟩, hreq⟩, hres⟩ := h
  simp only [methodBcl]
  cases request with
  | none => simp at hreq
  | some ps =>
    refine stmtOK_block hc (by decide) (forall_mem_one (tagWF_nameTag hc hn)) (forall_mem_nil _) open_true ?_
    refine bodyOK_append (bodyOK_cons (stmtOK_assign hc (KeyOK.one (by decide)) (topWF_str cls _))
      (bodyOK_cons (stmtOK_assign hc (KeyOK.one (by decide)) (topWF_str cls _))
        (bodyOK_one (anonBcl_ok hc env (by decide) hreq)))) ?_
    cases response with
    | none => exact bodyOK_nil cls
    | some rs => exact bodyOK_one (anonBcl_ok hc env (by decide) hres)

theorem serviceOk_methods {env : Env} {named : Bool} {s : J5V.Compile.Service}
    (h : serviceOk env named s = true) : s.methods.all (methodOk env) = true := by
  simp only [serviceOk, Bool.and_eq_true] at h
  exact h.2

theorem serviceBody_ok (hc : ClsAscii cls) (env : Env) (named : Bool) (s : J5V.Compile.Service)
    (h : s.methods.all (methodOk env) = true) : BodyTextOK cls (serviceBody named s) := by
  unfold serviceBody
  refine bodyOK_append (bodyOK_append
    (bodyOK_ite' _ (bodyOK_assign hc (KeyOK.one (by decide)) (topWF_str cls _))) ?_)
    (bodyOK_map _ _ (fun m hm => methodBcl_ok hc env m (List.all_eq_true.1 h m hm)))
  split
  · exact bodyOK_nil cls
  · exact bodyOK_assign hc (KeyOK.one (by decide)) (topWF_str cls _)

theorem serviceBcl_ok (hc : ClsAscii cls) (env : Env) (s : J5V.Compile.Service)
    (h : serviceOk env true s = true) : StmtTextOK cls (serviceBcl s) := by
  have hm := serviceOk_methods h
  have hn : isIdent (s.name.getD []) = true := by
    simp only [serviceOk, Bool.and_eq_true] at h
    have h2 := h.1.1.2
    cases hs : s.name with
    | none => rw [hs] at h2; simp at h2
    | some n => rw [hs] at h2; simpa using h2
  unfold serviceBcl
  exact stmtOK_block hc (by decide) (forall_mem_one (tagWF_nameTag hc hn)) (forall_mem_nil _) open_true
    (serviceBody_ok hc env true s hm)

theorem commandBcl_ok (hc : ClsAscii cls) (env : Env) (s : J5V.Compile.Service)
    (h : serviceOk env false s = true) : StmtTextOK cls (commandBcl s) :=
  stmtOK_block hc (by decide) (forall_mem_nil _) (forall_mem_nil _) open_true
    (serviceBody_ok hc env false s (serviceOk_methods h))

theorem topicMsgBcl_ok (hc : ClsAscii cls) (env : Env) {kw : Str} (hkw : isIdent kw = true)
    (m : J5V.Compile.TopicMsg) (h : topicMsgOk env m = true) : StmtTextOK cls (topicMsgBcl kw m) := by
  obtain ⟨name, props⟩ := m
  simp only [topicMsgOk, Bool.and_eq_true] at h
  simp only [topicMsgBcl]
  refine stmtOK_block hc hkw ?_ (forall_mem_nil _) open_true (propsBcl_ok hc env wField props (by decide) h.2)
  cases name with
  | none => exact forall_mem_nil _
  | some n => exact forall_mem_one (tagWF_nameTag hc h.1)

theorem topicMsgs_ok (hc : ClsAscii cls) (env : Env) {kw : Str} (hkw : isIdent kw = true)
    (l : List J5V.Compile.TopicMsg) (h : l.all (topicMsgOk env) = true) :
    BodyTextOK cls (l.map (topicMsgBcl kw)) :=
  bodyOK_map _ _ (fun m hm => topicMsgBcl_ok hc env hkw m (List.all_eq_true.1 h m hm))

theorem topicKindWord_ident (t : J5V.Compile.TopicType) : isIdent (topicKindWord t) = true := by
  cases t <;> rfl

theorem topicBcl_ok (hc : ClsAscii cls) (env : Env) (t : J5V.Compile.Topic) (h : topicOk env t = true) :
    StmtTextOK cls (topicBcl t) := by
  obtain ⟨name, type⟩ := t
  simp only [topicOk, Bool.and_eq_true] at h
  simp only [topicBcl]
  refine stmtOK_block hc (by decide)
    (forall_mem_two (tagWF_nameTag hc h.1) (tagWF_word hc _ (topicKindWord_ident type))) (forall_mem_nil _)
    open_true ?_
  have h2 := h.2
  cases type with
  | publish msgs =>
    simp only [topicBody]
    exact topicMsgs_ok hc env (by decide) msgs h2
  | reqres reqs reps =>
    simp only [Bool.and_eq_true] at h2
    simp only [topicBody]
    exact bodyOK_append (topicMsgs_ok hc env (by decide) reqs h2.1) (topicMsgs_ok hc env (by decide) reps h2.2)
  | upsert en msg =>
    simp only [Bool.and_eq_true] at h2
    simp only [topicBody]
    exact bodyOK_one (topicMsgBcl_ok hc env (by decide) msg h2.2)
  | event en msg => simp at h2

theorem keyBcl_ok (hc : ClsAscii cls) (env : Env) (k : J5V.Compile.EntityKeyDecl) (h : keyOk env k = true) :
    StmtTextOK cls (keyBcl k) := by
  obtain ⟨prop, shard⟩ := k
  cases prop with
  | mk name required optional f =>
    simp only [keyOk, propOk, Bool.and_eq_true] at h
    simp only [keyBcl]
    refine stmtOK_block hc (by decide)
      (forall_mem_two (tagWF_nameTag hc h.1) (tagWF_word hc _ (fieldKind_ident f)))
      (fieldQuals_ok hc env f h.2) (open_body _ _) ?_
    exact bodyOK_append
      (bodyOK_append (bodyOK_ite _ (bodyOK_assign hc (KeyOK.one (by decide)) (topWF_bool hc _)))
        (bodyOK_ite _ (bodyOK_assign hc (KeyOK.one (by decide)) (topWF_bool hc _))))
      (fieldBody_ok hc env f [] true h.2 PfxOK.nil)

theorem summaryBcl_ok (hc : ClsAscii cls) (env : Env) (s : J5V.Compile.Summary)
    (h : propsOk env s.props = true) : StmtTextOK cls (summaryBcl s) :=
  stmtOK_block hc (by decide) (forall_mem_nil _) (forall_mem_nil _) open_true
    (bodyOK_append (bodyOK_ite' _ (bodyOK_assign hc (KeyOK.one (by decide)) (topWF_str cls _)))
      (propsBcl_ok hc env wField s.props (by decide) h))

theorem queryBcl_ok (hc : ClsAscii cls) (q : J5V.Compile.EntityQuery) : StmtTextOK cls (queryBcl q) :=
  stmtOK_block hc (by decide) (forall_mem_nil _) (forall_mem_nil _) open_true
    (bodyOK_append (bodyOK_ite _ (bodyOK_assign hc (KeyOK.one (by decide)) (topWF_bool hc _)))
      (bodyOK_ite' _ (bodyOK_assign hc (KeyOK.one (by decide)) (topWF_strs cls _))))

theorem statusBcl_ok (hc : ClsAscii cls) {s : Str} (h : isIdent s = true) : StmtTextOK cls (statusBcl s) :=
  stmtOK_block hc (by decide) (forall_mem_one (tagWF_nameTag hc h)) (forall_mem_nil _) (fun _ => rfl)
    (bodyOK_nil cls)

theorem entityBcl_ok (hc : ClsAscii cls) (env : Env) (e : J5V.Compile.Entity) (h : entityOk env e = true) :
    StmtTextOK cls (entityBcl e) := by
  simp only [entityOk, Bool.and_eq_true] at h
  obtain ⟨⟨⟨⟨⟨⟨⟨⟨⟨hn, _⟩, hkeys⟩, hdata⟩, hst⟩, hev⟩, hcmd⟩, hsum⟩, _⟩, hnest⟩ := h
  unfold entityBcl
  refine stmtOK_block hc (by decide) (forall_mem_one (tagWF_nameTag hc hn)) (forall_mem_nil _) open_true ?_
  refine bodyOK_append (bodyOK_append (bodyOK_append (bodyOK_append (bodyOK_append (bodyOK_append
    (bodyOK_append (bodyOK_append ?_ ?_) ?_) ?_) ?_) ?_) ?_) ?_) ?_
  · exact bodyOK_ite' _ (bodyOK_assign hc (KeyOK.one (by decide)) (topWF_str cls _))
  · exact bodyOK_map _ _ (fun k hk => keyBcl_ok hc env k (List.all_eq_true.1 hkeys k hk))
  · exact propsBcl_ok hc env _ e.data (by decide) hdata
  · exact bodyOK_map _ _ (fun s hs => statusBcl_ok hc (List.all_eq_true.1 hst s hs))
  · exact bodyOK_map _ _ (fun o ho =>
      objectBcl_ok hc env _ _ o (by decide) (by decide) false (List.all_eq_true.1 hev o ho))
  · exact bodyOK_map _ _ (fun s hs => commandBcl_ok hc env s (List.all_eq_true.1 hcmd s hs))
  · refine bodyOK_map _ _ (fun s hs => summaryBcl_ok hc env s ?_)
    have := List.all_eq_true.1 hsum s hs
    simp only [Bool.and_eq_true] at this
    exact this.2
  · split
    · exact bodyOK_nil cls
    · exact bodyOK_one (queryBcl_ok hc _)
  · exact nestedBcl_ok hc env false e.nested hnest

theorem elemBcl_ok (hc : ClsAscii cls) (env : Env) : ∀ el : J5V.Compile.Elem, elemOk env el = true →
    StmtTextOK cls (elemBcl el)
  | .object o, h => objectBcl_ok hc env _ _ o (by decide) (by decide) false h
  | .oneof o, h => objectBcl_ok hc env _ _ o (by decide) (by decide) true h
  | .enum e, h => enumBcl_ok hc h
  | .service s, h => serviceBcl_ok hc env s h
  | .topic t, h => topicBcl_ok hc env t h
  | .entity e, h => entityBcl_ok hc env e h

theorem importBcl_ok (hc : ClsAscii cls) (i : J5V.Compile.Import) (h : importOk i = true) :
    StmtTextOK cls (importBcl i) := by
  unfold importBcl
  unfold importOk at h
  split
  · exact stmtOK_block hc (by decide) (forall_mem_one (tagWF_tagStr cls _)) (forall_mem_nil _)
      (fun _ => rfl) (bodyOK_nil cls)
  · rename_i hs
    rw [if_neg hs] at h
    simp only [Bool.and_eq_true, Bool.or_eq_true, decide_eq_true_eq] at h
    split
    · exact stmtOK_block hc (by decide) (forall_mem_one (tagWF_tagRef .none (refWF_dottedRef hc h.1)))
        (forall_mem_nil _) (fun _ => rfl) (bodyOK_nil cls)
    · rename_i ha
      exact stmtOK_block hc (by decide) (forall_mem_one (tagWF_tagRef .none (refWF_dottedRef hc h.1)))
        (forall_mem_one (tagWF_word hc _ (h.2.resolve_left ha))) (fun _ => rfl) (bodyOK_nil cls)

theorem packageBcl_ok (hc : ClsAscii cls) {decl : Str} (h : isDotted decl = true) :
    StmtTextOK cls (packageBcl decl) :=
  stmtOK_block hc (by decide) (forall_mem_one (tagWF_tagRef .none (refWF_dottedRef hc h))) (forall_mem_nil _)
    (fun _ => rfl) (bodyOK_nil cls)

theorem toBcl_textOK_env (hc : ClsAscii cls) (env : Env) : ∀ ast : J5V.Compile.SrcFile,
    supportedEnv env ast = true → BodyTextOK cls (toBcl ast)
  | .j5s _ imports elems decl, h => by
    simp only [supportedEnv, Bool.and_eq_true] at h
    simp only [toBcl]
    exact bodyOK_cons (packageBcl_ok hc h.1.1)
      (bodyOK_append (bodyOK_map _ _ (fun i hi => importBcl_ok hc i (List.all_eq_true.1 h.1.2 i hi)))
        (bodyOK_map _ _ (fun el hel => elemBcl_ok hc env el (List.all_eq_true.1 h.2 el hel))))
  | .proto .., h => by simp [supportedEnv] at h

/-- the tree of a supported file has the shape the text round trip needs -/
theorem toBcl_textOK (cls : Cls) (hcls : ClsAscii cls) (ast : J5V.Compile.SrcFile)
    (h : supported ast = true) : J5V.Bcl.BodyTextOK cls (toBcl ast) :=
  toBcl_textOK_env hcls j5Env ast h

theorem toBcl_textOK_ascii (ast : J5V.Compile.SrcFile) (h : supported ast = true) :
    J5V.Bcl.BodyTextOK asciiCls (toBcl ast) :=
  toBcl_textOK asciiCls asciiCls_clsAscii ast h

end J5V.Walker
