import J5V.Walker.KindProofs
import J5V.Walker.WalkRules
import J5V.Walker.SplitProofs
import J5V.Walker.LiteralProofs
/-!
# `setAttribute` ⇄ `setContainerFromScalar`: no panic with fuel ≥ 4 (`fuelOf env ≥ 8`)

The recursion follows the spec. `setAttribute_body` / `setContainerFromScalar_bodyS` verify ONE level of each
function from hypotheses about the level below; then, without any induction:

* **L1** `setAttribute_leaf` (fuel ≥ 1): in the one-block scope of a container, along a path checked by
  `Env.splitOK`, the field reached is a scalar: no deeper call;
* **L2** `setContainerFromScalar_singleS` (fuel ≥ 2): a container in its own one-block scope — its split paths
  are those of `Env.splitOK` (`splitPaths_ok`), each set by L1;
* **L3** `setAttribute_specS` (fuel ≥ 3): any valid scope; a container field is entered through `childBlock`
  (a one-block scope) and set by L2;
* **L4** `setContainerFromScalar_specS` (fuel ≥ 4): any valid scope (the call of `finishTags`, where the
  names of the split paths are looked up in ALL blocks of the merged scope): each path is set by L3.

Four units are enough for EVERY well-formed `env`: `Env.splitOK` makes every path of a scalar split end at a SCALAR
field, so a container entered through its split never enters another one; `Env.WF` thereby excludes a spec whose split
path leads into another container with a split, where the Go code would recurse further.

Errors: `PosIn S` — no position, or a position of `S : Span → Prop`. `S` need NOT be closed under hulls (the
set of ordered spans, `SpanOrd`, is not): `AVInS S v` says that every span of the value is in `S` AND that,
for every array (nested ones included), the hull `⟨first.span.start, last.span.end_⟩` of every non-empty
SUBLIST of its elements is in `S` (`HullsIn`). That is what `setContainerFromScalar` needs: its `remaining`
values are a sublist of the values it split — the elements of the array value (in source order;
`rightToLeft` reverses twice), or `strings.Split` pieces of ONE string value, which all carry that value's
span. For a set closed under hulls `ValueIn` (spans only) gives `ValueInS` (`ValueIn.valueInS`, `AVIn.avInS`), and
L3, L4 take the plain form `setAttribute_spec`, `setContainerFromScalar_spec`.
-/
namespace J5V.Walker
open J5V.Bcl

theorem AVIn.span {S : Span → Prop} {v : AV} (h : AVIn S v) : S v.span := by
  cases v with
  | value x => cases h with
    | scalar _ _ h => exact h
    | array _ _ h _ => exact h
  | tag t | str s sp | bool b => exact h

theorem AVIn.asArray {S : Span → Prop} {v : AV} {vs : List AV} (h : AVIn S v) (ha : v.asArray = some vs) :
    ∀ x, x ∈ vs → AVIn S x := by
  cases v with
  | value x =>
    cases h with
    | scalar _ _ _ => simp [AV.asArray] at ha
    | array xs sp _ hall =>
      cases xs with
      | nil => simp [AV.asArray] at ha
      | cons y ys =>
        simp only [AV.asArray, Option.some.injEq] at ha
        subst ha
        intro x hx
        simp only [List.mem_map] at hx
        obtain ⟨z, hz, rfl⟩ := hx
        exact hall z hz
  | tag t | str s sp | bool b => simp [AV.asArray] at ha

theorem HullsIn.sublist {S : Span → Prop} {l l' : List Span} (h : HullsIn S l) (hs : l'.Sublist l) :
    HullsIn S l' := fun l'' hs' => h l'' (hs'.trans hs)

/-- a non-empty sublist, by its head: it has a last element, and its hull is in `S` -/
theorem HullsIn.cons_hull {S : Span → Prop} {α : Type} {f : α → Span} {L : List Span} (h : HullsIn S L) {first : α}
    {rest : List α} (hs : ((first :: rest).map f).Sublist L) :
    ∃ last, (first :: rest).getLast? = some last ∧ S ⟨(f first).start, (f last).end_⟩ := by
  obtain ⟨last, hl⟩ : ∃ last, (first :: rest).getLast? = some last := ⟨_, List.getLast?_eq_some_getLast (by simp)⟩
  exact ⟨last, hl, h _ hs (f first) (f last) rfl (by rw [List.getLast?_map, hl]; rfl)⟩

/-- copies of one span of `S` -/
theorem hullsIn_const {S : Span → Prop} {l : List Span} {sp : Span} (hsp : S sp) (h : ∀ a, a ∈ l → a = sp) :
    HullsIn S l := by
  intro l' hs first last hf hl
  have h1 : first = sp := h first (hs.subset (List.mem_of_head? hf))
  have h2 : last = sp := h last (hs.subset (List.mem_of_getLast? hl))
  rw [h1, h2]; exact hsp

theorem ValueInS.valueIn {S : Span → Prop} {v : Value} (h : ValueInS S v) : ValueIn S v := by
  induction h with
  | scalar tok sp h => exact .scalar tok sp h
  | array vs sp h1 _ _ ih => exact .array vs sp h1 ih

theorem ValueInS.valuesIn {S : Span → Prop} : ∀ vs : List Value, (∀ v, v ∈ vs → ValueInS S v) →
    ∀ v, v ∈ vs → ValueIn S v :=
  fun _ h v hv => (h v hv).valueIn

theorem AVInS.avIn {S : Span → Prop} {v : AV} (h : AVInS S v) : AVIn S v := by
  cases v with
  | value x => exact ValueInS.valueIn h
  | tag t | str s sp | bool b => exact h

theorem AVInS.span {S : Span → Prop} {v : AV} (h : AVInS S v) : S v.span := h.avIn.span

/-- the elements of an array value: each one is `AVInS`, and the hulls of their sublists are in `S` -/
theorem AVInS.asArray {S : Span → Prop} {v : AV} {vs : List AV} (h : AVInS S v) (ha : v.asArray = some vs) :
    (∀ x, x ∈ vs → AVInS S x) ∧ HullsIn S (vs.map AV.span) := by
  cases v with
  | value x =>
    cases h with
    | scalar _ _ _ => simp [AV.asArray] at ha
    | array xs sp _ hall hh =>
      cases xs with
      | nil => simp [AV.asArray] at ha
      | cons y ys =>
        simp only [AV.asArray, Option.some.injEq] at ha
        subst ha
        refine ⟨?_, ?_⟩
        · intro x hx
          simp only [List.mem_map] at hx
          obtain ⟨z, hz, rfl⟩ := hx
          exact hall z hz
        · have : List.map AV.span (List.map AV.value (y :: ys)) = List.map Value.span (y :: ys) := by
            rw [List.map_map]; rfl
          rw [this]; exact hh
  | tag t | str s sp | bool b => simp [AV.asArray] at ha

/-- in a set closed under hulls, spans of the set have their hulls in it -/
theorem hullsIn_of_hull {S : Span → Prop} (hull : ∀ a b, S a → S b → S ⟨a.start, b.end_⟩) {l : List Span}
    (h : ∀ a, a ∈ l → S a) : HullsIn S l :=
  fun _ hs _ _ hf hl => hull _ _ (h _ (hs.subset (List.mem_of_head? hf))) (h _ (hs.subset (List.mem_of_getLast? hl)))

theorem ValueIn.valueInS {S : Span → Prop} {v : Value} (h : ValueIn S v)
    (hull : ∀ a b, S a → S b → S ⟨a.start, b.end_⟩) : ValueInS S v := by
  induction h with
  | scalar tok sp h => exact .scalar tok sp h
  | array vs sp h1 h2 ih =>
    exact .array vs sp h1 ih (hullsIn_of_hull hull fun a ha =>
      let ⟨v, hv, e⟩ := List.mem_map.mp ha; e ▸ AVIn.span (v := .value v) (h2 v hv))

theorem AVIn.avInS {S : Span → Prop} (hull : ∀ a b, S a → S b → S ⟨a.start, b.end_⟩) {v : AV}
    (h : AVIn S v) : AVInS S v := by
  cases v with
  | value x => exact ValueIn.valueInS h hull
  | tag t | str s sp | bool b => exact h

variable {env : Env}

/-- `appendValues`: a failing element is reported at its span -/
theorem appendValues_spec (S : Span → Prop) (arr : Addr) (item : FieldType) :
    ∀ vs : List AV, (∀ x, x ∈ vs → AVIn S x) →
      MSpec env (appendValues env arr item vs) (fun st => FieldOK env st ⟨arr, .arrayOfScalar item⟩)
        (fun _ _ _ => True) (PosIn S) := by
  intro vs
  induction vs with
  | nil => intro _; exact MSpec.pure (fun _ _ _ => trivial)
  | cons v rest ih =>
    intro hvs
    unfold appendValues
    cases hr : scalarFromAST env item v with
    | panic w => exact absurd hr (scalarFromAST_no_panic env item v w)
    | err e =>
      exact MSpec.wrapErr (((scalarFromAST_err_noPos hr).wrapped.posIn S).addPosition
        (hvs v List.mem_cons_self).span).posIn
    | ok s =>
      exact MSpec.seq (appendScalar_spec.posIn S)
        (fun _ => ih (fun x hx => hvs x (List.mem_cons_of_mem _ hx)))

/-- `Q`: what the walk tells about the parent scope; `K`: what is known of the kind of the field `scopeField` returns.
`h3`, the call one unit of fuel below, is asked for only if `K` admits a container, so that L1 needs none -/
theorem setAttribute_body (hwf : env.WF = true) (S : Span → Prop) (fuel : Nat) (sc : Scope) (path : PathSpec)
    (ref : List Ident) (val : AV) (app : Bool) (Pre : Node → Prop) (Q : Scope → Prop)
    (K : FieldKind → Prop) (hv : AVIn S val)
    (h1 : MSpec env (walkScope env sc (combinePath path ref).dropLast) Pre
      (fun ps _ st' => ScopeOK env st' ps ∧ Q ps) (PosIn S))
    (h2 : ∀ ps last, (combinePath path ref).getLast? = some last → Q ps →
      MSpec env (scopeField env ps last.name app) (fun st => ScopeOK env st ps)
        (fun f _ st' => FieldOK env st' f ∧ K f.kind) NoPos)
    (hlast : ∀ last p, (combinePath path ref).getLast? = some last → last.position = some p → S p)
    (h3 : ∀ s, K (.container s) → ∀ cf,
      MSpec env (setContainerFromScalar env fuel (Scope.newChild cf) cf.spec val)
        (fun st => ContainerFieldOK env st cf) (fun _ _ _ => True) (PosIn S)) :
    MSpec env (setAttribute env (fuel + 1) sc path ref val app) Pre (fun _ _ _ => True) (PosIn S) := by
  have herr : ∀ {what : String} {pre : Node → Prop}, MSpec env (errAt what val.span : M Unit) pre
      (fun _ _ _ => True) (PosIn S) := MSpec.errAt (HasPosIn.mk hv.span _ _).posIn
  rw [setAttribute]
  simp only
  apply MSpec.ite
  · intro _; exact MSpec.throw ((NoPos_mk0 _ _).posIn S)
  intro hne
  cases hl : (combinePath path ref).getLast? with
  | none => rw [List.getLast?_eq_none_iff] at hl; rw [hl] at hne; simp at hne
  | some last =>
    simp only
    apply MSpec.seq h1
    intro parentScope
    apply MSpec.fact; intro hQ
    apply MSpec.seq (Q := fun f st => (FieldOK env st f ∧ K f.kind) ∧ ScopeOK env st parentScope)
    · refine MSpec.tryCatch (e1 := NoPos) ((h2 parentScope last hl hQ).inv (ScopeOK.stable _)) ?_
      intro e he
      cases hp : last.position with
      | some pos => exact MSpec.wrapErr ((he.wrapped.posIn S).addPosition (hlast last pos hl hp)).posIn
      | none => exact MSpec.throw (he.wrapped.posIn S)
    rintro ⟨fa, fk⟩
    have happend : ∀ item vs, (∀ x, x ∈ vs → AVIn S x) →
        MSpec env (do
          let len ← listLength fa
          if !app ∧ len > 0 then errAt "value already set" val.span else appendValues env fa item vs)
          (fun st => (FieldOK env st ⟨fa, .arrayOfScalar item⟩ ∧ K (.arrayOfScalar item)) ∧
            ScopeOK env st parentScope) (fun _ _ _ => True) (PosIn S) := fun item vs hvs => by
      apply MSpec.seq (((listLength_spec (item := item)).unchanged.posIn S).weaken_pre
        (fun _ _ h => h.1.1))
      intro len
      apply MSpec.ite
      · intro _; exact herr
      · intro _; exact appendValues_spec S fa item vs hvs
    cases fk with
    | container s =>
      simp only
      apply MSpec.ite
      · intro _; exact herr
      intro _
      apply MSpec.of_pre (P := K (.container s)) (fun _ _ h => h.1.2)
      intro hK
      apply MSpec.seq ((MSpec.tryCatch (childBlock_spec hwf parentScope last.name)
        (fun e he => MSpec.wrapErr ((he.wrapped.posIn S).addPosition hv.span).posIn)).weaken_pre
        (fun _ _ h => h.2) |>.post (Q' := fun cs st => ContainerFieldOK env st cs.leaf ∧ cs = Scope.newChild cs.leaf)
        (fun _ _ h => ⟨h.1.2.2.1, h.2.1⟩))
      intro cs
      apply MSpec.fact; intro hcs
      rw [hcs]
      exact h3 s hK cs.leaf
    | arrayOfScalar item =>
      simp only
      cases hva : val.asArray with
      | some vs => exact happend item vs (hv.asArray hva)
      | none =>
        cases app with
        | true => exact happend item [val] (fun x hx => by rw [List.mem_singleton.mp hx]; exact hv)
        | false => exact herr
    | scalar t pr =>
      simp only
      cases hva : val.asArray with
      | some vs => exact herr
      | none =>
        cases app with
        | true => exact herr
        | false =>
          simp only
          cases hr : scalarFromAST env t val with
          | panic w => exact absurd hr (scalarFromAST_no_panic env t val w)
          | err e => exact MSpec.wrapErr (((scalarFromAST_err_noPos hr).wrapped.posIn S).addPosition hv.span).posIn
          | ok sv =>
            exact (((storeScalar_spec (t := t) (presence := pr)).post (fun _ _ _ => trivial)).posIn S).weaken_pre
              (fun _ _ h => h.1.1)
    | arrayOfContainer s | map n item | any =>
      simp only
      cases hva : val.asArray with
      | some vs => exact herr
      | none => cases app <;> exact herr

theorem forEach2_spec {f : PathSpec → AV → M Unit} {Inv : Node → Prop} {E : WErr → Prop}
    (hI : ∀ st st', Inv st → Ext env st st' → Inv st') :
    ∀ (ps : List PathSpec) (vs : List AV), vs.length ≤ ps.length →
      (∀ p, p ∈ ps → ∀ v, v ∈ vs → MSpec env (f p v) Inv (fun _ _ _ => True) E) →
      MSpec env (forEach2 f ps vs) Inv (fun _ _ st' => Inv st') E := by
  intro ps vs
  induction vs generalizing ps with
  | nil =>
    intro _ _
    cases ps <;> exact MSpec.pure (fun _ _ h => h)
  | cons v rest ih =>
    intro hlen hf
    cases ps with
    | nil => simp at hlen
    | cons p ps' =>
      rw [forEach2]
      apply MSpec.seq ((hf p List.mem_cons_self v List.mem_cons_self).inv hI)
      intro _
      refine (ih ps' (by simpa using hlen) ?_).weaken_pre (fun _ _ h => h.2)
      intro p' hp' v' hv'
      exact hf p' (List.mem_cons_of_mem _ hp') v' (List.mem_cons_of_mem _ hv')

theorem allAsString_spec (S : Span → Prop) {Pre : Node → Prop} :
    ∀ vs : List AV, (∀ v, v ∈ vs → AVIn S v) →
      MSpec env (allAsString vs) Pre (fun _ st st' => st' = st) (PosIn S) := by
  intro vs
  induction vs with
  | nil => intro _; exact MSpec.pure (fun _ _ _ => rfl)
  | cons v rest ih =>
    intro hvs
    rw [allAsString]
    cases v.asString with
    | none => exact MSpec.errAt (HasPosIn.mk (hvs v List.mem_cons_self).span _ _).posIn
    | some s =>
      simp only
      apply MSpec.bind (ih (fun x hx => hvs x (List.mem_cons_of_mem _ hx)))
      intro ss st0
      exact MSpec.pure (fun _ _ h => h.2.2.2)

/-- one level of `setContainerFromScalar`: the values split are tracked with the hulls of their sublists
(`HullsIn`), and `remaining` is a sublist of them -/
theorem setContainerFromScalar_bodyS (S : Span → Prop)
    (fuel : Nat) (sc : Scope) (bs : BlockSpec) (val : AV) (Inv : Node → Prop)
    (hI : ∀ st st', Inv st → Ext env st st' → Inv st') (hv : AVInS S val)
    (hA : ∀ ss, bs.scalarSplit = some ss → ∀ p, p ∈ ss.paths → ∀ v', AVInS S v' →
      MSpec env (setAttribute env fuel sc p [] v' false) Inv (fun _ _ _ => True) (PosIn S)) :
    MSpec env (setContainerFromScalar env (fuel + 1) sc bs val) Inv (fun _ _ _ => True) (PosIn S) := by
  rw [setContainerFromScalar]
  cases hss : bs.scalarSplit with
  | none => exact MSpec.throw ((NoPos_mk0 _ _).posIn S)
  | some ss =>
    simp only
    have hA' := hA ss hss
    have hreq : ∀ p, p ∈ ss.required → p ∈ ss.paths := fun p hp => by
      simp only [ScalarSplit.paths, List.mem_append]; exact .inl (.inl hp)
    have hopt : ∀ p, p ∈ ss.optional → p ∈ ss.paths := fun p hp => by
      simp only [ScalarSplit.paths, List.mem_append]; exact .inl (.inr hp)
    apply MSpec.seq (Q := fun vs st => Inv st ∧ ((∀ v, v ∈ vs → AVInS S v) ∧ HullsIn S (vs.map AV.span)))
    · cases ss.delimiter with
      | some delim =>
        simp only
        cases val.asString with
        | none => exact MSpec.errAt (HasPosIn.mk hv.span _ _).posIn
        | some strVal =>
          refine MSpec.pure (fun _ _ h => ⟨h, ?_, ?_⟩)
          · intro v hv'
            simp only [List.mem_map] at hv'
            obtain ⟨s', _, rfl⟩ := hv'
            exact hv.span
          · apply hullsIn_const hv.span
            intro a ha
            simp only [List.mem_map] at ha
            obtain ⟨x, ⟨s', _, rfl⟩, rfl⟩ := ha
            rfl
      | none =>
        simp only
        cases hva : val.asArray with
        | none => exact MSpec.throw ((NoPos_mk0 _ _).posIn S)
        | some vs => exact MSpec.pure (fun _ _ h => ⟨h, hv.asArray hva⟩)
    · intro setVals0
      apply MSpec.fact
      rintro ⟨hvs0, hhull0⟩
      -- `optional` is `remaining.take _`, the new `remaining` is `remaining.drop _`
      simp only [ite_take, ite_drop]
      generalize hsv : (if ss.rightToLeft = true then setVals0.reverse else setVals0) = setVals
      have hvs : ∀ v, v ∈ setVals → AVInS S v := fun v h => hvs0 v (mem_ite_reverse.mp (hsv ▸ h))
      apply MSpec.ite
      · intro _; exact MSpec.throw ((NoPos_mk0 _ _).posIn S)
      intro hlen
      apply MSpec.seq (forEach2_spec hI _ _ (by simp [List.length_take]; omega)
        (fun p hp v hv' => hA' p (hreq p hp) v (hvs v (List.mem_of_mem_take hv'))))
      intro _
      apply MSpec.ite
      · intro _; exact MSpec.pure (fun _ _ _ => trivial)
      intro _
      apply MSpec.seq (forEach2_spec hI _ _ (by simp [List.length_take]; omega)
        (fun p hp v hv' => hA' p (hopt p hp) v (hvs v (List.mem_of_mem_drop (List.mem_of_mem_take hv')))))
      intro _
      apply MSpec.ite
      · intro _; exact MSpec.pure (fun _ _ _ => trivial)
      intro hne
      cases hrm : ss.remainder with
      | none => exact MSpec.throw ((NoPos_mk0 _ _).posIn S)
      | some remainder =>
        simp only
        -- what is left, reversed back, is a non-empty SUBLIST of the values in their original order: its hull is in `S`
        generalize hrem : (if ss.rightToLeft = true then List.reverse _ else _) = remaining
        have hsub : remaining.Sublist setVals0 := by
          rw [← hrem]; apply sublist_ite_reverse; rw [hsv]
          exact (List.drop_sublist _ _).trans (List.drop_sublist _ _)
        have hne' : remaining ≠ [] := by
          rw [← hrem, Ne, ite_reverse_eq_nil]; simpa using hne
        apply MSpec.seq (allAsString_spec S remaining (fun v h => (hvs0 v (hsub.subset h)).avIn)).unchanged
        intro remainingStr
        cases remaining with
        | nil => exact absurd rfl hne'
        | cons first rest =>
          obtain ⟨last, hlast, hS⟩ := hhull0.cons_hull (f := AV.span) (hsub.map _)
          simp only [List.head?_cons, hlast]
          exact hA' remainder (by simp [ScalarSplit.paths, hrm]) _ hS

theorem combinePath_nil (path : PathSpec) :
    combinePath path [] = path.map (fun n => (⟨n, none⟩ : PathElement)) := by
  simp [combinePath]

/-- **L1**: an attribute along a path that `Env.splitOK` checked, in the one-block scope of the
container: ends at a scalar field, no recursion — fuel 1 is enough -/
theorem setAttribute_leaf (hwf : env.WF = true) (S : Span → Prop) (fuel : Nat) (cf : ContainerField)
    (path : PathSpec) (val : AV) (hv : AVIn S val)
    (hp : splitPathOK env cf.container.kind path = true) :
    MSpec env (setAttribute env (fuel + 1) (Scope.newChild cf) path [] val false)
      (fun st => ContainerFieldOK env st cf) (fun _ _ _ => True) (PosIn S) := by
  obtain ⟨lastn, k', t, pr, hgl, hwk, hfk⟩ := (splitPathOK_iff env _ _).mp hp
  have hdl : (combinePath path []).dropLast = path.dropLast.map (fun n => (⟨n, none⟩ : PathElement)) := by
    rw [combinePath_nil, List.dropLast_eq_take, List.dropLast_eq_take, List.map_take, List.length_map]
  have hgl' : (combinePath path []).getLast? = some ⟨lastn, none⟩ := by
    rw [combinePath_nil, List.getLast?_map, hgl]; rfl
  apply setAttribute_body hwf S fuel _ path [] val false _
    (fun ps => ps = Scope.newChild ps.leaf ∧ ps.leaf.container.kind = k')
    (fun k => ∃ t pr, k = .scalar t pr) hv
  · rw [hdl]
    refine ((walkScope_single_spec hwf path.dropLast cf).post ?_).posIn S
    rintro ps st' ⟨h1, h2, h3⟩
    rw [hwk] at h3
    refine ⟨?_, h2, (Option.some.inj h3).symm⟩
    rw [h2]; exact ScopeOK.newChild h1
  · intro ps last hl ⟨hps, hk⟩
    rw [hgl'] at hl
    cases hl
    rw [hps]
    refine ((scopeField_single_spec hwf ps.leaf lastn false).post ?_).weaken_pre (fun _ _ h => h.2.2.1)
    rintro f st' ⟨h1, h2⟩
    refine ⟨h1, t, pr, ?_⟩
    rw [hk, hfk] at h2
    exact (Option.some.inj h2).symm
  · intro last p hl hpos
    rw [hgl'] at hl; cases hl; cases hpos
  · rintro s ⟨t, pr, h⟩; cases h

/-- **L2**: a container set from a scalar, in its own one-block scope: fuel 2 is enough -/
theorem setContainerFromScalar_singleS (hwf : env.WF = true) (S : Span → Prop)
    (fuel : Nat) (cf : ContainerField) (val : AV) (hv : AVInS S val) :
    MSpec env (setContainerFromScalar env (fuel + 2) (Scope.newChild cf) cf.spec val)
      (fun st => ContainerFieldOK env st cf) (fun _ _ _ => True) (PosIn S) := by
  apply MSpec.of_pre
    (P := ∀ ss, cf.spec.scalarSplit = some ss → ∀ p, p ∈ ss.paths →
      splitPathOK env cf.container.kind p = true)
  · intro st _ h ss hss p hp
    obtain ⟨s, hk, hall⟩ := splitPaths_ok hwf h hss
    rw [hk]; exact hall p hp
  · intro hsplit
    apply setContainerFromScalar_bodyS S (fuel + 1) _ _ val _ (fun _ _ h he => h.ext he) hv
    intro ss hss p hp v' hv'
    exact setAttribute_leaf hwf S fuel cf p v' hv'.avIn (hsplit ss hss p hp)

/-- **L3**: `setAttribute` in any valid scope: fuel 3 is enough -/
theorem setAttribute_specS (hwf : env.WF = true) (S : Span → Prop)
    (fuel : Nat) (sc : Scope) (path : PathSpec)
    (ref : List Ident) (val : AV) (app : Bool) (hv : AVInS S val) (hS : ∀ i, i ∈ ref → S i.span) :
    MSpec env (setAttribute env (fuel + 3) sc path ref val app)
      (fun st => ScopeOK env st sc) (fun _ _ _ => True) (PosIn S) := by
  have hpos := combinePath_positions (S := S) (path := path) hS
  apply setAttribute_body hwf S (fuel + 2) sc path ref val app _ (fun _ => True) (fun _ => True) hv.avIn
  · refine (walkScope_spec hwf S _ sc ?_).post (fun _ _ h => ⟨h.1, trivial⟩)
    intro el hel
    exact hpos el ((List.dropLast_sublist _).subset hel)
  · intro ps last _ _
    exact (scopeField_spec hwf ps last.name app).post (fun _ _ h => ⟨h.1, trivial⟩)
  · intro last p hl hp
    exact hpos last (List.mem_of_getLast? hl) p hp
  · intro s _ cf
    exact setContainerFromScalar_singleS hwf S fuel cf val hv

/-- **L4**: `setContainerFromScalar` in any valid scope (the call of `finishTags`): fuel 4 is enough -/
theorem setContainerFromScalar_specS (hwf : env.WF = true) (S : Span → Prop)
    (fuel : Nat) (sc : Scope) (bs : BlockSpec) (val : AV) (hv : AVInS S val) :
    MSpec env (setContainerFromScalar env (fuel + 4) sc bs val)
      (fun st => ScopeOK env st sc) (fun _ _ _ => True) (PosIn S) := by
  apply setContainerFromScalar_bodyS S (fuel + 3) sc bs val _ (fun _ _ h he => h.ext he) hv
  intro ss _ p _ v' hv'
  exact setAttribute_specS hwf S fuel sc p [] v' false hv' (fun _ h => by cases h)

/-- L3 and L4 for a set of spans closed under hulls: the spans of the value suffice -/
theorem setAttribute_spec (hwf : env.WF = true) (S : Span → Prop)
    (hull : ∀ a b, S a → S b → S ⟨a.start, b.end_⟩) (fuel : Nat) (sc : Scope) (path : PathSpec)
    (ref : List Ident) (val : AV) (app : Bool) (hv : AVIn S val) (hS : ∀ i, i ∈ ref → S i.span) :
    MSpec env (setAttribute env (fuel + 3) sc path ref val app)
      (fun st => ScopeOK env st sc) (fun _ _ _ => True) (PosIn S) :=
  setAttribute_specS hwf S fuel sc path ref val app (hv.avInS hull) hS

theorem setContainerFromScalar_spec (hwf : env.WF = true) (S : Span → Prop)
    (hull : ∀ a b, S a → S b → S ⟨a.start, b.end_⟩) (fuel : Nat) (sc : Scope) (bs : BlockSpec) (val : AV)
    (hv : AVIn S val) :
    MSpec env (setContainerFromScalar env (fuel + 4) sc bs val)
      (fun st => ScopeOK env st sc) (fun _ _ _ => True) (PosIn S) :=
  setContainerFromScalar_specS hwf S fuel sc bs val (hv.avInS hull)

/-- the fuel `Walk.lean` passes is enough -/
theorem fuelOf_ge (env : Env) : ∃ n, fuelOf env = n + 4 :=
  ⟨2 * env.given.length + env.schemas.length + 4, by unfold fuelOf; omega⟩
end J5V.Walker
