import J5V.Bcl.Parser
/-!
# Position erasure of a BCL tree, for the driver (core only)

Textual copy of the `erase` functions of `J5V/Bcl/Equiv.lean`; the driver erases with these.
`J5V/Walker/ErasePosBase.lean` proves the copy equal to the original (`eraseStmts = Statement.eraseList`).
-/
namespace J5V.Walker
open J5V.Bcl

def zspan : Span := ⟨⟨0, 0⟩, ⟨0, 0⟩⟩

def eraseTok (t : Token) : Token := ⟨t.ty, t.lit, ⟨0, 0⟩, ⟨0, 0⟩⟩

def eraseIdent (i : Ident) : Ident := ⟨eraseTok i.token, i.value, zspan⟩

def eraseRef (r : Reference) : Reference := ⟨r.idents.map eraseIdent, zspan⟩

mutual
def eraseValue : Value → Value
  | .scalar tok _ => .scalar (eraseTok tok) zspan
  | .array vs _ => .array (eraseValues vs) zspan
def eraseValues : List Value → List Value
  | [] => []
  | v :: vs => eraseValue v :: eraseValues vs
end

def eraseTag (t : TagValue) : TagValue :=
  ⟨t.mark, eraseTok t.markToken, t.reference.map eraseRef, t.value.map eraseValue, zspan⟩

def eraseDesc (d : Description) : Description := ⟨d.tokens.map eraseTok, d.value, zspan⟩

def eraseSrc (s : SourceNode) : SourceNode :=
  ⟨⟨0, 0⟩, ⟨0, 0⟩, s.comment.map fun c => ⟨c.value, zspan⟩⟩

def eraseHeader (h : BlockHeader) : BlockHeader :=
  ⟨eraseRef h.type, h.tags.map eraseTag, h.qualifiers.map eraseTag, h.description.map eraseDesc, h.isOpen,
    eraseSrc h.src⟩

def eraseAssign (a : Assignment) : Assignment := ⟨eraseRef a.key, eraseValue a.value, a.append, eraseSrc a.src⟩

mutual
def eraseStmt : Statement → Statement
  | .block h body => .block (eraseHeader h) (eraseStmts body)
  | .assign a => .assign (eraseAssign a)
  | .desc d => .desc (eraseDesc d)
def eraseStmts : List Statement → List Statement
  | [] => []
  | s :: ss => eraseStmt s :: eraseStmts ss
end

end J5V.Walker
