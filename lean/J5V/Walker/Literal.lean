import J5V.Walker.State
import J5V.Compile.AstValue
/-!
# Literal conversion: `parser.ASTValue` → proto scalar (core only) — walker-semantics §1, §10

`AV` is the interface `parser.ASTValue` with its four implementations the walker meets (`Value`,
`TagValue`, `StringValue`, `BoolValue`; `IntValue` is never built). `scalarFromAST` is
`scalarReflectFromAST` (`lib/j5reflect/value_ast.go`) + `enumField.SetASTValue`.

`strconv.ParseInt / ParseUint` (base 10) are reused from the compile cluster's model
(`J5V.Compile.parseInt`, `parseUint`, on bytes — they fit exactly: the walker needs no more than the
number or "error"). That file does not cover floats, enums and the other `ASTValue`
implementations, which are modelled here.

`strconv.ParseFloat(s, bits)` on the literals the lexer can produce (`D+` or `D+ "." D*`; a non-ASCII
digit is a syntax error): the decimal value is the exact rational `N / 10^k`; `floatBits` rounds it to
nearest-even at the target precision by exact `Nat` arithmetic. Overflow (≥ 1/2 ULP beyond the
largest finite number) is an error; underflow gives a denormal or 0 without error. Go's own
algorithm truncates mantissas beyond 800 digits but keeps a sticky flag, which is enough for correct
rounding (library behaviour, trusted; the correspondence compares bits).
-/
namespace J5V.Walker
open J5V.Bcl

/-- `parser.ASTValue` -/
inductive AV where
  | value (v : Value)                 -- `parser.Value`
  | tag (t : TagValue)                -- `parser.TagValue`
  | str (s : Str) (span : Span)       -- `NewStringValue(s, node)`
  | bool (b : Bool)                   -- `NewBoolValue(b, _)`: the position argument is dropped
  deriving Repr, Inhabited

/-- `Position()` -/
def AV.span : AV → Span
  | .value v => v.span
  | .tag t => t.span
  | .str _ sp => sp
  | .bool _ => Span.zero

/-- the token of a `parser.Value`: an array (also the empty one) holds the zero token -/
def valueToken : Value → Token
  | .scalar tok _ => tok
  | .array _ _ => Token.zero

/-- `Value.AsString()` -/
def valueAsString (v : Value) : Option Str :=
  let tok := valueToken v
  match tok.ty with
  | .string => some (encodeRunes tok.lit)
  | .description => some (encodeRunes tok.lit)
  | .ident => some (encodeRunes tok.lit)
  | .regex => some (encodeRunes tok.lit)
  | _ => none

/-- `AsString()`; `none` = error -/
def AV.asString : AV → Option Str
  | .value v => valueAsString v
  | .tag t =>
    match t.value with
    | some v => valueAsString v
    | none =>
      match t.reference with
      | some r => some (encodeRunes r.string)
      | none => none                    -- "tag value is nil"
  | .str s _ => some s
  | .bool _ => none

/-- `AsBool()` -/
def AV.asBool : AV → Option Bool
  | .value v =>
    let tok := valueToken v
    if tok.ty = .bool then some (tok.lit = litTrue) else none
  | .bool b => some b
  | _ => none

/-- `AsArray()`: `len(v.array) > 0` -/
def AV.asArray : AV → Option (List AV)
  | .value (.array (x :: xs) _) => some ((x :: xs).map .value)
  | _ => none

/-- `AsInt(bits)` -/
def AV.asInt (v : AV) (bits : Nat) : Option Int :=
  match v with
  | .value val =>
    let tok := valueToken val
    if tok.ty = .int then J5V.Compile.parseInt (encodeRunes tok.lit) bits else none
  | _ => none

/-- `AsUint(bits)` -/
def AV.asUint (v : AV) (bits : Nat) : Option Nat :=
  match v with
  | .value val =>
    let tok := valueToken val
    if tok.ty = .int then J5V.Compile.parseUint (encodeRunes tok.lit) bits else none
  | _ => none

/-! ## strconv.ParseFloat -/

/-- the scanner of `readFloat` on a sign-less, exponent-less literal: `(mantissa N, number of fraction
digits k)`; `none` = syntax error (a byte that is neither an ASCII digit nor the first dot; no digit) -/
def scanDecimal : Str → Nat → Nat → Bool → Bool → Option (Nat × Nat)
  | [], n, k, _, sawDigit => if sawDigit then some (n, k) else none
  | c :: rest, n, k, sawDot, sawDigit =>
    if 48 ≤ c ∧ c ≤ 57 then scanDecimal rest (n * 10 + (c - 48)) (if sawDot then k + 1 else k) sawDot true
    else if c = 46 ∧ !sawDot then scanDecimal rest n k true sawDigit
    else none

/-- `num / den` rounded to nearest, ties to even -/
def divRoundEven (num den : Nat) : Nat :=
  let q := num / den
  let r := num % den
  if 2 * r > den ∨ (2 * r = den ∧ q % 2 = 1) then q + 1 else q

/-- IEEE-754 bits of `N / D` (`D > 0`) rounded to nearest-even in the binary format with precision
`p` (53 / 24), `expBits` exponent bits (11 / 8) and smallest ULP exponent `emin` (−1074 / −149);
`none` = overflow. The value is `q · 2^e`, `e` the ULP exponent, `q` the rounded significand: `2^(p-1) ≤ q < 2^p` for a
normal number, `q < 2^(p-1)` at `e = emin` for a denormal; `q = 2^p` after rounding is `2^(p-1)` at the next exponent.
The exponent field is `e - emin + 1` (0 for denormals); the all-ones field is infinity, so above `2^expBits - 2` is
overflow. -/
def floatBits (p expBits : Nat) (emin : Int) (N D : Nat) : Option Nat :=
  if N = 0 then some 0
  else
    let scale (e : Int) : Nat × Nat :=
      if e ≥ 0 then (N, D * 2 ^ e.toNat) else (N * 2 ^ (-e).toNat, D)
    -- with `bn = N.log2`, `bd = D.log2`: `N/D ∈ (2^(bn-bd-1), 2^(bn-bd+1))`, so the ULP exponent is `e0` or `e0 - 1`
    let e0 : Int := (N.log2 : Int) - (D.log2 : Int) - ((p : Int) - 1)
    let s0 := scale e0
    let e1 : Int := if s0.1 / s0.2 < 2 ^ (p - 1) then e0 - 1 else e0
    let e2 : Int := if e1 < emin then emin else e1
    let s2 := scale e2
    let q := divRoundEven s2.1 s2.2
    let q' : Nat := if q = 2 ^ p then 2 ^ (p - 1) else q
    let e3 : Int := if q = 2 ^ p then e2 + 1 else e2
    if q' < 2 ^ (p - 1) then some q'              -- denormal or zero
    else
      let biased : Int := e3 - emin + 1
      if biased > (2 ^ expBits : Nat) - 2 then none
      else some (biased.toNat * 2 ^ (p - 1) + (q' - 2 ^ (p - 1)))

/-- `strconv.ParseFloat(s, 64)`: the bits, `none` = syntax or range error -/
def parseFloat64 (s : Str) : Option Nat :=
  match scanDecimal s 0 0 false false with
  | none => none
  | some (n, k) => floatBits 53 11 (-1074) n (10 ^ k)

/-- `float32(strconv.ParseFloat(s, 32))`: the value is already rounded to float32 -/
def parseFloat32 (s : Str) : Option Nat :=
  match scanDecimal s 0 0 false false with
  | none => none
  | some (n, k) => floatBits 24 8 (-149) n (10 ^ k)

/-- `AsFloat(bits)`: INT and DECIMAL tokens -/
def AV.asFloatLit : AV → Option Str
  | .value val =>
    let tok := valueToken val
    if tok.ty = .int ∨ tok.ty = .decimal then some (encodeRunes tok.lit) else none
  | _ => none

/-! ## Enums -/

def findOption (name : Str) : List EnumOption → Option EnumOption
  | [] => none
  | o :: rest => if o.name = name then some o else findOption name rest

/-- `strings.TrimPrefix` -/
def trimPrefix (s pre : Str) : Str := if pre.isPrefixOf s then s.drop pre.length else s

/-- `enumOptionByName(schema, name)`: the name as written, else `OptionByName` (prefix removed once) -/
def enumOptionByName (e : EnumDef) (name : Str) : Option EnumOption :=
  match findOption name e.options with
  | some o => some o
  | none => findOption (trimPrefix name e.prefix) e.options

/-! ## scalarReflectFromAST -/

/-- `scalarField.SetASTValue` / `enumField.SetASTValue` / `AppendASTValue` up to the store:
the proto value for a field of type `t`, or an error (`*TypeError`, `*strconv.NumError`,
"enum value not found", "unsupported scalar type") -/
def scalarFromAST (env : Env) (t : FieldType) (v : AV) : Res Scalar :=
  let opt (what : String) (o : Option Scalar) : Res Scalar :=
    match o with
    | some s => .ok s
    | none => .err (.mk0 what)
  match t with
  | .scalar .bool => opt "literal-type.bool" (v.asBool.map .bool)
  | .scalar .string => opt "literal-type.string" (v.asString.map .str)
  | .scalar .key => opt "literal-type.key" (v.asString.map .str)
  | .scalar .int32 => opt "literal.int32" ((v.asInt 32).map .int)
  | .scalar .int64 => opt "literal.int64" ((v.asInt 64).map .int)
  | .scalar .uint32 => opt "literal.uint32" ((v.asUint 32).map .uint)
  | .scalar .uint64 => opt "literal.uint64" ((v.asUint 64).map .uint)
  | .scalar .float32 =>
    match v.asFloatLit with
    | none => .err (.mk0 "literal-type.float32")
    | some lit => opt "literal-range.float32" ((parseFloat32 lit).map .f32)
  | .scalar .float64 =>
    match v.asFloatLit with
    | none => .err (.mk0 "literal-type.float64")
    | some lit => opt "literal-range.float64" ((parseFloat64 lit).map .f64)
  | .enum ref =>
    match v.asString with
    | none => .err (.mk0 "literal-type.enum")
    | some s =>
      match enumOptionByName (env.enumOf ref) s with
      | some o => .ok (.enum o.number)
      | none => .err (.mk0 "enum-value: enum value not found")
  | _ => .err (.mk0 "unsupported scalar type")      -- bytes, date, timestamp, decimal

end J5V.Walker
