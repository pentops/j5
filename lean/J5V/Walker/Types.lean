import J5V.Bcl.Parser
import J5V.Bcl.Utf8
/-!
# BCL schema walker model — types (core only)

Mirrors the data the walker works with (`/repo/internal/bcl/internal/walker`,
`/repo/internal/bcl/internal/walker/schema`, `/repo/lib/j5reflect`, `/repo/lib/j5schema`);
reference: `/verif/notes/walker-semantics.md`.

* Go strings are byte sequences: `Str = List Nat`. Identifier values and token literals of the BCL
  model are rune lists; they become Go strings through `encodeRunes` (`J5V.Bcl.Utf8`), which is what
  Go's `string([]rune)` does. Every comparison the Go code makes on strings (property names, aliases,
  map keys, enum option names, `strings.Split`) is made here on bytes.
* `Env` = the j5 schema closure (`Schema`, `EnumDef`) + the given block specs (`GivenBlock`). It is a
  parameter of every function of the model; `Facts.lean` builds `j5Env` from the generated facts.
* `WErr` is an error with an OPTIONAL position — all the result line of the protocol observes of an
  `*errpos.Err` chain (walker-semantics §3): `AddPosition` never overwrites a position.
* `Res` = `.ok` / `.err` / `.panic` (a Go run-time panic, or a violated invariant of the model's own
  addressing, prefixed `model:`).
-/
namespace J5V.Walker
open J5V.Bcl

/-- a Go string (bytes) -/
abbrev Str := List Nat

/-- equality of byte strings, decided directly on `Nat`s. Same answers as the generic
`List.hasDecEq` (a `Decidable` proposition has one truth value); the generic
instance compares elements through a closure, which is slow where the driver spends its time (schema, block
and property lookups by name). -/
def strDecEq : (a b : Str) → Decidable (a = b)
  | [], [] => isTrue rfl
  | [], _ :: _ => isFalse (fun h => nomatch h)
  | _ :: _, [] => isFalse (fun h => nomatch h)
  | a :: as, b :: bs =>
    if h : a = b then
      match strDecEq as bs with
      | isTrue h2 => isTrue (by rw [h, h2])
      | isFalse h2 => isFalse (fun h3 => h2 (List.cons.inj h3).2)
    else isFalse (fun h3 => h (List.cons.inj h3).1)

instance (priority := high) instDecidableEqStr : DecidableEq Str := strDecEq

/-- the UTF-8 bytes of a Lean string (through the model's own encoder rather than `String.toUTF8`,
so that the kernel can evaluate it: `decide` / `rfl` over `j5Env` see plain data — slowly: `String.toList` of a
literal decodes its bytes by well-founded recursion, see `WFj5.lean`) -/
def str (s : String) : Str := J5V.Bcl.encodeRunes (s.toList.map Char.toNat)

/-- for messages and the dump: bytes back to a Lean string (property names are ASCII) -/
def Str.show (s : Str) : String := String.ofList (s.map Char.ofNat)

/-! ## Schema (what `WalkerschemaFacts.lean` describes) -/

inductive ScalarKind where
  | string | bool | bytes | date | timestamp | decimal | float32 | float64
  | int32 | int64 | uint32 | uint64 | key
  deriving Repr, DecidableEq, Inhabited

inductive FieldType where
  | object (ref : Str)
  | oneof (ref : Str)
  | enum (ref : Str)
  | any
  | scalar (kind : ScalarKind)
  | array (item : FieldType)
  | map (item : FieldType)
  | unknown
  deriving Repr, DecidableEq, Inhabited

/-- one client property of an object / oneof schema (walker-semantics §9) -/
structure Property where
  name : Str
  required : Bool
  type : FieldType
  /-- `ext.singleForm` of an array / map -/
  singleForm : Option Str
  /-- arrays of objects: `strcase.ToLowerCamel(item ref schema name)` (library behaviour, from the facts) -/
  arrayAlias : Option Str
  /-- the final proto field has explicit presence -/
  presence : Bool
  /-- the real proto oneof containing the final proto field: its full name and the proto numbers of
  the flattened parents (members conflict only inside ONE message) -/
  oneofGroup : Option (Str × List Nat)
  deriving Repr, DecidableEq, Inhabited

structure Schema where
  name : Str
  isOneof : Bool
  props : List Property
  deriving Repr, DecidableEq, Inhabited

structure EnumOption where
  name : Str
  number : Int
  deriving Repr, DecidableEq, Inhabited

structure EnumDef where
  name : Str
  «prefix» : Str
  options : List EnumOption
  deriving Repr, DecidableEq, Inhabited

/-! ## Block specs (`schema/bclspec.go`) -/

/-- `schema.Tag` -/
structure Tag where
  fieldName : Str
  bangFieldName : Option Str
  questionFieldName : Option Str
  isOptional : Bool
  isBlock : Bool
  deriving Repr, DecidableEq, Inhabited

/-- `schema.PathSpec` -/
abbrev PathSpec := List Str

/-- `schema.ScalarSplit` -/
structure ScalarSplit where
  delimiter : Option Str
  rightToLeft : Bool
  required : List PathSpec
  optional : List PathSpec
  remainder : Option PathSpec
  deriving Repr, DecidableEq, Inhabited

/-- `schema.BlockSpec`. `aliases` is Go's `map[string]PathSpec` as an association list with unique
keys (built with `aliasInsert`, which overwrites like a map assignment); `DebugName`, `source`,
`schema`, `RunAfter` only feed message text / are unused. -/
structure BlockSpec where
  description : Option Str
  aliases : List (Str × PathSpec)
  name : Option Tag
  typeSelect : Option Tag
  qualifier : Option Tag
  onlyDefined : Bool
  scalarSplit : Option ScalarSplit
  deriving Repr, DecidableEq, Inhabited

/-- Go's `&BlockSpec{}` -/
def BlockSpec.empty : BlockSpec := ⟨none, [], none, none, none, false, none⟩

/-- `m[k]` lookup -/
def aliasLookup (k : Str) : List (Str × PathSpec) → Option PathSpec
  | [] => none
  | (k', p) :: rest => if k' = k then some p else aliasLookup k rest

/-- `m[k] = p` -/
def aliasInsert (k : Str) (p : PathSpec) : List (Str × PathSpec) → List (Str × PathSpec)
  | [] => [(k, p)]
  | (k', p') :: rest => if k' = k then (k, p) :: rest else (k', p') :: aliasInsert k p rest

/-- one `bcl_j5pb.Block` after `convertBlocks` -/
structure GivenBlock where
  schemaName : Str
  spec : BlockSpec
  deriving Repr, DecidableEq, Inhabited

/-- the environment of a walk: schema table + given specs -/
structure Env where
  root : Str
  schemas : List Schema
  enums : List EnumDef
  /-- literal order; of two blocks with one name the LATER wins (`givenBlocks[name] = block`) -/
  given : List GivenBlock
  deriving Repr, Inhabited

def findSchema (name : Str) : List Schema → Option Schema
  | [] => none
  | s :: rest => if s.name = name then some s else findSchema name rest

/-- the schema called `name`. A reference to a name outside the table behaves as a schema without
properties (the reflection layer cannot be built over a dangling reference; `Env.closed` says there
is none). -/
def Env.schemaOf (env : Env) (name : Str) : Schema :=
  match findSchema name env.schemas with
  | some s => s
  | none => ⟨name, false, []⟩

def findEnum (name : Str) : List EnumDef → Option EnumDef
  | [] => none
  | e :: rest => if e.name = name then some e else findEnum name rest

def Env.enumOf (env : Env) (name : Str) : EnumDef :=
  match findEnum name env.enums with
  | some e => e
  | none => ⟨name, [], []⟩

/-- `givenSpecs[name]`: the LAST block of that name -/
def findGiven (name : Str) : List GivenBlock → Option BlockSpec
  | [] => none
  | g :: rest =>
    match findGiven name rest with
    | some s => some s
    | none => if g.schemaName = name then some g.spec else none

/-- every schema / enum reference of a type is defined in the table -/
def FieldType.refsIn (env : Env) : FieldType → Bool
  | .object r => (findSchema r env.schemas).isSome
  | .oneof r => (findSchema r env.schemas).isSome
  | .enum r => (findEnum r env.enums).isSome
  | .array i => i.refsIn env
  | .map i => i.refsIn env
  | _ => true

/-- no dangling reference -/
def Env.closed (env : Env) : Bool :=
  env.schemas.all fun s => s.props.all fun p => p.type.refsIn env

/-! ## Errors and results -/

/-- the Go type of the error: `*schema.WalkPathError` carries a `Type`, everything else is a plain
`error`. Only `walkScope` looks at it (and only to choose a message, plus the nil-error arm). -/
inductive ErrKind where
  | plain
  | unknownPath | nodeNotContainer | nodeNotScalar | nodeNotScalarArray | nodeNotFound | rootNotFound
  deriving Repr, DecidableEq, Inhabited

/-- an error as the protocol observes it: the `Pos` of the (single) `*errpos.Err` on the chain, if
set. `what` names the site (never compared; the harness's `err.*` counters use similar classes). -/
structure WErr where
  pos : Option Span
  kind : ErrKind
  what : String
  deriving Repr, DecidableEq, Inhabited

/-- a fresh error without position (`fmt.Errorf`, `&WalkPathError{…}`) -/
def WErr.mk0 (what : String) (kind : ErrKind := .plain) : WErr := ⟨none, kind, what⟩

/-- `errpos.AddPosition(err, pos)` for a non-nil error: an existing position is never overwritten -/
def WErr.addPosition (e : WErr) (p : Span) : WErr :=
  match e.pos with
  | some _ => e
  | none => { e with pos := some p }

/-- wrapping that keeps the chain (`fmt.Errorf("…: %w", err)`, `newSchemaError`, `scopedError`,
`&WalkPathError{Err: err}` is NOT one of them: it has no `Unwrap`, but the wrapped reflection error
never carries a position): the position is unchanged, the error stops being a `*WalkPathError` -/
def WErr.wrapped (e : WErr) : WErr := { e with kind := .plain }

/-- as `J5V.Go.Outcome`, with the structured error `WErr` (position, kind) where that has a string -/
inductive Res (α : Type) where
  | ok (a : α)
  | err (e : WErr)
  | panic (why : String)
  deriving Repr, Inhabited

/-- the zero position `(0:0, 0:0)` (`BoolValue`, `IntValue` drop their position argument) -/
def Span.zero : Span := ⟨⟨0, 0⟩, ⟨0, 0⟩⟩

/-- `pointPosition` -/
def pointSpan (p : Pos) : Span := ⟨p, p⟩

end J5V.Walker
