import J5V.Walker.Hoare
import J5V.Walker.Literal
/-!
# Spec of `Literal.lean`: `scalarFromAST` never panics (whatever the environment, type and value) and its
errors carry no position (`Walk.lean` adds the span of the value / element).
-/
namespace J5V.Walker

/-- the local `opt` of `scalarFromAST` -/
def optRes (what : String) (o : Option Scalar) : Res Scalar :=
  match o with
  | some s => .ok s
  | none => .err (.mk0 what)

theorem optRes_holds (what : String) (o : Option Scalar) : (optRes what o).Holds (fun _ => True) NoPos := by
  cases o with
  | some s => trivial
  | none => exact NoPos_mk0 _ _

theorem scalarFromAST_spec (env : Env) (t : FieldType) (v : AV) :
    (scalarFromAST env t v).Holds (fun _ => True) NoPos := by
  unfold scalarFromAST
  cases t with
  | scalar k =>
    cases k with
    | float32 | float64 =>
      simp only
      cases v.asFloatLit with
      | none => exact NoPos_mk0 _ _
      | some lit => exact optRes_holds _ _
    | bool | string | key | int32 | int64 | uint32 | uint64 => exact optRes_holds _ _
    | bytes | date | timestamp | decimal => exact NoPos_mk0 _ _
  | enum ref =>
    simp only
    cases v.asString with
    | none => exact NoPos_mk0 _ _
    | some s =>
      simp only
      cases enumOptionByName (env.enumOf ref) s with
      | some o => trivial
      | none => exact NoPos_mk0 _ _
  | object r | oneof r | any | array i | map i | unknown => exact NoPos_mk0 _ _

theorem scalarFromAST_no_panic (env : Env) (t : FieldType) (v : AV) (w : String) :
    scalarFromAST env t v ≠ .panic w := (scalarFromAST_spec env t v).ne_panic w

theorem scalarFromAST_err_noPos {env : Env} {t : FieldType} {v : AV} {e : WErr}
    (h : scalarFromAST env t v = .err e) : NoPos e := (scalarFromAST_spec env t v).err_of h

end J5V.Walker
