import J5V.Walker.Scope
import J5V.Walker.Stub
/-!
# Well-formedness of an `Env` (core only, executable)

`Env.WF env` is a decidable conjunction under which no function of `State.lean`, `Spec.lean`,
`Scope.lean` reaches a `.panic` arm on a well-typed tree (`WalkSpec.lean`: `TreeOK`), and under which
`stub env filename` is well typed. `WFj5.lean` proves `j5Env.WF = true` in the kernel.

* `Env.closed` (Types.lean): no dangling schema / enum reference.
* `Env.typesOK`: for every property of every schema of the table, the type is not `unknown`, an
  `object` reference resolves to a non-oneof schema and a `oneof` reference to a oneof schema (the type
  assertions of `resolveRef`), array / map items are object / oneof / scalar / enum / any (the
  `"invalid schema for message field"` arms of `classify`).
* `Env.rootOK`: the root schema is in the table and is an object schema.
* `Env.stubOK`: the three properties `FileStub` presets (`path`, `package` + its `name`,
  `sourceLocations`), IF the root schema has them, have a type that admits the preset value.
* `Env.splitOK`: for `Walk.lean` (it bounds the recursion `setAttribute` ⇄ `setContainerFromScalar` at one level:
  `WalkAttr.lean`): every path of every scalar
  split of a given block is non-empty and, followed from the block's own schema the way
  `walkScope` / `childBlock` / `scopeField` would in a scope made of that single block (alias before
  property, `walkPath` along the alias path), ends at a field that `classify` makes a `.scalar`.
* `Env.mapNamesFresh` (Spec.lean): the name of a map container (`<owner schema>.<property>`) is neither
  a schema name nor the name of a given block — so a map container has the empty given spec, in
  particular no scalar split (`splitOK` only looks at message containers).
-/
namespace J5V.Walker

/-- object / oneof / array / map: the types whose values have children -/
def FieldType.isContainer : FieldType → Bool
  | .object _ => true
  | .oneof _ => true
  | .array _ => true
  | .map _ => true
  | _ => false

/-- scalar / enum: what `classify` makes a `.scalar` field, an `.arrayOfScalar` item, a leaf map item -/
def FieldType.isLeaf : FieldType → Bool
  | .scalar _ => true
  | .enum _ => true
  | _ => false

/-- a type that may be the item of an array / a map (and so also a property type) -/
def FieldType.itemOK (env : Env) : FieldType → Bool
  | .object r => !(env.schemaOf r).isOneof
  | .oneof r => (env.schemaOf r).isOneof
  | .scalar _ => true
  | .enum _ => true
  | .any => true
  | _ => false

/-- a property type on which `classify` does not panic -/
def FieldType.ok (env : Env) : FieldType → Bool
  | .array item => item.itemOK env
  | .map item => item.itemOK env
  | t => t.itemOK env

def Schema.typesOK (env : Env) (s : Schema) : Bool := s.props.all fun p => p.type.ok env

def Env.typesOK (env : Env) : Bool := env.schemas.all fun s => s.typesOK env

def Env.rootOK (env : Env) : Bool :=
  (findSchema env.root env.schemas).isSome && !(env.schemaOf env.root).isOneof

/-! ## The stub -/

/-- property `name` of `s`, if there is one, has a type satisfying `f` -/
def stubPropOK (s : Schema) (name : Str) (f : FieldType → Bool) : Bool :=
  match findProp name 0 s.props with
  | some (_, p) => f p.type
  | none => true

def Env.stubOK (env : Env) : Bool :=
  let root := env.schemaOf env.root
  stubPropOK root (str "path") (fun t => !t.isContainer) &&
  stubPropOK root (str "package") (fun t =>
    match t with
    | .object r => stubPropOK (env.schemaOf r) (str "name") (fun t => !t.isContainer)
    | .oneof r => stubPropOK (env.schemaOf r) (str "name") (fun t => !t.isContainer)
    | .array _ => false
    | .map _ => false
    | _ => true) &&
  stubPropOK root (str "sourceLocations") (fun t =>
    match t with
    | .array _ => false
    | .map _ => false
    | _ => true)

/-! ## Scalar splits: the walk of a spec path at the level of container kinds

The state-free shadow of `Cont.value`, `walkPath`, `findBlock` (single block), `childBlock`,
`scopeField`: which KIND of container / field they end at. -/

/-- the container `walkPath` enters through a field of this kind -/
def FieldKind.asContKind : FieldKind → Option ContKind
  | .container s => some (.msg s)
  | .arrayOfContainer s => some (.msg s)
  | .map n item => some (.map n item)
  | _ => none

/-- the kind of the field `Cont.value env ⟨_, k⟩ name _` returns -/
def kindOfValue (env : Env) (k : ContKind) (name : Str) : Option FieldKind :=
  match k with
  | .msg s =>
    match findProp name 0 s.props with
    | none => none
    | some (_, p) =>
      match classify env s.name p with
      | .ok fk => some fk
      | _ => none
  | .map _ item =>
    match item with
    | .object r => match resolveRef env false r with
      | .ok s => some (.container s) | _ => none
    | .oneof r => match resolveRef env true r with
      | .ok s => some (.container s) | _ => none
    | .scalar _ => some (.scalar item true)
    | .enum _ => some (.scalar item true)
    | _ => none

/-- the kind of the leaf of `walkPath` (`[]`: `walkToChild` stays) -/
def walkKinds (env : Env) : ContKind → List Str → Option ContKind
  | k, [] => some k
  | k, name :: rest =>
    if !(Cont.hasProperty ⟨[], k⟩ name) then none
    else
      match kindOfValue env k name with
      | none => none
      | some fk =>
        match fk.asContKind with
        | none => none
        | some k' => walkKinds env k' rest

/-- `findBlock name [b]` for the block of kind `k` with its own spec -/
def resolveName (env : Env) (k : ContKind) (name : Str) : Option PathSpec :=
  match specOf env ⟨[], k⟩ with
  | .ok spec =>
    match aliasLookup name spec.aliases with
    | some p => some p
    | none => if Cont.hasProperty ⟨[], k⟩ name then some [name] else none
  | _ => none

/-- `childBlock` in the scope `[block of kind k]` -/
def childKind (env : Env) (k : ContKind) (name : Str) : Option ContKind :=
  match resolveName env k name with
  | some path => walkKinds env k path
  | none => none

/-- `scopeField` in the scope `[block of kind k]` -/
def fieldKindOf (env : Env) (k : ContKind) (name : Str) : Option FieldKind :=
  match resolveName env k name with
  | none => none
  | some path =>
    match path.getLast? with
    | none => none
    | some final =>
      match walkKinds env k path.dropLast with
      | none => none
      | some k' => if Cont.hasProperty ⟨[], k'⟩ final then kindOfValue env k' final else none

/-- `setAttribute sc path [] v false` in the scope `[block of kind k]` reaches a scalar field -/
def splitPathOK (env : Env) : ContKind → PathSpec → Bool
  | _, [] => false
  | k, [last] =>
    match fieldKindOf env k last with
    | some (.scalar _ _) => true
    | _ => false
  | k, name :: rest =>
    match childKind env k name with
    | some k' => splitPathOK env k' rest
    | none => false

def ScalarSplit.paths (ss : ScalarSplit) : List PathSpec :=
  ss.required ++ ss.optional ++ ss.remainder.toList

def Env.splitOK (env : Env) : Bool :=
  env.given.all fun g =>
    match g.spec.scalarSplit with
    | none => true
    | some ss => ss.paths.all (splitPathOK env (.msg (env.schemaOf g.schemaName)))

/-- the well-formedness of an environment -/
def Env.WF (env : Env) : Bool :=
  env.closed && env.typesOK && env.rootOK && env.stubOK && env.splitOK && env.mapNamesFresh

end J5V.Walker
