import J5V.Compile.SourceDef
import J5V.Walker.Facts
import J5V.Walker.Walk
import J5V.Walker.Stub
/-!
# The printer's text as a BCL tree, and the message it denotes (core only)

For an abstract j5s file `ast : J5V.Compile.SrcFile` (the compile cluster's AST = the harness
generator's AST `j5sgen/ast.go`):

* `toBcl ast` — the BCL syntax tree, all positions `0:0`, of the text `j5sgen.PrintFile(f, pkg, 0)`
  writes (style 0 = the plain style: every `p.chance(..)` of `print.go` is `false`, so no comments,
  no descriptions, `!` / `?` as marks, references as qualifiers, no `ref` block, no empty `{ }`);
* `toMsg filename ast` — the `sourcedef_j5pb.SourceFile` that text denotes, as the walker model's
  `Node` (with the reflection layer's "touched" flags as the walk leaves them), written from the
  meaning of the AST and the j5 schema (`j5Env`), not by running the walker;
* `supported ast` — the fragment both are claimed for. Outside it the printer's text is not
  accepted by the real parser, or has no tree of this shape (see `notes/walker.md`, "print op").

The theorems: `C07W_print_parse` (`PP/Entity.lean`),
`supported ast → walkSchema j5Env (toBcl ast) (stub j5Env fn) = .ok (toMsg fn ast)`, and `text_roundtrip`
(`TextRoundtrip.lean`): the text `printJ5s ast` parses to `toBcl ast` up to positions. That `printJ5s ast` is the text
the Go printer writes is compared by the stream `walker.print` (PROTOCOL-walker.md §8).

Structure: one function per AST category on each side with the same recursion
(`fieldBody` / `fieldMsg`, `propBcl` / `propMsg`, `objectBcl` / `objectMsg`, …); the recursion over
`Field` / `Property` and over `ObjDecl` / `Nested` is mutual structural recursion.
-/
namespace J5V.Walker
open J5V.Bcl

abbrev CField := J5V.Compile.Field
abbrev CProperty := J5V.Compile.Property

/-! ## Lexical classes (ASCII only: the Unicode classifier of the lexer is a run-time table) -/

def isAsciiLetter (b : Nat) : Bool := (65 ≤ b && b ≤ 90) || (97 ≤ b && b ≤ 122)
def isAsciiDigit (b : Nat) : Bool := 48 ≤ b && b ≤ 57

/-- `[A-Za-z][A-Za-z0-9_]*`: lexed as ONE `IDENT` token (`true` / `false` as `BOOL`, which every
place that reads an identifier converts back, `Token.asIdent`) -/
def isIdent : Str → Bool
  | [] => false
  | c :: rest => isAsciiLetter c && rest.all fun b => isAsciiLetter b || isAsciiDigit b || b = 95

/-- identifiers joined by single dots (`foo.v1`, `Bar`): lexed as a reference -/
def isDotted (s : Str) : Bool := (J5V.Compile.splitOnByte 46 s).all isIdent

/-- a string the printer can quote (`Quote` escapes `"` and `\`) so that the lexer gives back the
same bytes: ASCII without a newline (then `decodeRunes s = s` and `encodeRunes` of it is `s`) -/
def okString (s : Str) : Bool := s.all fun b => b < 128 && b != 10

def hasDot (s : Str) : Bool := s.contains 46

/-! ## BCL nodes without positions -/

def tok0 (ty : TokenType) (lit : List Rune) : Token := ⟨ty, lit, ⟨0, 0⟩, ⟨0, 0⟩⟩

def identOf (s : Str) : Ident := ⟨tok0 .ident (decodeRunes s), decodeRunes s, Span.zero⟩

def refOf (segs : List Str) : Reference := ⟨segs.map identOf, Span.zero⟩

/-- `foo.v1.Bar` as the reference the parser reads -/
def dottedRef (s : Str) : Reference := refOf (J5V.Compile.splitOnByte 46 s)

def markTok : TagMark → Token
  | .none => Token.zero
  | .bang => tok0 .bang [33]
  | .question => tok0 .question [63]

/-- a tag / qualifier that is a reference, with its mark -/
def tagRef (mark : TagMark) (r : Reference) : TagValue := ⟨mark, markTok mark, some r, none, Span.zero⟩

def src0 : SourceNode := ⟨⟨0, 0⟩, ⟨0, 0⟩, none⟩

/-- a quoted string: `STRING` token holding the unescaped text -/
def strValue (s : Str) : Value := .scalar (tok0 .string (decodeRunes s)) Span.zero

/-- a tag that is a quoted string (`import "a/b.proto"`) -/
def tagStr (s : Str) : TagValue := ⟨.none, Token.zero, none, some (strValue s), Span.zero⟩

/-- `strconv.FormatUint(n, 10)` as runes -/
def natDigits (n : Nat) : List Rune := (Nat.toDigits 10 n).map Char.toNat

def intValue (n : Nat) : Value := .scalar (tok0 .int (natDigits n)) Span.zero

def boolValue (b : Bool) : Value := .scalar (tok0 .bool (if b then litTrue else litFalse)) Span.zero

/-- `["a", "b"]` (also `[]`) -/
def strsValue (l : List Str) : Value := .array (l.map strValue) Span.zero

/-- `a.b.c = value` -/
def assignStmt (key : List Str) (v : Value) : Statement := .assign ⟨refOf key, v, false, src0⟩

/-- `type tag… :qual… [{ body }]` -/
def blockStmt (type : Str) (tags quals : List TagValue) (isOpen : Bool) (body : List Statement) : Statement :=
  .block ⟨refOf [type], tags, quals, none, isOpen, src0⟩ body

def nameTag (name : Str) : TagValue := tagRef .none (refOf [name])

/-! ## Words of the language -/

def wRules : Str := b!"rules"
def wItems : Str := b!"items"
def wItemSchema : Str := b!"itemSchema"
def wObject : Str := b!"object"
def wOneof : Str := b!"oneof"
def wEnum : Str := b!"enum"
def wName : Str := b!"name"
def wField : Str := b!"field"
def wOption : Str := b!"option"

def intFmtWord : J5V.Compile.IntFmt → Str
  | .int32 => b!"INT32" | .int64 => b!"INT64" | .uint32 => b!"UINT32" | .uint64 => b!"UINT64"

def floatFmtWord : J5V.Compile.FloatFmt → Str
  | .float32 => b!"FLOAT32" | .float64 => b!"FLOAT64"

def verbWord : J5V.Compile.Verb → Str
  | .get => b!"GET" | .post => b!"POST" | .put => b!"PUT" | .patch => b!"PATCH" | .delete => b!"DELETE"
  | .unspecified => b!"UNSPECIFIED"

/-- the type word of a field (`f.Kind`) -/
def fieldKind : CField → Str
  | .string .. => b!"string" | .bool .. => b!"bool" | .bytes .. => b!"bytes" | .date .. => b!"date"
  | .decimal .. => b!"decimal" | .timestamp .. => b!"timestamp" | .any => b!"any"
  | .integer .. => b!"integer" | .float .. => b!"float" | .key .. => b!"key"
  | .objectRef .. => wObject | .objectInl .. => wObject
  | .oneofRef .. => wOneof | .oneofInl .. => wOneof
  | .enumRef .. => wEnum | .enumInl .. => wEnum
  | .array .. => b!"array" | .map .. => b!"map"

/-- `pkg.Schema` / `Schema` as written in a qualifier -/
def refString (pkg schema : Str) : Str := if pkg = [] then schema else pkg ++ [46] ++ schema

/-! ## `toBcl`: fields -/

def litValue : J5V.Compile.Lit → Value
  | .int n => intValue n
  | .str s => strValue s
  | .bool b => boolValue b
  | .neg n => .scalar (tok0 .invalid (45 :: natDigits n)) Span.zero   -- `-5` does not lex: outside `supported`
  | .strs l => strsValue l

/-- `rules.<name> = <lit>` lines, addressed from the property scope through `pfx` -/
def rulesBcl (pfx : List Str) : J5V.Compile.Rules → List Statement
  | [] => []
  | r :: rs => assignStmt (pfx ++ [wRules, r.name]) (litValue r.lit) :: rulesBcl pfx rs

/-- the reference qualifier of an object / oneof / enum field: a dotted schema name cannot be written
as a qualifier (the scalar is split right to left), the printer then writes attributes -/
def refQuals (pkg schema : Str) : List TagValue :=
  if hasDot schema then [] else [tagRef .none (dottedRef (refString pkg schema))]

def refBody (pfx : List Str) (pkg schema : Str) : List Statement :=
  if hasDot schema then
    (if pkg = [] then [] else [assignStmt (pfx ++ [b!"ref", b!"package"]) (strValue pkg)]) ++
      [assignStmt (pfx ++ [b!"ref", b!"schema"]) (strValue schema)]
  else []

def flattenBcl (pfx : List Str) (flatten : Bool) : List Statement :=
  if flatten then [assignStmt (pfx ++ [b!"flatten"]) (boolValue true)] else []

/-- `<kind>.name = "…"` of an inline type -/
def inlNameBcl (pfx : List Str) (kind name : Str) : List Statement :=
  if name = [] then [] else [assignStmt (pfx ++ [kind, wName]) (strValue name)]

def listRulesBcl (pfx : List Str) : Option (List Str) → List Statement
  | none => []
  | some fs =>
    assignStmt (pfx ++ [b!"listRules", b!"filtering", b!"filterable"]) (boolValue true) ::
      (if fs = [] then []
       else [assignStmt (pfx ++ [b!"listRules", b!"filtering", b!"defaultFilters"]) (strsValue fs)])

def optionBcl (o : Str) : Statement := blockStmt wOption [nameTag o] [] false []

def enumInlBcl (pfx : List Str) (e : J5V.Compile.EnumDecl) : List Statement :=
  inlNameBcl pfx wEnum e.name ++
    (if e.pfx = [] then [] else [assignStmt (pfx ++ [wEnum, b!"prefix"]) (strValue e.pfx)]) ++
    e.opts.map optionBcl

/-- `entityKey`: the property is an entity `key` and the field is addressed directly (`prefix == ""`):
the printer then uses the aliases `primary` / `tenant` of `j5.sourcedef.v1.EntityKey` -/
def entKeyBcl (pfx : List Str) (entityKey : Bool) : J5V.Compile.EntKey → List Statement
  | .nokey => []
  | .ek kind tenant =>
    let short := entityKey && pfx.isEmpty
    (match kind with
     | .plain => []
     | .primary b =>
       [assignStmt (if short then [b!"primary"] else pfx ++ [b!"entity", b!"primaryKey"]) (boolValue b)]
     | .foreign pkg ent => [assignStmt (pfx ++ [b!"foreign"]) (strValue (pkg ++ [46] ++ ent))]) ++
    (match tenant with
     | none => []
     | some t =>
       [assignStmt (if short then [b!"tenant"] else pfx ++ [b!"entity", b!"tenantKey"]) (strValue t)])

def keyFmtQuals : J5V.Compile.KeyFmt → List TagValue
  | .none => []
  | .informal => [tagRef .none (refOf [b!"informal"])]
  | .uuid => [tagRef .none (refOf [b!"uuid"])]
  | .id62 => [tagRef .none (refOf [b!"id62"])]
  | .custom _ => [tagRef .none (refOf [b!"custom"])]

def keyFmtBody (pfx : List Str) : J5V.Compile.KeyFmt → List Statement
  | .custom p => [assignStmt (pfx ++ [b!"format", b!"custom", b!"pattern"]) (strValue p)]
  | _ => []

/-- the qualifier chain after the type word: `integer:INT32`, `key:id62`, `object:foo.v1.Bar`,
`array:object:Bar` -/
def fieldQuals : CField → List TagValue
  | .integer fmt _ _ => [tagRef .none (refOf [intFmtWord fmt])]
  | .float fmt _ _ => [tagRef .none (refOf [floatFmtWord fmt])]
  | .key fmt _ _ _ => keyFmtQuals fmt
  | .objectRef pkg schema _ _ => refQuals pkg schema
  | .oneofRef pkg schema _ _ => refQuals pkg schema
  | .enumRef pkg schema _ _ => refQuals pkg schema
  | .array items _ => tagRef .none (refOf [fieldKind items]) :: fieldQuals items
  | .map items _ => tagRef .none (refOf [fieldKind items]) :: fieldQuals items
  | _ => []

/-- the printer gives the property a `{ … }` body because of an inline type, even an empty one
(`bodyItem{props: …}` / `bodyItem{opts: …}` count as body items) -/
def fieldInline : CField → Bool
  | .objectInl .. => true
  | .oneofInl .. => true
  | .enumInl .. => true
  | .array items _ => fieldInline items
  | .map items _ => fieldInline items
  | _ => false

mutual
/-- the body lines `fieldSpec(f, prefix, entityKey)` returns, in its order: rules, then the
attributes of the type, then inline properties / options -/
def fieldBody : CField → List Str → Bool → List Statement
  | .string rules _, pfx, _ => rulesBcl pfx rules
  | .bool rules _, pfx, _ => rulesBcl pfx rules
  | .bytes rules, pfx, _ => rulesBcl pfx rules
  | .date rules _, pfx, _ => rulesBcl pfx rules
  | .decimal rules _, pfx, _ => rulesBcl pfx rules
  | .timestamp rules, pfx, _ => rulesBcl pfx rules
  | .any, _, _ => []
  | .integer _ rules _, pfx, _ => rulesBcl pfx rules
  | .float _ rules _, pfx, _ => rulesBcl pfx rules
  | .key fmt ek rules _, pfx, entityKey => rulesBcl pfx rules ++ keyFmtBody pfx fmt ++ entKeyBcl pfx entityKey ek
  | .objectRef pkg schema flatten rules, pfx, _ =>
    rulesBcl pfx rules ++ flattenBcl pfx flatten ++ refBody pfx pkg schema
  | .objectInl name props flatten rules, pfx, _ =>
    rulesBcl pfx rules ++ flattenBcl pfx flatten ++ inlNameBcl pfx wObject name ++ propsBcl wField props
  | .oneofRef pkg schema rules _, pfx, _ => rulesBcl pfx rules ++ refBody pfx pkg schema
  | .oneofInl name props rules _, pfx, _ =>
    rulesBcl pfx rules ++ inlNameBcl pfx wOneof name ++ propsBcl wOption props
  | .enumRef pkg schema rules lr, pfx, _ => rulesBcl pfx rules ++ listRulesBcl pfx lr ++ refBody pfx pkg schema
  | .enumInl e rules lr, pfx, _ => rulesBcl pfx rules ++ listRulesBcl pfx lr ++ enumInlBcl pfx e
  | .array items rules, pfx, _ => rulesBcl pfx rules ++ fieldBody items (pfx ++ [wItems, fieldKind items]) false
  | .map items rules, pfx, _ => rulesBcl pfx rules ++ fieldBody items (pfx ++ [wItemSchema, fieldKind items]) false

/-- `prop(kw, pr)`: `kw NAME [!|?] TYPE:QUAL… [{ [optional = true] body }]` -/
def propBcl (kw : Str) : CProperty → Statement
  | .mk name required optional f =>
    let mark : TagMark := if required then .bang else if optional then .question else .none
    let pre := if required && optional then [assignStmt [b!"optional"] (boolValue true)] else []
    let body := pre ++ fieldBody f [] false
    blockStmt kw [nameTag name, tagRef mark (refOf [fieldKind f])] (fieldQuals f)
      (!body.isEmpty || fieldInline f) body

def propsBcl (kw : Str) : List CProperty → List Statement
  | [] => []
  | p :: ps => propBcl kw p :: propsBcl kw ps
end

/-! ## `toBcl`: declarations -/

def enumBcl (e : J5V.Compile.EnumDecl) : Statement :=
  blockStmt wEnum [nameTag e.name] [] true
    ((if e.pfx = [] then [] else [assignStmt [b!"prefix"] (strValue e.pfx)]) ++ e.opts.map optionBcl)

mutual
/-- `object NAME { fields nested }` / `oneof NAME { options nested }` (also `event NAME { … }`) -/
def objectBcl (kw pkw : Str) : J5V.Compile.ObjDecl → Statement
  | .mk name props nested _ => blockStmt kw [nameTag name] [] true (propsBcl pkw props ++ nestedBcl nested)

def nestedBcl : List J5V.Compile.Nested → List Statement
  | [] => []
  | .object o :: rest => objectBcl wObject wField o :: nestedBcl rest
  | .oneof o :: rest => objectBcl wOneof wOption o :: nestedBcl rest
  | .enum e :: rest => enumBcl e :: nestedBcl rest
end

/-- `request { fields }` and the like: a block without tags -/
def anonBcl (kw : Str) (props : List CProperty) : Statement := blockStmt kw [] [] true (propsBcl wField props)

def methodBcl (m : J5V.Compile.Method) : Statement :=
  blockStmt b!"method" [nameTag m.name] [] true
    ([assignStmt [b!"httpMethod"] (strValue (verbWord m.verb)),
      assignStmt [b!"httpPath"] (strValue m.path),
      anonBcl b!"request" (m.request.getD [])] ++
     (match m.response with
      | none => []
      | some ps => [anonBcl b!"response" ps]))

def serviceBody (named : Bool) (s : J5V.Compile.Service) : List Statement :=
  (if named || (s.name.getD []) = [] then [] else [assignStmt [wName] (strValue (s.name.getD []))]) ++
  (match s.basePath with
   | none => []
   | some bp => [assignStmt [b!"basePath"] (strValue bp)]) ++
  s.methods.map methodBcl

/-- top level: `service NAME { … }` -/
def serviceBcl (s : J5V.Compile.Service) : Statement :=
  blockStmt b!"service" [nameTag (s.name.getD [])] [] true (serviceBody true s)

/-- in an entity: `command { name = "…" … }` -/
def commandBcl (s : J5V.Compile.Service) : Statement :=
  blockStmt b!"command" [] [] true (serviceBody false s)

def topicMsgBcl (kw : Str) (m : J5V.Compile.TopicMsg) : Statement :=
  blockStmt kw (match m.name with | none => [] | some n => [nameTag n]) [] true (propsBcl wField m.props)

def topicKindWord : J5V.Compile.TopicType → Str
  | .publish _ => b!"publish" | .reqres _ _ => b!"reqres" | .upsert _ _ => b!"upsert" | .event _ _ => b!"event"

def topicBody : J5V.Compile.TopicType → List Statement
  | .publish msgs => msgs.map (topicMsgBcl b!"message")
  | .reqres reqs reps => reqs.map (topicMsgBcl b!"request") ++ reps.map (topicMsgBcl b!"reply")
  | .upsert _ msg => [topicMsgBcl b!"message" msg]
  | .event _ msg => [topicMsgBcl b!"message" msg]      -- the printer has no event topics: outside `supported`

def topicBcl (t : J5V.Compile.Topic) : Statement :=
  blockStmt b!"topic" [nameTag t.name, tagRef .none (refOf [topicKindWord t.type])] [] true (topicBody t.type)

/-- `key NAME [!|?] TYPE… { [optional = true] [shardKey = true] body }` -/
def keyBcl (k : J5V.Compile.EntityKeyDecl) : Statement :=
  match k.prop with
  | .mk name required optional f =>
    let mark : TagMark := if required then .bang else if optional then .question else .none
    let pre := (if required && optional then [assignStmt [b!"optional"] (boolValue true)] else []) ++
      (if k.shard then [assignStmt [b!"shardKey"] (boolValue true)] else [])
    let body := pre ++ fieldBody f [] true
    blockStmt b!"key" [nameTag name, tagRef mark (refOf [fieldKind f])] (fieldQuals f)
      (!body.isEmpty || fieldInline f) body

def summaryBcl (s : J5V.Compile.Summary) : Statement :=
  blockStmt b!"summary" [] [] true
    ((if s.name = [] then [] else [assignStmt [wName] (strValue s.name)]) ++ propsBcl wField s.props)

def queryBcl (q : J5V.Compile.EntityQuery) : Statement :=
  blockStmt b!"query" [] [] true
    ((if q.eventsInGet then [assignStmt [b!"eventsInGet"] (boolValue true)] else []) ++
     (if q.filters = [] then [] else [assignStmt [b!"defaultStatusFilter"] (strsValue q.filters)]))

def statusBcl (s : Str) : Statement := blockStmt b!"status" [nameTag s] [] false []

def entityBcl (e : J5V.Compile.Entity) : Statement :=
  blockStmt b!"entity" [nameTag e.name] [] true
    ((if e.baseUrl = [] then [] else [assignStmt [b!"baseUrlPath"] (strValue e.baseUrl)]) ++
     e.keys.map keyBcl ++
     propsBcl b!"data" e.data ++
     e.statuses.map statusBcl ++
     e.events.map (objectBcl b!"event" wField) ++
     e.commands.map commandBcl ++
     e.summaries.map summaryBcl ++
     (match e.query with | none => [] | some q => [queryBcl q]) ++
     nestedBcl e.nested)

def elemBcl : J5V.Compile.Elem → Statement
  | .object o => objectBcl wObject wField o
  | .oneof o => objectBcl wOneof wOption o
  | .enum e => enumBcl e
  | .service s => serviceBcl s
  | .topic t => topicBcl t
  | .entity e => entityBcl e

/-- `import "a/b.proto"` / `import foo.v1:alias` / `import foo.v1` -/
def importBcl (i : J5V.Compile.Import) : Statement :=
  if i.path.contains 47 then blockStmt b!"import" [tagStr i.path] [] false []
  else if i.alias = [] then blockStmt b!"import" [tagRef .none (dottedRef i.path)] [] false []
  else blockStmt b!"import" [tagRef .none (dottedRef i.path)] [tagRef .none (refOf [i.alias])] false []

def packageBcl (decl : Str) : Statement := blockStmt b!"package" [tagRef .none (dottedRef decl)] [] false []

/-- the tree of `PrintFile(f, pkg, 0)` (`decl` = the package name the printer writes) -/
def toBcl : J5V.Compile.SrcFile → List Statement
  | .j5s _ imports elems decl => packageBcl decl :: (imports.map importBcl ++ elems.map elemBcl)
  | .proto .. => []

/-! ## `toMsg`: the message, schema-directed -/

def lookupVal (n : Str) : List (Str × Node) → Option Node
  | [] => none
  | (k, v) :: rest => if k = n then some v else lookupVal n rest

/-- a message of schema `sn` after a walk that touched exactly the listed properties, leaving the
listed values (a touched property may still be `.absent`: a zero scalar without presence). The order of `vals` is
immaterial; the `…Msg` functions list them in the order the walk sets them, which the proofs of `PP/` follow. -/
def mkMsg (env : Env) (sn : Str) (vals : List (Str × Node)) : Node :=
  let s := env.schemaOf sn
  .msg (s.props.map fun p => (lookupVal p.name vals).isSome)
       (s.props.map fun p => (lookupVal p.name vals).getD .absent)

/-- a string property without presence -/
def sStr (s : Str) : Node := stringNode s
/-- a string property with presence -/
def pStr (s : Str) : Node := .scalar (.str s)
def bTrue : Node := .scalar (.bool true)
/-- a bool property with presence -/
def pBool (b : Bool) : Node := .scalar (.bool b)
/-- an enum property without presence holding option number `n` -/
def sEnum (n : Nat) : Node := if n = 0 then .absent else .scalar (.enum n)

def intFmtNumber : J5V.Compile.IntFmt → Nat
  | .int32 => 1 | .int64 => 2 | .uint32 => 3 | .uint64 => 4

def floatFmtNumber : J5V.Compile.FloatFmt → Nat
  | .float32 => 1 | .float64 => 2

/-- `j5.client.v1.HTTPMethod` -/
def verbNumber : J5V.Compile.Verb → Nat
  | .unspecified => 0 | .get => 1 | .post => 2 | .put => 3 | .delete => 4 | .patch => 5

/-- `[a] if c` -/
def optVal (c : Bool) (n : Str) (v : Node) : List (Str × Node) := if c then [(n, v)] else []

/-- a non-empty repeated property -/
def listVal (n : Str) (items : List Node) : List (Str × Node) := if items.isEmpty then [] else [(n, .list items)]

/-! ### Schema names -/

def nField : Str := b!"j5.schema.v1.Field"
def nObjectProperty : Str := b!"j5.schema.v1.ObjectProperty"
def nRef : Str := b!"j5.schema.v1.Ref"
def nSObject : Str := b!"j5.schema.v1.Object"
def nSOneof : Str := b!"j5.schema.v1.Oneof"
def nSEnum : Str := b!"j5.schema.v1.Enum"
def nEnumOption : Str := b!"j5.schema.v1.Enum_Option"
def nKeyFormat : Str := b!"j5.schema.v1.KeyFormat"
def nEntityKey : Str := b!"j5.schema.v1.EntityKey"
def nEntityRef : Str := b!"j5.schema.v1.EntityRef"
def nFiltering : Str := b!"j5.list.v1.FilteringConstraint"
def nEnumRules : Str := b!"j5.list.v1.EnumRules"

/-- the schema of the member of `j5.schema.v1.Field` a field selects -/
def typeSchema : CField → Str
  | .string .. => b!"j5.schema.v1.StringField" | .bool .. => b!"j5.schema.v1.BoolField"
  | .bytes .. => b!"j5.schema.v1.BytesField" | .date .. => b!"j5.schema.v1.DateField"
  | .decimal .. => b!"j5.schema.v1.DecimalField" | .timestamp .. => b!"j5.schema.v1.TimestampField"
  | .any => b!"j5.schema.v1.AnyField"
  | .integer .. => b!"j5.schema.v1.IntegerField" | .float .. => b!"j5.schema.v1.FloatField"
  | .key .. => b!"j5.schema.v1.KeyField"
  | .objectRef .. => b!"j5.schema.v1.ObjectField" | .objectInl .. => b!"j5.schema.v1.ObjectField"
  | .oneofRef .. => b!"j5.schema.v1.OneofField" | .oneofInl .. => b!"j5.schema.v1.OneofField"
  | .enumRef .. => b!"j5.schema.v1.EnumField" | .enumInl .. => b!"j5.schema.v1.EnumField"
  | .array .. => b!"j5.schema.v1.ArrayField" | .map .. => b!"j5.schema.v1.MapField"

/-! ### Rules: the literal converted for the type of the rule's property -/

/-- the float nearest to the natural number `n` (what `strconv.ParseFloat` of its digits is) -/
def natF64 (n : Nat) : Option Nat := floatBits 53 11 (-1074) n 1
def natF32 (n : Nat) : Option Nat := floatBits 24 8 (-149) n 1

/-- the stored scalar for a literal assigned to a property of type `t`; `none` = the walker refuses
the literal (wrong kind, out of range, no conversion) -/
def litScalar : FieldType → J5V.Compile.Lit → Option Scalar
  | .scalar .string, .str s => some (.str s)
  | .scalar .key, .str s => some (.str s)
  | .scalar .bool, .bool b => some (.bool b)
  | .scalar .uint64, .int n => if n < 2 ^ 64 then some (.uint n) else none
  | .scalar .uint32, .int n => if n < 2 ^ 32 then some (.uint n) else none
  | .scalar .int64, .int n => if n < 2 ^ 63 then some (.int n) else none
  | .scalar .int32, .int n => if n < 2 ^ 31 then some (.int n) else none
  | .scalar .float64, .int n => (natF64 n).map .f64
  | .scalar .float32, .int n => (natF32 n).map .f32
  | _, _ => none

/-- the value a rule leaves in property `p` of the rules message -/
def litNode (p : Property) (l : J5V.Compile.Lit) : Option Node :=
  match p.type, l with
  | .array (.scalar .string), .strs (x :: xs) => some (.list ((x :: xs).map fun s => .scalar (.str s)))
  | .array _, _ => none
  | t, l =>
    match litScalar t l with
    | some v => some (if p.presence || !v.isZero then .scalar v else .absent)
    | none => none

/-- the schema of the `rules` property of a field type schema (`[]` if it has none) -/
def rulesSchema (env : Env) (ts : Str) : Str := (propSchema env (env.schemaOf ts) wRules).name

def ruleVal (s : Schema) (r : J5V.Compile.Rule) : Str × Node :=
  match findProp r.name 0 s.props with
  | some (_, p) => (r.name, (litNode p r.lit).getD .absent)
  | none => (r.name, .absent)

/-- `rules = {…}` when the field has rules -/
def rulesVals (env : Env) (ts : Str) (rules : J5V.Compile.Rules) : List (Str × Node) :=
  if rules.isEmpty then []
  else [(wRules, mkMsg env (rulesSchema env ts) (rules.map (ruleVal (env.schemaOf (rulesSchema env ts)))))]

def ruleOk (s : Schema) (r : J5V.Compile.Rule) : Bool :=
  isIdent r.name &&
  match findProp r.name 0 s.props with
  | some (_, p) => (litNode p r.lit).isSome
  | none => false

def strOk : J5V.Compile.Lit → Bool
  | .str s => okString s
  | .strs l => l.all okString
  | _ => true

def distinct : List Str → Bool
  | [] => true
  | a :: rest => !rest.contains a && distinct rest

/-- every rule names a property of the type's rules schema, with a literal the walker converts;
no rule twice ("already set") -/
def rulesOk (env : Env) (ts : Str) (rules : J5V.Compile.Rules) : Bool :=
  rules.all (fun r => ruleOk (env.schemaOf (rulesSchema env ts)) r && strOk r.lit) &&
  distinct (rules.map (·.name))

/-! ### Fields -/

/-- `j5.schema.v1.Ref`: `package` is written only when there is one -/
def refMsg (env : Env) (pkg schema : Str) : Node :=
  mkMsg env nRef (optVal (pkg != []) b!"package" (sStr pkg) ++ [(b!"schema", sStr schema)])

def flattenVals (flatten : Bool) : List (Str × Node) := optVal flatten b!"flatten" bTrue

def listRulesVals (env : Env) : Option (List Str) → List (Str × Node)
  | none => []
  | some fs =>
    [(b!"listRules", mkMsg env nEnumRules
      [(b!"filtering", mkMsg env nFiltering
        ((b!"filterable", bTrue) :: listVal b!"defaultFilters" (fs.map fun s => .scalar (.str s))))])]

def enumOptionMsg (env : Env) (o : Str) : Node := mkMsg env nEnumOption [(wName, sStr o)]

/-- `j5.schema.v1.Enum` (inline, nested and top level) -/
def enumMsg (env : Env) (e : J5V.Compile.EnumDecl) : Node :=
  mkMsg env nSEnum
    (optVal (e.name != []) wName (sStr e.name) ++ optVal (e.pfx != []) b!"prefix" (sStr e.pfx) ++
     listVal b!"options" (e.opts.map (enumOptionMsg env)))

def keyFmtVals (env : Env) : J5V.Compile.KeyFmt → List (Str × Node)
  | .none => []
  | .informal => [(b!"format", mkMsg env nKeyFormat [(b!"informal", mkMsg env b!"j5.schema.v1.KeyFormat_Informal" [])])]
  | .uuid => [(b!"format", mkMsg env nKeyFormat [(b!"uuid", mkMsg env b!"j5.schema.v1.KeyFormat_UUID" [])])]
  | .id62 => [(b!"format", mkMsg env nKeyFormat [(b!"id62", mkMsg env b!"j5.schema.v1.KeyFormat_ID62" [])])]
  | .custom p =>
    [(b!"format", mkMsg env nKeyFormat
      [(b!"custom", mkMsg env b!"j5.schema.v1.KeyFormat_Custom" [(b!"pattern", sStr p)])])]

/-- `KeyField.entity`; `.ek .plain none` prints nothing: the message has no `entity` then -/
def entKeyVals (env : Env) : J5V.Compile.EntKey → List (Str × Node)
  | .nokey => []
  | .ek .plain none => []
  | .ek kind tenant =>
    [(b!"entity", mkMsg env nEntityKey
      ((match kind with
        | .plain => []
        | .primary b => [(b!"primaryKey", pBool b)]
        | .foreign pkg ent =>
          [(b!"foreignKey", mkMsg env nEntityRef [(b!"entity", sStr ent), (b!"package", sStr pkg)])]) ++
       (match tenant with
        | none => []
        | some t => [(b!"tenantKey", pStr t)])))]

/-- one member of the oneof `j5.schema.v1.Field` -/
def fieldOneof (env : Env) (kind : Str) (v : Node) : Node := mkMsg env nField [(kind, v)]

mutual
/-- the value of a `schema` / `items` / `itemSchema` property: `<kind={…}>` -/
def fieldMsg (env : Env) : CField → Node
  | .string rules l => fieldOneof env b!"string" (mkMsg env (typeSchema (.string rules l)) (rulesVals env (typeSchema (.string rules l)) rules))
  | .bool rules l => fieldOneof env b!"bool" (mkMsg env (typeSchema (.bool rules l)) (rulesVals env (typeSchema (.bool rules l)) rules))
  | .bytes rules => fieldOneof env b!"bytes" (mkMsg env (typeSchema (.bytes rules)) (rulesVals env (typeSchema (.bytes rules)) rules))
  | .date rules l => fieldOneof env b!"date" (mkMsg env (typeSchema (.date rules l)) (rulesVals env (typeSchema (.date rules l)) rules))
  | .decimal rules l => fieldOneof env b!"decimal" (mkMsg env (typeSchema (.decimal rules l)) (rulesVals env (typeSchema (.decimal rules l)) rules))
  | .timestamp rules => fieldOneof env b!"timestamp" (mkMsg env (typeSchema (.timestamp rules)) (rulesVals env (typeSchema (.timestamp rules)) rules))
  | .any => fieldOneof env b!"any" (mkMsg env (typeSchema .any) [])
  | .integer fmt rules l =>
    fieldOneof env b!"integer" (mkMsg env (typeSchema (.integer fmt rules l))
      ((b!"format", sEnum (intFmtNumber fmt)) :: rulesVals env (typeSchema (.integer fmt rules l)) rules))
  | .float fmt rules l =>
    fieldOneof env b!"float" (mkMsg env (typeSchema (.float fmt rules l))
      ((b!"format", sEnum (floatFmtNumber fmt)) :: rulesVals env (typeSchema (.float fmt rules l)) rules))
  | .key fmt ek rules l =>
    fieldOneof env b!"key" (mkMsg env (typeSchema (.key fmt ek rules l))
      (rulesVals env (typeSchema (.key fmt ek rules l)) rules ++ keyFmtVals env fmt ++ entKeyVals env ek))
  | .objectRef pkg schema flatten rules =>
    fieldOneof env wObject (mkMsg env b!"j5.schema.v1.ObjectField"
      (rulesVals env b!"j5.schema.v1.ObjectField" rules ++ flattenVals flatten ++ [(b!"ref", refMsg env pkg schema)]))
  | .objectInl name props flatten rules =>
    fieldOneof env wObject (mkMsg env b!"j5.schema.v1.ObjectField"
      (rulesVals env b!"j5.schema.v1.ObjectField" rules ++ flattenVals flatten ++
       optVal (name != [] || !props.isEmpty) wObject
         (mkMsg env nSObject (optVal (name != []) wName (sStr name) ++ listVal b!"properties" (propsMsg env props)))))
  | .oneofRef pkg schema rules _ =>
    fieldOneof env wOneof (mkMsg env b!"j5.schema.v1.OneofField"
      (rulesVals env b!"j5.schema.v1.OneofField" rules ++ [(b!"ref", refMsg env pkg schema)]))
  | .oneofInl name props rules _ =>
    fieldOneof env wOneof (mkMsg env b!"j5.schema.v1.OneofField"
      (rulesVals env b!"j5.schema.v1.OneofField" rules ++
       optVal (name != [] || !props.isEmpty) wOneof
         (mkMsg env nSOneof (optVal (name != []) wName (sStr name) ++ listVal b!"properties" (propsMsg env props)))))
  | .enumRef pkg schema rules lr =>
    fieldOneof env wEnum (mkMsg env b!"j5.schema.v1.EnumField"
      (rulesVals env b!"j5.schema.v1.EnumField" rules ++ listRulesVals env lr ++ [(b!"ref", refMsg env pkg schema)]))
  | .enumInl e rules lr =>
    fieldOneof env wEnum (mkMsg env b!"j5.schema.v1.EnumField"
      (rulesVals env b!"j5.schema.v1.EnumField" rules ++ listRulesVals env lr ++
       optVal (e.name != [] || e.pfx != [] || !e.opts.isEmpty) wEnum (enumMsg env e)))
  | .array items rules =>
    fieldOneof env b!"array" (mkMsg env b!"j5.schema.v1.ArrayField"
      (rulesVals env b!"j5.schema.v1.ArrayField" rules ++ [(wItems, fieldMsg env items)]))
  | .map items rules =>
    fieldOneof env b!"map" (mkMsg env b!"j5.schema.v1.MapField"
      (rulesVals env b!"j5.schema.v1.MapField" rules ++ [(wItemSchema, fieldMsg env items)]))

/-- `j5.schema.v1.ObjectProperty` -/
def propMsg (env : Env) : CProperty → Node
  | .mk name required optional f =>
    mkMsg env nObjectProperty
      ([(b!"schema", fieldMsg env f), (wName, sStr name)] ++ optVal required b!"required" bTrue ++
       optVal optional b!"explicitlyOptional" bTrue)

def propsMsg (env : Env) : List CProperty → List Node
  | [] => []
  | p :: ps => propMsg env p :: propsMsg env ps
end

/-! ### Declarations -/

def nestedOneof (env : Env) (kind : Str) (v : Node) : Node := mkMsg env b!"j5.sourcedef.v1.NestedSchema" [(kind, v)]

mutual
/-- `j5.sourcedef.v1.Object` (`isOneof = false`; also entity events) / `j5.sourcedef.v1.Oneof` -/
def objectMsg (env : Env) (isOneof : Bool) : J5V.Compile.ObjDecl → Node
  | .mk name props nested _ =>
    mkMsg env (if isOneof then b!"j5.sourcedef.v1.Oneof" else b!"j5.sourcedef.v1.Object")
      ((wName, sStr name) :: (listVal b!"properties" (propsMsg env props) ++ listVal b!"schemas" (nestedMsg env nested)))

def nestedMsg (env : Env) : List J5V.Compile.Nested → List Node
  | [] => []
  | .object o :: rest => nestedOneof env wObject (objectMsg env false o) :: nestedMsg env rest
  | .oneof o :: rest => nestedOneof env wOneof (objectMsg env true o) :: nestedMsg env rest
  | .enum e :: rest => nestedOneof env wEnum (enumMsg env e) :: nestedMsg env rest
end

/-- `j5.sourcedef.v1.AnonymousObject` -/
def anonMsg (env : Env) (props : List CProperty) : Node :=
  mkMsg env b!"j5.sourcedef.v1.AnonymousObject" (listVal b!"properties" (propsMsg env props))

def methodMsg (env : Env) (m : J5V.Compile.Method) : Node :=
  mkMsg env b!"j5.sourcedef.v1.APIMethod"
    ([(wName, sStr m.name), (b!"httpMethod", sEnum (verbNumber m.verb)), (b!"httpPath", sStr m.path),
      (b!"request", anonMsg env (m.request.getD []))] ++
     (match m.response with
      | none => []
      | some ps => [(b!"response", anonMsg env ps)]))

/-- `j5.sourcedef.v1.Service`: `name` and `basePath` have presence -/
def serviceMsg (env : Env) (s : J5V.Compile.Service) : Node :=
  mkMsg env b!"j5.sourcedef.v1.Service"
    (optVal ((s.name.getD []) != []) wName (pStr (s.name.getD [])) ++
     (match s.basePath with
      | none => []
      | some bp => [(b!"basePath", pStr bp)]) ++
     listVal b!"methods" (s.methods.map (methodMsg env)))

/-- `j5.sourcedef.v1.TopicMethod`: `name` has presence -/
def topicMsgMsg (env : Env) (m : J5V.Compile.TopicMsg) : Node :=
  mkMsg env b!"j5.sourcedef.v1.TopicMethod"
    ((match m.name with | none => [] | some n => [(wName, pStr n)]) ++ listVal b!"fields" (propsMsg env m.props))

def topicTypeMsg (env : Env) : J5V.Compile.TopicType → Node
  | .publish msgs =>
    mkMsg env b!"j5.sourcedef.v1.TopicType" [(b!"publish", mkMsg env b!"j5.sourcedef.v1.TopicType_Publish"
      (listVal b!"messages" (msgs.map (topicMsgMsg env))))]
  | .reqres reqs reps =>
    mkMsg env b!"j5.sourcedef.v1.TopicType" [(b!"reqres", mkMsg env b!"j5.sourcedef.v1.TopicType_ReqRes"
      (listVal b!"request" (reqs.map (topicMsgMsg env)) ++ listVal b!"reply" (reps.map (topicMsgMsg env))))]
  | .upsert _ msg =>
    mkMsg env b!"j5.sourcedef.v1.TopicType" [(b!"upsert", mkMsg env b!"j5.sourcedef.v1.TopicType_Upsert"
      [(b!"message", topicMsgMsg env msg)])]
  | .event _ msg =>
    mkMsg env b!"j5.sourcedef.v1.TopicType" [(b!"event", mkMsg env b!"j5.sourcedef.v1.TopicType_Event"
      [(b!"message", topicMsgMsg env msg)])]

def topicMsg (env : Env) (t : J5V.Compile.Topic) : Node :=
  mkMsg env b!"j5.sourcedef.v1.Topic" [(wName, sStr t.name), (b!"type", topicTypeMsg env t.type)]

/-- `j5.sourcedef.v1.EntityKey` -/
def keyMsg (env : Env) (k : J5V.Compile.EntityKeyDecl) : Node :=
  match k.prop with
  | .mk name required optional f =>
    mkMsg env b!"j5.sourcedef.v1.EntityKey"
      ([(b!"schema", fieldMsg env f), (wName, sStr name)] ++ optVal required b!"required" bTrue ++
       optVal optional b!"explicitlyOptional" bTrue ++ optVal k.shard b!"shardKey" bTrue)

def summaryMsg (env : Env) (s : J5V.Compile.Summary) : Node :=
  mkMsg env b!"j5.sourcedef.v1.EntitySummary"
    (optVal (s.name != []) wName (sStr s.name) ++ listVal b!"fields" (propsMsg env s.props))

def queryMsg (env : Env) (q : J5V.Compile.EntityQuery) : Node :=
  mkMsg env b!"j5.sourcedef.v1.EntityQuery"
    (optVal q.eventsInGet b!"eventsInGet" bTrue ++
     listVal b!"defaultStatusFilter" (q.filters.map fun s => .scalar (.str s)))

def entityMsg (env : Env) (e : J5V.Compile.Entity) : Node :=
  mkMsg env b!"j5.sourcedef.v1.Entity"
    ((wName, sStr e.name) ::
     (optVal (e.baseUrl != []) b!"baseUrlPath" (sStr e.baseUrl) ++
      listVal b!"keys" (e.keys.map (keyMsg env)) ++
      listVal b!"data" (propsMsg env e.data) ++
      listVal b!"status" (e.statuses.map (enumOptionMsg env)) ++
      listVal b!"events" (e.events.map (objectMsg env false)) ++
      listVal b!"commands" (e.commands.map (serviceMsg env)) ++
      listVal b!"summaries" (e.summaries.map (summaryMsg env)) ++
      (match e.query with | none => [] | some q => [(b!"query", queryMsg env q)]) ++
      listVal b!"schemas" (nestedMsg env e.nested)))

def rootOneof (env : Env) (kind : Str) (v : Node) : Node := mkMsg env b!"j5.sourcedef.v1.RootElement" [(kind, v)]

def elemMsg (env : Env) : J5V.Compile.Elem → Node
  | .object o => rootOneof env wObject (objectMsg env false o)
  | .oneof o => rootOneof env wOneof (objectMsg env true o)
  | .enum e => rootOneof env wEnum (enumMsg env e)
  | .service s => rootOneof env b!"service" (serviceMsg env s)
  | .topic t => rootOneof env b!"topic" (topicMsg env t)
  | .entity e => rootOneof env b!"entity" (entityMsg env e)

def importMsg (env : Env) (i : J5V.Compile.Import) : Node :=
  mkMsg env b!"j5.sourcedef.v1.Import"
    ((b!"path", sStr i.path) :: optVal (!i.path.contains 47 && i.alias != []) b!"alias" (sStr i.alias))

/-- the root: `FileStub(filename)` (nothing touched, `path` and `sourceLocations` as preset) with
`package` overwritten by the declaration and `imports` / `elements` appended -/
def rootMsg (env : Env) (filename decl : Str) (imports elems : List Node) : Node :=
  let root := env.schemaOf env.root
  let locSchema := propSchema env root b!"sourceLocations"
  let vals : List (Str × Node) :=
    (b!"package", mkMsg env b!"j5.sourcedef.v1.Package" [(wName, sStr decl)]) ::
      (listVal b!"imports" imports ++ listVal b!"elements" elems)
  let preset : List (Str × Node) := [(b!"path", stringNode filename), (b!"sourceLocations", freshMsg locSchema)]
  .msg (root.props.map fun p => (lookupVal p.name vals).isSome)
       (root.props.map fun p => ((lookupVal p.name vals).orElse fun _ => lookupVal p.name preset).getD .absent)

/-- the message the printed file denotes -/
def toMsgEnv (env : Env) (filename : Str) : J5V.Compile.SrcFile → Node
  | .j5s _ imports elems decl => rootMsg env filename decl (imports.map (importMsg env)) (elems.map (elemMsg env))
  | .proto .. => .absent

def toMsg (filename : Str) (ast : J5V.Compile.SrcFile) : Node := toMsgEnv j5Env filename ast

/-! ## `supported`: the fragment -/

/-- a reference to a declared type: `Schema` / `pkg.Schema` as a qualifier, or — dotted schema name —
as `ref.package` / `ref.schema` strings -/
def refOk (pkg schema : Str) : Bool :=
  if hasDot schema then okString schema && okString pkg
  else isIdent schema && (pkg = [] || isDotted pkg)

def entKeyOk : J5V.Compile.EntKey → Bool
  | .nokey => true
  | .ek kind tenant =>
    (match kind with
     | .foreign pkg ent => okString pkg && okString ent && !hasDot ent
     | _ => true) &&
    (match tenant with
     | none => true
     | some t => okString t)

def keyFmtOk : J5V.Compile.KeyFmt → Bool
  | .custom p => okString p
  | _ => true

def enumDeclOk (named : Bool) (e : J5V.Compile.EnumDecl) : Bool :=
  (if named then isIdent e.name else okString e.name) && okString e.pfx && e.opts.all isIdent

def listRulesOk : Option (List Str) → Bool
  | none => true
  | some fs => fs.all okString

/-- the abstract syntax has no collection of collections (the wire decoder refuses them) -/
def isCollection : CField → Bool
  | .array .. => true
  | .map .. => true
  | _ => false

mutual
def fieldOk (env : Env) : CField → Bool
  | .string rules l => !l && rulesOk env (typeSchema (.string rules l)) rules
  | .bool rules l => !l && rulesOk env (typeSchema (.bool rules l)) rules
  | .bytes rules => rulesOk env (typeSchema (.bytes rules)) rules
  | .date rules l => !l && rulesOk env (typeSchema (.date rules l)) rules
  | .decimal rules l => !l && rulesOk env (typeSchema (.decimal rules l)) rules
  | .timestamp rules => rulesOk env (typeSchema (.timestamp rules)) rules
  | .any => true
  | .integer fmt rules l => !l && rulesOk env (typeSchema (.integer fmt rules l)) rules
  | .float fmt rules l => !l && rulesOk env (typeSchema (.float fmt rules l)) rules
  | .key fmt ek rules l => !l && rulesOk env (typeSchema (.key fmt ek rules l)) rules && keyFmtOk fmt && entKeyOk ek
  | .objectRef pkg schema _ rules => rulesOk env b!"j5.schema.v1.ObjectField" rules && refOk pkg schema
  | .objectInl name props _ rules =>
    rulesOk env b!"j5.schema.v1.ObjectField" rules && okString name && propsOk env props
  | .oneofRef pkg schema rules l => !l && rulesOk env b!"j5.schema.v1.OneofField" rules && refOk pkg schema
  | .oneofInl name props rules l =>
    !l && rulesOk env b!"j5.schema.v1.OneofField" rules && okString name && propsOk env props
  | .enumRef pkg schema rules lr =>
    rulesOk env b!"j5.schema.v1.EnumField" rules && listRulesOk lr && refOk pkg schema
  | .enumInl e rules lr => rulesOk env b!"j5.schema.v1.EnumField" rules && listRulesOk lr && enumDeclOk false e
  | .array items rules => rulesOk env b!"j5.schema.v1.ArrayField" rules && !isCollection items && fieldOk env items
  | .map items rules => rulesOk env b!"j5.schema.v1.MapField" rules && !isCollection items && fieldOk env items

def propOk (env : Env) : CProperty → Bool
  | .mk name _ _ f => isIdent name && fieldOk env f

def propsOk (env : Env) : List CProperty → Bool
  | [] => true
  | p :: ps => propOk env p && propsOk env ps
end

mutual
/-- `inObject`: the declaration is written inside an `object` (or `event`) block, where only `object`
may be nested (`j5.sourcedef.v1.Object` has no alias `enum` / `oneof`); a `oneof` block nests nothing -/
def objDeclOk (env : Env) (isOneof : Bool) : J5V.Compile.ObjDecl → Bool
  | .mk name props nested psm =>
    isIdent name && psm.isNone && propsOk env props && (if isOneof then nested.isEmpty else nestedOk env true nested)

def nestedOk (env : Env) (inObject : Bool) : List J5V.Compile.Nested → Bool
  | [] => true
  | .object o :: rest => objDeclOk env false o && nestedOk env inObject rest
  | .oneof o :: rest => !inObject && objDeclOk env true o && nestedOk env inObject rest
  | .enum e :: rest => !inObject && enumDeclOk true e && nestedOk env inObject rest
end

def methodOk (env : Env) (m : J5V.Compile.Method) : Bool :=
  isIdent m.name && m.verb != .unspecified && okString m.path && m.mopt == .none &&
  (match m.request with | none => false | some ps => propsOk env ps) &&
  (match m.response with | none => true | some ps => propsOk env ps)

def serviceOk (env : Env) (named : Bool) (s : J5V.Compile.Service) : Bool :=
  s.sopt == .none &&
  (match s.name with
   | none => !named
   | some n => if named then isIdent n else okString n) &&
  (match s.basePath with | none => true | some bp => okString bp) &&
  s.methods.all (methodOk env)

def topicMsgOk (env : Env) (m : J5V.Compile.TopicMsg) : Bool :=
  (match m.name with | none => true | some n => isIdent n) && propsOk env m.props

def topicOk (env : Env) (t : J5V.Compile.Topic) : Bool :=
  isIdent t.name &&
  match t.type with
  | .publish msgs => msgs.all (topicMsgOk env)
  | .reqres reqs reps => reqs.all (topicMsgOk env) && reps.all (topicMsgOk env)
  | .upsert en msg => en = [] && topicMsgOk env msg
  | .event _ _ => false

def keyOk (env : Env) (k : J5V.Compile.EntityKeyDecl) : Bool := propOk env k.prop

def entityOk (env : Env) (e : J5V.Compile.Entity) : Bool :=
  isIdent e.name && okString e.baseUrl && e.keys.all (keyOk env) && propsOk env e.data &&
  e.statuses.all isIdent && e.events.all (objDeclOk env false) && e.commands.all (serviceOk env false) &&
  e.summaries.all (fun s => okString s.name && propsOk env s.props) &&
  (match e.query with | none => true | some q => q.filters.all okString) &&
  nestedOk env false e.nested

def elemOk (env : Env) : J5V.Compile.Elem → Bool
  | .object o => objDeclOk env false o
  | .oneof o => objDeclOk env true o
  | .enum e => enumDeclOk true e
  | .service s => serviceOk env true s
  | .topic t => topicOk env t
  | .entity e => entityOk env e

def importOk (i : J5V.Compile.Import) : Bool :=
  if i.path.contains 47 then okString i.path
  else isDotted i.path && (i.alias = [] || isIdent i.alias)

def supportedEnv (env : Env) : J5V.Compile.SrcFile → Bool
  | .j5s _ imports elems decl => isDotted decl && imports.all importOk && elems.all (elemOk env)
  | .proto .. => false

/-- the covered fragment (decidable) -/
def supported (ast : J5V.Compile.SrcFile) : Bool := supportedEnv j5Env ast

end J5V.Walker
