import J5V.Walker.WFj5Lit
/-!
# `j5Env.WF = true`, checked by the kernel

`j5Env` is a conversion of generated tables of `String`s, and the kernel is slow on `str`: `String.toList` of
a literal DECODES its UTF-8 bytes by well-founded recursion, and every conjunct of `Env.WF` would force every
name again. So the file goes in three steps, none of which trusts anything — each is an equation or an
implication proved for all inputs, or an evaluation by the kernel:

1. `str s = strBytes s` (`str_eq_strBytes`, all `s`): a literal unfolds to `String.ofList chars`, whose bytes
   are `chars.flatMap String.utf8EncodeChar` — structural recursion and the `Nat` arithmetic of the model's
   own `encodeRune`; `strBytes` reads those bytes off. The conversions of `Facts.lean` mention `str` by name,
   so they are written once more over `strBytes` (`convTypeB … j5EnvB`), with `j5EnvB_eq : j5EnvB = j5Env`.
2. A NORMAL FORM: `j5EnvNF` is the value of `j5Env` written out as a literal — produced by elaborators
   (`WFj5Lit.lean`), nothing copied by hand, so it follows the regenerated facts — and
   `j5Env_nf : j5Env = j5EnvNF` is one kernel evaluation of `j5EnvB = j5EnvNF`. Every later fact about
   `j5Env` (`PP/J5Tables.lean`, the examples of `Props/C07Walker.lean`) is `rw [j5Env_nf]; decide +kernel`.
3. `j5EnvNF.WF = true` through `Env.WFChecked`, a check with cheaper lookups that implies `Env.WF`
   (`Env.WF_of_checked`, all environments).
-/
namespace J5V.Walker
open J5V.Bcl J5V.Generated

/-! ## `str` without decoding -/

def strBytes (s : String) : Str := s.toByteArray.data.toList.map UInt8.toNat

theorem leadByte {q m k : Nat} (hq : q < m) (hk : m + k ≤ 256) : (q % m + k) % 256 = k + q := by
  rw [Nat.mod_eq_of_lt hq, Nat.mod_eq_of_lt (by omega), Nat.add_comm]

theorem contByte (x : Nat) : (x % 64 + 128) % 256 = 128 + x % 64 := by omega

/-- core's encoder (bytes as `UInt8.ofNat` of `/`, `%` expressions) and the model's agree on every `Char` -/
theorem utf8EncodeChar_toNat (c : Char) :
    (String.utf8EncodeChar c).map UInt8.toNat = encodeRune c.toNat := by
  have hv : c.toNat < 0xd800 ∨ 0xdfff < c.toNat ∧ c.toNat < 0x110000 := c.valid
  have hr : validRune c.toNat = true := by
    simp only [validRune, Bool.or_eq_true, Bool.and_eq_true, decide_eq_true_eq]; exact hv
  simp only [String.utf8EncodeChar, encodeRune, hr, ← Char.toNat.eq_1]
  by_cases h1 : c.toNat < 0x80
  · rw [if_pos h1, if_pos (by omega)]
    simp only [List.map, UInt8.toNat_ofNat', Nat.reducePow]
    rw [Nat.mod_eq_of_lt (by omega)]
  rw [if_neg h1, if_neg (by omega)]
  by_cases h2 : c.toNat < 0x800
  · rw [if_pos h2, if_pos (by omega)]
    simp only [List.map, UInt8.toNat_ofNat', Nat.reducePow, contByte,
      leadByte (k := 192) (Nat.div_lt_of_lt_mul (show c.toNat < 64 * 32 from h2)) (by decide)]
  rw [if_neg h2, if_neg (by omega)]
  by_cases h3 : c.toNat < 0x10000
  · rw [if_pos h3, if_pos (by omega)]
    simp only [List.map, UInt8.toNat_ofNat', Nat.reducePow, contByte,
      leadByte (k := 224) (Nat.div_lt_of_lt_mul (show c.toNat < 4096 * 16 from h3)) (by decide),
      Bool.not_true, Bool.false_eq_true, if_false]
  · rw [if_neg h3, if_neg (by omega)]
    simp only [List.map, UInt8.toNat_ofNat', Nat.reducePow, contByte,
      leadByte (k := 240) (Nat.div_lt_of_lt_mul (show c.toNat < 262144 * 8 by omega)) (by decide),
      Bool.not_true, Bool.false_eq_true, if_false]

theorem str_eq_strBytes (s : String) : str s = strBytes s := by
  obtain ⟨cs, rfl⟩ := s.exists_eq_ofList
  simp [str, strBytes, encodeRunes, List.utf8Encode, List.map_flatMap, utf8EncodeChar_toNat,
    List.flatMap_map]

theorem strBytes_eq : strBytes = str := funext fun s => (str_eq_strBytes s).symm

/-! ## The conversions of `Facts.lean` over `strBytes` -/

def convTypeB : Walkerschema.FieldType → FieldType
  | .object r => .object (strBytes r)
  | .oneof r => .oneof (strBytes r)
  | .enum r => .enum (strBytes r)
  | .any => .any
  | .scalar k => .scalar (convKind k)
  | .array i => .array (convTypeB i)
  | .map i => .map (convTypeB i)
  | .unknown => .unknown

def convPropertyB (p : Walkerschema.Property) : Property where
  name := strBytes p.name
  required := p.required
  type := convTypeB p.type
  singleForm := p.singleForm.map strBytes
  arrayAlias := p.arrayAlias.map strBytes
  presence := p.presence
  oneofGroup := p.protoOneof.map fun g => (strBytes g, p.protoNumbers.dropLast)

def convSchemaB (s : Walkerschema.Schema) : Schema :=
  ⟨strBytes s.name, s.isOneof, s.props.map convPropertyB⟩

def convEnumB (e : Walkerschema.Enum) : EnumDef :=
  ⟨strBytes e.name, strBytes e.prefix, e.options.map fun o => ⟨strBytes o.name, o.number⟩⟩

def convTagB (t : Walkerspec.RawTag) : Tag :=
  ⟨strBytes t.fieldName, t.bang.map strBytes, t.question.map strBytes, t.optional, t.isBlock⟩

def convSplitB (s : Walkerspec.RawSplit) : ScalarSplit :=
  ⟨s.delimiter.map strBytes, s.rightToLeft, s.required.map (·.map strBytes),
    s.optional.map (·.map strBytes), s.remainder.map (·.map strBytes)⟩

def convAliasesB : List (String × List String) → List (Str × PathSpec) → List (Str × PathSpec)
  | [], acc => acc
  | (n, p) :: rest, acc => convAliasesB rest (aliasInsert (strBytes n) (p.map strBytes) acc)

def convBlockB (b : Walkerspec.RawBlock) : GivenBlock :=
  ⟨strBytes b.schemaName,
    { description := b.description.map strBytes
      aliases := convAliasesB b.aliases []
      name := b.name.map convTagB
      typeSelect := b.typeSelect.map convTagB
      qualifier := b.qualifier.map convTagB
      onlyDefined := b.onlyExplicit
      scalarSplit := b.scalarSplit.map convSplitB }⟩

def j5EnvB : Env where
  root := strBytes Walkerschema.rootSchema
  schemas := Walkerschema.schemas.map convSchemaB
  enums := Walkerschema.enums.map convEnumB
  given := Walkerspec.blocks.map convBlockB

theorem convTypeB_eq : ∀ t, convTypeB t = convType t
  | .object _ | .oneof _ | .enum _ => by simp [convTypeB, convType, strBytes_eq]
  | .any | .scalar _ | .unknown => rfl
  | .array i | .map i => by simp [convTypeB, convType, convTypeB_eq i]

theorem convAliasesB_eq : ∀ l acc, convAliasesB l acc = convAliases l acc
  | [], _ => rfl
  | (_, _) :: rest, _ => by simp [convAliasesB, convAliases, strBytes_eq, convAliasesB_eq rest]

theorem j5EnvB_eq : j5EnvB = j5Env := by
  have hp : convPropertyB = convProperty := by
    funext p; simp [convPropertyB, convProperty, strBytes_eq, convTypeB_eq]
  have ht : convTagB = convTag := by funext t; simp [convTagB, convTag, strBytes_eq]
  have hs : convSplitB = convSplit := by funext s; simp [convSplitB, convSplit, strBytes_eq]
  simp [j5EnvB, j5Env, convSchemaB, convSchema, convEnumB, convEnum, convBlockB, convBlock, strBytes_eq,
    hp, ht, hs, convAliasesB_eq]

/-! ## The normal form -/

def j5EnvNF : Env := ⟨j5_root_lit%, j5_rest_lit% 0, j5_enums_lit%, j5_given_lit%⟩

deriving instance DecidableEq for Env

theorem j5Env_nf : j5Env = j5EnvNF := by rw [← j5EnvB_eq]; decide +kernel


theorem j5_root_nf : j5Env.root = j5_root_lit% := congrArg Env.root j5Env_nf
theorem j5_enums_nf : j5Env.enums = j5_enums_lit% := congrArg Env.enums j5Env_nf
theorem j5_given_nf : j5Env.given = j5_given_lit% := congrArg Env.given j5Env_nf

theorem j5_rest_nf :
    (J5V.Generated.Walkerschema.schemas.drop 108).map convSchema = j5_rest_lit% 108 := by
  rw [List.map_drop]; exact congrArg (·.schemas.drop 108) j5Env_nf

theorem j5Chunk_eq (a : Nat) : j5Chunk a = (j5EnvNF.schemas.drop a).take 27 := by
  rw [j5Chunk, List.map_take, List.map_drop]; exact congrArg (fun e => (e.schemas.drop a).take 27) j5Env_nf

theorem j5_chunk0_nf : j5Chunk 0 = j5_chunk_lit% 0 := j5Chunk_eq 0
theorem j5_chunk1_nf : j5Chunk 27 = j5_chunk_lit% 27 := j5Chunk_eq 27
theorem j5_chunk2_nf : j5Chunk 54 = j5_chunk_lit% 54 := j5Chunk_eq 54
theorem j5_chunk3_nf : j5Chunk 81 = j5_chunk_lit% 81 := j5Chunk_eq 81

/-! ## `Env.WF` in one pass

`closed` and `typesOK` look every schema reference up by linear search, comparing names byte by byte; the
names of `j5Env` share long prefixes. `WFChecked` makes one pass for both and compares bytes only where the
lengths agree. -/

/-- `findSchema name` over schemas paired with the length of their names -/
def findKeyed (name : Str) (n : Nat) : List (Nat × Schema) → Option Schema
  | [] => none
  | (k, s) :: rest => if k = n ∧ s.name = name then some s else findKeyed name n rest

theorem findKeyed_eq (name : Str) : ∀ l : List Schema,
    findKeyed name name.length (l.map fun s => (s.name.length, s)) = findSchema name l
  | [] => rfl
  | s :: l => by
    have : (s.name.length = name.length ∧ s.name = name) = (s.name = name) :=
      propext ⟨And.right, fun h => ⟨congrArg _ h, h⟩⟩
    simp only [List.map_cons, findKeyed, findSchema, this, findKeyed_eq name l]

/-- `refsIn` and `ok` (`top`) / `itemOK` (not `top`) in one pass -/
def FieldType.checked (keyed : List (Nat × Schema)) (enums : List EnumDef) (top : Bool) : FieldType → Bool
  | .object r => match findKeyed r r.length keyed with
    | some s => !s.isOneof
    | none => false
  | .oneof r => match findKeyed r r.length keyed with
    | some s => s.isOneof
    | none => false
  | .enum r => (findEnum r enums).isSome
  | .scalar _ => true
  | .any => true
  | .array i => top && i.checked keyed enums false
  | .map i => top && i.checked keyed enums false
  | .unknown => false

theorem FieldType.checked_item {env : Env} {t : FieldType}
    (h : t.checked (env.schemas.map fun s => (s.name.length, s)) env.enums false = true) :
    t.refsIn env = true ∧ t.itemOK env = true := by
  cases t with
  | object r | oneof r =>
    -- the keyed lookup is `findSchema` (`findKeyed_eq`), which `refsIn` and `schemaOf` read too
    simp only [checked, findKeyed_eq] at h
    simp only [refsIn, itemOK, Env.schemaOf]
    cases hf : findSchema r env.schemas with
    | none => rw [hf] at h; cases h
    | some s => rw [hf] at h; exact ⟨rfl, h⟩
  | enum r => exact ⟨h, rfl⟩
  | scalar _ | any => exact ⟨rfl, rfl⟩
  | array _ | map _ | unknown => cases h

theorem FieldType.checked_top {env : Env} {t : FieldType}
    (h : t.checked (env.schemas.map fun s => (s.name.length, s)) env.enums true = true) :
    t.refsIn env = true ∧ t.ok env = true := by
  cases t
  case array i => exact checked_item (t := i) h
  case map i => exact checked_item (t := i) h
  all_goals exact checked_item h

def Env.WFChecked (env : Env) : Bool :=
  let keyed := env.schemas.map fun s => (s.name.length, s)
  (env.schemas.all fun s => s.props.all fun p => p.type.checked keyed env.enums true) &&
    env.rootOK && env.stubOK && env.splitOK && env.mapNamesFresh

theorem Env.WF_of_checked {env : Env} (h : env.WFChecked = true) : env.WF = true := by
  simp only [WFChecked, Bool.and_eq_true, List.all_eq_true] at h
  obtain ⟨⟨⟨⟨ht, hr⟩, hs⟩, hsp⟩, hm⟩ := h
  simp only [WF, closed, typesOK, Schema.typesOK, Bool.and_eq_true, List.all_eq_true]
  exact ⟨⟨⟨⟨⟨fun s hs p hp => (FieldType.checked_top (ht s hs p hp)).1,
    fun s hs p hp => (FieldType.checked_top (ht s hs p hp)).2⟩, hr⟩, hs⟩, hsp⟩, hm⟩

theorem j5EnvNF_WF : j5EnvNF.WF = true := Env.WF_of_checked (by decide +kernel)

/-- the j5 environment is well formed -/
theorem j5Env_WF : j5Env.WF = true := by rw [j5Env_nf]; exact j5EnvNF_WF

end J5V.Walker
