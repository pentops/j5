import J5V.Walker.ErasePosBase
import J5V.Walker.StateLemmas
import J5V.Go.ListLemmas
/-!
# Source positions only position errors (2): `setAttribute ⇄ setContainerFromScalar`, tags, qualifiers,
statements, `walkSchema`

`walkSchema_erase`: the walk over the position-erased body and the walk over the body itself give the
same tree, the same panic, or errors that differ in their position only.
`walkSchema_ok_of_erase_eq`: bodies equal up to positions are accepted with the same tree.
-/
namespace J5V.Walker
open J5V.Bcl

/-! ## `setAttribute ⇄ setContainerFromScalar` -/

theorem appendValues_erase (env : Env) (arr : Addr) (item : FieldType) : ∀ vs : List AV,
    MRel Eq (appendValues env arr item (vs.map AV.erase)) (appendValues env arr item vs) := by
  intro vs
  induction vs with
  | nil => exact MRel.refl _
  | cons v rest ih =>
    simp only [List.map, appendValues, scalarFromAST_erase]
    generalize scalarFromAST env item v = r
    cases r with
    | ok s => exact MRel.bindEq (fun _ => ih)
    | err e => exact MRel.wrapErr (ERel.refl e) _ _
    | panic w => exact MRel.panic w

theorem forEach2_erase {f' f : PathSpec → AV → M Unit}
    (hf : ∀ p v, MRel Eq (f' p v.erase) (f p v)) : ∀ (vs : List AV) (ps : List PathSpec),
    MRel Eq (forEach2 f' ps (vs.map AV.erase)) (forEach2 f ps vs) := by
  intro vs
  induction vs with
  | nil => intro ps; simp only [List.map, forEach2]; exact MRel.refl _
  | cons v rest ih =>
    intro ps
    cases ps with
    | nil => simp only [List.map, forEach2]; exact MRel.panic _
    | cons p ps =>
      simp only [List.map, forEach2]
      exact MRel.bind' (hf p v) (fun _ => ih ps)

theorem allAsString_erase : ∀ vs : List AV,
    MRel Eq (allAsString (vs.map AV.erase)) (allAsString vs) := by
  intro vs
  induction vs with
  | nil => exact MRel.refl _
  | cons v rest ih =>
    simp only [List.map, allAsString, AV.asString_erase]
    cases v.asString with
    | none => exact MRel.errAt _ _ _
    | some s => exact MRel.bind' ih (fun _ => MRel.refl _)

theorem ite_map_erase (c : Prop) [Decidable c] (x y : List AV) :
    (if c then x.map AV.erase else y.map AV.erase) = (if c then x else y).map AV.erase := by
  split <;> rfl

/-- both functions at once, by induction on the fuel, along the `match`es of `Walk.lean` in their order. The two runs take
the same branch at every test (the tests read names, field kinds, `asArray` / `asString` and list lengths, which erasure
keeps); a position occurs only as an argument of `errAt` / `wrapErr` and in the span of the remainder string. -/
theorem setAttribute_setContainer_erase (env : Env) : ∀ fuel : Nat,
    (∀ (sc : Scope) (path : PathSpec) (ref : List Ident) (val : AV) (app : Bool),
      MRel Eq (setAttribute env fuel sc path (ref.map Ident.erase) val.erase app)
        (setAttribute env fuel sc path ref val app)) ∧
    (∀ (sc : Scope) (bs : BlockSpec) (val : AV),
      MRel Eq (setContainerFromScalar env fuel sc bs val.erase)
        (setContainerFromScalar env fuel sc bs val)) := by
  intro fuel
  induction fuel with
  | zero =>
    refine ⟨fun sc path ref val app => ?_, fun sc bs val => ?_⟩
    · simp only [setAttribute]; exact MRel.panic _
    · simp only [setContainerFromScalar]; exact MRel.panic _
  | succ fuel ih =>
    refine ⟨fun sc path ref val app => ?_, fun sc bs val => ?_⟩
    · rw [setAttribute, setAttribute]
      simp only [combinePath_erase, List.isEmpty_map, List.getLast?_map]
      apply MRel.ite
      · intro _; exact MRel.refl _
      intro _
      cases hl : (combinePath path ref).getLast? with
      | none => simp only [Option.map]; exact MRel.panic _
      | some last =>
        simp only [Option.map]
        apply MRel.bind' (by rw [← List.map_dropLast]; exact walkScope_erase env _ sc)
        intro parentScope
        have hn : last.erase.name = last.name := rfl
        simp only [hn, scalarFromAST_erase, AV.asArray_erase]
        apply MRel.bind'
        · apply MRel.tryCatch (MRel.refl _)
          intro e' e he
          cases hp : last.position with
          | none => simp only [PathElement.erase, hp, Option.map]; exact MRel.err he.wrapped
          | some pos => simp only [PathElement.erase, hp, Option.map]; exact MRel.wrapErr he _ _
        intro field
        have happend : ∀ (item : FieldType) (vs : List AV),
            MRel Eq (do
                let len ← listLength field.addr
                if !app ∧ len > 0 then errAt "value already set" val.erase.span
                else appendValues env field.addr item (vs.map AV.erase))
              (do
                let len ← listLength field.addr
                if !app ∧ len > 0 then errAt "value already set" val.span
                else appendValues env field.addr item vs) := fun item vs =>
          MRel.bindEq fun _ => MRel.ite (fun _ => MRel.errAt _ _ _) (fun _ => appendValues_erase env _ _ vs)
        cases hk : field.kind with
        | container s =>
          simp only []
          apply MRel.ite
          · intro _; exact MRel.errAt _ _ _
          · intro _
            apply MRel.bind'
            · exact MRel.tryCatch (MRel.refl _) (fun e' e he => MRel.wrapErr he _ _)
            · intro cs; exact ih.2 cs _ val
        | arrayOfScalar item =>
          simp only []
          cases val.asArray with
          | some vs => exact happend item vs
          | none =>
            cases app with
            | true => exact happend item [val]
            | false => exact MRel.errAt _ _ _
        | scalar t pr =>
          simp only []
          cases val.asArray with
          | some vs => exact MRel.errAt _ _ _
          | none =>
            cases app with
            | true => exact MRel.errAt _ _ _
            | false =>
              simp only [Option.map, Bool.false_eq_true, if_false]
              cases scalarFromAST env t val with
              | ok s => exact MRel.refl _
              | err e => exact MRel.wrapErr (ERel.refl e) _ _
              | panic w => exact MRel.panic w
        | arrayOfContainer s | map n item | any =>
          simp only []
          cases val.asArray with
          | some vs => exact MRel.errAt _ _ _
          | none => cases app <;> exact MRel.errAt _ _ _
    · rw [setContainerFromScalar, setContainerFromScalar]
      cases hs : bs.scalarSplit with
      | none => simp only []; exact MRel.refl _
      | some ss =>
        simp only []
        apply MRel.bind (R := fun a' a => a' = a.map AV.erase)
        · cases hd : ss.delimiter with
          | some delim =>
            simp only [AV.asString_erase]
            cases val.asString with
            | none => exact MRel.errAt _ _ _
            | some s =>
              exact MRel.pure (by rw [List.map_map, AV.erase_span]; rfl)
          | none =>
            simp only [AV.asArray_erase]
            cases val.asArray with
            | none => exact MRel.err (ERel.refl _)
            | some vs => exact MRel.pure rfl
        · intro a' a h; subst h
          -- the lists of the erased run as `List.map AV.erase` of the other run's
          simp only [ite_take, ite_drop]
          simp only [← List.map_reverse, ite_map_erase, List.length_map, ← List.map_take, ← List.map_drop,
            List.isEmpty_map, List.head?_map, List.getLast?_map]
          generalize (if ss.rightToLeft = true then a.reverse else a) = sv
          generalize (if ss.rightToLeft = true then List.reverse _ else _) = X
          apply MRel.ite
          · intro _; exact MRel.refl _
          intro _
          apply MRel.bind' (forEach2_erase (fun p v => ih.1 sc p [] v false) _ _)
          intro _
          apply MRel.ite
          · intro _; exact MRel.refl _
          intro _
          apply MRel.bind' (forEach2_erase (fun p v => ih.1 sc p [] v false) _ _)
          intro _
          apply MRel.ite
          · intro _; exact MRel.refl _
          intro _
          cases ss.remainder with
          | none => exact MRel.refl _
          | some remainder =>
            simp only []
            apply MRel.bind' (allAsString_erase _)
            intro strs
            cases X.head? with
            | none => simp only [Option.map]; exact MRel.panic _
            | some first =>
              cases X.getLast? with
              | none => simp only [Option.map]; exact MRel.panic _
              | some last =>
                simp only [Option.map, AV.erase_span]
                exact ih.1 sc remainder [] (.str _ _) false

theorem setAttribute_erase (env : Env) (fuel : Nat) (sc : Scope) (path : PathSpec) (ref : List Ident)
    (val : AV) (app : Bool) :
    MRel Eq (setAttribute env fuel sc path (ref.map Ident.erase) val.erase app)
      (setAttribute env fuel sc path ref val app) :=
  (setAttribute_setContainer_erase env fuel).1 sc path ref val app

theorem setAttribute_erase_nil (env : Env) (fuel : Nat) (sc : Scope) (path : PathSpec)
    (val : AV) (app : Bool) :
    MRel Eq (setAttribute env fuel sc path [] val.erase app) (setAttribute env fuel sc path [] val app) :=
  setAttribute_erase env fuel sc path [] val app

theorem setContainerFromScalar_erase (env : Env) (fuel : Nat) (sc : Scope) (bs : BlockSpec) (val : AV) :
    MRel Eq (setContainerFromScalar env fuel sc bs val.erase) (setContainerFromScalar env fuel sc bs val) :=
  (setAttribute_setContainer_erase env fuel).2 sc bs val

theorem setDescription_erase (env : Env) (sc : Scope) (d : AV) :
    MRel Eq (setDescription env sc d.erase) (setDescription env sc d) := by
  unfold setDescription
  cases sc.root with
  | none => exact MRel.panic _
  | some root =>
    simp only []
    cases root.spec.description with
    | none => exact MRel.refl _
    | some f => exact setAttribute_erase_nil env _ sc _ d false

/-! ## Tags, qualifiers, statements -/

theorem checkBang_erase (env : Env) (sc : Scope) (tagSpec : Tag) (t : TagValue) :
    MRel Eq (checkBang env sc tagSpec t.erase) (checkBang env sc tagSpec t) := by
  unfold checkBang
  have hm : t.erase.mark = t.mark := rfl
  rw [hm]
  cases t.mark with
  | none => exact MRel.refl _
  | bang =>
    simp only []
    cases tagSpec.bangFieldName with
    | none => exact MRel.errAt _ _ _
    | some f => exact MRel.refl _
  | question =>
    simp only []
    cases tagSpec.questionFieldName with
    | none => exact MRel.errAt _ _ _
    | some f => exact MRel.refl _

theorem applyNameTag_erase (env : Env) (sc : Scope) (tagSpec : Tag) (t : TagValue) :
    MRel Eq (applyNameTag env sc tagSpec t.erase) (applyNameTag env sc tagSpec t) := by
  unfold applyNameTag
  exact MRel.bind' (checkBang_erase env sc tagSpec t)
    (fun _ => setAttribute_erase_nil env _ sc _ (.tag t) false)

theorem selectType_erase (env : Env) (sc : Scope) (tagSpec : Tag) (t : TagValue) :
    MRel Eq (selectType env sc tagSpec t.erase) (selectType env sc tagSpec t) := by
  unfold selectType
  have hr : t.erase.reference = t.reference.map Reference.erase := rfl
  rw [hr]
  cases t.reference with
  | none => exact MRel.refl _
  | some ref =>
    simp only [Option.map]
    exact MRel.bind' (buildScope_erase env sc _ ref.idents .keepScope)
      (fun ts => MRel.bind' (checkBang_erase env ts tagSpec t) (fun _ => MRel.refl _))

theorem find_mark_erase (l : List TagValue) :
    (l.map TagValue.erase).find? (fun t => t.mark != .none) =
      (l.find? (fun t => t.mark != .none)).map TagValue.erase := by
  rw [List.find?_map]; rfl

theorem finishTags_erase (env : Env) (sc : Scope) (spec : BlockSpec) (items : List TagValue) :
    MRel Eq (finishTags env sc spec (items.map TagValue.erase)) (finishTags env sc spec items) := by
  cases items with
  | nil => exact MRel.refl _
  | cons first rest =>
    have hf := find_mark_erase (first :: rest)
    have hg := List.getLast?_map (f := TagValue.erase) (l := first :: rest)
    simp only [List.map_cons] at hf hg
    simp only [List.map_cons, finishTags, hf, hg, List.length_cons, List.length_map]
    cases List.find? (fun t => t.mark != TagMark.none) (first :: rest) with
    | some tag => exact MRel.errAt _ _ _
    | none =>
      simp only [Option.map]
      cases spec.scalarSplit with
      | some ss =>
        simp only []
        apply MRel.ite
        · intro _; exact MRel.refl _
        · intro _
          exact MRel.bind' (setContainerFromScalar_erase env _ sc spec (.tag first))
            (fun _ => MRel.refl _)
      | none =>
        simp only []
        cases (first :: rest).getLast? with
        | none => exact MRel.panic _
        | some last => exact MRel.errAt _ _ _

/-- `walkTags`; the last position only positions errors -/
theorem walkTags_erase (env : Env) (tags : List TagValue) (lp' lp : Pos) (sc : Scope) (spec : BlockSpec) :
    MRel Eq (walkTags env (tags.map TagValue.erase) lp' sc spec) (walkTags env tags lp sc spec) := by
  induction tags using J5V.Go.induct2 generalizing lp' lp sc spec with
  | nil =>
    simp only [List.map_nil, walkTags]
    cases spec.name with
    | some nameSpec =>
      simp only []
      apply MRel.ite
      · intro _; exact MRel.refl _
      · intro _; exact MRel.errAt _ _ _
    | none =>
      simp only []
      cases spec.typeSelect with
      | some _ => exact MRel.errAt _ _ _
      | none => exact MRel.refl _
  | cons gotTag rest ih ih2 =>
    simp only [List.map_cons, walkTags]
    cases spec.name with
    | some nameSpec =>
      simp only []
      apply MRel.bind' (applyNameTag_erase env sc nameSpec gotTag)
      intro _
      cases spec.typeSelect with
      | none => simp only []; exact finishTags_erase env sc spec rest
      | some typeSpec =>
        simp only []
        cases rest with
        | nil => simp only [List.map_nil]; exact MRel.errAt _ _ _
        | cons typeTag rest2 =>
          simp only [List.map_cons]
          apply MRel.bind' (selectType_erase env sc typeSpec typeTag)
          intro ts
          exact ih2 typeTag rest2 rfl _ _ _ _
    | none =>
      simp only []
      cases spec.typeSelect with
      | none => simp only []; exact finishTags_erase env sc spec (gotTag :: rest)
      | some typeSpec =>
        simp only []
        apply MRel.bind' (selectType_erase env sc typeSpec gotTag)
        intro ts
        exact ih _ _ _ _

theorem walkQualifiers_erase (env : Env) : ∀ (quals : List TagValue) (sc : Scope) (spec : BlockSpec),
    MRel Eq (walkQualifiers env (quals.map TagValue.erase) sc spec) (walkQualifiers env quals sc spec) := by
  intro quals
  induction quals with
  | nil => intro sc spec; exact MRel.refl _
  | cons qualifier rest ih =>
    intro sc spec
    simp only [List.map_cons, walkQualifiers]
    cases spec.qualifier with
    | none => exact MRel.errAt _ _ _
    | some tagSpec =>
      simp only []
      apply MRel.ite
      · intro _
        apply MRel.bind' (checkBang_erase env sc tagSpec qualifier)
        intro _
        apply MRel.bind' (setAttribute_erase_nil env _ sc _ (.tag qualifier) false)
        intro _
        simp only [List.isEmpty_map, List.head?_map, List.getLast?_map]
        apply MRel.ite
        · intro _; exact MRel.refl _
        · intro _
          cases rest.head? with
          | none => exact MRel.panic _
          | some first =>
            cases rest.getLast? with
            | none => exact MRel.panic _
            | some last => exact MRel.errAt _ _ _
      · intro _
        have hr : qualifier.erase.reference = qualifier.reference.map Reference.erase := rfl
        rw [hr]
        cases qualifier.reference with
        | none => exact MRel.refl _
        | some ref =>
          simp only [Option.map]
          exact MRel.bind' (buildScope_erase env sc _ ref.idents .keepScope)
            (fun ns => MRel.bind' (checkBang_erase env ns tagSpec qualifier) (fun _ => ih ns _))

theorem doAssign_erase (env : Env) (sc : Scope) (a : Assignment) :
    MRel Eq (doAssign env sc a.erase) (doAssign env sc a) :=
  setAttribute_erase env _ sc [] a.key.idents (.value a.value) a.append

theorem doDescription_erase (env : Env) (sc : Scope) (d : Description) :
    MRel Eq (doDescription env sc d.erase) (doDescription env sc d) :=
  MRel.addPosition (setDescription_erase env sc (.str (encodeRunes d.value) d.span)) _ _

theorem doBlockDescription_erase (env : Env) (sc : Scope) (root : BlockSpec) (h : BlockHeader) :
    MRel Eq (doBlockDescription env sc root h.erase) (doBlockDescription env sc root h) := by
  unfold doBlockDescription
  have hd : h.erase.description = h.description.map Description.erase := rfl
  rw [hd]
  cases h.description with
  | none => exact MRel.refl _
  | some desc =>
    simp only [Option.map]
    cases root.description with
    | none => exact MRel.errAt _ _ _
    | some f =>
      exact setAttribute_erase_nil env _ sc _ (.str (encodeRunes desc.value) (headerSpan h)) false

theorem doBlockHead_erase (env : Env) (sc : Scope) (spec : BlockSpec) (h : BlockHeader) :
    MRel Eq (doBlockHead env sc spec h.erase) (doBlockHead env sc spec h) := by
  unfold doBlockHead
  apply MRel.bind' (walkTags_erase env h.tags _ _ sc spec)
  intro p
  obtain ⟨sc1, spec1⟩ := p
  apply MRel.bind' (walkQualifiers_erase env h.qualifiers sc1 spec1)
  intro q
  obtain ⟨sc2, spec2⟩ := q
  exact MRel.bind' (doBlockDescription_erase env sc2 spec h) (fun _ => MRel.refl _)

theorem doFullBlockHead_erase (env : Env) (sc : Scope) (h : BlockHeader) :
    MRel Eq (doFullBlockHead env sc h.erase) (doFullBlockHead env sc h) := by
  unfold doFullBlockHead
  exact MRel.bind' (buildScope_erase env sc [] h.type.idents .resetScope)
    (fun ns => doBlockHead_erase env ns _ h)

mutual
theorem doBody_erase (env : Env) : ∀ (body : List Statement) (sc : Scope),
    MRel Eq (doBody env sc (Statement.eraseList body)) (doBody env sc body)
  | [], sc => by
    simp only [Statement.eraseList, doBody]; exact MRel.refl _
  | s :: rest, sc => by
    simp only [Statement.eraseList, doBody]
    exact MRel.bind' (doStatement_erase env s sc) (fun _ => doBody_erase env rest sc)
theorem doStatement_erase (env : Env) : ∀ (s : Statement) (sc : Scope),
    MRel Eq (doStatement env sc s.erase) (doStatement env sc s)
  | .desc d, sc => by
    simp only [Statement.erase, doStatement]
    exact MRel.addPosition (doDescription_erase env sc d) _ _
  | .assign a, sc => by
    simp only [Statement.erase, doStatement]
    exact MRel.addPosition (doAssign_erase env sc a) _ _
  | .block h body, sc => by
    simp only [Statement.erase, doStatement]
    exact MRel.addPosition
      (MRel.bind' (doFullBlockHead_erase env sc h) (fun bs => doBody_erase env body bs)) _ _
end

/-- positions of the statements, idents, tags and values only position the error of a walk -/
theorem walkSchema_erase (env : Env) (body : List J5V.Bcl.Statement) (msg : Node) :
    (walkSchema env (J5V.Bcl.Statement.eraseList body) msg).dropPos =
      (walkSchema env body msg).dropPos := by
  unfold walkSchema
  cases newRootSchemaWalker env with
  | err e => rfl
  | panic w => rfl
  | ok scope =>
    simp only []
    obtain ⟨a', a, s, h', h0, _⟩ | ⟨⟨p', k', w'⟩, ⟨p, k, w⟩, h', h0, h1, h2⟩ | ⟨w, h', h0⟩ :=
      (doBody_erase env body scope msg).cases <;> simp only [h', h0]
    simp only at h1 h2; subst h1; subst h2; rfl

theorem Res.eq_ok_of_dropPos {α : Type} {x : Res α} {r : α} (h : x.dropPos = .ok r) : x = .ok r := by
  cases x with
  | ok a => exact h
  | err e => cases h
  | panic w => cases h

/-- bodies equal up to positions: the same tree -/
theorem walkSchema_ok_of_erase_eq (env : Env) (body body' : List J5V.Bcl.Statement) (msg r : Node)
    (he : J5V.Bcl.Statement.eraseList body' = J5V.Bcl.Statement.eraseList body)
    (h : walkSchema env body msg = .ok r) : walkSchema env body' msg = .ok r := by
  apply Res.eq_ok_of_dropPos
  rw [← walkSchema_erase env body' msg, he, walkSchema_erase env body msg, h]
  rfl

/-- … and rejected together (an error for one is an error for the other, a panic a panic) -/
theorem walkSchema_dropPos_of_erase_eq (env : Env) (body body' : List J5V.Bcl.Statement) (msg : Node)
    (he : J5V.Bcl.Statement.eraseList body' = J5V.Bcl.Statement.eraseList body) :
    (walkSchema env body' msg).dropPos = (walkSchema env body msg).dropPos := by
  rw [← walkSchema_erase env body' msg, he, walkSchema_erase env body msg]

end J5V.Walker
