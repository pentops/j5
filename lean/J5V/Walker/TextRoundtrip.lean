import J5V.Bcl.TreeTextProofs
import J5V.Walker.ErasePos
import J5V.Walker.PP.Entity
import J5V.Walker.TextOK
/-!
# From source TEXT: the plain-style text of a supported file parses to its tree and denotes its message

The round trip of `J5V/Bcl/TreeTextProofs.lean` at `toBcl ast` (`toBcl_textOK`), then `C07W_print_parse` and the position
independence of the walk (`ErasePos.lean`).
-/
namespace J5V.Walker
open J5V.Bcl

/-- the text `printJ5s ast` is accepted by the BCL parser, and the tree is `toBcl ast` up to positions -/
theorem text_roundtrip (cls : Cls) (hcls : ClsAscii cls) (ast : J5V.Compile.SrcFile)
    (h : supported ast = true) (ff : Bool) :
    ∃ t, parseFile cls (printJ5s ast) ff = .tree t ∧
      Statement.eraseList t.body = Statement.eraseList (toBcl ast) :=
  tree_text_roundtrip cls hcls.clsOK plainGap (toBcl ast) (toBcl_textOK cls hcls ast h) ff

/-- … and walking that tree gives exactly the message the file denotes -/
theorem text_parse_walk (cls : Cls) (hcls : ClsAscii cls) (filename : Str) (ast : J5V.Compile.SrcFile)
    (h : supported ast = true) (ff : Bool) :
    ∃ t, parseFile cls (printJ5s ast) ff = .tree t ∧
      walkSchema j5Env t.body (stub j5Env filename) = .ok (toMsg filename ast) := by
  obtain ⟨t, ht, he⟩ := text_roundtrip cls hcls ast h ff
  exact ⟨t, ht, walkSchema_ok_of_erase_eq j5Env (toBcl ast) t.body _ _ he
    (C07W_print_parse filename ast h)⟩

end J5V.Walker
