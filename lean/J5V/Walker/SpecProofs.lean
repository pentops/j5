import J5V.Walker.Hoare
/-!
# Specs of `Spec.lean`: `buildSpecLoop`, `mergeAliases`, `buildSpec`, `specOf`

`specOf` never panics (whatever the environment), its errors carry no position, it depends on the KIND
of the container only, and the result keeps `typeSelect` / `qualifier` / `scalarSplit` / `onlyDefined`,
a given `name` / `description` and every given alias of the given block (`givenSpec`).
-/
namespace J5V.Walker

/-- the given block `_buildSpec` starts from -/
def givenSpec (env : Env) (c : Cont) : BlockSpec :=
  match findGiven c.schemaName env.given with
  | some g => g
  | none => BlockSpec.empty

/-- what `buildSpecLoop` keeps of the block it completes -/
structure SpecKeeps (spec spec' : BlockSpec) : Prop where
  typeSelect : spec'.typeSelect = spec.typeSelect
  qualifier : spec'.qualifier = spec.qualifier
  scalarSplit : spec'.scalarSplit = spec.scalarSplit
  onlyDefined : spec'.onlyDefined = spec.onlyDefined
  aliases : spec'.aliases = spec.aliases
  name : ∀ t, spec.name = some t → spec'.name = some t
  description : ∀ d, spec.description = some d → spec'.description = some d

theorem SpecKeeps.refl (spec : BlockSpec) : SpecKeeps spec spec :=
  ⟨rfl, rfl, rfl, rfl, rfl, fun _ h => h, fun _ h => h⟩

theorem SpecKeeps.trans {a b c : BlockSpec} (h1 : SpecKeeps a b) (h2 : SpecKeeps b c) : SpecKeeps a c :=
  ⟨h2.typeSelect.trans h1.typeSelect, h2.qualifier.trans h1.qualifier,
   h2.scalarSplit.trans h1.scalarSplit, h2.onlyDefined.trans h1.onlyDefined,
   h2.aliases.trans h1.aliases, fun t h => h2.name t (h1.name t h),
   fun d h => h2.description d (h1.description d h)⟩

/-- the automatic name tag (the `.scalar .string` step of the loop, first half) -/
def nameStep (p : Property) (spec : BlockSpec) : BlockSpec :=
  if p.name = strName ∧ spec.name.isNone then
    { spec with name := some ⟨strName, none, none, !p.required, false⟩ }
  else spec

/-- the automatic description (second half) -/
def descStep (p : Property) (spec1 : BlockSpec) : BlockSpec :=
  if p.name = strDescription ∧ spec1.description.isNone then
    { spec1 with description := some strDescription }
  else spec1

theorem SpecKeeps.nameStep (p : Property) (spec : BlockSpec) : SpecKeeps spec (nameStep p spec) := by
  unfold J5V.Walker.nameStep
  split
  · rename_i h
    refine ⟨rfl, rfl, rfl, rfl, rfl, ?_, fun _ h => h⟩
    intro t ht; rw [ht] at h; simp at h
  · exact SpecKeeps.refl _

theorem SpecKeeps.descStep (p : Property) (spec : BlockSpec) : SpecKeeps spec (descStep p spec) := by
  unfold J5V.Walker.descStep
  split
  · rename_i h
    refine ⟨rfl, rfl, rfl, rfl, rfl, fun _ h => h, ?_⟩
    intro d hd; rw [hd] at h; simp at h
  · exact SpecKeeps.refl _

theorem buildSpecLoop_spec (props : List Property) (spec : BlockSpec) (na : List (Str × PathSpec)) :
    (buildSpecLoop props spec na).Holds (fun r => SpecKeeps spec r.1) NoPos := by
  induction props generalizing spec na with
  | nil => exact SpecKeeps.refl _
  | cons p rest ih =>
    unfold buildSpecLoop
    cases ht : p.type with
    | object r | oneof r | enum r => exact ih spec na
    | any | unknown => exact NoPos_mk0 _ _
    | scalar k =>
      cases k with
      | string =>
        exact (ih (descStep p (nameStep p spec)) na).imp
          (fun _ h => ((SpecKeeps.nameStep p spec).trans (SpecKeeps.descStep p _)).trans h) (fun _ h => h)
      | _ => exact ih spec na
    | array item =>
      simp only
      cases p.singleForm with
      | some sf => exact ih spec _
      | none =>
        simp only
        split
        · exact ih spec _
        · exact ih spec na
    | map item =>
      simp only
      cases p.singleForm with
      | some sf => exact ih spec _
      | none => exact ih spec na

theorem aliasLookup_append_left {k : Str} {l l' : List (Str × PathSpec)} {p : PathSpec}
    (h : aliasLookup k l = some p) : aliasLookup k (l ++ l') = some p := by
  induction l with
  | nil => cases h
  | cons x rest ih =>
    obtain ⟨k', p'⟩ := x
    simp only [aliasLookup, List.cons_append] at h ⊢
    split
    · rename_i hk; simpa [hk] using h
    · rename_i hk; simp only [hk, if_false] at h; exact ih h

/-- the automatic aliases never override a given one -/
theorem aliasLookup_mergeAliases {k : Str} {na acc : List (Str × PathSpec)} {p : PathSpec}
    (h : aliasLookup k acc = some p) : aliasLookup k (mergeAliases na acc) = some p := by
  induction na generalizing acc with
  | nil => exact h
  | cons x rest ih =>
    obtain ⟨a, q⟩ := x
    simp only [mergeAliases]
    split
    · exact ih h
    · exact ih (aliasLookup_append_left h)

theorem specOf_eq (env : Env) (c : Cont) :
    specOf env c =
      if (givenSpec env c).onlyDefined then .ok (givenSpec env c)
      else
        match buildSpecLoop c.rangeProps (givenSpec env c) [] with
        | .ok (spec1, na) => .ok { spec1 with aliases := mergeAliases na spec1.aliases }
        | .err e => .err e
        | .panic w => .panic w := rfl

/-- `specOf` in one statement: it never panics, its errors carry no position, and the spec of a container
keeps of the given block: tags, split, `onlyDefined`; a given name / description; every given alias -/
theorem specOf_spec (env : Env) (c : Cont) :
    (specOf env c).Holds (fun spec =>
      spec.typeSelect = (givenSpec env c).typeSelect ∧
      spec.qualifier = (givenSpec env c).qualifier ∧
      spec.scalarSplit = (givenSpec env c).scalarSplit ∧
      spec.onlyDefined = (givenSpec env c).onlyDefined ∧
      (∀ t, (givenSpec env c).name = some t → spec.name = some t) ∧
      (∀ d, (givenSpec env c).description = some d → spec.description = some d) ∧
      (∀ a p, aliasLookup a (givenSpec env c).aliases = some p → aliasLookup a spec.aliases = some p))
      NoPos := by
  rw [specOf_eq]
  have h := buildSpecLoop_spec c.rangeProps (givenSpec env c) []
  generalize givenSpec env c = g at h ⊢
  by_cases hod : g.onlyDefined = true
  · rw [if_pos hod]; exact ⟨rfl, rfl, rfl, rfl, fun _ h => h, fun _ h => h, fun _ _ h => h⟩
  · rw [if_neg hod]
    cases hl : buildSpecLoop c.rangeProps g [] with
    | ok r =>
      have hk := h.ok_of hl
      exact ⟨hk.typeSelect, hk.qualifier, hk.scalarSplit, hk.onlyDefined, hk.name, hk.description,
        fun a p hp => aliasLookup_mergeAliases (hk.aliases ▸ hp)⟩
    | err e => exact h.err_of hl
    | panic w => exact h.ne_panic w hl

theorem specOf_no_panic (env : Env) (c : Cont) (w : String) : specOf env c ≠ .panic w :=
  (specOf_spec env c).ne_panic w

theorem specOf_err_noPos {env : Env} {c : Cont} {e : WErr} (h : specOf env c = .err e) : NoPos e :=
  (specOf_spec env c).err_of h

theorem specOf_keeps {env : Env} {c : Cont} {spec : BlockSpec} (h : specOf env c = .ok spec) :
    spec.typeSelect = (givenSpec env c).typeSelect ∧
    spec.qualifier = (givenSpec env c).qualifier ∧
    spec.scalarSplit = (givenSpec env c).scalarSplit ∧
    spec.onlyDefined = (givenSpec env c).onlyDefined ∧
    (∀ t, (givenSpec env c).name = some t → spec.name = some t) ∧
    (∀ d, (givenSpec env c).description = some d → spec.description = some d) ∧
    (∀ a p, aliasLookup a (givenSpec env c).aliases = some p → aliasLookup a spec.aliases = some p) :=
  (specOf_spec env c).ok_of h

theorem specOf_scalarSplit {env : Env} {c : Cont} {spec : BlockSpec} (h : specOf env c = .ok spec) :
    spec.scalarSplit = (givenSpec env c).scalarSplit := (specOf_keeps h).2.2.1

theorem givenSpec_addr (env : Env) (a a' : Addr) (k : ContKind) : givenSpec env ⟨a, k⟩ = givenSpec env ⟨a', k⟩ := rfl

end J5V.Walker
