import J5V.Walker.PP.Strings
import J5V.Walker.WalkSpec
import J5V.Bcl.TreeText
import J5V.Compile.StrProofs
/-!
# `toBcl ast` has the shape the text round trip needs: infrastructure

Generic constructors: identifier tokens from ASCII identifier names, references, tags, values,
assignments and block headers of `Print.lean` satisfy `IdentWF` / `RefWF` / `TagWF` / `TopValueWF` /
`AssignWF` / `HeaderWF` for every classifier that agrees with ASCII on ASCII (`ClsAscii`).
-/
namespace J5V.Walker
open J5V.Bcl

theorem ClsAscii.clsOK {cls : Cls} (h : ClsAscii cls) : ClsOK cls := by
  have key : ∀ r ∈ sepRunes, r < 128 ∧ asciiCls.isLetter r = false ∧ asciiCls.isDigit r = false := by
    decide
  refine ⟨?_, ?_, ?_⟩
  · rw [(h cSP (by decide)).2.2]; decide
  · rw [(h cTAB (by decide)).2.2]; decide
  · intro r hr
    obtain ⟨h1, h2, h3⟩ := key r hr
    rw [(h r h1).1, (h r h1).2.1]
    exact ⟨h2, h3⟩

theorem asciiCls_clsAscii : ClsAscii asciiCls := fun _ _ => ⟨rfl, rfl, rfl⟩

theorem isAsciiLetter_range {c : Nat} (h : isAsciiLetter c = true) :
    (65 ≤ c ∧ c ≤ 90) ∨ (97 ≤ c ∧ c ≤ 122) := by
  simpa [isAsciiLetter] using h

theorem isAsciiDigit_range {c : Nat} (h : isAsciiDigit c = true) : 48 ≤ c ∧ c ≤ 57 := by
  simpa [isAsciiDigit] using h

theorem operatorOf_none {c : Nat} (h : (48 ≤ c ∧ c ≤ 57) ∨ (65 ≤ c ∧ c ≤ 90) ∨ (97 ≤ c ∧ c ≤ 122)) :
    operatorOf c = none := by
  unfold operatorOf
  rw [if_neg (show ¬ c = 61 by omega), if_neg (show ¬ c = 123 by omega), if_neg (show ¬ c = 125 by omega),
    if_neg (show ¬ c = 91 by omega), if_neg (show ¬ c = 93 by omega), if_neg (show ¬ c = 46 by omega),
    if_neg (show ¬ c = 44 by omega), if_neg (show ¬ c = 58 by omega), if_neg (show ¬ c = 43 by omega),
    if_neg (show ¬ c = 33 by omega), if_neg (show ¬ c = 63 by omega)]

theorem ascii_notSpace {c : Nat} (h : 33 ≤ c) : asciiCls.isSpace c = false := by
  have h1 : ¬ (c ≤ 13) := by omega
  have h2 : ¬ (c = 32) := by omega
  simp [asciiCls, h1, h2]

theorem ascii_notDigit {c : Nat} (h : c < 48 ∨ 57 < c) : asciiCls.isDigit c = false := by
  rcases h with h | h
  · have h1 : ¬ (48 ≤ c) := by omega
    simp [asciiCls, h1]
  · have h1 : ¬ (c ≤ 57) := by omega
    simp [asciiCls, h1]

theorem ascii_isDigit {c : Nat} (h : 48 ≤ c ∧ c ≤ 57) : asciiCls.isDigit c = true := by
  simp [asciiCls, h.1, h.2]

theorem identHead_of_letter {cls : Cls} (hc : ClsAscii cls) {c : Nat} (h : isAsciiLetter c = true) :
    IdentHead cls c := by
  have hr := isAsciiLetter_range h
  have h128 : c < 128 := by omega
  obtain ⟨hl, hd, hs⟩ := hc c h128
  refine ⟨operatorOf_none (Or.inr hr), ?_, ?_, ?_, ?_, ?_, ?_, ?_⟩
  · show c ≠ 47; omega
  · show c ≠ 34; omega
  · show c ≠ 124; omega
  · show c ≠ 10; omega
  · rw [hs]; exact ascii_notSpace (by omega)
  · rw [hd]; exact ascii_notDigit (by omega)
  · rw [hl]; exact h

theorem digitHead_of_digit {cls : Cls} (hc : ClsAscii cls) {c : Nat} (hr : 48 ≤ c ∧ c ≤ 57) :
    DigitHead cls c := by
  have h128 : c < 128 := by omega
  obtain ⟨hl, hd, hs⟩ := hc c h128
  refine ⟨operatorOf_none (Or.inl hr), ?_, ?_, ?_, ?_, ?_, ?_⟩
  · show c ≠ 47; omega
  · show c ≠ 34; omega
  · show c ≠ 124; omega
  · show c ≠ 10; omega
  · rw [hs]; exact ascii_notSpace (by omega)
  · rw [hd]; exact ascii_isDigit hr

theorem isDigit_of_digit {cls : Cls} (hc : ClsAscii cls) {c : Nat} (hr : 48 ≤ c ∧ c ≤ 57) :
    cls.isDigit c = true := (digitHead_of_digit hc hr).digit

theorem isIdent_body {cls : Cls} (hc : ClsAscii cls) {b : Nat}
    (h : (isAsciiLetter b || isAsciiDigit b || decide (b = 95)) = true) :
    cls.isLetter b = true ∨ cls.isDigit b = true ∨ b = cUS := by
  simp only [Bool.or_eq_true, decide_eq_true_eq] at h
  rcases h with (h | h) | h
  · exact Or.inl (identHead_of_letter hc h).letter
  · exact Or.inr (Or.inl (isDigit_of_digit hc (isAsciiDigit_range h)))
  · exact Or.inr (Or.inr h)

theorem identLitWF_of_isIdent {cls : Cls} (hc : ClsAscii cls) {s : Str} (h : isIdent s = true) :
    IdentLitWF cls s := by
  cases s with
  | nil => simp [isIdent] at h
  | cons c rest =>
    simp only [isIdent, Bool.and_eq_true, List.all_eq_true] at h
    refine ⟨by simp, ?_, ?_⟩
    · intro r hr
      simp only [List.head?_cons, Option.some.injEq] at hr
      subst hr
      exact identHead_of_letter hc h.1
    · intro r hr
      exact isIdent_body hc (h.2 r hr)

theorem identWF_identOf {cls : Cls} (hc : ClsAscii cls) {s : Str} (h : isIdent s = true) :
    IdentWF cls (identOf s) := by
  refine ⟨rfl, ?_, rfl⟩
  show IdentLitWF cls (decodeRunes s)
  rw [decodeRunes_ascii (isAscii_of_isIdent h)]
  exact identLitWF_of_isIdent hc h

/-- every segment is an identifier: the invariant of the key prefix `pfx` that `fieldBody` passes down -/
def PfxOK (l : List Str) : Prop := ∀ s ∈ l, isIdent s = true

/-- a key / reference: at least one segment, all identifiers -/
def KeyOK (l : List Str) : Prop := l ≠ [] ∧ PfxOK l

theorem PfxOK.nil : PfxOK [] := fun _ h => by cases h

theorem PfxOK.cons {a : Str} {l : List Str} (ha : isIdent a = true) (hl : PfxOK l) : PfxOK (a :: l) := by
  intro s hs
  rcases List.mem_cons.1 hs with rfl | hs
  · exact ha
  · exact hl s hs

theorem PfxOK.append {a b : List Str} (ha : PfxOK a) (hb : PfxOK b) : PfxOK (a ++ b) := by
  intro s hs
  rcases List.mem_append.1 hs with hs | hs
  · exact ha s hs
  · exact hb s hs

theorem KeyOK.one {a : Str} (ha : isIdent a = true) : KeyOK [a] :=
  ⟨by simp, PfxOK.cons ha PfxOK.nil⟩

theorem KeyOK.pfx1 {pfx : List Str} (hp : PfxOK pfx) {a : Str} (ha : isIdent a = true) :
    KeyOK (pfx ++ [a]) :=
  ⟨by simp, hp.append (PfxOK.cons ha PfxOK.nil)⟩

theorem KeyOK.pfx2 {pfx : List Str} (hp : PfxOK pfx) {a b : Str} (ha : isIdent a = true)
    (hb : isIdent b = true) : KeyOK (pfx ++ [a, b]) :=
  ⟨by simp, hp.append (PfxOK.cons ha (PfxOK.cons hb PfxOK.nil))⟩

theorem KeyOK.pfx3 {pfx : List Str} (hp : PfxOK pfx) {a b c : Str} (ha : isIdent a = true)
    (hb : isIdent b = true) (hc : isIdent c = true) : KeyOK (pfx ++ [a, b, c]) :=
  ⟨by simp, hp.append (PfxOK.cons ha (PfxOK.cons hb (PfxOK.cons hc PfxOK.nil)))⟩

theorem refWF_refOf {cls : Cls} (hc : ClsAscii cls) {key : List Str} (hk : KeyOK key) :
    RefWF cls (refOf key) := by
  refine ⟨?_, ?_⟩
  · show key.map identOf ≠ []
    intro h
    exact hk.1 (List.map_eq_nil_iff.1 h)
  · intro i hi
    obtain ⟨s, hs, rfl⟩ := List.mem_map.1 hi
    exact identWF_identOf hc (hk.2 s hs)

theorem keyOK_of_isDotted {s : Str} (h : isDotted s = true) : KeyOK (J5V.Compile.splitOnByte 46 s) :=
  ⟨J5V.Compile.splitOnByte_ne_nil 46 s, by
    intro x hx
    simp only [isDotted, List.all_eq_true] at h
    exact h x hx⟩

theorem refWF_dottedRef {cls : Cls} (hc : ClsAscii cls) {s : Str} (h : isDotted s = true) :
    RefWF cls (dottedRef s) := refWF_refOf hc (keyOK_of_isDotted h)

/-! ### `isDotted` of `pkg.Schema` -/

theorem tx_isDotted_refString {pkg schema : Str} (hs : isIdent schema = true)
    (hp : pkg = [] ∨ isDotted pkg = true) : isDotted (refString pkg schema) = true :=
  isDotted_refString hs hp

theorem tokLitWF_bang (cls : Cls) : TokLitWF cls (tok0 .bang [33]) := ⟨33, by decide, rfl⟩
theorem tokLitWF_question (cls : Cls) : TokLitWF cls (tok0 .question [63]) := ⟨63, by decide, rfl⟩

theorem tagWF_tagRef {cls : Cls} (mark : TagMark) {r : Reference} (hr : RefWF cls r) :
    TagWF cls (tagRef mark r) := by
  refine ⟨?_, Or.inl ⟨r, rfl, rfl, hr⟩⟩
  cases mark
  · exact rfl
  · exact ⟨rfl, tokLitWF_bang cls⟩
  · exact ⟨rfl, tokLitWF_question cls⟩

theorem tagWF_nameTag {cls : Cls} (hc : ClsAscii cls) {name : Str} (h : isIdent name = true) :
    TagWF cls (nameTag name) := tagWF_tagRef .none (refWF_refOf hc (KeyOK.one h))

theorem tagWF_word {cls : Cls} (hc : ClsAscii cls) (mark : TagMark) {w : Str} (h : isIdent w = true) :
    TagWF cls (tagRef mark (refOf [w])) := tagWF_tagRef mark (refWF_refOf hc (KeyOK.one h))

theorem tagWF_tagStr (cls : Cls) (s : Str) : TagWF cls (tagStr s) :=
  ⟨rfl, Or.inr ⟨_, _, rfl, rfl, rfl⟩⟩

theorem scalarWF_string (cls : Cls) (l : List Rune) : ScalarWF cls (tok0 .string l) :=
  ⟨by simp [tok0], rfl, trivial⟩

theorem natDigits_range (n : Nat) : ∀ x ∈ natDigits n, 48 ≤ x ∧ x ≤ 57 := by
  intro x hx
  obtain ⟨c, hc, rfl⟩ := List.mem_map.1 hx
  have hd := Nat.isDigit_of_mem_toDigits (by decide) (by decide) hc
  simp only [Char.isDigit, Bool.and_eq_true, decide_eq_true_eq] at hd
  obtain ⟨h1, h2⟩ := hd
  have h1' := UInt32.le_iff_toNat_le.1 h1
  have h2' := UInt32.le_iff_toNat_le.1 h2
  exact ⟨h1', h2'⟩

theorem scalarWF_int {cls : Cls} (hc : ClsAscii cls) (n : Nat) : ScalarWF cls (tok0 .int (natDigits n)) := by
  refine ⟨by simp [tok0], rfl, ?_⟩
  have hr := natDigits_range n
  cases hd : natDigits n with
  | nil =>
    exfalso
    have : Nat.toDigits 10 n = [] := by
      have : (Nat.toDigits 10 n).map Char.toNat = [] := hd
      exact List.map_eq_nil_iff.1 this
    exact Nat.toDigits_ne_nil this
  | cons r ds =>
    rw [hd] at hr
    refine ⟨r, ds, rfl, digitHead_of_digit hc (hr r (by simp)), ?_⟩
    intro x hx
    exact isDigit_of_digit hc (hr x (by simp [hx]))

theorem scalarWF_bool {cls : Cls} (hc : ClsAscii cls) (b : Bool) :
    ScalarWF cls (tok0 .bool (if b then litTrue else litFalse)) := by
  refine ⟨by simp [tok0], rfl, ?_⟩
  cases b
  · exact ⟨identLitWF_of_isIdent hc (s := litFalse) (by decide), Or.inr rfl⟩
  · exact ⟨identLitWF_of_isIdent hc (s := litTrue) (by decide), Or.inl rfl⟩

theorem topWF_str (cls : Cls) (s : Str) : TopValueWF cls (strValue s) none :=
  ⟨scalarWF_string cls _, fun _ => rfl⟩

theorem topWF_int {cls : Cls} (hc : ClsAscii cls) (n : Nat) : TopValueWF cls (intValue n) none :=
  ⟨scalarWF_int hc n, fun _ => rfl⟩

theorem topWF_bool {cls : Cls} (hc : ClsAscii cls) (b : Bool) : TopValueWF cls (boolValue b) none :=
  ⟨scalarWF_bool hc b, fun _ => rfl⟩

theorem valueListWF_strs (cls : Cls) : ∀ l : List Str, ValueListWF cls (l.map strValue)
  | [] => by simp [ValueListWF]
  | s :: rest => by
    simp only [List.map_cons, ValueListWF]
    refine ⟨?_, valueListWF_strs cls rest⟩
    simp only [strValue, ValueWF]
    exact ⟨scalarWF_string cls _, by simp [tok0], by simp [tok0]⟩

theorem topWF_strs (cls : Cls) (l : List Str) : TopValueWF cls (strsValue l) none :=
  valueListWF_strs cls l

theorem commentWF_none : CommentNodeWF none := by
  intro cn h; cases h

theorem bodyOK_iff (cls : Cls) : ∀ l : List Statement, BodyTextOK cls l ↔ ∀ s ∈ l, StmtTextOK cls s
  | [] => by simp [BodyTextOK]
  | s :: rest => by
    simp only [BodyTextOK, List.mem_cons, forall_eq_or_imp, bodyOK_iff cls rest]

theorem bodyOK_nil (cls : Cls) : BodyTextOK cls [] := by simp [BodyTextOK]

theorem bodyOK_cons {cls : Cls} {s : Statement} {l : List Statement} (hs : StmtTextOK cls s)
    (hl : BodyTextOK cls l) : BodyTextOK cls (s :: l) := by
  simp only [BodyTextOK]; exact ⟨hs, hl⟩

theorem bodyOK_one {cls : Cls} {s : Statement} (hs : StmtTextOK cls s) : BodyTextOK cls [s] :=
  bodyOK_cons hs (bodyOK_nil cls)

theorem bodyOK_append {cls : Cls} {a b : List Statement} (ha : BodyTextOK cls a) (hb : BodyTextOK cls b) :
    BodyTextOK cls (a ++ b) := by
  rw [bodyOK_iff] at ha hb ⊢
  intro s hs
  rcases List.mem_append.1 hs with hs | hs
  · exact ha s hs
  · exact hb s hs

theorem bodyOK_map {cls : Cls} {α : Type} (f : α → Statement) (l : List α)
    (h : ∀ a ∈ l, StmtTextOK cls (f a)) : BodyTextOK cls (l.map f) := by
  rw [bodyOK_iff]
  intro s hs
  obtain ⟨a, ha, rfl⟩ := List.mem_map.1 hs
  exact h a ha

theorem bodyOK_ite {cls : Cls} (c : Prop) [Decidable c] {a : List Statement} (ha : BodyTextOK cls a) :
    BodyTextOK cls (if c then a else []) := by
  split
  · exact ha
  · exact bodyOK_nil cls

theorem bodyOK_ite' {cls : Cls} (c : Prop) [Decidable c] {a : List Statement} (ha : BodyTextOK cls a) :
    BodyTextOK cls (if c then [] else a) := by
  split
  · exact bodyOK_nil cls
  · exact ha

theorem stmtOK_assign {cls : Cls} (hc : ClsAscii cls) {key : List Str} {v : Value} (hk : KeyOK key)
    (hv : TopValueWF cls v none) : StmtTextOK cls (assignStmt key v) := by
  simp only [assignStmt, StmtTextOK]
  exact ⟨refWF_refOf hc hk, hv, commentWF_none⟩

theorem stmtOK_block {cls : Cls} (hc : ClsAscii cls) {type : Str} {tags quals : List TagValue}
    {isOpen : Bool} {body : List Statement} (htype : isIdent type = true)
    (htags : ∀ t ∈ tags, TagWF cls t) (hquals : ∀ t ∈ quals, TagWF cls t)
    (hopen : isOpen = false → body = []) (hbody : BodyTextOK cls body) :
    StmtTextOK cls (blockStmt type tags quals isOpen body) := by
  simp only [blockStmt, StmtTextOK]
  refine ⟨⟨refWF_refOf hc (KeyOK.one htype), htags, hquals, commentWF_none, fun _ h => by cases h⟩,
    hopen, hbody⟩

/-- `a = "…"`-style singletons -/
theorem bodyOK_assign {cls : Cls} (hc : ClsAscii cls) {key : List Str} {v : Value} (hk : KeyOK key)
    (hv : TopValueWF cls v none) : BodyTextOK cls [assignStmt key v] :=
  bodyOK_one (stmtOK_assign hc hk hv)

theorem forall_mem_nil {α : Type} (p : α → Prop) : ∀ t ∈ ([] : List α), p t := fun _ h => by cases h

theorem forall_mem_one {α : Type} {p : α → Prop} {a : α} (h : p a) : ∀ t ∈ [a], p t := by
  intro t ht; simp at ht; subst ht; exact h

theorem forall_mem_two {α : Type} {p : α → Prop} {a b : α} (ha : p a) (hb : p b) : ∀ t ∈ [a, b], p t := by
  intro t ht; simp at ht; rcases ht with rfl | rfl
  · exact ha
  · exact hb

end J5V.Walker
