import J5V.Walker.WalkSpec
import J5V.Walker.PrintErase
import J5V.Bcl.EraseProofs
/-!
# Source positions only position errors (1): the relation, its rules, values, paths, `walkScope`

`MRel R m' m`: at every state the two computations both succeed (results related by `R`, SAME state),
both fail (same `kind`, same `what`; positions may differ) or both panic (same reason).
At the end: the driver's copy of the position erasure (`PrintErase.lean`) is the erasure of `J5V/Bcl/Equiv.lean`.
-/
namespace J5V.Walker
open J5V.Bcl

/-- errors equal up to their position -/
def ERel (e' e : WErr) : Prop := e'.kind = e.kind ∧ e'.what = e.what

theorem ERel.refl (e : WErr) : ERel e e := ⟨rfl, rfl⟩

theorem ERel.addPosition {e' e : WErr} (h : ERel e' e) (p' p : Span) :
    ERel (e'.addPosition p') (e.addPosition p) := by
  unfold WErr.addPosition
  split <;> split <;> exact h

theorem ERel.wrapped {e' e : WErr} (h : ERel e' e) : ERel e'.wrapped e.wrapped := ⟨rfl, h.2⟩

/-- agreement up to error positions; the primed side, written first, is the run over the erased input -/
def ResRel {α : Type} (R : α → α → Prop) : Res (α × Node) → Res (α × Node) → Prop
  | .ok (a', s'), .ok (a, s) => R a' a ∧ s' = s
  | .err e', .err e => ERel e' e
  | .panic w', .panic w => w' = w
  | _, _ => False

theorem ResRel.refl {α : Type} (r : Res (α × Node)) : ResRel Eq r r := by
  cases r with
  | ok r => obtain ⟨a, s⟩ := r; exact ⟨rfl, rfl⟩
  | err e => exact ERel.refl e
  | panic w => exact rfl

/-- the three ways two results are related -/
theorem ResRel.cases {α : Type} {R : α → α → Prop} {r' r : Res (α × Node)} (h : ResRel R r' r) :
    (∃ a' a s, r' = .ok (a', s) ∧ r = .ok (a, s) ∧ R a' a) ∨
    (∃ e' e, r' = .err e' ∧ r = .err e ∧ ERel e' e) ∨ ∃ w, r' = .panic w ∧ r = .panic w := by
  cases r' <;> cases r <;> try exact absurd h id
  · rename_i x' x; obtain ⟨a', s'⟩ := x'; obtain ⟨a, s⟩ := x
    exact .inl ⟨a', a, s, by rw [h.2], rfl, h.1⟩
  · exact .inr (.inl ⟨_, _, rfl, rfl, h⟩)
  · exact .inr (.inr ⟨_, congrArg _ h, rfl⟩)

theorem ResRel.dropPos {α : Type} {r' r : Res (α × Node)} (h : ResRel Eq r' r) :
    r'.dropPos = r.dropPos := by
  obtain ⟨a', a, s, rfl, rfl, rfl⟩ | ⟨⟨p', k', w'⟩, ⟨p, k, w⟩, rfl, rfl, h1, h2⟩ | ⟨w, rfl, rfl⟩ := h.cases
  · rfl
  · simp only at h1 h2; subst h1; subst h2; rfl
  · rfl

def MRel {α : Type} (R : α → α → Prop) (m' m : M α) : Prop := ∀ st, ResRel R (m' st) (m st)

theorem MRel.refl {α : Type} (m : M α) : MRel Eq m m := fun st => ResRel.refl (m st)

theorem MRel.pure {α : Type} {R : α → α → Prop} {a' a : α} (h : R a' a) :
    MRel R (pure a' : M α) (pure a) := fun _ => ⟨h, rfl⟩

theorem MRel.err {α : Type} {R : α → α → Prop} {e' e : WErr} (h : ERel e' e) :
    MRel R (M.err e' : M α) (M.err e) := fun _ => h

theorem MRel.panic {α : Type} {R : α → α → Prop} (w : String) :
    MRel R (M.panic w : M α) (M.panic w) := fun _ => rfl

theorem MRel.errAt {α : Type} {R : α → α → Prop} (what : String) (p' p : Span) :
    MRel R (errAt what p' : M α) (errAt what p) := fun _ => ⟨rfl, rfl⟩

theorem MRel.wrapErr {α : Type} {R : α → α → Prop} {e' e : WErr} (h : ERel e' e) (p' p : Span) :
    MRel R (M.lift (wrapErr (some e') p') : M α) (M.lift (wrapErr (some e) p)) :=
  fun _ => h.wrapped.addPosition p' p

theorem MRel.bind {α β : Type} {R : α → α → Prop} {S : β → β → Prop} {m' m : M α} {f' f : α → M β}
    (hm : MRel R m' m) (hf : ∀ a' a, R a' a → MRel S (f' a') (f a)) :
    MRel S (m' >>= f') (m >>= f) := by
  intro st
  show ResRel S (M.bind m' f' st) (M.bind m f st)
  obtain ⟨a', a, s, h', h0, hr⟩ | ⟨e', e, h', h0, he⟩ | ⟨w, h', h0⟩ := (hm st).cases <;>
    simp only [M.bind, h', h0]
  · exact hf a' a hr s
  · exact he
  · exact rfl

/-- both sides the same computation, continuations related -/
theorem MRel.bindEq {α β : Type} {S : β → β → Prop} {m : M α} {f' f : α → M β}
    (hf : ∀ a, MRel S (f' a) (f a)) : MRel S (m >>= f') (m >>= f) :=
  MRel.bind (MRel.refl m) (fun a' a h => by subst h; exact hf a')

theorem MRel.bind' {α β : Type} {S : β → β → Prop} {m' m : M α} {f' f : α → M β}
    (hm : MRel Eq m' m) (hf : ∀ a, MRel S (f' a) (f a)) : MRel S (m' >>= f') (m >>= f) :=
  MRel.bind hm (fun a' a h => by subst h; exact hf a')

theorem MRel.ite {α : Type} {R : α → α → Prop} {c : Prop} [Decidable c] {a' a b' b : M α}
    (ha : c → MRel R a' a) (hb : ¬c → MRel R b' b) :
    MRel R (if c then a' else b') (if c then a else b) := by
  by_cases hc : c
  · simp only [hc, if_true]; exact ha hc
  · simp only [hc, if_false]; exact hb hc

theorem MRel.mapErr {α : Type} {R : α → α → Prop} {m' m : M α} {h' h : WErr → WErr}
    (hm : MRel R m' m) (hh : ∀ e' e, ERel e' e → ERel (h' e') (h e)) :
    MRel R (m'.mapErr h') (m.mapErr h) := by
  intro st
  obtain ⟨a', a, s, h1, h0, hr⟩ | ⟨e', e, h1, h0, he⟩ | ⟨w, h1, h0⟩ := (hm st).cases <;>
    simp only [M.mapErr, h1, h0]
  · exact ⟨hr, rfl⟩
  · exact hh e' e he
  · exact rfl

/-- `addPosition` is invisible -/
theorem MRel.addPosition {α : Type} {R : α → α → Prop} {m' m : M α} (hm : MRel R m' m)
    (p' p : Span) : MRel R (m'.addPosition p') (m.addPosition p) :=
  MRel.mapErr hm (fun _ _ h => h.addPosition p' p)

theorem MRel.tryCatch {α : Type} {R : α → α → Prop} {m' m : M α} {h' h : WErr → M α}
    (hm : MRel R m' m) (hh : ∀ e' e, ERel e' e → MRel R (h' e') (h e)) :
    MRel R (m'.tryCatch h') (m.tryCatch h) := by
  intro st
  obtain ⟨a', a, s, h1, h0, hr⟩ | ⟨e', e, h1, h0, he⟩ | ⟨w, h1, h0⟩ := (hm st).cases <;>
    simp only [M.tryCatch, h1, h0]
  · exact ⟨hr, rfl⟩
  · exact hh e' e he st
  · exact rfl

/-! ## Values -/

/-- the zero span, spelled out (`J5V.Bcl.Span.zero` and `J5V.Walker.Span.zero` are both this) -/
abbrev zsp : Span := ⟨⟨0, 0⟩, ⟨0, 0⟩⟩

def AV.erase : AV → AV
  | .value v => .value v.erase
  | .tag t => .tag t.erase
  | .str s _ => .str s zsp
  | .bool b => .bool b

theorem AV.erase_span (a : AV) : a.erase.span = zsp := by
  cases a with
  | value v => exact Value.erase_span v
  | tag t | str s sp | bool b => rfl

theorem valueToken_erase (v : Value) : valueToken v.erase = (valueToken v).erase := by
  cases v with
  | scalar tok sp => simp [Value.erase, valueToken]
  | array vs sp => simp [Value.erase, valueToken]; rfl

theorem valueAsString_erase (v : Value) : valueAsString v.erase = valueAsString v := by
  simp only [valueAsString, valueToken_erase, Token.erase_ty, Token.erase_lit]

theorem AV.asString_erase (a : AV) : a.erase.asString = a.asString := by
  cases a with
  | value v => exact valueAsString_erase v
  | tag t =>
    obtain ⟨mark, mt, r, v, sp⟩ := t
    cases v with
    | some v => simp [AV.erase, AV.asString, TagValue.erase, valueAsString_erase]
    | none =>
      cases r with
      | some r | none => simp [AV.erase, AV.asString, TagValue.erase]
  | str s sp | bool b => rfl

theorem AV.asBool_erase (a : AV) : a.erase.asBool = a.asBool := by
  cases a with
  | value v => simp only [AV.erase, AV.asBool, valueToken_erase, Token.erase_ty, Token.erase_lit]
  | tag t | str s sp | bool b => rfl

theorem AV.asInt_erase (a : AV) (bits : Nat) : a.erase.asInt bits = a.asInt bits := by
  cases a with
  | value v => simp only [AV.erase, AV.asInt, valueToken_erase, Token.erase_ty, Token.erase_lit]
  | tag t | str s sp | bool b => rfl

theorem AV.asUint_erase (a : AV) (bits : Nat) : a.erase.asUint bits = a.asUint bits := by
  cases a with
  | value v => simp only [AV.erase, AV.asUint, valueToken_erase, Token.erase_ty, Token.erase_lit]
  | tag t | str s sp | bool b => rfl

theorem AV.asFloatLit_erase (a : AV) : a.erase.asFloatLit = a.asFloatLit := by
  cases a with
  | value v => simp only [AV.erase, AV.asFloatLit, valueToken_erase, Token.erase_ty, Token.erase_lit]
  | tag t | str s sp | bool b => rfl

theorem AV.asArray_erase (a : AV) : a.erase.asArray = a.asArray.map (List.map AV.erase) := by
  cases a with
  | value v =>
    cases v with
    | scalar tok sp => simp [AV.erase, Value.erase, AV.asArray]
    | array vs sp =>
      cases vs with
      | nil => simp [AV.erase, Value.erase, Value.eraseList, AV.asArray]
      | cons x xs =>
        simp [AV.erase, Value.erase, Value.eraseList, AV.asArray, Value.eraseList_eq_map,
          Function.comp_def]
  | tag t | str s sp | bool b => rfl

theorem scalarFromAST_erase (env : Env) (t : FieldType) (a : AV) :
    scalarFromAST env t a.erase = scalarFromAST env t a := by
  simp only [scalarFromAST, AV.asBool_erase, AV.asString_erase, AV.asInt_erase, AV.asUint_erase,
    AV.asFloatLit_erase]

/-! ## Paths -/

def PathElement.erase (p : PathElement) : PathElement := ⟨p.name, p.position.map fun _ => zsp⟩

theorem combinePath_erase (path : PathSpec) (ref : List Ident) :
    combinePath path (ref.map Ident.erase) = (combinePath path ref).map PathElement.erase := by
  simp [combinePath, PathElement.erase, Function.comp_def, Ident.erase, J5V.Bcl.Span.zero]

theorem walkScope_erase (env : Env) : ∀ (path : List PathElement) (scope : Scope),
    MRel Eq (walkScope env scope (path.map PathElement.erase)) (walkScope env scope path) := by
  intro path
  induction path with
  | nil => intro scope; exact MRel.refl _
  | cons ident rest ih =>
    intro scope st
    show ResRel Eq (walkScope env scope (ident.erase :: rest.map PathElement.erase) st)
      (walkScope env scope (ident :: rest) st)
    simp only [walkScope]
    have hn : ident.erase.name = ident.name := rfl
    rw [hn]
    cases hr : childBlock env scope ident.name st with
    | ok r => obtain ⟨next, st1⟩ := r; exact ih next st1
    | panic w => exact rfl
    | err werr =>
      cases hp : ident.position with
      | none => simp only [PathElement.erase, hp, Option.map]; exact ⟨rfl, rfl⟩
      | some pos =>
        simp only [PathElement.erase, hp, Option.map]
        split
        · exact rfl
        · exact ⟨rfl, rfl⟩

theorem buildScope_erase (env : Env) (sc : Scope) (schemaPath : PathSpec) (userPath : List Ident)
    (flag : ScopeFlag) :
    MRel Eq (buildScope env sc schemaPath (userPath.map Ident.erase) flag)
      (buildScope env sc schemaPath userPath flag) := by
  unfold buildScope
  simp only [combinePath_erase, List.isEmpty_map]
  apply MRel.ite
  · intro _; exact MRel.refl _
  · intro _
    exact MRel.bind' (walkScope_erase env _ sc) (fun a => MRel.refl _)

/-! ## The driver's copy of the erasure -/

theorem eraseTok_eq (t : Token) : eraseTok t = t.erase := rfl
theorem eraseIdent_eq (i : Ident) : eraseIdent i = i.erase := rfl
theorem eraseRef_eq (r : Reference) : eraseRef r = r.erase := rfl

mutual
theorem eraseValue_eq : ∀ v : Value, eraseValue v = v.erase
  | .scalar _ _ => rfl
  | .array vs _ => by simp only [eraseValue, Value.erase, eraseValues_eq vs]; rfl
theorem eraseValues_eq : ∀ vs : List Value, eraseValues vs = Value.eraseList vs
  | [] => rfl
  | v :: vs => by simp only [eraseValues, Value.eraseList, eraseValue_eq v, eraseValues_eq vs]
end

theorem eraseTag_eq (t : TagValue) : eraseTag t = t.erase := by
  cases t with
  | mk mark mt r v s =>
    simp only [eraseTag, TagValue.erase]
    congr 1
    cases v with
    | none => rfl
    | some v => simp [eraseValue_eq]

theorem eraseHeader_eq (h : BlockHeader) : eraseHeader h = h.erase := by
  simp only [eraseHeader, BlockHeader.erase]
  have : eraseTag = TagValue.erase := funext eraseTag_eq
  rw [this]; rfl

theorem eraseAssign_eq (a : Assignment) : eraseAssign a = a.erase := by
  simp only [eraseAssign, Assignment.erase, eraseValue_eq]; rfl

mutual
theorem eraseStmt_eq : ∀ s : Statement, eraseStmt s = s.erase
  | .block h body => by simp only [eraseStmt, Statement.erase, eraseHeader_eq, eraseStmts_eq body]
  | .assign a => by simp only [eraseStmt, Statement.erase, eraseAssign_eq]
  | .desc d => rfl
theorem eraseStmts_eq : ∀ ss : List Statement, eraseStmts ss = Statement.eraseList ss
  | [] => rfl
  | s :: ss => by simp only [eraseStmts, Statement.eraseList, eraseStmt_eq s, eraseStmts_eq ss]
end

end J5V.Walker
