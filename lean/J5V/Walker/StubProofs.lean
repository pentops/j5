import J5V.Walker.StateProofs
/-!
# `stub env filename` is a well-typed tree (under `Env.stubOK`, a conjunct of `Env.WF`)
-/
namespace J5V.Walker

/-- presetting a property of an untouched message with a value of its type keeps it a message -/
theorem MsgOK.preset {env : Env} {s : Schema} {tc : List Bool} {ps : List Node} {name : Str} {v : Node}
    (h : MsgOK env s tc ps) (hnt : ∀ i : Nat, tc[i]? ≠ some true)
    (hv : ∀ i p, findProp name 0 s.props = some (i, p) → VOK env p.type false v) :
    ∃ ps', presetProp s name v (.msg tc ps) = .msg tc ps' ∧ MsgOK env s tc ps' := by
  unfold presetProp
  cases hf : findProp name 0 s.props with
  | none => exact ⟨ps, rfl, h⟩
  | some ip =>
    obtain ⟨i, p⟩ := ip
    refine ⟨ps.set i v, rfl, h.set (findProp_zero hf).1 rfl (fun _ _ => rfl) fun tb htb => ?_⟩
    cases tb with
    | false => exact hv i p hf
    | true => exact absurd htb (hnt i)

theorem replicate_false_untouched (n i : Nat) : (List.replicate n false)[i]? ≠ some true := by
  rw [List.getElem?_replicate]; split <;> simp

theorem stubPropOK_elim {s : Schema} {name : Str} {f : FieldType → Bool} (h : stubPropOK s name f = true)
    {i : Nat} {p : Property} (hf : findProp name 0 s.props = some (i, p)) : f p.type = true := by
  simpa [stubPropOK, hf] using h

/-- `MsgOK.preset` three times, in the order of `stub`; each preset value is an untouched value of its property's
type by the matching conjunct of `Env.stubOK` -/
theorem stub_treeOK {env : Env} (hwf : env.WF = true) (filename : Str) : TreeOK env (stub env filename) := by
  have hso := WF_stubOK hwf
  simp only [Env.stubOK, Bool.and_eq_true] at hso
  obtain ⟨⟨hpath, hpkg⟩, hloc⟩ := hso
  unfold stub
  simp only
  have h0 := MsgOK.fresh env (env.schemaOf env.root)
  have hnt := replicate_false_untouched (env.schemaOf env.root).props.length
  obtain ⟨ps1, e1, h1⟩ := MsgOK.preset h0 (name := str "path") (v := stringNode filename) hnt (by
    intro i p hf
    have := stubPropOK_elim hpath hf
    exact .leaf _ _ _ (by simpa using this))
  obtain ⟨ps2, e2, h2⟩ := MsgOK.preset h1 (name := str "package")
    (v := presetProp (propSchema env (env.schemaOf env.root) (str "package")) (str "name")
      (stringNode (stubPackage filename))
      (freshMsg (propSchema env (env.schemaOf env.root) (str "package")))) hnt (by
    intro i p hf
    have hok := stubPropOK_elim hpkg hf
    have hinner : ∀ r, stubPropOK (env.schemaOf r) (str "name") (fun t => !t.isContainer) = true →
        ∀ t, t.msgSchema env = some (env.schemaOf r) →
        VOK env t false (presetProp (env.schemaOf r) (str "name") (stringNode (stubPackage filename))
          (freshMsg (env.schemaOf r))) := by
      intro r hr t ht
      obtain ⟨ps', e', h'⟩ := MsgOK.preset (MsgOK.fresh env (env.schemaOf r)) (name := str "name")
        (v := stringNode (stubPackage filename)) (replicate_false_untouched _) (by
          intro i p hf
          have := stubPropOK_elim hr hf
          exact .leaf _ _ _ (by simpa using this))
      unfold freshMsg
      rw [e']
      exact VOK.of_msgOK ht h'
    cases ht : p.type with
    | object r =>
      rw [ht] at hok; simp only [propSchema, hf, ht]; exact hinner r hok (.object r) rfl
    | oneof r =>
      rw [ht] at hok; simp only [propSchema, hf, ht]; exact hinner r hok (.oneof r) rfl
    | array _ | map _ => rw [ht] at hok; simp at hok
    | enum _ | any | scalar _ | unknown => exact .leaf _ _ _ rfl)
  obtain ⟨ps3, e3, h3⟩ := MsgOK.preset h2 (name := str "sourceLocations")
    (v := freshMsg (propSchema env (env.schemaOf env.root) (str "sourceLocations"))) hnt (by
    intro i p hf
    have hok := stubPropOK_elim hloc hf
    cases ht : p.type with
    | object r => simp only [propSchema, hf, ht]; exact VOK.freshMsg (t := .object r) false rfl
    | oneof r => simp only [propSchema, hf, ht]; exact VOK.freshMsg (t := .oneof r) false rfl
    | array _ | map _ => rw [ht] at hok; simp at hok
    | enum _ | any | scalar _ | unknown => exact .leaf _ _ _ rfl)
  show VOK env (.object env.root) true _
  unfold freshMsg at e2 e3 ⊢
  rw [e1, e2, e3]
  exact VOK.of_msgOK rfl h3

end J5V.Walker
