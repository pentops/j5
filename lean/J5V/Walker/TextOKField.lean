import J5V.Walker.TextOKBase
/-!
# `toBcl` text shape: rules, field bodies, properties

`fieldOk env f → BodyTextOK cls (fieldBody f pfx ek)`, `propOk env p → StmtTextOK cls (propBcl kw p)`,
for every field kind and qualifier form (mutual structural recursion over `Field` / `Property`).
-/
namespace J5V.Walker
open J5V.Bcl

variable {cls : Cls}

theorem litScalar_neg (t : FieldType) (n : Nat) : litScalar t (.neg n) = none := by
  cases t <;> try rfl
  rename_i k; cases k <;> rfl

theorem litNode_neg (p : Property) (n : Nat) : litNode p (.neg n) = none := by
  unfold litNode
  split
  · rename_i h; cases h
  · rfl
  · rw [litScalar_neg]

theorem topWF_lit (hc : ClsAscii cls) : ∀ l : J5V.Compile.Lit, (∀ n, l ≠ .neg n) → TopValueWF cls (litValue l) none
  | .int n, _ => topWF_int hc n
  | .str s, _ => topWF_str cls s
  | .bool b, _ => topWF_bool hc b
  | .neg n, h => absurd rfl (h n)
  | .strs l, _ => topWF_strs cls l

theorem rulesOk_text {env : Env} {ts : Str} {rules : J5V.Compile.Rules} (h : rulesOk env ts rules = true) :
    ∀ r ∈ rules, isIdent r.name = true ∧ ∀ n, r.lit ≠ .neg n := by
  simp only [rulesOk, Bool.and_eq_true, List.all_eq_true] at h
  intro r hr
  have h1 := (h.1 r hr).1
  simp only [ruleOk, Bool.and_eq_true] at h1
  refine ⟨h1.1, ?_⟩
  intro n hn
  have h2 := h1.2
  rw [hn] at h2
  split at h2
  · simp [litNode_neg] at h2
  · cases h2

theorem rulesBcl_ok (hc : ClsAscii cls) {pfx : List Str} (hp : PfxOK pfx) : ∀ rules : J5V.Compile.Rules,
    (∀ r ∈ rules, isIdent r.name = true ∧ ∀ n, r.lit ≠ .neg n) → BodyTextOK cls (rulesBcl pfx rules)
  | [], _ => bodyOK_nil cls
  | r :: rs, h => by
    simp only [rulesBcl]
    have hr := h r (by simp)
    exact bodyOK_cons (stmtOK_assign hc (KeyOK.pfx2 hp (by decide) hr.1) (topWF_lit hc r.lit hr.2))
      (rulesBcl_ok hc hp rs (fun x hx => h x (by simp [hx])))

theorem rules_ok (hc : ClsAscii cls) {pfx : List Str} (hp : PfxOK pfx) {env : Env} {ts : Str}
    {rules : J5V.Compile.Rules} (h : rulesOk env ts rules = true) : BodyTextOK cls (rulesBcl pfx rules) :=
  rulesBcl_ok hc hp rules (rulesOk_text h)

theorem refQuals_ok (hc : ClsAscii cls) {pkg schema : Str} (h : refOk pkg schema = true) :
    ∀ t ∈ refQuals pkg schema, TagWF cls t := by
  unfold refQuals
  split
  · exact forall_mem_nil _
  · rename_i hd
    unfold refOk at h
    rw [if_neg hd] at h
    simp only [Bool.and_eq_true, Bool.or_eq_true, decide_eq_true_eq] at h
    exact forall_mem_one (tagWF_tagRef .none (refWF_dottedRef hc (tx_isDotted_refString h.1 h.2)))

theorem refBody_ok (hc : ClsAscii cls) {pfx : List Str} (hp : PfxOK pfx) (pkg schema : Str) :
    BodyTextOK cls (refBody pfx pkg schema) := by
  unfold refBody
  split
  · exact bodyOK_append
      (bodyOK_ite' _ (bodyOK_assign hc (KeyOK.pfx2 hp (by decide) (by decide)) (topWF_str cls _)))
      (bodyOK_assign hc (KeyOK.pfx2 hp (by decide) (by decide)) (topWF_str cls _))
  · exact bodyOK_nil cls

theorem flattenBcl_ok (hc : ClsAscii cls) {pfx : List Str} (hp : PfxOK pfx) (b : Bool) :
    BodyTextOK cls (flattenBcl pfx b) :=
  bodyOK_ite _ (bodyOK_assign hc (KeyOK.pfx1 hp (by decide)) (topWF_bool hc _))

theorem inlNameBcl_ok (hc : ClsAscii cls) {pfx : List Str} (hp : PfxOK pfx) {kind : Str}
    (hk : isIdent kind = true) (name : Str) : BodyTextOK cls (inlNameBcl pfx kind name) :=
  bodyOK_ite' _ (bodyOK_assign hc (KeyOK.pfx2 hp hk (by decide)) (topWF_str cls _))

theorem listRulesBcl_ok (hc : ClsAscii cls) {pfx : List Str} (hp : PfxOK pfx) :
    ∀ lr : Option (List Str), BodyTextOK cls (listRulesBcl pfx lr)
  | none => bodyOK_nil cls
  | some fs => by
    simp only [listRulesBcl]
    exact bodyOK_cons (stmtOK_assign hc (KeyOK.pfx3 hp (by decide) (by decide) (by decide)) (topWF_bool hc _))
      (bodyOK_ite' _ (bodyOK_assign hc (KeyOK.pfx3 hp (by decide) (by decide) (by decide)) (topWF_strs cls _)))

theorem optionBcl_ok (hc : ClsAscii cls) {o : Str} (h : isIdent o = true) : StmtTextOK cls (optionBcl o) :=
  stmtOK_block hc (by decide) (forall_mem_one (tagWF_nameTag hc h)) (forall_mem_nil _) (fun _ => rfl)
    (bodyOK_nil cls)

theorem optsBcl_ok (hc : ClsAscii cls) {opts : List Str} (h : opts.all isIdent = true) :
    BodyTextOK cls (opts.map optionBcl) :=
  bodyOK_map _ _ (fun o ho => optionBcl_ok hc (List.all_eq_true.1 h o ho))

theorem enumInlBcl_ok (hc : ClsAscii cls) {pfx : List Str} (hp : PfxOK pfx) {e : J5V.Compile.EnumDecl}
    (h : e.opts.all isIdent = true) : BodyTextOK cls (enumInlBcl pfx e) := by
  unfold enumInlBcl
  exact bodyOK_append (bodyOK_append (inlNameBcl_ok hc hp (by decide) _)
    (bodyOK_ite' _ (bodyOK_assign hc (KeyOK.pfx2 hp (by decide) (by decide)) (topWF_str cls _))))
    (optsBcl_ok hc h)

theorem entKeyBcl_ok (hc : ClsAscii cls) {pfx : List Str} (hp : PfxOK pfx) (entityKey : Bool) :
    ∀ ek : J5V.Compile.EntKey, BodyTextOK cls (entKeyBcl pfx entityKey ek)
  | .nokey => bodyOK_nil cls
  | .ek kind tenant => by
    simp only [entKeyBcl]
    refine bodyOK_append ?_ ?_
    · cases kind with
      | plain => exact bodyOK_nil cls
      | primary b =>
        refine bodyOK_assign hc ?_ (topWF_bool hc _)
        split
        · exact KeyOK.one (by decide)
        · exact KeyOK.pfx2 hp (by decide) (by decide)
      | «foreign» pkg ent => exact bodyOK_assign hc (KeyOK.pfx1 hp (by decide)) (topWF_str cls _)
    · cases tenant with
      | none => exact bodyOK_nil cls
      | some t =>
        refine bodyOK_assign hc ?_ (topWF_str cls _)
        split
        · exact KeyOK.one (by decide)
        · exact KeyOK.pfx2 hp (by decide) (by decide)

theorem keyFmtQuals_ok (hc : ClsAscii cls) : ∀ fmt : J5V.Compile.KeyFmt, ∀ t ∈ keyFmtQuals fmt, TagWF cls t
  | .none => forall_mem_nil _
  | .informal | .uuid | .id62 | .custom _ => forall_mem_one (tagWF_word hc _ (by decide))

theorem keyFmtBody_ok (hc : ClsAscii cls) {pfx : List Str} (hp : PfxOK pfx) :
    ∀ fmt : J5V.Compile.KeyFmt, BodyTextOK cls (keyFmtBody pfx fmt)
  | .none | .informal | .uuid | .id62 => bodyOK_nil cls
  | .custom _ => bodyOK_assign hc (KeyOK.pfx3 hp (by decide) (by decide) (by decide)) (topWF_str cls _)

theorem fieldKind_ident (f : CField) : isIdent (fieldKind f) = true := by
  cases f <;> rfl

theorem intFmtWord_ident (f : J5V.Compile.IntFmt) : isIdent (intFmtWord f) = true := by
  cases f <;> decide

theorem floatFmtWord_ident (f : J5V.Compile.FloatFmt) : isIdent (floatFmtWord f) = true := by
  cases f <;> decide

theorem fieldQuals_ok_flat (hc : ClsAscii cls) (env : Env) (f : CField) (hf : fieldOk env f = true)
    (hn : isCollection f = false) : ∀ t ∈ fieldQuals f, TagWF cls t := by
  cases f with
  | integer fmt _ _ => exact forall_mem_one (tagWF_word hc _ (intFmtWord_ident fmt))
  | float fmt _ _ => exact forall_mem_one (tagWF_word hc _ (floatFmtWord_ident fmt))
  | key fmt _ _ _ => exact keyFmtQuals_ok hc fmt
  | objectRef pkg schema _ _ | oneofRef pkg schema _ _ | enumRef pkg schema _ _ =>
    simp only [fieldOk, Bool.and_eq_true] at hf
    exact refQuals_ok hc hf.2
  | array _ _ | map _ _ => simp [isCollection] at hn
  | _ => exact forall_mem_nil _

theorem fieldQuals_ok (hc : ClsAscii cls) (env : Env) (f : CField) (hf : fieldOk env f = true) :
    ∀ t ∈ fieldQuals f, TagWF cls t := by
  cases hcol : isCollection f with
  | false => exact fieldQuals_ok_flat hc env f hf hcol
  | true =>
    cases f with
    | array items _ | map items _ =>
      simp only [fieldOk, Bool.and_eq_true, Bool.not_eq_true'] at hf
      simp only [fieldQuals]
      intro t ht
      rcases List.mem_cons.1 ht with rfl | ht
      · exact tagWF_word hc _ (fieldKind_ident items)
      · exact fieldQuals_ok_flat hc env items hf.2 hf.1.2 t ht
    | _ => simp [isCollection] at hcol

theorem open_body (l : List Statement) (b : Bool) (h : (!l.isEmpty || b) = false) : l = [] := by
  cases l with
  | nil => rfl
  | cons a rest => simp at h

mutual
theorem fieldBody_ok (hc : ClsAscii cls) (env : Env) : ∀ (f : CField) (pfx : List Str) (ek : Bool),
    fieldOk env f = true → PfxOK pfx → BodyTextOK cls (fieldBody f pfx ek)
  | .string rules _, pfx, _, h, hp | .bool rules _, pfx, _, h, hp | .date rules _, pfx, _, h, hp
  | .decimal rules _, pfx, _, h, hp | .integer _ rules _, pfx, _, h, hp | .float _ rules _, pfx, _, h, hp => by
    simp only [fieldOk, Bool.and_eq_true] at h
    simp only [fieldBody]
    exact rules_ok hc hp h.2
  | .bytes rules, pfx, _, h, hp | .timestamp rules, pfx, _, h, hp => by
    simp only [fieldOk] at h
    simp only [fieldBody]
    exact rules_ok hc hp h
  | .any, _, _, _, _ => by
    simp only [fieldBody]
    exact bodyOK_nil cls
  | .key fmt ek rules l, pfx, entityKey, h, hp => by
    simp only [fieldOk, Bool.and_eq_true] at h
    simp only [fieldBody]
    exact bodyOK_append (bodyOK_append (rules_ok hc hp h.1.1.2) (keyFmtBody_ok hc hp fmt))
      (entKeyBcl_ok hc hp entityKey ek)
  | .objectRef pkg schema flatten rules, pfx, _, h, hp => by
    simp only [fieldOk, Bool.and_eq_true] at h
    simp only [fieldBody]
    exact bodyOK_append (bodyOK_append (rules_ok hc hp h.1) (flattenBcl_ok hc hp flatten))
      (refBody_ok hc hp pkg schema)
  | .objectInl name props flatten rules, pfx, _, h, hp => by
    simp only [fieldOk, Bool.and_eq_true] at h
    simp only [fieldBody]
    exact bodyOK_append (bodyOK_append (bodyOK_append (rules_ok hc hp h.1.1) (flattenBcl_ok hc hp flatten))
      (inlNameBcl_ok hc hp (by decide) name)) (propsBcl_ok hc env wField props (by decide) h.2)
  | .oneofRef pkg schema rules l, pfx, _, h, hp => by
    simp only [fieldOk, Bool.and_eq_true] at h
    simp only [fieldBody]
    exact bodyOK_append (rules_ok hc hp h.1.2) (refBody_ok hc hp pkg schema)
  | .oneofInl name props rules l, pfx, _, h, hp => by
    simp only [fieldOk, Bool.and_eq_true] at h
    simp only [fieldBody]
    exact bodyOK_append (bodyOK_append (rules_ok hc hp h.1.1.2) (inlNameBcl_ok hc hp (by decide) name))
      (propsBcl_ok hc env wOption props (by decide) h.2)
  | .enumRef pkg schema rules lr, pfx, _, h, hp => by
    simp only [fieldOk, Bool.and_eq_true] at h
    simp only [fieldBody]
    exact bodyOK_append (bodyOK_append (rules_ok hc hp h.1.1) (listRulesBcl_ok hc hp lr))
      (refBody_ok hc hp pkg schema)
  | .enumInl e rules lr, pfx, _, h, hp => by
    simp only [fieldOk, enumDeclOk, Bool.and_eq_true] at h
    simp only [fieldBody]
    exact bodyOK_append (bodyOK_append (rules_ok hc hp h.1.1) (listRulesBcl_ok hc hp lr))
      (enumInlBcl_ok hc hp h.2.2)
  | .array items rules, pfx, _, h, hp | .map items rules, pfx, _, h, hp => by
    simp only [fieldOk, Bool.and_eq_true] at h
    simp only [fieldBody]
    exact bodyOK_append (rules_ok hc hp h.1.1)
      (fieldBody_ok hc env items _ false h.2
        (hp.append (PfxOK.cons (by decide) (PfxOK.cons (fieldKind_ident items) PfxOK.nil))))

theorem propBcl_ok (hc : ClsAscii cls) (env : Env) : ∀ (kw : Str) (p : CProperty),
    isIdent kw = true → propOk env p = true → StmtTextOK cls (propBcl kw p)
  | kw, .mk name required optional f, hkw, h => by
    simp only [propOk, Bool.and_eq_true] at h
    simp only [propBcl]
    refine stmtOK_block hc hkw (forall_mem_two (tagWF_nameTag hc h.1) (tagWF_word hc _ (fieldKind_ident f)))
      (fieldQuals_ok hc env f h.2) (open_body _ _) ?_
    exact bodyOK_append (bodyOK_ite _ (bodyOK_assign hc (KeyOK.one (by decide)) (topWF_bool hc _)))
      (fieldBody_ok hc env f [] false h.2 PfxOK.nil)

theorem propsBcl_ok (hc : ClsAscii cls) (env : Env) : ∀ (kw : Str) (ps : List CProperty),
    isIdent kw = true → propsOk env ps = true → BodyTextOK cls (propsBcl kw ps)
  | _, [], _, _ => by
    simp only [propsBcl]
    exact bodyOK_nil cls
  | kw, p :: ps, hkw, h => by
    simp only [propsOk, Bool.and_eq_true] at h
    simp only [propsBcl]
    exact bodyOK_cons (propBcl_ok hc env kw p hkw h.1) (propsBcl_ok hc env kw ps hkw h.2)
end

end J5V.Walker
