import J5V.Walker.WalkProofs
import J5V.Walker.StubProofs
import J5V.Walker.OrderDefs
import J5V.Walker.WFj5
/-!
# The theorems about the walk

General forms, for any `env` with `env.WF`, a well-typed message and statements whose block type references
have an ident (`bodyTypesOK`, decidable; true of parser output):

* `C07W_walk_no_panic`, `C07W_walk_ok`: `walkSchema` never panics; a result is well typed and extends the message.
* `C07W_walk_error_position`: an error of the walk carries a span whose two ends are positions of the
  statements (`BodyPos`: the least set of positions that contains `0:0` and makes every span of the
  statements a span between two of its positions) — unless the spec of the root schema cannot be built
  (`newRootSchemaWalker env = .err e`, decidable on `env`; never for `j5Env`): `walkSchema_spec` (`walkSchema_specS` with `S := SpanOf P`).
* `C07W_walk_error_span_ordered`: over a `BodyOrdered` statement list (`OrderDefs.lean`) that span has
  `start ≤ end_`: `walkSchema_specS` with `S := SpanOrd` — node spans are ordered by hypothesis, point spans
  by reflexivity, the zero span trivially, and the hull of any sublist of spans in source order is ordered
  (`HullOK.hull`).

Then the same for `walkSchema j5Env body (stub j5Env filename)`, what the driver (and `ParseAST` minus
`validateFile`) runs after parsing; and the checked counterexample showing that `bodyTypesOK` is needed.
-/
namespace J5V.Walker
open J5V.Bcl

mutual
theorem valueIn_all (S : Span → Prop) (hS : ∀ sp, S sp) : ∀ v : Value, ValueIn S v
  | .scalar tok sp => .scalar tok sp (hS sp)
  | .array vs sp => .array vs sp (hS sp) (valuesIn_all S hS vs)
theorem valuesIn_all (S : Span → Prop) (hS : ∀ sp, S sp) : ∀ (vs : List Value) (v : Value), v ∈ vs → ValueIn S v
  | [], _, h => nomatch h
  | x :: xs, v, h => by
    rcases List.mem_cons.mp h with hx | h
    · rw [hx]; exact valueIn_all S hS x
    · exact valuesIn_all S hS xs v h
end

mutual
theorem stmtIn_of_typesOK : ∀ s : Statement, statementTypesOK s = true → StmtIn (fun _ => True) s
  | .desc d, _ => .desc d ⟨trivial, trivial⟩
  | .assign a, _ =>
    .assign a ⟨trivial, trivial⟩ (fun _ _ => ⟨trivial, trivial⟩) (valueIn_all _ (fun _ => ⟨trivial, trivial⟩) _)
  | .block h body, hb => by
    simp only [statementTypesOK, Bool.and_eq_true, Bool.not_eq_true', List.isEmpty_eq_false_iff] at hb
    refine .block h body ⟨hb.1, fun _ _ => ⟨trivial, trivial⟩, trivial,
      fun _ _ => ⟨⟨trivial, trivial⟩, fun _ _ _ _ => ⟨trivial, trivial⟩⟩,
      fun _ _ => ⟨⟨trivial, trivial⟩, fun _ _ _ _ => ⟨trivial, trivial⟩⟩,
      fun _ _ => ⟨trivial, trivial⟩, ⟨trivial, trivial⟩⟩ (bodyIn_of_typesOK body hb.2)
theorem bodyIn_of_typesOK : ∀ body : List Statement, bodyTypesOK body = true →
    ∀ s, s ∈ body → StmtIn (fun _ => True) s
  | [], _, _, h => nomatch h
  | x :: xs, hb, s, h => by
    simp only [bodyTypesOK, Bool.and_eq_true] at hb
    rcases List.mem_cons.mp h with hx | h
    · rw [hx]; exact stmtIn_of_typesOK x hb.1
    · exact bodyIn_of_typesOK xs hb.2 s h
end

/-- `env.WF` and `TreeOK env msg` keep `State` / `Spec` / `Scope` off their panic arms; `bodyTypesOK` keeps
`setDescription` off the `none` root of `tailScope` (`cexBody` below: without it the walk panics). -/
theorem C07W_walk_no_panic {env : Env} (hwf : env.WF = true) {msg : Node} (hmsg : TreeOK env msg)
    (body : List Statement) (hb : bodyTypesOK body = true) (why : String) :
    walkSchema env body msg ≠ .panic why := by
  intro h
  have := walkSchema_spec hwf (fun _ => True) trivial body msg (bodyIn_of_typesOK body hb) hmsg
  rw [h] at this
  exact this

theorem C07W_walk_ok {env : Env} (hwf : env.WF = true) {msg tree : Node} (hmsg : TreeOK env msg)
    (body : List Statement) (hb : bodyTypesOK body = true) (h : walkSchema env body msg = .ok tree) :
    TreeOK env tree ∧ Ext env msg tree := by
  have := walkSchema_spec hwf (fun _ => True) trivial body msg (bodyIn_of_typesOK body hb) hmsg
  rw [h] at this
  exact this

/-- **C07W, error positions.** An error of the walk proper carries a span, and both ends of the span are
positions of the statements. (`newRootSchemaWalker env` fails before the walk iff the spec of the root
schema cannot be built: a property of `env` alone.) -/
theorem C07W_walk_error_position {env : Env} (hwf : env.WF = true) {msg : Node} (hmsg : TreeOK env msg)
    (body : List Statement) (hb : bodyTypesOK body = true) {e : WErr}
    (h : walkSchema env body msg = .err e) (hroot : newRootSchemaWalker env ≠ .err e) :
    ∃ sp, e.pos = some sp ∧ BodyPos body sp.start ∧ BodyPos body sp.end_ := by
  have key : ∀ P : Pos → Prop, P ⟨0, 0⟩ → (∀ s, s ∈ body → StmtIn P s) → HasPosIn (SpanOf P) e := by
    intro P hz hP
    have := walkSchema_spec hwf P hz body msg hP hmsg
    rw [h] at this
    rcases this with h1 | ⟨_, h2⟩
    · exact h1
    · exact absurd h2 hroot
  obtain ⟨sp, hsp, _⟩ := key (fun _ => True) trivial (bodyIn_of_typesOK body hb)
  refine ⟨sp, hsp, ?_, ?_⟩
  · intro P hz hP
    obtain ⟨sp', hsp', h1, _⟩ := key P hz hP
    rw [hsp] at hsp'; cases hsp'; exact h1
  · intro P hz hP
    obtain ⟨sp', hsp', _, h2⟩ := key P hz hP
    rw [hsp] at hsp'; cases hsp'; exact h2

/-! ## Error spans are not reversed -/

theorem spanOrd_zero : SpanOrd Span.zero := Pos.le_refl _

theorem spanOrd_point (p : Pos) : SpanOrd (pointSpan p) := Pos.le_refl _

/-- spans whose earlier-to-later hulls are ordered: every sublist hull is an ordered span -/
theorem HullOK.hullsIn {l : List Span} (h : HullOK l) : HullsIn SpanOrd l :=
  fun _ hs _ _ hf hl => (h.sublist hs).hull hf hl

mutual
theorem ValueOrdered.valueInS : ∀ v : Value, ValueOrdered v → ValueInS SpanOrd v
  | .scalar tok sp, h => by
    unfold ValueOrdered at h
    exact .scalar tok sp h
  | .array vs sp, h => by
    unfold ValueOrdered at h
    refine .array vs sp h.1 (ValuesOrdered.valuesInS vs h.2.1) ?_
    refine (hullOK_of_inOrder ?_ h.2.2).hullsIn
    intro a ha
    obtain ⟨v, hv, rfl⟩ := List.mem_map.mp ha
    exact (h.2.1.mem v hv).span
theorem ValuesOrdered.valuesInS : ∀ vs : List Value, ValuesOrdered vs → ∀ v, v ∈ vs → ValueInS SpanOrd v
  | [], _, _, hv => nomatch hv
  | x :: xs, h, v, hv => by
    unfold ValuesOrdered at h
    rcases List.mem_cons.mp hv with hx | hv
    · rw [hx]; exact ValueOrdered.valueInS x h.1
    · exact ValuesOrdered.valuesInS xs h.2 v hv
end

theorem TagOrdered.tagInS {t : TagValue} (h : TagOrdered t) : TagInS SpanOrd t :=
  ⟨h.1, spanOrd_point _, h.2⟩

/-- tags (or qualifiers) in source order, each with an ordered span: all sublist hulls are ordered -/
theorem tags_hullsIn {ts : List TagValue} (h1 : ∀ t, t ∈ ts → TagOrdered t)
    (h2 : InOrder (ts.map (·.span))) : HullsIn SpanOrd (ts.map (·.span)) := by
  refine (hullOK_of_inOrder ?_ h2).hullsIn
  intro a ha
  obtain ⟨t, ht, rfl⟩ := List.mem_map.mp ha
  exact (h1 t ht).1

theorem HeaderOrdered.headerInS {h : BlockHeader} (hh : HeaderOrdered h) (hne : h.type.idents ≠ []) :
    HeaderInS SpanOrd h where
  typeNonempty := hne
  typeIdents := hh.typeIdents
  typeEnd := spanOrd_point _
  tags := fun t ht => (hh.tags t ht).tagInS
  tagsHull := tags_hullsIn hh.tags hh.tagsInOrder
  qualifiers := fun t ht => (hh.qualifiers t ht).tagInS
  qualifiersHull := tags_hullsIn hh.qualifiers hh.qualifiersInOrder
  description := hh.description
  span := hh.src

mutual
theorem StmtOrdered.stmtInS : ∀ s : Statement, StmtOrdered s → statementTypesOK s = true →
    StmtInS SpanOrd s
  | .desc d, h, _ => by
    unfold StmtOrdered at h
    exact .desc d h
  | .assign a, h, _ => by
    unfold StmtOrdered at h
    exact .assign a h.1 h.2.1 (ValueOrdered.valueInS a.value h.2.2)
  | .block hd body, h, ht => by
    unfold StmtOrdered at h
    simp only [statementTypesOK, Bool.and_eq_true, Bool.not_eq_true', List.isEmpty_eq_false_iff] at ht
    exact .block hd body (h.1.headerInS ht.1) (BodyOrdered.bodyInS body h.2 ht.2)
theorem BodyOrdered.bodyInS : ∀ body : List Statement, BodyOrdered body → bodyTypesOK body = true →
    ∀ s, s ∈ body → StmtInS SpanOrd s
  | [], _, _, _, hs => nomatch hs
  | x :: xs, h, ht, s, hs => by
    unfold BodyOrdered at h
    simp only [bodyTypesOK, Bool.and_eq_true] at ht
    rcases List.mem_cons.mp hs with hx | hs
    · rw [hx]; exact StmtOrdered.stmtInS x h.1 ht.1
    · exact BodyOrdered.bodyInS xs h.2 ht.2 s hs
end

/-- **C07W, error span order.** Over a `BodyOrdered` statement list (every node span `start ≤ end_`; tags,
qualifiers and array elements in source order) an error of the walk proper carries a span with
`start ≤ end_`. -/
theorem C07W_walk_error_span_ordered {env : Env} (hwf : env.WF = true) {msg : Node} (hmsg : TreeOK env msg)
    (body : List Statement) (hb : bodyTypesOK body = true) (hord : BodyOrdered body) {e : WErr}
    (h : walkSchema env body msg = .err e) (hroot : newRootSchemaWalker env ≠ .err e) :
    ∃ sp, e.pos = some sp ∧ sp.start ≤ sp.end_ := by
  have := walkSchema_specS hwf SpanOrd spanOrd_zero body msg (BodyOrdered.bodyInS body hord hb) hmsg
  rw [h] at this
  rcases this with h1 | ⟨_, h2⟩
  · exact h1
  · exact absurd h2 hroot

/-- `buildSpec` fails only on a property of type `any` / `unknown` (`buildSpecLoop`); the root schema
`SourceFile` has none. By evaluation. -/
theorem j5EnvNF_root_walker : (newRootSchemaWalker j5EnvNF).isOk = true := by decide +kernel

theorem j5Env_root_walker (e : WErr) : newRootSchemaWalker j5Env ≠ .err e := by
  have := j5EnvNF_root_walker
  rw [← j5Env_nf] at this
  intro h; rw [h] at this; cases this

theorem j5_stub_treeOK (filename : Str) : TreeOK j5Env (stub j5Env filename) :=
  stub_treeOK j5Env_WF filename

/-! ## For j5s files: `j5Env` is well formed, `stub j5Env filename` is well typed, the root spec builds -/

theorem C07W_j5_walk_no_panic (filename : Str) (body : List Statement) (hb : bodyTypesOK body = true)
    (why : String) : walkSchema j5Env body (stub j5Env filename) ≠ .panic why :=
  C07W_walk_no_panic j5Env_WF (j5_stub_treeOK filename) body hb why

theorem C07W_j5_walk_error_position (filename : Str) (body : List Statement) (hb : bodyTypesOK body = true)
    {e : WErr} (h : walkSchema j5Env body (stub j5Env filename) = .err e) :
    ∃ sp, e.pos = some sp ∧ BodyPos body sp.start ∧ BodyPos body sp.end_ :=
  C07W_walk_error_position j5Env_WF (j5_stub_treeOK filename) body hb h (j5Env_root_walker e)

theorem C07W_j5_walk_ok (filename : Str) (body : List Statement) (hb : bodyTypesOK body = true)
    {tree : Node} (h : walkSchema j5Env body (stub j5Env filename) = .ok tree) :
    TreeOK j5Env tree ∧ Ext j5Env (stub j5Env filename) tree :=
  C07W_walk_ok j5Env_WF (j5_stub_treeOK filename) body hb h

theorem C07W_j5_walk_error_span_ordered (filename : Str) (body : List Statement)
    (hb : bodyTypesOK body = true) (hord : BodyOrdered body) {e : WErr}
    (h : walkSchema j5Env body (stub j5Env filename) = .err e) :
    ∃ sp, e.pos = some sp ∧ sp.start ≤ sp.end_ :=
  C07W_walk_error_span_ordered j5Env_WF (j5_stub_treeOK filename) body hb hord h (j5Env_root_walker e)

/-! ## `walkSchema` panics on a block with an EMPTY type reference

Checked counterexample to `∀ body, walkSchema env body msg ≠ .panic _` (for the well-formed `j5Env` and
the well-typed stub): the statement list must satisfy `bodyTypesOK`, which holds for
the output of the parser (`J5V.Bcl.newReference` needs an ident). -/

/-- `<empty reference> { | description }` -/
def cexBody : List Statement :=
  [.block ⟨⟨[], ⟨⟨0, 0⟩, ⟨0, 0⟩⟩⟩, [], [], none, true, ⟨⟨0, 0⟩, ⟨0, 0⟩, none⟩⟩
    [.desc ⟨[], [], ⟨⟨0, 0⟩, ⟨0, 0⟩⟩⟩]]

theorem walkSchema_panics_on_empty_type_reference :
    (walkSchema j5Env cexBody (stub j5Env [97])).isPanic = true := by
  rw [j5Env_nf]; decide +kernel

end J5V.Walker
