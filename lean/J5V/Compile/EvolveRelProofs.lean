import J5V.Compile.EvolveRel
/-!
# The relations between two compiles under append edits are preorders (C13) — core only

The relations are defined in Compile/EvolveRel.lean.

`FileSkel.Le` (declaration appends: everything a prefix) and `FileSkel.LeEdit` (field / option
appends at the own list of a container: messages found again by membership, fields a prefix, nested
types kept) are both instances of `FileSkel.LeAny`, which also follows an edit *inside* a nested /
inline type (`MsgSkel.LeDeep`: the nested messages are found again, each grown at most, at any
depth). `LeAny` is reflexive and transitive, which is what a sequence of edits needs.

The recursion through the nested messages is indexed by a depth bound (`MsgLeN n`): `MsgSkel` is a
nested inductive type, and a bound avoids both a mutual inductive predicate and well-founded
recursion; `LeDeep` quantifies the bound away.
-/
namespace J5V.Compile

theorem MsgSkel.Le1.refl (m : MsgSkel) : m.Le1 m :=
  ⟨rfl, rfl, rfl, List.prefix_refl _, fun _ h => h, fun _ h => h⟩

theorem MsgsLe.refl (a : List MsgSkel) : MsgsLe a a := fun m h => ⟨m, h, MsgSkel.Le1.refl m⟩
theorem EnumsLe.refl (a : List EnumSkel) : EnumsLe a a :=
  fun e h => ⟨e, h, rfl, List.prefix_refl _⟩

theorem EnumsLe.append {a a' b b' : List EnumSkel} (h1 : EnumsLe a a') (h2 : EnumsLe b b') :
    EnumsLe (a ++ b) (a' ++ b') := by
  intro e he
  rcases List.mem_append.mp he with he | he
  · obtain ⟨e', he', hh⟩ := h1 e he
    exact ⟨e', List.mem_append_left _ he', hh⟩
  · obtain ⟨e', he', hh⟩ := h2 e he
    exact ⟨e', List.mem_append_right _ he', hh⟩

theorem FileSkel.LeEdit.refl (f : FileSkel) : f.LeEdit f :=
  ⟨rfl, rfl, rfl, MsgsLe.refl _, EnumsLe.refl _⟩

theorem MsgsRel.refl {R : MsgSkel → MsgSkel → Prop} (hR : ∀ m, R m m) (a : List MsgSkel) :
    MsgsRel R a a := fun m h => ⟨m, h, hR m⟩

theorem MsgsRel.append3 {R : MsgSkel → MsgSkel → Prop} (hR : ∀ m, R m m) (a b b' c : List MsgSkel)
    (h : MsgsRel R b b') : MsgsRel R (a ++ b ++ c) (a ++ b' ++ c) := by
  intro m hm
  simp only [List.mem_append] at hm ⊢
  rcases hm with (hm | hm) | hm
  · exact ⟨m, Or.inl (Or.inl hm), hR m⟩
  · obtain ⟨m', hm', hle⟩ := h m hm
    exact ⟨m', Or.inl (Or.inr hm'), hle⟩
  · exact ⟨m, Or.inr hm, hR m⟩

theorem EnumsLe.trans {a b c : List EnumSkel} (h1 : EnumsLe a b) (h2 : EnumsLe b c) : EnumsLe a c := by
  intro e he
  obtain ⟨e', he', hn, hv⟩ := h1 e he
  obtain ⟨e'', he'', hn', hv'⟩ := h2 e' he'
  exact ⟨e'', he'', hn'.trans hn, hv.trans hv'⟩

theorem EnumsLe.of_mem {a b : List EnumSkel} (h : ∀ e ∈ a, e ∈ b) : EnumsLe a b :=
  fun e he => ⟨e, h e he, rfl, List.prefix_refl _⟩

theorem MsgLeN.succ : ∀ (n : Nat) (m m' : MsgSkel), MsgLeN n m m' → MsgLeN (n + 1) m m'
  | 0, m, m', h => by
    simp only [MsgLeN] at h
    subst h
    exact ⟨rfl, rfl, rfl, List.prefix_refl _, fun x hx => ⟨x, hx, rfl⟩, EnumsLe.refl _⟩
  | n + 1, m, m', h => by
    obtain ⟨h1, h2, h3, h4, h5, h6⟩ := h
    refine ⟨h1, h2, h3, h4, ?_, h6⟩
    intro x hx
    obtain ⟨x', hx', hle⟩ := h5 x hx
    exact ⟨x', hx', MsgLeN.succ n x x' hle⟩

theorem MsgLeN.mono {n k : Nat} (hnk : n ≤ k) (m m' : MsgSkel) (h : MsgLeN n m m') :
    MsgLeN k m m' := by
  induction hnk with
  | refl => exact h
  | step _ ih => exact MsgLeN.succ _ _ _ ih

theorem MsgLeN.refl (n : Nat) (m : MsgSkel) : MsgLeN n m m :=
  MsgLeN.mono (Nat.zero_le n) m m rfl

theorem MsgLeN.trans : ∀ (n : Nat) (a b c : MsgSkel), MsgLeN n a b → MsgLeN n b c → MsgLeN n a c
  | 0, a, b, c, h1, h2 => by
    simp only [MsgLeN] at h1 h2 ⊢
    exact h1.trans h2
  | n + 1, a, b, c, h1, h2 => by
    obtain ⟨a1, a2, a3, a4, a5, a6⟩ := h1
    obtain ⟨b1, b2, b3, b4, b5, b6⟩ := h2
    refine ⟨b1.trans a1, b2.trans a2, b3.trans a3, a4.trans b4, ?_, a6.trans b6⟩
    intro x hx
    obtain ⟨x', hx', hle⟩ := a5 x hx
    obtain ⟨x'', hx'', hle'⟩ := b5 x' hx'
    exact ⟨x'', hx'', MsgLeN.trans n x x' x'' hle hle'⟩

theorem MsgSkel.LeDeep.refl (m : MsgSkel) : m.LeDeep m := ⟨0, rfl⟩

theorem MsgSkel.LeDeep.trans {a b c : MsgSkel} (h1 : a.LeDeep b) (h2 : b.LeDeep c) : a.LeDeep c := by
  obtain ⟨n, hn⟩ := h1
  obtain ⟨k, hk⟩ := h2
  exact ⟨max n k, MsgLeN.trans _ a b c (MsgLeN.mono (Nat.le_max_left n k) _ _ hn)
    (MsgLeN.mono (Nat.le_max_right n k) _ _ hk)⟩

theorem MsgSkel.Le1.deep {m m' : MsgSkel} (h : m.Le1 m') : m.LeDeep m' := by
  obtain ⟨h1, h2, h3, h4, h5, h6⟩ := h
  exact ⟨1, h1, h2, h3, h4, fun x hx => ⟨x, h5 x hx, rfl⟩, EnumsLe.of_mem h6⟩

/-- one level of `LeDeep`, the way it is built up along an edit path -/
theorem MsgSkel.LeDeep.mk {m m' : MsgSkel} (h1 : m'.name = m.name) (h2 : m'.kind = m.kind)
    (h3 : m'.psm = m.psm) (h4 : m.fields <+: m'.fields)
    (h5 : ∀ x ∈ m.msgs, ∃ x' ∈ m'.msgs, x.LeDeep x') (h6 : EnumsLe m.enums m'.enums) :
    m.LeDeep m' := by
  -- a common bound for the finitely many nested messages
  have hb : ∀ (l : List MsgSkel), (∀ x ∈ l, ∃ x' ∈ m'.msgs, x.LeDeep x') →
      ∃ n, ∀ x ∈ l, ∃ x' ∈ m'.msgs, MsgLeN n x x' := by
    intro l
    induction l with
    | nil => intro _; exact ⟨0, fun x hx => by cases hx⟩
    | cons y ys ih =>
      intro h
      obtain ⟨n, hn⟩ := ih (fun x hx => h x (List.mem_cons_of_mem _ hx))
      obtain ⟨y', hy', k, hk⟩ := h y (by simp)
      refine ⟨max n k, ?_⟩
      intro x hx
      rcases List.mem_cons.mp hx with rfl | hx
      · exact ⟨y', hy', MsgLeN.mono (Nat.le_max_right n k) _ _ hk⟩
      · obtain ⟨x', hx', hle⟩ := hn x hx
        exact ⟨x', hx', MsgLeN.mono (Nat.le_max_left n k) _ _ hle⟩
  obtain ⟨n, hn⟩ := hb m.msgs h5
  exact ⟨n + 1, h1, h2, h3, h4, hn, h6⟩

/-- what `LeDeep` says, one level down -/
theorem MsgSkel.LeDeep.inv {m m' : MsgSkel} (h : m.LeDeep m') :
    m'.name = m.name ∧ m'.kind = m.kind ∧ m'.psm = m.psm ∧ m.fields <+: m'.fields ∧
      (∀ x ∈ m.msgs, ∃ x' ∈ m'.msgs, x.LeDeep x') ∧ EnumsLe m.enums m'.enums := by
  obtain ⟨n, hn⟩ := h
  obtain ⟨h1, h2, h3, h4, h5, h6⟩ := MsgLeN.succ n m m' hn
  exact ⟨h1, h2, h3, h4, fun x hx => (h5 x hx).imp fun x' hx' => ⟨hx'.1, n, hx'.2⟩, h6⟩

theorem MsgsLeDeep.refl (a : List MsgSkel) : MsgsLeDeep a a :=
  fun m h => ⟨m, h, MsgSkel.LeDeep.refl m⟩

theorem MsgsLeDeep.trans {a b c : List MsgSkel} (h1 : MsgsLeDeep a b) (h2 : MsgsLeDeep b c) :
    MsgsLeDeep a c := by
  intro m hm
  obtain ⟨m', hm', hle⟩ := h1 m hm
  obtain ⟨m'', hm'', hle'⟩ := h2 m' hm'
  exact ⟨m'', hm'', hle.trans hle'⟩

theorem MsgsLe.deep {a b : List MsgSkel} (h : MsgsLe a b) : MsgsLeDeep a b :=
  fun m hm => (h m hm).imp fun _ hx => ⟨hx.1, hx.2.deep⟩

theorem MsgsLeDeep.of_mem {a b : List MsgSkel} (h : ∀ m ∈ a, m ∈ b) : MsgsLeDeep a b :=
  fun m hm => ⟨m, h m hm, MsgSkel.LeDeep.refl m⟩

theorem MsgsLeDeep.single {m m' : MsgSkel} (h : m.LeDeep m') : MsgsLeDeep [m] [m'] := by
  intro x hx
  rw [List.mem_singleton.mp hx]
  exact ⟨m', List.mem_singleton.mpr rfl, h⟩

theorem FileSkel.LeDeep.refl (f : FileSkel) : f.LeDeep f :=
  ⟨rfl, rfl, rfl, MsgsLeDeep.refl _, EnumsLe.refl _⟩

theorem FileSkel.LeEdit.deep {f f' : FileSkel} (h : f.LeEdit f') : f.LeDeep f' :=
  ⟨h.1, h.2.1, h.2.2.1, h.2.2.2.1.deep, h.2.2.2.2⟩

theorem FileSkel.LeAny.refl (f : FileSkel) : f.LeAny f :=
  ⟨rfl, rfl, List.prefix_refl _, MsgsLeDeep.refl _, EnumsLe.refl _⟩

theorem FileSkel.LeAny.trans {a b c : FileSkel} (h1 : a.LeAny b) (h2 : b.LeAny c) : a.LeAny c :=
  ⟨h2.1.trans h1.1, h2.2.1.trans h1.2.1, h1.2.2.1.trans h2.2.2.1, h1.2.2.2.1.trans h2.2.2.2.1,
    h1.2.2.2.2.trans h2.2.2.2.2⟩

theorem FileSkel.LeDeep.any {f f' : FileSkel} (h : f.LeDeep f') : f.LeAny f' :=
  ⟨h.1, h.2.1, by rw [h.2.2.1]; exact List.prefix_refl _, h.2.2.2.1, h.2.2.2.2⟩

theorem FileSkel.LeDeep.trans {a b c : FileSkel} (h1 : a.LeDeep b) (h2 : b.LeDeep c) : a.LeDeep c :=
  ⟨h2.1.trans h1.1, h2.2.1.trans h1.2.1, h1.2.2.1.trans h2.2.2.1, h1.2.2.2.1.trans h2.2.2.2.1,
    h1.2.2.2.2.trans h2.2.2.2.2⟩

theorem FileSkel.LeEdit.any {f f' : FileSkel} (h : f.LeEdit f') : f.LeAny f' := h.deep.any

theorem FileSkel.Le.any {f f' : FileSkel} (h : f.Le f') : f.LeAny f' :=
  ⟨h.1, h.2.1, h.2.2.2.2, MsgsLeDeep.of_mem fun _ hm => h.2.2.1.subset hm,
    EnumsLe.of_mem fun _ he => h.2.2.2.1.subset he⟩

theorem FilesLeAny.refl (fs : List FileSkel) : FilesLeAny fs fs :=
  fun f h => ⟨f, h, FileSkel.LeAny.refl f⟩

theorem FilesLeAny.trans {a b c : List FileSkel} (h1 : FilesLeAny a b) (h2 : FilesLeAny b c) :
    FilesLeAny a c := by
  intro f hf
  obtain ⟨f', hf', hle⟩ := h1 f hf
  obtain ⟨f'', hf'', hle'⟩ := h2 f' hf'
  exact ⟨f'', hf'', hle.trans hle'⟩

end J5V.Compile
