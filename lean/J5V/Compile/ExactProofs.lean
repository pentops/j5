import J5V.Compile.FileProofs
import J5V.Compile.ShapeProofs
import J5V.Compile.FieldInv
/-!
# Exactness: what each generated file holds, item by item (core only)

From `FileProofs`: the files of a successful `ConvertJ5File` are folds of the step list. Here the
step list is unfolded per visited item: which target an item's steps go to, and which messages,
enums and services they add. Together: a list equation for every component of every generated file
in terms of the declarations of the source file — nothing else is emitted.
-/
namespace J5V.Compile
open J5V.Go

/-! ## folds of effects -/

theorem foldl_eff_errs {α : Type} (f : α → Eff) (l : List α) (init : Eff) :
    (l.foldl (fun e a => e ++ f a) init).errs = init.errs + (l.map fun a => (f a).errs).sum := by
  rw [foldl_eff]

/-! ## targets of the steps of an item -/

theorem convService_target (c : Ctx) (s : Service) : (convService c s).target = .service := by
  unfold convService
  cases s.name <;> rfl

def Item.target : Item → Target
  | .serviceFile _ => .service
  | .topicFile _ => .topic
  | _ => .main

theorem convItem_target (c : Ctx) (i : Item) : ∀ s ∈ convItem c i, s.target = i.target := by
  intro s hs
  cases mem_convItem.mp hs with
  | service => exact convService_target c _
  | _ => rfl

theorem filter_all_eq {α : Type} (p : α → Bool) (l : List α) (h : ∀ a ∈ l, p a = true) :
    l.filter p = l := List.filter_eq_self.mpr h

theorem filter_all_ne {α : Type} (p : α → Bool) (l : List α) (h : ∀ a ∈ l, p a = false) :
    l.filter p = [] := by
  rw [List.filter_eq_nil_iff]
  intro a ha; simp [h a ha]

theorem stepsOf_convItem (c : Ctx) (t : Target) (i : Item) :
    stepsOf t (convItem c i) = if i.target = t then convItem c i else [] := by
  unfold stepsOf
  split
  · rename_i h
    apply filter_all_eq
    intro s hs; simp [convItem_target c i s hs, h]
  · rename_i h
    apply filter_all_ne
    intro s hs; simp [convItem_target c i s hs, h]

theorem stepsOf_flatMap (c : Ctx) (t : Target) (items : List Item) :
    stepsOf t (items.flatMap (convItem c)) =
      (items.filter (·.target = t)).flatMap (convItem c) := by
  induction items with
  | nil => rfl
  | cons i rest ih =>
    simp only [List.flatMap_cons, stepsOf_append, stepsOf_convItem, ih, List.filter_cons]
    by_cases h : i.target = t <;> simp [h]

theorem convItem_ne_nil (c : Ctx) (i : Item) : convItem c i ≠ [] := by
  cases i <;> simp [convItem, convServiceFile, convTopicFile]

/-- every item has a step, and all steps of an item go to its target -/
theorem exists_step_target (c : Ctx) (items : List Item) (t : Target) :
    (∃ s ∈ items.flatMap (convItem c), s.target = t) ↔ ∃ i ∈ items, i.target = t := by
  constructor
  · rintro ⟨s, hs, rfl⟩
    obtain ⟨i, hi, hsi⟩ := List.mem_flatMap.mp hs
    exact ⟨i, hi, (convItem_target c i s hsi).symm⟩
  · rintro ⟨i, hi, rfl⟩
    obtain ⟨s, hs⟩ := List.exists_mem_of_ne_nil _ (convItem_ne_nil c i)
    exact ⟨s, List.mem_flatMap.mpr ⟨i, hi, hs⟩, convItem_target c i s hs⟩

/-- the sub-package file of a target exists iff an item of that target is visited
(`ServiceFileNode.Accept` creates the file before looking at the services) -/
theorem mem_subTargets_items (c : Ctx) (items : List Item) (t : Target) :
    t ∈ subTargets (items.flatMap (convItem c)) ↔ t ≠ .main ∧ ∃ i ∈ items, i.target = t := by
  rw [mem_subTargets, exists_step_target]

/-! ## what an item adds to its file -/

def itemMsgs (c : Ctx) (i : Item) : List MsgSkel := (convItem c i).flatMap (·.eff.msgs)
def itemEnums (c : Ctx) (i : Item) : List EnumSkel := (convItem c i).flatMap (·.eff.enums)
def itemSvcs (c : Ctx) (i : Item) : List SvcSkel := (convItem c i).flatMap (·.svcs)

theorem convDecl_enums (c : Ctx) (np : List Str) (io : Bool) (virt : List Property) (o : ObjDecl) :
    (convDecl c np io virt o).enums = [] := by
  cases o with
  | mk name props nested psm => rw [convDecl_eq]

/-- a declared object: exactly its message; its map entries, inline and nested types are inside -/
theorem itemMsgs_object (c : Ctx) (o : ObjDecl) :
    itemMsgs c (.object o) = [declMsgOf c [] false [] o] := by
  cases o with
  | mk name props nested psm =>
    simp only [itemMsgs, convItem, List.flatMap_cons, List.flatMap_nil, List.append_nil]
    rw [convDecl_msgs, bProps_entries_object]
    rfl

/-- a declared oneof: its message, preceded only by the map entries of its options -/
theorem itemMsgs_oneof (c : Ctx) (o : ObjDecl) :
    ∃ entries, itemMsgs c (.oneof o) = entries ++ [declMsgOf c [] true [] o] ∧
      ∀ m ∈ entries, m.kind = .mapentry := by
  cases o with
  | mk name props nested psm =>
    refine ⟨(bProps c ([] ++ [name]) true 1 ([] ++ props)).entries, ?_, bProps_entries_kind _ _ _ _ _⟩
    simp only [itemMsgs, convItem, List.flatMap_cons, List.flatMap_nil, List.append_nil]
    rw [convDecl_msgs]
    rfl

theorem itemMsgs_enum (c : Ctx) (e : EnumDecl) : itemMsgs c (.enum e) = [] := rfl

theorem itemEnums_object (c : Ctx) (o : ObjDecl) : itemEnums c (.object o) = [] := by
  simp [itemEnums, convItem, convDecl_enums]

theorem itemEnums_oneof (c : Ctx) (o : ObjDecl) : itemEnums c (.oneof o) = [] := by
  simp [itemEnums, convItem, convDecl_enums]

theorem itemEnums_enum (c : Ctx) (e : EnumDecl) : itemEnums c (.enum e) = [convEnum e] := rfl

theorem itemSvcs_main (c : Ctx) (i : Item) (h : i.target = .main) : itemSvcs c i = [] := by
  cases i <;> simp [Item.target] at h <;> rfl

theorem serviceObjects_methods (s : Service) :
    serviceObjects s = s.methods.flatMap fun m =>
      serviceObjects { name := none, basePath := none, methods := [m] } := by
  simp [serviceObjects]

def methodMsgs (c : Ctx) (m : Method) : List MsgSkel :=
  (match m.request with
    | some req => [declMsg c [] false [] (m.name ++ b!"Request") req [] none]
    | none => []) ++
  (match m.request, m.response with
    | some _, some res => [declMsg c [] false [] (m.name ++ b!"Response") res [] none]
    | _, _ => [])

theorem convVirtual_msgs (c : Ctx) (name : Str) (virt props : List Property) (psm : Option Psm) :
    (convVirtual c name virt props psm).msgs = [declMsg c [] false virt name props [] psm] := by
  unfold convVirtual
  rw [convDecl_msgs, bProps_entries_object]
  rfl

theorem convVirtual_enums (c : Ctx) (name : Str) (virt props : List Property) (psm : Option Psm) :
    (convVirtual c name virt props psm).enums = [] := convDecl_enums _ _ _ _ _

theorem walkMethod_msgs_eq (c : Ctx) (bp : Option Str) (m : Method) :
    (walkMethod c bp m).eff.msgs = methodMsgs c m := by
  unfold walkMethod methodMsgs
  cases m.request with
  | none => rfl
  | some req => cases m.response <;> simp [convVirtual_msgs]

theorem walkMethod_enums (c : Ctx) (bp : Option Str) (m : Method) :
    (walkMethod c bp m).eff.enums = [] := by
  unfold walkMethod
  cases m.request with
  | none => rfl
  | some req => cases m.response <;> simp [convVirtual_enums]

theorem convMethod_msgs (node : Method × Str × Str × Str) :
    (convMethod node).1.msgs = [] ∧ (convMethod node).1.enums = [] := by
  obtain ⟨m, input, output, resolved⟩ := node
  unfold convMethod
  simp only []
  cases m.request with
  | none => exact ⟨rfl, rfl⟩
  | some req =>
    simp only []
    split <;>
      simp [Eff.imp, Eff.err, Eff.use, when_msgs_eq, when_enums_eq]

/-- a service: the request / response objects of its methods, nothing else -/
theorem convService_msgs (c : Ctx) (s : Service) :
    (convService c s).eff.msgs = s.methods.flatMap (methodMsgs c) ∧
    (convService c s).eff.enums = [] := by
  unfold convService
  have hw : ((s.methods.map (walkMethod c s.basePath)).foldl (fun e w => e ++ w.eff) ({} : Eff)).msgs =
      s.methods.flatMap (methodMsgs c) := by
    rw [foldl_eff]
    simp only [List.flatMap_map, walkMethod_msgs_eq]
    rfl
  have hwe : ((s.methods.map (walkMethod c s.basePath)).foldl (fun e w => e ++ w.eff) ({} : Eff)).enums = [] := by
    rw [foldl_eff]
    simp only [List.flatMap_map, walkMethod_enums]
    simp
  cases s.name with
  | none => exact ⟨hw, hwe⟩
  | some name =>
    simp only []
    have hb : ∀ l : List (Eff × Option MethodSkel), (∀ x ∈ l, x.1.msgs = [] ∧ x.1.enums = []) →
        (l.foldl (fun e b => e ++ b.1) ({} : Eff)).msgs = [] ∧
        (l.foldl (fun e b => e ++ b.1) ({} : Eff)).enums = [] := by
      intro l hl
      rw [foldl_eff]
      constructor
      · simp only [List.nil_append, List.flatMap_eq_nil_iff]
        intro x hx; exact (hl x hx).1
      · simp only [List.nil_append, List.flatMap_eq_nil_iff]
        intro x hx; exact (hl x hx).2
    have hbuilt := hb (((s.methods.map (walkMethod c s.basePath)).filterMap (·.node)).map convMethod)
      (by intro x hx; obtain ⟨n, _, rfl⟩ := List.mem_map.mp hx; exact convMethod_msgs n)
    simp only [Eff.msgs_append, Eff.enums_append, hw, hwe, hbuilt.1, hbuilt.2, List.append_nil,
      when_msgs_eq, when_enums_eq, show (Eff.use j5ExtImport).msgs = [] from rfl,
      show (Eff.use j5ExtImport).enums = [] from rfl, ite_self, and_self]

theorem convService_svcs_len (c : Ctx) (s : Service) : (convService c s).svcs.length ≤ 1 := by
  unfold convService
  cases s.name <;> simp

theorem itemMsgs_serviceFile (c : Ctx) (ss : List Service) :
    itemMsgs c (.serviceFile ss) = ss.flatMap fun s => s.methods.flatMap (methodMsgs c) := by
  simp only [itemMsgs, convItem, convServiceFile, List.flatMap_cons, List.flatMap_map]
  show ([] : List MsgSkel) ++ _ = _
  simp only [List.nil_append]
  apply flatMap_congr_mem
  intro s _
  exact (convService_msgs c s).1

theorem itemEnums_serviceFile (c : Ctx) (ss : List Service) : itemEnums c (.serviceFile ss) = [] := by
  simp only [itemEnums, convItem, convServiceFile, List.flatMap_cons, List.flatMap_map]
  show ([] : List EnumSkel) ++ _ = _
  simp only [List.nil_append, List.flatMap_eq_nil_iff]
  intro s _
  exact (convService_msgs c s).2

/-- the rpc methods `visitServiceNode` builds for a service (methods whose conversion reported an
error are left out; on a file that converts there are none) -/
def builtMethods (c : Ctx) (s : Service) : List MethodSkel :=
  (((s.methods.map (walkMethod c s.basePath)).filterMap (·.node)).map convMethod).filterMap (·.2)

/-- the proto service of a service declaration: exactly one, when the service is named -/
def serviceSvcs (c : Ctx) (s : Service) : List SvcSkel :=
  match s.name with
  | none => []
  | some name => [{ name := name ++ b!"Service", sopt := soptSkel s.sopt, methods := builtMethods c s }]

theorem convService_svcs (c : Ctx) (s : Service) : (convService c s).svcs = serviceSvcs c s := by
  unfold convService serviceSvcs builtMethods
  cases s.name <;> rfl

theorem itemSvcs_serviceFile (c : Ctx) (ss : List Service) :
    itemSvcs c (.serviceFile ss) = ss.flatMap (serviceSvcs c) := by
  simp only [itemSvcs, convItem, convServiceFile, List.flatMap_cons, List.flatMap_map]
  show ([] : List SvcSkel) ++ _ = _
  simp only [List.nil_append]
  apply flatMap_congr_mem
  intro s _
  exact convService_svcs c s

/-- message objects of one topic node: one `<Name>Message` per message with a resolvable name,
the implicit leading fields first -/
def topicMsgs (c : Ctx) (tn : TopicNode) : List MsgSkel :=
  tn.msgs.filterMap fun m => (topicMethodName tn m).map fun n =>
    declMsg c [] false tn.prepend (n ++ b!"Message") m.props [] none

theorem flatMap_eq_filterMap {α β : Type} (l : List α) (f : α → List β) (g : α → Option β)
    (h : ∀ a, f a = (g a).toList) : l.flatMap f = l.filterMap g := by
  induction l with
  | nil => rfl
  | cons a rest ih =>
    simp only [List.flatMap_cons, List.filterMap_cons, ih, h a]
    cases g a <;> rfl

theorem acceptTopic_msgs (c : Ctx) (tn : TopicNode) :
    (acceptTopic c tn).flatMap (·.eff.msgs) = topicMsgs c tn ∧
    (acceptTopic c tn).flatMap (·.eff.enums) = [] ∧
    (acceptTopic c tn).flatMap (·.svcs) = [topicSvc tn] := by
  unfold acceptTopic topicMsgs topicSvc
  simp only [List.flatMap_append, List.flatMap_cons, List.flatMap_nil, List.append_nil,
    List.flatMap_map]
  have hB : (Eff.use messagingAnnotationsImport ++ Eff.imp messagingAnnotationsImport ++
      Eff.imp googleProtoEmptyImport).msgs = [] := rfl
  have hE : (Eff.use messagingAnnotationsImport ++ Eff.imp messagingAnnotationsImport ++
      Eff.imp googleProtoEmptyImport).enums = [] := rfl
  refine ⟨?_, ?_, ?_⟩
  · rw [hB, List.append_nil]
    apply flatMap_eq_filterMap
    intro m
    cases topicMethodName tn m with
    | none => rfl
    | some n => simp [convVirtual_msgs]
  · rw [hE, List.append_nil]
    refine List.flatMap_eq_nil_iff.mpr fun m _ => ?_
    cases topicMethodName tn m with
    | none => rfl
    | some n => simp [convVirtual_enums]
  · refine Eq.trans (congrArg (· ++ _) ?_) (List.nil_append _)
    refine List.flatMap_eq_nil_iff.mpr fun m _ => ?_
    cases topicMethodName tn m <;> rfl

theorem itemMsgs_topicFile (c : Ctx) (ts : List Topic) :
    itemMsgs c (.topicFile ts) = ts.flatMap fun t => (topicNodes t).flatMap (topicMsgs c) := by
  simp only [itemMsgs, convItem, convTopicFile, List.flatMap_cons, convTopic, List.flatMap_assoc]
  show ([] : List MsgSkel) ++ _ = _
  simp only [List.nil_append]
  apply flatMap_congr_mem
  intro t _
  apply flatMap_congr_mem
  intro tn _
  exact (acceptTopic_msgs c tn).1

theorem itemEnums_topicFile (c : Ctx) (ts : List Topic) : itemEnums c (.topicFile ts) = [] := by
  simp only [itemEnums, convItem, convTopicFile, List.flatMap_cons, convTopic, List.flatMap_assoc]
  show ([] : List EnumSkel) ++ _ = _
  simp only [List.nil_append]
  refine List.flatMap_eq_nil_iff.mpr fun t _ => List.flatMap_eq_nil_iff.mpr fun tn _ => ?_
  exact (acceptTopic_msgs c tn).2.1

theorem itemSvcs_topicFile (c : Ctx) (ts : List Topic) :
    itemSvcs c (.topicFile ts) = ts.flatMap fun t => (topicNodes t).map topicSvc := by
  simp only [itemSvcs, convItem, convTopicFile, List.flatMap_cons, convTopic, List.flatMap_assoc]
  show ([] : List SvcSkel) ++ _ = _
  simp only [List.nil_append]
  apply flatMap_congr_mem
  intro t _
  have : ∀ l : List TopicNode, (l.flatMap fun tn => (acceptTopic c tn).flatMap (·.svcs)) = l.map topicSvc := by
    intro l
    induction l with
    | nil => rfl
    | cons tn rest ih => simp [List.flatMap_cons, ih, (acceptTopic_msgs c tn).2.2]
  exact this _

/-! ## the generated files -/

/-- the file of target `t` after the visit of `items` -/
def targetFile (c : Ctx) (name pkg : Str) (t : Target) (items : List Item) : FileB :=
  (freshFile name pkg t).run (stepsOf t (items.flatMap (convItem c)))

theorem targetFile_msgs (c : Ctx) (name pkg : Str) (t : Target) (items : List Item) :
    (targetFile c name pkg t items).msgs = (items.filter (·.target = t)).flatMap (itemMsgs c) := by
  simp only [targetFile, FileB.run_msgs, freshFile_msgs, List.nil_append,
    stepsOf_flatMap, List.flatMap_assoc]
  rfl

theorem targetFile_enums (c : Ctx) (name pkg : Str) (t : Target) (items : List Item) :
    (targetFile c name pkg t items).enums = (items.filter (·.target = t)).flatMap (itemEnums c) := by
  simp only [targetFile, FileB.run_enums, freshFile_enums, List.nil_append,
    stepsOf_flatMap, List.flatMap_assoc]
  rfl

theorem targetFile_svcs (c : Ctx) (name pkg : Str) (t : Target) (items : List Item) :
    (targetFile c name pkg t items).svcs = (items.filter (·.target = t)).flatMap (itemSvcs c) := by
  simp only [targetFile, FileB.run_svcs, freshFile_svcs, List.nil_append,
    stepsOf_flatMap, List.flatMap_assoc]
  rfl

theorem targetFile_uses (c : Ctx) (name pkg : Str) (t : Target) (items : List Item) :
    (targetFile c name pkg t items).uses =
      (items.filter (·.target = t)).flatMap fun i => (convItem c i).flatMap (·.eff.uses) := by
  simp only [targetFile, FileB.run_uses, freshFile_uses, List.nil_append, stepsOf_flatMap,
    List.flatMap_assoc]

theorem mem_targetFile_deps {c : Ctx} {name pkg : Str} {t : Target} {items : List Item} {d : Str} :
    d ∈ (targetFile c name pkg t items).deps ↔
      (∃ i ∈ items, i.target = t ∧ d ∈ (convItem c i).flatMap (·.eff.imports)) ∧
        d ≠ (targetFile c name pkg t items).name := by
  simp only [targetFile, FileB.run_deps, FileB.run_name, mem_foldl_ensureImport, freshFile_deps,
    List.not_mem_nil, false_or, stepsOf_flatMap, List.flatMap_assoc, List.mem_flatMap, List.mem_filter,
    decide_eq_true_eq, and_assoc]

/-- the package of the file an item's output goes to -/
def targetPkg (pkg : Str) (t : Target) : Str :=
  match t.sub with
  | none => pkg
  | some k => pkg ++ b!"." ++ k

theorem targetFile_pkg (c : Ctx) (name pkg : Str) (t : Target) (items : List Item) :
    (targetFile c name pkg t items).pkg = targetPkg pkg t := by
  rw [targetFile, FileB.run_pkg]; cases t <;> rfl

theorem mem_filesOf_items (c : Ctx) (name pkg : Str) (items : List Item) (f : FileSkel) :
    f ∈ filesOf name pkg (items.flatMap (convItem c)) ↔
      ∃ t, (t = .main ∨ ∃ i ∈ items, i.target = t) ∧ f = (targetFile c name pkg t items).skel := by
  rw [mem_filesOf]
  simp only [exists_step_target]
  rfl

theorem convertFile_mem (res : Resolver) (path : Str) (imports : List Import) (elems : List Elem)
    (fs : List FileSkel) (h : convertFile res path imports elems = .ok fs) :
    ∃ im, j5Imports (packageFromFilename (path ++ b!".proto")) imports = .ok im ∧
      ∀ f, f ∈ fs ↔ ∃ t, (t = .main ∨ ∃ i ∈ elems.flatMap (itemsOfElem (packageFromFilename (path ++ b!".proto"))),
          i.target = t) ∧
        f = (targetFile ⟨resolveTypeNoImport im res⟩ (path ++ b!".proto")
          (packageFromFilename (path ++ b!".proto")) t
          (elems.flatMap (itemsOfElem (packageFromFilename (path ++ b!".proto"))))).skel := by
  obtain ⟨im, hj, _, _, rfl⟩ := convertFile_ok res path imports elems fs h
  exact ⟨im, hj, mem_filesOf_items _ _ _ _⟩

theorem itemEnums_sub (c : Ctx) (i : Item) (h : i.target ≠ .main) : itemEnums c i = [] := by
  cases i with
  | serviceFile ss => exact itemEnums_serviceFile c ss
  | topicFile ts => exact itemEnums_topicFile c ts
  | object o => exact absurd rfl h
  | oneof o => exact absurd rfl h
  | enum e => exact absurd rfl h
  | abort => exact absurd rfl h

theorem flatMap_filter_nil {α β : Type} (l : List α) (p : α → Bool) (f : α → List β)
    (h : ∀ a, p a = true → f a = []) : (l.filter p).flatMap f = [] := by
  rw [List.flatMap_eq_nil_iff]
  intro a ha
  exact h a (List.mem_filter.mp ha).2

theorem nodup_map_of_inj {α β : Type} (f : α → β) {l : List α} (h : l.Nodup)
    (hinj : ∀ a ∈ l, ∀ b ∈ l, f a = f b → a = b) : (l.map f).Nodup := by
  induction l with
  | nil => simp
  | cons a rest ih =>
    rw [List.nodup_cons] at h
    rw [List.map_cons, List.nodup_cons]
    refine ⟨fun hm => ?_, ih h.2 fun x hx y hy => hinj x (List.mem_cons_of_mem _ hx) y (List.mem_cons_of_mem _ hy)⟩
    obtain ⟨b, hb, hab⟩ := List.mem_map.mp hm
    exact h.1 (hinj a List.mem_cons_self b (List.mem_cons_of_mem _ hb) hab.symm ▸ hb)

/-- the files of a visit, component by component -/
theorem filesOf_exact (c : Ctx) (name pkg : Str) (items : List Item) :
    ∃ (main : FileSkel) (subs : List FileSkel),
      filesOf name pkg (items.flatMap (convItem c)) = main :: subs ∧
      main.name = name ∧ main.pkg = pkg ∧ main.svcs = [] ∧
      main.msgs = (items.filter (·.target = .main)).flatMap (itemMsgs c) ∧
      main.enums = (items.filter (·.target = .main)).flatMap (itemEnums c) ∧
      (subs.map (·.pkg)).Nodup ∧
      (∀ f ∈ subs, ∃ (t : Target) (k : Str), t.sub = some k ∧ (∃ i ∈ items, i.target = t) ∧
        f.name = subPackageFileName name k ∧ f.pkg = pkg ++ b!"." ++ k ∧
        f.msgs = (items.filter (·.target = t)).flatMap (itemMsgs c) ∧ f.enums = [] ∧
        f.svcs = (items.filter (·.target = t)).flatMap (itemSvcs c)) ∧
      (∀ (t : Target) (k : Str), t.sub = some k → (∃ i ∈ items, i.target = t) →
        ∃ f ∈ subs, f.pkg = pkg ++ b!"." ++ k) := by
  refine ⟨(targetFile c name pkg .main items).skel,
    (subTargets (items.flatMap (convItem c))).map fun t => (targetFile c name pkg t items).skel, rfl,
    FileB.run_name _ _, FileB.run_pkg _ _, ?_, targetFile_msgs c name pkg .main items,
    targetFile_enums c name pkg .main items, ?_, ?_, ?_⟩
  · exact (targetFile_svcs c name pkg .main items).trans (flatMap_filter_nil _ _ _ fun i hi =>
      itemSvcs_main _ i (by simpa using hi))
  · -- distinct targets have distinct packages
    rw [List.map_map]
    refine nodup_map_of_inj _ (subTargets_nodup _) fun t ht t' ht' e => ?_
    exact freshFile_pkg_inj name pkg ((mem_subTargets _ t).mp ht).1 ((mem_subTargets _ t').mp ht').1
      ((FileB.run_pkg _ _).symm.trans (e.trans (FileB.run_pkg _ _)))
  · intro f hf
    obtain ⟨t, ht, rfl⟩ := List.mem_map.mp hf
    obtain ⟨hm, hex⟩ := (mem_subTargets_items c items t).mp ht
    obtain ⟨k, hk⟩ : ∃ k, t.sub = some k := by
      cases t
      · exact absurd rfl hm
      · exact ⟨_, rfl⟩
      · exact ⟨_, rfl⟩
    refine ⟨t, k, hk, hex, (FileB.run_name _ _).trans (congrArg FileB.name (freshFile_sub name pkg hk)),
      (FileB.run_pkg _ _).trans (congrArg FileB.pkg (freshFile_sub name pkg hk)),
      targetFile_msgs c name pkg t items, ?_, targetFile_svcs c name pkg t items⟩
    exact (targetFile_enums c name pkg t items).trans (flatMap_filter_nil _ _ _ fun i hi =>
      itemEnums_sub _ i (by rw [show i.target = t by simpa using hi]; exact hm))
  · intro t k hk hex
    exact ⟨_, List.mem_map_of_mem ((mem_subTargets_items c items t).mpr ⟨Target.sub_main hk, hex⟩),
      (FileB.run_pkg _ _).trans (congrArg FileB.pkg (freshFile_sub name pkg hk))⟩

/-! ## the package -/

end J5V.Compile
