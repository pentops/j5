import J5V.Compile.AppendEdit
/-!
# Edits below service requests / responses and topic messages (C13) — core only

The containers are virtual objects (`<Method>Request`, `<Method>Response`, `<Name>Message`) that live
in the sub-package files. An edit with a path `el i :: method m :: (req | res) :: rest` or
`el i :: (msg | reqm | repm) m :: rest` replaces the property list of one of them (`MethodRepl`,
`NodeRepl`; `rest = []` appends at its end): the rpcs and topic services never read the property list,
the message of the container changes as the relation `R` on messages says its `declMsg` does, every
other message stays.
-/
namespace J5V.Compile
open J5V.Go

/-- the message of a (virtual or declared) object with one more property -/
theorem declMsg_append_le1 (c : Ctx) (np : List Str) (io : Bool) (virt : List Property) (n : Str)
    (ps : List Property) (prop : Property) (ne : List Nested) (psm : Option Psm) :
    (declMsg c np io virt n ps ne psm).Le1 (declMsg c np io virt n (ps ++ [prop]) ne psm) := by
  simp only [declMsg, mkMsg, ← List.append_assoc, bProps_append_flds, bProps_append_eff, Eff.add]
  refine ⟨rfl, rfl, rfl, List.prefix_append _ _, ?_, ?_⟩
  · intro x hx
    simp only [MsgSkel.msgs, List.mem_append] at hx ⊢
    rcases hx with hx | hx
    · exact Or.inl (Or.inl hx)
    · exact Or.inr hx
  · intro x hx
    simp only [MsgSkel.enums, List.mem_append] at hx ⊢
    rcases hx with hx | hx
    · exact Or.inl (Or.inl hx)
    · exact Or.inr hx

/-! ## virtual objects -/

theorem virtualExports_append (a b : List (Str × List Property)) :
    virtualExports (a ++ b) = virtualExports a ++ virtualExports b := by
  simp [virtualExports, List.flatMap_append]

/-! ## service methods -/

theorem serviceObjects_eq (s : Service) : serviceObjects s = s.methods.flatMap methodObjs := rfl

/-- `mt'` is `mt` with the request (`true`) / response (`false`) `r` replaced by `r'` -/
def MethodRepl : Bool → Method → Method → List Property → List Property → Prop
  | true, mt, mt', r, r' => mt.request = some r ∧ mt' = { mt with request := some r' }
  | false, mt, mt', r, r' => mt.response = some r ∧ mt' = { mt with response := some r' }

theorem methodObjs_repl (rq : Bool) (mt mt' : Method) (r r' : List Property)
    (h : MethodRepl rq mt mt' r r') :
    ∃ X Y, methodObjs mt = X ++ [(methodObjName rq mt, r)] ++ Y ∧
      methodObjs mt' = X ++ [(methodObjName rq mt, r')] ++ Y := by
  cases rq with
  | true =>
    obtain ⟨h1, rfl⟩ := h
    refine ⟨[], (match mt.response with | some r => [(mt.name ++ b!"Response", r)] | none => []), ?_, ?_⟩
    · simp only [methodObjs, h1, methodObjName, List.nil_append]; rfl
    · simp only [methodObjs, methodObjName, List.nil_append]; rfl
  | false =>
    obtain ⟨h1, rfl⟩ := h
    refine ⟨(match mt.request with | some r => [(mt.name ++ b!"Request", r)] | none => []), [], ?_, ?_⟩
    · simp only [methodObjs, h1, methodObjName, List.append_nil]; rfl
    · simp only [methodObjs, methodObjName, List.append_nil]; rfl

/-- the rpc of one method as `visitServiceMethodNode` builds it -/
def methodBuilt (c : Ctx) (bp : Option Str) (m : Method) : List MethodSkel :=
  (([walkMethod c bp m].filterMap (·.node)).map convMethod).filterMap (·.2)

theorem builtMethods_flatMap (c : Ctx) (s : Service) :
    builtMethods c s = s.methods.flatMap (methodBuilt c s.basePath) := by
  unfold builtMethods
  induction s.methods with
  | nil => rfl
  | cons m ms ih =>
    simp only [List.map_cons, List.flatMap_cons, ← ih]
    simp only [methodBuilt, List.filterMap_cons, List.filterMap_nil]
    cases (walkMethod c s.basePath m).node with
    | none => simp
    | some nd =>
      simp only [List.map_cons, List.map_nil, List.filterMap_cons, List.filterMap_nil]
      cases (convMethod nd).2 <;> simp

theorem convMethod_snd (m : Method) (req : List Property) (hr : m.request = some req)
    (i o rp : Str) :
    (convMethod (m, i, o, rp)).2 =
      if m.verb = .unspecified then none else
        some { name := m.name, input := i, output := o,
               http := some { verb := m.verb, path := (rewritePath req rp).1, body := verbBody m.verb },
               mopt := m.mopt } := by
  unfold convMethod
  simp only [hr]
  split <;> rfl

theorem methodBuilt_some (c : Ctx) (bp : Option Str) (m : Method) (req : List Property)
    (hr : m.request = some req) :
    methodBuilt c bp m = if m.verb = .unspecified then [] else [methodSkelOf bp m] := by
  simp only [methodBuilt, List.filterMap_cons, List.filterMap_nil, walkMethod_node c bp m req hr,
    List.map_cons, List.map_nil]
  rw [convMethod_snd m req hr]
  by_cases hv : m.verb = .unspecified
  · simp only [hv, if_true]
  · simp only [hv, if_false]
    simp only [methodSkelOf, hr, Option.getD]

theorem methodBuilt_none (c : Ctx) (bp : Option Str) (m : Method) (hr : m.request = none) :
    methodBuilt c bp m = [] := by
  simp [methodBuilt, walkMethod, hr]

/-- the rpc does not depend on the properties of the request / response -/
theorem methodBuilt_repl (c : Ctx) (bp : Option Str) (rq : Bool) (mt mt' : Method) (r r' : List Property)
    (h : MethodRepl rq mt mt' r r') :
    methodBuilt c bp mt' = methodBuilt c bp mt := by
  cases rq with
  | true =>
    obtain ⟨h1, rfl⟩ := h
    rw [methodBuilt_some c bp mt r h1, methodBuilt_some c bp _ r' rfl]
    rfl
  | false =>
    obtain ⟨h1, rfl⟩ := h
    cases hq : mt.request with
    | none => rw [methodBuilt_none c bp mt hq, methodBuilt_none c bp _ rfl]
    | some q =>
      rw [methodBuilt_some c bp mt q hq, methodBuilt_some c bp _ q rfl]
      simp only [methodSkelOf, resolvedPath, h1, hq]

/-- the messages of a method: the one of the edited container changes as `hd` says (asked only when the
method has a request: without one it has no messages at all) -/
theorem methodMsgs_repl {R : MsgSkel → MsgSkel → Prop} (hR : ∀ m, R m m) (c : Ctx) (rq : Bool)
    (mt mt' : Method) (r r' : List Property) (h : MethodRepl rq mt mt' r r')
    (hd : ∀ q, mt.request = some q → R (declMsg c [] false [] (methodObjName rq mt) r [] none)
      (declMsg c [] false [] (methodObjName rq mt) r' [] none)) :
    MsgsRel R (methodMsgs c mt) (methodMsgs c mt') := by
  cases rq with
  | true =>
    obtain ⟨h1, rfl⟩ := h
    intro m hm
    simp only [methodMsgs, h1, List.mem_append, List.mem_singleton] at hm ⊢
    rcases hm with hm | hm
    · subst hm
      exact ⟨_, Or.inl rfl, hd r h1⟩
    · refine ⟨m, Or.inr ?_, hR m⟩
      cases hrs : mt.response with
      | none => simp [hrs] at hm
      | some q => simpa [hrs] using hm
  | false =>
    obtain ⟨h1, rfl⟩ := h
    intro m hm
    cases hq : mt.request with
    | none => simp [methodMsgs, hq] at hm
    | some q =>
      simp only [methodMsgs, hq, h1, List.mem_append, List.mem_singleton] at hm ⊢
      rcases hm with hm | hm
      · exact ⟨m, Or.inl hm, hR m⟩
      · subst hm
        exact ⟨_, Or.inr rfl, hd q hq⟩

theorem editService_deep (act : Act) (m : Nat) (rq : Bool) (rest : List PStep)
    (sv sv' : Service)
    (h : editService act (.method m :: reqStep rq :: rest) sv = some sv') :
    ∃ M1 M2 mt mt' r r', sv.methods = M1 ++ [mt] ++ M2 ∧
      sv' = { sv with methods := M1 ++ [mt'] ++ M2 } ∧ M1.length = m ∧ MethodRepl rq mt mt' r r' ∧
      editProps act rest r = some r' := by
  cases rq with
  | true =>
    simp only [reqStep, editService] at h
    obtain ⟨ms, hsa, rfl⟩ := Option.map_eq_some_iff.mp h
    obtain ⟨mt, mt', g1, gf, g2, g3⟩ := setAt_some _ _ _ _ hsa
    cases hr : mt.request with
    | none => simp [hr] at gf
    | some r =>
      simp only [hr] at gf
      obtain ⟨r', he, rfl⟩ := Option.map_eq_some_iff.mp gf
      exact ⟨_, _, mt, _, r, r', g1, by rw [g2], g3, ⟨hr, rfl⟩, he⟩
  | false =>
    simp only [reqStep, editService] at h
    obtain ⟨ms, hsa, rfl⟩ := Option.map_eq_some_iff.mp h
    obtain ⟨mt, mt', g1, gf, g2, g3⟩ := setAt_some _ _ _ _ hsa
    cases hr : mt.response with
    | none => simp [hr] at gf
    | some r =>
      simp only [hr] at gf
      obtain ⟨r', he, rfl⟩ := Option.map_eq_some_iff.mp gf
      exact ⟨_, _, mt, _, r, r', g1, by rw [g2], g3, ⟨hr, rfl⟩, he⟩

/-- only a service accepts a path that continues with `method m` -/
theorem editElem_method_inv (act : Act) (m : Nat) (rest : List PStep) (a a' : Elem)
    (h : editElem act (.method m :: rest) a = some a') :
    ∃ sv sv', a = .service sv ∧ a' = .service sv' ∧
      editService act (.method m :: rest) sv = some sv' := by
  cases a with
  | service sv =>
    simp only [editElem] at h
    obtain ⟨sv', hsv, rfl⟩ := Option.map_eq_some_iff.mp h
    exact ⟨sv, sv', rfl, rfl, hsv⟩
  | object ob => cases ob; simp [editElem, editDecl] at h
  | oneof ob => cases ob; simp [editElem, editDecl] at h
  | enum e => simp [editElem, editEnum] at h
  | topic t => simp [editElem, editTopic] at h
  | entity en => simp [editElem, editEntity] at h

/-- any action with the path `el i :: method m :: (req | res) :: rest` -/
theorem editElems_method_deep (act : Act) (i m : Nat) (rq : Bool) (rest : List PStep)
    (elems elems' : List Elem)
    (h : editElems act (.el i :: .method m :: reqStep rq :: rest) elems = some elems') :
    ∃ E1 E2 sv M1 M2 mt mt' r r', elems = E1 ++ [.service sv] ++ E2 ∧
      elems' = E1 ++ [.service { sv with methods := M1 ++ [mt'] ++ M2 }] ++ E2 ∧ E1.length = i ∧
      sv.methods = M1 ++ [mt] ++ M2 ∧ M1.length = m ∧ MethodRepl rq mt mt' r r' ∧
      editProps act rest r = some r' := by
  simp only [editElems] at h
  obtain ⟨a, a', h1, hf, h2, h3⟩ := setAt_some _ _ _ _ h
  obtain ⟨sv, sv', rfl, rfl, hsv⟩ := editElem_method_inv act m _ a a' hf
  obtain ⟨M1, M2, mt, mt', r, r', g1, rfl, g3, g4, g5⟩ := editService_deep act m rq rest sv sv' hsv
  exact ⟨_, _, sv, M1, M2, mt, mt', r, r', h1, h2, h3, g1, g3, g4, g5⟩

/-! ### the service item -/

theorem serviceItem_msgs {R : MsgSkel → MsgSkel → Prop} (hR : ∀ m, R m m) (c : Ctx) (sv : Service)
    (M1 M2 : List Method) (mt mt' : Method) (rq : Bool) (r r' : List Property)
    (hm : sv.methods = M1 ++ [mt] ++ M2) (hx : MethodRepl rq mt mt' r r')
    (hd : ∀ q, mt.request = some q → R (declMsg c [] false [] (methodObjName rq mt) r [] none)
      (declMsg c [] false [] (methodObjName rq mt) r' [] none)) :
    MsgsRel R (itemMsgs c (.serviceFile [sv]))
      (itemMsgs c (.serviceFile [{ sv with methods := M1 ++ [mt'] ++ M2 }])) := by
  rw [itemMsgs_serviceFile, itemMsgs_serviceFile]
  simp only [List.flatMap_cons, List.flatMap_nil, List.append_nil, hm, List.flatMap_append]
  exact MsgsRel.append3 hR _ _ _ _ (methodMsgs_repl hR c rq mt mt' r r' hx hd)

theorem serviceItem_svcs_deep (c : Ctx) (sv : Service) (M1 M2 : List Method) (mt mt' : Method) (rq : Bool)
    (r r' : List Property) (hm : sv.methods = M1 ++ [mt] ++ M2)
    (hx : MethodRepl rq mt mt' r r') :
    itemSvcs c (.serviceFile [sv]) =
      itemSvcs c (.serviceFile [{ sv with methods := M1 ++ [mt'] ++ M2 }]) := by
  rw [itemSvcs_serviceFile, itemSvcs_serviceFile]
  simp only [List.flatMap_cons, List.flatMap_nil, List.append_nil, serviceSvcs]
  have : builtMethods c { sv with methods := M1 ++ [mt'] ++ M2 } = builtMethods c sv := by
    rw [builtMethods_flatMap, builtMethods_flatMap, hm]
    simp only [List.flatMap_append, List.flatMap_cons, List.flatMap_nil, List.append_nil,
      methodBuilt_repl c sv.basePath rq mt mt' r r' hx]
  rw [this]

/-! ## topic messages -/

/-- the message with one more property -/
def TopicMsg.ext (tm : TopicMsg) (prop : Property) : TopicMsg := { tm with props := tm.props ++ [prop] }

theorem topicObjects_eq (t : Topic) : topicObjects t = (topicNodes t).flatMap nodeObjs := rfl

theorem topicMethodName_msg_ext (tn : TopicNode) (tm : TopicMsg) (prop : Property) :
    topicMethodName tn (tm.ext prop) = topicMethodName tn tm := rfl

/-- node `tn'` is `tn` with the properties of one of its messages replaced by `ps'` -/
def NodeRepl (tn tn' : TopicNode) (T1 T2 : List TopicMsg) (tm : TopicMsg) (ps' : List Property) : Prop :=
  tn.msgs = T1 ++ [tm] ++ T2 ∧ tn' = { tn with msgs := T1 ++ [{ tm with props := ps' }] ++ T2 }

theorem topicMethodName_repl (tn tn' : TopicNode) (T1 T2 : List TopicMsg) (tm : TopicMsg)
    (ps' : List Property) (h : NodeRepl tn tn' T1 T2 tm ps') (m : TopicMsg) :
    topicMethodName tn' m = topicMethodName tn m := by
  obtain ⟨h1, rfl⟩ := h
  simp [topicMethodName, h1]

theorem topicMethodName_msg_repl (tn : TopicNode) (tm : TopicMsg) (ps' : List Property) :
    topicMethodName tn { tm with props := ps' } = topicMethodName tn tm := rfl

theorem topicSvc_repl (tn tn' : TopicNode) (T1 T2 : List TopicMsg) (tm : TopicMsg)
    (ps' : List Property) (h : NodeRepl tn tn' T1 T2 tm ps') : topicSvc tn' = topicSvc tn := by
  have hn := topicMethodName_repl tn tn' T1 T2 tm ps' h
  obtain ⟨h1, rfl⟩ := h
  simp only [topicSvc, h1, List.filterMap_append, List.filterMap_cons, List.filterMap_nil] at hn ⊢
  simp only [hn, topicMethodName_msg_repl]

/-- the messages of a topic node: the one of the edited message changes as `hd` says -/
theorem topicMsgs_repl {R : MsgSkel → MsgSkel → Prop} (hR : ∀ m, R m m) (c : Ctx) (tn tn' : TopicNode)
    (T1 T2 : List TopicMsg) (tm : TopicMsg) (ps' : List Property) (h : NodeRepl tn tn' T1 T2 tm ps')
    (hd : ∀ n, topicMethodName tn tm = some n →
      R (declMsg c [] false tn.prepend (n ++ b!"Message") tm.props [] none)
        (declMsg c [] false tn.prepend (n ++ b!"Message") ps' [] none)) :
    MsgsRel R (topicMsgs c tn) (topicMsgs c tn') := by
  have hn := topicMethodName_repl tn tn' T1 T2 tm ps' h
  obtain ⟨h1, rfl⟩ := h
  simp only [topicMsgs, h1, List.filterMap_append, List.filterMap_cons, List.filterMap_nil, hn,
    topicMethodName_msg_repl]
  apply MsgsRel.append3 hR
  cases hnm : topicMethodName tn tm with
  | none => exact MsgsRel.refl hR _
  | some n =>
    intro x hx
    simp only [Option.map_some, List.mem_singleton] at hx
    subst hx
    exact ⟨_, by simp, hd n hnm⟩

theorem nodeObjs_repl (tn tn' : TopicNode) (T1 T2 : List TopicMsg) (tm : TopicMsg)
    (ps' : List Property) (h : NodeRepl tn tn' T1 T2 tm ps') :
    (nodeObjs tn' = nodeObjs tn) ∨
    ∃ X Y, nodeObjs tn = X ++ [(topicObjName tn tm, tn.prepend ++ tm.props)] ++ Y ∧
      nodeObjs tn' = X ++ [(topicObjName tn tm, tn.prepend ++ ps')] ++ Y := by
  have hn := topicMethodName_repl tn tn' T1 T2 tm ps' h
  obtain ⟨h1, rfl⟩ := h
  cases hnm : topicMethodName tn tm with
  | none =>
    left
    simp only [nodeObjs, h1, List.filterMap_append, List.filterMap_cons, List.filterMap_nil, hn,
      topicMethodName_msg_repl, hnm, Option.map_none]
  | some n =>
    right
    refine ⟨T1.filterMap (fun m => (topicMethodName tn m).map fun n => (n ++ b!"Message", tn.prepend ++ m.props)),
      T2.filterMap (fun m => (topicMethodName tn m).map fun n => (n ++ b!"Message", tn.prepend ++ m.props)), ?_, ?_⟩
    · simp only [nodeObjs, h1, List.filterMap_append, List.filterMap_cons, List.filterMap_nil, hnm,
        Option.map_some, topicObjName, Option.getD_some]
    · simp only [nodeObjs, List.filterMap_append, List.filterMap_cons, List.filterMap_nil, hn,
        topicMethodName_msg_repl, hnm, Option.map_some, topicObjName, Option.getD_some]

theorem editMsgs_deep (act : Act) (m : Nat) (rest : List PStep) (msgs ms : List TopicMsg)
    (h : editMsgs act m rest msgs = some ms) :
    ∃ T1 T2 tm ps', msgs = T1 ++ [tm] ++ T2 ∧ ms = T1 ++ [{ tm with props := ps' }] ++ T2 ∧
      editProps act rest tm.props = some ps' := by
  unfold editMsgs at h
  obtain ⟨tm, tm', g1, gf, g2, _⟩ := setAt_some _ _ _ _ h
  obtain ⟨ps', he, rfl⟩ := Option.map_eq_some_iff.mp gf
  exact ⟨_, _, tm, ps', g1, g2, he⟩

/-- the single message of an `upsert` / `event` topic -/
theorem editMsgs_single (act : Act) (rest : List PStep) (msg : TopicMsg) (ms : List TopicMsg)
    (h : editMsgs act 0 rest [msg] = some ms) :
    ∃ ps', ms = [{ msg with props := ps' }] ∧ editProps act rest msg.props = some ps' := by
  simp only [editMsgs, setAt, List.getElem?_cons_zero, List.set_cons_zero] at h
  obtain ⟨tm', hx, rfl⟩ := Option.map_eq_some_iff.mp h
  obtain ⟨ps', he, rfl⟩ := Option.map_eq_some_iff.mp hx
  exact ⟨ps', rfl, he⟩

/-- An edit below a topic message (`msg m`, `reqm m`, `repm m`, then `rest`): the step picks a node
of the topic and `m` the message in it; `topicNodes` of the edited topic differs in that message's
properties only (an upsert node renames its message, which commutes with the edit). -/
theorem editTopic_deep (act : Act) (k m : Nat) (rest : List PStep) (t t' : Topic)
    (h : editTopic act (topicStep k m :: rest) t = some t') :
    ∃ N1 N2 tn tn' T1 T2 tm ps', topicNodes t = N1 ++ [tn] ++ N2 ∧ topicNodes t' = N1 ++ [tn'] ++ N2 ∧
      NodeRepl tn tn' T1 T2 tm ps' ∧ editProps act rest tm.props = some ps' := by
  -- a topic type with a message list: the node at `N1`, `N2` holds that list
  have list : ∀ (msgs ms : List TopicMsg) (N1 N2 : List TopicNode) (tn : TopicNode),
      topicNodes t = N1 ++ [tn] ++ N2 → tn.msgs = msgs → editMsgs act m rest msgs = some ms →
      topicNodes t' = N1 ++ [{ tn with msgs := ms }] ++ N2 →
      ∃ N1 N2 tn tn' T1 T2 tm ps', topicNodes t = N1 ++ [tn] ++ N2 ∧ topicNodes t' = N1 ++ [tn'] ++ N2 ∧
        NodeRepl tn tn' T1 T2 tm ps' ∧ editProps act rest tm.props = some ps' := by
    intro msgs ms N1 N2 tn h1 hm hms h2
    obtain ⟨T1, T2, tm, ps', g1, g2, g3⟩ := editMsgs_deep act m rest msgs ms hms
    exact ⟨N1, N2, tn, _, T1, T2, tm, ps', h1, by rw [h2, g2], ⟨hm.trans g1, rfl⟩, g3⟩
  match k with
  | 0 =>
    simp only [topicStep, editTopic] at h
    cases ht : t.type with
    | publish msgs =>
      simp only [ht] at h
      obtain ⟨ms, hms, rfl⟩ := Option.map_eq_some_iff.mp h
      exact list msgs ms [] [] _ (by rw [topicNodes, ht]; rfl) rfl hms (by rw [topicNodes]; rfl)
    | reqres reqs reps => simp [ht] at h
    | upsert en msg =>
      simp only [ht] at h
      by_cases hm : m = 0
      · simp only [hm, if_true] at h
        obtain ⟨ms, hms, hh⟩ := Option.bind_eq_some_iff.mp h
        obtain ⟨ps', rfl, g3⟩ := editMsgs_single act rest msg ms hms
        simp only [List.head?_cons, Option.map_some, Option.some.injEq] at hh
        subst hh
        refine ⟨[], [], ?tn, ?tn', [], [], ?tm, ps', ?h1, ?h2, ?h3, ?h4⟩
        case h1 => rw [topicNodes, ht]; rfl
        case h2 => rw [topicNodes]; rfl
        case h3 => exact ⟨by rfl, by rfl⟩
        case h4 => exact g3
      · simp [hm] at h
    | event en msg =>
      simp only [ht] at h
      by_cases hm : m = 0
      · simp only [hm, if_true] at h
        obtain ⟨ms, hms, hh⟩ := Option.bind_eq_some_iff.mp h
        obtain ⟨ps', rfl, g3⟩ := editMsgs_single act rest msg ms hms
        simp only [List.head?_cons, Option.map_some, Option.some.injEq] at hh
        subst hh
        refine ⟨[], [], ?en, ?en', [], [], ?em, ps', ?e1, ?e2, ?e3, ?e4⟩
        case e1 => rw [topicNodes, ht]; rfl
        case e2 => rw [topicNodes]; rfl
        case e3 => exact ⟨by rfl, by rfl⟩
        case e4 => exact g3
      · simp [hm] at h
  | 1 =>
    simp only [topicStep, editTopic] at h
    cases ht : t.type with
    | reqres reqs reps =>
      simp only [ht] at h
      obtain ⟨ms, hms, rfl⟩ := Option.map_eq_some_iff.mp h
      exact list reqs ms [] [_] _ (by rw [topicNodes, ht]; rfl) rfl hms (by rw [topicNodes]; rfl)
    | publish msgs => simp [ht] at h
    | upsert en msg => simp [ht] at h
    | event en msg => simp [ht] at h
  | k + 2 =>
    simp only [topicStep, editTopic] at h
    cases ht : t.type with
    | reqres reqs reps =>
      simp only [ht] at h
      obtain ⟨ms, hms, rfl⟩ := Option.map_eq_some_iff.mp h
      exact list reps ms [_] [] _ (by rw [topicNodes, ht]; rfl) rfl hms (by rw [topicNodes]; rfl)
    | publish msgs => simp [ht] at h
    | upsert en msg => simp [ht] at h
    | event en msg => simp [ht] at h

/-- only a topic accepts a path that continues with `msg m` / `reqm m` / `repm m` -/
theorem editElem_topicStep_inv (act : Act) (k m : Nat) (rest : List PStep) (a a' : Elem)
    (h : editElem act (topicStep k m :: rest) a = some a') :
    ∃ t t', a = .topic t ∧ a' = .topic t' ∧ editTopic act (topicStep k m :: rest) t = some t' := by
  have hk : topicStep k m = .msg m ∨ topicStep k m = .reqm m ∨ topicStep k m = .repm m := by
    match k with
    | 0 => exact Or.inl rfl
    | 1 => exact Or.inr (Or.inl rfl)
    | _ + 2 => exact Or.inr (Or.inr rfl)
  cases a with
  | topic t =>
    simp only [editElem] at h
    obtain ⟨t', ht, rfl⟩ := Option.map_eq_some_iff.mp h
    exact ⟨t, t', rfl, rfl, ht⟩
  | object ob => cases ob; rcases hk with hk | hk | hk <;> simp [hk, editElem, editDecl] at h
  | oneof ob => cases ob; rcases hk with hk | hk | hk <;> simp [hk, editElem, editDecl] at h
  | enum e => simp [editElem, editEnum] at h
  | service sv => rcases hk with hk | hk | hk <;> simp [hk, editElem, editService] at h
  | entity en => rcases hk with hk | hk | hk <;> simp [hk, editElem, editEntity] at h

/-- any action with the path `el i :: (msg m | reqm m | repm m) :: rest` -/
theorem editElems_topic_deep (act : Act) (i k m : Nat) (rest : List PStep)
    (elems elems' : List Elem)
    (h : editElems act (.el i :: topicStep k m :: rest) elems = some elems') :
    ∃ E1 E2 t t', elems = E1 ++ [.topic t] ++ E2 ∧ elems' = E1 ++ [.topic t'] ++ E2 ∧ E1.length = i ∧
      editTopic act (topicStep k m :: rest) t = some t' := by
  simp only [editElems] at h
  obtain ⟨a, a', h1, hf, h2, h3⟩ := setAt_some _ _ _ _ h
  obtain ⟨t, t', rfl, rfl, ht⟩ := editElem_topicStep_inv act k m rest a a' hf
  exact ⟨_, _, t, t', h1, h2, h3, ht⟩

theorem topicItem_msgs {R : MsgSkel → MsgSkel → Prop} (hR : ∀ m, R m m) (c : Ctx) (t t' : Topic)
    (N1 N2 : List TopicNode) (tn tn' : TopicNode) (T1 T2 : List TopicMsg) (tm : TopicMsg)
    (ps' : List Property)
    (h1 : topicNodes t = N1 ++ [tn] ++ N2) (h2 : topicNodes t' = N1 ++ [tn'] ++ N2)
    (hx : NodeRepl tn tn' T1 T2 tm ps')
    (hd : ∀ n, topicMethodName tn tm = some n →
      R (declMsg c [] false tn.prepend (n ++ b!"Message") tm.props [] none)
        (declMsg c [] false tn.prepend (n ++ b!"Message") ps' [] none)) :
    MsgsRel R (itemMsgs c (.topicFile [t])) (itemMsgs c (.topicFile [t'])) := by
  rw [itemMsgs_topicFile, itemMsgs_topicFile]
  simp only [List.flatMap_cons, List.flatMap_nil, List.append_nil, h1, h2, List.flatMap_append]
  exact MsgsRel.append3 hR _ _ _ _ (topicMsgs_repl hR c tn tn' T1 T2 tm ps' hx hd)

theorem topicItem_svcs_deep (c : Ctx) (t t' : Topic) (N1 N2 : List TopicNode) (tn tn' : TopicNode)
    (T1 T2 : List TopicMsg) (tm : TopicMsg) (ps' : List Property)
    (h1 : topicNodes t = N1 ++ [tn] ++ N2) (h2 : topicNodes t' = N1 ++ [tn'] ++ N2)
    (hx : NodeRepl tn tn' T1 T2 tm ps') :
    itemSvcs c (.topicFile [t]) = itemSvcs c (.topicFile [t']) := by
  rw [itemSvcs_topicFile, itemSvcs_topicFile]
  simp only [List.flatMap_cons, List.flatMap_nil, List.append_nil, h1, h2, List.map_append,
    List.map_cons, List.map_nil, topicSvc_repl tn tn' T1 T2 tm ps' hx]

end J5V.Compile
