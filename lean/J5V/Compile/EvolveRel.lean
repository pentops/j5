import J5V.Compile.Package
import J5V.Compile.Edit
/-!
# The relations between two compiles under append edits (C13) — definitions only

What "nothing that was generated before moves or changes" means for the generated files: a
declaration appended (`FileSkel.Le`: every list a prefix), a field / option appended at a container's
own list (`FileSkel.LeEdit`: messages found again by name, nested types kept) or at any depth
(`FileSkel.LeDeep`), any of these (`FileSkel.LeAny`).
-/
namespace J5V.Compile

/-- `f'` extends `f`: same name and package, old content is a prefix -/
def FileB.Le (f f' : FileB) : Prop :=
  f'.name = f.name ∧ f'.pkg = f.pkg ∧ f.msgs <+: f'.msgs ∧ f.enums <+: f'.enums ∧ f.svcs <+: f'.svcs

/-- `r'` extends `r`: the main file and every sub-package file of `r` are extended in `r'` -/
def Root.Le (r r' : Root) : Prop :=
  r.main.Le r'.main ∧ ∀ kf ∈ r.subs, ∃ kf' ∈ r'.subs, kf'.1 = kf.1 ∧ kf.2.Le kf'.2

/-- extension relation between generated files -/
def FileSkel.Le (f f' : FileSkel) : Prop :=
  f'.name = f.name ∧ f'.pkg = f.pkg ∧ f.msgs <+: f'.msgs ∧ f.enums <+: f'.enums ∧ f.svcs <+: f'.svcs

/-- a message grows: same name / kind / annotation, the fields a prefix, nested types kept -/
def MsgSkel.Le1 (m m' : MsgSkel) : Prop :=
  m'.name = m.name ∧ m'.kind = m.kind ∧ m'.psm = m.psm ∧ m.fields <+: m'.fields ∧
    (∀ x ∈ m.msgs, x ∈ m'.msgs) ∧ (∀ e ∈ m.enums, e ∈ m'.enums)

/-- every message is found again, grown at most -/
def MsgsLe (a b : List MsgSkel) : Prop := ∀ m ∈ a, ∃ m' ∈ b, m.Le1 m'

/-- every enum is found again, its values a prefix -/
def EnumsLe (a b : List EnumSkel) : Prop :=
  ∀ e ∈ a, ∃ e' ∈ b, e'.name = e.name ∧ e.values <+: e'.values

/-- a generated file after a field / option append inside one of its declarations: same name and
package, the same services, every message and enum found again with the old fields / values as a
prefix (what the harness looks up by name: field numbers, types, labels, enum numbers) -/
def FileSkel.LeEdit (f f' : FileSkel) : Prop :=
  f'.name = f.name ∧ f'.pkg = f.pkg ∧ f.svcs = f'.svcs ∧ MsgsLe f.msgs f'.msgs ∧
    EnumsLe f.enums f'.enums

/-- every message of `a` is found again in `b`, related by `R` (`MsgsLe` is `MsgsRel Le1`, `MsgsLeDeep`
is `MsgsRel LeDeep`) -/
def MsgsRel (R : MsgSkel → MsgSkel → Prop) (a b : List MsgSkel) : Prop := ∀ m ∈ a, ∃ m' ∈ b, R m m'

/-- `m'` is `m` grown by appends, looking at most `n` levels deep (`0`: equal) -/
def MsgLeN : Nat → MsgSkel → MsgSkel → Prop
  | 0, m, m' => m = m'
  | n + 1, m, m' =>
    m'.name = m.name ∧ m'.kind = m.kind ∧ m'.psm = m.psm ∧ m.fields <+: m'.fields ∧
      (∀ x ∈ m.msgs, ∃ x' ∈ m'.msgs, MsgLeN n x x') ∧ EnumsLe m.enums m'.enums

/-- a message grows by appends at any depth: same name / kind / annotation, the fields a prefix,
every nested message found again (grown at most, recursively), every nested enum found again with
its values a prefix -/
def MsgSkel.LeDeep (m m' : MsgSkel) : Prop := ∃ n, MsgLeN n m m'

/-- every message is found again, grown at most (at any depth) -/
def MsgsLeDeep (a b : List MsgSkel) : Prop := ∀ m ∈ a, ∃ m' ∈ b, m.LeDeep m'

/-- a generated file after an append edit at any depth inside one of its declarations: same name and
package, the same services, every message found again grown at most (recursively), every enum found
again with its values as a prefix -/
def FileSkel.LeDeep (f f' : FileSkel) : Prop :=
  f'.name = f.name ∧ f'.pkg = f.pkg ∧ f.svcs = f'.svcs ∧ MsgsLeDeep f.msgs f'.msgs ∧
    EnumsLe f.enums f'.enums

/-- the common relation of all append edits (fields, options, declarations, at any depth): same
name and package, the old services a prefix of the new ones, every message found again grown at
most, every enum found again with its values as a prefix -/
def FileSkel.LeAny (f f' : FileSkel) : Prop :=
  f'.name = f.name ∧ f'.pkg = f.pkg ∧ f.svcs <+: f'.svcs ∧ MsgsLeDeep f.msgs f'.msgs ∧
    EnumsLe f.enums f'.enums

/-- the relation lifted to the file lists of two compiles -/
def FilesLeAny (fs fs' : List FileSkel) : Prop := ∀ f ∈ fs, ∃ f' ∈ fs', f.LeAny f'

/-- every edit of the sequence is admissible (`Adm`) for the bundle it is applied to, and every
intermediate version compiles -/
def SeqOk (Adm : Bundle → Edit → Prop) (pkg : Str) : List Edit → Bundle → Prop
  | [], _ => True
  | e :: es, b => Adm b e ∧ ∀ b1, e.apply pkg b = some b1 →
      -- the last version is not asked to compile here: that it does is a hypothesis of the theorem
      (es ≠ [] → (compilePkg b1 pkg).isOk = true) ∧ SeqOk Adm pkg es b1

/-- results of a property list before / after an append somewhere below it -/
def PRsLe (r r' : PRs) : Prop :=
  r.flds <+: r'.flds ∧ MsgsLeDeep r.eff.msgs r'.eff.msgs ∧ (∀ e ∈ r.eff.enums, e ∈ r'.eff.enums) ∧
    (∀ m ∈ r.entries, m ∈ r'.entries)

/-- what a declaration adds to its parent, before / after -/
def DeclLe (e e' : Eff) : Prop := MsgsLeDeep e.msgs e'.msgs ∧ e'.enums = e.enums

/-- the export list gets one block inserted, no reference is lost -/
def ExpIns (N : List (Str × TKind)) (ex ex' : List (Str × TKind)) (rf rf' : List (Str × Str)) : Prop :=
  (∃ A C, ex = A ++ C ∧ ex' = A ++ N ++ C) ∧ ∀ r ∈ rf, r ∈ rf'

end J5V.Compile
