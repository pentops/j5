import J5V.Compile.Str
/-!
# `strings.Split` / `strings.Join` on one separator byte; prefixes and suffixes (core only)

`splitOnByte c` and `joinWith [c]` are inverse to each other between byte strings and non-empty
lists of parts free of `c`: `splitOnByte_ne_nil`, `splitOnByte_no_sep`, `joinWith_splitOnByte` one
way, `splitOnByte_joinWith` the other. `splitOnByte_append` cuts at any separator.
-/
namespace J5V.Compile

theorem splitOnByte_ne_nil (c : Nat) (s : Str) : splitOnByte c s ≠ [] := by
  cases s with
  | nil => exact List.cons_ne_nil _ _
  | cons v rest =>
    rw [splitOnByte]
    split
    · exact List.cons_ne_nil _ _
    · split <;> exact List.cons_ne_nil _ _

/-- one byte more in front opens a new part or joins the first one: the definition's arm for an
empty list of parts is dead, and no proof below meets it again -/
theorem splitOnByte_cons (c v : Nat) (rest : Str) :
    ∃ p ps, splitOnByte c rest = p :: ps ∧
      splitOnByte c (v :: rest) = if v = c then [] :: p :: ps else (v :: p) :: ps := by
  cases h : splitOnByte c rest with
  | nil => exact absurd h (splitOnByte_ne_nil c rest)
  | cons p ps => exact ⟨p, ps, rfl, by rw [splitOnByte, h]⟩

theorem splitOnByte_no_sep (c : Nat) (s : Str) : ∀ p ∈ splitOnByte c s, c ∉ p := by
  induction s with
  | nil => intro p hp; cases List.mem_singleton.mp hp; exact List.not_mem_nil
  | cons v rest ih =>
    obtain ⟨q, qs, h1, h2⟩ := splitOnByte_cons c v rest
    rw [h1] at ih
    rw [h2]
    by_cases hv : v = c
    · rw [if_pos hv]
      exact List.forall_mem_cons.mpr ⟨List.not_mem_nil, ih⟩
    · rw [if_neg hv]
      have ⟨hq, hqs⟩ := List.forall_mem_cons.mp ih
      exact List.forall_mem_cons.mpr ⟨fun hm => (List.mem_cons.mp hm).elim (fun e => hv e.symm) hq, hqs⟩

theorem joinWith_cons_cons (sep a b : Str) (rest : List Str) :
    joinWith sep (a :: b :: rest) = a ++ sep ++ joinWith sep (b :: rest) := rfl

/-- a byte in front of the first part stays in front of the joined string -/
theorem joinWith_cons_head (sep : Str) (v : Nat) (p : Str) (ps : List Str) :
    joinWith sep ((v :: p) :: ps) = v :: joinWith sep (p :: ps) := by
  cases ps <;> rfl

theorem joinWith_splitOnByte (c : Nat) (s : Str) : joinWith [c] (splitOnByte c s) = s := by
  induction s with
  | nil => rfl
  | cons v rest ih =>
    obtain ⟨q, qs, h1, h2⟩ := splitOnByte_cons c v rest
    rw [h1] at ih
    rw [h2]
    by_cases hv : v = c
    · rw [if_pos hv, joinWith_cons_cons, ih, hv]; rfl
    · rw [if_neg hv, joinWith_cons_head, ih]

theorem splitOnByte_append (c : Nat) (a b : Str) :
    splitOnByte c (a ++ c :: b) = splitOnByte c a ++ splitOnByte c b := by
  induction a with
  | nil =>
    obtain ⟨p, ps, h1, h2⟩ := splitOnByte_cons c c b
    rw [List.nil_append, h2, if_pos rfl, h1]; rfl
  | cons v vs ih =>
    obtain ⟨p, ps, h1, h2⟩ := splitOnByte_cons c v vs
    obtain ⟨p', ps', h1', h2'⟩ := splitOnByte_cons c v (vs ++ c :: b)
    rw [ih, h1, List.cons_append, List.cons.injEq] at h1'
    rw [List.cons_append, h2, h2', ← h1'.1, ← h1'.2]
    by_cases hv : v = c
    · rw [if_pos hv, if_pos hv]; rfl
    · rw [if_neg hv, if_neg hv]; rfl

theorem splitOnByte_of_not_mem (c : Nat) (a : Str) (ha : c ∉ a) : splitOnByte c a = [a] := by
  induction a with
  | nil => rfl
  | cons v vs ih =>
    obtain ⟨p, ps, h1, h2⟩ := splitOnByte_cons c v vs
    rw [ih fun h => ha (List.mem_cons_of_mem _ h), List.cons.injEq] at h1
    rw [h2, if_neg fun (h : v = c) => ha (h ▸ List.mem_cons_self), ← h1.1, ← h1.2]

theorem splitOnByte_append_sep (c : Nat) (a rest : Str) (ha : c ∉ a) :
    splitOnByte c (a ++ c :: rest) = a :: splitOnByte c rest := by
  rw [splitOnByte_append, splitOnByte_of_not_mem c a ha]; rfl

theorem splitOnByte_joinWith (c : Nat) (parts : List Str) (hne : parts ≠ [])
    (h : ∀ p ∈ parts, c ∉ p) : splitOnByte c (joinWith [c] parts) = parts := by
  induction parts with
  | nil => exact absurd rfl hne
  | cons a rest ih =>
    have ⟨ha, hrest⟩ := List.forall_mem_cons.mp h
    cases rest with
    | nil => exact splitOnByte_of_not_mem c a ha
    | cons b bs =>
      rw [joinWith_cons_cons, List.append_assoc, List.singleton_append, splitOnByte_append_sep c a _ ha,
        ih (List.cons_ne_nil _ _) hrest]

theorem joinWith_append (sep : Str) (a b : List Str) (ha : a ≠ []) (hb : b ≠ []) :
    joinWith sep (a ++ b) = joinWith sep a ++ sep ++ joinWith sep b := by
  induction a with
  | nil => exact absurd rfl ha
  | cons x rest ih =>
    cases rest with
    | nil =>
      cases b with
      | nil => exact absurd rfl hb
      | cons y b' => rfl
    | cons y rest' =>
      rw [List.cons_append, List.cons_append, joinWith_cons_cons, ← List.cons_append,
        ih (List.cons_ne_nil _ _), joinWith_cons_cons]
      simp only [List.append_assoc]

theorem hasPrefix_append (p s : Str) : hasPrefix p (p ++ s) = true := by
  unfold hasPrefix
  exact List.isPrefixOf_iff_prefix.mpr (List.prefix_append p s)

theorem hasSuffix_append (x suf : Str) : hasSuffix suf (x ++ suf) = true := by
  unfold hasSuffix
  exact List.isSuffixOf_iff_suffix.mpr (List.suffix_append x suf)

theorem getLast?_of_hasSuffix (suf l : Str) (h : hasSuffix suf l = true) (a : Nat)
    (ha : suf.getLast? = some a) : l.getLast? = some a := by
  unfold hasSuffix at h
  obtain ⟨t, rfl⟩ := List.isSuffixOf_iff_suffix.mp h
  rw [List.getLast?_append, ha]; rfl

theorem trimSuffix_append (p s : Str) : trimSuffix (p ++ s) s = p := by
  unfold trimSuffix
  have := hasSuffix_append p s
  unfold hasSuffix at this
  simp [this]

end J5V.Compile
