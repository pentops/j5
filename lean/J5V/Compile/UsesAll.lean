import J5V.Compile.FieldInv
import J5V.Compile.ExactProofs
/-!
# Every generated file imports the file of every extension it sets (core only)

`proto.SetExtension` on an option message makes the generated file *use* the file that defines the
extension; the link step (`markExtensionImportsUsed`) looks each of them up among the file's
imports. Here: in every file `ConvertJ5File` returns, each used file is the file itself or one of
its dependencies — for objects, oneofs, enums, services, topics and entities, any nesting depth,
any rules. (The import facts of extractor E5, as a theorem about the model.)

Side condition: a *plain* service declaration carries no `(j5.ext.v1.service)` annotation (the
parser never produces one; only entity expansion annotates services, and it always emits the query
service — which imports the annotation file — into the same sub-package file).
-/
namespace J5V.Compile
open J5V.Go

/-- a file under construction imports what it uses -/
def FileB.UsesOk (f : FileB) : Prop := ∀ u ∈ f.uses, u = f.name ∨ u ∈ f.deps

/-- the effect of a step imports what it uses -/
def EffClosed (e : Eff) : Prop := ∀ u ∈ e.uses, u ∈ e.imports

theorem FileB.usesOk_apply (f : FileB) (e : Eff) (svcs : List SvcSkel) (hf : f.UsesOk)
    (he : ∀ u ∈ e.uses, u ∈ e.imports ∨ u = f.name ∨ u ∈ f.deps) : (f.apply e svcs).UsesOk := by
  intro u hu
  simp only [FileB.apply, List.mem_append] at hu ⊢
  by_cases hown : u = f.name
  · exact Or.inl hown
  · right
    rw [mem_foldl_ensureImport]
    rcases hu with h | h
    · rcases hf u h with h1 | h1
      · exact absurd h1 hown
      · exact Or.inl h1
    · rcases he u h with h1 | h1 | h1
      · exact Or.inr ⟨h1, hown⟩
      · exact absurd h1 hown
      · exact Or.inl h1

theorem EffClosed.add {a b : Eff} (ha : EffClosed a) (hb : EffClosed b) : EffClosed (a ++ b) := by
  intro u hu
  simp only [Eff.add_def, Eff.add, List.mem_append] at hu ⊢
  rcases hu with h | h
  · exact Or.inl (ha u h)
  · exact Or.inr (hb u h)

theorem EffClosed.empty : EffClosed {} := by intro u hu; simp at hu

theorem effClosed_foldl {α : Type} (f : α → Eff) (l : List α) (init : Eff) (hi : EffClosed init)
    (h : ∀ a ∈ l, EffClosed (f a)) : EffClosed (l.foldl (fun e a => e ++ f a) init) := by
  rw [foldl_eff]
  intro u hu
  rcases List.mem_append.mp hu with hu | hu
  · exact List.mem_append_left _ (hi u hu)
  · obtain ⟨a, ha, hua⟩ := List.mem_flatMap.mp hu
    exact List.mem_append_right _ (List.mem_flatMap.mpr ⟨a, ha, h a ha u hua⟩)

theorem convVirtual_closed (c : Ctx) (name : Str) (virt props : List Property) (psm : Option Psm) :
    EffClosed (convVirtual c name virt props psm) := by
  unfold convVirtual
  exact convDecl_uses_imported c [] false virt _

theorem convVirtual_imports_ext (c : Ctx) (name : Str) (virt props : List Property) (psm : Option Psm) :
    j5ExtImport ∈ (convVirtual c name virt props psm).imports :=
  convDecl_imports_ext c [] false virt _

theorem walkMethod_closed (c : Ctx) (bp : Option Str) (m : Method) :
    EffClosed (walkMethod c bp m).eff := by
  unfold walkMethod
  cases m.request with
  | none => intro u hu; simp [Eff.panicked] at hu
  | some req =>
    simp only []
    cases m.response with
    | none => exact (convVirtual_closed c _ _ _ _).add EffClosed.empty
    | some res => exact (convVirtual_closed c _ _ _ _).add (convVirtual_closed c _ _ _ _)


theorem usesOk_foldl {α : Type} (f : α → Eff) (l : List α) (init : Eff) (hi : UsesOk init)
    (h : ∀ a ∈ l, UsesOk (f a)) : UsesOk (l.foldl (fun e a => e ++ f a) init) :=
  (UsesOk.inv ⟨fun _ _ => none⟩).foldl f l hi h

theorem uses_foldl_mem {α : Type} (f : α → Eff) (l : List α) (init : Eff) (u : Str)
    (hu : u ∈ (l.foldl (fun e a => e ++ f a) init).uses) :
    u ∈ init.uses ∨ ∃ a ∈ l, u ∈ (f a).uses := by
  rw [foldl_eff] at hu
  exact (List.mem_append.mp hu).imp_right List.mem_flatMap.mp

theorem convMethod_usesOk (node : Method × Str × Str × Str) : UsesOk (convMethod node).1 :=
  (UsesOk.inv ⟨fun _ _ => none⟩).convMethod node


/-- the uses of a service: imported by the service itself, except the service annotation, which
relies on some request object of the same file -/
theorem convService_uses (c : Ctx) (s : Service) :
    ∀ u ∈ (convService c s).eff.uses,
      u ∈ (convService c s).eff.imports ∨ (u = j5ExtImport ∧ s.sopt ≠ .none) := by
  have hwalk : EffClosed ((s.methods.map (walkMethod c s.basePath)).foldl (fun e w => e ++ w.eff) ({} : Eff)) :=
    effClosed_foldl (fun w : MethodWalk => w.eff) _ _ EffClosed.empty
      (by intro w hw; obtain ⟨m, _, rfl⟩ := List.mem_map.mp hw; exact walkMethod_closed c _ m)
  unfold convService
  cases hn : s.name with
  | none =>
    intro u hu
    exact Or.inl (hwalk u hu)
  | some name =>
    intro u hu
    simp only [Eff.uses_append, Eff.imports_append, List.mem_append] at hu ⊢
    rcases hu with ((hu | hu) | hu) | hu
    · exact Or.inl (Or.inl (Or.inl (Or.inl (hwalk u hu))))
    · -- an option of some rpc
      rcases uses_foldl_mem (fun b : Eff × Option MethodSkel => b.1) _ _ u hu with h0 | ⟨b, hb, hub⟩
      · simp at h0
      · obtain ⟨node, hnode, rfl⟩ := List.mem_map.mp hb
        rcases convMethod_usesOk node u hub with h1 | h1
        · exact Or.inl (Or.inl (Or.inl (Or.inr ((Eff.Part.foldl (fun b : Eff × Option MethodSkel => b.1) _ _ hb).imports u h1))))
        · -- the method annotation: the request object of that method imports the file
          subst h1
          obtain ⟨w, hw, hwn⟩ := List.mem_filterMap.mp hnode
          obtain ⟨m, hm, rfl⟩ := List.mem_map.mp hw
          have himp : j5ExtImport ∈ (walkMethod c s.basePath m).eff.imports := by
            unfold walkMethod at hwn ⊢
            cases hr : m.request with
            | none => simp [hr] at hwn
            | some req =>
              simp only [Eff.imports_append, List.mem_append]
              exact Or.inl (convVirtual_imports_ext c _ _ _ _)
          exact Or.inl (Or.inl (Or.inl (Or.inl ((Eff.Part.foldl (fun w : MethodWalk => w.eff) _ _ hw).imports _ himp))))
    · cases hu
    · by_cases hs : s.sopt = .none
      · simp [hs, Compile.when] at hu
      · simp only [hs, ne_eq, not_false_eq_true, decide_true, Compile.when, if_true, Eff.use,
          List.mem_singleton] at hu
        exact Or.inr ⟨hu, hs⟩

/-- uses of the steps of an item are imported by steps of the same item, except annotated services -/
theorem convItem_uses (c : Ctx) (i : Item) :
    ∀ u ∈ (convItem c i).flatMap (·.eff.uses),
      u ∈ (convItem c i).flatMap (·.eff.imports) ∨
        (u = j5ExtImport ∧ ∃ ss, i = .serviceFile ss ∧ ∃ s ∈ ss, s.sopt ≠ .none) := by
  intro u hu
  obtain ⟨st, hst, hus⟩ := List.mem_flatMap.mp hu
  -- the step itself imports `u`, but for an annotated service
  suffices u ∈ st.eff.imports ∨ (u = j5ExtImport ∧ ∃ ss, i = .serviceFile ss ∧ ∃ s ∈ ss, s.sopt ≠ .none) from
    this.imp_left fun h => List.mem_flatMap.mpr ⟨st, hst, h⟩
  cases mem_convItem.mp hst with
  | object o => exact Or.inl (convDecl_uses_imported c [] false [] o u hus)
  | oneof o => exact Or.inl (convDecl_uses_imported c [] true [] o u hus)
  | @service ss s hs =>
    exact (convService_uses c s u hus).imp_right fun ⟨h1, h2⟩ => ⟨h1, ss, rfl, s, hs, h2⟩
  | topicMsg => exact Or.inl (convVirtual_closed c _ _ _ _ u hus)
  | topicSvc =>
    have hu' : u = messagingAnnotationsImport := by simpa [topicSvcStep, Eff.use, Eff.imp, Eff.add] using hus
    subst hu'
    exact Or.inl (by simp [topicSvcStep, Eff.use, Eff.imp, Eff.add])
  | _ => cases hus

/-- the query service of an entity imports `j5/ext/v1/annotations.proto` (request object of Get) -/
theorem queryService_imports_ext (c : Ctx) (pkg : Str) (e : Entity) :
    j5ExtImport ∈ (convItem c (.serviceFile [Entity.queryService pkg e])).flatMap (·.eff.imports) := by
  refine List.mem_flatMap.mpr ⟨convService c (Entity.queryService pkg e), by simp [convItem, convServiceFile], ?_⟩
  have hw : j5ExtImport ∈ (walkMethod c (Entity.queryService pkg e).basePath (Entity.getMethod e)).eff.imports := by
    unfold walkMethod
    simp only [Entity.getMethod, Eff.imports_append, List.mem_append]
    exact Or.inl (convVirtual_imports_ext c _ _ _ _)
  have hm : walkMethod c (Entity.queryService pkg e).basePath (Entity.getMethod e) ∈
      (Entity.queryService pkg e).methods.map (walkMethod c (Entity.queryService pkg e).basePath) :=
    List.mem_map_of_mem (by simp [Entity.queryService])
  have := (Eff.Part.foldl (fun w : MethodWalk => w.eff) _ ({} : Eff) hm).imports _ hw
  unfold convService
  simp only [Entity.queryService] at this ⊢
  simp only [Eff.imports_append, List.mem_append]
  exact Or.inl (Or.inl (Or.inl this))

/-- annotated services only come from entities, next to the entity's query service -/
theorem annotated_has_query (pkg : Str) (elems : List Elem)
    (hplain : ∀ s, Elem.service s ∈ elems → s.sopt = .none) (ss : List Service)
    (hi : Item.serviceFile ss ∈ elems.flatMap (itemsOfElem pkg)) (s : Service) (hs : s ∈ ss)
    (hann : s.sopt ≠ .none) :
    ∃ e, Item.serviceFile [Entity.queryService pkg e] ∈ elems.flatMap (itemsOfElem pkg) := by
  obtain ⟨el, hel, hiel⟩ := List.mem_flatMap.mp hi
  cases el with
  | object o => simp [itemsOfElem] at hiel
  | oneof o => simp [itemsOfElem] at hiel
  | enum e => simp [itemsOfElem] at hiel
  | topic t => simp [itemsOfElem] at hiel
  | service s' =>
    simp only [itemsOfElem, List.mem_singleton, Item.serviceFile.injEq] at hiel
    subst hiel
    simp only [List.mem_singleton] at hs
    subst hs
    exact absurd (hplain _ hel) hann
  | entity e =>
    refine ⟨e, List.mem_flatMap.mpr ⟨.entity e, hel, ?_⟩⟩
    simp [itemsOfElem, Entity.expand]

theorem targetFile_usesOk (c : Ctx) (name pkg : Str) (t : Target) (items : List Item)
    (hann : ∀ ss, Item.serviceFile ss ∈ items → ∀ s ∈ ss, s.sopt ≠ .none →
      ∃ i ∈ items, i.target = .service ∧ j5ExtImport ∈ (convItem c i).flatMap (·.eff.imports)) :
    (targetFile c name pkg t items).UsesOk := by
  intro u hu
  by_cases hown : u = (targetFile c name pkg t items).name
  · exact Or.inl hown
  right
  rw [targetFile_uses] at hu
  refine mem_targetFile_deps.mpr ⟨?_, hown⟩
  obtain ⟨i, hi, hui⟩ := List.mem_flatMap.mp hu
  obtain ⟨himem, hit⟩ := List.mem_filter.mp hi
  have hit : i.target = t := of_decide_eq_true hit
  rcases convItem_uses c i u hui with h | ⟨h1, ss, rfl, s, hs, hsn⟩
  · exact ⟨i, himem, hit, h⟩
  · obtain ⟨j, hj, hjt, hjimp⟩ := hann ss himem s hs hsn
    exact ⟨j, hj, hjt.trans hit, h1 ▸ hjimp⟩

/-- **every file `ConvertJ5File` returns imports the file of every extension it sets** -/
theorem convertFile_uses_imported (res : Resolver) (path : Str) (imports : List Import)
    (elems : List Elem) (fs : List FileSkel) (h : convertFile res path imports elems = .ok fs)
    (hplain : ∀ s, Elem.service s ∈ elems → s.sopt = .none) :
    ∀ f ∈ fs, ∀ u ∈ f.uses, u = f.name ∨ u ∈ f.deps := by
  obtain ⟨im, hj, hmem⟩ := convertFile_mem res path imports elems fs h
  intro f hf
  obtain ⟨t, _, rfl⟩ := (hmem f).mp hf
  refine targetFile_usesOk _ _ _ t _ fun ss hi s hs hsn => ?_
  obtain ⟨e, he⟩ := annotated_has_query _ elems hplain ss hi s hs hsn
  exact ⟨_, he, rfl, queryService_imports_ext _ _ e⟩

end J5V.Compile
