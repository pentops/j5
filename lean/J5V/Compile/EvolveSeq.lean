import J5V.Compile.EvolveAdm
import J5V.Compile.EvolveRel
/-!
# Sequences of edits (C13) — core only

A relation on file lists that is a preorder and holds for every admissible single edit holds from the
first to the last version of any edit list (`seq_rel`); the side conditions of `Admissible` for the
one package and file an edit can hit.
-/
namespace J5V.Compile

/-- induction over the edit list: a relation that is a preorder and holds for every admissible
single edit holds from the first to the last version -/
theorem seq_rel (R : List FileSkel → List FileSkel → Prop) (hrefl : ∀ x, R x x)
    (htrans : ∀ x y z, R x y → R y z → R x z) (Adm : Bundle → Edit → Prop) (pkg : Str)
    (step : ∀ b e b' fs fs', Adm b e → e.apply pkg b = some b' → compilePkg b pkg = .ok fs →
      compilePkg b' pkg = .ok fs' → R fs fs') :
    ∀ (es : List Edit) (b b' : Bundle) (fs fs' : List FileSkel), SeqOk Adm pkg es b →
      applyEdits pkg es b = some b' → compilePkg b pkg = .ok fs → compilePkg b' pkg = .ok fs' →
      R fs fs' := by
  intro es
  induction es with
  | nil =>
    intro b b' fs fs' _ happ h h'
    simp only [applyEdits, Option.some.injEq] at happ
    subst happ
    rw [h] at h'
    cases h'
    exact hrefl fs
  | cons e es ih =>
    intro b b' fs fs' hok happ h h'
    simp only [applyEdits] at happ
    cases he : e.apply pkg b with
    | none => simp [he] at happ
    | some b1 =>
      simp only [he, Option.bind_some] at happ
      obtain ⟨hadm, hrest⟩ := hok
      obtain ⟨hmid, hseq⟩ := hrest b1 he
      cases es with
      | nil =>
        simp only [applyEdits, Option.some.injEq] at happ
        subst happ
        exact step b e b1 fs fs' hadm he h h'
      | cons e2 es2 =>
        have hc := hmid (by simp)
        cases hc1 : compilePkg b1 pkg with
        | err t => simp [hc1, Go.Outcome.isOk] at hc
        | panic w => simp [hc1, Go.Outcome.isOk] at hc
        | ok fs1 =>
          exact htrans fs fs1 fs' (step b e b1 fs fs1 hadm he h hc1)
            (ih b1 b' fs1 fs' hseq happ hc1 h')

/-! ## admissibility for the one file an edit can hit

The side conditions of `Admissible` quantify over every package and file the edit might find; there is
at most one. -/

theorem Admissible.decl_of {pkg : Str} {b : Bundle} {p : Pkg} {fi : Nat} {path : Str}
    {imports : List Import} {elems : List Elem} {decl : Str} {el : Elem} (hf : b.find pkg = some p)
    (hget : p.files[fi]? = some (.j5s path imports elems decl))
    (h : ∀ n ∈ newExportNames path el, n ∉ pkgExportNames p) : Admissible pkg b (.appendDecl fi el) := by
  apply Admissible.decl
  intro p' path' imports' elems' decl' hf' hget' n hn
  obtain rfl : p = p' := Option.some.inj (hf.symm.trans hf')
  obtain ⟨rfl, _, _, _⟩ := SrcFile.j5s.inj (Option.some.inj (hget.symm.trans hget'))
  exact h n hn

theorem Admissible.field_of {pkg : Str} {b : Bundle} {p : Pkg} {fi i : Nat} {path : Str}
    {imports : List Import} {elems : List Elem} {decl : Str} {io : Bool} {n : Str} {ps : List Property}
    {ne : List Nested} {psm : Option Psm} {prop : Property} (hf : b.find pkg = some p)
    (hget : p.files[fi]? = some (.j5s path imports elems decl))
    (hel : elems[i]? = some (declElem io (.mk n ps ne psm)))
    (h : ∀ x ∈ newFieldExportNames n prop, x ∉ pkgExportNames p) :
    Admissible pkg b (.appendField fi [.el i] prop) := by
  apply Admissible.field
  intro p' path' imports' E1 E2 io' n' ps' ne' psm' decl' hf' hget' hlen x hx
  obtain rfl : p = p' := Option.some.inj (hf.symm.trans hf')
  obtain ⟨_, _, rfl, _⟩ := SrcFile.j5s.inj (Option.some.inj (hget.symm.trans hget'))
  rw [List.append_assoc, List.getElem?_append_right (by omega), hlen, Nat.sub_self] at hel
  have hd : declElem io' (.mk n' ps' ne' psm') = declElem io (.mk n ps ne psm) := by simpa using hel
  obtain rfl : n' = n := by
    cases io <;> cases io' <;> simp [declElem] at hd <;> exact hd.1
  exact h x hx

end J5V.Compile
