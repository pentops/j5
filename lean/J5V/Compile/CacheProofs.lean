import J5V.Compile.PackageSet
import J5V.Compile.LoadProofs
import J5V.Compile.MapProofs
/-!
# The package cache is transparent (C14: call order, fresh vs reused `PackageSet`) — core only

For a bundle whose package dependency graph is acyclic (a rank function decreasing along
dependencies — every valid bundle has one), `loadPackage` with the cache (`loadPkgS`) returns
exactly what the cache-free `loadPkg` returns, whatever was loaded before; hence every
`CompilePackage` call in any sequence on one `PackageSet` gives the result a fresh set gives.
`hF`: the rank stays below the fuel of `compilePkg`; the longest dependency chain below a package is such a rank.
-/
namespace J5V.Compile
open J5V.Go

/-- every cache entry is what the cache-free loader returns, for any admissible fuel / chain -/
def CacheInv (b : Bundle) (r : Str → Nat) (ps : PSet) : Prop :=
  ∀ nl ∈ ps, ∀ (f : Nat) (chain : List Str), r nl.1 < f → (∀ c ∈ chain, r nl.1 < r c) →
    loadPkg b f chain nl.1 = .ok nl.2

theorem PSet.get_mem (ps : PSet) (n : Str) (l : Loaded) (h : ps.get n = some l) : (n, l) ∈ ps :=
  find?_fst_mem h

theorem cacheInv_append (b : Bundle) (r : Str → Nat) (ps : PSet) (n : Str) (l : Loaded)
    (h : CacheInv b r ps)
    (hn : ∀ (f : Nat) (chain : List Str), r n < f → (∀ c ∈ chain, r n < r c) →
      loadPkg b f chain n = .ok l) : CacheInv b r (ps ++ [(n, l)]) := by
  intro nl hnl
  rcases List.mem_append.mp hnl with h1 | h1
  · exact h nl h1
  · simp only [List.mem_singleton] at h1
    subst h1
    exact hn

/-- the dependency loop with the cache agrees with the one without, and keeps the invariant -/
theorem seqLoadS_agree (b : Bundle) (r : Str → Nat)
    (loadS : Str → PSet → PSet × Outcome Loaded) (load : Str → Outcome Loaded) (ds : List Str)
    (hstep : ∀ d ∈ ds, ∀ ps, CacheInv b r ps →
      (loadS d ps).2 = load d ∧ CacheInv b r (loadS d ps).1) :
    ∀ ps, CacheInv b r ps →
      (seqLoadS loadS ds ps).2 = seqLoad load ds ∧ CacheInv b r (seqLoadS loadS ds ps).1 := by
  induction ds with
  | nil => intro ps h; exact ⟨rfl, h⟩
  | cons d rest ih =>
    intro ps h
    obtain ⟨h1, h2⟩ := hstep d (by simp) ps h
    rw [seqLoadS, seqLoad, ← h1]
    cases hl : loadS d ps with
    | mk ps1 o =>
      rw [hl] at h2
      cases o with
      | err t => exact ⟨rfl, h2⟩
      | panic w => exact ⟨rfl, h2⟩
      | ok l =>
        simp only []
        obtain ⟨h3, h4⟩ := ih (fun x hx => hstep x (List.mem_cons_of_mem _ hx)) ps1 h2
        rw [← h3]
        cases hr : seqLoadS loadS rest ps1 with
        | mk ps2 o2 =>
          rw [hr] at h4
          cases o2 <;> exact ⟨rfl, h4⟩

/-- **the cache is transparent**: with a consistent cache, `loadPackage` returns what the
cache-free loader returns and leaves a consistent cache -/
theorem loadPkgS_agree (b : Bundle) (r : Str → Nat) (hr : rankOk b r = true) :
    ∀ (f : Nat) (chain : List Str) (n : Str) (ps : PSet), CacheInv b r ps → r n < f →
      (∀ c ∈ chain, r n < r c) →
      (loadPkgS b f chain n ps).2 = loadPkg b f chain n ∧
        CacheInv b r (loadPkgS b f chain n ps).1 := by
  intro f
  induction f with
  | zero => intro chain n ps _ h; omega
  | succ k ih =>
    intro chain n ps hinv hf hc
    have hnc : chain.contains n = false := not_on_chain hc
    rw [loadPkgS]
    simp only [hnc, Bool.false_eq_true, if_false]
    cases hget : ps.get n with
    | some l =>
      simp only []
      refine ⟨?_, hinv⟩
      exact (hinv (n, l) (PSet.get_mem ps n l hget) (k + 1) chain hf hc).symm
    | none =>
      simp only []
      have hfree : ∀ (f' : Nat) (chain' : List Str), r n < f' → (∀ c ∈ chain', r n < r c) →
          loadPkg b f' chain' n = loadPkg b (k + 1) chain n :=
        fun f' chain' hf' hc' => loadPkg_indep b r hr f' (k + 1) chain' chain n hf' hf hc' hc
      rw [loadPkg_succ, hnc]
      simp only [Bool.false_eq_true, if_false]
      cases hfind : b.find n with
      | none =>
        simp only [loadExternal]
        by_cases hb : builtinPkgs.contains n = true
        · simp only [hb, if_true]
          refine ⟨trivial, cacheInv_append b r ps n _ hinv fun f' chain' hf' hc' => ?_⟩
          rw [hfree f' chain' hf' hc', loadPkg_succ, hnc, hfind]
          simp only [Bool.false_eq_true, if_false, loadExternal, hb, if_true]
        · simp only [hb, Bool.false_eq_true, if_false]
          exact ⟨trivial, hinv⟩
      | some pkg =>
        simp only [loadLocal]
        cases hs : summaries pkg.files with
        | err t => exact ⟨rfl, hinv⟩
        | panic w => exact ⟨rfl, hinv⟩
        | ok sums =>
          simp only [Outcome.bind]
          obtain ⟨ha, hb⟩ := seqLoadS_agree b r
            (fun d ps => loadPkgS b k (chain ++ [n]) d ps) (fun d => loadPkg b k (chain ++ [n]) d)
            (depNamesOf n sums)
            (fun d hd ps' hinv' =>
              have hdr := rankOk_dep b r hr n pkg sums hfind hs d hd
              ih (chain ++ [n]) d ps' hinv' (by omega) (chain_snoc hc hdr))
            ps hinv
          rw [← ha]
          cases hsl : seqLoadS (fun d ps => loadPkgS b k (chain ++ [n]) d ps) (depNamesOf n sums) ps with
          | mk ps1 o =>
            rw [hsl] at hb ha
            cases o with
            | err t => exact ⟨rfl, hb⟩
            | panic w => exact ⟨rfl, hb⟩
            | ok ls =>
              simp only []
              cases hcv : convertAll (mkResolver n sums ls) pkg.files with
              | err t => exact ⟨rfl, hb⟩
              | panic w => exact ⟨rfl, hb⟩
              | ok files =>
                refine ⟨rfl, cacheInv_append b r ps1 n _ hb fun f' chain' hf' hc' => ?_⟩
                rw [hfree f' chain' hf' hc', loadPkg_succ, hnc, hfind]
                simp only [Bool.false_eq_true, if_false, loadLocal, hs, Outcome.bind, ← ha, hcv, Outcome.map]

/-- `CompilePackage` on a consistent cache = `CompilePackage` on a fresh `PackageSet` -/
theorem compileOn_agree (b : Bundle) (r : Str → Nat) (hr : rankOk b r = true)
    (hF : ∀ n, r n < b.pkgs.length + 1) (ps : PSet) (hinv : CacheInv b r ps) (n : Str) :
    (compileOn b ps n).2 = compileLinked b n ∧ CacheInv b r (compileOn b ps n).1 := by
  obtain ⟨h1, h2⟩ := loadPkgS_agree b r hr (b.pkgs.length + 1) [] n ps hinv (hF n)
    (fun c hc => by simp at hc)
  unfold compileOn compileLinked
  rw [← h1]
  cases hl : loadPkgS b (b.pkgs.length + 1) [] n ps with
  | mk ps' o =>
    rw [hl] at h2
    cases o <;> exact ⟨rfl, h2⟩

/-- **any sequence of `CompilePackage` calls**, on one reused `PackageSet` or on fresh ones, gives
for every call the result of compiling that package alone on a fresh set -/
theorem compileCalls_agree (b : Bundle) (r : Str → Nat) (hr : rankOk b r = true)
    (hF : ∀ n, r n < b.pkgs.length + 1) (reuse : Bool) :
    ∀ (calls : List Str) (ps : PSet), CacheInv b r ps →
      compileCalls b reuse calls ps = calls.map fun n => (n, compileLinked b n) := by
  intro calls
  induction calls with
  | nil => intro ps _; rfl
  | cons n rest ih =>
    intro ps hinv
    have hempty : CacheInv b r [] := by intro nl h; simp at h
    have hstart : CacheInv b r (if reuse then ps else []) := by
      cases reuse
      · exact hempty
      · exact hinv
    obtain ⟨h1, h2⟩ := compileOn_agree b r hr hF _ hstart n
    rw [compileCalls]
    cases hc : compileOn b (if reuse = true then ps else []) n with
    | mk ps' o =>
      rw [hc] at h1 h2
      simp only [List.map_cons]
      rw [ih ps' h2, ← h1]

end J5V.Compile
