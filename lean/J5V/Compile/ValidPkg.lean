import J5V.Compile.Valid
import J5V.Compile.RefsPkg
import J5V.Compile.LoadProofs
import J5V.Compile.NoPanicPkg
/-!
# Valid bundles are accepted by the converter (C07, core only)

`ValidBundle b r`: a decidable predicate on the *sources* of a bundle — every file's package
declaration matches its path, imports are well formed, every visited item is within the
supported language (`okItem`) with references checked against the export tables computed from
the sources (`resolverOf`), every dependency is a local or built-in package, and the package
dependency graph is acyclic (rank function `r`).
Then `CompilePackage` up to the link step succeeds for every package: `compilePkg_accepts`.
-/
namespace J5V.Compile
open J5V.Go

/-- export table of a package, from its sources -/
def exportsOf (b : Bundle) (name : Str) : List (Str × TypeRef) :=
  match b.find name with
  | none => []
  | some p => (pkgSums p).flatMap (·.exports)

/-- the resolver a package offers to its files, from the sources -/
def resolverOf (b : Bundle) (p : Pkg) : Resolver :=
  { pkgName := p.name, exports := (pkgSums p).flatMap (·.exports),
    deps := (depNamesOf p.name (pkgSums p)).map fun d => (d, exportsOf b d) }

def okSrcFile (b : Bundle) (p : Pkg) : SrcFile → Bool
  | .proto _ _ _ => true
  | .j5s path imports elems decl =>
    decide (decl = packageFromFilename path) && okImports imports &&
      okElems (fileCtx (resolverOf b p) path imports) (packageFromFilename (path ++ b!".proto")) elems

def okPkg (b : Bundle) (p : Pkg) : Bool :=
  p.files.all (okSrcFile b p) &&
    (depNamesOf p.name (pkgSums p)).all fun d => (b.find d).isSome || builtinPkgs.contains d

/-- a bundle within the supported language -/
def ValidBundle (b : Bundle) (r : Str → Nat) : Prop :=
  rankOk b r = true ∧ (∀ n, r n < b.pkgs.length + 1) ∧ WfBundle b ∧
    ∀ p ∈ b.pkgs, b.find p.name = some p ∧ okPkg b p = true

/-! ## the summary walk -/

theorem mapM_isSome_iff {α β : Type} (f : α → Option β) (l : List α) :
    (l.mapM f).isSome = true ↔ ∀ a ∈ l, (f a).isSome = true := by
  induction l with
  | nil => simp
  | cons a rest ih =>
    rw [List.mapM_cons]
    cases hfa : f a <;> cases h : rest.mapM f <;> simp_all

theorem itemWalk_ok (c : Ctx) (i : Item) (hw : WfItem i = true) (ho : okItem c i = true) :
    itemWalk i = .ok () := by
  cases i with
  | object o => rfl
  | oneof o => rfl
  | enum e => rfl
  | abort => simp [okItem] at ho
  | serviceFile ss =>
    simp only [WfItem, WfService, List.all_eq_true] at hw
    simp only [okItem, okService, List.all_eq_true, Bool.and_eq_true] at ho
    unfold itemWalk
    have h1 : ss.any (fun s => s.methods.any (·.request.isNone)) = false := by
      rw [Bool.eq_false_iff]
      intro h
      obtain ⟨s, hs, hm⟩ := List.any_eq_true.mp h
      obtain ⟨m, hmm, hr⟩ := List.any_eq_true.mp hm
      have := hw s hs m hmm
      cases hq : m.request <;> simp [hq] at this hr
    have h2 : ss.any (·.name.isNone) = false := by
      rw [Bool.eq_false_iff]
      intro h
      obtain ⟨s, hs, hn⟩ := List.any_eq_true.mp h
      have := (ho s hs).1
      cases hq : s.name <;> simp [hq] at this hn
    simp [h1, h2]
  | topicFile ts =>
    simp only [okItem, List.all_eq_true] at ho
    unfold itemWalk
    simp only []
    rw [if_neg]
    intro h
    obtain ⟨t, ht, hb⟩ := List.any_eq_true.mp h
    -- the walk looks at the message lists of the nodes of the topic
    obtain ⟨tn, htn, hb⟩ : ∃ tn ∈ topicNodes t, tn.msgs.length ≠ 1 ∧ tn.msgs.any (·.name.isNone) = true := by
      cases htt : t.type <;>
        simp only [htt, Bool.and_eq_true, Bool.or_eq_true, decide_eq_true_eq, Bool.false_eq_true] at hb <;>
        simp only [topicNodes, htt, List.mem_cons, List.not_mem_nil, or_false, exists_eq_or_imp,
          exists_eq_left] <;> exact hb
    obtain ⟨m, hm, hn⟩ := List.any_eq_true.mp hb.2
    have := ho t ht tn htn
    simp only [okTopicNode, List.all_eq_true, Bool.and_eq_true] at this
    have := (this m hm).1
    unfold topicMethodName at this
    cases hq : m.name with
    | some x => simp [hq] at hn
    | none => simp [hq, hb.1] at this

theorem walkItems_ok (c : Ctx) (items : List Item)
    (h : ∀ i ∈ items, WfItem i = true ∧ okItem c i = true) : walkItems items = .ok () := by
  induction items with
  | nil => rfl
  | cons i rest ih =>
    rw [walkItems, itemWalk_ok c i (h i (by simp)).1 (h i (by simp)).2]
    exact ih (fun x hx => h x (List.mem_cons_of_mem _ hx))

/-- **`SourceSummary` succeeds** on a file the converter accepts -/
theorem sourceSummary_accepts (res : Resolver) (path : Str) (imports : List Import) (elems : List Elem)
    (hres : ∀ im, WfCtx { resolve := resolveTypeNoImport im res })
    (himp : okImports imports = true)
    (hel : okElems (fileCtx res path imports) (packageFromFilename (path ++ b!".proto")) elems = true) :
    ∃ s, sourceSummary path imports elems = .ok s := by
  obtain ⟨fs, hfs⟩ := convertFile_accepts res path imports elems hres himp hel
  obtain ⟨im, hj, hrefs⟩ := convertFile_refs res path imports elems fs hfs
  simp only [okElems, List.all_eq_true, Bool.and_eq_true] at hel
  have hall : ∀ r ∈ (elems.flatMap (itemsOfElem (packageFromFilename (path ++ b!".proto")))).flatMap itemRefs,
      (im.expand r.1 r.2).isSome = true := by
    intro r hr
    obtain ⟨i, hi, hri⟩ := List.mem_flatMap.mp hr
    obtain ⟨t, ht, _⟩ := hrefs i hi r hri
    simp only [resolveTypeNoImport] at ht
    cases he : im.expand r.1 r.2 with
    | none => simp [he] at ht
    | some e => rfl
  obtain ⟨ys, hys⟩ := Option.isSome_iff_exists.mp
    ((mapM_isSome_iff (fun x : Str × Str => im.expand x.1 x.2) _).mpr hall)
  rw [sourceSummary_eq, walkItems_ok _ _ hel, hj]
  simp only [Outcome.bind, hys]
  exact ⟨_, rfl⟩

/-! ## loading -/

theorem sumOf_good (f : SrcFile) (h : WfFile f = true) : GoodExports (sumOf f).exports := by
  unfold sumOf
  cases hf : fileSummary f with
  | ok s => exact (fileSummary_good f h).2 s hf
  | err t => intro kt hkt; simp [default] at hkt
  | panic w => intro kt hkt; simp [default] at hkt

theorem pkgSums_good (b : Bundle) (hb : WfBundle b) (p : Pkg) (hp : p ∈ b.pkgs) :
    GoodExports ((pkgSums p).flatMap (·.exports)) := by
  intro kt hkt
  simp only [pkgSums, List.mem_flatMap, List.mem_map] at hkt
  obtain ⟨s, ⟨f, hf, rfl⟩, hk⟩ := hkt
  exact sumOf_good f (hb p hp f hf) kt hk

theorem exportsOf_good (b : Bundle) (hb : WfBundle b) (n : Str) : GoodExports (exportsOf b n) := by
  unfold exportsOf
  cases hf : b.find n with
  | none => intro kt hkt; cases hkt
  | some p => exact pkgSums_good b hb p (List.mem_of_find?_eq_some hf)

theorem resolverOf_wf (b : Bundle) (hb : WfBundle b) (p : Pkg) (hp : p ∈ b.pkgs) (im : ImportMap) :
    WfCtx { resolve := resolveTypeNoImport im (resolverOf b p) } := by
  apply wfCtx_of_exports
  · exact pkgSums_good b hb p hp
  · intro pe hpe
    simp only [resolverOf, List.mem_map] at hpe
    obtain ⟨d, _, rfl⟩ := hpe
    exact exportsOf_good b hb d

theorem fileSummary_accepts (b : Bundle) (hb : WfBundle b) (p : Pkg) (hp : p ∈ b.pkgs)
    (f : SrcFile) (hok : okSrcFile b p f = true) : fileSummary f = .ok (sumOf f) := by
  cases f with
  | proto path msgs enums => simp [sumOf, fileSummary]
  | j5s path imports elems decl =>
    simp only [okSrcFile, Bool.and_eq_true, decide_eq_true_eq] at hok
    obtain ⟨⟨hd, himp⟩, hel⟩ := hok
    obtain ⟨s, hs⟩ := sourceSummary_accepts (resolverOf b p) path imports elems
      (resolverOf_wf b hb p hp) himp hel
    have : fileSummary (.j5s path imports elems decl) = .ok s := by
      rw [fileSummary, if_neg (by simpa using hd), hs]
    simp [sumOf, this]

/-- a generated file of the bundle: some file `ConvertJ5File` returns for some source file of some
package, under the resolver computed from the sources -/
def GenBy (b : Bundle) (g : FileSkel) : Prop :=
  ∃ q ∈ b.pkgs, ∃ path imports elems decl, SrcFile.j5s path imports elems decl ∈ q.files ∧
    ∃ fs, convertFile (resolverOf b q) path imports elems = .ok fs ∧ g ∈ fs

/-- **loading a package of a valid bundle succeeds**, with the export table the sources give; every
file the loaded package carries (its own and those of its transitive dependencies) is a generated
file of the bundle -/
theorem load_accepts (b : Bundle) (r : Str → Nat) (hv : ValidBundle b r) :
    ∀ (f : Nat) (chain : List Str) (n : Str), r n < f → (∀ c ∈ chain, r n < r c) →
      ((b.find n).isSome = true ∨ builtinPkgs.contains n = true) →
      ∃ l, loadPkg b f chain n = .ok l ∧ l.name = n ∧ l.exports = exportsOf b n ∧
        ∀ g ∈ l.files ++ l.depFiles, GenBy b g := by
  obtain ⟨hr, _, hb, hpk⟩ := hv
  intro f
  induction f with
  | zero => intro chain n h; omega
  | succ k ih =>
    intro chain n hf hc hloc
    rw [loadPkg_succ, not_on_chain hc]
    cases hfind : b.find n with
    | none =>
      rw [hfind] at hloc
      exact ⟨_, loadExternal_eq_ok_iff.mpr ⟨hloc.resolve_left nofun, rfl⟩, rfl, by simp [exportsOf, hfind], fun g hg => nomatch hg⟩
    | some pkg =>
      have hmem : pkg ∈ b.pkgs := List.mem_of_find?_eq_some hfind
      have hname : pkg.name = n := by simpa using List.find?_some hfind
      obtain ⟨_, hok⟩ := hpk pkg hmem
      simp only [okPkg, Bool.and_eq_true, List.all_eq_true, Bool.or_eq_true] at hok
      obtain ⟨hfiles, hdeps⟩ := hok
      have hs : ∀ f ∈ pkg.files, fileSummary f = .ok (sumOf f) :=
        fun f hf' => fileSummary_accepts b hb pkg hmem f (hfiles f hf')
      -- every dependency loads, with the exports its sources give and generated files only
      have hload : ∀ d ∈ depNamesOf n (pkgSums pkg), ∃ l, loadPkg b k (chain ++ [n]) d = .ok l ∧
          l.name = d ∧ l.exports = exportsOf b d ∧ ∀ g ∈ l.files ++ l.depFiles, GenBy b g :=
        fun d hd =>
          have hdr := rankOk_dep b r hr n pkg _ hfind (summaries_of_all_ok _ hs) d hd
          ih (chain ++ [n]) d (by omega) (chain_snoc hc hdr) (hdeps d (hname ▸ hd))
      have hget : ∀ d ∈ depNamesOf n (pkgSums pkg), ∀ l, loadPkg b k (chain ++ [n]) d = .ok l →
          (loadPkg b k (chain ++ [n]) d).get = l := fun d _ l hl => by rw [hl]; rfl
      -- so the resolver the loader builds is the one computed from the sources
      have hresolver : localResolver (loadPkg b k (chain ++ [n])) n pkg = resolverOf b pkg := by
        simp only [localResolver, depsOf, mkResolver, resolverOf, hname, List.map_map]
        congr 1
        refine List.map_congr_left fun d hd => ?_
        obtain ⟨l, hl, h1, h2, _⟩ := hload d hd
        simp only [Function.comp, hget d hd l hl, h1, h2]
      have hconv : ∀ f ∈ pkg.files, convOk (resolverOf b pkg) f := by
        intro f hf'
        cases f with
        | proto path msgs enums => trivial
        | j5s path imports elems decl =>
          have hokf := hfiles _ hf'
          simp only [okSrcFile, Bool.and_eq_true, decide_eq_true_eq] at hokf
          exact convertFile_accepts (resolverOf b pkg) path imports elems (resolverOf_wf b hb pkg hmem)
            hokf.1.2 hokf.2
      refine ⟨_, loadLocal_eq_ok_iff.mpr ⟨hs, fun d hd => ?_, hresolver ▸ hconv, rfl⟩, rfl,
        by simp [mkLoaded, exportsOf, hfind], ?_⟩
      · obtain ⟨l, hl, _⟩ := hload d hd
        rw [hget d hd l hl, hl]
      -- the files carried: own files by conversion, the others by the dependencies
      intro g hg
      simp only [mkLoaded, depsOf, hresolver, List.mem_append, List.mem_flatMap, List.mem_map] at hg
      rcases hg with ⟨src, hsrc, hgs⟩ | ⟨l', ⟨d, hd, rfl⟩, hgl⟩
      · cases src with
        | proto path msgs enums => simp [convOf] at hgs
        | j5s path imports elems decl =>
          obtain ⟨fs, hfs⟩ := hconv _ hsrc
          simp only [convOf, hfs] at hgs
          exact ⟨pkg, hmem, path, imports, elems, decl, hsrc, fs, hfs, hgs⟩
      · obtain ⟨l, hl, _, _, h3⟩ := hload d hd
        rw [hget d hd l hl] at hgl
        exact h3 g (List.mem_append.mpr hgl)

/-- **`CompilePackage` up to the link step accepts every package of a valid bundle** -/
theorem compilePkg_accepts (b : Bundle) (r : Str → Nat) (hv : ValidBundle b r) (p : Pkg)
    (hp : p ∈ b.pkgs) : ∃ fs, compilePkg b p.name = .ok fs := by
  obtain ⟨l, hl, _⟩ := load_accepts b r hv (b.pkgs.length + 1) [] p.name (hv.2.1 _)
    (by intro c hc; cases hc) (Or.inl (by rw [(hv.2.2.2 p hp).1]; rfl))
  exact ⟨sortFiles l.files, by simp [compilePkg, hl]⟩

end J5V.Compile
