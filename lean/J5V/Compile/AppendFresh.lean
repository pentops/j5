import J5V.Compile.SourceDef
/-!
# `mapM` over `Option` (C13, package level, core only)

What the package-level edit theorems need of `List.mapM` into `Option` (head and tail of a success,
appending, replacing one element).
-/
namespace J5V.Compile

/-! ## `mapM` over `Option` -/

theorem mapM_cons_some {α β : Type} (f : α → Option β) (a : α) (rest : List α) (ys : List β)
    (h : (a :: rest).mapM f = some ys) :
    ∃ y ys', f a = some y ∧ rest.mapM f = some ys' ∧ ys = y :: ys' := by
  simp only [List.mapM_cons, Option.pure_def, Option.bind_eq_bind] at h
  cases ha : f a with
  | none => simp [ha] at h
  | some y =>
    cases hr : rest.mapM f with
    | none => simp [ha, hr] at h
    | some ys' =>
      simp only [ha, hr, Option.bind_some, Option.some.injEq] at h
      exact ⟨y, ys', rfl, rfl, h.symm⟩

theorem mapM_find (f : Pkg → Option Pkg) (hname : ∀ p p', f p = some p' → p'.name = p.name)
    (l l' : List Pkg) (h : l.mapM f = some l') (n : Str) :
    l'.find? (·.name = n) = (l.find? (·.name = n)).bind f := by
  induction l generalizing l' with
  | nil =>
    simp only [List.mapM_nil, Option.pure_def, Option.some.injEq] at h
    subst h; rfl
  | cons p rest ih =>
    obtain ⟨p', rest', hp, hr, rfl⟩ := mapM_cons_some f p rest l' h
    simp only [List.find?_cons, hname p p' hp]
    by_cases hpn : p.name = n
    · simp [hpn, hp]
    · simp only [hpn, decide_false]
      exact ih rest' hr

theorem mapM_length {α β : Type} (f : α → Option β) (l : List α) (l' : List β)
    (h : l.mapM f = some l') : l'.length = l.length := by
  induction l generalizing l' with
  | nil => simp only [List.mapM_nil, Option.pure_def, Option.some.injEq] at h; subst h; rfl
  | cons a rest ih =>
    obtain ⟨y, ys, _, hr, rfl⟩ := mapM_cons_some f a rest l' h
    simp [ih ys hr]

theorem mapM_append_some {α β : Type} (f : α → Option β) (l1 l2 : List α) (ys : List β)
    (h : (l1 ++ l2).mapM f = some ys) :
    ∃ y1 y2, l1.mapM f = some y1 ∧ l2.mapM f = some y2 ∧ ys = y1 ++ y2 := by
  induction l1 generalizing ys with
  | nil => exact ⟨[], ys, rfl, by simpa using h, rfl⟩
  | cons a rest ih =>
    obtain ⟨y, ys', ha, hr, rfl⟩ := mapM_cons_some f a (rest ++ l2) ys h
    obtain ⟨y1, y2, h1, h2, rfl⟩ := ih ys' hr
    exact ⟨y :: y1, y2, by simp [List.mapM_cons, ha, h1], h2, rfl⟩

theorem mapM_some_mem {α β : Type} (f : α → Option β) (l : List α) (ys : List β)
    (h : l.mapM f = some ys) (y : β) : y ∈ ys ↔ ∃ a ∈ l, f a = some y := by
  induction l generalizing ys with
  | nil =>
    simp only [List.mapM_nil, Option.pure_def, Option.some.injEq] at h
    subst h; simp
  | cons a rest ih =>
    obtain ⟨y0, ys0, ha, hr, rfl⟩ := mapM_cons_some f a rest ys h
    simp only [List.mem_cons, ih ys0 hr]
    constructor
    · rintro (rfl | ⟨x, hx, hfx⟩)
      · exact ⟨a, Or.inl rfl, ha⟩
      · exact ⟨x, Or.inr hx, hfx⟩
    · rintro ⟨x, (rfl | hx), hfx⟩
      · rw [ha] at hfx; exact Or.inl (Option.some.inj hfx).symm
      · exact Or.inr ⟨x, hx, hfx⟩

theorem mapM_mem_some {α β : Type} (f : α → Option β) (l : List α) (ys : List β)
    (h : l.mapM f = some ys) : ∀ a ∈ l, ∃ y, f a = some y := by
  induction l generalizing ys with
  | nil => intro a ha; cases ha
  | cons x rest ih =>
    obtain ⟨y, ys', hx, hr, rfl⟩ := mapM_cons_some f x rest ys h
    intro a ha
    rcases List.mem_cons.mp ha with rfl | ha
    · exact ⟨y, hx⟩
    · exact ih ys' hr a ha

end J5V.Compile
