import J5V.Compile.File
/-!
# Package — `protobuild/packages.go` (core only)

`loadPackage` / `loadLocalPackage` / `resolveDependencies` / `includeIO` / `Package.ResolveType`
over a list-indexed bundle: packages and files are *lists* in the listing order of the file source
(`ListPackages`, `ListSourceFiles`), Go maps are association lists in write order (`mapGet`: the
last write wins). The cache shared by successive `CompilePackage` calls (`PackageSet.Packages`) is
`PSet` in `Compile/PackageSet.lean`.

External (non-local) packages: the harness runs with an empty dependency set, so only the
built-in protos of the Go registry can be loaded; they are listed in `builtinPkgs` with the
exports j5convert can ask for (the implicit imports). Anything else fails to load.
-/
namespace J5V.Compile
open J5V.Go

/-- summary of one source file of a local package (`sourceResolver.getFile`) -/
def fileSummary : SrcFile → Outcome Summary'
  | .j5s path imports elems decl =>
    -- `parseJ5s` (`fix: cf01603`): the declared package must be the one the path gives
    if decl ≠ packageFromFilename path then .err "package-mismatch"
    else sourceSummary path imports elems
  | .proto path msgs enums =>
    let pkg := packageFromFilename path
    .ok { path := path, pkg := pkg,
          exports :=
            msgs.map (fun n => (n, (⟨pkg, n, path, .message false⟩ : TypeRef))) ++
            enums.map (fun (n, vals) =>
              let pfx := match vals with
                | v :: _ => if hasSuffix b!"UNSPECIFIED" v then trimSuffix v b!"UNSPECIFIED" else []
                | [] => []
              (n, (⟨pkg, n, path, .enum pfx vals⟩ : TypeRef))),
          depPkgs := [] }

/-- `protobuild.Package` as far as later code reads it -/
structure Loaded where
  name : Str
  exports : List (Str × TypeRef)
  deps : List (Str × List (Str × TypeRef))     -- DirectDependencies: name ↦ that package's exports
  files : List FileSkel                        -- descriptors converted from j5s (`pkg.Files`)
  /-- everything below is only read by the link model: converted files of the (transitive)
  dependencies, and the hand-written `.proto` files of this package and its dependencies
  (path, package, messages, enums) -/
  depFiles : List FileSkel := []
  protos : List (Str × Str × List Str × List (Str × List Str)) := []

instance : Inhabited Loaded := ⟨⟨[], [], [], [], [], []⟩⟩

def protoFilesOf (files : List SrcFile) : List (Str × Str × List Str × List (Str × List Str)) :=
  files.filterMap fun f =>
    match f with
    | .proto path msgs enums => some (path, packageFromFilename path, msgs, enums)
    | .j5s _ _ _ _ => none

/-- packages of the Go registry that an empty dependency set can still provide -/
def builtinPkgs : List Str :=
  [b!"j5.state.v1", b!"j5.list.v1", b!"j5.messaging.v1", b!"j5.ext.v1", b!"j5.auth.v1",
   b!"j5.types.date.v1", b!"j5.types.decimal.v1", b!"j5.types.any.v1", b!"j5.client.v1",
   b!"j5.schema.v1", b!"j5.bcl.v1", b!"j5.source.v1", b!"j5.sourcedef.v1",
   b!"google.protobuf", b!"google.api", b!"buf.validate"]

def dedup : List Str → List Str
  | [] => []
  | a :: rest => if rest.contains a then dedup rest else a :: dedup rest

/-- all file summaries of a package, in listing order; stops at the first failure -/
def summaries : List SrcFile → Outcome (List Summary')
  | [] => .ok []
  | f :: rest =>
    match fileSummary f with
    | .err t => .err t
    | .panic w => .panic w
    | .ok s =>
      match summaries rest with
      | .ok ss => .ok (s :: ss)
      | o => o

/-- convert every j5s file of a package against its resolver, in listing order -/
def convertAll (res : Resolver) : List SrcFile → Outcome (List FileSkel)
  | [] => .ok []
  | .proto _ _ _ :: rest => convertAll res rest
  | .j5s path imports elems _ :: rest =>
    match convertFile res path imports elems with
    | .err t => .err t
    | .panic w => .panic w
    | .ok fs =>
      match convertAll res rest with
      | .ok more => .ok (fs ++ more)
      | o => o

def Bundle.find (b : Bundle) (name : Str) : Option Pkg := b.pkgs.find? (·.name = name)

/-- packages a local package depends on: the packages of all type references of its files
(`includeIO`), without itself (`resolveDependencies`), each once -/
def depNamesOf (name : Str) (sums : List Summary') : List Str :=
  (dedup (sums.flatMap (·.depPkgs))).filter (· ≠ name)

/-- the `TypeResolver` a package offers to `ConvertJ5File` -/
def mkResolver (name : Str) (sums : List Summary') (ls : List Loaded) : Resolver :=
  { pkgName := name, exports := sums.flatMap (·.exports),
    deps := ls.map fun l => (l.name, l.exports) }

def mkLoaded (name : Str) (pkg : Pkg) (sums : List Summary') (ls : List Loaded)
    (files : List FileSkel) : Loaded :=
  { name := name, exports := sums.flatMap (·.exports),
    deps := ls.map fun l => (l.name, l.exports), files := files,
    depFiles := ls.flatMap fun l => l.files ++ l.depFiles,
    protos := protoFilesOf pkg.files ++ ls.flatMap (·.protos) }

/-- `resolveDependencies`: load each dependency in turn, stop at the first failure -/
def seqLoad (load : Str → Outcome Loaded) : List Str → Outcome (List Loaded)
  | [] => .ok []
  | d :: ds =>
    match load d with
    | .err t => .err t
    | .panic w => .panic w
    | .ok l =>
      match seqLoad load ds with
      | .ok more => .ok (l :: more)
      | o => o

/-- `loadPackage` without the cache. `chain` is `resolveBaton.chain`; `fuel` bounds the depth
(`b.pkgs.length + 1` is never exhausted: every level adds a distinct package to the chain). Proved:
under `rankOk` the outcome depends on neither (`loadPkg_indep`); for cyclic bundles no lemma says the
fuel suffices. -/
def loadPkg (b : Bundle) : Nat → List Str → Str → Outcome Loaded
  | 0, _, _ => .err "fuel"
  | fuel + 1, chain, name =>
    if chain.contains name then .err "circular" else
    match b.find name with
    | none =>
      if builtinPkgs.contains name then .ok { name := name, exports := [], deps := [], files := [] }
      else .err "no-package"
    | some pkg =>
      match summaries pkg.files with
      | .err t => .err t
      | .panic w => .panic w
      | .ok sums =>
        match seqLoad (fun d => loadPkg b fuel (chain ++ [name]) d) (depNamesOf name sums) with
        | .err t => .err t
        | .panic w => .panic w
        | .ok ls =>
          match convertAll (mkResolver name sums ls) pkg.files with
          | .err t => .err t
          | .panic w => .panic w
          | .ok files => .ok (mkLoaded name pkg sums ls files)

/-- insert a file into a list sorted by file name -/
def insFile (f : FileSkel) : List FileSkel → List FileSkel
  | [] => [f]
  | g :: rest => if strLt f.name g.name then f :: g :: rest else g :: insFile f rest

/-- file skeletons of `CompilePackage`, before linking, sorted by file name (`sort.Strings` on
the keys of `pkg.Files`) -/
def sortFiles (fs : List FileSkel) : List FileSkel :=
  fs.foldl (fun acc f => insFile f acc) []

/-- `CompilePackage` up to (not including) the link step, on a fresh `PackageSet` -/
def compilePkg (b : Bundle) (name : Str) : Outcome (List FileSkel) :=
  match loadPkg b (b.pkgs.length + 1) [] name with
  | .err t => .err t
  | .panic w => .panic w
  | .ok l => .ok (sortFiles l.files)

end J5V.Compile
