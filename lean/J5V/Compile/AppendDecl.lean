import J5V.Compile.File
import J5V.Compile.EvolveRel
/-!
# A step of the walk only extends the files under construction (C13) — core only

`builders.go` appends messages, enums and services to their file in visit order (`Root.le_apply`).
Since the walk visits the elements of a file in declaration order, this is what keeps everything in
place when a declaration is added at the end of a file (Compile/AppendDeclPkg.lean).
-/
namespace J5V.Compile
open J5V.Go

theorem FileB.Le.refl (f : FileB) : f.Le f :=
  ⟨rfl, rfl, List.prefix_refl _, List.prefix_refl _, List.prefix_refl _⟩

theorem FileB.le_apply (f : FileB) (e : Eff) (svcs : List SvcSkel) : f.Le (f.apply e svcs) :=
  ⟨rfl, rfl, List.prefix_append _ _, List.prefix_append _ _, List.prefix_append _ _⟩

theorem Root.Le.refl (r : Root) : r.Le r :=
  ⟨FileB.Le.refl _, fun kf h => ⟨kf, h, rfl, FileB.Le.refl _⟩⟩

theorem Root.le_apply (r : Root) (s : Step) : r.Le (r.apply s) := by
  unfold Root.apply
  cases s.target.sub with
  | none => exact ⟨FileB.le_apply _ _ _, fun kf h => ⟨kf, h, rfl, FileB.Le.refl _⟩⟩
  | some sub =>
    -- the file is still there (possibly with more content)
    refine ⟨FileB.Le.refl _, fun ⟨k, f⟩ hkf => ⟨_, List.mem_map_of_mem (a := (k, f)) ?_, ?_⟩⟩
    · split
      · exact hkf
      · exact List.mem_append_left _ hkf
    · dsimp only
      split
      · exact ⟨rfl, FileB.le_apply _ _ _⟩
      · exact ⟨rfl, FileB.Le.refl _⟩

end J5V.Compile
