import J5V.Compile.Edit
import J5V.Compile.File
/-!
# The names an append edit adds to the export table (C13) — definitions only

Functions of the source that `Admissible` (Compile/EvolveAdm.lean) is stated with: path steps, the
nest path of the container an edit path ends in, and the names a new declaration or property exports there.
-/
namespace J5V.Compile

/-- names the appended declaration exports -/
def newExportNames (path : Str) (el : Elem) : List Str :=
  ((itemsOfElem (packageFromFilename (path ++ b!".proto")) el).flatMap itemExports).map (·.1)

/-- a declared object (`false`) or oneof (`true`) as a top-level element / as an item -/
def declElem : Bool → ObjDecl → Elem
  | true, o => .oneof o
  | false, o => .object o
def declItem : Bool → ObjDecl → Item
  | true, o => .oneof o
  | false, o => .object o

/-- names that the appended property adds to the package's export table: its inline types -/
def newFieldExportNames (n : Str) (prop : Property) : List Str :=
  (exportsProps ([] ++ [n]) [prop]).map (·.1)

/-- name of the virtual object -/
def methodObjName : Bool → Method → Str
  | true, mt => mt.name ++ b!"Request"
  | false, mt => mt.name ++ b!"Response"

/-- the path step into the request (`true`) / the response (`false`) of a method -/
def reqStep : Bool → PStep
  | true => .req
  | false => .res

/-- name of the virtual object of a topic message (`[]` when the walker rejects the message) -/
def topicObjName (tn : TopicNode) (tm : TopicMsg) : Str := (topicMethodName tn tm).getD [] ++ b!"Message"

/-- the path step to the `m`-th message of a topic: `0` for the messages of a publish / upsert / event
topic, `1` for the requests and anything else for the replies of a request–reply topic -/
def topicStep : Nat → Nat → PStep
  | 0, m => .msg m
  | 1, m => .reqm m
  | _, m => .repm m

/-- name of the inline type below a field (through array / map items) -/
def inlineName (d : Str) : Field → Option Str
  | .objectInl name _ _ _ => some (if name = [] then d else name)
  | .oneofInl name _ _ _ => some (if name = [] then d else name)
  | .array items _ => inlineName d items
  | .map items _ => inlineName d items
  | _ => none

/-- `NestPath()` of the inline type a `prop j …` path ends in (`np` = nest path of the owner of
`ps`) -/
def propsNestPath : List PStep → List Str → List Property → List Str
  | .prop j :: rest, np, ps =>
    match ps[j]? with
    | some (.mk nm _ _ f) =>
      match inlineName (toCamel nm) f, inlineProps f with
      | some n, some (qs, _) => propsNestPath rest (np ++ [n]) qs
      | _, _ => np
    | none => np
  | _, np, _ => np

/-- `NestPath()` of the object / oneof the path ends in (`np` = the declaration's parent path) -/
def declNestPath : List PStep → List Str → ObjDecl → List Str
  | .nest k :: rest, np, .mk n _ ne _ =>
    match ne[k]? with
    | some (.object o) => declNestPath rest (np ++ [n]) o
    | some (.oneof o) => declNestPath rest (np ++ [n]) o
    | _ => np
  | path, np, .mk n ps _ _ => propsNestPath path (np ++ [n]) ps

/-- names the appended property adds to the export table: its inline types, under the nest path of
the object / oneof / inline type the path ends in -/
def deepFieldExportNames (rest : List PStep) (o : ObjDecl) (prop : Property) : List Str :=
  (exportsProps (declNestPath rest [] o) [prop]).map (·.1)

/-- names the appended property adds to the export table, below a request / response -/
def methodDeepExportNames (rq : Bool) (mt : Method) (rest : List PStep) (r : List Property)
    (prop : Property) : List Str :=
  (exportsProps (propsNestPath rest [methodObjName rq mt] r) [prop]).map (·.1)

/-- names the appended property adds to the export table, below a topic message -/
def topicDeepExportNames (tn : TopicNode) (tm : TopicMsg) (rest : List PStep) (prop : Property) : List Str :=
  (exportsProps (propsNestPath rest [topicObjName tn tm] tm.props) [prop]).map (·.1)

/-- the virtual objects of one method (the summand of `serviceObjects`) -/
def methodObjs (m : Method) : List (Str × List Property) :=
  (match m.request with | some r => [(m.name ++ b!"Request", r)] | none => []) ++
  (match m.response with | some r => [(m.name ++ b!"Response", r)] | none => [])

def nodeObjs (tn : TopicNode) : List (Str × List Property) :=
  tn.msgs.filterMap fun m =>
    (topicMethodName tn m).map fun n => (n ++ b!"Message", tn.prepend ++ m.props)

end J5V.Compile
