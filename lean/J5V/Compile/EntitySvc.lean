import J5V.Compile.ConvertProofs
import J5V.Compile.Entity
/-!
# Entity: command services, topics, the Keys message (C17) — core only, helpers
-/
namespace J5V.Compile
open J5V.Go Entity

/-! the property names of the generated objects are already in snake case -/
@[simp] theorem toSnake_metadata : toSnake b!"metadata" = b!"metadata" := by decide
@[simp] theorem toSnake_keys : toSnake b!"keys" = b!"keys" := by decide
@[simp] theorem toSnake_data : toSnake b!"data" = b!"data" := by decide
@[simp] theorem toSnake_status : toSnake b!"status" = b!"status" := by decide
@[simp] theorem toSnake_event : toSnake b!"event" = b!"event" := by decide
@[simp] theorem toSnake_upsert : toSnake b!"upsert" = b!"upsert" := by decide

/-- the `i`-th field of the message of a declaration that converts without error is the field of its
`i`-th property, numbered `i + 1` -/
theorem declMsgOf_fields_getElem (c : Ctx) (np : List Str) (io : Bool) (virt : List Property)
    (o : ObjDecl) (h : (convDecl c np io virt o).errs = 0) (i : Nat)
    (hi : i < (virt ++ o.props).length) :
    (declMsgOf c np io virt o).fields[i]? =
      (bProperty c (np ++ [o.name]) io (1 + i) (virt ++ o.props)[i]).fld := by
  cases o with
  | mk name props nested psm =>
    rw [convDecl_errs] at h
    have herr := Nat.eq_zero_of_add_eq_zero_right h
    have hf : i < (bProps c (np ++ [name]) io 1 (virt ++ props)).flds.length := by
      rw [(bProps_numbering c _ io 1 _ herr).1]; exact hi
    exact (List.getElem?_eq_getElem hf).trans (bProps_get c _ io 1 _ herr i hi hf).symm

/-- the field a flattened object reference produces -/
theorem flattenRef_fld (c : Ctx) (np : List Str) (io : Bool) (n : Nat) (nm sc : Str) (f : FieldSkel)
    (h : (bProperty c np io n (.mk nm true false (.objectRef [] sc true []))).fld = some f) :
    f.number = n ∧ f.name = toSnake nm ∧ f.type = .message ∧ f.ext = b!"object+flatten" ∧ f.req = true := by
  obtain ⟨r, hres, _, rfl⟩ := bProperty_fld_res c np io n nm true false _ f h
  simp only [builtField, bField, msgRefField] at hres
  cases hr : refField c [] sc false with
  | mk e o =>
    cases o with
    | none => simp [hr] at hres
    | some t =>
      simp only [hr, Option.some.injEq] at hres
      subst hres
      exact ⟨rfl, rfl, rfl, rfl, rfl⟩

namespace Entity

/-- name of a command service: the declared name with the suffix `Command` (not doubled), or
`<C>Command` -/
def commandName (e : Entity) (s : Service) : Str :=
  match s.name with
  | some n => if hasSuffix b!"Command" n then n else n ++ b!"Command"
  | none => toCamel e.name ++ b!"Command"

def commandBase (pkg : Str) (e : Entity) (s : Service) : Str :=
  match s.basePath with
  | some bp => b!"/" ++ baseUrlPath pkg e ++ b!"/" ++ bp
  | none => b!"/" ++ baseUrlPath pkg e ++ b!"/c"

theorem commandService_name (pkg : Str) (e : Entity) (s : Service) :
    (commandService pkg e s).name = some (commandName e s) := by
  unfold commandService commandName; cases s.name <;> rfl

theorem summaryTopic_name (pkg : Str) (e : Entity) (s : Summary) :
    (summaryTopic pkg e s).name =
      if s.name = [] then toCamel e.name ++ b!"Summary" else toCamel e.name ++ toCamel s.name := by
  simp only [summaryTopic, summaryTopicName]

theorem enumPrefix_statusEnum (e : Entity) :
    enumPrefix (statusEnum e) = toScreamingSnake e.name ++ b!"_STATUS_" := by
  have hne : toScreamingSnake e.name ++ b!"_STATUS_" ≠ [] := by simp
  simp only [enumPrefix, statusEnum, statusPrefix, hne, if_false]

/-- fields of the message of the publish topic -/
def publishProps (e : Entity) : List Property :=
  [ .mk b!"metadata" true false (refField b!"j5.state.v1" b!"EventPublishMetadata"),
    .mk b!"keys" true false (refField [] (componentName e b!"Keys")),
    .mk b!"event" true false (.oneofRef [] (componentName e b!"EventType") [] false),
    .mk b!"data" true false (innerRef e b!"Data"),
    .mk b!"status" true false (.enumRef [] (componentName e b!"Status") [] none) ]

theorem publishTopic_type (pkg : Str) (e : Entity) :
    (publishTopic pkg e).type =
      .event (fullName pkg e) { name := some (toCamel e.name ++ b!"Event"), props := publishProps e } := rfl

end Entity
end J5V.Compile
