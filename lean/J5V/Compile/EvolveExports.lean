import J5V.Compile.EvolveDeepDecl
import J5V.Compile.AppendEditSvc
/-!
# What an append does to the export table and to the item it lands in (C13) — core only

For any action and any depth the export list changes in one block (`ExpCh`) and no reference is lost:
under the nest path of the container the edit path ends in (`propsNestPath`, `declNestPath`) the
exports of the new property's inline types are inserted, or one enum entry grows (`ActBlock`). With
what the edit does to the messages of a service / topic item this is `ItemUp` for the two.
-/
namespace J5V.Compile
open J5V.Go

/-! ## exports and references -/

theorem ExpCh.ins {N ex ex' : List (Str × TKind)} {rf rf' : List (Str × Str)}
    (h : ExpCh [] N ex ex' rf rf') : ExpIns N ex ex' rf rf' := by
  obtain ⟨⟨A, C, rfl, rfl⟩, hr⟩ := h
  exact ⟨⟨A, C, by simp, rfl⟩, hr⟩

theorem exportsField_inline (np : List Str) (d : Str) :
    ∀ (f : Field) (qs : List Property) (k : List Property → Field), inlineProps f = some (qs, k) →
      ∃ nm hd, inlineName d f = some nm ∧
        exportsField np d f = hd :: exportsProps (np ++ [nm]) qs ∧ refsField f = refsProps qs ∧
        ∀ qs', exportsField np d (k qs') = hd :: exportsProps (np ++ [nm]) qs' ∧
          refsField (k qs') = refsProps qs' := by
  apply inlineProps_induct
  · intro name ps fl rules
    exact ⟨_, (relName np (if name = [] then d else name), .message false), rfl,
      by rw [exportsField], by rw [refsField], fun qs' => ⟨by rw [exportsField], by rw [refsField]⟩⟩
  · intro name ps rules lr
    exact ⟨_, (relName np (if name = [] then d else name), .message true), rfl,
      by rw [exportsField], by rw [refsField], fun qs' => ⟨by rw [exportsField], by rw [refsField]⟩⟩
  · intro items r qs k _ ⟨nm, hd, h1, h2, h3, h4⟩
    exact ⟨nm, hd, by rw [inlineName, h1], by rw [exportsField, h2], by rw [refsField, h3],
      fun qs' => ⟨by rw [exportsField, (h4 qs').1], by rw [refsField, (h4 qs').2]⟩⟩
  · intro items r qs k _ ⟨nm, hd, h1, h2, h3, h4⟩
    exact ⟨nm, hd, by rw [inlineName, h1], by rw [exportsField, h2], by rw [refsField, h3],
      fun qs' => ⟨by rw [exportsField, (h4 qs').1], by rw [refsField, (h4 qs').2]⟩⟩

theorem exportsProps_single (np : List Str) (p : Property) :
    exportsProps np [p] = exportsProperty np p := by simp [exportsProps]

theorem refsProps_single (p : Property) : refsProps [p] = refsProperty p := by simp [refsProps]

/-- the block an action replaces when it lands in the container with nest path `np` -/
def ActBlock : Act → List Str → List (Str × TKind) → List (Str × TKind) → Prop
  | .field prop, np, M, M' => M = [] ∧ M' = exportsProps np [prop]
  | .option _, _, M, M' => ∃ k0 pfx names names', M = [(k0, TKind.enum pfx names)] ∧
      M' = [(k0, TKind.enum pfx names')] ∧ ∀ x ∈ names, x ∈ names'

theorem ActBlock.block {act : Act} {np : List Str} {M M' : List (Str × TKind)}
    (h : ActBlock act np M M') : Block M M' := by
  cases act with
  | field prop => obtain ⟨rfl, rfl⟩ := h; exact .ins _
  | option o => obtain ⟨k0, pfx, names, names', rfl, rfl, hs⟩ := h; exact .upd k0 pfx names names' hs

theorem ActBlock.old_option {o : Str} {np : List Str} {M M' : List (Str × TKind)}
    (h : ActBlock (.option o) np M M') (k : Str) : Block.Old M M' k := by
  obtain ⟨k0, pfx, names, names', rfl, rfl, _⟩ := h
  exact fun hk => hk

theorem ActBlock.old_field {prop : Property} {np : List Str} {M M' : List (Str × TKind)}
    (h : ActBlock (.field prop) np M M') (k : Str) (hk : k ∉ (exportsProps np [prop]).map (·.1)) :
    Block.Old M M' k := by
  obtain ⟨rfl, rfl⟩ := h
  exact fun hm => absurd hm hk

theorem exportsField_enum_block (np : List Str) (d : Str) (o : Str) :
    ∀ f f' : Field, inlineEnumAppend o f = some f' →
      ∃ M M', ActBlock (.option o) np M M' ∧
        ExpCh M M' (exportsField np d f) (exportsField np d f') (refsField f) (refsField f') := by
  apply inlineEnumAppend_induct
  · intro e rules lr
    obtain ⟨pfx, names, names', hk, hk', hsub⟩ :=
      enumTKind_append { e with name := if e.name = [] then d else e.name } o
    refine ⟨_, _, ⟨relName np (if e.name = [] then d else e.name), pfx, names, names', rfl, rfl, hsub⟩,
      ⟨[], [], ?_, ?_⟩, fun r hr => by simpa only [refsField] using hr⟩
    · rw [exportsField, hk]; rfl
    · rw [exportsField, ← hk']; rfl
  · intro items items' r _ this
    rw [exportsField, exportsField, refsField, refsField]
    exact this
  · intro items items' r _ this
    rw [exportsField, exportsField, refsField, refsField]
    exact this

theorem exportsProps_at_expCh {M M' : List (Str × TKind)} (np : List Str) (A B : List Property)
    (a a' : Property)
    (h : ExpCh M M' (exportsProperty np a) (exportsProperty np a') (refsProperty a) (refsProperty a')) :
    ExpCh M M' (exportsProps np (A ++ [a] ++ B)) (exportsProps np (A ++ [a'] ++ B))
      (refsProps (A ++ [a] ++ B)) (refsProps (A ++ [a'] ++ B)) := by
  simp only [exportsProps_append, refsProps_append, exportsProps_single, refsProps_single]
  exact h.wrap _ _ _ _

theorem editProps_expCh (act : Act) :
    ∀ (path : List PStep) (ps ps' : List Property), editProps act path ps = some ps' →
      ∀ np, ∃ M M', ActBlock act (propsNestPath path np ps) M M' ∧
        ExpCh M M' (exportsProps np ps) (exportsProps np ps') (refsProps ps) (refsProps ps') := by
  apply editProps_induct
  case here =>
    -- a field lands at the end of the list: its exports are the block, inserted last
    intro prop ps ha np
    subst ha
    refine ⟨_, _, ⟨rfl, rfl⟩, ⟨exportsProps np ps, [], by simp, by simp [exportsProps_append, propsNestPath]⟩,
      fun r hr => ?_⟩
    rw [refsProps_append]
    exact List.mem_append_left _ hr
  case inline =>
    -- an inline object / oneof: the block found below it, behind the inline type's own entry `hd`
    intro rest A B nm r o f qs k qs' hin _ ih np
    obtain ⟨inm, hd, hn1, hn2, hn3, hn4⟩ := exportsField_inline np (toCamel nm) f qs k hin
    obtain ⟨M, M', hb, hch⟩ := ih (np ++ [inm])
    refine ⟨M, M', by simpa [propsNestPath, hn1, hin] using hb, exportsProps_at_expCh np A B _ _ ?_⟩
    simp only [exportsProperty, refsProperty, hn2, hn3, (hn4 qs').1, (hn4 qs').2]
    simpa using hch.wrap [hd] [] [] []
  case enum =>
    -- an inline enum: its entry is the block
    intro opt A B nm r o f f' ha hf' np
    subst ha
    obtain ⟨M, M', hb, hch⟩ := exportsField_enum_block np (toCamel nm) opt f f' hf'
    exact ⟨M, M', hb, exportsProps_at_expCh np A B _ _ hch⟩

theorem exportsNested_append (np : List Str) (a b : List Nested) :
    exportsNested np (a ++ b) = exportsNested np a ++ exportsNested np b := by
  induction a with
  | nil => simp [exportsNested]
  | cons x xs ih => cases x <;> simp [exportsNested, ih]

theorem refsNested_append (a b : List Nested) : refsNested (a ++ b) = refsNested a ++ refsNested b := by
  induction a with
  | nil => simp [refsNested]
  | cons x xs ih => cases x <;> simp [refsNested, ih]

/-- one nested schema of a declaration changes: the other nested schemas around it, then the
declaration's entry and properties in front -/
theorem exportsDecl_nested_expCh {M M' : List (Str × TKind)} (np : List Str) (io : Bool) (n : Str)
    (ps : List Property) (L1 L2 : List Nested) (psm : Option Psm) (x x' : Nested)
    (h : ExpCh M M' (exportsNested (np ++ [n]) [x]) (exportsNested (np ++ [n]) [x']) (refsNested [x])
      (refsNested [x'])) :
    ExpCh M M' (exportsDecl np io (.mk n ps (L1 ++ [x] ++ L2) psm))
      (exportsDecl np io (.mk n ps (L1 ++ [x'] ++ L2) psm)) (refsDecl (.mk n ps (L1 ++ [x] ++ L2) psm))
      (refsDecl (.mk n ps (L1 ++ [x'] ++ L2) psm)) := by
  simp only [exportsDecl, refsDecl, exportsNested_append, refsNested_append]
  simpa using (h.wrap (exportsNested (np ++ [n]) L1) (exportsNested (np ++ [n]) L2) (refsNested L1)
    (refsNested L2)).wrap ((relName np n, .message io) :: exportsProps (np ++ [n]) ps) [] (refsProps ps) []

theorem editDecl_expCh (act : Act) :
    ∀ (path : List PStep) (o o' : ObjDecl), editDecl act path o = some o' →
      ∀ np io, ∃ M M', ActBlock act (declNestPath path np o) M M' ∧
        ExpCh M M' (exportsDecl np io o) (exportsDecl np io o') (refsDecl o) (refsDecl o') := by
  apply editDecl_induct
  case props =>
    -- the declaration's own property list: its own entry in front, its nested schemas behind
    intro path n ps ps' ne psm hq hp np io
    obtain ⟨M, M', hb, hch⟩ := editProps_expCh act _ ps ps' hq (np ++ [n])
    refine ⟨M, M', ?_, ?_⟩
    · rcases hp with rfl | ⟨j, r2, rfl⟩ <;> simpa [declNestPath] using hb
    · simpa [exportsDecl, refsDecl] using
        hch.wrap [(relName np n, .message io)] (exportsNested (np ++ [n]) ne) [] (refsNested ne)
  case decl =>
    -- a nested object / oneof: the block found below it
    intro rest n ps L1 L2 psm io1 o1 o1' _ ih np io
    obtain ⟨M, M', hb, hch⟩ := ih (np ++ [n]) io1
    refine ⟨M, M', ?_, exportsDecl_nested_expCh np io n ps L1 L2 psm _ _ ?_⟩
    · cases io1 <;> simpa [declNestPath, declNested] using hb
    · cases io1 <;> simpa [exportsNested, refsNested, declNested] using hch
  case enum =>
    -- a nested enum: its entry is the block
    intro opt n ps L1 L2 psm e ha np io
    subst ha
    obtain ⟨pfx, names, names', hk, hk', hsub⟩ := enumTKind_append e opt
    exact ⟨_, _, ⟨relName (np ++ [n]) e.name, pfx, names, names', rfl, rfl, hsub⟩,
      exportsDecl_nested_expCh np io n ps L1 L2 psm _ _ ⟨⟨[], [], by simp [exportsNested, hk], by simp [exportsNested, hk']⟩,
        fun r hr => by simp [refsNested] at hr⟩⟩

theorem editDecl_exports (prop : Property) :
    ∀ (path : List PStep) (o o' : ObjDecl), editDecl (.field prop) path o = some o' →
      ∀ np io, ExpIns (exportsProps (declNestPath path np o) [prop]) (exportsDecl np io o)
        (exportsDecl np io o') (refsDecl o) (refsDecl o') := by
  intro path o o' h np io
  obtain ⟨M, M', ⟨rfl, rfl⟩, hch⟩ := editDecl_expCh (.field prop) path o o' h np io
  exact hch.ins

/-! ## a top-level object / oneof of a file -/

/-- `appendField` with the path `[el i]`: the `i`-th element is an object or a oneof -/
theorem editElems_field_top (prop : Property) (i : Nat) (elems elems' : List Elem)
    (h : editElems (.field prop) [.el i] elems = some elems') :
    ∃ io o, elems[i]? = some (declElem io o) := by
  simp only [editElems] at h
  obtain ⟨a, a', h1, hf, _, h3⟩ := setAt_some _ _ _ _ h
  have hget : elems[i]? = some a := by
    rw [h1, List.append_assoc, List.getElem?_append_right (by omega)]
    simp [h3]
  cases a with
  | object o => exact ⟨false, o, hget⟩
  | oneof o => exact ⟨true, o, hget⟩
  | enum e => simp [editElem, editEnum] at hf
  | service sv => simp [editElem, editService] at hf
  | topic t => simp [editElem, editTopic] at hf
  | entity en => simp [editElem, editEntity] at hf

/-- the message of the declaration and its map entries, before and after an append at its own
property list: nested types kept as they are (`Le1`) -/
theorem convDecl_msgs_append (c : Ctx) (io : Bool) (n : Str) (ps : List Property) (prop : Property)
    (ne : List Nested) (psm : Option Psm) :
    MsgsLe (convDecl c [] io [] (.mk n ps ne psm)).msgs
      (convDecl c [] io [] (.mk n (ps ++ [prop]) ne psm)).msgs := by
  rw [convDecl_msgs, convDecl_msgs]
  intro m hm
  rcases List.mem_append.mp hm with hm | hm
  · refine ⟨m, List.mem_append_left _ ?_, MsgSkel.Le1.refl m⟩
    simp only [List.nil_append] at hm ⊢
    rw [bProps_append_entries]
    exact List.mem_append_left _ hm
  · rw [List.mem_singleton.mp hm]
    exact ⟨_, List.mem_append_right _ (List.mem_singleton.mpr rfl),
      declMsg_append_le1 c [] io [] n ps prop ne psm⟩

theorem convVirtual_errs_props (c : Ctx) (name : Str) (virt props : List Property)
    (h : (convVirtual c name virt props none).errs = 0) :
    (bProps c [name] false (1 + virt.length) props).eff.errs = 0 := by
  unfold convVirtual at h
  rw [convDecl_errs] at h
  have := (bProps_errs_split c ([] ++ [name]) false 1 virt props (by omega)).2
  simpa using this

theorem walkMethod_errs_parts (c : Ctx) (bp : Option Str) (m : Method)
    (h : (walkMethod c bp m).eff.errs = 0) :
    (∀ req, m.request = some req → (convVirtual c (m.name ++ b!"Request") [] req none).errs = 0) ∧
    (∀ req res, m.request = some req → m.response = some res →
      (convVirtual c (m.name ++ b!"Response") [] res none).errs = 0) := by
  unfold walkMethod at h
  constructor
  · intro req hr
    simp only [hr] at h
    cases hs : m.response with
    | none => simp only [hs, Eff.add_def, Eff.add_errs] at h; omega
    | some res => simp only [hs, Eff.add_def, Eff.add_errs] at h; omega
  · intro req res hr hs
    simp only [hr, hs, Eff.add_def, Eff.add_errs] at h
    omega

theorem serviceItem_msgs_clean (c : Ctx) (sv : Service) (M1 M2 : List Method) (mt mt' : Method) (rq : Bool)
    (r r' : List Property) (hm : sv.methods = M1 ++ [mt] ++ M2)
    (hx : MethodRepl rq mt mt' r r')
    (he : ∀ s ∈ convItem c (.serviceFile [sv]), s.eff.errs = 0)
    (hle : ∀ np io n, (bProps c np io n r).eff.errs = 0 → PRsRel EnumsLe (bProps c np io n r) (bProps c np io n r')) :
    MsgsLeDeep (itemMsgs c (.serviceFile [sv]))
      (itemMsgs c (.serviceFile [{ sv with methods := M1 ++ [mt'] ++ M2 }])) := by
  have hsv : (convService c sv).eff.errs = 0 := by
    apply he
    simp [convItem, convServiceFile]
  obtain ⟨he1, he2⟩ := walkMethod_errs_parts c sv.basePath mt
    ((walkMethod_part c sv (m := mt) (by rw [hm]; simp)).errs hsv)
  refine serviceItem_msgs MsgSkel.LeDeep.refl c sv M1 M2 mt mt' rq r r' hm hx (fun q hq => ?_)
  apply declMsg_deep EnumsLe.rel
  have herr : (convVirtual c (methodObjName rq mt) [] r none).errs = 0 := by
    cases rq
    · exact he2 q r hq hx.1
    · exact he1 r hx.1
  simpa using hle [methodObjName rq mt] false 1 (by simpa using convVirtual_errs_props c _ [] r herr)

theorem topicItem_msgs_clean (c : Ctx) (t t' : Topic) (N1 N2 : List TopicNode) (tn tn' : TopicNode)
    (T1 T2 : List TopicMsg) (tm : TopicMsg) (ps' : List Property)
    (h1 : topicNodes t = N1 ++ [tn] ++ N2) (h2 : topicNodes t' = N1 ++ [tn'] ++ N2)
    (hx : NodeRepl tn tn' T1 T2 tm ps')
    (he : ∀ s ∈ convItem c (.topicFile [t]), s.eff.errs = 0)
    (hle : ∀ np io n, (bProps c np io n tm.props).eff.errs = 0 →
      PRsRel EnumsLe (bProps c np io n tm.props) (bProps c np io n ps')) :
    MsgsLeDeep (itemMsgs c (.topicFile [t])) (itemMsgs c (.topicFile [t'])) := by
  have hacc : ∀ s ∈ acceptTopic c tn, s.eff.errs = 0 := by
    intro s hs
    apply he
    simp only [convItem, convTopicFile, convTopic, List.mem_cons, List.flatMap_cons, List.flatMap_nil,
      List.append_nil, List.mem_flatMap]
    exact Or.inr ⟨tn, by rw [h1]; simp, hs⟩
  refine topicItem_msgs MsgSkel.LeDeep.refl c t t' N1 N2 tn tn' T1 T2 tm ps' h1 h2 hx (fun n hnm => ?_)
  apply declMsg_deep EnumsLe.rel
  have hstep : (convVirtual c (n ++ b!"Message") tn.prepend tm.props none).errs = 0 :=
    hacc { target := .topic, eff := convVirtual c (n ++ b!"Message") tn.prepend tm.props } (by
      unfold acceptTopic
      apply List.mem_append_left
      exact List.mem_map.mpr ⟨tm, by rw [hx.1]; simp, by simp [hnm]⟩)
  have hp := convVirtual_errs_props c _ tn.prepend tm.props hstep
  exact bProps_append_left_rel EnumsLe.rel c _ false 1 tn.prepend tm.props ps' (hle _ false _ (by simpa using hp))

/-! ## below a request / response or a topic message: the export list and the references -/

/-- `v`: the implicit leading properties of the virtual object -/
theorem virtualExports_expCh {M M' : List (Str × TKind)} (O1 O2 : List (Str × List Property)) (n : Str)
    (v r r' : List Property)
    (h : ExpCh M M' (exportsProps [n] r) (exportsProps [n] r') (refsProps r) (refsProps r')) :
    ExpCh M M' (virtualExports (O1 ++ [(n, v ++ r)] ++ O2)) (virtualExports (O1 ++ [(n, v ++ r')] ++ O2))
      ((O1 ++ [(n, v ++ r)] ++ O2).flatMap fun o => refsProps o.2)
      ((O1 ++ [(n, v ++ r')] ++ O2).flatMap fun o => refsProps o.2) := by
  have := h.wrap (virtualExports O1 ++ ((n, TKind.message false) :: exportsProps [n] v)) (virtualExports O2)
    (O1.flatMap (fun o => refsProps o.2) ++ refsProps v) (O2.flatMap fun o => refsProps o.2)
  simpa [virtualExports, List.flatMap_append, exportsProps_append, refsProps_append] using this

theorem serviceItem_expCh {M M' : List (Str × TKind)} (sv : Service) (M1 M2 : List Method)
    (mt mt' : Method) (rq : Bool) (r r' : List Property) (hm : sv.methods = M1 ++ [mt] ++ M2)
    (hx : MethodRepl rq mt mt' r r')
    (h : ExpCh M M' (exportsProps [methodObjName rq mt] r) (exportsProps [methodObjName rq mt] r')
      (refsProps r) (refsProps r')) :
    ExpCh M M' (itemExports (.serviceFile [sv]))
      (itemExports (.serviceFile [{ sv with methods := M1 ++ [mt'] ++ M2 }]))
      (itemRefs (.serviceFile [sv])) (itemRefs (.serviceFile [{ sv with methods := M1 ++ [mt'] ++ M2 }])) := by
  obtain ⟨X, Y, hX, hX'⟩ := methodObjs_repl rq mt mt' r r' hx
  have hobj : [sv].flatMap serviceObjects =
      (M1.flatMap methodObjs ++ X) ++ [(methodObjName rq mt, [] ++ r)] ++ (Y ++ M2.flatMap methodObjs) := by
    simp [serviceObjects_eq, hm, hX, List.flatMap_append]
  have hobj' : [({ sv with methods := M1 ++ [mt'] ++ M2 } : Service)].flatMap serviceObjects =
      (M1.flatMap methodObjs ++ X) ++ [(methodObjName rq mt, [] ++ r')] ++ (Y ++ M2.flatMap methodObjs) := by
    simp [serviceObjects_eq, hX', List.flatMap_append]
  simp only [itemExports, itemRefs]
  rw [hobj, hobj']
  exact virtualExports_expCh _ _ _ [] r r' h

/-- the rpcs never read the property list of a request / response -/
theorem serviceItem_up {RM : MsgSkel → MsgSkel → Prop} {M M' : List (Str × TKind)}
    (sv : Service) (M1 M2 : List Method) (mt mt' : Method) (rq : Bool) (r r' : List Property)
    (hm : sv.methods = M1 ++ [mt] ++ M2) (hx : MethodRepl rq mt mt' r r') (hb : Block M M')
    (hexp : ExpCh M M' (exportsProps [methodObjName rq mt] r) (exportsProps [methodObjName rq mt] r')
      (refsProps r) (refsProps r'))
    (hmsgs : ∀ c, (∀ s ∈ convItem c (.serviceFile [sv]), s.eff.errs = 0) →
      MsgsRel RM (itemMsgs c (.serviceFile [sv]))
        (itemMsgs c (.serviceFile [{ sv with methods := M1 ++ [mt'] ++ M2 }]))) :
    ItemUp RM (.serviceFile [sv]) (.serviceFile [{ sv with methods := M1 ++ [mt'] ++ M2 }]) M M' :=
  ⟨rfl, hb, serviceItem_expCh sv M1 M2 mt mt' rq r r' hm hx hexp, hmsgs,
    fun c => by rw [itemEnums_serviceFile, itemEnums_serviceFile]; exact EnumsLe.refl _,
    fun c => serviceItem_svcs_deep c sv M1 M2 mt mt' rq r r' hm hx⟩

/-! ## topic messages, any depth -/

theorem exportsProps_nil (np : List Str) : exportsProps np [] = [] := by simp [exportsProps]

/-- A message the walker rejects for want of a name is not exported: then nothing changes (the empty
block for the empty block). -/
theorem topicItem_expCh {M M' : List (Str × TKind)} (t t' : Topic) (N1 N2 : List TopicNode)
    (tn tn' : TopicNode) (T1 T2 : List TopicMsg) (tm : TopicMsg) (ps' : List Property)
    (h1 : topicNodes t = N1 ++ [tn] ++ N2) (h2 : topicNodes t' = N1 ++ [tn'] ++ N2)
    (hx : NodeRepl tn tn' T1 T2 tm ps') (hb : Block M M')
    (h : ExpCh M M' (exportsProps [topicObjName tn tm] tm.props) (exportsProps [topicObjName tn tm] ps')
      (refsProps tm.props) (refsProps ps')) :
    ∃ M0 M0', Block M0 M0' ∧ (∀ k, Block.Old M M' k → Block.Old M0 M0' k) ∧
      ExpCh M0 M0' (itemExports (.topicFile [t])) (itemExports (.topicFile [t']))
        (itemRefs (.topicFile [t])) (itemRefs (.topicFile [t'])) := by
  have hobj : [t].flatMap topicObjects = N1.flatMap nodeObjs ++ nodeObjs tn ++ N2.flatMap nodeObjs := by
    simp [topicObjects_eq, h1, List.flatMap_append]
  have hobj' : [t'].flatMap topicObjects = N1.flatMap nodeObjs ++ nodeObjs tn' ++ N2.flatMap nodeObjs := by
    simp [topicObjects_eq, h2, List.flatMap_append]
  rcases nodeObjs_repl tn tn' T1 T2 tm ps' hx with heq | ⟨X, Y, hX, hX'⟩
  · refine ⟨[], [], .ins [], fun _ _ hm => hm, ⟨itemExports (.topicFile [t]), [], by simp, ?_⟩, ?_⟩
    · simp only [itemExports, hobj, hobj', heq, List.append_nil]
    · intro x hxm
      simpa only [itemRefs, hobj, hobj', heq] using hxm
  · refine ⟨M, M', hb, fun _ hk => hk, ?_⟩
    have e : ∀ z, N1.flatMap nodeObjs ++ (X ++ [z] ++ Y) ++ N2.flatMap nodeObjs =
        (N1.flatMap nodeObjs ++ X) ++ [z] ++ (Y ++ N2.flatMap nodeObjs) := fun z => by
      simp only [List.append_assoc]
    simp only [itemExports, itemRefs]
    rw [hobj, hobj', hX, hX', e, e]
    exact virtualExports_expCh _ _ _ tn.prepend tm.props ps' h

/-- the topic services never read the properties of a message -/
theorem topicItem_up {RM : MsgSkel → MsgSkel → Prop} {M M' : List (Str × TKind)} (t t' : Topic)
    (N1 N2 : List TopicNode) (tn tn' : TopicNode) (T1 T2 : List TopicMsg) (tm : TopicMsg)
    (ps' : List Property)
    (h1 : topicNodes t = N1 ++ [tn] ++ N2) (h2 : topicNodes t' = N1 ++ [tn'] ++ N2)
    (hx : NodeRepl tn tn' T1 T2 tm ps') (hb : Block M M')
    (hexp : ExpCh M M' (exportsProps [topicObjName tn tm] tm.props) (exportsProps [topicObjName tn tm] ps')
      (refsProps tm.props) (refsProps ps'))
    (hmsgs : ∀ c, (∀ s ∈ convItem c (.topicFile [t]), s.eff.errs = 0) →
      MsgsRel RM (itemMsgs c (.topicFile [t])) (itemMsgs c (.topicFile [t']))) :
    ∃ M0 M0', (∀ k, Block.Old M M' k → Block.Old M0 M0' k) ∧
      ItemUp RM (.topicFile [t]) (.topicFile [t']) M0 M0' := by
  obtain ⟨M0, M0', hb0, hold, hch0⟩ := topicItem_expCh t t' N1 N2 tn tn' T1 T2 tm ps' h1 h2 hx hb hexp
  exact ⟨M0, M0', hold, rfl, hb0, hch0, hmsgs,
    fun c => by rw [itemEnums_topicFile, itemEnums_topicFile]; exact EnumsLe.refl _,
    fun c => topicItem_svcs_deep c t t' N1 N2 tn tn' T1 T2 tm ps' h1 h2 hx⟩

end J5V.Compile
