import J5V.Compile.Convert
/-!
# Walk — declared schemas, services, topics (core only)

Mirrors `sourcewalk/schema.go` (`mapProperties`, `newObjectNode`, `mapNested`,
`RangeNestedSchemas`, `NestPath`, `NameInPackage`), `sourcewalk/service.go`
(`serviceBuilder.accept`) with `j5convert/service.go` (`visitServiceNode`,
`visitServiceMethodNode`), and `sourcewalk/topic.go` (`topicRef.accept`, `acceptTopic`,
`acceptMultiReqResTopic`) with `visitTopicNode` of `j5convert/conversion.go`.
-/
namespace J5V.Compile

/-! ## `mapProperties`: position-based numbering -/

/-- the counter loop of `mapProperties`: `n` is `fieldNumber` before the loop -/
def numberFrom (n : Nat) : List Property → List (Nat × Property)
  | [] => []
  | p :: ps => (n + 1, p) :: numberFrom (n + 1) ps

/-- `mapProperties`: virtual prepends first, then the declared properties, one counter -/
def mapProperties (virt props : List Property) : List (Nat × Property) :=
  numberFrom 0 virt ++ numberFrom virt.length props

/-! ## declared objects / oneofs with nested schemas -/

mutual
/-- `newObjectNode`/`newOneofNode` + `visitObjectNode`/`visitOneofNode` for a declared (or
virtual) schema. `np` is the parent's `NestPath()` (`[]` at top level), `virt` the virtual
prepends. The message is the last entry of `.msgs`; for a oneof its map entries precede it. -/
def convDecl (c : Ctx) (np : List Str) (isOneof : Bool) (virt : List Property) : ObjDecl → Eff
  | .mk name props nested psm =>
    let np' := np ++ [name]
    let vr := bProps c np' isOneof 1 virt
    let pr := bProps c np' isOneof (1 + virt.length) props
    let ne := convNested c np' nested
    let msg := mkMsg name isOneof psm (vr.flds ++ pr.flds)
      (vr.eff.msgs ++ pr.eff.msgs ++ ne.msgs) (vr.eff.enums ++ pr.eff.enums ++ ne.enums)
    { msgs := vr.entries ++ pr.entries ++ [msg],
      imports := (if isOneof then msgEff none else msgEff psm).imports ++ vr.eff.imports
                  ++ pr.eff.imports ++ ne.imports,
      errs := vr.eff.errs + pr.eff.errs + ne.errs,
      panic := vr.eff.panic || pr.eff.panic || ne.panic
                -- `ww.field.name` with `ww.field == nil`
                || (isOneof && name = []),
      uses := (msgEff psm).uses ++ vr.eff.uses ++ pr.eff.uses ++ ne.uses }

/-- `RangeNestedSchemas` -/
def convNested (c : Ctx) (np : List Str) : List Nested → Eff
  | [] => {}
  | .object o :: rest => convDecl c np false [] o ++ convNested c np rest
  | .oneof o :: rest => convDecl c np true [] o ++ convNested c np rest
  | .enum e :: rest => ({ enums := [convEnum e] } : Eff) ++ convNested c np rest
end

/-- a virtual object (`newVirtualObjectNode` / request, response objects): no nested, no parent -/
def convVirtual (c : Ctx) (name : Str) (virt props : List Property) (psm : Option Psm := none) : Eff :=
  convDecl c [] false virt (.mk name props [] psm)

/-! ## services -/

/-- the file a step writes to: the main file, or the `.service` / `.topic` sub-package file -/
inductive Target where
  | main | service | topic
  deriving Repr, DecidableEq, Inhabited

/-- a step of the file walk: effects on one of the (sub-)files, then possibly a walker error
that aborts `RangeRootElements` (`hard`) -/
structure Step where
  target : Target
  eff : Eff := {}
  svcs : List SvcSkel := []
  hard : Bool := false

/-- `:name` → `{snake_name}` for one path part (visitServiceMethodNode) -/
def rewritePart (part : Str) : Str :=
  match part with
  | 58 :: nm => b!"{" ++ toSnake nm ++ b!"}"
  | _ => part

/-- the path of the HTTP rule: every part rewritten; the second component counts the `addError`
calls: `:name` parts whose field is missing from the request, literal parts with a special
character -/
def rewritePath (reqProps : List Property) (resolved : Str) : Str × Nat :=
  let parts := splitOnByte 47 resolved
  let missing := (parts.filter fun part =>
    match part with
    | 58 :: nm => !(reqProps.any (·.name = nm))
    -- a literal part containing one of `{ } * :` is rejected (`fix: 5ac34d8`)
    | _ => part.any fun c => c = 123 || c = 125 || c = 42 || c = 58).length
  (joinWith b!"/" (parts.map rewritePart), missing)

def verbBody : Verb → Str
  | .get => []
  | _ => b!"*"

/-- `serviceBuilder.accept` for one method: request / response objects and the method node -/
structure MethodWalk where
  eff : Eff
  node : Option (Method × Str × Str × Str)   -- schema, input, output, resolved path; none ⇔ panic

def walkMethod (c : Ctx) (basePath : Option Str) (m : Method) : MethodWalk :=
  match m.request with
  | none => { eff := Eff.panicked, node := none }   -- `method.Request.Properties` on nil
  | some req =>
    let reqName := m.name ++ b!"Request"
    let e1 := convVirtual c reqName [] req
    let (e2, out) : Eff × Str := match m.response with
      | none => ({}, b!"google.api.HttpBody")
      | some res => (convVirtual c (m.name ++ b!"Response") [] res, m.name ++ b!"Response")
    let resolved := match basePath with
      | some bp => pathJoin [bp, m.path]
      | none => m.path
    { eff := e1 ++ e2, node := some (m, reqName, out, resolved) }

/-- `visitServiceMethodNode` -/
def convMethod (node : Method × Str × Str × Str) : Eff × Option MethodSkel :=
  let (m, input, output, resolved) := node
  let e0 := Eff.imp googleApiAnnotationsImport
  let eOpt := Eff.use googleApiAnnotationsImport ++ when (m.mopt ≠ .none) (Eff.use j5ExtImport)
  match m.request with
  | none => (e0 ++ Eff.err, none)
  | some req =>
    let e1 := when (output = b!"google.api.HttpBody") (Eff.imp googleApiHttpBodyImport)
    let (path, missing) := rewritePath req resolved
    let eMissing : Eff := { errs := missing }
    if m.verb = .unspecified then (e0 ++ e1 ++ eMissing ++ Eff.err, none) else
    (e0 ++ e1 ++ eMissing ++ eOpt,
      some { name := m.name, input := input, output := output,
             http := some { verb := m.verb, path := path, body := verbBody m.verb },
             mopt := m.mopt })

/-- `checkListMethod` (`fix:` list-response-shape): the request has a property that refers,
directly, to `j5.list.v1.QueryRequest` -/
def isListRequest (c : Ctx) (req : List Property) : Bool :=
  req.any fun p =>
    match p.schema with
    | .objectRef pkg schema _ _ =>
      match c.resolve pkg schema with
      | some t => t.pkg = b!"j5.list.v1" && t.name = b!"QueryRequest"
      | none => false
    | _ => false

/-- items of the array properties of a property list -/
def arrayItems (ps : List Property) : List Field :=
  ps.filterMap fun p =>
    match p.schema with
    | .array items _ => some items
    | _ => none

/-- the response has exactly one array property, and it holds objects -/
def listShaped : Option (List Property) → Bool
  | none => false
  | some ps =>
    match arrayItems ps with
    | [.objectRef _ _ _ _] => true
    | [.objectInl _ _ _ _] => true
    | _ => false

/-- errors `checkListMethod` adds for a method -/
def listMethodErr (c : Ctx) (m : Method) : Nat :=
  match m.request with
  | some req => if isListRequest c req && !listShaped m.response then 1 else 0
  | none => 0

def soptSkel : SOpt → SvcOpt
  | .none => .none
  | .query e => .query e
  | .command e => .command e

/-- one service of a `ServiceFileNode`: `serviceBuilder.accept` then `visitServiceNode` -/
def convService (c : Ctx) (s : Service) : Step :=
  let walks := s.methods.map (walkMethod c s.basePath)
  let effWalk := walks.foldl (fun e w => e ++ w.eff) ({} : Eff)
  match s.name with
  | none => { target := .service, eff := effWalk, hard := true }   -- "missing service name"
  | some name =>
    let built := walks.filterMap (·.node) |>.map convMethod
    let effBuild := built.foldl (fun e b => e ++ b.1) ({} : Eff)
    { target := .service,
      eff := effWalk ++ effBuild ++ ({ errs := (s.methods.map (listMethodErr c)).sum } : Eff)
              ++ when (s.sopt ≠ .none) (Eff.use j5ExtImport),
      svcs := [{ name := name ++ b!"Service", sopt := soptSkel s.sopt,
                 methods := built.filterMap (·.2) }] }

/-- `ServiceFileNode.Accept`: the sub-file is created first, even without services -/
def convServiceFile (c : Ctx) (services : List Service) : List Step :=
  { target := .service } :: services.map (convService c)

/-! ## topics -/

structure TopicNode where
  name : Str
  msgs : List TopicMsg
  topicName : Str
  role : Role
  entityName : Str := []
  prepend : List Property := []

def metaField (pkg name : Str) : Field := .objectRef pkg name false []

/-- the method / message name `acceptTopic` uses: the given one, or the topic's name when the
topic has a single message; `none` = walker error "method name is required" -/
def topicMethodName (t : TopicNode) (m : TopicMsg) : Option Str :=
  match m.name with
  | some n => some n
  | none => if t.msgs.length = 1 then some t.name else none

/-- `acceptTopic`: one step per message (a missing name aborts before the message is visited),
then the topic service -/
def acceptTopic (c : Ctx) (t : TopicNode) : List Step :=
  let msgSteps : List Step := t.msgs.map fun m =>
    match topicMethodName t m with
    | none => { target := .topic, hard := true }
    | some n => { target := .topic, eff := convVirtual c (n ++ b!"Message") t.prepend m.props }
  let methods : List MethodSkel := t.msgs.filterMap fun m =>
    (topicMethodName t m).map fun n =>
      { name := n, input := n ++ b!"Message", output := googleProtoEmptyType, http := none,
        mopt := .none }
  msgSteps ++
    [{ target := .topic,
       eff := Eff.use messagingAnnotationsImport ++ Eff.imp messagingAnnotationsImport
                ++ Eff.imp googleProtoEmptyImport,
       svcs := [{ name := toCamel t.name ++ b!"Topic",
                  sopt := .topic t.topicName t.role t.entityName, methods := methods }] }]

def requestPrepend : List Property :=
  [.mk b!"request" true false (metaField b!"j5.messaging.v1" b!"RequestMetadata")]

def upsertPrepend : List Property :=
  [.mk b!"upsert" true false (metaField b!"j5.messaging.v1" b!"UpsertMetadata")]

/-- `topicRef.accept`: the `topicNode`s a topic declaration stands for (one, or two for reqres) -/
def topicNodes (t : Topic) : List TopicNode :=
  match t.type with
  | .publish msgs =>
    [{ name := t.name, msgs := msgs, topicName := toSnake t.name, role := .publish }]
  | .reqres reqs reps =>
    [ { name := t.name ++ b!"Request", msgs := reqs, topicName := toSnake t.name,
        role := .request, prepend := requestPrepend },
      { name := t.name ++ b!"Reply", msgs := reps, topicName := toSnake t.name,
        role := .reply, prepend := requestPrepend } ]
  | .event entityName msg =>
    [{ name := t.name, msgs := [msg], topicName := toSnake t.name, role := .event,
       entityName := entityName }]
  | .upsert entityName msg =>
    [{ name := t.name, msgs := [{ msg with name := some (msg.name.getD t.name) }],
       topicName := toSnake t.name, role := .upsert, entityName := entityName,
       prepend := upsertPrepend }]

def convTopic (c : Ctx) (t : Topic) : List Step := (topicNodes t).flatMap (acceptTopic c)

/-- `TopicFileNode.Accept`: sub-file first -/
def convTopicFile (c : Ctx) (topics : List Topic) : List Step :=
  { target := .topic } :: topics.flatMap (convTopic c)

end J5V.Compile
