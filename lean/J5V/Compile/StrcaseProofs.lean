import J5V.Compile.Strcase
/-!
# Lemmas about the strcase model

The central question (C17): `sourcewalk/entity.go` names the State / Event / EventType objects
`ToCamel(name ++ suffix)` but refers to them as `ToCamel(name) ++ ToCamel(suffix)`. The two routes
agree exactly when the entity name does not end in a capital letter.
-/
namespace J5V.Compile

/-- no ASCII white space anywhere (every BCL identifier satisfies this) -/
def NoSpace (s : Str) : Prop := ∀ c ∈ s, isSpace c = false

instance (s : Str) : Decidable (NoSpace s) := by unfold NoSpace; infer_instance

theorem trimLeft_noSpace (s : Str) (h : NoSpace s) : trimLeft s = s := by
  cases s with
  | nil => rfl
  | cons v rest =>
    have : isSpace v = false := h v (by simp)
    simp [trimLeft, this]

theorem noSpace_reverse (s : Str) (h : NoSpace s) : NoSpace s.reverse := by
  intro c hc; exact h c (by simpa using hc)

theorem trimSpace_noSpace (s : Str) (h : NoSpace s) : trimSpace s = s := by
  unfold trimSpace
  rw [trimLeft_noSpace s h, trimLeft_noSpace _ (noSpace_reverse s h), List.reverse_reverse]

theorem noSpace_append (a b : Str) (ha : NoSpace a) (hb : NoSpace b) : NoSpace (a ++ b) := by
  intro c hc
  rcases List.mem_append.mp hc with h | h
  · exact ha c h
  · exact hb c h

/-- loop state `(first, capNext, prevIsCap)` of `toCamelInitCase` after consuming a string -/
def camelEnd : Bool → Bool → Bool → Str → Bool × Bool × Bool
  | f, cn, pc, [] => (f, cn, pc)
  | _, _, _, v :: rest =>
    if isCap v || isLow v then camelEnd false false (isCap v) rest
    else if isNum v then camelEnd false true false rest
    else camelEnd false (isSep v) false rest

/-- one step of the loop state: `(capNext, prevIsCap)` after byte `v` -/
def camelStep (v : Nat) : Bool × Bool :=
  if isCap v || isLow v then (false, isCap v)
  else if isNum v then (true, false)
  else (isSep v, false)

theorem camelEnd_cons (f cn pc : Bool) (v : Nat) (rest : Str) :
    camelEnd f cn pc (v :: rest) = camelEnd false (camelStep v).1 (camelStep v).2 rest := by
  by_cases h1 : (isCap v || isLow v) = true <;> by_cases h2 : isNum v = true <;>
    simp [camelEnd, camelStep, h1, h2]

theorem camelGo_append (a b : Str) (f cn pc : Bool) :
    camelGo f cn pc (a ++ b) =
      camelGo f cn pc a ++
        camelGo (camelEnd f cn pc a).1 (camelEnd f cn pc a).2.1 (camelEnd f cn pc a).2.2 b := by
  induction a generalizing f cn pc with
  | nil => simp [camelGo, camelEnd]
  | cons v rest ih =>
    by_cases h1 : (isCap v || isLow v) = true <;> by_cases h2 : isNum v = true <;>
      simp [camelGo, camelEnd, h1, h2, ih]

def lastIsCap (s : Str) : Bool :=
  match s.getLast? with
  | some l => isCap l
  | none => false

theorem lastIsCap_cons_cons (v w : Nat) (r : Str) :
    lastIsCap (v :: w :: r) = lastIsCap (w :: r) := by
  simp [lastIsCap, List.getLast?_cons_cons]

theorem isCap_not_low (v : Nat) (h : isCap v = true) : isLow v = false := by
  unfold isCap at h; unfold isLow; simp at h ⊢; omega

theorem isCap_not_num (v : Nat) (h : isCap v = true) : isNum v = false := by
  unfold isCap at h; unfold isNum; simp at h ⊢; omega

theorem camelStep_snd (v : Nat) : (camelStep v).2 = isCap v := by
  unfold camelStep
  by_cases hc : isCap v = true
  · simp [hc]
  · have hc' : isCap v = false := by simpa using hc
    by_cases h1 : isLow v = true <;> by_cases h2 : isNum v = true <;> simp [hc', h1, h2]

theorem camelStep_fst_of_cap (v : Nat) (h : isCap v = true) : (camelStep v).1 = false := by
  simp [camelStep, h]

theorem camelEnd_first (s : Str) (f cn pc : Bool) (hs : s ≠ []) : (camelEnd f cn pc s).1 = false := by
  induction s generalizing f cn pc with
  | nil => exact absurd rfl hs
  | cons v rest ih =>
    rw [camelEnd_cons]
    cases rest with
    | nil => rfl
    | cons w r => exact ih _ _ _ (by simp)

theorem camelEnd_prevIsCap (s : Str) (f cn pc : Bool) (hs : s ≠ []) :
    (camelEnd f cn pc s).2.2 = lastIsCap s := by
  induction s generalizing f cn pc with
  | nil => exact absurd rfl hs
  | cons v rest ih =>
    rw [camelEnd_cons]
    cases rest with
    | nil => simp [camelEnd, lastIsCap, camelStep_snd]
    | cons w r => rw [lastIsCap_cons_cons]; exact ih _ _ _ (by simp)

/-- when `prevIsCap` is set, `capNext` is not (a capital is a letter) -/
theorem camelEnd_capNext_of_cap (s : Str) (f cn pc : Bool) (hs : s ≠ [])
    (h : lastIsCap s = true) : (camelEnd f cn pc s).2.1 = false := by
  induction s generalizing f cn pc with
  | nil => exact absurd rfl hs
  | cons v rest ih =>
    rw [camelEnd_cons]
    cases rest with
    | nil =>
      simp only [lastIsCap, List.getLast?_singleton] at h
      simp [camelEnd, camelStep_fst_of_cap v h]
    | cons w r => rw [lastIsCap_cons_cons] at h; exact ih _ _ _ (by simp) h

/-- A suffix that `toCamelInitCase` leaves alone once its leading capital has been emitted:
`State`, `Event`, `EventType`, `Keys`, `Data`, `Status`, … -/
def CapWord (suf : Str) : Prop :=
  match suf with
  | [] => False
  | c :: rest => isCap c = true ∧ camelGo false false true rest = rest ∧ NoSpace (c :: rest)

instance (suf : Str) : Decidable (CapWord suf) := by
  unfold CapWord; cases suf <;> infer_instance

/-- emitting a cap-word from a state whose `prevIsCap` is clear reproduces it (`first` only
occurs together with `capNext`: that is `ToCamel`, not `ToLowerCamel`) -/
theorem camelGo_capWord (suf : Str) (h : CapWord suf) (f cn : Bool) (hf : f = false ∨ cn = true) :
    camelGo f cn false suf = suf := by
  cases suf with
  | nil => exact h.elim
  | cons c rest =>
    obtain ⟨hc, hr, _⟩ := h
    have hl := isCap_not_low c hc
    rcases hf with hf | hf
    · subst hf; cases cn <;> simp [camelGo, hc, hl, hr]
    · subst hf; cases f <;> simp [camelGo, hc, hl, hr]

/-- …and from a state with `prevIsCap` set (and therefore `capNext` clear, not first) its first
byte is lower-cased -/
theorem camelGo_capWord_after_cap (c : Nat) (rest : Str) (hc : isCap c = true) :
    camelGo false false true (c :: rest) = (c + 32) :: camelGo false false true rest := by
  have hl := isCap_not_low c hc
  simp [camelGo, hc]

/-- **The two naming routes of `entity.go`.** For a name without white space and a cap-word
suffix, `ToCamel(name ++ suffix) = ToCamel(name) ++ suffix` holds exactly when the name does not
end in a capital letter. -/
theorem toCamel_append_iff (n suf : Str) (hn : NoSpace n) (hs : CapWord suf) :
    toCamel (n ++ suf) = toCamel n ++ suf ↔ lastIsCap n = false := by
  cases suf with
  | nil => exact hs.elim
  | cons c rest =>
    have hsn : NoSpace (c :: rest) := hs.2.2
    unfold toCamel toCamelInit
    rw [trimSpace_noSpace _ (noSpace_append _ _ hn hsn), trimSpace_noSpace _ hn, camelGo_append]
    rw [List.append_cancel_left_eq]
    by_cases hne : n = []
    · subst hne
      simp only [camelEnd, lastIsCap, List.getLast?_nil, iff_true]
      exact camelGo_capWord _ hs true true (Or.inr rfl)
    · rw [camelEnd_prevIsCap n _ _ _ hne]
      cases hl : lastIsCap n with
      | false =>
        simp only [iff_true]
        exact camelGo_capWord _ hs _ _ (Or.inl (camelEnd_first n _ _ _ hne))
      | true =>
        rw [camelEnd_first n _ _ _ hne, camelEnd_capNext_of_cap n _ _ _ hne hl,
          camelGo_capWord_after_cap c rest hs.1]
        simp

theorem capWord_State : CapWord b!"State" := by decide
theorem capWord_Event : CapWord b!"Event" := by decide
theorem capWord_EventType : CapWord b!"EventType" := by decide

/-- `ToCamel` of a cap-word is the word itself (`componentName` applies `ToCamel` to the suffix) -/
theorem toCamel_capWord (suf : Str) (h : CapWord suf) : toCamel suf = suf := by
  cases suf with
  | nil => exact h.elim
  | cons c rest =>
    unfold toCamel toCamelInit
    rw [trimSpace_noSpace _ h.2.2]
    exact camelGo_capWord _ h true true (Or.inr rfl)

end J5V.Compile
