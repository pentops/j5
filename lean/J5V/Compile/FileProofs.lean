import J5V.Compile.File
import J5V.Go.OutcomeLemmas
/-!
# What a converted file consists of (core only)

`ConvertJ5File` runs the steps of the walk over a `rootContext`. When it succeeds, no step
panicked or aborted, no error was recorded, and the result is a *function of the step list*
(`filesOf`): the main file is the fold of the main-target steps over an empty file, each
sub-package file is the fold of the steps of that target over an empty file of the sub-package
(`freshFile`), and the sub-package files stand in the order in which the walk first reached their
targets (`subTargets`). Nothing else is in the output (`convertFile_ok`, `convertFile_of_clean`).
-/
namespace J5V.Compile
open J5V.Go

theorem mem_insertSorted (a p : Str) (l : List Str) : a ∈ insertSorted p l ↔ a = p ∨ a ∈ l := by
  induction l with
  | nil => simp [insertSorted]
  | cons q rest ih =>
    simp only [insertSorted]
    split
    · simp
    · simp only [List.mem_cons, ih]
      constructor
      · rintro (h | h | h)
        · exact Or.inr (Or.inl h)
        · exact Or.inl h
        · exact Or.inr (Or.inr h)
      · rintro (h | h | h)
        · exact Or.inr (Or.inl h)
        · exact Or.inl h
        · exact Or.inr (Or.inr h)

theorem mem_sortStrings (a : Str) (l : List Str) : a ∈ sortStrings l ↔ a ∈ l := by
  unfold sortStrings
  have : ∀ (acc : List Str), a ∈ l.foldl (fun acc p => insertSorted p acc) acc ↔ a ∈ acc ∨ a ∈ l := by
    induction l with
    | nil => intro acc; simp
    | cons p rest ih =>
      intro acc
      simp only [List.foldl_cons, ih, mem_insertSorted, List.mem_cons]
      constructor
      · rintro ((h | h) | h)
        · exact Or.inr (Or.inl h)
        · exact Or.inl h
        · exact Or.inr (Or.inr h)
      · rintro (h | h | h)
        · exact Or.inl (Or.inr h)
        · exact Or.inl (Or.inl h)
        · exact Or.inr h
  simpa using this []

theorem mem_ensureImport (own a p : Str) (deps : List Str) :
    a ∈ ensureImport own deps p ↔ a ∈ deps ∨ (a = p ∧ p ≠ own) := by
  unfold ensureImport
  by_cases h1 : p = own
  · simp [h1]
  · by_cases h2 : deps.contains p = true
    · simp only [h1, if_false, h2, if_true]
      constructor
      · exact Or.inl
      · rintro (h | ⟨h, _⟩)
        · exact h
        · subst h; simpa using h2
    · simp only [h1, if_false, h2, Bool.false_eq_true, mem_sortStrings, List.mem_append,
        List.mem_singleton]
      constructor
      · rintro (h | h)
        · exact Or.inl h
        · exact Or.inr ⟨h, h1⟩
      · rintro (h | ⟨h, _⟩)
        · exact Or.inl h
        · exact Or.inr h

theorem mem_foldl_ensureImport (own a : Str) (imports deps : List Str) :
    a ∈ imports.foldl (ensureImport own) deps ↔ a ∈ deps ∨ (a ∈ imports ∧ a ≠ own) := by
  induction imports generalizing deps with
  | nil => simp
  | cons p rest ih =>
    simp only [List.foldl_cons, ih, mem_ensureImport, List.mem_cons]
    constructor
    · rintro ((h | ⟨h, hn⟩) | ⟨h, hn⟩)
      · exact Or.inl h
      · subst h; exact Or.inr ⟨Or.inl rfl, hn⟩
      · exact Or.inr ⟨Or.inr h, hn⟩
    · rintro (h | ⟨h | h, hn⟩)
      · exact Or.inl (Or.inl h)
      · subst h; exact Or.inl (Or.inr ⟨rfl, hn⟩)
      · exact Or.inr ⟨h, hn⟩

def StepsClean (steps : List Step) : Prop := ∀ s ∈ steps, s.eff.panic = false ∧ s.hard = false

theorem runSteps_ok_inv (steps : List Step) (r r' : Root) (h : runSteps steps r = .ok r') :
    StepsClean steps ∧ r' = steps.foldl Root.apply r := by
  induction steps generalizing r with
  | nil =>
    simp only [runSteps, Outcome.ok.injEq] at h
    subst h
    exact ⟨(by intro s hs; cases hs), rfl⟩
  | cons s rest ih =>
    rw [runSteps] at h
    split at h
    · cases h
    · split at h
      · cases h
      · rename_i hp hh
        obtain ⟨hc, he⟩ := ih _ h
        refine ⟨?_, by simpa using he⟩
        intro x hx
        rcases List.mem_cons.mp hx with rfl | hx
        · exact ⟨by simpa using hp, by simpa using hh⟩
        · exact hc x hx

theorem runSteps_clean (steps : List Step) (r : Root) (h : StepsClean steps) :
    runSteps steps r = .ok (steps.foldl Root.apply r) := by
  induction steps generalizing r with
  | nil => rfl
  | cons s rest ih =>
    have hs := h s (by simp)
    rw [runSteps]
    simp only [hs.1, hs.2, Bool.false_eq_true, if_false, List.foldl_cons]
    exact ih _ (fun x hx => h x (List.mem_cons_of_mem _ hx))

def stepsOf (t : Target) (steps : List Step) : List Step := steps.filter (·.target = t)

/-- a file under construction after the given steps (all of its own target) -/
def FileB.run (f : FileB) (steps : List Step) : FileB :=
  steps.foldl (fun f s => f.apply s.eff s.svcs) f

theorem FileB.run_nil (f : FileB) : f.run [] = f := rfl

theorem FileB.run_append (f : FileB) (a b : List Step) : f.run (a ++ b) = (f.run a).run b := by
  simp [FileB.run, List.foldl_append]

theorem FileB.run_eq (f : FileB) (steps : List Step) :
    f.run steps =
      { name := f.name, pkg := f.pkg,
        deps := (steps.flatMap (·.eff.imports)).foldl (ensureImport f.name) f.deps,
        msgs := f.msgs ++ steps.flatMap (·.eff.msgs), enums := f.enums ++ steps.flatMap (·.eff.enums),
        svcs := f.svcs ++ steps.flatMap (·.svcs), uses := f.uses ++ steps.flatMap (·.eff.uses) } := by
  induction steps generalizing f with
  | nil => simp [FileB.run]
  | cons s rest ih =>
    rw [FileB.run, List.foldl_cons, ← FileB.run, ih]
    simp [FileB.apply, List.foldl_append]

theorem FileB.run_name (f : FileB) (steps : List Step) : (f.run steps).name = f.name := by
  rw [FileB.run_eq]

theorem FileB.run_pkg (f : FileB) (steps : List Step) : (f.run steps).pkg = f.pkg := by
  rw [FileB.run_eq]

theorem FileB.run_msgs (f : FileB) (steps : List Step) :
    (f.run steps).msgs = f.msgs ++ steps.flatMap (·.eff.msgs) := by
  rw [FileB.run_eq]

theorem FileB.run_enums (f : FileB) (steps : List Step) :
    (f.run steps).enums = f.enums ++ steps.flatMap (·.eff.enums) := by
  rw [FileB.run_eq]

theorem FileB.run_svcs (f : FileB) (steps : List Step) :
    (f.run steps).svcs = f.svcs ++ steps.flatMap (·.svcs) := by
  rw [FileB.run_eq]

theorem FileB.run_uses (f : FileB) (steps : List Step) :
    (f.run steps).uses = f.uses ++ steps.flatMap (·.eff.uses) := by
  rw [FileB.run_eq]

theorem FileB.run_deps (f : FileB) (steps : List Step) :
    (f.run steps).deps = (steps.flatMap (·.eff.imports)).foldl (ensureImport f.name) f.deps := by
  rw [FileB.run_eq]

theorem Target.sub_main {t : Target} {k : Str} (h : t.sub = some k) : t ≠ .main := by
  intro e; subst e; cases h

theorem stepsOf_append (t : Target) (a b : List Step) :
    stepsOf t (a ++ b) = stepsOf t a ++ stepsOf t b := by simp [stepsOf]

theorem stepsOf_snoc_ne (t : Target) (steps : List Step) (s : Step) (h : s.target ≠ t) :
    stepsOf t (steps ++ [s]) = stepsOf t steps := by
  simp [stepsOf, h]

theorem stepsOf_snoc_eq (t : Target) (steps : List Step) (s : Step) (h : s.target = t) :
    stepsOf t (steps ++ [s]) = stepsOf t steps ++ [s] := by
  simp [stepsOf, h]

theorem Root.apply_sub (r : Root) (s : Step) (k : Str) (hs : s.target.sub = some k) :
    r.apply s =
      { r with
        subs := (if r.subs.any (fun x => x.2.pkg = r.main.pkg ++ b!"." ++ k) then r.subs
          else r.subs ++ [(k, { name := subPackageFileName r.main.name k,
                                pkg := r.main.pkg ++ b!"." ++ k })]).map (fun kf =>
            if kf.2.pkg = r.main.pkg ++ b!"." ++ k then (kf.1, kf.2.apply s.eff s.svcs)
            else (kf.1, kf.2)),
        errs := r.errs + s.eff.errs } := by
  unfold Root.apply
  simp only [hs]

/-- the empty file the output for target `t` goes to: the main file, or the file of the
sub-package (`subPackageFile` on first use) -/
def freshFile (name pkg : Str) (t : Target) : FileB :=
  match t.sub with
  | none => { name := name, pkg := pkg }
  | some k => { name := subPackageFileName name k, pkg := pkg ++ b!"." ++ k }

theorem freshFile_sub (name pkg : Str) {t : Target} {k : Str} (h : t.sub = some k) :
    freshFile name pkg t = { name := subPackageFileName name k, pkg := pkg ++ b!"." ++ k } := by
  rw [freshFile, h]

theorem freshFile_deps (name pkg : Str) (t : Target) : (freshFile name pkg t).deps = [] := by
  cases t <;> rfl
theorem freshFile_msgs (name pkg : Str) (t : Target) : (freshFile name pkg t).msgs = [] := by
  cases t <;> rfl
theorem freshFile_enums (name pkg : Str) (t : Target) : (freshFile name pkg t).enums = [] := by
  cases t <;> rfl
theorem freshFile_svcs (name pkg : Str) (t : Target) : (freshFile name pkg t).svcs = [] := by
  cases t <;> rfl
theorem freshFile_uses (name pkg : Str) (t : Target) : (freshFile name pkg t).uses = [] := by
  cases t <;> rfl

/-- the sub-package targets of a step list, in the order their files are created -/
def subTargets (steps : List Step) : List Target :=
  steps.foldl (fun acc s => if s.target = .main ∨ s.target ∈ acc then acc else acc ++ [s.target]) []

theorem subTargets_snoc (steps : List Step) (s : Step) :
    subTargets (steps ++ [s]) =
      if s.target = .main ∨ s.target ∈ subTargets steps then subTargets steps
      else subTargets steps ++ [s.target] := by
  rw [subTargets, List.foldl_append]; rfl

theorem mem_subTargets (steps : List Step) (t : Target) :
    t ∈ subTargets steps ↔ t ≠ .main ∧ ∃ s ∈ steps, s.target = t := by
  have : ∀ acc : List Target, t ∈ steps.foldl (fun acc s =>
      if s.target = .main ∨ s.target ∈ acc then acc else acc ++ [s.target]) acc ↔
      t ∈ acc ∨ (t ≠ .main ∧ ∃ s ∈ steps, s.target = t) := by
    induction steps with
    | nil => simp
    | cons s rest ih =>
      intro acc
      rw [List.foldl_cons, ih]
      by_cases hst : s.target = t
      · subst hst
        by_cases hm : s.target = .main
        · simp [hm]
        · by_cases hin : s.target ∈ acc <;> simp [hm, hin]
      · have : ∀ l : List Target, t ∈ l ++ [s.target] ↔ t ∈ l := by simp [Ne.symm hst]
        split <;> simp [hst, this]
  simpa [subTargets] using this []

theorem stepsOf_eq_nil {t : Target} {steps : List Step} (hm : t ≠ .main) (h : t ∉ subTargets steps) :
    stepsOf t steps = [] := by
  rw [stepsOf, List.filter_eq_nil_iff]
  intro s hs hst
  exact h ((mem_subTargets steps t).mpr ⟨hm, s, hs, by simpa using hst⟩)

theorem subTargets_nodup (steps : List Step) : (subTargets steps).Nodup := by
  have : ∀ acc : List Target, acc.Nodup → (steps.foldl (fun acc s =>
      if s.target = .main ∨ s.target ∈ acc then acc else acc ++ [s.target]) acc).Nodup := by
    induction steps with
    | nil => exact fun _ h => h
    | cons s rest ih =>
      intro acc h
      rw [List.foldl_cons]
      split
      · exact ih _ h
      · rename_i hn
        exact ih _ (List.nodup_append.mpr ⟨h, (by simp), fun a ha b hb e =>
          hn (Or.inr (by rw [← List.mem_singleton.mp hb, ← e]; exact ha))⟩)
  exact this [] List.nodup_nil

/-- the `rootContext` after a walk, as a function of the steps -/
def Root.after (name pkg : Str) (steps : List Step) : Root :=
  { main := (freshFile name pkg .main).run (stepsOf .main steps),
    subs := (subTargets steps).map fun t =>
      (t.sub.getD [], (freshFile name pkg t).run (stepsOf t steps)),
    errs := (steps.map (·.eff.errs)).sum }

theorem freshFile_pkg_eq (name pkg k : Str) {t t' : Target} (ht : t.sub = some k) (ht' : t' ≠ .main) :
    (freshFile name pkg t').pkg = pkg ++ b!"." ++ k ↔ t' = t := by
  cases t <;> cases t' <;> simp [Target.sub] at ht ht' <;> subst ht <;>
    simp [freshFile, Target.sub]

theorem freshFile_pkg_inj (name pkg : Str) {t t' : Target} (ht : t ≠ .main) (ht' : t' ≠ .main)
    (h : (freshFile name pkg t).pkg = (freshFile name pkg t').pkg) : t = t' := by
  cases t <;> cases t' <;>
    first | rfl | exact absurd rfl ht | exact absurd rfl ht' | exact absurd (List.append_cancel_left h) (by decide)

theorem Root.after_snoc (name pkg : Str) (steps : List Step) (s : Step) :
    (Root.after name pkg steps).apply s = Root.after name pkg (steps ++ [s]) := by
  have hsum : ((steps ++ [s]).map (·.eff.errs)).sum = (steps.map (·.eff.errs)).sum + s.eff.errs := by
    simp
  cases hs : s.target.sub with
  | none =>
    -- a step of the main file: no sub-package file has a step more
    have hmain : s.target = .main := by cases ht : s.target <;> simp [ht, Target.sub] at hs; rfl
    have hap : ∀ r : Root, r.apply s =
        { r with main := r.main.apply s.eff s.svcs, errs := r.errs + s.eff.errs } := by
      intro r; simp [Root.apply, hs]
    rw [hap]
    simp only [Root.after, hsum, subTargets_snoc, hmain, true_or, if_true,
      stepsOf_snoc_eq _ _ s hmain, FileB.run_append]
    congr 1
    apply List.map_congr_left
    intro t ht
    rw [stepsOf_snoc_ne _ _ s (by rw [hmain]; exact ((mem_subTargets steps t).mp ht).1.symm)]
  | some k =>
    have hsm : s.target ≠ .main := Target.sub_main hs
    rw [Root.apply_sub _ s k hs]
    have hpkg : (Root.after name pkg steps).main.pkg = pkg := FileB.run_pkg _ _
    have hname : (Root.after name pkg steps).main.name = name := FileB.run_name _ _
    rw [hpkg, hname]
    -- what the update makes of the entry of a sub-package target: its entry one step later
    have hupd : ∀ t', t' ≠ .main →
        (if ((freshFile name pkg t').run (stepsOf t' steps)).pkg = pkg ++ b!"." ++ k then
          (t'.sub.getD [], ((freshFile name pkg t').run (stepsOf t' steps)).apply s.eff s.svcs)
        else (t'.sub.getD [], (freshFile name pkg t').run (stepsOf t' steps))) =
        (t'.sub.getD [], (freshFile name pkg t').run (stepsOf t' (steps ++ [s]))) := by
      intro t' ht'
      have hp : ((freshFile name pkg t').run (stepsOf t' steps)).pkg = pkg ++ b!"." ++ k ↔ t' = s.target := by
        rw [FileB.run_pkg]; exact freshFile_pkg_eq name pkg k hs ht'
      by_cases e : t' = s.target
      · rw [if_pos (hp.mpr e), stepsOf_snoc_eq _ _ s e.symm, FileB.run_append]; rfl
      · rw [if_neg (mt hp.mp e), stepsOf_snoc_ne _ _ s (Ne.symm e)]
    have hmap : ∀ L : List Target, (∀ t' ∈ L, t' ≠ .main) →
        (L.map fun t => (t.sub.getD [], (freshFile name pkg t).run (stepsOf t steps))).map
          (fun kf => if kf.2.pkg = pkg ++ b!"." ++ k then (kf.1, kf.2.apply s.eff s.svcs)
            else (kf.1, kf.2)) =
        L.map fun t => (t.sub.getD [], (freshFile name pkg t).run (stepsOf t (steps ++ [s]))) := by
      intro L hL
      rw [List.map_map]
      exact List.map_congr_left fun t' ht' => hupd t' (hL t' ht')
    have hL : ∀ t' ∈ subTargets steps, t' ≠ .main := fun t' h => ((mem_subTargets steps t').mp h).1
    -- `subPackageFile` finds the file by its package: it is there iff the target was reached before
    have hany : ((Root.after name pkg steps).subs.any fun x => x.2.pkg = pkg ++ b!"." ++ k) =
        decide (s.target ∈ subTargets steps) := by
      rw [Bool.eq_iff_iff, List.any_eq_true, decide_eq_true_iff]
      simp only [Root.after, List.mem_map, decide_eq_true_eq]
      constructor
      · rintro ⟨_, ⟨t', ht', rfl⟩, h⟩
        rw [FileB.run_pkg, freshFile_pkg_eq name pkg k hs (hL t' ht')] at h
        exact h ▸ ht'
      · intro h
        exact ⟨_, ⟨s.target, h, rfl⟩, by rw [FileB.run_pkg, freshFile_pkg_eq name pkg k hs hsm]⟩
    rw [hany]
    simp only [Root.after, hsum, subTargets_snoc, hsm, false_or, stepsOf_snoc_ne .main steps s hsm]
    by_cases hin : s.target ∈ subTargets steps
    · simp only [hin, decide_true, if_true, hmap _ hL]
    · -- first step of this target: the file that is created is the entry of the target with no step yet
      have hnew : ((k, { name := subPackageFileName name k, pkg := pkg ++ b!"." ++ k }) : Str × FileB) =
          (s.target.sub.getD [], (freshFile name pkg s.target).run (stepsOf s.target steps)) := by
        rw [stepsOf_eq_nil hsm hin, FileB.run_nil, freshFile, hs]; rfl
      simp only [hin, decide_false, Bool.false_eq_true, if_false, hnew]
      rw [← List.map_singleton (f := fun t => (Target.sub t |>.getD [], (freshFile name pkg t).run (stepsOf t steps))),
        ← List.map_append, hmap _ (by
          intro t' ht'
          rcases List.mem_append.mp ht' with h | h
          · exact hL t' h
          · rw [List.mem_singleton.mp h]; exact hsm)]

theorem Root.foldl_apply_after (name pkg : Str) (pre steps : List Step) :
    steps.foldl Root.apply (Root.after name pkg pre) = Root.after name pkg (pre ++ steps) := by
  induction steps generalizing pre with
  | nil => simp
  | cons s rest ih => rw [List.foldl_cons, Root.after_snoc, ih]; simp

/-- **the files a walk leaves**: the main file, then the sub-package files in creation order -/
def filesOf (name pkg : Str) (steps : List Step) : List FileSkel :=
  (Target.main :: subTargets steps).map fun t => ((freshFile name pkg t).run (stepsOf t steps)).skel

/-- **the result of a walk is a function of its steps** -/
theorem Root.foldl_apply_eq (name pkg : Str) (steps : List Step) :
    steps.foldl Root.apply { main := { name := name, pkg := pkg } } = Root.after name pkg steps :=
  Root.foldl_apply_after name pkg [] steps

theorem Root.after_files (name pkg : Str) (steps : List Step) :
    (Root.after name pkg steps).main.skel :: (Root.after name pkg steps).subs.map (·.2.skel) =
      filesOf name pkg steps := by
  simp [Root.after, filesOf]

theorem mem_filesOf {name pkg : Str} {steps : List Step} {f : FileSkel} :
    f ∈ filesOf name pkg steps ↔ ∃ t, (t = .main ∨ ∃ s ∈ steps, s.target = t) ∧
      f = ((freshFile name pkg t).run (stepsOf t steps)).skel := by
  simp only [filesOf, List.mem_map, List.mem_cons, mem_subTargets]
  constructor
  · rintro ⟨t, h | h, rfl⟩
    · exact ⟨t, Or.inl h, rfl⟩
    · exact ⟨t, Or.inr h.2, rfl⟩
  · rintro ⟨t, h, rfl⟩
    by_cases hm : t = .main
    · exact ⟨t, Or.inl hm, rfl⟩
    · exact ⟨t, Or.inr ⟨hm, h.resolve_left hm⟩, rfl⟩

theorem filesOf_append_le (name pkg : Str) (steps more : List Step) :
    ∀ f ∈ filesOf name pkg steps, ∃ f' ∈ filesOf name pkg (steps ++ more),
      f'.name = f.name ∧ f'.pkg = f.pkg ∧ f.msgs <+: f'.msgs ∧ f.enums <+: f'.enums ∧
      f.svcs <+: f'.svcs := by
  intro f hf
  obtain ⟨t, ht, rfl⟩ := mem_filesOf.mp hf
  refine ⟨_, mem_filesOf.mpr ⟨t, ht.imp_right fun ⟨s, hs, e⟩ => ⟨s, List.mem_append_left _ hs, e⟩, rfl⟩, ?_⟩
  rw [stepsOf_append, FileB.run_append]
  generalize (freshFile name pkg t).run (stepsOf t steps) = g
  rw [FileB.run_eq g]
  exact ⟨rfl, rfl, List.prefix_append _ _, List.prefix_append _ _, List.prefix_append _ _⟩

def fileSteps (c : Ctx) (pkg : Str) (elems : List Elem) : List Step :=
  (elems.flatMap (itemsOfElem pkg)).flatMap (convItem c)

/-- the references of a file -/
def fileRefs (pkg : Str) (elems : List Elem) : List (Str × Str) :=
  (elems.flatMap (itemsOfElem pkg)).flatMap itemRefs

theorem convertFile_eq (res : Resolver) (path : Str) (imports : List Import) (elems : List Elem) :
    convertFile res path imports elems =
      (j5Imports (packageFromFilename (path ++ b!".proto")) imports).bind fun im =>
      (runSteps (fileSteps ⟨resolveTypeNoImport im res⟩ (packageFromFilename (path ++ b!".proto")) elems)
        { main := { name := path ++ b!".proto", pkg := packageFromFilename (path ++ b!".proto") } }).bind fun r =>
      if r.errs > 0 then .err "convert" else .ok (r.main.skel :: r.subs.map (·.2.skel)) := by
  unfold convertFile
  simp only []
  cases j5Imports (packageFromFilename (path ++ b!".proto")) imports with
  | err t => rfl
  | panic w => rfl
  | ok im =>
    show (match runSteps (fileSteps ⟨resolveTypeNoImport im res⟩ _ elems) _ with
      | .err t => _ | .panic w => _ | .ok r => _) = Outcome.bind (runSteps _ _) _
    cases runSteps (fileSteps ⟨resolveTypeNoImport im res⟩ (packageFromFilename (path ++ b!".proto")) elems)
      { main := { name := path ++ b!".proto", pkg := packageFromFilename (path ++ b!".proto") } } <;> rfl

theorem convertFile_congr_steps (res res' : Resolver) (path : Str) (imports : List Import) (elems : List Elem)
    (h : ∀ im, j5Imports (packageFromFilename (path ++ b!".proto")) imports = .ok im →
      fileSteps ⟨resolveTypeNoImport im res⟩ (packageFromFilename (path ++ b!".proto")) elems =
      fileSteps ⟨resolveTypeNoImport im res'⟩ (packageFromFilename (path ++ b!".proto")) elems) :
    convertFile res path imports elems = convertFile res' path imports elems := by
  rw [convertFile_eq, convertFile_eq]
  -- (`rfl` would compare the two continuations before it looks at the outcome)
  cases hj : j5Imports (packageFromFilename (path ++ b!".proto")) imports <;> simp only [Outcome.bind]
  rw [h _ hj]

/-- **`ConvertJ5File` succeeded**: the imports were accepted, no step panicked, aborted or recorded
an error, and the generated files are those of the steps -/
theorem convertFile_ok (res : Resolver) (path : Str) (imports : List Import) (elems : List Elem)
    (fs : List FileSkel) (h : convertFile res path imports elems = .ok fs) :
    ∃ im, j5Imports (packageFromFilename (path ++ b!".proto")) imports = .ok im ∧
      StepsClean (fileSteps ⟨resolveTypeNoImport im res⟩ (packageFromFilename (path ++ b!".proto")) elems) ∧
      (∀ s ∈ fileSteps ⟨resolveTypeNoImport im res⟩ (packageFromFilename (path ++ b!".proto")) elems,
        s.eff.errs = 0) ∧
      fs = filesOf (path ++ b!".proto") (packageFromFilename (path ++ b!".proto"))
        (fileSteps ⟨resolveTypeNoImport im res⟩ (packageFromFilename (path ++ b!".proto")) elems) := by
  rw [convertFile_eq] at h
  obtain ⟨im, hj, h⟩ := bind_eq_ok h
  obtain ⟨r, hr, h⟩ := bind_eq_ok h
  obtain ⟨hc, rfl⟩ := runSteps_ok_inv _ _ _ hr
  rw [Root.foldl_apply_eq] at h
  obtain ⟨herr, h⟩ := ite_eq_ok h
  refine ⟨im, hj, hc, fun s hs => ?_, (Outcome.ok.inj h).symm.trans (Root.after_files _ _ _)⟩
  exact List.sum_eq_zero_iff_forall_eq_nat.mp (Nat.eq_zero_of_not_pos herr) _
    (List.mem_map_of_mem (f := fun s : Step => s.eff.errs) hs)

/-- conversely: clean steps without recorded errors give their files -/
theorem convertFile_of_clean (res : Resolver) (path : Str) (imports : List Import)
    (elems : List Elem) (im : ImportMap)
    (hj : j5Imports (packageFromFilename (path ++ b!".proto")) imports = .ok im)
    (hc : StepsClean (fileSteps ⟨resolveTypeNoImport im res⟩ (packageFromFilename (path ++ b!".proto")) elems))
    (he : ∀ s ∈ fileSteps ⟨resolveTypeNoImport im res⟩ (packageFromFilename (path ++ b!".proto")) elems,
      s.eff.errs = 0) :
    convertFile res path imports elems = .ok
      (filesOf (path ++ b!".proto") (packageFromFilename (path ++ b!".proto"))
        (fileSteps ⟨resolveTypeNoImport im res⟩ (packageFromFilename (path ++ b!".proto")) elems)) := by
  rw [convertFile_eq, hj]
  show Outcome.bind (runSteps _ _) _ = _
  rw [runSteps_clean _ _ hc, Root.foldl_apply_eq]
  show (if (Root.after _ _ _).errs > 0 then _ else _) = _
  rw [if_neg, Root.after_files]
  exact Nat.not_lt.mpr (Nat.le_of_eq (List.sum_eq_zero_iff_forall_eq_nat.mpr fun x hx => by
    obtain ⟨s, hs, rfl⟩ := List.mem_map.mp hx
    exact he s hs))

theorem exportsProps_append (np : List Str) (a b : List Property) :
    exportsProps np (a ++ b) = exportsProps np a ++ exportsProps np b := by
  induction a with
  | nil => simp [exportsProps]
  | cons p ps ih => simp [exportsProps, ih]

end J5V.Compile
