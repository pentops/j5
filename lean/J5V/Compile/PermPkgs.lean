import J5V.Compile.LoadProofs
import J5V.Compile.OrderProofs
import J5V.Compile.Link
/-!
# Permuting the package listing, and the files offered to the link step (C14, core only)

`ListPackages()` only decides which names are local (`find?` by name); with distinct package
names its order is irrelevant. The link step looks files up by name in the universe of converted
files; with distinct file names the order of the other packages' files is irrelevant.
-/
namespace J5V.Compile
open J5V.Go

theorem find_perm (b b' : Bundle) (hperm : b.pkgs.Perm b'.pkgs)
    (hnd : (b.pkgs.map (·.name)).Nodup) (n : Str) : b.find n = b'.find n :=
  find?_key_perm (fun p : Pkg => p.name) hperm hnd n

theorem loadPkg_congr_find (b b' : Bundle) (h : ∀ n, b.find n = b'.find n) (fuel : Nat)
    (chain : List Str) (name : Str) : loadPkg b fuel chain name = loadPkg b' fuel chain name :=
  loadPkg_congr b b' fuel chain name fun n _ => h n

theorem compile_perm_pkgs (b b' : Bundle) (hperm : b.pkgs.Perm b'.pkgs)
    (hnd : (b.pkgs.map (·.name)).Nodup) (name : Str) :
    compilePkg b name = compilePkg b' name ∧ compileLinked b name = compileLinked b' name := by
  have hl := loadPkg_congr_find b b' (find_perm b b' hperm hnd) (b.pkgs.length + 1) [] name
  have hlen : b.pkgs.length = b'.pkgs.length := hperm.length_eq
  unfold compilePkg compileLinked
  rw [hl, hlen]
  exact ⟨rfl, rfl⟩

/-! ## the link step -/

theorem reachesSelf_congr (u u' : List LFile) (h : ∀ d, u.find? (·.name = d) = u'.find? (·.name = d))
    (start : Str) : ∀ (fuel : Nat) (cur : Str), reachesSelf u start fuel cur = reachesSelf u' start fuel cur := by
  intro fuel
  induction fuel with
  | zero => intro cur; rfl
  | succ fuel ih =>
    intro cur
    rw [reachesSelf, reachesSelf, h cur]
    cases u'.find? (·.name = cur) with
    | none => rfl
    | some f =>
      simp only []
      congr 1
      funext d
      rw [ih d]

theorem reachNames_congr (u u' : List LFile) (h : ∀ d, u.find? (·.name = d) = u'.find? (·.name = d)) :
    ∀ (fuel : Nat) (work seen : List Str), reachNames u fuel work seen = reachNames u' fuel work seen := by
  intro fuel
  induction fuel with
  | zero => intro work seen; rfl
  | succ fuel ih =>
    intro work seen
    cases work with
    | nil => rfl
    | cons n rest =>
      rw [reachNames, reachNames, h n]
      split
      · exact ih _ _
      · cases u'.find? (·.name = n) with
        | none => exact ih _ _
        | some f => exact ih _ _

theorem linkFile_congr (u u' : List LFile) (h : ∀ d, u.find? (·.name = d) = u'.find? (·.name = d))
    (f : FileSkel) : linkFile u f = linkFile u' f := by
  unfold linkFile
  have : (fun d => u.find? (·.name = d)) = fun d => u'.find? (·.name = d) := funext h
  simp only [this]

/-- the link step reads its universe through lookups by name, through its length and through the
number of its dependency edges (two fuel bounds) -/
theorem linkFiles_congr (others others' : List LFile) (files : List FileSkel)
    (hfind : ∀ d, (files.map (·.lfile) ++ others ++ builtinFiles).find? (·.name = d) =
      (files.map (·.lfile) ++ others' ++ builtinFiles).find? (·.name = d))
    (hlen : others.length = others'.length)
    (hdeps : (others.flatMap (·.deps)).length = (others'.flatMap (·.deps)).length) :
    linkFiles others files = linkFiles others' files := by
  have hulen : (files.map (·.lfile) ++ others ++ builtinFiles).length =
      (files.map (·.lfile) ++ others' ++ builtinFiles).length := by
    simp only [List.length_append, hlen]
  have hudeps : ((files.map (·.lfile) ++ others ++ builtinFiles).flatMap (·.deps)).length =
      ((files.map (·.lfile) ++ others' ++ builtinFiles).flatMap (·.deps)).length := by
    simp only [List.flatMap_append, List.length_append, hdeps]
  have hls : linkedSet (files.map (·.lfile) ++ others ++ builtinFiles) files =
      linkedSet (files.map (·.lfile) ++ others' ++ builtinFiles) files := by
    unfold linkedSet
    simp only [hudeps, reachNames_congr _ _ hfind, hfind]
  unfold linkFiles
  simp only [hulen, hls, funext fun f : FileSkel => reachesSelf_congr _ _ hfind f.name
    (files.map (·.lfile) ++ others' ++ builtinFiles).length f.name,
    funext fun f => linkFile_congr _ _ hfind f]

end J5V.Compile
