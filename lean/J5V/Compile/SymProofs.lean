import J5V.Compile.ExactProofs
import J5V.Compile.LinkRelative
/-!
# Declared types are symbols of the generated file (core only)

`SourceSummary` lists what a j5s file exports (`exportsDecl`, `exportsProps` …: every object,
oneof and enum, declared, nested or inline, under its package-relative dotted name); the converter
emits messages and enums. Here: every export is a message / enum symbol `<package>.<dotted name>` of
what the same declaration converts to (`SymsIn`), by the same induction over fields, property
lists and declarations — the link side of "references resolve to the declared type"
(`C02_declared_types_link`).
-/
namespace J5V.Compile
open J5V.Go

theorem joinWith_append_singleton (sep : Str) (l : List Str) (x : Str) (h : l ≠ []) :
    joinWith sep (l ++ [x]) = joinWith sep l ++ sep ++ x :=
  joinWith_append sep l [x] h (List.cons_ne_nil _ _)

/-- full name of the message at nesting path `np` in package `pkg` -/
def pathFull (pkg : Str) : List Str → Str
  | [] => pkg
  | a :: rest => pathFull (qual pkg a) rest

theorem pathFull_append (pkg : Str) (np : List Str) (a : Str) :
    pathFull pkg (np ++ [a]) = qual (pathFull pkg np) a := by
  induction np generalizing pkg with
  | nil => rfl
  | cons b rest ih => simp [pathFull, ih]

theorem pathFull_ne_nil (pkg : Str) (np : List Str) (h : pkg ≠ []) : pathFull pkg np ≠ [] := by
  induction np generalizing pkg with
  | nil => exact h
  | cons a rest ih => exact ih _ (qual_ne_nil pkg a h)

theorem joinWith_cons (sep a : Str) (l : List Str) (h : l ≠ []) :
    joinWith sep (a :: l) = a ++ sep ++ joinWith sep l := by
  cases l with
  | nil => exact absurd rfl h
  | cons b rest => rfl

theorem pathFull_relName (pkg : Str) (hp : pkg ≠ []) (np : List Str) (nm : Str) :
    qual (pathFull pkg np) nm = qual pkg (relName np nm) := by
  induction np generalizing pkg with
  | nil => simp [pathFull, relName, joinWith]
  | cons a rest ih =>
    have hq : qual pkg a ≠ [] := qual_ne_nil _ _ hp
    rw [pathFull, ih (qual pkg a) hq]
    simp only [qual, hp, hq, if_false, relName, List.cons_append]
    rw [joinWith_cons _ a (rest ++ [nm]) (by simp)]
    simp [List.append_assoc]



/-! ## every exported type is a symbol of the generated file -/

def kindSym : TKind → SymKind
  | .message _ => .msg
  | .enum _ _ => .enum

theorem mem_msgsSyms (pfx : Str) (msgs : List MsgSkel) (x : Str × SymKind) :
    x ∈ msgsSyms pfx msgs ↔ ∃ m ∈ msgs, x ∈ msgSyms pfx m := by
  induction msgs with
  | nil => simp [msgsSyms]
  | cons m rest ih =>
    rw [msgsSyms, List.mem_append, ih]
    constructor
    · rintro (h | ⟨m', hm', h⟩)
      · exact ⟨m, by simp, h⟩
      · exact ⟨m', List.mem_cons_of_mem _ hm', h⟩
    · rintro ⟨m', hm', h⟩
      rcases List.mem_cons.mp hm' with rfl | hm''
      · exact Or.inl h
      · exact Or.inr ⟨m', hm'', h⟩

/-- the symbols below a scope `F` contributed by nested messages and enums -/
def scopeSyms (F : Str) (msgs : List MsgSkel) (enums : List EnumSkel) : List (Str × SymKind) :=
  msgsSyms F msgs ++ enums.flatMap (enumSyms F)

theorem scopeSyms_mono (F : Str) (msgs msgs' : List MsgSkel) (enums enums' : List EnumSkel)
    (hm : ∀ m ∈ msgs, m ∈ msgs') (he : ∀ e ∈ enums, e ∈ enums') :
    ∀ x ∈ scopeSyms F msgs enums, x ∈ scopeSyms F msgs' enums' := by
  intro x hx
  simp only [scopeSyms, List.mem_append, mem_msgsSyms, List.mem_flatMap] at hx ⊢
  rcases hx with ⟨m, hm', h⟩ | ⟨e, he', h⟩
  · exact Or.inl ⟨m, hm m hm', h⟩
  · exact Or.inr ⟨e, he e he', h⟩

/-- symbols of a message: its own name, then everything in its scope -/
theorem msgSyms_self (pfx name : Str) (kind : MsgKind) (psm : Option Psm) (fields : List FieldSkel)
    (msgs : List MsgSkel) (enums : List EnumSkel) :
    (qual pfx name, SymKind.msg) ∈ msgSyms pfx (.mk name kind psm fields msgs enums) := by
  rw [msgSyms]; simp

theorem msgSyms_scope (pfx name : Str) (kind : MsgKind) (psm : Option Psm) (fields : List FieldSkel)
    (msgs : List MsgSkel) (enums : List EnumSkel) :
    ∀ x ∈ scopeSyms (qual pfx name) msgs enums, x ∈ msgSyms pfx (.mk name kind psm fields msgs enums) := by
  intro x hx
  rw [msgSyms]
  simp only [scopeSyms, List.mem_append] at hx
  simp only [List.mem_append]
  rcases hx with h | h
  · exact Or.inl (Or.inr h)
  · exact Or.inr h

/-- exports `ex` (names relative to the package) are symbols in scope `F` -/
def SymsIn (pkg F : Str) (msgs : List MsgSkel) (enums : List EnumSkel) (ex : List (Str × TKind)) : Prop :=
  ∀ x ∈ ex, (qual pkg x.1, kindSym x.2) ∈ scopeSyms F msgs enums

theorem SymsIn.mono {pkg F : Str} {msgs msgs' : List MsgSkel} {enums enums' : List EnumSkel}
    {ex : List (Str × TKind)} (h : SymsIn pkg F msgs enums ex)
    (hm : ∀ m ∈ msgs, m ∈ msgs') (he : ∀ e ∈ enums, e ∈ enums') : SymsIn pkg F msgs' enums' ex :=
  fun x hx => scopeSyms_mono F msgs msgs' enums enums' hm he _ (h x hx)

theorem SymsIn.append {pkg F : Str} {msgs : List MsgSkel} {enums : List EnumSkel}
    {a b : List (Str × TKind)} (ha : SymsIn pkg F msgs enums a) (hb : SymsIn pkg F msgs enums b) :
    SymsIn pkg F msgs enums (a ++ b) := by
  intro x hx
  rcases List.mem_append.mp hx with h | h
  · exact ha x h
  · exact hb x h

theorem enumFieldWith_pre_sub (pre walk : Eff) (tn pfx : Str) (names : List Str) (rules : Rules)
    (lr : Option (List Str)) :
    (∀ m ∈ pre.msgs, m ∈ (enumFieldWith pre walk tn pfx names rules lr).eff.msgs) ∧
    (∀ e ∈ pre.enums, e ∈ (enumFieldWith pre walk tn pfx names rules lr).eff.enums) := by
  unfold enumFieldWith
  split
  · simp
  · split <;> simp

theorem scalarField_walk {f : Field} {b : BF} (h : scalarField f = some b) : b.walk = {} := by
  cases f <;> simp only [scalarField, Option.some.injEq, reduceCtorEq] at h
  case integer => split at h <;> cases h <;> rfl
  case float => split at h <;> cases h <;> rfl
  all_goals cases h; rfl

theorem msgRefField_walk (c : Ctx) (pkg schema ext : Str) (rules : Rules) (lr : Bool) :
    (msgRefField c pkg schema ext rules lr).walk = {} := by
  unfold msgRefField; split <;> rfl

/-- what `buildFieldNode` adds is kept by `buildField` -/
theorem bField_walk_sub (c : Ctx) (np : List Str) (d : Str) (f : Field) :
    (∀ m ∈ (bField c np d f).walk.msgs, m ∈ (bField c np d f).eff.msgs) ∧
    (∀ e ∈ (bField c np d f).walk.enums, e ∈ (bField c np d f).eff.enums) := by
  refine (field_induct (Ps := fun _ => True)
    (F := fun f => ∀ np d, (∀ m ∈ (bField c np d f).walk.msgs, m ∈ (bField c np d f).eff.msgs) ∧
      (∀ e ∈ (bField c np d f).walk.enums, e ∈ (bField c np d f).eff.enums))
    ?scalar ?objectRef ?oneofRef ?enumRef ?objectInl ?oneofInl ?enumInl ?array ?map trivial
    (fun _ _ _ _ _ _ _ => trivial)).1 f np d
  case scalar =>
    intro f b hs np d
    rw [bField_scalar c np d f b hs, scalarField_walk hs]
    exact ⟨fun _ h => (nomatch h), fun _ h => (nomatch h)⟩
  case objectRef | oneofRef =>
    intro _ _ _ _ np d
    rw [bField, msgRefField_walk]
    exact ⟨fun _ h => (nomatch h), fun _ h => (nomatch h)⟩
  case enumRef =>
    intro pkg schema rules lr np d
    rw [bField]
    cases refField c pkg schema true with
    | mk e o =>
      cases o with
      | none => simp
      | some t =>
        dsimp only
        cases t.kind with
        | message o => simp
        | enum pfx names => simp [enumFieldWith_walk]
  case objectInl => intro name props fl rules _ np d; rw [bField]; simp [msgInlField]
  case oneofInl => intro name props rules lr _ np d; rw [bField]; simp [msgInlField]
  case enumInl =>
    intro e rules lr np d
    rw [bField]
    simp only [enumTKind]
    rw [enumFieldWith_walk]
    exact enumFieldWith_pre_sub _ _ _ _ _ _ _
  case array => intro items rules _ np d; rw [bField]; simp
  case map => intro items rules _ np d; rw [bField]; simp

/-- `buildProperty` keeps the nested types `buildField` produced -/
theorem bProperty_eff_sup (c : Ctx) (np : List Str) (io : Bool) (n : Nat) (name : Str)
    (req opt : Bool) (schema : Field) :
    (∀ m ∈ (bField c np (toCamel name) (builtField schema)).eff.msgs,
      m ∈ (bProperty c np io n (.mk name req opt schema)).eff.msgs) ∧
    (∀ e ∈ (bField c np (toCamel name) (builtField schema)).eff.enums,
      e ∈ (bProperty c np io n (.mk name req opt schema)).eff.enums) := by
  rw [bProperty_eq]
  split
  · exact ⟨fun m hm => List.mem_append_left _ hm, fun e he => List.mem_append_left _ he⟩
  · rw [finishProperty_msgs, finishProperty_enums]
    exact ⟨fun m hm => List.mem_append_left _ hm, fun e he => List.mem_append_left _ he⟩

theorem exportsField_built (np : List Str) (d : Str) (schema : Field) :
    exportsField np d schema = exportsField np d (builtField schema) := by
  cases schema <;> rfl

theorem exportsField_scalar (np : List Str) (d : Str) {f : Field} {b : BF}
    (h : scalarField f = some b) : exportsField np d f = [] := by
  cases f <;> first | rfl | simp [scalarField] at h

theorem mem_scope_of_msg (F : Str) (m : MsgSkel) (msgs : List MsgSkel) (enums : List EnumSkel)
    (hm : m ∈ msgs) (x : Str × SymKind) (hx : x ∈ msgSyms F m) : x ∈ scopeSyms F msgs enums := by
  simp only [scopeSyms, List.mem_append, mem_msgsSyms]
  exact Or.inl ⟨m, hm, hx⟩

theorem kindSym_enumTKind (e : EnumDecl) : kindSym (enumTKind e) = .enum := rfl

/-- `buildProperty` exports what `buildFieldNode` below it exports -/
theorem bProperty_syms_of (c : Ctx) (pkg : Str) (np : List Str) (io : Bool) (n : Nat) (name : Str)
    (req opt : Bool) (schema : Field)
    (h : SymsIn pkg (pathFull pkg np) (bField c np (toCamel name) (builtField schema)).walk.msgs
      (bField c np (toCamel name) (builtField schema)).walk.enums
      (exportsField np (toCamel name) (builtField schema))) :
    SymsIn pkg (pathFull pkg np) (bProperty c np io n (.mk name req opt schema)).eff.msgs
      (bProperty c np io n (.mk name req opt schema)).eff.enums
      (exportsProperty np (.mk name req opt schema)) := by
  rw [exportsProperty, exportsField_built]
  have hsup := bProperty_eff_sup c np io n name req opt schema
  have hwalk := bField_walk_sub c np (toCamel name) (builtField schema)
  exact h.mono (fun m hm => hsup.1 m (hwalk.1 m hm)) (fun e he => hsup.2 e (hwalk.2 e he))

theorem enum_sym {pkg : Str} (hp : pkg ≠ []) (np : List Str) {e : EnumSkel} {ms : List MsgSkel}
    {es : List EnumSkel} (hmem : e ∈ es) :
    (qual pkg (relName np e.name), SymKind.enum) ∈ scopeSyms (pathFull pkg np) ms es := by
  rw [← pathFull_relName pkg hp]
  simp only [scopeSyms, List.mem_append, List.mem_flatMap]
  exact Or.inr ⟨e, hmem, List.mem_cons_self ..⟩

theorem SymsIn.inl {pkg : Str} (hp : pkg ≠ []) {np : List Str} {nm : Str} {io : Bool} {psm : Option Psm}
    {flds : List FieldSkel} {ms all : List MsgSkel} {es es' : List EnumSkel} {ex : List (Str × TKind)}
    (hmem : mkMsg nm io psm flds ms es ∈ all)
    (ih : SymsIn pkg (pathFull pkg (np ++ [nm])) ms es ex) :
    SymsIn pkg (pathFull pkg np) all es' ((relName np nm, .message io) :: ex) := by
  intro x hx
  apply mem_scope_of_msg _ _ _ _ hmem
  rcases List.mem_cons.mp hx with rfl | hx
  · simp only [kindSym]
    rw [← pathFull_relName pkg hp]
    exact msgSyms_self _ _ _ _ _ _ _
  · have ih := ih x hx
    rw [pathFull_append] at ih
    exact msgSyms_scope _ _ _ _ _ _ _ _ ih

/-- **every type a field / property list exports is a symbol of what its conversion emits**: an inline
type its own name, and — one scope further in — what its property list exports (the induction
hypothesis under `msgSyms_scope`) -/
theorem bField_bProps_syms (c : Ctx) (pkg : Str) (hp : pkg ≠ []) :
    (∀ f np d, SymsIn pkg (pathFull pkg np) (bField c np d f).walk.msgs (bField c np d f).walk.enums
      (exportsField np d f)) ∧
    ∀ ps np io n, SymsIn pkg (pathFull pkg np) (bProps c np io n ps).eff.msgs
      (bProps c np io n ps).eff.enums (exportsProps np ps) := by
  apply field_induct
  case scalar => intro f b hs np d x hx; rw [exportsField_scalar np d hs] at hx; cases hx
  case objectRef => intro _ _ _ _ np d x hx; cases hx
  case oneofRef => intro _ _ _ _ np d x hx; cases hx
  case enumRef => intro _ _ _ _ np d x hx; cases hx
  case objectInl =>
    intro name props fl rules ih np d
    rw [bField]
    simp only [msgInlField, exportsField]
    exact SymsIn.inl hp (List.mem_singleton.mpr rfl) (ih _ false 1)
  case oneofInl =>
    intro name props rules lr ih np d
    rw [bField]
    simp only [msgInlField, exportsField]
    exact SymsIn.inl hp (List.mem_append_right _ (List.mem_singleton.mpr rfl)) (ih _ true 1)
  case enumInl =>
    intro e rules lr np d
    rw [bField]
    simp only [enumTKind, enumFieldWith_walk, exportsField]
    intro x hx
    rw [List.mem_singleton.mp hx]
    have := enum_sym hp np (ms := []) (List.mem_singleton.mpr (rfl :
      convEnum (if e.name = [] then { e with name := d } else e) = _))
    by_cases hn : e.name = [] <;> simpa [hn, convEnum, kindSym] using this
  case array => intro items rules ih np d; rw [bField]; exact ih np d
  case map => intro items rules ih np d; rw [bField]; exact ih np d
  case nil => intro np io n x hx; cases hx
  case cons =>
    intro name req opt f ps ihf ihps np io n
    rw [bProps_cons, exportsProps]
    apply SymsIn.append
    · exact (bProperty_syms_of c pkg np io n name req opt f (ihf np _)).mono
        (by intro m hm; cases io <;> simp [hm]) (by intro e he; cases io <;> simp [he])
    · exact (ihps np io (n + 1)).mono
        (by intro m hm; cases io <;> simp [hm]) (by intro e he; cases io <;> simp [he])

theorem bProperty_syms (c : Ctx) (pkg : Str) (hp : pkg ≠ []) (np : List Str) (io : Bool) (n : Nat) :
    ∀ p : Property, SymsIn pkg (pathFull pkg np) (bProperty c np io n p).eff.msgs
      (bProperty c np io n p).eff.enums (exportsProperty np p)
  | .mk name req opt schema =>
    bProperty_syms_of c pkg np io n name req opt schema ((bField_bProps_syms c pkg hp).1 _ np _)

theorem bProps_syms (c : Ctx) (pkg : Str) (hp : pkg ≠ []) (np : List Str) (io : Bool) (n : Nat) :
    ∀ ps : List Property, SymsIn pkg (pathFull pkg np) (bProps c np io n ps).eff.msgs
      (bProps c np io n ps).eff.enums (exportsProps np ps) :=
  fun ps => (bField_bProps_syms c pkg hp).2 ps np io n

theorem exportsNested_decl (np : List Str) (io : Bool) (o : ObjDecl) (rest : List Nested) :
    exportsNested np (declNested io o :: rest) = exportsDecl np io o ++ exportsNested np rest := by
  cases io <;> rw [declNested, exportsNested]

theorem convDecl_convNested_syms (c : Ctx) (pkg : Str) (hp : pkg ≠ []) :
    (∀ io o np virt, SymsIn pkg (pathFull pkg np) (convDecl c np io virt o).msgs
      (convDecl c np io virt o).enums (exportsDecl np io o)) ∧
    ∀ ns np, SymsIn pkg (pathFull pkg np) (convNested c np ns).msgs
      (convNested c np ns).enums (exportsNested np ns) := by
  apply decl_induct
  case mk =>
    intro io name props nested psm ih np virt
    rw [convDecl_msgs, exportsDecl]
    refine SymsIn.inl hp (List.mem_append_right _ (List.mem_singleton.mpr rfl)) (SymsIn.append ?_ ?_)
    · have h1 := bProps_syms c pkg hp (np ++ [name]) io 1 (virt ++ props)
      rw [exportsProps_append] at h1
      exact fun x hx => scopeSyms_mono _ _ _ _ _ (fun m hm => List.mem_append_left _ hm)
        (fun e he => List.mem_append_left _ he) _ (h1 x (List.mem_append_right _ hx))
    · exact (ih (np ++ [name])).mono (fun m hm => List.mem_append_right _ hm)
        (fun e he => List.mem_append_right _ he)
  case nil => intro np x hx; cases hx
  case decl =>
    intro io o rest iho ihr np
    rw [convNested_decl, exportsNested_decl]
    exact SymsIn.append
      ((iho np []).mono (by intro m hm; simp [hm]) (by intro e he; simp [he]))
      ((ihr np).mono (by intro m hm; simp [hm]) (by intro e he; simp [he]))
  case enum =>
    intro e rest ihr np
    rw [convNested]
    intro x hx
    simp only [exportsNested, List.mem_cons] at hx
    rcases hx with rfl | hx
    · exact enum_sym hp np (e := convEnum e) (by simp)
    · exact (ihr np).mono (by intro m hm; simp [hm]) (by intro e he; simp [he]) x hx

theorem convDecl_syms (c : Ctx) (pkg : Str) (hp : pkg ≠ []) (np : List Str) (io : Bool)
    (virt : List Property) :
    ∀ o : ObjDecl, SymsIn pkg (pathFull pkg np) (convDecl c np io virt o).msgs
      (convDecl c np io virt o).enums (exportsDecl np io o) :=
  fun o => (convDecl_convNested_syms c pkg hp).1 io o np virt

theorem convNested_syms (c : Ctx) (pkg : Str) (hp : pkg ≠ []) (np : List Str) :
    ∀ ns : List Nested, SymsIn pkg (pathFull pkg np) (convNested c np ns).msgs
      (convNested c np ns).enums (exportsNested np ns) :=
  fun ns => (convDecl_convNested_syms c pkg hp).2 ns np

theorem item_syms (c : Ctx) (pkg : Str) (hp : pkg ≠ []) (i : Item) (hi : i.target = .main) :
    SymsIn pkg pkg (itemMsgs c i) (itemEnums c i) (itemExports i) := by
  cases i with
  | object o =>
    have := convDecl_syms c pkg hp [] false [] o
    simpa [itemMsgs, itemEnums, convItem, itemExports, pathFull] using this
  | oneof o =>
    have := convDecl_syms c pkg hp [] true [] o
    simpa [itemMsgs, itemEnums, convItem, itemExports, pathFull] using this
  | enum e =>
    intro x hx
    simp only [itemExports, List.mem_singleton] at hx
    subst hx
    simp [scopeSyms, itemMsgs, itemEnums, convItem, enumSyms, convEnum, kindSym_enumTKind, msgsSyms]
  | abort => intro x hx; simp [itemExports] at hx
  | serviceFile ss => cases hi
  | topicFile ts => cases hi

/-- **every type a j5s file exports from its objects, oneofs and enums (at any nesting depth,
inline types included) is a message / enum symbol of the generated main file**, under the name
`<package>.<exported name>` -/
theorem convertFile_exports_syms (res : Resolver) (path : Str) (imports : List Import)
    (elems : List Elem) (fs : List FileSkel) (h : convertFile res path imports elems = .ok fs)
    (hpkg : packageFromFilename (path ++ b!".proto") ≠ []) :
    ∃ main subs, fs = main :: subs ∧ main.name = path ++ b!".proto" ∧
      main.pkg = packageFromFilename (path ++ b!".proto") ∧
      ∀ i ∈ elems.flatMap (itemsOfElem (packageFromFilename (path ++ b!".proto"))), i.target = .main →
        ∀ x ∈ itemExports i,
          (qual (packageFromFilename (path ++ b!".proto")) x.1, kindSym x.2) ∈ main.lfile.syms := by
  obtain ⟨im, hj, _, _, rfl⟩ := convertFile_ok res path imports elems fs h
  obtain ⟨main, subs, hfs, hname, hpk, _, hmsgs, henums, _⟩ := filesOf_exact ⟨resolveTypeNoImport im res⟩
    (path ++ b!".proto") (packageFromFilename (path ++ b!".proto"))
    (elems.flatMap (itemsOfElem (packageFromFilename (path ++ b!".proto"))))
  refine ⟨main, subs, hfs, hname, hpk, ?_⟩
  intro i hi hit x hx
  have := item_syms { resolve := resolveTypeNoImport im res } _ hpkg i hit x hx
  simp only [FileSkel.lfile, hpk, List.mem_append]
  left
  have hmem : i ∈ (elems.flatMap (itemsOfElem (packageFromFilename (path ++ b!".proto")))).filter
      (·.target = .main) := List.mem_filter.mpr ⟨hi, by simpa using hit⟩
  have := scopeSyms_mono _ _ main.msgs _ main.enums
    (by intro m hm; rw [hmsgs]; exact List.mem_flatMap.mpr ⟨i, hmem, hm⟩)
    (by intro e he; rw [henums]; exact List.mem_flatMap.mpr ⟨i, hmem, he⟩) _ this
  simpa [scopeSyms, List.mem_append] using this

end J5V.Compile
