import J5V.Compile.AstValue
import J5V.Go.OutcomeLemmas
/-!
# `ParseUint/ParseInt ∘ FormatUint = id` for the decimal model
-/
namespace J5V.Compile

/-- decimal digits, most significant first (specification of `fmtNat`) -/
def digitsSpec (n : Nat) : Str :=
  if h : n < 10 then [48 + n] else digitsSpec (n / 10) ++ [48 + n % 10]
termination_by n
decreasing_by omega

theorem fmtNatAux_eq (fuel n : Nat) (acc : Str) (h : n < fuel) :
    fmtNatAux fuel n acc = digitsSpec n ++ acc := by
  induction fuel generalizing n acc with
  | zero => omega
  | succ fuel ih =>
    rw [fmtNatAux, digitsSpec]
    by_cases h10 : n < 10
    · simp [h10]
    · simp only [h10, if_false, dite_false]
      rw [ih (n / 10) _ (by omega)]
      simp

theorem fmtNat_eq (n : Nat) : fmtNat n = digitsSpec n := by
  unfold fmtNat; rw [fmtNatAux_eq _ _ _ (by omega)]; simp

theorem digitsSpec_ne_nil (n : Nat) : digitsSpec n ≠ [] := by
  rw [digitsSpec]; split <;> simp

theorem pdStep_digit (a d : Nat) (hd : d < 10) : pdStep (some a) (48 + d) = some (a * 10 + d) := by
  simp [pdStep, isDigitB]; omega

theorem foldl_pdStep_digits (n a : Nat) :
    ∃ k, (digitsSpec n).foldl pdStep (some a) = some (a * 10 ^ k + n) := by
  induction n using Nat.strongRecOn generalizing a with
  | _ n ih =>
    rw [digitsSpec]
    by_cases h10 : n < 10
    · refine ⟨1, ?_⟩
      simp only [h10, dite_true, List.foldl_cons, List.foldl_nil]
      rw [pdStep_digit a n h10]
    · obtain ⟨k, hk⟩ := ih (n / 10) (by omega) a
      refine ⟨k + 1, ?_⟩
      simp only [h10, dite_false, List.foldl_append, hk, List.foldl_cons, List.foldl_nil]
      rw [pdStep_digit _ _ (by omega)]
      congr 1
      rw [Nat.pow_succ]
      have := Nat.div_add_mod n 10
      rw [Nat.add_mul, Nat.mul_assoc, Nat.add_assoc]
      congr 1
      omega

theorem parseDigits_fmtNat (n : Nat) : parseDigits (fmtNat n) = some n := by
  rw [fmtNat_eq]
  have hne := digitsSpec_ne_nil n
  obtain ⟨k, hk⟩ := foldl_pdStep_digits n 0
  cases hd : digitsSpec n with
  | nil => exact absurd hd hne
  | cons c t =>
    rw [hd] at hk
    simpa [parseDigits] using hk

theorem parseUint_fmtNat_eq (n bits : Nat) :
    parseUint (fmtNat n) bits = if n < 2 ^ bits then some n else none := by
  simp [parseUint, parseDigits_fmtNat]

theorem digitsSpec_head (n : Nat) : ∃ c t, digitsSpec n = c :: t ∧ 48 ≤ c ∧ c ≤ 57 := by
  induction n using Nat.strongRecOn with
  | _ n ih =>
    rw [digitsSpec]
    by_cases h10 : n < 10
    · exact ⟨48 + n, [], by simp [h10], by omega, by omega⟩
    · obtain ⟨c, t, hc, h1, h2⟩ := ih (n / 10) (by omega)
      exact ⟨c, t ++ [48 + n % 10], by simp [h10, hc], h1, h2⟩

/-- on an unsigned decimal text `ParseInt` is `ParseUint` with one bit less -/
theorem parseInt_fmtNat (n bits : Nat) :
    parseInt (fmtNat n) bits = if n < 2 ^ (bits - 1) then some (n : Int) else none := by
  obtain ⟨c, t, hc, h1, h2⟩ := digitsSpec_head n
  have hp := parseDigits_fmtNat n
  rw [fmtNat_eq] at hp ⊢
  rw [hc] at hp ⊢
  have h43 : c ≠ 43 := by omega
  have h45 : c ≠ 45 := by omega
  simp [parseInt, h43, h45, hp]

open J5V.Go in
theorem astToScalar_intLit (fmt : ScalarFmt) (n : Nat)
    (hf : fmt = .int32 ∨ fmt = .int64 ∨ fmt = .uint32 ∨ fmt = .uint64) :
    astToScalar fmt (intLit n) = if inRange fmt n then .ok (intValue fmt n) else .err "range" := by
  rcases hf with rfl | rfl | rfl | rfl
  · by_cases h : n < 2 ^ 31 <;>
      simp [astToScalar, asInt, intLit, astBits, parseInt_fmtNat, inRange, intValue, Outcome.map, h]
  · by_cases h : n < 2 ^ 63 <;>
      simp [astToScalar, asInt, intLit, astBits, parseInt_fmtNat, inRange, intValue, Outcome.map, h]
  · by_cases h : n < 2 ^ 32 <;>
      simp [astToScalar, asUint, intLit, astBits, parseUint_fmtNat_eq, inRange, intValue, Outcome.map, h]
  · by_cases h : n < 2 ^ 64 <;>
      simp [astToScalar, asUint, intLit, astBits, parseUint_fmtNat_eq, inRange, intValue, Outcome.map, h]

open J5V.Go in
theorem astToScalar_isPanic (fmt : ScalarFmt) (t : AstTok) : (astToScalar fmt t).isPanic = false := by
  have hb : (asBool t).isPanic = false := by unfold asBool; split <;> rfl
  have hs : (asString t).isPanic = false := by unfold asString; split <;> rfl
  have hi : ∀ k, (asInt t k).isPanic = false := by
    intro k; unfold asInt; split
    · rfl
    · split <;> rfl
  have hu : ∀ k, (asUint t k).isPanic = false := by
    intro k; unfold asUint; split
    · rfl
    · split <;> rfl
  cases fmt <;> simp only [astToScalar, Outcome.map_isPanic, hb, hs, hi, hu] <;> rfl

end J5V.Compile
