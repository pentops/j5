import J5V.Compile.Package
import J5V.Go.ListLemmas
/-!
# Order-independence lemmas (core only)

* `fold_perm_invariant`: a left fold whose body commutes is invariant under permutation of the
  list — the shape of every `insert-into-map` / `set-union` loop over a Go map (stated for
  `C14_fold_perm_invariant`; the lemmas below do not go through it);
* `mapGet_perm`: a Go map written once per key reads the same whatever the order of the writes
  (instantiated to `Package.includeIO` and `DirectDependencies` in `C14_exports_perm`,
  `C14_resolve_perm`);
* `strLt` is a strict total order; inserting two files with different names into a list commutes,
  so `sortFiles` (a fold of insertions) does not depend on the order in which `pkg.Files` — a Go
  map — is ranged over (`List.Perm.foldl_eq'`).
-/
namespace J5V.Compile
open J5V.Go

theorem fold_perm_invariant {α β : Type} (f : β → α → β)
    (hcomm : ∀ b x y, f (f b x) y = f (f b y) x) {l₁ l₂ : List α} (p : l₁.Perm l₂) (b : β) :
    l₁.foldl f b = l₂.foldl f b :=
  p.foldl_eq' (fun x _ y _ b => hcomm b x y) b

theorem find?_key_perm {α : Type} (key : α → Str) {l l' : List α} (h : l.Perm l') (hnd : (l.map key).Nodup)
    (d : Str) : l.find? (key · = d) = l'.find? (key · = d) :=
  find?_perm_of_unique _ h fun a ha b hb h1 h2 =>
    inj_of_nodup_map key l hnd a ha b hb ((of_decide_eq_true h1).trans (of_decide_eq_true h2).symm)

/-- a Go map in which every key is written at most once reads the same for any write order -/
theorem mapGet_perm {V : Type} {m₁ m₂ : List (Str × V)} (h : m₁.Perm m₂)
    (hnd : (m₁.map (·.1)).Nodup) (k : Str) : mapGet m₁ k = mapGet m₂ k := by
  unfold mapGet
  congr 1
  exact find?_key_perm (·.1) (((List.reverse_perm m₁).trans h).trans (List.reverse_perm m₂).symm)
    (((List.reverse_perm m₁).map _).nodup_iff.mpr hnd) k

/-- Go's `<` on strings is core's order on the byte lists -/
theorem strLt_eq (a b : Str) : strLt a b = decide (a < b) :=
  lexLt_eq_decide_lt strLt rfl (fun _ _ => rfl) (fun _ _ => rfl) (fun _ _ _ _ => rfl) a b

theorem strLt_trans (a b c : Str) (h1 : strLt a b = true) (h2 : strLt b c = true) :
    strLt a c = true := by
  rw [strLt_eq, decide_eq_true_eq] at *; exact List.lt_trans h1 h2

theorem strLt_asymm (a b : Str) (h : strLt a b = true) : strLt b a = false := by
  rw [strLt_eq, decide_eq_true_eq] at h
  rw [strLt_eq, decide_eq_false_iff_not]; exact List.lt_asymm h

theorem strLt_total (a b : Str) (h : a ≠ b) : strLt a b = true ∨ strLt b a = true := by
  simp only [strLt_eq, decide_eq_true_eq]; exact lt_or_lt_of_ne h

theorem insFile_comm_lt (a b : FileSkel) (hab : strLt a.name b.name = true) (l : List FileSkel) :
    insFile a (insFile b l) = insFile b (insFile a l) := by
  have hba := strLt_asymm _ _ hab
  induction l with
  | nil => simp [insFile, hab, hba]
  | cons g rest ih =>
    by_cases hbg : strLt b.name g.name = true
    · have hag := strLt_trans _ _ _ hab hbg
      simp [insFile, hbg, hag, hab, hba]
    · by_cases hag : strLt a.name g.name = true
      · simp [insFile, hbg, hag, hba]
      · simp [insFile, hbg, hag, ih]

theorem insFile_comm (a b : FileSkel) (h : a.name ≠ b.name) (l : List FileSkel) :
    insFile a (insFile b l) = insFile b (insFile a l) := by
  rcases strLt_total _ _ h with hab | hba
  · exact insFile_comm_lt a b hab l
  · exact (insFile_comm_lt b a hba l).symm

/-- **the sorted file list does not depend on the order of its input** (distinct file names) -/
theorem sortFiles_perm {fs fs' : List FileSkel} (p : fs.Perm fs')
    (hnd : (fs.map (·.name)).Nodup) : sortFiles fs = sortFiles fs' := by
  unfold sortFiles
  apply p.foldl_eq'
  intro x hx y hy acc
  by_cases hxy : x = y
  · subst hxy; rfl
  · have hne : x.name ≠ y.name := by
      intro hn
      exact hxy (inj_of_nodup_map _ _ hnd x hx y hy hn)
    exact insFile_comm y x (Ne.symm hne) acc

theorem insFile_perm (f : FileSkel) (l : List FileSkel) : (insFile f l).Perm (f :: l) := by
  induction l with
  | nil => exact List.Perm.refl _
  | cons g rest ih =>
    simp only [insFile]
    split
    · exact List.Perm.refl _
    · exact (List.Perm.cons g ih).trans (List.Perm.swap f g rest)

theorem sortFiles_perm_self (fs : List FileSkel) : (sortFiles fs).Perm fs := by
  have : ∀ (l acc : List FileSkel),
      (l.foldl (fun acc f => insFile f acc) acc).Perm (l ++ acc) := by
    intro l
    induction l with
    | nil => intro acc; exact List.Perm.refl _
    | cons f rest ih =>
      intro acc
      simp only [List.foldl_cons, List.cons_append]
      refine (ih (insFile f acc)).trans ?_
      refine (List.Perm.append_left rest (insFile_perm f acc)).trans ?_
      exact List.perm_middle
  simpa [sortFiles] using this fs []

def FilesSorted : List FileSkel → Prop
  | [] => True
  | f :: rest => (∀ g ∈ rest, strLt g.name f.name = false) ∧ FilesSorted rest

end J5V.Compile
