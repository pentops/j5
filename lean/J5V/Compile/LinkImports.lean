import J5V.Compile.ExactProofs
import J5V.Compile.Link
import J5V.Compile.LoadProofs
import J5V.Compile.OrderProofs
/-!
# Link bridge "imports found" (core only)

For a package that LOADS (no hypothesis beyond that), every dependency of every generated file is
the name of a file of the link universe `CompilePackage` hands to the linker: the package's own
generated files, the generated files and hand-written protos of the (transitively) loaded
dependency packages, or a built-in file. Hence the first failure arm of `linkFile`
("import not found") is never taken.

First half: every dependency of every file `ConvertJ5File` returns — main file, `.service` and
`.topic` sub-package files — is one of the import constants or the file of a type that
`resolveTypeNoImport` resolves in the file's context (`ImpFrom` lifted from the steps of an item
through the step machinery and `ensureImport`).
-/
namespace J5V.Compile
open J5V.Go

/-- every step of every item imports only constants and files that a reference OF THAT ITEM
(`itemRefs`, what `SourceSummary` collects) resolves to -/
theorem convItem_impFrom (c : Ctx) (i : Item) :
    ∀ st ∈ convItem c i, ImpFrom c (fun a b => (a, b) ∈ itemRefs i) st.eff :=
  (ImpFrom.inv c _).convItem i (Or.inr fun _ h => nomatch h) fun _ hr => hr

theorem targetFile_deps_from (c : Ctx) (name pkg : Str) (t : Target) (items : List Item) :
    ∀ d ∈ (targetFile c name pkg t items).deps,
      ImpSrc c (fun a b => (a, b) ∈ items.flatMap itemRefs) d := by
  intro d hd
  obtain ⟨⟨i, hi, _, hdi⟩, _⟩ := mem_targetFile_deps.mp hd
  obtain ⟨st, hsti, hds⟩ := List.mem_flatMap.mp hdi
  exact ((convItem_impFrom c i st hsti).mono (fun a b hab => List.mem_flatMap.mpr ⟨i, hi, hab⟩)) d hds

/-- **where the dependencies of every generated file come from**: an import constant of j5convert
or the file that a reference of the SOURCE FILE (`fileRefs`: every reference `SourceSummary`
collects — fields at any depth, request / response / topic messages, entity parts) resolves to in
the file's context -/
theorem convertFile_deps_from (res : Resolver) (path : Str) (imports : List Import) (elems : List Elem)
    (fs : List FileSkel) (h : convertFile res path imports elems = .ok fs) :
    ∃ im, j5Imports (packageFromFilename (path ++ b!".proto")) imports = .ok im ∧
      ∀ f ∈ fs, ∀ d ∈ f.deps, d ∈ constImports ∨
        ∃ pkg schema t, (pkg, schema) ∈ fileRefs (packageFromFilename (path ++ b!".proto")) elems ∧
          resolveTypeNoImport im res pkg schema = some t ∧ t.file = d := by
  obtain ⟨im, hj, hmem⟩ := convertFile_mem res path imports elems fs h
  refine ⟨im, hj, fun f hf d hd => ?_⟩
  obtain ⟨t, _, rfl⟩ := (hmem f).mp hf
  exact targetFile_deps_from _ _ _ t _ d hd

theorem targetFile_not_self (c : Ctx) (name pkg : Str) (t : Target) (items : List Item) :
    (targetFile c name pkg t items).name ∉ (targetFile c name pkg t items).deps :=
  fun hd => (mem_targetFile_deps.mp hd).2 rfl

/-- the names of the files `ConvertJ5File` returns: the main file `<path>.proto`, or the
`service` / `topic` sub-package file of it; and no file depends on itself -/
theorem convertFile_names (res : Resolver) (path : Str) (imports : List Import) (elems : List Elem)
    (fs : List FileSkel) (h : convertFile res path imports elems = .ok fs) :
    ∀ f ∈ fs, (f.name = path ++ b!".proto" ∨
        f.name = subPackageFileName (path ++ b!".proto") b!"service" ∨
        f.name = subPackageFileName (path ++ b!".proto") b!"topic") ∧ f.name ∉ f.deps := by
  obtain ⟨im, _, hmem⟩ := convertFile_mem res path imports elems fs h
  intro f hf
  obtain ⟨t, _, rfl⟩ := (hmem f).mp hf
  refine ⟨?_, targetFile_not_self _ _ _ t _⟩
  have hn : ∀ name pkg steps, ((freshFile name pkg t).run steps).name = name ∨
      ((freshFile name pkg t).run steps).name = subPackageFileName name b!"service" ∨
      ((freshFile name pkg t).run steps).name = subPackageFileName name b!"topic" := by
    intro name pkg steps
    rw [FileB.run_name]
    cases t
    · exact Or.inl rfl
    · exact Or.inr (Or.inl rfl)
    · exact Or.inr (Or.inr rfl)
  exact hn _ _ _

theorem constImports_builtin : ∀ i ∈ constImports, ∃ g ∈ builtinFiles, g.name = i := by decide +kernel

theorem implicit_builtin : ∀ pe ∈ implicitImports, ∀ t ∈ pe.2, ∃ g ∈ builtinFiles, g.name = t.file := by
  decide +kernel

theorem implicitRef_builtin (pkg schema : Str) (t : TypeRef) (h : implicitRef pkg schema = some t) :
    ∃ g ∈ builtinFiles, g.name = t.file := by
  obtain ⟨pe, hpe, ht⟩ := implicitRef_mem pkg schema t h
  exact implicit_builtin pe hpe t ht

/-- the files a loaded package itself brings: its generated files and its hand-written protos -/
def ExportsIn (l : Loaded) : Prop :=
  ∀ kt ∈ l.exports, kt.2.file ∈ l.files.map (·.name) ∨ kt.2.file ∈ l.protos.map (·.1)

/-- the exports of the direct dependencies live in files the package carries along -/
def DepsIn (l : Loaded) : Prop :=
  ∀ de ∈ l.deps, ∀ kt ∈ de.2, kt.2.file ∈ l.depFiles.map (·.name) ∨ kt.2.file ∈ l.protos.map (·.1)

theorem convertFile_has_main (res : Resolver) (path : Str) (imports : List Import) (elems : List Elem)
    (fs : List FileSkel) (h : convertFile res path imports elems = .ok fs) :
    path ++ b!".proto" ∈ fs.map (·.name) := by
  obtain ⟨im, _, _, _, rfl⟩ := convertFile_ok res path imports elems fs h
  exact List.mem_map.mpr ⟨_, List.mem_cons_self, FileB.run_name _ _⟩

/-- the exports of a loaded package are in files it carries: a proto source is itself such a file,
a j5s source exports from its main generated file (`convertFile_has_main`) -/
theorem loadPkg_exportsIn {b : Bundle} {fuel : Nat} {chain : List Str} {name : Str} {l : Loaded}
    (h : loadPkg b fuel chain name = .ok l) : ExportsIn l := by
  obtain rfl | ⟨_, p, _, _, h⟩ := loadPkg_ok_cases h
  · exact fun kt hkt => nomatch hkt
  obtain ⟨hsumok, _, hconv, rfl⟩ := loadLocal_eq_ok_iff.mp h
  intro kt hkt
  simp only [mkLoaded, pkgSums, List.mem_flatMap, List.mem_map] at hkt
  obtain ⟨_, ⟨f, hfm, rfl⟩, hk⟩ := hkt
  have hfs := hsumok f hfm
  cases f with
  | proto path msgs enums =>
    right
    simp only [fileSummary, Outcome.ok.injEq] at hfs
    rw [← hfs] at hk
    have hfile : kt.2.file = path := by
      simp only [List.mem_append, List.mem_map] at hk
      rcases hk with ⟨n, _, rfl⟩ | ⟨nv, _, rfl⟩ <;> rfl
    rw [hfile]
    simp only [mkLoaded, List.map_append, List.mem_append, List.mem_map]
    left
    refine ⟨(path, packageFromFilename path, msgs, enums), ?_, rfl⟩
    simp only [protoFilesOf, List.mem_filterMap]
    exact ⟨_, hfm, rfl⟩
  | j5s path imports elems decl =>
    left
    simp only [fileSummary] at hfs
    split at hfs
    · cases hfs
    · obtain ⟨im, ex, _, _, hexp, _⟩ := sourceSummary_ok path imports elems _ hfs
      rw [hexp] at hk
      obtain ⟨x, _, rfl⟩ := List.mem_map.mp hk
      simp only []
      obtain ⟨fs, hfsok⟩ := hconv _ hfm
      have hmain := convertFile_has_main _ path imports elems fs hfsok
      obtain ⟨g, hg, hgn⟩ := List.mem_map.mp hmain
      simp only [mkLoaded]
      refine List.mem_map.mpr ⟨g, List.mem_flatMap.mpr ⟨_, hfm, ?_⟩, hgn⟩
      simp only [convOf, hfsok]
      exact hg

/-- …and those of its direct dependencies (`loadPkg_exportsIn` for each) in files it carries along -/
theorem loadPkg_depsIn {b : Bundle} {fuel : Nat} {chain : List Str} {name : Str} {l : Loaded}
    (h : loadPkg b fuel chain name = .ok l) : DepsIn l := by
  obtain rfl | ⟨_, p, _, _, h⟩ := loadPkg_ok_cases h
  · exact fun de hde => nomatch hde
  obtain ⟨_, hlsok, _, rfl⟩ := loadLocal_eq_ok_iff.mp h
  intro de hde kt hkt
  simp only [mkLoaded, List.mem_map] at hde
  obtain ⟨l', hl', rfl⟩ := hde
  simp only [] at hkt
  obtain ⟨d, hd, rfl⟩ := List.mem_map.mp hl'
  simp only [mkLoaded, List.map_append, List.mem_append, List.map_flatMap, List.mem_flatMap]
  rcases loadPkg_exportsIn (hlsok d hd) kt hkt with h1 | h1
  · left
    obtain ⟨g, hg, hgn⟩ := List.mem_map.mp h1
    exact ⟨_, hl', Or.inl (List.mem_map.mpr ⟨g, hg, hgn⟩)⟩
  · right; right
    exact ⟨_, hl', h1⟩

/-- the universe `compileLinked` links a loaded package against -/
def linkUniv (l : Loaded) : List LFile :=
  (sortFiles l.files).map (·.lfile) ++ (l.depFiles.map (·.lfile) ++ l.protos.map protoLFile) ++ builtinFiles

theorem linkUniv_has_name {l : Loaded} {n : Str}
    (h : n ∈ l.files.map (·.name) ∨ n ∈ l.depFiles.map (·.name) ∨ n ∈ l.protos.map (·.1) ∨
      ∃ g ∈ builtinFiles, g.name = n) : ∃ g ∈ linkUniv l, g.name = n := by
  simp only [linkUniv, List.mem_append, List.mem_map]
  rcases h with h | h | h | ⟨g, hg, rfl⟩
  · obtain ⟨g, hg, rfl⟩ := List.mem_map.mp h
    exact ⟨g.lfile, Or.inl (Or.inl ⟨g, (sortFiles_perm_self l.files).mem_iff.mpr hg, rfl⟩), rfl⟩
  · obtain ⟨g, hg, rfl⟩ := List.mem_map.mp h
    exact ⟨g.lfile, Or.inl (Or.inr (Or.inl ⟨g, hg, rfl⟩)), rfl⟩
  · obtain ⟨g, hg, rfl⟩ := List.mem_map.mp h
    exact ⟨protoLFile g, Or.inl (Or.inr (Or.inr ⟨g, hg, rfl⟩)), by obtain ⟨a, b', c', d'⟩ := g; rfl⟩
  · exact ⟨g, Or.inr hg, rfl⟩

/-- **imports found.** For a local package that loads, every dependency of every generated file is
the name of a file of the link universe of `compileLinked` (own files, files of the loaded
dependencies, hand-written protos, built-ins). -/
theorem loadPkg_imports_found (b : Bundle) (fuel : Nat) (chain : List Str) (name : Str) (p : Pkg)
    (l : Loaded) (hf : b.find name = some p) (hl : loadPkg b (fuel + 1) chain name = .ok l) :
    ∀ f ∈ l.files, ∀ d ∈ f.deps, ∃ g ∈ linkUniv l, g.name = d := by
  have hexp := loadPkg_exportsIn hl
  have hdep := loadPkg_depsIn hl
  intro f hfm d hd
  obtain ⟨path, imports, elems, decl, fs, hsrc, hconv, hfs⟩ := loadPkg_files_from b fuel chain name p l hf hl f hfm
  obtain ⟨im, _, hfrom⟩ := convertFile_deps_from l.resolver path imports elems fs hconv
  refine linkUniv_has_name ?_
  rcases hfrom f hfs d hd with hc | ⟨pkg, schema, t, _, hres, rfl⟩
  · exact Or.inr (Or.inr (Or.inr (constImports_builtin d hc)))
  · rcases resolveTypeNoImport_some hres with ⟨pk, sc, hir⟩ | ⟨k, hk⟩ | ⟨de, hde, k, hk⟩
    · exact Or.inr (Or.inr (Or.inr (implicitRef_builtin pk sc t hir)))
    · exact (hexp _ hk).elim Or.inl fun h => Or.inr (Or.inr (Or.inl h))
    · exact (hdep _ hde _ hk).elim (fun h => Or.inr (Or.inl h)) fun h => Or.inr (Or.inr (Or.inl h))

theorem mapM_find_isSome (univ : List LFile) (ds : List Str)
    (h : ∀ d ∈ ds, ∃ g ∈ univ, g.name = d) :
    (ds.mapM fun d => univ.find? (·.name = d)).isSome = true := by
  induction ds with
  | nil => rfl
  | cons d rest ih =>
    obtain ⟨g, hg, hgn⟩ := h d (by simp)
    have hsome : (univ.find? (·.name = d)).isSome = true := by
      rw [List.find?_isSome]
      exact ⟨g, hg, by simpa using hgn⟩
    have ih' := ih (fun d' hd' => h d' (List.mem_cons_of_mem _ hd'))
    cases hq : univ.find? (·.name = d) with
    | none => rw [hq] at hsome; cases hsome
    | some x =>
      cases hr : rest.mapM fun d => univ.find? (·.name = d) with
      | none => rw [hr] at ih'; cases ih'
      | some ys => simp [List.mapM_cons, hq, hr]

/-- in `linkFile`'s own terms: the import lookup of every generated file succeeds -/
theorem loadPkg_imports_lookup (b : Bundle) (fuel : Nat) (chain : List Str) (name : Str) (p : Pkg)
    (l : Loaded) (hf : b.find name = some p) (hl : loadPkg b (fuel + 1) chain name = .ok l) :
    ∀ f ∈ sortFiles l.files,
      (f.deps.mapM fun d =>
        ((sortFiles l.files).map (·.lfile) ++ (l.depFiles.map (·.lfile) ++ l.protos.map protoLFile)
          ++ builtinFiles).find? (·.name = d)).isSome = true := by
  intro f hfm
  have hfm' : f ∈ l.files := (sortFiles_perm_self l.files).mem_iff.mp hfm
  exact mapM_find_isSome _ _ (loadPkg_imports_found b fuel chain name p l hf hl f hfm')

end J5V.Compile
