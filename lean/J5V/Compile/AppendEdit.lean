import J5V.Compile.AppendFresh
import J5V.Compile.AppendDeclPkg
import J5V.Compile.PermFiles
import J5V.Compile.EditInduct
import J5V.Compile.EvolveRelProofs
import J5V.Compile.EvolveEnum
import J5V.Compile.RefsPkg
/-!
# One edit of one file of a package (C13) — core only

The frame every package-level theorem of `Props/C13.lean` is an instance of (`edit_compile_rel`).
`Edit.apply` replaces the element list of one `.j5s` file of one package. An append changes the export
list of that file in one block (`ExpCh`, `Block`: nothing is replaced by the exports of what is new, or
one enum entry by the same with more value names), so lookups of keys that are not new survive up to
more value names (`Block.lookup`), the resolvers the package offers its files agree on every old
reference (`agreeUp_of_replace`), and every other file converts as before (`replace_file_pkg_up`). The
generated files of the edited file correspond one to one when its items do
(`convertFile_replace_items_c`). `ItemUp` is what this frame needs of an edited item
(`edit_item_compile_rel`); it has one producer per kind of container.

The theorems of `Props/C13.lean` are proved at three levels that meet in `ItemUp`: conversion (an edit
extends the source and conversion is monotone in the source, Compile/EvolveDeep.lean,
EvolveDeepDecl.lean: field `msgs`), export table (Compile/EvolveExports.lean: fields `block`, `exps`),
and this package frame.
-/
namespace J5V.Compile
open J5V.Go

/-! ## `Edit.apply`, any edit -/

/-- the package is the one the `any` test finds, its `mapM` step succeeded and replaced one file
(`setAt_some`); the other packages are mapped to themselves -/
theorem apply_edit_struct (e : Edit) (b : Bundle) (pkg : Str) (b' : Bundle)
    (h : e.apply pkg b = some b') :
    ∃ p pre post f f', b.find pkg = some p ∧
      p.files = pre ++ [f] ++ post ∧ pre.length = e.file ∧ e.applyFile f = some f' ∧
      b'.find pkg = some { p with files := pre ++ [f'] ++ post } ∧
      (∀ n, n ≠ pkg → b.find n = b'.find n) ∧ b'.pkgs.length = b.pkgs.length := by
  unfold Edit.apply at h
  split at h
  · cases h
  · rename_i hany
    obtain ⟨ps, hm, rfl⟩ := Option.map_eq_some_iff.mp h
    have hname : ∀ p p', (if p.name = pkg then
        (setAt p.files e.file e.applyFile).map fun fs => ({ p with files := fs } : Pkg)
        else some p) = some p' → p'.name = p.name := by
      intro p p' hpp
      split at hpp
      · obtain ⟨fs, _, rfl⟩ := Option.map_eq_some_iff.mp hpp; rfl
      · cases hpp; rfl
    have hfind := mapM_find _ hname b.pkgs ps hm
    -- the package is there (the `any` test), so its own step of the `mapM` succeeded
    obtain ⟨p, hp⟩ : ∃ p, b.pkgs.find? (·.name = pkg) = some p := by
      cases hfp : b.pkgs.find? (·.name = pkg) with
      | none => exact absurd (by simpa [List.find?_eq_none] using hfp) hany
      | some p => exact ⟨p, rfl⟩
    have hpn : p.name = pkg := by simpa using List.find?_some hp
    obtain ⟨p', hp'⟩ := mapM_mem_some _ _ _ hm p (List.mem_of_find?_eq_some hp)
    rw [if_pos hpn] at hp'
    obtain ⟨fs, hsa, rfl⟩ := Option.map_eq_some_iff.mp hp'
    obtain ⟨f, f', h1, hf, h2, h3⟩ := setAt_some _ _ _ _ hsa
    refine ⟨p, _, _, f, f', hp, h1, h3, hf, ?_, ?_, mapM_length _ _ _ hm⟩
    · show ps.find? (·.name = pkg) = _
      rw [hfind pkg, hp, Option.bind_some, if_pos hpn, hsa, Option.map_some, h2]
    · intro n hn
      show b.pkgs.find? (·.name = n) = ps.find? (·.name = n)
      rw [hfind n]
      cases hfn : b.pkgs.find? (·.name = n) with
      | none => rfl
      | some q =>
        have hqn : q.name = n := by simpa using List.find?_some hfn
        simp [hqn, hn]

/-- what an edit does to the element list of a `.j5s` file -/
def Edit.onElems : Edit → List Elem → Option (List Elem)
  | .appendDecl _ el, elems => some (elems ++ [el])
  | .appendField _ p prop, elems => editElems (.field prop) p elems
  | .appendOption _ p o, elems => editElems (.option o) p elems

/-- the edited file is a `.j5s` file, the `e.file`-th of the package, and only its element list changes -/
theorem apply_edit_j5s (e : Edit) (b : Bundle) (pkg : Str) (b' : Bundle)
    (h : e.apply pkg b = some b') :
    ∃ p pre post path imports elems elems' decl, b.find pkg = some p ∧
      p.files = pre ++ [.j5s path imports elems decl] ++ post ∧
      p.files[e.file]? = some (.j5s path imports elems decl) ∧ e.onElems elems = some elems' ∧
      b'.find pkg = some { p with files := pre ++ [.j5s path imports elems' decl] ++ post } ∧
      (∀ n, n ≠ pkg → b.find n = b'.find n) ∧ b'.pkgs.length = b.pkgs.length := by
  obtain ⟨p, pre, post, g, g', hf, hp, hlen, happ, hf', hother, hl⟩ := apply_edit_struct e b pkg b' h
  cases g with
  | proto pth msgs enums => simp [Edit.applyFile] at happ
  | j5s path imports elems decl =>
    have : e.applyFile (.j5s path imports elems decl) =
        (e.onElems elems).map (.j5s path imports · decl) := by cases e <;> rfl
    rw [this] at happ
    obtain ⟨elems', hed, rfl⟩ := Option.map_eq_some_iff.mp happ
    exact ⟨p, pre, post, path, imports, elems, elems', decl, hf, hp, by rw [hp, ← hlen]; simp, hed,
      hf', hother, hl⟩

/-! ## the summary of the edited file -/

/-- no reference lost, no dependency lost -/
theorem summary_deps_mono (path : Str) (imports : List Import) (elems elems' : List Elem)
    (s s' : Summary') (hs : sourceSummary path imports elems = .ok s)
    (hs' : sourceSummary path imports elems' = .ok s')
    (hrefs : ∀ r ∈ (elems.flatMap (itemsOfElem (packageFromFilename (path ++ b!".proto")))).flatMap itemRefs,
      r ∈ (elems'.flatMap (itemsOfElem (packageFromFilename (path ++ b!".proto")))).flatMap itemRefs) :
    ∀ x ∈ s.depPkgs, x ∈ s'.depPkgs := by
  obtain ⟨im, ex, hj, hex, _, hdep⟩ := sourceSummary_ok path imports elems s hs
  obtain ⟨im', ex', hj', hex', _, hdep'⟩ := sourceSummary_ok path imports elems' s' hs'
  have him : im' = im := by rw [hj] at hj'; exact (Outcome.ok.inj hj').symm
  subst him
  intro x hx
  rw [hdep] at hx
  rw [hdep']
  obtain ⟨y, hy, hyx⟩ := List.mem_map.mp hx
  obtain ⟨r, hr, hfr⟩ := (mapM_some_mem _ _ _ hex y).mp hy
  exact List.mem_map.mpr ⟨y, (mapM_some_mem _ _ _ hex' y).mpr ⟨r, hrefs r hr, hfr⟩, hyx⟩

/-- the summaries of the two versions of a file: a lookup of a key in `P`, in any export table around
the file's own block (`X`, `Y`: the export list of a package is the concatenation over its files),
gives the old result or the same enum with more value names; no dependency is lost -/
def SummaryUp (P : Str → Prop) (s s' : Summary') : Prop :=
  (∀ (X Y : List (Str × TypeRef)) k, P k →
    UpOrEq (mapGet (X ++ s.exports ++ Y) k) (mapGet (X ++ s'.exports ++ Y) k)) ∧
  ∀ x ∈ s.depPkgs, x ∈ s'.depPkgs

theorem SummaryUp.of_eq {P : Str → Prop} {s s' : Summary'}
    (h : (∀ (X Y : List (Str × TypeRef)) k, P k →
        mapGet (X ++ s'.exports ++ Y) k = mapGet (X ++ s.exports ++ Y) k) ∧
      ∀ x ∈ s.depPkgs, x ∈ s'.depPkgs) : SummaryUp P s s' :=
  ⟨fun X Y k hk => Or.inl (h.1 X Y k hk).symm, h.2⟩

/-- the export list and the references before / after an edit: the block `M` of the export list is
replaced by `M'`, no reference is lost -/
def ExpCh (M M' ex ex' : List (Str × TKind)) (rf rf' : List (Str × Str)) : Prop :=
  (∃ A C, ex = A ++ M ++ C ∧ ex' = A ++ M' ++ C) ∧ ∀ r ∈ rf, r ∈ rf'

theorem ExpCh.wrap {M M' ex ex' : List (Str × TKind)} {rf rf' : List (Str × Str)}
    (h : ExpCh M M' ex ex' rf rf') (X Y : List (Str × TKind)) (R S : List (Str × Str)) :
    ExpCh M M' (X ++ ex ++ Y) (X ++ ex' ++ Y) (R ++ rf ++ S) (R ++ rf' ++ S) := by
  obtain ⟨⟨A, C, rfl, rfl⟩, hr⟩ := h
  refine ⟨⟨X ++ A, C ++ Y, by simp, by simp⟩, ?_⟩
  intro r hm
  simp only [List.mem_append] at hm ⊢
  exact hm.imp (Or.imp id (hr r)) id

theorem summary_block {Q : Option TypeRef → Option TypeRef → Prop} (path : Str)
    (imports : List Import) (elems elems' : List Elem)
    (s s' : Summary') (hs : sourceSummary path imports elems = .ok s)
    (hs' : sourceSummary path imports elems' = .ok s') (M M' : List (Str × TKind))
    (h : ExpCh M M'
      ((elems.flatMap (itemsOfElem (packageFromFilename (path ++ b!".proto")))).flatMap itemExports)
      ((elems'.flatMap (itemsOfElem (packageFromFilename (path ++ b!".proto")))).flatMap itemExports)
      ((elems.flatMap (itemsOfElem (packageFromFilename (path ++ b!".proto")))).flatMap itemRefs)
      ((elems'.flatMap (itemsOfElem (packageFromFilename (path ++ b!".proto")))).flatMap itemRefs))
    (P : Str → Prop)
    (hlook : ∀ (L R : List (Str × TypeRef)) k, P k →
      Q (mapGet (L ++ M.map (fun x => (x.1, (⟨packageFromFilename (path ++ b!".proto"), x.1, path ++ b!".proto", x.2⟩ : TypeRef))) ++ R) k)
        (mapGet (L ++ M'.map (fun x => (x.1, (⟨packageFromFilename (path ++ b!".proto"), x.1, path ++ b!".proto", x.2⟩ : TypeRef))) ++ R) k)) :
    (∀ (X Y : List (Str × TypeRef)) k, P k →
      Q (mapGet (X ++ s.exports ++ Y) k) (mapGet (X ++ s'.exports ++ Y) k)) ∧
    ∀ x ∈ s.depPkgs, x ∈ s'.depPkgs := by
  obtain ⟨_, _, _, _, hexp, _⟩ := sourceSummary_ok path imports elems s hs
  obtain ⟨_, _, _, _, hexp', _⟩ := sourceSummary_ok path imports elems' s' hs'
  obtain ⟨⟨A, C, hA, hB⟩, hrefs⟩ := h
  refine ⟨fun X Y k hk => ?_, summary_deps_mono path imports elems elems' s s' hs hs' hrefs⟩
  rw [hexp, hexp', hA, hB]
  simp only [List.map_append]
  have := hlook
    (X ++ A.map (fun x => (x.1, (⟨packageFromFilename (path ++ b!".proto"), x.1, path ++ b!".proto", x.2⟩ : TypeRef))))
    (C.map (fun x => (x.1, (⟨packageFromFilename (path ++ b!".proto"), x.1, path ++ b!".proto", x.2⟩ : TypeRef))) ++ Y)
    k hk
  simpa only [List.append_assoc] using this

/-- the blocks an append replaces: nothing by the exports of what is new (a declaration, the inline
types of a property), or one enum entry by the same with more value names -/
inductive Block : List (Str × TKind) → List (Str × TKind) → Prop
  | ins (N : List (Str × TKind)) : Block [] N
  | upd (k0 pfx : Str) (names names' : List Str) (h : ∀ x ∈ names, x ∈ names') :
      Block [(k0, .enum pfx names)] [(k0, .enum pfx names')]

/-- `k` is not a key the edit introduces: the side condition of every package theorem -/
def Block.Old (M M' : List (Str × TKind)) (k : Str) : Prop := k ∈ M'.map (·.1) → k ∈ M.map (·.1)

theorem Block.old_ins {N : List (Str × TKind)} {k : Str} (h : k ∉ N.map (·.1)) : Block.Old [] N k :=
  fun hm => absurd hm h

theorem mapGet_update (L R : List (Str × TypeRef)) (k0 : Str) (t : TypeRef) (pfx : Str)
    (names names' : List Str) (hk : t.kind = .enum pfx names) (hsub : ∀ x ∈ names, x ∈ names') (k : Str) :
    UpOrEq (mapGet (L ++ [(k0, t)] ++ R) k)
      (mapGet (L ++ [(k0, { t with kind := .enum pfx names' })] ++ R) k) := by
  rw [mapGet_append, mapGet_append (L ++ [(k0, _)]) R]
  cases hR : mapGet R k with
  | some v => exact Or.inl rfl
  | none =>
    simp only []
    rw [mapGet_append, mapGet_append L [(k0, _)]]
    by_cases hkk : k0 = k
    · subst hkk
      right
      exact ⟨t, pfx, names, names', by simp [mapGet], hk, by simp [mapGet], hsub⟩
    · left
      simp [mapGet, hkk]

theorem Block.lookup {M M' : List (Str × TKind)} (hb : Block M M') (pkg file : Str)
    (L R : List (Str × TypeRef)) (k : Str) (hk : Block.Old M M' k) :
    UpOrEq (mapGet (L ++ M.map (fun x => (x.1, (⟨pkg, x.1, file, x.2⟩ : TypeRef))) ++ R) k)
      (mapGet (L ++ M'.map (fun x => (x.1, (⟨pkg, x.1, file, x.2⟩ : TypeRef))) ++ R) k) := by
  cases hb with
  | ins N =>
    left
    rw [List.map_nil, List.append_nil, mapGet_insert_fresh]
    simpa [Block.Old, List.map_map, Function.comp] using hk
  | upd k0 pfx names names' h =>
    exact mapGet_update L R k0 ⟨pkg, k0, file, .enum pfx names⟩ pfx names names' rfl h k

/-- a declaration appended at the end of the file: its exports are the inserted block -/
theorem summary_append_decl (path : Str) (imports : List Import) (elems : List Elem) (el : Elem)
    (s s' : Summary') (hs : sourceSummary path imports elems = .ok s)
    (hs' : sourceSummary path imports (elems ++ [el]) = .ok s') :
    SummaryUp (Block.Old [] ((itemsOfElem (packageFromFilename (path ++ b!".proto")) el).flatMap itemExports))
      s s' := by
  refine summary_block path imports _ _ s s' hs hs' _ _
    ⟨⟨(elems.flatMap (itemsOfElem (packageFromFilename (path ++ b!".proto")))).flatMap itemExports, [],
      by simp, by simp [List.flatMap_append]⟩, fun r hr => ?_⟩ _ ((Block.ins _).lookup _ _)
  simp only [List.flatMap_append, List.mem_append]
  exact Or.inl hr

/-! ## a package one of whose files is replaced -/

/-- two resolvers agree up to more enum names on the references of a source file -/
def AgreeUpFile (res res' : Resolver) : SrcFile → Prop
  | .proto _ _ _ => True
  | .j5s path imports elems _ =>
    ∀ im, j5Imports (packageFromFilename (path ++ b!".proto")) imports = .ok im →
      AgreeUp { resolve := resolveTypeNoImport im res } { resolve := resolveTypeNoImport im res' }
        (fileRefs (packageFromFilename (path ++ b!".proto")) elems)

theorem AgreeFile.up {res res' : Resolver} {f : SrcFile} (h : AgreeFile res res' f) :
    AgreeUpFile res res' f := by
  cases f with
  | proto path msgs enums => trivial
  | j5s path imports elems decl => exact fun im hj => (h im hj).up

theorem convOf_up (res res' : Resolver) (f : SrcFile) (hok : convOk res f)
    (h : AgreeUpFile res res' f) : convOf res' f = convOf res f := by
  cases f with
  | proto path msgs enums => rfl
  | j5s path imports elems decl =>
    obtain ⟨fs, hfs⟩ := hok
    simp only [convOf, hfs, convertFile_up res res' path imports elems fs hfs h]

theorem convOf_rel (res : Resolver) (path : Str) (imports : List Import) (elems elems' : List Elem)
    (decl : Str) (R : FileSkel → FileSkel → Prop)
    (hconv : ∀ fs fs', convertFile res path imports elems = .ok fs →
      convertFile res path imports elems' = .ok fs' → ∀ f ∈ fs, ∃ f' ∈ fs', R f f') :
    convOk res (.j5s path imports elems' decl) →
      ∀ f ∈ convOf res (.j5s path imports elems decl),
        ∃ f' ∈ convOf res (.j5s path imports elems' decl), R f f' := by
  intro hok f hf
  obtain ⟨fs', hfs'⟩ := hok
  simp only [convOf] at hf ⊢
  cases hc : convertFile res path imports elems with
  | err t => simp [hc] at hf
  | panic w => simp [hc] at hf
  | ok fs =>
    simp only [hc] at hf
    simp only [hfs']
    exact hconv fs fs' hc hfs' f hf

/-- the files before and after the replaced one are converted identically, the replaced one as
`hrel` says -/
theorem replace_file_pkg_up (R : FileSkel → FileSkel → Prop) (hR : ∀ f, R f f)
    (b b' : Bundle) (name : Str) (p p' : Pkg) (l l' : Loaded)
    (fuel fuel' : Nat) (chain chain' : List Str)
    (hf : b.find name = some p) (hf' : b'.find name = some p')
    (hl : loadPkg b (fuel + 1) chain name = .ok l)
    (hl' : loadPkg b' (fuel' + 1) chain' name = .ok l')
    (pre post : List SrcFile) (g g' : SrcFile)
    (hp : p.files = pre ++ [g] ++ post) (hp' : p'.files = pre ++ [g'] ++ post)
    (hagree : ∀ f ∈ p.files, AgreeUpFile l.resolver l'.resolver f)
    (hrel : convOk l'.resolver g' → ∀ f ∈ convOf l'.resolver g, ∃ f' ∈ convOf l'.resolver g', R f f') :
    ∀ f ∈ l.files, ∃ f' ∈ l'.files, R f f' := by
  obtain ⟨hfiles, hok⟩ := loadPkg_ok_inv b fuel chain name p l hf hl
  obtain ⟨hfiles', hok'⟩ := loadPkg_ok_inv b' fuel' chain' name p' l' hf' hl'
  have hconv : ∀ x ∈ p.files, convOf l'.resolver x = convOf l.resolver x :=
    fun x hx => convOf_up _ _ x (hok x hx) (hagree x hx)
  rw [hfiles, hp, hfiles', hp']
  rw [hp] at hconv
  intro f hfm
  simp only [List.flatMap_append, List.flatMap_cons, List.flatMap_nil, List.append_nil,
    List.mem_append] at hfm ⊢
  rcases hfm with (hfm | hfm) | hfm
  · obtain ⟨x, hx, hfx⟩ := List.mem_flatMap.mp hfm
    rw [← hconv x (by simp [hx])] at hfx
    exact ⟨f, Or.inl (Or.inl (List.mem_flatMap.mpr ⟨x, hx, hfx⟩)), hR f⟩
  · rw [← hconv g (by simp)] at hfm
    obtain ⟨f', hf'm, hr⟩ := hrel (hok' g' (by rw [hp']; simp)) f hfm
    exact ⟨f', Or.inl (Or.inr hf'm), hr⟩
  · obtain ⟨x, hx, hfx⟩ := List.mem_flatMap.mp hfm
    rw [← hconv x (by simp [hx])] at hfx
    exact ⟨f, Or.inr (List.mem_flatMap.mpr ⟨x, hx, hfx⟩), hR f⟩

/-! ## the resolvers agree when the lookups of the old references are not disturbed -/

theorem expand_ref_schema (im : ImportMap) (pkg schema q sch : Str)
    (h : im.expand pkg schema = some (.ref q sch)) : sch = schema := by
  unfold ImportMap.expand at h
  split at h
  · simp only [Option.some.injEq, Expanded.ref.injEq] at h; exact h.2.symm
  · split at h
    · cases h
    · split at h
      · cases h
      · split at h
        · cases h
        · simp only [Option.some.injEq, Expanded.ref.injEq] at h; exact h.2.symm

/-- `P` singles out export keys whose lookup survives the replacement (`SummaryUp`); every old
reference that finds an export entry has such a key. Local names then look the same entry up in the
new export table, imported names the same entry in the (possibly longer) dependency table, whose old
entries are loaded identically because the dependencies never read the edited package. -/
theorem agreeUp_of_replace {b b' : Bundle} {name : Str} {p : Pkg} {fuel : Nat} {chain : List Str}
    {pre post : List SrcFile} {path : Str} {imports : List Import} {elems elems' : List Elem}
    {decl : Str} (hp : p.files = pre ++ [.j5s path imports elems decl] ++ post)
    (hf : b.find name = some p)
    (hf' : b'.find name = some { p with files := pre ++ [.j5s path imports elems' decl] ++ post })
    (hother : ∀ n, n ≠ name → b.find n = b'.find n)
    {l l' : Loaded} (hl : loadPkg b (fuel + 1) chain name = .ok l)
    (hl' : loadPkg b' (fuel + 1) chain name = .ok l')
    {P : Str → Prop}
    (hsum : ∀ s s', sourceSummary path imports elems = .ok s →
      sourceSummary path imports elems' = .ok s' → SummaryUp P s s')
    (hP : ∀ f ∈ p.files, ∀ r ∈ srcFileRefs f, r.2 ∈ l.exports.map (·.1) → P r.2) :
    ∀ f ∈ p.files, AgreeUpFile l.resolver l'.resolver f := by
  obtain ⟨hs, hn, hex, hdeps, _⟩ := loadPkg_ok_struct b fuel chain name p l hf hl
  obtain ⟨hs', hn', hex', hdeps', _⟩ := loadPkg_ok_struct b' fuel chain name _ l' hf' hl'
  simp only [] at hs' hex' hdeps'
  obtain ⟨_, hall⟩ := summaries_ok p.files _ hs
  obtain ⟨_, hall'⟩ := summaries_ok _ _ hs'
  have hsm := fileSummary_j5s_ok _ _ _ _ _ (hall (.j5s path imports elems decl) (by rw [hp]; simp))
  have hsm' := fileSummary_j5s_ok _ _ _ _ _ (hall' (.j5s path imports elems' decl) (by simp))
  obtain ⟨hlookS, hdep⟩ := hsum _ _ hsm hsm'
  have hE : l.exports = ((pre.map sumOf).flatMap (·.exports) ++
      (sumOf (.j5s path imports elems decl)).exports) ++ (post.map sumOf).flatMap (·.exports) := by
    rw [hex, hp]; simp
  have hE' : l'.exports = ((pre.map sumOf).flatMap (·.exports) ++
      (sumOf (.j5s path imports elems' decl)).exports) ++ (post.map sumOf).flatMap (·.exports) := by
    rw [hex']; simp
  have hlook : ∀ k, P k → UpOrEq (mapGet l.exports k) (mapGet l'.exports k) := by
    intro k hk
    rw [hE', hE]
    exact hlookS _ _ k hk
  have hmono : ∀ d ∈ depNamesOf name (p.files.map sumOf),
      d ∈ depNamesOf name ((pre ++ [SrcFile.j5s path imports elems' decl] ++ post).map sumOf) := by
    apply depNamesOf_mono
    intro x hx
    rw [hp] at hx
    simp only [List.map_append, List.map_cons, List.map_nil, List.flatMap_append, List.flatMap_cons,
      List.flatMap_nil, List.append_nil, List.mem_append] at hx ⊢
    rcases hx with (hx | hx) | hx
    · exact Or.inl (Or.inl hx)
    · exact Or.inl (Or.inr (hdep x hx))
    · exact Or.inr hx
  have hloadEq : ∀ d, loadOf b' fuel (chain ++ [name]) d = loadOf b fuel (chain ++ [name]) d := by
    intro d
    simp only [loadOf]
    rw [loadPkg_congr_chain b b' name hother fuel (chain ++ [name]) d (by simp)]
  have hdlook : ∀ q, q ∈ l.deps.map (·.1) → mapGet l'.deps q = mapGet l.deps q := by
    intro q hq
    rw [hdeps, List.map_map] at hq
    have hq0 : q ∈ depNamesOf name (p.files.map sumOf) := by simpa [Function.comp] using hq
    rw [hdeps', hdeps, mapGet_map_nodup _ _ (depNamesOf_nodup _ _) q (hmono q hq0),
      mapGet_map_nodup _ _ (depNamesOf_nodup _ _) q hq0, hloadEq]
  obtain ⟨_, hok⟩ := loadPkg_ok_inv b fuel chain name p l hf hl
  intro f hfm
  cases f with
  | proto pth msgs enums => trivial
  | j5s path2 imports2 elems2 decl2 =>
    intro im hj r hr
    obtain ⟨fs, hfs⟩ := hok _ hfm
    obtain ⟨im0, hj0, hrefs⟩ := convertFile_refs l.resolver path2 imports2 elems2 fs hfs
    have him : im0 = im := by rw [hj] at hj0; exact (Outcome.ok.inj hj0).symm
    subst him
    obtain ⟨i, hi, hri⟩ := List.mem_flatMap.mp hr
    obtain ⟨t, ht, _⟩ := hrefs i hi r hri
    -- the old lookup succeeds; follow it
    rw [RefUp.iff_upOrEq]
    simp only [resolveTypeNoImport] at ht ⊢
    cases hexp2 : im0.expand r.1 r.2 with
    | none => exact Or.inl rfl
    | some e =>
      rw [hexp2] at ht
      cases e with
      | implicit t' => exact Or.inl rfl
      | ref q sch =>
        simp only [Resolver.resolveType, Loaded.resolver, hn, hn'] at ht ⊢
        by_cases hq : q = name
        · simp only [hq, if_true] at ht ⊢
          have hsch := expand_ref_schema im0 r.1 r.2 q sch hexp2
          apply hlook sch
          rw [hsch]
          apply hP _ hfm r hr
          rw [← hsch]
          exact mapGet_mem_keys _ _ _ ht
        · simp only [hq, if_false] at ht ⊢
          cases hd : mapGet l.deps q with
          | none => rw [hd] at ht; cases ht
          | some ex =>
            rw [hdlook q (mapGet_mem_keys _ _ _ hd), hd]
            exact Or.inl rfl

/-! ## up to `compilePkg` -/

theorem replace_elems_compile_up (R : FileSkel → FileSkel → Prop) (hR : ∀ f, R f f)
    (b b' : Bundle) (pkg : Str) (p : Pkg)
    (pre post : List SrcFile) (path : Str) (imports : List Import) (elems elems' : List Elem)
    (decl : Str) (hp : p.files = pre ++ [.j5s path imports elems decl] ++ post)
    (hf : b.find pkg = some p)
    (hf' : b'.find pkg = some { p with files := pre ++ [.j5s path imports elems' decl] ++ post })
    (hother : ∀ n, n ≠ pkg → b.find n = b'.find n) (hlen : b'.pkgs.length = b.pkgs.length)
    (fs fs' : List FileSkel) (h : compilePkg b pkg = .ok fs) (h' : compilePkg b' pkg = .ok fs')
    (P : Str → Prop)
    (hsum : ∀ s s', sourceSummary path imports elems = .ok s →
      sourceSummary path imports elems' = .ok s' → SummaryUp P s s')
    (hP : ∀ f ∈ p.files, ∀ r ∈ srcFileRefs f,
      r.2 ∈ (p.files.map sumOf).flatMap (fun s => s.exports.map (·.1)) → P r.2)
    (hconv : ∀ res fs fs', convertFile res path imports elems = .ok fs →
      convertFile res path imports elems' = .ok fs' → ∀ f ∈ fs, ∃ f' ∈ fs', R f f') :
    ∀ f ∈ fs, ∃ f' ∈ fs', R f f' := by
  unfold compilePkg at h h'
  rw [hlen] at h'
  cases hld : loadPkg b (b.pkgs.length + 1) [] pkg with
  | err t => simp [hld] at h
  | panic w => simp [hld] at h
  | ok l =>
    cases hld' : loadPkg b' (b.pkgs.length + 1) [] pkg with
    | err t => simp [hld'] at h'
    | panic w => simp [hld'] at h'
    | ok l' =>
      simp only [hld, Outcome.ok.injEq] at h
      simp only [hld', Outcome.ok.injEq] at h'
      subst h; subst h'
      obtain ⟨_, _, hex, _, _⟩ := loadPkg_ok_struct b _ [] pkg p l hf hld
      have hP' : ∀ f ∈ p.files, ∀ r ∈ srcFileRefs f, r.2 ∈ l.exports.map (·.1) → P r.2 := by
        intro f hfm r hr hmem
        apply hP f hfm r hr
        rw [hex, List.map_flatMap] at hmem
        exact hmem
      have := replace_file_pkg_up R hR b b' pkg p _ l l' _ _ [] [] hf hf' hld hld' pre post _ _ hp rfl
        (agreeUp_of_replace hp hf hf' hother hld hld' hsum hP')
        (convOf_rel l'.resolver path imports elems elems' decl R (hconv l'.resolver))
      intro f hfm
      obtain ⟨f', hf'm, hle⟩ := this f ((sortFiles_perm_self l.files).mem_iff.mp hfm)
      exact ⟨f', (sortFiles_perm_self l'.files).mem_iff.mpr hf'm, hle⟩

/-- the same when the lookups in `P` are unchanged -/
theorem replace_elems_compile_R (R : FileSkel → FileSkel → Prop) (hR : ∀ f, R f f)
    (b b' : Bundle) (pkg : Str) (p : Pkg)
    (pre post : List SrcFile) (path : Str) (imports : List Import) (elems elems' : List Elem)
    (decl : Str) (hp : p.files = pre ++ [.j5s path imports elems decl] ++ post)
    (hf : b.find pkg = some p)
    (hf' : b'.find pkg = some { p with files := pre ++ [.j5s path imports elems' decl] ++ post })
    (hother : ∀ n, n ≠ pkg → b.find n = b'.find n) (hlen : b'.pkgs.length = b.pkgs.length)
    (fs fs' : List FileSkel) (h : compilePkg b pkg = .ok fs) (h' : compilePkg b' pkg = .ok fs')
    (P : Str → Prop)
    (hsum : ∀ s s', sourceSummary path imports elems = .ok s →
      sourceSummary path imports elems' = .ok s' →
      (∀ (X Y : List (Str × TypeRef)) k, P k →
        mapGet (X ++ s'.exports ++ Y) k = mapGet (X ++ s.exports ++ Y) k) ∧
      (∀ x ∈ s.depPkgs, x ∈ s'.depPkgs))
    (hP : ∀ f ∈ p.files, ∀ r ∈ srcFileRefs f,
      r.2 ∈ (p.files.map sumOf).flatMap (fun s => s.exports.map (·.1)) → P r.2)
    (hconv : ∀ res fs fs', convertFile res path imports elems = .ok fs →
      convertFile res path imports elems' = .ok fs' → ∀ f ∈ fs, ∃ f' ∈ fs', R f f') :
    ∀ f ∈ fs, ∃ f' ∈ fs', R f f' :=
  replace_elems_compile_up R hR b b' pkg p pre post path imports elems elems' decl hp hf hf' hother
    hlen fs fs' h h' P (fun s s' hs hs' => .of_eq (hsum s s' hs hs')) hP hconv

/-- **One edit, package level.** Both versions compile; for the file the edit hits and its old and
new element lists there is a set `P` of keys that holds every name the package exported, on which the
lookups in the file's summary survive (`SummaryUp`), and the two element lists convert — under any
resolver — to `R`-related files. Then the two compiles are `R`-related file by file. -/
theorem edit_compile_rel (R : FileSkel → FileSkel → Prop) (hR : ∀ f, R f f) (e : Edit)
    (b b' : Bundle) (pkg : Str) (he : e.apply pkg b = some b')
    (fs fs' : List FileSkel) (h : compilePkg b pkg = .ok fs) (h' : compilePkg b' pkg = .ok fs')
    (hstep : ∀ p path imports elems elems' decl, b.find pkg = some p →
      p.files[e.file]? = some (.j5s path imports elems decl) → e.onElems elems = some elems' →
      ∃ P : Str → Prop,
        (∀ k ∈ (p.files.map sumOf).flatMap (fun s => s.exports.map (·.1)), P k) ∧
        (∀ s s', sourceSummary path imports elems = .ok s →
          sourceSummary path imports elems' = .ok s' → SummaryUp P s s') ∧
        ∀ res fs fs', convertFile res path imports elems = .ok fs →
          convertFile res path imports elems' = .ok fs' → ∀ f ∈ fs, ∃ f' ∈ fs', R f f') :
    ∀ f ∈ fs, ∃ f' ∈ fs', R f f' := by
  obtain ⟨p, pre, post, path, imports, elems, elems', decl, hf, hp, hget, hed, hf', hother, hl⟩ :=
    apply_edit_j5s e b pkg b' he
  obtain ⟨P, hP, hsum, hconv⟩ := hstep p path imports elems elems' decl hf hget hed
  exact replace_elems_compile_up R hR b b' pkg p pre post path imports elems elems' decl hp hf hf'
    hother hl fs fs' h h' P hsum (fun _ _ r _ hmem => hP r.2 hmem) hconv

/-! ## the files of a source file whose items change -/

/-- The items of every target are related — messages by `RM`, enums by `RE`, services (which live in
the sub-package files only) equal — and no sub-package target loses its last item: the generated files
correspond one to one. The relation is only asked for the conversion context of the file and may use
that no step of the old conversion recorded an error. -/
theorem convertFile_replace_items_c (res : Resolver) (path : Str) (imports : List Import)
    (elems elems' : List Elem) (fs fs' : List FileSkel)
    (h : convertFile res path imports elems = .ok fs)
    (h' : convertFile res path imports elems' = .ok fs')
    (RM : List MsgSkel → List MsgSkel → Prop) (RE : List EnumSkel → List EnumSkel → Prop)
    (hex : ∀ t, t ≠ Target.main → (∃ i ∈ elems.flatMap (itemsOfElem (packageFromFilename (path ++ b!".proto"))), i.target = t) →
      ∃ i ∈ elems'.flatMap (itemsOfElem (packageFromFilename (path ++ b!".proto"))), i.target = t)
    (hrel : ∀ (c : Ctx),
      (∀ s ∈ fileSteps c (packageFromFilename (path ++ b!".proto")) elems, s.eff.errs = 0) → ∀ (t : Target),
      RM (((elems.flatMap (itemsOfElem (packageFromFilename (path ++ b!".proto")))).filter
            (·.target = t)).flatMap (itemMsgs c))
         (((elems'.flatMap (itemsOfElem (packageFromFilename (path ++ b!".proto")))).filter
            (·.target = t)).flatMap (itemMsgs c)) ∧
      RE (((elems.flatMap (itemsOfElem (packageFromFilename (path ++ b!".proto")))).filter
            (·.target = t)).flatMap (itemEnums c))
         (((elems'.flatMap (itemsOfElem (packageFromFilename (path ++ b!".proto")))).filter
            (·.target = t)).flatMap (itemEnums c)) ∧
      (t ≠ Target.main →
        ((elems.flatMap (itemsOfElem (packageFromFilename (path ++ b!".proto")))).filter
            (·.target = t)).flatMap (itemSvcs c) =
        ((elems'.flatMap (itemsOfElem (packageFromFilename (path ++ b!".proto")))).filter
            (·.target = t)).flatMap (itemSvcs c))) :
    ∀ f ∈ fs, ∃ f' ∈ fs', f'.name = f.name ∧ f'.pkg = f.pkg ∧ f.svcs = f'.svcs ∧
      RM f.msgs f'.msgs ∧ RE f.enums f'.enums := by
  obtain ⟨im, hj, _, hsteps, rfl⟩ := convertFile_ok res path imports elems fs h
  obtain ⟨im', hj', _, _, rfl⟩ := convertFile_ok res path imports elems' fs' h'
  obtain rfl : im = im' := Outcome.ok.inj (hj.symm.trans hj')
  intro f hf
  obtain ⟨t, ht, rfl⟩ := (mem_filesOf_items _ _ _ _ f).mp hf
  obtain ⟨hm, he, hs⟩ := hrel _ hsteps t
  refine ⟨_, (mem_filesOf_items _ _ _ _ _).mpr ⟨t, ?_, rfl⟩, ?_, ?_, ?_, ?_, ?_⟩
  · by_cases htm : t = .main
    · exact Or.inl htm
    · exact Or.inr (hex t htm (ht.resolve_left htm))
  · simp only [FileB.skel, targetFile, FileB.run_name]
  · simp only [FileB.skel, targetFile, FileB.run_pkg]
  · show (targetFile _ _ _ t _).svcs = (targetFile _ _ _ t _).svcs
    rw [targetFile_svcs, targetFile_svcs]
    by_cases htm : t = .main
    · subst htm
      rw [flatMap_filter_nil _ _ _ fun i hi => itemSvcs_main _ i (by simpa using hi),
        flatMap_filter_nil _ _ _ fun i hi => itemSvcs_main _ i (by simpa using hi)]
    · exact hs htm
  · show RM (targetFile _ _ _ t _).msgs (targetFile _ _ _ t _).msgs
    rw [targetFile_msgs, targetFile_msgs]
    exact hm
  · show RE (targetFile _ _ _ t _).enums (targetFile _ _ _ t _).enums
    rw [targetFile_enums, targetFile_enums]
    exact he

/-! ## one element that expands to one item changes -/

theorem items_rel_single {R : MsgSkel → MsgSkel → Prop} (hR : ∀ m, R m m) (c : Ctx) (t : Target)
    (I1 I2 : List Item) (it it' : Item) (htg : it'.target = it.target)
    (hm : MsgsRel R (itemMsgs c it) (itemMsgs c it')) (he : EnumsLe (itemEnums c it) (itemEnums c it'))
    (hs : itemSvcs c it = itemSvcs c it') :
    MsgsRel R (((I1 ++ [it] ++ I2).filter (·.target = t)).flatMap (itemMsgs c))
      (((I1 ++ [it'] ++ I2).filter (·.target = t)).flatMap (itemMsgs c)) ∧
    EnumsLe (((I1 ++ [it] ++ I2).filter (·.target = t)).flatMap (itemEnums c))
      (((I1 ++ [it'] ++ I2).filter (·.target = t)).flatMap (itemEnums c)) ∧
    ((I1 ++ [it] ++ I2).filter (·.target = t)).flatMap (itemSvcs c) =
      ((I1 ++ [it'] ++ I2).filter (·.target = t)).flatMap (itemSvcs c) := by
  by_cases h : it.target = t
  · have h' : it'.target = t := by rw [htg]; exact h
    simp only [List.filter_append, List.filter_cons, h, h', decide_true, if_true, List.filter_nil,
      List.flatMap_append, List.flatMap_cons, List.flatMap_nil, List.append_nil, hs]
    exact ⟨MsgsRel.append3 hR _ _ _ _ hm,
      EnumsLe.append (EnumsLe.append (EnumsLe.refl _) he) (EnumsLe.refl _), trivial⟩
  · have h' : ¬ it'.target = t := by rw [htg]; exact h
    simp only [List.filter_append, List.filter_cons, h, h', decide_false, Bool.false_eq_true,
      if_false, List.filter_nil, List.append_nil]
    exact ⟨MsgsRel.refl hR _, EnumsLe.refl _, trivial⟩

/-- file level: elems = E1 ++ [x] ++ E2 where `x` expands to the single item `it` (resp. `it'`); the
relation between the messages of the two items may use that the old item's steps recorded no error -/
theorem convertFile_single_item {R : MsgSkel → MsgSkel → Prop} (hR : ∀ m, R m m) (res : Resolver)
    (path : Str) (imports : List Import)
    (E1 E2 : List Elem) (x x' : Elem) (it it' : Item)
    (hx : itemsOfElem (packageFromFilename (path ++ b!".proto")) x = [it])
    (hx' : itemsOfElem (packageFromFilename (path ++ b!".proto")) x' = [it'])
    (htg : it'.target = it.target)
    (hm : ∀ c, (∀ s ∈ convItem c it, s.eff.errs = 0) → MsgsRel R (itemMsgs c it) (itemMsgs c it'))
    (he : ∀ c, EnumsLe (itemEnums c it) (itemEnums c it'))
    (hs : ∀ c, itemSvcs c it = itemSvcs c it')
    (fs fs' : List FileSkel)
    (h : convertFile res path imports (E1 ++ [x] ++ E2) = .ok fs)
    (h' : convertFile res path imports (E1 ++ [x'] ++ E2) = .ok fs') :
    ∀ f ∈ fs, ∃ f' ∈ fs', f'.name = f.name ∧ f'.pkg = f.pkg ∧ f.svcs = f'.svcs ∧
      MsgsRel R f.msgs f'.msgs ∧ EnumsLe f.enums f'.enums := by
  apply convertFile_replace_items_c res path imports _ _ fs fs' h h' (MsgsRel R) EnumsLe
  · intro t _ ⟨i, hi, hit⟩
    simp only [List.flatMap_append, List.flatMap_cons, List.flatMap_nil, List.append_nil, hx, hx',
      List.mem_append, List.mem_singleton] at hi ⊢
    rcases hi with (hi | hi) | hi
    · exact ⟨i, Or.inl (Or.inl hi), hit⟩
    · subst hi; exact ⟨it', Or.inl (Or.inr rfl), by rw [htg]; exact hit⟩
    · exact ⟨i, Or.inr hi, hit⟩
  · intro c hsteps t
    have hit : ∀ s ∈ convItem c it, s.eff.errs = 0 := by
      intro s hs'
      apply hsteps s
      simp only [fileSteps, List.flatMap_append, List.flatMap_cons, List.flatMap_nil, List.append_nil, hx,
        List.mem_append]
      exact Or.inl (Or.inr hs')
    simp only [List.flatMap_append, List.flatMap_cons, List.flatMap_nil, List.append_nil, hx, hx']
    have := items_rel_single hR c t (E1.flatMap (itemsOfElem (packageFromFilename (path ++ b!".proto"))))
      (E2.flatMap (itemsOfElem (packageFromFilename (path ++ b!".proto")))) it it' htg (hm c hit) (he c) (hs c)
    exact ⟨this.1, this.2.1, fun _ => this.2.2⟩

theorem summary_single_item (path : Str) (imports : List Import) (E1 E2 : List Elem) (x x' : Elem)
    (it it' : Item)
    (hx : itemsOfElem (packageFromFilename (path ++ b!".proto")) x = [it])
    (hx' : itemsOfElem (packageFromFilename (path ++ b!".proto")) x' = [it'])
    (M M' : List (Str × TKind)) (hb : Block M M')
    (h : ExpCh M M' (itemExports it) (itemExports it') (itemRefs it) (itemRefs it'))
    (s s' : Summary') (hs : sourceSummary path imports (E1 ++ [x] ++ E2) = .ok s)
    (hs' : sourceSummary path imports (E1 ++ [x'] ++ E2) = .ok s') :
    SummaryUp (Block.Old M M') s s' := by
  refine summary_block path imports _ _ s s' hs hs' M M' ?_ _ (hb.lookup _ _)
  simp only [List.flatMap_append, List.flatMap_cons, List.flatMap_nil, List.append_nil, hx, hx']
  exact h.wrap _ _ _ _

/-- an element that expands to one item is edited: what the package frame needs of the old and the new
item. `msgs` may use that the old item converts without error (an option append needs it: a value
check that failed might pass now; a field append does not); the relation on messages is a parameter
(`Le1` at a container's own list, `LeDeep` below), enums only ever grow. -/
structure ItemUp (RM : MsgSkel → MsgSkel → Prop) (it it' : Item) (M M' : List (Str × TKind)) : Prop where
  target : it'.target = it.target
  block : Block M M'
  exps : ExpCh M M' (itemExports it) (itemExports it') (itemRefs it) (itemRefs it')
  msgs : ∀ c, (∀ s ∈ convItem c it, s.eff.errs = 0) → MsgsRel RM (itemMsgs c it) (itemMsgs c it')
  enums : ∀ c, EnumsLe (itemEnums c it) (itemEnums c it')
  svcs : ∀ c, itemSvcs c it = itemSvcs c it'

/-- **One edit inside one item, package level.** The conclusion is `FileSkel.LeEdit` for `RM := Le1`,
`FileSkel.LeDeep` for `RM := LeDeep`. -/
theorem edit_item_compile_rel {RM : MsgSkel → MsgSkel → Prop} (hRM : ∀ m, RM m m) (e : Edit)
    (b b' : Bundle) (pkg : Str) (he : e.apply pkg b = some b')
    (fs fs' : List FileSkel) (h : compilePkg b pkg = .ok fs) (h' : compilePkg b' pkg = .ok fs')
    (hstep : ∀ p path imports elems elems' decl, b.find pkg = some p →
      p.files[e.file]? = some (.j5s path imports elems decl) → e.onElems elems = some elems' →
      ∃ E1 E2 x x' it it' M M', elems = E1 ++ [x] ++ E2 ∧ elems' = E1 ++ [x'] ++ E2 ∧
        itemsOfElem (packageFromFilename (path ++ b!".proto")) x = [it] ∧
        itemsOfElem (packageFromFilename (path ++ b!".proto")) x' = [it'] ∧
        ItemUp RM it it' M M' ∧
        ∀ k ∈ (p.files.map sumOf).flatMap (fun s => s.exports.map (·.1)), Block.Old M M' k) :
    ∀ f ∈ fs, ∃ f' ∈ fs', f'.name = f.name ∧ f'.pkg = f.pkg ∧ f.svcs = f'.svcs ∧
      MsgsRel RM f.msgs f'.msgs ∧ EnumsLe f.enums f'.enums := by
  refine edit_compile_rel _ (fun f => ⟨rfl, rfl, rfl, MsgsRel.refl hRM _, EnumsLe.refl _⟩) e b b' pkg he
    fs fs' h h' ?_
  intro p path imports elems elems' decl hf hget hed
  obtain ⟨E1, E2, x, x', it, it', M, M', rfl, rfl, hx, hx', hu, hold⟩ :=
    hstep p path imports elems elems' decl hf hget hed
  exact ⟨Block.Old M M', hold,
    summary_single_item path imports E1 E2 x x' it it' hx hx' M M' hu.block hu.exps,
    fun res fs fs' => convertFile_single_item hRM res path imports E1 E2 x x' it it' hx hx' hu.target
      hu.msgs hu.enums hu.svcs fs fs'⟩

/-! ## top-level declarations -/

theorem itemsOfElem_decl (pkg : Str) (io : Bool) (o : ObjDecl) :
    itemsOfElem pkg (declElem io o) = [declItem io o] := by cases io <;> rfl

theorem declItem_target (io : Bool) (o : ObjDecl) : (declItem io o).target = .main := by
  cases io <;> rfl

theorem itemEnums_decl (c : Ctx) (io : Bool) (o : ObjDecl) : itemEnums c (declItem io o) = [] := by
  cases io
  · exact itemEnums_object c o
  · exact itemEnums_oneof c o

theorem itemExports_declItem (io : Bool) (o : ObjDecl) :
    itemExports (declItem io o) = exportsDecl [] io o := by cases io <;> rfl

theorem itemRefs_declItem (io : Bool) (o : ObjDecl) : itemRefs (declItem io o) = refsDecl o := by
  cases io <;> rfl

theorem itemMsgs_declItem (c : Ctx) (io : Bool) (o : ObjDecl) :
    itemMsgs c (declItem io o) = (convDecl c [] io [] o).msgs := by
  cases io <;> simp [declItem, itemMsgs, convItem]

/-- an edit with the path `el i :: rest` where the `i`-th element is an object or a oneof -/
theorem editElems_decl (act : Act) (i : Nat) (rest : List PStep) (elems elems' : List Elem)
    (io : Bool) (o : ObjDecl) (hk : elems[i]? = some (declElem io o))
    (h : editElems act (.el i :: rest) elems = some elems') :
    ∃ E1 E2 o', elems = E1 ++ [declElem io o] ++ E2 ∧ elems' = E1 ++ [declElem io o'] ++ E2 ∧
      E1.length = i ∧ editDecl act rest o = some o' := by
  simp only [editElems] at h
  obtain ⟨a, a', h1, hf, h2, h3⟩ := setAt_some _ _ _ _ h
  have ha : a = declElem io o := by
    have : elems[i]? = some a := by
      rw [h1, List.append_assoc, List.getElem?_append_right (by omega)]
      simp [h3]
    exact (Option.some.inj (this.symm.trans hk))
  subst ha
  cases io <;>
  · simp only [declElem, editElem] at hf
    obtain ⟨o', ho, rfl⟩ := Option.map_eq_some_iff.mp hf
    exact ⟨_, _, o', h1, h2, h3, ho⟩

theorem declItem_up {RM : MsgSkel → MsgSkel → Prop} (io : Bool) (o o' : ObjDecl)
    {M M' : List (Str × TKind)} (hb : Block M M')
    (hexp : ExpCh M M' (exportsDecl [] io o) (exportsDecl [] io o') (refsDecl o) (refsDecl o'))
    (hm : ∀ c, (convDecl c [] io [] o).errs = 0 →
      MsgsRel RM (convDecl c [] io [] o).msgs (convDecl c [] io [] o').msgs) :
    ItemUp RM (declItem io o) (declItem io o') M M' where
  target := by rw [declItem_target, declItem_target]
  block := hb
  exps := by rw [itemExports_declItem, itemExports_declItem, itemRefs_declItem, itemRefs_declItem]; exact hexp
  msgs c hit := by
    rw [itemMsgs_declItem, itemMsgs_declItem]
    exact hm c (hit { target := .main, eff := convDecl c [] io [] o } (by cases io <;> simp [declItem, convItem]))
  enums c := by rw [itemEnums_decl, itemEnums_decl]; exact EnumsLe.refl _
  svcs c := by rw [itemSvcs_main c _ (declItem_target io o), itemSvcs_main c _ (declItem_target io o')]

/-! ## an option appended to a top-level enum -/

/-- `appendOption` with the path `[el i]`: the `i`-th element is an enum -/
theorem editElems_option_top (o : Str) (i : Nat) (elems elems' : List Elem)
    (h : editElems (.option o) [.el i] elems = some elems') :
    ∃ E1 E2 e, elems = E1 ++ [.enum e] ++ E2 ∧
      elems' = E1 ++ [.enum { e with opts := e.opts ++ [o] }] ++ E2 ∧ E1.length = i := by
  simp only [editElems] at h
  obtain ⟨a, a', h1, hf, h2, h3⟩ := setAt_some _ _ _ _ h
  cases a with
  | object ob => cases ob with | mk n ps ne psm => simp [editElem, editDecl, editProps] at hf
  | oneof ob => cases ob with | mk n ps ne psm => simp [editElem, editDecl, editProps] at hf
  | enum e =>
    simp only [editElem, editEnum, Option.map_some, Option.some.injEq] at hf
    subst hf
    exact ⟨_, _, e, h1, h2, h3⟩
  | service sv => simp [editElem, editService] at hf
  | topic t => simp [editElem, editTopic] at hf
  | entity en => simp [editElem, editEntity] at hf

theorem convEnum_append_le (e : EnumDecl) (o : Str) :
    EnumsLe [convEnum e] [convEnum { e with opts := e.opts ++ [o] }] := by
  intro x hx
  simp only [List.mem_singleton] at hx
  subst hx
  exact ⟨convEnum { e with opts := e.opts ++ [o] }, by simp, rfl,
    enumValues_prefix_all (enumPrefix e) e.opts o⟩

theorem enumItem_expCh (e : EnumDecl) (o : Str) :
    ExpCh [(e.name, enumTKind e)] [(e.name, enumTKind { e with opts := e.opts ++ [o] })]
      (itemExports (.enum e)) (itemExports (.enum { e with opts := e.opts ++ [o] }))
      (itemRefs (.enum e)) (itemRefs (.enum { e with opts := e.opts ++ [o] })) :=
  ⟨⟨[], [], rfl, rfl⟩, fun _ h => h⟩

theorem summary_append_option_top (path : Str) (imports : List Import)
    (E1 E2 : List Elem) (e : EnumDecl) (o : Str) (s s' : Summary')
    (hs : sourceSummary path imports (E1 ++ [.enum e] ++ E2) = .ok s)
    (hs' : sourceSummary path imports (E1 ++ [.enum { e with opts := e.opts ++ [o] }] ++ E2) = .ok s') :
    (∀ (X Y : List (Str × TypeRef)) k, k ≠ e.name →
      mapGet (X ++ s'.exports ++ Y) k = mapGet (X ++ s.exports ++ Y) k) ∧
    (∀ x ∈ s.depPkgs, x ∈ s'.depPkgs) := by
  refine summary_block (Q := fun o n => n = o) path imports _ _ s s' hs hs' [(e.name, enumTKind e)]
    [(e.name, enumTKind { e with opts := e.opts ++ [o] })] ?_ (· ≠ e.name) ?_
  · simp only [List.flatMap_append, List.flatMap_cons, List.flatMap_nil, List.append_nil, itemsOfElem]
    exact (enumItem_expCh e o).wrap _ _ _ _
  · intro L R k hk
    rw [mapGet_insert_fresh L _ R k (by simpa using hk), mapGet_insert_fresh L _ R k (by simpa using hk)]

/-- the value names of an enum are kept by an appended option -/
theorem enumNames_append (e : EnumDecl) (o : Str) :
    ∀ x ∈ (enumPrefix e ++ b!"UNSPECIFIED") :: (enumValues (enumPrefix e) e.opts).map (·.1),
      x ∈ (enumPrefix e ++ b!"UNSPECIFIED") :: (enumValues (enumPrefix e) (e.opts ++ [o])).map (·.1) := by
  intro x hx
  simp only [List.mem_cons, List.mem_map] at hx ⊢
  rcases hx with hx | ⟨y, hy, hyx⟩
  · exact Or.inl hx
  · exact Or.inr ⟨y, (enumValues_prefix_all (enumPrefix e) e.opts o).subset hy, hyx⟩

theorem enumTKind_append (e : EnumDecl) (o : Str) :
    ∃ pfx names names', enumTKind e = .enum pfx names ∧
      enumTKind { e with opts := e.opts ++ [o] } = .enum pfx names' ∧ ∀ x ∈ names, x ∈ names' :=
  ⟨enumPrefix e, _, _, rfl, rfl, enumNames_append e o⟩

/-- An option appended to a top-level enum changes the enum's export entry (an `EnumRef` carries the
value names): the one item whose block is `Block.upd`. -/
theorem enumItem_up (e : EnumDecl) (o : Str) :
    ItemUp MsgSkel.Le1 (.enum e) (.enum { e with opts := e.opts ++ [o] })
      [(e.name, enumTKind e)] [(e.name, enumTKind { e with opts := e.opts ++ [o] })] where
  target := rfl
  block := .upd e.name (enumPrefix e) _ _ (enumNames_append e o)
  exps := enumItem_expCh e o
  msgs _ _ := MsgsRel.refl MsgSkel.Le1.refl _
  enums _ := convEnum_append_le e o
  svcs _ := rfl

end J5V.Compile
