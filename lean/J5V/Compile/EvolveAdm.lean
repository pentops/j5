import J5V.Compile.EvolveNames
import J5V.Compile.LoadProofs
/-!
# Admissible append edits (C13) — core only

The edits for which the package-level theorems of `Props/C13.lean` hold, as one predicate on
(bundle, edit); every constructor carries the (decidable, source-level) side condition of the
corresponding theorem, verbatim.
-/
namespace J5V.Compile

/-- names exported by the package before the edit -/
abbrev pkgExportNames (p : Pkg) : List Str :=
  (p.files.map sumOf).flatMap (fun s => s.exports.map (·.1))

inductive Admissible (pkg : Str) (b : Bundle) : Edit → Prop
  /-- a new top-level declaration whose exported names are new to the package -/
  | decl (fi : Nat) (el : Elem)
      (h : ∀ p path imports elems decl, b.find pkg = some p →
        p.files[fi]? = some (.j5s path imports elems decl) →
        ∀ n ∈ newExportNames path el, n ∉ pkgExportNames p) :
      Admissible pkg b (.appendDecl fi el)
  /-- a field at the end of a top-level object / oneof; its inline types are new names -/
  | field (fi i : Nat) (prop : Property)
      (h : ∀ p path imports E1 E2 io n ps ne psm decl, b.find pkg = some p →
        p.files[fi]? = some (.j5s path imports (E1 ++ [declElem io (.mk n ps ne psm)] ++ E2) decl) →
        E1.length = i → ∀ x ∈ newFieldExportNames n prop, x ∉ pkgExportNames p) :
      Admissible pkg b (.appendField fi [.el i] prop)
  /-- a field at the end of an object / oneof nested at any depth (`nest k`) below a top-level object /
  oneof, or of an inline object / oneof at any depth (`prop j`, through array / map items) -/
  | nested (fi i : Nat) (rest : List PStep) (prop : Property)
      (hk : ∀ p path imports elems decl, b.find pkg = some p →
        p.files[fi]? = some (.j5s path imports elems decl) → ∃ io o, elems[i]? = some (declElem io o))
      (h : ∀ p path imports E1 E2 io o decl, b.find pkg = some p →
        p.files[fi]? = some (.j5s path imports (E1 ++ [declElem io o] ++ E2) decl) → E1.length = i →
        ∀ x ∈ deepFieldExportNames rest o prop, x ∉ pkgExportNames p) :
      Admissible pkg b (.appendField fi (.el i :: rest) prop)
  /-- a field at the end of a request (`rq`) / response -/
  | method (fi i m : Nat) (rq : Bool) (prop : Property)
      (h : ∀ p path imports E1 E2 sv M1 M2 mt decl, b.find pkg = some p →
        p.files[fi]? = some (.j5s path imports (E1 ++ [.service sv] ++ E2) decl) → E1.length = i →
        sv.methods = M1 ++ [mt] ++ M2 → M1.length = m →
        ∀ x ∈ newFieldExportNames (methodObjName rq mt) prop, x ∉ pkgExportNames p) :
      Admissible pkg b (.appendField fi [.el i, .method m, reqStep rq] prop)
  /-- a field at the end of an inline object / oneof at any depth below a request / response -/
  | methodDeep (fi i m : Nat) (rq : Bool) (rest : List PStep) (prop : Property)
      (h : ∀ p path imports E1 E2 sv M1 M2 mt r decl, b.find pkg = some p →
        p.files[fi]? = some (.j5s path imports (E1 ++ [.service sv] ++ E2) decl) → E1.length = i →
        sv.methods = M1 ++ [mt] ++ M2 → M1.length = m →
        (if rq then mt.request else mt.response) = some r →
        ∀ x ∈ methodDeepExportNames rq mt rest r prop, x ∉ pkgExportNames p) :
      Admissible pkg b (.appendField fi (.el i :: .method m :: reqStep rq :: rest) prop)
  /-- a field at the end of a topic message -/
  | topic (fi i k m : Nat) (prop : Property)
      (h : ∀ p path imports E1 E2 t decl, b.find pkg = some p →
        p.files[fi]? = some (.j5s path imports (E1 ++ [.topic t] ++ E2) decl) → E1.length = i →
        ∀ tn ∈ topicNodes t, ∀ tm ∈ tn.msgs, ∀ x ∈ newFieldExportNames (topicObjName tn tm) prop,
          x ∉ pkgExportNames p) :
      Admissible pkg b (.appendField fi [.el i, topicStep k m] prop)
  /-- a field at the end of an inline object / oneof at any depth below a topic message -/
  | topicDeep (fi i k m : Nat) (rest : List PStep) (prop : Property)
      (h : ∀ p path imports E1 E2 t decl, b.find pkg = some p →
        p.files[fi]? = some (.j5s path imports (E1 ++ [.topic t] ++ E2) decl) → E1.length = i →
        ∀ tn ∈ topicNodes t, ∀ tm ∈ tn.msgs, ∀ x ∈ topicDeepExportNames tn tm rest prop,
          x ∉ pkgExportNames p) :
      Admissible pkg b (.appendField fi (.el i :: topicStep k m :: rest) prop)
  /-- an option at the end of a nested / inline enum at any depth below a top-level object / oneof -/
  | optionDeep (fi i : Nat) (rest : List PStep) (o : Str)
      (hk : ∀ p path imports elems decl, b.find pkg = some p →
        p.files[fi]? = some (.j5s path imports elems decl) → ∃ io d, elems[i]? = some (declElem io d)) :
      Admissible pkg b (.appendOption fi (.el i :: rest) o)
  /-- an option at the end of an inline enum below a request / response -/
  | optionMethodDeep (fi i m : Nat) (rq : Bool) (rest : List PStep) (o : Str) :
      Admissible pkg b (.appendOption fi (.el i :: .method m :: reqStep rq :: rest) o)
  /-- an option at the end of an inline enum below a topic message -/
  | optionTopicDeep (fi i k m : Nat) (rest : List PStep) (o : Str) :
      Admissible pkg b (.appendOption fi (.el i :: topicStep k m :: rest) o)
  /-- an option at the end of a top-level enum (referred to or not) -/
  | option (fi i : Nat) (o : Str) : Admissible pkg b (.appendOption fi [.el i] o)

end J5V.Compile
