import J5V.Compile.Link
import J5V.Compile.FieldInv
import J5V.Compile.LoadProofs
import J5V.Compile.FileProofs
import J5V.Compile.ShapeProofs
/-!
# `ConvertJ5File` and `CompilePackage` never panic on well-formed sources (core only)

`WfElems` is the decidable predicate on a parsed file that excludes the two nil dereferences of
the walk (`WfItem`: a oneof without a name, a method without a request). j5parse never produces
either, so the predicate holds for every file that comes from text. `convertFile_no_panic` is then
lifted through `SourceSummary`, `loadPackage` (any fuel, any chain) and the link step.
-/
namespace J5V.Compile
open J5V.Go

def WfElem : Elem → Bool
  | .object o => WfDecl false o
  | .oneof o => WfDecl true o
  | .enum _ => true
  | .service s => WfService s
  | .topic _ => true
  | .entity e => e.events.all (WfDecl false) && e.commands.all WfService && WfNested e.nested

def WfElems (elems : List Elem) : Bool := elems.all WfElem

theorem runSteps_no_panic (steps : List Step) (h : StepsOk steps) (r : Root) :
    (runSteps steps r).isPanic = false := by
  induction steps generalizing r with
  | nil => rfl
  | cons s rest ih =>
    have hs := h s (by simp)
    simp only [runSteps, hs, Bool.false_eq_true, if_false]
    split
    · rfl
    · exact ih (fun t ht => h t (List.mem_cons_of_mem _ ht)) _

theorem nestedItems_wf (ns : List Nested) (h : WfNested ns = true) :
    (ns.map Entity.nestedItem).all WfItem = true := by
  induction ns with
  | nil => rfl
  | cons n rest ih =>
    cases n with
    | object o =>
      simp only [WfNested, Bool.and_eq_true] at h
      simp [Entity.nestedItem, WfItem, h.1, ih h.2]
    | oneof o =>
      simp only [WfNested, Bool.and_eq_true] at h
      simp [Entity.nestedItem, WfItem, h.1, ih h.2]
    | enum en =>
      simp only [WfNested] at h
      simp [Entity.nestedItem, WfItem, ih h]

theorem wfNested_events (evs : List ObjDecl) (h : evs.all (WfDecl false) = true) :
    WfNested (evs.map Nested.object) = true := by
  induction evs with
  | nil => rfl
  | cons o os ih =>
    simp only [List.all_cons, Bool.and_eq_true] at h
    simp [WfNested, h.1, ih h.2]

/-- the entity expansion only produces well-formed items (its oneof is always named) -/
theorem expand_wf (pkg : Str) (e : Entity)
    (h : (e.events.all (WfDecl false) && e.commands.all WfService && WfNested e.nested) = true) :
    ∀ i ∈ Entity.expand pkg e, WfItem i = true := by
  simp only [Bool.and_eq_true] at h
  obtain ⟨⟨hev, hcmd⟩, hne⟩ := h
  have hETne : Entity.eventTypeName e ≠ [] := by
    simp only [Entity.eventTypeName, Entity.componentName]
    exact List.append_ne_nil_of_right_ne_nil _ (by decide)
  have hcmds : (e.commands.map (Entity.commandService pkg e)).all WfService = true := by
    simp only [List.all_map]
    apply List.all_eq_true.mpr
    intro s hs
    have := (List.all_eq_true.mp hcmd) s hs
    simpa [Function.comp, Entity.commandService, WfService] using this
  have hall : (Entity.expand pkg e).all WfItem = true := by
    simp only [Entity.expand, List.all_append, List.all_cons, List.all_nil, Bool.and_true,
      Bool.and_eq_true]
    refine ⟨⟨⟨⟨⟨?_, ?_, ?_⟩, ?_⟩, ?_, ?_, ?_, ?_, ?_⟩, ?_⟩, nestedItems_wf e.nested hne⟩
    · simp [WfItem, Entity.keysObject, WfDecl, WfNested]
    · simp [WfItem, Entity.dataObject, WfDecl, WfNested]
    · rfl
    · split <;> simp [WfItem, Entity.stateObject, WfDecl, WfNested]
    · simp only [WfItem, Entity.eventOneof, WfDecl, wfNested_events e.events hev, Bool.and_true]
      simpa using hETne
    · simp [WfItem, Entity.eventObject, WfDecl, WfNested]
    · simp [WfItem, Entity.queryService, WfService, Entity.getMethod, Entity.listMethod,
        Entity.eventsMethod]
    · exact hcmds
    · rfl
    · split <;> simp [WfItem]
  exact fun i hi => (List.all_eq_true.mp hall) i hi

theorem itemsOfElem_wf (pkg : Str) (el : Elem) (h : WfElem el = true) :
    ∀ i ∈ itemsOfElem pkg el, WfItem i = true := by
  cases el with
  | object o => intro i hi; simp only [itemsOfElem, List.mem_singleton] at hi; subst hi; exact h
  | oneof o => intro i hi; simp only [itemsOfElem, List.mem_singleton] at hi; subst hi; exact h
  | enum e => intro i hi; simp only [itemsOfElem, List.mem_singleton] at hi; subst hi; rfl
  | service s =>
    intro i hi; simp only [itemsOfElem, List.mem_singleton] at hi; subst hi
    simpa [WfItem, WfElem] using h
  | topic t => intro i hi; simp only [itemsOfElem, List.mem_singleton] at hi; subst hi; rfl
  | entity e => exact expand_wf pkg e h

theorem j5Imports_no_panic (pkg : Str) (imports : List Import) :
    (j5Imports pkg imports).isPanic = false := by
  unfold j5Imports
  split
  · rfl
  · split <;> rfl

/-- **`ConvertJ5File` never panics** on a well-formed file, for any well-formed resolver -/
theorem convertFile_no_panic (res : Resolver) (path : Str) (imports : List Import)
    (elems : List Elem)
    (hres : ∀ im, WfCtx { resolve := resolveTypeNoImport im res })
    (h : WfElems elems = true) :
    (convertFile res path imports elems).isPanic = false := by
  rw [convertFile_eq]
  refine noPanic_iff.mp (bind_noPanic (noPanic_iff.mpr (j5Imports_no_panic _ _)) fun im _ =>
    bind_noPanic (noPanic_iff.mpr (runSteps_no_panic _ (fun s hs => ?_) _)) fun r _ => noPanic_iff.mpr ?_)
  · obtain ⟨i, hi, hsi⟩ := List.mem_flatMap.mp hs
    obtain ⟨el, hel, hiel⟩ := List.mem_flatMap.mp hi
    exact convItem_ok _ (hres im) i (itemsOfElem_wf _ el ((List.all_eq_true.mp h) el hel) i hiel) s hsi
  · split <;> rfl

/-- every `TypeRef` in an export table names a file `ensureImport` accepts -/
def GoodExports (ex : List (Str × TypeRef)) : Prop := ∀ kt ∈ ex, badImport kt.2.file = false

theorem wfCtx_of_exports (im : ImportMap) (r : Resolver) (hown : GoodExports r.exports)
    (hdeps : ∀ pe ∈ r.deps, GoodExports pe.2) :
    WfCtx { resolve := resolveTypeNoImport im r } := by
  intro pkg s t h
  rcases resolveTypeNoImport_some h with ⟨pk, sc, hi⟩ | ⟨k, hk⟩ | ⟨de, hde, k, hk⟩
  · exact implicitRef_wf pk sc t hi
  · exact hown _ hk
  · exact hdeps de hde _ hk

/-- a source file whose path has a directory part and whose elements are well formed -/
def WfFile : SrcFile → Bool
  | .j5s path _ elems _ => containsByte 47 path && WfElems elems
  | .proto path _ _ => containsByte 47 path

def WfBundle (b : Bundle) : Prop := ∀ p ∈ b.pkgs, ∀ f ∈ p.files, WfFile f = true

theorem badImport_append (path suf : Str) (h : containsByte 47 path = true) :
    badImport (path ++ suf) = false := by
  unfold badImport containsByte at *
  have hne : path ≠ [] := by intro hp; subst hp; simp at h
  have hm : (47 : Nat) ∈ path := by simpa using h
  have : (path ++ suf).contains 47 = true := by
    simp only [List.contains_eq_mem, List.mem_append, decide_eq_true_eq]
    exact Or.inl hm
  simp only [this, Bool.not_true, Bool.or_false, decide_eq_false_iff_not]
  simp [hne]

theorem badImport_of_contains (path : Str) (h : containsByte 47 path = true) :
    badImport path = false := by
  have := badImport_append path [] h
  simpa using this

/-- the summary walk dereferences `method.Request` only; well-formed items have one -/
theorem itemWalk_no_panic (i : Item) (hi : WfItem i = true) : (itemWalk i).isPanic = false := by
  cases i with
  | serviceFile ss =>
    rw [itemWalk]
    split
    · rename_i hany
      obtain ⟨s, hs, m, hm, hreq⟩ := by simpa only [List.any_eq_true] using hany
      have := (List.all_eq_true.mp ((List.all_eq_true.mp hi) s hs)) m hm
      simp_all
    · split <;> rfl
  | topicFile ts => rw [itemWalk]; split <;> rfl
  | _ => rfl

theorem walkItems_no_panic (items : List Item) (h : ∀ i ∈ items, WfItem i = true) :
    (walkItems items).isPanic = false := by
  induction items with
  | nil => rfl
  | cons i rest ih =>
    have hi := itemWalk_no_panic i (h i (List.mem_cons_self ..))
    rw [walkItems]
    cases hw : itemWalk i with
    | ok u => exact ih fun j hj => h j (List.mem_cons_of_mem _ hj)
    | err t => rfl
    | panic w => rw [hw] at hi; cases hi

theorem fileSummary_good (f : SrcFile) (h : WfFile f = true) :
    (fileSummary f).isPanic = false ∧ ∀ s, fileSummary f = .ok s → GoodExports s.exports := by
  cases f with
  | proto path msgs enums =>
    simp only [WfFile] at h
    refine ⟨rfl, ?_⟩
    intro s hs
    simp only [fileSummary, Outcome.ok.injEq] at hs
    subst hs
    intro kt hkt
    simp only [List.mem_append, List.mem_map] at hkt
    rcases hkt with ⟨n, _, rfl⟩ | ⟨⟨n, vals⟩, _, rfl⟩ <;> exact badImport_of_contains _ h
  | j5s path imports elems decl =>
    simp only [WfFile, Bool.and_eq_true] at h
    by_cases hd : decl ≠ packageFromFilename path
    · rw [fileSummary, if_pos hd]
      exact ⟨rfl, fun s hs => by cases hs⟩
    rw [fileSummary, if_neg hd]
    have hitems : ∀ i ∈ elems.flatMap (itemsOfElem (packageFromFilename (path ++ b!".proto"))),
        WfItem i = true := by
      intro i hi
      obtain ⟨el, hel, hiel⟩ := List.mem_flatMap.mp hi
      exact itemsOfElem_wf _ el ((List.all_eq_true.mp h.2) el hel) i hiel
    rw [sourceSummary_eq]
    refine ⟨noPanic_iff.mp (bind_noPanic (noPanic_iff.mpr (walkItems_no_panic _ hitems)) fun _ _ =>
      bind_noPanic (noPanic_iff.mpr (j5Imports_no_panic _ _)) fun im _ => noPanic_iff.mpr ?_), fun s hs => ?_⟩
    · split <;> rfl
    · obtain ⟨_, _, hs⟩ := bind_eq_ok hs
      obtain ⟨im, _, hs⟩ := bind_eq_ok hs
      split at hs
      · cases hs
      · cases hs
        intro kt hkt
        obtain ⟨⟨n, k⟩, _, rfl⟩ := List.mem_map.mp hkt
        exact badImport_append _ _ h.1

theorem summaries_good (files : List SrcFile) (h : ∀ f ∈ files, WfFile f = true) :
    (summaries files).isPanic = false ∧
      ∀ sums, summaries files = .ok sums → GoodExports (sums.flatMap (·.exports)) := by
  rw [summaries_eq_seq]
  refine ⟨Outcome.seq_isPanic _ _ fun f hf => (fileSummary_good f (h f hf)).1, fun sums hs => ?_⟩
  obtain ⟨rfl, hok⟩ := Outcome.seq_ok _ _ sums hs
  intro kt hkt
  obtain ⟨s, hs, hk⟩ := List.mem_flatMap.mp hkt
  obtain ⟨f, hf, rfl⟩ := List.mem_map.mp hs
  exact (fileSummary_good f (h f hf)).2 _ (hok f hf) kt hk

theorem convertAll_no_panic (res : Resolver)
    (hres : ∀ im, WfCtx { resolve := resolveTypeNoImport im res })
    (files : List SrcFile) (h : ∀ f ∈ files, WfFile f = true) :
    (convertAll res files).isPanic = false := by
  rw [convertAll_eq_seq, Outcome.map_isPanic]
  refine Outcome.seq_isPanic _ _ fun f hf => ?_
  cases f with
  | proto path msgs enums => rfl
  | j5s path imports elems decl =>
    have := h _ hf
    rw [WfFile, Bool.and_eq_true] at this
    exact convertFile_no_panic res path imports elems hres this.2

theorem loadPkg_exports_good (b : Bundle) (hb : WfBundle b) (fuel : Nat) (chain : List Str)
    (name : Str) (l : Loaded) (h : loadPkg b fuel chain name = .ok l) : GoodExports l.exports := by
  obtain rfl | ⟨_, pkg, _, hfind, h⟩ := loadPkg_ok_cases h
  · exact fun _ hkt => nomatch hkt
  · obtain ⟨hs, _, _, rfl⟩ := loadLocal_eq_ok_iff.mp h
    exact (summaries_good pkg.files (hb pkg (List.mem_of_find?_eq_some hfind))).2 _
      (summaries_of_all_ok _ hs)

theorem loadPkg_no_panic (b : Bundle) (hb : WfBundle b) :
    ∀ (fuel : Nat) (chain : List Str) (name : Str), (loadPkg b fuel chain name).isPanic = false := by
  intro fuel
  induction fuel with
  | zero => intro chain name; rfl
  | succ fuel ih =>
    intro chain name
    rw [loadPkg_succ]
    split
    · rfl
    · cases hfind : b.find name with
      | none => simp only [loadExternal]; split <;> rfl
      | some pkg =>
        have hfiles : ∀ f ∈ pkg.files, WfFile f = true := hb pkg (List.mem_of_find?_eq_some hfind)
        obtain ⟨hsp, hsg⟩ := summaries_good pkg.files hfiles
        refine loadLocal_isPanic hsp (fun _ _ d _ => ih _ d) fun sums ls hs hld => ?_
        refine convertAll_no_panic _ (fun im => wfCtx_of_exports im _ (hsg sums hs) fun pe hpe => ?_) _ hfiles
        obtain ⟨l, hl, rfl⟩ := List.mem_map.mp hpe
        obtain ⟨rfl, hok⟩ := Outcome.seq_ok _ _ ls (seqLoad_eq_seq _ _ ▸ hld)
        obtain ⟨d, hd, rfl⟩ := List.mem_map.mp hl
        exact loadPkg_exports_good b hb _ _ d _ (hok d hd)


theorem linkFiles_no_panic (others : List LFile) (files : List FileSkel) :
    (linkFiles others files).isPanic = false := by
  unfold linkFiles
  simp only []
  split
  · rfl
  · split
    · rfl
    · split <;> rfl

/-- **`CompilePackage` never panics** on a well-formed bundle, for any package name -/
theorem compileLinked_no_panic (b : Bundle) (hb : WfBundle b) (name : Str) :
    (compileLinked b name).isPanic = false := by
  unfold compileLinked
  have hp := loadPkg_no_panic b hb (b.pkgs.length + 1) [] name
  cases hl : loadPkg b (b.pkgs.length + 1) [] name with
  | panic w => rw [hl] at hp; cases hp
  | err t => rfl
  | ok l => exact linkFiles_no_panic _ _

end J5V.Compile
