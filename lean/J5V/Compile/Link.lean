import J5V.Compile.Package
/-!
# Link — a model-level link step, `linkFile` / `linkFiles` (core only; spec + differential)

protocompile's linker is not part of /repo and is not mirrored line by line. This file states what
"the emitted descriptors link" means for the descriptors j5convert produces, following
`bufbuild/protocompile@v0.14.1/linker/resolve.go` for name resolution:

* every import of a file exists (a file of a local package, or a built-in of the Go registry);
* every type name resolves, by protobuf scoping (absolute names directly; relative names from
  the innermost enclosing message outwards, then through the package prefixes of the file), to a
  symbol of the right kind that is visible (own file or a direct import);
* every extension set on an option message is defined in a visible file
  (`markExtensionImportsUsed` of `protobuild/linker.go`);
* no symbol is declared twice among the files linked by one `CompilePackage` call;
* files do not import each other in a cycle (`CircularDependencyError` of `searchLinker`).

`linkFiles` also produces the *resolved* skeleton (fully-qualified type names), which is what the
Go side prints.
-/
namespace J5V.Compile
open J5V.Go

inductive SymKind where
  | msg | enum | svc | other
  deriving Repr, DecidableEq, Inhabited

/-- a file as the linker sees it -/
structure LFile where
  name : Str
  pkg : Str
  deps : List Str
  syms : List (Str × SymKind)      -- fully-qualified names without leading dot

def qual (pfx name : Str) : Str := if pfx = [] then name else pfx ++ b!"." ++ name

def enumSyms (pfx : Str) (e : EnumSkel) : List (Str × SymKind) :=
  (qual pfx e.name, .enum) :: e.values.map fun (v, _) => (qual pfx v, SymKind.other)

mutual
def msgSyms (pfx : Str) : MsgSkel → List (Str × SymKind)
  | .mk name kind _ fields msgs enums =>
    let full := qual pfx name
    (full, .msg) ::
      fields.map (fun f => (qual full f.name, SymKind.other)) ++
      (if kind = .oneof then [(qual full b!"type", SymKind.other)] else []) ++
      (fields.filter (·.p3opt)).map (fun f => (qual full (b!"_" ++ f.name), SymKind.other)) ++
      msgsSyms full msgs ++ enums.flatMap (enumSyms full)
def msgsSyms (pfx : Str) : List MsgSkel → List (Str × SymKind)
  | [] => []
  | m :: rest => msgSyms pfx m ++ msgsSyms pfx rest
end

def svcSyms (pfx : Str) (s : SvcSkel) : List (Str × SymKind) :=
  (qual pfx s.name, .svc) :: s.methods.map fun m => (qual (qual pfx s.name) m.name, SymKind.other)

def FileSkel.lfile (f : FileSkel) : LFile :=
  { name := f.name, pkg := f.pkg, deps := f.deps,
    syms := msgsSyms f.pkg f.msgs ++ f.enums.flatMap (enumSyms f.pkg) ++ f.svcs.flatMap (svcSyms f.pkg) }

/-- built-in files j5convert can import, with the symbols it can name -/
def builtinFiles : List LFile :=
  let f (name pkg : Str) (msgs : List Str) : LFile :=
    { name := name, pkg := pkg, deps := [], syms := msgs.map fun m => (qual pkg m, SymKind.msg) }
  [ f bufValidateImport b!"buf.validate" [],
    f j5ExtImport b!"j5.ext.v1" [],
    f j5DateImport b!"j5.types.date.v1" [b!"Date"],
    f j5DecimalImport b!"j5.types.decimal.v1" [b!"Decimal"],
    f j5ListAnnotationsImport b!"j5.list.v1" [],
    f pbTimestampImport b!"google.protobuf" [b!"Timestamp"],
    f j5AnyImport b!"j5.types.any.v1" [b!"Any"],
    f googleApiHttpBodyImport b!"google.api" [b!"HttpBody"],
    f googleApiAnnotationsImport b!"google.api" [],
    f googleProtoEmptyImport b!"google.protobuf" [b!"Empty"],
    f messagingAnnotationsImport b!"j5.messaging.v1" [],
    f b!"j5/state/v1/metadata.proto" b!"j5.state.v1"
      [b!"StateMetadata", b!"EventMetadata", b!"EventPublishMetadata"],
    f b!"j5/list/v1/page.proto" b!"j5.list.v1" [b!"PageRequest", b!"PageResponse"],
    f b!"j5/list/v1/query.proto" b!"j5.list.v1" [b!"QueryRequest"],
    f b!"j5/messaging/v1/upsert.proto" b!"j5.messaging.v1" [b!"UpsertMetadata"],
    f b!"j5/messaging/v1/reqres.proto" b!"j5.messaging.v1" [b!"RequestMetadata"] ]

/-- `matchesPkgNamespace` -/
def matchesPkgNamespace (fqn pkg : Str) : Bool :=
  pkg ≠ [] && (fqn = pkg ||
    (pkg.length > fqn.length && hasPrefix fqn pkg && pkg.getD fqn.length 0 = 46))

/-- what a symbol query returns -/
inductive Found where
  | sym (full : Str) (k : SymKind)
  | ns                   -- sentinel: a package namespace
  | missing              -- sentinel: qualified name whose first part matched but the rest did not
  deriving Repr, DecidableEq

def Found.isAggregate : Found → Bool
  | .sym _ k => k = .msg || k = .enum || k = .svc
  | .ns => true
  | .missing => true

def Found.isType : Found → Bool
  | .sym _ k => k = .msg || k = .enum
  | _ => false

/-- `resolveElementInFile` -/
def LFile.find (f : LFile) (n : Str) : Option Found :=
  match f.syms.lookup n with
  | some k => some (.sym n k)
  | none => if matchesPkgNamespace n f.pkg then some .ns else none

/-- `result.resolveElement`: this file first, then its direct imports -/
def findVisible (vis : List LFile) (n : Str) : Option Found := vis.findSome? (·.find n)

/-- `resolveElementRelative` -/
def resolveRelative (query : Str → Option Found) (n1 n : Str) : Option Found :=
  match query n1 with
  | none => none
  | some d =>
    if n1 = n then some d
    else if !d.isAggregate then none
    else match query n with
      | none => some .missing
      | some d' => some d'

/-- package prefixes, longest first, then the empty prefix (`CreatePrefixList`) -/
def prefixList (pkg : Str) : List Str :=
  if pkg = [] then [[]] else
  let parts := splitOnByte 46 pkg
  ((List.range parts.length).map fun i => joinWith b!"." (parts.take (parts.length - i))) ++ [[]]

def firstPart (name : Str) : Str := (splitOnByte 46 name).headD []

/-- `result.resolve` for a type reference (`onlyTypes = true`): `scopes` are the full names of
the enclosing messages, outermost first -/
def resolveName (self : LFile) (vis : List LFile) (scopes : List Str) (name : Str) : Option Found :=
  match name with
  | 46 :: abs => findVisible vis abs
  | _ =>
    let first := firstPart name
    let accept (d : Found) : Bool := d.isType || first ≠ name
    let msgScope (m : Str) : Option Found := resolveRelative self.find (qual m first) (qual m name)
    let fileScope : Option Found :=
      (prefixList self.pkg).findSome? fun p => resolveRelative (findVisible vis) (qual p first) (qual p name)
    (scopes.reverse.map msgScope ++ [fileScope]).findSome? fun r =>
      match r with
      | some d => if accept d then some d else none
      | none => none

/-- resolve a type name to a fully-qualified one of the wanted kind -/
def resolveType (self : LFile) (vis : List LFile) (scopes : List Str) (want : SymKind) (name : Str) :
    Option Str :=
  match resolveName self vis scopes name with
  | some (.sym full k) => if k = want then some (b!"." ++ full) else none
  | _ => none

def resolveField (self : LFile) (vis : List LFile) (scopes : List Str) (f : FieldSkel) :
    Option FieldSkel :=
  match f.type with
  | .message => (resolveType self vis scopes .msg f.typeName).map fun t => { f with typeName := t }
  | .enum => (resolveType self vis scopes .enum f.typeName).map fun t => { f with typeName := t }
  | _ => some f

mutual
def resolveMsg (self : LFile) (vis : List LFile) (scopes : List Str) (pfx : Str) :
    MsgSkel → Option MsgSkel
  | .mk name kind psm fields msgs enums =>
    let full := qual pfx name
    match fields.mapM (resolveField self vis (scopes ++ [full])), resolveMsgs self vis (scopes ++ [full]) full msgs with
    | some fs, some ms => some (.mk name kind psm fs ms enums)
    | _, _ => none
def resolveMsgs (self : LFile) (vis : List LFile) (scopes : List Str) (pfx : Str) :
    List MsgSkel → Option (List MsgSkel)
  | [] => some []
  | m :: rest =>
    match resolveMsg self vis scopes pfx m, resolveMsgs self vis scopes pfx rest with
    | some m', some rest' => some (m' :: rest')
    | _, _ => none
end

def resolveSvc (self : LFile) (vis : List LFile) (s : SvcSkel) : Option SvcSkel :=
  (s.methods.mapM fun (m : MethodSkel) =>
    match resolveType self vis [] .msg m.input, resolveType self vis [] .msg m.output with
    | some i, some o => some { m with input := i, output := o }
    | _, _ => none).map fun ms => { s with methods := ms }

def hasDup : List Str → Bool
  | [] => false
  | a :: rest => rest.contains a || hasDup rest

/-- link one file against the univ of files; `none` = the link step reports an error -/
def linkFile (univ : List LFile) (f : FileSkel) : Option FileSkel :=
  let self := f.lfile
  match f.deps.mapM fun d => univ.find? (·.name = d) with
  | none => none                                   -- import not found
  | some deps =>
    let vis := self :: deps
    if hasDup (self.syms.map (·.1)) then none
    else if !(f.uses.all fun u => u = f.name || f.deps.contains u) then none
    else
      match resolveMsgs self vis [] f.pkg f.msgs, f.svcs.mapM (resolveSvc self vis) with
      | some ms, some ss => some { f with msgs := ms, svcs := ss }
      | _, _ => none

/-- is `name` on an import cycle of the univ (bounded depth-first search; `linkFiles` gives the fuel
`univ.length`: a cycle without repetition visits at most that many files — by reading, no lemma) -/
def reachesSelf (univ : List LFile) (start : Str) : Nat → Str → Bool
  | 0, _ => false
  | fuel + 1, cur =>
    match univ.find? (·.name = cur) with
    | none => false
    | some f => f.deps.any fun d => d = start || reachesSelf univ start fuel d

/-- names of the files reached through imports from the work list (depth-first, bounded: every
pop costs one unit of fuel); `seen` accumulates in visit order -/
def reachNames (univ : List LFile) : Nat → List Str → List Str → List Str
  | 0, _, seen => seen
  | _ + 1, [], seen => seen
  | fuel + 1, n :: rest, seen =>
    if seen.contains n then reachNames univ fuel rest seen
    else
      match univ.find? (·.name = n) with
      | none => reachNames univ fuel rest (seen ++ [n])
      | some f => reachNames univ fuel (f.deps ++ rest) (seen ++ [n])

/-- every file the link of `files` pulls in (`searchLinker.resolveFile` walks the imports and
links each file into ONE `linker.Symbols`): the files themselves, then the imported files that
are not among them -/
def linkedSet (univ : List LFile) (files : List FileSkel) : List LFile :=
  -- a name is expanded once (`seen`), so at most the start names and every dependency edge of the
  -- univ are popped (by reading; no lemma states it)
  let fuel := (files.flatMap (·.deps)).length + (univ.flatMap (·.deps)).length + 1
  let reach := reachNames univ fuel (files.flatMap (·.deps)) []
  files.map (·.lfile) ++
    reach.filterMap fun n => if files.any (·.name = n) then none else univ.find? (·.name = n)

/-- the link step of `CompilePackage` for the files of one package.
`others` = files of the other local packages reachable from it (already converted): they are
symbol tables here (their own type names are not re-resolved), but their symbols take part in the
duplicate check like those of every linked file. -/
def linkFiles (others : List LFile) (files : List FileSkel) : Outcome (List FileSkel) :=
  let univ := files.map (·.lfile) ++ others ++ builtinFiles
  if files.any (fun f => reachesSelf univ f.name univ.length f.name) then .err "import-cycle"
  else if hasDup ((linkedSet univ files).flatMap fun f => f.syms.map (·.1)) then .err "duplicate-symbol"
  else match files.mapM (linkFile univ) with
    | none => .err "link"
    | some fs => .ok fs

def protoLFile (p : Str × Str × List Str × List (Str × List Str)) : LFile :=
  let (path, pkg, msgs, enums) := p
  { name := path, pkg := pkg, deps := [],
    syms := msgs.map (fun m => (qual pkg m, SymKind.msg)) ++
      enums.flatMap fun (n, vals) => (qual pkg n, SymKind.enum) :: vals.map fun v => (qual pkg v, SymKind.other) }

/-- `CompilePackage`: load, sort the file names, link -/
def compileLinked (b : Bundle) (name : Str) : Outcome (List FileSkel) :=
  match loadPkg b (b.pkgs.length + 1) [] name with
  | .err t => .err t
  | .panic w => .panic w
  | .ok l => linkFiles (l.depFiles.map (·.lfile) ++ l.protos.map protoLFile) (sortFiles l.files)

end J5V.Compile
