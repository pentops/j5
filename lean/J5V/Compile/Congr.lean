import J5V.Compile.CtxRel
/-!
# Conversion depends on the context only at the references it contains (C13, C14) — core only

`AgreeOn c c' refs`: the two contexts resolve every reference of `refs` alike. Equal resolution is
preserved by every read of the context (`AgreeOn.ctxRel`), so the conversion of a field, a property
list, a declaration, an item, a file whose references agree is the same in both contexts — the tower
of Compile/CtxRel.lean with nothing asked of the old conversion.
-/
namespace J5V.Compile
open J5V.Go

/-- the two contexts agree on a list of references -/
def AgreeOn (c c' : Ctx) (refs : List (Str × Str)) : Prop :=
  ∀ r ∈ refs, c.resolve r.1 r.2 = c'.resolve r.1 r.2

theorem AgreeOn.ctxRel (c c' : Ctx) : CtxRel c' c (fun r => c.resolve r.1 r.2 = c'.resolve r.1 r.2) False where
  refMsg pkg sc h := by unfold refField; simp only [] at h; rw [h]
  refEnum np d pkg sc rules lr h _ := by
    rw [bField, bField]; unfold refField; simp only [] at h; rw [h]
  resolveId pkg sc h := by simp only [] at h; rw [h]

theorem bField_congr (c c' : Ctx) (np : List Str) (d : Str) :
    ∀ f : Field, AgreeOn c c' (refsField f) → bField c np d f = bField c' np d f :=
  fun f h => (AgreeOn.ctxRel c c').bField np d f h fun k => k.elim

theorem bProperty_congr (c c' : Ctx) (np : List Str) (io : Bool) (n : Nat) :
    ∀ p : Property, AgreeOn c c' (refsProperty p) → bProperty c np io n p = bProperty c' np io n p :=
  fun p h => (AgreeOn.ctxRel c c').bProperty np io n p h fun k => k.elim

theorem bProps_congr (c c' : Ctx) (np : List Str) (io : Bool) (n : Nat) :
    ∀ ps : List Property, AgreeOn c c' (refsProps ps) → bProps c np io n ps = bProps c' np io n ps :=
  fun ps h => (AgreeOn.ctxRel c c').bProps np io n ps h fun k => k.elim

theorem convNested_congr (c c' : Ctx) (np : List Str) :
    ∀ ns : List Nested, AgreeOn c c' (refsNested ns) → convNested c np ns = convNested c' np ns :=
  fun ns h => (AgreeOn.ctxRel c c').convNested np ns h fun k => k.elim

/-- **`ConvertJ5File` depends on the resolver only at the references of the file**, looked up
through the file's own import map -/
theorem convertFile_congr' (res res' : Resolver) (path : Str) (imports : List Import)
    (elems : List Elem)
    (h : ∀ im, j5Imports (packageFromFilename (path ++ b!".proto")) imports = .ok im →
      AgreeOn { resolve := resolveTypeNoImport im res } { resolve := resolveTypeNoImport im res' }
        (fileRefs (packageFromFilename (path ++ b!".proto")) elems)) :
    convertFile res path imports elems = convertFile res' path imports elems :=
  convertFile_congr_steps res res' path imports elems fun im hj =>
    (AgreeOn.ctxRel _ _).fileSteps _ elems (h im hj) fun k => k.elim

theorem convertFile_congr (res res' : Resolver) (path : Str) (imports : List Import)
    (elems : List Elem)
    (h : ∀ im, AgreeOn { resolve := resolveTypeNoImport im res } { resolve := resolveTypeNoImport im res' }
      (fileRefs (packageFromFilename (path ++ b!".proto")) elems)) :
    convertFile res path imports elems = convertFile res' path imports elems :=
  convertFile_congr' res res' path imports elems (fun im _ => h im)

end J5V.Compile
