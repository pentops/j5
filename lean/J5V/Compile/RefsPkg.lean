import J5V.Compile.ExactProofs
/-!
# Every reference of an accepted file resolves, and its declaring file is imported (core only)

If a property list converts without recording an error, every type reference in it (at any
depth: inline objects / oneofs, array and map items) is resolved by the conversion context and the
file that declares the referenced type is handed to `ensureImport`. Lifted through declarations,
services, topics and entities to the files `ConvertJ5File` returns: the declaring file is among
the dependencies of the generated file that holds the reference (or is that file).
-/
namespace J5V.Compile
open J5V.Go

/-- the reference resolves and the declaring file is among `imps` -/
def RefOk (c : Ctx) (imps : List Str) (r : Str × Str) : Prop :=
  ∃ t, c.resolve r.1 r.2 = some t ∧ t.file ∈ imps

theorem RefOk.mono {c : Ctx} {a b : List Str} {r : Str × Str} (h : RefOk c a r)
    (hab : ∀ x ∈ a, x ∈ b) : RefOk c b r := by
  obtain ⟨t, h1, h2⟩ := h
  exact ⟨t, h1, hab _ h2⟩

theorem refField_ok (c : Ctx) (pkg schema : Str) (we : Bool) (t : TypeRef)
    (h : (refField c pkg schema we).2 = some t) :
    c.resolve pkg schema = some t ∧ t.file ∈ (refField c pkg schema we).1.imports := by
  unfold refField at h ⊢
  cases hr : c.resolve pkg schema with
  | none => simp [hr] at h
  | some t' =>
    simp only [hr] at h ⊢
    split at h
    · simp only [Option.some.injEq] at h
      subst h
      rename_i hk
      simp [hk, Eff.imp]
    · cases h

theorem msgRefField_ok (c : Ctx) (pkg schema ext : Str) (rules : Rules) (lr : Bool)
    (h : (msgRefField c pkg schema ext rules lr).res.isSome = true) :
    RefOk c (msgRefField c pkg schema ext rules lr).eff.imports (pkg, schema) := by
  unfold msgRefField at h ⊢
  cases hr : refField c pkg schema false with
  | mk e o =>
    cases o with
    | none => simp [hr] at h
    | some t =>
      have := refField_ok c pkg schema false t (by rw [hr])
      rw [hr] at this
      simp only []
      exact ⟨t, this.1, by simp [this.2]⟩

theorem enumFieldWith_imports (pre walk : Eff) (tn pfx : Str) (names : List Str) (rules : Rules)
    (lr : Option (List Str)) : ∀ x ∈ pre.imports,
      x ∈ (enumFieldWith pre walk tn pfx names rules lr).eff.imports := by
  intro x hx
  unfold enumFieldWith
  split
  · simp [hx]
  · split <;> simp [hx]

/-- **every reference of a field / property list that converted without error resolves**, and the
file declaring the type is imported by the same effect -/
theorem bField_bProps_refs (c : Ctx) :
    (∀ f np d, (bField c np d f).res.isSome = true → (bField c np d f).eff.errs = 0 →
      ∀ r ∈ refsField f, RefOk c (bField c np d f).eff.imports r) ∧
    ∀ ps np io n, (bProps c np io n ps).eff.errs = 0 →
      ∀ r ∈ refsProps ps, RefOk c (bProps c np io n ps).eff.imports r := by
  apply field_induct
  case scalar => intro f b hs np d _ _ r hr; rw [refsField_scalar hs] at hr; cases hr
  case objectRef =>
    intro pkg s fl rules np d hs _ r hr
    rw [List.mem_singleton.mp hr]
    rw [bField] at hs ⊢
    exact msgRefField_ok c pkg s _ rules false hs
  case oneofRef =>
    intro pkg s rules lr np d hs _ r hr
    rw [List.mem_singleton.mp hr]
    rw [bField] at hs ⊢
    exact msgRefField_ok c pkg s _ rules lr hs
  case enumRef =>
    intro pkg s rules lr np d hs _ r hr
    rw [List.mem_singleton.mp hr]
    rw [bField] at hs ⊢
    cases hrf : refField c pkg s true with
    | mk e o =>
      rw [hrf] at hs
      cases o with
      | none => cases hs
      | some t =>
        have hok := refField_ok c pkg s true t (by rw [hrf])
        rw [hrf] at hok
        dsimp only at hs ⊢
        split at hs
        · exact ⟨t, hok.1, enumFieldWith_imports _ _ _ _ _ _ _ _ hok.2⟩
        · cases hs
  case objectInl =>
    intro name props fl rules ih np d _ he r hr
    rw [bField] at he ⊢
    exact (ih (np ++ [if name = [] then d else name]) false 1
      (by simp [msgInlField] at he; omega) r hr).mono
      (by intro x hx; simp [msgInlField, hx])
  case oneofInl =>
    intro name props rules lr ih np d _ he r hr
    rw [bField] at he ⊢
    exact (ih (np ++ [if name = [] then d else name]) true 1
      (by simp [msgInlField] at he; omega) r hr).mono
      (by intro x hx; simp [msgInlField, hx])
  case enumInl => intro e rules lr np d _ _ r hr; cases hr
  case array => intro items rules _ np d hs; rw [bField] at hs; cases hs
  case map => intro items rules _ np d hs; rw [bField] at hs; cases hs
  case nil => intro np io n _ r hr; cases hr
  case cons =>
    intro name req opt f ps ihf ihps np io n h r hr
    have he := bProps_cons_errs_zero h
    rw [bProps_cons]
    obtain ⟨h1, h2, h3⟩ := bProperty_ok c np io n name req opt f he.1
    rcases List.mem_append.mp hr with hr | hr
    · rw [refsProperty_built] at hr
      exact (ihf np _ h1 h2 r hr).mono (by intro x hx; cases io <;> simp [h3 x hx])
    · exact (ihps np io (n + 1) he.2 r hr).mono (by intro x hx; cases io <;> simp [hx])

theorem bField_refs (c : Ctx) (np : List Str) (d : Str) :
    ∀ f : Field, (bField c np d f).res.isSome = true → (bField c np d f).eff.errs = 0 →
      ∀ r ∈ refsField f, RefOk c (bField c np d f).eff.imports r :=
  fun f => (bField_bProps_refs c).1 f np d

theorem bProps_refs (c : Ctx) (np : List Str) (io : Bool) (n : Nat) :
    ∀ ps : List Property, (bProps c np io n ps).eff.errs = 0 →
      ∀ r ∈ refsProps ps, RefOk c (bProps c np io n ps).eff.imports r :=
  fun ps => (bField_bProps_refs c).2 ps np io n

theorem bProperty_refs (c : Ctx) (np : List Str) (io : Bool) (n : Nat) :
    ∀ p : Property, (bProperty c np io n p).eff.errs = 0 →
      ∀ r ∈ refsProperty p, RefOk c (bProperty c np io n p).eff.imports r
  | .mk name req opt schema, h => by
    obtain ⟨h1, h2, h3⟩ := bProperty_ok c np io n name req opt schema h
    intro r hr
    rw [refsProperty_built] at hr
    exact (bField_refs c np _ _ h1 h2 r hr).mono h3

/-! ## declarations -/

theorem convDecl_convNested_refs (c : Ctx) :
    (∀ io o np virt, (convDecl c np io virt o).errs = 0 →
      ∀ r ∈ refsProps virt ++ refsDecl o, RefOk c (convDecl c np io virt o).imports r) ∧
    ∀ ns np, (convNested c np ns).errs = 0 →
      ∀ r ∈ refsNested ns, RefOk c (convNested c np ns).imports r := by
  apply decl_induct
  case mk =>
    intro io name props nested psm ih np virt h
    rw [convDecl_eq] at h ⊢
    dsimp only at h ⊢
    intro r hr
    rw [refsDecl, ← List.append_assoc, ← refsProps_append] at hr
    rcases List.mem_append.mp hr with hr | hr
    · exact (bProps_refs c (np ++ [name]) io 1 (virt ++ props) (by omega) r hr).mono
        (by intro x hx; simp [hx])
    · exact (ih (np ++ [name]) (by omega) r hr).mono (by intro x hx; simp [hx])
  case nil => intro np _ r hr; cases hr
  case decl =>
    intro io o rest iho ihr np h r hr
    rw [convNested_decl] at h ⊢
    rw [Eff.add_def, Eff.add_errs] at h
    rcases List.mem_append.mp (refsNested_decl io o rest ▸ hr) with hr | hr
    · exact (iho np [] (by omega) r hr).mono (by intro x hx; simp [hx])
    · exact (ihr np (by omega) r hr).mono (by intro x hx; simp [hx])
  case enum =>
    intro e rest ihr np h r hr
    rw [convNested] at h ⊢
    rw [Eff.add_def, Eff.add_errs] at h
    exact (ihr np (by omega) r hr).mono (by intro x hx; simp [hx])

theorem convDecl_refs (c : Ctx) (np : List Str) (io : Bool) (virt : List Property) :
    ∀ o : ObjDecl, (convDecl c np io virt o).errs = 0 →
      ∀ r ∈ refsProps virt ++ refsDecl o, RefOk c (convDecl c np io virt o).imports r :=
  fun o => (convDecl_convNested_refs c).1 io o np virt

theorem convNested_refs (c : Ctx) (np : List Str) :
    ∀ ns : List Nested, (convNested c np ns).errs = 0 →
      ∀ r ∈ refsNested ns, RefOk c (convNested c np ns).imports r :=
  fun ns => (convDecl_convNested_refs c).2 ns np

theorem convVirtual_refs (c : Ctx) (name : Str) (virt props : List Property) (psm : Option Psm)
    (h : (convVirtual c name virt props psm).errs = 0) :
    ∀ r ∈ refsProps (virt ++ props), RefOk c (convVirtual c name virt props psm).imports r := by
  intro r hr
  unfold convVirtual at h ⊢
  apply convDecl_refs c [] false virt _ h r
  rw [refsProps_append] at hr
  simpa [refsDecl, refsNested] using hr

/-! ## services, topics, items: what a clean whole says about its references is what its parts say -/

/-- a clean effect resolves the references `refs` and imports the files declaring them -/
def Resolves (c : Ctx) (refs : List (Str × Str)) (e : Eff) : Prop :=
  e.panic = false → e.errs = 0 → ∀ r ∈ refs, RefOk c e.imports r

theorem Resolves.of_part {c : Ctx} {refs : List (Str × Str)} {e e' : Eff} (h : Resolves c refs e)
    (hp : e.Part e') : Resolves c refs e' := fun hpan herr r hr =>
  (h (hp.panic hpan) (hp.errs herr) r hr).mono hp.imports

theorem Resolves.append {c : Ctx} {a b : List (Str × Str)} {e : Eff} (ha : Resolves c a e)
    (hb : Resolves c b e) : Resolves c (a ++ b) e := fun hp he r hr =>
  (List.mem_append.mp hr).elim (ha hp he r) (hb hp he r)

theorem convVirtual_resolves (c : Ctx) (name : Str) (virt props : List Property) (psm : Option Psm) :
    Resolves c (refsProps (virt ++ props)) (convVirtual c name virt props psm) :=
  fun _ he => convVirtual_refs c name virt props psm he

theorem walkMethod_resolves (c : Ctx) (bp : Option Str) (m : Method) :
    Resolves c ((serviceObjects { name := none, basePath := none, methods := [m] }).flatMap
      (fun x => refsProps x.2)) (walkMethod c bp m).eff := by
  unfold walkMethod
  cases hr : m.request with
  | none => exact fun hp => nomatch hp
  | some req =>
    have h1 := (convVirtual_resolves c (m.name ++ b!"Request") [] req none)
    cases hs : m.response with
    | none =>
      simpa [serviceObjects, hr, hs] using h1.of_part (Eff.Part.left _ {})
    | some res =>
      have h2 := (convVirtual_resolves c (m.name ++ b!"Response") [] res none)
      simpa [serviceObjects, hr, hs] using
        (h1.of_part (Eff.Part.left _ _)).append (h2.of_part (Eff.Part.right _ _))

theorem convService_resolves (c : Ctx) (s : Service) :
    Resolves c ((serviceObjects s).flatMap (fun x => refsProps x.2)) (convService c s).eff := by
  intro hp he r hr
  rw [serviceObjects_methods] at hr
  obtain ⟨x, hx, hrx⟩ := List.mem_flatMap.mp hr
  obtain ⟨m, hm, hxm⟩ := List.mem_flatMap.mp hx
  exact (walkMethod_resolves c s.basePath m).of_part (walkMethod_part c s hm) hp he r
    (List.mem_flatMap.mpr ⟨x, hxm, hrx⟩)

/-- **every reference of a visited item resolves and the declaring file is handed to
`ensureImport`** when the item's steps are clean and record no error -/
theorem convItem_refs (c : Ctx) (i : Item)
    (hc : ∀ s ∈ convItem c i, s.eff.panic = false ∧ s.eff.errs = 0) :
    ∀ r ∈ itemRefs i, RefOk c ((convItem c i).flatMap (·.eff.imports)) r := by
  -- each reference is resolved by one step of the item
  have key : ∀ r ∈ itemRefs i, ∃ st, ItemStep c i st ∧ ∃ refs, r ∈ refs ∧ Resolves c refs st.eff := by
    intro r hr
    cases i with
    | object o => exact ⟨_, .object o, _, hr, fun _ he r hr => convDecl_refs c [] false [] o he r hr⟩
    | oneof o => exact ⟨_, .oneof o, _, hr, fun _ he r hr => convDecl_refs c [] true [] o he r hr⟩
    | enum e => cases hr
    | abort => cases hr
    | serviceFile ss =>
      obtain ⟨x, hx, hrx⟩ := List.mem_flatMap.mp hr
      obtain ⟨s, hs, hxs⟩ := List.mem_flatMap.mp hx
      exact ⟨_, .service hs, _, List.mem_flatMap.mpr ⟨x, hxs, hrx⟩, convService_resolves c s⟩
    | topicFile ts =>
      simp only [itemRefs, topicObjects, List.mem_flatMap, List.mem_filterMap] at hr
      obtain ⟨x, ⟨t, ht, tn, htn, m, hm, hx⟩, hrx⟩ := hr
      cases hn : topicMethodName tn m with
      | none => simp [hn] at hx
      | some n =>
        simp only [hn, Option.map_some, Option.some.injEq] at hx
        subst hx
        exact ⟨_, .topicMsg ht htn hm hn, _, hrx, convVirtual_resolves c _ _ _ none⟩
  intro r hr
  obtain ⟨st, hst, refs, hrr, hres⟩ := key r hr
  have hst := mem_convItem.mpr hst
  exact (hres (hc st hst).1 (hc st hst).2 r hrr).mono fun x hx =>
    List.mem_flatMap.mpr ⟨st, hst, hx⟩

theorem targetFile_deps_mem (c : Ctx) (name pkg : Str) (items : List Item) (i : Item) (hi : i ∈ items)
    (x : Str) (hx : x ∈ (convItem c i).flatMap (·.eff.imports)) :
    x = (targetFile c name pkg i.target items).name ∨ x ∈ (targetFile c name pkg i.target items).deps := by
  by_cases hown : x = (targetFile c name pkg i.target items).name
  · exact Or.inl hown
  · exact Or.inr (mem_targetFile_deps.mpr ⟨⟨i, hi, rfl, hx⟩, hown⟩)

/-- **`ConvertJ5File`: references resolve and their files are imported.** For a file that
converts, every type reference of every visited item (objects, oneofs, request / response /
message objects of services and topics, everything an entity expands to) resolves in the
conversion context, and the file declaring the referenced type is the generated file that holds
the reference or one of its dependencies. -/
theorem convertFile_refs (res : Resolver) (path : Str) (imports : List Import) (elems : List Elem)
    (fs : List FileSkel) (h : convertFile res path imports elems = .ok fs) :
    ∃ im, j5Imports (packageFromFilename (path ++ b!".proto")) imports = .ok im ∧
      let c : Ctx := { resolve := resolveTypeNoImport im res }
      let pkg := packageFromFilename (path ++ b!".proto")
      ∀ i ∈ elems.flatMap (itemsOfElem pkg), ∀ r ∈ itemRefs i,
        ∃ t, c.resolve r.1 r.2 = some t ∧
          ∃ f ∈ fs, f.pkg = targetPkg pkg i.target ∧ (t.file = f.name ∨ t.file ∈ f.deps) := by
  obtain ⟨im, hj, hclean, herrs, _⟩ := convertFile_ok res path imports elems fs h
  obtain ⟨_, hj', hmem⟩ := convertFile_mem res path imports elems fs h
  cases hj.symm.trans hj'
  refine ⟨im, hj, fun i hi r hr => ?_⟩
  -- the steps of the item are clean and record no error
  obtain ⟨t, hres, himp⟩ := convItem_refs _ i (fun s hs =>
    have hmem := List.mem_flatMap.mpr ⟨i, hi, hs⟩
    ⟨(hclean s hmem).1, herrs s hmem⟩) r hr
  exact ⟨t, hres, _, (hmem _).mpr ⟨i.target, Or.inr ⟨i, hi, rfl⟩, rfl⟩, targetFile_pkg _ _ _ _ _,
    targetFile_deps_mem _ _ _ _ i hi _ himp⟩

end J5V.Compile
