import J5V.Compile.FileProofs
import J5V.Compile.FieldInv
import J5V.Compile.EvolveNames
/-!
# Conversion reads the context only at the references (C13) — core only

A conversion context is a resolver of references. `buildField` and the walk read it in three places:
the message-typed reference (`refField … false`), the enum reference with its value checks (the
`enumRef` branch of `bField`), and the `(package, name)` test of `checkListMethod`. So a relation `R`
between how two contexts resolve a reference that these three preserve (`CtxRel`) is preserved by the
conversion of fields, property lists, declarations, services, topics, items and files whose references
are all in `R`. `K` says whether `R` needs the old conversion to have recorded no error (more value
names let a check pass that failed: `AgreeUp`) or not (`AgreeOn`).
-/
namespace J5V.Compile
open J5V.Go

/-- `c` is the old context, `c'` the new one; every conclusion is `new = old`. `refEnum` is about the
whole `bField … (.enumRef …)` and not about `c.resolve`, because the value checks sit between the
lookup and the result; `resolveId` is what `isListRequest` reads of a reference (package and name). -/
structure CtxRel (c c' : Ctx) (R : Str × Str → Prop) (K : Prop) : Prop where
  refMsg : ∀ pkg sc, R (pkg, sc) → refField c' pkg sc false = refField c pkg sc false
  refEnum : ∀ np d pkg sc rules lr, R (pkg, sc) →
    (K → (bField c np d (.enumRef pkg sc rules lr)).res.isSome = true) →
    bField c' np d (.enumRef pkg sc rules lr) = bField c np d (.enumRef pkg sc rules lr)
  resolveId : ∀ pkg sc, R (pkg, sc) →
    (c'.resolve pkg sc).map (fun t => (t.pkg, t.name)) = (c.resolve pkg sc).map (fun t => (t.pkg, t.name))

theorem bField_objectInl_clean (c : Ctx) (np : List Str) (d name : Str) (props : List Property) (fl : Bool)
    (rules : Rules) (h : (bField c np d (.objectInl name props fl rules)).eff.errs = 0) :
    (bProps c (np ++ [if name = [] then d else name]) false 1 props).eff.errs = 0 := by
  -- the `errs` of `msgInlField e …` is `e.errs` (its three tails record none), and `e.errs` is the inner list's
  rw [bField] at h
  simp only [msgInlField] at h
  simp at h; omega

theorem bField_oneofInl_clean (c : Ctx) (np : List Str) (d name : Str) (props : List Property)
    (rules : Rules) (lr : Bool) (h : (bField c np d (.oneofInl name props rules lr)).eff.errs = 0) :
    (bProps c (np ++ [if name = [] then d else name]) true 1 props).eff.errs = 0 := by
  rw [bField] at h
  simp only [msgInlField] at h
  simp at h; omega

namespace CtxRel
variable {c c' : Ctx} {R : Str × Str → Prop} {K : Prop} (h : CtxRel c c' R K)
include h

theorem bField_bProps :
    (∀ f, (∀ r ∈ refsField f, R r) → ∀ np d,
      (K → (bField c np d f).res.isSome = true ∧ (bField c np d f).eff.errs = 0) →
      bField c' np d f = bField c np d f) ∧
    ∀ ps, (∀ r ∈ refsProps ps, R r) → ∀ np io n, (K → (bProps c np io n ps).eff.errs = 0) →
      bProps c' np io n ps = bProps c np io n ps := by
  apply field_induct
  case scalar =>
    intro f b hs _ np d _
    rw [bField_scalar c np d f b hs, bField_scalar c' np d f b hs]
  case objectRef | oneofRef =>
    intro pkg schema _ _ hr np d _
    rw [bField, bField]; unfold msgRefField
    rw [h.refMsg pkg schema (hr (pkg, schema) (by simp [refsField]))]
  case enumRef =>
    intro pkg schema rules lr hr np d hk
    exact h.refEnum np d pkg schema rules lr (hr (pkg, schema) (by simp [refsField])) fun k => (hk k).1
  case objectInl =>
    intro name props fl rules ih hr np d hk
    rw [bField, bField, ih (by simpa [refsField] using hr) _ false 1 fun k =>
      bField_objectInl_clean c np d name props fl rules (hk k).2]
  case oneofInl =>
    intro name props rules lr ih hr np d hk
    rw [bField, bField, ih (by simpa [refsField] using hr) _ true 1 fun k =>
      bField_oneofInl_clean c np d name props rules lr (hk k).2]
  case enumInl => intro e rules lr _ np d _; rw [bField, bField]
  -- an array / a map as the item of an array / a map has no result: nothing is asked below it
  case array | map =>
    intro items rules ih hr np d hk
    have hno : ¬ K := fun k => by have := (hk k).1; rw [bField] at this; simp at this
    rw [bField, bField, ih (by simpa [refsField] using hr) np d fun k => absurd k hno]
  case nil => intro _ np io n _; rw [bProps_nil, bProps_nil]
  case cons =>
    intro name req opt f ps ihf ihps hr np io n hk
    have hee := fun k => bProps_cons_errs_zero (hk k)
    rw [bProps_cons, bProps_cons, bProperty_eq, bProperty_eq,
      ihf (refsProperty_built name req opt f ▸ fun r hm => hr r (by simp [refsProps, hm])) np _
        (fun k => let ok := bProperty_ok c np io n name req opt f (hee k).1; ⟨ok.1, ok.2.1⟩),
      ihps (fun r hm => hr r (by simp [refsProps, hm])) np io (n + 1) fun k => (hee k).2]

theorem bField (np : List Str) (d : Str) (f : Field) (hr : ∀ r ∈ refsField f, R r)
    (hk : K → (Compile.bField c np d f).res.isSome = true ∧ (Compile.bField c np d f).eff.errs = 0) :
    Compile.bField c' np d f = Compile.bField c np d f := h.bField_bProps.1 f hr np d hk

theorem bProperty (np : List Str) (io : Bool) (n : Nat) :
    ∀ p : Property, (∀ r ∈ refsProperty p, R r) → (K → (Compile.bProperty c np io n p).eff.errs = 0) →
      Compile.bProperty c' np io n p = Compile.bProperty c np io n p
  | .mk name req opt schema, hr, hk => by
    rw [bProperty_eq, bProperty_eq, h.bField np _ _ (refsProperty_built name req opt schema ▸ hr)
      fun k => let ok := bProperty_ok c np io n name req opt schema (hk k); ⟨ok.1, ok.2.1⟩]

theorem bProps (np : List Str) (io : Bool) (n : Nat) (ps : List Property) (hr : ∀ r ∈ refsProps ps, R r)
    (hk : K → (Compile.bProps c np io n ps).eff.errs = 0) :
    Compile.bProps c' np io n ps = Compile.bProps c np io n ps := h.bField_bProps.2 ps hr np io n hk

theorem convDecl_convNested :
    (∀ io o, (∀ r ∈ refsDecl o, R r) → ∀ np virt, (∀ r ∈ refsProps virt, R r) →
      (K → (Compile.convDecl c np io virt o).errs = 0) →
      Compile.convDecl c' np io virt o = Compile.convDecl c np io virt o) ∧
    ∀ ns, (∀ r ∈ refsNested ns, R r) → ∀ np, (K → (Compile.convNested c np ns).errs = 0) →
      Compile.convNested c' np ns = Compile.convNested c np ns := by
  apply decl_induct
  case mk =>
    intro io name props nested psm ih hr np virt hv hk
    have he : K → (Compile.bProps c (np ++ [name]) io 1 virt).eff.errs = 0 ∧
        (Compile.bProps c (np ++ [name]) io (1 + virt.length) props).eff.errs = 0 ∧
        (Compile.convNested c (np ++ [name]) nested).errs = 0 := by
      intro k
      have := hk k
      rw [Compile.convDecl] at this
      simp only [] at this
      omega
    rw [Compile.convDecl, Compile.convDecl, h.bProps (np ++ [name]) io 1 virt hv fun k => (he k).1,
      h.bProps (np ++ [name]) io (1 + virt.length) props
        (fun r hm => hr r (List.mem_append_left _ hm)) fun k => (he k).2.1,
      ih (fun r hm => hr r (List.mem_append_right _ hm)) _ fun k => (he k).2.2]
  case nil => intro _ np _; rw [Compile.convNested, Compile.convNested]
  case decl =>
    intro io o rest iho ihr hr np hk
    rw [convNested_decl] at hk
    rw [refsNested_decl] at hr
    have he := fun (k : K) => Nat.add_eq_zero_iff.mp (hk k)
    rw [convNested_decl, convNested_decl,
      iho (fun r hm => hr r (List.mem_append_left _ hm)) np [] (fun _ hm => nomatch hm) (fun k => (he k).1),
      ihr (fun r hm => hr r (List.mem_append_right _ hm)) np fun k => (he k).2]
  case enum =>
    intro e rest ihr hr np hk
    rw [Compile.convNested] at hk
    rw [Compile.convNested, Compile.convNested, ihr hr np fun k => (Nat.add_eq_zero_iff.mp (hk k)).2]

theorem convDecl (np : List Str) (io : Bool) (virt : List Property) (hv : ∀ r ∈ refsProps virt, R r)
    (o : ObjDecl) (hr : ∀ r ∈ refsDecl o, R r) (hk : K → (Compile.convDecl c np io virt o).errs = 0) :
    Compile.convDecl c' np io virt o = Compile.convDecl c np io virt o :=
  h.convDecl_convNested.1 io o hr np virt hv hk

theorem convNested (np : List Str) (ns : List Nested) (hr : ∀ r ∈ refsNested ns, R r)
    (hk : K → (Compile.convNested c np ns).errs = 0) :
    Compile.convNested c' np ns = Compile.convNested c np ns := h.convDecl_convNested.2 ns hr np hk

theorem convVirtual (name : Str) (virt props : List Property) (psm : Option Psm)
    (hr : ∀ r ∈ refsProps (virt ++ props), R r)
    (hk : K → (Compile.convVirtual c name virt props psm).errs = 0) :
    Compile.convVirtual c' name virt props psm = Compile.convVirtual c name virt props psm := by
  rw [refsProps_append] at hr
  unfold Compile.convVirtual at hk ⊢
  exact h.convDecl [] false virt (fun r hm => hr r (List.mem_append_left _ hm)) _
    (fun r hm => hr r (by simp only [refsDecl, refsNested, List.append_nil] at hm; simp [hm])) hk

theorem walkMethod (bp : Option Str) (m : Method)
    (hr : ∀ r ∈ (methodObjs m).flatMap (fun x => refsProps x.2), R r)
    (hk : K → (Compile.walkMethod c bp m).eff.errs = 0) :
    Compile.walkMethod c' bp m = Compile.walkMethod c bp m := by
  unfold Compile.walkMethod at hk ⊢
  cases hq : m.request with
  | none => rfl
  | some req =>
    simp only [hq] at hk ⊢
    have h1 : ∀ r ∈ refsProps ([] ++ req), R r := fun r hrr =>
      hr r (by simp only [methodObjs, hq, List.flatMap_append, List.mem_append]; exact Or.inl (by simpa using hrr))
    cases hs : m.response with
    | none =>
      simp only [hs] at hk ⊢
      rw [h.convVirtual _ [] req none h1 fun k => by
        have := hk k; simp only [Eff.add_def, Eff.add_errs] at this; omega]
    | some res =>
      have h2 : ∀ r ∈ refsProps ([] ++ res), R r := fun r hrr =>
        hr r (by simp only [methodObjs, hs, List.flatMap_append, List.mem_append]; exact Or.inr (by simpa using hrr))
      simp only [hs] at hk ⊢
      rw [h.convVirtual _ [] req none h1 (fun k => by
          have := hk k; simp only [Eff.add_def, Eff.add_errs] at this; omega),
        h.convVirtual _ [] res none h2 fun k => by
          have := hk k; simp only [Eff.add_def, Eff.add_errs] at this; omega]

theorem isListRequest (req : List Property) (hr : ∀ r ∈ refsProps req, R r) :
    Compile.isListRequest c' req = Compile.isListRequest c req := by
  unfold Compile.isListRequest
  induction req with
  | nil => rfl
  | cons p rest ih =>
    simp only [List.any_cons, ih fun r hm => hr r (by simp [refsProps, hm])]
    congr 1
    cases p with
    | mk name req opt schema =>
      cases schema <;> simp only [Property.schema]
      case objectRef pkg sc fl rules =>
        have := h.resolveId pkg sc (hr (pkg, sc) (by simp [refsProps, refsProperty, refsField]))
        cases h1 : c'.resolve pkg sc <;> cases h2 : c.resolve pkg sc <;> simp [h1, h2] at this ⊢
        rw [this.1, this.2]

theorem listMethodErr (m : Method) (hr : ∀ r ∈ (methodObjs m).flatMap (fun x => refsProps x.2), R r) :
    Compile.listMethodErr c' m = Compile.listMethodErr c m := by
  unfold Compile.listMethodErr
  cases hq : m.request with
  | none => rfl
  | some req =>
    simp only []
    rw [h.isListRequest req fun r hrr =>
      hr r (by simp only [methodObjs, hq, List.flatMap_append, List.mem_append]; exact Or.inl (by simpa using hrr))]

theorem convService (s : Service) (hr : ∀ r ∈ (serviceObjects s).flatMap (fun x => refsProps x.2), R r)
    (hk : K → (Compile.convService c s).eff.errs = 0) :
    Compile.convService c' s = Compile.convService c s := by
  have hsub : ∀ m ∈ s.methods, ∀ r ∈ (methodObjs m).flatMap (fun x => refsProps x.2), R r := by
    intro m hm r hrm
    apply hr r
    obtain ⟨x, hx, hrx⟩ := List.mem_flatMap.mp hrm
    exact List.mem_flatMap.mpr ⟨x, List.mem_flatMap.mpr ⟨m, hm, hx⟩, hrx⟩
  have hw : s.methods.map (Compile.walkMethod c' s.basePath) = s.methods.map (Compile.walkMethod c s.basePath) :=
    List.map_congr_left fun m hm =>
      h.walkMethod s.basePath m (hsub m hm) fun k => (walkMethod_part c s hm).errs (hk k)
  have hl : s.methods.map (Compile.listMethodErr c') = s.methods.map (Compile.listMethodErr c) :=
    List.map_congr_left fun m hm => h.listMethodErr m (hsub m hm)
  unfold Compile.convService
  rw [hw, hl]

theorem acceptTopic (t : TopicNode)
    (hr : ∀ r ∈ (nodeObjs t).flatMap (fun x => refsProps x.2), R r)
    (hk : K → ∀ s ∈ Compile.acceptTopic c t, s.eff.errs = 0) :
    Compile.acceptTopic c' t = Compile.acceptTopic c t := by
  unfold Compile.acceptTopic at hk ⊢
  simp only [] at hk ⊢
  congr 1
  apply List.map_congr_left
  intro m hm
  cases hn : topicMethodName t m with
  | none => rfl
  | some n =>
    simp only []
    rw [h.convVirtual _ t.prepend m.props none]
    · intro r hrm
      apply hr r
      exact List.mem_flatMap.mpr ⟨(n ++ b!"Message", t.prepend ++ m.props),
        List.mem_filterMap.mpr ⟨m, hm, by simp [hn]⟩, hrm⟩
    · exact fun k => hk k { target := .topic, eff := Compile.convVirtual c (n ++ b!"Message") t.prepend m.props }
        (List.mem_append_left _ (List.mem_map.mpr ⟨m, hm, by simp [hn]⟩))

theorem convItem (i : Item) (hr : ∀ r ∈ itemRefs i, R r) (hk : K → ∀ s ∈ Compile.convItem c i, s.eff.errs = 0) :
    Compile.convItem c' i = Compile.convItem c i := by
  cases i with
  | object o =>
    simp only [Compile.convItem]
    rw [h.convDecl [] false [] (fun _ hm => nomatch hm) o hr fun k =>
      hk k { target := .main, eff := Compile.convDecl c [] false [] o } (by simp [Compile.convItem])]
  | oneof o =>
    simp only [Compile.convItem]
    rw [h.convDecl [] true [] (fun _ hm => nomatch hm) o hr fun k =>
      hk k { target := .main, eff := Compile.convDecl c [] true [] o } (by simp [Compile.convItem])]
  | enum e => rfl
  | abort => rfl
  | serviceFile ss =>
    simp only [Compile.convItem, convServiceFile]
    congr 1
    apply List.map_congr_left
    intro s hs
    apply h.convService
    · intro r hrm
      apply hr r
      simp only [itemRefs, List.mem_flatMap] at hrm ⊢
      obtain ⟨x, hx, hrx⟩ := hrm
      exact ⟨x, ⟨s, hs, hx⟩, hrx⟩
    · intro k
      apply hk k
      simp only [Compile.convItem, convServiceFile, List.mem_cons, List.mem_map]
      exact Or.inr ⟨s, hs, rfl⟩
  | topicFile ts =>
    simp only [Compile.convItem, convTopicFile]
    congr 1
    apply flatMap_congr_mem
    intro t ht
    unfold convTopic
    apply flatMap_congr_mem
    intro tn htn
    apply h.acceptTopic
    · intro r hrm
      apply hr r
      simp only [itemRefs, topicObjects, List.mem_flatMap] at hrm ⊢
      obtain ⟨x, hx, hrx⟩ := hrm
      exact ⟨x, ⟨t, ht, tn, htn, hx⟩, hrx⟩
    · intro k s hs
      apply hk k
      simp only [Compile.convItem, convTopicFile, convTopic, List.mem_cons, List.mem_flatMap]
      exact Or.inr ⟨t, ht, tn, htn, hs⟩

theorem fileSteps (pkg : Str) (elems : List Elem) (hr : ∀ r ∈ fileRefs pkg elems, R r)
    (hk : K → ∀ s ∈ Compile.fileSteps c pkg elems, s.eff.errs = 0) :
    Compile.fileSteps c' pkg elems = Compile.fileSteps c pkg elems := by
  apply flatMap_congr_mem
  intro i hi
  exact h.convItem i (fun r hm => hr r (List.mem_flatMap.mpr ⟨i, hi, hm⟩))
    fun k s hs => hk k s (List.mem_flatMap.mpr ⟨i, hi, hs⟩)

end CtxRel
end J5V.Compile
