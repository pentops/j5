import J5V.Compile.ConvertProofs
import J5V.Compile.MapProofs
/-!
# Shape of emitted fields and services; references, imports, aliases (C02, core only)

What `buildProperty` writes besides name / JSON name / number (`bProperty_fld`): cardinality
(`repeated` exactly for arrays and maps), optionality (`proto3_optional` exactly for properties
marked explicitly optional — never together with required), required-ness (`required` mark or a
primary key), the oneof wrapper (`oneof_index = 0` exactly inside a oneof); the resolved type of a
reference field. Then what `visitServiceMethodNode` emits (`walkMethod_node`, `built_methods`), what
`j5Imports` makes of the import statements, and where a resolved type comes from
(`resolveTypeNoImport_some`).
-/
namespace J5V.Compile
open J5V.Go

/-- **cardinality, optionality, oneof membership of an emitted field** -/
theorem bProperty_shape (c : Ctx) (np : List Str) (io : Bool) (number : Nat) (p : Property)
    (f : FieldSkel) (h : (bProperty c np io number p).fld = some f) :
    f.repeated = p.schema.isRepeated ∧ f.p3opt = p.explicitlyOptional ∧
      f.oneof = (if io then some 0 else none) ∧
      (p.required = true → f.req = true) ∧ (f.p3opt = true → f.req = false) := by
  cases p with
  | mk name req opt schema =>
    obtain ⟨r, _, hne, rfl⟩ := bProperty_fld_res c np io number name req opt schema f h
    refine ⟨rfl, rfl, rfl, fun hreq => ?_, fun hopt => ?_⟩
    · show (req || _) = true
      rw [show req = true from hreq]; rfl
    · rw [show opt = true from hopt, Bool.true_and] at hne
      exact hne

/-- **a map property**: one map-entry message `<CamelSnake(name)>Entry` (key = string 1, value = 2 with
the item's type) handed to the enclosing context, and a repeated message field of that type -/
theorem bProperty_map (c : Ctx) (np : List Str) (io : Bool) (number : Nat) (name : Str) (req opt : Bool)
    (items : Field) (mrules : Rules) (r : FieldRes)
    (hr : (bField c np (toCamel name) items).res = some r) (f : FieldSkel)
    (h : (bProperty c np io number (.mk name req opt (.map items mrules))).fld = some f) :
    (bProperty c np io number (.mk name req opt (.map items mrules))).entries =
        [mkEntry (mapName (toSnake name)) r] ∧
      f.type = .message ∧ f.typeName = mapName (toSnake name) ∧ f.repeated = true ∧ f.ext = b!"map" := by
  obtain ⟨r', hr', _, rfl⟩ := bProperty_fld_res c np io number name req opt _ f h
  refine ⟨?_, rfl, rfl, rfl, rfl⟩
  rw [bProperty_eq]
  show (match (bField c np (toCamel name) items).res with | none => _ | some r => _ : PR).entries = _
  rw [hr, finishProperty_entries_eq]
  rfl

/-- a oneof reference that resolves to a message: absolute type name of the declared type -/
theorem bField_oneofRef_res (c : Ctx) (np : List Str) (d pkg schema : Str) (rules : Rules) (lr : Bool)
    (t : TypeRef) (h : c.resolve pkg schema = some t) (hm : t.kind.isMessage = true) :
    ∃ r, (bField c np d (.oneofRef pkg schema rules lr)).res = some r ∧
      r.type = .message ∧ r.typeName = t.protoTypeName ∧ r.ext = b!"oneof" := by
  rw [bField]
  simp [msgRefField, refField, h, hm]

/-- an enum reference that resolves to an enum whose rule values / default filters name options:
enum-typed, absolute type name of the declared enum -/
theorem bField_enumRef_res (c : Ctx) (np : List Str) (d pkg schema : Str) (rules : Rules)
    (lr : Option (List Str)) (t : TypeRef) (pfx : Str) (names : List Str)
    (h : c.resolve pkg schema = some t) (hk : t.kind = .enum pfx names)
    (h1 : mapValuesOk pfx names (enumRuleVals rules) = true)
    (h2 : mapValuesOk pfx names (lr.getD []) = true) :
    ∃ r, (bField c np d (.enumRef pkg schema rules lr)).res = some r ∧
      r.type = .enum ∧ r.typeName = t.protoTypeName ∧ r.ext = b!"enum" := by
  rw [bField_enumRef_eq c np d pkg schema rules lr h hk]
  simp [enumFieldWith, h1, h2]

/-- the HTTP path of a method: base path joined with the method path (`path.Join`), `:name` parts
rewritten -/
def resolvedPath (bp : Option Str) (m : Method) : Str :=
  match bp with
  | some b => pathJoin [b, m.path]
  | none => m.path

/-- what `visitServiceMethodNode` emits for a method with a request and a supported verb -/
def methodSkelOf (bp : Option Str) (m : Method) : MethodSkel :=
  { name := m.name, input := m.name ++ b!"Request",
    output := (match m.response with
      | some _ => m.name ++ b!"Response"
      | none => b!"google.api.HttpBody"),
    http := some { verb := m.verb,
                   path := (rewritePath (m.request.getD []) (resolvedPath bp m)).1,
                   body := verbBody m.verb },
    mopt := m.mopt }

theorem walkMethod_node (c : Ctx) (bp : Option Str) (m : Method) (req : List Property)
    (hr : m.request = some req) :
    (walkMethod c bp m).node =
      some (m, m.name ++ b!"Request",
        (match m.response with | some _ => m.name ++ b!"Response" | none => b!"google.api.HttpBody"),
        resolvedPath bp m) := by
  unfold walkMethod resolvedPath
  simp only [hr]
  cases m.response <;> cases bp <;> rfl

theorem convMethod_skel (bp : Option Str) (m : Method) (req : List Property)
    (hr : m.request = some req) (hv : m.verb ≠ .unspecified) :
    (convMethod (m, m.name ++ b!"Request",
        (match m.response with | some _ => m.name ++ b!"Response" | none => b!"google.api.HttpBody"),
        resolvedPath bp m)).2 = some (methodSkelOf bp m) := by
  unfold convMethod methodSkelOf
  simp only [hr, hv, if_false, Option.getD]

theorem built_methods (c : Ctx) (bp : Option Str) (ms : List Method)
    (hreq : ∀ m ∈ ms, m.request.isSome = true) (hv : ∀ m ∈ ms, m.verb ≠ .unspecified) :
    (((ms.map (walkMethod c bp)).filterMap (·.node)).map convMethod).filterMap (·.2) =
      ms.map (methodSkelOf bp) := by
  induction ms with
  | nil => rfl
  | cons m rest ih =>
    have hm := hreq m (by simp)
    cases hr : m.request with
    | none => simp [hr] at hm
    | some req =>
      have h1 := walkMethod_node c bp m req hr
      have h2 := convMethod_skel bp m req hr (hv m (by simp))
      simp only [List.map_cons, List.filterMap_cons, h1, h2]
      rw [ih (fun x hx => hreq x (List.mem_cons_of_mem _ hx)) (fun x hx => hv x (List.mem_cons_of_mem _ hx))]

/-! ## references, imports, aliases -/

/-- the map entries one `import` statement contributes (`j5Imports`) -/
def importEntries (imp : Import) : List (Str × Str) :=
  if containsByte 47 imp.path then
    [(packageFromFilename imp.path, packageFromFilename imp.path)]
  else if imp.alias ≠ [] then [(imp.alias, imp.path)]
  else
    let parts := splitOnByte 46 imp.path
    if parts.length < 2 then []
    else [(parts.getD (parts.length - 2) [], imp.path), (imp.path, imp.path)]

/-- an import the loop of `j5Imports` counts as an error (`invalid package name`) -/
def importBad (imp : Import) : Bool :=
  !containsByte 47 imp.path && imp.alias = [] && (splitOnByte 46 imp.path).length < 2

theorem j5ImportsGo_eq (imports : List Import) (h : ∀ imp ∈ imports, imp.path ≠ []) :
    j5ImportsGo imports =
      some (imports.flatMap importEntries, (imports.filter importBad).length) := by
  induction imports with
  | nil => rfl
  | cons imp rest ih =>
    have hp := h imp (by simp)
    have ihr := ih (fun x hx => h x (List.mem_cons_of_mem _ hx))
    simp only [j5ImportsGo, hp, if_false, ihr, List.flatMap_cons, List.filter_cons]
    by_cases hs : containsByte 47 imp.path = true
    · simp [hs, importEntries, importBad]
    · by_cases ha : imp.alias = []
      · by_cases hl : (splitOnByte 46 imp.path).length < 2
        · simp [hs, ha, hl, importEntries, importBad]
        · simp [hs, ha, hl, importEntries, importBad]
      · simp [hs, ha, importEntries, importBad]

/-- **`j5Imports`**: succeeds iff no import has an empty path and none is a bare single-segment
package without alias; the map then holds, in order, the entries of every import -/
theorem j5Imports_ok (pkg : Str) (imports : List Import) (h : ∀ imp ∈ imports, imp.path ≠ [])
    (hb : ∀ imp ∈ imports, importBad imp = false) :
    j5Imports pkg imports = .ok ⟨imports.flatMap importEntries, pkg⟩ := by
  unfold j5Imports
  rw [j5ImportsGo_eq imports h]
  have : (imports.filter importBad).length = 0 := by
    simp only [List.length_eq_zero_iff, List.filter_eq_nil_iff]
    intro a ha; simpa using hb a ha
  simp [this]

/-! the three ways to name an imported package -/

theorem importEntries_package (path : Str) (h1 : containsByte 47 path = false)
    (h2 : 2 ≤ (splitOnByte 46 path).length) :
    importEntries ⟨path, []⟩ =
      [((splitOnByte 46 path).getD ((splitOnByte 46 path).length - 2) [], path), (path, path)] := by
  have : ¬ (splitOnByte 46 path).length < 2 := by omega
  simp [importEntries, h1, this]

theorem importEntries_alias (path alias : Str) (h1 : containsByte 47 path = false)
    (h2 : alias ≠ []) : importEntries ⟨path, alias⟩ = [(alias, path)] := by
  simp [importEntries, h1, h2]

theorem importEntries_file (path alias : Str) (h1 : containsByte 47 path = true) :
    importEntries ⟨path, alias⟩ = [(packageFromFilename path, packageFromFilename path)] := by
  simp [importEntries, h1]

/-- **local references**: an empty package or the file's own package resolves in the package's own
export table -/
theorem resolve_local (im : ImportMap) (r : Resolver) (pkg schema : Str)
    (h : pkg = [] ∨ pkg = im.thisPackage) (hp : im.thisPackage = r.pkgName) :
    resolveTypeNoImport im r pkg schema = mapGet r.exports schema := by
  have hc : pkg = [] ∨ pkg = r.pkgName := by rw [← hp]; exact h
  simp [resolveTypeNoImport, ImportMap.expand, Resolver.resolveType, hp, hc]

/-- **imported references**: a key of the import map (alias, last-but-one segment, full package,
package of an imported file) that is neither the own package nor an implicit import resolves in
the export table of the package it maps to -/
theorem resolve_imported (im : ImportMap) (r : Resolver) (spec full schema : Str)
    (hne : spec ≠ [] ∧ spec ≠ im.thisPackage) (hk : mapGet im.vals spec = some full)
    (hi1 : implicitRef spec schema = none) (hi2 : implicitRef full schema = none)
    (hfull : full ≠ r.pkgName) :
    resolveTypeNoImport im r spec schema =
      match mapGet r.deps full with
      | none => none
      | some ex => mapGet ex schema := by
  have hc : (spec = [] || spec = im.thisPackage) = false := by simp [hne.1, hne.2]
  simp [resolveTypeNoImport, ImportMap.expand, hc, hi1, hk, hi2, Resolver.resolveType, hfull]
  rfl

theorem expand_implicit {im : ImportMap} {pkg schema : Str} {t : TypeRef}
    (h : im.expand pkg schema = some (.implicit t)) : ∃ pk, implicitRef pk schema = some t := by
  unfold ImportMap.expand at h
  split at h
  · cases h
  · cases h1 : implicitRef pkg schema with
    | some t1 => rw [h1] at h; cases h; exact ⟨pkg, h1⟩
    | none =>
      rw [h1] at h
      cases h2 : mapGet im.vals pkg with
      | none => rw [h2] at h; cases h
      | some full =>
        simp only [h2] at h
        cases h3 : implicitRef full schema with
        | some t3 => rw [h3] at h; cases h; exact ⟨full, h3⟩
        | none => rw [h3] at h; cases h

/-- where a resolved type comes from -/
theorem resolveTypeNoImport_some {im : ImportMap} {r : Resolver} {pkg schema : Str} {t : TypeRef}
    (h : resolveTypeNoImport im r pkg schema = some t) :
    (∃ pk sc, implicitRef pk sc = some t) ∨ (∃ k, (k, t) ∈ r.exports) ∨
      ∃ de ∈ r.deps, ∃ k, (k, t) ∈ de.2 := by
  unfold resolveTypeNoImport at h
  cases hex : im.expand pkg schema with
  | none => rw [hex] at h; cases h
  | some e =>
    rw [hex] at h
    cases e with
    | implicit t' =>
      cases h
      obtain ⟨pk, hpk⟩ := expand_implicit hex
      exact Or.inl ⟨pk, schema, hpk⟩
    | ref p s =>
      simp only [Resolver.resolveType] at h
      split at h
      · exact Or.inr (Or.inl ⟨s, mapGet_mem _ _ _ h⟩)
      · cases hd : mapGet r.deps p with
        | none => rw [hd] at h; cases h
        | some ex =>
          rw [hd] at h
          exact Or.inr (Or.inr ⟨(p, ex), mapGet_mem _ _ _ hd, s, mapGet_mem _ _ _ h⟩)

/-- **a resolved message reference**: the field gets the absolute type name of the declared type
and the file that declares it is imported -/
theorem bField_objectRef_resolved (c : Ctx) (np : List Str) (d pkg schema : Str) (fl : Bool)
    (rules : Rules) (t : TypeRef) (h : c.resolve pkg schema = some t)
    (hm : t.kind.isMessage = true) :
    (∃ r, (bField c np d (.objectRef pkg schema fl rules)).res = some r ∧
      r.typeName = t.protoTypeName ∧ r.type = .message) ∧
    t.file ∈ (bField c np d (.objectRef pkg schema fl rules)).eff.imports := by
  rw [bField]
  simp only [msgRefField, refField, h, hm, Bool.not_false]
  simp only [if_true]
  refine ⟨⟨_, rfl, rfl, rfl⟩, ?_⟩
  simp [Eff.add, Eff.imp]

/-- in an object, map entries land in the message itself: nothing is handed to the outer context -/
theorem bProps_entries_object (c : Ctx) (np : List Str) (n : Nat) (ps : List Property) :
    (bProps c np false n ps).entries = [] :=
  (bProps_eq_map c np false n ps).2.2

/-- a property contributes at most one outer message, and it is a map entry -/
theorem bProperty_entries_shape (c : Ctx) (np : List Str) (io : Bool) (n : Nat) (name : Str)
    (req opt : Bool) (schema : Field) :
    (bProperty c np io n (.mk name req opt schema)).entries = [] ∨
      ∃ nm r', (bProperty c np io n (.mk name req opt schema)).entries = [mkEntry nm r'] := by
  rw [bProperty_eq]
  split
  · exact Or.inl rfl
  · rw [finishProperty_entries_eq]
    cases schema <;> first | exact Or.inr ⟨_, _, rfl⟩ | exact Or.inl rfl

/-- everything a oneof hands to its outer context is a map entry -/
theorem bProps_entries_kind (c : Ctx) (np : List Str) (io : Bool) (n : Nat) (ps : List Property) :
    ∀ m ∈ (bProps c np io n ps).entries, m.kind = .mapentry := by
  intro m hm
  rw [(bProps_eq_map c np io n ps).2.2] at hm
  split at hm
  · obtain ⟨r, hr, hmr⟩ := List.mem_flatMap.mp hm
    obtain ⟨⟨⟨name, req, opt, schema⟩, k⟩, _, rfl⟩ := List.mem_map.mp hr
    rcases bProperty_entries_shape c np io k name req opt schema with h0 | ⟨nm, r', h1⟩
    · rw [h0] at hmr; cases hmr
    · rw [h1, List.mem_singleton] at hmr
      subst hmr; rfl
  · cases hm

theorem protoTypeName_abs (t : TypeRef) (h : t.pkg ≠ []) :
    t.protoTypeName = b!"." ++ t.pkg ++ b!"." ++ t.name := by
  simp [TypeRef.protoTypeName, h]

end J5V.Compile
