import J5V.Compile.Imports
import J5V.Compile.Skel
/-!
# Convert — schema level (core only)

Mirrors `sourcewalk/property.go` (`propertyNode.accept`, `buildFieldNode`, `replaceNested*`: inline
types are visited first and replaced by a reference named parent-path + default nesting name) fused
with `j5convert/fields.go` (`buildProperty`, `buildField`, `setJ5Ext`), `j5convert/conversion.go`
(`visitObjectNode`, `visitOneofNode`, `visitEnumNode`, `resolveType`), `j5convert/enum.go` and the
message half of `j5convert/builders.go`.

Effects of the Go visitor are returned, not threaded: an `Eff` lists what a visit adds to its
parent context (`addMessage`, `addEnum`), the `ensureImport` calls on the current file, the number
of `addError` calls and whether a panic is reached. None of the schema-level code returns a Go
`error` that aborts the walk (callbacks return `nil`), so a flag is enough for panics: the final
outcome of a file is `panic` if the flag is set anywhere before a walker error, `err` if any error
was recorded, `ok` otherwise (`Compile.File`).

Go's partial operations on this path, as explicit panic arms:
* `ensureImport("")` / `ensureImport(path without "/")` (explicit `panic` in builders.go): `Eff.imp`;
* `ww.field.name` with `ww.field == nil` for a oneof without a name: `convDecl` in `Compile/Walk.lean`.
Date / decimal rules have no panic arm: they are wrapped in `FieldOptions` before
`proto.SetExtension(…, ext_j5pb.E_Field, …)` (mirrors Go commit `fix: 9a528a0`).
-/
namespace J5V.Compile

/-- effects of a visit -/
structure Eff where
  msgs : List MsgSkel := []
  enums : List EnumSkel := []
  imports : List Str := []
  errs : Nat := 0
  panic : Bool := false
  /-- files whose extensions are set on an option message of the current file
  (`proto.SetExtension`): the link step looks each of them up among the file's imports -/
  uses : List Str := []

instance : Inhabited Eff := ⟨{}⟩

def Eff.add (a b : Eff) : Eff :=
  { msgs := a.msgs ++ b.msgs, enums := a.enums ++ b.enums, imports := a.imports ++ b.imports,
    errs := a.errs + b.errs, panic := a.panic || b.panic, uses := a.uses ++ b.uses }

instance : Append Eff := ⟨Eff.add⟩

/-- `fileContext.ensureImport` as seen from the caller: the call, and its two explicit panics -/
def Eff.imp (p : Str) : Eff :=
  { imports := [p], panic := p = [] || !containsByte 47 p }

def Eff.imps (ps : List Str) : Eff := ps.foldl (fun e p => e ++ Eff.imp p) {}

def Eff.err : Eff := { errs := 1 }
/-- an extension defined in file `p` is set -/
def Eff.use (p : Str) : Eff := { uses := [p] }
def Eff.panicked : Eff := { panic := true }

/-- conversion context of one file: `rootContext.resolveTypeNoImport` (import map, implicit
imports, `Package.ResolveType`) as a function of the reference -/
structure Ctx where
  resolve : Str → Str → Option TypeRef

/-- what `buildField` leaves in the descriptor, as far as later code looks at it -/
structure FieldRes where
  type : PType
  typeName : Str := []
  ext : Str := []
  hasValidate : Bool := false       -- (buf.validate.field) is set
  primaryKey : Bool := false        -- (j5.ext.v1.key).primary_key
  deriving Repr, DecidableEq, Inhabited

/-- result of `buildField`: `res = none` ⇔ an error was returned -/
structure BF where
  eff : Eff := {}
  res : Option FieldRes := none
  /-- the part of `eff` that comes from `buildFieldNode` visiting inline types (it happens even
  when `buildField` is never reached, e.g. for an array of arrays) -/
  walk : Eff := {}

instance : Inhabited BF := ⟨{}⟩

/-- `setJ5Ext` on its success path: sets the typed member, imports the extension file -/
def j5Ext : Eff := Eff.imp j5ExtImport ++ Eff.use j5ExtImport

def when (b : Bool) (e : Eff) : Eff := if b then e else {}

/-- list rules: import + `(j5.list.v1.field)` -/
def listRulesEff (lr : Bool) : Eff :=
  when lr (Eff.imp j5ListAnnotationsImport ++ Eff.use j5ListAnnotationsImport)

/-- `(buf.validate.field)` set with its import -/
def validateWithImport (b : Bool) : Eff :=
  when b (Eff.imp bufValidateImport ++ Eff.use bufValidateImport)

/-- `resolveType` for a non-inline reference followed by the kind check of the caller -/
def refField (c : Ctx) (pkg schema : Str) (wantEnum : Bool) : Eff × Option TypeRef :=
  match c.resolve pkg schema with
  | none => ({}, none)
  | some t =>
    -- ensureImport(typeRef.File) happens before the kind check
    if t.kind.isMessage = !wantEnum then (Eff.imp t.file, some t) else (Eff.imp t.file, none)

/-- integer rules: the two "exclusive … requires …" errors of `buildField`.
`exclusiveMinimum = false` given explicitly without `minimum` is rejected (and likewise max). -/
def intRulesErr (rules : Rules) : Bool :=
  let has (n : Str) := rules.any (·.name = n)
  let isFalse (n : Str) := rules.any fun r => r.name = n && r.lit = .bool false
  (isFalse b!"exclusiveMinimum" && !has b!"minimum") ||
    (isFalse b!"exclusiveMaximum" && !has b!"maximum")

def intType : IntFmt → PType
  | .int32 => .int32 | .int64 => .int64 | .uint32 => .uint32 | .uint64 => .uint64

def floatType : FloatFmt → PType
  | .float32 => .float | .float64 => .double

/-- enum rules `in` / `notIn`, as lists of names -/
def enumRuleVals (rules : Rules) : List Str :=
  rules.flatMap fun r =>
    if r.name = b!"in" || r.name = b!"notIn" then
      match r.lit with
      | .strs l => l
      | .str s => [s]
      | _ => []
    else []

def relName (np : List Str) (name : Str) : Str := joinWith b!"." (np ++ [name])

/-- enum value prefix: given, or `SCREAMING_SNAKE(name)_` -/
def enumPrefix (e : EnumDecl) : Str :=
  if e.pfx = [] then toScreamingSnake e.name ++ b!"_" else e.pfx

/-- `enumBuilder.addValue`: the prefix is added unless already there -/
def enumFull (pfx n : Str) : Str := if hasPrefix pfx n then n else pfx ++ n

/-- `strings.TrimPrefix` -/
def trimPrefix (s pfx : Str) : Str := if hasPrefix pfx s then s.drop pfx.length else s

/-- `isExplicitUnspecified` (`fix: 50e59b3`): the option is `UNSPECIFIED` or `<PREFIX>UNSPECIFIED`
(`Enum.Option.number` is 0 for every option of a parsed file) -/
def isExplicitUnspecified (pfx name : Str) : Bool := trimPrefix name pfx = b!"UNSPECIFIED"

/-- values of `visitEnumNode`: implicit `<PREFIX>UNSPECIFIED = 0` (a leading option that is the
explicit zero takes its place), then `idx + 1` -/
def enumValues (pfx : Str) (opts : List Str) : List (Str × Nat) :=
  match opts with
  | first :: rest =>
    if isExplicitUnspecified pfx first then
      (enumFull pfx first, 0) :: rest.zipIdx.map fun (n, i) => (enumFull pfx n, i + 1)
    else
      (pfx ++ b!"UNSPECIFIED", 0) :: opts.zipIdx.map fun (n, i) => (enumFull pfx n, i + 1)
  | [] => [(pfx ++ b!"UNSPECIFIED", 0)]

/-- `visitEnumNode` + `enumBuilder.addValue` -/
def convEnum (e : EnumDecl) : EnumSkel :=
  { name := e.name, values := enumValues (enumPrefix e) e.opts }

/-- the `TypeRef` of an inline / declared enum as `enumTypeRef` builds it: defaulted prefix, the
implicit zero and the value names of `visitEnumNode` -/
def enumTKind (e : EnumDecl) : TKind :=
  .enum (enumPrefix e) ((enumPrefix e ++ b!"UNSPECIFIED") :: (enumValues (enumPrefix e) e.opts).map (·.1))

/-- scalar (non-reference) branches of `buildField` -/
def scalarField : Field → Option BF
  | .string rules lr => some
    { eff := j5Ext ++ validateWithImport (!rules.isEmpty) ++ listRulesEff lr,
      res := some { type := .string, ext := b!"string", hasValidate := !rules.isEmpty } }
  | .bool rules lr => some
    { eff := j5Ext ++ validateWithImport (!rules.isEmpty) ++ listRulesEff lr,
      res := some { type := .bool, ext := b!"bool", hasValidate := !rules.isEmpty } }
  | .bytes rules => some
    { eff := j5Ext ++ validateWithImport (!rules.isEmpty),
      res := some { type := .bytes, ext := b!"bytes", hasValidate := !rules.isEmpty } }
  | .date rules lr => some
    { eff := Eff.imp j5DateImport ++ when (!rules.isEmpty) j5Ext ++ listRulesEff lr,
      res := some { type := .message, typeName := b!".j5.types.date.v1.Date",
                    ext := if rules.isEmpty then [] else b!"date" } }
  | .decimal rules lr => some
    { eff := Eff.imp j5DecimalImport ++ when (!rules.isEmpty) j5Ext ++ listRulesEff lr,
      res := some { type := .message, typeName := b!".j5.types.decimal.v1.Decimal",
                    ext := if rules.isEmpty then [] else b!"decimal" } }
  | .timestamp rules => some
    { eff := Eff.imp pbTimestampImport ++ j5Ext ++ validateWithImport (!rules.isEmpty),
      res := some { type := .message, typeName := b!".google.protobuf.Timestamp",
                    ext := b!"timestamp", hasValidate := !rules.isEmpty } }
  | .any => some
    { eff := Eff.imp j5AnyImport ++ Eff.use j5ExtImport,
      res := some { type := .message, typeName := b!".j5.types.any.v1.Any", ext := b!"any" } }
  | .integer fmt rules lr =>
    if !rules.isEmpty && intRulesErr rules then some { eff := j5Ext } else some
    { eff := j5Ext ++ validateWithImport (!rules.isEmpty) ++ listRulesEff lr,
      res := some { type := intType fmt, ext := b!"integer", hasValidate := !rules.isEmpty } }
  | .float fmt rules lr =>
    if !rules.isEmpty then some {} else some
    { eff := j5Ext ++ listRulesEff lr,
      res := some { type := floatType fmt, ext := b!"float" } }
  | .key fmt ek _ lr => some
    { eff := Eff.imp j5ExtImport ++ j5Ext ++ listRulesEff lr
              ++ validateWithImport (fmt ≠ .none),
      res := some { type := .string, ext := b!"key", hasValidate := fmt ≠ .none,
                    primaryKey := ek.isPrimary } }
  | _ => none

/-- message-typed reference (object / oneof field pointing at a declared type) -/
def msgRefField (c : Ctx) (pkg schema : Str) (ext : Str) (rules : Rules) (lr : Bool) : BF :=
  match refField c pkg schema false with
  | (e, none) => { eff := e }
  | (e, some t) =>
    { eff := e ++ j5Ext ++ validateWithImport (!rules.isEmpty) ++ listRulesEff lr,
      res := some { type := .message, typeName := t.protoTypeName, ext := ext,
                    hasValidate := !rules.isEmpty } }

/-- message-typed field pointing at an inline type already converted (`ref.Inline`) -/
def msgInlField (inner : Eff) (typeName ext : Str) (rules : Rules) (lr : Bool) : BF :=
  { eff := inner ++ j5Ext ++ validateWithImport (!rules.isEmpty) ++ listRulesEff lr,
    res := some { type := .message, typeName := typeName, ext := ext,
                  hasValidate := !rules.isEmpty },
    walk := inner }

/-- enum field once the `EnumRef` is known -/
def enumFieldWith (pre walk : Eff) (typeName : Str) (pfx : Str) (names : List Str) (rules : Rules)
    (lr : Option (List Str)) : BF :=
  if !mapValuesOk pfx names (enumRuleVals rules) then { eff := pre ++ j5Ext, walk := walk } else
  -- `fix: b6c593a`: the default filters of the list rules go through `EnumRef.mapValues` too
  -- (after `(buf.validate.field)` is set and its file imported)
  if !mapValuesOk pfx names (lr.getD []) then
    { eff := pre ++ j5Ext ++ validateWithImport true, walk := walk } else
  { eff := pre ++ j5Ext ++ validateWithImport true ++ listRulesEff lr.isSome,
    res := some { type := .enum, typeName := typeName, ext := b!"enum", hasValidate := true },
    walk := walk }

def objExt (flatten : Bool) : Str := if flatten then b!"object+flatten" else b!"object"

/-- result of converting one property -/
structure PR where
  eff : Eff := {}                 -- inline nested types, imports, errors, panics
  entries : List MsgSkel := []    -- map-entry messages (`ww.parentContext.addMessage(mb)`)
  fld : Option FieldSkel := none  -- `none` ⇔ `buildProperty` returned an error

instance : Inhabited PR := ⟨{}⟩

/-- results of converting a property list -/
structure PRs where
  eff : Eff := {}
  entries : List MsgSkel := []
  flds : List FieldSkel := []

instance : Inhabited PRs := ⟨{}⟩

/-- the tail of `buildProperty` after the type switch: required / optional / names / number -/
def finishProperty (name : Str) (required explicitlyOptional : Bool) (number : Nat)
    (inOneof : Bool) (pre : Eff) (entries : List MsgSkel) (r : FieldRes) (repeated : Bool) : PR :=
  let req := required || r.primaryKey
  let effReq :=
    if req then
      validateWithImport true ++ Eff.imp j5ExtImport
    else {}
  if explicitlyOptional && req then { eff := pre ++ effReq ++ Eff.err, entries := entries } else
  { eff := pre ++ effReq, entries := entries,
    fld := some
      { name := toSnake name, jsonName := name, number := number, type := r.type,
        repeated := repeated, p3opt := explicitlyOptional, typeName := r.typeName,
        oneof := if inOneof then some 0 else none, req := req, ext := r.ext } }

/-- message descriptor of an object / oneof, `blankMessage` + options -/
def mkMsg (name : Str) (isOneof : Bool) (psm : Option Psm) (flds : List FieldSkel)
    (msgs : List MsgSkel) (enums : List EnumSkel) : MsgSkel :=
  .mk name (if isOneof then .oneof else .object) psm flds msgs enums

/-- the map-entry message of `buildProperty` -/
def mkEntry (entryName : Str) (item : FieldRes) : MsgSkel :=
  .mk entryName .mapentry none
    [ { name := b!"key", jsonName := [], number := 1, type := .string, repeated := false,
        p3opt := false, typeName := [], oneof := none, req := false, ext := [] },
      { name := b!"value", jsonName := [], number := 2, type := item.type, repeated := false,
        p3opt := false, typeName := item.typeName, oneof := none, req := false, ext := item.ext } ]
    [] []

/-- imports that `visitObjectNode` / `visitOneofNode` add for the message itself -/
def msgEff (psm : Option Psm) : Eff :=
  when psm.isSome (Eff.imp j5ExtImport) ++ Eff.imp j5ExtImport ++ Eff.use j5ExtImport

mutual
/-- `buildFieldNode` (visits inline types) followed by `buildField`.
`np` = `NestPath()` of the message that owns the property; `defName` = default nesting name. -/
def bField (c : Ctx) (np : List Str) (defName : Str) : Field → BF
  | .objectRef pkg schema flatten rules => msgRefField c pkg schema (objExt flatten) rules false
  | .oneofRef pkg schema rules lr => msgRefField c pkg schema b!"oneof" rules lr
  | .enumRef pkg schema rules lr =>
    match refField c pkg schema true with
    | (e, none) => { eff := e }
    | (e, some t) =>
      match t.kind with
      | .enum pfx names => enumFieldWith e {} t.protoTypeName pfx names rules lr
      | .message _ => { eff := e }
  | .objectInl name props flatten rules =>
    let nm := if name = [] then defName else name
    let inner := bProps c (np ++ [nm]) false 1 props
    let msg := mkMsg nm false none inner.flds inner.eff.msgs inner.eff.enums
    let e : Eff := { msgs := [msg], imports := (msgEff none).imports ++ inner.eff.imports,
                     errs := inner.eff.errs, panic := inner.eff.panic,
                     uses := (msgEff none).uses ++ inner.eff.uses }
    msgInlField e (relName np nm) (objExt flatten) rules false
  | .oneofInl name props rules lr =>
    let nm := if name = [] then defName else name
    let inner := bProps c (np ++ [nm]) true 1 props
    let msg := mkMsg nm true none inner.flds inner.eff.msgs inner.eff.enums
    -- map entries of a oneof go to the oneof's own parent context, before the oneof message
    let e : Eff := { msgs := inner.entries ++ [msg],
                     imports := (msgEff none).imports ++ inner.eff.imports,
                     errs := inner.eff.errs, panic := inner.eff.panic,
                     uses := (msgEff none).uses ++ inner.eff.uses }
    msgInlField e (relName np nm) b!"oneof" rules lr
  | .enumInl e rules lr =>
    let e' : EnumDecl := if e.name = [] then { e with name := defName } else e
    -- `enumTKind` always returns `.enum`; the `.message` arm is never taken
    match enumTKind e' with
    | .enum pfx names =>
      enumFieldWith { enums := [convEnum e'] } { enums := [convEnum e'] } (relName np e'.name) pfx
        names rules lr
    | .message _ => {}
  | .array items _ =>
    -- `buildFieldNode` still visits inline types below; `buildField` then fails
    let inner := bField c np defName items
    { eff := inner.walk, walk := inner.walk }
  | .map items _ =>
    let inner := bField c np defName items
    { eff := inner.walk, walk := inner.walk }
  | f => (scalarField f).getD {}

/-- `propertyNode.accept` + `buildProperty` -/
def bProperty (c : Ctx) (np : List Str) (inOneof : Bool) (number : Nat) : Property → PR
  | .mk name required explicitlyOptional schema =>
    let defName := toCamel name
    match schema with
    | .map items mrules =>
      let item := bField c np defName items
      match item.res with
      | none => { eff := item.eff ++ Eff.err }
      | some r =>
        let entryName := mapName (toSnake name)
        -- `fix: d9448b1`: like an array, the map field carries `(j5.ext.v1.field).map` and, when
        -- the value has a `(buf.validate.field)` or the map has rules, `map` rules wrapping it
        let hv := r.hasValidate || !mrules.isEmpty
        let eff := item.eff ++ j5Ext ++ validateWithImport hv
        finishProperty name required explicitlyOptional number inOneof eff
          [mkEntry entryName r]
          { type := .message, typeName := entryName, ext := b!"map", hasValidate := hv } true
    | .array items arules =>
      let item := bField c np defName items
      match item.res with
      | none => { eff := item.eff ++ Eff.err }
      | some r =>
        -- repeated rules wrap the item's (buf.validate.field) when it has one or the array has rules
        let hv := r.hasValidate || !arules.isEmpty
        let eff := item.eff ++ j5Ext ++ validateWithImport hv
        finishProperty name required explicitlyOptional number inOneof eff []
          { r with ext := b!"array", hasValidate := hv } true
    | f =>
      let b := bField c np defName f
      match b.res with
      | none => { eff := b.eff ++ Eff.err }
      | some r => finishProperty name required explicitlyOptional number inOneof b.eff [] r false

/-- `RangeProperties` with the `Property` callback of `visitObjectNode` / `visitOneofNode`;
`number` is the field number of the first property (`mapProperties` counts from 1) -/
def bProps (c : Ctx) (np : List Str) (inOneof : Bool) (number : Nat) : List Property → PRs
  | [] => {}
  | p :: ps =>
    let r := bProperty c np inOneof number p
    let rs := bProps c np inOneof (number + 1) ps
    -- in an object the map entry lands in the message itself, right after the property's inline
    -- types; in a oneof it is handed to the enclosing context (`buildProperty(ww, …)`)
    { eff := (if inOneof then r.eff else { r.eff with msgs := r.eff.msgs ++ r.entries }) ++ rs.eff,
      entries := (if inOneof then r.entries else []) ++ rs.entries,
      flds := (match r.fld with | some f => [f] | none => []) ++ rs.flds }
end

end J5V.Compile
