import J5V.Compile.LinkImports
import J5V.Compile.ValidPkg
import J5V.Compile.UsesAll
/-!
# The link step, arm by arm (core only)

`linkFiles` succeeds iff none of its five failure arms is taken. `linkFiles_ok_of` states this
(one direction) in terms that separate the arms; `compileLinked_ok_of_bridges` discharges three of
them from the sources for valid bundles with a file rank — import cycle (`link_acyclic`), import
not found (`loadPkg_imports_lookup`), used extension file not imported
(`convertFile_uses_imported`) — and leaves the other two as explicit conditions on the generated
files: no duplicate symbol over the linked set (`NoDupSyms`) and scoped resolution of every type
name (`NamesResolve`).

The cycle arm: `linkFiles` first checks that no file handed to the linker lies on an import cycle
(`searchLinker`'s `CircularDependencyError`). Package-level acyclicity (`rankOk`, part of
`ValidBundle`) is not enough: two files of ONE package that refer to each other's types import
each other. The source-level condition is a rank on generated file names (`fileRankOk`, a `Bool`):
import constants have rank 0, every main file a positive rank below its `service` / `topic`
sub-package files, and every reference occurring in a source file resolves — in the resolver
computed from the sources — into the file itself or into a file of smaller rank.

`resolveMsgs` walks the message tree carrying the stack of enclosing message names. Flattened: the
list of *sites* — (scope stack, field) for every field of every (nested) message — and
`resolveMsgs … ≠ none` iff the type name at every site resolves. So the open bridge `NamesResolve`
is a statement about each site and each rpc separately, to which `C07_link_relative_resolves` /
`C07_link_absolute_resolves` apply one at a time.
-/
namespace J5V.Compile
open J5V.Go

/-! ## no import cycle: cycles and ranks -/

theorem reachesSelf_rank (univ : List LFile) (rk : Str → Nat)
    (h : ∀ g ∈ univ, ∀ d ∈ g.deps, rk d < rk g.name) (start : Str) :
    ∀ (fuel : Nat) (cur : Str), reachesSelf univ start fuel cur = true → rk start < rk cur := by
  intro fuel
  induction fuel with
  | zero => intro cur hc; simp [reachesSelf] at hc
  | succ n ih =>
    intro cur hc
    rw [reachesSelf] at hc
    cases hf : univ.find? (·.name = cur) with
    | none => simp [hf] at hc
    | some f =>
      rw [hf] at hc
      simp only [List.any_eq_true, Bool.or_eq_true, decide_eq_true_eq] at hc
      obtain ⟨d, hd, hcase⟩ := hc
      have hfm : f ∈ univ := List.mem_of_find?_eq_some hf
      have hfn : f.name = cur := by simpa using List.find?_some hf
      have hlt := h f hfm d hd
      rw [hfn] at hlt
      rcases hcase with rfl | hr
      · exact hlt
      · exact Nat.lt_trans (ih d hr) hlt

theorem no_cycle_of_rank (univ : List LFile) (rk : Str → Nat)
    (h : ∀ g ∈ univ, ∀ d ∈ g.deps, rk d < rk g.name) (files : List FileSkel) (n : Nat) :
    files.any (fun f => reachesSelf univ f.name n f.name) = false := by
  rw [Bool.eq_false_iff]
  intro hany
  obtain ⟨f, _, hf⟩ := List.any_eq_true.mp hany
  exact Nat.lt_irrefl _ (reachesSelf_rank univ rk h f.name n f.name hf)

/-! ## the source-level rank condition -/

def fileRankOkSrc (b : Bundle) (rk : Str → Nat) (p : Pkg) : SrcFile → Bool
  | .proto _ _ _ => true
  | .j5s path imports elems _ =>
    let main := path ++ b!".proto"
    let pkg := packageFromFilename main
    match j5Imports pkg imports with
    | .ok im =>
      decide (0 < rk main) && decide (rk main < rk (subPackageFileName main b!"service")) &&
        decide (rk main < rk (subPackageFileName main b!"topic")) &&
        (fileRefs pkg elems).all fun r =>
          match resolveTypeNoImport im (resolverOf b p) r.1 r.2 with
          | some t => decide (t.file = main) || decide (rk t.file < rk main)
          | none => true
    | _ => true

/-- decidable, on the sources alone: `rk` is a file rank for the bundle -/
def fileRankOk (b : Bundle) (rk : Str → Nat) : Bool :=
  constImports.all (fun i => rk i = 0) && b.pkgs.all fun p => p.files.all (fileRankOkSrc b rk p)

theorem genBy_rank (b : Bundle) (rk : Str → Nat) (hrk : fileRankOk b rk = true) (g : FileSkel)
    (hg : GenBy b g) : ∀ d ∈ g.deps, rk d < rk g.name := by
  obtain ⟨q, hq, path, imports, elems, decl, hsrc, fs, hconv, hgfs⟩ := hg
  simp only [fileRankOk, Bool.and_eq_true, List.all_eq_true, decide_eq_true_eq] at hrk
  obtain ⟨hconst, hpk⟩ := hrk
  have hsrcok := hpk q hq _ hsrc
  obtain ⟨im, hj, hfrom⟩ := convertFile_deps_from (resolverOf b q) path imports elems fs hconv
  obtain ⟨hname, hself⟩ := convertFile_names (resolverOf b q) path imports elems fs hconv g hgfs
  simp only [fileRankOkSrc, hj, Bool.and_eq_true, decide_eq_true_eq, List.all_eq_true] at hsrcok
  obtain ⟨⟨⟨hpos, hsvc⟩, htop⟩, hrefs⟩ := hsrcok
  have hmainle : rk (path ++ b!".proto") ≤ rk g.name := by
    rcases hname with h | h | h <;> rw [h]
    · exact Nat.le_refl _
    · exact Nat.le_of_lt hsvc
    · exact Nat.le_of_lt htop
  intro d hd
  rcases hfrom g hgfs d hd with hc | ⟨pkg, schema, t, href, hres, rfl⟩
  · rw [hconst d hc]
    exact Nat.lt_of_lt_of_le hpos hmainle
  · have := hrefs (pkg, schema) href
    simp only [hres, Bool.or_eq_true, decide_eq_true_eq] at this
    rcases this with h | h
    · -- the reference points into the main file: `g` is a sub-package file
      rcases hname with hn | hn | hn
      · exact absurd (by rw [hn, ← h]; exact hd) hself
      · rw [hn, h]; exact hsvc
      · rw [hn, h]; exact htop
    · exact Nat.lt_of_lt_of_le h hmainle

/-- **no import cycle.** In a valid bundle with a file rank, the cycle check of `linkFiles` passes
for every package: no file handed to the linker reaches itself through imports. -/
theorem link_acyclic (b : Bundle) (r : Str → Nat) (hv : ValidBundle b r) (rk : Str → Nat)
    (hrk : fileRankOk b rk = true) (p : Pkg) (hp : p ∈ b.pkgs) :
    ∃ l, loadPkg b (b.pkgs.length + 1) [] p.name = .ok l ∧
      ∀ n, (sortFiles l.files).any (fun f =>
        reachesSelf ((sortFiles l.files).map (·.lfile) ++ (l.depFiles.map (·.lfile) ++ l.protos.map protoLFile)
          ++ builtinFiles) f.name n f.name) = false := by
  obtain ⟨l, hl, _, _, hgen⟩ := load_accepts b r hv (b.pkgs.length + 1) [] p.name (hv.2.1 _)
    (by intro c hc; cases hc) (Or.inl (by rw [(hv.2.2.2 p hp).1]; rfl))
  refine ⟨l, hl, fun n => no_cycle_of_rank _ rk ?_ _ n⟩
  intro g hg d hd
  simp only [List.mem_append, List.mem_map] at hg
  rcases hg with ((⟨f, hf, rfl⟩ | ⟨f, hf, rfl⟩ | ⟨pr, _, rfl⟩) | hbi)
  · exact genBy_rank b rk hrk f (hgen f (List.mem_append.mpr (Or.inl
      ((sortFiles_perm_self l.files).mem_iff.mp hf)))) d hd
  · exact genBy_rank b rk hrk f (hgen f (List.mem_append.mpr (Or.inr hf))) d hd
  · obtain ⟨a, b', c', d'⟩ := pr
    simp [protoLFile] at hd
  · have : ∀ g ∈ builtinFiles, g.deps = [] := by decide +kernel
    rw [this g hbi] at hd
    cases hd

/-! ## the five arms -/

/-- the files visible from `f`: itself, then its direct imports as found in the universe -/
def visOf (univ : List LFile) (f : FileSkel) : List LFile :=
  f.lfile :: ((f.deps.mapM fun d => univ.find? (·.name = d)).getD [])

/-- arm "type name does not resolve" not taken for `f` -/
def namesResolve (univ : List LFile) (f : FileSkel) : Bool :=
  (resolveMsgs f.lfile (visOf univ f) [] f.pkg f.msgs).isSome &&
    (f.svcs.mapM (resolveSvc f.lfile (visOf univ f))).isSome

def NamesResolve (univ : List LFile) (f : FileSkel) : Prop := namesResolve univ f = true

/-- arm "duplicate symbol" not taken -/
def NoDupSyms (univ : List LFile) (files : List FileSkel) : Prop :=
  hasDup ((linkedSet univ files).flatMap fun f => f.syms.map (·.1)) = false

theorem hasDup_append_false (a b : List Str) (h : hasDup (a ++ b) = false) :
    hasDup a = false ∧ hasDup b = false := by
  induction a with
  | nil => exact ⟨rfl, by simpa using h⟩
  | cons x rest ih =>
    simp only [List.cons_append, hasDup, Bool.or_eq_false_iff] at h ⊢
    obtain ⟨h1, h2⟩ := h
    obtain ⟨i1, i2⟩ := ih h2
    refine ⟨⟨?_, i1⟩, i2⟩
    rw [Bool.eq_false_iff] at h1 ⊢
    intro hc
    apply h1
    simp only [List.contains_iff_mem, List.mem_append] at hc ⊢
    exact Or.inl hc

theorem hasDup_flatMap_false {α : Type} (l : List α) (g : α → List Str)
    (h : hasDup (l.flatMap g) = false) : ∀ x ∈ l, hasDup (g x) = false := by
  induction l with
  | nil => intro x hx; cases hx
  | cons a rest ih =>
    intro x hx
    simp only [List.flatMap_cons] at h
    obtain ⟨h1, h2⟩ := hasDup_append_false _ _ h
    rcases List.mem_cons.mp hx with rfl | hx
    · exact h1
    · exact ih h2 x hx

/-- `linkFile` succeeds iff none of its four arms is taken -/
theorem linkFile_isSome_iff (univ : List LFile) (f : FileSkel) :
    (linkFile univ f).isSome = true ↔
      (f.deps.mapM fun d => univ.find? (·.name = d)).isSome = true ∧
      hasDup (f.lfile.syms.map (·.1)) = false ∧
      (f.uses.all fun u => u = f.name || f.deps.contains u) = true ∧
      NamesResolve univ f := by
  unfold linkFile NamesResolve namesResolve visOf
  cases hd : (f.deps.mapM fun d => univ.find? (·.name = d)) with
  | none => simp
  | some deps =>
    simp only [Option.isSome_some, true_and, Option.getD_some]
    cases hasDup (f.lfile.syms.map (·.1))
    · cases (f.uses.all fun u => u = f.name || f.deps.contains u)
      · simp
      · cases resolveMsgs f.lfile (f.lfile :: deps) [] f.pkg f.msgs <;>
          cases f.svcs.mapM (resolveSvc f.lfile (f.lfile :: deps)) <;> simp
    · simp

theorem linkFiles_ok_iff (others : List LFile) (files : List FileSkel) :
    (∃ out, linkFiles others files = .ok out) ↔
      (files.any fun f => reachesSelf (files.map (·.lfile) ++ others ++ builtinFiles) f.name
        (files.map (·.lfile) ++ others ++ builtinFiles).length f.name) = false ∧
      NoDupSyms (files.map (·.lfile) ++ others ++ builtinFiles) files ∧
      ∀ f ∈ files, (linkFile (files.map (·.lfile) ++ others ++ builtinFiles) f).isSome = true := by
  unfold linkFiles NoDupSyms
  simp only []
  cases files.any fun f => reachesSelf (files.map (·.lfile) ++ others ++ builtinFiles) f.name
    (files.map (·.lfile) ++ others ++ builtinFiles).length f.name
  · cases hasDup ((linkedSet (files.map (·.lfile) ++ others ++ builtinFiles) files).flatMap fun f =>
      f.syms.map (·.1))
    · rw [← mapM_isSome_iff]
      cases files.mapM (linkFile (files.map (·.lfile) ++ others ++ builtinFiles)) <;> simp
    · simp
  · simp

/-- **`linkFiles` succeeds when none of its five arms is taken** -/
theorem linkFiles_ok_of (others : List LFile) (files : List FileSkel)
    (hcyc : ∀ n, files.any (fun f =>
      reachesSelf (files.map (·.lfile) ++ others ++ builtinFiles) f.name n f.name) = false)
    (hdup : NoDupSyms (files.map (·.lfile) ++ others ++ builtinFiles) files)
    (himp : ∀ f ∈ files, (f.deps.mapM fun d =>
      (files.map (·.lfile) ++ others ++ builtinFiles).find? (·.name = d)).isSome = true)
    (huses : ∀ f ∈ files, (f.uses.all fun u => u = f.name || f.deps.contains u) = true)
    (hres : ∀ f ∈ files, NamesResolve (files.map (·.lfile) ++ others ++ builtinFiles) f) :
    ∃ out, linkFiles others files = .ok out := by
  refine (linkFiles_ok_iff others files).mpr ⟨hcyc _, hdup, fun f hf =>
    (linkFile_isSome_iff _ f).mpr ⟨himp f hf, ?_, huses f hf, hres f hf⟩⟩
  -- the file's own symbols are among those of the linked set
  apply hasDup_flatMap_false _ _ hdup f.lfile
  unfold linkedSet
  exact List.mem_append_left _ (List.mem_map_of_mem hf)

/-- **Acceptance including the link step, three arms from the sources.** Valid bundle, file rank,
plain services carry no annotation: `CompilePackage` succeeds INCLUDING the link step provided the
two remaining arms are not taken on the generated files (`NoDupSyms`, `NamesResolve`). -/
theorem compileLinked_ok_of_bridges (b : Bundle) (r : Str → Nat) (hv : ValidBundle b r)
    (rk : Str → Nat) (hrk : fileRankOk b rk = true) (p : Pkg) (hp : p ∈ b.pkgs)
    (hplain : ∀ path imports elems decl, SrcFile.j5s path imports elems decl ∈ p.files →
      ∀ s, Elem.service s ∈ elems → s.sopt = .none) :
    ∃ l, loadPkg b (b.pkgs.length + 1) [] p.name = .ok l ∧
      compilePkg b p.name = .ok (sortFiles l.files) ∧
      (NoDupSyms (linkUniv l) (sortFiles l.files) →
        (∀ f ∈ sortFiles l.files, NamesResolve (linkUniv l) f) →
        ∃ out, compileLinked b p.name = .ok out) := by
  obtain ⟨l, hl, hcyc⟩ := link_acyclic b r hv rk hrk p hp
  have hfind : b.find p.name = some p := (hv.2.2.2 p hp).1
  refine ⟨l, hl, by simp [compilePkg, hl], ?_⟩
  intro hdup hres
  have himp := loadPkg_imports_lookup b b.pkgs.length [] p.name p l hfind hl
  have huses : ∀ f ∈ sortFiles l.files, (f.uses.all fun u => u = f.name || f.deps.contains u) = true := by
    intro f hfm
    obtain ⟨path, imports, elems, decl, fs, hsrc, hconv, hfs⟩ :=
      loadPkg_files_from b b.pkgs.length [] p.name p l hfind hl f ((sortFiles_perm_self l.files).mem_iff.mp hfm)
    have h := convertFile_uses_imported l.resolver path imports elems fs hconv
      (hplain path imports elems decl hsrc) f hfs
    simp only [List.all_eq_true, Bool.or_eq_true, decide_eq_true_eq, List.contains_iff_mem]
    exact h
  obtain ⟨out, hout⟩ := linkFiles_ok_of (l.depFiles.map (·.lfile) ++ l.protos.map protoLFile)
    (sortFiles l.files) hcyc hdup himp huses hres
  exact ⟨out, by simp [compileLinked, hl, hout]⟩

/-- conversely: a successful link took neither the duplicate-symbol nor the resolution arm -/
theorem linkFiles_ok_inv (others : List LFile) (files out : List FileSkel)
    (h : linkFiles others files = .ok out) :
    NoDupSyms (files.map (·.lfile) ++ others ++ builtinFiles) files ∧
      ∀ f ∈ files, NamesResolve (files.map (·.lfile) ++ others ++ builtinFiles) f :=
  have ⟨_, hdup, hall⟩ := (linkFiles_ok_iff others files).mp ⟨out, h⟩
  ⟨hdup, fun f hf => ((linkFile_isSome_iff _ f).mp (hall f hf)).2.2.2⟩

/-! ## `NamesResolve`, site by site -/

mutual
/-- every field of a message tree with the scopes `resolveMsg` resolves it in -/
def msgSites (scopes : List Str) (pfx : Str) : MsgSkel → List (List Str × FieldSkel)
  | .mk name _ _ fields msgs _ =>
    fields.map (fun f => (scopes ++ [qual pfx name], f)) ++
      msgsSites (scopes ++ [qual pfx name]) (qual pfx name) msgs
def msgsSites (scopes : List Str) (pfx : Str) : List MsgSkel → List (List Str × FieldSkel)
  | [] => []
  | m :: rest => msgSites scopes pfx m ++ msgsSites scopes pfx rest
end

mutual
theorem resolveMsg_isSome_iff (self : LFile) (vis : List LFile) (scopes : List Str) (pfx : Str) :
    ∀ m : MsgSkel, (resolveMsg self vis scopes pfx m).isSome = true ↔
      ∀ s ∈ msgSites scopes pfx m, (resolveField self vis s.1 s.2).isSome = true
  | .mk name kind psm fields msgs enums => by
    rw [resolveMsg, msgSites]
    simp only [List.mem_append, List.mem_map, or_imp, forall_and, forall_exists_index, and_imp,
      forall_apply_eq_imp_iff₂]
    rw [← mapM_isSome_iff (resolveField self vis (scopes ++ [qual pfx name])) fields,
      ← resolveMsgs_isSome_iff self vis (scopes ++ [qual pfx name]) (qual pfx name) msgs]
    cases fields.mapM (resolveField self vis (scopes ++ [qual pfx name])) <;>
      cases resolveMsgs self vis (scopes ++ [qual pfx name]) (qual pfx name) msgs <;> simp
theorem resolveMsgs_isSome_iff (self : LFile) (vis : List LFile) (scopes : List Str) (pfx : Str) :
    ∀ ms : List MsgSkel, (resolveMsgs self vis scopes pfx ms).isSome = true ↔
      ∀ s ∈ msgsSites scopes pfx ms, (resolveField self vis s.1 s.2).isSome = true
  | [] => by simp [resolveMsgs, msgsSites]
  | m :: rest => by
    rw [resolveMsgs, msgsSites]
    simp only [List.mem_append, or_imp, forall_and]
    rw [← resolveMsg_isSome_iff self vis scopes pfx m, ← resolveMsgs_isSome_iff self vis scopes pfx rest]
    cases resolveMsg self vis scopes pfx m <;> cases resolveMsgs self vis scopes pfx rest <;> simp
end

theorem resolveSvc_isSome_iff (self : LFile) (vis : List LFile) (s : SvcSkel) :
    (resolveSvc self vis s).isSome = true ↔
      ∀ m ∈ s.methods, (resolveType self vis [] .msg m.input).isSome = true ∧
        (resolveType self vis [] .msg m.output).isSome = true := by
  unfold resolveSvc
  rw [Option.isSome_map, mapM_isSome_iff]
  constructor
  · intro h m hm
    have := h m hm
    cases hi : resolveType self vis [] .msg m.input <;>
      cases ho : resolveType self vis [] .msg m.output <;> simp [hi, ho] at this ⊢
  · intro h m hm
    obtain ⟨h1, h2⟩ := h m hm
    cases hi : resolveType self vis [] .msg m.input <;>
      cases ho : resolveType self vis [] .msg m.output <;> simp [hi, ho] at h1 h2 ⊢

end J5V.Compile
