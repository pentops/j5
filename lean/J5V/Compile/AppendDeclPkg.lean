import J5V.Compile.Congr
import J5V.Compile.EvolveRel
/-!
# Appending a declaration to one file; the references of a source file (C13) — core only

One file, same resolver: what the existing declarations produced stays (`convertFile_append_decl`).
For a package the resolver changes with the edit; what the package theorem (`C13_append_decl_pkg`,
Props/C13.lean) asks is that the references of the *existing* declarations resolve as before:
`AgreeFile`, true when the names the edit introduces are fresh.
-/
namespace J5V.Compile
open J5V.Go

/-- **Append a declaration**: when a file compiles before and after a declaration is added at its
end (same resolver), every file generated before is still generated, under the same name and
package, and its messages, enums and services are a prefix of the new ones — nothing that the
existing declarations produced moves or changes: the new element only adds steps at the end of the
walk (`filesOf_append_le`). -/
theorem convertFile_append_decl (res : Resolver) (path : Str) (imports : List Import)
    (elems : List Elem) (e : Elem) (fs fs' : List FileSkel)
    (h : convertFile res path imports elems = .ok fs)
    (h' : convertFile res path imports (elems ++ [e]) = .ok fs') :
    ∀ f ∈ fs, ∃ f' ∈ fs', f.Le f' := by
  obtain ⟨im, hj, _, _, rfl⟩ := convertFile_ok res path imports elems fs h
  obtain ⟨im', hj', _, _, rfl⟩ := convertFile_ok res path imports (elems ++ [e]) fs' h'
  obtain rfl : im = im' := Outcome.ok.inj (hj.symm.trans hj')
  simp only [fileSteps, List.flatMap_append]
  exact filesOf_append_le _ _ _ _

/-- references of one source file -/
def srcFileRefs : SrcFile → List (Str × Str)
  | .proto _ _ _ => []
  | .j5s path _ elems _ => fileRefs (packageFromFilename (path ++ b!".proto")) elems

/-- two resolvers agree on the references of a source file, looked up through the file's own
import map -/
def AgreeFile (res res' : Resolver) : SrcFile → Prop
  | .proto _ _ _ => True
  | .j5s path imports elems _ =>
    ∀ im, j5Imports (packageFromFilename (path ++ b!".proto")) imports = .ok im →
      AgreeOn { resolve := resolveTypeNoImport im res } { resolve := resolveTypeNoImport im res' }
        (fileRefs (packageFromFilename (path ++ b!".proto")) elems)

theorem FileSkel.Le.refl (f : FileSkel) : f.Le f :=
  ⟨rfl, rfl, List.prefix_refl _, List.prefix_refl _, List.prefix_refl _⟩

end J5V.Compile
