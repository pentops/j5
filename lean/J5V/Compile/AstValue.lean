import J5V.Go.Outcome
import J5V.Compile.Str
/-!
# AstValue — `lib/j5reflect/value_ast.go` + `internal/bcl/internal/parser/value.go` (core only)

`scalarReflectFromAST` converts a BCL literal token to the proto scalar of an attribute. The
integer paths go through `strconv.ParseInt/ParseUint` (base 10), modelled here on byte strings.
Floats are an oracle type and are not modelled.
-/
namespace J5V.Compile
open J5V.Go

abbrev Bytes := Str

/-! ## strconv, base 10 -/

def isDigitB (c : Nat) : Bool := decide (48 ≤ c) && decide (c ≤ 57)

def fmtNatAux : Nat → Nat → Str → Str
  | 0, _, acc => acc
  | fuel + 1, n, acc =>
    if n < 10 then (48 + n) :: acc else fmtNatAux fuel (n / 10) ((48 + n % 10) :: acc)

/-- `strconv.FormatUint(n, 10)` — the text of a decimal literal -/
def fmtNat (n : Nat) : Str := fmtNatAux (n + 1) n []

def pdStep (acc : Option Nat) (c : Nat) : Option Nat :=
  match acc with
  | none => none
  | some n => if isDigitB c then some (n * 10 + (c - 48)) else none

/-- all bytes ASCII digits, at least one: the value (unbounded) -/
def parseDigits : Str → Option Nat
  | [] => none
  | s => s.foldl pdStep (some 0)

/-- `strconv.ParseUint(s, 10, bits)`; `none` = ErrSyntax / ErrRange -/
def parseUint (s : Str) (bits : Nat) : Option Nat :=
  match parseDigits s with
  | some n => if n < 2 ^ bits then some n else none
  | none => none

/-- `strconv.ParseInt(s, 10, bits)` -/
def parseInt (s : Str) (bits : Nat) : Option Int :=
  match s with
  | [] => none
  | c :: rest =>
    let (neg, body) : Bool × Str :=
      if c = 43 then (false, rest) else if c = 45 then (true, rest) else (false, s)
    match parseDigits body with
    | none => none
    | some n =>
      if neg then (if n ≤ 2 ^ (bits - 1) then some (-(n : Int)) else none)
      else (if n < 2 ^ (bits - 1) then some (n : Int) else none)

/-- BCL token types a `parser.Value` can carry -/
inductive TokType where
  | int | decimal | string | description | ident | regex | bool | other
  deriving Repr, DecidableEq, Inhabited

structure AstTok where
  type : TokType
  lit : Bytes

/-- target scalar kinds of `scalarReflectFromAST` (no floats) -/
inductive ScalarFmt where
  | bool | string | key | int32 | int64 | uint32 | uint64
  | other                      -- bytes, timestamp, decimal, date, …: "unsupported scalar type"
  deriving Repr, DecidableEq, Inhabited

inductive AstScalar where
  | bool (b : Bool)
  | str (s : Bytes)
  | int (v : Int)
  | uint (v : Nat)
  deriving Repr, DecidableEq

/-- `Value.AsInt(size)` -/
def asInt (t : AstTok) (size : Nat) : Outcome Int :=
  if t.type ≠ .int then .err "type" else
  match parseInt t.lit size with
  | some v => .ok v
  | none => .err "range"

/-- `Value.AsUint(size)` -/
def asUint (t : AstTok) (size : Nat) : Outcome Nat :=
  if t.type ≠ .int then .err "type" else
  match parseUint t.lit size with
  | some v => .ok v
  | none => .err "range"

/-- `Value.AsString()` -/
def asString (t : AstTok) : Outcome Bytes :=
  if t.type = .string || t.type = .description || t.type = .ident || t.type = .regex then .ok t.lit
  else .err "type"

/-- `Value.AsBool()` -/
def asBool (t : AstTok) : Outcome Bool :=
  if t.type = .bool then .ok (t.lit = b!"true") else .err "type"

/-- the bit size `scalarReflectFromAST` passes for each integer format (64 for INT64: mirrors Go
commit `fix: 6beb7c7`) -/
def astBits : ScalarFmt → Nat
  | .int32 => 32 | .int64 => 64 | .uint32 => 32 | .uint64 => 64
  | _ => 0

/-- `scalarReflectFromAST` -/
def astToScalar (fmt : ScalarFmt) (t : AstTok) : Outcome AstScalar :=
  match fmt with
  | .bool => (asBool t).map .bool
  | .string => (asString t).map .str
  | .key => (asString t).map .str
  | .int32 => (asInt t (astBits .int32)).map .int
  | .int64 => (asInt t (astBits .int64)).map .int
  | .uint32 => (asUint t (astBits .uint32)).map .uint
  | .uint64 => (asUint t (astBits .uint64)).map .uint
  | .other => .err "unsupported"

/-- the INT token the lexer produces for the decimal literal `n` (BCL has no negative literals) -/
def intLit (n : Nat) : AstTok := ⟨.int, fmtNat n⟩

/-- is `n` a value of the format -/
def inRange : ScalarFmt → Nat → Bool
  | .int32, n => n < 2 ^ 31
  | .int64, n => n < 2 ^ 63
  | .uint32, n => n < 2 ^ 32
  | .uint64, n => n < 2 ^ 64
  | _, _ => false

def intValue : ScalarFmt → Nat → AstScalar
  | .uint32, n => .uint n
  | .uint64, n => .uint n
  | _, n => .int n

end J5V.Compile
