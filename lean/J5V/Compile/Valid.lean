import J5V.Compile.ExactProofs
import J5V.Compile.FieldInv
/-!
# A decidable "within the supported language" predicate, and acceptance by the converter (core only)

`okProps c ps` says, by recursion over the source alone (the conversion context `c` is only asked
to resolve references): every reference resolves to a type of the right kind; `in` / `notIn` /
default-filter values of an enum field name options of the enum; no array / map directly inside
an array / map; integer `exclusive*` rules come with their bound; no float rules (recorded
finding); nothing is both required (or a primary key) and explicitly optional.
Then `buildProperty` records no error: `bProps_accepts`.
-/
namespace J5V.Compile
open J5V.Go

/-- a `key` field marked as primary key (directly or as array items: the `(j5.ext.v1.key)` option
sits on the item descriptor, which becomes the field) -/
def keyPrimary : Field → Bool
  | .key _ ek _ _ => ek.isPrimary
  | _ => false

def isPrimaryField : Field → Bool
  | .array items _ => keyPrimary items
  | f => keyPrimary f

def okRef (c : Ctx) (pkg schema : Str) : Bool :=
  match c.resolve pkg schema with
  | some t => t.kind.isMessage
  | none => false

def okEnumVals (pfx : Str) (names : List Str) (rules : Rules) (lr : Option (List Str)) : Bool :=
  mapValuesOk pfx names (enumRuleVals rules) && mapValuesOk pfx names (lr.getD [])

mutual
/-- a field as `buildField` sees it (the field of a property, or the items of an array / map);
`d` = default nesting name -/
def okField (c : Ctx) (d : Str) : Field → Bool
  | .objectRef pkg schema _ _ => okRef c pkg schema
  | .oneofRef pkg schema _ _ => okRef c pkg schema
  | .enumRef pkg schema rules lr =>
    match c.resolve pkg schema with
    | some t =>
      match t.kind with
      | .enum pfx names => okEnumVals pfx names rules lr
      | .message _ => false
    | none => false
  | .objectInl _ props _ _ => okProps c props
  | .oneofInl _ props _ _ => okProps c props
  | .enumInl e rules lr =>
    let e' : EnumDecl := if e.name = [] then { e with name := d } else e
    okEnumVals (enumPrefix e')
      ((enumPrefix e' ++ b!"UNSPECIFIED") :: (enumValues (enumPrefix e') e'.opts).map (·.1)) rules lr
  | .array _ _ => false
  | .map _ _ => false
  | .integer _ rules _ => rules.isEmpty || !intRulesErr rules
  | .float _ rules _ => rules.isEmpty
  | _ => true
def okProperty (c : Ctx) : Property → Bool
  | .mk name req opt schema =>
    !(opt && (req || isPrimaryField schema)) &&
    (match schema with
     | .array items _ => okField c (toCamel name) items
     | .map items _ => okField c (toCamel name) items
     | f => okField c (toCamel name) f)
def okProps (c : Ctx) : List Property → Bool
  | [] => true
  | p :: ps => okProperty c p && okProps c ps
end

theorem okProperty_built (c : Ctx) (name : Str) (req opt : Bool) (schema : Field) :
    okProperty c (.mk name req opt schema) =
      (!(opt && (req || isPrimaryField schema)) && okField c (toCamel name) (builtField schema)) := by
  cases schema <;> simp [okProperty, builtField]

theorem refField_of_ok (c : Ctx) (pkg schema : Str) (h : okRef c pkg schema = true) :
    ∃ t, refField c pkg schema false = (Eff.imp t.file, some t) := by
  unfold okRef at h
  unfold refField
  cases hr : c.resolve pkg schema with
  | none => simp [hr] at h
  | some t =>
    simp only [hr] at h
    exact ⟨t, by simp [h]⟩

theorem msgRefField_accepts (c : Ctx) (pkg schema ext : Str) (rules : Rules) (lr : Bool)
    (h : okRef c pkg schema = true) :
    (msgRefField c pkg schema ext rules lr).res.isSome = true ∧
    (msgRefField c pkg schema ext rules lr).eff.errs = 0 ∧
    (∀ r, (msgRefField c pkg schema ext rules lr).res = some r → r.primaryKey = false) := by
  obtain ⟨t, ht⟩ := refField_of_ok c pkg schema h
  unfold msgRefField
  rw [ht]
  refine ⟨rfl, ?_, ?_⟩
  · simp
  · intro r hr
    simp only [Option.some.injEq] at hr
    subst hr; rfl

theorem enumFieldWith_accepts (pre walk : Eff) (tn pfx : Str) (names : List Str) (rules : Rules)
    (lr : Option (List Str)) (h : okEnumVals pfx names rules lr = true) :
    (enumFieldWith pre walk tn pfx names rules lr).res.isSome = true ∧
    (enumFieldWith pre walk tn pfx names rules lr).eff.errs = pre.errs ∧
    (∀ r, (enumFieldWith pre walk tn pfx names rules lr).res = some r → r.primaryKey = false) := by
  simp only [okEnumVals, Bool.and_eq_true] at h
  unfold enumFieldWith
  simp only [h.1, h.2, Bool.not_true, Bool.false_eq_true, if_false]
  refine ⟨rfl, by simp, ?_⟩
  intro r hr
  simp only [Option.some.injEq] at hr
  subst hr; rfl

/-- scalar branches: accepted unless integer / float rules say otherwise; only `key` fields can
be primary keys -/
theorem scalarField_accepts (d : Str) (c : Ctx) (f : Field) (b : BF) (hs : scalarField f = some b)
    (hok : okField c d f = true) :
    b.res.isSome = true ∧ b.eff.errs = 0 ∧ (∀ r, b.res = some r → r.primaryKey = keyPrimary f) := by
  cases f <;> simp only [scalarField, Option.some.injEq, reduceCtorEq] at hs
  case integer fmt rules lr =>
    simp only [okField, Bool.or_eq_true, Bool.not_eq_true'] at hok
    split at hs
    · rename_i hbad
      simp only [Bool.and_eq_true, Bool.not_eq_true'] at hbad
      rcases hok with h | h
      · rw [h] at hbad; simp at hbad
      · rw [h] at hbad; simp at hbad
    · simp only [Option.some.injEq] at hs
      subst hs
      exact ⟨rfl, by simp, by intro r hr; simp only [Option.some.injEq] at hr; subst hr; rfl⟩
  case float fmt rules lr =>
    simp only [okField] at hok
    split at hs
    · rename_i hbad; simp [hok] at hbad
    · simp only [Option.some.injEq] at hs
      subst hs
      exact ⟨rfl, by simp, by intro r hr; simp only [Option.some.injEq] at hr; subst hr; rfl⟩
  all_goals
    (subst hs
     refine ⟨rfl, by simp, ?_⟩
     intro r hr
     simp only [Option.some.injEq] at hr
     subst hr
     first | rfl | simp [keyPrimary])

theorem wrapEff_errs (f : Field) (r : FieldRes) : (wrapEff f r).errs = 0 := by
  cases f <;> simp [wrapEff]

/-- `buildProperty` records no error when `buildField` below it records none, yields a result whose
primary-key flag is the field's, and the property is not both optional and required -/
theorem bProperty_accepts_of (c : Ctx) (np : List Str) (io : Bool) (n : Nat) (name : Str)
    (req opt : Bool) (schema : Field) (hopt : (opt && (req || isPrimaryField schema)) = false)
    (hb : (bField c np (toCamel name) (builtField schema)).res.isSome = true ∧
      (bField c np (toCamel name) (builtField schema)).eff.errs = 0 ∧
      ∀ r, (bField c np (toCamel name) (builtField schema)).res = some r →
        r.primaryKey = keyPrimary (builtField schema)) :
    (bProperty c np io n (.mk name req opt schema)).eff.errs = 0 := by
  obtain ⟨h1, h2, h3⟩ := hb
  rw [bProperty_eq]
  cases hres : (bField c np (toCamel name) (builtField schema)).res with
  | none => rw [hres] at h1; cases h1
  | some r =>
    have hpk : (wrapRes name schema r).primaryKey = isPrimaryField schema := by
      have := h3 r hres
      cases schema <;> first | exact this | rfl
    rw [finishProperty_errs_eq _ _ _ _ _ _ _ _ _ (hpk ▸ hopt), Eff.add_def, Eff.add_errs, h2,
      wrapEff_errs]

/-- **a field / property list within the language converts without error**; the result of a field
is there and only a `key` field is a primary key (the walk of `FieldInv.bField_bProps`, with a
predicate that looks at the result) -/
theorem bField_bProps_accepts (c : Ctx) :
    (∀ f np d, okField c d f = true →
      (bField c np d f).res.isSome = true ∧ (bField c np d f).eff.errs = 0 ∧
      (∀ r, (bField c np d f).res = some r → r.primaryKey = keyPrimary f)) ∧
    ∀ ps np io n, okProps c ps = true → (bProps c np io n ps).eff.errs = 0 := by
  apply field_induct
  case scalar => intro f b hs np d h; rw [bField_scalar c np d f b hs]; exact scalarField_accepts d c f b hs h
  case objectRef | oneofRef =>
    intro pkg schema _ _ np d h
    rw [bField]
    obtain ⟨a, b, c'⟩ := msgRefField_accepts c pkg schema _ _ _ h
    exact ⟨a, b, fun r hr => by rw [c' r hr]; rfl⟩
  case enumRef =>
    intro pkg schema rules lr np d h
    simp only [okField] at h
    cases hr : c.resolve pkg schema with
    | none => simp [hr] at h
    | some t =>
      simp only [hr] at h
      cases hk : t.kind with
      | message o => simp [hk] at h
      | enum pfx names =>
        simp only [hk] at h
        rw [bField_enumRef_eq c np d pkg schema rules lr hr hk]
        obtain ⟨a, b, c'⟩ := enumFieldWith_accepts (Eff.imp t.file) {} t.protoTypeName pfx names rules lr h
        exact ⟨a, by rw [b]; rfl, fun r hr => by rw [c' r hr]; rfl⟩
  case objectInl | oneofInl =>
    intro name props _ _ ih np d h
    rw [bField]
    exact ⟨rfl, by simp [msgInlField, ih _ _ 1 h], fun r hr => by cases hr; rfl⟩
  case enumInl =>
    intro e rules lr np d h
    rw [bField_enumInl_eq]
    obtain ⟨a, b, c'⟩ := enumFieldWith_accepts _ _ _ _ _ rules lr h
    exact ⟨a, by rw [b], fun r hr => by rw [c' r hr]; rfl⟩
  case array => intro items rules _ np d h; cases h
  case map => intro items rules _ np d h; cases h
  case nil => intro np io n _; rw [bProps_nil]
  case cons =>
    intro name req opt f ps ihf ihps np io n h
    rw [okProps, Bool.and_eq_true, okProperty_built, Bool.and_eq_true, Bool.not_eq_true'] at h
    rw [bProps_cons]
    have a := bProperty_accepts_of c np io n name req opt f h.1.1 (ihf np _ h.1.2)
    have b := ihps np io (n + 1) h.2
    cases io <;> simp [a, b]

theorem bField_accepts (c : Ctx) (np : List Str) (d : Str) :
    ∀ f : Field, okField c d f = true →
      (bField c np d f).res.isSome = true ∧ (bField c np d f).eff.errs = 0 ∧
      (∀ r, (bField c np d f).res = some r → r.primaryKey = keyPrimary f) :=
  fun f => (bField_bProps_accepts c).1 f np d

theorem bProperty_accepts (c : Ctx) (np : List Str) (io : Bool) (n : Nat) :
    ∀ p : Property, okProperty c p = true → (bProperty c np io n p).eff.errs = 0
  | .mk name req opt schema, h => by
    rw [okProperty_built, Bool.and_eq_true, Bool.not_eq_true'] at h
    exact bProperty_accepts_of c np io n name req opt schema h.1 (bField_accepts c np _ _ h.2)

theorem bProps_accepts (c : Ctx) (np : List Str) (io : Bool) (n : Nat) :
    ∀ ps : List Property, okProps c ps = true → (bProps c np io n ps).eff.errs = 0 :=
  fun ps => (bField_bProps_accepts c).2 ps np io n

/-! ## declarations, services, topics, items -/

theorem okProps_append (c : Ctx) (a b : List Property) :
    okProps c (a ++ b) = (okProps c a && okProps c b) := by
  induction a with
  | nil => simp [okProps]
  | cons p ps ih => simp [okProps, ih, Bool.and_assoc]

mutual
def okDecl (c : Ctx) : ObjDecl → Bool
  | .mk _ props nested _ => okProps c props && okNested c nested
def okNested (c : Ctx) : List Nested → Bool
  | [] => true
  | .object o :: rest => okDecl c o && okNested c rest
  | .oneof o :: rest => okDecl c o && okNested c rest
  | .enum _ :: rest => okNested c rest
end

theorem okNested_decl (c : Ctx) (io : Bool) (o : ObjDecl) (rest : List Nested) :
    okNested c (declNested io o :: rest) = (okDecl c o && okNested c rest) := by
  cases io <;> rw [declNested, okNested]

theorem convDecl_convNested_accepts (c : Ctx) :
    (∀ io o, okDecl c o = true → ∀ np virt, okProps c virt = true → (convDecl c np io virt o).errs = 0) ∧
    ∀ ns, okNested c ns = true → ∀ np, (convNested c np ns).errs = 0 := by
  apply decl_induct
  case mk =>
    intro io name props nested psm ih h np virt hv
    rw [okDecl, Bool.and_eq_true] at h
    rw [convDecl_errs, bProps_accepts c _ io 1 (virt ++ props) (by rw [okProps_append, hv, h.1]; rfl),
      ih h.2]
  case nil => intro _ np; rfl
  case decl =>
    intro io o rest iho ihr h np
    rw [okNested_decl, Bool.and_eq_true] at h
    rw [convNested_decl, Eff.add_def, Eff.add_errs, iho h.1 np [] rfl, ihr h.2]
  case enum =>
    intro e rest ihr h np
    rw [convNested, Eff.add_def, Eff.add_errs, ihr h]

theorem convDecl_accepts (c : Ctx) (np : List Str) (io : Bool) (virt : List Property)
    (hv : okProps c virt = true) :
    ∀ o : ObjDecl, okDecl c o = true → (convDecl c np io virt o).errs = 0 :=
  fun o h => (convDecl_convNested_accepts c).1 io o h np virt hv

theorem convNested_accepts (c : Ctx) (np : List Str) :
    ∀ ns : List Nested, okNested c ns = true → (convNested c np ns).errs = 0 :=
  fun ns h => (convDecl_convNested_accepts c).2 ns h np

theorem convVirtual_accepts (c : Ctx) (name : Str) (virt props : List Property) (psm : Option Psm)
    (h : okProps c (virt ++ props) = true) : (convVirtual c name virt props psm).errs = 0 := by
  rw [okProps_append, Bool.and_eq_true] at h
  unfold convVirtual
  exact convDecl_accepts c [] false virt h.1 _ (by simp [okDecl, okNested, h.2])

/-- a method within the language: request given, its fields (and the response's) valid, a verb,
every `:name` path part names a request field and no literal part holds one of `{ } * :`; a list
method has a list-shaped response -/
def okMethod (c : Ctx) (bp : Option Str) (m : Method) : Bool :=
  match m.request with
  | none => false
  | some req =>
    okProps c req &&
    (match m.response with | none => true | some res => okProps c res) &&
    decide (m.verb ≠ .unspecified) &&
    decide ((rewritePath req (resolvedPath bp m)).2 = 0) &&
    -- a list method (request takes `j5.list.v1.QueryRequest`) answers one array of objects
    (!isListRequest c req || listShaped m.response)

def okService (c : Ctx) (s : Service) : Bool := s.name.isSome && s.methods.all (okMethod c s.basePath)

theorem walkMethod_accepts (c : Ctx) (bp : Option Str) (m : Method) (h : okMethod c bp m = true) :
    (walkMethod c bp m).eff.errs = 0 := by
  unfold okMethod at h
  unfold walkMethod
  cases hr : m.request with
  | none => simp [hr] at h
  | some req =>
    simp only [hr, Bool.and_eq_true] at h
    obtain ⟨⟨⟨⟨h1, h2⟩, _⟩, _⟩, _⟩ := h
    cases hs : m.response with
    | none => simp [convVirtual_accepts c _ [] req none (by simpa using h1)]
    | some res =>
      simp only [hs] at h2
      simp [convVirtual_accepts c _ [] req none (by simpa using h1),
        convVirtual_accepts c _ [] res none (by simpa using h2)]

theorem convMethod_accepts (c : Ctx) (bp : Option Str) (m : Method) (h : okMethod c bp m = true) :
    ∀ node, (walkMethod c bp m).node = some node → (convMethod node).1.errs = 0 := by
  intro node hn
  unfold okMethod at h
  cases hr : m.request with
  | none => simp [hr] at h
  | some req =>
    simp only [hr, Bool.and_eq_true, decide_eq_true_eq] at h
    obtain ⟨⟨⟨⟨_, _⟩, hv⟩, hp⟩, _⟩ := h
    rw [walkMethod_node c bp m req hr] at hn
    simp only [Option.some.injEq] at hn
    subst hn
    unfold convMethod
    simp only [hr, hv, if_false]
    simp [hp]

theorem listMethodErr_accepts (c : Ctx) (bp : Option Str) (m : Method) (h : okMethod c bp m = true) :
    listMethodErr c m = 0 := by
  unfold okMethod at h
  unfold listMethodErr
  cases hr : m.request with
  | none => rfl
  | some req =>
    simp only [hr, Bool.and_eq_true, Bool.or_eq_true, Bool.not_eq_true'] at h
    obtain ⟨_, hl⟩ := h
    simp only []
    rcases hl with hl | hl <;> simp [hl]

theorem foldl_errs_zero {α : Type} (f : α → Eff) (l : List α) (h : ∀ a ∈ l, (f a).errs = 0) :
    (l.foldl (fun e a => e ++ f a) ({} : Eff)).errs = 0 := by
  rw [foldl_eff_errs]
  show 0 + _ = 0
  rw [Nat.zero_add]
  exact List.sum_eq_zero_iff_forall_eq_nat.mpr fun x hx => by
    obtain ⟨a, ha, rfl⟩ := List.mem_map.mp hx
    exact h a ha

theorem convService_accepts (c : Ctx) (s : Service) (h : okService c s = true) :
    (convService c s).hard = false ∧ (convService c s).eff.errs = 0 := by
  simp only [okService, Bool.and_eq_true, List.all_eq_true] at h
  obtain ⟨hn, hm⟩ := h
  unfold convService
  cases hname : s.name with
  | none => simp [hname] at hn
  | some name =>
    refine ⟨by first | rfl | trivial, ?_⟩
    have hw : ((s.methods.map (walkMethod c s.basePath)).foldl (fun e w => e ++ w.eff) ({} : Eff)).errs = 0 :=
      foldl_errs_zero (fun w : MethodWalk => w.eff) _ (by
        intro w hw
        obtain ⟨m, hmm, rfl⟩ := List.mem_map.mp hw
        exact walkMethod_accepts c _ m (hm m hmm))
    have hb : ((((s.methods.map (walkMethod c s.basePath)).filterMap (·.node)).map convMethod).foldl
        (fun e b => e ++ b.1) ({} : Eff)).errs = 0 :=
      foldl_errs_zero (fun b : Eff × Option MethodSkel => b.1) _ (by
        intro b hb
        obtain ⟨node, hnode, rfl⟩ := List.mem_map.mp hb
        obtain ⟨w, hw, hwn⟩ := List.mem_filterMap.mp hnode
        obtain ⟨m, hmm, rfl⟩ := List.mem_map.mp hw
        exact convMethod_accepts c _ m (hm m hmm) node hwn)
    have hlist : (s.methods.map (listMethodErr c)).sum = 0 :=
      List.sum_eq_zero_iff_forall_eq_nat.mpr (by
        intro x hx
        obtain ⟨m, hmm, rfl⟩ := List.mem_map.mp hx
        exact listMethodErr_accepts c _ m (hm m hmm))
    simp only [Eff.errs_append, hw, hb, when_errs, Eff.use_errs, hlist]
    simp

def okTopicNode (c : Ctx) (tn : TopicNode) : Bool :=
  tn.msgs.all fun m => (topicMethodName tn m).isSome && okProps c (tn.prepend ++ m.props)

/-- an item the file visitor receives, within the language -/
def okItem (c : Ctx) : Item → Bool
  | .object o => okDecl c o
  | .oneof o => okDecl c o
  | .enum _ => true
  | .serviceFile ss => ss.all (okService c)
  | .topicFile ts => ts.all fun t => (topicNodes t).all (okTopicNode c)
  | .abort => false

theorem convItem_accepts (c : Ctx) (i : Item) (h : okItem c i = true) :
    ∀ s ∈ convItem c i, s.hard = false ∧ s.eff.errs = 0 := by
  intro s hs
  cases mem_convItem.mp hs with
  | object o => exact ⟨rfl, convDecl_accepts c [] false [] rfl o h⟩
  | oneof o => exact ⟨rfl, convDecl_accepts c [] true [] rfl o h⟩
  | abort => cases h
  | service hs' => exact convService_accepts c _ (List.all_eq_true.mp h _ hs')
  | topicMsg ht htn hm hn =>
    have := List.all_eq_true.mp (List.all_eq_true.mp (List.all_eq_true.mp h _ ht) _ htn) _ hm
    exact ⟨rfl, convVirtual_accepts c _ _ _ none (Bool.and_eq_true_iff.mp this).2⟩
  | topicNoName ht htn hm hn =>
    have := List.all_eq_true.mp (List.all_eq_true.mp (List.all_eq_true.mp h _ ht) _ htn) _ hm
    rw [hn] at this; cases this
  | topicSvc ht htn => exact ⟨rfl, by simp [topicSvcStep]⟩
  | enum | serviceFile | topicFile => exact ⟨rfl, rfl⟩

/-! ## a whole file -/

/-- the imports `j5Imports` accepts -/
def okImports (imports : List Import) : Bool :=
  imports.all fun imp => decide (imp.path ≠ []) && !importBad imp

/-- every visited item of the file (entities expanded) is well formed and within the language -/
def okElems (c : Ctx) (pkg : Str) (elems : List Elem) : Bool :=
  (elems.flatMap (itemsOfElem pkg)).all fun i => WfItem i && okItem c i

/-- the conversion context of a file: its import map over the package's resolver -/
def fileCtx (res : Resolver) (path : Str) (imports : List Import) : Ctx :=
  { resolve := resolveTypeNoImport ⟨imports.flatMap importEntries, packageFromFilename (path ++ b!".proto")⟩ res }

/-- **the converter accepts**: a file with acceptable imports whose items are all within the
language converts, for any resolver that returns well-formed file names -/
theorem convertFile_accepts (res : Resolver) (path : Str) (imports : List Import) (elems : List Elem)
    (hres : ∀ im, WfCtx { resolve := resolveTypeNoImport im res })
    (himp : okImports imports = true)
    (hel : okElems (fileCtx res path imports) (packageFromFilename (path ++ b!".proto")) elems = true) :
    ∃ fs, convertFile res path imports elems = .ok fs := by
  simp only [okImports, List.all_eq_true, Bool.and_eq_true, decide_eq_true_eq,
    Bool.not_eq_true'] at himp
  have hj := j5Imports_ok (packageFromFilename (path ++ b!".proto")) imports
    (fun imp h => (himp imp h).1) (fun imp h => (himp imp h).2)
  simp only [okElems, fileCtx, List.all_eq_true, Bool.and_eq_true] at hel
  refine ⟨_, convertFile_of_clean res path imports elems _ hj ?_ ?_⟩
  · intro s hs
    obtain ⟨i, hi, hsi⟩ := List.mem_flatMap.mp hs
    exact ⟨convItem_ok _ (hres _) i (hel i hi).1 s hsi, (convItem_accepts _ i (hel i hi).2 s hsi).1⟩
  · intro s hs
    obtain ⟨i, hi, hsi⟩ := List.mem_flatMap.mp hs
    exact (convItem_accepts _ i (hel i hi).2 s hsi).2

end J5V.Compile
