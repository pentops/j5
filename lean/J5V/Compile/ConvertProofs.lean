import J5V.Compile.Walk
/-!
# The conversion of fields, properties and declarations: equations and induction (core only)

* effects (`Eff`) under `++`, component by component; `Eff.Part`;
* `bProperty_eq`: `buildProperty` for every schema at once; `bProperty_fld_res`: the field it
  writes; `field_induct` / `decl_induct`: induction in the shape `buildField` / `convDecl` recurse;
* `mapProperties` numbers by position, from 1, virtual prepends first;
* `bProps` (the property loop of `visitObjectNode` / `visitOneofNode`) distributes over `++`:
  everything produced for a prefix of the property list is unchanged when properties are
  appended (`bProps_append`) — the root of C13;
* the loop is a map over the numbered properties (`bProps_eq_map`); each emitted field carries the
  number it was handed, `snake(name)` and `name`;
* enum values: implicit zero, then position + 1; stable under appending options;
* `convDecl_eq`: `visitObjectNode` / `visitOneofNode`, all components at once (`declMsg` its message);
  `declNested io d`: a nested object / oneof, one case of `decl_induct` (`convNested_decl`).
-/
namespace J5V.Compile

/-! ## `mapProperties` -/

theorem flatMap_congr_mem {α β : Type} (f g : α → List β) (l : List α)
    (h : ∀ a ∈ l, f a = g a) : l.flatMap f = l.flatMap g := by
  induction l with
  | nil => rfl
  | cons a rest ih =>
    simp only [List.flatMap_cons]
    rw [h a (by simp), ih (fun x hx => h x (List.mem_cons_of_mem _ hx))]

theorem numberFrom_length (n : Nat) (ps : List Property) : (numberFrom n ps).length = ps.length := by
  induction ps generalizing n with
  | nil => rfl
  | cons p ps ih => simp [numberFrom, ih]

theorem numberFrom_snd (n : Nat) (ps : List Property) : (numberFrom n ps).map (·.2) = ps := by
  induction ps generalizing n with
  | nil => rfl
  | cons p ps ih => simp [numberFrom, ih]

theorem numberFrom_fst (n : Nat) (ps : List Property) :
    (numberFrom n ps).map (·.1) = List.range' (n + 1) ps.length := by
  induction ps generalizing n with
  | nil => rfl
  | cons p ps ih => simp [numberFrom, ih, List.range'_succ]

theorem numberFrom_append (n : Nat) (a b : List Property) :
    numberFrom n (a ++ b) = numberFrom n a ++ numberFrom (n + a.length) b := by
  induction a generalizing n with
  | nil => simp [numberFrom]
  | cons p ps ih =>
    simp only [List.cons_append, numberFrom, ih, List.length_cons]
    rw [show n + (ps.length + 1) = n + 1 + ps.length by omega]

theorem mapProperties_fst (virt props : List Property) :
    (mapProperties virt props).map (·.1) = List.range' 1 (virt.length + props.length) := by
  unfold mapProperties
  rw [List.map_append, numberFrom_fst, numberFrom_fst,
    show virt.length + 1 = (0 + 1) + virt.length by omega, List.range'_append_1]

theorem mapProperties_snd (virt props : List Property) :
    (mapProperties virt props).map (·.2) = virt ++ props := by
  unfold mapProperties
  rw [List.map_append, numberFrom_snd, numberFrom_snd]

theorem mapProperties_prefix (virt props extra : List Property) :
    mapProperties virt (props ++ extra) =
      mapProperties virt props ++ numberFrom (virt.length + props.length) extra := by
  unfold mapProperties
  rw [numberFrom_append, List.append_assoc]

/-! ## effects, component by component -/

@[simp] theorem Eff.add_def (a b : Eff) : a ++ b = Eff.add a b := rfl

@[simp] theorem Eff.add_msgs (a b : Eff) : (Eff.add a b).msgs = a.msgs ++ b.msgs := rfl
@[simp] theorem Eff.add_enums (a b : Eff) : (Eff.add a b).enums = a.enums ++ b.enums := rfl
@[simp] theorem Eff.add_imports (a b : Eff) : (Eff.add a b).imports = a.imports ++ b.imports := rfl
@[simp] theorem Eff.add_errs (a b : Eff) : (Eff.add a b).errs = a.errs + b.errs := rfl
@[simp] theorem Eff.add_panic (a b : Eff) : (Eff.add a b).panic = (a.panic || b.panic) := rfl

@[simp] theorem Eff.msgs_append (a b : Eff) : (a ++ b).msgs = a.msgs ++ b.msgs := rfl
@[simp] theorem Eff.enums_append (a b : Eff) : (a ++ b).enums = a.enums ++ b.enums := rfl
@[simp] theorem Eff.errs_append (a b : Eff) : (a ++ b).errs = a.errs + b.errs := rfl
@[simp] theorem Eff.imports_append (a b : Eff) : (a ++ b).imports = a.imports ++ b.imports := rfl
@[simp] theorem Eff.uses_append (a b : Eff) : (a ++ b).uses = a.uses ++ b.uses := rfl

theorem Eff.add_assoc (a b c : Eff) : Eff.add (Eff.add a b) c = Eff.add a (Eff.add b c) := by
  simp [Eff.add, List.append_assoc, Nat.add_assoc, Bool.or_assoc]

theorem Eff.add_empty (a : Eff) : Eff.add a {} = a := by
  simp [Eff.add]

theorem Eff.empty_add (a : Eff) : Eff.add {} a = a := by
  simp [Eff.add]

@[simp] theorem Eff.empty_panic : ({} : Eff).panic = false := rfl
@[simp] theorem Eff.err_panic : Eff.err.panic = false := rfl
@[simp] theorem Eff.use_panic (p : Str) : (Eff.use p).panic = false := rfl
@[simp] theorem Eff.imp_errs (p : Str) : (Eff.imp p).errs = 0 := rfl
@[simp] theorem Eff.use_errs (p : Str) : (Eff.use p).errs = 0 := rfl

theorem when_msgs_eq (b : Bool) (e : Eff) : (when b e).msgs = if b then e.msgs else [] := by
  cases b <;> rfl
theorem when_enums_eq (b : Bool) (e : Eff) : (when b e).enums = if b then e.enums else [] := by
  cases b <;> rfl
@[simp] theorem when_errs (b : Bool) (e : Eff) : (when b e).errs = if b then e.errs else 0 := by
  cases b <;> rfl

/-! What the conversion adds around a field (`setJ5Ext`, `(buf.validate.field)`, list rules) are
imports and uses only: no message, no enum, no error. -/

@[simp] theorem j5Ext_msgs : j5Ext.msgs = [] := rfl
@[simp] theorem j5Ext_enums : j5Ext.enums = [] := rfl
@[simp] theorem j5Ext_errs : j5Ext.errs = 0 := rfl
@[simp] theorem validateWithImport_msgs (b : Bool) : (validateWithImport b).msgs = [] := by
  cases b <;> rfl
@[simp] theorem validateWithImport_enums (b : Bool) : (validateWithImport b).enums = [] := by
  cases b <;> rfl
@[simp] theorem validateWithImport_errs (b : Bool) : (validateWithImport b).errs = 0 := by
  cases b <;> rfl
@[simp] theorem listRulesEff_msgs (b : Bool) : (listRulesEff b).msgs = [] := by
  cases b <;> rfl
@[simp] theorem listRulesEff_enums (b : Bool) : (listRulesEff b).enums = [] := by
  cases b <;> rfl
@[simp] theorem listRulesEff_errs (b : Bool) : (listRulesEff b).errs = 0 := by
  cases b <;> rfl

theorem foldl_eff {α : Type} (f : α → Eff) (l : List α) (init : Eff) :
    l.foldl (fun e a => e ++ f a) init =
      { msgs := init.msgs ++ l.flatMap fun a => (f a).msgs,
        enums := init.enums ++ l.flatMap fun a => (f a).enums,
        imports := init.imports ++ l.flatMap fun a => (f a).imports,
        errs := init.errs + (l.map fun a => (f a).errs).sum,
        panic := init.panic || l.any fun a => (f a).panic,
        uses := init.uses ++ l.flatMap fun a => (f a).uses } := by
  induction l generalizing init with
  | nil => simp
  | cons a rest ih => rw [List.foldl_cons, ih]; simp [Eff.add, Nat.add_assoc, Bool.or_assoc]

/-! The effect of a declaration, a service, a topic is put together with `++` from the effects of
its objects. -/

/-- `e` is a part of `e'`: `e'` imports what `e` imports, and is clean (no error, no panic) only
if `e` is -/
structure Eff.Part (e e' : Eff) : Prop where
  imports : ∀ x ∈ e.imports, x ∈ e'.imports
  errs : e'.errs = 0 → e.errs = 0
  panic : e'.panic = false → e.panic = false

theorem Eff.Part.trans {a b c : Eff} (h1 : a.Part b) (h2 : b.Part c) : a.Part c :=
  ⟨fun x hx => h2.imports x (h1.imports x hx), fun h => h1.errs (h2.errs h),
    fun h => h1.panic (h2.panic h)⟩

theorem Eff.Part.left (a b : Eff) : a.Part (a ++ b) :=
  ⟨fun _ hx => List.mem_append_left _ hx, fun h => Nat.eq_zero_of_add_eq_zero_right h,
    fun h => (Bool.or_eq_false_iff.mp h).1⟩

theorem Eff.Part.right (a b : Eff) : b.Part (a ++ b) :=
  ⟨fun _ hx => List.mem_append_right _ hx, fun h => Nat.eq_zero_of_add_eq_zero_left h,
    fun h => (Bool.or_eq_false_iff.mp h).2⟩

theorem Eff.Part.foldl {α : Type} (f : α → Eff) (l : List α) (init : Eff) {a : α} (ha : a ∈ l) :
    (f a).Part (l.foldl (fun e a => e ++ f a) init) := by
  rw [foldl_eff]
  refine ⟨fun x hx => List.mem_append_right _ (List.mem_flatMap.mpr ⟨a, ha, hx⟩), fun h => ?_,
    fun h => ?_⟩
  · exact List.sum_eq_zero_iff_forall_eq_nat.mp (Nat.eq_zero_of_add_eq_zero_left h) _ (List.mem_map_of_mem ha)
  · have := (Bool.or_eq_false_iff.mp h).2
    rw [List.any_eq_false] at this
    simpa using this a ha

theorem walkMethod_part (c : Ctx) (s : Service) {m : Method} (hm : m ∈ s.methods) :
    (walkMethod c s.basePath m).eff.Part (convService c s).eff := by
  have hw := Eff.Part.foldl (fun w : MethodWalk => w.eff) (s.methods.map (walkMethod c s.basePath))
    {} (List.mem_map_of_mem hm)
  unfold convService
  cases s.name with
  | none => exact hw
  | some name =>
    exact hw.trans (((Eff.Part.left _ _).trans (Eff.Part.left _ _)).trans (Eff.Part.left _ _))

/-! ## the property loop -/

theorem bProps_nil (c : Ctx) (np : List Str) (io : Bool) (n : Nat) :
    bProps c np io n [] = {} := by
  simp [bProps]

theorem bProps_cons (c : Ctx) (np : List Str) (io : Bool) (n : Nat) (p : Property)
    (ps : List Property) :
    bProps c np io n (p :: ps) =
      let r := bProperty c np io n p
      let rs := bProps c np io (n + 1) ps
      { eff := (if io then r.eff else { r.eff with msgs := r.eff.msgs ++ r.entries }) ++ rs.eff,
        entries := (if io then r.entries else []) ++ rs.entries,
        flds := (match r.fld with | some f => [f] | none => []) ++ rs.flds } := by
  rw [bProps]; rfl

/-- the property loop distributes over `++`: what a prefix of the list produces is unchanged by
what follows, and the numbering goes on -/
theorem bProps_append (c : Ctx) (np : List Str) (io : Bool) (n : Nat) (a b : List Property) :
    bProps c np io n (a ++ b) =
      { eff := Eff.add (bProps c np io n a).eff (bProps c np io (n + a.length) b).eff,
        entries := (bProps c np io n a).entries ++ (bProps c np io (n + a.length) b).entries,
        flds := (bProps c np io n a).flds ++ (bProps c np io (n + a.length) b).flds } := by
  induction a generalizing n with
  | nil => simp [bProps_nil, Eff.empty_add]
  | cons p ps ih =>
    simp only [List.cons_append, bProps_cons, ih, List.length_cons, List.append_assoc, Eff.add_def,
      Eff.add_assoc]
    rw [show n + (ps.length + 1) = n + 1 + ps.length by omega]

theorem bProps_append_flds (c : Ctx) (np : List Str) (io : Bool) (n : Nat) (a b : List Property) :
    (bProps c np io n (a ++ b)).flds =
      (bProps c np io n a).flds ++ (bProps c np io (n + a.length) b).flds := by
  rw [bProps_append]

theorem bProps_append_entries (c : Ctx) (np : List Str) (io : Bool) (n : Nat) (a b : List Property) :
    (bProps c np io n (a ++ b)).entries =
      (bProps c np io n a).entries ++ (bProps c np io (n + a.length) b).entries := by
  rw [bProps_append]

theorem bProps_append_eff (c : Ctx) (np : List Str) (io : Bool) (n : Nat) (a b : List Property) :
    (bProps c np io n (a ++ b)).eff =
      Eff.add (bProps c np io n a).eff (bProps c np io (n + a.length) b).eff := by
  rw [bProps_append]

/-! ## a single property -/

theorem finishProperty_fld (name : Str) (req opt : Bool) (number : Nat) (io : Bool) (pre : Eff)
    (entries : List MsgSkel) (r : FieldRes) (rep : Bool) (f : FieldSkel)
    (h : (finishProperty name req opt number io pre entries r rep).fld = some f) :
    f.number = number ∧ f.name = toSnake name ∧ f.jsonName = name ∧
      f.oneof = (if io then some 0 else none) ∧ f.repeated = rep ∧ f.p3opt = opt ∧
      f.req = (req || r.primaryKey) ∧ f.type = r.type ∧ f.typeName = r.typeName ∧
      f.ext = r.ext := by
  by_cases hc : (opt && (req || r.primaryKey)) = true
  · simp [finishProperty, hc] at h
  · simp only [finishProperty, hc, Bool.false_eq_true, if_false, Option.some.injEq] at h
    subst h
    simp

theorem finishProperty_entries_eq (name : Str) (req opt : Bool) (number : Nat) (io : Bool) (pre : Eff)
    (entries : List MsgSkel) (r : FieldRes) (rep : Bool) :
    (finishProperty name req opt number io pre entries r rep).entries = entries := by
  unfold finishProperty
  dsimp only
  split <;> rfl

/-- what the tail of `buildProperty` adds to the field's effect: for a required field (marked
`required`, or a primary key) the `(buf.validate.field).required` mark with its import and the j5
extension import; an error when the property is explicitly optional as well -/
def tailEff (req opt : Bool) : Eff :=
  (if req then validateWithImport true ++ Eff.imp j5ExtImport else {}) ++
    (if opt && req then Eff.err else {})

theorem finishProperty_eff (name : Str) (req opt : Bool) (number : Nat) (io : Bool) (pre : Eff)
    (entries : List MsgSkel) (r : FieldRes) (rep : Bool) :
    (finishProperty name req opt number io pre entries r rep).eff =
      pre ++ tailEff (req || r.primaryKey) opt := by
  unfold finishProperty tailEff
  cases opt <;> cases (req || r.primaryKey) <;> simp [Eff.add_assoc, Eff.add_empty]

@[simp] theorem tailEff_msgs (req opt : Bool) : (tailEff req opt).msgs = [] := by
  cases req <;> cases opt <;> rfl
@[simp] theorem tailEff_enums (req opt : Bool) : (tailEff req opt).enums = [] := by
  cases req <;> cases opt <;> rfl
theorem tailEff_errs (req opt : Bool) : (tailEff req opt).errs = if opt && req then 1 else 0 := by
  cases req <;> cases opt <;> rfl

theorem finishProperty_none (name : Str) (req opt : Bool) (number : Nat) (io : Bool) (pre : Eff)
    (entries : List MsgSkel) (r : FieldRes) (rep : Bool)
    (h : (finishProperty name req opt number io pre entries r rep).fld = none) :
    1 ≤ (finishProperty name req opt number io pre entries r rep).eff.errs := by
  have hc : (opt && (req || r.primaryKey)) = true := by
    cases hc : (opt && (req || r.primaryKey))
    · simp [finishProperty, hc] at h
    · rfl
  rw [finishProperty_eff, Eff.errs_append, tailEff_errs, if_pos hc]
  exact Nat.le_add_left _ _

theorem finishProperty_msgs (name : Str) (req opt : Bool) (number : Nat) (io : Bool) (pre : Eff)
    (entries : List MsgSkel) (r : FieldRes) (rep : Bool) :
    (finishProperty name req opt number io pre entries r rep).eff.msgs = pre.msgs := by
  rw [finishProperty_eff, Eff.msgs_append, tailEff_msgs, List.append_nil]

theorem finishProperty_enums (name : Str) (req opt : Bool) (number : Nat) (io : Bool) (pre : Eff)
    (entries : List MsgSkel) (r : FieldRes) (rep : Bool) :
    (finishProperty name req opt number io pre entries r rep).eff.enums = pre.enums := by
  rw [finishProperty_eff, Eff.enums_append, tailEff_enums, List.append_nil]

theorem finishProperty_errs (name : Str) (req opt : Bool) (number : Nat) (io : Bool) (pre : Eff)
    (entries : List MsgSkel) (r : FieldRes) (rep : Bool) :
    pre.errs ≤ (finishProperty name req opt number io pre entries r rep).eff.errs := by
  rw [finishProperty_eff]; exact Nat.le_add_right _ _

theorem finishProperty_errs_eq (name : Str) (req opt : Bool) (number : Nat) (io : Bool) (pre : Eff)
    (entries : List MsgSkel) (r : FieldRes) (rep : Bool) (h : (opt && (req || r.primaryKey)) = false) :
    (finishProperty name req opt number io pre entries r rep).eff.errs = pre.errs := by
  rw [finishProperty_eff, Eff.errs_append, tailEff_errs, h]; rfl

theorem finishProperty_imports (name : Str) (req opt : Bool) (number : Nat) (io : Bool) (pre : Eff)
    (entries : List MsgSkel) (r : FieldRes) (rep : Bool) :
    ∀ x ∈ pre.imports, x ∈ (finishProperty name req opt number io pre entries r rep).eff.imports := by
  rw [finishProperty_eff]; exact fun x hx => List.mem_append_left _ hx

/-- the field `buildProperty` hands to `buildField`: the items of an array / map, else the schema -/
def builtField : Field → Field
  | .map items _ => items
  | .array items _ => items
  | f => f

def Field.isRepeated : Field → Bool
  | .array _ _ => true
  | .map _ _ => true
  | _ => false

/-- what `buildProperty` adds around the items of an array / a map: the `(j5.ext.v1.field)` member
and the repeated / map rules wrapping the items' `(buf.validate.field)` -/
def wrapEff : Field → FieldRes → Eff
  | .map _ rules, r => j5Ext ++ validateWithImport (r.hasValidate || !rules.isEmpty)
  | .array _ rules, r => j5Ext ++ validateWithImport (r.hasValidate || !rules.isEmpty)
  | _, _ => {}

/-- …the map-entry message -/
def wrapEntries (name : Str) : Field → FieldRes → List MsgSkel
  | .map _ _, r => [mkEntry (mapName (toSnake name)) r]
  | _, _ => []

/-- …and what it makes of the items' `buildField` result -/
def wrapRes (name : Str) : Field → FieldRes → FieldRes
  | .map _ rules, r =>
    { type := .message, typeName := mapName (toSnake name), ext := b!"map",
      hasValidate := r.hasValidate || !rules.isEmpty }
  | .array _ rules, r => { r with ext := b!"array", hasValidate := r.hasValidate || !rules.isEmpty }
  | _, r => r

/-- **`buildProperty`, all branches at once**: `buildField` on the items of an array / map or on
the schema itself; an error if that fails, else the common tail on the wrapped result -/
theorem bProperty_eq (c : Ctx) (np : List Str) (io : Bool) (n : Nat) (name : Str) (req opt : Bool)
    (schema : Field) :
    bProperty c np io n (.mk name req opt schema) =
      match (bField c np (toCamel name) (builtField schema)).res with
      | none => { eff := (bField c np (toCamel name) (builtField schema)).eff ++ Eff.err }
      | some r =>
        finishProperty name req opt n io
          ((bField c np (toCamel name) (builtField schema)).eff ++ wrapEff schema r)
          (wrapEntries name schema r) (wrapRes name schema r) schema.isRepeated := by
  cases schema <;>
    simp only [bProperty, builtField, wrapEff, wrapEntries, wrapRes, Field.isRepeated, Eff.add_def,
      Eff.add_empty, Eff.add_assoc] <;>
    (split <;> rename_i h <;> simp only [h])

/-- **what `buildProperty` writes**: the field of a converted property, member by member, from the
wrapped result of `buildField`; the property is not both explicitly optional and required -/
theorem bProperty_fld_res (c : Ctx) (np : List Str) (io : Bool) (n : Nat) (name : Str) (req opt : Bool)
    (schema : Field) (f : FieldSkel) (h : (bProperty c np io n (.mk name req opt schema)).fld = some f) :
    ∃ r, (bField c np (toCamel name) (builtField schema)).res = some r ∧
      (opt && (req || (wrapRes name schema r).primaryKey)) = false ∧
      f = { name := toSnake name, jsonName := name, number := n, type := (wrapRes name schema r).type,
            repeated := schema.isRepeated, p3opt := opt, typeName := (wrapRes name schema r).typeName,
            oneof := if io then some 0 else none, req := req || (wrapRes name schema r).primaryKey,
            ext := (wrapRes name schema r).ext } := by
  rw [bProperty_eq] at h
  cases hres : (bField c np (toCamel name) (builtField schema)).res with
  | none => rw [hres] at h; cases h
  | some r =>
    rw [hres] at h
    unfold finishProperty at h
    dsimp only at h
    split at h
    · cases h
    · rename_i hc
      exact ⟨r, rfl, by simpa using hc, (Option.some.inj h).symm⟩

/-- a converted property carries the number it was handed by `mapProperties`, the snake-cased
name, and the source name as JSON name -/
theorem bProperty_fld (c : Ctx) (np : List Str) (io : Bool) (number : Nat) (p : Property)
    (f : FieldSkel) (h : (bProperty c np io number p).fld = some f) :
    f.number = number ∧ f.name = toSnake p.name ∧ f.jsonName = p.name ∧
      f.oneof = (if io then some 0 else none) ∧ f.p3opt = p.explicitlyOptional := by
  cases p with
  | mk name req opt schema =>
    obtain ⟨r, _, _, rfl⟩ := bProperty_fld_res c np io number name req opt schema f h
    exact ⟨rfl, rfl, rfl, rfl, rfl⟩

theorem scalar_plain {schema : Field} {b : BF} (hs : scalarField schema = some b) :
    builtField schema = schema ∧ schema.isRepeated = false ∧ ∀ name r, wrapRes name schema r = r := by
  cases schema <;> first | exact ⟨rfl, rfl, fun _ _ => rfl⟩ | simp [scalarField] at hs

/-- what a property that converted without error tells about `buildField` below it -/
theorem bProperty_ok (c : Ctx) (np : List Str) (io : Bool) (n : Nat) (name : Str)
    (req opt : Bool) (schema : Field)
    (h : (bProperty c np io n (.mk name req opt schema)).eff.errs = 0) :
    (bField c np (toCamel name) (builtField schema)).res.isSome = true ∧
    (bField c np (toCamel name) (builtField schema)).eff.errs = 0 ∧
    ∀ x ∈ (bField c np (toCamel name) (builtField schema)).eff.imports,
      x ∈ (bProperty c np io n (.mk name req opt schema)).eff.imports := by
  rw [bProperty_eq] at h ⊢
  cases hr : (bField c np (toCamel name) (builtField schema)).res with
  | none => rw [hr] at h; simp [Eff.err] at h
  | some r =>
    rw [hr] at h
    have h1 := Nat.le_trans (finishProperty_errs name req opt n io _ _ _ _) (Nat.le_of_eq h)
    rw [Eff.add_def, Eff.add_errs] at h1
    exact ⟨rfl, by omega, fun x hx =>
      finishProperty_imports _ _ _ _ _ _ _ _ _ x (List.mem_append_left _ hx)⟩

theorem enumFieldWith_walk (pre walk : Eff) (tn pfx : Str) (names : List Str) (rules : Rules)
    (lr : Option (List Str)) : (enumFieldWith pre walk tn pfx names rules lr).walk = walk := by
  unfold enumFieldWith
  split
  · rfl
  · split <;> rfl

theorem bProperty_none_errs (c : Ctx) (np : List Str) (io : Bool) (number : Nat) (p : Property)
    (h : (bProperty c np io number p).fld = none) : 1 ≤ (bProperty c np io number p).eff.errs := by
  cases p with
  | mk name req opt schema =>
    rw [bProperty_eq] at h ⊢
    split at h
    · simp [Eff.add, Eff.err]
    · exact finishProperty_none _ _ _ _ _ _ _ _ _ h

/-! ## induction over fields -/

theorem bField_scalar (c : Ctx) (np : List Str) (d : Str) (f : Field) (b : BF)
    (h : scalarField f = some b) : bField c np d f = b := by
  cases f <;> simp only [scalarField, reduceCtorEq] at h <;>
    simp only [bField, scalarField, h, Option.getD_some]

theorem bField_enumRef_eq (c : Ctx) (np : List Str) (d pkg schema : Str) (rules : Rules)
    (lr : Option (List Str)) {t : TypeRef} {pfx : Str} {names : List Str}
    (hr : c.resolve pkg schema = some t) (hk : t.kind = .enum pfx names) :
    bField c np d (.enumRef pkg schema rules lr) =
      enumFieldWith (Eff.imp t.file) {} t.protoTypeName pfx names rules lr := by
  have hrf : refField c pkg schema true = (Eff.imp t.file, some t) := by
    unfold refField
    simp [hr, hk, TKind.isMessage]
  rw [bField, hrf]
  simp only [hk]

theorem bField_enumInl_eq (c : Ctx) (np : List Str) (d : Str) (e : EnumDecl) (rules : Rules)
    (lr : Option (List Str)) :
    bField c np d (.enumInl e rules lr) =
      (let e' : EnumDecl := if e.name = [] then { e with name := d } else e
       enumFieldWith { enums := [convEnum e'] } { enums := [convEnum e'] } (relName np e'.name)
         (enumPrefix e')
         ((enumPrefix e' ++ b!"UNSPECIFIED") :: (enumValues (enumPrefix e') e'.opts).map (·.1))
         rules lr) := by
  rw [bField]; rfl

theorem scalarField_integer_some (fmt : IntFmt) (rules : Rules) (lr : Bool) :
    ∃ b, scalarField (.integer fmt rules lr) = some b := by
  simp only [scalarField]; split <;> exact ⟨_, rfl⟩

theorem scalarField_float_some (fmt : FloatFmt) (rules : Rules) (lr : Bool) :
    ∃ b, scalarField (.float fmt rules lr) = some b := by
  simp only [scalarField]; split <;> exact ⟨_, rfl⟩

/-- Induction over fields and property lists, in the shape `buildField` / `buildProperty` recurse:
the ten scalar kinds are one case, and a property hands `builtField` of its schema on, so that is
what the `cons` case knows about. Applied by `apply field_induct` to a goal `(∀ f, …) ∧ ∀ ps, …` (side
hypotheses and `np`, `d`, … inside the two motives), then `case scalar => …`; not with `induction … using`. -/
theorem field_induct {F : Field → Prop} {Ps : List Property → Prop}
    (scalar : ∀ f b, scalarField f = some b → F f)
    (objectRef : ∀ pkg schema fl rules, F (.objectRef pkg schema fl rules))
    (oneofRef : ∀ pkg schema rules lr, F (.oneofRef pkg schema rules lr))
    (enumRef : ∀ pkg schema rules lr, F (.enumRef pkg schema rules lr))
    (objectInl : ∀ name props fl rules, Ps props → F (.objectInl name props fl rules))
    (oneofInl : ∀ name props rules lr, Ps props → F (.oneofInl name props rules lr))
    (enumInl : ∀ e rules lr, F (.enumInl e rules lr))
    (array : ∀ items rules, F items → F (.array items rules))
    (map : ∀ items rules, F items → F (.map items rules))
    (nil : Ps [])
    (cons : ∀ name req opt f ps, F (builtField f) → Ps ps → Ps (.mk name req opt f :: ps)) :
    (∀ f, F f) ∧ ∀ ps, Ps ps := by
  have two : ∀ {f}, F f → builtField f = f → F f ∧ F (builtField f) :=
    fun h e => ⟨h, by rw [e]; exact h⟩
  have hs : ∀ f b, scalarField f = some b → builtField f = f → F f ∧ F (builtField f) :=
    fun f b h e => two (scalar f b h) e
  have key : ∀ f, F f ∧ F (builtField f) := fun f =>
    Field.rec (motive_1 := fun f => F f ∧ F (builtField f))
      (motive_2 := fun p => F (builtField p.schema)) (motive_3 := Ps)
      (fun _ _ => hs _ _ rfl rfl) (fun _ _ => hs _ _ rfl rfl) (fun _ => hs _ _ rfl rfl)
      (fun _ _ => hs _ _ rfl rfl) (fun _ _ => hs _ _ rfl rfl) (fun _ => hs _ _ rfl rfl)
      (hs _ _ rfl rfl)
      (fun fmt r lr => (scalarField_integer_some fmt r lr).elim fun _ h => hs _ _ h rfl)
      (fun fmt r lr => (scalarField_float_some fmt r lr).elim fun _ h => hs _ _ h rfl)
      (fun _ _ _ _ => hs _ _ rfl rfl)
      (fun _ _ _ _ => two (objectRef _ _ _ _) rfl)
      (fun _ _ _ _ ih => two (objectInl _ _ _ _ ih) rfl)
      (fun _ _ _ _ => two (oneofRef _ _ _ _) rfl)
      (fun _ _ _ _ ih => two (oneofInl _ _ _ _ ih) rfl)
      (fun _ _ _ _ => two (enumRef _ _ _ _) rfl)
      (fun _ _ _ => two (enumInl _ _ _) rfl)
      (fun _ _ ih => ⟨array _ _ ih.1, ih.1⟩)
      (fun _ _ ih => ⟨map _ _ ih.1, ih.1⟩)
      (fun _ _ _ _ ih => ih.2)
      nil
      (fun p _ ihp ihps => by cases p; exact cons _ _ _ _ _ ihp ihps)
      f
  refine ⟨fun f => (key f).1, fun ps => ?_⟩
  induction ps with
  | nil => exact nil
  | cons p ps ih => cases p; exact cons _ _ _ _ _ (key _).2 ih

/-- a nested object (`false`) or oneof (`true`) -/
def declNested : Bool → ObjDecl → Nested
  | true, o => .oneof o
  | false, o => .object o

theorem convNested_decl (c : Ctx) (np : List Str) (io : Bool) (o : ObjDecl) (rest : List Nested) :
    convNested c np (declNested io o :: rest) = convDecl c np io [] o ++ convNested c np rest := by
  cases io <;> rw [declNested, convNested]

/-- Induction over declarations and nested lists, applied like `field_induct`; the `Bool` is the
"is a oneof" flag of `convDecl`, which `declNested` hands on. -/
theorem decl_induct {D : Bool → ObjDecl → Prop} {N : List Nested → Prop}
    (mk : ∀ io name props nested psm, N nested → D io (.mk name props nested psm))
    (nil : N [])
    (decl : ∀ io o rest, D io o → N rest → N (declNested io o :: rest))
    (enum : ∀ e rest, N rest → N (.enum e :: rest)) :
    (∀ io o, D io o) ∧ ∀ ns, N ns := by
  have key : ∀ o io, D io o := fun o =>
    ObjDecl.rec (motive_1 := fun o => ∀ io, D io o)
      (motive_2 := fun n => ∀ rest, N rest → N (n :: rest)) (motive_3 := N)
      (fun _ _ _ _ ih io => mk io _ _ _ _ ih) (fun _ ih _ hr => decl false _ _ (ih false) hr)
      (fun _ ih _ hr => decl true _ _ (ih true) hr) (fun _ _ hr => enum _ _ hr)
      nil (fun _ _ ihn ihr => ihn _ ihr) o
  refine ⟨fun io o => key o io, fun ns => ?_⟩
  induction ns with
  | nil => exact nil
  | cons n rest ih =>
    cases n with
    | object o => exact decl false o rest (key o false) ih
    | oneof o => exact decl true o rest (key o true) ih
    | enum e => exact enum e rest ih

/-- the results of `buildProperty` on a property list, each property with the number it is handed:
`n`, `n + 1`, … -/
def propResults (c : Ctx) (np : List Str) (io : Bool) (n : Nat) (ps : List Property) : List PR :=
  (ps.zipIdx n).map fun x => bProperty c np io x.2 x.1

theorem propResults_cons (c : Ctx) (np : List Str) (io : Bool) (n : Nat) (p : Property) (ps : List Property) :
    propResults c np io n (p :: ps) = bProperty c np io n p :: propResults c np io (n + 1) ps := by
  simp [propResults, List.zipIdx_cons]

theorem propResults_length (c : Ctx) (np : List Str) (io : Bool) (n : Nat) (ps : List Property) :
    (propResults c np io n ps).length = ps.length := by
  simp [propResults]

theorem propResults_getElem (c : Ctx) (np : List Str) (io : Bool) (n : Nat) (ps : List Property) (i : Nat)
    (hi : i < ps.length) :
    (propResults c np io n ps)[i]'(by rw [propResults_length]; exact hi) = bProperty c np io (n + i) ps[i] := by
  simp [propResults]

/-- the property loop is a map -/
theorem bProps_eq_map (c : Ctx) (np : List Str) (io : Bool) (n : Nat) (ps : List Property) :
    (bProps c np io n ps).flds = (propResults c np io n ps).filterMap (·.fld) ∧
    (bProps c np io n ps).eff.errs = ((propResults c np io n ps).map (·.eff.errs)).sum ∧
    (bProps c np io n ps).entries = if io then (propResults c np io n ps).flatMap (·.entries) else [] := by
  induction ps generalizing n with
  | nil => simp [bProps_nil, propResults]
  | cons p ps ih =>
    rw [bProps_cons, propResults_cons]
    refine ⟨?_, ?_, ?_⟩
    · simp only [List.filterMap_cons, (ih (n + 1)).1]
      cases (bProperty c np io n p).fld <;> rfl
    · rw [List.map_cons, List.sum_cons, ← (ih (n + 1)).2.1]
      cases io <;> rfl
    · simp only [(ih (n + 1)).2.2, List.flatMap_cons]
      cases io <;> rfl

theorem bProps_cons_errs_zero {c : Ctx} {np : List Str} {io : Bool} {n : Nat} {p : Property}
    {ps : List Property} (h : (bProps c np io n (p :: ps)).eff.errs = 0) :
    (bProperty c np io n p).eff.errs = 0 ∧ (bProps c np io (n + 1) ps).eff.errs = 0 := by
  rw [(bProps_eq_map c np io n (p :: ps)).2.1, propResults_cons, List.map_cons, List.sum_cons,
    ← (bProps_eq_map c np io (n + 1) ps).2.1] at h
  exact Nat.add_eq_zero_iff.mp h

theorem filterMap_map_some {α β : Type} (g : α → Option β) (l : List α)
    (h : ∀ a ∈ l, (g a).isSome = true) : (l.filterMap g).map some = l.map g := by
  induction l with
  | nil => rfl
  | cons a rest ih =>
    have ha := h a List.mem_cons_self
    have := ih fun x hx => h x (List.mem_cons_of_mem _ hx)
    cases hg : g a with
    | none => rw [hg] at ha; cases ha
    | some b => simp [hg, this]

theorem bProps_errs_zero (c : Ctx) (np : List Str) (io : Bool) (n : Nat) (ps : List Property)
    (h : (bProps c np io n ps).eff.errs = 0) :
    ∀ i (hi : i < ps.length), (bProperty c np io (n + i) ps[i]).eff.errs = 0 := by
  intro i hi
  rw [(bProps_eq_map c np io n ps).2.1] at h
  rw [← propResults_getElem c np io n ps i hi]
  exact List.sum_eq_zero_iff_forall_eq_nat.mp h _ (List.mem_map_of_mem (List.getElem_mem _))

theorem bProps_flds_map (c : Ctx) (np : List Str) (io : Bool) (n : Nat) (ps : List Property)
    (h : (bProps c np io n ps).eff.errs = 0) :
    (bProps c np io n ps).flds.map some = (propResults c np io n ps).map (·.fld) := by
  rw [(bProps_eq_map c np io n ps).1]
  refine filterMap_map_some _ _ fun r hr => ?_
  obtain ⟨i, hi, rfl⟩ := List.getElem_of_mem hr
  rw [propResults_length] at hi
  rw [propResults_getElem c np io n ps i hi]
  cases hf : (bProperty c np io (n + i) ps[i]).fld with
  | some f => rfl
  | none =>
    have := bProperty_none_errs c np io (n + i) ps[i] hf
    have := bProps_errs_zero c np io n ps h i hi
    omega

theorem bProps_get (c : Ctx) (np : List Str) (io : Bool) (n : Nat) (ps : List Property)
    (h : (bProps c np io n ps).eff.errs = 0) :
    ∀ i (hi : i < ps.length) (hf : i < (bProps c np io n ps).flds.length),
      (bProperty c np io (n + i) ps[i]).fld = some ((bProps c np io n ps).flds[i]) := by
  intro i hi hf
  have := congrArg (fun l => l[i]?) (bProps_flds_map c np io n ps h)
  simp only [List.getElem?_map, List.getElem?_eq_getElem hf,
    List.getElem?_eq_getElem (show i < (propResults c np io n ps).length by rw [propResults_length]; exact hi),
    Option.map_some, propResults_getElem c np io n ps i hi] at this
  exact (Option.some.inj this).symm

/-- **field numbering of a property list**: when no error was recorded, there is exactly one field
per property, in order, and the `i`-th one has number `n + i`, name `snake(name)`, JSON name `name` -/
theorem bProps_numbering (c : Ctx) (np : List Str) (io : Bool) (n : Nat) (ps : List Property)
    (h : (bProps c np io n ps).eff.errs = 0) :
    (bProps c np io n ps).flds.length = ps.length ∧
    ∀ i (hi : i < ps.length) (hf : i < (bProps c np io n ps).flds.length),
      ((bProps c np io n ps).flds[i]).number = n + i ∧
      ((bProps c np io n ps).flds[i]).name = toSnake ps[i].name ∧
      ((bProps c np io n ps).flds[i]).jsonName = ps[i].name := by
  refine ⟨?_, fun i hi hf => ?_⟩
  · have := congrArg List.length (bProps_flds_map c np io n ps h)
    rwa [List.length_map, List.length_map, propResults_length] at this
  · have := bProperty_fld c np io (n + i) ps[i] _ (bProps_get c np io n ps h i hi hf)
    exact ⟨this.1, this.2.1, this.2.2.1⟩

theorem bProps_fld_oneof (c : Ctx) (np : List Str) (io : Bool) (n : Nat) (ps : List Property) :
    ∀ f ∈ (bProps c np io n ps).flds, f.oneof = (if io then some 0 else none) := by
  intro f hf
  rw [(bProps_eq_map c np io n ps).1, List.mem_filterMap] at hf
  obtain ⟨r, hr, hrf⟩ := hf
  obtain ⟨x, _, rfl⟩ := List.mem_map.mp hr
  exact (bProperty_fld c np io x.2 x.1 f hrf).2.2.2.1

/-! ## enums -/

theorem zipIdx_append_one {α : Type} (l : List α) (a : α) (k : Nat) :
    (l ++ [a]).zipIdx k = l.zipIdx k ++ [(a, k + l.length)] := by
  induction l generalizing k with
  | nil => simp
  | cons x xs ih => simp [List.zipIdx_cons, ih]; omega

/-- appending an option to a non-empty option list keeps every existing value (name and number)
and adds one value at the end -/
theorem enumValues_prefix (pfx : Str) (opts : List Str) (o : Str) (h : opts ≠ []) :
    ∃ v, enumValues pfx (opts ++ [o]) = enumValues pfx opts ++ [v] := by
  cases opts with
  | nil => exact absurd rfl h
  | cons first rest =>
    simp only [enumValues, List.cons_append]
    by_cases hs : isExplicitUnspecified pfx first = true
    · simp only [hs, if_true]
      exact ⟨(enumFull pfx o, rest.length + 1), by simp [zipIdx_append_one]⟩
    · simp only [hs]
      refine ⟨(enumFull pfx o, rest.length + 1 + 1), ?_⟩
      rw [show first :: (rest ++ [o]) = (first :: rest) ++ [o] by simp, zipIdx_append_one]
      simp [zipIdx_append_one, Nat.add_comm]

theorem enumValues_nil (pfx : Str) : enumValues pfx [] = [(pfx ++ b!"UNSPECIFIED", 0)] := rfl

/-- enum numbering without an explicit leading zero: implicit
`<PREFIX>UNSPECIFIED = 0`, then option `k` ↦ `k + 1` -/
theorem enumValues_implicit (pfx : Str) (opts : List Str)
    (h : ∀ first rest, opts = first :: rest → isExplicitUnspecified pfx first = false) :
    enumValues pfx opts =
      (pfx ++ b!"UNSPECIFIED", 0) :: opts.zipIdx.map fun (n, i) => (enumFull pfx n, i + 1) := by
  cases opts with
  | nil => rfl
  | cons first rest => simp [enumValues, h first rest rfl]

/-- …and with one: that option is value 0, the others follow from 1 -/
theorem enumValues_explicit (pfx : Str) (first : Str) (rest : List Str)
    (h : isExplicitUnspecified pfx first = true) :
    enumValues pfx (first :: rest) =
      (enumFull pfx first, 0) :: rest.zipIdx.map fun (n, i) => (enumFull pfx n, i + 1) := by
  simp [enumValues, h]

/-- the explicit zero is emitted under the name of the implicit one -/
theorem enumFull_explicit (pfx name : Str) (h : isExplicitUnspecified pfx name = true) :
    enumFull pfx name = pfx ++ b!"UNSPECIFIED" := by
  unfold isExplicitUnspecified trimPrefix at h
  unfold enumFull
  by_cases hp : hasPrefix pfx name = true
  · simp only [hp, if_true, decide_eq_true_eq] at h ⊢
    have hpre : pfx <+: name := by simpa [hasPrefix] using hp
    obtain ⟨t, ht⟩ := hpre
    subst ht
    simp only [List.drop_left] at h
    rw [h]
  · simp only [hp, Bool.false_eq_true, if_false, decide_eq_true_eq] at h ⊢
    rw [h]

theorem enumValues_head (pfx : Str) (opts : List Str) :
    ∃ tl, enumValues pfx opts = (pfx ++ b!"UNSPECIFIED", 0) :: tl := by
  cases opts with
  | nil => exact ⟨[], rfl⟩
  | cons first rest =>
    simp only [enumValues]
    by_cases hs : isExplicitUnspecified pfx first = true
    · simp only [hs, if_true, enumFull_explicit pfx first hs]; exact ⟨_, rfl⟩
    · simp only [hs]; exact ⟨_, rfl⟩

theorem enumValues_prefix_all (pfx : Str) (opts : List Str) (o : Str) :
    enumValues pfx opts <+: enumValues pfx (opts ++ [o]) := by
  cases opts with
  | nil =>
    obtain ⟨tl, htl⟩ := enumValues_head pfx [o]
    rw [List.nil_append, htl, enumValues_nil]
    exact ⟨tl, rfl⟩
  | cons first rest =>
    obtain ⟨v, hv⟩ := enumValues_prefix pfx (first :: rest) o (by simp)
    rw [hv]
    exact List.prefix_append _ _

theorem convEnum_name (e : EnumDecl) : (convEnum e).name = e.name := rfl

/-! ## declared objects / oneofs -/

/-- the message `visitObjectNode` / `visitOneofNode` adds for a declared schema -/
def declMsg (c : Ctx) (np : List Str) (isOneof : Bool) (virt : List Property) (name : Str)
    (props : List Property) (nested : List Nested) (psm : Option Psm) : MsgSkel :=
  let all := bProps c (np ++ [name]) isOneof 1 (virt ++ props)
  let ne := convNested c (np ++ [name]) nested
  mkMsg name isOneof psm all.flds (all.eff.msgs ++ ne.msgs) (all.eff.enums ++ ne.enums)

/-- `visitObjectNode` / `visitOneofNode`, all components at once -/
theorem convDecl_eq (c : Ctx) (np : List Str) (io : Bool) (virt : List Property) (name : Str)
    (props : List Property) (nested : List Nested) (psm : Option Psm) :
    convDecl c np io virt (.mk name props nested psm) =
      { msgs := (bProps c (np ++ [name]) io 1 (virt ++ props)).entries ++
          [declMsg c np io virt name props nested psm],
        imports := (if io then msgEff none else msgEff psm).imports ++
          (bProps c (np ++ [name]) io 1 (virt ++ props)).eff.imports ++
          (convNested c (np ++ [name]) nested).imports,
        errs := (bProps c (np ++ [name]) io 1 (virt ++ props)).eff.errs +
          (convNested c (np ++ [name]) nested).errs,
        panic := (bProps c (np ++ [name]) io 1 (virt ++ props)).eff.panic ||
          (convNested c (np ++ [name]) nested).panic || (io && name = []),
        uses := (msgEff psm).uses ++ (bProps c (np ++ [name]) io 1 (virt ++ props)).eff.uses ++
          (convNested c (np ++ [name]) nested).uses } := by
  rw [convDecl]
  simp only [declMsg, bProps_append, Eff.add, List.append_assoc, Nat.add_comm 1 virt.length]

theorem convDecl_msgs (c : Ctx) (np : List Str) (io : Bool) (virt : List Property) (name : Str)
    (props : List Property) (nested : List Nested) (psm : Option Psm) :
    (convDecl c np io virt (.mk name props nested psm)).msgs =
      (bProps c (np ++ [name]) io 1 (virt ++ props)).entries ++
        [declMsg c np io virt name props nested psm] := by
  rw [convDecl_eq]

theorem convDecl_errs (c : Ctx) (np : List Str) (io : Bool) (virt : List Property) (name : Str)
    (props : List Property) (nested : List Nested) (psm : Option Psm) :
    (convDecl c np io virt (.mk name props nested psm)).errs =
      (bProps c (np ++ [name]) io 1 (virt ++ props)).eff.errs
        + (convNested c (np ++ [name]) nested).errs := by
  rw [convDecl_eq]

theorem convDecl_props_errs {c : Ctx} {np : List Str} {io : Bool} {virt : List Property} {name : Str}
    {props : List Property} {nested : List Nested} {psm : Option Psm}
    (h : (convDecl c np io virt (.mk name props nested psm)).errs = 0) :
    (bProps c (np ++ [name]) io 1 (virt ++ props)).eff.errs = 0 := by
  rw [convDecl_errs] at h; exact Nat.eq_zero_of_add_eq_zero_right h

/-- the message of a declaration, whatever way the declaration is written -/
def declMsgOf (c : Ctx) (np : List Str) (io : Bool) (virt : List Property) (o : ObjDecl) : MsgSkel :=
  declMsg c np io virt o.name o.props o.nested o.psm

theorem convDecl_msgOf (c : Ctx) (np : List Str) (io : Bool) (virt : List Property) (o : ObjDecl) :
    declMsgOf c np io virt o ∈ (convDecl c np io virt o).msgs := by
  cases o with
  | mk name props nested psm =>
    rw [convDecl_msgs]
    simp [declMsgOf, ObjDecl.name, ObjDecl.props, ObjDecl.nested, ObjDecl.psm]

/-- **names and numbers of all fields of a declaration's message**, as one list equation -/
theorem declMsgOf_fields (c : Ctx) (np : List Str) (io : Bool) (virt : List Property) (o : ObjDecl)
    (h : (convDecl c np io virt o).errs = 0) :
    (declMsgOf c np io virt o).fields.map (fun f => (f.name, f.number)) =
      (virt ++ o.props).zipIdx.map fun (p, i) => (toSnake p.name, i + 1) := by
  cases o with
  | mk name props nested psm =>
    rw [convDecl_errs] at h
    have herr : (bProps c (np ++ [name]) io 1 (virt ++ props)).eff.errs = 0 := by omega
    obtain ⟨hl, hn⟩ := bProps_numbering c (np ++ [name]) io 1 (virt ++ props) herr
    simp only [declMsgOf, declMsg, mkMsg, MsgSkel.fields, ObjDecl.name, ObjDecl.props]
    apply List.ext_getElem
    · simp [hl]
    · intro i h1 h2
      have hi : i < (virt ++ props).length := by simpa using h2
      have hf : i < (bProps c (np ++ [name]) io 1 (virt ++ props)).flds.length := by rw [hl]; exact hi
      have := hn i hi hf
      simp only [List.getElem_map, List.getElem_zipIdx, this.1, this.2.1]
      simp [Nat.add_comm]

end J5V.Compile
