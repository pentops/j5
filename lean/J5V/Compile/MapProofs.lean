import J5V.Compile.Imports
/-!
# Go maps (core only)

A Go map is modelled as the list of its writes; `mapGet` reads the last write of a key.
-/
namespace J5V.Compile

/-- a lookup by key that succeeds found a member -/
theorem find?_fst_mem {V : Type} {l : List (Str × V)} {k : Str} {v : V}
    (h : (l.find? (·.1 = k)).map (·.2) = some v) : (k, v) ∈ l := by
  obtain ⟨x, hf, rfl⟩ := Option.map_eq_some_iff.mp h
  have hk : x.1 = k := by simpa using List.find?_some hf
  exact hk ▸ List.mem_of_find?_eq_some hf

theorem mapGet_mem {V : Type} (m : List (Str × V)) (k : Str) (v : V) (h : mapGet m k = some v) :
    (k, v) ∈ m :=
  List.mem_reverse.mp (find?_fst_mem h)

theorem mapGet_append {V : Type} (a b : List (Str × V)) (k : Str) :
    mapGet (a ++ b) k = match mapGet b k with | some v => some v | none => mapGet a k := by
  unfold mapGet
  rw [List.reverse_append, List.find?_append]
  cases hb : b.reverse.find? (·.1 = k) with
  | some x => simp
  | none => simp

theorem mapGet_none_of_not_mem {V : Type} (m : List (Str × V)) (k : Str)
    (h : k ∉ m.map (·.1)) : mapGet m k = none := by
  unfold mapGet
  cases hf : m.reverse.find? (·.1 = k) with
  | none => rfl
  | some x =>
    exfalso
    have hm := List.mem_of_find?_eq_some hf
    have hk := List.find?_some hf
    apply h
    simp only [List.mem_map]
    exact ⟨x, by simpa using hm, by simpa using hk⟩

/-- inserting entries with fresh keys in the middle of a map changes no other lookup -/
theorem mapGet_insert_fresh {V : Type} (a n c : List (Str × V)) (k : Str)
    (h : k ∉ n.map (·.1)) : mapGet (a ++ n ++ c) k = mapGet (a ++ c) k := by
  rw [mapGet_append, mapGet_append a c, mapGet_append a n, mapGet_none_of_not_mem n k h]

theorem mapGet_mem_keys {V : Type} (m : List (Str × V)) (k : Str) (v : V) (h : mapGet m k = some v) :
    k ∈ m.map (·.1) :=
  List.mem_map.mpr ⟨(k, v), mapGet_mem m k v h, rfl⟩

theorem mapGet_map_nodup {V : Type} (names : List Str) (g : Str → V) (hnd : names.Nodup) (k : Str)
    (hk : k ∈ names) : mapGet (names.map fun d => (d, g d)) k = some (g k) := by
  induction names with
  | nil => cases hk
  | cons a rest ih =>
    rw [List.nodup_cons] at hnd
    have : (a :: rest).map (fun d => (d, g d)) = [(a, g a)] ++ rest.map (fun d => (d, g d)) := rfl
    rw [this, mapGet_append]
    rcases List.mem_cons.mp hk with rfl | hk'
    · have hnone : mapGet (rest.map fun d => (d, g d)) k = none :=
        mapGet_none_of_not_mem _ _ (by simpa [List.map_map] using hnd.1)
      rw [hnone]
      simp [mapGet]
    · rw [ih hnd.2 hk']

end J5V.Compile
