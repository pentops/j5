import J5V.Compile.Package
import J5V.Go.OutcomeLemmas
/-!
# The package loader (core only)

`loadLocalPackage` runs three loops that stop at the first failure (summaries, dependencies,
conversion); each is an `Outcome.seq`, so a success is the image of the input under a *function*
(`sumOf`, `loadOf`, `convOf`). `loadLocal` is one level of the loader given the loader for the
dependencies; it succeeds iff every call it makes does, and its result is then a function of the
sources (`loadLocal_eq_ok_iff`). With a rank that decreases along dependencies (`rankOk`) the outcome
depends on neither fuel nor chain (`loadPkg_indep`); for cyclic package graphs that the fuel of
`compilePkg` suffices is not proved.
-/
namespace J5V.Compile
open J5V.Go

instance : Inhabited Summary' := ⟨⟨[], [], [], []⟩⟩

def sumOf (f : SrcFile) : Summary' :=
  match fileSummary f with
  | .ok s => s
  | _ => default

def pkgSums (p : Pkg) : List Summary' := p.files.map sumOf

theorem sourceSummary_eq (path : Str) (imports : List Import) (elems : List Elem) :
    sourceSummary path imports elems =
      (walkItems (elems.flatMap (itemsOfElem (packageFromFilename (path ++ b!".proto"))))).bind fun _ =>
      (j5Imports (packageFromFilename (path ++ b!".proto")) imports).bind fun im =>
      match ((elems.flatMap (itemsOfElem (packageFromFilename (path ++ b!".proto")))).flatMap itemRefs).mapM
          fun x => im.expand x.1 x.2 with
      | none => .err "not-imported"
      | some expanded =>
        .ok { path := path, pkg := packageFromFilename (path ++ b!".proto"),
              exports := ((elems.flatMap (itemsOfElem (packageFromFilename (path ++ b!".proto")))).flatMap
                itemExports).map fun x =>
                  (x.1, ⟨packageFromFilename (path ++ b!".proto"), x.1, path ++ b!".proto", x.2⟩),
              depPkgs := expanded.map (·.pkg) } := by
  unfold sourceSummary
  simp only []
  cases walkItems (elems.flatMap (itemsOfElem (packageFromFilename (path ++ b!".proto")))) with
  | err t => rfl
  | panic w => rfl
  | ok u => cases j5Imports (packageFromFilename (path ++ b!".proto")) imports <;> rfl

theorem sourceSummary_ok (path : Str) (imports : List Import) (elems : List Elem) (s : Summary')
    (h : sourceSummary path imports elems = .ok s) :
    ∃ im ex, j5Imports (packageFromFilename (path ++ b!".proto")) imports = .ok im ∧
      List.mapM (fun x : Str × Str => im.expand x.1 x.2)
        ((elems.flatMap (itemsOfElem (packageFromFilename (path ++ b!".proto")))).flatMap itemRefs) = some ex ∧
      s.exports = ((elems.flatMap (itemsOfElem (packageFromFilename (path ++ b!".proto")))).flatMap itemExports).map
        (fun x => (x.1, (⟨packageFromFilename (path ++ b!".proto"), x.1, path ++ b!".proto", x.2⟩ : TypeRef))) ∧
      s.depPkgs = ex.map (·.pkg) := by
  rw [sourceSummary_eq] at h
  obtain ⟨_, _, h⟩ := bind_eq_ok h
  obtain ⟨im, hj, h⟩ := bind_eq_ok h
  split at h
  · cases h
  · cases h; exact ⟨im, _, hj, ‹_›, rfl, rfl⟩

theorem summaries_eq_seq (files : List SrcFile) : summaries files = Outcome.seq fileSummary files := by
  induction files with
  | nil => rfl
  | cons f rest ih =>
    rw [summaries, Outcome.seq, ih]
    cases fileSummary f <;> cases Outcome.seq fileSummary rest <;> rfl

theorem sumOf_eq (f : SrcFile) : sumOf f = (fileSummary f).get := by
  unfold sumOf; cases fileSummary f <;> rfl

theorem summaries_ok (files : List SrcFile) (sums : List Summary')
    (h : summaries files = .ok sums) :
    sums = files.map sumOf ∧ ∀ f ∈ files, fileSummary f = .ok (sumOf f) := by
  rw [funext sumOf_eq]
  exact Outcome.seq_ok fileSummary files sums (summaries_eq_seq files ▸ h)

theorem summaries_of_all_ok (files : List SrcFile)
    (h : ∀ f ∈ files, fileSummary f = .ok (sumOf f)) : summaries files = .ok (files.map sumOf) := by
  rw [summaries_eq_seq]; exact Outcome.seq_of_all_ok fileSummary files sumOf h

theorem fileSummary_j5s_ok (path : Str) (imports : List Import) (elems : List Elem) (decl : Str)
    (s : Summary') (h : fileSummary (.j5s path imports elems decl) = .ok s) :
    sourceSummary path imports elems = .ok s := by
  rw [fileSummary] at h
  split at h
  · cases h
  · exact h

/-- the descriptors one source file converts to (empty for `.proto` files and on failure) -/
def convOf (res : Resolver) : SrcFile → List FileSkel
  | .proto _ _ _ => []
  | .j5s path imports elems _ =>
    match convertFile res path imports elems with
    | .ok fs => fs
    | _ => []

def convOk (res : Resolver) : SrcFile → Prop
  | .proto _ _ _ => True
  | .j5s path imports elems _ => ∃ fs, convertFile res path imports elems = .ok fs

/-- `ConvertJ5File` on a `.j5s` file; a `.proto` file converts to nothing -/
def convSrc (res : Resolver) : SrcFile → Outcome (List FileSkel)
  | .proto _ _ _ => .ok []
  | .j5s path imports elems _ => convertFile res path imports elems

theorem convertAll_eq_seq (res : Resolver) (files : List SrcFile) :
    convertAll res files = (Outcome.seq (convSrc res) files).map List.flatten := by
  induction files with
  | nil => rfl
  | cons f rest ih =>
    cases f with
    | proto path msgs enums =>
      rw [convertAll, ih, Outcome.seq, convSrc]
      cases Outcome.seq (convSrc res) rest <;> rfl
    | j5s path imports elems decl =>
      rw [convertAll, ih, Outcome.seq, convSrc]
      cases convertFile res path imports elems <;> cases Outcome.seq (convSrc res) rest <;> rfl

theorem convOf_eq (res : Resolver) (f : SrcFile) : convOf res f = (convSrc res f).get := by
  cases f with
  | proto path msgs enums => rfl
  | j5s path imports elems decl =>
    rw [convOf, convSrc]; cases convertFile res path imports elems <;> rfl

theorem convOk_iff (res : Resolver) (f : SrcFile) : convOk res f ↔ convSrc res f = .ok (convOf res f) := by
  cases f with
  | proto path msgs enums => exact ⟨fun _ => rfl, fun _ => trivial⟩
  | j5s path imports elems decl =>
    rw [convOk, convOf, convSrc]
    exact ⟨fun ⟨fs, h⟩ => by rw [h], fun h => ⟨_, h⟩⟩

theorem convertAll_ok (res : Resolver) (files : List SrcFile) (out : List FileSkel)
    (h : convertAll res files = .ok out) :
    out = files.flatMap (convOf res) ∧ ∀ f ∈ files, convOk res f := by
  rw [convertAll_eq_seq] at h
  obtain ⟨bs, hbs, rfl⟩ := map_eq_ok h
  obtain ⟨rfl, hok⟩ := Outcome.seq_ok _ _ bs hbs
  refine ⟨by rw [List.flatMap_def, funext (convOf_eq res)], fun f hf => (convOk_iff res f).mpr ?_⟩
  rw [convOf_eq]; exact hok f hf

theorem convertAll_of_all_ok (res : Resolver) (files : List SrcFile)
    (h : ∀ f ∈ files, convOk res f) : convertAll res files = .ok (files.flatMap (convOf res)) := by
  rw [convertAll_eq_seq, Outcome.seq_of_all_ok _ _ (convOf res) fun f hf => (convOk_iff res f).mp (h f hf),
    List.flatMap_def]
  rfl

instance : Inhabited Loaded := ⟨⟨[], [], [], [], [], []⟩⟩

def loadOf (b : Bundle) (fuel : Nat) (chain : List Str) (d : Str) : Loaded :=
  match loadPkg b fuel chain d with
  | .ok l => l
  | _ => default

theorem seqLoad_eq_seq (load : Str → Outcome Loaded) (ds : List Str) :
    seqLoad load ds = Outcome.seq load ds := by
  induction ds with
  | nil => rfl
  | cons d rest ih =>
    rw [seqLoad, Outcome.seq, ih]
    cases load d <;> cases Outcome.seq load rest <;> rfl

theorem seqLoad_congr_mem (load load' : Str → Outcome Loaded) (ds : List Str)
    (h : ∀ d ∈ ds, load d = load' d) : seqLoad load ds = seqLoad load' ds := by
  rw [seqLoad_eq_seq, seqLoad_eq_seq]; exact Outcome.seq_congr load load' ds h

theorem seqLoad_congr (load load' : Str → Outcome Loaded) (ds : List Str)
    (h : ∀ d, load d = load' d) : seqLoad load ds = seqLoad load' ds :=
  seqLoad_congr_mem load load' ds fun d _ => h d

theorem loadOf_eq_get (b : Bundle) (fuel : Nat) (chain : List Str) (d : Str) :
    loadOf b fuel chain d = (loadPkg b fuel chain d).get := by
  unfold loadOf Outcome.get
  cases loadPkg b fuel chain d <;> rfl

theorem mem_dedup (l : List Str) (a : Str) : a ∈ dedup l ↔ a ∈ l := by
  induction l with
  | nil => simp [dedup]
  | cons x xs ih =>
    simp only [dedup]
    by_cases hx : xs.contains x = true
    · simp only [hx, if_true, ih, List.mem_cons]
      constructor
      · exact Or.inr
      · rintro (rfl | h)
        · simpa using hx
        · exact h
    · simp only [hx, Bool.false_eq_true, if_false, List.mem_cons, ih]

theorem dedup_nodup (l : List Str) : (dedup l).Nodup := by
  induction l with
  | nil => simp [dedup]
  | cons x xs ih =>
    simp only [dedup]
    by_cases hx : xs.contains x = true
    · simp only [hx, if_true]; exact ih
    · simp only [hx, Bool.false_eq_true, if_false, List.nodup_cons]
      refine ⟨?_, ih⟩
      rw [mem_dedup]
      simpa using hx

theorem depNamesOf_nodup (name : Str) (sums : List Summary') : (depNamesOf name sums).Nodup :=
  List.Pairwise.filter _ (dedup_nodup _)

theorem depNamesOf_mono (name : Str) (sums sums' : List Summary')
    (h : ∀ x ∈ sums.flatMap (·.depPkgs), x ∈ sums'.flatMap (·.depPkgs)) :
    ∀ d ∈ depNamesOf name sums, d ∈ depNamesOf name sums' := by
  intro d hd
  simp only [depNamesOf, List.mem_filter, mem_dedup] at hd ⊢
  exact ⟨h d hd.1, hd.2⟩

/-- `loadLocalPackage`, given the loader for the dependencies -/
def loadLocal (load : Str → Outcome Loaded) (name : Str) (pkg : Pkg) : Outcome Loaded :=
  (summaries pkg.files).bind fun sums =>
  (seqLoad load (depNamesOf name sums)).bind fun ls =>
  (convertAll (mkResolver name sums ls) pkg.files).map (mkLoaded name pkg sums ls)

/-- a package that is not local: one of the built-ins (loads empty), or unknown -/
def loadExternal (name : Str) : Outcome Loaded :=
  if builtinPkgs.contains name then .ok { name := name, exports := [], deps := [], files := [] }
  else .err "no-package"

theorem loadPkg_succ (b : Bundle) (fuel : Nat) (chain : List Str) (name : Str) :
    loadPkg b (fuel + 1) chain name =
      if chain.contains name then .err "circular" else
      match b.find name with
      | none => loadExternal name
      | some pkg => loadLocal (loadPkg b fuel (chain ++ [name])) name pkg := by
  rw [loadPkg]
  split
  · rfl
  · cases b.find name with
    | none => rfl
    | some pkg =>
      simp only [loadLocal]
      cases summaries pkg.files with
      | ok sums =>
        simp only [Outcome.bind]
        cases seqLoad (fun d => loadPkg b fuel (chain ++ [name]) d) (depNamesOf name sums) with
        | ok ls => simp only []; cases convertAll (mkResolver name sums ls) pkg.files <;> rfl
        | err t => rfl
        | panic w => rfl
      | err t => rfl
      | panic w => rfl

theorem loadLocal_congr {load load' : Str → Outcome Loaded} {name : Str} {pkg : Pkg}
    (h : ∀ sums, summaries pkg.files = .ok sums → ∀ d ∈ depNamesOf name sums, load d = load' d) :
    loadLocal load name pkg = loadLocal load' name pkg := by
  unfold loadLocal
  cases hs : summaries pkg.files with
  | ok sums => simp only [Outcome.bind]; rw [seqLoad_congr_mem load load' _ (h sums hs)]
  | err t => rfl
  | panic w => rfl

theorem loadLocal_isPanic {load : Str → Outcome Loaded} {name : Str} {pkg : Pkg}
    (hs : (summaries pkg.files).isPanic = false)
    (hl : ∀ sums, summaries pkg.files = .ok sums → ∀ d ∈ depNamesOf name sums, (load d).isPanic = false)
    (hc : ∀ sums ls, summaries pkg.files = .ok sums → seqLoad load (depNamesOf name sums) = .ok ls →
      (convertAll (mkResolver name sums ls) pkg.files).isPanic = false) :
    (loadLocal load name pkg).isPanic = false := by
  unfold loadLocal
  cases h1 : summaries pkg.files with
  | panic w => rw [h1] at hs; cases hs
  | err t => rfl
  | ok sums =>
    have h2' : (seqLoad load (depNamesOf name sums)).isPanic = false := by
      rw [seqLoad_eq_seq]; exact Outcome.seq_isPanic _ _ (hl sums h1)
    simp only [Outcome.bind]
    cases h2 : seqLoad load (depNamesOf name sums) with
    | panic w => rw [h2] at h2'; cases h2'
    | err t => rfl
    | ok ls => simp only []; rw [Outcome.map_isPanic]; exact hc sums ls h1 h2

/-- the loaded dependencies, when each of them loads -/
def depsOf (load : Str → Outcome Loaded) (name : Str) (pkg : Pkg) : List Loaded :=
  (depNamesOf name (pkgSums pkg)).map fun d => (load d).get

/-- the resolver a local package offers its files, from its sources and its loaded dependencies -/
def localResolver (load : Str → Outcome Loaded) (name : Str) (pkg : Pkg) : Resolver :=
  mkResolver name (pkgSums pkg) (depsOf load name pkg)

/-- the local loader succeeds iff every call it makes does; its result is then a function of the
sources -/
theorem loadLocal_eq_ok_iff {load : Str → Outcome Loaded} {name : Str} {pkg : Pkg} {l : Loaded} :
    loadLocal load name pkg = .ok l ↔
      (∀ f ∈ pkg.files, fileSummary f = .ok (sumOf f)) ∧
      (∀ d ∈ depNamesOf name (pkgSums pkg), load d = .ok (load d).get) ∧
      (∀ f ∈ pkg.files, convOk (localResolver load name pkg) f) ∧
      l = mkLoaded name pkg (pkgSums pkg) (depsOf load name pkg)
        (pkg.files.flatMap (convOf (localResolver load name pkg))) := by
  unfold loadLocal
  constructor
  · intro h
    obtain ⟨sums, hs, h⟩ := bind_eq_ok h
    obtain ⟨ls, hl, h⟩ := bind_eq_ok h
    obtain ⟨files, hc, rfl⟩ := map_eq_ok h
    obtain ⟨rfl, hsok⟩ := summaries_ok _ _ hs
    obtain ⟨rfl, hlok⟩ := Outcome.seq_ok _ _ _ (seqLoad_eq_seq load _ ▸ hl)
    obtain ⟨rfl, hcok⟩ := convertAll_ok _ _ _ hc
    exact ⟨hsok, hlok, hcok, rfl⟩
  · rintro ⟨hs, hl, hc, rfl⟩
    rw [summaries_of_all_ok _ hs]
    show (seqLoad load (depNamesOf name (pkgSums pkg))).bind _ = _
    rw [seqLoad_eq_seq, Outcome.seq_of_all_ok _ _ _ hl]
    show (convertAll (localResolver load name pkg) pkg.files).map _ = _
    rw [convertAll_of_all_ok _ _ hc]
    rfl

theorem loadExternal_eq_ok_iff {n : Str} {l : Loaded} :
    loadExternal n = .ok l ↔ builtinPkgs.contains n = true ∧
      l = { name := n, exports := [], deps := [], files := [] } := by
  unfold loadExternal
  split
  · exact ⟨fun h => ⟨‹_›, (Outcome.ok.inj h).symm⟩, fun h => h.2 ▸ rfl⟩
  · exact ⟨nofun, fun h => absurd h.1 ‹_›⟩

theorem loadPkg_ok_cases {b : Bundle} {fuel : Nat} {chain : List Str} {name : Str} {l : Loaded}
    (h : loadPkg b fuel chain name = .ok l) :
    l = { name := name, exports := [], deps := [], files := [] } ∨
    ∃ fuel' pkg, fuel = fuel' + 1 ∧ b.find name = some pkg ∧
      loadLocal (loadPkg b fuel' (chain ++ [name])) name pkg = .ok l := by
  cases fuel with
  | zero => cases h
  | succ fuel =>
    rw [loadPkg_succ] at h
    split at h
    · cases h
    · split at h
      · exact .inl (loadExternal_eq_ok_iff.mp h).2
      · exact .inr ⟨fuel, _, rfl, ‹_›, h⟩

theorem loadPkg_name (b : Bundle) (fuel : Nat) (chain : List Str) (d : Str) (l : Loaded)
    (h : loadPkg b fuel chain d = .ok l) : l.name = d := by
  obtain rfl | ⟨_, _, _, _, h⟩ := loadPkg_ok_cases h
  · rfl
  · obtain ⟨_, _, _, rfl⟩ := loadLocal_eq_ok_iff.mp h; rfl

/-- the resolver a loaded package offered to its own files -/
def Loaded.resolver (l : Loaded) : Resolver :=
  { pkgName := l.name, exports := l.exports, deps := l.deps }

theorem loadPkg_ok_iff {b : Bundle} {fuel : Nat} {chain : List Str} {name : Str} {pkg : Pkg} {l : Loaded}
    (hf : b.find name = some pkg) :
    loadPkg b (fuel + 1) chain name = .ok l ↔ chain.contains name = false ∧
      loadLocal (loadPkg b fuel (chain ++ [name])) name pkg = .ok l := by
  rw [loadPkg_succ, hf]
  cases chain.contains name <;> simp

/-- the files of a successful load -/
theorem loadPkg_ok_inv (b : Bundle) (fuel : Nat) (chain : List Str) (name : Str) (p : Pkg)
    (l : Loaded) (hf : b.find name = some p) (h : loadPkg b (fuel + 1) chain name = .ok l) :
    l.files = p.files.flatMap (convOf l.resolver) ∧ ∀ f ∈ p.files, convOk l.resolver f := by
  obtain ⟨_, _, hc, rfl⟩ := loadLocal_eq_ok_iff.mp ((loadPkg_ok_iff hf).mp h).2
  exact ⟨rfl, hc⟩

/-- summaries, name and tables of a successful load -/
theorem loadPkg_ok_struct (b : Bundle) (fuel : Nat) (chain : List Str) (name : Str) (p : Pkg)
    (l : Loaded) (hf : b.find name = some p) (h : loadPkg b (fuel + 1) chain name = .ok l) :
    summaries p.files = .ok (p.files.map sumOf) ∧ l.name = name ∧
    l.exports = (p.files.map sumOf).flatMap (·.exports) ∧
    l.deps = (depNamesOf name (p.files.map sumOf)).map
      (fun d => (d, (loadOf b fuel (chain ++ [name]) d).exports)) ∧
    ∀ d ∈ depNamesOf name (p.files.map sumOf),
      loadPkg b fuel (chain ++ [name]) d = .ok (loadOf b fuel (chain ++ [name]) d) := by
  obtain ⟨hs, hl, _, rfl⟩ := loadLocal_eq_ok_iff.mp ((loadPkg_ok_iff hf).mp h).2
  simp only [loadOf_eq_get]
  refine ⟨summaries_of_all_ok _ hs, rfl, rfl, ?_, hl⟩
  simp only [mkLoaded, depsOf, List.map_map]
  apply List.map_congr_left
  intro d hd
  exact Prod.ext (loadPkg_name b fuel (chain ++ [name]) d _ (hl d hd)) rfl

theorem loadPkg_files_from (b : Bundle) (fuel : Nat) (chain : List Str) (name : Str) (p : Pkg)
    (l : Loaded) (hf : b.find name = some p) (hl : loadPkg b (fuel + 1) chain name = .ok l) :
    ∀ f ∈ l.files, ∃ path imports elems decl fs, SrcFile.j5s path imports elems decl ∈ p.files ∧
      convertFile l.resolver path imports elems = .ok fs ∧ f ∈ fs := by
  obtain ⟨hfiles, hok⟩ := loadPkg_ok_inv b fuel chain name p l hf hl
  intro f hfm
  rw [hfiles] at hfm
  obtain ⟨src, hsrc, hfs⟩ := List.mem_flatMap.mp hfm
  cases src with
  | proto path msgs enums => cases hfs
  | j5s path imports elems decl =>
    obtain ⟨fs, hconv⟩ := hok _ hsrc
    simp only [convOf, hconv] at hfs
    exact ⟨path, imports, elems, decl, fs, hsrc, hconv, hfs⟩

theorem loadPkg_member (b : Bundle) (fuel : Nat) (chain : List Str) (name : Str) (p : Pkg)
    (l : Loaded) (hf : b.find name = some p) (hl : loadPkg b (fuel + 1) chain name = .ok l)
    {path : Str} {imports : List Import} {elems : List Elem} {decl : Str}
    (hmem : SrcFile.j5s path imports elems decl ∈ p.files) :
    ∃ fs, convertFile l.resolver path imports elems = .ok fs ∧ (∀ f ∈ fs, f ∈ l.files) ∧
      ∃ s, sourceSummary path imports elems = .ok s ∧ ∀ x ∈ s.exports, x ∈ l.exports := by
  obtain ⟨hfiles, hok⟩ := loadPkg_ok_inv b fuel chain name p l hf hl
  obtain ⟨hs, _, hex, _, _⟩ := loadPkg_ok_struct b fuel chain name p l hf hl
  obtain ⟨fs, hfs⟩ := hok _ hmem
  obtain ⟨_, hall⟩ := summaries_ok p.files _ hs
  refine ⟨fs, hfs, fun f hf' => ?_, _, fileSummary_j5s_ok _ _ _ _ _ (hall _ hmem), fun x hx => ?_⟩
  · rw [hfiles]
    exact List.mem_flatMap.mpr ⟨_, hmem, by simp only [convOf, hfs]; exact hf'⟩
  · rw [hex]
    exact List.mem_flatMap.mpr ⟨_, List.mem_map_of_mem hmem, hx⟩

/-- **the loader reads the bundle only through `find`, and never for a package on the chain** -/
theorem loadPkg_congr (b b' : Bundle) :
    ∀ (fuel : Nat) (chain : List Str) (d : Str), (∀ n, chain.contains n = false → b.find n = b'.find n) →
      loadPkg b fuel chain d = loadPkg b' fuel chain d := by
  intro fuel
  induction fuel with
  | zero => intro chain d _; rfl
  | succ fuel ih =>
    intro chain d h
    rw [loadPkg_succ, loadPkg_succ]
    split
    · rfl
    · rename_i hd
      rw [h d (by simpa using hd)]
      cases b'.find d with
      | none => rfl
      | some pkg =>
        exact loadLocal_congr fun _ _ x _ => ih _ x fun n hn => h n (by
          simp only [List.contains_eq_mem, List.mem_append, decide_eq_false_iff_not, not_or] at hn ⊢
          exact hn.1)

/-- once `name` is on the chain the loader never looks `name` up: bundles that agree on every
other package load alike -/
theorem loadPkg_congr_chain (b b' : Bundle) (name : Str)
    (hfind : ∀ n, n ≠ name → b.find n = b'.find n) :
    ∀ (fuel : Nat) (chain : List Str) (d : Str), chain.contains name = true →
      loadPkg b fuel chain d = loadPkg b' fuel chain d :=
  fun fuel chain d hc => loadPkg_congr b b' fuel chain d fun n hn =>
    hfind n fun e => by rw [e, hc] at hn; cases hn

/-- `r` decreases along the dependencies of every package of the bundle -/
def rankOk (b : Bundle) (r : Str → Nat) : Bool :=
  b.pkgs.all fun p =>
    match summaries p.files with
    | .ok sums => (depNamesOf p.name sums).all fun d => decide (r d < r p.name)
    | _ => true

theorem rankOk_dep (b : Bundle) (r : Str → Nat) (h : rankOk b r = true) (n : Str) (p : Pkg)
    (sums : List Summary') (hf : b.find n = some p) (hs : summaries p.files = .ok sums) :
    ∀ d ∈ depNamesOf n sums, r d < r n := by
  have hp : p ∈ b.pkgs := List.mem_of_find?_eq_some hf
  have hn : p.name = n := by
    have := List.find?_some hf
    simpa using this
  have := (List.all_eq_true.mp h) p hp
  simp only [hs] at this
  intro d hd
  rw [← hn] at hd ⊢
  simpa using (List.all_eq_true.mp this) d hd

/-- a package below everything on the chain is not on it -/
theorem not_on_chain {r : Str → Nat} {chain : List Str} {n : Str} (hc : ∀ c ∈ chain, r n < r c) :
    chain.contains n = false := by
  cases h : chain.contains n with
  | false => rfl
  | true => exact absurd (hc n (by simpa using h)) (Nat.lt_irrefl _)

/-- …and a dependency of it is below the chain extended by it -/
theorem chain_snoc {r : Str → Nat} {chain : List Str} {n d : Str} (hc : ∀ c ∈ chain, r n < r c)
    (hd : r d < r n) : ∀ c ∈ chain ++ [n], r d < r c := by
  intro c hcm
  rcases List.mem_append.mp hcm with h | h
  · exact Nat.lt_trans hd (hc c h)
  · rw [List.mem_singleton.mp h]; exact hd

/-- **fuel and chain do not matter** once the fuel exceeds the rank and every package on the
chain has a higher rank (i.e. is an ancestor) -/
theorem loadPkg_indep (b : Bundle) (r : Str → Nat) (hr : rankOk b r = true) :
    ∀ (f f' : Nat) (chain chain' : List Str) (n : Str), r n < f → r n < f' →
      (∀ c ∈ chain, r n < r c) → (∀ c ∈ chain', r n < r c) →
      loadPkg b f chain n = loadPkg b f' chain' n := by
  intro f
  induction f with
  | zero => intro f' chain chain' n h; omega
  | succ k ih =>
    intro f' chain chain' n hf hf' hc hc'
    cases f' with
    | zero => omega
    | succ k' =>
      rw [loadPkg_succ, loadPkg_succ, not_on_chain hc, not_on_chain hc']
      cases hfind : b.find n with
      | none => rfl
      | some pkg =>
        refine loadLocal_congr fun sums hs d hd => ?_
        have hdr := rankOk_dep b r hr n pkg sums hfind hs d hd
        exact ih k' _ _ d (by omega) (by omega) (chain_snoc hc hdr) (chain_snoc hc' hdr)

end J5V.Compile
