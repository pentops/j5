import J5V.Compile.ConvertProofs
import J5V.Compile.File
/-!
# What every effect of the schema-level conversion satisfies (core only)

Three facts about the effects of `buildFieldNode` / `buildField` / `buildProperty`, for any
property list, rules and nesting depth:

* no panic arm is reached when the resolver only hands out file names `ensureImport` accepts
  (`WfCtx`: non-empty, containing `/` — true of every `TypeRef` the package loader builds);
* every extension set is imported by the same branch, except `j5/ext/v1/annotations.proto`, which
  the enclosing message imports (`UsesOk`) — so for every declared object / oneof `uses ⊆ imports`,
  and the link step's extension lookup (`markExtensionImportsUsed`) cannot fail;
* conversely every `ensureImport` call names one of the eleven import constants of
  `j5convert/imports.go` or the file of a type the context resolves (`ImpFrom`): the first half of
  the link bridge "imports found".

All three only look at the imports, the uses and the panic flag of an effect and are kept by `++`;
`FieldInv` collects what such a property has to satisfy, and the induction over fields and
property lists is done once; then over declarations, services and topics up to the steps of a
visited item, whose possible forms `ItemStep` lists.
-/
namespace J5V.Compile

/-! ## the three properties -/

/-- `ensureImport` panics on this path -/
def badImport (p : Str) : Bool := p = [] || !containsByte 47 p

theorem Eff.imp_panic (p : Str) : (Eff.imp p).panic = badImport p := rfl

/-- every file name the resolver returns is acceptable to `ensureImport` -/
def WfCtx (c : Ctx) : Prop := ∀ pkg s t, c.resolve pkg s = some t → badImport t.file = false

/-- every used file is imported, up to the message-level import of the j5 extension file -/
def UsesOk (e : Eff) : Prop := ∀ u ∈ e.uses, u ∈ e.imports ∨ u = j5ExtImport

/-- the files the converter imports without asking the resolver (`j5convert/imports.go`) -/
def constImports : List Str :=
  [bufValidateImport, j5ExtImport, j5DateImport, j5DecimalImport, j5ListAnnotationsImport,
   pbTimestampImport, j5AnyImport, googleApiHttpBodyImport, googleApiAnnotationsImport,
   googleProtoEmptyImport, messagingAnnotationsImport]

theorem constImports_ok : ∀ p ∈ constImports, badImport p = false := by decide +kernel

/-- a file name is a legitimate import in context `c`: a constant, or the file of a type that a
reference `(pkg, schema)` allowed by `R` (e.g. "occurs in the source") resolves to -/
def ImpSrc (c : Ctx) (R : Str → Str → Prop) (i : Str) : Prop :=
  i ∈ constImports ∨ ∃ pkg schema t, R pkg schema ∧ c.resolve pkg schema = some t ∧ t.file = i

/-- every import of the effect is a constant or the file of a type the context resolves -/
def ImpFrom (c : Ctx) (R : Str → Str → Prop) (e : Eff) : Prop := ∀ i ∈ e.imports, ImpSrc c R i

/-! ## properties of effects the conversion keeps -/

/-- A property of effects that only looks at imports, uses and the panic flag, is kept by `++`,
and holds of what the conversion adds on its own: the import of a constant file, an extension set
after the import of its file, the j5 extension set without one (the enclosing message imports it),
and the import of the file of a type that a reference allowed by `R` resolves to. -/
structure FieldInv (c : Ctx) (R : Str → Str → Prop) (P : Eff → Prop) : Prop where
  congr : ∀ {a b : Eff}, P a → a.imports = b.imports → a.uses = b.uses → a.panic = b.panic → P b
  empty : P {}
  add : ∀ {a b : Eff}, P a → P b → P (a ++ b)
  imp : ∀ p ∈ constImports, P (Eff.imp p)
  useOf : ∀ {a : Eff} (p : Str), P a → p ∈ a.imports → P (a ++ Eff.use p)
  useExt : P (Eff.use j5ExtImport)
  res : ∀ pkg schema t, R pkg schema → c.resolve pkg schema = some t → P (Eff.imp t.file)

theorem refsProperty_built (name : Str) (req opt : Bool) (schema : Field) :
    refsProperty (.mk name req opt schema) = refsField (builtField schema) := by
  cases schema <;> rfl

theorem refsField_scalar {f : Field} {b : BF} (h : scalarField f = some b) : refsField f = [] := by
  cases f <;> first | rfl | simp [scalarField] at h

namespace FieldInv
variable {c : Ctx} {R : Str → Str → Prop} {P : Eff → Prop} (h : FieldInv c R P)
include h

theorem err : P Eff.err := h.congr h.empty rfl rfl rfl
theorem errs (n : Nat) : P { errs := n } := h.congr h.empty rfl rfl rfl
theorem enums (es : List EnumSkel) : P { enums := es } := h.congr h.empty rfl rfl rfl
theorem when (b : Bool) {e : Eff} (he : P e) : P (when b e) := by
  cases b
  · exact h.empty
  · exact he
theorem impUse (p : Str) (hp : p ∈ constImports) : P (Eff.imp p ++ Eff.use p) :=
  h.useOf p (h.imp p hp) (List.mem_singleton.mpr rfl)
theorem j5Ext : P j5Ext := h.impUse _ (by decide)
theorem listRules (lr : Bool) : P (listRulesEff lr) := h.when _ (h.impUse _ (by decide))
theorem validate (b : Bool) : P (validateWithImport b) := h.when _ (h.impUse _ (by decide))
theorem msgEff (psm : Option Psm) : P (msgEff psm) :=
  h.add (h.add (h.when _ (h.imp _ (by decide))) (h.imp _ (by decide))) h.useExt

theorem foldl {α : Type} (f : α → Eff) (l : List α) {init : Eff} (hi : P init)
    (hl : ∀ a ∈ l, P (f a)) : P (l.foldl (fun e a => e ++ f a) init) := by
  induction l generalizing init with
  | nil => exact hi
  | cons a as ih =>
    exact ih (h.add hi (hl a (List.mem_cons_self ..))) fun b hb => hl b (List.mem_cons_of_mem _ hb)

/-- the extension member, the validate rules and the list rules a typed field ends with -/
theorem rulesTail {e : Eff} (he : P e) (v lr : Bool) :
    P (e ++ Compile.j5Ext ++ validateWithImport v ++ listRulesEff lr) :=
  h.add (h.add (h.add he h.j5Ext) (h.validate v)) (h.listRules lr)

theorem refField (pkg schema : Str) (we : Bool) (hR : R pkg schema) :
    P (refField c pkg schema we).1 := by
  unfold Compile.refField
  cases hr : c.resolve pkg schema with
  | none => exact h.empty
  | some t => dsimp only; split <;> exact h.res _ _ _ hR hr

theorem msgRefField (pkg schema ext : Str) (rules : Rules) (lr : Bool) (hR : R pkg schema) :
    P (msgRefField c pkg schema ext rules lr).eff ∧ P (msgRefField c pkg schema ext rules lr).walk := by
  unfold Compile.msgRefField
  have := h.refField pkg schema false hR
  generalize Compile.refField c pkg schema false = x at this ⊢
  rcases x with ⟨e, _ | t⟩
  · exact ⟨this, h.empty⟩
  · exact ⟨h.rulesTail this _ _, h.empty⟩

theorem enumFieldWith {pre walk : Eff} (h1 : P pre) (h2 : P walk) (tn pfx : Str) (names : List Str)
    (rules : Rules) (lr : Option (List Str)) :
    P (enumFieldWith pre walk tn pfx names rules lr).eff ∧
      P (enumFieldWith pre walk tn pfx names rules lr).walk := by
  unfold Compile.enumFieldWith
  split
  · exact ⟨h.add h1 h.j5Ext, h2⟩
  split
  · exact ⟨h.add (h.add h1 h.j5Ext) (h.validate _), h2⟩
  · exact ⟨h.rulesTail h1 _ _, h2⟩

theorem scalarField {f : Field} {b : BF} (hs : scalarField f = some b) : P b.eff ∧ P b.walk := by
  have hi := fun p hp => h.imp p hp
  cases f <;> simp only [Compile.scalarField, Option.some.injEq, reduceCtorEq] at hs
  case integer =>
    split at hs <;> cases hs
    · exact ⟨h.j5Ext, h.empty⟩
    · exact ⟨h.add (h.add h.j5Ext (h.validate _)) (h.listRules _), h.empty⟩
  case float =>
    split at hs <;> cases hs
    · exact ⟨h.empty, h.empty⟩
    · exact ⟨h.add h.j5Ext (h.listRules _), h.empty⟩
  all_goals cases hs
  · exact ⟨h.add (h.add h.j5Ext (h.validate _)) (h.listRules _), h.empty⟩
  · exact ⟨h.add (h.add h.j5Ext (h.validate _)) (h.listRules _), h.empty⟩
  · exact ⟨h.add h.j5Ext (h.validate _), h.empty⟩
  · exact ⟨h.add (h.add (hi _ (by decide)) (h.when _ h.j5Ext)) (h.listRules _), h.empty⟩
  · exact ⟨h.add (h.add (hi _ (by decide)) (h.when _ h.j5Ext)) (h.listRules _), h.empty⟩
  · exact ⟨h.add (h.add (hi _ (by decide)) h.j5Ext) (h.validate _), h.empty⟩
  · exact ⟨h.add (hi _ (by decide)) h.useExt, h.empty⟩
  · exact ⟨h.add (h.add (h.add (hi _ (by decide)) h.j5Ext) (h.listRules _)) (h.validate _), h.empty⟩

/-- the effect of an inline object / oneof: `msgEff` of the message, then what its properties add -/
theorem inline {inner : Eff} (hi : P inner) (msgs : List MsgSkel) :
    P { msgs := msgs, imports := (Compile.msgEff none).imports ++ inner.imports, errs := inner.errs,
        panic := inner.panic, uses := (Compile.msgEff none).uses ++ inner.uses } :=
  h.congr (h.add (h.msgEff none) hi) rfl rfl
    (by simp only [Eff.add_def, Eff.add, show (Compile.msgEff none).panic = false by decide,
      Bool.false_or])

theorem tailEff (req opt : Bool) : P (tailEff req opt) := by
  unfold Compile.tailEff
  refine h.add ?_ ?_ <;> split
  · exact h.add (h.validate _) (h.imp _ (by decide))
  · exact h.empty
  · exact h.err
  · exact h.empty

theorem finishProperty (name : Str) (req opt : Bool) (n : Nat) (io : Bool) {pre : Eff} (hp : P pre)
    (entries : List MsgSkel) (r : FieldRes) (rep : Bool) :
    P (finishProperty name req opt n io pre entries r rep).eff := by
  rw [finishProperty_eff]; exact h.add hp (h.tailEff _ _)

theorem wrapEff (f : Field) (r : FieldRes) : P (wrapEff f r) := by
  cases f <;> first | exact h.empty | exact h.add h.j5Ext (h.validate _)

theorem bProperty_of_bField (np : List Str) (io : Bool) (n : Nat) (name : Str) (req opt : Bool)
    (f : Field) (hb : P (bField c np (toCamel name) (builtField f)).eff) :
    P (bProperty c np io n (.mk name req opt f)).eff := by
  rw [bProperty_eq]
  split
  · exact h.add hb h.err
  · exact h.finishProperty _ _ _ _ _ (h.add hb (h.wrapEff _ _)) _ _ _

/-- **the property holds of everything `buildFieldNode` / `buildField` / the property loop produce**,
for fields and property lists whose references `R` allows -/
theorem bField_bProps :
    (∀ f, (∀ r ∈ refsField f, R r.1 r.2) → ∀ np d, P (bField c np d f).eff ∧ P (bField c np d f).walk) ∧
    ∀ ps, (∀ r ∈ refsProps ps, R r.1 r.2) → ∀ np io n, P (bProps c np io n ps).eff := by
  apply field_induct
  case scalar => intro f b hs _ np d; rw [bField_scalar c np d f b hs]; exact h.scalarField hs
  case objectRef =>
    intro pkg s fl rules hR np d; rw [bField]
    exact h.msgRefField _ _ _ _ _ (hR (pkg, s) (List.mem_singleton.mpr rfl))
  case oneofRef =>
    intro pkg s rules lr hR np d; rw [bField]
    exact h.msgRefField _ _ _ _ _ (hR (pkg, s) (List.mem_singleton.mpr rfl))
  case enumRef =>
    intro pkg s rules lr hR np d; rw [bField]
    have := h.refField pkg s true (hR (pkg, s) (List.mem_singleton.mpr rfl))
    generalize Compile.refField c pkg s true = x at this ⊢
    rcases x with ⟨e, _ | t⟩
    · exact ⟨this, h.empty⟩
    · dsimp only
      split
      · exact h.enumFieldWith this h.empty _ _ _ _ _
      · exact ⟨this, h.empty⟩
  case objectInl =>
    intro name props fl rules ih hR np d; rw [bField]
    exact ⟨h.rulesTail (h.inline (ih hR _ _ _) _) _ _, h.inline (ih hR _ _ _) _⟩
  case oneofInl =>
    intro name props rules lr ih hR np d; rw [bField]
    exact ⟨h.rulesTail (h.inline (ih hR _ _ _) _) _ _, h.inline (ih hR _ _ _) _⟩
  case enumInl =>
    intro e rules lr _ np d; rw [bField]
    simp only [enumTKind]
    exact h.enumFieldWith (h.enums _) (h.enums _) _ _ _ _ _
  case array => intro items rules ih hR np d; rw [bField]; exact ⟨(ih hR np d).2, (ih hR np d).2⟩
  case map => intro items rules ih hR np d; rw [bField]; exact ⟨(ih hR np d).2, (ih hR np d).2⟩
  case nil => intro _ np io n; rw [bProps_nil]; exact h.empty
  case cons =>
    intro name req opt f ps ihf ihps hR np io n
    rw [bProps_cons]
    have hf : ∀ r ∈ refsField (builtField f), R r.1 r.2 := fun r hr =>
      hR r (List.mem_append_left _ (refsProperty_built name req opt f ▸ hr))
    have a := h.bProperty_of_bField np io n name req opt f (ihf hf np _).1
    refine h.add ?_ (ihps (fun r hr => hR r (List.mem_append_right _ hr)) np io (n + 1))
    cases io
    · exact h.congr a rfl rfl rfl
    · exact a

theorem bField (np : List Str) (d : Str) (f : Field) (hR : ∀ r ∈ refsField f, R r.1 r.2) :
    P (bField c np d f).eff ∧ P (bField c np d f).walk := h.bField_bProps.1 f hR np d

theorem bProps (np : List Str) (io : Bool) (n : Nat) (ps : List Property)
    (hR : ∀ r ∈ refsProps ps, R r.1 r.2) : P (bProps c np io n ps).eff :=
  h.bField_bProps.2 ps hR np io n

theorem bProperty (np : List Str) (io : Bool) (n : Nat) (p : Property)
    (hR : ∀ r ∈ refsProperty p, R r.1 r.2) : P (bProperty c np io n p).eff := by
  cases p with
  | mk name req opt f =>
    rw [refsProperty_built] at hR
    exact h.bProperty_of_bField np io n name req opt f (h.bField np _ _ hR).1

end FieldInv

/-! ## no panic -/

theorem WfCtx.inv {c : Ctx} (hc : WfCtx c) : FieldInv c (fun _ _ => True) (·.panic = false) where
  congr hp _ _ h3 := h3 ▸ hp
  empty := rfl
  add ha hb := by rw [Eff.add_def, Eff.add_panic, ha, hb]; rfl
  imp := constImports_ok
  useOf _ ha _ := by rw [Eff.add_def, Eff.add_panic, ha]; rfl
  useExt := rfl
  res pkg s t _ ht := hc pkg s t ht

theorem bProperty_no_panic (c : Ctx) (hc : WfCtx c) (np : List Str) (io : Bool) (n : Nat) :
    ∀ p : Property, (bProperty c np io n p).eff.panic = false :=
  fun p => hc.inv.bProperty np io n p fun _ _ => trivial

theorem lookup_mem {β : Type} (l : List (Str × β)) (k : Str) (v : β) (h : l.lookup k = some v) :
    (k, v) ∈ l := by
  induction l with
  | nil => simp at h
  | cons x xs ih =>
    obtain ⟨a, b⟩ := x
    simp only [List.lookup_cons] at h
    by_cases hk : k = a
    · subst hk; simp at h; subst h; simp
    · have : (k == a) = false := by simpa using hk
      rw [this] at h
      exact List.mem_cons_of_mem _ (ih h)

theorem implicitRef_mem (p sch : Str) (t : TypeRef) (h : implicitRef p sch = some t) :
    ∃ pe ∈ implicitImports, t ∈ pe.2 := by
  unfold implicitRef at h
  cases hl : implicitImports.lookup p with
  | none => simp [hl] at h
  | some ex =>
    rw [hl] at h
    exact ⟨(p, ex), lookup_mem _ _ _ hl, List.mem_of_find?_eq_some h⟩

theorem implicitRef_wf (p sch : Str) (t : TypeRef) (h : implicitRef p sch = some t) :
    badImport t.file = false := by
  obtain ⟨pe, hpe, ht⟩ := implicitRef_mem p sch t h
  have hall : ∀ pr ∈ implicitImports, ∀ x ∈ pr.2, badImport x.file = false := by decide +kernel
  exact hall pe hpe t ht

/-! ## uses are imported -/

theorem UsesOk.add {a b : Eff} (ha : UsesOk a) (hb : UsesOk b) : UsesOk (a ++ b) := by
  intro u hu
  rcases List.mem_append.mp hu with h | h
  · exact (ha u h).imp_left (List.mem_append_left _)
  · exact (hb u h).imp_left (List.mem_append_right _)

theorem UsesOk.inv (c : Ctx) : FieldInv c (fun _ _ => True) UsesOk where
  congr hp hi hu _ := fun u h => hi ▸ hp u (hu ▸ h)
  empty := fun _ h => nomatch h
  add := UsesOk.add
  imp _ _ := fun _ h => nomatch h
  useOf p ha hp := fun u hu => (List.mem_append.mp hu).elim
    (fun h => (ha u h).imp_left (List.mem_append_left _))
    (fun h => Or.inl (List.mem_append_left _ (List.mem_singleton.mp h ▸ hp)))
  useExt := fun _ h => Or.inr (List.mem_singleton.mp h)
  res _ _ _ _ _ := fun _ h => nomatch h

/-- (`UsesOk` does not look at the context: any one will do) -/
theorem UsesOk.validate (b : Bool) : UsesOk (validateWithImport b) := (UsesOk.inv ⟨fun _ _ => none⟩).validate b

theorem bField_usesOk (c : Ctx) (np : List Str) (d : Str) :
    ∀ f : Field, UsesOk (bField c np d f).eff ∧ UsesOk (bField c np d f).walk :=
  fun f => (UsesOk.inv c).bField np d f fun _ _ => trivial

theorem bProperty_usesOk (c : Ctx) (np : List Str) (io : Bool) (n : Nat) :
    ∀ p : Property, UsesOk (bProperty c np io n p).eff :=
  fun p => (UsesOk.inv c).bProperty np io n p fun _ _ => trivial

/-! ## where imports come from -/

theorem ImpFrom.add {c : Ctx} {R : Str → Str → Prop} {a b : Eff} (ha : ImpFrom c R a) (hb : ImpFrom c R b) : ImpFrom c R (a ++ b) := by
  intro u hu
  rcases List.mem_append.mp hu with h | h
  · exact ha u h
  · exact hb u h

theorem ImpFrom.inv (c : Ctx) (R : Str → Str → Prop) : FieldInv c R (ImpFrom c R) where
  congr hp hi _ _ := fun i h => hp i (hi ▸ h)
  empty := fun _ h => nomatch h
  add := ImpFrom.add
  imp p hp := fun _ h => Or.inl (List.mem_singleton.mp h ▸ hp)
  useOf _ ha _ := fun i hi => ha i (by simpa [Eff.use, Eff.add] using hi)
  useExt := fun _ h => nomatch h
  res pkg s t hR ht := fun _ h => Or.inr ⟨pkg, s, t, hR, ht, (List.mem_singleton.mp h).symm⟩

theorem ImpFrom.validate (c : Ctx) (R : Str → Str → Prop) (b : Bool) : ImpFrom c R (validateWithImport b) :=
  (ImpFrom.inv c R).validate b

theorem ImpFrom.mono {c : Ctx} {R R' : Str → Str → Prop} {e : Eff} (h : ImpFrom c R e)
    (hRR : ∀ a b, R a b → R' a b) : ImpFrom c R' e := by
  intro i hi
  rcases h i hi with h1 | ⟨pkg, schema, t, hR, h2, h3⟩
  · exact Or.inl h1
  · exact Or.inr ⟨pkg, schema, t, hRR _ _ hR, h2, h3⟩

theorem bField_impFrom (c : Ctx) (R : Str → Str → Prop) (np : List Str) (d : Str) :
    ∀ f : Field, (∀ r ∈ refsField f, R r.1 r.2) →
      ImpFrom c R (bField c np d f).eff ∧ ImpFrom c R (bField c np d f).walk :=
  fun f hR => (ImpFrom.inv c R).bField np d f hR

theorem bProperty_impFrom (c : Ctx) (R : Str → Str → Prop) (np : List Str) (io : Bool) (n : Nat) :
    ∀ p : Property, (∀ r ∈ refsProperty p, R r.1 r.2) → ImpFrom c R (bProperty c np io n p).eff :=
  fun p hR => (ImpFrom.inv c R).bProperty np io n p hR

/-! ## declared objects / oneofs, services, topics, items

The walk has two nil dereferences of its own: a oneof without a name (`ww.field.name` with
`ww.field == nil`) and a method without a request (`method.Request.Properties`). j5parse never
produces either (names are mandatory tags, `request` is a required child); `WfDecl` … `WfItem`
exclude them. A property that holds of a panicked effect needs no such hypothesis. -/

mutual
def WfDecl (isOneof : Bool) : ObjDecl → Bool
  | .mk name _ nested _ => (!isOneof || name ≠ []) && WfNested nested
def WfNested : List Nested → Bool
  | [] => true
  | .object o :: rest => WfDecl false o && WfNested rest
  | .oneof o :: rest => WfDecl true o && WfNested rest
  | .enum _ :: rest => WfNested rest
end

def WfService (s : Service) : Bool := s.methods.all (·.request.isSome)

/-- well-formedness of what the file visitor receives -/
def WfItem : Item → Bool
  | .object o => WfDecl false o
  | .oneof o => WfDecl true o
  | .enum _ => true
  | .serviceFile ss => ss.all WfService
  | .topicFile _ => true
  | .abort => true

def topicSvc (tn : TopicNode) : SvcSkel :=
  { name := toCamel tn.name ++ b!"Topic", sopt := .topic tn.topicName tn.role tn.entityName,
    methods := tn.msgs.filterMap fun m => (topicMethodName tn m).map fun n =>
      { name := n, input := n ++ b!"Message", output := googleProtoEmptyType, http := none,
        mopt := .none } }

/-- the last step of a topic node: its service, with the messaging annotation -/
def topicSvcStep (tn : TopicNode) : Step :=
  { target := .topic,
    eff := Eff.use messagingAnnotationsImport ++ Eff.imp messagingAnnotationsImport
            ++ Eff.imp googleProtoEmptyImport,
    svcs := [topicSvc tn] }

theorem acceptTopic_eq (c : Ctx) (t : TopicNode) :
    acceptTopic c t =
      (t.msgs.map fun m => match topicMethodName t m with
        | none => ({ target := .topic, hard := true } : Step)
        | some n => { target := .topic, eff := convVirtual c (n ++ b!"Message") t.prepend m.props }) ++
      [topicSvcStep t] := rfl

/-- what a step of a visited item can be -/
inductive ItemStep (c : Ctx) : Item → Step → Prop
  | object (o : ObjDecl) : ItemStep c (.object o) { target := .main, eff := convDecl c [] false [] o }
  | oneof (o : ObjDecl) : ItemStep c (.oneof o) { target := .main, eff := convDecl c [] true [] o }
  | enum (e : EnumDecl) : ItemStep c (.enum e) { target := .main, eff := { enums := [convEnum e] } }
  | abort : ItemStep c .abort { target := .main, hard := true }
  | serviceFile (ss : List Service) : ItemStep c (.serviceFile ss) { target := .service }
  | service {ss : List Service} {s : Service} (hs : s ∈ ss) : ItemStep c (.serviceFile ss) (convService c s)
  | topicFile (ts : List Topic) : ItemStep c (.topicFile ts) { target := .topic }
  | topicMsg {ts : List Topic} {t : Topic} {tn : TopicNode} {m : TopicMsg} {n : Str} (ht : t ∈ ts)
      (htn : tn ∈ topicNodes t) (hm : m ∈ tn.msgs) (hn : topicMethodName tn m = some n) :
      ItemStep c (.topicFile ts)
        { target := .topic, eff := convVirtual c (n ++ b!"Message") tn.prepend m.props }
  | topicNoName {ts : List Topic} {t : Topic} {tn : TopicNode} {m : TopicMsg} (ht : t ∈ ts)
      (htn : tn ∈ topicNodes t) (hm : m ∈ tn.msgs) (hn : topicMethodName tn m = none) :
      ItemStep c (.topicFile ts) { target := .topic, hard := true }
  | topicSvc {ts : List Topic} {t : Topic} {tn : TopicNode} (ht : t ∈ ts) (htn : tn ∈ topicNodes t) :
      ItemStep c (.topicFile ts) (topicSvcStep tn)


theorem mem_convItem {c : Ctx} {i : Item} {st : Step} : st ∈ convItem c i ↔ ItemStep c i st := by
  constructor
  · intro h
    cases i with
    | object o => cases List.mem_singleton.mp h; exact .object o
    | oneof o => cases List.mem_singleton.mp h; exact .oneof o
    | enum e => cases List.mem_singleton.mp h; exact .enum e
    | abort => cases List.mem_singleton.mp h; exact .abort
    | serviceFile ss =>
      simp only [convItem, convServiceFile, List.mem_cons, List.mem_map] at h
      rcases h with rfl | ⟨s, hs, rfl⟩
      · exact .serviceFile ss
      · exact .service hs
    | topicFile ts =>
      simp only [convItem, convTopicFile, convTopic, acceptTopic, List.mem_cons, List.mem_flatMap,
        List.mem_append, List.mem_map] at h
      rcases h with rfl | ⟨t, ht, tn, htn, ⟨m, hm, rfl⟩ | rfl | h⟩
      · exact .topicFile ts
      · cases hn : topicMethodName tn m with
        | none => exact .topicNoName ht htn hm hn
        | some n => exact .topicMsg ht htn hm hn
      · exact .topicSvc ht htn
      · cases h
  · intro h
    cases h with
    | object o => exact List.mem_singleton.mpr rfl
    | oneof o => exact List.mem_singleton.mpr rfl
    | enum e => exact List.mem_singleton.mpr rfl
    | abort => exact List.mem_singleton.mpr rfl
    | serviceFile ss => exact List.mem_cons_self
    | service hs => exact List.mem_cons_of_mem _ (List.mem_map_of_mem hs)
    | topicFile ts => exact List.mem_cons_self
    | topicMsg ht htn hm hn =>
      exact List.mem_cons_of_mem _ (List.mem_flatMap.mpr ⟨_, ht, List.mem_flatMap.mpr ⟨_, htn,
        List.mem_append_left _ (List.mem_map.mpr ⟨_, hm, by rw [hn]⟩)⟩⟩)
    | topicNoName ht htn hm hn =>
      exact List.mem_cons_of_mem _ (List.mem_flatMap.mpr ⟨_, ht, List.mem_flatMap.mpr ⟨_, htn,
        List.mem_append_left _ (List.mem_map.mpr ⟨_, hm, by rw [hn]⟩)⟩⟩)
    | topicSvc ht htn =>
      exact List.mem_cons_of_mem _ (List.mem_flatMap.mpr ⟨_, ht, List.mem_flatMap.mpr ⟨_, htn,
        List.mem_append_right _ (List.mem_singleton.mpr rfl)⟩⟩)


theorem msgEff_uses (psm : Option Psm) : (msgEff psm).uses = [j5ExtImport] := by
  cases psm <;> rfl

theorem msgEff_panic (psm : Option Psm) : (msgEff psm).panic = false := by
  cases psm <;> rfl

theorem msgEff_imports_mem (psm : Option Psm) : j5ExtImport ∈ (msgEff psm).imports := by
  cases psm <;> simp [msgEff, Compile.when, Eff.add, Eff.imp]

theorem refsProps_append (a b : List Property) : refsProps (a ++ b) = refsProps a ++ refsProps b := by
  induction a with
  | nil => rfl
  | cons p ps ih => simp [refsProps, ih]

theorem refsNested_decl (io : Bool) (o : ObjDecl) (rest : List Nested) :
    refsNested (declNested io o :: rest) = refsDecl o ++ refsNested rest := by
  cases io <;> rw [declNested, refsNested]

theorem WfNested_decl (io : Bool) (o : ObjDecl) (rest : List Nested) :
    WfNested (declNested io o :: rest) = (WfDecl io o && WfNested rest) := by
  cases io <;> rw [declNested, WfNested]

namespace FieldInv
variable {c : Ctx} {R : Str → Str → Prop} {P : Eff → Prop} (h : FieldInv c R P)
include h

theorem convDecl_convNested :
    (∀ io o, WfDecl io o = true ∨ P Eff.panicked → ∀ np virt,
      (∀ r ∈ refsProps virt ++ refsDecl o, R r.1 r.2) → P (convDecl c np io virt o)) ∧
    ∀ ns, WfNested ns = true ∨ P Eff.panicked → ∀ np,
      (∀ r ∈ refsNested ns, R r.1 r.2) → P (convNested c np ns) := by
  apply decl_induct
  case mk =>
    intro io name props nested psm ih hw np virt hR
    have hx : P (if io = true then Compile.msgEff none else Compile.msgEff psm) := by
      split <;> exact h.msgEff _
    have base := h.add (h.add hx
      (h.bProps (np ++ [name]) io 1 (virt ++ props) fun r hr => hR r (by
        rw [refsProps_append] at hr
        rw [refsDecl, ← List.append_assoc]
        exact List.mem_append_left _ hr)))
      (ih (hw.imp_left fun hw => (Bool.and_eq_true _ _ ▸ hw : _ ∧ _).2) (np ++ [name])
        fun r hr => hR r (List.mem_append_right _ (List.mem_append_right (refsProps props) hr)))
    have hxp : (if io = true then Compile.msgEff none else Compile.msgEff psm).panic = false := by
      split <;> exact msgEff_panic _
    have hxu : (if io = true then Compile.msgEff none else Compile.msgEff psm).uses =
        (Compile.msgEff psm).uses := by split <;> simp only [msgEff_uses]
    rw [convDecl_eq]
    by_cases hb : (io && decide (name = [])) = true
    · -- a oneof without a name: `ww.field.name` on nil
      have hpan : P Eff.panicked := hw.resolve_left fun hw => by
        have hb' := hb
        rw [Bool.and_eq_true, decide_eq_true_eq] at hb'
        simp [WfDecl, hb'.1, hb'.2] at hw
      exact h.congr (h.add base hpan) (by simp [Eff.add, Eff.panicked])
        (by simp [Eff.add, Eff.panicked, hxu]) (by simp [Eff.add, Eff.panicked, hb])
    · exact h.congr base rfl (by simp [Eff.add, hxu]) (by simp [Eff.add, hxp, hb])
  case nil => intro _ np _; rw [Compile.convNested]; exact h.empty
  case decl =>
    intro io o rest iho ihr hw np hR
    rw [WfNested_decl, Bool.and_eq_true] at hw
    rw [refsNested_decl] at hR
    rw [convNested_decl]
    exact h.add (iho (hw.imp_left (·.1)) np [] fun r hr => hR r (List.mem_append_left _ hr))
      (ihr (hw.imp_left (·.2)) np fun r hr => hR r (List.mem_append_right _ hr))
  case enum =>
    intro e rest ihr hw np hR
    rw [Compile.convNested]
    exact h.add (h.enums _) (ihr hw np hR)

theorem convDecl (np : List Str) (io : Bool) (virt : List Property) (o : ObjDecl)
    (hw : WfDecl io o = true ∨ P Eff.panicked)
    (hR : ∀ r ∈ refsProps virt ++ refsDecl o, R r.1 r.2) : P (convDecl c np io virt o) :=
  h.convDecl_convNested.1 io o hw np virt hR

theorem convNested (np : List Str) (ns : List Nested) (hw : WfNested ns = true ∨ P Eff.panicked)
    (hR : ∀ r ∈ refsNested ns, R r.1 r.2) : P (convNested c np ns) :=
  h.convDecl_convNested.2 ns hw np hR

theorem convVirtual (name : Str) (virt props : List Property) (psm : Option Psm)
    (hR : ∀ r ∈ refsProps (virt ++ props), R r.1 r.2) : P (convVirtual c name virt props psm) :=
  h.convDecl [] false virt _ (Or.inl rfl) fun r hr => hR r (by
    simpa [refsProps_append, refsDecl, refsNested] using hr)

theorem walkMethod (bp : Option Str) (m : Method) (hw : m.request.isSome = true ∨ P Eff.panicked)
    (hR : ∀ o ∈ serviceObjects ({ name := none, basePath := bp, methods := [m] } : Service),
      ∀ r ∈ refsProps o.2, R r.1 r.2) :
    P (walkMethod c bp m).eff := by
  unfold Compile.walkMethod
  cases hq : m.request with
  | none => exact hw.resolve_left (by simp [hq])
  | some req =>
    have h1 := h.convVirtual (m.name ++ b!"Request") [] req none fun r hr =>
      hR (m.name ++ b!"Request", req) (by simp [serviceObjects, hq]) r hr
    cases hp : m.response with
    | none => exact h.add h1 h.empty
    | some res =>
      exact h.add h1 (h.convVirtual _ [] res none fun r hr =>
        hR (m.name ++ b!"Response", res) (by simp [serviceObjects, hq, hp]) r hr)

theorem convMethod (node : Method × Str × Str × Str) : P (convMethod node).1 := by
  obtain ⟨m, input, output, resolved⟩ := node
  unfold Compile.convMethod
  have h0 := h.imp googleApiAnnotationsImport (by decide)
  dsimp only
  cases m.request with
  | none => exact h.add h0 h.err
  | some req =>
    have h2 := h.add (h.add h0 (h.when (output = b!"google.api.HttpBody")
      (h.imp googleApiHttpBodyImport (by decide)))) (h.errs (rewritePath req resolved).2)
    dsimp only
    split
    · exact h.add h2 h.err
    · rw [Eff.add_def _ (_ ++ _), Eff.add_def (Eff.use _), ← Eff.add_assoc]
      exact h.add (h.useOf _ h2 (by simp [Eff.add, Eff.imp])) (h.when _ h.useExt)

theorem convService (s : Service) (hw : WfService s = true ∨ P Eff.panicked)
    (hR : ∀ o ∈ serviceObjects s, ∀ r ∈ refsProps o.2, R r.1 r.2) : P (convService c s).eff := by
  have hwalk : P ((s.methods.map (Compile.walkMethod c s.basePath)).foldl (fun e w => e ++ w.eff) {}) :=
    h.foldl (fun w : MethodWalk => w.eff) _ h.empty fun w hw' => by
      obtain ⟨m, hm, rfl⟩ := List.mem_map.mp hw'
      refine h.walkMethod _ m (hw.imp_left fun hw => List.all_eq_true.mp hw m hm) fun o ho => hR o ?_
      simp only [serviceObjects, List.flatMap_cons, List.flatMap_nil, List.append_nil] at ho
      exact List.mem_flatMap.mpr ⟨m, hm, ho⟩
  unfold Compile.convService
  cases s.name with
  | none => exact hwalk
  | some name =>
    refine h.add (h.add (h.add hwalk ?_) (h.errs _)) (h.when _ h.useExt)
    exact h.foldl (fun b : Eff × Option MethodSkel => b.1) _ h.empty fun b hb => by
      obtain ⟨node, _, rfl⟩ := List.mem_map.mp hb
      exact h.convMethod node

/-- **the property holds of the effect of every step of a visited item** whose references
(`itemRefs`, what `SourceSummary` collects) `R` allows -/
theorem convItem (i : Item) (hw : WfItem i = true ∨ P Eff.panicked)
    (hR : ∀ r ∈ itemRefs i, R r.1 r.2) : ∀ st ∈ Compile.convItem c i, P st.eff := by
  intro st hst
  cases mem_convItem.mp hst with
  | object o => exact h.convDecl [] false [] o hw hR
  | oneof o => exact h.convDecl [] true [] o hw hR
  | enum e => exact h.enums _
  | abort => exact h.empty
  | serviceFile ss => exact h.empty
  | topicFile ts => exact h.empty
  | topicNoName => exact h.empty
  | @service ss s hs =>
    exact h.convService s (hw.imp_left fun hw => List.all_eq_true.mp hw s hs) fun o ho r hr =>
      hR r (List.mem_flatMap.mpr ⟨o, List.mem_flatMap.mpr ⟨s, hs, ho⟩, hr⟩)
  | @topicMsg ts t tn m n ht htn hm hn =>
    refine h.convVirtual _ _ _ _ fun r hr => hR r (List.mem_flatMap.mpr
      ⟨(n ++ b!"Message", tn.prepend ++ m.props), List.mem_flatMap.mpr ⟨t, ht, ?_⟩, hr⟩)
    simp only [topicObjects, List.mem_flatMap, List.mem_filterMap]
    exact ⟨tn, htn, m, hm, by simp [hn]⟩
  | topicSvc =>
    exact h.congr (h.add (h.impUse messagingAnnotationsImport (by decide))
      (h.imp googleProtoEmptyImport (by decide))) rfl rfl rfl

end FieldInv

theorem convDecl_imports_ext (c : Ctx) (np : List Str) (io : Bool) (virt : List Property) :
    ∀ o : ObjDecl, j5ExtImport ∈ (convDecl c np io virt o).imports
  | .mk name props nested psm => by
    rw [convDecl_eq]
    refine List.mem_append_left _ (List.mem_append_left _ ?_)
    split <;> exact msgEff_imports_mem _

/-- **a declared object / oneof imports the file of every extension it sets**, at any depth -/
theorem convDecl_uses_imported (c : Ctx) (np : List Str) (io : Bool) (virt : List Property)
    (o : ObjDecl) : ∀ u ∈ (convDecl c np io virt o).uses, u ∈ (convDecl c np io virt o).imports := by
  intro u hu
  rcases (UsesOk.inv c).convDecl np io virt o (Or.inr fun _ h => nomatch h) (fun _ _ => trivial) u hu
    with h | rfl
  · exact h
  · exact convDecl_imports_ext c np io virt o

theorem convNested_uses_imported (c : Ctx) (np : List Str) :
    ∀ ns : List Nested, ∀ u ∈ (convNested c np ns).uses, u ∈ (convNested c np ns).imports := by
  refine (decl_induct (D := fun _ _ => True) (fun _ _ _ _ _ _ => trivial) ?nil ?decl ?enum).2
  case nil => intro u hu; cases hu
  case decl =>
    intro io o rest _ ih u hu
    rw [convNested_decl] at hu ⊢
    rcases List.mem_append.mp hu with h | h
    · exact List.mem_append_left _ (convDecl_uses_imported c np io [] o u h)
    · exact List.mem_append_right _ (ih u h)
  case enum =>
    intro e rest ih u hu
    rw [convNested] at hu ⊢
    exact ih u hu

/-- **nested declarations import only constants and files of types their references resolve to**,
at any depth -/
theorem convNested_impFrom (c : Ctx) (R : Str → Str → Prop) (np : List Str) :
    ∀ ns : List Nested, (∀ r ∈ refsNested ns, R r.1 r.2) → ImpFrom c R (convNested c np ns) :=
  fun ns => (ImpFrom.inv c R).convNested np ns (Or.inr fun _ h => nomatch h)

theorem convNested_no_panic (c : Ctx) (hc : WfCtx c) (np : List Str) :
    ∀ ns : List Nested, WfNested ns = true → (convNested c np ns).panic = false :=
  fun ns h => hc.inv.convNested np ns (Or.inl h) fun _ _ => trivial

def StepsOk (steps : List Step) : Prop := ∀ s ∈ steps, s.eff.panic = false


theorem stepsOk_append {a b : List Step} (ha : StepsOk a) (hb : StepsOk b) : StepsOk (a ++ b) := by
  intro s hs
  rcases List.mem_append.mp hs with h | h
  · exact ha s h
  · exact hb s h

theorem convItem_ok (c : Ctx) (hc : WfCtx c) (i : Item) (h : WfItem i = true) :
    StepsOk (convItem c i) :=
  hc.inv.convItem i (Or.inl h) fun _ _ => trivial

end J5V.Compile
