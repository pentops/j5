import J5V.Go.Hex
import J5V.Compile.Link
import J5V.Compile.Evolve
import J5V.Compile.PackageSet
/-!
# Line protocol of the compile cluster: s-expressions ⇄ model types (core only)

Decoder for `harness/PROTOCOL-compile.md` §2 (the abstract package) and printer for §3 (the
canonical skeleton). Used by `Driver/Compile.lean`.
-/
namespace J5V.Compile
open J5V.Go

inductive Sexp where
  | atom (s : String)
  | list (l : List Sexp)
  deriving Inhabited

/-- close the atom being read (characters in reverse) -/
def flushTok (cur : List Char) (acc : List String) : List String :=
  if cur.isEmpty then acc else String.ofList cur.reverse :: acc

/-- tokens: `(`, `)`, atoms. The atom is materialised only where it ends — one `String.ofList` per atom.
(A strict `let` in front of the branches would build the string at every character: quadratic in the length
of an atom, and the hex text of a source file is one atom.) -/
def sexpTokens (s : String) : List String :=
  let rec go : List Char → List Char → List String → List String
    | [], cur, acc => (flushTok cur acc).reverse
    | c :: rest, cur, acc =>
      if c = '(' then go rest [] ("(" :: flushTok cur acc)
      else if c = ')' then go rest [] (")" :: flushTok cur acc)
      else if c = ' ' || c = '\t' || c = '\r' || c = '\n' then go rest [] (flushTok cur acc)
      else go rest (c :: cur) acc
  go s.toList [] []

/-- parse a token list into a sequence of s-expressions; `stack` holds the open lists -/
partial def parseSexps : List String → List (List Sexp) → List Sexp → Option (List Sexp)
  | [], [], cur => some cur.reverse
  | [], _ :: _, _ => none
  | "(" :: rest, stack, cur => parseSexps rest (cur :: stack) []
  | ")" :: rest, parent :: stack, cur => parseSexps rest stack (Sexp.list cur.reverse :: parent)
  | ")" :: _, [], _ => none
  | a :: rest, stack, cur => parseSexps rest stack (Sexp.atom a :: cur)

def parseLine (s : String) : Option (String × List Sexp) :=
  match sexpTokens s with
  | op :: rest => if op = "(" || op = ")" then none else (parseSexps rest [] []).map fun l => (op, l)
  | [] => none

/-! ## decoding -/

def dStr : Sexp → Option Str
  | .atom a => fromHex a
  | _ => none

def dNat : Sexp → Option Nat
  | .atom a => a.toNat?
  | _ => none

def dBool : Sexp → Option Bool
  | .atom "0" => some false
  | .atom "1" => some true
  | _ => none

def dOptStr : Sexp → Option (Option Str)
  | .list [.atom "none"] => some none
  | .list [.atom "some", s] => (dStr s).map some
  | _ => none

def dLit : Sexp → Option Lit
  | .list [.atom "i", n] => (dNat n).map .int
  | .list [.atom "neg", n] => (dNat n).map .neg
  | .list [.atom "s", s] => (dStr s).map .str
  | .list [.atom "b", b] => (dBool b).map .bool
  | .list (.atom "strs" :: l) => (l.mapM dStr).map .strs
  | _ => none

def dRules : Sexp → Option Rules
  | .list (.atom "rules" :: l) => l.mapM fun r =>
    match r with
    | .list [.atom "r", n, lit] => do some { name := ← dStr n, lit := ← dLit lit }
    | _ => none
  | _ => none

def dIntFmt : Sexp → Option IntFmt
  | .atom "int32" => some .int32 | .atom "int64" => some .int64
  | .atom "uint32" => some .uint32 | .atom "uint64" => some .uint64
  | _ => none

def dFloatFmt : Sexp → Option FloatFmt
  | .atom "float32" => some .float32 | .atom "float64" => some .float64
  | _ => none

def dKeyFmt : Sexp → Option KeyFmt
  | .atom "none" => some .none | .atom "informal" => some .informal
  | .atom "uuid" => some .uuid | .atom "id62" => some .id62
  | .list [.atom "custom", p] => (dStr p).map .custom
  | _ => none

def dEntKey : Sexp → Option EntKey
  | .list [.atom "nokey"] => some .nokey
  | .list [.atom "ek", kind, tenant] => do
    let k ← match kind with
      | .list [.atom "plain"] => some EntKeyKind.plain
      | .list [.atom "primary", b] => (dBool b).map .primary
      | .list [.atom "foreign", p, e] => do some (.foreign (← dStr p) (← dStr e))
      | _ => none
    some (.ek k (← dOptStr tenant))
  | _ => none

def dOpts : Sexp → Option (List Str)
  | .list (.atom "opts" :: l) => l.mapM fun o =>
    match o with
    | .list [.atom "o", n] => dStr n
    -- the number written on the option (`option X { number = 5 }`) is carried by the source definition and
    -- never read by the compiler: options are numbered by position
    | .list [.atom "o", n, k] => do let _ ← dNat k; dStr n
    | _ => none
  | _ => none

/-- an entity status: a bare name, or `(o NAME N)` when the source states a number (ignored, as for options) -/
def dStatus : Sexp → Option Str
  | .list [.atom "o", n, k] => do let _ ← dNat k; dStr n
  | s => dStr s

def dPsm : Sexp → Option Psm
  | .list [.atom "psm", e, .atom p] => do
    let part ← match p with
      | "keys" => some EntityPart.keys | "state" => some .state | "event" => some .event | "data" => some .data
      | _ => none
    some { entity := ← dStr e, part := part }
  | _ => none

def dEnum (name pfx opts : Sexp) : Option EnumDecl := do
  some { name := ← dStr name, pfx := ← dStr pfx, opts := ← dOpts opts }

def dEnumField (t r : Sexp) (lr : Option (List Str)) : Option Field := do
  let r ← dRules r
  match t with
  | .list [.atom "ref", p, s] => some (.enumRef (← dStr p) (← dStr s) r lr)
  | .list [.atom "inlenum", n, pfx, opts] => some (.enumInl (← dEnum n pfx opts) r lr)
  | _ => none

-- the protocol carries list rules for enum fields only (`lr`): `false` for every other kind
mutual
partial def dField : Sexp → Option Field
  | .list [.atom "string", r] => do some (.string (← dRules r) false)
  | .list [.atom "bool", r] => do some (.bool (← dRules r) false)
  | .list [.atom "bytes", r] => do some (.bytes (← dRules r))
  | .list [.atom "date", r] => do some (.date (← dRules r) false)
  | .list [.atom "decimal", r] => do some (.decimal (← dRules r) false)
  | .list [.atom "timestamp", r] => do some (.timestamp (← dRules r))
  | .list [.atom "any"] => some .any
  | .list [.atom "integer", f, r] => do some (.integer (← dIntFmt f) (← dRules r) false)
  | .list [.atom "float", f, r] => do some (.float (← dFloatFmt f) (← dRules r) false)
  | .list [.atom "key", f, ek, r] => do some (.key (← dKeyFmt f) (← dEntKey ek) (← dRules r) false)
  | .list [.atom "object", t, fl, r] => do
    let fl ← dBool fl
    let r ← dRules r
    match t with
    | .list [.atom "ref", p, s] => some (.objectRef (← dStr p) (← dStr s) fl r)
    | .list [.atom "inlobj", n, ps] => some (.objectInl (← dStr n) (← dProps "props" ps) fl r)
    | _ => none
  | .list [.atom "oneof", t, r] => do
    let r ← dRules r
    match t with
    | .list [.atom "ref", p, s] => some (.oneofRef (← dStr p) (← dStr s) r false)
    | .list [.atom "inloneof", n, ps] => some (.oneofInl (← dStr n) (← dProps "props" ps) r false)
    | _ => none
  | .list [.atom "enum", t, r] => dEnumField t r none
  | .list [.atom "enum", t, r, .list (.atom "lr" :: fs)] => do dEnumField t r (some (← fs.mapM dStr))
  | .list [.atom "array", f, r] => do some (.array (← dField f) (← dRules r))
  | .list [.atom "map", f, r] => do some (.map (← dField f) (← dRules r))
  | _ => none
partial def dProp : Sexp → Option Property
  | .list [.atom "p", n, req, opt, f] => do
    some (.mk (← dStr n) (← dBool req) (← dBool opt) (← dField f))
  | _ => none
/-- `(HEAD prop*)` -/
partial def dProps (head : String) : Sexp → Option (List Property)
  | .list (.atom h :: l) => if h = head then l.mapM dProp else none
  | _ => none
end

mutual
partial def dObjDecl (name props nested : Sexp) (psm : Option Psm := none) : Option ObjDecl := do
  let nested ← match nested with
    | .list (.atom "nested" :: l) => l.mapM dNested
    | _ => none
  some (.mk (← dStr name) (← dProps "props" props) nested psm)
partial def dNested : Sexp → Option Nested
  | .list [.atom "object", n, ps, ne] => (dObjDecl n ps ne).map .object
  | .list [.atom "object", n, ps, ne, psm] => do some (.object (← dObjDecl n ps ne (some (← dPsm psm))))
  | .list [.atom "oneof", n, ps, ne] => (dObjDecl n ps ne).map .oneof
  | .list [.atom "enum", n, pfx, opts] => (dEnum n pfx opts).map .enum
  | _ => none
end

def dVerb : Sexp → Option Verb
  | .atom "get" => some .get | .atom "post" => some .post | .atom "put" => some .put
  | .atom "patch" => some .patch | .atom "delete" => some .delete
  | _ => none

def dMethod : Sexp → Option Method
  | .list [.atom "method", n, v, p, req, res] => do
    let res ← match res with
      | .list [.atom "none"] => some none
      | .list (.atom "some" :: l) => (l.mapM dProp).map some
      | _ => none
    some { name := ← dStr n, verb := ← dVerb v, path := ← dStr p,
           request := some (← dProps "req" req), response := res }
  | _ => none

def dService : Sexp → Option Service
  | .list [.atom "service", n, bp, .list (.atom "methods" :: ms)] => do
    let name ← dStr n
    some { name := if name = [] then none else some name, basePath := ← dOptStr bp,
           methods := ← ms.mapM dMethod }
  | _ => none

def dTMsg : Sexp → Option TopicMsg
  | .list [.atom "msg", n, ps] => do some { name := ← dOptStr n, props := ← dProps "props" ps }
  | _ => none

def dTopic : Sexp → Option Topic
  | .list [.atom "topic", n, tt] => do
    let ty ← match tt with
      | .list (.atom "publish" :: ms) => (ms.mapM dTMsg).map .publish
      | .list [.atom "reqres", .list (.atom "reqs" :: a), .list (.atom "reps" :: b)] => do
        some (.reqres (← a.mapM dTMsg) (← b.mapM dTMsg))
      -- the protocol's upsert topic names no entity: `entityName := []`
      | .list [.atom "upsert", m] => (dTMsg m).map (.upsert [])
      | _ => none
    some { name := ← dStr n, type := ty }
  | _ => none

def dEntity : Sexp → Option Entity
  | .list [.atom "entity", n, base, .list (.atom "keys" :: ks), data,
      .list (.atom "statuses" :: sts), .list (.atom "events" :: evs),
      .list (.atom "commands" :: cmds), .list (.atom "summaries" :: sums), q,
      .list (.atom "nested" :: ne)] => do
    let keys ← ks.mapM fun k =>
      match k with
      | .list [.atom "k", p, sh] => do some ({ prop := ← dProp p, shard := ← dBool sh } : EntityKeyDecl)
      | _ => none
    let events ← evs.mapM fun e =>
      match e with
      | .list [.atom "object", n, ps, ne] => dObjDecl n ps ne
      | _ => none
    let summaries ← sums.mapM fun s =>
      match s with
      | .list [.atom "summary", n, ps] => do some ({ name := ← dStr n, props := ← dProps "props" ps } : Summary)
      | _ => none
    let query ← match q with
      | .list [.atom "noquery"] => some none
      | .list [.atom "query", eg, .list (.atom "filters" :: fs)] => do
        some (some ({ eventsInGet := ← dBool eg, filters := ← fs.mapM dStr } : EntityQuery))
      | _ => none
    some { name := ← dStr n, baseUrl := ← dStr base, keys := keys, data := ← dProps "data" data,
           statuses := ← sts.mapM dStatus, events := events, commands := ← cmds.mapM dService,
           summaries := summaries, query := query, nested := ← ne.mapM dNested }
  | _ => none

def dElem : Sexp → Option Elem
  | .list [.atom "object", n, ps, ne] => (dObjDecl n ps ne).map .object
  | .list [.atom "object", n, ps, ne, psm] => do some (.object (← dObjDecl n ps ne (some (← dPsm psm))))
  | .list [.atom "oneof", n, ps, ne] => (dObjDecl n ps ne).map .oneof
  | .list [.atom "enum", n, pfx, opts] => (dEnum n pfx opts).map .enum
  | s@(.list (.atom "service" :: _)) => (dService s).map .service
  | s@(.list (.atom "topic" :: _)) => (dTopic s).map .topic
  | s@(.list (.atom "entity" :: _)) => (dEntity s).map .entity
  | _ => none

def dJ5s (p : Sexp) (imps els : List Sexp) (decl : Str) : Option SrcFile := do
  let imports ← imps.mapM fun i =>
    match i with
    | .list [.atom "import", p, a] => do some ({ path := ← dStr p, alias := ← dStr a } : Import)
    | _ => none
  some (.j5s (← dStr p) imports (← els.mapM dElem) decl)

/-- `pkg`: name of the enclosing `(pkg NAME …)`, which the printer writes as the file's `package`
declaration unless the file carries its own `(decl NAME)` -/
def dFile (pkg : Str) : Sexp → Option SrcFile
  | .list [.atom "j5s", p, .list (.atom "imports" :: imps), .list (.atom "elems" :: els)] =>
    dJ5s p imps els pkg
  | .list [.atom "j5s", p, .list (.atom "imports" :: imps), .list (.atom "elems" :: els),
      .list [.atom "decl", d]] => do dJ5s p imps els (← dStr d)
  | .list [.atom "proto", p, .list (.atom "msgs" :: ms), .list (.atom "enums" :: es)] => do
    let enums ← es.mapM fun e =>
      match e with
      | .list (.atom "penum" :: n :: vals) => do some (← dStr n, ← vals.mapM dStr)
      | _ => none
    some (.proto (← dStr p) (← ms.mapM dStr) enums)
  | _ => none

def dBundle : Sexp → Option Bundle
  | .list (.atom "bundle" :: pkgs) => do
    let pkgs ← pkgs.mapM fun p =>
      match p with
      | .list (.atom "pkg" :: n :: files) => do
        let name ← dStr n
        some ({ name := name, files := ← files.mapM (dFile name) } : Pkg)
      | _ => none
    some { pkgs := pkgs }
  | _ => none

/-! ## edits and variants -/

def dStep : Sexp → Option PStep
  | .list [.atom "el", i] => (dNat i).map .el
  | .list [.atom "prop", i] => (dNat i).map .prop
  | .list [.atom "nest", i] => (dNat i).map .nest
  | .list [.atom "method", i] => (dNat i).map .method
  | .list [.atom "req"] => some .req
  | .list [.atom "res"] => some .res
  | .list [.atom "msg", i] => (dNat i).map .msg
  | .list [.atom "reqm", i] => (dNat i).map .reqm
  | .list [.atom "repm", i] => (dNat i).map .repm
  | .list [.atom "edata"] => some .edata
  | .list [.atom "estatus"] => some .estatus
  | .list [.atom "event", i] => (dNat i).map .event
  | .list [.atom "command", i] => (dNat i).map .command
  | .list [.atom "summary", i] => (dNat i).map .summary
  | _ => none

def dPath : Sexp → Option (List PStep)
  | .list (.atom "path" :: steps) => if steps.isEmpty then none else steps.mapM dStep
  | _ => none

def dEdits : Sexp → Option (List Edit)
  | .list (.atom "edits" :: es) => es.mapM fun e =>
    match e with
    | .list [.atom "appendfield", f, p, prop] => do
      some (.appendField (← dNat f) (← dPath p) (← dProp prop))
    | .list [.atom "appendoption", f, p, n] => do
      some (.appendOption (← dNat f) (← dPath p) (← dStr n))
    | .list [.atom "appendoption", f, p, n, k] => do
      let _ ← dNat k
      some (.appendOption (← dNat f) (← dPath p) (← dStr n))
    | .list [.atom "appenddecl", f, el] => do some (.appendDecl (← dNat f) (← dElem el))
    | _ => none
  | _ => none

structure Variant where
  pkgs : List Nat
  files : List (Nat × List Nat)
  calls : List Nat
  reuse : Bool

def dVariant (b : Bundle) : Sexp → Option Variant
  | .list [.atom "variant", .list (.atom "pkgs" :: ps), .list (.atom "files" :: fos),
      .list (.atom "calls" :: cs), reuse] => do
    let pkgs ← ps.mapM dNat
    if !isPermOf pkgs b.pkgs.length then none
    let files ← fos.mapM fun fo =>
      match fo with
      | .list (.atom "fo" :: pi :: perm) => do
        let pi ← dNat pi
        let perm ← perm.mapM dNat
        let p ← b.pkgs[pi]?
        if !isPermOf perm p.files.length then none
        some (pi, perm)
      | _ => none
    let calls ← cs.mapM dNat
    if calls.any (· ≥ b.pkgs.length) then none
    some { pkgs := pkgs, files := files, calls := calls, reuse := ← dBool reuse }
  | _ => none

/-! ## printing the canonical skeleton (strings raw) -/

def raw (s : Str) : String := s.toString
def rawOr (s : Str) : String := if s = [] then "-" else s.toString

def ptypeName : PType → String
  | .string => "string" | .bool => "bool" | .bytes => "bytes" | .message => "message"
  | .enum => "enum" | .int32 => "int32" | .int64 => "int64" | .uint32 => "uint32"
  | .uint64 => "uint64" | .float => "float" | .double => "double"

def partName : EntityPart → String
  | .keys => "keys" | .state => "state" | .event => "event" | .data => "data"

def b01 (b : Bool) : String := if b then "1" else "0"

def fieldStr (f : FieldSkel) : String :=
  s!"(f {raw f.name} {rawOr f.jsonName} {f.number} {ptypeName f.type} " ++
  s!"{if f.repeated then "repeated" else "optional"} {b01 f.p3opt} {rawOr f.typeName} " ++
  s!"{match f.oneof with | some i => toString i | none => "-"} {b01 f.req} {rawOr f.ext})"

def enumStr (e : EnumSkel) : String :=
  "(enum " ++ raw e.name ++ String.join (e.values.map fun (n, k) => s!" (v {raw n} {k})") ++ ")"

def kindName : MsgKind → String
  | .object => "object" | .oneof => "oneof" | .mapentry => "mapentry" | .none => "none"

partial def msgStr : MsgSkel → String
  | .mk name kind psm fields msgs enums =>
    let psmS := match psm with
      | some p => raw p.entity ++ ":" ++ partName p.part
      | none => "-"
    s!"(msg {raw name} {kindName kind} {psmS} (fields" ++
      String.join (fields.map fun f => " " ++ fieldStr f) ++ ") (msgs" ++
      String.join (msgs.map fun m => " " ++ msgStr m) ++ ") (enums" ++
      String.join (enums.map fun e => " " ++ enumStr e) ++ "))"

def verbName : Verb → String
  | .get => "get" | .post => "post" | .put => "put" | .patch => "patch" | .delete => "delete"
  | .unspecified => "none"

def roleName : Role → String
  | .publish => "publish" | .request => "request" | .reply => "reply" | .upsert => "upsert"
  | .event => "event"

def svcStr (s : SvcSkel) : String :=
  let opt := match s.sopt with
    | .none => "-"
    | .query e => "query:" ++ raw e
    | .command e => "command:" ++ raw e
    | .topic t r e => "topic:" ++ raw t ++ ":" ++ roleName r ++ (if e = [] then "" else ":" ++ raw e)
  "(svc " ++ raw s.name ++ " " ++ opt ++
    String.join (s.methods.map fun m =>
      let http := match m.http with
        | some h => verbName h.verb ++ ":" ++ raw h.path ++ ":" ++ rawOr h.body
        | none => "-"
      let mo := match m.mopt with
        | .none => "-" | .get => "get" | .list => "list" | .events => "events"
      s!" (m {raw m.name} {raw m.input} {raw m.output} {http} {mo})") ++ ")"

def fileStr (f : FileSkel) : String :=
  s!"(file {raw f.name} {raw f.pkg} (deps" ++ String.join (f.deps.map fun d => " " ++ raw d) ++
    ") (msgs" ++ String.join (f.msgs.map fun m => " " ++ msgStr m) ++
    ") (enums" ++ String.join (f.enums.map fun e => " " ++ enumStr e) ++
    ") (svcs" ++ String.join (f.svcs.map fun s => " " ++ svcStr s) ++ "))"

def skelStr (fs : List FileSkel) : String := " ".intercalate (fs.map fileStr)

end J5V.Compile
