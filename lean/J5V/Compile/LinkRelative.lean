import J5V.Compile.Link
import J5V.Compile.StrProofs
/-!
# Symbols and relative names on the link model (core only)

*Shape of the symbol table of a message tree.* Every symbol a message contributes to the link
model — itself, its fields, the synthetic oneof, the `_name` oneofs of optional fields, nested
messages and enums with their values, at any depth — is named `<pfx>.<message name>` or
`<pfx>.<message name>.<something>`. First step towards the two open link bridges (duplicate symbols
across different top-level declarations; "no enclosing scope has a child named …" for relative-name
resolution): the symbols of two messages with different names under the same non-empty prefix can
only collide if one name extends the other by a dot.

*Link bridge "relative names resolve" — the scoping lemma.* j5convert refers to inline types, map
entries and rpc messages by RELATIVE names. On the link model: a relative name whose full form
`<pkg>.<name>` is a type symbol of the file resolves to that symbol from inside any stack of
enclosing messages, provided no enclosing message has a child named like the FIRST segment of the
name (the capture condition — the recorded finding is exactly a violation of it) and the first
segment is itself a message of the package (or the whole name). Stated on the symbol table of the
generated file; the bridge from the sources (which symbols a declaration emits,
`C02_declared_types_link`; which scopes enclose which reference) is the open part.
-/
namespace J5V.Compile

theorem qual_ne (pfx name : Str) (h : pfx ≠ []) : qual pfx name = pfx ++ b!"." ++ name := by
  simp [qual, h]

theorem qual_ne_nil (pfx name : Str) (h : pfx ≠ []) : qual pfx name ≠ [] := by
  rw [qual_ne pfx name h]
  cases pfx with
  | nil => exact absurd rfl h
  | cons a rest => simp

/-- `k` is the name `base` or a dotted extension of it -/
def Under (base k : Str) : Prop := k = base ∨ ∃ rest, k = base ++ b!"." ++ rest

theorem Under.trans_ext (base mid k : Str) (hm : ∃ r, mid = base ++ b!"." ++ r) (hk : Under mid k) :
    ∃ rest, k = base ++ b!"." ++ rest := by
  obtain ⟨r, rfl⟩ := hm
  rcases hk with rfl | ⟨r2, rfl⟩
  · exact ⟨r, rfl⟩
  · exact ⟨r ++ b!"." ++ r2, by simp [List.append_assoc]⟩

theorem enumSyms_under (full : Str) (hf : full ≠ []) (e : EnumSkel) :
    ∀ kv ∈ enumSyms full e, ∃ rest, kv.1 = full ++ b!"." ++ rest := by
  intro kv hkv
  simp only [enumSyms, List.mem_cons, List.mem_map] at hkv
  rcases hkv with rfl | ⟨v, _, rfl⟩
  · exact ⟨e.name, qual_ne full _ hf⟩
  · exact ⟨v.1, qual_ne full _ hf⟩

mutual
theorem msgSyms_under (pfx : Str) (hp : pfx ≠ []) :
    ∀ m : MsgSkel, ∀ kv ∈ msgSyms pfx m, Under (qual pfx m.name) kv.1
  | .mk name kind psm fields msgs enums => by
    intro kv hkv
    have hfull : qual pfx name ≠ [] := qual_ne_nil pfx name hp
    rw [msgSyms] at hkv
    simp only [MsgSkel.name, List.mem_cons, List.mem_append, List.mem_map, List.mem_flatMap] at hkv ⊢
    rcases hkv with ((((rfl | ⟨f, _, rfl⟩) | hone) | ⟨f, _, rfl⟩) | hn) | ⟨e, _, he⟩
    · exact Or.inl rfl
    · exact Or.inr ⟨f.name, qual_ne _ _ hfull⟩
    · split at hone
      · simp only [List.mem_singleton] at hone
        subst hone
        exact Or.inr ⟨b!"type", qual_ne _ _ hfull⟩
      · cases hone
    · exact Or.inr ⟨b!"_" ++ f.name, qual_ne _ _ hfull⟩
    · obtain ⟨m', _, hu⟩ := msgsSyms_under (qual pfx name) hfull msgs kv hn
      exact Or.inr (Under.trans_ext _ _ _ ⟨m'.name, qual_ne _ _ hfull⟩ hu)
    · exact Or.inr (enumSyms_under _ hfull e kv he)
theorem msgsSyms_under (pfx : Str) (hp : pfx ≠ []) :
    ∀ ms : List MsgSkel, ∀ kv ∈ msgsSyms pfx ms, ∃ m ∈ ms, Under (qual pfx m.name) kv.1
  | [] => by intro kv hkv; simp [msgsSyms] at hkv
  | m :: rest => by
    intro kv hkv
    rw [msgsSyms] at hkv
    rcases List.mem_append.mp hkv with h | h
    · exact ⟨m, by simp, msgSyms_under pfx hp m kv h⟩
    · obtain ⟨m', hm', hu⟩ := msgsSyms_under pfx hp rest kv h
      exact ⟨m', List.mem_cons_of_mem _ hm', hu⟩
end

/-- a dotless name followed by nothing or by a dotted tail determines the name -/
theorem dotless_prefix_eq (a b t1 t2 : Str) (ha : 46 ∉ a) (hb : 46 ∉ b)
    (h1 : t1 = [] ∨ ∃ r, t1 = 46 :: r) (h2 : t2 = [] ∨ ∃ r, t2 = 46 :: r)
    (h : a ++ t1 = b ++ t2) : a = b := by
  induction a generalizing b with
  | nil =>
    cases b with
    | nil => rfl
    | cons y ys =>
      simp only [List.nil_append, List.cons_append] at h
      rcases h1 with rfl | ⟨r, rfl⟩
      · cases h
      · simp only [List.cons.injEq] at h
        exact absurd (by simp [← h.1]) hb
  | cons x xs ih =>
    cases b with
    | nil =>
      simp only [List.nil_append, List.cons_append] at h
      rcases h2 with rfl | ⟨r, rfl⟩
      · cases h
      · simp only [List.cons.injEq] at h
        exact absurd (by simp [h.1]) ha
    | cons y ys =>
      simp only [List.cons_append, List.cons.injEq] at h
      have := ih ys (fun hm => ha (List.mem_cons_of_mem _ hm)) (fun hm => hb (List.mem_cons_of_mem _ hm)) h.2
      rw [h.1, this]

/-- **differently named dotless siblings have disjoint symbol subtrees** -/
theorem under_siblings_disjoint (pfx n1 n2 k : Str) (hp : pfx ≠ []) (h1 : 46 ∉ n1) (h2 : 46 ∉ n2)
    (hne : n1 ≠ n2) (u1 : Under (qual pfx n1) k) (u2 : Under (qual pfx n2) k) : False := by
  rw [qual_ne pfx n1 hp] at u1
  rw [qual_ne pfx n2 hp] at u2
  have key : ∃ t1 t2, (t1 = [] ∨ ∃ r, t1 = 46 :: r) ∧ (t2 = [] ∨ ∃ r, t2 = 46 :: r) ∧
      n1 ++ t1 = n2 ++ t2 := by
    rcases u1 with rfl | ⟨r1, rfl⟩ <;> rcases u2 with h | ⟨r2, h⟩
    · exact ⟨[], [], Or.inl rfl, Or.inl rfl, by simpa using h⟩
    · exact ⟨[], 46 :: r2, Or.inl rfl, Or.inr ⟨r2, rfl⟩, by simpa [List.append_assoc] using h⟩
    · exact ⟨46 :: r1, [], Or.inr ⟨r1, rfl⟩, Or.inl rfl, by simpa [List.append_assoc] using h⟩
    · exact ⟨46 :: r1, 46 :: r2, Or.inr ⟨r1, rfl⟩, Or.inr ⟨r2, rfl⟩, by simpa [List.append_assoc] using h⟩
  obtain ⟨t1, t2, ht1, ht2, he⟩ := key
  exact hne (dotless_prefix_eq n1 n2 t1 t2 h1 h2 ht1 ht2 he)

theorem prefixList_head (pkg : Str) (h : pkg ≠ []) : ∃ rest, prefixList pkg = pkg :: rest := by
  unfold prefixList
  simp only [h, if_false]
  have hne := splitOnByte_ne_nil 46 pkg
  cases hl : (splitOnByte 46 pkg).length with
  | zero => exact absurd (List.eq_nil_of_length_eq_zero hl) hne
  | succ n =>
    refine ⟨((List.range' 1 n).map fun i =>
      joinWith b!"." ((splitOnByte 46 pkg).take (n + 1 - i))) ++ [[]], ?_⟩
    rw [List.range_succ_eq_map, List.map_cons, List.cons_append]
    congr 1
    · have : (splitOnByte 46 pkg).take (n + 1 - 0) = splitOnByte 46 pkg := by
        rw [Nat.sub_zero, ← hl]; exact List.take_length
      rw [this]
      exact joinWith_splitOnByte 46 pkg
    · rw [List.map_map, List.range'_eq_map_range]
      simp [List.map_map, Function.comp, Nat.add_comm]

theorem findSome?_append_none {α β : Type} (f : α → Option β) (l1 l2 : List α)
    (h : ∀ a ∈ l1, f a = none) : (l1 ++ l2).findSome? f = l2.findSome? f := by
  rw [List.findSome?_append, List.findSome?_eq_none_iff.mpr h]; rfl

/-- **scoped resolution of a relative type name** on the link model -/
theorem resolveName_relative (self : LFile) (deps : List LFile) (scopes : List Str) (name : Str)
    (k k1 : SymKind) (hk : k = .msg ∨ k = .enum)
    (hrel : ∀ rest, name ≠ 46 :: rest) (hpkg : self.pkg ≠ [])
    (hsym : self.syms.lookup (qual self.pkg name) = some k)
    (hfirst : self.syms.lookup (qual self.pkg (firstPart name)) = some k1)
    (hagg : k1 = .msg ∨ firstPart name = name)
    (hnocap : ∀ m ∈ scopes, self.find (qual m (firstPart name)) = none) :
    resolveName self (self :: deps) scopes name = some (.sym (qual self.pkg name) k) := by
  have htype : (Found.sym (qual self.pkg name) k).isType = true := by
    rcases hk with rfl | rfl <;> rfl
  unfold resolveName
  split
  · rename_i abs; exact absurd rfl (hrel abs)
  · simp only []
    rw [findSome?_append_none]
    · -- file scope, longest prefix first
      obtain ⟨rest, hpl⟩ := prefixList_head self.pkg hpkg
      have hq1 : findVisible (self :: deps) (qual self.pkg (firstPart name)) =
          some (.sym (qual self.pkg (firstPart name)) k1) := by
        simp [findVisible, List.findSome?_cons, LFile.find, hfirst]
      have hq : findVisible (self :: deps) (qual self.pkg name) = some (.sym (qual self.pkg name) k) := by
        simp [findVisible, List.findSome?_cons, LFile.find, hsym]
      have hrr : resolveRelative (findVisible (self :: deps)) (qual self.pkg (firstPart name))
          (qual self.pkg name) = some (.sym (qual self.pkg name) k) := by
        unfold resolveRelative
        rw [hq1]
        simp only []
        by_cases he : qual self.pkg (firstPart name) = qual self.pkg name
        · rw [if_pos he]
          rw [he] at hfirst
          have : k1 = k := by rw [hsym] at hfirst; exact (Option.some.inj hfirst).symm
          rw [he, this]
        · rw [if_neg he]
          have hk1 : k1 = .msg := by
            rcases hagg with h | h
            · exact h
            · exact absurd (by rw [h]) he
          subst hk1
          simp only [Found.isAggregate, decide_true, Bool.true_or, Bool.not_true, Bool.false_eq_true,
            if_false, hq]
      simp only [List.findSome?_cons, List.findSome?_nil, hpl, hrr, htype, Bool.true_or, if_true]
    · intro r hr
      obtain ⟨m, hm, rfl⟩ := List.mem_map.mp hr
      have := hnocap m (List.mem_reverse.mp hm)
      simp [resolveRelative, this]

end J5V.Compile
