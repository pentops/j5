import J5V.Compile.ShapeProofs
import J5V.Compile.EntityKeys
import J5V.Compile.StrProofs
/-!
# HTTP paths of generated methods in explicit form (C17) — core only

`strings.Split(path, "/")` of a path that was joined from slash-free parts gives the parts back;
the rewrite `:name` → `{snake_name}` then acts part by part.
-/
namespace J5V.Compile
open J5V.Go J5V.Compile.Entity

theorem rewritePart_colon (nm : Str) : rewritePart (b!":" ++ nm) = b!"{" ++ toSnake nm ++ b!"}" := rfl

theorem rewritePart_plain (p : Str) (h : p.head? ≠ some 58) : rewritePart p = p := by
  cases p with
  | nil => rfl
  | cons v rest =>
    have hv : v ≠ 58 := fun e => h (by simp [e])
    unfold rewritePart
    split
    · rename_i nm heq
      cases heq
      exact absurd rfl hv
    · rfl

/-- a path component that `path.Clean` keeps -/
def CleanPart (p : Str) : Prop := p ≠ [] ∧ p ≠ b!"." ∧ p ≠ b!".." ∧ 47 ∉ p

/-- the rewrite acts part by part on a path joined from slash-free parts -/
theorem rewritePath_parts (req : List Property) (parts : List Str) (hne : parts ≠ [])
    (h : ∀ p ∈ parts, 47 ∉ p) :
    (rewritePath req (joinWith b!"/" parts)).1 = joinWith b!"/" (parts.map rewritePart) := by
  show joinWith b!"/" ((splitOnByte 47 _).map rewritePart) = _
  rw [splitOnByte_joinWith 47 parts hne h]

theorem map_rewritePart_plain (l : List Str) (h : ∀ p ∈ l, p.head? ≠ some 58) :
    l.map rewritePart = l := by
  induction l with
  | nil => rfl
  | cons a r ih =>
    simp only [List.map_cons]
    rw [rewritePart_plain a (h a (by simp)), ih (fun p hp => h p (List.mem_cons_of_mem _ hp))]

theorem map_rewritePart_colon (keys : List Property) :
    (colonPath keys).map rewritePart = keys.map fun k => b!"{" ++ toSnake k.name ++ b!"}" := by
  simp only [colonPath, List.map_map]
  apply List.map_congr_left
  intro k _
  rfl

theorem colonPath_clean (keys : List Property) (hk : ∀ k ∈ keys, 47 ∉ k.name) :
    ∀ c ∈ colonPath keys, CleanPart c := by
  intro c hc
  obtain ⟨k, hkm, rfl⟩ := List.mem_map.mp hc
  refine ⟨by simp, ?_, ?_, ?_⟩
  · intro e
    have : (58 : Nat) :: k.name = [46] := e
    simp at this
  · intro e
    have : (58 : Nat) :: k.name = [46, 46] := e
    simp at this
  · intro hm
    have : (47 : Nat) ∈ (58 : Nat) :: k.name := hm
    rcases List.mem_cons.mp this with h1 | h1
    · exact absurd h1 (by decide)
    · exact hk k hkm h1

/-- **explicit form**: a resolved path that is the plain join of literal parts followed by `:key`
parts is emitted as the same literal parts followed by `{snake(key)}` parts -/
theorem rewritePath_explicit (req : List Property) (lits : List Str) (keys : List Property)
    (hl : ∀ p ∈ lits, 47 ∉ p ∧ p.head? ≠ some 58) (hk : ∀ k ∈ keys, 47 ∉ k.name)
    (hne : lits ≠ []) :
    (rewritePath req (joinWith b!"/" (lits ++ colonPath keys))).1 =
      joinWith b!"/" (lits ++ keys.map fun k => b!"{" ++ toSnake k.name ++ b!"}") := by
  rw [rewritePath_parts req _ (fun e => hne (List.append_eq_nil_iff.mp e).1), List.map_append,
    map_rewritePart_plain lits (fun p hp => (hl p hp).2), map_rewritePart_colon]
  intro p hp
  rcases List.mem_append.mp hp with hp | hp
  · exact (hl p hp).1
  · exact (colonPath_clean keys hk p hp).2.2.2

theorem cleanGo_clean (rooted : Bool) (stack cs : List Str) (h : ∀ c ∈ cs, CleanPart c) :
    cleanGo rooted stack cs = stack.reverse ++ cs := by
  induction cs generalizing stack with
  | nil => simp [cleanGo]
  | cons c cs ih =>
    obtain ⟨h1, h2, h3, _⟩ := h c (by simp)
    have step : cleanGo rooted stack (c :: cs) = cleanGo rooted (c :: stack) cs := by
      simp [cleanGo, h1, h2, h3]
    rw [step, ih _ (fun x hx => h x (List.mem_cons_of_mem _ hx))]
    simp

theorem pathClean_rooted (parts : List Str) (hne : parts ≠ []) (h : ∀ c ∈ parts, CleanPart c) :
    pathClean (b!"/" ++ joinWith b!"/" parts) = b!"/" ++ joinWith b!"/" parts := by
  have hp : b!"/" ++ joinWith b!"/" parts = 47 :: joinWith b!"/" parts := rfl
  have hsplit : splitOnByte 47 (47 :: joinWith b!"/" parts) = [] :: parts := by
    have := splitOnByte_append_sep 47 [] (joinWith b!"/" parts) (by simp)
    simp only [List.nil_append] at this
    rw [this, splitOnByte_joinWith 47 parts hne (fun p hp => (h p hp).2.2.2)]
  rw [hp]
  unfold pathClean
  simp only [List.cons_ne_nil, if_false, List.head?_cons, if_true, hsplit]
  have step : cleanGo true [] ([] :: parts) = cleanGo true [] parts := by simp [cleanGo]
  simp only [decide_true, step, cleanGo_clean true [] parts h, List.reverse_nil, List.nil_append]
  simp

/-- `path.Join(base, rest)` of a rooted clean base and a clean (possibly empty) rest -/
theorem pathJoin_clean (a b : List Str) (ha : a ≠ []) (hca : ∀ c ∈ a, CleanPart c)
    (hcb : ∀ c ∈ b, CleanPart c) :
    pathJoin [b!"/" ++ joinWith b!"/" a, joinWith b!"/" b] = b!"/" ++ joinWith b!"/" (a ++ b) := by
  have hA : b!"/" ++ joinWith b!"/" a ≠ [] := by
    show 47 :: joinWith b!"/" a ≠ []
    simp
  cases b with
  | nil =>
    simp only [pathJoin, joinWith, List.filter_cons, hA, ne_eq, not_false_eq_true, decide_true,
      if_true, not_true_eq_false, decide_false, List.filter_nil, List.append_nil]
    exact pathClean_rooted a ha hca
  | cons y b' =>
    have hB : joinWith b!"/" (y :: b') ≠ [] := by
      have hy := (hcb y (by simp)).1
      cases b' with
      | nil => simpa [joinWith] using hy
      | cons z b'' => simp [joinWith, hy]
    simp only [pathJoin, List.filter_cons, hA, hB, ne_eq, not_false_eq_true, decide_true, if_true,
      List.filter_nil]
    have : joinWith b!"/" [b!"/" ++ joinWith b!"/" a, joinWith b!"/" (y :: b')] =
        b!"/" ++ joinWith b!"/" (a ++ y :: b') := by
      rw [joinWith_append b!"/" a (y :: b') ha (by simp)]
      simp [joinWith, List.append_assoc]
    rw [this]
    exact pathClean_rooted (a ++ y :: b') (by simp)
      (fun c hc => by
        rcases List.mem_append.mp hc with h | h
        · exact hca c h
        · exact hcb c h)

theorem joinWith_nil_cons (l : List Str) (h : l ≠ []) :
    joinWith b!"/" ([] :: l) = b!"/" ++ joinWith b!"/" l := by
  cases l with
  | nil => exact absurd rfl h
  | cons a r => simp [joinWith]

theorem q_clean : CleanPart b!"q" ∧ (b!"q" : Str).head? ≠ some 58 := by
  refine ⟨⟨by decide, by decide, by decide, by decide⟩, by decide⟩

/-- **the HTTP path of a generated method in explicit form.** Base path `/<b1>/…/<bn>/q` over clean
literal parts, method path `:k1/…/:km/<tail>`: the emitted pattern is
`/<b1>/…/<bn>/q/{snake(k1)}/…/{snake(km)}/<tail>` -/
theorem methodPath_explicit (bparts : List Str) (base : Str) (hb : base = joinWith b!"/" bparts)
    (hbne : bparts ≠ []) (hbc : ∀ p ∈ bparts, CleanPart p ∧ p.head? ≠ some 58)
    (m : Method) (ks : List Property) (tail : List Str)
    (hm : m.path = joinWith b!"/" (colonPath ks ++ tail))
    (hk : ∀ k ∈ ks, 47 ∉ k.name) (ht : ∀ p ∈ tail, CleanPart p ∧ p.head? ≠ some 58) :
    (methodSkelOf (some (b!"/" ++ base ++ b!"/q")) m).http.map (·.path) =
      some (b!"/" ++ joinWith b!"/" (bparts ++ [b!"q"] ++
        (ks.map fun k => b!"{" ++ toSnake k.name ++ b!"}") ++ tail)) := by
  have hbp : b!"/" ++ base ++ b!"/q" = b!"/" ++ joinWith b!"/" (bparts ++ [b!"q"]) := by
    rw [hb, joinWith_append b!"/" bparts [b!"q"] hbne (by simp)]
    simp [joinWith, List.append_assoc]
  have hA : ∀ c ∈ bparts ++ [b!"q"], CleanPart c := by
    intro c hc
    rcases List.mem_append.mp hc with h | h
    · exact (hbc c h).1
    · simp only [List.mem_singleton] at h; subst h; exact q_clean.1
  have hB : ∀ c ∈ colonPath ks ++ tail, CleanPart c := by
    intro c hc
    rcases List.mem_append.mp hc with h | h
    · exact colonPath_clean ks hk c h
    · exact (ht c h).1
  have hres : resolvedPath (some (b!"/" ++ base ++ b!"/q")) m =
      joinWith b!"/" ([] :: (bparts ++ [b!"q"] ++ (colonPath ks ++ tail))) := by
    simp only [resolvedPath]
    rw [hbp, hm, pathJoin_clean _ _ (by simp) hA hB, joinWith_nil_cons _ (by simp)]
  simp only [methodSkelOf, Option.map_some, hres]
  rw [rewritePath_parts _ _ (by simp)]
  · simp only [List.map_cons, List.map_append, map_rewritePart_colon]
    rw [map_rewritePart_plain bparts (fun p hp => (hbc p hp).2),
      map_rewritePart_plain tail (fun p hp => (ht p hp).2)]
    have hq : rewritePart b!"q" = b!"q" := rfl
    have h0 : rewritePart ([] : Str) = [] := rfl
    simp only [hq, h0, List.map_nil]
    rw [joinWith_nil_cons _ (by simp)]
    simp [List.append_assoc]
  · intro p hp
    rcases List.mem_cons.mp hp with rfl | hp
    · simp
    · rcases List.mem_append.mp hp with h | h
      · exact (hA p h).2.2.2
      · exact (hB p h).2.2.2

/-- **the three query routes in explicit form** -/
theorem query_paths (pkg : Str) (e : Entity) (bparts : List Str)
    (hb : baseUrlPath pkg e = joinWith b!"/" bparts) (hbne : bparts ≠ [])
    (hbc : ∀ p ∈ bparts, CleanPart p ∧ p.head? ≠ some 58)
    (hk : ∀ k ∈ e.keys, 47 ∉ k.prop.name) :
    (methodSkelOf (some (b!"/" ++ baseUrlPath pkg e ++ b!"/q")) (getMethod e)).http.map (·.path) =
      some (b!"/" ++ joinWith b!"/" (bparts ++ [b!"q"] ++
        ((getKeys e).map fun k => b!"{" ++ toSnake k.name ++ b!"}"))) ∧
    (methodSkelOf (some (b!"/" ++ baseUrlPath pkg e ++ b!"/q")) (listMethod e)).http.map (·.path) =
      some (b!"/" ++ joinWith b!"/" (bparts ++ [b!"q"] ++
        ((listKeys e).map fun k => b!"{" ++ toSnake k.name ++ b!"}"))) ∧
    (methodSkelOf (some (b!"/" ++ baseUrlPath pkg e ++ b!"/q")) (eventsMethod e)).http.map (·.path) =
      some (b!"/" ++ joinWith b!"/" (bparts ++ [b!"q"] ++
        ((getKeys e).map fun k => b!"{" ++ toSnake k.name ++ b!"}") ++ [b!"events"])) := by
  have hg : ∀ k ∈ getKeys e, 47 ∉ k.name := by
    intro k hkm
    obtain ⟨k0, hk0, rfl⟩ := getKeys_mem e k hkm
    exact hk k0 hk0
  have hl : ∀ k ∈ listKeys e, 47 ∉ k.name := by
    intro k hkm
    obtain ⟨k0, hk0, rfl⟩ := listKeys_mem e k hkm
    exact hk k0 hk0
  have hev : ∀ p ∈ [b!"events"], CleanPart p ∧ p.head? ≠ some 58 := by
    intro p hp
    simp only [List.mem_singleton] at hp
    subst hp
    exact ⟨⟨by decide, by decide, by decide, by decide⟩, by decide⟩
  refine ⟨?_, ?_, ?_⟩
  · have := methodPath_explicit bparts _ hb hbne hbc (getMethod e) (getKeys e) []
      (by simp [getMethod]) hg (by simp)
    simpa using this
  · have := methodPath_explicit bparts _ hb hbne hbc (listMethod e) (listKeys e) []
      (by simp [listMethod]) hl (by simp)
    simpa using this
  · exact methodPath_explicit bparts _ hb hbne hbc (eventsMethod e) (getKeys e) [b!"events"]
      (by simp [eventsMethod]) hg hev

end J5V.Compile
