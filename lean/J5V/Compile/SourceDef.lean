import J5V.Compile.Str
/-!
# SourceDef — the AST after j5parse (core only)

Mirrors `sourcedef_j5pb.SourceFile` (`proto/j5build/j5/sourcedef/v1/file.proto`) and the schema
types it embeds (`proto/j5/j5/schema/v1/schema.proto`), restricted to what the compiler's
skeleton, its import set, its errors and its panics depend on. The shape is the one of
`harness/PROTOCOL-compile.md` §2, plus the few members that only the entity expansion
(`sourcewalk/entity.go`) produces: object PSM annotation, list rules, method / service options,
`event` topics.

Nested inductives (`List Property` inside `Field`, `List Nested` inside `ObjDecl`) are handled with
`mutual` blocks; functions over them are mutually structural.
-/
namespace J5V.Compile

/-- a literal of a `rules.<name> = <lit>` attribute -/
inductive Lit where
  | int (n : Nat)
  | str (s : Str)
  | bool (b : Bool)
  | neg (n : Nat)
  | strs (l : List Str)
  deriving Repr, DecidableEq, Inhabited

structure Rule where
  name : Str
  lit : Lit
  deriving Repr, DecidableEq, Inhabited

/-- empty list ⇔ the `Rules` message is absent -/
abbrev Rules := List Rule

inductive IntFmt where
  | int32 | int64 | uint32 | uint64
  deriving Repr, DecidableEq, Inhabited

inductive FloatFmt where
  | float32 | float64
  deriving Repr, DecidableEq, Inhabited

inductive KeyFmt where
  | none | informal | uuid | id62 | custom (pattern : Str)
  deriving Repr, DecidableEq, Inhabited

inductive EntKeyKind where
  | plain
  | primary (b : Bool)
  | foreign (pkg entity : Str)
  deriving Repr, DecidableEq, Inhabited

/-- `KeyField.entity` -/
inductive EntKey where
  | nokey
  | ek (kind : EntKeyKind) (tenant : Option Str)
  deriving Repr, DecidableEq, Inhabited

def EntKey.isPrimary : EntKey → Bool
  | .ek (.primary true) _ => true
  | _ => false

structure EnumDecl where
  name : Str
  pfx : Str          -- `[]` = not given
  opts : List Str    -- option names; `Enum.Option.number` is always 0 in parsed source
  deriving Repr, DecidableEq, Inhabited

mutual
/-- `schema_j5pb.Field` (`listRules : Bool`: `(j5.list.v1.field)` is set, `listRulesEff`) -/
inductive Field where
  | string (rules : Rules) (listRules : Bool)
  | bool (rules : Rules) (listRules : Bool)
  | bytes (rules : Rules)
  | date (rules : Rules) (listRules : Bool)
  | decimal (rules : Rules) (listRules : Bool)
  | timestamp (rules : Rules)
  | any
  | integer (fmt : IntFmt) (rules : Rules) (listRules : Bool)
  | float (fmt : FloatFmt) (rules : Rules) (listRules : Bool)
  | key (fmt : KeyFmt) (ek : EntKey) (rules : Rules) (listRules : Bool)
  | objectRef (pkg schema : Str) (flatten : Bool) (rules : Rules)
  | objectInl (name : Str) (props : List Property) (flatten : Bool) (rules : Rules)
  | oneofRef (pkg schema : Str) (rules : Rules) (listRules : Bool)
  | oneofInl (name : Str) (props : List Property) (rules : Rules) (listRules : Bool)
  /-- `listRules`: `none` = no `EnumRules` list constraint; `some fs` = present, with
  `filtering.default_filters = fs` (`[]` when there is no `filtering` or no default) -/
  | enumRef (pkg schema : Str) (rules : Rules) (listRules : Option (List Str))
  | enumInl (e : EnumDecl) (rules : Rules) (listRules : Option (List Str))
  | array (items : Field) (rules : Rules)
  | map (items : Field) (rules : Rules)
/-- `schema_j5pb.ObjectProperty` -/
inductive Property where
  | mk (name : Str) (required explicitlyOptional : Bool) (schema : Field)
end

instance : Inhabited Field := ⟨.any⟩
instance : Inhabited Property := ⟨.mk [] false false .any⟩

def Property.name : Property → Str | .mk n _ _ _ => n
def Property.required : Property → Bool | .mk _ r _ _ => r
def Property.explicitlyOptional : Property → Bool | .mk _ _ o _ => o
def Property.schema : Property → Field | .mk _ _ _ f => f

/-- `schema_j5pb.EntityPart` (only the members the compiler emits) -/
inductive EntityPart where
  | keys | state | event | data
  deriving Repr, DecidableEq, Inhabited

structure Psm where
  entity : Str
  part : EntityPart
  deriving Repr, DecidableEq, Inhabited

mutual
/-- `sourcedef_j5pb.Object` / `.Oneof`: the schema plus its explicitly nested schemas -/
inductive ObjDecl where
  | mk (name : Str) (props : List Property) (nested : List Nested) (psm : Option Psm)
/-- `sourcedef_j5pb.NestedSchema` -/
inductive Nested where
  | object (o : ObjDecl)
  | oneof (o : ObjDecl)
  | enum (e : EnumDecl)
end

instance : Inhabited ObjDecl := ⟨.mk [] [] [] none⟩

def ObjDecl.name : ObjDecl → Str | .mk n _ _ _ => n
def ObjDecl.props : ObjDecl → List Property | .mk _ p _ _ => p
def ObjDecl.nested : ObjDecl → List Nested | .mk _ _ n _ => n
def ObjDecl.psm : ObjDecl → Option Psm | .mk _ _ _ p => p

inductive Verb where
  | get | post | put | patch | delete
  | unspecified
  deriving Repr, DecidableEq, Inhabited

/-- `(j5.ext.v1.method).state_query` -/
inductive MOpt where
  | none | get | list | events
  deriving Repr, DecidableEq, Inhabited

/-- `(j5.ext.v1.service)` -/
inductive SOpt where
  | none
  | query (entity : Str)
  | command (entity : Str)
  deriving Repr, DecidableEq, Inhabited

/-- `sourcedef_j5pb.APIMethod`; `request = none` is the nil `Request` pointer -/
structure Method where
  name : Str
  verb : Verb
  path : Str
  request : Option (List Property)
  response : Option (List Property)
  mopt : MOpt := .none

/-- `sourcedef_j5pb.Service` -/
structure Service where
  name : Option Str
  basePath : Option Str
  methods : List Method
  sopt : SOpt := .none

/-- `sourcedef_j5pb.TopicMethod` -/
structure TopicMsg where
  name : Option Str
  props : List Property

/-- `sourcedef_j5pb.TopicType` -/
inductive TopicType where
  | publish (msgs : List TopicMsg)
  | reqres (reqs reps : List TopicMsg)
  | upsert (entityName : Str) (msg : TopicMsg)
  | event (entityName : Str) (msg : TopicMsg)

structure Topic where
  name : Str
  type : TopicType

structure EntityKeyDecl where
  prop : Property
  shard : Bool

structure Summary where
  name : Str       -- `[]` = default
  props : List Property

structure EntityQuery where
  eventsInGet : Bool
  filters : List Str

/-- `sourcedef_j5pb.Entity` -/
structure Entity where
  name : Str
  baseUrl : Str           -- `[]` = not given
  keys : List EntityKeyDecl
  data : List Property
  statuses : List Str
  events : List ObjDecl
  commands : List Service
  summaries : List Summary
  query : Option EntityQuery
  nested : List Nested

/-- `sourcedef_j5pb.RootElement` -/
inductive Elem where
  | object (o : ObjDecl)
  | oneof (o : ObjDecl)
  | enum (e : EnumDecl)
  | service (s : Service)
  | topic (t : Topic)
  | entity (e : Entity)

structure Import where
  path : Str
  alias : Str      -- `[]` = none
  deriving Repr, DecidableEq, Inhabited

/-- a source file of a local package -/
inductive SrcFile where
  /-- `.j5s` source: `path` e.g. `foo/v1/a.j5s`; `decl` is the name in the file's `package`
  declaration (`SourceFile.Package.Name`), which `parseJ5s` compares with the path -/
  | j5s (path : Str) (imports : List Import) (elems : List Elem) (decl : Str)
  /-- hand-written `.proto` of the package: only its top-level exports matter.
      `enums`: name and value names (first has number 0). -/
  | proto (path : Str) (msgs : List Str) (enums : List (Str × List Str))

def SrcFile.path : SrcFile → Str
  | .j5s p _ _ _ => p
  | .proto p _ _ => p

structure Pkg where
  name : Str
  files : List SrcFile

/-- packages in the listing order of the file source -/
structure Bundle where
  pkgs : List Pkg

end J5V.Compile
