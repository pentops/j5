import J5V.Compile.ConvertProofs
import J5V.Compile.Edit
/-!
# How an edit succeeds (core only)

`setAt` succeeds by replacing one element (`setAt_some`), and `editProps` / `editDecl` / `inlineProps` /
`inlineEnumAppend` succeed in the few ways their induction principles list. Everything that is proved about
an edit from the hypothesis that it succeeded goes through these.
-/
namespace J5V.Compile

/-! ## `setAt` -/

theorem setAt_some {α : Type} (l : List α) (i : Nat) (f : α → Option α) (l' : List α)
    (h : setAt l i f = some l') :
    ∃ a a', l = l.take i ++ [a] ++ l.drop (i + 1) ∧ f a = some a' ∧
      l' = l.take i ++ [a'] ++ l.drop (i + 1) ∧ (l.take i).length = i := by
  unfold setAt at h
  cases hget : l[i]? with
  | none => simp [hget] at h
  | some a =>
    simp only [hget] at h
    cases hfa : f a with
    | none => simp [hfa] at h
    | some a' =>
      simp only [hfa, Option.map_some, Option.some.injEq] at h
      subst h
      have hlt : i < l.length := by
        rcases Nat.lt_or_ge i l.length with h1 | h1
        · exact h1
        · rw [List.getElem?_eq_none h1] at hget; cases hget
      have hget' : l[i] = a := by
        rw [List.getElem?_eq_getElem hlt] at hget
        exact Option.some.inj hget
      refine ⟨a, a', ?_, hfa, ?_, ?_⟩
      · conv => lhs; rw [← List.take_append_drop i l]
        rw [List.append_assoc]
        congr 1
        rw [List.drop_eq_getElem_cons hlt, hget']
        rfl
      · rw [List.set_eq_take_append_cons_drop]
        simp [hlt]
      · simp [Nat.min_eq_left (Nat.le_of_lt hlt)]

/-! ## edit paths -/

/-- the three ways `editProps` succeeds: the path ends and a field is appended, it goes on below an
inline object / oneof, or it ends at an inline enum that gets an option. Used by `apply` on a goal of
the form `∀ path ps ps', editProps act path ps = some ps' → …` (the success hypothesis stands in front
of the motive, so `induction … using` does not take it); likewise the three principles below. -/
theorem editProps_induct (act : Act) {P : List PStep → List Property → List Property → Prop}
    (here : ∀ (prop : Property) (ps : List Property), act = .field prop → P [] ps (ps ++ [prop]))
    (inline : ∀ (rest : List PStep) (A B : List Property) (nm : Str) (r o : Bool) (f : Field)
      (qs : List Property) (k : List Property → Field) (qs' : List Property),
      inlineProps f = some (qs, k) → editProps act rest qs = some qs' → P rest qs qs' →
      P (.prop A.length :: rest) (A ++ [Property.mk nm r o f] ++ B) (A ++ [Property.mk nm r o (k qs')] ++ B))
    (enum : ∀ (opt : Str) (A B : List Property) (nm : Str) (r o : Bool) (f f' : Field),
      act = .option opt → inlineEnumAppend opt f = some f' →
      P [.prop A.length] (A ++ [Property.mk nm r o f] ++ B) (A ++ [Property.mk nm r o f'] ++ B)) :
    ∀ (path : List PStep) (ps ps' : List Property), editProps act path ps = some ps' → P path ps ps' := by
  intro path
  induction path with
  | nil =>
    intro ps ps' h
    cases act with
    | option o => simp [editProps] at h
    | field prop =>
      simp only [editProps, Option.some.injEq] at h
      subst h
      exact here prop ps rfl
  | cons st rest ih =>
    intro ps ps' h
    cases st with
    | prop j =>
      simp only [editProps] at h
      obtain ⟨a, a', h1, hf, h2, h3⟩ := setAt_some _ _ _ _ h
      generalize ps.take j = A at h1 h2 h3
      generalize ps.drop (j + 1) = B at h1 h2
      subst h1 h2 h3
      cases a with
      | mk nm r o f =>
        simp only [] at hf
        cases hin : inlineProps f with
        | some pk =>
          obtain ⟨qs, k⟩ := pk
          simp only [hin] at hf
          obtain ⟨qs', hq, rfl⟩ := Option.map_eq_some_iff.mp hf
          exact inline rest _ _ nm r o f qs k qs' hin hq (ih qs qs' hq)
        | none =>
          simp only [hin] at hf
          cases rest with
          | cons s2 r2 => simp at hf
          | nil =>
            cases act with
            | field prop => simp at hf
            | option opt =>
              simp only [] at hf
              obtain ⟨f', hf', rfl⟩ := Option.map_eq_some_iff.mp hf
              exact enum opt _ _ nm r o f f' rfl hf'
    | _ => simp [editProps] at h

/-- the three ways `editDecl` succeeds: the edit goes on in the declaration's own property list (the
path is empty or continues with `prop j`), into a nested object / oneof, or it ends at a nested enum
that gets an option -/
theorem editDecl_induct (act : Act) {P : List PStep → ObjDecl → ObjDecl → Prop}
    (props : ∀ (path : List PStep) (n : Str) (ps ps' : List Property) (ne : List Nested) (psm : Option Psm),
      editProps act path ps = some ps' → (path = [] ∨ ∃ j rest, path = .prop j :: rest) →
      P path (.mk n ps ne psm) (.mk n ps' ne psm))
    (decl : ∀ (rest : List PStep) (n : Str) (ps : List Property) (L1 L2 : List Nested) (psm : Option Psm)
      (io : Bool) (o1 o1' : ObjDecl), editDecl act rest o1 = some o1' → P rest o1 o1' →
      P (.nest L1.length :: rest) (.mk n ps (L1 ++ [declNested io o1] ++ L2) psm)
        (.mk n ps (L1 ++ [declNested io o1'] ++ L2) psm))
    (enum : ∀ (opt n : Str) (ps : List Property) (L1 L2 : List Nested) (psm : Option Psm) (e : EnumDecl),
      act = .option opt →
      P [.nest L1.length] (.mk n ps (L1 ++ [.enum e] ++ L2) psm)
        (.mk n ps (L1 ++ [.enum { e with opts := e.opts ++ [opt] }] ++ L2) psm)) :
    ∀ (path : List PStep) (o o' : ObjDecl), editDecl act path o = some o' → P path o o' := by
  intro path
  induction path with
  | nil =>
    intro o o' h
    cases o with
    | mk n ps ne psm =>
      simp only [editDecl] at h
      obtain ⟨ps', hq, rfl⟩ := Option.map_eq_some_iff.mp h
      exact props [] n ps ps' ne psm hq (.inl rfl)
  | cons st rest ih =>
    intro o o' h
    cases o with
    | mk n ps ne psm =>
      cases st with
      | prop j =>
        simp only [editDecl] at h
        obtain ⟨ps', hq, rfl⟩ := Option.map_eq_some_iff.mp h
        exact props _ n ps ps' ne psm hq (.inr ⟨j, rest, rfl⟩)
      | nest k =>
        simp only [editDecl] at h
        obtain ⟨ne', hq, rfl⟩ := Option.map_eq_some_iff.mp h
        obtain ⟨x, x', h1, hf, h2, h3⟩ := setAt_some _ _ _ _ hq
        generalize ne.take k = L1 at h1 h2 h3
        generalize ne.drop (k + 1) = L2 at h1 h2
        subst h1 h2 h3
        cases x with
        | object o1 =>
          obtain ⟨o1', ho, rfl⟩ := Option.map_eq_some_iff.mp hf
          exact decl rest n ps _ _ psm false o1 o1' ho (ih o1 o1' ho)
        | oneof o1 =>
          obtain ⟨o1', ho, rfl⟩ := Option.map_eq_some_iff.mp hf
          exact decl rest n ps _ _ psm true o1 o1' ho (ih o1 o1' ho)
        | enum e =>
          cases rest with
          | cons s2 r2 => simp [editEnum] at hf
          | nil =>
            cases act with
            | field prop => simp [editEnum] at hf
            | option opt =>
              simp only [editEnum, Option.map_some, Option.some.injEq] at hf
              subst hf
              exact enum opt n ps _ _ psm e rfl
      | _ => simp [editDecl] at h

/-- the fields `inlineProps` accepts: an inline object or oneof, below any number of array / map
layers -/
theorem inlineProps_induct {P : Field → List Property → (List Property → Field) → Prop}
    (obj : ∀ name ps fl rules,
      P (.objectInl name ps fl rules) ps (fun ps' => .objectInl name ps' fl rules))
    (oneof : ∀ name ps rules lr,
      P (.oneofInl name ps rules lr) ps (fun ps' => .oneofInl name ps' rules lr))
    (array : ∀ items r qs k, inlineProps items = some (qs, k) → P items qs k →
      P (.array items r) qs (fun ps' => .array (k ps') r))
    (map : ∀ items r qs k, inlineProps items = some (qs, k) → P items qs k →
      P (.map items r) qs (fun ps' => .map (k ps') r)) :
    ∀ f qs k, inlineProps f = some (qs, k) → P f qs k := by
  intro f
  induction f using inlineProps.induct with
  | case1 name ps fl rules =>
    intro qs k h
    simp only [inlineProps, Option.some.injEq, Prod.mk.injEq] at h
    obtain ⟨rfl, rfl⟩ := h
    exact obj name ps fl rules
  | case2 name ps rules lr =>
    intro qs k h
    simp only [inlineProps, Option.some.injEq, Prod.mk.injEq] at h
    obtain ⟨rfl, rfl⟩ := h
    exact oneof name ps rules lr
  | case3 items r ih =>
    intro qs k h
    simp only [inlineProps] at h
    obtain ⟨⟨qs0, k0⟩, hi, hk⟩ := Option.map_eq_some_iff.mp h
    simp only [Prod.mk.injEq] at hk
    obtain ⟨rfl, rfl⟩ := hk
    exact array items r qs0 k0 hi (ih qs0 k0 hi)
  | case4 items r ih =>
    intro qs k h
    simp only [inlineProps] at h
    obtain ⟨⟨qs0, k0⟩, hi, hk⟩ := Option.map_eq_some_iff.mp h
    simp only [Prod.mk.injEq] at hk
    obtain ⟨rfl, rfl⟩ := hk
    exact map items r qs0 k0 hi (ih qs0 k0 hi)
  | case5 t h1 h2 h3 h4 =>
    -- every other field has no inline property list
    intro qs k h
    rw [inlineProps] at h
    · cases h
    all_goals assumption

/-- the fields `inlineEnumAppend` accepts: an inline enum, below any number of array / map layers -/
theorem inlineEnumAppend_induct {P : Field → Field → Prop} (o : Str)
    (leaf : ∀ e rules lr, P (.enumInl e rules lr) (.enumInl { e with opts := e.opts ++ [o] } rules lr))
    (array : ∀ items items' r, inlineEnumAppend o items = some items' → P items items' →
      P (.array items r) (.array items' r))
    (map : ∀ items items' r, inlineEnumAppend o items = some items' → P items items' →
      P (.map items r) (.map items' r)) :
    ∀ f f', inlineEnumAppend o f = some f' → P f f' := by
  intro f
  induction f using inlineEnumAppend.induct with
  | case1 e rules lr =>
    intro f' h
    simp only [inlineEnumAppend, Option.some.injEq] at h
    subst h
    exact leaf e rules lr
  | case2 items r ih =>
    intro f' h
    simp only [inlineEnumAppend] at h
    obtain ⟨i', hi, rfl⟩ := Option.map_eq_some_iff.mp h
    exact array items i' r hi (ih i' hi)
  | case3 items r ih =>
    intro f' h
    simp only [inlineEnumAppend] at h
    obtain ⟨i', hi, rfl⟩ := Option.map_eq_some_iff.mp h
    exact map items i' r hi (ih i' hi)
  | case4 t h1 h2 h3 =>
    intro f' h
    rw [inlineEnumAppend] at h
    · cases h
    all_goals assumption

end J5V.Compile
