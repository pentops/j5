import J5V.Compile.CtxRel
import J5V.Compile.Congr
/-!
# Conversion is monotone in the value names of referenced enums (C13) — core only

Appending an option to an enum changes the enum's export entry: an `EnumRef` carries the value
names, against which `rules.in / notIn` and default filters of referring fields are checked
(`mapValuesOk`). A conversion that recorded no error stays exactly the same when referenced enums
get MORE value names (`AgreeUp`): every check that passed still passes, nothing else reads the
names. `RefUp` is a relation on references that the three reads of the context preserve
(`AgreeUp.ctxRel`); the rest is the tower of Compile/CtxRel.lean.
-/
namespace J5V.Compile
open J5V.Go

/-- the two contexts resolve the reference alike, or to the same enum with more value names -/
def RefUp (c c' : Ctx) (r : Str × Str) : Prop :=
  c.resolve r.1 r.2 = c'.resolve r.1 r.2 ∨
    ∃ t pfx names names', c.resolve r.1 r.2 = some t ∧ t.kind = .enum pfx names ∧
      c'.resolve r.1 r.2 = some { t with kind := .enum pfx names' } ∧ ∀ x ∈ names, x ∈ names'

/-- the new lookup result is the old one, or the same enum reference with more value names -/
def UpOrEq (o n : Option TypeRef) : Prop :=
  o = n ∨ ∃ t pfx names names', o = some t ∧ t.kind = .enum pfx names ∧
    n = some { t with kind := .enum pfx names' } ∧ ∀ x ∈ names, x ∈ names'

theorem RefUp.iff_upOrEq {c c' : Ctx} {r : Str × Str} :
    RefUp c c' r ↔ UpOrEq (c.resolve r.1 r.2) (c'.resolve r.1 r.2) := Iff.rfl

def AgreeUp (c c' : Ctx) (refs : List (Str × Str)) : Prop := ∀ r ∈ refs, RefUp c c' r

theorem AgreeOn.up {c c' : Ctx} {refs : List (Str × Str)} (h : AgreeOn c c' refs) :
    AgreeUp c c' refs := fun r hr => Or.inl (h r hr)

theorem mapValuesOk_mono (pfx : Str) (names names' vals : List Str) (h : ∀ x ∈ names, x ∈ names')
    (hok : mapValuesOk pfx names vals = true) : mapValuesOk pfx names' vals = true := by
  unfold mapValuesOk at hok ⊢
  rw [List.all_eq_true] at hok ⊢
  intro v hv
  have := hok v hv
  simp only [List.contains_iff_mem] at this ⊢
  exact h _ this

theorem enumFieldWith_up (pre walk : Eff) (tn pfx : Str) (names names' : List Str) (rules : Rules)
    (lr : Option (List Str)) (h : ∀ x ∈ names, x ∈ names')
    (hs : (enumFieldWith pre walk tn pfx names rules lr).res.isSome = true) :
    enumFieldWith pre walk tn pfx names' rules lr = enumFieldWith pre walk tn pfx names rules lr := by
  unfold enumFieldWith at hs ⊢
  cases h1 : mapValuesOk pfx names (enumRuleVals rules) with
  | false => simp [h1] at hs
  | true =>
    cases h2 : mapValuesOk pfx names (lr.getD []) with
    | false => simp [h1, h2] at hs
    | true =>
      simp [h1, h2, mapValuesOk_mono pfx names names' _ h h1, mapValuesOk_mono pfx names names' _ h h2]

theorem enumRefField_up (c c' : Ctx) (np : List Str) (d pkg schema : Str) (rules : Rules)
    (lr : Option (List Str)) (h : RefUp c c' (pkg, schema))
    (hs : (bField c np d (.enumRef pkg schema rules lr)).res.isSome = true) :
    bField c' np d (.enumRef pkg schema rules lr) = bField c np d (.enumRef pkg schema rules lr) := by
  rcases h with h | ⟨t, pfx, names, names', h1, hk, h2, hsub⟩
  · rw [bField, bField]
    unfold refField
    simp only [] at h
    rw [h]
  · obtain ⟨tp, tn, tf, tk⟩ := t
    simp only [] at hk
    subst hk
    rw [bField] at hs
    rw [bField, bField]
    unfold refField at hs ⊢
    simp only [] at h1 h2
    simp only [h1, h2, TKind.isMessage, Bool.not_true, if_true] at hs ⊢
    exact enumFieldWith_up _ _ _ pfx names names' rules lr hsub hs

/-- a reference that resolves to the same enum with more value names still is no message, and is the
same type for `checkListMethod` -/
theorem AgreeUp.ctxRel (c c' : Ctx) : CtxRel c c' (RefUp c c') True where
  refMsg pkg sc h := by
    rcases h with h | ⟨t, pfx, names, names', h1, hk, h2, _⟩
    · unfold refField
      simp only [] at h
      rw [h]
    · unfold refField
      simp only [] at h1 h2
      simp [h1, h2, hk, TKind.isMessage]
  refEnum np d pkg sc rules lr h hs := enumRefField_up c c' np d pkg sc rules lr h (hs trivial)
  resolveId pkg sc h := by
    rcases h with h | ⟨t, pfx, names, names', h1, _, h2, _⟩
    · simp only [] at h
      rw [h]
    · simp only [] at h1 h2
      rw [h1, h2]
      rfl

theorem bField_up (c c' : Ctx) (np : List Str) (d : Str) :
    ∀ f : Field, AgreeUp c c' (refsField f) → (bField c np d f).res.isSome = true →
      (bField c np d f).eff.errs = 0 → bField c' np d f = bField c np d f :=
  fun f h hs he => (AgreeUp.ctxRel c c').bField np d f h fun _ => ⟨hs, he⟩

theorem bProperty_up (c c' : Ctx) (np : List Str) (io : Bool) (n : Nat) :
    ∀ p : Property, AgreeUp c c' (refsProperty p) → (bProperty c np io n p).eff.errs = 0 →
      bProperty c' np io n p = bProperty c np io n p :=
  fun p h he => (AgreeUp.ctxRel c c').bProperty np io n p h fun _ => he

theorem convNested_up (c c' : Ctx) (np : List Str) :
    ∀ ns : List Nested, AgreeUp c c' (refsNested ns) → (convNested c np ns).errs = 0 →
      convNested c' np ns = convNested c np ns :=
  fun ns h he => (AgreeUp.ctxRel c c').convNested np ns h fun _ => he

/-- **`ConvertJ5File` that succeeded gives the same files when referenced enums get more value
names** -/
theorem convertFile_up (res res' : Resolver) (path : Str) (imports : List Import)
    (elems : List Elem) (fs : List FileSkel) (h : convertFile res path imports elems = .ok fs)
    (hag : ∀ im, j5Imports (packageFromFilename (path ++ b!".proto")) imports = .ok im →
      AgreeUp { resolve := resolveTypeNoImport im res } { resolve := resolveTypeNoImport im res' }
        (fileRefs (packageFromFilename (path ++ b!".proto")) elems)) :
    convertFile res' path imports elems = .ok fs := by
  obtain ⟨im, hj, hc, herrs, rfl⟩ := convertFile_ok res path imports elems fs h
  have hsteps := (AgreeUp.ctxRel _ _).fileSteps _ elems (hag im hj) fun _ => herrs
  have := convertFile_of_clean res' path imports elems im hj (hsteps ▸ hc) (hsteps ▸ herrs)
  rwa [hsteps] at this

end J5V.Compile
