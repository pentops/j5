import J5V.Compile.Entity
/-!
# The keys of an entity that become path parameters (C16, C17) — core only

`getKeys` / `listKeys` select among the declared keys by `keyInfo` and the shard mark.
-/
namespace J5V.Compile
open J5V.Compile.Entity

theorem keyInfo_eq_some_true {k : EntityKeyDecl} (h : keyInfo k = some true) :
    ∃ name req opt fmt tenant rules lr,
      k.prop = .mk name req opt (.key fmt (.ek (.primary true) tenant) rules lr) := by
  cases hp : k.prop with
  | mk name req opt schema =>
  simp only [keyInfo, hp, Property.schema] at h
  cases schema with
  | key fmt ek rules lr =>
    cases ek with
    | nokey => simp [EntKey.isPrimary] at h
    | ek kind tenant =>
      cases kind with
      | primary b => cases b <;> simp [EntKey.isPrimary] at h; exact ⟨name, req, opt, fmt, tenant, rules, lr, rfl⟩
      | plain => simp [EntKey.isPrimary] at h
      | foreign _ _ => simp [EntKey.isPrimary] at h
  | _ => simp at h

theorem getKeys_sublist (e : Entity) : (getKeys e).Sublist (e.keys.map (·.prop)) := by
  unfold getKeys
  induction e.keys with
  | nil => simp
  | cons k ks ih =>
    simp only [List.filterMap_cons, List.map_cons]
    split
    · exact ih.cons _
    · rename_i b hb
      cases hk : keyInfo k with
      | none => simp [hk] at hb
      | some pk =>
        cases pk <;> cases hs : k.shard <;> simp [hk, hs] at hb <;> subst hb <;> exact ih.cons_cons _

theorem mem_getKeys_of_primary (e : Entity) (k : EntityKeyDecl) (hk : k ∈ e.keys)
    (hp : keyInfo k = some true) : k.prop ∈ getKeys e :=
  List.mem_filterMap.mpr ⟨k, hk, by simp [hp]⟩

theorem getKeys_mem (e : Entity) (p : Property) (h : p ∈ getKeys e) : ∃ k ∈ e.keys, p = k.prop := by
  obtain ⟨k, hk, hf⟩ := List.mem_filterMap.mp h
  refine ⟨k, hk, ?_⟩
  cases hi : keyInfo k with
  | none => simp [hi] at hf
  | some b =>
    cases b <;> simp only [hi] at hf
    · split at hf
      · exact (Option.some.inj hf).symm
      · cases hf
    · exact (Option.some.inj hf).symm

theorem listKeys_mem (e : Entity) (p : Property) (h : p ∈ listKeys e) : ∃ k ∈ e.keys, p = k.prop := by
  obtain ⟨k, hk, hf⟩ := List.mem_filterMap.mp h
  refine ⟨k, hk, ?_⟩
  cases hi : keyInfo k with
  | none => simp [hi] at hf
  | some b =>
    simp only [hi] at hf
    split at hf
    · exact (Option.some.inj hf).symm
    · cases hf

end J5V.Compile
