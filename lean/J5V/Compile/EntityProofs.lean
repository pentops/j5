import J5V.Compile.ExactProofs
import J5V.Compile.Link
/-!
# What an entity adds to the generated files (core only)

`Entity.expand` composed with the per-item equations of `ExactProofs`: the messages, enums and
services an entity declaration contributes to the main file, the `.service` file and the `.topic`
file, in order.
-/
namespace J5V.Compile
open J5V.Go Entity

theorem bProperty_entries_objectRef (c : Ctx) (np : List Str) (n : Nat) (nm p sc : Str) (fl : Bool)
    (rules : Rules) :
    (bProperty c np true n (.mk nm false false (.objectRef p sc fl rules))).entries = [] := by
  rw [bProperty_eq]
  split
  · rfl
  · rw [finishProperty_entries_eq]; rfl

/-- reference-typed options hand no map entry to the enclosing context -/
theorem bProps_entries_refs (c : Ctx) (np : List Str) (n : Nat) (l : List (Str × Str)) :
    (bProps c np true n (l.map fun x => .mk x.1 false false (.objectRef [] x.2 false []))).entries = [] := by
  rw [(bProps_eq_map c np true n _).2.2, if_pos rfl, List.flatMap_eq_nil_iff]
  intro r hr
  obtain ⟨i, hi, rfl⟩ := List.getElem_of_mem hr
  rw [propResults_length] at hi
  rw [propResults_getElem c np true n _ i hi, List.getElem_map]
  exact bProperty_entries_objectRef c np _ _ _ _ _ _

theorem itemMsgs_eventOneof (c : Ctx) (e : Entity) :
    itemMsgs c (.oneof (eventOneof e)) = [declMsgOf c [] true [] (eventOneof e)] := by
  simp only [itemMsgs, convItem, List.flatMap_cons, List.flatMap_nil, List.append_nil, eventOneof]
  rw [convDecl_msgs]
  have : (e.events.map fun ev => Property.mk (toLowerCamel ev.name) false false
        (.objectRef [] (eventTypeName e ++ b!"." ++ ev.name) false [])) =
      (e.events.map fun ev => (toLowerCamel ev.name, eventTypeName e ++ b!"." ++ ev.name)).map
        fun x => Property.mk x.1 false false (.objectRef [] x.2 false []) := by
    rw [List.map_map]; rfl
  simp only [this, List.nil_append, bProps_entries_refs]
  rfl

@[simp] theorem Item.target_object (o : ObjDecl) : (Item.object o).target = .main := rfl
@[simp] theorem Item.target_oneof (o : ObjDecl) : (Item.oneof o).target = .main := rfl
@[simp] theorem Item.target_enum (e : EnumDecl) : (Item.enum e).target = .main := rfl
@[simp] theorem Item.target_serviceFile (ss : List Service) : (Item.serviceFile ss).target = .service := rfl
@[simp] theorem Item.target_topicFile (ts : List Topic) : (Item.topicFile ts).target = .topic := rfl

theorem nestedItem_target (n : Nested) : (nestedItem n).target = .main := by
  cases n <;> rfl

theorem filter_nested (ns : List Nested) (t : Target) :
    (ns.map nestedItem).filter (·.target = t) = if t = .main then ns.map nestedItem else [] := by
  split
  · rename_i h
    apply filter_all_eq
    intro i hi
    obtain ⟨n, _, rfl⟩ := List.mem_map.mp hi
    simp [nestedItem_target, h]
  · rename_i h
    apply filter_all_ne
    intro i hi
    obtain ⟨n, _, rfl⟩ := List.mem_map.mp hi
    simp [nestedItem_target]
    exact fun e => h e.symm

theorem Entity.expand_of_valid (pkg : Str) (e : Entity) (hf : filtersOk e = true)
    (hs : summariesDistinct e.summaries = true) :
    expand pkg e =
      [ .object (keysObject e), .object (dataObject e), .enum (statusEnum e), .object (stateObject e),
        .oneof (eventOneof e), .object (eventObject e), .serviceFile [queryService pkg e],
        .serviceFile (e.commands.map (commandService pkg e)), .topicFile [publishTopic pkg e],
        .topicFile (e.summaries.map (summaryTopic pkg e)) ] ++ e.nested.map nestedItem := by
  simp [expand, hf, hs]

/-- the items of a valid entity, file by file -/
theorem expand_filter (pkg : Str) (e : Entity)
    (hv : filtersOk e = true ∧ summariesDistinct e.summaries = true) :
    (expand pkg e).filter (·.target = .main) =
      [.object (keysObject e), .object (dataObject e), .enum (statusEnum e), .object (stateObject e),
        .oneof (eventOneof e), .object (eventObject e)] ++ e.nested.map nestedItem ∧
    (expand pkg e).filter (·.target = .service) =
      [.serviceFile [queryService pkg e], .serviceFile (e.commands.map (commandService pkg e))] ∧
    (expand pkg e).filter (·.target = .topic) =
      [.topicFile [publishTopic pkg e], .topicFile (e.summaries.map (summaryTopic pkg e))] := by
  rw [Entity.expand_of_valid pkg e hv.1 hv.2]
  refine ⟨?_, ?_, ?_⟩ <;>
    simp only [List.filter_append, List.filter_cons, Item.target_object,
      Item.target_oneof, Item.target_enum, Item.target_serviceFile, Item.target_topicFile,
      filter_nested, List.filter_nil, decide_true, reduceCtorEq, decide_false, Bool.false_eq_true,
      if_false, if_true, List.append_nil, List.nil_append, List.cons_append]

theorem entity_main_msgs (c : Ctx) (pkg : Str) (e : Entity)
    (hv : filtersOk e = true ∧ summariesDistinct e.summaries = true) :
    ((expand pkg e).filter (·.target = .main)).flatMap (itemMsgs c) =
      [ declMsgOf c [] false [] (keysObject e), declMsgOf c [] false [] (dataObject e),
        declMsgOf c [] false [] (stateObject e), declMsgOf c [] true [] (eventOneof e),
        declMsgOf c [] false [] (eventObject e) ] ++ (e.nested.map nestedItem).flatMap (itemMsgs c) := by
  rw [(expand_filter pkg e hv).1]
  simp only [List.flatMap_append, List.flatMap_cons, List.flatMap_nil, itemMsgs_object,
    itemMsgs_enum, itemMsgs_eventOneof, List.append_nil, List.nil_append, List.cons_append]

theorem entity_main_enums (c : Ctx) (pkg : Str) (e : Entity)
    (hv : filtersOk e = true ∧ summariesDistinct e.summaries = true) :
    ((expand pkg e).filter (·.target = .main)).flatMap (itemEnums c) =
      convEnum (statusEnum e) :: (e.nested.map nestedItem).flatMap (itemEnums c) := by
  rw [(expand_filter pkg e hv).1]
  simp only [List.flatMap_append, List.flatMap_cons, List.flatMap_nil, itemEnums_object,
    itemEnums_enum, itemEnums_oneof, List.append_nil, List.nil_append, List.cons_append]

theorem entity_service_svcs (c : Ctx) (pkg : Str) (e : Entity)
    (hv : filtersOk e = true ∧ summariesDistinct e.summaries = true) :
    ((expand pkg e).filter (·.target = .service)).flatMap (itemSvcs c) =
      serviceSvcs c (queryService pkg e) ++
        (e.commands.map (commandService pkg e)).flatMap (serviceSvcs c) := by
  rw [(expand_filter pkg e hv).2.1]
  simp only [List.flatMap_cons, List.flatMap_nil, itemSvcs_serviceFile, List.append_nil]

theorem entity_topic_svcs (c : Ctx) (pkg : Str) (e : Entity)
    (hv : filtersOk e = true ∧ summariesDistinct e.summaries = true) :
    ((expand pkg e).filter (·.target = .topic)).flatMap (itemSvcs c) =
      (topicNodes (publishTopic pkg e)).map topicSvc ++
        (e.summaries.map (summaryTopic pkg e)).flatMap fun t => (topicNodes t).map topicSvc := by
  rw [(expand_filter pkg e hv).2.2]
  simp only [List.flatMap_cons, List.flatMap_nil, itemSvcs_topicFile, List.append_nil]

/-- the query service on the skeleton: `<C>QueryService` with the entity annotation and the three
rpcs Get / List / Events in this order -/
theorem queryService_svcs (c : Ctx) (pkg : Str) (e : Entity) :
    serviceSvcs c (queryService pkg e) =
      [{ name := toCamel e.name ++ b!"Query" ++ b!"Service", sopt := .query (snakeName e),
         methods := [getMethod e, listMethod e, eventsMethod e].map
           (methodSkelOf (some (b!"/" ++ baseUrlPath pkg e ++ b!"/q"))) }] := by
  unfold serviceSvcs builtMethods
  simp only [queryService]
  rw [built_methods c _ [getMethod e, listMethod e, eventsMethod e]
    (by intro m hm; simp at hm; rcases hm with rfl | rfl | rfl <;> rfl)
    (by intro m hm; simp at hm; rcases hm with rfl | rfl | rfl <;> simp [getMethod, listMethod, eventsMethod])]
  rfl

theorem compilePkg_isOk_of_linked (b : Bundle) (name : Str) (h : (compileLinked b name).isOk = true) :
    (compilePkg b name).isOk = true := by
  unfold compileLinked at h
  unfold compilePkg
  cases hl : loadPkg b (b.pkgs.length + 1) [] name with
  | ok l => rfl
  | err t => rw [hl] at h; exact h
  | panic w => rw [hl] at h; exact h

end J5V.Compile
