import J5V.Compile.OrderProofs
import J5V.Compile.FileProofs
import J5V.Compile.LoadProofs
/-!
# `compilePkg` is invariant under permutation of a package's file listing (core only)

When the three loops of `loadLocalPackage` succeed, each result is the image of the listing under a
function, so a permuted listing gives permuted summaries and conversions; the dependency list is
deduplicated, the two tables are Go maps with distinct keys (`mapGet_perm`), the generated files are
sorted (`sortFiles_perm`). `Bundle.withFiles` is the bundle with one listing replaced.
-/
namespace J5V.Compile
open J5V.Go

def withFilesMap (name : Str) (files' : List SrcFile) (q : Pkg) : Pkg :=
  if q.name = name then { q with files := files' } else q

/-- the bundle in which the files of package `name` are listed as `files'` -/
def Bundle.withFiles (b : Bundle) (name : Str) (files' : List SrcFile) : Bundle :=
  { pkgs := b.pkgs.map (withFilesMap name files') }

theorem withFiles_find_other (b : Bundle) (name : Str) (files' : List SrcFile) (d : Str)
    (h : d ≠ name) : (b.withFiles name files').find d = b.find d := by
  obtain ⟨pkgs⟩ := b
  show (pkgs.map (withFilesMap name files')).find? (·.name = d) = pkgs.find? (·.name = d)
  induction pkgs with
  | nil => rfl
  | cons q rest ih =>
    simp only [List.map_cons, List.find?_cons]
    by_cases hq : q.name = name
    · have h1 : decide (q.name = d) = false := by
        simp only [decide_eq_false_iff_not]; intro e; exact h (e ▸ hq)
      have h3 : (withFilesMap name files' q).name = q.name := by simp [withFilesMap, hq]
      simp only [h3, h1]
      exact ih
    · have h3 : withFilesMap name files' q = q := by simp [withFilesMap, hq]
      rw [h3]
      by_cases hqd : q.name = d <;> simp [hqd, ih]

theorem withFiles_find_self (b : Bundle) (name : Str) (files' : List SrcFile) (p : Pkg)
    (h : b.find name = some p) :
    (b.withFiles name files').find name = some { p with files := files' } := by
  obtain ⟨pkgs⟩ := b
  change pkgs.find? (·.name = name) = some p at h
  show (pkgs.map (withFilesMap name files')).find? (·.name = name) = some { p with files := files' }
  induction pkgs with
  | nil => simp at h
  | cons q rest ih =>
    simp only [List.map_cons, List.find?_cons] at h ⊢
    by_cases hq : q.name = name
    · have hd : decide (q.name = name) = true := by simpa using hq
      rw [hd] at h
      simp only [Option.some.injEq] at h
      subst h
      simp [withFilesMap, hq]
    · have hd : decide (q.name = name) = false := by simpa using hq
      rw [hd] at h
      have h3 : withFilesMap name files' q = q := by simp [withFilesMap, hq]
      rw [h3, hd]
      exact ih h

/-- once `name` is on the chain, loading never looks at the files of `name` -/
theorem loadPkg_withFiles_chain (b : Bundle) (name : Str) (files' : List SrcFile) (fuel : Nat)
    (chain : List Str) (d : Str) (hc : chain.contains name = true) :
    loadPkg (b.withFiles name files') fuel chain d = loadPkg b fuel chain d :=
  loadPkg_congr _ _ fuel chain d fun n hn =>
    withFiles_find_other b name files' n fun e => by rw [e, hc] at hn; cases hn


/-- the dependency list of `loadLocalPackage`: distinct, and a permutation when the summaries
are permuted -/
theorem depNames_perm (name : Str) (sums sums' : List Summary') (h : sums.Perm sums') :
    (depNamesOf name sums).Perm (depNamesOf name sums') ∧ (depNamesOf name sums).Nodup := by
  have hn1 : (depNamesOf name sums).Nodup := List.Pairwise.filter _ (dedup_nodup _)
  have hn2 : (depNamesOf name sums').Nodup := List.Pairwise.filter _ (dedup_nodup _)
  refine ⟨(List.perm_ext_iff_of_nodup hn1 hn2).mpr ?_, hn1⟩
  intro a
  simp only [depNamesOf, List.mem_filter, mem_dedup]
  rw [(h.flatMap_right (·.depPkgs)).mem_iff]

theorem resolveType_perm (name : Str) {ex ex' : List (Str × TypeRef)}
    {deps deps' : List (Str × List (Str × TypeRef))} (he : ex.Perm ex') (hed : (ex.map (·.1)).Nodup)
    (hd : deps.Perm deps') (hdd : (deps.map (·.1)).Nodup) (pkg sch : Str) :
    ({ pkgName := name, exports := ex, deps := deps } : Resolver).resolveType pkg sch =
    ({ pkgName := name, exports := ex', deps := deps' } : Resolver).resolveType pkg sch := by
  unfold Resolver.resolveType
  simp only [mapGet_perm he hed sch, mapGet_perm hd hdd pkg]

theorem resolveTypeNoImport_perm (im : ImportMap) (name : Str) {ex ex' : List (Str × TypeRef)}
    {deps deps' : List (Str × List (Str × TypeRef))} (he : ex.Perm ex') (hed : (ex.map (·.1)).Nodup)
    (hd : deps.Perm deps') (hdd : (deps.map (·.1)).Nodup) :
    resolveTypeNoImport im { pkgName := name, exports := ex, deps := deps } =
    resolveTypeNoImport im { pkgName := name, exports := ex', deps := deps' } := by
  funext pkg sch
  unfold resolveTypeNoImport
  cases im.expand pkg sch with
  | none => rfl
  | some e =>
    cases e with
    | implicit t => rfl
    | ref p s => exact resolveType_perm name he hed hd hdd p s

/-- …and every file converts to the same descriptors -/
theorem convertFile_perm (name : Str) {ex ex' : List (Str × TypeRef)}
    {deps deps' : List (Str × List (Str × TypeRef))} (he : ex.Perm ex') (hed : (ex.map (·.1)).Nodup)
    (hd : deps.Perm deps') (hdd : (deps.map (·.1)).Nodup) (path : Str) (imports : List Import)
    (elems : List Elem) :
    convertFile { pkgName := name, exports := ex, deps := deps } path imports elems =
    convertFile { pkgName := name, exports := ex', deps := deps' } path imports elems :=
  convertFile_congr_steps _ _ path imports elems fun im _ => by
    rw [resolveTypeNoImport_perm im name he hed hd hdd]

/-- **Permuting the file listing of the compiled package** gives the same exports (as a map), the
same dependencies and a permutation of the same generated files — hence, after sorting, the same
result. Hypotheses: export names distinct across the files of the package. -/
theorem loadPkg_perm_files (b : Bundle) (name : Str) (p : Pkg) (files' : List SrcFile)
    (hfind : b.find name = some p) (hperm : p.files.Perm files') (fuel : Nat) (l : Loaded)
    (h : loadPkg b (fuel + 1) [] name = .ok l)
    (hdist : (l.exports.map (·.1)).Nodup) :
    ∃ l', loadPkg (b.withFiles name files') (fuel + 1) [] name = .ok l' ∧
      l'.files.Perm l.files := by
  obtain ⟨hc, hloc⟩ := (loadPkg_ok_iff hfind).mp h
  obtain ⟨hs, hl, hcv, rfl⟩ := loadLocal_eq_ok_iff.mp hloc
  -- the dependencies load as before: `name` is on their chain
  have hload : loadPkg (b.withFiles name files') fuel ([] ++ [name]) = loadPkg b fuel ([] ++ [name]) :=
    funext fun d => loadPkg_withFiles_chain b name files' fuel _ d (by simp)
  simp only [loadPkg_ok_iff (withFiles_find_self b name files' p hfind), hload]
  -- summaries and dependencies of the permuted listing: permutations, distinct keys
  have hsperm : (pkgSums p).Perm (pkgSums { p with files := files' }) := hperm.map sumOf
  obtain ⟨hdperm, hdnodup⟩ := depNames_perm name _ _ hsperm
  have hkeys : (((depsOf (loadPkg b fuel ([] ++ [name])) name p).map fun l => (l.name, l.exports)).map
      (·.1)).Nodup := by
    have : ((depsOf (loadPkg b fuel ([] ++ [name])) name p).map fun l => (l.name, l.exports)).map (·.1) =
        depNamesOf name (pkgSums p) := by
      simp only [depsOf, List.map_map]
      conv => rhs; rw [← List.map_id (depNamesOf name (pkgSums p))]
      exact List.map_congr_left fun d hd => loadPkg_name b fuel _ d _ (hl d hd)
    rw [this]; exact hdnodup
  -- so both listings offer their files the same resolver, as a function
  simp only [mkLoaded] at hdist
  have hconv : ∀ path imports elems,
      convertFile (localResolver (loadPkg b fuel ([] ++ [name])) name { p with files := files' })
        path imports elems =
      convertFile (localResolver (loadPkg b fuel ([] ++ [name])) name p) path imports elems := by
    intro path imports elems
    have := convertFile_perm name (hsperm.flatMap_right (·.exports)) hdist
      ((hdperm.map fun d => (loadPkg b fuel ([] ++ [name]) d).get).map fun l => (l.name, l.exports)) hkeys
      path imports elems
    exact this.symm
  have hcof : convOf (localResolver (loadPkg b fuel ([] ++ [name])) name { p with files := files' }) =
      convOf (localResolver (loadPkg b fuel ([] ++ [name])) name p) := by
    funext f
    cases f with
    | proto path msgs enums => rfl
    | j5s path imports elems decl => simp only [convOf, hconv]
  refine ⟨_, ⟨hc, loadLocal_eq_ok_iff.mpr ⟨fun f hf => hs f (hperm.mem_iff.mpr hf),
    fun d hd => hl d (hdperm.mem_iff.mpr hd), fun f hf => ?_, rfl⟩⟩, ?_⟩
  · have := hcv f (hperm.mem_iff.mpr hf)
    cases f with
    | proto path msgs enums => trivial
    | j5s path imports elems decl => exact this.imp fun fs hfs => (hconv _ _ _).trans hfs
  · show (files'.flatMap _).Perm (p.files.flatMap _)
    rw [hcof]
    exact (hperm.flatMap_right _).symm

/-- **`compilePkg` does not depend on the order in which the file source lists the files of the
package** (distinct export names, distinct generated file names) -/
theorem compilePkg_perm_files (b : Bundle) (name : Str) (p : Pkg) (files' : List SrcFile)
    (hfind : b.find name = some p) (hperm : p.files.Perm files') (l : Loaded)
    (h : loadPkg b (b.pkgs.length + 1) [] name = .ok l)
    (hdist : (l.exports.map (·.1)).Nodup) (hnames : (l.files.map (·.name)).Nodup) :
    compilePkg (b.withFiles name files') name = compilePkg b name := by
  obtain ⟨l', hl', hp⟩ := loadPkg_perm_files b name p files' hfind hperm _ l h hdist
  unfold compilePkg
  have hlen : (b.withFiles name files').pkgs.length = b.pkgs.length := by
    simp [Bundle.withFiles]
  rw [hlen, hl', h]
  simp only []
  congr 1
  exact sortFiles_perm hp ((hp.map (·.name)).nodup_iff.mpr hnames)

end J5V.Compile
