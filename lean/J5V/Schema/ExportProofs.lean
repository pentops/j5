import J5V.Schema.ExportSpec
import J5V.Go.OutcomeLemmas
/-!
# Lemmas for C15 (export / import loop)

`normField / normProp / normRoot` describe what import ∘ export does to a schema: `Kind` and
`WellKnownTypeName` of a scalar are recomputed from the J5 type, every reference is the registered
entry of the new set, `ReadOnly` / `WriteOnly` (never exported — commented out in schema.proto)
are false, and a root belongs to the package it is imported into. Everything else is untouched.
-/
namespace J5V.Schema
open J5V.Go

theorem scalarFromDesc_iff (tag : STag) (fmt k : Nat) (w pay : String) (f' : SField) :
    scalarFromDesc tag fmt pay = .ok f' ↔
      wfField (.scalar tag fmt k w pay) = true ∧ f' = normScalar tag fmt pay := by
  cases tag
  case integer => cases h : intKind fmt <;> simp [scalarFromDesc, normScalar, wfField, h, eq_comm]
  case float => cases h : floatKind fmt <;> simp [scalarFromDesc, normScalar, wfField, h, eq_comm]
  all_goals exact ⟨fun h => ⟨rfl, (Outcome.ok.inj h).symm⟩, fun h => h.2 ▸ rfl⟩

/-- import ∘ export on a field schema: the import succeeds exactly when every scalar carries a
format the importer knows, and its result is then `normField` -/
theorem fieldFromDesc_toJ5Field (pkg : String) (f f' : SField) :
    fieldFromDesc pkg (toJ5Field f) = .ok f' ↔ wfField f = true ∧ f' = normField f := by
  induction f generalizing f' with
  | scalar tag fmt k w pay =>
    rw [toJ5Field, fieldFromDesc, normField]; exact scalarFromDesc_iff tag fmt k w pay f'
  | map item rules ext ih =>
    rw [toJ5Field, fieldFromDesc_map, wfField, normField, map_ok_iff]
    exact ⟨fun ⟨g, hg, h⟩ => ⟨((ih g).mp hg).1, ((ih g).mp hg).2 ▸ h⟩,
      fun ⟨hw, h⟩ => ⟨_, (ih _).mpr ⟨hw, rfl⟩, h⟩⟩
  | array item rules ext ih =>
    rw [toJ5Field, fieldFromDesc_array, wfField, normField, map_ok_iff]
    exact ⟨fun ⟨g, hg, h⟩ => ⟨((ih g).mp hg).1, ((ih g).mp hg).2 ▸ h⟩,
      fun ⟨hw, h⟩ => ⟨_, (ih _).mpr ⟨hw, rfl⟩, h⟩⟩
  | any od types lr =>
    simp only [toJ5Field, fieldFromDesc, normField, wfField, Outcome.ok.injEq, true_and, eq_comm]
  | _ =>
    simp only [toJ5Field, fieldFromDesc, normField, wfField, Outcome.ok.injEq, true_and, eq_comm]; rfl

theorem normScalar_export (tag : STag) (fmt : Nat) (pay : String) :
    toJ5Field (normScalar tag fmt pay) = .scalar tag fmt pay := by
  cases tag <;> simp [normScalar, toJ5Field]

/-- export does not see what `normField` changes -/
theorem toJ5Field_norm (f : SField) : toJ5Field (normField f) = toJ5Field f := by
  induction f with
  | scalar tag fmt k w pay => simp [normField, normScalar_export, toJ5Field]
  | any od types lr => rfl
  | enum ref rules lr ext => simp [normField, toJ5Field, SRef.toRef, SRef.reg]
  | object ref fl rules ext => simp [normField, toJ5Field, SRef.toRef, SRef.reg]
  | oneof ref rules lr ext => simp [normField, toJ5Field, SRef.toRef, SRef.reg]
  | map item rules ext ih => simp [normField, toJ5Field, ih]
  | array item rules ext ih => simp [normField, toJ5Field, ih]

theorem toJ5Prop_norm (p : SProp) : toJ5Prop (normProp p) = toJ5Prop p := by
  simp [toJ5Prop, normProp, toJ5Field_norm]

theorem propFromDesc_toJ5Prop (pkg : String) (p sp : SProp) :
    propFromDesc pkg (toJ5Prop p) = .ok sp ↔ wfField p.schema = true ∧ sp = normProp p := by
  rw [toJ5Prop, propFromDesc_some, map_ok_iff]
  constructor
  · rintro ⟨g, hg, rfl⟩
    obtain ⟨hw, rfl⟩ := (fieldFromDesc_toJ5Field pkg _ g).mp hg
    exact ⟨hw, rfl⟩
  · rintro ⟨hw, rfl⟩
    exact ⟨_, (fieldFromDesc_toJ5Field pkg _ _).mpr ⟨hw, rfl⟩, rfl⟩

theorem propsFromDesc_map (pkg : String) (ps sps : List SProp) :
    propsFromDesc pkg (ps.map toJ5Prop) = .ok sps ↔
      ps.all (fun p => wfField p.schema) = true ∧ sps = ps.map normProp := by
  induction ps generalizing sps with
  | nil => simp [propsFromDesc, eq_comm]
  | cons p ps ih =>
    rw [List.map_cons, propsFromDesc_cons, List.all_cons, Bool.and_eq_true, List.map_cons]
    constructor
    · intro h
      obtain ⟨sp, hsp, h2⟩ := bind_eq_ok h
      obtain ⟨rest, hrest, rfl⟩ := map_eq_ok h2
      obtain ⟨hw, rfl⟩ := (propFromDesc_toJ5Prop pkg p sp).mp hsp
      obtain ⟨hws, rfl⟩ := (ih rest).mp hrest
      exact ⟨⟨hw, hws⟩, rfl⟩
    · rintro ⟨⟨hw, hws⟩, rfl⟩
      rw [(propFromDesc_toJ5Prop pkg p _).mpr ⟨hw, rfl⟩, (ih _).mpr ⟨hws, rfl⟩]; rfl

/-- import ∘ export on a root schema, imported into package `pkg` -/
theorem rootFromDesc_toJ5Root (pkg : String) (r r' : SRoot) :
    rootFromDesc pkg (toJ5Root r) = .ok r' ↔ wfRoot r = true ∧ r' = normRoot pkg r := by
  cases r with
  | object p name desc entity am props =>
    rw [toJ5Root, rootFromDesc, objectFromDesc_mk, map_ok_iff, wfRoot, SRoot.props, normRoot]
    constructor
    · rintro ⟨sps, hs, rfl⟩
      obtain ⟨hw, rfl⟩ := (propsFromDesc_map pkg props sps).mp hs
      exact ⟨hw, rfl⟩
    · rintro ⟨hw, rfl⟩
      exact ⟨_, (propsFromDesc_map pkg props _).mpr ⟨hw, rfl⟩, rfl⟩
  | oneof p name desc props =>
    rw [toJ5Root, rootFromDesc, oneofFromDesc_mk, map_ok_iff, wfRoot, SRoot.props, normRoot]
    constructor
    · rintro ⟨sps, hs, rfl⟩
      obtain ⟨hw, rfl⟩ := (propsFromDesc_map pkg props sps).mp hs
      exact ⟨hw, rfl⟩
    · rintro ⟨hw, rfl⟩
      exact ⟨_, (propsFromDesc_map pkg props _).mpr ⟨hw, rfl⟩, rfl⟩
  | enum p name desc pfx options info =>
    simp [toJ5Root, rootFromDesc, enumFromDesc, normRoot, wfRoot, SRoot.props, eq_comm]

theorem toJ5Root_norm (pkg : String) (r : SRoot) : toJ5Root (normRoot pkg r) = toJ5Root r := by
  cases r <;> simp [normRoot, toJ5Root, List.map_map, Function.comp_def, toJ5Prop_norm]

end J5V.Schema
