import J5V.Schema.Reader
/-!
# What is assumed of a descriptor set: `linked` (C18; definitions only)

The reader works on descriptor sets that `protodesc` has linked. What that guarantees is trusted
(protodesc / protoregistry are not modelled) and stated here as a decidable predicate, which the
driver evaluates on every generated set (the harness answers `linked=1` for every set that links).
`linkedBase` holds what the never-panics argument needs (`linkedBase_parts`) and two facts no proof
reads (every name of `allMsgs` resolves; every message is found under its own full name); `linked`
adds the name facts behind flatten chains and the codec's def names.
-/
namespace J5V.Schema.Reader
open J5V.Go J5V.Schema

/-- `src` is the full name of an enum of the set -/
def srcIsEnum (ds : DescSet) (src : String) : Bool := ds.enums.any fun en => en.full == src

/-- what `protodesc` guarantees about a field's type: a message / enum kind comes with its
descriptor, the descriptor is in the set (for messages: unless the reader never looks it up), an
enum has at least one value -/
def targetLinked (ds : DescSet) (kind : PKind) (t : Target) : Bool :=
  match kind with
  | .message =>
    match t with
    | .msg full _ _ => !needsLookup full || (ds.msg? full).isSome
    | _ => false
  | .enum =>
    match t with
    | .enum full _ _ =>
      match ds.enum? full with
      | some en => !en.values.isEmpty
      | none => false
    | _ => false
  | _ => true

def fieldLinked (ds : DescSet) (f : FieldD) : Bool :=
  match f.card with
  | .map =>
    match f.mapVal with
    | some (vk, vt, _) => targetLinked ds vk vt
    | none => false
  | _ => targetLinked ds f.kind f.target

/-- the core of `linked` (trusted: protodesc / protoregistry): field types resolve, enums are not
empty, the listed top-level names exist, and full names are unique across kinds (no message and no
oneof has the full name of an enum) -/
def linkedBase (ds : DescSet) : Bool :=
  (ds.msgs.all fun m => m.fields.all (fieldLinked ds)) &&
  (ds.topMsgs.all fun full => (ds.msg? full).isSome) &&
  (ds.allMsgs.all fun full => (ds.msg? full).isSome) &&
  (ds.topEnums.all fun full =>
    match ds.enum? full with
    | some en => !en.values.isEmpty
    | none => false) &&
  (ds.msgs.all fun m => !srcIsEnum ds m.full &&
    m.oneofs.all fun o => !srcIsEnum ds (m.full ++ "." ++ o.name)) &&
  (ds.msgs.all fun m => (ds.msg? m.full).isSome)

/-- no message has the full name of a oneof of a message (one namespace per scope), and field
numbers are distinct within a message -/
def namesDistinct (ds : DescSet) : Bool :=
  ds.msgs.all fun m =>
    (m.oneofs.all fun o => (ds.msg? (m.full ++ "." ++ o.name)).isNone) &&
    decide ((m.fields.map (·.number)).Nodup)

/-- a schema name (`splitDescriptorName`: proto identifiers joined by `_`) contains no dot -/
def dotFree (s : String) : Bool := !s.toList.contains '.'

def splitsDotFree (ds : DescSet) : Bool :=
  (ds.msgs.all fun m => dotFree m.split && m.oneofs.all fun o => dotFree o.split) &&
  ds.enums.all fun en => dotFree en.split

/-- what `protodesc` guarantees about a descriptor set (trusted; evaluated by the driver on every
generated set: the harness answers `linked=1` for every set that links) -/
def linked (ds : DescSet) : Bool := linkedBase ds && namesDistinct ds && splitsDotFree ds

end J5V.Schema.Reader
