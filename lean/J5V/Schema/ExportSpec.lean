import J5V.Schema.Export
/-!
# The vocabulary of the C15 statements (definitions only)

What the theorems about the export / import loop are stated with beside the model (`Export.lean`):
the formats the importer knows (`wfField`), what import ∘ export does to a schema (`normField` …),
a schema set as Go holds it — packages by name, schemas by key — with `SetWF`, `Closed`, `toApi`.
-/
namespace J5V.Schema
open J5V.Go

/-- the scalar formats `schemaFromDesc` accepts (`intKinds`, `floatKinds`) -/
def wfField : SField → Bool
  | .scalar .integer fmt _ _ _ => (intKind fmt).isSome
  | .scalar .float fmt _ _ _ => (floatKind fmt).isSome
  | .scalar _ _ _ _ _ => true
  | .map item _ _ => wfField item
  | .array item _ _ => wfField item
  | _ => true

def wfRoot (r : SRoot) : Bool := r.props.all fun p => wfField p.schema

def normScalar (tag : STag) (fmt : Nat) (pay : String) : SField :=
  match tag with
  | .timestamp => .scalar tag fmt kindMessage "" pay
  | .bool => .scalar tag fmt kindBool "" pay
  | .string => .scalar tag fmt kindString "" pay
  | .key => .scalar tag fmt kindString "" pay
  | .integer => .scalar tag fmt ((intKind fmt).getD 0) "" pay
  | .float => .scalar tag fmt ((floatKind fmt).getD 0) "" pay
  | .bytes => .scalar tag fmt kindBytes "" pay
  | .decimal => .scalar tag fmt kindMessage "j5.types.decimal.v1" pay
  | .date => .scalar tag fmt kindMessage "j5.types.date.v1" pay

def SRef.reg (r : SRef) : SRef := ⟨r.pkg, r.schema, true⟩

def normField : SField → SField
  | .scalar tag fmt _ _ pay => normScalar tag fmt pay
  | .any od types lr => .any od types lr
  | .enum ref rules lr ext => .enum ref.reg rules lr ext
  | .object ref flatten rules ext => .object ref.reg flatten rules ext
  | .oneof ref rules lr ext => .oneof ref.reg rules lr ext
  | .map item rules ext => .map (normField item) rules ext
  | .array item rules ext => .array (normField item) rules ext

def normProp (p : SProp) : SProp :=
  { p with readOnly := false, writeOnly := false, schema := normField p.schema }

def normRoot (pkg : String) : SRoot → SRoot
  | .object _ name desc entity anyMember props =>
    .object pkg name desc entity anyMember (props.map normProp)
  | .oneof _ name desc props => .oneof pkg name desc (props.map normProp)
  | .enum _ name desc pfx options info => .enum pkg name desc pfx options info

def Entry.is (e : Entry) (p k : String) : Bool := e.pkg == p && e.key == k

/-- the root linked under key `k'` by a list of (key, root) items imported into package `p` -/
def itemsAt (p : String) (items : List (String × SRoot)) (p' k' : String) : Option SRoot :=
  if p == p' then (items.find? fun x => x.1 == k').map fun x => normRoot p x.2 else none

/-- a reference resolves: it is the registered pointer and its target is linked -/
def Resolves (env : Env) (ref : SRef) : Prop :=
  ref.registered = true ∧ (env.linkedAt ref.pkg ref.schema).isSome = true

/-! ## a schema set as Go holds it: packages by name, schemas by key -/

abbrev SSet := List (String × List (String × SRoot))

/-- `set.Packages[p].Schemas[k].To` -/
def lookupSet (pkgs : SSet) (p k : String) : Option SRoot :=
  (pkgs.find? fun x => x.1 == p).bind fun x => (x.2.find? fun y => y.1 == k).map (·.2)

/-- map keys are unique, scalars carry importable formats -/
structure SetWF (pkgs : SSet) : Prop where
  pkgsNodup : (pkgs.map (·.1)).Nodup
  keysNodup : ∀ x ∈ pkgs, (x.2.map (·.1)).Nodup
  rootsWf : ∀ x ∈ pkgs, ∀ y ∈ x.2, wfRoot y.2 = true

def toApi (pkgs : List (String × List (String × SRoot))) : Api :=
  pkgs.map fun x => (x.1, x.2.map fun y => (y.1, toJ5Root y.2))

/-- every reference held by a schema of the set names a schema of the set -/
def Closed (pkgs : SSet) : Prop :=
  ∀ x ∈ pkgs, ∀ y ∈ x.2, ∀ ref ∈ y.2.refs, (lookupSet pkgs ref.pkg ref.schema).isSome = true

/-! ## the `Env` view of a set (what the driver exports) -/

def envItems (env : Env) (p : String) : List (String × SRoot) :=
  (env.entries.filter (·.pkg == p)).filterMap fun e => e.to.map fun r => (e.key, r)

def envSet (env : Env) : SSet := env.pkgs.map fun p => (p, envItems env p)

end J5V.Schema
