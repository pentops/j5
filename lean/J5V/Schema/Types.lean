/-!
# Schema cluster: the two record families of the export / import loop (C15)

(`Ref` and `STag` are shared with the reader model, whose own types are in `Reader.lean`.)

* **S side** — the Go structs of `lib/j5schema` (`ObjectSchema`, `OneofSchema`, `EnumSchema`,
  `ObjectProperty`, the seven `FieldSchema` implementations). References between schemas are
  `*RefSchema` pointers in Go; here a reference is the pair (package, schema) it was registered
  under plus a flag telling whether the pointer is the registered entry of the set (`refTo`) or a
  detached one (`AsRef()` on a freshly built inline schema, whose `To` is never filled in).
* **D side** — the messages of `j5.schema.v1` (`RootSchema`, `Field`, `Object`, `Oneof`, `Enum`,
  `ObjectProperty`), i.e. the serialisable source-API form.

Sub-messages that both directions copy by pointer (rules, ext, list rules, entity marker, the
whole scalar `Field`) are opaque payloads: `none` = nil pointer, `some bytes` = present.
Only wire-possible D values are represented: a oneof member message is never nil, a singular
message field may be absent.
-/
namespace J5V.Schema

/-- an optional, opaque sub-message (deterministic wire bytes as text) -/
abbrev Pay := Option String

structure Ref where
  pkg : String
  schema : String
  deriving DecidableEq, Repr, Inhabited

/-- the scalar arms of `schema_j5pb.Field.type` -/
inductive STag where
  | string | integer | float | bool | bytes | decimal | date | timestamp | key
  deriving DecidableEq, Repr, Inhabited

/-! ## S side -/

structure SRef where
  pkg : String
  schema : String
  /-- the pointer is the entry of the set under (pkg, schema) -/
  registered : Bool
  deriving DecidableEq, Repr, Inhabited

inductive SField where
  /-- `ScalarSchema{Proto, Kind, WellKnownTypeName}`; `tag`/`fmt` are the oneof arm and the
  integer / float format of `Proto`, `pay` is `Proto` itself -/
  | scalar (tag : STag) (fmt : Nat) (kind : Nat) (wkt : String) (pay : String)
  | any (onlyDefined : Bool) (types : List String) (listRules : Pay)
  | enum (ref : SRef) (rules listRules ext : Pay)
  | object (ref : SRef) (flatten : Bool) (rules ext : Pay)
  | oneof (ref : SRef) (rules listRules ext : Pay)
  | map (item : SField) (rules ext : Pay)
  | array (item : SField) (rules ext : Pay)
  deriving DecidableEq, Repr, Inhabited

structure SProp where
  jsonName : String
  required : Bool
  explicitlyOptional : Bool
  readOnly : Bool
  writeOnly : Bool
  description : String
  protoField : List Int
  schema : SField
  deriving DecidableEq, Repr, Inhabited

structure EnumOption where
  name : String
  number : Int
  description : String
  /-- `map[string]string`, sorted by key on the wire -/
  info : List (String × String)
  deriving DecidableEq, Repr, Inhabited

structure InfoField where
  name : String
  label : String
  description : String
  deriving DecidableEq, Repr, Inhabited

inductive SRoot where
  | object (pkg name description : String) (entity : Pay) (anyMember : List String)
      (props : List SProp)
  | oneof (pkg name description : String) (props : List SProp)
  | enum (pkg name description pfx : String) (options : List EnumOption)
      (infoFields : List InfoField)
  deriving DecidableEq, Repr, Inhabited

/-! ## D side -/

structure DEnum where
  name : String
  description : String
  pfx : String
  options : List EnumOption
  info : List InfoField
  deriving DecidableEq, Repr, Inhabited

mutual
inductive DField where
  /-- `Field.type` not set -/
  | unset
  | scalar (tag : STag) (fmt : Nat) (pay : String)
  | any (onlyDefined : Bool) (types : List String) (listRules : Pay)
  | oneofRef (r : Ref) (rules listRules ext : Pay)
  | oneofInline (o : DOneof) (rules listRules ext : Pay)
  | oneofNone (rules listRules ext : Pay)
  -- `entity`: carried for a complete D dump; `toJ5Field` writes `none`, the importer ignores it
  | objectRef (r : Ref) (flatten : Bool) (rules ext entity : Pay)
  | objectInline (o : DObject) (flatten : Bool) (rules ext entity : Pay)
  | objectNone (flatten : Bool) (rules ext entity : Pay)
  | enumRef (r : Ref) (rules listRules ext : Pay)
  | enumInline (e : DEnum) (rules listRules ext : Pay)
  | enumNone (rules listRules ext : Pay)
  | array (items : Option DField) (rules ext : Pay)
  -- `key`: written as the string key schema by `toJ5Field`, never read by the importer
  | map (item : Option DField) (key : Option DField) (rules ext : Pay)
inductive DProp where
  | mk (name : String) (required explicitlyOptional : Bool) (description : String)
      (protoField : List Int) (schema : Option DField)
inductive DObject where
  | mk (name description : String) (entity : Pay) (anyMember : List String) (props : List DProp)
inductive DOneof where
  | mk (name description : String) (props : List DProp)
end

instance : Inhabited DField := ⟨.unset⟩

inductive DRoot where
  | object (o : DObject)
  | oneof (o : DOneof)
  | enum (e : DEnum)
  | unset

instance : Inhabited DRoot := ⟨.unset⟩

end J5V.Schema
