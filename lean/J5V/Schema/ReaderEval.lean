import J5V.Schema.EnvModel
/-!
# Fuel-bounded evaluators of the reader model, for kernel-evaluated witnesses (C18)

Each is the model function with a budget (`none` = out of fuel) and a soundness lemma; nothing here
needs the invariant or any other proof about the reader.
-/
namespace J5V.Schema.Reader
open J5V.Go J5V.Schema

/-! ## a fuel-bounded evaluator, for `decide`-able examples

`run` is defined by well-founded recursion, which the kernel does not unfold. `runN` is the same
loop with a step budget; whenever it finishes it agrees with `run` (`runN_sound`), so concrete
witnesses can be evaluated by `decide`. It is used for examples and counterexamples only. -/

def runN (ds : DescSet) : Nat → St → Option (Outcome Reg)
  | 0, _ => none
  | n + 1, st =>
    match step ds st with
    | .done reg => some (.ok reg)
    | .fail e => some (.err e)
    | .crash w => some (.panic w)
    | .cont st' => runN ds n st'

theorem runN_sound (ds : DescSet) (n : Nat) (st : St) (r : Outcome Reg)
    (h : runN ds n st = some r) : run ds st = r := by
  induction n generalizing st with
  | zero => cases h
  | succ n ih =>
    unfold runN at h
    split at h
    · rename_i reg hs; cases h; exact run_done ds st reg hs
    · rename_i e hs; cases h; exact run_fail ds st e hs
    · rename_i w hs; cases h; exact run_crash ds st w hs
    · rename_i st' hs; rw [run_cont ds st st' hs]; exact ih st' h

def buildMessageN (ds : DescSet) (n : Nat) (reg : Reg) (m : Msg) : Option (Outcome Reg) :=
  let reg1 := reg.apply (.add m.pkg m.split m.full)
  match enter m reg1 with
  | .ok (fr, ops) => runN ds n ⟨reg1.applyAll ops, [fr]⟩
  | .err x => some (.err x)
  | .panic w => some (.panic w)

theorem buildMessageN_sound (ds : DescSet) (n : Nat) (reg : Reg) (m : Msg) (r : Outcome Reg)
    (h : buildMessageN ds n reg m = some r) : buildMessage ds reg m = r := by
  unfold buildMessageN at h
  unfold buildMessage
  simp only at h ⊢
  split at h <;> simp only [*]
  · exact runN_sound ds n _ r h
  · cases h; rfl
  · cases h; rfl

def messageSchemaN (ds : DescSet) (n : Nat) (reg : Reg) (m : Msg) : Option (Outcome Reg) :=
  match reg.find m.pkg m.split with
  | some e =>
    if e.src != m.full then some (.err "schema name is used by two descriptors")
    else
      match e.to with
      | some _ => some (.ok reg)
      | none => some (.err "unlinked ref")
  | none => buildMessageN ds n reg m

theorem messageSchemaN_sound (ds : DescSet) (n : Nat) (reg : Reg) (m : Msg) (r : Outcome Reg)
    (h : messageSchemaN ds n reg m = some r) : messageSchema ds reg m = r := by
  unfold messageSchemaN at h
  unfold messageSchema
  split at h
  · split at h
    · cases h; simp only [*, ↓reduceIte]
    · split at h <;> (cases h; simp only [*, Bool.false_eq_true, ↓reduceIte])
  · simp only [*]
    exact buildMessageN_sound ds n reg m r h

def messagesLoopN (ds : DescSet) (n : Nat) (reg : Reg) : List String → Option (Outcome Reg)
  | [] => some (.ok reg)
  | full :: rest =>
    match ds.msg? full with
    | none => some (.panic "message descriptor not in the set")
    | some m =>
      match messageSchemaN ds n reg m with
      | some (.ok reg') => messagesLoopN ds n reg' rest
      | some (.err x) => some (.err x)
      | some (.panic w) => some (.panic w)
      | none => none

theorem messagesLoopN_sound (ds : DescSet) (n : Nat) (names : List String) (reg : Reg)
    (r : Outcome Reg) (h : messagesLoopN ds n reg names = some r) : messagesLoop ds reg names = r := by
  induction names generalizing reg with
  | nil => simp only [messagesLoopN] at h; cases h; rfl
  | cons full rest ih =>
    unfold messagesLoopN at h
    unfold messagesLoop
    split at h
    · cases h; simp only [*]
    · simp only [*]
      split at h
      · rename_i hs; rw [messageSchemaN_sound ds n reg _ _ hs]; exact ih _ h
      · rename_i hs; rw [messageSchemaN_sound ds n reg _ _ hs]; cases h; rfl
      · rename_i hs; rw [messageSchemaN_sound ds n reg _ _ hs]; cases h; rfl
      · cases h

def schemaSetFromFilesN (ds : DescSet) (n : Nat) : Option (Outcome Reg) :=
  match messagesLoopN ds n [] ds.topMsgs with
  | some (.ok reg) => some (enumsLoop ds reg ds.topEnums)
  | some (.err x) => some (.err x)
  | some (.panic w) => some (.panic w)
  | none => none

theorem schemaSetFromFilesN_sound (ds : DescSet) (n : Nat) (r : Outcome Reg)
    (h : schemaSetFromFilesN ds n = some r) : schemaSetFromFiles ds = r := by
  unfold schemaSetFromFilesN at h
  unfold schemaSetFromFiles
  split at h
  · rename_i reg hs; rw [messagesLoopN_sound ds n _ _ _ hs]; cases h; rfl
  · rename_i x hs; rw [messagesLoopN_sound ds n _ _ _ hs]; cases h; rfl
  · rename_i w hs; rw [messagesLoopN_sound ds n _ _ _ hs]; cases h; rfl
  · cases h

/-! ## a fuel-bounded evaluator of `clientProps`, for `decide`-able witnesses

`clientProps` is defined by well-founded recursion, which neither `decide` nor the kernel unfolds.
`clientPropsN` is the same function with a budget; whenever it finishes it agrees with
`clientProps`. Used for examples and counterexamples only. -/

def clientPropsN (reg : Reg) : Nat → List Ref → List RProp → Option (Outcome (List RProp))
  | 0, _, _ => none
  | _ + 1, _, [] => some (.ok [])
  | n + 1, fl, prop :: rest =>
    let here : Option (Outcome (List RProp)) :=
      match prop.schema with
      | .object ref true =>
        if onStack fl ref then some (.ok [prop])
        else
          match reg.find ref.pkg ref.schema with
          | none => some (.panic "unregistered reference")
          | some e =>
            match e.to with
            | some (.object _ _ _ _ ps) =>
              (clientPropsN reg n (fl ++ [ref]) ps).map fun o => o.map fun cs => cs.map (nestedClone prop.path)
            | some _ => some (.panic "interface conversion: RootSchema is not *ObjectSchema")
            | none => some (.panic "interface conversion: RootSchema is nil, not *ObjectSchema")
      | _ => some (.ok [prop])
    match here, clientPropsN reg n fl rest with
    | some h, some r => some (h.bind fun a => r.map fun b => a ++ b)
    | _, _ => none

theorem clientPropsN_sound (reg : Reg) (n : Nat) (fl : List Ref) (ps : List RProp)
    (r : Outcome (List RProp)) (h : clientPropsN reg n fl ps = some r) : clientProps reg fl ps = r := by
  induction n generalizing fl ps r with
  | zero => simp [clientPropsN] at h
  | succ n ih =>
    cases ps with
    | nil => simp only [clientPropsN, Option.some.injEq] at h; subst h; simp [clientProps]
    | cons prop rest =>
      simp only [clientPropsN] at h
      split at h
      · rename_i hh rr hhere hrest
        cases h
        rw [clientProps_cons, ih fl rest rr hrest]
        congr 1
        -- the property itself: `clientPropsN` looks the entry up inline where `clientProps_cons` says
        -- `objectProps`, so the cases are `objectProps` unfolded (no entry, an object, another root, none)
        split at hhere
        · rename_i ref hsch
          simp only [hsch]
          split at hhere
          · rename_i hs; cases hhere; simp only [hs, ↓reduceIte]
          · rename_i hs
            simp only [hs, Bool.false_eq_true, ↓reduceIte, objectProps]
            split at hhere
            · rename_i hf; cases hhere; simp only [hf]; rfl
            · rename_i e hf
              simp only [hf]
              split at hhere
              · rename_i p k en am ps' hto
                cases hN : clientPropsN reg n (fl ++ [ref]) ps' with
                | none => simp [hN] at hhere
                | some o =>
                  simp only [hN, Option.map_some, Option.some.injEq] at hhere
                  subst hhere
                  simp only [hto]; rw [← ih _ _ o hN]; rfl
              · rename_i x hno hto
                cases hhere
                cases x with
                | object p k en am ps' => exact absurd rfl (hno p k en am ps')
                | _ => simp only [hto]; rfl
              · rename_i hto; cases hhere; simp only [hto]; rfl
        · rename_i hnot
          cases hhere
          split
          · rename_i ref hsch; exact absurd hsch (hnot ref)
          · rfl
      · cases h
end J5V.Schema.Reader

namespace J5V.Schema.Bridge
open J5V.Go J5V.Schema J5V.Schema.Reader J5V.Json

/-! ## a kernel-evaluable `toEnv` (fuel version, sound) — for the non-vacuity witnesses of `Props/C18.lean`

`toEnv` goes through `clientProps` (well-founded recursion, not evaluated by the kernel);
`toEnvN n` uses `clientPropsN n` and returns `none` when the fuel runs out. -/

def entryRootN (n : Nat) (ds : DescSet) (reg : Reg) (e : REntry) : Option Codec.Root :=
  match e.to with
  | some (.object _ _ _ _ ps) =>
    match ds.msg? e.src with
    | some m =>
      match clientPropsN reg n [⟨e.pkg, e.key⟩] ps with
      | some (.ok cps) => some (.object (cps.map (toProp ds m)))
      | some (.err _) => some .noschema
      | some (.panic _) => some .noschema
      | none => none
    | none => some .noschema
  | some (.oneof _ _ ps) =>
    match ownerMsg ds e.src with
    | some m => some (.oneof (ps.map (toProp ds m)))
    | none => some .noschema
  | some (.enum _ _ pfx opts) => some (.enum (ascii pfx) (opts.map fun (n, i) => (ascii n, i)))
  | none => some .noschema

theorem entryRootN_sound (n : Nat) (ds : DescSet) (reg : Reg) (e : REntry) (r : Codec.Root)
    (h : entryRootN n ds reg e = some r) : entryRoot ds reg e = r := by
  unfold entryRootN at h
  unfold entryRoot
  split at h
  · split at h
    · split at h <;> first | (rename_i hc; cases h; simp only [*, clientPropsN_sound _ _ _ _ _ hc]) | cases h
    · cases h; simp only [*]
  · split at h <;> (cases h; simp only [*])
  · cases h; simp only [*]
  · cases h; simp only [*]

def defsN (n : Nat) (ds : DescSet) (reg : Reg) : List REntry → Option (List (String × Codec.Root))
  | [] => some []
  | e :: es =>
    match entryRootN n ds reg e, defsN n ds reg es with
    | some r, some rest => some ((rootName e.pkg e.key, r) :: rest)
    | _, _ => none

theorem defsN_sound (n : Nat) (ds : DescSet) (reg : Reg) (es : List REntry)
    (out : List (String × Codec.Root)) (h : defsN n ds reg es = some out) :
    es.map (fun e => (rootName e.pkg e.key, entryRoot ds reg e)) = out := by
  induction es generalizing out with
  | nil => simp [defsN] at h; simp [h]
  | cons e es ih =>
    simp only [defsN] at h
    split at h
    · rename_i r rest hr hrest
      simp only [Option.some.injEq] at h
      subst h
      simp [entryRootN_sound _ _ _ _ _ hr, ih _ hrest]
    · cases h

def toEnvN (n : Nat) (ds : DescSet) (reg : Reg) : Option Codec.Env :=
  (defsN n ds reg reg).map fun defs =>
    { defs := defs, res := ds.msgs.map fun m => (ascii m.full, rootName m.pkg m.split) }

theorem toEnvN_sound (n : Nat) (ds : DescSet) (reg : Reg) (env : Codec.Env)
    (h : toEnvN n ds reg = some env) : toEnv ds reg = env := by
  unfold toEnvN at h
  cases hd : defsN n ds reg reg with
  | none => simp [hd] at h
  | some defs =>
    simp only [hd, Option.map_some, Option.some.injEq] at h
    subst h
    simp [toEnv, defsN_sound _ _ _ _ _ hd]

/-- with enough fuel the environment is what `toEnvN` evaluates to -/
theorem toEnv_eq_getD (n : Nat) (ds : DescSet) (reg : Reg) (h : (toEnvN n ds reg).isSome = true) :
    toEnv ds reg = (toEnvN n ds reg).getD ⟨[], []⟩ := by
  obtain ⟨env, he⟩ := Option.isSome_iff_exists.mp h
  rw [he]
  exact toEnvN_sound n ds reg env he

end J5V.Schema.Bridge
