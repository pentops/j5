import J5V.Schema.ReaderLinks
/-!
# `ClientProperties` and the property-set checks on a reflected registry (C18, codec side)

The field factories accept a schema that `describes` its field. In a settled registry of a linked
set a flattened field's reference resolves to the **object** built from the field's own message
(`PropLink.flat`), so `ClientProperties` cannot panic (nor can the client-name check
`clientNamesAll`, which the reader does not make: `clientNamesAll_noPanic`), and
each client property — `ClientOf`: an own property, or one brought by a flattened field, re-rooted —
still leads `newPropSet`'s walk to a field its schema describes (`ClientOK`, `clientProps_ok`).
-/
namespace J5V.Schema.Reader
open J5V.Go J5V.Schema

/-- the factory for a single value accepts every schema that describes one -/
theorem itemFactory_ok {ds : DescSet} {kind : PKind} {t : Target} {i : RField}
    (hi : describesItem ds kind t i = true) : itemFactory i kind t = .ok () := by
  unfold itemFactory
  cases i with
  | scalar tag fmt k wkt =>
    simp only [mutableSchema, Bool.false_eq_true, ↓reduceIte, leafFactory]
    simp only [describesItem] at hi
    by_cases hw : (wkt == "") = true
    · simp only [hw, ↓reduceIte, Bool.and_eq_true, beq_iff_eq] at hi
      have hw' : (wkt != "") = false := by simpa using hw
      simp [hw', hi.1]
    · simp only [hw, Bool.false_eq_true, ↓reduceIte, Bool.and_eq_true, beq_iff_eq] at hi
      have hw' : (wkt != "") = true := by simpa using hw
      obtain ⟨hk, ht⟩ := hi
      cases t with
      | msg full p k' =>
        simp only [Bool.and_eq_true, beq_iff_eq] at ht
        simp [hw', hk, targetFull, ht.1]
      | enum full p k' => cases ht
      | none => cases ht
  | any => rfl
  | enum ref =>
    simp only [mutableSchema, Bool.false_eq_true, ↓reduceIte, leafFactory]
    simp only [describesItem, Bool.and_eq_true, beq_iff_eq] at hi
    simp [hi.1]
  | object ref fl => rfl
  | oneof ref => rfl
  | map i => simp [describesItem] at hi
  | array i => simp [describesItem] at hi

/-- … and so do the array / map switches, `Any` apart -/
theorem collectionItem_ok {ds : DescSet} {kind : PKind} {t : Target} {i : RField} (hne : i ≠ .any)
    (hi : describesItem ds kind t i = true) : collectionItem i = .ok () := by
  cases i with
  | any => exact absurd rfl hne
  | map i => simp [describesItem] at hi
  | array i => simp [describesItem] at hi
  | _ => rfl

/-- a schema that describes a field passes every check of the property-set layer (a list / map
of `Any` excepted: open finding `any-in-collection`) -/
theorem reflectField_ok (ds : DescSet) (f : FieldD) (s : RField) (h : describes ds f s = true)
    (hany : anyInCollection s = false) : reflectField f s = .ok () := by
  rcases describes_cases h with ⟨hc, i, rfl, hi⟩ | ⟨hc, i, vk, vt, vkey, rfl, hmv, hi⟩ | ⟨hc, hi⟩
  · have hne : i ≠ .any := by rintro rfl; simp [anyInCollection] at hany
    simp [reflectField, hc, itemFactory_ok hi, collectionItem_ok hne hi, Outcome.bind]
  · have hne : i ≠ .any := by rintro rfl; simp [anyInCollection] at hany
    simp [reflectField, hc, hmv, itemFactory_ok hi, collectionItem_ok hne hi, Outcome.bind]
  · cases s <;> first | exact itemFactory_ok hi | simp [describesItem] at hi

/-- a one-element path naming a field of the message resolves to a field with that number -/
theorem resolvePath_single (ds : DescSet) (m : Msg) (f : FieldD) (hf : f ∈ m.fields) :
    ∃ g, resolvePath ds m [f.number] = .ok (some g) ∧ g ∈ m.fields ∧ g.number = f.number := by
  unfold resolvePath
  cases hfind : m.fields.find? (fun g => g.number == f.number) with
  | none =>
    have := List.find?_eq_none.mp hfind f hf
    simp at this
  | some g =>
    refine ⟨g, rfl, List.mem_of_find?_eq_some hfind, ?_⟩
    have := List.find?_some hfind
    simpa using this



/-! ## a flattened reference resolves to the object built from the field's target -/

/-- what `describes` says about an object field schema at the top of a property -/
theorem describes_object {ds : DescSet} {f : FieldD} {ref : Ref} {fl : Bool}
    (h : describes ds f (.object ref fl) = true) :
    f.card = .single ∧ f.kind = .message ∧ ∃ m', ds.msg? (targetFull f.target) = some m' ∧
      ref = ⟨m'.pkg, m'.split⟩ ∧ isOneofWrapper m' = false ∧ itemTarget f = f.target := by
  rcases describes_cases h with ⟨_, _, h', _⟩ | ⟨_, _, _, _, _, h', _⟩ | ⟨hc, ht⟩
  · cases h'
  · cases h'
  simp only [describesItem, Bool.and_eq_true, beq_iff_eq] at ht
  obtain ⟨hk, ht⟩ := ht
  refine ⟨hc, hk, ?_⟩
  cases htg : f.target with
  | none => simp [htg] at ht
  | enum a b c => simp [htg] at ht
  | msg full p k =>
    simp only [htg] at ht
    cases hm : ds.msg? full with
    | none => simp [hm] at ht
    | some m' =>
      simp only [hm, Bool.and_eq_true, beq_iff_eq, Bool.not_eq_eq_eq_not, Bool.not_true] at ht
      exact ⟨m', by simp [targetFull, hm], ht.1, ht.2, by simp [itemTarget, hc, htg]⟩

/-- a flattened property of a schema built from `m` sits on a single message field of `m`, and its
reference holds, in the registry, the object built from that field's message -/
theorem PropLink.flat {ds : DescSet} (hl : linked ds = true) {reg : Reg} (hs : Settled ds reg)
    {m : Msg} {prop : RProp} {ref : Ref} (h : PropLink ds reg m prop)
    (hsch : prop.schema = .object ref true) :
    ∃ f m' ps, f ∈ m.fields ∧ prop.path = [f.number] ∧ f.kind = .message ∧ f.card = .single ∧
      ds.msg? (targetFull f.target) = some m' ∧ objectProps reg ref = .ok ps ∧
      ∀ q ∈ ps, PropLink ds reg m' q := by
  rcases h with ⟨f, hf, hpath, hd, hr⟩ | ⟨_, o, _, hso, _⟩
  · rw [hsch] at hd hr
    obtain ⟨hcard, hkind, m', hm', href, hw, hit⟩ := describes_object hd
    obtain ⟨hfull, hcanon⟩ := canon_of_find hm'
    have hown := hr ref rfl
    rw [hit, ← hfull] at hown
    obtain ⟨e', p', k', en', am', ps', h1, h2, _, _, _, hprops, _⟩ :=
      objRef_resolves ds hl reg hs ref m' hcanon hw hown
    exact ⟨f, m', ps', hf, hpath, hkind, hcard, hm', objectProps_ok.mpr ⟨e', p', k', en', am', h1, h2⟩,
      hprops⟩
  · rw [hsch] at hso
    cases hso

/-- the flattened fields of a registered object resolve (what `clientProps` needs not to panic) -/
def FlatOK (reg : Reg) : Prop :=
  ∀ e ∈ reg, ∀ p k en am ps, e.to = some (.object p k en am ps) → ∀ prop ∈ ps, ∀ ref,
    prop.schema = .object ref true →
      ∃ e' p' k' en' am' ps', reg.find ref.pkg ref.schema = some e' ∧
        e'.to = some (.object p' k' en' am' ps')

theorem flatOK_of_settled (ds : DescSet) (hl : linked ds = true) (reg : Reg) (hs : Settled ds reg) :
    FlatOK reg := by
  intro e he p k en am ps hto prop hprop ref hschema
  obtain ⟨m, _, _, hprops, _⟩ := hs.object he hto
  obtain ⟨_, _, ps', _, _, _, _, _, ho, _⟩ := (hprops prop hprop).flat hl hs hschema
  obtain ⟨e', p', k', en', am', h1, h2⟩ := objectProps_ok.mp ho
  exact ⟨e', p', k', en', am', ps', h1, h2⟩

/-! ## `ClientProperties` and the client-name check never panic on a settled registry -/

/-- `q` is a client property of `props`: one of them, or — through a flattened object field among
them — a client property of that object's properties, re-rooted at the field -/
inductive ClientOf (reg : Reg) : List RProp → RProp → Prop
  | own {props q} (h : q ∈ props) : ClientOf reg props q
  | flat {props prop ref ps q} (hp : prop ∈ props) (hs : prop.schema = .object ref true)
      (ho : objectProps reg ref = .ok ps) (h : ClientOf reg ps q) :
      ClientOf reg props (nestedClone prop.path q)

theorem ClientOf.mono {reg : Reg} {props props' : List RProp} {q : RProp}
    (hsub : ∀ p ∈ props, p ∈ props') (h : ClientOf reg props q) : ClientOf reg props' q := by
  cases h with
  | own h => exact .own (hsub _ h)
  | flat hp hs ho h => exact .flat (hsub _ hp) hs ho h

/-- `ClientProperties` only re-roots paths: every client property carries the schema of a
registered property -/
theorem ClientOf.schema {reg : Reg} {P : RField → Prop}
    (hreg : ∀ e ∈ reg, ∀ p k en am ps, e.to = some (.object p k en am ps) → ∀ prop ∈ ps, P prop.schema)
    {props : List RProp} {q : RProp} (h : ClientOf reg props q) :
    (∀ prop ∈ props, P prop.schema) → P q.schema := by
  induction h with
  | own h => exact fun hp => hp _ h
  | flat _ _ ho _ ih =>
    intro _
    obtain ⟨e, p, k, en, am, hf, hto⟩ := objectProps_ok.mp ho
    exact ih (hreg e (mem_of_find reg _ _ e hf) p k en am _ hto)

/-- a client property with an empty path is one of the object's own properties: a flattened
field has a path, and prefixes it to what it brings -/
theorem ClientOf.of_emptyPath {reg : Reg} {props : List RProp} {q : RProp} (h : ClientOf reg props q)
    (hne : ∀ prop ∈ props, ∀ ref, prop.schema = .object ref true → prop.path ≠ [])
    (hq : q.path = []) : q ∈ props := by
  cases h with
  | own h => exact h
  | flat hp hs _ _ =>
    simp only [nestedClone, List.append_eq_nil_iff] at hq
    exact absurd hq.1 (hne _ hp _ hs)

/-- whatever is on the flattening stack, `ClientProperties()` returns client properties only -/
theorem clientProps_mem (reg : Reg) (fl : List Ref) (props : List RProp) :
    ∀ cps, clientProps reg fl props = .ok cps → ∀ q ∈ cps, ClientOf reg props q := by
  induction fl, props using clientProps.induct reg with
  | case1 fl => intro cps h q hq; simp only [clientProps] at h; cases h; cases hq
  | case2 fl prop rest ih1 ih2 =>
    intro cps h q hq
    rw [clientProps_cons] at h
    obtain ⟨a, ha, h2⟩ := bind_eq_ok h
    obtain ⟨b, hb, rfl⟩ := map_eq_ok h2
    rcases List.mem_append.mp hq with hqa | hqb
    · split at ha
      · rename_i ref hsch
        split at ha
        · cases ha; rw [List.mem_singleton.mp hqa]; exact .own (List.mem_cons_self ..)
        · rename_i hst
          obtain ⟨ps, hps, h3⟩ := bind_eq_ok ha
          obtain ⟨cs, hcs, rfl⟩ := map_eq_ok h3
          obtain ⟨q0, hq0, rfl⟩ := List.mem_map.mp hqa
          obtain ⟨e, p, k, en, am, hf, hto⟩ := objectProps_ok.mp hps
          exact .flat (List.mem_cons_self ..) hsch hps (ih1 ref hst e hf ps cs hcs q0 hq0)
      · cases ha; rw [List.mem_singleton.mp hqa]; exact .own (List.mem_cons_self ..)
    · exact (ih2 b hb q hqb).mono fun _ h => List.mem_cons_of_mem _ h

/-- `ClientProperties()` succeeds when the flattened fields it meets resolve to objects: those of
the list itself, and (`FlatOK`) those of every registered object -/
theorem clientProps_total (reg : Reg) (hf : FlatOK reg) (fl : List Ref) (props : List RProp) :
    (∀ prop ∈ props, ∀ ref, prop.schema = .object ref true → ∃ ps, objectProps reg ref = .ok ps) →
    ∃ cps, clientProps reg fl props = .ok cps := by
  induction fl, props using clientProps.induct reg with
  | case1 fl => intro _; exact ⟨[], by simp [clientProps]⟩
  | case2 fl prop rest ih1 ih2 =>
    intro hp
    obtain ⟨cps2, hcps2⟩ := ih2 fun q hq => hp q (List.mem_cons_of_mem _ hq)
    rw [clientProps_cons, hcps2]
    split
    · rename_i ref hsch
      split
      · exact ⟨_, rfl⟩
      · rename_i hst
        obtain ⟨ps, hps⟩ := hp prop (List.mem_cons_self ..) ref hsch
        obtain ⟨e, p, k, en, am, hfind, hto⟩ := objectProps_ok.mp hps
        obtain ⟨cps1, hcps1⟩ := ih1 ref hst e hfind ps fun q hq ref' hs' => by
          obtain ⟨e', p', k', en', am', ps', h1, h2⟩ :=
            hf e (mem_of_find reg _ _ e hfind) p k en am ps hto q hq ref' hs'
          exact ⟨ps', objectProps_ok.mpr ⟨e', p', k', en', am', h1, h2⟩⟩
        exact ⟨cps1.map (nestedClone prop.path) ++ cps2, by
          rw [hps]; simp [Outcome.bind, hcps1, Outcome.map]⟩
    · exact ⟨_, rfl⟩

theorem clientProps_noPanic (reg : Reg) (hf : FlatOK reg) (fl : List Ref) (e : REntry) (he : e ∈ reg)
    {p k : String} {en : Option (String × Int)} {am : List String} {ps : List RProp}
    (hto : e.to = some (.object p k en am ps)) : ∀ w, clientProps reg fl ps ≠ .panic w := by
  obtain ⟨cps, h⟩ := clientProps_total reg hf fl ps fun q hq ref hs => by
    obtain ⟨e', p', k', en', am', ps', h1, h2⟩ := hf e he p k en am ps hto q hq ref hs
    exact ⟨ps', objectProps_ok.mpr ⟨e', p', k', en', am', h1, h2⟩⟩
  rw [h]
  nofun

theorem clientNamesOK_noPanic (reg : Reg) (hf : FlatOK reg) (e : REntry) (he : e ∈ reg) :
    ∀ w, clientNamesOK reg e ≠ .panic w := by
  unfold clientNamesOK
  split
  · rename_i p k en am ps hto
    apply bind_noPanic (clientProps_noPanic reg hf _ e he hto)
    intro a _ w
    split <;> simp
  · simp

theorem clientNamesAll_noPanic (reg : Reg) (hf : FlatOK reg) (es : List REntry)
    (hes : ∀ e ∈ es, e ∈ reg) : ∀ w, clientNamesAll reg es ≠ .panic w := by
  induction es with
  | nil => intro w; simp [clientNamesAll]
  | cons e es ih =>
    unfold clientNamesAll
    apply bind_noPanic (clientNamesOK_noPanic reg hf e (hes e (List.mem_cons_self ..)))
    intro _ _
    exact ih (fun e' h => hes e' (List.mem_cons_of_mem _ h))


/-! ## client properties: flatten chains resolve

`ClientProperties()` of an object replaces each flattened field by the client properties of the
field's object, with the field's number in front of their paths. On a settled registry of a
linked set every such property still leads — through `newPropSet`'s walk, message by message — to
a field its schema describes, or (the wrapper of an exposed oneof of a flattened message) to the
message field whose message has that oneof. -/

theorem resolvePath_one (ds : DescSet) (m : Msg) (hn : (m.fields.map (·.number)).Nodup) (f : FieldD)
    (hf : f ∈ m.fields) : resolvePath ds m [f.number] = .ok (some f) := by
  unfold resolvePath
  rw [find?_unique (·.number) m.fields hn f hf]

/-- one step of the walk: through message field `f` of `m` into its message `m'`, for a path that
leads to a field there -/
theorem resolvePath_step (ds : DescSet) (m : Msg) (hn : (m.fields.map (·.number)).Nodup) (f : FieldD)
    (hf : f ∈ m.fields) (hk : f.kind = .message) (m' : Msg)
    (hm' : ds.msg? (targetFull f.target) = some m') {path : List Int} {g : FieldD}
    (hg : resolvePath ds m' path = .ok (some g)) :
    resolvePath ds m (f.number :: path) = .ok (some g) := by
  cases path with
  | nil => simp [resolvePath] at hg
  | cons n rest =>
    rw [resolvePath]
    · simpa [find?_unique (·.number) m.fields hn f hf, hk, hm'] using hg
    · intro h; cases h

/-- where the wrapper property of an exposed oneof of message `mo` sits, seen from `m`: in `m`
itself (`mo = m`, empty path), or behind the message field the path leads to -/
def ExposedAt (ds : DescSet) (m : Msg) (path : List Int) (mo : Msg) : Prop :=
  (path = [] ∧ mo = m) ∨
  (∃ g, resolvePath ds m path = .ok (some g) ∧ g.kind = .message ∧ g.card = .single ∧
    ds.msg? (targetFull g.target) = some mo)

/-- a client property of a schema built from `m` is usable by `lib/j5reflect` -/
def ClientOK (ds : DescSet) (m : Msg) (p : RProp) : Prop :=
  (∃ g, resolvePath ds m p.path = .ok (some g) ∧ describes ds g p.schema = true) ∨
  (∃ mo o, ExposedAt ds m p.path mo ∧ o ∈ mo.oneofs ∧ p.schema = .oneof ⟨mo.pkg, o.split⟩)

/-- a client property of the flattened message, seen through the flattening field -/
theorem ClientOK.lift (ds : DescSet) (m : Msg) (hn : (m.fields.map (·.number)).Nodup) (f : FieldD)
    (hf : f ∈ m.fields) (hk : f.kind = .message) (hc : f.card = .single) (m' : Msg)
    (hm' : ds.msg? (targetFull f.target) = some m') (p : RProp) (h : ClientOK ds m' p) :
    ClientOK ds m (nestedClone [f.number] p) := by
  have step := @resolvePath_step ds m hn f hf hk m' hm' p.path
  rcases h with ⟨g, hg, hd⟩ | ⟨mo, o, ⟨hp, rfl⟩ | ⟨g, hg, h1, h2, h3⟩, ho, hs⟩
  · exact Or.inl ⟨g, step hg, hd⟩
  · refine Or.inr ⟨mo, o, Or.inr ⟨f, ?_, hk, hc, hm'⟩, ho, hs⟩
    simpa [nestedClone, hp] using resolvePath_one ds m hn f hf
  · exact Or.inr ⟨mo, o, Or.inr ⟨g, step hg, h1, h2, h3⟩, ho, hs⟩

theorem PropLink.clientOK (ds : DescSet) (hl : linked ds = true) (reg : Reg) (m : Msg) (hc : Canon ds m)
    (p : RProp) (h : PropLink ds reg m p) : ClientOK ds m p := by
  rcases h with ⟨f, hf, hp, hd, _⟩ | ⟨hp, o, ho, hs, _⟩
  · left
    exact ⟨f, by rw [hp]; exact resolvePath_one ds m (linked_numbers hl m hc.mem) f hf, hd⟩
  · right
    exact ⟨m, o, Or.inl ⟨hp, rfl⟩, ho, hs⟩

theorem ClientOf.clientOK {ds : DescSet} (hl : linked ds = true) {reg : Reg} (hs : Settled ds reg)
    {props : List RProp} {q : RProp} (h : ClientOf reg props q) :
    ∀ m, Canon ds m → (∀ prop ∈ props, PropLink ds reg m prop) → ClientOK ds m q := by
  induction h with
  | own h => exact fun m hc hp => (hp _ h).clientOK ds hl reg m hc _
  | flat hp hsch ho _ ih =>
    intro m hc hprops
    obtain ⟨f, m', ps', hf, hpath, hkind, hcard, hm', ho', hprops'⟩ := (hprops _ hp).flat hl hs hsch
    rw [ho] at ho'
    cases ho'
    rw [hpath]
    exact ClientOK.lift ds m (linked_numbers hl m hc.mem) f hf hkind hcard m' hm' _
      (ih m' (canon_of_find hm').2 hprops')

/-- **`ClientProperties()` succeeds and every client property is usable** — for the properties
`props` of an object schema built from message `m`, whatever is on the flattening stack -/
theorem clientProps_ok (ds : DescSet) (hl : linked ds = true) (reg : Reg) (hs : Settled ds reg)
    (fl : List Ref) (props : List RProp) :
    ∀ m, Canon ds m → (∀ prop ∈ props, PropLink ds reg m prop) →
      ∃ cps, clientProps reg fl props = .ok cps ∧ ∀ p ∈ cps, ClientOK ds m p := by
  intro m hc hprops
  obtain ⟨cps, h⟩ := clientProps_total reg (flatOK_of_settled ds hl reg hs) fl props fun prop hp ref hsch => by
    obtain ⟨_, _, ps, _, _, _, _, _, ho, _⟩ := (hprops prop hp).flat hl hs hsch
    exact ⟨ps, ho⟩
  exact ⟨cps, h, fun p hp => (clientProps_mem reg fl props cps h p hp).clientOK hl hs m hc hprops⟩

/-- `newPropSet`'s walk succeeds on usable client properties -/
theorem resolveAll_ok (ds : DescSet) (m : Msg) (cps : List RProp) (h : ∀ p ∈ cps, ClientOK ds m p) :
    resolveAll ds m cps = .ok () := by
  induction cps with
  | nil => rfl
  | cons p ps ih =>
    unfold resolveAll
    have hp : ∃ r, resolvePath ds m p.path = .ok r := by
      rcases h p (List.mem_cons_self ..) with ⟨g, hg, _⟩ | ⟨mo, o, hex, _, _⟩
      · exact ⟨_, hg⟩
      · rcases hex with ⟨hpe, _⟩ | ⟨g, hg, _⟩
        · exact ⟨none, by rw [hpe]; rfl⟩
        · exact ⟨_, hg⟩
    obtain ⟨r, hr⟩ := hp
    simp only [hr, Outcome.bind]
    exact ih (fun q hq => h q (List.mem_cons_of_mem _ hq))

/-! ## every root of a settled registry (a reflected set, a cache between calls) is usable -/

theorem Settled.object_ok {ds : DescSet} (hl : linked ds = true) {reg : Reg} (hs : Settled ds reg)
    {e : REntry} (he : e ∈ reg) {p k : String} {en : Option (String × Int)} {am : List String}
    {ps : List RProp} (hto : e.to = some (.object p k en am ps)) :
    ∃ m cps, ds.msg? e.src = some m ∧ clientProps reg [⟨e.pkg, e.key⟩] ps = .ok cps ∧
      (∀ q ∈ cps, ClientOK ds m q) ∧ resolveAll ds m cps = .ok () := by
  obtain ⟨m, hc, hsrc, hprops, _⟩ := hs.object he hto
  obtain ⟨cps, hcps, hok⟩ := clientProps_ok ds hl reg hs [⟨e.pkg, e.key⟩] ps m hc hprops
  exact ⟨m, cps, by rw [hsrc]; exact hc, hcps, hok, resolveAll_ok ds m cps hok⟩

/-- a oneof has no flattening: `ClientProperties()` is the property list itself -/
theorem Settled.oneof_ok {ds : DescSet} (hl : linked ds = true) {reg : Reg} (hs : Settled ds reg)
    {e : REntry} (he : e ∈ reg) {p k : String} {ps : List RProp} (hto : e.to = some (.oneof p k ps)) :
    ∃ m, m ∈ ds.msgs ∧ (∀ q ∈ ps, ClientOK ds m q) ∧ resolveAll ds m ps = .ok () := by
  obtain ⟨m, hc, _, hprops⟩ := hs.oneof he hto
  have hok : ∀ q ∈ ps, ClientOK ds m q := fun q hq => (hprops q hq).clientOK ds hl reg m hc q
  exact ⟨m, hc.mem, hok, resolveAll_ok ds m ps hok⟩

/-- `Reflector.NewRoot` succeeds on every message whose schema the registry holds -/
theorem Settled.newRoot_ok {ds : DescSet} (hl : linked ds = true) {reg : Reg} (hs : Settled ds reg)
    {m : Msg} (hm : Canon ds m) {e : REntry} (hfind : reg.find m.pkg m.split = some e)
    (hsrc : e.src = m.full) : newRoot ds reg m = .ok () := by
  obtain ⟨_, _, ps, hprops, _, ⟨_, p, k, en, am, hto⟩ | ⟨_, p, k, hto⟩⟩ :=
    hs.root_of_msg hl (mem_of_find reg _ _ e hfind) hm hsrc
  · obtain ⟨cps, hcps, hok⟩ := clientProps_ok ds hl reg hs [⟨m.pkg, m.split⟩] ps m hm hprops
    simp [newRoot, hfind, hto, hcps, Outcome.bind, resolveAll_ok ds m cps hok]
  · simp only [newRoot, hfind, hto]
    exact resolveAll_ok ds m ps fun q hq => (hprops q hq).clientOK ds hl reg m hm q

end J5V.Schema.Reader
