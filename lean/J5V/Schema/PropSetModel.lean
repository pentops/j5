import J5V.Schema.Reader
/-!
# Model of the kind checks of `lib/j5reflect` (property set construction) — C18, codec side

Mirrors, on the reflected *shape*:

* `ObjectSchema.ClientProperties` (`lib/j5schema/root_schema.go`) is modelled in `Reader.lean`
  (`objectProps`, `clientProps`, `clientProperties`), next to the registry it recurses over.
* `newPropSet` (`property_set.go`): each property's proto path is walked through the message
  descriptors; a missing number or a non-message on the way is an error.
* `buildProperty` / `newMessageFieldFactory` / `newFieldFactory`: array ↔ list, map ↔ map,
  mutable schemas (object, oneof, any, and — by `Mutable()` — array and map) go to the message
  factory, which **panics** on anything but object / oneof / any; leaf schemas are checked
  against the proto kind (`EnumField is kind …`, `ScalarField is proto kind …`).

Only the checks are modelled (what makes `NewRoot` / the codec fail before any value is touched);
values are the codec cluster's model.
-/
namespace J5V.Schema.Reader
open J5V.Go J5V.Schema

/-! ## newPropSet and the field factories -/

def targetFull : Target → String
  | .msg full _ _ => full
  | .enum full _ _ => full
  | .none => ""

/-- the descriptor the element of the field refers to -/
def itemTarget (f : FieldD) : Target :=
  match f.card with
  | .map =>
    match f.mapVal with
    | some (_, vt, _) => vt
    | none => .none
  | _ => f.target

/-- the walk of `newPropSet` along one proto path: the last field, or an error -/
def resolvePath (ds : DescSet) (m : Msg) : List Int → Outcome (Option FieldD)
  | [] => .ok none
  | [n] =>
    match m.fields.find? fun f => f.number == n with
    | some f => .ok (some f)
    | none => .err "newPropSet: field not found"
  | n :: rest =>
    match m.fields.find? fun f => f.number == n with
    | none => .err "newPropSet: field not found"
    | some f =>
      if f.kind != .message then .err "field is not a message but has nested types"
      else
        match ds.msg? (targetFull f.target) with
        | some m' => resolvePath ds m' rest
        -- a message of a dependency file (well-known / j5 type): its fields are not in the
        -- summary; reached only when a flattened path is walked in a message other than the one
        -- it was built from (colliding schema names), where Go answers "field not found"
        | none => .err "newPropSet: field not found"

/-- every path of a property list resolves (`newPropSet`) -/
def resolveAll (ds : DescSet) (m : Msg) : List RProp → Outcome Unit
  | [] => .ok ()
  | p :: ps => (resolvePath ds m p.path).bind fun _ => resolveAll ds m ps

/-- `Reflector.NewRoot` on an (empty) message of type `m`, after `SchemaCache.Schema` succeeded:
`buildObject` / `buildOneof` → `newPropSet(schema.ClientProperties(), descriptor)` -/
def newRoot (ds : DescSet) (reg : Reg) (m : Msg) : Outcome Unit :=
  match reg.find m.pkg m.split with
  | some e =>
    match e.to with
    | some (.object _ _ _ _ ps) =>
      (clientProps reg [⟨m.pkg, m.split⟩] ps).bind fun cps => resolveAll ds m cps
    | some (.oneof _ _ ps) => resolveAll ds m ps
    | some (.enum ..) => .err "unsupported root schema type"
    | none => .err "unlinked ref"
  | none => .err "no schema"

/-- `Mutable()` -/
def mutableSchema : RField → Bool
  | .scalar .. => false
  | .enum _ => false
  | _ => true

/-- `newMessageFieldFactory` -/
def messageFactory : RField → Outcome Unit
  | .object _ _ => .ok ()
  | .oneof _ => .ok ()
  | .any => .ok ()
  | _ => .panic "invalid schema for message field"

/-- `newFieldFactory` -/
def leafFactory (s : RField) (kind : PKind) (t : Target) : Outcome Unit :=
  match s with
  | .enum _ => if kind != .enum then .err "EnumField is kind …" else .ok ()
  | .scalar _ _ k wkt =>
    if wkt != "" then
      if kind != .message then .err "ScalarField is proto kind …, want message"
      else if targetFull t != wkt then .err "ScalarField message is …"
      else .ok ()
    else if kind.num != k then .err "ScalarField is proto kind …"
    else .ok ()
  | _ => .panic "invalid schema for leaf field"

def itemFactory (s : RField) (kind : PKind) (t : Target) : Outcome Unit :=
  if mutableSchema s then messageFactory s else leafFactory s kind t

/-- the type switches of `newMessageArrayField` / `newLeafArrayField` and `newMessageMapField` /
`newLeafMapField`: arrays and maps exist of objects, oneofs, scalars and enums only -/
def collectionItem : RField → Outcome Unit
  | .object _ _ => .ok ()
  | .oneof _ => .ok ()
  | .scalar .. => .ok ()
  | .enum _ => .ok ()
  | _ => .err "unsupported array item schema / unsupported schema type"

/-- `j5reflect.buildProperty`: the checks made when a value of the property is built -/
def reflectField (f : FieldD) (s : RField) : Outcome Unit :=
  match s with
  | .array item =>
    if f.card != .list then .err "Reflection Bug: ArrayField is not a list"
    else (itemFactory item f.kind f.target).bind fun _ => collectionItem item
  | .map item =>
    if f.card != .map then .err "MapField is not a map"
    else
      match f.mapVal with
      | some (vk, vt, _) => (itemFactory item vk vt).bind fun _ => collectionItem item
      | none => .panic "map field without value descriptor"
  | _ => itemFactory s f.kind f.target

end J5V.Schema.Reader
