import J5V.Schema.ReaderProofs
/-!
# C18: every property's proto path resolves to a field of the matching kind
-/
namespace J5V.Schema.Reader
open J5V.Go J5V.Schema

/-- the proto kinds a J5 scalar type can describe (what the codec can read and write through
protoreflect without a type mismatch) -/
def scalarFits (tag : STag) (fmt : Nat) (kind : PKind) : Bool :=
  match tag, fmt, kind with
  | .string, _, .string => true
  | .key, _, .string => true
  | .bool, _, .bool => true
  | .bytes, _, .bytes => true
  | .integer, 1, .int32 => true
  | .integer, 1, .sint32 => true
  | .integer, 3, .uint32 => true
  | .integer, 2, .int64 => true
  | .integer, 2, .sint64 => true
  | .integer, 4, .uint64 => true
  | .float, 1, .float => true
  | .float, 2, .double => true
  | _, _, _ => false

/-- the formats `scalarFits` pairs with the integer and the float tag: `IntegerField.Format` 1 … 4,
`FloatField.Format` 1, 2 -/
theorem scalarFits_formats {tag : STag} {fmt : Nat} {kind : PKind} (h : scalarFits tag fmt kind = true) :
    (tag = .integer → fmt = 1 ∨ fmt = 2 ∨ fmt = 3 ∨ fmt = 4) ∧ (tag = .float → fmt = 1 ∨ fmt = 2) := by
  unfold scalarFits at h
  split at h <;>
    first
    | (cases h; done)
    | (constructor <;> intro ht <;> first | (cases ht; done) | simp)

/-- the well-known message a J5 scalar type stands for -/
def wktFits (tag : STag) (full : String) : Bool :=
  (tag == .timestamp && full == "google.protobuf.Timestamp") ||
  (tag == .date && full == "j5.types.date.v1.Date") ||
  (tag == .decimal && full == "j5.types.decimal.v1.Decimal")

/-- schema `s` describes a single value of proto kind `kind` (with descriptor `t`) -/
def describesItem (ds : DescSet) (kind : PKind) (t : Target) (s : RField) : Bool :=
  match s with
  | .scalar tag fmt k wkt =>
    if wkt == "" then k == kind.num && scalarFits tag fmt kind
    else kind == .message &&
      match t with
      | .msg full _ _ => full == wkt && wktFits tag full
      | _ => false
  | .any =>
    kind == .message &&
      match t with
      | .msg full _ _ => full == "j5.types.any.v1.Any" || full == "google.protobuf.Any"
      | _ => false
  | .enum ref =>
    kind == .enum &&
      match t with
      | .enum full _ _ =>
        match ds.enum? full with
        | some en => ref == ⟨en.pkg, en.split⟩
        | none => false
      | _ => false
  | .object ref _ =>
    kind == .message &&
      match t with
      | .msg full _ _ =>
        match ds.msg? full with
        | some m => ref == ⟨m.pkg, m.split⟩ && !isOneofWrapper m
        | none => false
      | _ => false
  | .oneof ref =>
    kind == .message &&
      match t with
      | .msg full _ _ =>
        match ds.msg? full with
        | some m => ref == ⟨m.pkg, m.split⟩ && isOneofWrapper m
        | none => false
      | _ => false
  | .map _ => false
  | .array _ => false

/-- schema `s` describes field `f`: cardinality and element kind agree -/
def describes (ds : DescSet) (f : FieldD) (s : RField) : Bool :=
  match f.card with
  | .list =>
    match s with
    | .array i => describesItem ds f.kind f.target i
    | _ => false
  | .map =>
    match s with
    | .map i =>
      match f.mapVal with
      | some (vk, vt, _) => describesItem ds vk vt i
      | none => false
    | _ => false
  | .single => describesItem ds f.kind f.target s

theorem describes_cases {ds : DescSet} {f : FieldD} {s : RField} (h : describes ds f s = true) :
    (f.card = .list ∧ ∃ i, s = .array i ∧ describesItem ds f.kind f.target i = true) ∨
    (f.card = .map ∧ ∃ i vk vt vkey, s = .map i ∧ f.mapVal = some (vk, vt, vkey) ∧
      describesItem ds vk vt i = true) ∨
    (f.card = .single ∧ describesItem ds f.kind f.target s = true) := by
  unfold describes at h
  split at h
  · rename_i hc
    split at h
    · exact Or.inl ⟨hc, _, rfl, h⟩
    · cases h
  · rename_i hc
    split at h
    · split at h
      · rename_i hmv; exact Or.inr (Or.inl ⟨hc, _, _, _, _, rfl, hmv, h⟩)
      · cases h
    · cases h
  · rename_i hc; exact Or.inr (Or.inr ⟨hc, h⟩)

/-- the recorded exception on the codec side (open finding `any-in-collection`): the reader
accepts a list / map of `Any`, `lib/j5reflect` has no array / map of Any -/
def anyInCollection : RField → Bool
  | .array .any => true
  | .map .any => true
  | _ => false

theorem stringKind_tag (like : Bool) (k : Option J5Sum) (t : STag) (h : stringKind like k = .ok t) :
    t = .string ∨ t = .key := by
  unfold stringKind at h
  repeat' split at h
  all_goals first
    | (cases h; simp)
    | cases h

theorem buildScalar_fits (kind : PKind) (e : Ext) (key : Option KeySum) (tag : STag) (fmt : Nat)
    (h : buildScalar kind e key = .ok (tag, fmt)) : scalarFits tag fmt kind = true := by
  unfold buildScalar at h
  split at h
  · -- string
    obtain ⟨t, ht, hx⟩ := map_eq_ok h
    cases hx
    unfold buildString at ht
    obtain ⟨a, _, h2⟩ := bind_eq_ok ht
    obtain ⟨b, _, h3⟩ := bind_eq_ok h2
    obtain ⟨c, _, h4⟩ := bind_eq_ok h3
    rcases stringKind_tag _ _ _ h4 with rfl | rfl <;> rfl
  · cases h; rfl
  all_goals first
    | (obtain ⟨_, _, hx⟩ := map_eq_ok h; cases hx; rfl)
    | (cases h; rfl)
    | cases h

theorem buildSchema_describes (ds : DescSet) (reg : Reg) (kind : PKind) (t : Target) (e : Ext)
    (key : Option KeySum) (b : Built) (h : buildSchema ds reg kind t e key = .ok b) :
    describesItem ds kind t b.schema = true := by
  rcases buildSchema_ok h with ⟨full, p, k, rfl, rfl, ⟨f, hw, rfl⟩ | ⟨fl, _, hr⟩⟩ |
    ⟨full, p, k, en, _, rfl, rfl, hen, _, _, hs, _⟩ | ⟨tag, fmt, hs, rfl⟩
  · obtain ⟨h, _⟩ | ⟨rfl, h⟩ | ⟨rfl, h⟩ | ⟨rfl, h⟩ | ⟨hf, h⟩ := wktSchema_ok hw <;> cases h
    · simp [describesItem, wktFits]
    · simp [describesItem, wktFits]
    · simp [describesItem, wktFits]
    · simpa [describesItem] using hf
  · obtain ⟨m, hm, hs, _⟩ := referenceMessage_ok hr
    rw [hs]
    cases hw : isOneofWrapper m <;> simp [hw, describesItem, hm]
  · simp [hs, describesItem, hen]
  · simpa [describesItem] using buildScalar_fits kind e key tag fmt hs

/-- **the property a field produces points at that field and describes it**: its proto path is
the field's number, and the schema matches the field's cardinality and kind — for every field of
every message, whatever annotations it carries -/
theorem buildProperty_describes (ds : DescSet) (reg : Reg) (f : FieldD) (prop : RProp) (b : Built)
    (h : buildProperty ds reg f = .ok (prop, b)) :
    prop.path = [f.number] ∧ prop.json = f.jsonName ∧ describes ds f prop.schema = true := by
  obtain ⟨kind, t, e, key, mk, hplan, hb, rfl⟩ := buildProperty_ok h
  have hd := buildSchema_describes ds reg _ _ _ _ b hb
  obtain ⟨_, _, _, rfl, ⟨hc, rfl, rfl, rfl⟩ | ⟨hc, rfl, _, hmv⟩ | ⟨hc, rfl, rfl, rfl⟩⟩ :=
    propertyPlan_ok hplan
  · exact ⟨rfl, rfl, by simpa [describes, hc] using hd⟩
  · exact ⟨rfl, rfl, by simpa [describes, hc, hmv] using hd⟩
  · exact ⟨rfl, rfl, by simpa [describes, hc] using hd⟩

/-! ## the same at the level of the machine and of the resulting schema set -/

/-- property `prop` of a schema built from message `m` points into `m`: either its path is the
number of a field of `m` that the schema describes, or it is the wrapper property of one of `m`'s
exposed oneofs (empty path, members resolved in `m` itself) -/
def propDescribes (ds : DescSet) (m : Msg) (prop : RProp) : Prop :=
  (∃ f ∈ m.fields, prop.path = [f.number] ∧ describes ds f prop.schema = true) ∨
  (prop.path = [] ∧ ∃ o ∈ m.oneofs, prop.schema = .oneof ⟨m.pkg, o.split⟩)

/-- an object / oneof schema registered under (p, k) was built from a message of the set whose
name (or whose oneof's name) is (p, k), and all its properties point into that message -/
def RootDesc (ds : DescSet) (p k : String) : RRoot → Prop
  | .enum _ _ _ _ => True
  | .object _ _ _ _ ps => (∃ m ∈ ds.msgs, m.pkg = p ∧ (m.split = k ∨ ∃ o ∈ m.oneofs, o.split = k) ∧
      ∀ prop ∈ ps, propDescribes ds m prop) ∧ (ps.map (·.json)).Nodup
  | .oneof _ _ ps => (∃ m ∈ ds.msgs, m.pkg = p ∧ (m.split = k ∨ ∃ o ∈ m.oneofs, o.split = k) ∧
      ∀ prop ∈ ps, propDescribes ds m prop) ∧ (ps.map (·.json)).Nodup

def RegDescribes (ds : DescSet) (reg : Reg) : Prop :=
  ∀ e ∈ reg, ∀ root, e.to = some root → RootDesc ds e.pkg e.key root

end J5V.Schema.Reader
