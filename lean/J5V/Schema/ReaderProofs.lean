import J5V.Schema.Linked
/-!
# Lemmas for C18: what the operations of the reader return, and induction along `run`

Every operation of the machine has one lemma saying what a successful call returned
(`referenceMessage_ok`, `buildSchema_ok`, `buildProperty_ops` in `Reader.lean`; `propertyPlan_ok`,
`exposeOneofs_ok`, `enter_ok`, `finish_ok`, `place_forall` here) and, where it can panic at all,
one saying when it does not; `Step` names the three transitions that continue. A predicate on
machine states is then shown for `Step` only: `run_yields`, `buildMessage_yields` and
`schemaSetFromFiles_yields` carry it to the entry points, together with the absence of panics
(`Yields P N o`: a result of `o` has `P`, and under `N` there is no panic; `Yields.bind` is the one
rule the loops need). The invariant itself is `Inv` in `ReaderLinks.lean`. `Found` (names are registered once) is its part that does not speak of schemas;
`RegOK` adds that an entry registered for an enum descriptor holds an enum schema, which is what
`buildEnumFieldSchema`'s unchecked type assertion needs (`buildEnumField_noPanic`).
-/
namespace J5V.Schema.Reader
open J5V.Go J5V.Schema

def enumRoot : Option RRoot → Bool
  | some (.enum _ _ _ _) => true
  | _ => false

theorem Reg.find_pred (reg : Reg) (p k : String) (e : REntry) (h : reg.find p k = some e) :
    e.pkg = p ∧ e.key = k := by
  simpa using List.find?_some h

theorem mem_of_find (reg : Reg) (p k : String) (e : REntry) (h : reg.find p k = some e) : e ∈ reg :=
  List.mem_of_find?_eq_some h

theorem find_none_of_has {reg : Reg} {p k : String} (h : ¬reg.has p k = true) : reg.find p k = none := by
  simpa [Reg.has] using h

/-- the three shapes of an update: nothing happens (the name is taken); a new entry is appended
under a name that was free (`add`: unlinked, `link`: linked); the entries under a name are set -/
theorem Reg.apply_cases (reg : Reg) (op : RegOp) :
    reg.apply op = reg ∨
    (∃ x, reg.find x.pkg x.key = none ∧ reg.apply op = reg ++ [x] ∧
      ((op = .add x.pkg x.key x.src ∧ x.to = none) ∨ ∃ r, op = .link x.pkg x.key x.src r ∧ x.to = some r)) ∨
    (∃ p k r, op = .set p k r ∧ reg.apply op =
      reg.map fun e => if e.pkg == p && e.key == k then { e with to := some r } else e) := by
  cases op with
  | set p k r => exact Or.inr (Or.inr ⟨p, k, r, rfl, rfl⟩)
  | add p k src =>
    rw [Reg.apply]
    split
    · exact Or.inl rfl
    · exact Or.inr (Or.inl ⟨⟨p, k, none, src⟩, find_none_of_has ‹_›, rfl, Or.inl ⟨rfl, rfl⟩⟩)
  | link p k src r =>
    rw [Reg.apply]
    split
    · exact Or.inl rfl
    · exact Or.inr (Or.inl ⟨⟨p, k, some r, src⟩, find_none_of_has ‹_›, rfl, Or.inr ⟨r, rfl, rfl⟩⟩)

/-- a predicate on registries kept by every admissible update, where admissibility survives
updates, is kept by a list of updates admissible at the start -/
theorem Reg.applyAll_induct {P : Reg → Prop} {A : Reg → RegOp → Prop}
    (hmono : ∀ reg op op', A reg op' → A (reg.apply op) op')
    (hstep : ∀ reg op, P reg → A reg op → P (reg.apply op)) {reg : Reg} (ops : List RegOp)
    (h : P reg) (ha : ∀ op ∈ ops, A reg op) : P (reg.applyAll ops) := by
  induction ops generalizing reg with
  | nil => exact h
  | cons op ops ih =>
    exact ih (hstep reg op h (ha op (List.mem_cons_self ..)))
      fun op' h' => hmono reg op op' (ha op' (List.mem_cons_of_mem _ h'))

theorem applyAll_append (reg : Reg) (a b : List RegOp) :
    reg.applyAll (a ++ b) = (reg.applyAll a).applyAll b := by
  simp [Reg.applyAll, List.foldl_append]


theorem Owns.add_new (reg : Reg) (p k src : String) (h : reg.find p k = none) :
    Owns (reg.apply (.add p k src)) p k src := by
  simp only [Reg.apply, Reg.has, h, Option.isSome_none, Bool.false_eq_true, ↓reduceIte]
  exact ⟨⟨p, k, none, src⟩, by simp [Reg.find_append, h], rfl⟩

theorem Owns.link_new (reg : Reg) (p k src : String) (r : RRoot) (h : reg.find p k = none) :
    Owns (reg.apply (.link p k src r)) p k src := by
  simp only [Reg.apply, Reg.has, h, Option.isSome_none, Bool.false_eq_true, ↓reduceIte]
  exact ⟨⟨p, k, some r, src⟩, by simp [Reg.find_append, h], rfl⟩


/-- every entry is the one found under its own name -/
def Found (reg : Reg) : Prop := ∀ e ∈ reg, reg.find e.pkg e.key = some e

def RegOK (ds : DescSet) (reg : Reg) : Prop :=
  Found reg ∧ ∀ e ∈ reg, srcIsEnum ds e.src = true → enumRoot e.to = true

theorem Found.append {reg : Reg} (h : Found reg) (x : REntry) (hx : reg.find x.pkg x.key = none) :
    Found (reg ++ [x]) := by
  intro e he
  rw [Reg.find_append]
  rcases List.mem_append.mp he with he' | he'
  · rw [h e he']; rfl
  · simp only [List.mem_singleton] at he'
    subst he'
    simp [hx]

theorem Found.set {reg : Reg} (h : Found reg) (p k : String) (r : RRoot) :
    Found (reg.map fun e => if e.pkg == p && e.key == k then { e with to := some r } else e) := by
  intro e he
  obtain ⟨e0, he0, rfl⟩ := List.mem_map.mp he
  have hk : (if e0.pkg == p && e0.key == k then { e0 with to := some r } else e0).pkg = e0.pkg ∧
      (if e0.pkg == p && e0.key == k then { e0 with to := some r } else e0).key = e0.key := by
    split <;> exact ⟨rfl, rfl⟩
  rw [hk.1, hk.2, Reg.find_set, h e0 he0]
  rfl

theorem Found.applyOp {reg : Reg} (h : Found reg) (op : RegOp) : Found (reg.apply op) := by
  rcases Reg.apply_cases reg op with h0 | ⟨x, hx, h0, _⟩ | ⟨p, k, r, _, h0⟩ <;> rw [h0]
  · exact h
  · exact h.append x hx
  · exact h.set p k r

theorem Found.applyAll {reg : Reg} (h : Found reg) (ops : List RegOp) : Found (reg.applyAll ops) :=
  Reg.applyAll_induct (A := fun _ _ => True) (fun _ _ _ h => h) (fun _ op h _ => h.applyOp op) ops h
    fun _ _ => trivial

theorem RegOK.nil (ds : DescSet) : RegOK ds [] :=
  ⟨(by intro e he; cases he), (by intro e he; cases he)⟩

/-! ## the local builders never panic (on linked input, with a sound registry)

The scalar builders are trees of `if` / `match` whose leaves are `.ok` or `.err`. -/

theorem numRules_noPanic (e : Ext) (g : String) : ∀ w, numRules e g ≠ .panic w :=
  noPanic_iff.mpr (by unfold numRules; split <;> simp)

theorem stringValidate_noPanic (v : Option Validate) (own : Bool) :
    ∀ w, stringValidate v own ≠ .panic w :=
  noPanic_iff.mpr (by
    unfold stringValidate
    split
    · rfl
    · split <;> simp)

theorem stringForeignKey_noPanic (f : Option String) (sw fk : String) :
    ∀ w, stringForeignKey f sw fk ≠ .panic w :=
  noPanic_iff.mpr (by unfold stringForeignKey; cases f <;> simp)

theorem stringOpenText_noPanic (sw : String) (f : Option String) (k : Option KeySum) :
    ∀ w, stringOpenText sw f k ≠ .panic w :=
  noPanic_iff.mpr (by unfold stringOpenText; simp)

theorem stringKind_noPanic (like : Bool) (k : Option J5Sum) : ∀ w, stringKind like k ≠ .panic w :=
  noPanic_iff.mpr (by
    unfold stringKind
    split
    · rfl
    · split <;> simp)

theorem buildString_noPanic (e : Ext) (key : Option KeySum) : ∀ w, buildString e key ≠ .panic w :=
  bind_noPanic (stringValidate_noPanic _ _) fun _ _ =>
    bind_noPanic (stringForeignKey_noPanic _ _ _) fun _ _ =>
      bind_noPanic (stringOpenText_noPanic _ _ _) fun _ _ => stringKind_noPanic _ _

theorem buildScalar_noPanic (kind : PKind) (e : Ext) (key : Option KeySum) :
    ∀ w, buildScalar kind e key ≠ .panic w := by
  unfold buildScalar
  split
  · exact map_noPanic (buildString_noPanic e key)
  all_goals first
    | exact map_noPanic (numRules_noPanic e _)
    | exact fun _ h => nomatch h

theorem wktSchema_noPanic (full : String) (e : Ext) : ∀ w, wktSchema full e ≠ .panic w :=
  noPanic_iff.mpr (by
    unfold wktSchema
    split
    · split <;> simp
    · simp)

/-- what `wktSchema` answers: not well-known, or the scalar / any schema of one of its five names -/
theorem wktSchema_ok {full : String} {e : Ext} {r : Option RField} (h : wktSchema full e = .ok r) :
    (r = none ∧ isWkt full = false) ∨
    (full = "google.protobuf.Timestamp" ∧ r = some (.scalar .timestamp 0 0 full)) ∨
    (full = "j5.types.date.v1.Date" ∧ r = some (.scalar .date 0 11 full)) ∨
    (full = "j5.types.decimal.v1.Decimal" ∧ r = some (.scalar .decimal 0 11 full)) ∨
    ((full = "j5.types.any.v1.Any" ∨ full = "google.protobuf.Any") ∧ r = some .any) := by
  unfold wktSchema at h
  split at h
  · rename_i hf
    refine Or.inr (Or.inl ⟨by simpa using hf, ?_⟩)
    split at h
    · obtain ⟨_, h⟩ := ite_eq_ok h
      obtain ⟨_, h⟩ := ite_eq_ok h
      cases h; rfl
    · cases h; rfl
  · split at h
    · rename_i hf
      cases h
      exact Or.inr (Or.inr (Or.inl ⟨by simpa using hf, rfl⟩))
    · split at h
      · rename_i hf
        cases h
        exact Or.inr (Or.inr (Or.inr (Or.inl ⟨by simpa using hf, rfl⟩)))
      · split at h
        · rename_i hf
          cases h
          exact Or.inr (Or.inr (Or.inr (Or.inr ⟨by simpa using hf, rfl⟩)))
        · cases h
          exact Or.inl ⟨rfl, by simp_all [isWkt]⟩

theorem findPSM_noPanic (m : Msg) : ∀ w, findPSM m ≠ .panic w :=
  noPanic_iff.mpr (by
    unfold findPSM
    simp only
    split
    · rfl
    · split <;> simp)

theorem enumRules_noPanic (o : List (String × Int)) (a b : List Int) :
    ∀ w, enumRules o a b ≠ .panic w :=
  noPanic_iff.mpr (by unfold enumRules; simp)

theorem buildEnum_noPanic (en : EnumD) (h : en.values.isEmpty = false) (w : String) :
    buildEnum en ≠ .panic w := by
  unfold buildEnum
  split
  · rename_i hv; simp [hv] at h
  · split <;> simp

theorem buildEnum_enumRoot (en : EnumD) (r : RRoot) (h : buildEnum en = .ok r) :
    enumRoot (some r) = true := by
  unfold buildEnum at h
  split at h
  · cases h
  · obtain ⟨_, h⟩ := ite_eq_ok h
    cases h; rfl

theorem enumRoot_some {r : RRoot} (h : enumRoot (some r) = true) : ∃ a b c d, r = .enum a b c d := by
  cases r with
  | enum a b c d => exact ⟨a, b, c, d, rfl⟩
  | _ => cases h

theorem enum?_mem (ds : DescSet) (full : String) (en : EnumD) (h : ds.enum? full = some en) :
    en ∈ ds.enums :=
  List.mem_of_find?_eq_some h

theorem srcIsEnum_of_mem (ds : DescSet) (en : EnumD) (h : en ∈ ds.enums) :
    srcIsEnum ds en.full = true := by
  unfold srcIsEnum
  simp only [List.any_eq_true, beq_iff_eq]
  exact ⟨en, h, rfl⟩

/-- the four conjuncts of `linkedBase` the proofs read (positions are counted here only) -/
theorem linkedBase_parts {ds : DescSet} (hl : linkedBase ds = true) :
    (∀ m ∈ ds.msgs, ∀ f ∈ m.fields, fieldLinked ds f = true) ∧
    (∀ full ∈ ds.topMsgs, (ds.msg? full).isSome = true) ∧
    (∀ full ∈ ds.topEnums,
      (match ds.enum? full with | some en => !en.values.isEmpty | none => false) = true) ∧
    ∀ m ∈ ds.msgs, srcIsEnum ds m.full = false ∧
      ∀ o ∈ m.oneofs, srcIsEnum ds (m.full ++ "." ++ o.name) = false := by
  unfold linkedBase at hl
  simp only [Bool.and_eq_true, List.all_eq_true] at hl
  obtain ⟨⟨⟨⟨⟨hfields, htop⟩, _⟩, henums⟩, hnames⟩, _⟩ := hl
  exact ⟨hfields, htop, henums, fun m hm => by simpa using hnames m hm⟩

theorem linked_names (ds : DescSet) (hl : linkedBase ds = true) (m : Msg) (hm : m ∈ ds.msgs) :
    srcIsEnum ds m.full = false ∧ ∀ o ∈ m.oneofs, srcIsEnum ds (m.full ++ "." ++ o.name) = false :=
  (linkedBase_parts hl).2.2.2 m hm

theorem linked_field {ds : DescSet} (hl : linkedBase ds = true) {m : Msg} (hm : m ∈ ds.msgs)
    {f : FieldD} (hf : f ∈ m.fields) : fieldLinked ds f = true :=
  (linkedBase_parts hl).1 m hm f hf

/-- the file-level names `SchemaSetFromFiles` loops over exist, and those enums have a value -/
theorem linked_top {ds : DescSet} (hl : linkedBase ds = true) :
    (∀ full ∈ ds.topMsgs, (ds.msg? full).isSome = true) ∧
    ∀ full ∈ ds.topEnums,
      (match ds.enum? full with | some en => !en.values.isEmpty | none => false) = true :=
  ⟨(linkedBase_parts hl).2.1, (linkedBase_parts hl).2.2.1⟩

theorem linked_base {ds : DescSet} (h : linked ds = true) : linkedBase ds = true := by
  unfold linked at h
  simp only [Bool.and_eq_true] at h
  exact h.1.1

theorem linked_splits {ds : DescSet} (h : linked ds = true) : splitsDotFree ds = true := by
  unfold linked at h
  simp only [Bool.and_eq_true] at h
  exact h.2

theorem linked_oneofName {ds : DescSet} (h : linked ds = true) (m : Msg) (hm : m ∈ ds.msgs)
    (o : OneofD) (ho : o ∈ m.oneofs) : ds.msg? (m.full ++ "." ++ o.name) = none := by
  unfold linked namesDistinct at h
  simp only [Bool.and_eq_true, List.all_eq_true, Option.isNone_iff_eq_none] at h
  exact (h.1.2 m hm).1 o ho

theorem linked_numbers {ds : DescSet} (h : linked ds = true) (m : Msg) (hm : m ∈ ds.msgs) :
    (m.fields.map (·.number)).Nodup := by
  unfold linked namesDistinct at h
  simp only [Bool.and_eq_true, List.all_eq_true, decide_eq_true_eq] at h
  exact (h.1.2 m hm).2

/-- after `enumTarget` the reference's target is an enum schema (given a sound registry) -/
theorem enumTarget_enumRoot {ds : DescSet} {reg : Reg} {full : String} {en : EnumD}
    {to : Option RRoot} {ops : List RegOp} (hreg : RegOK ds reg) (hen : en ∈ ds.enums)
    (h : enumTarget reg full en = .ok (to, ops)) : enumRoot to = true := by
  rcases enumTarget_ok h with ⟨ent, hf, hsrc, rfl, _⟩ | ⟨r, _, hr, rfl, _⟩
  · exact hreg.2 ent (mem_of_find reg _ _ ent hf) (by rw [hsrc]; exact srcIsEnum_of_mem ds en hen)
  · exact buildEnum_enumRoot en r hr

theorem enumCheck_noPanic (to : Option RRoot) (vt : VType) (h : enumRoot to = true) (w : String) :
    enumCheck to vt ≠ .panic w := by
  unfold enumCheck
  split
  · split
    · exact enumRules_noPanic _ _ _ w
    · rename_i r hne
      obtain ⟨a, b, c, d, rfl⟩ := enumRoot_some h
      exact absurd rfl (hne a b c d)
    · cases h
  · simp

theorem buildEnumField_noPanic (ds : DescSet) (reg : Reg) (full : String) (e : Ext)
    (hreg : RegOK ds reg)
    (hl : (match ds.enum? full with | some en => !en.values.isEmpty | none => false) = true) :
    ∀ w, buildEnumField ds reg full e ≠ .panic w := by
  unfold buildEnumField
  split
  · simp_all
  · rename_i en hen
    simp only [hen] at hl
    refine bind_noPanic ?_ fun a ha => ?_
    · unfold enumTarget
      split
      · split <;> simp
      · exact map_noPanic (buildEnum_noPanic en (by simpa using hl))
    · exact map_noPanic (enumCheck_noPanic _ _ (enumTarget_enumRoot hreg (enum?_mem ds full en hen) ha))

theorem referenceMessage_noPanic (ds : DescSet) (reg : Reg) (full : String) (fl : Bool)
    (hl : (!needsLookup full || (ds.msg? full).isSome) = true) (hw : isWkt full = false) :
    ∀ w, referenceMessage ds reg full fl ≠ .panic w := by
  unfold referenceMessage
  split
  · simp
  · rename_i hg
    have hsome : (ds.msg? full).isSome = true := by
      simpa [needsLookup, hw, hg] using hl
    split
    · simp_all
    · intro w
      simp only
      split
      · split <;> simp
      · simp

theorem buildSchema_noPanic (ds : DescSet) (reg : Reg) (kind : PKind) (t : Target) (e : Ext)
    (key : Option KeySum) (hreg : RegOK ds reg) (hl : targetLinked ds kind t = true) :
    ∀ w, buildSchema ds reg kind t e key ≠ .panic w := by
  unfold buildSchema
  unfold targetLinked at hl
  split
  · split
    · rename_i full p k
      refine bind_noPanic (wktSchema_noPanic full e) fun a ha => ?_
      cases a with
      | some f => simp
      | none =>
        obtain ⟨_, hw⟩ | ⟨_, h⟩ | ⟨_, h⟩ | ⟨_, h⟩ | ⟨_, h⟩ := wktSchema_ok ha
        · exact referenceMessage_noPanic ds reg full _ hl hw
        all_goals cases h
    · split at hl <;> simp_all
  · split
    · exact map_noPanic (buildEnumField_noPanic ds reg _ e hreg hl)
    · split at hl <;> simp_all
  · exact map_noPanic (buildScalar_noPanic kind e key)

/-- `propertyPlan` by cardinality: what is built, and how the property wraps it -/
theorem propertyPlan_ok {f : FieldD} {kind : PKind} {t : Target} {e : Ext} {key : Option KeySum}
    {mk : RField → RProp} (h : propertyPlan f = .ok (kind, t, e, key, mk)) :
    ∃ req opt wrap, mk = (fun s => ⟨f.jsonName, req, opt, [f.number], wrap s⟩) ∧
      ((f.card = .list ∧ kind = f.kind ∧ t = f.target ∧ wrap = .array) ∨
       (f.card = .map ∧ wrap = .map ∧ ∃ vkey, f.mapVal = some (kind, t, vkey)) ∨
       (f.card = .single ∧ kind = f.kind ∧ t = f.target ∧ wrap = id)) := by
  unfold propertyPlan at h
  simp only at h
  split at h
  · rename_i hc
    cases h
    exact ⟨_, _, _, rfl, Or.inl ⟨hc, rfl, rfl, rfl⟩⟩
  · rename_i hc
    obtain ⟨_, h⟩ := ite_eq_ok h
    split at h
    · cases h
    · rename_i hmv
      cases h
      exact ⟨_, _, _, rfl, Or.inr (Or.inl ⟨hc, rfl, _, hmv⟩)⟩
  · rename_i hc
    cases h
    exact ⟨_, _, _, rfl, Or.inr (Or.inr ⟨hc, rfl, rfl, rfl⟩)⟩

/-- the one panic arm of `propertyPlan` is a map field without value descriptor, which
`fieldLinked` excludes -/
theorem propertyPlan_noPanic {ds : DescSet} {f : FieldD} (hl : fieldLinked ds f = true) :
    ∀ w, propertyPlan f ≠ .panic w := by
  intro w
  unfold propertyPlan
  split
  · simp
  · rename_i hc
    split
    · simp
    · cases hmv : f.mapVal with
      | none => simp [fieldLinked, hc, hmv] at hl
      | some v => simp
  · simp

theorem buildProperty_noPanic (ds : DescSet) (reg : Reg) (f : FieldD) (hreg : RegOK ds reg)
    (hl : fieldLinked ds f = true) : ∀ w, buildProperty ds reg f ≠ .panic w := by
  unfold buildProperty
  refine bind_noPanic (propertyPlan_noPanic hl) fun ⟨kind, t, e, key, mk⟩ ha =>
    map_noPanic (buildSchema_noPanic ds reg kind t e key hreg ?_)
  · unfold fieldLinked at hl
    obtain ⟨_, _, _, _, ⟨hc, rfl, rfl, _⟩ | ⟨hc, _, _, hmv⟩ | ⟨hc, rfl, rfl, _⟩⟩ := propertyPlan_ok ha
    · simpa [hc] using hl
    · simpa [hc, hmv] using hl
    · simpa [hc] using hl

/-! ## what closing and entering a frame do -/

/-- the `set`s `finish` makes for the exposed oneofs of a frame -/
def exposeSets (fr : Frame) : List RegOp :=
  fr.expose.map fun x => .set fr.msg.pkg x.2.1.split (.oneof fr.msg.pkg x.2.1.split x.2.2)

/-- a frame is closed only with distinct property names (its own and each exposed oneof's); the
updates set the exposed oneofs and then the frame's own schema, a oneof or an object -/
theorem finish_ok {fr : Frame} {ops : List RegOp} (h : finish fr = .ok ops) :
    (fr.props.map (·.json)).Nodup ∧ (∀ x ∈ fr.expose, (x.2.2.map (·.json)).Nodup) ∧
    ∃ root, ops = exposeSets fr ++ [.set fr.msg.pkg fr.msg.split root] ∧
      ((fr.asOneof = true ∧ root = .oneof fr.msg.pkg fr.msg.split fr.props) ∨
       (fr.asOneof = false ∧ ∃ en am, root = .object fr.msg.pkg fr.msg.split en am fr.props)) := by
  unfold finish at h
  obtain ⟨_, h⟩ := ite_eq_ok h
  obtain ⟨hu, h⟩ := ite_eq_ok h
  obtain ⟨he, h⟩ := ite_eq_ok h
  obtain ⟨_, h⟩ := ite_eq_ok h
  refine ⟨by simpa [namesUnique] using hu, fun x hx => ?_, ?_⟩
  · simp only [List.any_eq_true, Bool.not_eq_true', not_exists, not_and] at he
    simpa [namesUnique] using he x hx
  · simp only at h
    split at h
    · rename_i ho
      cases h
      exact ⟨_, rfl, Or.inl ⟨ho, rfl⟩⟩
    · rename_i ho
      split at h
      · cases h
      · cases h
      · cases h
        exact ⟨_, rfl, Or.inr ⟨by simpa using ho, _, _, rfl⟩⟩

theorem finish_noPanic (fr : Frame) : ∀ w, finish fr ≠ .panic w := by
  unfold finish
  cases hp : findPSM fr.msg with
  | panic w' => exact absurd hp (findPSM_noPanic _ _)
  | _ => exact noPanic_iff.mpr (by simp)

/-- the `link` `exposeOneofs` makes for an exposed oneof -/
def exposeLink (m : Msg) (o : OneofD) : RegOp :=
  .link m.pkg o.split (m.full ++ "." ++ o.name) (.oneof m.pkg o.split [])

/-- the exposed oneofs start empty, each is linked once, and under a name it then owns -/
theorem exposeOneofs_ok {m : Msg} {reg : Reg} {i : Nat} {os : List OneofD}
    {ex : List (Nat × OneofD × List RProp)} {ops : List RegOp}
    (h : exposeOneofs m reg i os = .ok (ex, ops)) :
    (∀ x ∈ ex, x.2.1 ∈ os ∧ x.2.2 = []) ∧ ops = ex.map (fun x => exposeLink m x.2.1) ∧
    ∀ x ∈ ex, Owns (reg.applyAll ops) m.pkg x.2.1.split (m.full ++ "." ++ x.2.1.name) := by
  induction os generalizing reg i ex ops with
  | nil => cases h; exact ⟨nofun, rfl, nofun⟩
  | cons o os ih =>
    unfold exposeOneofs at h
    split at h
    · obtain ⟨h1, h2, h3⟩ := ih h
      exact ⟨fun x hx => ⟨List.mem_cons_of_mem _ (h1 x hx).1, (h1 x hx).2⟩, h2, h3⟩
    · obtain ⟨hhas, h⟩ := ite_eq_ok h
      simp only at h
      split at h
      · rename_i ex' ops' hrec
        obtain ⟨h1, h2, h3⟩ := ih hrec
        cases h
        refine ⟨?_, by rw [h2]; rfl, ?_⟩
        · intro x hx
          rcases List.mem_cons.mp hx with rfl | hx'
          · exact ⟨List.mem_cons_self .., rfl⟩
          · exact ⟨List.mem_cons_of_mem _ (h1 x hx').1, (h1 x hx').2⟩
        · intro x hx
          rcases List.mem_cons.mp hx with rfl | hx'
          · exact (Owns.link_new reg _ _ _ _ (find_none_of_has hhas)).applyAll ops'
          · exact h3 x hx'
      · cases h
      · cases h

theorem exposeOneofs_noPanic (m : Msg) (reg : Reg) (i : Nat) (os : List OneofD) :
    ∀ w, exposeOneofs m reg i os ≠ .panic w := by
  induction os generalizing reg i with
  | nil => simp [exposeOneofs]
  | cons o os ih =>
    intro w
    unfold exposeOneofs
    split
    · exact ih _ _ w
    · split
      · simp
      · simp only
        split
        · simp
        · simp
        · rename_i w' hw'; exact absurd hw' (ih _ _ w')

/-- a fresh frame: all fields to go, nothing collected, the exposed oneofs linked and owned -/
theorem enter_ok {m : Msg} {reg : Reg} {fr : Frame} {ops : List RegOp}
    (h : enter m reg = .ok (fr, ops)) :
    fr.msg = m ∧ fr.asOneof = isOneofWrapper m ∧ fr.rest = m.fields ∧ fr.props = [] ∧
    (∀ x ∈ fr.expose, x.2.1 ∈ m.oneofs ∧ x.2.2 = []) ∧
    ops = fr.expose.map (fun x => exposeLink m x.2.1) ∧
    ∀ x ∈ fr.expose, Owns (reg.applyAll ops) m.pkg x.2.1.split (m.full ++ "." ++ x.2.1.name) := by
  unfold enter at h
  split at h
  · rename_i ex ops' hex
    cases h
    exact ⟨rfl, rfl, rfl, rfl, exposeOneofs_ok hex⟩
  · cases h
  · cases h

theorem enter_noPanic (m : Msg) (reg : Reg) : ∀ w, enter m reg ≠ .panic w := by
  intro w
  have := exposeOneofs_noPanic m reg 0 m.oneofs
  unfold enter
  split <;> simp_all

/-! ## where a property is placed -/

theorem place_oneofs {fr : Frame} {f : FieldD} {prop : RProp} {Q : OneofD → Prop}
    (h : ∀ x ∈ fr.expose, Q x.2.1) : ∀ x ∈ (place fr f prop).expose, Q x.2.1 := by
  have hmap : ∀ i : Nat, ∀ x ∈ (fr.expose.map fun (x : Nat × OneofD × List RProp) =>
      if x.1 == i then (x.1, x.2.1, x.2.2 ++ [prop]) else (x.1, x.2.1, x.2.2)), Q x.2.1 := by
    intro i x hx
    obtain ⟨y, hy, rfl⟩ := List.mem_map.mp hx
    split <;> exact h y hy
  unfold place
  simp only
  split
  · exact h
  · split <;> exact hmap _

/-- what holds of the new property, of the wrapper property of every exposed oneof, and of all
properties collected so far, holds of all properties collected after `place` -/
theorem place_forall {fr : Frame} {f : FieldD} {prop : RProp} {P : RProp → Prop} (hp : P prop)
    (hw : ∀ x ∈ fr.expose, P ⟨x.2.1.jsonName, false, false, [], .oneof ⟨fr.msg.pkg, x.2.1.split⟩⟩)
    (h1 : ∀ q ∈ fr.props, P q) (h2 : ∀ x ∈ fr.expose, ∀ q ∈ x.2.2, P q) :
    (∀ q ∈ (place fr f prop).props, P q) ∧ ∀ x ∈ (place fr f prop).expose, ∀ q ∈ x.2.2, P q := by
  have happ : ∀ (l : List RProp) (p : RProp), (∀ q ∈ l, P q) → P p → ∀ q ∈ l ++ [p], P q := by
    intro l p hl hp q hq
    rcases List.mem_append.mp hq with h | h
    · exact hl q h
    · rw [List.mem_singleton.mp h]; exact hp
  have hmap : ∀ i : Nat, ∀ x ∈ (fr.expose.map fun (x : Nat × OneofD × List RProp) =>
      if x.1 == i then (x.1, x.2.1, x.2.2 ++ [prop]) else (x.1, x.2.1, x.2.2)),
      ∀ q ∈ x.2.2, P q := by
    intro i x hx
    obtain ⟨y, hy, rfl⟩ := List.mem_map.mp hx
    split
    · exact happ _ _ (h2 y hy) hp
    · exact h2 y hy
  unfold place
  simp only
  split
  · exact ⟨happ _ _ h1 hp, h2⟩
  · rename_i i o ps hfind
    have hmem : (i, o, ps) ∈ fr.expose := by
      split at hfind
      · exact List.mem_of_find?_eq_some hfind
      · cases hfind
    split
    · exact ⟨happ _ _ h1 (hw _ hmem), hmap i⟩
    · exact ⟨h1, hmap i⟩


/-! ## induction along `run` -/

/-- the result of `o`, if any, has `P`; and under `N` there is no panic -/
def Yields {α : Type} (P : α → Prop) (N : Prop) (o : Outcome α) : Prop :=
  (∀ a, o = .ok a → P a) ∧ (N → ∀ w, o ≠ .panic w)

section yields
variable {α β : Type} {P : α → Prop} {Q : β → Prop} {N : Prop}

theorem Yields.ok {a : α} (h : P a) : Yields P N (.ok a) :=
  ⟨fun _ h' => by cases h'; exact h, fun _ => nofun⟩

theorem Yields.err {x : String} : Yields P N (.err x) := ⟨nofun, fun _ => nofun⟩

theorem Yields.panic {w : String} (h : ¬N) : Yields P N (.panic w) := ⟨nofun, fun hN => absurd hN h⟩

/-- the rule for every loop below: `P` of the first result is what the rest may start from -/
theorem Yields.bind {x : Outcome α} {f : α → Outcome β} (hx : Yields P N x)
    (hf : ∀ a, P a → Yields Q N (f a)) : Yields Q N (x.bind f) := by
  cases x with
  | ok a => exact hf a (hx.1 a rfl)
  | err e => exact .err
  | panic w => exact .panic fun hN => hx.2 hN w rfl

end yields

/-- an invariant kept by every transition that continues holds where `run` stops, with an empty
stack; and `run` does not panic if no transition out of a state with the invariant crashes -/
theorem run_yields {ds : DescSet} {I : St → Prop} {N : Prop}
    (hI : ∀ s s', I s → Step ds s s' → I s') (hc : N → ∀ s, I s → ∀ w, step ds s ≠ .crash w)
    (st : St) : I st → Yields (fun reg => I ⟨reg, []⟩) N (run ds st) := by
  induction st using run.induct ds with
  | case1 x reg h =>
    intro h0
    rw [run_done ds x reg h]
    obtain ⟨hs, hr⟩ := step_done h
    obtain ⟨xr, xs⟩ := x
    cases hs; cases hr
    exact .ok h0
  | case2 x e h => intro _; rw [run_fail ds x e h]; exact .err
  | case3 x w h => intro h0; rw [run_crash ds x w h]; exact .panic fun hN => hc hN x h0 w h
  | case4 x st' h ih => intro h0; rw [run_cont ds x st' h]; exact ih (hI x st' h0 (step_cont h))

/-! ### from one message to the entry points -/

theorem messagesLoop_cons (ds : DescSet) (reg : Reg) (full : String) (rest : List String) :
    messagesLoop ds reg (full :: rest) =
      match ds.msg? full with
      | none => .panic "message descriptor not in the set"
      | some m => (messageSchema ds reg m).bind (messagesLoop ds · rest) := by
  rw [messagesLoop]
  cases ds.msg? full with
  | none => rfl
  | some m => simp only; cases messageSchema ds reg m <;> rfl

theorem schemaSetFromFiles_eq (ds : DescSet) :
    schemaSetFromFiles ds = (messagesLoop ds [] ds.topMsgs).bind (enumsLoop ds · ds.topEnums) := by
  unfold schemaSetFromFiles; cases messagesLoop ds [] ds.topMsgs <;> rfl

section lift
variable {ds : DescSet} {P : Reg → Prop} {N : Prop}

theorem buildMessage_yields {I : St → Prop} (hI : ∀ s s', I s → Step ds s s' → I s')
    (hc : N → ∀ s, I s → ∀ w, step ds s ≠ .crash w) {reg : Reg} {m : Msg}
    (h0 : ∀ fr ops, enter m (reg.apply (.add m.pkg m.split m.full)) = .ok (fr, ops) →
      I ⟨(reg.apply (.add m.pkg m.split m.full)).applyAll ops, [fr]⟩) :
    Yields (fun reg' => I ⟨reg', []⟩) N (buildMessage ds reg m) := by
  unfold buildMessage
  simp only
  split
  · exact run_yields hI hc _ (h0 _ _ ‹_›)
  · exact .err
  · exact absurd ‹_› (enter_noPanic _ _ _)

theorem messageSchema_yields {reg : Reg} {m : Msg}
    (hb : reg.find m.pkg m.split = none → Yields P N (buildMessage ds reg m)) (h : P reg) :
    Yields P N (messageSchema ds reg m) := by
  unfold messageSchema
  split
  · split
    · exact .err
    · split
      · exact .ok h
      · exact .err
  · exact hb ‹_›

theorem messagesLoop_yields
    (hb : ∀ reg m, P reg → Canon ds m → reg.find m.pkg m.split = none →
      Yields P N (buildMessage ds reg m))
    (names : List String) (hn : N → ∀ full ∈ names, (ds.msg? full).isSome = true) (reg : Reg)
    (h : P reg) : Yields P N (messagesLoop ds reg names) := by
  induction names generalizing reg with
  | nil => exact .ok h
  | cons full rest ih =>
    rw [messagesLoop_cons]
    split
    · rename_i hm
      exact .panic fun hN => by simpa [hm] using hn hN full (List.mem_cons_self ..)
    · rename_i m hm
      exact (messageSchema_yields (hb reg m h (canon_of_find hm).2) h).bind
        (ih fun hN f hf => hn hN f (List.mem_cons_of_mem _ hf))

theorem enumsLoop_yields
    (he : ∀ reg full en r, P reg → ds.enum? full = some en → reg.find en.pkg en.split = none →
      buildEnum en = .ok r → P (reg.apply (.link en.pkg en.split en.full r)))
    (names : List String)
    (hn : N → ∀ full ∈ names,
      (match ds.enum? full with | some en => !en.values.isEmpty | none => false) = true)
    (reg : Reg) (h : P reg) : Yields P N (enumsLoop ds reg names) := by
  induction names generalizing reg with
  | nil => exact .ok h
  | cons full rest ih =>
    have hrest := fun hN f (hf : f ∈ rest) => hn hN f (List.mem_cons_of_mem _ hf)
    unfold enumsLoop
    split
    · rename_i hen
      exact .panic fun hN => by simpa [hen] using hn hN full (List.mem_cons_self ..)
    · rename_i en hen
      split
      · split
        · exact .err
        · exact ih hrest reg h
      · split
        · exact ih hrest _ (he reg full en _ h hen ‹_› ‹_›)
        · exact .err
        · refine .panic fun hN => absurd ‹_› (buildEnum_noPanic en ?_ _)
          simpa [hen] using hn hN full (List.mem_cons_self ..)

theorem schemaSetFromFiles_yields (hl : N → linkedBase ds = true) (h0 : P [])
    (hb : ∀ reg m, P reg → Canon ds m → reg.find m.pkg m.split = none →
      Yields P N (buildMessage ds reg m))
    (he : ∀ reg full en r, P reg → ds.enum? full = some en → reg.find en.pkg en.split = none →
      buildEnum en = .ok r → P (reg.apply (.link en.pkg en.split en.full r))) :
    Yields P N (schemaSetFromFiles ds) := by
  rw [schemaSetFromFiles_eq]
  exact (messagesLoop_yields hb _ (fun hN => (linked_top (hl hN)).1) [] h0).bind
    (enumsLoop_yields he _ fun hN => (linked_top (hl hN)).2)

end lift

end J5V.Schema.Reader
