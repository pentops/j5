import J5V.Go.OutcomeLemmas
import J5V.Schema.Types
import J5V.Go.ListLemmas
/-!
# Model of the schema reader (`lib/j5schema/schema_from_proto.go`, `schema_cache.go`) — C18

Input: an **abstract descriptor set** — exactly the facts of a linked proto3 descriptor set that
the control flow of the reader depends on (names, kinds, cardinalities, oneofs, and the *type
cases* and flags of the three annotation families; rule values themselves never steer control
flow and are left out). Output: the *shape* of the reflected schema set (root kinds, names,
entity marker, any-membership, enum options, per property JSON name / required / optional /
proto path / field shape), an error, or a panic.

Mirrors `SchemaSetFromFiles`, `SchemaSet.messageSchema`, `SchemaCache.Schema` (placeholder
first, roll-back on failure — c032eab), `RefSchema.claim` (af1da62: a schema name registered for
one descriptor cannot be taken by another), `isOneofWrapper`, `buildOneofSchema`,
`buildObjectSchema`, `findPSMOptions`, `messageProperties` (with `assertUniquePropertyNames`,
c679d0c), `getProtoFieldExtensions`, `buildSchemaProperty`, `buildSchema`, `buildScalarType`
(after 2b9baca, 1c09ecf), `buildFromStringProto`, `wktSchema`, `buildMessageFieldSchema`,
`buildEnumFieldSchema`, `buildEnum`; then `ObjectSchema.ClientProperties`
(`lib/j5schema/root_schema.go`: `clientProps`), whose termination measure is a registry, and the
entry points. (`Rules/Reader.lean` models the rule readers of the same Go file for the rule
*values*; no lemma relates the two.)

**Recursion.** The Go reader recurses from a message field into the referenced message after
registering a placeholder. The model is the same depth-first traversal written as an explicit
stack machine (`Frame` = one activation of `messageProperties`): `run` takes one `step` at a
time and terminates by the lexicographic measure (messages of the set whose schema name is not
yet registered, work left on the stack) — no fuel.

Go's partial operations are explicit `.panic` arms: `sourceValues.Get(0)` on an enum without
values, the unchecked type assertion `ref.To.(*EnumSchema)` in `buildEnumFieldSchema`, a message /
enum descriptor that the set does not contain or a field does not carry (impossible for a linked
set: trusted protodesc), and `s.Ref.To.(*ObjectSchema)` in `ClientProperties`.
-/
namespace J5V.Schema.Reader
open J5V.Go J5V.Schema

/-! ## the abstract descriptor set -/

inductive PKind where
  | bool | int32 | sint32 | uint32 | int64 | sint64 | uint64 | fixed32 | fixed64 | sfixed32
  | sfixed64 | float | double | string | bytes | message | enum | group
  deriving DecidableEq, Repr, Inhabited

/-- protoreflect.Kind numbers -/
def PKind.num : PKind → Nat
  | .bool => 8 | .enum => 14 | .int32 => 5 | .sint32 => 17 | .uint32 => 13 | .int64 => 3
  | .sint64 => 18 | .uint64 => 4 | .sfixed32 => 15 | .fixed32 => 7 | .float => 2
  | .sfixed64 => 16 | .fixed64 => 6 | .double => 1 | .string => 9 | .bytes => 12
  | .message => 11 | .group => 10

inductive Card where
  | single | list | map
  deriving DecidableEq, Repr, Inhabited

mutual
/-- `(buf.validate.field)`: required, ignore, and the type case with the flags the reader tests -/
inductive Validate where
  | mk (required : Option Bool) (ignore : Option Nat) (type : VType)
inductive VType where
  | none
  /-- well-known case (`none`, `uuid`, `email`, `hostname`, `ipv4`, `ipv6`, `uri`, `other`) with
  its bool, and the class of the pattern (`none`, `date`, `number`, `id62`, `other`) -/
  | string (wk : String) (wkVal : Bool) (pat : String)
  | bool (hasConst : Bool)
  /-- numeric rules: which case (`int32`, `sint32`, … `double`), const / in / not_in present -/
  | num (case : String) (hasConst hasIn hasNotIn : Bool)
  | bytes
  | enum (ins notIns : List Int)
  | repeated (minItems : Nat) (items : Option Validate)
  | map (values : Option Validate)
  | timestamp (hasConst hasWithin : Bool)
  | duration
  | any
  | other
end

instance : Inhabited Validate := ⟨.mk none none .none⟩

def Validate.required : Validate → Option Bool | .mk r _ _ => r
def Validate.ignore : Validate → Option Nat | .mk _ i _ => i
def Validate.type : Validate → VType | .mk _ _ t => t

/-- `(j5.list.v1.field)`: type case; for strings the well-known case (`open_text`, `date`,
`foreign_key`) and the foreign-key type (`unique_string`, `uuid`, `id62`) -/
structure ListSum where
  case : String
  sw : String
  fk : String
  deriving DecidableEq, Repr, Inhabited

/-- `(j5.ext.v1.field)`: type case, flatten (message / object), key type and format number -/
structure J5Sum where
  case : String
  flatten : Bool
  keyType : String
  keyFormat : Int
  deriving DecidableEq, Repr, Inhabited

/-- `(j5.ext.v1.key)` -/
structure KeySum where
  primary : Bool
  hasFk : Bool
  deriving DecidableEq, Repr, Inhabited

inductive Target where
  | none
  | msg (full pkg split : String)
  | enum (full pkg split : String)
  deriving DecidableEq, Repr, Inhabited

structure FieldD where
  name : String
  jsonName : String
  number : Int
  kind : PKind
  card : Card
  /-- index of the containing oneof, -1 for none -/
  oneofIdx : Int
  target : Target
  optionalKw : Bool
  validate : Option Validate
  list : Option ListSum
  j5 : Option J5Sum
  key : Option KeySum
  /-- map fields: key kind, value kind, value target, `(j5.ext.v1.key)` of the value field -/
  mapKey : Option PKind
  mapVal : Option (PKind × Target × Option KeySum)
  deriving Inhabited

structure OneofD where
  name : String
  split : String
  /-- `strcase.ToLowerCamel(name)` (shipped by the harness; iancoleman/strcase is trusted) -/
  jsonName : String
  synthetic : Bool
  /-- `none` (no `(j5.ext.v1.oneof)`), `expose`, `hide` -/
  ext : String
  deriving DecidableEq, Repr, Inhabited

structure PsmSum where
  entityName : String
  part : Option Int
  deriving DecidableEq, Repr, Inhabited

structure MOpt where
  isOneofWrapper : Bool
  /-- `none`, `object`, `oneof` -/
  typeCase : String
  anyMember : List String
  deriving DecidableEq, Repr, Inhabited

structure EnumD where
  full : String
  pkg : String
  name : String
  split : String
  noDefault : Bool
  values : List (String × Int)
  deriving DecidableEq, Repr, Inhabited

structure Msg where
  full : String
  pkg : String
  name : String
  split : String
  mopt : Option MOpt
  psm : Option PsmSum
  /-- the field called `keys`: `nofield`, `nomsg` (not a message), `msg` -/
  legacyKind : String
  legacy : Option PsmSum
  oneofs : List OneofD
  fields : List FieldD
  deriving Inhabited

structure DescSet where
  /-- file-level messages / enums of the included files, in `SchemaSetFromFiles` order -/
  topMsgs : List String
  topEnums : List String
  /-- every message (nested ones too, map entries excluded), in declaration order -/
  allMsgs : List String
  msgs : List Msg
  enums : List EnumD
  deriving Inhabited

def DescSet.msg? (ds : DescSet) (full : String) : Option Msg := ds.msgs.find? (·.full == full)
def DescSet.enum? (ds : DescSet) (full : String) : Option EnumD := ds.enums.find? (·.full == full)

/-! ## the reflected shape -/

inductive RField where
  | scalar (tag : STag) (fmt : Nat) (kind : Nat) (wkt : String)
  | any
  | enum (ref : Ref)
  | object (ref : Ref) (flatten : Bool)
  | oneof (ref : Ref)
  | map (item : RField)
  | array (item : RField)
  deriving DecidableEq, Repr, Inhabited

structure RProp where
  json : String
  required : Bool
  optional : Bool
  path : List Int
  schema : RField
  deriving DecidableEq, Repr, Inhabited

inductive RRoot where
  | object (pkg name : String) (entity : Option (String × Int)) (anyMember : List String)
      (props : List RProp)
  | oneof (pkg name : String) (props : List RProp)
  | enum (pkg name pfx : String) (options : List (String × Int))
  deriving DecidableEq, Repr, Inhabited

/-- a `RefSchema` of the package set; `src` is the full proto name of the descriptor it was
registered for (what `RefSchema.claim` compares) -/
structure REntry where
  pkg : String
  key : String
  to : Option RRoot
  src : String
  deriving DecidableEq, Repr, Inhabited

abbrev Reg := List REntry

def Reg.find (reg : Reg) (p k : String) : Option REntry :=
  List.find? (fun e => e.pkg == p && e.key == k) reg

def Reg.has (reg : Reg) (p k : String) : Bool := (reg.find p k).isSome

/-- registry updates, applied in order -/
inductive RegOp where
  /-- `refTo` on a missing key: register an unlinked placeholder -/
  | add (p k src : String)
  /-- `ref.To = root` -/
  | set (p k : String) (root : RRoot)
  /-- `refTo` on a missing key immediately followed by `ref.To = root` (enums, exposed oneofs) -/
  | link (p k src : String) (root : RRoot)
  deriving DecidableEq, Repr, Inhabited

def Reg.apply (reg : Reg) : RegOp → Reg
  | .add p k src => if reg.has p k then reg else reg ++ [⟨p, k, none, src⟩]
  | .set p k root => reg.map fun e => if e.pkg == p && e.key == k then { e with to := some root } else e
  | .link p k src root => if reg.has p k then reg else reg ++ [⟨p, k, some root, src⟩]

def Reg.applyAll (reg : Reg) (ops : List RegOp) : Reg := ops.foldl Reg.apply reg

/-! ## annotations -/

/-- `getProtoFieldExtensions`: with `ignore` set to anything but ALWAYS (3) a repeated
constraint is replaced by its items; a missing constraint is the empty one -/
def effective (v : Option Validate) : Validate :=
  match v with
  | none => .mk none none .none
  | some (.mk req (some ig) ty) =>
    if ig ≠ 3 then
      match ty with
      | .repeated _ items => items.getD (.mk none none .none)
      | _ => .mk req (some ig) ty
    else .mk req (some ig) ty
  | some v => v

/-- the extensions handed to `buildSchema` -/
structure Ext where
  validate : Option Validate
  list : Option ListSum
  j5 : Option J5Sum
  deriving Inhabited

def Ext.vtype (e : Ext) : VType :=
  match e.validate with
  | some v => v.type
  | none => .none

def isRequired (v : Validate) : Bool := v.required == some true

/-! ## scalars -/

/-- the `const` / `in` / `not_in` rejections of the numeric arms; `getter` is the rule case the
arm looks at (`ext.validate.GetInt32()` for int32 *and* sint32, …) -/
def numRules (e : Ext) (getter : String) : Outcome Unit :=
  match e.vtype with
  | .num c hc hi hn =>
    if c == getter then
      if hc then .err "'const' not supported"
      else if hi then .err "'in' not supported"
      else if hn then .err "'notIn' not supported"
      else .ok ()
    else .ok ()
  | _ => .ok ()

/-- the format a pattern stands for (`wellKnownStringPatterns`) -/
def patternFormat (pat : String) : Option String :=
  if pat == "date" then some "date" else if pat == "number" then some "number"
  else if pat == "id62" then some "id62" else none

/-- `hasOwnPattern` of `buildFromStringProto` (b1eebc1): the field names its J5 type in
`(j5.ext.v1.field)` — a string, or a key with its own pattern — so its validate pattern is not
re-read through `wellKnownStringPatterns` -/
def ownPattern (j5 : Option J5Sum) : Bool :=
  match j5 with
  | some j => j.case == "string" || (j.case == "key" && j.keyType == "pattern")
  | none => false

/-- `buildFromStringProto`, validate part: (format, looksLikeKey) -/
def stringValidate (v : Option Validate) (own : Bool) : Outcome (Option String × Bool) :=
  match v with
  | none => .ok (none, false)
  | some val =>
    match val.type with
    | .none => .ok (none, false)
    | .string wk wkVal pat =>
      let fmt0 := if own then none else patternFormat pat
      if wk == "none" then .ok (fmt0, false)
      else if wk == "uuid" then .ok (if wkVal then some "uuid" else fmt0, true)
      else if wk == "email" then .ok (if wkVal then some "email" else fmt0, false)
      else if wk == "hostname" then .ok (if wkVal then some "hostname" else fmt0, false)
      else if wk == "ipv4" then .ok (if wkVal then some "ipv4" else fmt0, false)
      else if wk == "ipv6" then .ok (if wkVal then some "ipv6" else fmt0, false)
      else if wk == "uri" then .ok (if wkVal then some "uri" else fmt0, false)
      else .err "unknown string constraint"
    | _ => .err "constraint for string is of another type"

/-- `buildFromStringProto`, `(j5.list.v1.field).string.foreign_key` part: the format afterwards -/
def stringForeignKey (fmt1 : Option String) (sw fk : String) : Outcome (Option String) :=
  if sw == "foreign_key" then
    if fk == "unique_string" then
      (match fmt1 with
        | some _ => .err "format not compatible with list.unique_string"
        | none => .ok (some "natural_key"))
    else if fk == "id62" then
      (match fmt1 with
        | some f => if f == "id62" then .ok fmt1 else .err "format not compatible with list.id62"
        | none => .ok (some "id62"))
    else if fk == "uuid" then
      (match fmt1 with
        | some f => if f == "uuid" then .ok fmt1 else .err "format not compatible with list.uuid"
        | none => .ok (some "uuid"))
    else .ok fmt1
  else .ok fmt1

/-- `buildFromStringProto`, open_text part -/
def stringOpenText (sw : String) (fmt2 : Option String) (key : Option KeySum) : Outcome Unit :=
  if sw == "open_text" then
    if fmt2.isSome then .err "open_text and format do not match"
    else if key.isSome then .err "open_text and key constraint do not match"
    else .ok ()
  else .ok ()

/-- `buildFromStringProto`, the final decision string / key -/
def stringKind (like : Bool) (keyOpt : Option J5Sum) : Outcome STag :=
  if !like then .ok .string
  else
    match keyOpt with
    | some j =>
      if j.keyType == "format" then
        if j.keyFormat == 3 || j.keyFormat == 2 then .ok .key else .err "unknown key format"
      else .ok .key
    | none => .ok .key

/-- `buildFromStringProto`: string or key, or an error -/
def buildString (e : Ext) (key : Option KeySum) : Outcome STag :=
  (stringValidate e.validate (ownPattern e.j5)).bind fun (fmt1, like1) =>
    let (sw, fk) : String × String :=
      match e.list with
      | some l => if l.case == "string" then (l.sw, l.fk) else ("none", "none")
      | none => ("none", "none")
    let fkKnown := sw == "foreign_key" && (fk == "unique_string" || fk == "id62" || fk == "uuid")
    (stringForeignKey fmt1 sw fk).bind fun fmt2 =>
      (stringOpenText sw fmt2 key).bind fun _ =>
        let keyOpt : Option J5Sum :=
          match e.j5 with
          | some j => if j.case == "key" then some j else none
          | none => none
        stringKind (like1 || fkKnown || key.isSome || fmt2 == some "id62" || keyOpt.isSome) keyOpt

-- the format numbers are `IntegerField.Format` / `FloatField.Format` of `j5/schema/v1/schema.proto`
/-- `buildScalarType` (shape: the J5 scalar arm and its integer / float format) -/
def buildScalar (kind : PKind) (e : Ext) (key : Option KeySum) : Outcome (STag × Nat) :=
  match kind with
  | .string => (buildString e key).map fun t => (t, 0)
  | .bool => .ok (.bool, 0)
  | .int32 | .sint32 => (numRules e "int32").map fun _ => (.integer, 1)
  | .uint32 => (numRules e "uint32").map fun _ => (.integer, 3)
  | .int64 | .sint64 => (numRules e "int64").map fun _ => (.integer, 2)
  | .uint64 => (numRules e "uint64").map fun _ => (.integer, 4)
  | .float => (numRules e "float").map fun _ => (.float, 1)
  | .double => (numRules e "double").map fun _ => (.float, 2)
  | .bytes => .ok (.bytes, 0)
  | _ => .err "unsupported field type"

/-- the full names `wktSchema` knows -/
def isWkt (full : String) : Bool :=
  full == "google.protobuf.Timestamp" ||
  full == "j5.types.date.v1.Date" || full == "j5.types.decimal.v1.Decimal" ||
  full == "j5.types.any.v1.Any" || full == "google.protobuf.Any"

/-- `wktSchema`: `none` = not a well-known type. `google.protobuf.Duration` and
`google.protobuf.Struct` have no case (Go commits d5cc948, 98dc738): like every other
`google.protobuf.*` message they are "unsupported google type" in `referenceMessage`. (`11` = `PKind.message.num`.) -/
def wktSchema (full : String) (e : Ext) : Outcome (Option RField) :=
  if full == "google.protobuf.Timestamp" then
    match e.vtype with
    | .timestamp hc hw =>
      if hc then .err "'const' not supported for Timestamp"
      else if hw then .err "'within' not supported for Timestamp"
      else .ok (some (.scalar .timestamp 0 0 full))
    | _ => .ok (some (.scalar .timestamp 0 0 full))
  else if full == "j5.types.date.v1.Date" then .ok (some (.scalar .date 0 11 full))
  else if full == "j5.types.decimal.v1.Decimal" then .ok (some (.scalar .decimal 0 11 full))
  else if full == "j5.types.any.v1.Any" || full == "google.protobuf.Any" then .ok (some .any)
  else .ok none

/-- a message-kind field whose target is neither well-known nor an (unsupported) google type:
the reader looks the descriptor up and builds its schema -/
def needsLookup (full : String) : Bool := !isWkt full && !full.startsWith "google.protobuf."

/-! ## enums -/

/-- `strings.TrimPrefix` -/
def trimPrefix (s pfx : String) : String := if s.startsWith pfx then (s.drop pfx.length).toString else s

/-- `buildEnum` -/
def buildEnum (en : EnumD) : Outcome RRoot :=
  match en.values with
  | [] => .panic "index out of range: enum without values"
  | (first, _) :: _ =>
    if !first.endsWith "UNSPECIFIED" then .err "enum does not have an unspecified value"
    else
      let pfx := (first.dropEnd "UNSPECIFIED".length).toString
      let opts := en.values.map fun (n, i) => (trimPrefix n pfx, i)
      let opts := if en.noDefault then opts.drop 1 else opts
      .ok (.enum en.pkg en.split pfx opts)

/-- `OptionByNumber` -/
def optionByNumber (opts : List (String × Int)) (n : Int) : Bool := opts.any fun (_, i) => i == n

/-- the `in` / `not_in` translation of `buildEnumFieldSchema` -/
def enumRules (opts : List (String × Int)) (ins notIns : List Int) : Outcome Unit :=
  if ins.any fun n => !optionByNumber opts n then .err "enum value not found"
  else if notIns.any fun n => !optionByNumber opts n && n != 0 then .err "enum value not found"
  else .ok ()

/-- `ref, didExist := newRefPlaceholder(…); if !didExist { built, err := buildEnum(…); ref.To = built }`:
the target the reference has afterwards, and the registry update -/
def enumTarget (reg : Reg) (full : String) (en : EnumD) : Outcome (Option RRoot × List RegOp) :=
  match reg.find en.pkg en.split with
  | some ent =>
    -- ref.claim(descriptor)
    if ent.src != en.full then .err "schema name is used by two descriptors"
    else .ok (ent.to, [])
  | none => (buildEnum en).map fun r => (some r, [.link en.pkg en.split en.full r])

/-- `enumSchema := ref.To.(*EnumSchema)` and the rule translation -/
def enumCheck (to : Option RRoot) (vt : VType) : Outcome Unit :=
  match vt with
  | .enum ins notIns =>
    match to with
    | some (.enum _ _ _ opts) => enumRules opts ins notIns
    | some _ => .panic "interface conversion: RootSchema is not *EnumSchema"
    | none => .panic "interface conversion: RootSchema is nil, not *EnumSchema"
  | _ => .ok ()

/-- `buildEnumFieldSchema`: the registry updates and the field shape. The schema name is that of
the enum descriptor (`splitDescriptorName(src.Enum())`). -/
def buildEnumField (ds : DescSet) (reg : Reg) (full : String) (e : Ext) :
    Outcome (RField × List RegOp) :=
  match ds.enum? full with
  | none => .panic "enum descriptor not in the set"
  | some en =>
    (enumTarget reg full en).bind fun (to, ops) =>
      (enumCheck to e.vtype).map fun _ => (.enum ⟨en.pkg, en.split⟩, ops)

/-! ## messages -/

/-- `isOneofWrapper` -/
def isOneofWrapper (m : Msg) : Bool :=
  let byOpt : Option Bool :=
    match m.mopt with
    | some o =>
      if o.isOneofWrapper then some true
      else if o.typeCase == "oneof" then some true
      else if o.typeCase == "object" then some false
      else none
    | none => none
  match byOpt with
  | some b => b
  | none =>
    match m.oneofs with
    | [o] =>
      if o.synthetic then false
      else if o.name != "type" then false
      else if o.ext != "none" then false
      else m.fields.all fun f => f.oneofIdx == 0 && f.kind == .message
    | _ => false

-- the parts are `EntityPart` of `j5/schema/v1/schema.proto` (KEYS = 1 … DATA = 4)
/-- `findPSMOptions` -/
def findPSM (m : Msg) : Outcome (Option (String × Int)) :=
  let psm : Option PsmSum :=
    match m.psm with
    | some p => some p
    | none => if m.legacyKind == "msg" then m.legacy else none
  match psm with
  | none => .ok none
  | some p =>
    match p.part with
    | some part => .ok (some (p.entityName, part))
    | none =>
      if m.name.endsWith "Keys" then .ok (some (p.entityName, 1))
      else if m.name.endsWith "State" then .ok (some (p.entityName, 2))
      else if m.name.endsWith "Event" then .ok (some (p.entityName, 3))
      else if m.name.endsWith "Data" then .ok (some (p.entityName, 4))
      else .err "unknown PSM type suffix"

/-- the outcome of building one field schema: the shape, registry updates, and the message whose
schema must be built next (`buildMessageFieldSchema` on a name not yet registered) -/
structure Built where
  schema : RField
  ops : List RegOp
  push : Option Msg
  deriving Inhabited

/-- the part of `buildMessageFieldSchema` after the well-known types: look the message up and
reference it, registering a placeholder (and asking for its schema) when the name is free. The
schema name is that of the descriptor itself (`splitDescriptorName(msg)`). -/
def referenceMessage (ds : DescSet) (reg : Reg) (full : String) (flatten : Bool) : Outcome Built :=
  if full.startsWith "google.protobuf." then .err "unsupported google type"
  else
    match ds.msg? full with
    | none => .panic "message descriptor not in the set"
    | some m =>
      let f : RField :=
        if isOneofWrapper m then .oneof ⟨m.pkg, m.split⟩ else .object ⟨m.pkg, m.split⟩ flatten
      match reg.find m.pkg m.split with
      | some ent =>
        -- ref.claim(descriptor)
        if ent.src != m.full then .err "schema name is used by two descriptors"
        else .ok ⟨f, [], none⟩
      | none => .ok ⟨f, [.add m.pkg m.split m.full], some m⟩

/-- `buildMessageFieldSchema` -/
def buildMessageField (ds : DescSet) (reg : Reg) (full : String) (e : Ext) : Outcome Built :=
  let flatten : Bool :=
    match e.j5 with
    | some j => (j.case == "message" || j.case == "object") && j.flatten
    | none => false
  (wktSchema full e).bind fun w =>
    match w with
    | some f => .ok ⟨f, [], none⟩
    | none => referenceMessage ds reg full flatten

/-- `buildSchema` -/
def buildSchema (ds : DescSet) (reg : Reg) (kind : PKind) (target : Target) (e : Ext)
    (key : Option KeySum) : Outcome Built :=
  match kind with
  | .message =>
    match target with
    | .msg full _ _ => buildMessageField ds reg full e
    | _ => .panic "message field without message descriptor"
  | .enum =>
    match target with
    | .enum full _ _ => (buildEnumField ds reg full e).map fun (f, ops) => ⟨f, ops, none⟩
    | _ => .panic "enum field without enum descriptor"
  | _ => (buildScalar kind e key).map fun (tag, fmt) => ⟨.scalar tag fmt kind.num "", [], none⟩

/-- the arguments of the `buildSchema` call for one field of `messageProperties`, and how the
property is assembled from the resulting schema; a map whose key is not a string is the error
"map keys must be strings for J5" -/
def propertyPlan (f : FieldD) :
    Outcome (PKind × Target × Ext × Option KeySum × (RField → RProp)) :=
  let ev := effective f.validate
  match f.card with
  | .list =>
    let childV : Option Validate :=
      match ev.type with
      | .repeated _ items => items
      | _ => none
    .ok (f.kind, f.target, ⟨childV, f.list, none⟩, f.key,
      fun s => ⟨f.jsonName, isRequired ev, false, [f.number], .array s⟩)
  | .map =>
    if f.mapKey != some .string then .err "map keys must be strings for J5"
    else
      match f.mapVal with
      | none => .panic "map field without value descriptor"
      | some (vk, vt, vkey) =>
        let childV : Option Validate :=
          match ev.type with
          | .map values => values
          | _ => none
        .ok (vk, vt, ⟨childV, none, none⟩, vkey,
          fun s => ⟨f.jsonName, isRequired ev, false, [f.number], .map s⟩)
  | .single =>
    let req := isRequired ev
    .ok (f.kind, f.target, ⟨some ev, f.list, f.j5⟩, f.key,
      fun s => ⟨f.jsonName, req, !req && f.optionalKw, [f.number], s⟩)

/-- one field of `messageProperties`: the property and what `buildSchema` asked for -/
def buildProperty (ds : DescSet) (reg : Reg) (f : FieldD) : Outcome (RProp × Built) :=
  (propertyPlan f).bind fun (kind, target, ext, key, mk) =>
    (buildSchema ds reg kind target ext key).map fun b => (mk b.schema, b)

/-- what a successful `buildProperty` went through -/
theorem buildProperty_ok {ds : DescSet} {reg : Reg} {f : FieldD} {prop : RProp} {b : Built}
    (h : buildProperty ds reg f = .ok (prop, b)) :
    ∃ kind target ext key mk, propertyPlan f = .ok (kind, target, ext, key, mk) ∧
      buildSchema ds reg kind target ext key = .ok b ∧ prop = mk b.schema := by
  unfold buildProperty at h
  obtain ⟨⟨kind, target, ext, key, mk⟩, hplan, h2⟩ := bind_eq_ok h
  obtain ⟨b', hb, h3⟩ := map_eq_ok h2
  cases h3
  exact ⟨kind, target, ext, key, mk, hplan, hb, rfl⟩

/-! ## the stack machine -/

/-- one activation of `buildObjectSchema` / `buildOneofSchema` + `messageProperties` -/
structure Frame where
  msg : Msg
  asOneof : Bool
  rest : List FieldD
  props : List RProp
  /-- exposed oneofs (by index in `msg.oneofs`) with the properties collected so far -/
  expose : List (Nat × OneofD × List RProp)
  /-- exposed oneofs whose wrapper property has not been added yet -/
  pending : List Nat
  deriving Inhabited

structure St where
  reg : Reg
  stack : List Frame
  deriving Inhabited

def namesUnique (ps : List RProp) : Bool := (ps.map (·.json)).Nodup

instance : DecidablePred fun (l : List String) => l.Nodup := fun _ => inferInstance

/-- the first loop of `messageProperties`: register every exposed oneof -/
def exposeOneofs (m : Msg) (reg : Reg) : Nat → List OneofD →
    Outcome (List (Nat × OneofD × List RProp) × List RegOp)
  | _, [] => .ok ([], [])
  | i, o :: os =>
    if o.synthetic || o.ext != "expose" then exposeOneofs m reg (i + 1) os
    else if reg.has m.pkg o.split then .err "placeholder already exists for oneof wrapper"
    else
      let op := RegOp.link m.pkg o.split (m.full ++ "." ++ o.name) (.oneof m.pkg o.split [])
      match exposeOneofs m (reg.apply op) (i + 1) os with
      | .ok (ex, ops) => .ok ((i, o, []) :: ex, op :: ops)
      | .err x => .err x
      | .panic w => .panic w

/-- enter a message whose placeholder has just been registered -/
def enter (m : Msg) (reg : Reg) : Outcome (Frame × List RegOp) :=
  match exposeOneofs m reg 0 m.oneofs with
  | .ok (ex, ops) => .ok (⟨m, isOneofWrapper m, m.fields, [], ex, ex.map (·.1)⟩, ops)
  | .err x => .err x
  | .panic w => .panic w

/-- `ObjectProperty.checkValid` -/
def propsValid (ps : List RProp) : Bool := ps.all fun p => p.json != ""

/-- the end of `messageProperties` and of `buildObjectSchema` / `buildOneofSchema` -/
def finish (fr : Frame) : Outcome (List RegOp) :=
  if !fr.pending.isEmpty then .err "oneof has not been added"
  else if !namesUnique fr.props then .err "duplicate property name"
  else if fr.expose.any fun (_, _, ps) => !namesUnique ps then .err "duplicate property name"
  else if !propsValid fr.props then .err "property has no JSON name"
  else
    let exposeOps := fr.expose.map fun (_, o, ps) => RegOp.set fr.msg.pkg o.split (.oneof fr.msg.pkg o.split ps)
    if fr.asOneof then
      .ok (exposeOps ++ [.set fr.msg.pkg fr.msg.split (.oneof fr.msg.pkg fr.msg.split fr.props)])
    else
      match findPSM fr.msg with
      | .err x => .err x
      | .panic w => .panic w
      | .ok entity =>
        let anyMember : List String :=
          match fr.msg.mopt with
          | some o => if o.typeCase == "object" then o.anyMember else []
          | none => []
        .ok (exposeOps ++
          [.set fr.msg.pkg fr.msg.split (.object fr.msg.pkg fr.msg.split entity anyMember fr.props)])

/-- where a freshly built property goes: into an exposed oneof (adding the oneof's own property
on the first member) or straight into the message -/
def place (fr : Frame) (f : FieldD) (prop : RProp) : Frame :=
  let inExposed : Option (Nat × OneofD × List RProp) :=
    if f.card == .single && f.oneofIdx ≥ 0 then
      fr.expose.find? fun (i, _, _) => (i : Int) == f.oneofIdx
    else none
  match inExposed with
  | none => { fr with props := fr.props ++ [prop] }
  | some (i, o, _) =>
    let expose := fr.expose.map fun (j, o', ps) => if j == i then (j, o', ps ++ [prop]) else (j, o', ps)
    if fr.pending.contains i then
      { fr with expose := expose, pending := fr.pending.erase i,
                props := fr.props ++ [⟨o.jsonName, false, false, [], .oneof ⟨fr.msg.pkg, o.split⟩⟩] }
    else { fr with expose := expose }

inductive StepR where
  | cont (st : St)
  | done (reg : Reg)
  | fail (e : String)
  | crash (w : String)

/-- one transition of the reader -/
def step (ds : DescSet) (st : St) : StepR :=
  match st.stack with
  | [] => .done st.reg
  | fr :: below =>
    match fr.rest with
    | [] =>
      match finish fr with
      | .ok ops => .cont ⟨st.reg.applyAll ops, below⟩
      | .err x => .fail x
      | .panic w => .crash w
    | f :: fs =>
      match buildProperty ds st.reg f with
      | .err x => .fail x
      | .panic w => .crash w
      | .ok (prop, b) =>
        let fr' := place { fr with rest := fs } f prop
        let reg' := st.reg.applyAll b.ops
        match b.push with
        | none => .cont ⟨reg', fr' :: below⟩
        | some m =>
          match enter m reg' with
          | .ok (child, ops) => .cont ⟨reg'.applyAll ops, child :: fr' :: below⟩
          | .err x => .fail x
          | .panic w => .crash w

/-! ### what the builders return -/

theorem referenceMessage_ok {ds : DescSet} {reg : Reg} {full : String} {fl : Bool} {b : Built}
    (h : referenceMessage ds reg full fl = .ok b) :
    ∃ m, ds.msg? full = some m ∧
      b.schema = (if isOneofWrapper m then .oneof ⟨m.pkg, m.split⟩ else .object ⟨m.pkg, m.split⟩ fl) ∧
      ((∃ ent, reg.find m.pkg m.split = some ent ∧ ent.src = m.full ∧ b.ops = [] ∧ b.push = none) ∨
       (reg.find m.pkg m.split = none ∧ b.ops = [.add m.pkg m.split m.full] ∧ b.push = some m)) := by
  unfold referenceMessage at h
  obtain ⟨_, h⟩ := ite_eq_ok h
  split at h
  · cases h
  · rename_i m hm
    refine ⟨m, hm, ?_⟩
    simp only at h
    split at h
    · rename_i ent hf
      obtain ⟨hsrc, h⟩ := ite_eq_ok h
      cases h
      exact ⟨rfl, Or.inl ⟨ent, hf, by simpa using hsrc, rfl, rfl⟩⟩
    · rename_i hf
      cases h
      exact ⟨rfl, Or.inr ⟨hf, rfl, rfl⟩⟩

/-- `buildSchema` by the kind of the field: a well-known or referenced message, an enum, a scalar -/
theorem buildSchema_ok {ds : DescSet} {reg : Reg} {kind : PKind} {t : Target} {e : Ext}
    {key : Option KeySum} {b : Built} (h : buildSchema ds reg kind t e key = .ok b) :
    (∃ full p k, kind = .message ∧ t = .msg full p k ∧
      ((∃ f, wktSchema full e = .ok (some f) ∧ b = ⟨f, [], none⟩) ∨
       (∃ fl, wktSchema full e = .ok none ∧ referenceMessage ds reg full fl = .ok b))) ∨
    (∃ full p k en to, kind = .enum ∧ t = .enum full p k ∧ ds.enum? full = some en ∧
      enumTarget reg full en = .ok (to, b.ops) ∧ enumCheck to e.vtype = .ok () ∧
      b.schema = .enum ⟨en.pkg, en.split⟩ ∧ b.push = none) ∨
    (∃ tag fmt, buildScalar kind e key = .ok (tag, fmt) ∧ b = ⟨.scalar tag fmt kind.num "", [], none⟩) := by
  unfold buildSchema at h
  split at h
  · split at h
    · rename_i full p k
      obtain ⟨w, hw, h⟩ := bind_eq_ok h
      refine Or.inl ⟨full, p, k, rfl, rfl, ?_⟩
      cases w with
      | some f => cases h; exact Or.inl ⟨f, hw, rfl⟩
      | none => exact Or.inr ⟨_, hw, h⟩
    · cases h
  · split at h
    · rename_i full p k
      obtain ⟨⟨f, ops⟩, hf, hx⟩ := map_eq_ok h
      cases hx
      unfold buildEnumField at hf
      split at hf
      · cases hf
      · rename_i en hen
        obtain ⟨⟨to, ops'⟩, ht, h2⟩ := bind_eq_ok hf
        obtain ⟨⟨⟩, hc, hx⟩ := map_eq_ok h2
        cases hx
        exact Or.inr (Or.inl ⟨full, p, k, en, to, rfl, rfl, hen, ht, hc, rfl, rfl⟩)
    · cases h
  · obtain ⟨⟨tag, fmt⟩, hs, hx⟩ := map_eq_ok h
    cases hx
    exact Or.inr (Or.inr ⟨tag, fmt, hs, rfl⟩)

theorem enumTarget_ok {reg : Reg} {full : String} {en : EnumD} {to : Option RRoot} {ops : List RegOp}
    (h : enumTarget reg full en = .ok (to, ops)) :
    (∃ ent, reg.find en.pkg en.split = some ent ∧ ent.src = en.full ∧ to = ent.to ∧ ops = []) ∨
    (∃ r, reg.find en.pkg en.split = none ∧ buildEnum en = .ok r ∧ to = some r ∧
      ops = [.link en.pkg en.split en.full r]) := by
  unfold enumTarget at h
  split at h
  · rename_i ent hf
    obtain ⟨hsrc, h⟩ := ite_eq_ok h
    cases h
    exact Or.inl ⟨ent, hf, by simpa using hsrc, rfl, rfl⟩
  · rename_i hf
    obtain ⟨r, hr, hx⟩ := map_eq_ok h
    cases hx
    exact Or.inr ⟨r, hf, hr, rfl, rfl⟩

/-- the updates one field makes: none; the placeholder of the message it pushes, under a name that
was free; or the link of an enum built on the spot -/
theorem buildProperty_ops {ds : DescSet} {reg : Reg} {f : FieldD} {prop : RProp} {b : Built}
    (h : buildProperty ds reg f = .ok (prop, b)) :
    (b.ops = [] ∧ b.push = none) ∨
    (∃ m full, ds.msg? full = some m ∧ reg.find m.pkg m.split = none ∧
      b.ops = [.add m.pkg m.split m.full] ∧ b.push = some m) ∨
    (∃ en r, en ∈ ds.enums ∧ buildEnum en = .ok r ∧ b.ops = [.link en.pkg en.split en.full r] ∧
      b.push = none) := by
  obtain ⟨kind, target, ext, key, mk, _, hb, _⟩ := buildProperty_ok h
  rcases buildSchema_ok hb with ⟨full, _, _, _, _, ⟨_, _, rfl⟩ | ⟨_, _, hr⟩⟩ |
    ⟨_, _, _, en, _, _, _, hen, ht, _, _, hn⟩ | ⟨_, _, _, rfl⟩
  · exact Or.inl ⟨rfl, rfl⟩
  · obtain ⟨m, hm, _, ⟨_, _, _, ho, hn⟩ | ⟨hf, ho, hn⟩⟩ := referenceMessage_ok hr
    · exact Or.inl ⟨ho, hn⟩
    · exact Or.inr (Or.inl ⟨m, full, hm, hf, ho, hn⟩)
  · rcases enumTarget_ok ht with ⟨_, _, _, _, ho⟩ | ⟨r, _, hr, _, ho⟩
    · exact Or.inl ⟨ho, hn⟩
    · exact Or.inr (Or.inr ⟨en, r, List.mem_of_find?_eq_some hen, hr, ho, hn⟩)
  · exact Or.inl ⟨rfl, rfl⟩

/-! ### the transitions -/

/-- `place` touches the collected properties only -/
theorem place_keeps (fr : Frame) (f : FieldD) (prop : RProp) :
    (place fr f prop).msg = fr.msg ∧ (place fr f prop).asOneof = fr.asOneof ∧
      (place fr f prop).rest = fr.rest := by
  unfold place
  simp only
  split
  · exact ⟨rfl, rfl, rfl⟩
  · split <;> exact ⟨rfl, rfl, rfl⟩

theorem place_msg (fr : Frame) (f : FieldD) (prop : RProp) : (place fr f prop).msg = fr.msg :=
  (place_keeps fr f prop).1

theorem place_asOneof (fr : Frame) (f : FieldD) (prop : RProp) :
    (place fr f prop).asOneof = fr.asOneof :=
  (place_keeps fr f prop).2.1

theorem place_rest (fr : Frame) (f : FieldD) (prop : RProp) : (place fr f prop).rest = fr.rest :=
  (place_keeps fr f prop).2.2

theorem enter_rest (m : Msg) (reg : Reg) (fr : Frame) (ops : List RegOp)
    (h : enter m reg = .ok (fr, ops)) : fr.rest = m.fields := by
  unfold enter at h
  split at h
  · cases h; rfl
  · cases h
  · cases h

/-- the transitions that continue: the top frame is closed; the next field yields a property; or
it yields a property and its message, not seen before, is entered -/
inductive Step (ds : DescSet) : St → St → Prop
  | close {reg fr below ops} (hr : fr.rest = []) (hf : finish fr = .ok ops) :
      Step ds ⟨reg, fr :: below⟩ ⟨reg.applyAll ops, below⟩
  | field {reg fr below f fs prop b} (hr : fr.rest = f :: fs)
      (hb : buildProperty ds reg f = .ok (prop, b)) (hp : b.push = none) :
      Step ds ⟨reg, fr :: below⟩ ⟨reg.applyAll b.ops, place { fr with rest := fs } f prop :: below⟩
  | descend {reg fr below f fs prop b m child ops} (hr : fr.rest = f :: fs)
      (hb : buildProperty ds reg f = .ok (prop, b)) (hp : b.push = some m)
      (he : enter m (reg.applyAll b.ops) = .ok (child, ops)) :
      Step ds ⟨reg, fr :: below⟩
        ⟨(reg.applyAll b.ops).applyAll ops, child :: place { fr with rest := fs } f prop :: below⟩

theorem step_cont {ds : DescSet} {st st' : St} (h : step ds st = .cont st') : Step ds st st' := by
  obtain ⟨reg, stack⟩ := st
  unfold step at h
  split at h
  · cases h
  · rename_i fr below hstack
    cases hstack
    split at h
    · rename_i hr
      split at h
      · rename_i ops hf; cases h; exact .close hr hf
      · cases h
      · cases h
    · rename_i f fs hr
      split at h
      · cases h
      · cases h
      · rename_i prop b hb
        simp only at h
        split at h
        · rename_i hp; cases h; exact .field hr hb hp
        · rename_i m hp
          split at h
          · rename_i child ops he; cases h; exact .descend hr hb hp he
          · cases h
          · cases h

theorem step_done {ds : DescSet} {st : St} {reg : Reg} (h : step ds st = .done reg) :
    st.stack = [] ∧ st.reg = reg := by
  unfold step at h
  split at h
  · cases h; exact ⟨‹_›, rfl⟩
  · split at h
    · split at h <;> cases h
    · split at h
      · cases h
      · cases h
      · simp only at h
        split at h
        · cases h
        · split at h <;> cases h

theorem step_crash {ds : DescSet} {st : St} {w : String} (h : step ds st = .crash w) :
    ∃ fr below, st.stack = fr :: below ∧
      ((fr.rest = [] ∧ finish fr = .panic w) ∨
       ∃ f fs, fr.rest = f :: fs ∧
         (buildProperty ds st.reg f = .panic w ∨
          ∃ prop b m, buildProperty ds st.reg f = .ok (prop, b) ∧ b.push = some m ∧
            enter m (st.reg.applyAll b.ops) = .panic w)) := by
  unfold step at h
  split at h
  · cases h
  · rename_i fr below hstack
    refine ⟨fr, below, hstack, ?_⟩
    split at h
    · rename_i hr
      split at h
      · cases h
      · cases h
      · rename_i w' hf; cases h; exact Or.inl ⟨hr, hf⟩
    · rename_i f fs hr
      refine Or.inr ⟨f, fs, hr, ?_⟩
      split at h
      · cases h
      · rename_i w' hb; cases h; exact Or.inl hb
      · rename_i prop b hb
        simp only at h
        split at h
        · cases h
        · rename_i m hp
          split at h
          · cases h
          · cases h
          · rename_i w' he; cases h; exact Or.inr ⟨prop, b, m, hb, hp, he⟩

/-! ### termination: messages not yet placeholdered, then work left on the stack -/

def unregistered (ds : DescSet) (reg : Reg) : Nat :=
  (ds.msgs.filter fun m => !reg.has m.pkg m.split).length

def work (stack : List Frame) : Nat := (stack.map fun fr => fr.rest.length + 1).sum

theorem Reg.find_append (reg : Reg) (x : REntry) (p k : String) :
    Reg.find (reg ++ [x]) p k = (reg.find p k).or (if x.pkg == p && x.key == k then some x else none) := by
  simp only [Reg.find, List.find?_append, List.find?_singleton]

/-- an update of the entries that keeps their names commutes with `find` -/
theorem Reg.find_map (reg : Reg) (g : REntry → REntry)
    (hg : ∀ e, (g e).pkg = e.pkg ∧ (g e).key = e.key) (p k : String) :
    Reg.find (reg.map g) p k = (reg.find p k).map g :=
  find?_map_keep reg _ g fun e => by simp [hg e]

theorem Reg.find_set (reg : Reg) (p0 k0 : String) (root : RRoot) (p k : String) :
    Reg.find (reg.map fun e => if e.pkg == p0 && e.key == k0 then { e with to := some root } else e) p k
      = (reg.find p k).map fun e => if e.pkg == p0 && e.key == k0 then { e with to := some root } else e :=
  Reg.find_map reg _ (fun e => by split <;> exact ⟨rfl, rfl⟩) p k

/-- an update never removes a name, nor changes the descriptor it is registered for -/
theorem Reg.find_apply {reg : Reg} {p k : String} {e : REntry} (op : RegOp)
    (h : reg.find p k = some e) : ∃ e', (reg.apply op).find p k = some e' ∧ e'.src = e.src := by
  cases op with
  | set p0 k0 r => exact ⟨_, by rw [Reg.apply, Reg.find_set, h]; rfl, by dsimp only; split <;> rfl⟩
  | add p0 k0 s0 => exact ⟨e, by rw [Reg.apply]; split <;> simp [Reg.find_append, h], rfl⟩
  | link p0 k0 s0 r => exact ⟨e, by rw [Reg.apply]; split <;> simp [Reg.find_append, h], rfl⟩

/-- the name (p, k) is registered, and for the descriptor `src` -/
def Owns (reg : Reg) (p k src : String) : Prop := ∃ e, reg.find p k = some e ∧ e.src = src

/-- `reg'` registers everything `reg` does, for the same descriptors -/
def RegExt (reg reg' : Reg) : Prop := ∀ p k src, Owns reg p k src → Owns reg' p k src

theorem Owns.apply {reg : Reg} {p k src : String} (h : Owns reg p k src) (op : RegOp) :
    Owns (reg.apply op) p k src := by
  obtain ⟨e, hf, hs⟩ := h
  obtain ⟨e', hf', hs'⟩ := Reg.find_apply op hf
  exact ⟨e', hf', hs'.trans hs⟩

theorem Owns.applyAll {reg : Reg} {p k src : String} (h : Owns reg p k src) (ops : List RegOp) :
    Owns (reg.applyAll ops) p k src := by
  induction ops generalizing reg with
  | nil => exact h
  | cons op ops ih => exact ih (h.apply op)

theorem RegExt.refl (reg : Reg) : RegExt reg reg := fun _ _ _ h => h
theorem RegExt.trans {a b c : Reg} (h1 : RegExt a b) (h2 : RegExt b c) : RegExt a c :=
  fun p k s h => h2 p k s (h1 p k s h)
theorem RegExt.apply (reg : Reg) (op : RegOp) : RegExt reg (reg.apply op) :=
  fun _ _ _ h => h.apply op
theorem RegExt.applyAll (reg : Reg) (ops : List RegOp) : RegExt reg (reg.applyAll ops) :=
  fun _ _ _ h => h.applyAll ops

theorem RegExt.has {reg reg' : Reg} (hx : RegExt reg reg') {p k : String}
    (h : reg.has p k = true) : reg'.has p k = true := by
  obtain ⟨e, he⟩ := Option.isSome_iff_exists.mp h
  obtain ⟨e', he', _⟩ := hx p k e.src ⟨e, he, rfl⟩
  simp [Reg.has, he']

theorem Reg.has_add (reg : Reg) (p k src : String) : (reg.apply (.add p k src)).has p k = true := by
  rw [Reg.apply]
  split
  · assumption
  · simp [Reg.has, Reg.find_append]

theorem unregistered_le (ds : DescSet) (reg reg' : Reg) (h : RegExt reg reg') :
    unregistered ds reg' ≤ unregistered ds reg :=
  filter_length_le _ _ _ fun m hm => by
    cases hh : reg.has m.pkg m.split with
    | false => rfl
    | true => simp [h.has hh] at hm

theorem unregistered_lt (ds : DescSet) (reg reg' : Reg) (h : RegExt reg reg') (m : Msg)
    (hm : m ∈ ds.msgs) (h0 : reg.has m.pkg m.split = false) (h1 : reg'.has m.pkg m.split = true) :
    unregistered ds reg' < unregistered ds reg :=
  filter_length_lt _ _ _ (fun x hx => by
    cases hh : reg.has x.pkg x.split with
    | false => rfl
    | true => simp [h.has hh] at hx) m hm (by simp [h0]) (by simp [h1])

/-- `m` is the message the set finds under its own full name -/
def Canon (ds : DescSet) (m : Msg) : Prop := ds.msg? m.full = some m

theorem canon_of_find {ds : DescSet} {full : String} {m : Msg} (h : ds.msg? full = some m) :
    m.full = full ∧ Canon ds m := by
  have hf : m.full = full := by simpa using List.find?_some h
  exact ⟨hf, by unfold Canon; rw [hf]; exact h⟩

theorem Canon.mem {ds : DescSet} {m : Msg} (h : Canon ds m) : m ∈ ds.msgs :=
  List.mem_of_find?_eq_some h

/-- what a field pushes is a message of the set, found under its own full name; its name was free,
and the field's one update registers it -/
theorem buildProperty_pushed {ds : DescSet} {reg : Reg} {f : FieldD} {prop : RProp} {b : Built}
    {m : Msg} (h : buildProperty ds reg f = .ok (prop, b)) (hp : b.push = some m) :
    Canon ds m ∧ reg.find m.pkg m.split = none ∧ b.ops = [.add m.pkg m.split m.full] := by
  rcases buildProperty_ops h with ⟨_, hn⟩ | ⟨m', full, hm, hf, hops, hn⟩ | ⟨_, _, _, _, _, hn⟩ <;>
    rw [hn] at hp <;> cases hp
  exact ⟨(canon_of_find hm).2, hf, hops⟩

/-- a message is pushed only when its name was not registered, and the updates register it -/
theorem buildProperty_push (ds : DescSet) (reg : Reg) (f : FieldD) (prop : RProp) (b : Built)
    (m : Msg) (h : buildProperty ds reg f = .ok (prop, b)) (hp : b.push = some m) :
    m ∈ ds.msgs ∧ reg.has m.pkg m.split = false ∧ (reg.applyAll b.ops).has m.pkg m.split = true := by
  obtain ⟨hc, hf, hops⟩ := buildProperty_pushed h hp
  rw [hops]
  exact ⟨hc.mem, by simp [Reg.has, hf], Reg.has_add reg _ _ _⟩

/-- every transition that continues makes the measure smaller -/
theorem step_decreases (ds : DescSet) (st st' : St) (h : step ds st = .cont st') :
    Prod.Lex (· < ·) (· < ·) (unregistered ds st'.reg, work st'.stack)
      (unregistered ds st.reg, work st.stack) := by
  cases step_cont h with
  | close hr hf =>
    apply Prod.Lex.right'
    · exact unregistered_le ds _ _ (RegExt.applyAll _ _)
    · simp [work]
  | field hr hb hp =>
    apply Prod.Lex.right'
    · exact unregistered_le ds _ _ (RegExt.applyAll _ _)
    · simp [work, place_rest, hr]
  | descend hr hb hp he =>
    obtain ⟨hmem, h0, h1⟩ := buildProperty_push ds _ _ _ _ _ hb hp
    exact Prod.Lex.left _ _ (unregistered_lt ds _ _
      (RegExt.trans (RegExt.applyAll _ _) (RegExt.applyAll _ _)) _ hmem h0 ((RegExt.applyAll _ _).has h1))

/-- run the machine to completion -/
def run (ds : DescSet) (st : St) : Outcome Reg :=
  match h : step ds st with
  | .done reg => .ok reg
  | .fail e => .err e
  | .crash w => .panic w
  | .cont st' => run ds st'
termination_by (unregistered ds st.reg, work st.stack)
decreasing_by exact step_decreases ds st st' h

theorem run_done (ds : DescSet) (st : St) (reg : Reg) (h : step ds st = .done reg) :
    run ds st = .ok reg := by
  rw [run.eq_1]; split <;> simp_all

theorem run_fail (ds : DescSet) (st : St) (e : String) (h : step ds st = .fail e) :
    run ds st = .err e := by
  rw [run.eq_1]; split <;> simp_all

theorem run_crash (ds : DescSet) (st : St) (w : String) (h : step ds st = .crash w) :
    run ds st = .panic w := by
  rw [run.eq_1]; split <;> simp_all

theorem run_cont (ds : DescSet) (st st' : St) (h : step ds st = .cont st') :
    run ds st = run ds st' := by
  rw [run.eq_1]; split <;> simp_all

/-! ## ClientProperties (`lib/j5schema/root_schema.go`; mirrors Go commit 595283b)

Flattened object fields are replaced by the client properties of their object, paths
concatenated, **unless** the object is already being flattened (the guard against a message that
flattens itself). Defined by well-founded recursion on (registered names not on the flattening
stack, properties left). -/

/-- `ObjectField.Schema()`: `s.Ref.To.(*ObjectSchema)` -/
def objectProps (reg : Reg) (r : Ref) : Outcome (List RProp) :=
  match reg.find r.pkg r.schema with
  | some e =>
    match e.to with
    | some (.object _ _ _ _ ps) => .ok ps
    | some _ => .panic "interface conversion: RootSchema is not *ObjectSchema"
    | none => .panic "interface conversion: RootSchema is nil, not *ObjectSchema"
  | none => .panic "unregistered reference"

def onStack (fl : List Ref) (r : Ref) : Bool := fl.contains r

/-- registered names not on the flattening stack -/
def unflattened (reg : Reg) (fl : List Ref) : Nat :=
  (reg.filter fun e => !onStack fl ⟨e.pkg, e.key⟩).length

theorem unflattened_lt (reg : Reg) (fl : List Ref) (r : Ref) (e : REntry)
    (hf : reg.find r.pkg r.schema = some e) (hn : onStack fl r = false) :
    unflattened reg (fl ++ [r]) < unflattened reg fl := by
  unfold unflattened
  have hpk : e.pkg = r.pkg ∧ e.key = r.schema := by
    have h := hf
    unfold Reg.find at h
    simpa using List.find?_some h
  obtain ⟨hp, hk⟩ := hpk
  have hmem : e ∈ reg := by
    unfold Reg.find at hf
    exact List.mem_of_find?_eq_some hf
  have he : (⟨e.pkg, e.key⟩ : Ref) = r := by cases r; simp_all
  apply filter_length_lt _ _ _ _ e hmem
  · simp [he, hn]
  · simp [onStack, he]
  · intro x hx
    simp only [onStack, List.contains_append, Bool.not_or, Bool.and_eq_true, Bool.not_eq_eq_eq_not,
      Bool.not_true] at hx ⊢
    exact hx.1

/-- `nestedClone`: the child's path is appended to the flattened field's path -/
def nestedClone (inParent : List Int) (p : RProp) : RProp := { p with path := inParent ++ p.path }

/-- `clientProperties(flattening)` over the properties of the object on top of the stack `fl` -/
def clientProps (reg : Reg) (fl : List Ref) (props : List RProp) : Outcome (List RProp) :=
  match props with
  | [] => .ok []
  | prop :: rest =>
    let here : Outcome (List RProp) :=
      match prop.schema with
      | .object ref true =>
        if hs : onStack fl ref then .ok [prop]
        else
          match hf : reg.find ref.pkg ref.schema with
          | none => .panic "unregistered reference"
          | some e =>
            match e.to with
            | some (.object _ _ _ _ ps) =>
              (clientProps reg (fl ++ [ref]) ps).map fun cs => cs.map (nestedClone prop.path)
            | some _ => .panic "interface conversion: RootSchema is not *ObjectSchema"
            | none => .panic "interface conversion: RootSchema is nil, not *ObjectSchema"
      | _ => .ok [prop]
    here.bind fun a => (clientProps reg fl rest).map fun b => a ++ b
termination_by (unflattened reg fl, props.length)
decreasing_by
  · apply Prod.Lex.left
    exact unflattened_lt reg fl ref e hf (by simpa using hs)
  · apply Prod.Lex.right
    simp

theorem objectProps_ok {reg : Reg} {r : Ref} {ps : List RProp} :
    objectProps reg r = .ok ps ↔
      ∃ e p k en am, reg.find r.pkg r.schema = some e ∧ e.to = some (.object p k en am ps) := by
  unfold objectProps
  cases reg.find r.pkg r.schema with
  | none => simp
  | some e =>
    simp only [Option.some.injEq, exists_and_left, exists_eq_left']
    split <;> simp_all

/-- one step of `clientProps`, without the proofs the definition carries for its termination -/
theorem clientProps_cons (reg : Reg) (fl : List Ref) (prop : RProp) (rest : List RProp) :
    clientProps reg fl (prop :: rest) =
      (match prop.schema with
        | .object ref true =>
          if onStack fl ref then Outcome.ok [prop]
          else (objectProps reg ref).bind fun ps =>
            (clientProps reg (fl ++ [ref]) ps).map (List.map (nestedClone prop.path))
        | _ => .ok [prop]).bind fun a => (clientProps reg fl rest).map fun b => a ++ b := by
  rw [clientProps]
  congr 1
  cases hs : prop.schema with
  | object ref b =>
    cases b with
    | false => rfl
    | true =>
      simp only
      split
      · rfl
      · unfold objectProps
        split
        · rename_i h; simp [h, Outcome.bind]
        · rename_i e h
          simp only [h]
          split <;> rename_i ht <;> simp [ht, Outcome.bind]
  | _ => rfl

/-- `ObjectSchema.ClientProperties()` of the object registered under `self` -/
def clientProperties (reg : Reg) (self : Ref) : Outcome (List RProp) :=
  (objectProps reg self).bind fun ps => clientProps reg [self] ps

/-- an object's client properties (its own and those its flattened fields bring) have pairwise
distinct JSON names. The reader does **not** check this (open finding
`duplicate-client-property-name`, notes/schema.md: the j5s compiler accepts such packages); it is
what `C18_client_names_full` asks of every object. -/
def clientNamesOK (reg : Reg) (e : REntry) : Outcome Unit :=
  match e.to with
  | some (.object _ _ _ _ ps) =>
    (clientProps reg [⟨e.pkg, e.key⟩] ps).bind fun cps =>
      if namesUnique cps then .ok () else .err "duplicate property name"
  | _ => .ok ()

/-- the same over a list of entries -/
def clientNamesAll (reg : Reg) : List REntry → Outcome Unit
  | [] => .ok ()
  | e :: es => (clientNamesOK reg e).bind fun _ => clientNamesAll reg es

/-! ## entry points -/

/-- build the schema of message `m` when its name is not registered yet
(`SchemaSet.messageSchema` / `SchemaCache.schema` after the lookup) -/
def buildMessage (ds : DescSet) (reg : Reg) (m : Msg) : Outcome Reg :=
  let reg1 := reg.apply (.add m.pkg m.split m.full)
  match enter m reg1 with
  | .ok (fr, ops) => run ds ⟨reg1.applyAll ops, [fr]⟩
  | .err x => .err x
  | .panic w => .panic w

/-- `SchemaSet.messageSchema` -/
def messageSchema (ds : DescSet) (reg : Reg) (m : Msg) : Outcome Reg :=
  match reg.find m.pkg m.split with
  | some e =>
    -- built.claim(src)
    if e.src != m.full then .err "schema name is used by two descriptors"
    else
      match e.to with
      | some _ => .ok reg
      | none => .err "unlinked ref"
  | none => buildMessage ds reg m

def messagesLoop (ds : DescSet) (reg : Reg) : List String → Outcome Reg
  | [] => .ok reg
  | full :: rest =>
    match ds.msg? full with
    | none => .panic "message descriptor not in the set"
    | some m =>
      match messageSchema ds reg m with
      | .ok reg' => messagesLoop ds reg' rest
      | .err x => .err x
      | .panic w => .panic w

/-- the enum loop of `SchemaSetFromFiles` -/
def enumsLoop (ds : DescSet) (reg : Reg) : List String → Outcome Reg
  | [] => .ok reg
  | full :: rest =>
    match ds.enum? full with
    | none => .panic "enum descriptor not in the set"
    | some en =>
      match reg.find en.pkg en.split with
      | some e =>
        -- ref.claim(descriptor), then `didExist`: referenced by an earlier message
        if e.src != en.full then .err "schema name is used by two descriptors"
        else enumsLoop ds reg rest
      | none =>
        match buildEnum en with
        | .ok r => enumsLoop ds (reg.apply (.link en.pkg en.split en.full r)) rest
        | .err x => .err x
        | .panic w => .panic w

/-- `SchemaSetFromFiles` -/
def schemaSetFromFiles (ds : DescSet) : Outcome Reg :=
  match messagesLoop ds [] ds.topMsgs with
  | .ok reg => enumsLoop ds reg ds.topEnums
  | .err x => .err x
  | .panic w => .panic w

/-- `SchemaCache.Schema`: like `messageSchema`; a failed build (error or panic) leaves the cache
as it was (the deferred roll-back of c032eab) -/
def cacheSchema (ds : DescSet) (reg : Reg) (m : Msg) : Outcome Reg × Reg :=
  match messageSchema ds reg m with
  | .ok reg' => (.ok reg', reg')
  | .err x => (.err x, reg)
  | .panic w => (.panic w, reg)

end J5V.Schema.Reader
