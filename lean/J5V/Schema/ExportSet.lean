import J5V.Schema.ExportProofs
/-!
# C15 at the level of whole schema sets: import ∘ export of a set, and `assertRefsLink`
-/
namespace J5V.Schema
open J5V.Go

theorem lookupE_pred (es : List Entry) (p k : String) (e : Entry) (h : lookupE es p k = some e) :
    e.pkg = p ∧ e.key = k := by
  unfold lookupE at h
  have := List.find?_some h
  simpa using this

theorem lookupE_append (es : List Entry) (x : Entry) (p k : String) :
    lookupE (es ++ [x]) p k = (lookupE es p k).or (if x.pkg == p && x.key == k then some x else none) := by
  simp only [lookupE, List.find?_append, List.find?_singleton]

theorem lookupE_map_set (es : List Entry) (p0 k0 : String) (r : SRoot) (p k : String) :
    lookupE (es.map fun e => if e.pkg == p0 && e.key == k0 then { e with to := some r } else e) p k
      = (lookupE es p k).map fun e => if e.pkg == p0 && e.key == k0 then { e with to := some r } else e :=
  find?_map_keep es _ _ fun e => by split <;> rfl

@[simp] theorem ensurePkg_entries (env : Env) (p : String) : (env.ensurePkg p).entries = env.entries := by
  unfold Env.ensurePkg; split <;> rfl

@[simp] theorem ensurePkg_lookup (env : Env) (p p' k' : String) :
    (env.ensurePkg p).lookup p' k' = env.lookup p' k' := by
  simp [Env.lookup]

/-- `refTo` keeps every existing entry and guarantees one under (p, k) -/
theorem refTo_lookup (env : Env) (p k p' k' : String) :
    (env.refTo p k).lookup p' k' =
      (env.lookup p' k').or (if p == p' && k == k' then some ⟨p, k, none⟩ else none) := by
  unfold Env.refTo
  simp only [ensurePkg_lookup]
  cases hl : env.lookup p k with
  | some e =>
    simp only [ensurePkg_lookup]
    cases hl' : env.lookup p' k' with
    | some e' => rfl
    | none =>
      by_cases hk : (p == p' && k == k') = true
      · simp only [Bool.and_eq_true, beq_iff_eq] at hk
        obtain ⟨rfl, rfl⟩ := hk
        rw [hl] at hl'; cases hl'
      · simp [hk]
  | none =>
    simp only [Env.lookup, ensurePkg_entries]
    rw [lookupE_append]

theorem refTo_linkedAt (env : Env) (p k p' k' : String) :
    (env.refTo p k).linkedAt p' k' = env.linkedAt p' k' := by
  unfold Env.linkedAt
  rw [refTo_lookup]
  cases env.lookup p' k' with
  | some e => rfl
  | none => rw [Option.none_or]; split <;> rfl

theorem refTo_has (env : Env) (p k : String) : ((env.refTo p k).lookup p k).isSome = true := by
  rw [refTo_lookup]
  cases env.lookup p k with
  | some e => rfl
  | none => simp

theorem refTo_keeps (env : Env) (p k p' k' : String) (h : (env.lookup p' k').isSome = true) :
    ((env.refTo p k).lookup p' k').isSome = true := by
  rw [refTo_lookup]
  cases hl : env.lookup p' k' with
  | some e => rfl
  | none => simp [hl] at h

theorem refAll_linkedAt (env : Env) (refs : List Ref) (p' k' : String) :
    (env.refAll refs).linkedAt p' k' = env.linkedAt p' k' := by
  induction refs generalizing env with
  | nil => rfl
  | cons r rs ih => simp only [Env.refAll]; rw [ih, refTo_linkedAt]

theorem refAll_keeps (env : Env) (refs : List Ref) (p' k' : String)
    (h : (env.lookup p' k').isSome = true) : ((env.refAll refs).lookup p' k').isSome = true := by
  induction refs generalizing env with
  | nil => exact h
  | cons r rs ih => simp only [Env.refAll]; exact ih _ (refTo_keeps env _ _ _ _ h)

theorem setTo_lookup (env : Env) (p k : String) (r : SRoot) (p' k' : String) :
    (env.setTo p k r).lookup p' k' =
      (env.lookup p' k').map fun e => if e.pkg == p && e.key == k then { e with to := some r } else e := by
  unfold Env.setTo Env.lookup
  exact lookupE_map_set env.entries p k r p' k'

/-- the entry found under (p', k') carries those keys (`lookupE_pred`), so the `if` inside `setTo`'s map
is decided by (p, k) = (p', k') -/
theorem setTo_linkedAt (env : Env) (p k : String) (r : SRoot) (p' k' : String)
    (h : (env.lookup p k).isSome = true) :
    (env.setTo p k r).linkedAt p' k' = if p == p' && k == k' then some r else env.linkedAt p' k' := by
  unfold Env.linkedAt
  rw [setTo_lookup]
  by_cases hc : (p == p' && k == k') = true
  · simp only [Bool.and_eq_true, beq_iff_eq] at hc
    obtain ⟨rfl, rfl⟩ := hc
    obtain ⟨e, hl⟩ := Option.isSome_iff_exists.mp h
    obtain ⟨hp, hk⟩ := lookupE_pred env.entries p k e hl
    simp [hl, hp, hk]
  · cases hl : env.lookup p' k' with
    | none => simp [hc]
    | some e =>
      obtain ⟨hp, hk⟩ := lookupE_pred env.entries p' k' e hl
      have : (e.pkg == p && e.key == k) = false := by
        rw [hp, hk]
        simp only [Bool.and_eq_true, beq_iff_eq, not_and] at hc
        simp only [Bool.and_eq_false_imp, beq_iff_eq, beq_eq_false_iff_ne, ne_eq]
        exact fun h1 h2 => hc h1.symm h2.symm
      simp only [Option.map_some, Option.bind_some, this, hc, Bool.false_eq_true, ↓reduceIte]

theorem itemsAt_cons_self (p k : String) (r : SRoot) (rest : List (String × SRoot)) :
    itemsAt p ((k, r) :: rest) p k = some (normRoot p r) := by
  simp [itemsAt]

theorem itemsAt_cons (p : String) (x : String × SRoot) (rest : List (String × SRoot)) (p' k' : String) :
    itemsAt p (x :: rest) p' k' = (itemsAt p [x] p' k').or (itemsAt p rest p' k') := by
  unfold itemsAt
  split
  · simp only [List.find?_cons, List.find?_nil]
    split <;> rfl
  · rfl

theorem itemsAt_other (p : String) (items : List (String × SRoot)) (p' k' : String) (h : p ≠ p') :
    itemsAt p items p' k' = none := by
  simp [itemsAt, h]

theorem buildSchema_eq_ok_iff {env env' : Env} {p k : String} {d : DRoot} :
    buildSchema env p k d = .ok env' ↔ env.linkedAt p k = none ∧
      ∃ r, rootFromDesc p d = .ok r ∧ env' = ((env.refTo p k).refAll (rootRefs d)).setTo p k r := by
  rw [buildSchema_eq, refTo_linkedAt]
  cases env.linkedAt p k with
  | some r => simp
  | none => simp [map_ok_iff]

/-- importing the export of root `r` under a free name links the normalised root there and
changes no other link -/
theorem buildSchema_export (env : Env) (p k : String) (r : SRoot) (hwf : wfRoot r = true)
    (hfree : env.linkedAt p k = none) :
    ∃ env', buildSchema env p k (toJ5Root r) = .ok env' ∧
      ∀ p' k', env'.linkedAt p' k' = (env.linkedAt p' k').or (itemsAt p [(k, r)] p' k') := by
  refine ⟨_, buildSchema_eq_ok_iff.mpr ⟨hfree, _, (rootFromDesc_toJ5Root p r _).mpr ⟨hwf, rfl⟩, rfl⟩,
    fun p' k' => ?_⟩
  rw [setTo_linkedAt _ _ _ _ _ _ (refAll_keeps _ _ p k (refTo_has env p k)), refAll_linkedAt,
    refTo_linkedAt]
  by_cases hc : (p == p' && k == k') = true
  · simp only [Bool.and_eq_true, beq_iff_eq] at hc
    obtain ⟨rfl, rfl⟩ := hc
    simp [hfree, itemsAt]
  · have : itemsAt p [(k, r)] p' k' = none := by
      simp only [Bool.and_eq_true, beq_iff_eq, not_and] at hc
      unfold itemsAt
      split
      · rename_i hp; simp [hc (by simpa using hp)]
      · rfl
    simp [hc, this]

theorem buildSchemas_export (p : String) (items : List (String × SRoot)) (env : Env)
    (hkeys : (items.map (·.1)).Nodup) (hwf : ∀ x ∈ items, wfRoot x.2 = true)
    (hfree : ∀ x ∈ items, env.linkedAt p x.1 = none) :
    ∃ env', buildSchemas env p (items.map fun x => (x.1, toJ5Root x.2)) = .ok env' ∧
      ∀ p' k', env'.linkedAt p' k' = (env.linkedAt p' k').or (itemsAt p items p' k') := by
  induction items generalizing env with
  | nil => exact ⟨env, rfl, fun p' k' => by simp [itemsAt]⟩
  | cons x rest ih =>
    obtain ⟨k, r⟩ := x
    simp only [List.map_cons, List.nodup_cons] at hkeys
    obtain ⟨hk, hrest⟩ := hkeys
    obtain ⟨env1, h1, hl1⟩ := buildSchema_export env p k r (hwf (k, r) (List.mem_cons_self ..))
      (hfree (k, r) (List.mem_cons_self ..))
    obtain ⟨env2, h2, hl2⟩ := ih env1 hrest (fun x hx => hwf x (List.mem_cons_of_mem _ hx))
      fun x hx => by
        have hne : k ≠ x.1 := fun h => hk (List.mem_map.mpr ⟨x, hx, h.symm⟩)
        rw [hl1, hfree x (List.mem_cons_of_mem _ hx)]
        simp [itemsAt, hne]
    refine ⟨env2, ?_, fun p' k' => ?_⟩
    · rw [List.map_cons, buildSchemas_cons, h1]; exact h2
    · rw [hl2, hl1, Option.or_assoc, ← itemsAt_cons]

theorem lookupSet_other (pkgs : SSet) (p' k' : String) (h : p' ∉ pkgs.map (·.1)) :
    lookupSet pkgs p' k' = none := by
  have : pkgs.find? (fun x => x.1 == p') = none :=
    List.find?_eq_none.mpr fun x hx hp => h (List.mem_map.mpr ⟨x, hx, by simpa using hp⟩)
  simp [lookupSet, this]

/-- a package whose name occurs once contributes exactly its own schemas -/
theorem lookupSet_cons (p : String) (items : List (String × SRoot)) (rest : SSet) (p' k' : String)
    (hp : p ∉ rest.map (·.1)) :
    (lookupSet ((p, items) :: rest) p' k').map (normRoot p') =
      (itemsAt p items p' k').or ((lookupSet rest p' k').map (normRoot p')) := by
  by_cases hpp : p = p'
  · subst hpp
    rw [lookupSet_other rest p k' hp, Option.map_none, Option.or_none]
    simp only [lookupSet, List.find?_cons, beq_self_eq_true, Option.bind_some, itemsAt, ↓reduceIte]
    cases items.find? fun x => x.1 == k' <;> rfl
  · have hb : (p == p') = false := by simpa using hpp
    rw [itemsAt_other _ _ _ _ hpp, Option.none_or]
    simp only [lookupSet, List.find?_cons, hb]

theorem buildPackages_export (pkgs : SSet) (env : Env) (hwf : SetWF pkgs)
    (hfree : ∀ x ∈ pkgs, ∀ y ∈ x.2, env.linkedAt x.1 y.1 = none) :
    ∃ env', buildPackages env (toApi pkgs) = .ok env' ∧
      ∀ p' k', env'.linkedAt p' k' =
        (env.linkedAt p' k').or ((lookupSet pkgs p' k').map (normRoot p')) := by
  induction pkgs generalizing env with
  | nil => exact ⟨env, rfl, fun p' k' => by simp [lookupSet]⟩
  | cons x rest ih =>
    obtain ⟨p, items⟩ := x
    obtain ⟨hpk, hkeys, hroots⟩ := hwf
    simp only [List.map_cons, List.nodup_cons] at hpk
    obtain ⟨hp, hrest⟩ := hpk
    have hens : ∀ p' k', (env.ensurePkg p).linkedAt p' k' = env.linkedAt p' k' := by
      simp [Env.linkedAt]
    obtain ⟨env1, h1, hl1⟩ := buildSchemas_export p items (env.ensurePkg p)
      (hkeys (p, items) (List.mem_cons_self ..)) (hroots (p, items) (List.mem_cons_self ..))
      fun y hy => by rw [hens]; exact hfree (p, items) (List.mem_cons_self ..) y hy
    obtain ⟨env2, h2, hl2⟩ := ih env1
      ⟨hrest, fun x hx => hkeys x (List.mem_cons_of_mem _ hx),
        fun x hx => hroots x (List.mem_cons_of_mem _ hx)⟩
      fun x hx y hy => by
        have hne : p ≠ x.1 := fun h => hp (List.mem_map.mpr ⟨x, hx, h.symm⟩)
        rw [hl1, itemsAt_other _ _ _ _ hne, hens, Option.or_none]
        exact hfree x (List.mem_cons_of_mem _ hx) y hy
    refine ⟨env2, ?_, fun p' k' => ?_⟩
    · rw [toApi, List.map_cons, buildPackages_cons, h1]; exact h2
    · rw [hl2, hl1, hens, lookupSet_cons p items rest p' k' hp, Option.or_assoc]

theorem linkedAt_empty (p k : String) : Env.empty.linkedAt p k = none := rfl

/-- import ∘ export of a whole set: every package is built, and each schema exports to what it
exported to before -/
theorem buildPackages_toApi (pkgs : SSet) (hwf : SetWF pkgs) :
    ∃ env', buildPackages Env.empty (toApi pkgs) = .ok env' ∧
      (∀ p k, env'.linkedAt p k = (lookupSet pkgs p k).map (normRoot p)) ∧
      (∀ p k, exportLookup env' p k = (lookupSet pkgs p k).map toJ5Root) := by
  obtain ⟨env', h1, h2⟩ := buildPackages_export pkgs Env.empty hwf (fun _ _ _ _ => rfl)
  have hl : ∀ p k, env'.linkedAt p k = (lookupSet pkgs p k).map (normRoot p) := by
    intro p k
    rw [h2, linkedAt_empty, Option.none_or]
  refine ⟨env', h1, hl, ?_⟩
  intro p k
  rw [exportLookup_eq, hl]
  cases lookupSet pkgs p k with
  | none => rfl
  | some r => simp [toJ5Root_norm]

/-! ## `assertRefsLink` on the imported set -/

theorem fieldRefs_toJ5Field (f : SField) : fieldRefs (toJ5Field f) = f.refs.map SRef.toRef := by
  induction f with
  | map item rules ext ih => rw [toJ5Field, fieldRefs, SField.refs, ih]
  | array item rules ext ih => rw [toJ5Field, fieldRefs, SField.refs, ih]
  | _ => rfl

theorem propsRefs_map (ps : List SProp) :
    propsRefs (ps.map toJ5Prop) = (ps.flatMap fun p => p.schema.refs).map SRef.toRef := by
  induction ps with
  | nil => rfl
  | cons p ps ih =>
    simp only [List.map_cons, propsRefs, propRefs, toJ5Prop, fieldRefs_toJ5Field, ih,
      List.flatMap_cons, List.map_append]

theorem rootRefs_toJ5Root (r : SRoot) : rootRefs (toJ5Root r) = r.refs.map SRef.toRef := by
  cases r with
  | object p name desc entity am props =>
    simp [toJ5Root, rootRefs, objectRefs, propsRefs_map, SRoot.refs, SRoot.props]
  | oneof p name desc props =>
    simp [toJ5Root, rootRefs, oneofRefs, propsRefs_map, SRoot.refs, SRoot.props]
  | enum p name desc pfx options info => rfl

/-- every registered entry has a key with property `S` -/
def KeysIn (S : String → String → Prop) (env : Env) : Prop := ∀ e ∈ env.entries, S e.pkg e.key

theorem KeysIn.refTo {S} {env : Env} (h : KeysIn S env) (p k : String) (hs : S p k) :
    KeysIn S (env.refTo p k) := by
  unfold Env.refTo
  simp only
  split
  · simpa [KeysIn] using h
  · intro e he
    simp only [ensurePkg_entries, List.mem_append, List.mem_singleton] at he
    rcases he with he | rfl
    · exact h e he
    · exact hs

theorem KeysIn.refAll {S} {env : Env} (h : KeysIn S env) (refs : List Ref)
    (hs : ∀ r ∈ refs, S r.pkg r.schema) : KeysIn S (env.refAll refs) := by
  induction refs generalizing env with
  | nil => exact h
  | cons r rs ih =>
    simp only [Env.refAll]
    exact ih (h.refTo r.pkg r.schema (hs r (List.mem_cons_self ..)))
      (fun r' hr' => hs r' (List.mem_cons_of_mem _ hr'))

theorem KeysIn.setTo {S} {env : Env} (h : KeysIn S env) (p k : String) (r : SRoot) :
    KeysIn S (env.setTo p k r) := by
  intro e he
  simp only [Env.setTo, List.mem_map] at he
  obtain ⟨e0, he0, rfl⟩ := he
  split
  · exact h e0 he0
  · exact h e0 he0

theorem buildSchema_keys {S} (env env' : Env) (p k : String) (d : DRoot) (h : KeysIn S env)
    (hs : S p k) (hr : ∀ r ∈ rootRefs d, S r.pkg r.schema)
    (hb : buildSchema env p k d = .ok env') : KeysIn S env' := by
  obtain ⟨_, r, _, rfl⟩ := buildSchema_eq_ok_iff.mp hb
  exact ((h.refTo p k hs).refAll _ hr).setTo p k _

theorem buildSchemas_keys {S} (p : String) (items : List (String × DRoot)) (env env' : Env)
    (h : KeysIn S env) (hs : ∀ x ∈ items, S p x.1 ∧ ∀ r ∈ rootRefs x.2, S r.pkg r.schema)
    (hb : buildSchemas env p items = .ok env') : KeysIn S env' := by
  induction items generalizing env with
  | nil => cases hb; exact h
  | cons x rest ih =>
    rw [buildSchemas_cons] at hb
    obtain ⟨env1, h1, h2⟩ := bind_eq_ok hb
    have hx := hs x (List.mem_cons_self ..)
    exact ih env1 (buildSchema_keys env env1 p x.1 x.2 h hx.1 hx.2 h1)
      (fun y hy => hs y (List.mem_cons_of_mem _ hy)) h2

theorem buildPackages_keys {S} (api : Api) (env env' : Env) (h : KeysIn S env)
    (hs : ∀ x ∈ api, ∀ y ∈ x.2, S x.1 y.1 ∧ ∀ r ∈ rootRefs y.2, S r.pkg r.schema)
    (hb : buildPackages env api = .ok env') : KeysIn S env' := by
  induction api generalizing env with
  | nil => cases hb; exact h
  | cons x rest ih =>
    rw [buildPackages_cons] at hb
    obtain ⟨env1, h1, h2⟩ := bind_eq_ok hb
    exact ih env1 (buildSchemas_keys x.1 x.2 _ env1 (by simpa [KeysIn] using h)
      (hs x (List.mem_cons_self ..)) h1) (fun y hy => hs y (List.mem_cons_of_mem _ hy)) h2

/-- the walk succeeds when every reference it can meet resolves (`linkWalk.induct`: 1 empty stack,
2 no entry, 3 entry not linked, 4 root seen, 5 root entered, 6 detached reference) -/
theorem linkWalk_ok (env : Env)
    (hroots : ∀ p k r, env.linkedAt p k = some r → ∀ ref ∈ r.refs, Resolves env ref)
    (seen : List String) (stack : List SRef) (hstack : ∀ ref ∈ stack, Resolves env ref) :
    linkWalk env seen stack = .ok () := by
  induction seen, stack using linkWalk.induct env with
  | case1 seen => simp [linkWalk]
  | case2 seen ref rest hreg hl =>
    have := (hstack ref (List.mem_cons_self ..)).2
    simp [Env.linkedAt, hl] at this
  | case3 seen ref rest hreg e hl ht =>
    have := (hstack ref (List.mem_cons_self ..)).2
    simp [Env.linkedAt, hl, ht] at this
  | case4 seen ref rest hreg e hl r ht hs ih =>
    rw [linkWalk_cons]
    simpa only [hreg, Env.linkedAt, hl, ht, hs, Option.bind_some, ↓reduceIte] using
      ih fun ref' h' => hstack ref' (List.mem_cons_of_mem _ h')
  | case5 seen ref rest hreg e hl r ht hs ih =>
    rw [linkWalk_cons]
    simp only [hreg, Env.linkedAt, hl, ht, hs, Option.bind_some, ↓reduceIte]
    refine ih fun ref' h' => ?_
    rcases List.mem_append.mp h' with h1 | h2
    · exact hroots ref.pkg ref.schema r (by simp [Env.linkedAt, hl, ht]) ref' h1
    · exact hstack ref' (List.mem_cons_of_mem _ h2)
  | case6 seen ref rest hreg => exact absurd (hstack ref (List.mem_cons_self ..)).1 hreg

/-- the walk of `assertRefsLink` cannot fail once every reference resolves -/
theorem assertRefsLink_ok (env : Env)
    (hroots : ∀ p k r, env.linkedAt p k = some r → ∀ ref ∈ r.refs, Resolves env ref)
    (hentries : ∀ e ∈ env.entries, (env.linkedAt e.pkg e.key).isSome = true) (p : String) :
    assertRefsLink env p = .ok () := by
  unfold assertRefsLink
  apply linkWalk_ok env hroots
  intro ref href
  obtain ⟨e, he, rfl⟩ := List.mem_map.mp href
  exact ⟨rfl, hentries e (List.mem_filter.mp he).1⟩

theorem assertAll_ok (env : Env)
    (hroots : ∀ p k r, env.linkedAt p k = some r → ∀ ref ∈ r.refs, Resolves env ref)
    (hentries : ∀ e ∈ env.entries, (env.linkedAt e.pkg e.key).isSome = true) (ps : List String) :
    assertAll env ps = .ok () := by
  induction ps with
  | nil => rfl
  | cons p ps ih => rw [assertAll_cons, assertRefsLink_ok env hroots hentries p]; exact ih

theorem normField_refs (f : SField) : (normField f).refs = f.refs.map SRef.reg := by
  induction f with
  | scalar tag fmt k w pay => cases tag <;> rfl
  | map item rules ext ih => rw [normField, SField.refs, SField.refs, ih]
  | array item rules ext ih => rw [normField, SField.refs, SField.refs, ih]
  | _ => rfl

theorem normRoot_refs (p : String) (r : SRoot) : (normRoot p r).refs = r.refs.map SRef.reg := by
  cases r with
  | object q name desc entity am props =>
    simp only [normRoot, SRoot.refs, SRoot.props, List.flatMap_map, List.map_flatMap]
    congr 1
    funext x
    simp [normProp, normField_refs]
  | oneof q name desc props =>
    simp only [normRoot, SRoot.refs, SRoot.props, List.flatMap_map, List.map_flatMap]
    congr 1
    funext x
    simp [normProp, normField_refs]
  | enum q name desc pfx options info => rfl

theorem lookupSet_mem (pkgs : SSet) (h : (pkgs.map (·.1)).Nodup) (x : String × List (String × SRoot))
    (hx : x ∈ pkgs) (y : String × SRoot) (hy : y ∈ x.2) :
    (lookupSet pkgs x.1 y.1).isSome = true := by
  induction pkgs with
  | nil => cases hx
  | cons z rest ih =>
    simp only [List.map_cons, List.nodup_cons] at h
    simp only [lookupSet, List.find?_cons]
    rcases List.mem_cons.mp hx with rfl | hx'
    · simp only [beq_self_eq_true, Option.bind_some, Option.isSome_map]
      rw [List.find?_isSome]
      exact ⟨y, hy, by simp⟩
    · have hne : (z.1 == x.1) = false := by
        simp only [beq_eq_false_iff_ne, ne_eq]
        intro he
        apply h.1
        exact List.mem_map.mpr ⟨x, hx', he.symm⟩
      simp only [hne]
      exact ih h.2 hx'

theorem lookupSet_some_mem (pkgs : SSet) (p k : String) (r : SRoot)
    (h : lookupSet pkgs p k = some r) : ∃ x ∈ pkgs, ∃ y ∈ x.2, y.2 = r := by
  unfold lookupSet at h
  cases hf : pkgs.find? (fun x => x.1 == p) with
  | none => simp [hf] at h
  | some x =>
    simp only [hf, Option.bind_some] at h
    cases hg : x.2.find? (fun y => y.1 == k) with
    | none => simp [hg] at h
    | some y =>
      simp only [hg, Option.map_some, Option.some.injEq] at h
      exact ⟨x, List.mem_of_find?_eq_some hf, y, List.mem_of_find?_eq_some hg, h⟩

/-- **import ∘ export on a whole set**: `PackageSetFromSourceAPI` accepts the export of every
well-formed, closed schema set — all references link — and every schema of the result exports to
what it exported to before. -/
theorem packageSet_roundtrip (pkgs : SSet) (hwf : SetWF pkgs) (hc : Closed pkgs) :
    ∃ env', packageSetFromSourceAPI (toApi pkgs) = .ok env' ∧
      (∀ p k, exportLookup env' p k = (lookupSet pkgs p k).map toJ5Root) ∧
      (∀ e ∈ env'.entries, (env'.linkedAt e.pkg e.key).isSome = true) := by
  obtain ⟨env', hb, hl, hx⟩ := buildPackages_toApi pkgs hwf
  -- `refAll` registers a placeholder for every reference, so "every entry is linked" needs every
  -- registered key to be a key of the set: `Closed`, used again for the references of the linked roots
  have hkeys : KeysIn (fun p k => (lookupSet pkgs p k).isSome = true) env' := by
    refine buildPackages_keys (S := fun p k => (lookupSet pkgs p k).isSome = true) (toApi pkgs)
      Env.empty env' (by intro e he; cases he) ?_ hb
    intro x hx' y hy
    simp only [toApi, List.mem_map] at hx'
    obtain ⟨x0, hx0, rfl⟩ := hx'
    simp only [List.mem_map] at hy
    obtain ⟨y0, hy0, rfl⟩ := hy
    refine ⟨lookupSet_mem pkgs hwf.pkgsNodup x0 hx0 y0 hy0, ?_⟩
    intro r hr
    simp only [rootRefs_toJ5Root, List.mem_map] at hr
    obtain ⟨ref, href, rfl⟩ := hr
    exact hc x0 hx0 y0 hy0 ref href
  have hentries : ∀ e ∈ env'.entries, (env'.linkedAt e.pkg e.key).isSome = true := by
    intro e he
    rw [hl]
    simpa using hkeys e he
  have hroots : ∀ p k r, env'.linkedAt p k = some r → ∀ ref ∈ r.refs, Resolves env' ref := by
    intro p k r hr ref href
    rw [hl] at hr
    cases hs : lookupSet pkgs p k with
    | none => simp [hs] at hr
    | some r0 =>
      simp only [hs, Option.map_some, Option.some.injEq] at hr
      subst hr
      rw [normRoot_refs] at href
      obtain ⟨ref0, href0, rfl⟩ := List.mem_map.mp href
      obtain ⟨x, hx', y, hy, rfl⟩ := lookupSet_some_mem pkgs p k r0 hs
      refine ⟨rfl, ?_⟩
      rw [hl]
      simpa [SRef.reg] using hc x hx' y hy ref0 href0
  refine ⟨env', ?_, hx, hentries⟩
  rw [packageSetFromSourceAPI_eq, hb]
  show (assertAll env' env'.pkgs).map _ = _
  rw [assertAll_ok env' hroots hentries env'.pkgs]; rfl

/-! ## the `Env` view of a set -/

theorem exportEnv_eq (env : Env) : exportEnv env = toApi (envSet env) := by
  unfold exportEnv toApi envSet envItems
  rw [List.map_map]
  apply List.map_congr_left
  intro p _
  simp only [Function.comp, Prod.mk.injEq, true_and]
  rw [List.map_filterMap]
  congr 1
  funext e
  cases e.to <;> rfl

end J5V.Schema
