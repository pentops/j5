import J5V.Schema.PropSet
import J5V.Schema.EnvModel
import J5V.Codec.DecodeSpec
/-!
# C18 → codec: the reflected environment satisfies the codec model's `itemsOk`

`toEnv ds reg` (`EnvModel.lean`) renders a reflected registry as the codec model's `Env`. Proved here
(`reflected_itemsOk`): for **every** descriptor set, if `SchemaSetFromFiles` succeeds then the env
satisfies `Env.itemsOk` — array / map items are never arrays or maps — which is the hypothesis of
the codec cluster's no-panic theorems (C06). So for reflected schemas that hypothesis holds by
construction (`google.protobuf.Struct`, a map, is a schema error: Go commit 98dc738).
-/
namespace J5V.Schema.Bridge
open J5V.Go J5V.Schema J5V.Schema.Reader J5V.Json

/-! ## array / map items are never arrays or maps -/

def shapeOK : RField → Bool
  | .array (.array _) | .array (.map _) | .map (.array _) | .map (.map _) => false
  | _ => true

theorem fieldOk_of_shape (pb : Bool) (s : RField) (h : shapeOK s = true) :
    Codec.fieldOk (toField pb s) = true := by
  cases s with
  | array i => cases i <;> simp_all [shapeOK, toField, Codec.fieldOk]
  | map i => cases i <;> simp_all [shapeOK, toField, Codec.fieldOk]
  | _ => simp [toField, Codec.fieldOk]

theorem describes_shapeOK {ds : DescSet} {f : FieldD} {s : RField} (h : describes ds f s = true) :
    shapeOK s = true := by
  -- an item that `describesItem` accepts is no array and no map
  have item : ∀ kind t i, describesItem ds kind t i = true →
      shapeOK (.array i) = true ∧ shapeOK (.map i) = true := by
    intro kind t i hi
    cases i <;> first | exact ⟨rfl, rfl⟩ | simp [describesItem] at hi
  rcases describes_cases h with ⟨_, i, rfl, hi⟩ | ⟨_, i, _, _, _, rfl, _, hi⟩ | ⟨_, hi⟩
  · exact (item _ _ i hi).1
  · exact (item _ _ i hi).2
  · cases s <;> first | rfl | simp [describesItem] at hi

def rootProps : RRoot → List RProp
  | .object _ _ _ _ ps => ps
  | .oneof _ _ ps => ps
  | .enum .. => []

/-- every property schema of a registry the reader produced has a well-formed shape -/
theorem regShapes {ds : DescSet} {reg : Reg} (h : RegDescribes ds reg) :
    ∀ e ∈ reg, ∀ root, e.to = some root → ∀ prop ∈ rootProps root, shapeOK prop.schema = true := by
  intro e he root hto prop hprop
  have hd := h e he root hto
  have key : ∀ m, propDescribes ds m prop → shapeOK prop.schema = true := by
    intro m hp
    rcases hp with ⟨f, _, _, hdesc⟩ | ⟨_, o, _, hs⟩
    · exact describes_shapeOK hdesc
    · rw [hs]; rfl
  cases root with
  | enum _ _ _ _ => cases hprop
  | object _ _ _ _ ps =>
    obtain ⟨⟨m, _, _, _, hps⟩, _⟩ := hd
    exact key m (hps prop hprop)
  | oneof _ _ ps =>
    obtain ⟨⟨m, _, _, _, hps⟩, _⟩ := hd
    exact key m (hps prop hprop)

theorem propsOk_map (ds : DescSet) (m : Msg) (ps : List RProp)
    (h : ∀ q ∈ ps, shapeOK q.schema = true) : Codec.propsOk (ps.map (toProp ds m)) = true := by
  unfold Codec.propsOk
  simp only [List.all_eq_true, List.mem_map]
  rintro _ ⟨q, hq, rfl⟩
  unfold toProp
  split <;> exact fieldOk_of_shape _ _ (h q hq)

theorem entryRoot_ok (ds : DescSet) (reg : Reg) (hd : RegDescribes ds reg) (e : REntry) (he : e ∈ reg) :
    Codec.rootOk (entryRoot ds reg e) = true := by
  have hshapes := regShapes hd
  unfold entryRoot
  split
  · rename_i p k en am ps hto
    split
    · rename_i m hm
      split
      · rename_i cps hcps
        exact propsOk_map ds m cps fun q hq =>
          (clientProps_mem reg _ ps cps hcps q hq).schema (P := fun s => shapeOK s = true)
            (fun e' he' p' k' en' am' ps' hto' prop hp => hshapes e' he' _ hto' prop hp)
            fun prop hp => hshapes e he _ hto prop hp
      · rfl
    · rfl
  · rename_i p k ps hto
    split
    · exact propsOk_map ds _ ps (fun prop hp => hshapes e he _ hto prop hp)
    · rfl
  · rfl
  · rfl

/-- **the env of a reflected schema set satisfies the codec model's `itemsOk`** -/
theorem reflected_itemsOk (ds : DescSet) (reg : Reg) (h : schemaSetFromFiles ds = .ok reg) :
    (toEnv ds reg).itemsOk = true := by
  have hd := schemaSetFromFiles_describes ds reg h
  unfold Codec.Env.itemsOk toEnv
  simp only [List.all_eq_true, List.mem_map]
  rintro _ ⟨e, he, rfl⟩
  exact entryRoot_ok ds reg hd e he

end J5V.Schema.Bridge
