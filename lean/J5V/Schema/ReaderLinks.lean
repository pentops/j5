import J5V.Schema.ReaderPaths
import J5V.Schema.PropSetModel
/-!
# C18: the invariant of the reader, and what it gives at the entry points

`Inv` is what the reader keeps true of its registry and stack — for **every** descriptor set
(`Step.inv`; `run_yields` and its liftings in `ReaderProofs.lean` carry it to `SchemaSetFromFiles`
and `SchemaCache.Schema`: `schemaSetFromFiles_inv`). Its parts:

* `Found`: a name is registered once;
* `RegLinks`: an object / oneof schema registered for descriptor `src` was built from **the**
  message the set finds under that full name (`Canon`), is an object exactly when that message is
  not a oneof wrapper, each of its properties describes a field of that message (`describes`), and
  the schema name a message-kind property refers to is registered for the field's own target
  (`RefOwned` — the effect of `RefSchema.claim`, af1da62);
* `FrameInv`: the same for what a frame on the stack has collected so far, and the frame owns the
  names it will set in `finish`;
* `Pending`: every unlinked entry is the placeholder of a frame on the stack, which links it in
  `finish` — so between top-level calls nothing is left unlinked (`AllLinked`).

Everything else follows without looking at the machine again: `RegDescribes` is `RegLinks` with the
ownership clauses forgotten; on a linked set `RegOK` follows (`Inv.regOK`), hence no transition
crashes and the entry points return a `Settled` registry, where the descriptor a name is registered
for decides what it holds.
-/
namespace J5V.Schema.Reader
open J5V.Go J5V.Schema

def itemOf : RField → RField
  | .array i => i
  | .map i => i
  | s => s

/-- the schema name a message-kind field schema refers to -/
def refOf : RField → Option Ref
  | .object r _ => some r
  | .oneof r => some r
  | _ => none

/-- the schema name an object / oneof field (or list / map of such) refers to is registered for
the field's own target descriptor -/
def RefOwned (reg : Reg) (s : RField) (t : Target) : Prop :=
  ∀ r, refOf (itemOf s) = some r → Owns reg r.pkg r.schema (targetFull t)

/-- property `prop` of a schema built from message `m`: it describes a field of `m` and its
reference is registered for that field's target; or it is the wrapper of an exposed oneof of `m`,
registered for that oneof -/
def PropLink (ds : DescSet) (reg : Reg) (m : Msg) (prop : RProp) : Prop :=
  (∃ f ∈ m.fields, prop.path = [f.number] ∧ describes ds f prop.schema = true ∧
      RefOwned reg prop.schema (itemTarget f)) ∨
  (prop.path = [] ∧ ∃ o ∈ m.oneofs, prop.schema = .oneof ⟨m.pkg, o.split⟩ ∧
      Owns reg m.pkg o.split (m.full ++ "." ++ o.name))

theorem PropLink.mono {ds : DescSet} {reg reg' : Reg} (hx : RegExt reg reg') {m : Msg} {prop : RProp}
    (h : PropLink ds reg m prop) : PropLink ds reg' m prop := by
  rcases h with ⟨f, hf, hp, hd, hr⟩ | ⟨hp, o, ho, hs, hown⟩
  · exact Or.inl ⟨f, hf, hp, hd, fun r h => hx _ _ _ (hr r h)⟩
  · exact Or.inr ⟨hp, o, ho, hs, hx _ _ _ hown⟩

/-- the root registered under (p, k) for descriptor `src` -/
def RootLink (ds : DescSet) (reg : Reg) (p k src : String) : RRoot → Prop
  | .enum _ _ _ _ => srcIsEnum ds src = true ∧ ∃ en ∈ ds.enums, k = en.split
  | .object _ _ _ _ ps =>
    ∃ m, Canon ds m ∧ src = m.full ∧ isOneofWrapper m = false ∧ p = m.pkg ∧ k = m.split ∧
      (∀ prop ∈ ps, PropLink ds reg m prop) ∧ (ps.map (·.json)).Nodup
  | .oneof _ _ ps =>
    (∃ m, Canon ds m ∧ src = m.full ∧ isOneofWrapper m = true ∧ p = m.pkg ∧ k = m.split ∧
      (∀ prop ∈ ps, PropLink ds reg m prop) ∧ (ps.map (·.json)).Nodup) ∨
    (∃ m o, Canon ds m ∧ o ∈ m.oneofs ∧ src = m.full ++ "." ++ o.name ∧ p = m.pkg ∧ k = o.split ∧
      (∀ prop ∈ ps, PropLink ds reg m prop) ∧ (ps.map (·.json)).Nodup)

theorem RootLink.mono {ds : DescSet} {reg reg' : Reg} (hx : RegExt reg reg') {p k src : String}
    {root : RRoot} (h : RootLink ds reg p k src root) : RootLink ds reg' p k src root := by
  cases root with
  | enum _ _ _ _ => exact h
  | object _ _ _ _ ps =>
    obtain ⟨m, h1, h2, h3, h4, h5, h6, h7⟩ := h
    exact ⟨m, h1, h2, h3, h4, h5, fun prop hp => (h6 prop hp).mono hx, h7⟩
  | oneof _ _ ps =>
    rcases h with ⟨m, h1, h2, h3, h4, h5, h6, h7⟩ | ⟨m, o, h1, h2, h3, h4, h5, h6, h7⟩
    · exact Or.inl ⟨m, h1, h2, h3, h4, h5, fun prop hp => (h6 prop hp).mono hx, h7⟩
    · exact Or.inr ⟨m, o, h1, h2, h3, h4, h5, fun prop hp => (h6 prop hp).mono hx, h7⟩

def RegLinks (ds : DescSet) (reg : Reg) : Prop :=
  ∀ e ∈ reg, ∀ root, e.to = some root → RootLink ds reg e.pkg e.key e.src root

theorem PropLink.describes {ds : DescSet} {reg : Reg} {m : Msg} {prop : RProp} :
    PropLink ds reg m prop → propDescribes ds m prop
  | .inl ⟨f, hf, hp, hd, _⟩ => .inl ⟨f, hf, hp, hd⟩
  | .inr ⟨hp, o, ho, hs, _⟩ => .inr ⟨hp, o, ho, hs⟩

/-- forgetting which descriptor a name is registered for, and who owns the references -/
theorem RegLinks.describes {ds : DescSet} {reg : Reg} (h : RegLinks ds reg) : RegDescribes ds reg := by
  intro e he root hto
  have hr := h e he root hto
  cases root with
  | enum _ _ _ _ => trivial
  | object _ _ _ _ ps =>
    obtain ⟨m, hc, _, _, hp, hk, hprops, hnd⟩ := hr
    exact ⟨⟨m, hc.mem, hp.symm, .inl hk.symm, fun q hq => (hprops q hq).describes⟩, hnd⟩
  | oneof _ _ ps =>
    rcases hr with ⟨m, hc, _, _, hp, hk, hprops, hnd⟩ | ⟨m, o, hc, ho, _, hp, hk, hprops, hnd⟩
    · exact ⟨⟨m, hc.mem, hp.symm, .inl hk.symm, fun q hq => (hprops q hq).describes⟩, hnd⟩
    · exact ⟨⟨m, hc.mem, hp.symm, .inr ⟨o, ho, hk.symm⟩, fun q hq => (hprops q hq).describes⟩, hnd⟩

/-- what an update must satisfy to keep `RegLinks` -/
def OpLink (ds : DescSet) (reg : Reg) : RegOp → Prop
  | .add _ _ _ => True
  | .link p k src root => RootLink ds reg p k src root
  | .set p k root => ∃ src, Owns reg p k src ∧ RootLink ds reg p k src root

theorem OpLink.mono {ds : DescSet} {reg reg' : Reg} (hx : RegExt reg reg') {op : RegOp}
    (h : OpLink ds reg op) : OpLink ds reg' op := by
  cases op with
  | add _ _ _ => trivial
  | link p k src root => exact RootLink.mono hx h
  | set p k root =>
    obtain ⟨src, ho, hr⟩ := h
    exact ⟨src, hx _ _ _ ho, RootLink.mono hx hr⟩

theorem RegLinks.apply {ds : DescSet} {reg : Reg} (h : RegLinks ds reg) (hf : Found reg) (op : RegOp)
    (ho : OpLink ds reg op) : RegLinks ds (reg.apply op) := by
  have hx := RegExt.apply reg op
  rcases Reg.apply_cases reg op with h0 | ⟨x, _, h0, hop⟩ | ⟨p, k, r, rfl, h0⟩ <;> rw [h0] at hx ⊢
  · exact h
  · intro e he root hr
    rcases List.mem_append.mp he with he' | he'
    · exact RootLink.mono hx (h e he' root hr)
    · rw [List.mem_singleton.mp he'] at hr ⊢
      rcases hop with ⟨_, hn⟩ | ⟨r, rfl, hr'⟩
      · rw [hn] at hr; cases hr
      · rw [hr'] at hr; cases hr; exact RootLink.mono hx ho
  · intro e he root hr
    obtain ⟨e0, he0, rfl⟩ := List.mem_map.mp he
    by_cases hm : (e0.pkg == p && e0.key == k) = true
    · simp only [hm, ↓reduceIte, Option.some.injEq] at hr ⊢
      subst hr
      simp only [Bool.and_eq_true, beq_iff_eq] at hm
      obtain ⟨src, ⟨e1, hf1, hs1⟩, hroot⟩ := ho
      have hfe0 := hf e0 he0
      rw [hm.1, hm.2, hf1] at hfe0
      cases hfe0
      rw [hm.1, hm.2, hs1]
      exact RootLink.mono hx hroot
    · simp only [hm, Bool.false_eq_true, ↓reduceIte] at hr ⊢
      exact RootLink.mono hx (h e0 he0 root hr)

theorem RegLinks.applyAll {ds : DescSet} {reg : Reg} (h : RegLinks ds reg) (hf : Found reg)
    (ops : List RegOp) (ho : ∀ op ∈ ops, OpLink ds reg op) : RegLinks ds (reg.applyAll ops) :=
  (Reg.applyAll_induct (P := fun reg => RegLinks ds reg ∧ Found reg)
    (fun reg op _ h => OpLink.mono (RegExt.apply reg op) h)
    (fun _ op h ho => ⟨h.1.apply h.2 op ho, h.2.applyOp op⟩) ops ⟨h, hf⟩ ho).1

/-! ## what one field contributes -/

/-- the reference `buildSchema` returns is registered for the field's target -/
theorem buildSchema_link {ds : DescSet} {reg : Reg} {kind : PKind} {t : Target} {e : Ext}
    {key : Option KeySum} {b : Built} (h : buildSchema ds reg kind t e key = .ok b) :
    ∀ r, refOf b.schema = some r → Owns (reg.applyAll b.ops) r.pkg r.schema (targetFull t) := by
  intro r hr
  rcases buildSchema_ok h with ⟨full, p, k, rfl, rfl, ⟨f, hw, rfl⟩ | ⟨fl, _, hrm⟩⟩ |
    ⟨_, _, _, _, _, _, _, _, _, _, hs, _⟩ | ⟨_, _, _, rfl⟩
  · obtain ⟨h, _⟩ | ⟨_, h⟩ | ⟨_, h⟩ | ⟨_, h⟩ | ⟨_, h⟩ := wktSchema_ok hw <;> cases h <;> cases hr
  · obtain ⟨m, hm, hs, hcase⟩ := referenceMessage_ok hrm
    obtain ⟨hfull, _⟩ := canon_of_find hm
    have : r = ⟨m.pkg, m.split⟩ := by
      rw [hs] at hr
      split at hr <;> (simp only [refOf, Option.some.injEq] at hr; exact hr.symm)
    subst this
    rcases hcase with ⟨ent, hf, hsrc, ho, _⟩ | ⟨hf, ho, _⟩ <;> rw [ho, targetFull, ← hfull]
    · exact ⟨ent, hf, hsrc⟩
    · exact Owns.add_new reg _ _ _ hf
  · rw [hs] at hr; cases hr
  · cases hr

theorem buildProperty_link {ds : DescSet} {reg : Reg} {f : FieldD} {prop : RProp} {b : Built}
    (h : buildProperty ds reg f = .ok (prop, b)) :
    RefOwned (reg.applyAll b.ops) prop.schema (itemTarget f) := by
  obtain ⟨kind, t, e, key, mk, hplan, hb, rfl⟩ := buildProperty_ok h
  have h1 := buildSchema_link hb
  obtain ⟨_, _, _, rfl, ⟨hc, rfl, rfl, rfl⟩ | ⟨hc, rfl, _, hmv⟩ | ⟨hc, rfl, rfl, rfl⟩⟩ :=
    propertyPlan_ok hplan
  · simpa [RefOwned, itemTarget, hc, itemOf] using h1
  · simpa [RefOwned, itemTarget, hc, hmv, itemOf] using h1
  · have hd := buildSchema_describes ds reg _ _ _ _ b hb
    intro r hr
    rw [show itemTarget f = f.target by simp [itemTarget, hc]]
    apply h1 r
    cases hs : b.schema with
    | array i => simp [hs, describesItem] at hd
    | map i => simp [hs, describesItem] at hd
    | _ => simpa [hs, itemOf] using hr

/-- a frame on the stack: it is about a message of the set, with some of that message's fields still
to go; it owns the names it will set at the end (its own and those of its exposed oneofs); and the
properties it has collected describe fields of its message, their references owned by the targets -/
structure FrameInv (ds : DescSet) (reg : Reg) (fr : Frame) : Prop where
  canon : Canon ds fr.msg
  asOneof : fr.asOneof = isOneofWrapper fr.msg
  rest : ∀ f ∈ fr.rest, f ∈ fr.msg.fields
  owns : Owns reg fr.msg.pkg fr.msg.split fr.msg.full
  oneofs : ∀ x ∈ fr.expose, x.2.1 ∈ fr.msg.oneofs ∧
    Owns reg fr.msg.pkg x.2.1.split (fr.msg.full ++ "." ++ x.2.1.name)
  props : ∀ prop ∈ fr.props, PropLink ds reg fr.msg prop
  exposed : ∀ x ∈ fr.expose, ∀ prop ∈ x.2.2, PropLink ds reg fr.msg prop

theorem FrameInv.mono {ds : DescSet} {reg reg' : Reg} (hx : RegExt reg reg') {fr : Frame}
    (h : FrameInv ds reg fr) : FrameInv ds reg' fr :=
  ⟨h.canon, h.asOneof, h.rest, hx _ _ _ h.owns,
    fun x hxx => ⟨(h.oneofs x hxx).1, hx _ _ _ (h.oneofs x hxx).2⟩,
    fun p hp => (h.props p hp).mono hx, fun x hxx p hp => (h.exposed x hxx p hp).mono hx⟩

/-- every unlinked entry is the placeholder of a frame on the stack -/
def Pending (reg : Reg) (stack : List Frame) : Prop :=
  ∀ e ∈ reg, e.to = none → ∃ fr ∈ stack, fr.msg.pkg = e.pkg ∧ fr.msg.split = e.key

def AllLinked (reg : Reg) : Prop := ∀ e ∈ reg, e.to ≠ none

/-- **The invariant of the reader.** Names are registered once, frames own theirs, every schema
registered so far was built from the descriptor it is registered for, and what is still unlinked
belongs to a frame on the stack. It is kept for **every** descriptor set; what `linked` adds
(`Inv.regOK`) is only that the full name of a message or oneof is not also an enum's. -/
structure Inv (ds : DescSet) (st : St) : Prop where
  found : Found st.reg
  links : RegLinks ds st.reg
  frames : ∀ fr ∈ st.stack, FrameInv ds st.reg fr
  pending : Pending st.reg st.stack

/-- an update that is not an `add` creates no unlinked entry -/
theorem apply_none_of {reg : Reg} {op : RegOp} (hop : ∀ p k s, op ≠ .add p k s) (e : REntry)
    (he : e ∈ reg.apply op) (hn : e.to = none) :
    ∃ e0 ∈ reg, e0.to = none ∧ e0.pkg = e.pkg ∧ e0.key = e.key := by
  rcases Reg.apply_cases reg op with h0 | ⟨x, _, h0, hx⟩ | ⟨p, k, r, rfl, h0⟩ <;> rw [h0] at he
  · exact ⟨e, he, hn, rfl, rfl⟩
  · rcases List.mem_append.mp he with he' | he'
    · exact ⟨e, he', hn, rfl, rfl⟩
    · rw [List.mem_singleton.mp he'] at hn
      rcases hx with ⟨h, _⟩ | ⟨r, _, hr⟩
      · exact absurd h (hop _ _ _)
      · rw [hr] at hn; cases hn
  · obtain ⟨e0, he0, rfl⟩ := List.mem_map.mp he
    by_cases hm : (e0.pkg == p && e0.key == k) = true
    · simp [hm] at hn
    · simp only [hm, Bool.false_eq_true, ↓reduceIte] at hn ⊢
      exact ⟨e0, he0, hn, rfl, rfl⟩

theorem applyAll_none_of {reg : Reg} {ops : List RegOp} (hops : ∀ op ∈ ops, ∀ p k s, op ≠ .add p k s)
    (e : REntry) (he : e ∈ reg.applyAll ops) (hn : e.to = none) :
    ∃ e0 ∈ reg, e0.to = none ∧ e0.pkg = e.pkg ∧ e0.key = e.key := by
  induction ops generalizing reg with
  | nil => exact ⟨e, he, hn, rfl, rfl⟩
  | cons op ops ih =>
    obtain ⟨e1, he1, hn1, hp1, hk1⟩ := ih (fun o ho => hops o (List.mem_cons_of_mem _ ho)) he
    obtain ⟨e0, he0, hn0, hp0, hk0⟩ := apply_none_of (hops op (List.mem_cons_self ..)) e1 he1 hn1
    exact ⟨e0, he0, hn0, hp0.trans hp1, hk0.trans hk1⟩

/-- updates without an `add` leave no new placeholder; the frames may change, not their messages -/
theorem Pending.applyAll {reg : Reg} {stack stack' : List Frame} {ops : List RegOp}
    (h : Pending reg stack) (hops : ∀ op ∈ ops, ∀ p k s, op ≠ .add p k s)
    (hst : stack'.map (·.msg) = stack.map (·.msg)) : Pending (reg.applyAll ops) stack' := by
  intro e he hn
  obtain ⟨e0, he0, hn0, hp0, hk0⟩ := applyAll_none_of hops e he hn
  obtain ⟨fr, hfr, hp, hk⟩ := h e0 he0 hn0
  have hmem : fr.msg ∈ stack'.map Frame.msg := hst ▸ List.mem_map_of_mem (f := Frame.msg) hfr
  obtain ⟨fr', hfr', hm⟩ := List.mem_map.mp hmem
  exact ⟨fr', hfr', by rw [hm]; exact hp.trans hp0, by rw [hm]; exact hk.trans hk0⟩

/-- a new placeholder belongs to the frame that is pushed with it -/
theorem Pending.push {reg : Reg} {stack : List Frame} {m : Msg} {child : Frame}
    (h : Pending reg stack) (hnone : reg.find m.pkg m.split = none) (hc : child.msg = m) :
    Pending (reg.apply (.add m.pkg m.split m.full)) (child :: stack) := by
  intro e he hn
  simp only [Reg.apply, Reg.has, hnone, Option.isSome_none, Bool.false_eq_true, ↓reduceIte] at he
  rcases List.mem_append.mp he with he' | he'
  · obtain ⟨fr, hfr, hpk⟩ := h e he' hn
    exact ⟨fr, List.mem_cons_of_mem _ hfr, hpk⟩
  · rw [List.mem_singleton.mp he']
    exact ⟨child, List.mem_cons_self .., by rw [hc], by rw [hc]⟩

/-- after a `set` under (p, k) every entry of that name is linked -/
theorem apply_set_linked (reg : Reg) (p k : String) (r : RRoot) (e : REntry)
    (he : e ∈ reg.apply (.set p k r)) (hp : e.pkg = p) (hk : e.key = k) : e.to = some r := by
  simp only [Reg.apply, List.mem_map] at he
  obtain ⟨e0, he0, rfl⟩ := he
  by_cases hm : (e0.pkg == p && e0.key == k) = true
  · simp [hm]
  · simp only [hm, Bool.false_eq_true, ↓reduceIte] at hp hk
    simp [hp, hk] at hm

/-- `finish`: each update links a name the frame owns to a root built from the frame's message -/
theorem finish_links {ds : DescSet} {reg : Reg} {fr : Frame} {ops : List RegOp}
    (hin : FrameInv ds reg fr) (h : finish fr = .ok ops) : ∀ op ∈ ops, OpLink ds reg op := by
  obtain ⟨hu, hue, root, rfl, hroot⟩ := finish_ok h
  intro op hop
  rcases List.mem_append.mp hop with h1 | h1
  · obtain ⟨x, hx, rfl⟩ := List.mem_map.mp h1
    exact ⟨_, (hin.oneofs x hx).2,
      Or.inr ⟨fr.msg, x.2.1, hin.canon, (hin.oneofs x hx).1, rfl, rfl, rfl, hin.exposed x hx, hue x hx⟩⟩
  · rw [List.mem_singleton.mp h1]
    refine ⟨_, hin.owns, ?_⟩
    rcases hroot with ⟨has, rfl⟩ | ⟨has, _, _, rfl⟩
    · exact Or.inl ⟨fr.msg, hin.canon, rfl, by rw [← hin.asOneof]; exact has, rfl, rfl, hin.props, hu⟩
    · exact ⟨fr.msg, hin.canon, rfl, by rw [← hin.asOneof]; exact has, rfl, rfl, hin.props, hu⟩

theorem FrameInv.place {ds : DescSet} {reg : Reg} {fr : Frame} {f : FieldD} {fs : List FieldD}
    {prop : RProp} {b : Built} (h : FrameInv ds reg fr) (hr : fr.rest = f :: fs)
    (hb : buildProperty ds reg f = .ok (prop, b)) :
    FrameInv ds (reg.applyAll b.ops) (place { fr with rest := fs } f prop) := by
  have h' := h.mono (RegExt.applyAll reg b.ops)
  obtain ⟨hpath, _, hdesc⟩ := buildProperty_describes ds reg f prop b hb
  have hpl := place_forall (fr := { fr with rest := fs }) (f := f)
    (P := PropLink ds (reg.applyAll b.ops) fr.msg)
    (Or.inl ⟨f, h.rest f (by simp [hr]), hpath, hdesc, buildProperty_link hb⟩)
    (fun x hx => Or.inr ⟨rfl, x.2.1, (h'.oneofs x hx).1, rfl, (h'.oneofs x hx).2⟩) h'.props h'.exposed
  refine ⟨?_, ?_, ?_, ?_, ?_, ?_, ?_⟩ <;> simp only [place_msg, place_rest, place_asOneof]
  · exact h.canon
  · exact h.asOneof
  · exact fun g hg => h.rest g (by simp [hr, hg])
  · exact h'.owns
  · exact place_oneofs (Q := fun o => o ∈ fr.msg.oneofs ∧
      Owns (reg.applyAll b.ops) fr.msg.pkg o.split (fr.msg.full ++ "." ++ o.name)) h'.oneofs
  · exact hpl.1
  · exact hpl.2

theorem enter_inv {ds : DescSet} {m : Msg} (hc : Canon ds m) {reg : Reg} {fr : Frame}
    {ops : List RegOp} (hown : Owns reg m.pkg m.split m.full) (h : enter m reg = .ok (fr, ops)) :
    (∀ reg0, ∀ op ∈ ops, OpLink ds reg0 op) ∧ (∀ op ∈ ops, ∀ p k s, op ≠ .add p k s) ∧
    fr.msg = m ∧ FrameInv ds (reg.applyAll ops) fr := by
  obtain ⟨rfl, hw, hrest, hp, hex, rfl, hown'⟩ := enter_ok h
  refine ⟨fun reg0 op hop => ?_, fun op hop => ?_, rfl,
    ⟨hc, hw, by rw [hrest]; exact fun _ h => h, hown.applyAll _, fun x hx => ⟨(hex x hx).1, hown' x hx⟩,
      by rw [hp]; exact nofun, fun x hx => by rw [(hex x hx).2]; exact nofun⟩⟩ <;>
    obtain ⟨x, hx, rfl⟩ := List.mem_map.mp hop
  · exact Or.inr ⟨fr.msg, x.2.1, hc, (hex x hx).1, rfl, rfl, rfl, nofun, List.nodup_nil⟩
  · exact nofun

theorem buildProperty_noAdd {ds : DescSet} {reg : Reg} {f : FieldD} {prop : RProp} {b : Built}
    (h : buildProperty ds reg f = .ok (prop, b)) (hp : b.push = none) :
    ∀ op ∈ b.ops, ∀ p k s, op ≠ .add p k s := by
  intro op hop
  rcases buildProperty_ops h with ⟨ho, _⟩ | ⟨_, _, _, _, _, hn⟩ | ⟨_, _, _, _, ho, _⟩
  · rw [ho] at hop; cases hop
  · rw [hn] at hp; cases hp
  · rw [ho] at hop; rw [List.mem_singleton.mp hop]; exact nofun

theorem buildProperty_opLink {ds : DescSet} {reg : Reg} {f : FieldD} {prop : RProp} {b : Built}
    (h : buildProperty ds reg f = .ok (prop, b)) : ∀ op ∈ b.ops, OpLink ds reg op := by
  intro op hop
  rcases buildProperty_ops h with ⟨ho, _⟩ | ⟨_, _, _, _, ho, _⟩ | ⟨en, r, hen, hr, ho, _⟩ <;>
    rw [ho] at hop
  · cases hop
  · rw [List.mem_singleton.mp hop]; trivial
  · rw [List.mem_singleton.mp hop]
    obtain ⟨_, _, _, _, rfl⟩ := enumRoot_some (buildEnum_enumRoot en r hr)
    exact ⟨srcIsEnum_of_mem ds en hen, en, hen, rfl⟩

theorem Step.inv {ds : DescSet} {st st' : St} (h : Step ds st st') (hi : Inv ds st) : Inv ds st' := by
  obtain ⟨hfound, hreg, hfr, hpend⟩ := hi
  cases h with
  | @close reg fr below ops hr hf =>
    have hin := hfr fr (List.mem_cons_self ..)
    refine ⟨hfound.applyAll _, hreg.applyAll hfound ops (finish_links hin hf),
      fun fr' h' => (hfr fr' (List.mem_cons_of_mem _ h')).mono (RegExt.applyAll reg ops), ?_⟩
    obtain ⟨_, _, root, rfl, _⟩ := finish_ok hf
    have hnoadd : ∀ op ∈ exposeSets fr ++ [RegOp.set fr.msg.pkg fr.msg.split root],
        ∀ p k s, op ≠ .add p k s := by
      intro op hop
      rcases List.mem_append.mp hop with h1 | h1
      · obtain ⟨x, _, rfl⟩ := List.mem_map.mp h1; exact nofun
      · rw [List.mem_singleton.mp h1]; exact nofun
    intro e he hn
    obtain ⟨fr', hfr', hp', hk'⟩ := hpend.applyAll hnoadd rfl e he hn
    rcases List.mem_cons.mp hfr' with rfl | hb
    · -- the frame's own placeholder is linked by the last update
      rw [applyAll_append] at he
      rw [apply_set_linked _ _ _ root e he hp'.symm hk'.symm] at hn
      cases hn
    · exact ⟨fr', hb, hp', hk'⟩
  | @field reg fr below f fs prop b hr hb hp =>
    refine ⟨hfound.applyAll _, hreg.applyAll hfound b.ops (buildProperty_opLink hb), fun fr' h' => ?_,
      hpend.applyAll (buildProperty_noAdd hb hp) (by simp [place_msg])⟩
    rcases List.mem_cons.mp h' with rfl | h'
    · exact (hfr fr (List.mem_cons_self ..)).place hr hb
    · exact (hfr fr' (List.mem_cons_of_mem _ h')).mono (RegExt.applyAll reg b.ops)
  | @descend reg fr below f fs prop b m child ops hr hb hp he =>
    obtain ⟨hcanon, hnone, hops⟩ := buildProperty_pushed hb hp
    have hown : Owns (reg.applyAll b.ops) m.pkg m.split m.full := by
      rw [hops]; exact Owns.add_new reg _ _ _ hnone
    obtain ⟨hol, hnoadd, hcm, hchild⟩ := enter_inv hcanon hown he
    have hx := RegExt.applyAll (reg.applyAll b.ops) ops
    refine ⟨(hfound.applyAll _).applyAll _,
      (hreg.applyAll hfound b.ops (buildProperty_opLink hb)).applyAll (hfound.applyAll _) ops (hol _),
      fun fr' h' => ?_, ?_⟩
    · rcases List.mem_cons.mp h' with rfl | h'
      · exact hchild
      rcases List.mem_cons.mp h' with rfl | h'
      · exact ((hfr fr (List.mem_cons_self ..)).place hr hb).mono hx
      · exact ((hfr fr' (List.mem_cons_of_mem _ h')).mono (RegExt.applyAll reg b.ops)).mono hx
    · rw [hops]
      exact (hpend.push hnone hcm).applyAll hnoadd (by simp [place_msg])

/-- the state of a registry between top-level calls -/
def Settled (ds : DescSet) (reg : Reg) : Prop := RegOK ds reg ∧ RegLinks ds reg ∧ AllLinked reg

theorem Settled.regOK {ds : DescSet} {reg : Reg} (h : Settled ds reg) : RegOK ds reg := h.1
theorem Settled.found {ds : DescSet} {reg : Reg} (h : Settled ds reg) : Found reg := h.1.1
theorem Settled.links {ds : DescSet} {reg : Reg} (h : Settled ds reg) : RegLinks ds reg := h.2.1
theorem Settled.allLinked {ds : DescSet} {reg : Reg} (h : Settled ds reg) : AllLinked reg := h.2.2

theorem Settled.object {ds : DescSet} {reg : Reg} (h : Settled ds reg) {e : REntry} (he : e ∈ reg)
    {p k : String} {en : Option (String × Int)} {am : List String} {ps : List RProp}
    (hto : e.to = some (.object p k en am ps)) :
    ∃ m, Canon ds m ∧ e.src = m.full ∧ (∀ prop ∈ ps, PropLink ds reg m prop) ∧
      (ps.map (·.json)).Nodup := by
  obtain ⟨m, hc, hsrc, _, _, _, hprops, hnd⟩ := h.links e he _ hto
  exact ⟨m, hc, hsrc, hprops, hnd⟩

/-- the message whose fields a oneof's properties are: itself (a oneof wrapper) or the one that
declares the exposed oneof -/
theorem Settled.oneof {ds : DescSet} {reg : Reg} (h : Settled ds reg) {e : REntry} (he : e ∈ reg)
    {p k : String} {ps : List RProp} (hto : e.to = some (.oneof p k ps)) :
    ∃ m, Canon ds m ∧ (e.src = m.full ∨ ∃ o ∈ m.oneofs, e.src = m.full ++ "." ++ o.name) ∧
      ∀ prop ∈ ps, PropLink ds reg m prop := by
  rcases h.links e he _ hto with ⟨m, hc, hsrc, _, _, _, hprops, _⟩ | ⟨m, o, hc, ho, hsrc, _, _, hprops, _⟩
  · exact ⟨m, hc, Or.inl hsrc, hprops⟩
  · exact ⟨m, hc, Or.inr ⟨o, ho, hsrc⟩, hprops⟩

theorem Settled.nil (ds : DescSet) : Settled ds [] :=
  ⟨RegOK.nil ds, (by intro e he; cases he), (by intro e he; cases he)⟩

theorem Inv.allLinked {ds : DescSet} {reg : Reg} (h : Inv ds ⟨reg, []⟩) : AllLinked reg :=
  fun e he hn => by obtain ⟨_, hfr, _⟩ := h.pending e he hn; cases hfr

theorem Inv.of_linked {ds : DescSet} {reg : Reg} (hf : Found reg) (hl : RegLinks ds reg)
    (ha : AllLinked reg) : Inv ds ⟨reg, []⟩ :=
  ⟨hf, hl, fun _ h => (nomatch h), fun e he hn => absurd hn (ha e he)⟩

theorem Inv.nil (ds : DescSet) : Inv ds ⟨[], []⟩ :=
  .of_linked (fun _ h => nomatch h) (fun _ h => nomatch h) (fun _ h => nomatch h)

/-- on a linked set a name registered for an enum holds an enum schema: whatever else is linked was
built from a message, whatever is not yet linked is the placeholder of a frame's message, and no
message or oneof has the full name of an enum -/
theorem Inv.regOK {ds : DescSet} (hl : linkedBase ds = true) {st : St} (h : Inv ds st) :
    RegOK ds st.reg := by
  obtain ⟨hfound, hlinks, hframes, hpend⟩ := h
  refine ⟨hfound, fun e he hse => ?_⟩
  cases hto : e.to with
  | none =>
    obtain ⟨fr, hfr, hp, hk⟩ := hpend e he hto
    have hin := hframes fr hfr
    obtain ⟨e', hf', hs'⟩ := hin.owns
    rw [hp, hk, hfound e he] at hf'
    cases hf'
    rw [hs', (linked_names ds hl fr.msg hin.canon.mem).1] at hse
    cases hse
  | some root =>
    have hr := hlinks e he root hto
    cases root with
    | enum _ _ _ _ => rfl
    | object _ _ _ _ _ =>
      obtain ⟨m, hc, hsrc, _⟩ := hr
      rw [hsrc, (linked_names ds hl m hc.mem).1] at hse
      cases hse
    | oneof _ _ _ =>
      rcases hr with ⟨m, hc, hsrc, _⟩ | ⟨m, o, hc, ho, hsrc, _⟩
      · rw [hsrc, (linked_names ds hl m hc.mem).1] at hse; cases hse
      · rw [hsrc, (linked_names ds hl m hc.mem).2 o ho] at hse; cases hse

theorem Settled.inv {ds : DescSet} {reg : Reg} (hs : Settled ds reg) : Inv ds ⟨reg, []⟩ :=
  .of_linked hs.found hs.links hs.allLinked

theorem Inv.settled {ds : DescSet} (hl : linkedBase ds = true) {reg : Reg} (h : Inv ds ⟨reg, []⟩) :
    Settled ds reg :=
  ⟨h.regOK hl, h.links, h.allLinked⟩

/-- on a linked set no transition out of a state with the invariant crashes: the field to build
is a linked field of a message of the set, and the registry is sound -/
theorem Inv.noCrash {ds : DescSet} {st : St} (hl : linkedBase ds = true) (hi : Inv ds st) :
    ∀ w, step ds st ≠ .crash w := by
  intro w h
  obtain ⟨fr, below, hstack, hcase⟩ := step_crash h
  have hin := hi.frames fr (by simp [hstack])
  rcases hcase with ⟨_, hf⟩ | ⟨f, fs, hr, hb | ⟨_, _, _, _, _, he⟩⟩
  · exact finish_noPanic fr _ hf
  · exact buildProperty_noPanic ds _ f (hi.regOK hl)
      (linked_field hl hin.canon.mem (hin.rest f (by simp [hr]))) _ hb
  · exact enter_noPanic _ _ _ he

theorem Inv.buildMessage {ds : DescSet} {reg : Reg} {m : Msg} (hc : Canon ds m)
    (hi : Inv ds ⟨reg, []⟩) (hnone : reg.find m.pkg m.split = none) :
    Yields (fun reg' => Inv ds ⟨reg', []⟩) (linkedBase ds = true) (buildMessage ds reg m) := by
  refine buildMessage_yields (fun _ _ hs h => h.inv hs) (fun hl _ hs => hs.noCrash hl) fun fr ops hen => ?_
  obtain ⟨hol, hnoadd, hcm, hfr⟩ := enter_inv hc (Owns.add_new reg _ _ _ hnone) hen
  have hf1 := hi.found.applyOp (.add m.pkg m.split m.full)
  exact ⟨hf1.applyAll ops, (hi.links.apply hi.found (.add ..) trivial).applyAll hf1 ops (hol _),
    fun fr' h' => by rw [List.mem_singleton.mp h']; exact hfr,
    (Pending.push (stack := []) hi.pending hnone hcm).applyAll hnoadd rfl⟩

theorem Inv.linkEnum {ds : DescSet} {reg : Reg} {full : String} {en : EnumD} {r : RRoot}
    (hi : Inv ds ⟨reg, []⟩) (hen : ds.enum? full = some en) (hb : buildEnum en = .ok r) :
    Inv ds ⟨reg.apply (.link en.pkg en.split en.full r), []⟩ := by
  have hmem := enum?_mem ds full en hen
  refine .of_linked (hi.found.applyOp _) (hi.links.apply hi.found _ ?_) fun e he hn => ?_
  · obtain ⟨_, _, _, _, rfl⟩ := enumRoot_some (buildEnum_enumRoot en r hb)
    exact ⟨srcIsEnum_of_mem ds en hmem, en, hmem, rfl⟩
  · obtain ⟨e0, he0, hn0, _, _⟩ := apply_none_of (op := .link en.pkg en.split en.full r) (fun _ _ _ h => nomatch h) e he hn
    exact hi.allLinked e0 he0 hn0

theorem schemaSetFromFiles_inv (ds : DescSet) :
    Yields (fun reg => Inv ds ⟨reg, []⟩) (linkedBase ds = true) (schemaSetFromFiles ds) :=
  schemaSetFromFiles_yields id (.nil ds) (fun _ _ hi hc hn => Inv.buildMessage hc hi hn)
    fun _ _ _ _ hi hen _ hr => hi.linkEnum hen hr

theorem Inv.reflected (ds : DescSet) (reg : Reg) (h : schemaSetFromFiles ds = .ok reg) :
    Inv ds ⟨reg, []⟩ :=
  (schemaSetFromFiles_inv ds).1 reg h

/-- every object / oneof schema of a reflected set points into the message it was built from -/
theorem schemaSetFromFiles_describes (ds : DescSet) (reg : Reg)
    (h : schemaSetFromFiles ds = .ok reg) : RegDescribes ds reg :=
  (Inv.reflected ds reg h).links.describes

/-- **`SchemaSetFromFiles` never panics**, and a result is a settled registry -/
theorem schemaSetFromFiles_safe (ds : DescSet) (hl : linked ds = true) :
    (∀ w, schemaSetFromFiles ds ≠ .panic w) ∧
    (∀ reg, schemaSetFromFiles ds = .ok reg → Settled ds reg) :=
  ⟨(schemaSetFromFiles_inv ds).2 (linked_base hl),
    fun reg h => (Inv.reflected ds reg h).settled (linked_base hl)⟩

/-- **`SchemaCache.Schema` never panics** and keeps the cache settled (a failed build is rolled
back) -/
theorem cacheSchema_safe (ds : DescSet) (hl : linked ds = true) (reg : Reg) (m : Msg)
    (hc : Canon ds m) (hs : Settled ds reg) :
    (∀ w, (cacheSchema ds reg m).1 ≠ .panic w) ∧ Settled ds (cacheSchema ds reg m).2 := by
  have hb := linked_base hl
  have hy := messageSchema_yields (fun hn => Inv.buildMessage hc hs.inv hn) hs.inv
  unfold cacheSchema
  split
  · exact ⟨by simp, (hy.1 _ ‹_›).settled hb⟩
  · exact ⟨by simp, hs⟩
  · exact absurd ‹_› (hy.2 hb _)

/-- in a settled registry of a linked set the descriptor an entry is registered for decides what it
holds. For a message: the schema built from it under its own name, an object or — for a oneof
wrapper — a oneof. (An enum has another full name, a oneof's full name is no message's.) -/
theorem Settled.root_of_msg {ds : DescSet} (hl : linked ds = true) {reg : Reg} (hs : Settled ds reg)
    {e : REntry} (he : e ∈ reg) {m : Msg} (hc : Canon ds m) (hsrc : e.src = m.full) :
    e.pkg = m.pkg ∧ e.key = m.split ∧ ∃ ps, (∀ prop ∈ ps, PropLink ds reg m prop) ∧
      (ps.map (·.json)).Nodup ∧
      ((isOneofWrapper m = false ∧ ∃ p k en am, e.to = some (.object p k en am ps)) ∨
       (isOneofWrapper m = true ∧ ∃ p k, e.to = some (.oneof p k ps))) := by
  have same : ∀ m0, Canon ds m0 → e.src = m0.full → m0 = m := by
    intro m0 hc0 h0
    unfold Canon at hc0 hc
    rw [← h0, hsrc, hc] at hc0
    cases hc0
    rfl
  cases hto : e.to with
  | none => exact absurd hto (hs.allLinked e he)
  | some root =>
    have hroot := hs.links e he root hto
    cases root with
    | enum _ _ _ _ =>
      have h1 := hroot.1
      rw [hsrc, (linked_names ds (linked_base hl) m hc.mem).1] at h1
      cases h1
    | object p k en am ps =>
      obtain ⟨m0, hc0, h0, hw, hp, hk, hprops, hnd⟩ := hroot
      cases same m0 hc0 h0
      exact ⟨hp, hk, ps, hprops, hnd, Or.inl ⟨hw, p, k, en, am, rfl⟩⟩
    | oneof p k ps =>
      rcases hroot with ⟨m0, hc0, h0, hw, hp, hk, hprops, hnd⟩ | ⟨m0, o, hc0, ho, h0, _⟩
      · cases same m0 hc0 h0
        exact ⟨hp, hk, ps, hprops, hnd, Or.inr ⟨hw, p, k, rfl⟩⟩
      · have := linked_oneofName hl m0 hc0.mem o ho
        rw [← h0, hsrc, hc] at this
        cases this

/-- … and for an exposed oneof of a message: a oneof schema -/
theorem Settled.root_of_oneof {ds : DescSet} (hl : linked ds = true) {reg : Reg}
    (hs : Settled ds reg) {e : REntry} (he : e ∈ reg) {m : Msg} (hc : Canon ds m) {o : OneofD}
    (ho : o ∈ m.oneofs) (hsrc : e.src = m.full ++ "." ++ o.name) :
    ∃ p k ps, e.to = some (.oneof p k ps) := by
  cases hto : e.to with
  | none => exact absurd hto (hs.allLinked e he)
  | some root =>
    have hroot := hs.links e he root hto
    rw [hsrc] at hroot
    cases root with
    | enum _ _ _ _ =>
      have h1 := hroot.1
      rw [(linked_names ds (linked_base hl) m hc.mem).2 o ho] at h1
      cases h1
    | object _ _ _ _ _ =>
      obtain ⟨m0, hc0, h0, _⟩ := hroot
      have := linked_oneofName hl m hc.mem o ho
      rw [h0, hc0] at this
      cases this
    | oneof p k ps => exact ⟨p, k, ps, rfl⟩

/-- a name registered for message `m'` (not a oneof wrapper) holds the object schema built from `m'` -/
theorem objRef_resolves (ds : DescSet) (hl : linked ds = true) (reg : Reg) (hs : Settled ds reg)
    (ref : Ref) (m' : Msg) (hm' : Canon ds m') (hw : isOneofWrapper m' = false)
    (hown : Owns reg ref.pkg ref.schema m'.full) :
    ∃ e p k en am ps, reg.find ref.pkg ref.schema = some e ∧ e.to = some (.object p k en am ps) ∧
      e.src = m'.full ∧ ref.pkg = m'.pkg ∧ ref.schema = m'.split ∧
      (∀ prop ∈ ps, PropLink ds reg m' prop) ∧ (ps.map (·.json)).Nodup := by
  obtain ⟨e, hfind, hsrc⟩ := hown
  obtain ⟨hep, hek⟩ := Reg.find_pred reg _ _ e hfind
  obtain ⟨hp, hk, ps, hprops, hnd, ⟨_, p, k, en, am, hto⟩ | ⟨hw', _⟩⟩ :=
    hs.root_of_msg hl (mem_of_find reg _ _ e hfind) hm' hsrc
  · exact ⟨e, p, k, en, am, ps, hfind, hto, hsrc, hep ▸ hp, hek ▸ hk, hprops, hnd⟩
  · rw [hw] at hw'; cases hw'

end J5V.Schema.Reader
