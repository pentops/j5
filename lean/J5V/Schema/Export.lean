import J5V.Go.Outcome
import J5V.Schema.Types
import J5V.Go.ListLemmas
/-!
# Model of the export / import loop of `lib/j5schema` (property C15)

Mirrors (Go commits 622a251 and 729e9c2 included):

* export — `ToJ5Field` of the seven field schemas (`field_schema.go`), `ObjectProperty.ToJ5Proto`,
  `ObjectSchema/OneofSchema/EnumSchema.ToJ5Root` (`root_schema.go`);
* import — `schemaFromDesc`, `objectPropertyFromDesc`, `objectSchemaFromDesc`,
  `oneofSchemaFromDesc`, `enumSchemaFromDesc`, `buildRoot`, `buildSchemas`,
  `PackageSetFromSourceAPI` (`schema_from_desc.go`), `refTo` / `referencePackage` and
  `assertRefsLink` (`schema_set.go`).

The value an import function returns does not depend on the package set: `refTo` only registers
a placeholder under (package, schema) and hands back the pointer registered there. The model
therefore splits every import function into its pure result (`fieldFromDesc` …) and the list of
references it registers (`fieldRefs` …); `buildSchema` replays the registrations on the `Env`
(`Env.refAll`).

Go's partial operations are explicit `.panic` arms. An absent `ArrayField.items`,
`MapField.item_schema` or `ObjectProperty.schema` is the error "missing field schema" (the nil
check of `schemaFromDesc`, Go commit f31b315); the only `.panic` arms are the two after
`objectFromDesc` / `oneofFromDesc`, where Go's typed result (`*ObjectSchema`, `*OneofSchema`) has
no counterpart in the sum `SRoot`: unreachable (`C15_importer_never_panics`).
-/
namespace J5V.Schema
open J5V.Go

/-! ## export -/

/-- `&schema_j5pb.Field{Type: &schema_j5pb.Field_String_{}}` on the wire: field 30, length 0 -/
def stringKeyPay : String := "f20100"

def stringKey : DField := .scalar .string 0 stringKeyPay

def SRef.toRef (r : SRef) : Ref := ⟨r.pkg, r.schema⟩

def toJ5Field : SField → DField
  | .scalar tag fmt _ _ pay => .scalar tag fmt pay
  | .any od types lr => .any od types lr
  | .enum ref rules lr ext => .enumRef ref.toRef rules lr ext
  | .object ref flatten rules ext => .objectRef ref.toRef flatten rules ext none
  | .oneof ref rules lr ext => .oneofRef ref.toRef rules lr ext
  | .map item rules ext => .map (some (toJ5Field item)) (some stringKey) rules ext
  | .array item rules ext => .array (some (toJ5Field item)) rules ext

def toJ5Prop (p : SProp) : DProp :=
  .mk p.jsonName p.required p.explicitlyOptional p.description p.protoField
    (some (toJ5Field p.schema))

def toJ5Root : SRoot → DRoot
  | .object _ name desc entity anyMember props =>
    .object (.mk name desc entity anyMember (props.map toJ5Prop))
  | .oneof _ name desc props => .oneof (.mk name desc (props.map toJ5Prop))
  | .enum _ name desc pfx options info => .enum ⟨name, desc, pfx, options, info⟩

/-! ## import: pure results -/

/-- protoreflect.Kind numbers -/
def kindBool := 8
def kindString := 9
def kindBytes := 12
def kindMessage := 11
def kindInt32 := 5
def kindInt64 := 3
def kindUint32 := 13
def kindUint64 := 4
def kindFloat := 2
def kindDouble := 1

/-- `intKinds` -/
def intKind : Nat → Option Nat
  | 1 => some kindInt32
  | 2 => some kindInt64
  | 3 => some kindUint32
  | 4 => some kindUint64
  | _ => none

/-- `floatKinds` -/
def floatKind : Nat → Option Nat
  | 1 => some kindFloat
  | 2 => some kindDouble
  | _ => none

/-- the scalar arms of `schemaFromDesc`: (Kind, WellKnownTypeName) -/
def scalarFromDesc (tag : STag) (fmt : Nat) (pay : String) : Outcome SField :=
  match tag with
  | .timestamp => .ok (.scalar tag fmt kindMessage "" pay)
  | .bool => .ok (.scalar tag fmt kindBool "" pay)
  | .string => .ok (.scalar tag fmt kindString "" pay)
  | .key => .ok (.scalar tag fmt kindString "" pay)
  | .integer =>
    match intKind fmt with
    | some k => .ok (.scalar tag fmt k "" pay)
    | none => .err "unsupported integer format"
  | .float =>
    match floatKind fmt with
    | some k => .ok (.scalar tag fmt k "" pay)
    | none => .err "unsupported float format"
  | .bytes => .ok (.scalar tag fmt kindBytes "" pay)
  | .decimal => .ok (.scalar tag fmt kindMessage "j5.types.decimal.v1" pay)
  | .date => .ok (.scalar tag fmt kindMessage "j5.types.date.v1" pay)

def enumFromDesc (pkg : String) (e : DEnum) : SRoot :=
  .enum pkg e.name e.description e.pfx e.options e.info

mutual
/-- `schemaFromDesc` (result only) in package `pkg` -/
def fieldFromDesc (pkg : String) : DField → Outcome SField
  | .unset => .err "unsupported descriptor schema type"
  | .scalar tag fmt pay => scalarFromDesc tag fmt pay
  | .any od types lr => .ok (.any od types lr)
  | .objectRef r flatten rules ext _ => .ok (.object ⟨r.pkg, r.schema, true⟩ flatten rules ext)
  | .objectInline o flatten rules ext _ =>
    match objectFromDesc pkg o with
    | .ok (.object p name _ _ _ _) => .ok (.object ⟨p, name, false⟩ flatten rules ext)
    | .ok _ => .panic "unreachable"
    | .err e => .err e
    | .panic w => .panic w
  | .objectNone _ _ _ _ => .err "unsupported object schema type"
  | .oneofRef r rules lr ext => .ok (.oneof ⟨r.pkg, r.schema, true⟩ rules lr ext)
  | .oneofInline o rules lr ext =>
    match oneofFromDesc pkg o with
    | .ok (.oneof p name _ _) => .ok (.oneof ⟨p, name, false⟩ rules lr ext)
    | .ok _ => .panic "unreachable"
    | .err e => .err e
    | .panic w => .panic w
  | .oneofNone _ _ _ => .err "unsupported oneof schema type"
  | .enumRef r rules lr ext => .ok (.enum ⟨r.pkg, r.schema, true⟩ rules lr ext)
  | .enumInline e rules lr ext => .ok (.enum ⟨pkg, e.name, false⟩ rules lr ext)
  | .enumNone _ _ _ => .err "unsupported enum schema type"
  | .array none _ _ => .err "missing field schema"
  | .array (some items) rules ext =>
    match fieldFromDesc pkg items with
    | .ok f => .ok (.array f rules ext)
    | .err e => .err e
    | .panic w => .panic w
  | .map none _ _ _ => .err "missing field schema"
  | .map (some item) _ rules ext =>
    match fieldFromDesc pkg item with
    | .ok f => .ok (.map f rules ext)
    | .err e => .err e
    | .panic w => .panic w

/-- `objectPropertyFromDesc` -/
def propFromDesc (pkg : String) : DProp → Outcome SProp
  | .mk _ _ _ _ _ none => .err "missing field schema"
  | .mk name required explicitlyOptional description protoField (some schema) =>
    match fieldFromDesc pkg schema with
    | .ok f => .ok ⟨name, required, explicitlyOptional, false, false, description, protoField, f⟩
    | .err e => .err e
    | .panic w => .panic w

def propsFromDesc (pkg : String) : List DProp → Outcome (List SProp)
  | [] => .ok []
  | p :: ps =>
    match propFromDesc pkg p with
    | .ok sp =>
      match propsFromDesc pkg ps with
      | .ok sps => .ok (sp :: sps)
      | .err e => .err e
      | .panic w => .panic w
    | .err e => .err e
    | .panic w => .panic w

/-- `objectSchemaFromDesc` -/
def objectFromDesc (pkg : String) : DObject → Outcome SRoot
  | .mk name description entity anyMember props =>
    match propsFromDesc pkg props with
    | .ok sps => .ok (.object pkg name description entity anyMember sps)
    | .err e => .err e
    | .panic w => .panic w

/-- `oneofSchemaFromDesc` -/
def oneofFromDesc (pkg : String) : DOneof → Outcome SRoot
  | .mk name description props =>
    match propsFromDesc pkg props with
    | .ok sps => .ok (.oneof pkg name description sps)
    | .err e => .err e
    | .panic w => .panic w
end

/-! The recursive arms of the importer are `map`s and `bind`s of the recursive call (the model
spells the `match` out, as Go spells `if err != nil { return nil, err }`). -/

theorem fieldFromDesc_array (pkg : String) (items : DField) (rules ext : Pay) :
    fieldFromDesc pkg (.array (some items) rules ext) =
      (fieldFromDesc pkg items).map fun f => SField.array f rules ext := by
  rw [fieldFromDesc]; cases fieldFromDesc pkg items <;> rfl

theorem fieldFromDesc_map (pkg : String) (item : DField) (key : Option DField) (rules ext : Pay) :
    fieldFromDesc pkg (.map (some item) key rules ext) =
      (fieldFromDesc pkg item).map fun f => SField.map f rules ext := by
  rw [fieldFromDesc]; cases fieldFromDesc pkg item <;> rfl

theorem propFromDesc_some (pkg name : String) (req opt : Bool) (desc : String) (path : List Int)
    (schema : DField) :
    propFromDesc pkg (.mk name req opt desc path (some schema)) =
      (fieldFromDesc pkg schema).map fun f => ⟨name, req, opt, false, false, desc, path, f⟩ := by
  rw [propFromDesc]; cases fieldFromDesc pkg schema <;> rfl

theorem propsFromDesc_cons (pkg : String) (p : DProp) (ps : List DProp) :
    propsFromDesc pkg (p :: ps) =
      (propFromDesc pkg p).bind fun sp => (propsFromDesc pkg ps).map (sp :: ·) := by
  rw [propsFromDesc]
  cases propFromDesc pkg p with
  | ok sp => cases propsFromDesc pkg ps <;> rfl
  | _ => rfl

theorem objectFromDesc_mk (pkg name desc : String) (entity : Pay) (am : List String)
    (props : List DProp) :
    objectFromDesc pkg (.mk name desc entity am props) =
      (propsFromDesc pkg props).map fun sps => SRoot.object pkg name desc entity am sps := by
  rw [objectFromDesc]; cases propsFromDesc pkg props <;> rfl

theorem oneofFromDesc_mk (pkg name desc : String) (props : List DProp) :
    oneofFromDesc pkg (.mk name desc props) =
      (propsFromDesc pkg props).map fun sps => SRoot.oneof pkg name desc sps := by
  rw [oneofFromDesc]; cases propsFromDesc pkg props <;> rfl

theorem fieldFromDesc_objectInline (pkg name desc : String) (entity : Pay) (am : List String)
    (props : List DProp) (fl : Bool) (rules ext en : Pay) :
    fieldFromDesc pkg (.objectInline (.mk name desc entity am props) fl rules ext en) =
      (propsFromDesc pkg props).map fun _ => SField.object ⟨pkg, name, false⟩ fl rules ext := by
  rw [fieldFromDesc, objectFromDesc_mk]; cases propsFromDesc pkg props <;> rfl

theorem fieldFromDesc_oneofInline (pkg name desc : String) (props : List DProp) (rules lr ext : Pay) :
    fieldFromDesc pkg (.oneofInline (.mk name desc props) rules lr ext) =
      (propsFromDesc pkg props).map fun _ => SField.oneof ⟨pkg, name, false⟩ rules lr ext := by
  rw [fieldFromDesc, oneofFromDesc_mk]; cases propsFromDesc pkg props <;> rfl

/-- `buildRoot` -/
def rootFromDesc (pkg : String) : DRoot → Outcome SRoot
  | .object o => objectFromDesc pkg o
  | .oneof o => oneofFromDesc pkg o
  | .enum e => .ok (enumFromDesc pkg e)
  | .unset => .err "expected root schema"

/-! ## import: the references registered through `refTo` -/

mutual
def fieldRefs : DField → List Ref
  | .objectRef r _ _ _ _ => [r]
  | .oneofRef r _ _ _ => [r]
  | .enumRef r _ _ _ => [r]
  | .objectInline o _ _ _ _ => objectRefs o
  | .oneofInline o _ _ _ => oneofRefs o
  | .array (some items) _ _ => fieldRefs items
  | .map (some item) _ _ _ => fieldRefs item
  | _ => []
def propRefs : DProp → List Ref
  | .mk _ _ _ _ _ (some schema) => fieldRefs schema
  | .mk _ _ _ _ _ none => []
def propsRefs : List DProp → List Ref
  | [] => []
  | p :: ps => propRefs p ++ propsRefs ps
def objectRefs : DObject → List Ref
  | .mk _ _ _ _ props => propsRefs props
def oneofRefs : DOneof → List Ref
  | .mk _ _ props => propsRefs props
end

def rootRefs : DRoot → List Ref
  | .object o => objectRefs o
  | .oneof o => oneofRefs o
  | _ => []

/-! ## the package set -/

/-- one `RefSchema` of the set: registered under (pkg, key); `to = none` is an unlinked placeholder -/
structure Entry where
  pkg : String
  key : String
  to : Option SRoot
  deriving DecidableEq, Repr, Inhabited

/-- `SchemaSet`: the packages that exist (possibly without schemas) and all registered refs -/
structure Env where
  pkgs : List String
  entries : List Entry
  deriving DecidableEq, Repr, Inhabited

def Env.empty : Env := ⟨[], []⟩

def lookupE (es : List Entry) (p k : String) : Option Entry :=
  es.find? (fun e => e.pkg == p && e.key == k)

def Env.lookup (env : Env) (p k : String) : Option Entry := lookupE env.entries p k

/-- the schema linked under (p, k), if any -/
def Env.linkedAt (env : Env) (p k : String) : Option SRoot := (env.lookup p k).bind (·.to)

/-- `referencePackage` -/
def Env.ensurePkg (env : Env) (p : String) : Env :=
  if env.pkgs.contains p then env else { env with pkgs := env.pkgs ++ [p] }

/-- `refTo`: the registered entry, created unlinked when missing -/
def Env.refTo (env : Env) (p k : String) : Env :=
  let env := env.ensurePkg p
  match env.lookup p k with
  | some _ => env
  | none => { env with entries := env.entries ++ [⟨p, k, none⟩] }

def Env.refAll (env : Env) : List Ref → Env
  | [] => env
  | r :: rs => (env.refTo r.pkg r.schema).refAll rs

/-- `refSchema.To = to` -/
def Env.setTo (env : Env) (p k : String) (r : SRoot) : Env :=
  { env with entries := env.entries.map fun e =>
      if e.pkg == p && e.key == k then { e with to := some r } else e }

-- Go ranges over a `map[string]*RootSchema` (keys unique, order unspecified); here an association list
-- in some order. Registration precedes building, so references may point to schemas built later.
/-- one iteration of the loop of `buildSchemas` -/
def buildSchema (env : Env) (p k : String) (d : DRoot) : Outcome Env :=
  let env := env.refTo p k
  match env.lookup p k with
  | some ⟨_, _, some _⟩ => .err "schema already exists"
  | _ =>
    match rootFromDesc p d with
    | .ok r => .ok ((env.refAll (rootRefs d)).setTo p k r)
    | .err e => .err e
    | .panic w => .panic w

def buildSchemas (env : Env) (p : String) : List (String × DRoot) → Outcome Env
  | [] => .ok env
  | (k, d) :: rest =>
    match buildSchema env p k d with
    | .ok env' => buildSchemas env' p rest
    | .err e => .err e
    | .panic w => .panic w

/-- the source API, sub-packages flattened to their full name -/
abbrev Api := List (String × List (String × DRoot))

def buildPackages (env : Env) : Api → Outcome Env
  | [] => .ok env
  | (p, schemas) :: rest =>
    match buildSchemas (env.ensurePkg p) p schemas with
    | .ok env' => buildPackages env' rest
    | .err e => .err e
    | .panic w => .panic w

/-! ## `assertRefsLink` -/

def SRoot.fullName : SRoot → String
  | .object pkg name _ _ _ _ => pkg ++ "." ++ name
  | .oneof pkg name _ _ => pkg ++ "." ++ name
  | .enum pkg name _ _ _ _ => pkg ++ "." ++ name

/-- the references a field schema holds (`walkFieldSchema`) -/
def SField.refs : SField → List SRef
  | .object ref _ _ _ => [ref]
  | .oneof ref _ _ _ => [ref]
  | .enum ref _ _ _ => [ref]
  | .map item _ _ => item.refs
  | .array item _ _ => item.refs
  | _ => []

def SRoot.props : SRoot → List SProp
  | .object _ _ _ _ _ props => props
  | .oneof _ _ _ props => props
  | .enum .. => []

def SRoot.refs (r : SRoot) : List SRef := r.props.flatMap fun p => p.schema.refs

/-- `RefSchema.To` of a reference held by a field: the registered entry's target, nothing for a
detached reference (its `To` is never assigned) -/
def Env.target (env : Env) (r : SRef) : Option SRoot :=
  if r.registered then (env.lookup r.pkg r.schema).bind (·.to) else none

/-- an entry whose root has not been entered yet -/
def isUnseen (seen : List String) (e : Entry) : Bool :=
  match e.to with
  | some r => !seen.contains r.fullName
  | none => false

/-- roots of the set whose full name has not been seen: the measure of the walk -/
def unseen (env : Env) (seen : List String) : Nat := (env.entries.filter (isUnseen seen)).length

theorem unseen_lt (env : Env) (seen : List String) (e : Entry) (r : SRoot)
    (he : e ∈ env.entries) (hr : e.to = some r) (hn : seen.contains r.fullName = false) :
    unseen env (r.fullName :: seen) < unseen env seen := by
  unfold unseen
  apply filter_length_lt _ _ _ _ e he
  · simpa [isUnseen, hr] using hn
  · simp [isUnseen, hr]
  · intro x
    unfold isUnseen
    cases x.to with
    | none => simp
    | some rx =>
      simp only [List.contains_cons, Bool.not_or, Bool.and_eq_true, Bool.not_eq_true',
        and_imp]
      intro _ h2
      simpa using h2

/-- The walk of `assertRefsLink` as a work list: `stack` holds the references still to visit,
`seen` the full names of the roots already entered (`seenSchemas`). A reference without target is
the error "unresolved reference"; a root already seen is skipped; otherwise its references are
pushed. Same visited-set discipline as the recursive closures of the Go code, so the same set of
references is examined; which unresolved reference is reported first is not observable
(errors are compared by class). -/
def linkWalk (env : Env) (seen : List String) (stack : List SRef) : Outcome Unit :=
  match stack with
  | [] => .ok ()
  | ref :: rest =>
    if hreg : ref.registered then
      match hl : env.lookup ref.pkg ref.schema with
      | none => .err "unresolved reference"
      | some e =>
        match ht : e.to with
        | none => .err "unresolved reference"
        | some r =>
          if hs : seen.contains r.fullName then linkWalk env seen rest
          else linkWalk env (r.fullName :: seen) (r.refs ++ rest)
    else .err "unresolved reference"
termination_by (unseen env seen, stack.length)
decreasing_by
  · exact Prod.Lex.right _ (by simp)
  · apply Prod.Lex.left
    have hmem : e ∈ env.entries := by
      unfold Env.lookup lookupE at hl
      exact List.mem_of_find?_eq_some hl
    exact unseen_lt env seen e r hmem ht (by simpa using hs)

/-- one step of the walk, without the proofs the definition carries for its termination -/
theorem linkWalk_cons (env : Env) (seen : List String) (ref : SRef) (rest : List SRef) :
    linkWalk env seen (ref :: rest) =
      if ref.registered then
        match env.linkedAt ref.pkg ref.schema with
        | none => .err "unresolved reference"
        | some r =>
          if seen.contains r.fullName then linkWalk env seen rest
          else linkWalk env (r.fullName :: seen) (r.refs ++ rest)
      else .err "unresolved reference" := by
  rw [linkWalk, Env.linkedAt]
  split
  · split
    · rename_i hl; simp [hl]
    · rename_i e hl
      split
      · rename_i ht; simp [hl, ht]
      · rename_i r ht; simp [hl, ht]
  · rfl

/-- `Package.assertRefsLink`: every entry of the package, with a fresh `seenSchemas` -/
def assertRefsLink (env : Env) (p : String) : Outcome Unit :=
  linkWalk env [] ((env.entries.filter (·.pkg == p)).map fun e => ⟨e.pkg, e.key, true⟩)

def assertAll (env : Env) : List String → Outcome Unit
  | [] => .ok ()
  | p :: ps =>
    match assertRefsLink env p with
    | .ok () => assertAll env ps
    | .err e => .err e
    | .panic w => .panic w

/-- `PackageSetFromSourceAPI` -/
def packageSetFromSourceAPI (api : Api) : Outcome Env :=
  match buildPackages Env.empty api with
  | .ok env =>
    match assertAll env env.pkgs with
    | .ok () => .ok env
    | .err e => .err e
    | .panic w => .panic w
  | .err e => .err e
  | .panic w => .panic w

/-! The loops of the importer as `bind`s of their bodies. -/

theorem buildSchema_eq (env : Env) (p k : String) (d : DRoot) :
    buildSchema env p k d =
      if ((env.refTo p k).linkedAt p k).isSome then .err "schema already exists"
      else (rootFromDesc p d).map fun r => ((env.refTo p k).refAll (rootRefs d)).setTo p k r := by
  unfold buildSchema Env.linkedAt
  simp only
  split
  · rename_i h; simp [h]
  · rename_i h
    have : ((env.refTo p k).lookup p k).bind (·.to) = none := by
      cases hl : (env.refTo p k).lookup p k with
      | none => rfl
      | some e =>
        obtain ⟨a, b, _ | c⟩ := e
        · rfl
        · exact absurd hl (h a b c)
    rw [this]
    cases rootFromDesc p d <;> rfl

theorem buildSchemas_cons (env : Env) (p k : String) (d : DRoot) (rest : List (String × DRoot)) :
    buildSchemas env p ((k, d) :: rest) = (buildSchema env p k d).bind (buildSchemas · p rest) := by
  rw [buildSchemas]; cases buildSchema env p k d <;> rfl

theorem buildPackages_cons (env : Env) (p : String) (s : List (String × DRoot)) (rest : Api) :
    buildPackages env ((p, s) :: rest) =
      (buildSchemas (env.ensurePkg p) p s).bind (buildPackages · rest) := by
  rw [buildPackages]; cases buildSchemas (env.ensurePkg p) p s <;> rfl

theorem assertAll_cons (env : Env) (p : String) (ps : List String) :
    assertAll env (p :: ps) = (assertRefsLink env p).bind fun _ => assertAll env ps := by
  rw [assertAll]; cases assertRefsLink env p <;> rfl

theorem packageSetFromSourceAPI_eq (api : Api) :
    packageSetFromSourceAPI api =
      (buildPackages Env.empty api).bind fun env => (assertAll env env.pkgs).map fun _ => env := by
  unfold packageSetFromSourceAPI
  cases buildPackages Env.empty api with
  | ok env => simp only [Outcome.bind]; cases assertAll env env.pkgs <;> rfl
  | _ => rfl

/-! ## exporting a whole set -/

/-- `ToJ5Root` of every linked entry, grouped by package in the set's order -/
def exportEnv (env : Env) : Api :=
  env.pkgs.map fun p =>
    (p, (env.entries.filter (·.pkg == p)).filterMap fun e => e.to.map fun r => (e.key, toJ5Root r))

/-- the exported form of one schema of the set, if it is linked -/
def exportLookup (env : Env) (p k : String) : Option DRoot :=
  ((env.lookup p k).bind (·.to)).map toJ5Root

theorem exportLookup_eq (env : Env) (p k : String) :
    exportLookup env p k = (env.linkedAt p k).map toJ5Root := rfl

end J5V.Schema
