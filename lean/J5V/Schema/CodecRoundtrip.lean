import J5V.Codec.AnyPbProofs
import J5V.Schema.EnvModel
/-!
# C18 → C01: the codec round trip on reflected schemas

`toEnv ds reg` (EnvModel.lean, validated by the `env=` part of the `schema.reflect`
correspondence) is the codec model's view of a reflected registry. The codec cluster proves the
byte-level round trip (`Codec.roundtrip_bytes` = `C01_roundtrip_partial`) for every environment in
`Env.flat`. Here the two are composed: for a reflected environment that lies in `Env.flat`, every
representable message of every reflected root round-trips.

`Env.flat` on a reflected environment says: every client property has a non-empty proto path and a
simple field schema or is an exposed oneof, client property names are pairwise distinct (the open
finding `duplicate-client-property-name` is exactly a reflected set outside `Env.flat`), leaf paths
are distinct and prefix-free, names are valid UTF-8. It is decidable, and evaluated on the
witnesses of `Props/C18.lean`; that it follows from `clientNamesOK` for every reflected set is not proved.
-/
namespace J5V.Schema.Bridge
open J5V.Go J5V.Schema J5V.Schema.Reader J5V.Json

/-- **reflected round trip**: reflection succeeded, the reflected environment is flat ⇒ for every
codec over it (any oracle satisfying the laws, with or without `WithProtoToAny`, any `Any`
nesting depth), every root and every representable message `m` the codec can decode:
`ProtoToJSON` succeeds and `JSONToProto` maps the bytes back to `m`. -/
theorem reflected_roundtrip (ds : DescSet) (reg : Reg) (_h : schemaSetFromFiles ds = .ok reg)
    (c : Codec.Cfg) (hc : c.env = toEnv ds reg) (hflat : (toEnv ds reg).flat = true)
    (L : Codec.OracleLaws c.O) (hC : (toEnv ds reg).noAny = true ∨ Codec.ChunkLaws c.O)
    (root : String) (m : Codec.Fields)
    (hok : Codec.valOk (toEnv ds reg) c.O (.object root) (.msg m) = true ∨
      Codec.valOk (toEnv ds reg) c.O (.oneof root) (.msg m) = true)
    (hM : c.canDecode m) :
    ∃ bs, Codec.encodeBytes (toEnv ds reg) c.O root (.msg m) = .ok bs ∧
      Codec.decodeBytes c root bs = .ok m := by
  rw [← hc] at hflat hC hok ⊢
  exact Codec.roundtrip_bytes c hflat L hC root m hok hM

/-- without `Any` fields in the reflected environment nothing is asked of the codec
configuration (`canDecode` is void, `ChunkLaws` not needed) -/
theorem reflected_roundtrip_noAny (ds : DescSet) (reg : Reg) (h : schemaSetFromFiles ds = .ok reg)
    (c : Codec.Cfg) (hc : c.env = toEnv ds reg) (hflat : (toEnv ds reg).flat = true)
    (hna : (toEnv ds reg).noAny = true) (L : Codec.OracleLaws c.O)
    (root : String) (m : Codec.Fields)
    (hok : Codec.valOk (toEnv ds reg) c.O (.object root) (.msg m) = true ∨
      Codec.valOk (toEnv ds reg) c.O (.oneof root) (.msg m) = true) :
    ∃ bs, Codec.encodeBytes (toEnv ds reg) c.O root (.msg m) = .ok bs ∧
      Codec.decodeBytes c root bs = .ok m := by
  refine reflected_roundtrip ds reg h c hc hflat L (Or.inl hna) root m hok ?_
  have hna' : c.env.noAny = true := by rw [hc]; exact hna
  have hok' : Codec.valOk c.env c.O (.object root) (.msg m) = true ∨
      Codec.valOk c.env c.O (.oneof root) (.msg m) = true := by rw [hc]; exact hok
  exact Codec.canDecode_of_noAny c hna' root m hok'

end J5V.Schema.Bridge
