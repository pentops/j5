import J5V.Schema.Export
import J5V.Go.OutcomeLemmas
/-!
# The importer never panics — on **any** source API (C15)

An absent `ArrayField.items`, `MapField.item_schema` or `ObjectProperty.schema` is an error (the
nil check of `schemaFromDesc`, Go commit f31b315), and no `.panic` arm of the model is reachable:
the two `unreachable` arms follow a call of `objectFromDesc` / `oneofFromDesc`, which only ever
return an object / oneof root.
-/
namespace J5V.Schema
open J5V.Go

def NoPanic {α} (o : Outcome α) : Prop := ∀ w, o ≠ .panic w

theorem scalarFromDesc_np (tag : STag) (fmt : Nat) (pay : String) : NoPanic (scalarFromDesc tag fmt pay) :=
  noPanic_iff.mpr (by unfold scalarFromDesc; split <;> first | rfl | (split <;> rfl))

mutual
theorem fieldFromDesc_np (pkg : String) : (d : DField) → NoPanic (fieldFromDesc pkg d)
  | .scalar tag fmt pay => by rw [fieldFromDesc]; exact scalarFromDesc_np tag fmt pay
  | .objectInline (.mk _ _ _ _ props) _ _ _ _ => by
    rw [fieldFromDesc_objectInline]; exact map_noPanic (propsFromDesc_np pkg props)
  | .oneofInline (.mk _ _ props) _ _ _ => by
    rw [fieldFromDesc_oneofInline]; exact map_noPanic (propsFromDesc_np pkg props)
  | .array (some items) _ _ => by
    rw [fieldFromDesc_array]; exact map_noPanic (fieldFromDesc_np pkg items)
  | .map (some item) _ _ _ => by
    rw [fieldFromDesc_map]; exact map_noPanic (fieldFromDesc_np pkg item)
  | .unset | .any _ _ _ | .objectRef _ _ _ _ _ | .objectNone _ _ _ _ | .oneofRef _ _ _ _
  | .oneofNone _ _ _ | .enumRef _ _ _ _ | .enumInline _ _ _ _ | .enumNone _ _ _
  | .array none _ _ | .map none _ _ _ => by intro w; simp [fieldFromDesc]
theorem propFromDesc_np (pkg : String) : (p : DProp) → NoPanic (propFromDesc pkg p)
  | .mk _ _ _ _ _ none => by intro w; simp [propFromDesc]
  | .mk _ _ _ _ _ (some schema) => by
    rw [propFromDesc_some]; exact map_noPanic (fieldFromDesc_np pkg schema)
theorem propsFromDesc_np (pkg : String) : (ps : List DProp) → NoPanic (propsFromDesc pkg ps)
  | [] => by intro w; simp [propsFromDesc]
  | p :: ps => by
    rw [propsFromDesc_cons]
    exact bind_noPanic (propFromDesc_np pkg p) fun _ _ => map_noPanic (propsFromDesc_np pkg ps)
theorem objectFromDesc_np (pkg : String) : (o : DObject) → NoPanic (objectFromDesc pkg o)
  | .mk _ _ _ _ props => by
    rw [objectFromDesc_mk]; exact map_noPanic (propsFromDesc_np pkg props)
theorem oneofFromDesc_np (pkg : String) : (o : DOneof) → NoPanic (oneofFromDesc pkg o)
  | .mk _ _ props => by
    rw [oneofFromDesc_mk]; exact map_noPanic (propsFromDesc_np pkg props)
end

theorem rootFromDesc_np (pkg : String) (d : DRoot) : NoPanic (rootFromDesc pkg d) := by
  cases d with
  | object o => exact objectFromDesc_np pkg o
  | oneof o => exact oneofFromDesc_np pkg o
  | enum e => intro w; simp [rootFromDesc]
  | unset => intro w; simp [rootFromDesc]

theorem buildSchema_np (env : Env) (p k : String) (d : DRoot) : NoPanic (buildSchema env p k d) := by
  rw [buildSchema_eq]
  exact ite_noPanic (fun _ => noPanic_err _) fun _ => map_noPanic (rootFromDesc_np p d)

theorem buildSchemas_np (env : Env) (p : String) (l : List (String × DRoot)) :
    NoPanic (buildSchemas env p l) := by
  induction l generalizing env with
  | nil => exact noPanic_ok _
  | cons x xs ih =>
    rw [buildSchemas_cons]; exact bind_noPanic (buildSchema_np _ _ _ _) fun _ _ => ih _

theorem buildPackages_np (env : Env) (api : Api) : NoPanic (buildPackages env api) := by
  induction api generalizing env with
  | nil => exact noPanic_ok _
  | cons x xs ih =>
    rw [buildPackages_cons]; exact bind_noPanic (buildSchemas_np _ _ _) fun _ _ => ih _

theorem linkWalk_np (env : Env) (seen : List String) (stack : List SRef) :
    NoPanic (linkWalk env seen stack) := by
  induction seen, stack using linkWalk.induct env with
  | case1 seen => intro w; simp [linkWalk]
  | case2 seen ref rest hreg hl => simp [NoPanic, linkWalk_cons, Env.linkedAt, hreg, hl]
  | case3 seen ref rest hreg e hl ht => simp [NoPanic, linkWalk_cons, Env.linkedAt, hreg, hl, ht]
  | case4 seen ref rest hreg e hl r ht hs ih =>
    rw [linkWalk_cons]; simpa only [hreg, Env.linkedAt, hl, ht, hs, Option.bind_some, ↓reduceIte] using ih
  | case5 seen ref rest hreg e hl r ht hs ih =>
    rw [linkWalk_cons]
    simpa only [hreg, Env.linkedAt, hl, ht, hs, Option.bind_some, Bool.false_eq_true, ↓reduceIte] using ih
  | case6 seen ref rest hreg => simp [NoPanic, linkWalk_cons, hreg]


theorem assertAll_np (env : Env) (ps : List String) : NoPanic (assertAll env ps) := by
  induction ps with
  | nil => exact noPanic_ok _
  | cons p ps ih => rw [assertAll_cons]; exact bind_noPanic (linkWalk_np env [] _) fun _ _ => ih

/-- **`PackageSetFromSourceAPI` never panics**, whatever source API it is given -/
theorem packageSetFromSourceAPI_np (api : Api) : NoPanic (packageSetFromSourceAPI api) := by
  rw [packageSetFromSourceAPI_eq]
  exact bind_noPanic (buildPackages_np _ api) fun env _ => map_noPanic (assertAll_np env _)

end J5V.Schema
