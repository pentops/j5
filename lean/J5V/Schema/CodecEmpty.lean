import J5V.Codec.AtPathProofs
import J5V.Schema.CodecBridge
import J5V.Codec.EncodeEqs
import J5V.Codec.DecodeProofs
/-!
# C18 → codec: the empty message of a reflected object or oneof root

On the codec cluster's model (`J5V.Codec.encodeBytes` / `decodeBytes`; the proofs unfold its
`hasProp`, `encField`, `encObjectBody`, `encRoot`, `encodeTree`, `getPath`, `decRootTree`,
`decObjMembers`) with the env `toEnv` renders from a reflected registry: the empty message of every
object of a settled registry encodes to `{}`, and `{}` decodes to the empty message. What this needs
from reflection: the object's def is found under its name, every client property has a proto path (so
nothing is populated) or is the wrapper of an exposed oneof whose own def is in the env — which
`RegLinks` + `AllLinked` provide.
-/
namespace J5V.Schema.Bridge
open J5V.Go J5V.Schema J5V.Schema.Reader J5V.Json J5V.Codec

/-- the tokenizer / tree builder on the two bytes `{}` -/
theorem readDoc_empty : readDoc (ascii "{}") = .obj (.nil .closed) := by rfl

theorem hasProp_empty (env : Env) (f : Nat) (p : PropDef) : hasProp env f p [] = false := by
  induction f generalizing p with
  | zero => rfl
  | succ f ih =>
    rw [hasProp]
    split
    · split
      · split
        · -- an exposed oneof: no member is set, so the filter is empty
          rw [List.filter_eq_nil_iff.mpr]
          · rfl
          · intro q _
            split
            · simp [ih]
            · simp
        · rfl
      · rfl
    · simp [getPath_nil]

/-- a property that contributes nothing to the encoding of the empty message: it has a proto
path (nothing is populated), or it is an exposed oneof whose def the env holds -/
def EmptyOK (env : Env) (q : PropDef) : Prop :=
  q.path ≠ [] ∨ ∃ ref ops, q.field = .oneof ref ∧ env.find ref = some (.oneof ops)

theorem encField_empty (env : Env) (O : Oracle) (f : Nat) (q : PropDef) (h : EmptyOK env q) :
    encField env O (f + 1) q [] = .ok none := by
  rw [encField]
  rcases h with hp | ⟨ref, ops, hf, he⟩
  · split
    · rename_i hnil; exact absurd hnil hp
    · simp [getPath_nil]
  · split
    · simp only [hf, he, hasProp_empty]
      rfl
    · simp [getPath_nil]

theorem findProp_isSome (props : List PropDef) (p : PropDef) (hp : p ∈ props) :
    ∃ q, findProp props p.jsonName = some q ∧ q ∈ props := by
  cases h : findProp props p.jsonName with
  | none =>
    unfold findProp at h
    have := List.find?_eq_none.mp h p (by simpa using hp)
    simp at this
  | some q => exact ⟨q, rfl, findProp_mem props _ q h⟩

theorem encObjectBody_empty (env : Env) (O : Oracle) (f : Nat) (props : List PropDef)
    (h : ∀ q ∈ props, EmptyOK env q) :
    encObjectBody env O (f + 2) props [] = .ok (.obj (.nil .closed)) := by
  rw [encObjectBody_eq, Outcome.seq_of_all_ok _ props (fun _ => none)]
  · simp [Outcome.map, membersOfSet, List.reduceOption, List.filterMap_eq_nil_iff.mpr, membersOf]
  · intro p hp
    obtain ⟨q, hq, hqm⟩ := findProp_isSome props p hp
    simp only [objMember, hq, encField_empty env O f q (h q hqm)]

/-- the empty message is encoded at fuel 16 = `encFuel (.msg [])` (6 · depth + 10, depth 1); `encRoot`
spends one unit, so the bodies run at 15 = 13 + 2 (`encObjectBody_empty`) = 14 + 1 (`encOneofBody_empty`) -/
theorem encodeBytes_empty (env : Env) (O : Oracle) (root : String)
    (h : encRoot env O 16 root (.msg []) = .ok (.obj (.nil .closed))) :
    encodeBytes env O root (.msg []) = .ok (ascii "{}") := by
  have hd : (PVal.msg []).depth = 1 := by simp [PVal.depth, depthFields]
  have ht : encodeTree env O root (.msg []) = .ok (.obj (.nil .closed)) := by
    unfold encodeTree encFuel
    rw [hd]
    exact h
  unfold encodeBytes
  rw [ht]
  rfl

/-- on the codec model, whatever the environment: an object def whose properties are all silent on
the empty message encodes it to `{}`, and `{}` decodes to it -/
theorem empty_object (c : Cfg) (O : Oracle) (root : String) (props : List PropDef)
    (hfind : c.env.find root = some (.object props)) (h : ∀ q ∈ props, EmptyOK c.env q) :
    encodeBytes c.env O root (.msg []) = .ok (ascii "{}") ∧
    decodeBytes c root (ascii "{}") = .ok [] := by
  constructor
  · apply encodeBytes_empty
    rw [encRoot]
    · exact encObjectBody_empty c.env O 13 props h
    · exact hfind
  · unfold decodeBytes
    rw [readDoc_empty, decRootTree]
    simp only [hfind]
    rw [decObjMembers]
    rfl


/-- an entry's def is found under its name, given that def names `package.Name` are distinct -/
theorem toEnv_find (ds : DescSet) (reg : Reg) (hf : Found reg)
    (hinj : ∀ a ∈ reg, ∀ b ∈ reg, rootName a.pkg a.key = rootName b.pkg b.key →
      a.pkg = b.pkg ∧ a.key = b.key)
    (e : REntry) (he : e ∈ reg) :
    (toEnv ds reg).find (rootName e.pkg e.key) = some (entryRoot ds reg e) := by
  unfold Env.find toEnv
  simp only [List.find?_map]
  have : reg.find? ((fun d : String × Root => d.1 == rootName e.pkg e.key) ∘
      fun e => (rootName e.pkg e.key, entryRoot ds reg e)) = some e := by
    cases h : reg.find? _ with
    | none => simpa using List.find?_eq_none.mp h e he
    | some y =>
      have hy := List.mem_of_find?_eq_some h
      obtain ⟨h1, h2⟩ := hinj y hy e he (by simpa using List.find?_some h)
      have hy' := hf y hy
      rw [h1, h2, hf e he] at hy'
      rw [Option.some.inj hy']
  simp [this]

/-! ## def names are distinct: a schema name contains no dot -/

theorem list_dot_split {a a' b b' : List Char} (hb : '.' ∉ b) (hb' : '.' ∉ b')
    (h : a ++ '.' :: b = a' ++ '.' :: b') : a = a' ∧ b = b' := by
  rcases List.append_eq_append_iff.mp h with ⟨c, h1, h2⟩ | ⟨c, h1, h2⟩
  · cases c with
    | nil => simp at h1 h2; exact ⟨h1.symm, h2⟩
    | cons x c' =>
      simp only [List.cons_append, List.cons.injEq] at h2
      exact absurd (by rw [h2.2]; simp) hb
  · cases c with
    | nil => simp at h1 h2; exact ⟨h1, h2.symm⟩
    | cons x c' =>
      simp only [List.cons_append, List.cons.injEq] at h2
      exact absurd (by rw [h2.2]; simp) hb'

theorem rootName_inj {p k p' k' : String} (hk : dotFree k = true) (hk' : dotFree k' = true)
    (h : rootName p k = rootName p' k') : p = p' ∧ k = k' := by
  have hl : (rootName p k).toList = (rootName p' k').toList := by rw [h]
  simp only [rootName, String.toList_append] at hl
  have hd : ".".toList = ['.'] := rfl
  rw [hd] at hl
  simp only [List.append_assoc, List.singleton_append] at hl
  unfold dotFree at hk hk'
  simp only [Bool.not_eq_eq_eq_not, Bool.not_true, List.contains_eq_mem, decide_eq_false_iff_not] at hk hk'
  obtain ⟨h1, h2⟩ := list_dot_split hk hk' hl
  exact ⟨String.toList_inj.mp h1, String.toList_inj.mp h2⟩

/-- every key of a settled registry of a linked set is a schema name of the set: no dot -/
theorem keys_dotFree (ds : DescSet) (hl : linked ds = true) (reg : Reg) (hs : Settled ds reg)
    (e : REntry) (he : e ∈ reg) : dotFree e.key = true := by
  have hsp := linked_splits hl
  unfold splitsDotFree at hsp
  simp only [Bool.and_eq_true, List.all_eq_true] at hsp
  cases hto : e.to with
  | none => exact absurd hto (hs.allLinked e he)
  | some root =>
    have hr := hs.links e he root hto
    cases root with
    | enum _ _ _ _ =>
      obtain ⟨_, en, hen, hk⟩ := hr
      rw [hk]; exact hsp.2 en hen
    | object _ _ _ _ _ =>
      obtain ⟨m, hc, _, _, _, hk, _⟩ := hr
      rw [hk]; exact (hsp.1 m hc.mem).1
    | oneof _ _ _ =>
      rcases hr with ⟨m, hc, _, _, _, hk, _⟩ | ⟨m, o, hc, ho, _, _, hk, _⟩
      · rw [hk]; exact (hsp.1 m hc.mem).1
      · rw [hk]; exact (hsp.1 m hc.mem).2 o ho

theorem nameInj_of_settled (ds : DescSet) (hl : linked ds = true) (reg : Reg) (hs : Settled ds reg) :
    ∀ a ∈ reg, ∀ b ∈ reg, rootName a.pkg a.key = rootName b.pkg b.key →
      a.pkg = b.pkg ∧ a.key = b.key :=
  fun a ha b hb h => rootName_inj (keys_dotFree ds hl reg hs a ha) (keys_dotFree ds hl reg hs b hb) h

theorem toProp_path (ds : DescSet) (m : Msg) (p : RProp) :
    (toProp ds m p).path = p.path.map Int.toNat := by
  unfold toProp
  split <;> rfl

theorem resolveIn_nil (ds : DescSet) (m : Msg) : resolveIn ds m [] = none := by
  simp [resolveIn]

/-- a oneof schema registered for a message of the set, or for one of its oneofs, is rendered as a
oneof def -/
theorem entryRoot_oneof {ds : DescSet} {reg : Reg} {e : REntry} {p k : String} {ps : List RProp}
    (hto : e.to = some (.oneof p k ps)) {m : Msg} (hm : m ∈ ds.msgs)
    (hsrc : e.src = m.full ∨ ∃ o ∈ m.oneofs, e.src = m.full ++ "." ++ o.name) :
    ∃ ops, entryRoot ds reg e = .oneof ops := by
  have : (ownerMsg ds e.src).isSome = true := by
    unfold ownerMsg
    rw [List.find?_isSome]
    refine ⟨m, hm, ?_⟩
    simp only [Bool.or_eq_true, beq_iff_eq, List.any_eq_true]
    rcases hsrc with h | ⟨o, ho, h⟩
    · exact Or.inl h.symm
    · exact Or.inr ⟨o, ho, h.symm⟩
  unfold entryRoot
  simp only [hto]
  cases hom : ownerMsg ds e.src with
  | none => simp [hom] at this
  | some mo => exact ⟨_, rfl⟩

theorem entryRoot_object {ds : DescSet} {reg : Reg} {e : REntry} {p k : String}
    {en : Option (String × Int)} {am : List String} {ps cps : List RProp} {m : Msg}
    (hto : e.to = some (.object p k en am ps)) (hm : ds.msg? e.src = some m)
    (hcps : clientProps reg [⟨e.pkg, e.key⟩] ps = .ok cps) :
    entryRoot ds reg e = .object (cps.map (toProp ds m)) := by
  unfold entryRoot
  simp only [hto, hm, hcps]

/-- **the empty message of every object of a settled registry — a reflected set, a cache between
calls — encodes to `{}` and `{}` decodes to the empty message — on the codec cluster's model,
through `toEnv`** -/
theorem settled_empty_message (ds : DescSet) (hl : linked ds = true) (reg : Reg)
    (hs : Settled ds reg) (e : REntry) (he : e ∈ reg)
    (p k : String) (en : Option (String × Int)) (am : List String) (ps : List RProp)
    (hto : e.to = some (.object p k en am ps)) (O : Oracle) (c : Cfg) (hc : c.env = toEnv ds reg) :
    encodeBytes (toEnv ds reg) O (rootName e.pkg e.key) (.msg []) = .ok (ascii "{}") ∧
    decodeBytes c (rootName e.pkg e.key) (ascii "{}") = .ok [] := by
  have hinj := nameInj_of_settled ds hl reg hs
  obtain ⟨m, hcan, hsrc, hprops, _⟩ := hs.object he hto
  obtain ⟨cps, hcps, hok⟩ := clientProps_ok ds hl reg hs [⟨e.pkg, e.key⟩] ps m hcan hprops
  have hfind := toEnv_find ds reg hs.found hinj e he
  rw [entryRoot_object hto (by rw [hsrc]; exact hcan) hcps] at hfind
  -- every property is silent on the empty message
  have hempty : ∀ q ∈ cps.map (toProp ds m), EmptyOK (toEnv ds reg) q := by
    intro q hq
    obtain ⟨cp, hcp, rfl⟩ := List.mem_map.mp hq
    by_cases hpath : cp.path = []
    · right
      have hown : cp ∈ ps := by
        refine (clientProps_mem reg _ ps cps hcps cp hcp).of_emptyPath ?_ hpath
        intro prop hprop ref hsch
        rcases hprops prop hprop with ⟨f, _, hp, _⟩ | ⟨_, o, _, hso, _⟩
        · rw [hp]; simp
        · rw [hsch] at hso; cases hso
      rcases hprops cp hown with ⟨f, _, hp, _⟩ | ⟨_, o, ho, hso, hown'⟩
      · rw [hp] at hpath; cases hpath
      · obtain ⟨e', hf', hsrc'⟩ := hown'
        have he' := mem_of_find reg _ _ e' hf'
        obtain ⟨hp', hk'⟩ := Reg.find_pred reg _ _ e' hf'
        obtain ⟨_, _, _, hto'⟩ := hs.root_of_oneof hl he' hcan ho hsrc'
        obtain ⟨ops, hops⟩ := entryRoot_oneof (reg := reg) hto' hcan.mem (Or.inr ⟨o, ho, hsrc'⟩)
        refine ⟨rootName m.pkg o.split, ops, ?_, ?_⟩
        · unfold toProp
          rw [hpath, resolveIn_nil]
          simp only [hso, toField]
        · have := toEnv_find ds reg hs.found hinj e' he'
          rw [hp', hk', hops] at this
          exact this
    · exact Or.inl (by simpa [toProp_path] using hpath)
  rw [← hc] at hfind hempty ⊢
  exact empty_object c O _ _ hfind hempty

/-! ## oneof roots (a oneof wrapper message, an exposed oneof) -/

theorem encOneofBody_empty (env : Env) (O : Oracle) (f : Nat) (ops : List PropDef) :
    encOneofBody env O (f + 1) ops [] = .ok (.obj (.nil .closed)) := by
  rw [encOneofBody]
  have : ops.filter (oneofSet env (f + 1) ops []) = [] := by
    apply List.filter_eq_nil_iff.mpr
    intro q _
    unfold oneofSet
    split
    · simp [hasProp_empty]
    · simp
  rw [this]

/-- … and a oneof def, with no member set -/
theorem empty_oneof (c : Cfg) (O : Oracle) (root : String) (ops : List PropDef)
    (hfind : c.env.find root = some (.oneof ops)) :
    encodeBytes c.env O root (.msg []) = .ok (ascii "{}") ∧
    decodeBytes c root (ascii "{}") = .ok [] := by
  constructor
  · apply encodeBytes_empty
    simp only [encRoot, hfind]
    exact encOneofBody_empty c.env O 14 ops
  · unfold decodeBytes
    rw [readDoc_empty, decRootTree]
    simp only [hfind]
    rw [decOneofMembers]
    simp [finishOneof, oneofPost, applyPost, closeOk]

/-- the same for every **oneof** schema of a settled registry: no member set ⇒ `{}`, and `{}`
decodes to the message with no member set -/
theorem settled_empty_message_oneof (ds : DescSet) (hl : linked ds = true) (reg : Reg)
    (hs : Settled ds reg) (e : REntry) (he : e ∈ reg)
    (p k : String) (ps : List RProp) (hto : e.to = some (.oneof p k ps)) (O : Oracle) (c : Cfg)
    (hc : c.env = toEnv ds reg) :
    encodeBytes (toEnv ds reg) O (rootName e.pkg e.key) (.msg []) = .ok (ascii "{}") ∧
    decodeBytes c (rootName e.pkg e.key) (ascii "{}") = .ok [] := by
  have hinj := nameInj_of_settled ds hl reg hs
  obtain ⟨ops, hroot⟩ : ∃ ops, entryRoot ds reg e = .oneof ops := by
    obtain ⟨m, hc0, hsrc, _⟩ := hs.oneof he hto
    exact entryRoot_oneof hto hc0.mem hsrc
  have hfind := toEnv_find ds reg hs.found hinj e he
  rw [hroot, ← hc] at hfind
  rw [← hc]
  exact empty_oneof c O _ ops hfind

end J5V.Schema.Bridge
