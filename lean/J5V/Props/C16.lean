import J5V.Pipe.Proofs
import J5V.Pipe.WalkProofs
import J5V.Pipe.FlattenProofs
import J5V.Pipe.ListRequestProofs
import J5V.Pipe.EntityProofs
import J5V.Pipe.SwaggerProofs
import J5V.Pipe.SwaggerDocProofs
import J5V.Pipe.SwaggerProtoProofs
import J5V.Generated.PipeFacts
/-!
# C16 — everything the compiler emits is consumable by the rest of the toolchain

Only the property theorems, their non-vacuity examples and the obligations over facts regenerated
from the Go source live here; the lemmas are in `J5V/Pipe/Proofs.lean` (paths, names, split, the
composed chain), `WalkProofs`, `FlattenProofs`, `ListRequestProofs`, `JoinProofs`,
`SwaggerDocProofs` and, next to their definitions, `Swagger.lean` / `SwaggerProto.lean`.
-/
namespace J5V.Props.C16
open J5V.Go J5V.Pipe
open J5V.Compile (Str toCamel toSnake toLowerCamel toScreamingSnake splitOnByte joinWith pathJoin pathClean
  hasPrefix hasSuffix trimSuffix)

/-! ## the http path: `:name → {snake}` (compiler) and `{snake} → :jsonName` (structure) -/

/-- **Path round trip.** For the request message the compiler emits (proto name `ToSnake n`,
explicit JSON name `n` for each declared property `n`), the consumer's rewrite undoes the
producer's: whatever path the compiler accepts, the client API shows exactly that (resolved)
path. The one side condition on identifiers: distinct request properties have distinct proto
field names (`SnakeInjective`, decidable; protobuf's linker rejects the message otherwise, e.g.
`fooId` next to `foo_id`). Full strength since `fix:` 5ac34d8 (compiler rejects literal parts
containing `{ } * :`); before it this needed the extra hypothesis `LiteralsClean`. -/
theorem C16_path_inverse (props : List Str) (path p' : Str) (hinj : SnakeInjective props)
    (h : rewrite props path = .ok p') : unrewrite (fieldsOf props) p' = .ok path :=
  path_roundtrip props path p' hinj h

/-- the witnesses of the repaired finding (`path:literal-rejected-downstream`,
`path:roundtrip-differs`; replays: kernel ops `pp 2f613a62`, `pp 2f7b787d 78`): the compiler now
rejects them, while the consumer still reads them the way that made them findings -/
theorem C16_path_literal_rejected :
    (rewrite [] b!"/a:b").isErr = true ∧ (rewrite [b!"x"] b!"/{x}").isErr = true
    ∧ (unrewrite (fieldsOf []) b!"/a:b").isErr = true
    ∧ unrewrite (fieldsOf [b!"x"]) b!"/{x}" = .ok b!"/:x" := by
  decide +kernel

/-- the accepted paths are exactly those whose parameters name properties and whose literal
parts are clean -/
theorem C16_path_accepted_iff (props : List Str) (path : Str) :
    (∃ p', rewrite props path = .ok p') ↔
      (LiteralsClean path ∧ ∀ n ∈ pathParamNames path, n ∈ props) :=
  ⟨fun ⟨p', h⟩ => ⟨((rewrite_eq_ok_iff props path p').mp h).2.1, ((rewrite_eq_ok_iff props path p').mp h).1⟩,
    fun ⟨hlit, hparam⟩ => ⟨_, (rewrite_eq_ok_iff props path _).mpr ⟨hparam, hlit, rfl⟩⟩⟩

/-- the compiler accepts a path only if every path parameter names a request property -/
theorem C16_path_params_named (props : List Str) (path p' : Str) (h : rewrite props path = .ok p') :
    ∀ n ∈ pathParamNames path, n ∈ props :=
  ((rewrite_eq_ok_iff props path p').mp h).1

/-- `buildMethod`'s slice expression `part[1:len(part)-1]` is never out of range: the consumer
never panics, on any pattern and any request message -/
theorem C16_path_no_panic (fields : List PField) (pattern : Str) (w : String) :
    unrewrite fields pattern ≠ .panic w := by
  unfold unrewrite
  cases h : unrewriteParts fields (splitOnByte 47 pattern) with
  | ok qs => simp
  | err e => simp
  | panic w' => exact absurd h (unrewriteParts_no_panic fields _ w')

/-! ## names -/

/-- **Every name the producer can emit passes the consumer's test**: `<N>Service` is built as a
service, `ToCamel(n)Topic` as a topic (never mistaken for a service or dropped as `…Events`),
`<M>Request` / `<M>Response` / `google.api.HttpBody` pass `buildMethod`, `<M>Message` /
`google.protobuf.Empty` pass `buildTopicMethod`, and a `<M>Response` is never taken for the raw
`HttpBody` marker by `methodFromSource` while the real one always is. -/
theorem C16_names_accepted (pkg n m : Str) (hasResp : Bool) :
    classify (serviceName n) = .service
    ∧ classify (topicName n) = .topic
    ∧ acceptMethod pkg m { pkg := pkg, name := requestName m } (producedOutput pkg m hasResp) = true
    ∧ acceptTopicMethod pkg m { pkg := pkg, name := messageName m }
        { pkg := b!"google.protobuf", name := b!"Empty" } = true
    ∧ isRawResponse (responseName m) = false
    ∧ isRawResponse (producedOutput pkg m false).name = true :=
  ⟨classify_service n, classify_topic n, acceptMethod_produced pkg m hasResp,
    acceptTopicMethod_produced pkg m, responseName_not_raw m, httpBody_is_raw pkg m⟩

/-! ## request split -/

/-- **fillRequest is a partition.** Every request property lands in exactly one of path / query /
body (the three parts together are a permutation of the properties, so nothing is lost or
duplicated); the path part is exactly the properties named by a `:param` of the path; GET puts the
rest into the query and has no body, every other verb puts the rest into the body and has no
query; order is kept. -/
theorem C16_split_partition (verb : Verb) (path : Str) (props : List Str) :
    let r := fillRequest verb.hasBody path props
    r.all.Perm props
    ∧ (∀ x, x ∈ r.path ↔ x ∈ props ∧ x ∈ pathParamNames path)
    ∧ (∀ x, x ∈ r.query ++ r.body.getD [] ↔ x ∈ props ∧ x ∉ pathParamNames path)
    ∧ (verb = .get → r.body = none)
    ∧ (verb ≠ .get → r.query = [] ∧ r.body.isSome = true)
    ∧ r.path.Sublist props ∧ (r.query ++ r.body.getD []).Sublist props :=
  let ⟨h1, h2, h3, h6, h7⟩ := fillRequest_spec verb.hasBody path props
  ⟨h1, h2, h3, fun hv => hv ▸ rfl, fun hv => by cases verb <;> first | exact absurd rfl hv | exact ⟨rfl, rfl⟩, h6, h7⟩

/-- each path parameter of an accepted path names a request property, and that property is a path
parameter of the client method -/
theorem C16_split_path_params (verb : Verb) (props : List Str) (path p' : Str)
    (h : rewrite props path = .ok p') :
    ∀ n ∈ pathParamNames path, n ∈ (fillRequest verb.hasBody path props).path := by
  intro n hn
  rw [fillRequest_path, List.mem_filter]
  exact ⟨C16_path_params_named props path p' h n hn, List.contains_iff_mem.mpr hn⟩

/-! ## schema walks -/

/-- **The defect that was there** (pinned commit, before `fix:` 93cab0c): `walkSchemaFields`
without a memory of the schemas it is in never finishes on the one-schema cycle
`object A { field a object:A }` — no amount of fuel gives an answer. On the real code this was a
fatal stack overflow in `j5client.APIFromSource` (replay: kernel op `graph N0 1 N0 o 1 a d N0`). -/
theorem C16_walk_old_diverges : ∀ fuel path, walkOld selfLoop fuel 0 path = none :=
  walkOld_selfLoop_diverges

/-- **Termination of the repaired walk, for every finite schema graph**: the recursion depth
never exceeds the number of schemas + 1, so `walk` (fuel `|g| + 1`) always returns, and any larger
fuel returns the same. No bound on the graph, cycles allowed. -/
theorem C16_walk_terminates (g : Graph) (root : Nat) :
    (∃ r, walk g root = some r)
    ∧ ∀ fuel, g.length + 1 ≤ fuel → walkFuel g fuel root [] [] = walk g root := by
  have h := walkFuel_isSome g (g.length + 1) root [] [] (Fuelled.start g)
  obtain ⟨r, hr⟩ := Option.isSome_iff_exists.mp h
  refine ⟨⟨r, hr⟩, ?_⟩
  intro fuel hf
  unfold walk
  rw [hr]
  exact walkFuel_mono g _ fuel root [] [] r hf hr

/-- **No error from the list-request walk**: on a linked schema graph (every reference resolved —
what `assertRefsLink` has established before) the walk returns its visits from every schema,
recursive or not -/
theorem C16_walk_ok (g : Graph) (hl : Linked g) (root : Nat) (hroot : root < g.length) :
    ∃ vs, walk g root = some (.ok vs) :=
  walkFuel_ok g hl (g.length + 1) root [] [] (Fuelled.start g) hroot

/-- `collectPackageRefs` terminates on every finite schema graph -/
theorem C16_refs_terminates (g : Graph) (roots : List Field) : ∃ s, collect g roots = some s :=
  collect_isSome g roots

/-- `assertRefsLink` (run when the schema set is built from the source API) terminates on every
finite schema graph, linked or not -/
theorem C16_link_terminates (g : Graph) : ∃ r, linkAll g = some r :=
  Option.isSome_iff_exists.mp (linkRoots_isSome g _ [] (Fuelled.start g))

/-- **Every schema reachable from a method or entity is present**: whatever can be reached from
the root fields (request / response / path / query properties, entity keys / state / event
properties) through object, oneof and enum references, directly or inside arrays and maps, is in
the collected set. -/
theorem C16_refs_complete (g : Graph) (roots : List Field) (s : List Nat)
    (h : collect g roots = some s) : ∀ n, Reach g roots n → n ∈ s :=
  collect_complete g roots s h

/-! ## list request: enum default filters (finding `client:err:list-enum-default`, repaired by `fix:` b6c593a) -/

/-- **Whatever the compiler accepts as default filters of an enum field, the client accepts.**
For every prefix, every list of declared options and every list of default filters: if
`EnumRef.mapValues` (run by `buildField` on `listRules.filtering.defaultFilters` since `fix:`
b6c593a) succeeds on the enum the compiler emits, then the schema reader recovers that enum from
the descriptor (`buildEnum`: same prefix, the trimmed value names) and `buildListRequest`'s
`OptionByName` lookup succeeds for every default filter — in either spelling, with or without the
prefix. Full strength; before the repair the compiler did not look at the default filters at all
and this was false (`defaultFilters = ["BOGUS"]`). -/
theorem C16_list_defaults_accepted (pfx : Str) (opts defaults : List Str)
    (h : compileDefaultsOk pfx (enumValueNames pfx opts) defaults = true) :
    ∃ os, readEnum (enumValueNames pfx opts) = some (pfx, os) ∧ defaultFiltersOk pfx os defaults = true :=
  ⟨_, readEnum_enumValueNames pfx opts, defaultFiltersOk_of_compile pfx _ defaults h⟩

/-- the same on the composed function the driver runs: the outcome "compiler accepts, client
refuses" does not exist -/
theorem C16_list_defaults_chain (pfx : Str) (opts defaults : List Str) :
    enumDefaultsChain pfx opts defaults ≠ some false :=
  enumDefaultsChain_ne_false pfx opts defaults

/-- the witness of the repaired finding (replay: the corpus op with `shade fD R e Color`): the
compiler now rejects `BOGUS` on `enum Color { RED BLUE }`, the client-side check still would;
both spellings of a real option pass both checks, and an explicit `UNSPECIFIED` first option is
the zero value itself -/
theorem C16_list_defaults_rejected :
    enumDefaultsChain b!"COLOR_" [b!"RED", b!"BLUE"] [b!"BOGUS"] = none
    ∧ defaultFiltersOk b!"COLOR_" [b!"UNSPECIFIED", b!"RED", b!"BLUE"] [b!"BOGUS"] = false
    ∧ enumDefaultsChain b!"COLOR_" [b!"RED", b!"BLUE"] [b!"RED", b!"COLOR_BLUE", b!"UNSPECIFIED"] = some true
    ∧ enumValueNames b!"COLOR_" [b!"UNSPECIFIED", b!"COLOR_RED", b!"BLUE"]
        = [b!"COLOR_UNSPECIFIED", b!"COLOR_RED", b!"COLOR_BLUE"] := by
  decide +kernel

/-- non-vacuity of `C16_list_defaults_accepted`: defaults in both spellings are accepted by the compiler -/
example : compileDefaultsOk b!"COLOR_" (enumValueNames b!"COLOR_" [b!"RED", b!"BLUE"]) [b!"RED", b!"COLOR_BLUE"] = true := by
  decide +kernel

/-! ## OpenAPI conversion -/

/-- **`convertSchema` is total on well-formed schemas**, for every field type and any nesting of
arrays, maps, inline objects and inline oneofs: it returns a schema exactly when every oneof
wrapper of the input is set and no field pointer is nil — never an error, never a panic on what
the schema reflection produces. (That the code has the fifteen arms this model has is the
source-fact obligation `C16_src_swagger_arms` below.) -/
theorem C16_swagger_convert_total (f : SField) :
    (∃ t, convertSchema f = .ok t) ↔ f.wellFormed = true :=
  ⟨fun ⟨t, h⟩ => convertSchema_ok_wf f t h, convertSchema_total f⟩

/-! ## the chain, composed, for declared services -/

/-- **Client API exactness** on the composed models compile → structure → client, full strength
for declared services: whenever the compiler accepts the service (`compileService` succeeds) and
distinct request properties have distinct proto field names, the chain succeeds and yields
exactly `<Name>Service` with the declared methods in order, each with the declared verb, the
declared (base-path-resolved) path, the request properties split by that path and verb, and the
declared response (none for a raw `HttpBody` method). Not in this model: services generated from
entities (C17's model), schemas / auth / options of the methods. -/
theorem C16_client_exact (pkg : Str) (s : ServiceDecl) (d : DService)
    (hinj : ∀ m ∈ s.methods, SnakeInjective m.req) (hacc : compileService pkg s = .ok d) :
    chainService pkg s = .ok (declaredService s) :=
  chainService_valid pkg s (validService_of_compiled pkg s d hinj hacc)

/-- the same from the decidable description of what the compiler checks -/
theorem C16_client_exact_valid (pkg : Str) (s : ServiceDecl) (h : ValidService s) :
    chainService pkg s = .ok (declaredService s) :=
  chainService_valid pkg s h

/-- the chain never panics on the service part, whatever is declared -/
theorem C16_chain_no_panic (pkg : Str) (s : ServiceDecl) (hinj : ∀ m ∈ s.methods, SnakeInjective m.req)
    (w : String) : chainService pkg s ≠ .panic w := by
  cases hc : compileService pkg s with
  | ok d => rw [C16_client_exact pkg s d hinj hc]; simp
  | err e => unfold chainService; rw [hc]; simp
  | panic w' => exact absurd hc (compileService_no_panic pkg s w')

/-! ## flattened object fields (`ClientProperties()`) -/

/-- **`ClientProperties()` terminates on every schema graph**, whatever is marked `flatten`
(an object flattening itself, two objects flattening each other, …): the client view of the whole
schema set is computed with fuel `|g| + 1` per object and never runs out. -/
theorem C16_flatten_terminates (g : Graph) : ∃ r, clientGraph g = some r :=
  Option.isSome_iff_exists.mp (clientNodesFrom_isSome g g 0)

/-- … and is total where the schema reader's output lives (`FlatLinked`: a flattened field refers
to an object of the set): no error, no panic; the client view has the same schemas (number, order,
kinds), each property of it is a property of some schema of the set, and resolved references stay
resolved -/
theorem C16_flatten_total (g : Graph) (h : FlatLinked g) :
    ∃ cg, clientGraph g = some (.ok cg) ∧ cg.length = g.length
      ∧ (∀ c ∈ cg, ∀ p ∈ c.props, ∃ node ∈ g, p ∈ node.props) ∧ (Linked g → Linked cg) := by
  obtain ⟨cg, hcg, hv⟩ := clientGraph_ok g h
  exact ⟨cg, hcg, hv.len, hv.props, hv.linked⟩

/-- the list-request walk (`asClient = true`) over the client view: returns its visits from every
schema, recursive and / or flattened or not -/
theorem C16_client_walk_ok (g : Graph) (hf : FlatLinked g) (hl : Linked g) (root : Nat)
    (hroot : root < g.length) : ∃ cg vs, clientGraph g = some (.ok cg) ∧ walk cg root = some (.ok vs) := by
  obtain ⟨cg, hcg, hv⟩ := clientGraph_ok g hf
  obtain ⟨vs, hvs⟩ := C16_walk_ok cg (hv.linked hl) root (by rw [hv.len]; exact hroot)
  exact ⟨cg, vs, hcg, hvs⟩

/-- **Request split with flattened object fields**: path and query parameters are exactly those of
the unflattened split (`C16_split_partition` applies to them); the body shows, for each body
property in order, the property itself or — for a flattened object field — the client properties
of its object; without flattened fields it is the plain split -/
theorem C16_split_flat (verb : Verb) (path : Str) (props : List ReqProp) :
    let r := fillRequestFlat verb.hasBody path props
    let plain := fillRequest verb.hasBody path (props.map (·.name))
    r.path = plain.path ∧ r.query = plain.query
    ∧ r.body = (if verb.hasBody then
        some (bodyNames (props.filter (fun p => !(pathParamNames path).contains p.name))) else none)
    ∧ ((∀ p ∈ props, p.flat = none) → r = plain) :=
  ⟨fillRequestFlat_path _ _ _, fillRequestFlat_query _ _ _, fillRequestFlat_body _ _ _,
    fillRequestFlat_unflat _ _ _⟩

/-! ## `buildListRequest` -/

/-- `buildListRequest` terminates for every schema graph and every response -/
theorem C16_list_request_terminates (g : Graph) (resp : Option (List Prop')) :
    ∃ r, buildListRequest g resp = some r :=
  Option.isSome_iff_exists.mp (buildListRequest_isSome g resp)

/-- **Whatever the compiler accepts as the response of a list method, the client accepts**
(finding `client:err:list-response-shape`, repaired by `fix:` 57821b0: `checkListMethod` demands a
response with exactly one array property, of objects, of every method whose request takes a
`j5.list.v1.QueryRequest`): `buildListRequest`'s own shape checks (`no array found`,
`found multiple arrays`, `expected object schema`, and the missing response body of d14b8cb) then
all pass — given what the schema reader establishes, that the object field of the array's items
refers to an object of the schema set (`ItemRefsOk`). -/
theorem C16_list_shape_accepted (g : Graph) (props : List Prop')
    (h : compileListShapeOk (some props) = true) (hk : ItemRefsOk g props) :
    ListShaped g (some props) = true :=
  listShaped_of_compile g props h hk

/-- … and so the list request of every compiled list method is built: no error, no panic, through
recursive and flattened schemas alike, on a linked schema set (`NoBadDefaults`: what
`C16_list_defaults_accepted` gives for everything the compiler accepts). Full strength since
57821b0; before it this needed `ListShaped` as an extra hypothesis. -/
theorem C16_list_request_accepted (g : Graph) (resp : Option (List Prop'))
    (hc : compileListShapeOk resp = true) (hk : ∀ props, resp = some props → ItemRefsOk g props)
    (hf : FlatLinked g) (hl : Linked g) (hb : NoBadDefaults g) :
    ∃ lr, buildListRequest g resp = some (.ok lr) := by
  cases resp with
  | none => simp [compileListShapeOk] at hc
  | some props =>
    exact buildListRequest_ok g (some props) (listShaped_of_compile g props hc (hk props rfl)) hf hl hb

/-- the witnesses of the repaired finding (replays: the corpus ops `chain … Search GET … query - X
j5.list.v1 QueryRequest …`): no response body, no array, two arrays, an array of scalars — the
compiler now rejects each, the client-side checks still would -/
theorem C16_list_shape_rejected :
    compileListShapeOk none = false
    ∧ compileListShapeOk (some [{ name := b!"name", field := .scalar }]) = false
    ∧ compileListShapeOk (some [{ name := b!"a", field := .array (.object 0) }, { name := b!"b", field := .array (.object 0) }]) = false
    ∧ compileListShapeOk (some [{ name := b!"xs", field := .array .scalar }]) = false
    ∧ buildListRequest [] none = some (.err "no-response-body")
    ∧ buildListRequest [] (some [{ name := b!"name", field := .scalar }]) = some (.err "no-array-found") := by
  decide +kernel

/-- **every collected path resolves in the response item schema**: each filterable / sortable /
searchable field path of the list request leads, from the item object through the client
properties of objects and the properties of oneofs, to a property (`Resolves`) -/
theorem C16_list_request_resolves (g : Graph) (props : List Prop') (lr : ListRequest)
    (h : buildListRequest g (some props) = some (.ok lr)) :
    ∃ cg root, clientGraph g = some (.ok cg) ∧ listItemSchema g props = .ok root ∧
      ∀ path ∈ lr.filter ++ lr.sort ++ lr.search, ∃ f t, Resolves cg root path f t :=
  buildListRequest_resolves g props lr h

/-! ## entity-generated services -/

/-- **Client API exactness for the services an entity generates** (query service first, then the
command services in order: `J5V.Compile.Entity.queryService` / `commandService` of the compile
cluster's model of `sourcewalk/entity.go`): whenever the compiler accepts every generated service,
the chain turns the entity into exactly those services — `<Entity>QueryService` /
`<Name>CommandService` with the generated methods in order, each with its verb, base-path-resolved
path, request split and response.
Scope of the quantifier: `entityServiceDecls` is `(query :: commands).filterMap id` — a generated
service that has no `ServiceDecl` form (a command service without a name, a method whose verb is
unspecified or which has no request) is *not in the list*, so the theorem is silent about it. The
query service is always there (`C16_entity_query_shape`); `C16_entity_services_none_dropped` says
when no command service is dropped. The compiler itself refuses the dropped shapes (C17's model:
a method needs a verb and a request), which is why the stream never sees one. -/
theorem C16_entity_client_exact (pkg sub : Str) (e : J5V.Compile.Entity)
    (hinj : ∀ s ∈ entityServiceDecls pkg e, ∀ m ∈ s.methods, SnakeInjective m.req)
    (hacc : ∀ s ∈ entityServiceDecls pkg e, ∃ d, compileService sub s = .ok d) :
    mapMOutcome (chainService sub) (entityServiceDecls pkg e)
      = .ok ((entityServiceDecls pkg e).map declaredService) := by
  apply mapMOutcome_ok
  intro s hs
  obtain ⟨d, hd⟩ := hacc s hs
  exact C16_client_exact sub s d (hinj s hs) hd

/-- nothing is dropped from `entityServiceDecls` when every command service has a `ServiceDecl` form
(a name, every method a specified verb and a request): the list is the query service followed by
one service per declared command service -/
theorem C16_entity_services_none_dropped (pkg : Str) (e : J5V.Compile.Entity)
    (h : ∀ d ∈ entityCommandDecls pkg e, d.isSome = true) (hq : (entityQueryDecl pkg e).isSome = true) :
    (entityServiceDecls pkg e).length = e.commands.length + 1 := by
  unfold entityServiceDecls
  rw [List.filterMap_length_eq_length.mpr (List.forall_mem_cons.mpr ⟨hq, h⟩ :
    ∀ d ∈ entityQueryDecl pkg e :: entityCommandDecls pkg e, (id d).isSome = true)]
  simp [entityCommandDecls]

/-- the query service of every entity: `<Entity>Query` under `/<pkg path>/<entity>/q` with
`<Entity>Get` (request = the primary / shard keys), `<Entity>List` (shard keys, page, query) and
`<Entity>Events` (keys, page, query), all `GET`, all with a response -/
theorem C16_entity_query_shape (pkg : Str) (e : J5V.Compile.Entity) :
    entityQueryDecl pkg e = some
      { name := toCamel e.name ++ b!"Query", base := some (entityQueryBase pkg e),
        methods := [entityGetDecl e, entityListDecl e, entityEventsDecl e] }
    ∧ (entityGetDecl e).req = propNames (J5V.Compile.Entity.getKeys e)
    ∧ ([entityGetDecl e, entityListDecl e, entityEventsDecl e].all fun m => m.verb = .get ∧ m.hasResp) = true := by
  refine ⟨entityQueryDecl_eq pkg e, rfl, by simp [entityGetDecl, entityListDecl, entityEventsDecl]⟩

/-- **primary keys are the path parameters**: when no key name contains `/` and the entity's base
path has no parameter component, the path parameters of `Get` and `Events` (after `path.Join` with
the base path) are exactly the Get keys, those of `List` the shard keys, in key order — so (by
`C16_split_partition`) exactly these request properties are path parameters of the client method
and `page` / `query` are query parameters -/
theorem C16_entity_key_paths (pkg : Str) (e : J5V.Compile.Entity)
    (hbase : ∀ c ∈ splitOnByte 47 (entityQueryBase pkg e), paramName? c = none)
    (hkeys : ∀ k ∈ e.keys, (47 : Nat) ∉ k.prop.name) :
    let base := some (entityQueryBase pkg e)
    pathParamNames (resolvedPath base (entityGetDecl e).path) = propNames (J5V.Compile.Entity.getKeys e)
    ∧ pathParamNames (resolvedPath base (entityListDecl e).path) = propNames (J5V.Compile.Entity.listKeys e)
    ∧ pathParamNames (resolvedPath base (entityEventsDecl e).path) = propNames (J5V.Compile.Entity.getKeys e) :=
  entityQuery_path_params pkg e hbase hkeys

/-- an entity with one event (non-vacuity of `C16_entity_events_partial`) -/
def exampleEntityWithEvent : J5V.Compile.Entity :=
  { name := b!"Foo", baseUrl := [], keys := [], data := [], statuses := [], events := [.mk b!"Create" [] [] none],
    commands := [], summaries := [], query := none, nested := [] }

/-- full strength: the event oneof every entity expands to is a valid proto oneof -/
def EntityEventsFull : Prop := ∀ e : J5V.Compile.Entity, eventOneofValid e = true

/-- false of the code as it is (open finding `api:err:empty-event-oneof`, the C16 face of C17's open
finding): an entity without events compiles, its `…EventType` message has an empty oneof, and
`structure.APIFromImage` refuses the image (replay: the corpus op `chain foo.v1 0 0 0 1 Foo … 0 0`) -/
theorem C16_entity_events_counterexample : ¬ EntityEventsFull := by
  intro h
  have := h { name := b!"Foo", baseUrl := [], keys := [], data := [], statuses := [], events := [], commands := [],
              summaries := [], query := none, nested := [] }
  revert this
  decide +kernel

/-- … and holds for every entity that declares at least one event -/
theorem C16_entity_events_partial (e : J5V.Compile.Entity) (h : e.events ≠ []) : eventOneofValid e = true := by
  unfold eventOneofValid J5V.Compile.Entity.eventOneof
  cases he : e.events with
  | nil => exact absurd he h
  | cons a rest => simp [J5V.Compile.ObjDecl.props]

example : exampleEntityWithEvent.events ≠ [] := by decide

/-! ## schemas of the client API -/

/-- `collectPackageRefs` over the client view terminates for every schema graph and package -/
theorem C16_client_schemas_terminates (g : Graph) (p : PackageRoots) : ∃ r, clientSchemas g p = some r :=
  Option.isSome_iff_exists.mp (clientSchemas_isSome g p)

/-- **Every schema reachable from a method or entity is present in the client API**
(`C16_refs_complete` lifted to the package): for every method of the package — of a declared
service, of an entity's query service or command services — and every request or response
property of it, and for every property of an entity's keys, state and event schemas, whatever is
reachable through object / oneof / enum references (directly, in arrays, in maps; objects seen
through their client properties) is in the schema set the client API gets. -/
theorem C16_client_schemas_complete (g cg : Graph) (p : PackageRoots) (s : List Nat)
    (hcg : clientGraph g = some (.ok cg)) (h : clientSchemas g p = some (.ok s)) :
    (∀ m ∈ p.methods, ∀ f ∈ m.fields, ∀ n, Reach cg [f] n → n ∈ s)
    ∧ (∀ e ∈ p.entities, ∀ f ∈ e.keys ++ e.state ++ e.event, ∀ n, Reach cg [f] n → n ∈ s) :=
  ⟨fun m hm f hf => clientSchemas_complete_field g cg p s hcg h (mem_fields_of_method p m hm f hf),
    fun e he f hf => clientSchemas_complete_field g cg p s hcg h (mem_fields_of_entity p e he f hf)⟩

/-- on a `FlatLinked` schema set the schema set is computed (no error, no panic) -/
theorem C16_client_schemas_total (g : Graph) (p : PackageRoots) (hf : FlatLinked g) :
    ∃ cg s, clientGraph g = some (.ok cg) ∧ clientSchemas g p = some (.ok s) :=
  clientSchemas_ok g p hf

/-! ## J5 JSON rendering of the client API — interface only

`codec.ProtoToJSON(client API)` is the codec cluster's model (C01 / C08: what the encoder writes for
a message of a given schema, and that it is well-formed JSON). C16 adds nothing to it: the client
API is an ordinary `j5.client.v1.API` message (objects, oneofs, enums, arrays, maps, strings, a
timestamp), and the `pipe.chain` stream checks on every generated package that the stage returns
without error or panic and that its output is well-formed JSON (`json.Valid`). No theorem here. -/

/-! ## OpenAPI paths -/

/-- **Path grouping of `BuildSwagger`** (`addMethod`'s loop + `OrderedMap`): for every list of
operations, every operation is in the document under its own path; no path key occurs twice in
the `paths` object; a path item holds only operations of its path; nothing is lost or duplicated. -/
theorem C16_swagger_paths (ops : List SOp) :
    let items := groupOps ops
    (∀ o ∈ ops, ∃ item ∈ items, PathItem.key item = o.path ∧ o ∈ item)
    ∧ (items.map PathItem.key).Nodup
    ∧ (∀ item ∈ items, item ≠ [] ∧ ∀ o ∈ item, o.path = PathItem.key item)
    ∧ items.flatten.Perm ops := by
  obtain ⟨hinv, hmem, hperm⟩ := foldl_addOp_spec ops [] ⟨by simp, by simp, by simp⟩
  refine ⟨fun o ho => hmem o (Or.inr ho), hinv.nodup, fun item hi => ⟨hinv.nonempty item hi, hinv.same item hi⟩, ?_⟩
  simpa [groupOps] using hperm

/-! ## Non-vacuity of the theorems above -/

/-- a service with a base path, a parameter whose JSON name is not the protoc default
(`barID` ↔ `bar_id`), a snake-case name, a trailing slash and a method without response -/
def exampleService : ServiceDecl :=
  { name := b!"Foo", base := some b!"/foo/v1/",
    methods := [
      { name := b!"GetFoo", verb := .get, path := b!"/bars/:barID/x/:foo_bar", req := [b!"q", b!"barID", b!"foo_bar"], hasResp := true },
      { name := b!"Download", verb := .post, path := b!"dl/:id", req := [b!"id", b!"body"], hasResp := false }] }

example : ValidService exampleService := by decide +kernel
example : chainService b!"foo.v1.service" exampleService = .ok (declaredService exampleService) :=
  C16_client_exact_valid _ _ (by decide +kernel)
example : (compileService b!"foo.v1.service" exampleService).isOk = true ∧
    ∀ m ∈ exampleService.methods, SnakeInjective m.req := by decide +kernel
/-- … and the declared client really has the resolved path and the split one expects -/
example : (declaredService exampleService).methods.map (fun m => (m.path, m.request)) =
    [(b!"/foo/v1/bars/:barID/x/:foo_bar", { path := [b!"barID", b!"foo_bar"], query := [b!"q"], body := none }),
     (b!"/foo/v1/dl/:id", { path := [b!"id"], query := [], body := some [b!"body"] })] := by decide +kernel
example : rewrite [b!"q", b!"barID"] b!"/bars/:barID" = .ok b!"/bars/{bar_id}" := by decide +kernel
example : LiteralsClean b!"/bars/:barID/x" ∧ SnakeInjective [b!"q", b!"barID"] := by decide +kernel
example : ¬ LiteralsClean b!"/files/*" := by decide +kernel
example : ¬ SnakeInjective [b!"fooId", b!"foo_id"] := by decide +kernel

example : (SField.objInline [.key, .array (.map .timestamp), .oneofInline [.bytes, .decimal, .enumRef], .date]).wellFormed = true := by
  decide +kernel
example : convertSchema (.array (.objInline [.str, .oneofUnset])) = .err "unknown-schema-type" := by decide +kernel
example : convertSchema (.map .nil) = .panic "nil-pointer" := by decide +kernel

/-- a graph with a self loop, a two-cycle through a oneof, an enum leaf and an array edge -/
def exampleGraph : Graph :=
  [ { kind := .object, props := [{ name := b!"name", field := .scalar }, { name := b!"self", field := .object 0 },
                                 { name := b!"alt", field := .oneof 1 }] },
    { kind := .oneof, props := [{ name := b!"back", field := .object 0 }, { name := b!"kind", field := .enum 2 },
                                { name := b!"many", field := .array (.object 3) }] },
    { kind := .enum, props := [] },
    { kind := .object, props := [{ name := b!"x", field := .scalar }] } ]

example : (walk exampleGraph 0).map (fun o => o.map (fun vs => vs.map (·.path))) =
    some (.ok [[b!"name"], [b!"self"], [b!"alt"], [b!"alt", b!"back"], [b!"alt", b!"kind"], [b!"alt", b!"many"]]) := by
  decide +kernel
example : Linked exampleGraph := by decide +kernel
example : (linkAll exampleGraph).map (·.isOk) = some true := by decide +kernel
example : (linkAll [{ kind := .object, props := [{ name := b!"a", field := .array (.object 7) }] }]).map (·.isErr) =
    some true := by decide +kernel
example : collect exampleGraph [.object 0] = some [3, 2, 1, 0] := by decide +kernel
example : Reach exampleGraph [.object 0] 3 :=
  .step (.step (.root (f := .object 0) (by simp) rfl (by decide)) ⟨_, rfl, _, by simp [Node.walkProps]; exact Or.inr (Or.inr rfl), rfl, by decide⟩)
    ⟨_, rfl, { name := b!"many", field := .array (.object 3) }, by simp [Node.walkProps], rfl, by decide⟩

/-! ### flatten, list request, client schemas -/

/-- `A { name, self: flatten A, b: flatten B, plain: C }`, `B { bName (searchable), back: flatten A, c: flatten C }`,
`C { cName (searchable) }`: an object flattening itself, two objects flattening each other, a
plain nested object -/
def flatGraph : Graph :=
  [ { kind := .object, props := [{ name := b!"name", field := .scalar },
                                 { name := b!"self", field := .object 0, flat := true },
                                 { name := b!"b", field := .object 1, flat := true },
                                 { name := b!"plain", field := .object 2 }] },
    { kind := .object, props := [{ name := b!"bName", field := .scalar, tag := 4 },
                                 { name := b!"back", field := .object 0, flat := true },
                                 { name := b!"c", field := .object 2, flat := true }] },
    { kind := .object, props := [{ name := b!"cName", field := .scalar, tag := 4 }] } ]

example : FlatLinked flatGraph ∧ Linked flatGraph ∧ NoBadDefaults flatGraph := by decide +kernel
/-- the client view: `self` stays a nested object (A is being flattened), `b` expands to B's client
properties, in which `back` stays nested and `c` expands -/
example : (clientGraph flatGraph).map (fun o => o.map (fun cg => cg.map (fun n => n.props.map (·.name)))) =
    some (.ok [[b!"name", b!"self", b!"bName", b!"back", b!"cName", b!"plain"],
               [b!"bName", b!"name", b!"self", b!"b", b!"plain", b!"cName"],
               [b!"cName"]]) := by decide +kernel
/-- an unlinked flattened field is the nil dereference of `propType.Schema()` -/
example : clientGraph [{ kind := .object, props := [{ name := b!"x", field := .object 5, flat := true }] }]
    = some (.panic "nil-schema") := by decide +kernel
example : ¬ FlatLinked [{ kind := .object, props := [{ name := b!"x", field := .object 5, flat := true }] }] := by
  decide +kernel

/-- list method over `A`: response `{ items: array of A, page: object (unlinked: another package) }` -/
def flatResponse : List Prop' :=
  [{ name := b!"items", field := .array (.object 0) }, { name := b!"page", field := .scalar }]

example : compileListShapeOk (some flatResponse) = true ∧ ItemRefsOk flatGraph flatResponse
    ∧ ListShaped flatGraph (some flatResponse) = true := by
  refine ⟨by decide +kernel, ?_, by decide +kernel⟩
  intro r hr
  have : r = 0 := by simpa [flatResponse, arrayElems] using hr
  subst this
  exact ⟨_, rfl, rfl⟩
example : buildListRequest flatGraph (some flatResponse) =
    some (.ok { filter := [], sort := [], search := [[b!"bName"], [b!"cName"], [b!"plain", b!"cName"]] }) := by
  decide +kernel
example : buildListRequest flatGraph none = some (.err "no-response-body") := by decide +kernel
example : buildListRequest flatGraph (some [{ name := b!"a", field := .array (.object 0) },
    { name := b!"b", field := .array .scalar }]) = some (.err "found-multiple-arrays") := by decide +kernel
example : buildListRequest flatGraph (some [{ name := b!"b", field := .array .scalar }])
    = some (.err "expected-object-schema") := by decide +kernel
example : Resolves flatGraph 0 [b!"plain", b!"cName"] .scalar 4 :=
  .deeper (p := { name := b!"plain", field := .object 2 }) rfl (by simp [Node.walkProps]) rfl
    (.leaf (p := { name := b!"cName", field := .scalar, tag := 4 }) rfl (by simp [Node.walkProps]))

example : fillRequestFlat true b!"/as/:x" [{ name := b!"b", flat := some [b!"bName", b!"cName"] }, { name := b!"x" }]
    = { path := [b!"x"], query := [], body := some [b!"bName", b!"cName"] } := by decide +kernel

/-- a package with one declared method and one entity over `flatGraph` -/
def examplePackage : PackageRoots :=
  { entities := [{ keys := [.scalar], state := [.object 1], event := [.oneof 7], query := [{ request := [.scalar], response := some [.object 2] }],
                   commands := [] }],
    services := [[{ request := [.scalar, .map (.object 2)], response := none }]] }

example : clientSchemas flatGraph examplePackage = some (.ok [2, 0, 1]) := by decide +kernel
example : ∃ cg, clientGraph flatGraph = some (.ok cg) ∧ Reach cg [.object 1] 0 := by
  obtain ⟨cg, hcg, hv⟩ := clientGraph_ok flatGraph (by decide +kernel)
  refine ⟨cg, hcg, ?_⟩
  have hcg' : clientGraph flatGraph = some (.ok
    [ { kind := .object, props := [{ name := b!"name", field := .scalar }, { name := b!"self", field := .object 0, flat := true },
        { name := b!"bName", field := .scalar, tag := 4 }, { name := b!"back", field := .object 0, flat := true },
        { name := b!"cName", field := .scalar, tag := 4 }, { name := b!"plain", field := .object 2 }] },
      { kind := .object, props := [{ name := b!"bName", field := .scalar, tag := 4 }, { name := b!"name", field := .scalar },
        { name := b!"self", field := .object 0, flat := true }, { name := b!"b", field := .object 1, flat := true },
        { name := b!"plain", field := .object 2 }, { name := b!"cName", field := .scalar, tag := 4 }] },
      { kind := .object, props := [{ name := b!"cName", field := .scalar, tag := 4 }] } ]) := by decide +kernel
  rw [hcg'] at hcg
  cases hcg
  exact .step (.root (f := .object 1) (by simp) rfl (by decide))
    ⟨_, rfl, { name := b!"self", field := .object 0, flat := true }, by simp [Node.walkProps], rfl, by decide⟩

/-! ### entities -/

/-- `entity Foo { key fooId key:id62 { primary = true }  key accountId key:id62 (shard)  … }` in `foo.v1`,
with one command service -/
def exampleEntity : J5V.Compile.Entity :=
  { name := b!"Foo", baseUrl := [],
    keys := [{ prop := .mk b!"fooId" true false (.key .id62 (.ek (.primary true) none) [] false), shard := false },
             { prop := .mk b!"accountId" false false (.key .id62 .nokey [] false), shard := true }],
    data := [], statuses := [b!"ACTIVE"], events := [],
    commands := [{ name := some b!"Foo", basePath := none,
                   methods := [{ name := b!"CreateFoo", verb := .post, path := b!"/:fooId/create",
                                 request := some [.mk b!"fooId" true false (.string [] false), .mk b!"name" false false (.string [] false)],
                                 response := some [] }] }],
    summaries := [], query := none, nested := [] }

example : (entityServiceDecls b!"foo.v1" exampleEntity).map (·.name) = [b!"FooQuery", b!"FooCommand"] := by decide +kernel
example : (∀ s ∈ entityServiceDecls b!"foo.v1" exampleEntity, ∀ m ∈ s.methods, SnakeInjective m.req)
    ∧ ∀ s ∈ entityServiceDecls b!"foo.v1" exampleEntity, (compileService b!"foo.v1.service" s).isOk = true := by
  decide +kernel
/-- … and the client services are what one expects: keys in the path, `page` / `query` in the query -/
example : ((entityServiceDecls b!"foo.v1" exampleEntity).map declaredService).map
      (fun s => (s.name, s.methods.map (fun m => (m.name, m.path, m.request)))) =
    [(b!"FooQueryService",
       [(b!"FooGet", b!"/foo/v1/foo/q/:fooId/:accountId", { path := [b!"fooId", b!"accountId"], query := [], body := none }),
        (b!"FooList", b!"/foo/v1/foo/q/:accountId", { path := [b!"accountId"], query := [b!"page", b!"query"], body := none }),
        (b!"FooEvents", b!"/foo/v1/foo/q/:fooId/:accountId/events",
          { path := [b!"fooId", b!"accountId"], query := [b!"page", b!"query"], body := none })]),
     (b!"FooCommandService",
       [(b!"CreateFoo", b!"/foo/v1/foo/c/:fooId/create", { path := [b!"fooId"], query := [], body := some [b!"name"] })])] := by
  decide +kernel
example : (∀ c ∈ splitOnByte 47 (entityQueryBase b!"foo.v1" exampleEntity), paramName? c = none)
    ∧ ∀ k ∈ exampleEntity.keys, (47 : Nat) ∉ k.prop.name := by decide +kernel

/-! ### OpenAPI paths -/
example : groupOps [{ verb := "get", path := b!"/a" }, { verb := "post", path := b!"/b" }, { verb := "put", path := b!"/a" }] =
    [[{ verb := "get", path := b!"/a" }, { verb := "put", path := b!"/a" }], [{ verb := "post", path := b!"/b" }]] := by
  decide +kernel

/-! ## the OpenAPI document: `BuildSwagger` on the client API (`Pipe/SwaggerDoc.lean`) -/

/-- **The document is built for every client API of the model's type** (partial: see scope).
Scope: `ClientAPI` can only hold fields that are scalars or *references* (`Field.toSField` sends
every object / oneof / enum field to `…Ref`, every scalar to `.str`) and a `Request` that is always
there. The inputs on which the Go code returns an error or panics — a field whose `type` oneof is
unset (`unknown schema type`, convert.go `default:` arms), an enum / object / oneof field whose
`schema` oneof is unset, a root schema of no kind (`expected root schema`), a nil `*Field`, a nil
`method.Request` — are not values of this type: for them the error arms are unreachable *by the
input type*, not by this proof. That `j5client` only ever emits reference-or-scalar fields and a
non-nil request is read from `ObjectField/OneofField/EnumField.ToJ5Field()` and `Method.ToJ5Proto`
and validated by the correspondence stream; the version over the proto-level input type, where the
error arms ARE reachable and `ToJ5Proto` is a function whose image is proved well formed, is
`C16_swagger_document_total` below; for single fields it is `C16_swagger_convert_total` (`convertSchema f = .ok ↔ f.wellFormed`), and
`Field.toSField_wf` is the one-line bridge. Statement: `buildSwagger` (= `BuildSwagger` +
`addService` + `addMethod` + `ConvertRootSchema` over `convertSchema`) returns `.ok` — no error
arm, no panic arm — for *every* `ClientAPI` value: any services, methods, parameters, bodies (or
none: raw responses), any schema map, over any schema graph (recursive, unlinked references
included: references are leaves for `convertSchema`). And the document is what it should be:
its operations are exactly the operations of the methods of the declared services, each with the
method's verb and path, parameters = path parameters (`in: path`, required) then query parameters
(`in: query`) by name and in order, a request body / a response content iff the method has one, with
the same set of property names, each once (`Properties` is a Go map: a later property replaces an
earlier one of the same name — `lastWins`); the paths object is `groupOps` of the methods' (verb, path) list (so
`C16_swagger_paths` applies to it); the component keys are the keys of the schema map. -/
theorem C16_swagger_document_total_partial (api : ClientAPI) :
    ∃ doc, buildSwagger api = .ok doc ∧
      (∀ o, o ∈ doc.paths.flatten ↔
        ∃ s ∈ api.services, ∃ m ∈ s.methods, buildOperation s.name m = .ok o ∧ OperationOf s.name m o) ∧
      doc.paths.map (·.map DOperation.toSOp) = groupOps api.sops ∧
      doc.componentKeys = api.schemas.map (·.1) := by
  obtain ⟨doc, hdoc, hops, hkeys⟩ := buildSwagger_ok api
  refine ⟨doc, hdoc, fun o => ?_, buildSwagger_paths api doc hdoc, hkeys⟩
  rw [hops o]
  -- the operation of a method is `m.operation s.name`, which is what `OperationOf` describes
  refine ⟨fun ⟨s, hs, m, hm, h⟩ => ⟨s, hs, m, hm, h, ?_⟩, fun ⟨s, hs, m, hm, h, _⟩ => ⟨s, hs, m, hm, h⟩⟩
  rw [buildOperation_eq] at h
  cases h
  exact m.operationOf s.name

/-- **Every `$ref` of the document names a component that is present.** For the client API the
model's client builder produces (`buildClient`: request split, bodies and responses through
`ToJ5ClientObject()`, schema map = `collectPackageRefs` over the client view, any entities beside
the declared services) from a schema set whose references are linked (`RefsLinked` on the client
view, `PropsLinked` for the request / response messages: what `assertRefsLink` establishes for a
source API), every reference anywhere in the document — parameters, request bodies (flattened
fields expanded), responses, and the properties of every component, through arrays and maps, enum
references included — is the key of a component of `components.schemas`. -/
theorem C16_swagger_refs_resolve (g cg : Graph) (services : List ServiceIn) (entities : List EntityRoots)
    (api : ClientAPI) (doc : Document)
    (hcg : clientGraph g = some (.ok cg)) (hl : RefsLinked cg)
    (hm : ∀ s ∈ services, ∀ m ∈ s.methods, PropsLinked cg (m.req ++ m.resp.getD []))
    (hb : buildClient g services entities = some (.ok api)) (hd : buildSwagger api = .ok doc) :
    ∀ r ∈ doc.refs, r ∈ doc.componentKeys :=
  swagger_refs_resolve g cg services entities api doc hcg hl hm hb hd

/-- a service over `flatGraph`: `POST /as/:x` with a flattened `B` in the body and a response
holding an array of `A`; `GET /as/:x` (same path: one path item) with a query parameter referring
to `C` and no response body -/
def exampleServices : List ServiceIn :=
  [{ name := b!"AService", methods :=
      [{ name := b!"Put", verb := .post, path := b!"/as/:x",
         req := [{ name := b!"x", field := .scalar }, { name := b!"b", field := .object 1, flat := true }],
         resp := some [{ name := b!"items", field := .array (.object 0) }] },
       { name := b!"Get", verb := .get, path := b!"/as/:x",
         req := [{ name := b!"x", field := .scalar }, { name := b!"c", field := .map (.object 2) }],
         resp := none }] }]

def exampleCG : Graph := match clientGraph flatGraph with | some (.ok cg) => cg | _ => []
def exampleApi : ClientAPI := match buildClient flatGraph exampleServices [] with
  | some (.ok api) => api | _ => { services := [], schemas := [] }
def exampleDoc : Document := match buildSwagger exampleApi with | .ok d => d | _ => { paths := [], components := [] }

/-- the hypotheses of `C16_swagger_refs_resolve` hold for it, the document exists, has one path item
with both operations, the body of `Put` shows B's client properties, and its references are 0, 1, 2 -/
example : clientGraph flatGraph = some (.ok exampleCG) ∧ RefsLinked exampleCG ∧
    (∀ s ∈ exampleServices, ∀ m ∈ s.methods, PropsLinked exampleCG (m.req ++ m.resp.getD [])) ∧
    buildClient flatGraph exampleServices [] = some (.ok exampleApi) ∧ buildSwagger exampleApi = .ok exampleDoc ∧
    exampleDoc.paths.map (·.map (·.verb.lower)) = [["post", "get"]] ∧
    exampleDoc.paths.flatten.map (fun o => o.params.map (·.name)) = [[b!"x"], [b!"x", b!"c"]] ∧
    exampleDoc.paths.flatten.map (fun o => (o.body.getD []).map (·.1)) =
      [[b!"bName", b!"name", b!"self", b!"b", b!"plain", b!"cName"], []] ∧
    exampleDoc.paths.flatten.map (·.response.isSome) = [true, false] ∧
    exampleDoc.refs.eraseDups = [0, 1, 2] ∧ exampleDoc.componentKeys = [2, 0, 1] := by
  decide +kernel

/-- two body properties of one name (a flattened child named like a sibling): the later one is kept -/
example : lastWins [(b!"a", ⟨"string", none⟩), (b!"b", ⟨"ref", some 1⟩), (b!"a", ⟨"ref", some 2⟩)] =
    [(b!"b", ⟨"ref", some 1⟩), (b!"a", ⟨"ref", some 2⟩)] := by decide +kernel

/-- an unlinked reference (another API's schema) is a dangling `$ref`: the hypothesis is needed -/
def danglingServices : List ServiceIn :=
  [{ name := b!"S", methods :=
      [{ name := b!"M", verb := .get, path := b!"/m", req := [{ name := b!"q", field := .object 9 }], resp := none }] }]
example : (match buildClient [] danglingServices [] with
    | some (.ok api) => (match buildSwagger api with | .ok doc => some (doc.refs, doc.componentKeys) | _ => none)
    | _ => none) = some ([9], []) := by
  decide +kernel

/-- **The model's client builder is total** on schema sets in which `flatten` only sits on fields
whose object is in the set (`FlatLinked`, `ServicesFlatOk`: what the schema reader produces), for
any services, methods and entities; and every method of the result is the declared method: name,
verb, path, path / query parameter names = `fillRequest`'s split (`C16_split_partition`,
`C16_split_path_params` apply), a body iff the verb has one, a response iff one is declared. -/
theorem C16_client_build_total (g : Graph) (hl : FlatLinked g) (services : List ServiceIn)
    (entities : List EntityRoots) (hs : ServicesFlatOk g services) :
    (∃ api, buildClient g services entities = some (.ok api) ∧ api.services.length = services.length) ∧
    ∀ s ∈ services, ∀ m ∈ s.methods, ∃ am, buildMethod g m = some (.ok am) ∧
      am.name = m.name ∧ am.verb = m.verb ∧ am.path = m.path ∧
      am.pathParams.map (·.name) = (fillRequest m.verb.hasBody m.path (m.req.map (·.name))).path ∧
      am.queryParams.map (·.name) = (fillRequest m.verb.hasBody m.path (m.req.map (·.name))).query ∧
      am.body.isSome = m.verb.hasBody ∧ am.response.isSome = m.resp.isSome :=
  ⟨buildClient_ok g hl services entities hs,
   fun s hsm m hmm => buildMethod_ok g hl m (hs s hsm m hmm).1 (hs s hsm m hmm).2⟩

/-- **Every reference of the client API names a schema of its schema map** — what the J5 JSON
rendering of the API (`codec.ProtoToJSON`, field by field) shows: parameters, request bodies
(flattened fields expanded), responses and the properties of every schema, through arrays and
maps, enum references included. Same hypotheses as `C16_swagger_refs_resolve`. (The converse
direction — every reachable schema is present — is `C16_client_schemas_complete`.) -/
theorem C16_client_refs_resolve (g cg : Graph) (services : List ServiceIn) (entities : List EntityRoots)
    (api : ClientAPI)
    (hcg : clientGraph g = some (.ok cg)) (hl : RefsLinked cg)
    (hm : ∀ s ∈ services, ∀ m ∈ s.methods, PropsLinked cg (m.req ++ m.resp.getD []))
    (hb : buildClient g services entities = some (.ok api)) :
    ∀ r ∈ api.refs, r ∈ api.schemaKeys :=
  client_refs_resolve g cg services entities api hcg hl hm hb

/-- **Source set to document, composed** (partial in the same sense as
`C16_swagger_document_total_partial`: over the model's client-API type): for a `FlatLinked` schema set with linked references and
any declared services / entities, the client API exists, the document exists, and every `$ref` of
the document names one of its components. -/
theorem C16_swagger_chain_partial (g : Graph) (hfl : FlatLinked g) (services : List ServiceIn)
    (entities : List EntityRoots) (hs : ServicesFlatOk g services)
    (hl : ∀ cg, clientGraph g = some (.ok cg) → RefsLinked cg ∧
      ∀ s ∈ services, ∀ m ∈ s.methods, PropsLinked cg (m.req ++ m.resp.getD [])) :
    ∃ api doc, buildClient g services entities = some (.ok api) ∧ buildSwagger api = .ok doc ∧
      ∀ r ∈ doc.refs, r ∈ doc.componentKeys := by
  obtain ⟨api, hapi, _⟩ := buildClient_ok g hfl services entities hs
  have hdoc := buildSwagger_eq api
  obtain ⟨cg, hcg, _⟩ := clientGraph_ok g hfl
  obtain ⟨h1, h2⟩ := hl cg hcg
  exact ⟨api, _, hapi, hdoc, swagger_refs_resolve g cg services entities api _ hcg h1 h2 hapi hdoc⟩

example : ServicesFlatOk flatGraph exampleServices ∧ exampleApi.refs.eraseDups = [0, 1, 2] ∧
    exampleApi.schemaKeys = [2, 0, 1] := by
  unfold ServicesFlatOk
  decide +kernel

/-! ### the array search is over the response's *own* properties, on both sides

`checkListMethod` (compiler) and `buildListRequest` (client) both look for the one array among
`Response.Properties` / `responseObj.Properties` — `arrayElems` on the declared properties, not on
`ClientProperties()`. That both do is what `C16_list_shape_accepted` rests on: a flattened object
field of the response that holds an array is invisible to both. (Seeded change C16-m8 made the
client side range over the client properties.) -/

/-- `A { name }`, `Env { tags: array of scalar }`; response `{ env: flatten Env, items: array of A }` -/
def envelopeGraph : Graph :=
  [ { kind := .object, props := [{ name := b!"name", field := .scalar, tag := 4 }] },
    { kind := .object, props := [{ name := b!"tags", field := .array .scalar }] } ]
def envelopeResponse : List Prop' :=
  [{ name := b!"env", field := .object 1, flat := true }, { name := b!"items", field := .array (.object 0) }]

/-- the compiler accepts the envelope response, `buildListRequest` builds the list request from it;
the same search over the response's client properties (where `tags` shows) would refuse it -/
theorem C16_list_shape_own_properties :
    compileListShapeOk (some envelopeResponse) = true
    ∧ buildListRequest envelopeGraph (some envelopeResponse) = some (.ok { filter := [], sort := [], search := [[b!"name"]] })
    ∧ (clientMessageProps envelopeGraph envelopeResponse).map (fun o => o.bind (listItemSchema envelopeGraph))
        = some (.err "found-multiple-arrays") := by
  decide +kernel

/-! ### the proto level: the input type on which `BuildSwagger`'s error and panic arms are reachable
(`Pipe/SwaggerProto.lean`) -/

/-- **`BuildSwagger` is total on well-formed proto-level input.** `PApi` is `client_j5pb.API` as far
as `BuildSwagger` reads it, with every shape a `schema_j5pb.Field` can have (inline schemas, unset
`type` / `schema` oneofs, nil), a request that may be nil and a root schema of no kind; `PApi.wf`
(decidable) = every field `wellFormed`, every request present, every root schema of a kind. On such
input the function returns, the paths grouped by `groupOps`, the component keys the keys of the
schema maps. (Only this direction is proved; that each ill-formed shape does fail is shown by the
examples below, not as an `↔`.) -/
theorem C16_swagger_proto_total (a : PApi) (h : a.wf = true) :
    buildSwaggerP a = .ok (groupOps (a.services.flatMap fun s => s.methods.map PMethod.toSOp), a.schemas.map (·.1)) :=
  buildSwaggerP_ok a h

/-- **The document is built for every client API the client builder's type can hold, as a proto
value.** `ClientAPI.toProto` = `API.ToJ5Proto()` (`ToJ5Field()` of object / oneof / enum fields builds
the `…_Ref` wrapper, `Method.ToJ5Proto` always sets `Request`, `ToJ5ClientRoot()` the wrapper of the
schema's kind — read from `lib/j5schema/field_schema.go`, `root_schema.go`, `internal/j5client/j5package.go`,
validated by the stream): its result is `PApi.wf`, so none of the reachable error / panic arms is
taken. This replaces the input-type argument of `C16_swagger_document_total_partial` by a proof about
`toProto`; what stays by correspondence is that `toProto` is what `ToJ5Proto` does. -/
theorem C16_swagger_document_total (api : ClientAPI) :
    api.toProto.wf = true ∧ buildSwaggerP api.toProto = .ok (groupOps api.sops, api.schemas.map (·.1)) := by
  have h := ClientAPI.toProto_wf api
  refine ⟨h, ?_⟩
  rw [buildSwaggerP_ok _ h, ClientAPI.toProto_sops]
  simp [ClientAPI.toProto]

/-- the arms are reachable on the proto-level type: an unset field type in a query parameter, a nil
request, a root schema of no kind, a nil field inside an inline object of a body, an unset enum
schema in a component — and a well-formed inline object is fine -/
def protoApiOf (r : Option PRequest) : PApi :=
  { services := [{ name := b!"S", methods :=
      [{ name := b!"M", verb := .get, path := b!"/m", request := r, responseBody := none }] }], schemas := [] }

example :
    buildSwaggerP (protoApiOf (some { pathParameters := [], queryParameters := [⟨b!"q", .unset⟩], body := none })) = .err "unknown-schema-type"
    ∧ buildSwaggerP (protoApiOf none) = .panic "nil-pointer"
    ∧ buildSwaggerP { services := [], schemas := [(0, .unset)] } = .err "expected-root-schema"
    ∧ buildSwaggerP (protoApiOf (some { pathParameters := [], queryParameters := [], body := some [⟨b!"b", .objInline [.str, .nil]⟩] })) = .panic "nil-pointer"
    ∧ buildSwaggerP { services := [], schemas := [(0, .object [⟨b!"e", .enumUnset⟩])] } = .err "unknown-schema-type"
    ∧ buildSwaggerP (protoApiOf (some { pathParameters := [], queryParameters := [], body := some [⟨b!"b", .objInline [.str, .array .enumInline]⟩] }))
        = .ok ([[{ verb := "get", path := b!"/m" }]], []) := by
  refine ⟨by decide +kernel, by decide +kernel, by decide +kernel, by decide +kernel, by decide +kernel, by decide +kernel⟩

example : exampleApi.toProto.wf = true ∧ (buildSwaggerP exampleApi.toProto).isOk = true := by decide +kernel

/-! ## Obligations over facts regenerated from the current source (`extract -what pipe`) -/
open J5V.Generated.Pipe

/-- `convertSchema` has an arm for every member of the oneof `j5.schema.v1.Field.type`
(so the `default: unknown schema type for swagger` arm is unreachable for well-formed input). -/
theorem C16_src_swagger_arms : ∀ m ∈ fieldOneofMembers, m ∈ convertSchemaArms := by decide +kernel

/-- the oneof has the fifteen members the models and the generator know about -/
theorem C16_src_field_members : fieldOneofMembers =
    ["Field_Any", "Field_Array", "Field_Bool", "Field_Bytes", "Field_Date", "Field_Decimal", "Field_Enum",
     "Field_Float", "Field_Integer", "Field_Key", "Field_Map", "Field_Object", "Field_Oneof", "Field_String_",
     "Field_Timestamp"] := rfl

/-- every arm of the two switches names a member of the oneof (no stale or foreign arm) -/
theorem C16_src_arms_known :
    (∀ a ∈ convertSchemaArms, a ∈ fieldOneofMembers) ∧ (∀ a ∈ listRequestArms, a ∈ fieldOneofMembers) := by
  decide +kernel

/-- the consumer's tests are the ones `Names.classify`, `acceptMethod`, `acceptTopicMethod` and
`unrewritePart` hard-code -/
theorem C16_src_consumer_names :
    consumerSuffixTests = ["Service", "Sandbox", "Events", "Topic"]
    ∧ consumerMethodConcats = ["Request", "Response"] ∧ consumerMethodFullNames = ["google.api.HttpBody"]
    ∧ consumerTopicConcats = ["Message"] ∧ consumerTopicFullNames = ["google.protobuf.Empty"]
    ∧ consumerSpecialChars = "{}*:" ∧ consumerPathByteTests = ["'{'", "'}'"] :=
  ⟨rfl, rfl, rfl, rfl, rfl, rfl, rfl⟩

/-- the producer's formats are the ones `serviceName`, `requestName`, … and `rewritePart` hard-code -/
theorem C16_src_producer_names :
    producerServiceFormats = ["%sRequest", "google.api.HttpBody", "%sResponse", "Service"]
    ∧ producerTopicFormats = ["%sMessage", "%sTopic"]
    ∧ producerRewriteFacts = ["strings.Split \"/\"", "strings.HasPrefix \":\"", "strcase.ToSnake <*ast.SliceExpr>",
        "assign {}", "strings.ContainsAny \"{}*:\"", "strings.Join \"/\""] :=
  ⟨rfl, rfl, rfl⟩

/-- `methodFromSource` / `fillRequest` read the verb, the raw-response marker and the path the way
`Verb.hasBody`, `isRawResponse` and `pathParamNames` do -/
theorem C16_src_client :
    clientHasBodyExpr = "src.HttpMethod != client_j5pb.HTTPMethod_GET" ∧ clientRawResponseMarker = "HttpBody"
    ∧ clientFillRequestFacts = ["strings.Split \"/\"", "strings.HasPrefix \":\"", "strings.TrimPrefix \":\""] :=
  ⟨rfl, rfl, rfl⟩

/-- the guards the termination theorems rely on are in the source: `walkSchemaFields` returns when
the schema is already on the path and passes the path on; `collectPackageRefs` and
`assertRefsLink` test-and-set a map keyed by schema name -/
theorem C16_src_walk_guards :
    walkHasAncestorGuard = true ∧ walkRecursionPassesGuard = true
    ∧ collectRefsHasVisitedMap = true ∧ assertRefsHasVisitedMap = true :=
  ⟨rfl, rfl, rfl, rfl⟩

/-- the producer's check of enum default filters is in the source (`buildField`, enum arm: the
error of `enumRef.mapValues(filtering.DefaultFilters)` is returned), `mapValues` spells a value
the way `addPrefix` / `compileDefaultsOk` do, and the consumer (`buildEnum`, `OptionByName`,
`buildListRequest`) reads prefix and options the way `readEnum` / `defaultFiltersOk` do -/
theorem C16_src_enum_defaults :
    compileChecksEnumDefaults = true
    ∧ mapValuesFacts = ["strings.HasPrefix in er.Prefix", "assign in = er.Prefix + in", "lookup er.ValMap in"]
    ∧ optionByNameFacts = ["strings.TrimPrefix name s.NamePrefix", "eq opt.name shortName"]
    ∧ buildEnumFacts = ["strings.HasSuffix unspecifiedVal suffix", "strings.TrimSuffix unspecifiedVal suffix",
        "strings.TrimPrefix values[…].name trimPrefix"]
    ∧ listEnumLookupFacts = ["enumSchema.OptionByName val", "eq foundVal nil"] :=
  ⟨rfl, rfl, rfl, rfl, rfl⟩

/-- the shapes the flatten / list-request / OpenAPI models rely on are in the source:
`clientProperties` appends itself to `flattening`, expands a flattened field only when its object is
not in `flattening`, and keeps every other property; `fillRequest` builds the list request exactly
for a `QueryRequest` property and refuses a missing response body (`fix:` d14b8cb);
`buildListRequest` refuses a second array and a missing one, looking among the response's own
properties (`range responseObj.Properties`, not `ClientProperties()`: `C16_list_shape_own_properties`); its callback looks at enum fields and
scalar schemas only (so the list rules of a oneof field have no effect); `addMethod` appends to the
first path item with the method's path, else appends a new one; `BuildSwagger` takes the declared
services of every package (not the entity services) -/
theorem C16_src_flatten_list_swagger :
    clientPropertiesFacts = ["flattening = append(flattening, s)",
      "if propType.Flatten && !slices.Contains(flattening, propType.Schema())",
      "properties = append(properties, child)", "continue", "properties = append(properties, prop)"]
    ∧ fillRequestListFacts = ["if isQueryRequest", "if responseSchema == nil"]
    ∧ listRequestShapeFacts = ["if !ok", "if !ok", "if foundArray != nil", "if foundArray == nil", "if !ok"]
    ∧ listRequestRanges = ["range responseObj.Properties", "range filtering.DefaultFilters"]
    ∧ listRequestOuterArms = ["*j5schema.EnumField", "*j5schema.ScalarSchema"]
    ∧ swaggerAddMethodFacts = ["if pathItem.MapKey() == method.HttpPath", "break", "if !found",
        "dd.Paths = append(dd.Paths, pathItem)"]
    ∧ swaggerRangeLoops = ["range b.Packages", "range pkg.Services", "range b.Packages", "range pkg.Schemas"] :=
  ⟨rfl, rfl, rfl, rfl, rfl, rfl, rfl⟩

/-- the producer's list-shape check is in the source and is the one `compileListShapeOk` models:
`visitServiceMethodNode` records the error of `checkListMethod`; that function looks for a request
property whose object reference resolves to `j5.list.v1` / `QueryRequest`, demands a response,
collects the items of the response's array properties and demands exactly one, an object field -/
theorem C16_src_compile_list_check :
    compileListCheckCalled = true
    ∧ compileListCheckFacts = ["if ref == nil", "continue", "if err != nil", "continue",
        "if typeRef.Package == \"j5.list.v1\" && typeRef.Name == \"QueryRequest\"", "if !isList",
        "if method.Response == nil", "if array != nil", "items = append(items, array.Items)",
        "if len(items) != 1 || items[…].GetObject() == nil"] :=
  ⟨rfl, rfl⟩

/-- `Pipe/SwaggerDoc.lean` follows the source of the OpenAPI assembly. `addMethod`: a loop over the
path parameters emitting `In: "path"`, `Required: true`, then a loop over the query parameters
emitting `In: "query"` with the property's own `Required`, each stopping at a conversion error; the
request body only when `method.Request.Body != nil`; one response with `Code: 200` whose content is
set only when `method.ResponseBody != nil`; then the path grouping. `convertObjectItem` /
`convertOneofItem`: one loop over the properties, stopping at the first error, filing each under
`out.Properties[prop.Name]` (a map: `lastWins`). `ConvertRootSchema`: object / oneof / enum, else an
error. `BuildSwagger`: the declared services of every package, then every schema of every package
under `<package>.<key>`. `convertSchema`'s three reference arms write `#/definitions/<package>.<schema>`:
the same `<package>.<schema>` key (`Document.componentKeys` vs `Document.refs` in the model). -/
theorem C16_src_swagger_document :
    swaggerOperationSkeleton = ["range method.Request.PathParameters", "if err != nil", "In: \"path\"", "Required: true",
      "range method.Request.QueryParameters", "if err != nil", "In: \"query\"", "Required: property.Required",
      "if method.Request.Body != nil", "if err != nil", "Required: true", "Code: 200",
      "if method.ResponseBody != nil", "if err != nil", "range dd.Paths",
      "if pathItem.MapKey() == method.HttpPath", "if !found"]
    ∧ swaggerObjectSkeleton = ["range item.Properties", "if err != nil", "out.Properties[prop.Name] =", "if prop.Required"]
    ∧ swaggerOneofSkeleton = ["IsOneof: true", "range item.Properties", "if err != nil", "out.Properties[prop.Name] ="]
    ∧ swaggerRootSkeleton = ["case *schema_j5pb.RootSchema_Object", "case *schema_j5pb.RootSchema_Oneof",
        "case *schema_j5pb.RootSchema_Enum", "default"]
    ∧ swaggerBuildSkeleton = ["range b.Packages", "range pkg.Services", "if err != nil", "range b.Packages",
        "range pkg.Schemas", "if err != nil", "Sprintf \"%s.%s\" pkg.Name, key", "schemas[fullKey] ="]
    ∧ swaggerRefFormats = ["Sprintf \"#/definitions/%s.%s\" t.Ref.Package, t.Ref.Schema",
        "Sprintf \"#/definitions/%s.%s\" t.Ref.Package, t.Ref.Schema",
        "Sprintf \"#/definitions/%s.%s\" t.Ref.Package, t.Ref.Schema"] :=
  ⟨rfl, rfl, rfl, rfl, rfl, rfl⟩

/-- `ClientAPI.toProto` (`Pipe/SwaggerProto.lean`) follows the source of `API.ToJ5Proto()`: the
`ToJ5Field()` of an object / oneof / enum field builds exactly `Field{Field_X{XField{XField_Ref{Ref}}}}` —
always the reference wrapper, never an inline schema, never an unset oneof; the client root of an
object / oneof / enum is `RootSchema{RootSchema_Object|Oneof|Enum}`; `Method.ToJ5Proto` sets `Request`
from `mm.Request.ToJ5Proto()` (a non-nil pointer to a composite literal). These are the three facts
that make `ClientAPI.toProto_wf` a statement about the code. -/
theorem C16_src_to_j5_proto :
    toJ5FieldWrappers = [
      "ObjectField: schema_j5pb.Field schema_j5pb.Field_Object schema_j5pb.ObjectField schema_j5pb.ObjectField_Ref schema_j5pb.Ref",
      "OneofField: schema_j5pb.Field schema_j5pb.Field_Oneof schema_j5pb.OneofField schema_j5pb.OneofField_Ref schema_j5pb.Ref",
      "EnumField: schema_j5pb.Field schema_j5pb.Field_Enum schema_j5pb.EnumField schema_j5pb.EnumField_Ref schema_j5pb.Ref"]
    ∧ clientRootWrappers = [
      "ObjectSchema.ToJ5ClientRoot: schema_j5pb.RootSchema schema_j5pb.RootSchema_Object",
      "OneofSchema.ToJ5Root: schema_j5pb.RootSchema schema_j5pb.RootSchema_Oneof schema_j5pb.Oneof",
      "EnumSchema.ToJ5Root: schema_j5pb.RootSchema schema_j5pb.RootSchema_Enum schema_j5pb.Enum"]
    ∧ methodRequestField = "mm.Request.ToJ5Proto(…)" :=
  ⟨rfl, rfl, rfl⟩

end J5V.Props.C16
