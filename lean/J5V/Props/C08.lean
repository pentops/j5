import J5V.Codec.EncTotal
import J5V.Json.EscapeProofs
import J5V.Codec.ScalarProofs
import J5V.Codec.Encode
import J5V.Codec.EncTreeProofs
import J5V.Codec.WireProofs
import J5V.Props.C01
import J5V.Generated.CodecFacts
/-!
# C08 — the encoder emits well-formed JSON in the documented wire format

Property theorems only. `Wire` (`J5V/Codec/Wire.lean`) is the declarative transcription of the
README "Scalar Types" table and never mentions the encoder.
-/
namespace J5V.Props.C08
open J5V.Go J5V.Json J5V.Codec

/-- **C08_escape_valid**: every string the encoder writes (`appendString`, copied from protojson)
is a JSON string literal — opening quote, a body the JSON string reader accepts up to the
closing quote — and the literal denotes exactly the input bytes. For every byte string on which
the escaper succeeds; any suffix may follow. -/
theorem C08_escape_valid (s lit : Bytes) (h : appendString s = .ok lit) (rest : Bytes) :
    ∃ body, lit = 0x22 :: (body ++ [0x22]) ∧
      readString (body.length + 1) (body ++ 0x22 :: rest) = some (s, body ++ [0x22], rest) := by
  obtain ⟨body, hl, hr⟩ := appendString_reads s lit h
  exact ⟨body, hl, hr rest _ (Nat.lt_succ_self _)⟩

/-- the escaper is total: it never panics, succeeds on every valid UTF-8 string and returns an
error (no output at all) on invalid UTF-8 — so no invalid string literal is ever written -/
theorem C08_escape_total (s : Bytes) :
    (∀ w, appendString s ≠ .panic w) ∧
    (isValidUtf8 s = true → ∃ lit, appendString s = .ok lit) ∧
    (isValidUtf8 s = false → ∃ e, appendString s = .err e) :=
  appendString_total s

/-- 32-bit integers are bare JSON numbers; 64-bit integers are quoted (README table) -/
theorem C08_integer_forms (O : Oracle) (i : Int) (n : Nat) :
    encodeScalar O .int32 (.int i) = .ok (.bare (fmtInt i)) ∧
    encodeScalar O .uint32 (.uint n) = .ok (.bare (fmtNat n)) ∧
    encodeScalar O .int64 (.int i) = .ok (.quoted (fmtInt i)) ∧
    encodeScalar O .uint64 (.uint n) = .ok (.quoted (fmtNat n)) ∧
    Wire.isJsonNumber (fmtInt i) = true ∧ Wire.isJsonNumber (fmtNat n) = true :=
  ⟨rfl, rfl, rfl, rfl, isJsonNumber_fmtInt i, isJsonNumber_fmtNat n⟩

/-- non-finite floats are written as the quoted strings `"NaN"`, `"Infinity"`, `"-Infinity"`
(mirrors pentops/j5 22e9ce8; bare they would be invalid JSON); finite ones as bare literals -/
theorem C08_float_forms (O : Oracle) (b : Nat) :
    (finite64 b = true → encodeScalar O .float64 (.f64 b) = .ok (.bare (O.fmtF64 b))) ∧
    (finite64 b = false → ∃ s, encodeScalar O .float64 (.f64 b) = .ok (.quoted s) ∧
      (s = ascii "NaN" ∨ s = ascii "Infinity" ∨ s = ascii "-Infinity")) := by
  constructor
  · intro h
    simp only [encodeScalar, finite64_exp b h, nonFinite_finite]
  · intro h
    have hexp : decide (b / 2 ^ 52 % 2048 = 2047) = true := by
      simp only [finite64, bne_eq_false_iff_eq] at h
      simp [h]
    obtain ⟨s, hs, h3⟩ := nonFinite_allOnes (decide (b / 2 ^ 63 % 2 = 1)) (decide (b % 2 ^ 52 = 0)) (O.fmtF64 b)
    exact ⟨s, by simp only [encodeScalar, hexp, hs], h3⟩

/-- **Every representable scalar is written in its documented representation** (README "Scalar
Types", transcribed declaratively in `J5V.Codec.Wire`, which never mentions the encoder):
strings and keys as JSON strings denoting the value; bools as `true` / `false`; 32-bit integers
and floats as bare JSON numbers denoting the value; 64-bit integers as quoted decimal integers;
bytes as padded standard base64 (RFC 4648 §4 shape, decoding to the bytes); dates as zero padded
`YYYY-MM-DD` denoting year / month / day; decimals as the quoted text; timestamps as RFC 3339
with the `Z` offset (shape assumed of `time.Format` by `OracleWire`, used for that kind only). -/
theorem C08_scalar_conforms (O : Oracle) (L : OracleLaws O) (k : ScalarKind)
    (W : k = .timestamp → OracleWire O) (v : PVal) (hok : scalarOk O k v = true) :
    ∃ t, scalarNode O k v = .ok t ∧ Wire.scalarConforms O k v t :=
  scalar_conforms O L k W v hok

/-! ## well-formedness of the whole document -/

/-- **Full statement**: every successful encoding, of any message, parses as one JSON document -/
def C08_wellformed_full : Prop :=
  ∀ (env : Env) (O : Oracle), FloatTextOk O → ∀ (root : String) (v : PVal) (bs : Bytes),
    encodeBytes env O root v = .ok bs → ∃ t, parse bs = some t

/-- **Proved part (`_partial`)**: for **every** message (representable or not: non-finite floats,
out-of-range dates, undefined enum numbers, invalid UTF-8, two oneof members set, …) and every root
* of every environment without `Any` fields, and
* of **every environment with `Any` fields**, provided every `j5_json` stored in the message (at
  any depth, also inside the proto content of another `Any`) is a *recognised chunk*
  (`hg`, right alternative — `PVal.chunksOk`: the specification-side oracle `O.chunk` knows these
  very bytes; `ChunkLaws O`: what it knows is compact JSON as `json.Compact` or the codec itself writes it — `PTree.Enc`) —
  that is the property's own quantifier "every stored `j5_json` is itself well-formed JSON", in the
  compact form:
if the encoder returns bytes at all, the strict parser (`J5V.Json.parse`: exactly one RFC 8259
value, all containers closed, nothing but whitespace after it) accepts them, and the parsed tree
renders back to the same bytes. `FloatTextOk O` is the only assumption on the text oracles:
`strconv.FormatFloat(v,'g',-1,bits)` of a finite value is a JSON number. The proto content of an
`Any` (`google.protobuf.Any`, or a j5 `Any` without `j5_json`) is encoded by the codec itself and
needs no hypothesis.

Missing for the full statement, and the only gap left: caller-supplied `j5_json` bytes that are
not JSON (the encoder inserts them verbatim: `C08_any_j5json_unchecked`), and well-formed
`j5_json` that is *not compact* (whitespace, other escapes: the model has no lemma that the
tokenizer reads a well-formed value the same way in any context). -/
theorem C08_wellformed_partial (env : Env) (O : Oracle)
    (hO : FloatTextOk O) (root : String) (v : PVal) (bs : Bytes)
    (hg : env.noAny = true ∨ (ChunkLaws O ∧ v.chunksOk O = true))
    (h : encodeBytes env O root v = .ok bs) : ∃ t, parse bs = some t ∧ t.render = bs := by
  obtain ⟨t, _, hb, hp⟩ := encodeBytes_parses env O hO root v bs hg h
  exact ⟨t, hp, hb.symm⟩

/-- **the encoder model never panics**: for EVERY message — representable or not: wrong
shapes, non-finite floats, out-of-range dates, invalid UTF-8, undefined enum numbers, `Any` values of
every kind — and every root, `Codec.ProtoToJSON` returns bytes or an error. The only panic the encoder
model can originate is the exhaustion of its recursion fuel (Go has no such notion: it would be a
model artefact); the theorem shows `encFuel = 6·depth + 10` always suffices — five levels of the mutual
recursion `encodeObjectBody → GetValue → encodeOneofBody → GetValue → encodeValue` per nesting level of
the message (`encAgree`, `Codec/EncTotal.lean`). Hypothesis `Env.oneofsPlain` (decidable): the members of a
oneof wrapper have proto paths (no exposed oneof directly inside a oneof — always so for reflected
schemas, where a oneof's members are the fields of the wrapper message; every `Env.flat` environment:
`C08_flat_oneofsPlain`); without it a chain of exposed oneofs nested in one another could be longer
than any fuel derived from the message alone. -/
theorem C08_encode_no_panic (env : Env) (O : Oracle) (hE : env.oneofsPlain = true) (root : String)
    (v : PVal) : ∀ w, encodeBytes env O root v ≠ .panic w :=
  encodeBytes_np env O hE root v

/-- **the encoder model does not depend on its recursion fuel**: at every fuel from
`encFuel v = 6·depth + 10` on, `encRoot` returns exactly what `encodeTree` returns — for every message
and root. So the model's fuel is not an approximation of the Go encoder (which has none):
`encodeTree` is the fuel-free semantics, and the silent `false` of `hasProp` at fuel 0 (which would
omit an exposed oneof) is never reached (`encAgree`, `Codec/EncTotal.lean`). -/
theorem C08_encode_fuel_independent (env : Env) (O : Oracle) (hE : env.oneofsPlain = true)
    (root : String) (v : PVal) (F : Nat) (hF : encFuel v ≤ F) :
    encRoot env O F root v = encodeTree env O root v :=
  encRoot_fuel_stable env O hE root v F hF

theorem C08_flat_oneofsPlain (env : Env) (h : env.flat = true) : env.oneofsPlain = true :=
  oneofsPlain_of_flat env h

/-- **"the encoder must either fail or still emit valid JSON"** (the property's clause for
non-representable messages), packaged: for every message of an environment without `Any` (or with
recognised `j5_json` chunks, `hg`), `Codec.ProtoToJSON` EITHER returns an error OR returns bytes that
are one well-formed JSON document (strict parser) which re-renders to the same bytes. No third
outcome. -/
theorem C08_fails_or_wellformed (env : Env) (O : Oracle) (hO : FloatTextOk O)
    (hE : env.oneofsPlain = true) (root : String) (v : PVal)
    (hg : env.noAny = true ∨ (ChunkLaws O ∧ v.chunksOk O = true)) :
    (∃ e, encodeBytes env O root v = .err e) ∨
      (∃ bs t, encodeBytes env O root v = .ok bs ∧ parse bs = some t ∧ t.render = bs) := by
  cases h : encodeBytes env O root v with
  | ok bs =>
    obtain ⟨t, hp, hr⟩ := C08_wellformed_partial env O hO root v bs hg h
    exact Or.inr ⟨bs, t, rfl, hp, hr⟩
  | err e => exact Or.inl ⟨e, rfl⟩
  | panic w => exact absurd h (C08_encode_no_panic env O hE root v w)

/-- the strict parser returns exactly the tree the encoder built (numbers stay numbers, strings
stay strings, member order and names as written; a recognised `j5_json` chunk in parsed form) -/
theorem C08_parse_is_encoder_tree (env : Env) (O : Oracle)
    (hO : FloatTextOk O) (root : String) (v : PVal) (bs : Bytes)
    (hg : env.noAny = true ∨ (ChunkLaws O ∧ v.chunksOk O = true))
    (h : encodeBytes env O root v = .ok bs) :
    ∃ t, encodeTree env O root v = .ok t ∧ parse bs = some t := by
  obtain ⟨t, ht, _, hp⟩ := encodeBytes_parses env O hO root v bs hg h
  exact ⟨t, ht, hp⟩

/-- the bytes the encoder model writes for a `j5_json` do not depend on the specification-side
recogniser: recognised or not, they are the stored bytes -/
theorem C08_chunk_bytes_verbatim (O : Oracle) (bs : Bytes) : (chunkNode O bs).render = bs :=
  chunkNode_render O bs

/-! ## the `Any` / `j5_json` gap (tree level, machine checked)

`encodeAny` copies `j5_json` into the output without looking at it. The witness: a j5 `Any` whose
`j5_json` is the single byte `}`. The encoder succeeds, the tree it builds holds the chunk
verbatim (`PTree.raw`), the bytes are `{"a":{"!type":"t","value":}}}` — and the chunk is not a JSON
value. (That the *whole* byte string is rejected by the strict parser is not evaluated here; the
chunk-level fact below is what makes `C08_wellformed_partial` need `chunksOk` for environments with `Any`. Such a message is outside C01's
representable messages, so this is not a violation of C08 as stated.) -/

def anyEnv : Env :=
  { defs := [("r", .object [{ jsonName := ascii "a", path := [1], pres := .msg, field := .any false }])] }

def anyMsg : PVal := .msg [(1, .anyJ5 (ascii "t") [] [0x7D] .none "" (.msg []))]

def anyTree : PTree :=
  .obj (.cons (ascii "a") (ascii "\"a\"")
    (.obj (.cons (ascii "!type") (ascii "\"!type\"") (.str (ascii "t") (ascii "\"t\""))
      (.cons (ascii "value") (ascii "\"value\"") (.raw [0x7D]) (.nil .closed)))) (.nil .closed))

theorem C08_any_j5json_unchecked :
    encodeTree anyEnv toyOracle "r" anyMsg = .ok anyTree ∧
    encodeBytes anyEnv toyOracle "r" anyMsg = .ok (ascii "{\"a\":{\"!type\":\"t\",\"value\":}}}") ∧
    parse [0x7D] = none ∧ anyEnv.noAny = false := by
  refine ⟨by rfl, by decide +kernel, by decide, by decide⟩

/-! ## the documented structure -/

/-- **Full statement**: every successful encoding of a representable message has the documented
structure (`Wire.RootConforms`, which never mentions the encoder) -/
def C08_conforms_full : Prop :=
  ∀ (c : Cfg), OracleLaws c.O → OracleWire c.O → ∀ (root : String) (m : Fields) (bs : Bytes),
    (valOk c.env c.O (.object root) (.msg m) = true ∨ valOk c.env c.O (.oneof root) (.msg m) = true) →
    encodeBytes c.env c.O root (.msg m) = .ok bs →
    ∃ t, parse bs = some t ∧ Wire.RootConforms c.env c.O root m t

/-- **C08_conforms (`_partial` only in the class of schemas)**: for every `Env.flat` environment
(flattened objects, exposed oneofs, anonymous proto oneofs, wrapper oneofs, enums, arrays / maps of
scalars / enums / objects / oneofs, j5 `Any` properties holding recognised `j5_json`) and every
representable message: the bytes
`Codec.ProtoToJSON` returns are one well-formed JSON document whose tree (as the strict parser
reads it) is the documented representation of the message:
* an object has one member per *set* property, in schema order, named by the property's JSON name;
  unset properties are omitted; the properties of a flattened object are members of the *parent*
  (looked up by their full proto path);
* a oneof (wrapper, exposed, or root) is `{}` or `{"!type": name, name: value}` — the type key plus
  exactly the key it names;
* scalars have the representation of the README table (`Wire.scalarConforms`: bare 32-bit integers
  / floats / booleans, quoted 64-bit integers and decimals, padded standard base64, RFC 3339 UTC,
  zero-padded dates), enums are the short option name.
`OracleWire` (the shape of `time.Format`) is used for timestamps only. `hM`: some codec can decode
the `Any` values of the message (`modeOk`, per value; void for messages without `Any` values) —
the structure facts are carried by the round-trip induction.

* a j5 `Any` is `{"!type": typeName, "value": data}` where `data` renders to exactly the stored
  `j5_json` (`Wire.Conforms.anyJ5`, `C08_any_j5_value_verbatim`: the chunk is inserted verbatim).

* a protobuf `Any` is `{"!type": name, "value": data}`: the URL is `type.googleapis.com/name`,
  `name` resolves to the content's root, and `data` is again the documented representation of the
  content (`Wire.Conforms.anyPbObj / anyPbOne`, `C08_any_pb_value_conforms`: `Wire.RootConforms` of
  the inner message — the relation recurses through `Any` values).

Missing for `C08_conforms_full`: messages populating both kinds of `Any`; an exposed oneof inlined from a flattened object. -/
theorem C08_conforms_partial (c : Cfg) (hs : c.env.flat = true) (L : OracleLaws c.O)
    (W : OracleWire c.O) (hC : c.env.noAny = true ∨ ChunkLaws c.O) (root : String) (m : Fields)
    (bs : Bytes)
    (hok : valOk c.env c.O (.object root) (.msg m) = true ∨
      valOk c.env c.O (.oneof root) (.msg m) = true)
    (hM : ∃ mode, modeOkF mode (6 * (depthFields m + 1) + 9) 0 m = true)
    (henc : encodeBytes c.env c.O root (.msg m) = .ok bs) :
    ∃ t, parse bs = some t ∧ Wire.RootConforms c.env c.O root m t := by
  obtain ⟨mode, hM⟩ := hM
  obtain ⟨t, ht, _, hc, hE⟩ := root_flat_enc { c with protoToAny := mode, anyDepth := 0 } hs L hC root m
    hok _ (Nat.le_refl _) hM
  have ht' : encodeTree c.env c.O root (.msg m) = .ok t := ht
  simp only [encodeBytes, ht', Outcome.ok.injEq] at henc
  subst henc
  exact ⟨t, parse_render t hE, hc W⟩

/-- **Any values are `{"!type": typeName, "value": …}`**: whatever `encodeAny` writes successfully
(any environment, any value) is an object with exactly these two members in this order, the first
a string holding the type name (for a `google.protobuf.Any` the type URL without its prefix) -/
theorem C08_any_shape (env : Env) (O : Oracle) (f : Nat) (pb : Bool) (v : PVal) (t : PTree)
    (h : encValue env O f (.any pb) v = .ok t) :
    ∃ tn l1 l2 l3 data, Wire.anyTypeName v = some tn ∧
      t = .obj (.cons (ascii "!type") l1 (.str tn l2) (.cons (ascii "value") l3 data (.nil .closed))) :=
  any_shape env O f pb v t h

/-- **what the wire-format relation demands of a j5 `Any`** (inversion of
`Wire.Conforms`, which `C08_conforms_partial` establishes for every value of the message): the
document is `{"!type": typeName, "value": data}` and **`data` renders to exactly the stored
`j5_json`** — the value is the stored chunk verbatim, whatever else the `Any` carries. -/
theorem C08_any_j5_value_verbatim (env : Env) (O : Oracle) (tn proto j5 : Bytes) (ik : InnerKind)
    (iroot : String) (inner : PVal) (t : PTree)
    (h : Wire.Conforms env O (.any false) (.anyJ5 tn proto j5 ik iroot inner) t) :
    ∃ l1 l2 l3 data, j5 ≠ [] ∧ data.render = j5 ∧
      t = .obj (.cons (ascii "!type") l1 (.str tn l2) (.cons (ascii "value") l3 data (.nil .closed))) := by
  cases h with
  | anyJ5 _ _ _ _ _ _ l1 l2 l3 data hj hr => exact ⟨l1, l2, l3, data, hj, hr, rfl⟩

/-- **… and of a protobuf `Any`**: the document is `{"!type": name, "value": data}`, the
type URL is `type.googleapis.com/` + `name`, `name` resolves to the root the content belongs to, and
**`data` is the documented representation of the content** as a message of that root
(`Wire.RootConforms`, recursively: members in schema order, oneofs, scalars per README table, nested
`Any` values again). -/
theorem C08_any_pb_value_conforms (env : Env) (O : Oracle) (url val : Bytes) (ik : InnerKind)
    (iroot : String) (inner : PVal) (t : PTree)
    (h : Wire.Conforms env O (.any true) (.anyPb url val ik iroot inner) t) :
    ∃ tn fs l1 l2 l3 data, url = ascii "type.googleapis.com/" ++ tn ∧ inner = .msg fs ∧
      env.resolve tn = some iroot ∧ Wire.RootConforms env O iroot fs data ∧
      t = .obj (.cons (ascii "!type") l1 (.str tn l2) (.cons (ascii "value") l3 data (.nil .closed))) := by
  cases h with
  | anyPbObj _ tn _ fs props l1 l2 l3 ms hres hfind hmc =>
    exact ⟨tn, fs, l1, l2, l3, .obj ms, rfl, rfl, hres, Or.inl ⟨props, ms, hfind, rfl, hmc⟩, rfl⟩
  | anyPbOne _ tn _ fs ops l1 l2 l3 data hres hfind hoc =>
    exact ⟨tn, fs, l1, l2, l3, data, rfl, rfl, hres, Or.inr ⟨ops, hfind, hoc⟩, rfl⟩

/-! ## Non-vacuity -/

/-- an oracle satisfying both `OracleLaws` and `OracleWire` -/
example : OracleLaws wireOracle ∧ OracleWire wireOracle := ⟨wireOracle_laws, wireOracle_wire⟩
example : C01.sampleEnv.flat = true := by decide +kernel
example : valOk C01.sampleEnv wireOracle (.object "t.M") (.msg C01.sampleMsg) = true := by decide +kernel

/-- hypotheses of `C08_conforms_partial` for a message that populates a protobuf `Any`, and for one
with j5 `Any` values (so the `Any` clauses of `Wire.Conforms` are exercised by the theorem) -/
example : C01.samplePbEnv.flat = true ∧
    valOk C01.samplePbEnv wireOracle (.object "t.P") (.msg C01.samplePbMsg) = true ∧
    modeOkF true (6 * (depthFields C01.samplePbMsg + 1) + 9) 0 C01.samplePbMsg = true := by decide +kernel
example : C01.sampleAnyEnv.flat = true ∧
    valOk C01.sampleAnyEnv C01.anyOracle (.object "t.A") (.msg C01.sampleAnyMsg) = true ∧
    modeOkF false (6 * (depthFields C01.sampleAnyMsg + 1) + 9) 0 C01.sampleAnyMsg = true := by decide +kernel
/-- the `Any` clauses are inhabited: `{"!type":"t","value":{"k":1}}` for the chunk `{"k":1}`, and a
protobuf `Any` of `t.v1.I` with content `{id: "x"}` -/
example : Wire.Conforms C01.sampleAnyEnv C01.anyOracle (.any false)
    (.anyJ5 (ascii "t") [] (ascii "{\"k\":1}") .none "" (.msg []))
    (.obj (.cons (ascii "!type") [] (.str (ascii "t") [])
      (.cons (ascii "value") [] C01.chunkTree (.nil .closed)))) :=
  Wire.Conforms.anyJ5 _ _ _ _ _ _ _ _ _ _ (by decide) (by decide)
example : Wire.Conforms C01.samplePbEnv wireOracle (.any true)
    (.anyPb (ascii "type.googleapis.com/" ++ ascii "t.v1.I") [] .inn "t.I" (.msg [(1, .str (ascii "x"))]))
    (.obj (.cons (ascii "!type") [] (.str (ascii "t.v1.I") [])
      (.cons (ascii "value") []
        (.obj (.cons (ascii "id") [] (.str (ascii "x") []) (.nil .closed))) (.nil .closed)))) :=
  by
  refine Wire.Conforms.anyPbObj [] (ascii "t.v1.I") "t.I" [(1, .str (ascii "x"))]
    [{ jsonName := ascii "id", path := [1], pres := .imp, field := .scalar .string }] [] [] []
    (.cons (ascii "id") [] (.str (ascii "x") []) (.nil .closed)) (by decide) (by decide) ?_
  refine Wire.MembersConform.emit _ _ _ (.str (ascii "x")) _ _ _ (by decide) rfl ?_
    (Wire.MembersConform.nil _)
  exact Wire.Conforms.scalar _ _ _ rfl

/-- `Env.oneofsPlain` holds for the sample environments (also the non-flat one with the inlined
oneof), and fails for a oneof whose member is itself an exposed oneof -/
example : C01.sampleEnv.oneofsPlain = true ∧ C01.samplePbEnv.oneofsPlain = true ∧
    C01.ioEnv.oneofsPlain = true := by decide
def nestedExposedEnv : Env :=
  { defs := [("t.W", .oneof [{ jsonName := ascii "x", path := [], pres := .none, field := .oneof "t.W" }])] }
example : nestedExposedEnv.oneofsPlain = false := by decide
example : scalarOk toyOracle .int64 (.int (-9223372036854775808)) = true := by decide
example : scalarOk toyOracle .date (.date 33 1 2) = true := by decide
example : scalarOk toyOracle .bytes (.bytes [0xfb, 0xff]) = true := by decide
example : Wire.isDateShape (ascii "0033-01-02") = true := by decide
example : Wire.isDateShape (ascii "  33-01-02") = false := by decide
example : Wire.isPaddedStdBase64 (ascii "+/8=") 2 = true := by decide
example : Wire.isPaddedStdBase64 (ascii "+/8") 2 = false := by decide
example : Wire.jsonIntValue (ascii "-12") = some (-12) := by decide
example : Wire.jsonIntValue (ascii "012") = none := by decide
example : C01.sampleEnv.noAny = true := by decide
example : FloatTextOk toyOracle := floatTextOk_of_laws _ toyOracle_laws

example : appendString (ascii "a\"b\\c\n") = .ok (ascii "\"a\\\"b\\\\c\\n\"") := by decide +kernel
/-- non-BMP text is copied, control characters become `\u00XX` -/
example : appendString [0xF0, 0x9F, 0x98, 0x80, 0x01] =
    .ok ([0x22, 0xF0, 0x9F, 0x98, 0x80] ++ ascii "\\u0001\"") := by decide +kernel
example : appendString [0xFF] = .err "invalid UTF-8" := by decide
example : finite64 0x7ff8000000000001 = false := by decide

/-! ## source facts
Obligations over `J5V.Generated.Codec` (regenerated from /repo's current source by extract/codec.go at
every check run). Maintained by codec-go; they tie the model's case analysis to the switches in
the Go source. -/
section SourceFacts
open J5V.Generated.Codec

/-- the constants of the wire format which the model hard-codes -/
theorem C08_src_formats :
    dateStringFormat = "%04d-%02d-%02d" ∧ timestampEncodeLayout = "time.RFC3339Nano" := by decide

/-- `encodeValue` has an arm for every kind of field and `encodeScalarField` for every Go type
`scalarGoFromReflect` can produce; the fall-through arms return errors. -/
theorem C08_src_encode_switch_coverage :
    encodeValueCases = ["AnyField", "ArrayField", "EnumField", "MapField", "ObjectField", "OneofField", "ScalarField"] ∧
    encodeScalarGoTypes = ["*date_j5t.Date", "*decimal_j5t.Decimal", "[]byte", "bool", "float32", "float64",
      "int32", "int64", "string", "time.Time", "uint32", "uint64"] ∧
    encodeValueDefaultIsError = true ∧ encodeScalarDefaultIsError = true := by decide +kernel

/-- **`encodeAny` ↔ the `.any` arm of `encValue`; `encodeOneofBody` ↔ `encOneofBody`** (the
Go side of `C08_any_shape`): the member names `encodeAny` writes are the literals `"!type"` then
`"value"` — the model's `typeKey`, `valueKey` —, followed by the type name as a JSON string and the
data bytes verbatim (`enc.add`); the data is `j5_json` when present, else the re-encoded proto
content, else an error (c903cda / 691a6dd). `encodeOneofBody` writes `{}` for an unset oneof, else
`"!type"`, the member's name as a string, and the member under that same name. -/
theorem C08_src_any_oneof_labels :
    encodeAnyLabels.map ascii = [typeKey, valueKey] ∧
    encodeAnyTypeArgs = ["val.TypeName"] ∧ encodeAnyDataArgs = ["jsonData"] ∧
    encodeAnyIfs =
      [("err != nil", "err"), ("val.J5Json != nil", "none"), ("val.Proto != nil", "none"),
       ("err != nil", "err"),
       ("err := proto.Unmarshal(val.Proto, dst.Interface()); err != nil", "err"),
       ("err != nil", "err"), ("err != nil", "err"), ("err != nil", "err"), ("err != nil", "err"),
       ("else of val.Proto != nil", "err")] ∧
    encodeOneofBodyLabels = ["!type", "<expr> prop.NameInParent()"] ∧
    encodeOneofBodyIfs =
      [("err != nil", "err"), ("!isSet", "nil"), ("err != nil", "err"), ("err != nil", "err"),
       ("err != nil", "err"), ("err := enc.encodeValue(prop); err != nil", "err")] := by
  decide +kernel

/-- the container writers ↔ `encObjectBody` / the `.map` / `.array` / `.enum` arms of `encValue`:
separators only between members (`!first`), a member is its label then its value, every error is
handed on (nothing is written "instead") -/
theorem C08_src_container_shapes :
    encodeObjectBodyIfs =
      [("!first", "none"), ("err := enc.fieldLabel(prop.NameInParent()); err != nil", "err"),
       ("err := enc.encodeValue(prop); err != nil", "err")] ∧
    encodeMapIfs = [("!first", "none"), ("err != nil", "err")] ∧
    encodeArrayIfs = [("!first", "none")] ∧
    encodeEnumIfs = [("err != nil", "err")] := by decide +kernel

/-- **the scalar writers ↔ `encodeScalar`**: per Go type of `encodeScalarField` the calls it
makes, and per primitive of `encoder.go` its calls and literals. Mirrored by the model: `string`,
`Date`, `Decimal`, `time.Time` and `[]byte` go through `addString` (quoted + escaped; the model's
`.quoted`), `[]byte` as ONE `base64.StdEncoding.EncodeToString` (padded standard alphabet, no
chunking), the timestamp as `In(UTC).Format(RFC3339Nano)`; `int64` / `uint64` are `FormatInt/Uint`
base 10 through `addQuoted` (quoted), `int32` / `uint32` the same through `add` (bare), bools the bare
literals `true` / `false`, floats `FormatFloat(v, 'g', -1, bits)` bare except the three quoted
non-finite literals `NaN`, `Infinity`, `-Infinity` (22e9ce8); a member label is `addString(name)`
followed by `:` (so names and map keys get the JSON string escaper, not a Go-syntax quoter). -/
theorem C08_src_scalar_writers :
    encodeScalarCalls =
      [
       ("string", ["enc.addString"]),
       ("bool", ["enc.addBool"]),
       ("int32", ["enc.addInt32"]),
       ("int64", ["enc.addInt64"]),
       ("uint32", ["enc.addUint32"]),
       ("uint64", ["enc.addUint64"]),
       ("float32", ["enc.addFloat", "float64"]),
       ("float64", ["enc.addFloat"]),
       ("[]byte", ["base64.StdEncoding.EncodeToString", "enc.addString"]),
       ("*date_j5t.Date", ["enc.addString", "vt.DateString"]),
       ("*decimal_j5t.Decimal", ["enc.addString"]),
       ("time.Time", ["enc.addString", "vt.In(…).Format", "vt.In"]),
       ("default", ["fmt.Errorf"])] ∧
    encoderPrimitives =
      [
       ("fieldLabel", ["enc.addString", "enc.add", "[]byte"], ["\":\""]),
       ("addString", ["make", "len", "appendString", "enc.add"], ["0", "2"]),
       ("addQuoted", ["enc.add", "[]byte", "enc.add", "enc.add", "[]byte"], ["`\"`", "`\"`"]),
       ("addInt32", ["strconv.FormatInt", "int64", "enc.add", "[]byte"], ["10"]),
       ("addUint32", ["strconv.FormatUint", "uint64", "enc.add", "[]byte"], ["10"]),
       ("addInt64", ["strconv.FormatInt", "enc.addQuoted", "[]byte"], ["10"]),
       ("addUint64", ["strconv.FormatUint", "enc.addQuoted", "[]byte"], ["10"]),
       ("addBool", ["enc.add", "[]byte", "enc.add", "[]byte"], ["\"true\"", "\"false\""]),
       ("addFloat", ["math.IsNaN", "enc.addQuoted", "[]byte", "math.IsInf", "enc.addQuoted", "[]byte", "math.IsInf", "enc.addQuoted", "[]byte", "strconv.FormatFloat", "enc.add", "[]byte"], ["\"NaN\"", "1", "\"Infinity\"", "1", "\"-Infinity\"", "'g'", "1"]),
       ("fieldSep", ["enc.add", "[]byte"], ["\",\""]),
       ("openObject", ["enc.add", "[]byte"], ["\"{\""]),
       ("closeObject", ["enc.add", "[]byte"], ["\"}\""]),
       ("openArray", ["enc.add", "[]byte"], ["\"[\""]),
       ("closeArray", ["enc.add", "[]byte"], ["\"]\""])] := by
  decide +kernel

theorem C08_src_extractor_ok : codecExtractorOk = true := by decide

end SourceFacts

end J5V.Props.C08
