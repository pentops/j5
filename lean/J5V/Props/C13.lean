import J5V.Compile.EvolveSeq
import J5V.Compile.ConvertProofs
import J5V.Compile.AppendDecl
import J5V.Compile.Congr
import J5V.Compile.AppendDeclPkg
import J5V.Compile.AppendFresh
import J5V.Compile.ExactProofs
import J5V.Compile.AppendEdit
import J5V.Compile.AppendEditSvc
import J5V.Compile.EvolveAdm
import J5V.Compile.EvolveExports
import J5V.Generated.EvolveFacts
/-!
# C13 — appending declarations never changes existing wire identities

Statements about `J5V.Compile`, for every context, property list and edit; no bound on sizes.
First per container: the message of an object / oneof / request / response / topic message under
`appendField`, the value list of an enum under `appendOption`. Then per file (`appendDecl`), per
package for each shape of edit (every one an instance of `edit_compile_rel`, Compile/AppendEdit.lean),
and for sequences of edits.
-/
namespace J5V.Props.C13
open J5V.Go J5V.Compile

/-- **Append a field.** Appending properties to a declared (or virtual) object / oneof leaves
every previously emitted field (name, JSON name, number, type, label, optionality, type name, oneof
index) exactly in place: the old field list is a prefix of the new one. Holds for the same
conversion context; see `C13_append_field_ctx` for when the context itself is unchanged. -/
theorem C13_append_field (c : Ctx) (np : List Str) (isOneof : Bool) (virt : List Property)
    (name : Str) (props extra : List Property) (nested : List Nested) (psm : Option Psm) :
    (declMsg c np isOneof virt name props nested psm).fields <+:
      (declMsg c np isOneof virt name (props ++ extra) nested psm).fields := by
  simp only [declMsg, mkMsg, MsgSkel.fields, ← List.append_assoc, bProps_append_flds]
  exact List.prefix_append _ _

/-- **Append a field, changed resolver.** An edit also changes the package's export table (a new
inline type is a new export), hence the conversion context. The existing fields are still exactly
preserved whenever the new context resolves the references of the *existing* properties as before
(`AgreeOn` — true when the names added by the edit are fresh). -/
theorem C13_append_field_ctx (c c' : Ctx) (np : List Str) (isOneof : Bool) (virt : List Property)
    (name : Str) (props extra : List Property) (nested nested' : List Nested) (psm : Option Psm)
    (h : AgreeOn c c' (refsProps (virt ++ props))) :
    (declMsg c np isOneof virt name props nested psm).fields <+:
      (declMsg c' np isOneof virt name (props ++ extra) nested' psm).fields := by
  simp only [declMsg, mkMsg, MsgSkel.fields]
  rw [bProps_congr c c' (np ++ [name]) isOneof 1 (virt ++ props) h, ← List.append_assoc,
    bProps_append_flds c' _ _ _ (virt ++ props) extra]
  exact List.prefix_append _ _

/-- …and the types nested under the message that come from its properties (inline objects, oneofs
and map entries) keep their position: the old property-derived nested messages are a prefix of the new ones. -/
theorem C13_append_field_nested (c : Ctx) (np : List Str) (isOneof : Bool) (n : Nat)
    (props extra : List Property) :
    (bProps c np isOneof n props).eff.msgs <+: (bProps c np isOneof n (props ++ extra)).eff.msgs ∧
    (bProps c np isOneof n props).eff.enums <+: (bProps c np isOneof n (props ++ extra)).eff.enums ∧
    (bProps c np isOneof n props).entries <+: (bProps c np isOneof n (props ++ extra)).entries := by
  rw [bProps_append_eff, bProps_append_entries]
  exact ⟨List.prefix_append _ _, List.prefix_append _ _, List.prefix_append _ _⟩

/-- the numbers handed out by `mapProperties` to existing properties do not move -/
theorem C13_append_field_numbers (virt props extra : List Property) :
    mapProperties virt props <+: mapProperties virt (props ++ extra) := by
  rw [mapProperties_prefix]
  exact List.prefix_append _ _

/-- **Append an option.** For every enum (empty or not, with or without an explicit zero) and every
new option name, appending the option keeps every existing value — name and number — in place.
(Mirrors Go commit 50e59b3: an option ending in `UNSPECIFIED` appended to an empty enum does not take
the place of the implicit zero under a different name; the witness is in the corpus and below.) -/
theorem C13_append_option (e : EnumDecl) (o : Str) :
    (convEnum e).name = (convEnum { e with opts := e.opts ++ [o] }).name ∧
    (convEnum e).values <+: (convEnum { e with opts := e.opts ++ [o] }).values :=
  ⟨rfl, enumValues_prefix_all (enumPrefix e) e.opts o⟩

/-- value 0 of every enum is `<PREFIX>UNSPECIFIED`, before and after any edit -/
theorem C13_enum_zero_stable (e : EnumDecl) :
    ∃ tl, (convEnum e).values = (enumPrefix e ++ b!"UNSPECIFIED", 0) :: tl :=
  enumValues_head (enumPrefix e) e.opts

/-- sequences of appended options (induction over the edit sequence) -/
theorem C13_append_option_seq (e : EnumDecl) (os : List Str) :
    (convEnum e).values <+: (convEnum { e with opts := e.opts ++ os }).values := by
  induction os generalizing e with
  | nil => simp
  | cons o os ih =>
    have h1 := (C13_append_option e o).2
    have h2 := ih { e with opts := e.opts ++ [o] }
    simp only [List.append_assoc, List.singleton_append] at h2
    exact List.IsPrefix.trans h1 h2

/-- sequences of appended fields -/
theorem C13_append_field_seq (c : Ctx) (np : List Str) (isOneof : Bool) (virt : List Property)
    (name : Str) (props : List Property) (edits : List (List Property)) (nested : List Nested)
    (psm : Option Psm) :
    (declMsg c np isOneof virt name props nested psm).fields <+:
      (declMsg c np isOneof virt name (edits.foldl (· ++ ·) props) nested psm).fields := by
  induction edits generalizing props with
  | nil => simp
  | cons e es ih =>
    exact List.IsPrefix.trans (C13_append_field c np isOneof virt name props e nested psm)
      (ih (props ++ e))

/-- **Append a declaration.** When a j5s file converts before and after a new top-level
declaration (object, oneof, enum, service, topic or entity) is added at its end — against the same
type resolver — every file generated before is generated again under the same name and package,
and its messages, enums and services are a prefix of the new lists: everything the existing
declarations produced (including all nested content, field numbers, enum values, methods) is
unchanged and keeps its position. -/
theorem C13_append_decl (res : Resolver) (path : Str) (imports : List Import)
    (elems : List Elem) (e : Elem) (fs fs' : List FileSkel)
    (h : convertFile res path imports elems = .ok fs)
    (h' : convertFile res path imports (elems ++ [e]) = .ok fs') :
    ∀ f ∈ fs, ∃ f' ∈ fs', f'.name = f.name ∧ f'.pkg = f.pkg ∧
      f.msgs <+: f'.msgs ∧ f.enums <+: f'.enums ∧ f.svcs <+: f'.svcs :=
  convertFile_append_decl res path imports elems e fs fs' h h'

/-- **Append a declaration, package level.** `CompilePackage` of a package before and after a
declaration is appended to one of its files (the other files, the other packages, the dependency
graph arbitrary). The edit changes the package's export table; provided the references of the
existing declarations resolve as before (`AgreeFile` — true when the names the new declaration
introduces are fresh), every generated file of the old compile is generated again under the same
name and package with the old messages, enums and services as a prefix. -/
theorem C13_append_decl_pkg (b b' : Bundle) (name : Str) (p p' : Pkg) (l l' : Loaded)
    (fuel fuel' : Nat) (chain chain' : List Str)
    (hf : b.find name = some p) (hf' : b'.find name = some p')
    (hl : loadPkg b (fuel + 1) chain name = .ok l)
    (hl' : loadPkg b' (fuel' + 1) chain' name = .ok l')
    (pre post : List SrcFile) (path : Str) (imports : List Import) (elems : List Elem) (decl : Str)
    (e : Elem)
    (hp : p.files = pre ++ [.j5s path imports elems decl] ++ post)
    (hp' : p'.files = pre ++ [.j5s path imports (elems ++ [e]) decl] ++ post)
    (hagree : ∀ f ∈ p.files, AgreeFile l.resolver l'.resolver f) :
    ∀ f ∈ l.files, ∃ f' ∈ l'.files, f.Le f' :=
  replace_file_pkg_up FileSkel.Le FileSkel.Le.refl b b' name p p' l l' fuel fuel' chain chain' hf hf'
    hl hl' pre post _ _ hp hp' (fun f hf => (hagree f hf).up)
    (convOf_rel l'.resolver path imports elems (elems ++ [e]) decl FileSkel.Le
      (convertFile_append_decl l'.resolver path imports elems e))

/-- **Append a declaration with fresh names — the edit itself, package level.** Let `b'` be the
bundle after `appendDecl` (the protocol's edit: a new top-level object / oneof / enum / service /
topic / entity at the end of the `fi`-th file of package `pkg`), and let both versions compile up
to the link step. If the names the new declaration exports are not yet exported by the package
(decidable on the sources: `newExportNames`), then every file generated before is generated again
under the same name and package, and its messages, enums and services — with all nested content,
field numbers, enum values, methods — are a prefix of the new lists. No hypothesis on the
resolvers: that they agree on every existing reference is *derived* from freshness (local names
look up the same export entry; imported names the same dependency entry, and dependencies load
identically because they never read the edited package). Any number of files, packages,
dependency depth. -/
theorem C13_append_decl_fresh (b b' : Bundle) (pkg : Str) (fi : Nat) (el : Elem)
    (he : (Edit.appendDecl fi el).apply pkg b = some b')
    (fs fs' : List FileSkel) (h : compilePkg b pkg = .ok fs) (h' : compilePkg b' pkg = .ok fs')
    (hfresh : ∀ p path imports elems decl, b.find pkg = some p →
      p.files[fi]? = some (.j5s path imports elems decl) →
      ∀ n ∈ newExportNames path el, n ∉ (p.files.map sumOf).flatMap (fun s => s.exports.map (·.1))) :
    ∀ f ∈ fs, ∃ f' ∈ fs', f.Le f' := by
  refine edit_compile_rel _ FileSkel.Le.refl _ b b' pkg he fs fs' h h' ?_
  intro p path imports elems elems' decl hf hget hed
  obtain rfl : elems ++ [el] = elems' := Option.some.inj hed
  exact ⟨_, fun k hk => Block.old_ins fun hx => hfresh p path imports elems decl hf hget k hx hk,
    summary_append_decl path imports elems el,
    fun res fs fs' => convertFile_append_decl res path imports elems el fs fs'⟩

/-- **Append a field — the edit itself, package level.** Let `b'` be the bundle after
`appendField` at a top-level declaration (path `[el i]`: the protocol's edit adds the property at
the end of the `i`-th element of the `fi`-th file of package `pkg`, which the edit requires to be an
object or a oneof), and let both versions compile up to the link step. If the names the new property
exports (its inline types, `newFieldExportNames`) are not yet exported by the package, then every
generated file is generated again under the same name and package with the same services and enums,
and every message is found again with the same name, kind and entity annotation, its old fields
(name, JSON name, number, type, label, optionality, type name, oneof index) as a prefix of the new
ones and all its nested messages and enums kept (`FileSkel.LeEdit`) — what the harness looks up by
name. No hypothesis on resolvers: agreement on every existing reference of every file of the package
is derived from freshness, the dependencies load identically. Any number of files, packages,
dependency depth; the new property is arbitrary (inline types of any depth, references, maps). -/
theorem C13_append_field_pkg (b b' : Bundle) (pkg : Str) (fi i : Nat) (prop : Property)
    (he : (Edit.appendField fi [.el i] prop).apply pkg b = some b')
    (fs fs' : List FileSkel) (h : compilePkg b pkg = .ok fs) (h' : compilePkg b' pkg = .ok fs')
    (hfresh : ∀ p path imports E1 E2 io n ps ne psm decl, b.find pkg = some p →
      p.files[fi]? = some (.j5s path imports (E1 ++ [declElem io (.mk n ps ne psm)] ++ E2) decl) →
      E1.length = i →
      ∀ x ∈ newFieldExportNames n prop, x ∉ (p.files.map sumOf).flatMap (fun s => s.exports.map (·.1))) :
    ∀ f ∈ fs, ∃ f' ∈ fs', f.LeEdit f' := by
  refine edit_item_compile_rel MsgSkel.Le1.refl _ b b' pkg he fs fs' h h' ?_
  intro p path imports elems elems' decl hf hget hed
  obtain ⟨io, o, hk⟩ := editElems_field_top prop i elems elems' hed
  obtain ⟨E1, E2, o', rfl, rfl, h3, hdecl⟩ := editElems_decl (.field prop) i [] elems elems' io o hk hed
  obtain ⟨M, M', hb, hch⟩ := editDecl_expCh (.field prop) [] o o' hdecl [] io
  cases o with
  | mk n ps ne psm =>
    obtain ⟨ps', hps, rfl⟩ := Option.map_eq_some_iff.mp hdecl
    obtain rfl : ps ++ [prop] = ps' := Option.some.inj hps
    exact ⟨E1, E2, _, _, _, _, M, M', rfl, rfl, itemsOfElem_decl _ io _, itemsOfElem_decl _ io _,
      declItem_up io _ _ hb.block hch (fun c _ => convDecl_msgs_append c io n ps prop ne psm),
      fun k hk' => hb.old_field k fun hx => hfresh p path imports E1 E2 io n ps ne psm decl hf hget h3 k hx hk'⟩

/-- **Append a field to a request or a response — the edit itself, package level.** Path
`[el i, method m, req]` (`rq = true`) or `[el i, method m, res]`: the `i`-th element of the file is a
service, its `m`-th method has a request (response) and gets the property at its end. Both versions
compiling, and the names the property exports under `<Method>Request` (`<Method>Response`) being new
to the package: every generated file — the `.service` sub-package file with the request / response
messages and the proto service among them — is generated again under the same name and package with
the SAME services (every rpc: name, input, output, verb, path pattern, body, annotations), and every
message is found again with its old fields as a prefix and its nested types kept. -/
theorem C13_append_field_method_pkg (b b' : Bundle) (pkg : Str) (fi i m : Nat) (rq : Bool)
    (prop : Property)
    (he : (Edit.appendField fi [.el i, .method m, reqStep rq] prop).apply pkg b = some b')
    (fs fs' : List FileSkel) (h : compilePkg b pkg = .ok fs) (h' : compilePkg b' pkg = .ok fs')
    (hfresh : ∀ p path imports E1 E2 sv M1 M2 mt decl, b.find pkg = some p →
      p.files[fi]? = some (.j5s path imports (E1 ++ [.service sv] ++ E2) decl) → E1.length = i →
      sv.methods = M1 ++ [mt] ++ M2 → M1.length = m →
      ∀ x ∈ newFieldExportNames (methodObjName rq mt) prop,
        x ∉ (p.files.map sumOf).flatMap (fun s => s.exports.map (·.1))) :
    ∀ f ∈ fs, ∃ f' ∈ fs', f.LeEdit f' := by
  refine edit_item_compile_rel MsgSkel.Le1.refl _ b b' pkg he fs fs' h h' ?_
  intro p path imports elems elems' decl hf hget hed
  obtain ⟨E1, E2, sv, M1, M2, mt, mt', r, r', rfl, rfl, h3, h4, h5, h6, h7⟩ :=
    editElems_method_deep (.field prop) i m rq [] elems elems' hed
  obtain rfl : r ++ [prop] = r' := Option.some.inj h7
  obtain ⟨M, M', hb, hch⟩ := editProps_expCh (.field prop) [] r _ h7 [methodObjName rq mt]
  exact ⟨E1, E2, _, _, _, _, M, M', rfl, rfl, rfl, rfl,
    serviceItem_up sv M1 M2 mt mt' rq r _ h4 h6 hb.block hch
      (fun c _ => serviceItem_msgs MsgSkel.Le1.refl c sv M1 M2 mt mt' rq r _ h4 h6
        (fun _ _ => declMsg_append_le1 c [] false [] _ r prop [] none)),
    fun k hk => hb.old_field k fun hx => hfresh p path imports E1 E2 sv M1 M2 mt decl hf hget h3 h4 h5 k hx hk⟩

/-- **Append a field at any depth below a request or a response — package level.** Path
`el i :: method m :: (req | res) :: rest` with `rest` any path of `prop j` steps into inline objects /
oneofs of the request (response), through array and map items. Both versions compiling and the names
the property exports there (`methodDeepExportNames`) being new to the package: every generated file
is generated again with the SAME services (every rpc unchanged: it never reads the property list) and
every message found again with its old fields a prefix and, recursively, its nested messages found
again in the same way (`FileSkel.LeDeep`). `rest = []` is `C13_append_field_method_pkg`. -/
theorem C13_append_field_method_deep_pkg (b b' : Bundle) (pkg : Str) (fi i m : Nat) (rq : Bool)
    (rest : List PStep) (prop : Property)
    (he : (Edit.appendField fi (.el i :: .method m :: reqStep rq :: rest) prop).apply pkg b = some b')
    (fs fs' : List FileSkel) (h : compilePkg b pkg = .ok fs) (h' : compilePkg b' pkg = .ok fs')
    (hfresh : ∀ p path imports E1 E2 sv M1 M2 mt r decl, b.find pkg = some p →
      p.files[fi]? = some (.j5s path imports (E1 ++ [.service sv] ++ E2) decl) → E1.length = i →
      sv.methods = M1 ++ [mt] ++ M2 → M1.length = m →
      (if rq then mt.request else mt.response) = some r →
      ∀ x ∈ methodDeepExportNames rq mt rest r prop, x ∉ pkgExportNames p) :
    ∀ f ∈ fs, ∃ f' ∈ fs', f.LeDeep f' := by
  refine edit_item_compile_rel MsgSkel.LeDeep.refl _ b b' pkg he fs fs' h h' ?_
  intro p path imports elems elems' decl hf hget hed
  obtain ⟨E1, E2, sv, M1, M2, mt, mt', r, r', rfl, rfl, h3, h4, h5, h6, h7⟩ :=
    editElems_method_deep (.field prop) i m rq rest elems elems' hed
  have hr : (if rq then mt.request else mt.response) = some r := by cases rq <;> exact h6.1
  obtain ⟨M, M', hb, hch⟩ := editProps_expCh (.field prop) rest r r' h7 [methodObjName rq mt]
  exact ⟨E1, E2, _, _, _, _, M, M', rfl, rfl, rfl, rfl,
    serviceItem_up sv M1 M2 mt mt' rq r r' h4 h6 hb.block hch
      (fun c hit => serviceItem_msgs_clean c sv M1 M2 mt mt' rq r r' h4 h6 hit
        (editProps_clean c (.field prop) rest r r' h7)),
    fun k hk => hb.old_field k fun hx =>
      hfresh p path imports E1 E2 sv M1 M2 mt r decl hf hget h3 h4 h5 hr k hx hk⟩

/-- **Append a field to a topic message — the edit itself, package level.** Path `[el i, msg m]`
(`k = 0`: publish / upsert / event topics), `[el i, reqm m]` (`k = 1`) or `[el i, repm m]` (`k ≥ 2`,
request / reply topics): the `i`-th element of the file is a topic and one of its messages gets the
property at its end. Both versions compiling and the names the property exports under
`<Name>Message` being new to the package (asked for every message of the topic, `topicObjName`):
every generated file — the `.topic` sub-package file with the message types and the topic services —
is generated again with the SAME services and every message found again with its old fields
(including the implicit leading `request` / `upsert` metadata field) as a prefix. -/
theorem C13_append_field_topic_pkg (b b' : Bundle) (pkg : Str) (fi i k m : Nat) (prop : Property)
    (he : (Edit.appendField fi [.el i, topicStep k m] prop).apply pkg b = some b')
    (fs fs' : List FileSkel) (h : compilePkg b pkg = .ok fs) (h' : compilePkg b' pkg = .ok fs')
    (hfresh : ∀ p path imports E1 E2 t decl, b.find pkg = some p →
      p.files[fi]? = some (.j5s path imports (E1 ++ [.topic t] ++ E2) decl) → E1.length = i →
      ∀ tn ∈ topicNodes t, ∀ tm ∈ tn.msgs, ∀ x ∈ newFieldExportNames (topicObjName tn tm) prop,
        x ∉ (p.files.map sumOf).flatMap (fun s => s.exports.map (·.1))) :
    ∀ f ∈ fs, ∃ f' ∈ fs', f.LeEdit f' := by
  refine edit_item_compile_rel MsgSkel.Le1.refl _ b b' pkg he fs fs' h h' ?_
  intro p path imports elems elems' decl hf hget hed
  obtain ⟨E1, E2, t, t', rfl, rfl, h3, ht⟩ :=
    editElems_topic_deep (.field prop) i k m [] elems elems' hed
  obtain ⟨N1, N2, tn, tn', T1, T2, tm, ps', n1, n2, hx, hps⟩ :=
    editTopic_deep (.field prop) k m [] t t' ht
  obtain rfl : tm.props ++ [prop] = ps' := Option.some.inj hps
  obtain ⟨M, M', hb, hch⟩ := editProps_expCh (.field prop) [] tm.props _ hps [topicObjName tn tm]
  obtain ⟨M0, M0', hold, hup⟩ := topicItem_up t t' N1 N2 tn tn' T1 T2 tm _ n1 n2 hx hb.block hch
    (fun c _ => topicItem_msgs MsgSkel.Le1.refl c t t' N1 N2 tn tn' T1 T2 tm _ n1 n2 hx
      (fun _ _ => declMsg_append_le1 c [] false tn.prepend _ tm.props prop [] none))
  exact ⟨E1, E2, _, _, _, _, M0, M0', rfl, rfl, rfl, rfl, hup, fun x hx' => hold x (hb.old_field x fun hm =>
    hfresh p path imports E1 E2 t decl hf hget h3 tn (by rw [n1]; simp) tm (by rw [hx.1]; simp) x hm hx')⟩

/-- **Append a field at any depth below a topic message — package level.** Path
`el i :: (msg m | reqm m | repm m) :: rest`, all four topic types, `rest` any path of `prop j` steps into
inline objects / oneofs of the message. Freshness of the names the property exports there
(`topicDeepExportNames`, asked for every message of the topic): the SAME topic services, every message
found again with its old fields (including the implicit metadata field) a prefix and its nested
messages found again recursively (`FileSkel.LeDeep`). `rest = []` is `C13_append_field_topic_pkg`. -/
theorem C13_append_field_topic_deep_pkg (b b' : Bundle) (pkg : Str) (fi i k m : Nat)
    (rest : List PStep) (prop : Property)
    (he : (Edit.appendField fi (.el i :: topicStep k m :: rest) prop).apply pkg b = some b')
    (fs fs' : List FileSkel) (h : compilePkg b pkg = .ok fs) (h' : compilePkg b' pkg = .ok fs')
    (hfresh : ∀ p path imports E1 E2 t decl, b.find pkg = some p →
      p.files[fi]? = some (.j5s path imports (E1 ++ [.topic t] ++ E2) decl) → E1.length = i →
      ∀ tn ∈ topicNodes t, ∀ tm ∈ tn.msgs, ∀ x ∈ topicDeepExportNames tn tm rest prop,
        x ∉ pkgExportNames p) :
    ∀ f ∈ fs, ∃ f' ∈ fs', f.LeDeep f' := by
  refine edit_item_compile_rel MsgSkel.LeDeep.refl _ b b' pkg he fs fs' h h' ?_
  intro p path imports elems elems' decl hf hget hed
  obtain ⟨E1, E2, t, t', rfl, rfl, h3, ht⟩ :=
    editElems_topic_deep (.field prop) i k m rest elems elems' hed
  obtain ⟨N1, N2, tn, tn', T1, T2, tm, ps', n1, n2, hx, hps⟩ :=
    editTopic_deep (.field prop) k m rest t t' ht
  obtain ⟨M, M', hb, hch⟩ := editProps_expCh (.field prop) rest tm.props ps' hps [topicObjName tn tm]
  obtain ⟨M0, M0', hold, hup⟩ := topicItem_up t t' N1 N2 tn tn' T1 T2 tm ps' n1 n2 hx hb.block hch
    (fun c hit => topicItem_msgs_clean c t t' N1 N2 tn tn' T1 T2 tm ps' n1 n2 hx hit
      (editProps_clean c (.field prop) rest tm.props ps' hps))
  exact ⟨E1, E2, _, _, _, _, M0, M0', rfl, rfl, rfl, rfl, hup, fun x hx' => hold x (hb.old_field x fun hm =>
    hfresh p path imports E1 E2 t decl hf hget h3 tn (by rw [n1]; simp) tm (by rw [hx.1]; simp) x hm hx')⟩

/-- **Append a field at any depth — the edit itself, package level.** Path `el i :: rest` where the
`i`-th element of the file is an object or a oneof (`hkind`) and `rest` is any path the edit accepts
below it: `nest k` steps into nested objects / oneofs (any depth), then `prop j` steps into inline
objects / oneofs (any depth, through array and map items); the property is appended at the end of the
container the path ends in. Both versions compiling, and the names the property exports under that
container's nest path (`deepFieldExportNames`: its inline types) being new to the package: every
generated file is generated again under the same name and package with the same services and enums,
and every message is found again — `FileSkel.LeDeep` — with the same name, kind and annotation, its
old fields (name, JSON name, number, type, label, optionality, type name, oneof index) a prefix of the
new ones and, recursively at every depth, each nested message found again in the same way, each
nested enum with its old values a prefix. On the path every field list is in fact unchanged
(`editProps_deep`); the container at the end of the path gets the new field last. -/
theorem C13_append_field_nested_pkg (b b' : Bundle) (pkg : Str) (fi i : Nat) (rest : List PStep)
    (prop : Property)
    (he : (Edit.appendField fi (.el i :: rest) prop).apply pkg b = some b')
    (fs fs' : List FileSkel) (h : compilePkg b pkg = .ok fs) (h' : compilePkg b' pkg = .ok fs')
    (hkind : ∀ p path imports elems decl, b.find pkg = some p →
      p.files[fi]? = some (.j5s path imports elems decl) → ∃ io o, elems[i]? = some (declElem io o))
    (hfresh : ∀ p path imports E1 E2 io o decl, b.find pkg = some p →
      p.files[fi]? = some (.j5s path imports (E1 ++ [declElem io o] ++ E2) decl) → E1.length = i →
      ∀ x ∈ deepFieldExportNames rest o prop, x ∉ pkgExportNames p) :
    ∀ f ∈ fs, ∃ f' ∈ fs', f.LeDeep f' := by
  refine edit_item_compile_rel MsgSkel.LeDeep.refl _ b b' pkg he fs fs' h h' ?_
  intro p path imports elems elems' decl hf hget hed
  obtain ⟨io, o, hk⟩ := hkind p path imports elems decl hf hget
  obtain ⟨E1, E2, o', rfl, rfl, h3, hdecl⟩ := editElems_decl (.field prop) i rest elems elems' io o hk hed
  obtain ⟨M, M', hb, hch⟩ := editDecl_expCh (.field prop) rest o o' hdecl [] io
  exact ⟨E1, E2, _, _, _, _, M, M', rfl, rfl, itemsOfElem_decl _ io o, itemsOfElem_decl _ io o',
    declItem_up io o o' hb.block hch (fun c _ => (editDecl_deep c prop rest o o' hdecl [] io []).1),
    fun k hk' => hb.old_field k fun hx => hfresh p path imports E1 E2 io o decl hf hget h3 k hx hk'⟩

/-- **Append an option — the edit itself, package level.** Let `b'` be the bundle after
`appendOption` at a top-level enum (path `[el i]`; the edit requires the `i`-th element of the file
to be an enum), both versions compiling up to the link step. No further hypothesis: the enum may be
referred to by any number of fields of the package, with `in` / `notIn` rules and default filters
naming its values. The export entry of the enum itself changes (an `EnumRef` carries the value
names, which those rules are checked against); every lookup in the new export table gives the old
result or the same enum with more value names (`UpOrEq`), and a conversion that succeeded is
invariant under more value names of referenced enums (`convertFile_up`: every `mapValues` check that
passed still passes, nothing else reads the names). Then every generated file is generated again
under the same name and package with the same services and the same messages (up to `LeEdit`, here
equality of every message), and every enum is found again under its name with its old values —
names and numbers — as a prefix. -/
theorem C13_append_option_pkg (b b' : Bundle) (pkg : Str) (fi i : Nat) (o : Str)
    (he : (Edit.appendOption fi [.el i] o).apply pkg b = some b')
    (fs fs' : List FileSkel) (h : compilePkg b pkg = .ok fs) (h' : compilePkg b' pkg = .ok fs') :
    ∀ f ∈ fs, ∃ f' ∈ fs', f.LeEdit f' := by
  refine edit_item_compile_rel MsgSkel.Le1.refl _ b b' pkg he fs fs' h h' ?_
  intro p path imports elems elems' decl hf hget hed
  obtain ⟨E1, E2, e, rfl, rfl, h3⟩ := editElems_option_top o i elems elems' hed
  exact ⟨E1, E2, _, _, _, _, _, _, rfl, rfl, rfl, rfl, enumItem_up e o, fun _ _ hm => hm⟩

/-- **Append an option to a nested or inline enum at any depth — package level.** Path `el i :: rest`
where the `i`-th element is an object or a oneof (`hkind`) and `rest` is any path the edit accepts:
`nest k` steps through nested objects / oneofs ending at a nested enum, or further `prop j` steps
through inline objects / oneofs ending at a property that holds an inline enum (directly or as array /
map item). Both versions compiling — no other hypothesis: the enum may be referred to by name from
anywhere in the package, its own field may carry `in` / `notIn` rules and default filters. Every
generated file is generated again with the same services, every message found again with the SAME
fields and, recursively, its nested messages found again and every nested enum found again with its
old values — names and numbers — a prefix (`FileSkel.LeDeep`). Uses that the old conversion recorded
no error (`convertFile_ok`): every value check that passed still passes with one more name
(`editDecl_clean`), the export table changes in one entry only (`editDecl_expCh`), and
conversion is invariant under more value names of referenced enums (`convertFile_up`). -/
theorem C13_append_option_nested_pkg (b b' : Bundle) (pkg : Str) (fi i : Nat) (rest : List PStep)
    (o : Str)
    (he : (Edit.appendOption fi (.el i :: rest) o).apply pkg b = some b')
    (fs fs' : List FileSkel) (h : compilePkg b pkg = .ok fs) (h' : compilePkg b' pkg = .ok fs')
    (hkind : ∀ p path imports elems decl, b.find pkg = some p →
      p.files[fi]? = some (.j5s path imports elems decl) → ∃ io d, elems[i]? = some (declElem io d)) :
    ∀ f ∈ fs, ∃ f' ∈ fs', f.LeDeep f' := by
  refine edit_item_compile_rel MsgSkel.LeDeep.refl _ b b' pkg he fs fs' h h' ?_
  intro p path imports elems elems' decl hf hget hed
  obtain ⟨io, d, hk⟩ := hkind p path imports elems decl hf hget
  obtain ⟨E1, E2, d', rfl, rfl, h3, hdecl⟩ := editElems_decl (.option o) i rest elems elems' io d hk hed
  obtain ⟨M, M', hb, hch⟩ := editDecl_expCh (.option o) rest d d' hdecl [] io
  exact ⟨E1, E2, _, _, _, _, M, M', rfl, rfl, itemsOfElem_decl _ io d, itemsOfElem_decl _ io d',
    declItem_up io d d' hb.block hch (fun c herr => (editDecl_clean c (.option o) rest d d' hdecl [] io [] herr).1),
    fun k _ => hb.old_option k⟩

/-- **Append an option to an inline enum below a request / response — package level.** Path
`el i :: method m :: (req | res) :: rest`, `rest` a `prop j` path ending at a property holding an inline
enum. Both versions compiling, nothing else: same services, every message found again with the same
fields, the enum found again (nested in `<Method>Request…`) with its values a prefix. -/
theorem C13_append_option_method_deep_pkg (b b' : Bundle) (pkg : Str) (fi i m : Nat) (rq : Bool)
    (rest : List PStep) (o : Str)
    (he : (Edit.appendOption fi (.el i :: .method m :: reqStep rq :: rest) o).apply pkg b = some b')
    (fs fs' : List FileSkel) (h : compilePkg b pkg = .ok fs) (h' : compilePkg b' pkg = .ok fs') :
    ∀ f ∈ fs, ∃ f' ∈ fs', f.LeDeep f' := by
  refine edit_item_compile_rel MsgSkel.LeDeep.refl _ b b' pkg he fs fs' h h' ?_
  intro p path imports elems elems' decl hf hget hed
  obtain ⟨E1, E2, sv, M1, M2, mt, mt', r, r', rfl, rfl, h3, h4, h5, h6, h7⟩ :=
    editElems_method_deep (.option o) i m rq rest elems elems' hed
  obtain ⟨M, M', hb, hch⟩ := editProps_expCh (.option o) rest r r' h7 [methodObjName rq mt]
  exact ⟨E1, E2, _, _, _, _, M, M', rfl, rfl, rfl, rfl,
    serviceItem_up sv M1 M2 mt mt' rq r r' h4 h6 hb.block hch
      (fun c hit => serviceItem_msgs_clean c sv M1 M2 mt mt' rq r r' h4 h6 hit
        (editProps_clean c (.option o) rest r r' h7)),
    fun k _ => hb.old_option k⟩

/-- **…and below a topic message** (`el i :: (msg | reqm | repm) m :: rest`, all four topic types). -/
theorem C13_append_option_topic_deep_pkg (b b' : Bundle) (pkg : Str) (fi i k m : Nat)
    (rest : List PStep) (o : Str)
    (he : (Edit.appendOption fi (.el i :: topicStep k m :: rest) o).apply pkg b = some b')
    (fs fs' : List FileSkel) (h : compilePkg b pkg = .ok fs) (h' : compilePkg b' pkg = .ok fs') :
    ∀ f ∈ fs, ∃ f' ∈ fs', f.LeDeep f' := by
  refine edit_item_compile_rel MsgSkel.LeDeep.refl _ b b' pkg he fs fs' h h' ?_
  intro p path imports elems elems' decl hf hget hed
  obtain ⟨E1, E2, t, t', rfl, rfl, h3, ht⟩ :=
    editElems_topic_deep (.option o) i k m rest elems elems' hed
  obtain ⟨N1, N2, tn, tn', T1, T2, tm, ps', n1, n2, hx, hps⟩ :=
    editTopic_deep (.option o) k m rest t t' ht
  obtain ⟨M, M', hb, hch⟩ := editProps_expCh (.option o) rest tm.props ps' hps [topicObjName tn tm]
  obtain ⟨M0, M0', hold, hup⟩ := topicItem_up t t' N1 N2 tn tn' T1 T2 tm ps' n1 n2 hx hb.block hch
    (fun c hit => topicItem_msgs_clean c t t' N1 N2 tn tn' T1 T2 tm ps' n1 n2 hx hit
      (editProps_clean c (.option o) rest tm.props ps' hps))
  exact ⟨E1, E2, _, _, _, _, M0, M0', rfl, rfl, rfl, rfl, hup, fun k _ => hold k (hb.old_option k)⟩

/-- the congruence behind it, on its own: a file that converts keeps converting to the SAME files when
the resolver changes only by giving referenced enums more value names -/
theorem C13_convert_up (res res' : Resolver) (path : Str) (imports : List Import)
    (elems : List Elem) (fs : List FileSkel) (h : convertFile res path imports elems = .ok fs)
    (hag : ∀ im, j5Imports (packageFromFilename (path ++ b!".proto")) imports = .ok im →
      AgreeUp { resolve := resolveTypeNoImport im res } { resolve := resolveTypeNoImport im res' }
        (fileRefs (packageFromFilename (path ++ b!".proto")) elems)) :
    convertFile res' path imports elems = .ok fs :=
  convertFile_up res res' path imports elems fs h hag

/-- conversion depends on the resolver only at the references it contains: the bridge between the
per-container theorems and package-level edits -/
theorem C13_convert_congr (res res' : Resolver) (path : Str) (imports : List Import)
    (elems : List Elem)
    (h : ∀ im, AgreeOn { resolve := resolveTypeNoImport im res } { resolve := resolveTypeNoImport im res' }
      (fileRefs (packageFromFilename (path ++ b!".proto")) elems)) :
    convertFile res path imports elems = convertFile res' path imports elems :=
  convertFile_congr res res' path imports elems h

/-- messages, enums and services are only ever appended to a file under construction
(`addMessage` / `addEnum` / `addService`), whatever the step -/
theorem C13_addMessage_prefix (r : Root) (s : Step) : r.Le (r.apply s) := Root.le_apply r s

/-! ## Sequences of edits

`FileSkel.LeAny` (Compile/EvolveSeq.lean) is the common relation of all append edits: same file name
and package, the old services a prefix of the new ones, every message found again under its name
with its old fields a prefix and — recursively, at any depth — every nested message found again
grown at most (`MsgSkel.LeDeep`), every enum found again with its old values a prefix. -/

/-- `LeAny` is a preorder and contains both single-edit relations (`Le`: declaration appends,
`LeEdit`: field / option appends) -/
theorem C13_le_preorder :
    (∀ f : FileSkel, f.LeAny f) ∧ (∀ a b c : FileSkel, a.LeAny b → b.LeAny c → a.LeAny c) ∧
    (∀ f f' : FileSkel, f.Le f' → f.LeAny f') ∧ (∀ f f' : FileSkel, f.LeEdit f' → f.LeAny f') :=
  ⟨FileSkel.LeAny.refl, fun _ _ _ h1 h2 => h1.trans h2, fun _ _ h => h.any, fun _ _ h => h.any⟩

/-- **Any admissible single edit, package level.** `Admissible pkg b e` (Compile/EvolveAdm.lean) lists
the eleven edit shapes proved above with their decidable side conditions: for field and declaration
appends the newly exported names are new to the package (plus, for the `nested` / `optionDeep` shapes,
"element `i` is an object or oneof"); option appends have NO side condition. One statement for all of
them, in the common relation. -/
theorem C13_append_any_pkg (b b' : Bundle) (pkg : Str) (e : Edit) (hadm : Admissible pkg b e)
    (he : e.apply pkg b = some b')
    (fs fs' : List FileSkel) (h : compilePkg b pkg = .ok fs) (h' : compilePkg b' pkg = .ok fs') :
    ∀ f ∈ fs, ∃ f' ∈ fs', f.LeAny f' := by
  -- each single-edit relation (`Le`, `LeEdit`, `LeDeep`) is contained in `LeAny`
  have lift : ∀ {R : FileSkel → FileSkel → Prop}, (∀ f f', R f f' → f.LeAny f') →
      (∀ f ∈ fs, ∃ f' ∈ fs', R f f') → ∀ f ∈ fs, ∃ f' ∈ fs', f.LeAny f' :=
    fun hR h f hf => (h f hf).imp fun _ hx => ⟨hx.1, hR _ _ hx.2⟩
  cases hadm with
  | decl fi el hfr =>
    exact lift (fun _ _ h => h.any) (C13_append_decl_fresh b b' pkg fi el he fs fs' h h' hfr)
  | field fi i prop hfr =>
    exact lift (fun _ _ h => h.any) (C13_append_field_pkg b b' pkg fi i prop he fs fs' h h' hfr)
  | nested fi i rest prop hk hfr =>
    exact lift (fun _ _ h => h.any) (C13_append_field_nested_pkg b b' pkg fi i rest prop he fs fs' h h' hk hfr)
  | method fi i m rq prop hfr =>
    exact lift (fun _ _ h => h.any) (C13_append_field_method_pkg b b' pkg fi i m rq prop he fs fs' h h' hfr)
  | methodDeep fi i m rq rest prop hfr =>
    exact lift (fun _ _ h => h.any) (C13_append_field_method_deep_pkg b b' pkg fi i m rq rest prop he fs fs' h h' hfr)
  | topic fi i k m prop hfr =>
    exact lift (fun _ _ h => h.any) (C13_append_field_topic_pkg b b' pkg fi i k m prop he fs fs' h h' hfr)
  | topicDeep fi i k m rest prop hfr =>
    exact lift (fun _ _ h => h.any) (C13_append_field_topic_deep_pkg b b' pkg fi i k m rest prop he fs fs' h h' hfr)
  | optionDeep fi i rest o hk =>
    exact lift (fun _ _ h => h.any) (C13_append_option_nested_pkg b b' pkg fi i rest o he fs fs' h h' hk)
  | optionMethodDeep fi i m rq rest o =>
    exact lift (fun _ _ h => h.any) (C13_append_option_method_deep_pkg b b' pkg fi i m rq rest o he fs fs' h h')
  | optionTopicDeep fi i k m rest o =>
    exact lift (fun _ _ h => h.any) (C13_append_option_topic_deep_pkg b b' pkg fi i k m rest o he fs fs' h h')
  | option fi i o =>
    exact lift (fun _ _ h => h.any) (C13_append_option_pkg b b' pkg fi i o he fs fs' h h')

/-- **Sequences of edits, package level.** Any list of edits applied left to right (`applyEdits`),
each admissible for the version it is applied to and every intermediate version compiling
(`SeqOk`): every file generated from the first version is generated again from the last one, with
every message, field (name, JSON name, number, type, label, optionality, type name, oneof index),
enum value (name, number), service and method found again unchanged. Induction over the edit list
with transitivity of `LeAny`; no bound on the length. -/
theorem C13_append_seq_pkg (pkg : Str) (es : List Edit) (b b' : Bundle) (fs fs' : List FileSkel)
    (hok : SeqOk (Admissible pkg) pkg es b) (happ : applyEdits pkg es b = some b')
    (h : compilePkg b pkg = .ok fs) (h' : compilePkg b' pkg = .ok fs') :
    ∀ f ∈ fs, ∃ f' ∈ fs', f.LeAny f' :=
  seq_rel FilesLeAny FilesLeAny.refl (fun _ _ _ h1 h2 => h1.trans h2) (Admissible pkg) pkg
    (fun b e b' fs fs' hadm he h h' => C13_append_any_pkg b b' pkg e hadm he fs fs' h h')
    es b b' fs fs' hok happ h h'

/-! ## Non-vacuity -/

/-- the witness for Go commit 50e59b3: empty enum, `X_UNSPECIFIED` appended — value 0 keeps its name -/
example :
    (convEnum { name := b!"Foo", pfx := [], opts := [] }).values = [(b!"FOO_UNSPECIFIED", 0)] ∧
    (convEnum { name := b!"Foo", pfx := [], opts := [b!"X_UNSPECIFIED"] }).values =
      [(b!"FOO_UNSPECIFIED", 0), (b!"FOO_X_UNSPECIFIED", 1)] := by decide +kernel

/-- both hypotheses of `C13_append_decl` hold for a concrete file and appended declaration -/
example :
    (convertFile ⟨b!"foo.v1", [], []⟩ b!"foo/v1/a.j5s" []
      [.object (.mk b!"A" [.mk b!"x" false false (.string [] false)] [] none)]).isOk = true ∧
    (convertFile ⟨b!"foo.v1", [], []⟩ b!"foo/v1/a.j5s" []
      ([.object (.mk b!"A" [.mk b!"x" false false (.string [] false)] [] none)] ++
       [.enum { name := b!"E", pfx := [], opts := [b!"ONE"] }])).isOk = true := by decide +kernel

example :
    (convEnum { name := b!"Foo", pfx := [], opts := [b!"A", b!"B"] }).values =
      (convEnum { name := b!"Foo", pfx := [], opts := [b!"A"] }).values ++ [(b!"FOO_B", 2)] := by
  decide +kernel

/-! a concrete instance of `C13_append_decl_pkg`: two files (the second refers to a type of the
first), an enum appended to the first file; both compiles succeed and the resolvers agree on the
existing references -/
def fileA (extra : List Elem) : SrcFile :=
  .j5s b!"foo/v1/a.j5s" [] ([.object (.mk b!"A" [.mk b!"x" false false (.string [] false)] [] none)] ++ extra)
    b!"foo.v1"
def fileB : SrcFile :=
  .j5s b!"foo/v1/b.j5s" [] [.object (.mk b!"B" [.mk b!"a" false false (.objectRef [] b!"A" false [])] [] none)]
    b!"foo.v1"
def bun (extra : List Elem) : Bundle := { pkgs := [ { name := b!"foo.v1", files := [fileA extra, fileB] } ] }
def newDecl : Elem := .enum { name := b!"E", pfx := [], opts := [b!"ONE"] }
def lOld : Loaded := match loadPkg (bun []) 2 [] b!"foo.v1" with | .ok l => l | _ => default
def lNew : Loaded := match loadPkg (bun [newDecl]) 2 [] b!"foo.v1" with | .ok l => l | _ => default

example : (loadPkg (bun []) 2 [] b!"foo.v1").isOk = true ∧
    (loadPkg (bun [newDecl]) 2 [] b!"foo.v1").isOk = true := by decide +kernel

/-- the hypotheses of `C13_append_decl_fresh` on the same instance: the edit applies, both
versions compile, and the new name `E` is not exported by the package -/
example : ((Edit.appendDecl 0 newDecl).apply b!"foo.v1" (bun [])).isSome = true ∧
    (compilePkg (bun []) b!"foo.v1").isOk = true ∧ (compilePkg (bun [newDecl]) b!"foo.v1").isOk = true ∧
    newExportNames b!"foo/v1/a.j5s" newDecl = [b!"E"] ∧
    ([fileA [], fileB].map sumOf).flatMap (fun s => s.exports.map (·.1)) = [b!"A", b!"B"] := by
  decide +kernel

example : ∀ f ∈ [fileA [], fileB], AgreeFile lOld.resolver lNew.resolver f := by
  intro f hf
  have hrefs : srcFileRefs (fileA []) = [] ∧ srcFileRefs fileB = [([], b!"A")] := by decide +kernel
  simp only [List.mem_cons, List.mem_nil_iff, or_false] at hf
  rcases hf with rfl | rfl
  · intro im _ r hr
    have : r ∈ srcFileRefs (fileA []) := hr
    rw [hrefs.1] at this; simp at this
  · intro im _ r hr
    have hr : r ∈ srcFileRefs fileB := hr
    rw [hrefs.2] at hr
    simp only [List.mem_singleton] at hr
    subst hr
    have h1 : lOld.resolver.pkgName = lNew.resolver.pkgName := by decide +kernel
    have h2 : mapGet lOld.resolver.exports b!"A" = mapGet lNew.resolver.exports b!"A" := by decide +kernel
    have h3 : lOld.resolver.deps = [] ∧ lNew.resolver.deps = [] := by decide +kernel
    simp only [resolveTypeNoImport, ImportMap.expand, Bool.true_or, decide_true, if_true,
      Resolver.resolveType, h1, h2, h3.1, h3.2]

/-- the hypotheses of `C13_append_field_pkg` on the same instance: a field with an inline object is
appended to object `A` (element 0 of file 0); the edit applies, both versions compile, the one new
export `A.Zz` is not exported by the package before -/
def newProp : Property :=
  .mk b!"zz" false false (.objectInl [] [.mk b!"y" false false (.string [] false)] false [])
def bunF : Bundle :=
  match (Edit.appendField 0 [.el 0] newProp).apply b!"foo.v1" (bun []) with | some b => b | none => { pkgs := [] }

example : ((Edit.appendField 0 [.el 0] newProp).apply b!"foo.v1" (bun [])).isSome = true ∧
    (compilePkg (bun []) b!"foo.v1").isOk = true ∧ (compilePkg bunF b!"foo.v1").isOk = true ∧
    newFieldExportNames b!"A" newProp = [b!"A.Zz"] ∧
    ([fileA [], fileB].map sumOf).flatMap (fun s => s.exports.map (·.1)) = [b!"A", b!"B"] := by
  decide +kernel

/-- …and of `C13_append_option_pkg`: an enum `E` next to the object (here referenced by no field); the
option `TWO` is appended -/
def fileE : SrcFile :=
  .j5s b!"foo/v1/a.j5s" [] [.enum { name := b!"E", pfx := [], opts := [b!"ONE"] },
    .object (.mk b!"A" [.mk b!"x" false false (.string [] false)] [] none)] b!"foo.v1"
def bunE : Bundle := { pkgs := [ { name := b!"foo.v1", files := [fileE, fileB] } ] }
def bunE' : Bundle :=
  match (Edit.appendOption 0 [.el 0] b!"TWO").apply b!"foo.v1" bunE with | some b => b | none => { pkgs := [] }

example : ((Edit.appendOption 0 [.el 0] b!"TWO").apply b!"foo.v1" bunE).isSome = true ∧
    (compilePkg bunE b!"foo.v1").isOk = true ∧ (compilePkg bunE' b!"foo.v1").isOk = true ∧
    [fileE, fileB].flatMap srcFileRefs = [([], b!"A")] := by
  decide +kernel

/-- a publish topic whose message holds an inline object; the property is appended inside it (path
`msg 0, prop 1`), and inside the inline object of a reply (path `repm 0, prop 0`): the hypotheses of
`C13_append_field_topic_deep_pkg` -/
def fileTD : SrcFile :=
  .j5s b!"foo/v1/t.j5s" []
    [.topic { name := b!"Foo", type := .publish [{ name := some b!"Created", props :=
        [.mk b!"id" false false (.string [] false),
         .mk b!"detail" false false (.objectInl [] [.mk b!"a" false false (.string [] false)] false [])] }] },
     .topic { name := b!"Bar", type := (.reqres [{ name := some b!"Do", props := [] }]
        [{ name := some b!"Done", props := [.mk b!"out" false false
          (.objectInl [] [.mk b!"b" false false (.bool [] false)] false [])] }]) }]
    b!"foo.v1"
def bunTD : Bundle := { pkgs := [ { name := b!"foo.v1", files := [fileTD] } ] }
def bunTD' (i k : Nat) (rest : List PStep) : Bundle :=
  match (Edit.appendField 0 (.el i :: topicStep k 0 :: rest) newProp).apply b!"foo.v1" bunTD with
  | some b => b | none => { pkgs := [] }

example : (compilePkg bunTD b!"foo.v1").isOk = true ∧
    (compilePkg (bunTD' 0 0 [.prop 1]) b!"foo.v1").isOk = true ∧
    (compilePkg (bunTD' 1 2 [.prop 0]) b!"foo.v1").isOk = true ∧
    (bunTD' 0 0 [.prop 1]).pkgs.length = 1 ∧ (bunTD' 1 2 [.prop 0]).pkgs.length = 1 ∧
    pkgExportNames { name := b!"foo.v1", files := [fileTD] } =
      [b!"CreatedMessage", b!"CreatedMessage.Detail", b!"DoMessage", b!"DoneMessage", b!"DoneMessage.Out"] := by
  decide +kernel
/-- …and for an enum that IS referred to, by a field with an `in` rule naming one of its values: the
option is appended, both versions compile -/
def fileER : SrcFile :=
  .j5s b!"foo/v1/a.j5s" [] [.enum { name := b!"E", pfx := [], opts := [b!"ONE"] },
    .object (.mk b!"A" [.mk b!"kind" false false (.enumRef [] b!"E" [⟨b!"in", .strs [b!"ONE"]⟩] none)] [] none)] b!"foo.v1"
def bunER : Bundle := { pkgs := [ { name := b!"foo.v1", files := [fileER, fileB] } ] }
def bunER' : Bundle :=
  match (Edit.appendOption 0 [.el 0] b!"TWO").apply b!"foo.v1" bunER with | some b => b | none => { pkgs := [] }

example : ((Edit.appendOption 0 [.el 0] b!"TWO").apply b!"foo.v1" bunER).isSome = true ∧
    (compilePkg bunER b!"foo.v1").isOk = true ∧ (compilePkg bunER' b!"foo.v1").isOk = true ∧
    [fileER, fileB].flatMap srcFileRefs = [([], b!"E"), ([], b!"A")] := by
  decide +kernel
/-- object `G` with an inline enum field `kind` (with an `in` rule naming one of its values), an array of
inline enums, and an inline object holding an inline enum; another object refers to `G.Kind` by name.
An option is appended to each of the three inline enums (paths `prop 0`, `prop 1`, `prop 2, prop 0`):
the hypotheses of `C13_append_option_nested_pkg` -/
def fileG : SrcFile :=
  .j5s b!"foo/v1/g.j5s" []
    [.object (.mk b!"G"
      [.mk b!"kind" false false (.enumInl { name := [], pfx := [], opts := [b!"ONE"] } [⟨b!"in", .strs [b!"ONE"]⟩] none),
       .mk b!"tags" false false (.array (.enumInl { name := b!"Tag", pfx := [], opts := [b!"A"] } [] none) []),
       .mk b!"sub" false false (.objectInl [] [.mk b!"mode" false false
          (.enumInl { name := [], pfx := [], opts := [b!"X"] } [] none)] false [])] [] none),
     .object (.mk b!"H" [.mk b!"k" false false (.enumRef [] b!"G.Kind" [⟨b!"in", .strs [b!"ONE"]⟩] none)] [] none)]
    b!"foo.v1"
def bunG : Bundle := { pkgs := [ { name := b!"foo.v1", files := [fileG] } ] }
def bunG' (rest : List PStep) : Bundle :=
  match (Edit.appendOption 0 (.el 0 :: rest) b!"TWO").apply b!"foo.v1" bunG with
  | some b => b | none => { pkgs := [] }

example : (compilePkg bunG b!"foo.v1").isOk = true ∧
    (compilePkg (bunG' [.prop 0]) b!"foo.v1").isOk = true ∧
    (compilePkg (bunG' [.prop 1]) b!"foo.v1").isOk = true ∧
    (compilePkg (bunG' [.prop 2, .prop 0]) b!"foo.v1").isOk = true ∧
    (bunG' [.prop 0]).pkgs.length = 1 ∧ (bunG' [.prop 1]).pkgs.length = 1 ∧
    (bunG' [.prop 2, .prop 0]).pkgs.length = 1 := by
  decide +kernel
/-- a request with an inline enum (with an `in` rule) and a topic message with an inline enum inside an
inline object: an option is appended to each (`C13_append_option_method_deep_pkg`,
`C13_append_option_topic_deep_pkg`) -/
def fileSO : SrcFile :=
  .j5s b!"foo/v1/s.j5s" []
    [.service { name := some b!"Foo", basePath := some b!"/foo", methods :=
      [{ name := b!"DoFoo", verb := .post, path := b!"/x",
         request := some [.mk b!"mode" false false
           (.enumInl { name := [], pfx := [], opts := [b!"FAST"] } [⟨b!"in", .strs [b!"FAST"]⟩] none)],
         response := some [] }] },
     .topic { name := b!"Foo", type := .publish [{ name := some b!"Created", props :=
        [.mk b!"detail" false false (.objectInl [] [.mk b!"level" false false
          (.enumInl { name := [], pfx := [], opts := [b!"LOW"] } [] none)] false [])] }] }]
    b!"foo.v1"
def bunSO : Bundle := { pkgs := [ { name := b!"foo.v1", files := [fileSO] } ] }
def bunSO' (path : List PStep) : Bundle :=
  match (Edit.appendOption 0 path b!"NEXT").apply b!"foo.v1" bunSO with
  | some b => b | none => { pkgs := [] }

example : (compilePkg bunSO b!"foo.v1").isOk = true ∧
    (compilePkg (bunSO' [.el 0, .method 0, .req, .prop 0]) b!"foo.v1").isOk = true ∧
    (compilePkg (bunSO' [.el 1, .msg 0, .prop 0, .prop 0]) b!"foo.v1").isOk = true ∧
    (bunSO' [.el 0, .method 0, .req, .prop 0]).pkgs.length = 1 ∧
    (bunSO' [.el 1, .msg 0, .prop 0, .prop 0]).pkgs.length = 1 := by
  decide +kernel
/-- …and of `C13_append_field_method_pkg`: a service with one method; a field with an inline object is
appended to the request (`rq = true`) and a scalar to the response -/
def fileS : SrcFile :=
  .j5s b!"foo/v1/s.j5s" [] [.service { name := some b!"Foo", basePath := some b!"/foo", methods :=
    [{ name := b!"GetFoo", verb := .get, path := b!"/x",
       request := some [.mk b!"id" false false (.string [] false)],
       response := some [.mk b!"name" false false (.string [] false)] }] }] b!"foo.v1"
def bunS : Bundle := { pkgs := [ { name := b!"foo.v1", files := [fileS] } ] }
def bunS' (rq : Bool) (pr : Property) : Bundle :=
  match (Edit.appendField 0 [.el 0, .method 0, reqStep rq] pr).apply b!"foo.v1" bunS with
  | some b => b | none => { pkgs := [] }

example : ((Edit.appendField 0 [.el 0, .method 0, reqStep true] newProp).apply b!"foo.v1" bunS).isSome = true ∧
    (compilePkg bunS b!"foo.v1").isOk = true ∧ (compilePkg (bunS' true newProp) b!"foo.v1").isOk = true ∧
    (compilePkg (bunS' false (.mk b!"zz" false false (.bool [] false))) b!"foo.v1").isOk = true ∧
    newFieldExportNames b!"GetFooRequest" newProp = [b!"GetFooRequest.Zz"] ∧
    ([fileS].map sumOf).flatMap (fun s => s.exports.map (·.1)) = [b!"GetFooRequest", b!"GetFooResponse"] := by
  decide +kernel

/-- a service whose request holds an inline object with an inline object: the property is appended to
`DoFooRequest.Filter.Range` (path `req, prop 1, prop 0`): the hypotheses of
`C13_append_field_method_deep_pkg` -/
def fileSD : SrcFile :=
  .j5s b!"foo/v1/s.j5s" [] [.service { name := some b!"Foo", basePath := some b!"/foo", methods :=
    [{ name := b!"DoFoo", verb := .post, path := b!"/x",
       request := some [.mk b!"id" false false (.string [] false),
         .mk b!"filter" false false (.objectInl [] [.mk b!"range" false false
           (.objectInl [] [.mk b!"lo" false false (.string [] false)] false [])] false [])],
       response := some [.mk b!"name" false false (.string [] false)] }] }] b!"foo.v1"
def bunSD : Bundle := { pkgs := [ { name := b!"foo.v1", files := [fileSD] } ] }
def bunSD' : Bundle :=
  match (Edit.appendField 0 [.el 0, .method 0, .req, .prop 1, .prop 0] newProp).apply b!"foo.v1" bunSD with
  | some b => b | none => { pkgs := [] }

example : (compilePkg bunSD b!"foo.v1").isOk = true ∧ (compilePkg bunSD' b!"foo.v1").isOk = true ∧
    bunSD'.pkgs.length = 1 ∧
    pkgExportNames { name := b!"foo.v1", files := [fileSD] } =
      [b!"DoFooRequest", b!"DoFooRequest.Filter", b!"DoFooRequest.Filter.Range", b!"DoFooResponse"] := by
  decide +kernel
/-- …and of `C13_append_field_topic_pkg`: a publish topic with a named message, and a request / reply
topic; a field with an inline object is appended to the message / to the reply -/
def fileT : SrcFile :=
  .j5s b!"foo/v1/t.j5s" []
    [.topic { name := b!"Foo", type := .publish [{ name := some b!"Created", props := [.mk b!"id" false false (.string [] false)] }] },
     .topic { name := b!"Bar", type := .reqres [{ name := some b!"Do", props := [] }] [{ name := some b!"Done", props := [] }] }]
    b!"foo.v1"
def bunT : Bundle := { pkgs := [ { name := b!"foo.v1", files := [fileT] } ] }
def bunT' (i k : Nat) : Bundle :=
  match (Edit.appendField 0 [.el i, topicStep k 0] newProp).apply b!"foo.v1" bunT with
  | some b => b | none => { pkgs := [] }

example : (compilePkg bunT b!"foo.v1").isOk = true ∧ (compilePkg (bunT' 0 0) b!"foo.v1").isOk = true ∧
    (compilePkg (bunT' 1 2) b!"foo.v1").isOk = true ∧ (bunT' 0 0).pkgs.length = 1 ∧ (bunT' 1 2).pkgs.length = 1 ∧
    ([fileT].map sumOf).flatMap (fun s => s.exports.map (·.1)) =
      [b!"CreatedMessage", b!"DoMessage", b!"DoneMessage"] := by
  decide +kernel

/-- …and of `C13_append_field_nested_pkg`: object `D` with a nested object `N` (which has a nested
oneof `W`) and a field `inner` holding an array of inline objects with an inline object `deep`; the
property with the inline object `Zz` is appended to `D.N.W` (path `nest 0, nest 0`) and to
`D.Inner.Deep` (path `prop 1, prop 0`); both edits apply, both versions compile, the new names are
`D.N.W.Zz` / `D.Inner.Deep.Zz` and are not exported before -/
def fileD : SrcFile :=
  .j5s b!"foo/v1/d.j5s" []
    [.object (.mk b!"D"
      [.mk b!"x" false false (.string [] false),
       .mk b!"inner" false false (.array (.objectInl [] [.mk b!"deep" false false
          (.objectInl [] [.mk b!"y" false false (.string [] false)] false [])] false []) [])]
      [.object (.mk b!"N" [.mk b!"a" false false (.bool [] false)]
        [.oneof (.mk b!"W" [.mk b!"o1" false false (.string [] false)] [] none)] none)] none)]
    b!"foo.v1"
def bunD : Bundle := { pkgs := [ { name := b!"foo.v1", files := [fileD] } ] }
def bunD' (rest : List PStep) : Bundle :=
  match (Edit.appendField 0 (.el 0 :: rest) newProp).apply b!"foo.v1" bunD with
  | some b => b | none => { pkgs := [] }
def objD : ObjDecl := match fileD with
  | .j5s _ _ [.object o] _ => o | _ => .mk [] [] [] none

example : (compilePkg bunD b!"foo.v1").isOk = true ∧
    (compilePkg (bunD' [.nest 0, .nest 0]) b!"foo.v1").isOk = true ∧
    (compilePkg (bunD' [.prop 1, .prop 0]) b!"foo.v1").isOk = true ∧
    (bunD' [.nest 0, .nest 0]).pkgs.length = 1 ∧ (bunD' [.prop 1, .prop 0]).pkgs.length = 1 ∧
    deepFieldExportNames [.nest 0, .nest 0] objD newProp = [b!"D.N.W.Zz"] ∧
    deepFieldExportNames [.prop 1, .prop 0] objD newProp = [b!"D.Inner.Deep.Zz"] ∧
    pkgExportNames { name := b!"foo.v1", files := [fileD] } =
      [b!"D", b!"D.Inner", b!"D.Inner.Deep", b!"D.N", b!"D.N.W"] := by
  decide +kernel

/-- the hypotheses of `C13_append_seq_pkg` on a concrete sequence of three edits of three kinds
(declaration, field with an inline object, option of the enum just declared): all apply, all four
versions compile; the side condition of the first edit is proved as an `Admissible` instance -/
def seqEdits : List Edit := [.appendDecl 0 newDecl, .appendField 0 [.el 0] newProp, .appendOption 0 [.el 1] b!"TWO"]
def bunSeq (k : Nat) : Bundle :=
  match applyEdits b!"foo.v1" (seqEdits.take k) (bun []) with | some b => b | none => { pkgs := [] }

example : (applyEdits b!"foo.v1" seqEdits (bun [])).isSome = true ∧
    (compilePkg (bunSeq 0) b!"foo.v1").isOk = true ∧ (compilePkg (bunSeq 1) b!"foo.v1").isOk = true ∧
    (compilePkg (bunSeq 2) b!"foo.v1").isOk = true ∧ (compilePkg (bunSeq 3) b!"foo.v1").isOk = true ∧
    (bunSeq 3).pkgs.length = 1 := by decide +kernel

/-- the first edit of `seqEdits` is admissible for the first version -/
theorem adm_seq1 : Admissible b!"foo.v1" (bun []) (.appendDecl 0 newDecl) := by
  refine Admissible.decl_of (p := { name := b!"foo.v1", files := [fileA [], fileB] }) rfl rfl ?_
  decide

/-- the second edit is admissible for the second version (the one new name `A.Zz` is fresh) -/
theorem adm_seq2 : Admissible b!"foo.v1" (bun [newDecl]) (.appendField 0 [.el 0] newProp) := by
  refine Admissible.field_of (p := { name := b!"foo.v1", files := [fileA [newDecl], fileB] })
    (io := false) (n := b!"A") rfl rfl rfl ?_
  decide

/-- the bundle after the first two edits of `seqEdits` -/
def bunSeq2 : Bundle :=
  { pkgs := [ { name := b!"foo.v1", files :=
      [.j5s b!"foo/v1/a.j5s" []
        [.object (.mk b!"A" [.mk b!"x" false false (.string [] false), newProp] [] none), newDecl] b!"foo.v1",
       fileB] } ] }

/-- **`SeqOk` for the whole sequence** — the full hypothesis of `C13_append_seq_pkg` on three edits of
three kinds (declaration, field with an inline object, option of the enum just declared): every edit
is `Admissible` for the version it is applied to and every intermediate version compiles -/
theorem C13_seq_example : SeqOk (Admissible b!"foo.v1") b!"foo.v1" seqEdits (bun []) := by
  have a1 : (Edit.appendDecl 0 newDecl).apply b!"foo.v1" (bun []) = some (bun [newDecl]) := rfl
  have a2 : (Edit.appendField 0 [.el 0] newProp).apply b!"foo.v1" (bun [newDecl]) = some bunSeq2 := rfl
  refine ⟨adm_seq1, ?_⟩
  intro b1 h1
  rw [a1] at h1
  obtain rfl := Option.some.inj h1
  refine ⟨fun _ => by decide, adm_seq2, ?_⟩
  intro b2 h2
  rw [a2] at h2
  obtain rfl := Option.some.inj h2
  refine ⟨fun _ => by decide, Admissible.option 0 1 b!"TWO", ?_⟩
  intro b3 _
  exact ⟨fun h => absurd rfl h, trivial⟩

/-! ## Source-fact obligations (regenerated by `extract/evolve.go` from the current source)

The three mechanisms the property's anchors name, as go/ast facts: every mention of the counter /
name / slice in question, in source order, with its enclosing control structure. A change of any of
these functions changes a fact and breaks the equation; a function that is no longer found is
emitted as `("unknown", "unknown")`. -/
section Src
open J5V.Generated.Evolve

/-- mechanism 1 (schema.go `mapProperties`): the counter starts at 0, is written exactly once per iteration of each of the two loops (`++`, before the use) and its only use is the property's `number`: numbers are a function of the position — the model's `numberFrom` / `mapProperties` -/
theorem C13_src_mapPropertiesCounter :
    mapPropertiesCounter = [
      ("top", "fieldNumber := int32(0)"),
      ("for _, prop := range virtualPrepend", "fieldNumber++"),
      ("for _, prop := range virtualPrepend", "number: fieldNumber"),
      ("for idx, prop := range properties", "fieldNumber++"),
      ("for idx, prop := range properties", "number: fieldNumber")] := rfl

/-- …the result is built by `append` at the end only, once per iteration, virtual prepends first — the model's `numberFrom 0 virt ++ numberFrom virt.length props` -/
theorem C13_src_mapPropertiesOut :
    mapPropertiesOut = [
      ("top", "out := make([]*propertyNode, 0, len(properties))"),
      ("for _, prop := range virtualPrepend", "out = append(out, property)"),
      ("for _, prop := range virtualPrepend", "append#0"),
      ("if len(properties) == 0", "return out"),
      ("for idx, prop := range properties", "out = append(out, property)"),
      ("for idx, prop := range properties", "append#0"),
      ("top", "return out")] := rfl

/-- …both loops range over slices (declaration order), not maps -/
theorem C13_src_mapPropertiesParams :
    mapPropertiesParams = [
      ("source", "SourceNode"),
      ("sourcePath", "[]string"),
      ("parent", "parentNode"),
      ("properties", "[]*schema_j5pb.ObjectProperty"),
      ("virtualPrepend", "[]*schema_j5pb.ObjectProperty")] := rfl

/-- mechanism 1 for enums (conversion.go `visitEnumNode`): the only numbered calls are `addValue(0, first)` for an explicit zero and `addValue(idx+1, value)` with the range index — the model's `enumValues` -/
theorem C13_src_enumAddValue :
    enumAddValue = [
      ("if len(optionsToSet) > 0 && isExplicitUnspecified(prefix, optionsToSet[0])", "eb.addValue(0, optionsToSet[0])"),
      ("for idx, value := range optionsToSet", "eb.addValue(int32(idx+1), value)")] := rfl

/-- …the ranged list is the declared option list, shortened only by dropping the explicit zero at its head -/
theorem C13_src_enumOptionsToSet :
    enumOptionsToSet = [
      ("top", "optionsToSet := node.Schema.Options"),
      ("top", "len#0"),
      ("top", "cond len(optionsToSet) > 0 && isExplicitUnspecified(prefix, optionsToSet[0])"),
      ("if len(optionsToSet) > 0 && isExplicitUnspecified(prefix, optionsToSet[0])", "eb.addValue(0, optionsToSet[0])"),
      ("if len(optionsToSet) > 0 && isExplicitUnspecified(prefix, optionsToSet[0])", "optionsToSet = optionsToSet[1:]"),
      ("for idx, value := range optionsToSet", "ranged optionsToSet")] := rfl

/-- …`addValue` stores the number it is given (no renumbering); 0 overwrites slot 0, anything else is appended -/
theorem C13_src_addValueNumber :
    addValueNumber = [
      ("top", "gl.Ptr#0"),
      ("top", "cond number == 0"),
      ("if schema.Description != \"\"", "e.comment([]int32{2, number}, schema.Description)")] := rfl

/-- …`addValue` appends at the end (or overwrites the implicit zero), never inserts -/
theorem C13_src_addValueMutations :
    addValueMutations = [
      ("if !strings.HasPrefix(name, e.prefix)", "name = e.prefix + name"),
      ("if len(schema.Info) > 0", "value.Options = &descriptorpb.EnumValueOptions{}"),
      ("if number == 0", "e.desc.Value[0] = value"),
      ("else of number == 0", "e.desc.Value = append(e.desc.Value, value)")] := rfl

/-- mechanism 2 (property.go): the default nesting name is `strcase.ToCamel(<property name>)` and is only handed to `buildFieldNode` — the model's `defName := toCamel name` in `bProperty` -/
theorem C13_src_acceptDefaultName :
    acceptDefaultName = [
      ("top", "defaultNestingName := strcase.ToCamel(pn.schema.Name)"),
      ("top", "buildFieldNode#2")] := rfl

/-- …`buildFieldNode` passes it on unchanged (through array / map items) to the three `replaceNested*` functions — the model's `bField c np defName` -/
theorem C13_src_buildFieldNodeDefaultName :
    buildFieldNodeDefaultName = [
      ("case *schema_j5pb.Field_Array", "buildFieldNode#2"),
      ("case *schema_j5pb.Field_Map", "buildFieldNode#2"),
      ("case *schema_j5pb.Field_Object", "replaceNestedObject#2"),
      ("case *schema_j5pb.Field_Oneof", "replaceNestedOneof#2"),
      ("case *schema_j5pb.Field_Enum", "replaceNestedEnum#2")] := rfl

/-- …and the parent node likewise: the nest path of an inline type is the owner's, whatever the depth of array / map wrappers -/
theorem C13_src_buildFieldNodeParent :
    buildFieldNodeParent = [
      ("case *schema_j5pb.Field_Array", "buildFieldNode#1"),
      ("case *schema_j5pb.Field_Map", "buildFieldNode#1"),
      ("case *schema_j5pb.Field_Object", "replaceNestedObject#1"),
      ("case *schema_j5pb.Field_Oneof", "replaceNestedOneof#1"),
      ("case *schema_j5pb.Field_Enum", "replaceNestedEnum#1")] := rfl

/-- …`replaceNested*` use the default only to fill an empty name — `nm := if name = [] then defName else name` -/
theorem C13_src_replaceNestedDefaultName :
    replaceNestedDefaultName = [
      ("replaceNestedObject", "case *schema_j5pb.ObjectField_Object / if st.Object.Name == \"\"", "st.Object.Name = defaultName"),
      ("replaceNestedOneof", "case *schema_j5pb.OneofField_Oneof / if st.Oneof.Name == \"\"", "st.Oneof.Name = defaultName"),
      ("replaceNestedEnum", "case *schema_j5pb.EnumField_Enum / if st.Enum.Name == \"\"", "st.Enum.Name = defaultName")] := rfl

/-- …and build the inline node from (parent, schema) only: no index, counter or sibling enters the name -/
theorem C13_src_replaceNestedParent :
    replaceNestedParent = [
      ("replaceNestedObject", "case *schema_j5pb.ObjectField_Object", "newObjectSchemaNode#1"),
      ("replaceNestedOneof", "case *schema_j5pb.OneofField_Oneof", "newOneofSchemaNode#1"),
      ("replaceNestedEnum", "case *schema_j5pb.EnumField_Enum", "newEnumNode#1")] := rfl

/-- …`NestPath` = parent's nest path ++ [name], `NameInPackage` = the same joined by dots — the model's `np ++ [nm]` / `relName np nm` -/
theorem C13_src_rootReturns :
    rootReturns = [
      ("newRoot", "top", "return rootType{ Source: source, name: name, nestPath: nestPath, }"),
      ("rootType.NestPath", "if len(on.nestPath) == 0", "return []string{on.name}"),
      ("rootType.NestPath", "top", "return append(slices.Clone(on.nestPath), on.name)"),
      ("rootType.NameInPackage", "if on.nestPath == nil", "return on.name"),
      ("rootType.NameInPackage", "top", "return fmt.Sprintf(\"%s.%s\", strings.Join(on.nestPath, \".\"), on.name)")] := rfl

/-- …`nestPath` is set from `parent.NestPath()` only -/
theorem C13_src_rootNestPath :
    rootNestPath = [
      ("newRoot", "top", "other var nestPath []string"),
      ("newRoot", "if parent != nil", "nestPath = parent.NestPath()"),
      ("newRoot", "top", "nestPath: nestPath"),
      ("rootType.NestPath", "top", "cond len(on.nestPath) == 0"),
      ("rootType.NestPath", "top", "return append(slices.Clone(on.nestPath), on.name)"),
      ("rootType.NameInPackage", "top", "cond on.nestPath == nil"),
      ("rootType.NameInPackage", "top", "return fmt.Sprintf(\"%s.%s\", strings.Join(on.nestPath, \".\"), on.name)")] := rfl

/-- mechanism 3 (builders.go): each of `addMessage` / `addEnum` / `addService` (file and message level) has exactly one mutation, an `append` at the end of the target slice — the model's `Root.apply` / `FileB.apply` / `Eff.add` (lists only ever grow at the end: `C13_addMessage_prefix`) -/
theorem C13_src_builderMutations :
    builderMutations = [
      ("fileContext.addMessage", "top", "fb.fdp.MessageType = append(fb.fdp.MessageType, message.descriptor)"),
      ("fileContext.addEnum", "top", "fb.fdp.EnumType = append(fb.fdp.EnumType, enum.desc)"),
      ("fileContext.addService", "top", "fb.fdp.Service = append(fb.fdp.Service, service.desc)"),
      ("MessageBuilder.addMessage", "top", "msg.descriptor.NestedType = append(msg.descriptor.NestedType, message.descriptor)"),
      ("MessageBuilder.addEnum", "top", "msg.descriptor.EnumType = append(msg.descriptor.EnumType, enum.desc)")] := rfl

end Src

end J5V.Props.C13
