import J5V.Bcl.ErrPrintProofs
import J5V.Bcl.FirstErrorProofs
import J5V.Bcl.PosLines
import J5V.Generated.BcltokensFacts
/-!
# C11 — BCL parser is total and every diagnostic points inside the file

Only property theorems (+ non-vacuity examples, + obligations over facts regenerated from the source).
Models: `J5V.Bcl.Lexer`, `J5V.Bcl.Parser`, `J5V.Bcl.ErrPrint`; predicates: `J5V.Bcl.ParseSpec`; lemmas:
`J5V.Bcl.*Proofs`, `PosLines`.
Every statement holds for **every** classifier `cls` and **every** rune string `src` (Go strings reach
the lexer through `[]rune(data)`, modelled by `decodeRunes`, so this covers every byte string); there
is no bound on length, nesting or token count.

`InFileLC src p` is "`p.line < lineCount` and `p.col ≤` rune length of that line" over
`strings.Split(src, "\n")` (the EOL / EOF column is allowed); `p ≤ q` is the lexicographic order.
The node predicates `Statement.okList Q`, `Fragment.ok Q`, `Diag.ok Q` (`J5V.Bcl.ParseSpec`) say that the node and
every node below it (block headers, references, identifiers, tags, values incl. nested arrays,
descriptions, attached comments, and the tokens stored in them) has `start ≤ end` with both ends in `Q`.
-/
namespace J5V.Props.C11
open J5V.Go J5V.Bcl

/-! ## Lexer: progress, termination, positions -/

/-- each `NextToken` consumes at least one rune of a non-empty input (at end of input it returns EOF) -/
theorem C11_lex_progress (cls : Cls) (c : Cur) (r : Rune) (rs : List Rune) :
    (nextToken cls c (r :: rs)).rest.length < (r :: rs).length :=
  nextToken_progress cls c r rs

theorem C11_lex_eof (cls : Cls) (c : Cur) :
    (nextToken cls c []).err = none ∧ (nextToken cls c []).tok.ty = .eof :=
  nextToken_nil cls c

/-- `AllTokens` terminates: the model's fuel (`len + 2`) is never exhausted. -/
theorem C11_lex_total (cls : Cls) (ff : Bool) (src : List Rune) : allTokens cls ff src ≠ .nofuel :=
  allTokens_ne_nofuel cls ff src

/-- tokens of an error-free lex: `start ≤ end`, both inside the file, in source order, none is EOF -/
theorem C11_token_positions (cls : Cls) (ff : Bool) (src : List Rune) (ts : List Token)
    (h : allTokens cls ff src = .toks ts) :
    ts.Pairwise (fun t u => t.end_ ≤ u.start) ∧
    ∀ t ∈ ts, t.start ≤ t.end_ ∧ InFileLC src t.start ∧ InFileLC src t.end_ ∧ t.ty ≠ .eof :=
  have := tokensOK_of_chain (InFileLC src) (fun _ h => h.toLC) (allTokens_chain h)
  ⟨this.ordered, this.each⟩

/-- lexer errors (both modes): at least one, each positioned inside the file -/
theorem C11_lex_error_positions (cls : Cls) (ff : Bool) (src : List Rune) (es : List LexErr)
    (h : allTokens cls ff src = .errs es) : es ≠ [] ∧ ∀ e ∈ es, InFileLC src e.pos :=
  ⟨allTokens_errs_ne_nil h, fun e he => (allTokens_errs_inFile h e he).toLC⟩

/-! ## Parser: total, positions, first error -/

/-- For any input, in fail-fast or collect-all mode, `ParseFile` returns a tree or a **non-empty** list
of diagnostics; it never panics (`popToken` on an empty slice, `NewReference` of no idents) and always
terminates (no fuel exhaustion in the lexer loop, the fragment loop, the tag / qualifier loops or the
nested-array recursion). -/
theorem C11_parse_total (cls : Cls) (src : List Rune) (ff : Bool) :
    (∃ f, parseFile cls src ff = .tree f) ∨ (∃ es, es ≠ [] ∧ parseFile cls src ff = .errors es) :=
  (parseFile_total cls src ff).symm

theorem C11_parse_no_panic (cls : Cls) (src : List Rune) (ff : Bool) (s : String) :
    parseFile cls src ff ≠ .panic s := by
  rcases C11_parse_total cls src ff with ⟨f, h⟩ | ⟨es, _, h⟩ <;> rw [h] <;> simp

/-- Every tree node and every diagnostic has `start ≤ end` with both positions inside the input. -/
theorem C11_positions (cls : Cls) (src : List Rune) (ff : Bool) :
    (∀ f, parseFile cls src ff = .tree f → Statement.okList (InFileLC src) f.body) ∧
    (∀ es, parseFile cls src ff = .errors es → ∀ d ∈ es, Diag.ok (InFileLC src) d) :=
  ⟨fun _ h => parseFile_tree_ok (InFileLC src) (fun _ h => h.toLC) h,
    fun _ h => (parseFile_errors_ok (InFileLC src) (fun _ h => h.toLC) h).2⟩

/-- … and so has every fragment the formatter / FmtDiffs work on; fragments are in source order. -/
theorem C11_fragment_positions (cls : Cls) (src : List Rune) (frags : List Fragment)
    (h : collectFragments cls src = .ok frags) : FragChain (InFileLC src) ⟨0, 0⟩ frags :=
  collectFragments_chain (InFileLC src) (fun _ h => h.toLC) h

/-- Collect-all mode reports the fail-fast diagnostic first: both modes give the same tree, or both
give diagnostics with the same first element. -/
theorem C11_first_error (cls : Cls) (src : List Rune) :
    ParseAgree (parseFile cls src true) (parseFile cls src false) :=
  parseFile_agree cls src

/-- unfolded form of `ParseAgree` for the error case -/
theorem C11_first_error_head (cls : Cls) (src : List Rune) (e1 : List Diag)
    (h : parseFile cls src true = .errors e1) :
    ∃ e0, parseFile cls src false = .errors e0 ∧ e0.head? = e1.head? ∧ e1 ≠ [] := by
  have := parseFile_agree cls src
  rw [h] at this
  cases h0 : parseFile cls src false with
  | tree f => rw [h0] at this; exact this.elim
  | errors e0 => rw [h0] at this; exact ⟨e0, rfl, this.2, this.1⟩
  | panic s => rw [h0] at this; exact this.elim

/-! ## Rendering -/

/-- Rendering diagnostics against the source never fails: for **arbitrary** (also negative,
out-of-range, mid-rune) positions, arbitrary source lines and any context size, `HumanString` reaches
no index / slice panic. -/
theorem C11_render_total (errs : List (Option IPosition)) (lines : List (List Nat)) (ctx : Int) :
    ∃ out, humanStringAll errs lines ctx = .ok out :=
  humanStringAll_no_panic errs lines ctx

/-- … in particular for a single diagnostic (the `humanString` closure of print.go). -/
theorem C11_render_one_total (pos : Option IPosition) (lines : List (List Nat)) (ctx : Int) :
    ∃ out, humanString pos lines ctx = .ok out :=
  humanString_no_panic pos lines ctx

/-! ## Non-vacuity (evaluated by the kernel on `asciiCls`) -/

/-- a nested, multi-line file parses to a tree -/
example : (match parseFile asciiCls (ofAscii "a.b = [1, [2.5, \"x\"]] // hi\nblk foo ! bar:baz {\n | desc\n}\n") true with
    | .tree f => decide (f.body.length = 2) | _ => false) = true := by decide +kernel

/-- collect-all yields two diagnostics, fail-fast the first of them -/
example : (match parseFile asciiCls (ofAscii "a = \nb\nc = = 1\n") false,
      parseFile asciiCls (ofAscii "a = \nb\nc = = 1\n") true with
    | .errors e0, .errors e1 => decide (e0.length = 2 ∧ e1.length = 1 ∧ e0.head? = e1.head?)
    | _, _ => false) = true := by decide +kernel

/-- lexer errors in both modes -/
example : (match allTokens asciiCls false (ofAscii "a = \"x\n1.2.3 #"), allTokens asciiCls true (ofAscii "a = \"x\n1.2.3 #") with
    | .errs e0, .errs e1 => decide (e0.length = 3 ∧ e1.length = 1)
    | _, _ => false) = true := by decide +kernel

end J5V.Props.C11

/-! ## Obligations over facts regenerated from the current source (`extract bcltokens`)

The model hard-codes the operator table, the literal range, the empty keyword table, the case
structure of `NextToken` / `lexEscape` / `nextFragment`, `popToken`'s EOF synthesis and that every exit
of `walkStatement` assigns `hdr.End`; these obligations re-check on every run that the source still
says so. -/
namespace J5V.Props.C11
open J5V.Generated.Bcltokens

theorem C11_src_operators : operatorChars =
    [("ASSIGN", "="), ("LBRACE", "{"), ("RBRACE", "}"), ("LBRACK", "["), ("RBRACK", "]"), ("DOT", "."),
     ("COMMA", ","), ("COLON", ":"), ("PLUS", "+"), ("BANG", "!"), ("QUESTION", "?")] := rfl
theorem C11_src_operators_init : operatorsInit = "operators[rune(tokens[i][0])] = i" := rfl
theorem C11_src_literals : literalKinds =
    ["IDENT", "STRING", "REGEX", "INT", "DECIMAL", "BOOL", "COMMENT", "BLOCK_COMMENT", "DESCRIPTION"] ∧
    keywordKinds = [] ∧
    canStartTag = ["IDENT", "STRING", "REGEX", "BANG", "QUESTION", "BOOL"] := ⟨rfl, rfl, rfl⟩
theorem C11_src_nextToken : nextTokenPrelude =
    ["l.next()", "if l.ch == lexerEofChr => return l.tokenOf(EOF), nil",
     "if op, ok := operators[l.ch]; ok => return l.tokenOf(op), nil", "startPos := l.getPosition()"] ∧
    nextTokenCases = ["'/'", "'\"'", "'|'", "'\\n'", "default"] ∧
    lexEscapeCases = ["'\\\\', '\\n', quote"] := ⟨rfl, rfl, rfl⟩
theorem C11_src_walkStatement_end : walkStatementEndSet =
    [("LBRACE", true), ("DESCRIPTION", true), ("COMMENT", true), ("EOL, EOF", true), ("default", true)] :=
  rfl
theorem C11_src_nextFragment : nextFragmentCases =
    ["EOF", "EOL", "RBRACE", "COMMENT, BLOCK_COMMENT", "DESCRIPTION", "IDENT, BOOL", "default"] := rfl

end J5V.Props.C11
