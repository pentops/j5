import J5V.Id62.Proofs
import J5V.Generated.Id62Facts
/-!
# C20 — id62 identifiers round-trip and have a fixed, pattern-conforming shape

Only the property theorems, their non-vacuity examples and (at the end) the source-fact obligations
live here. Apart from the source-fact obligations the statements are about `J5V.Id62` (the model of
`lib/id62/uuid62.go`), for **every** 16-byte identifier and **every** byte string; no bound.
-/
namespace J5V.Props.C20
open J5V.Go J5V.Id62

/-- Rendering never reaches the `panic("base62 value is too large")` arm. -/
theorem C20_render_no_panic (id : List Nat) (h : IsId id) : ∃ s, render id = .ok s :=
  ⟨_, render_eq id h⟩

/-- Every identifier renders to exactly 22 characters. -/
theorem C20_length (id : List Nat) (h : IsId id) (s : List Nat) (hs : render id = .ok s) :
    s.length = 22 :=
  (render_spec id h s hs).1

/-- Every rendering matches the published pattern `^[0-9A-Za-z]{22}$`. -/
theorem C20_pattern (id : List Nat) (h : IsId id) (s : List Nat) (hs : render id = .ok s) :
    matchesPattern s = true :=
  (render_spec id h s hs).2.1

/-- Parsing a rendering gives back the same 16 bytes. -/
theorem C20_roundtrip (id : List Nat) (h : IsId id) (s : List Nat) (hs : render id = .ok s) :
    parse s = .ok id :=
  (render_spec id h s hs).2.2

/-- Distinct identifiers have distinct renderings. -/
theorem C20_injective (a b : List Nat) (ha : IsId a) (hb : IsId b) (s : List Nat)
    (hsa : render a = .ok s) (hsb : render b = .ok s) : a = b := by
  have h1 := C20_roundtrip a ha s hsa
  have h2 := C20_roundtrip b hb s hsb
  rw [h1] at h2
  cases h2; rfl

/-- Parsing never panics, on any byte string. -/
theorem C20_parse_no_panic (s : List Nat) : ∀ w, parse s ≠ .panic w :=
  parse_noPanic s

/-- Values that do not fit in 16 bytes are rejected. -/
theorem C20_rejects_wide (s : List Nat) (n : Nat) (hs : setString62 s = some n)
    (hn : 2 ^ 128 ≤ n) : ∃ e, parse s = .err e :=
  ⟨_, parse_wide s n hs hn⟩

/-- Conversely every accepted string yields a 16-byte identifier carrying exactly the value
the string denotes (nothing is truncated). -/
theorem C20_parse_exact (s : List Nat) (bs : List Nat) (h : parse s = .ok bs) :
    IsId bs ∧ setString62 s = some (bytesToNat bs) :=
  parse_ok s bs h

/-- Hash-derived identifiers are a pure function of namespace and inputs (they depend on the
inputs only through the hashed byte stream), and always have 16 bytes. -/
theorem C20_hash_pure (sha1 : List Nat → List Nat) (ns ns' : List Nat) (i i' : List (List Nat))
    (h : ns ++ i.flatten = ns' ++ i'.flatten) : newHash sha1 ns i = newHash sha1 ns' i' := by
  unfold newHash; rw [h]

theorem C20_hash_length (sha1 : List Nat → List Nat) (ns : List Nat) (i : List (List Nat)) :
    (newHash sha1 ns i).length = 16 := by
  unfold newHash; simp

/-! ## Non-vacuity -/

example : IsId (List.replicate 16 255) := by decide
example : IsId [1,0,0,0,0,0,0,0,0,0,0,0,0,0,0,0] := by decide
example : ∃ s, render (List.replicate 16 0) = .ok s ∧ s = List.replicate 22 48 := by
  refine ⟨_, rfl, ?_⟩; decide
/-- a string that denotes a value ≥ 2^128: 23 characters `1000…0` -/
example : ∃ n, setString62 (49 :: List.replicate 22 48) = some n ∧ 2 ^ 128 ≤ n := by
  refine ⟨62 ^ 22, ?_, by norm_num⟩
  decide

end J5V.Props.C20

/-! ## Obligations over facts regenerated from the current source (`extract -what id62`)

The model hard-codes base 62, width 22, the `0`-padding and the two length comparisons; these
obligations re-check on every run that the source still says the same. -/
namespace J5V.Props.C20
open J5V.Generated.Id62

theorem C20_src_pattern : patternString = "^[0-9A-Za-z]{22}$" := by decide +kernel
theorem C20_src_bases : textBase = 62 ∧ setStringBase = 62 := by decide +kernel
theorem C20_src_padding : padFormat = "%022s" ∧ renderComparisons = ["len(…)<22", "len(…)>22"] := by
  decide +kernel
theorem C20_src_parse_guards : parseComparisons = ["len(…)>len(…)", "len(…)<len(…)"] := by decide +kernel
/-- `NewHash` reads nothing but its parameters, locals and `crypto/sha1`. -/
theorem C20_src_hash_closed : newHashFreeIdents = [] := by decide +kernel
/-- the compiler emits and the reader recognises the same published pattern constant -/
theorem C20_src_pattern_shared : compilerUsesPattern = true ∧ readerUsesPattern = true := by decide +kernel

end J5V.Props.C20
