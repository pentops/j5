import J5V.Rules.ValidateProofs
import J5V.Rules.MatcherProofs
import J5V.Rules.SrcProofs
/-!
# C12 — compiled validation constraints accept exactly what the j5s rules allow

Only property theorems, their non-vacuity examples and (at the end) the source-fact obligations.
Apart from the source-fact obligations the statements are about the models
`J5V.Rules.compileRules` (writer, `internal/j5s/j5convert/fields.go`), `J5V.Rules.pvField`
(protovalidate-go field evaluation of the emitted subset) and `J5V.Rules.j5Accepts` (meaning of the
j5s rules). Quantification: **every** admissible declaration (`WFRules`), **every** well-typed
candidate value (all integers of the field type, all strings, all lists — no bound), **every**
pattern matcher that agrees with RE2 on the published id62 pattern.
-/
namespace J5V.Props.C12
open J5V.Go J5V.Rules

def definedOf (p : Property) : List Int := definedOfSchema p.schema.item

/-- the hypothesis on the (trusted) regex engine: it implements `^[0-9A-Za-z]{22}$` -/
def MatcherOK (M : Matcher) : Prop := ∀ x, M.run id62Pattern x = id62Shape x

/-- **C12 (full statement).** For every admissible declaration the compiler succeeds, and
protovalidate's verdict on any well-typed field value is "accept" exactly when the value
satisfies the declared rules, "reject" otherwise (never a run-time error). -/
theorem C12_equiv (M : Matcher) (hM : MatcherOK M) (optPres : Bool) (p : Property) (v : FieldVal)
    (hwf : WFRules p = true) (hty : WellTyped optPres p v = true) :
    ∃ c, compileRules p = .ok c ∧
      pvField M (definedOf p) c (p.hasPresence optPres) v = ofBool (j5Accepts M optPres p v) :=
  compileRules_pv_equiv M hM optPres p v hwf hty

/-- required presence: whatever the other rules, a required field that is unset (or zero-valued,
for fields without presence) is rejected, and an empty list is rejected for a required array. -/
theorem C12_required_equiv (M : Matcher) (hM : MatcherOK M) (optPres : Bool) (p : Property) (v : FieldVal)
    (hwf : WFRules p = true) (hty : WellTyped optPres p v = true) (hreq : p.effRequired = true)
    (hempty : fieldHas (p.hasPresence optPres) v = false) :
    ∃ c, compileRules p = .ok c ∧ pvField M (definedOf p) c (p.hasPresence optPres) v = .reject ∧
      j5Accepts M optPres p v = false := by
  obtain ⟨c, hc, hv⟩ := C12_equiv M hM optPres p v hwf hty
  have hj : j5Accepts M optPres p v = false := by
    obtain ⟨name, num, req, opt, desc, schema⟩ := p
    cases schema <;> cases v <;> simp_all [WellTyped, j5Accepts, fieldHas]
  refine ⟨c, hc, ?_, hj⟩
  rw [hv, hj]
  rfl

/-- arrays: the verdict is the conjunction of the count bounds, uniqueness and the per-item rules -/
theorem C12_array_equiv (M : Matcher) (hM : MatcherOK M) (p : Property) (s : Schema)
    (rules : Option ArrayRules) (sf : Option String) (xs : List Scalar)
    (hs : p.schema = .array s rules sf)
    (hwf : WFRules p = true) (hty : WellTyped false p (.list xs) = true) :
    ∃ c, compileRules p = .ok c ∧
      (pvField M (definedOf p) c false (.list xs) = .accept ↔
        ((p.effRequired = true → xs ≠ []) ∧
         (∀ r, rules = some r →
            (∀ n, r.minItems = some n → n ≤ xs.length) ∧
            (∀ n, r.maxItems = some n → xs.length ≤ n) ∧
            (r.uniqueItems = some true → allDistinct xs = true)) ∧
         ∀ x ∈ xs, j5Item M s x = true)) := by
  obtain ⟨c, hc, hv⟩ := C12_equiv M hM false p (.list xs) hwf hty
  refine ⟨c, hc, ?_⟩
  have hp : p.hasPresence false = false := by
    simp [Property.hasPresence, hs]
  rw [← hp, hv, ofBool_eq_accept]
  simp [j5Accepts, hs, optAll_eq_true, and_assoc, Decidable.imp_iff_not_or]

/-- maps (`map:<type>`; the compiler writes their rules on the map field, Go commit d9448b1): the verdict is the
conjunction of required (non-empty), the pair count bounds and the rules of every value -/
theorem C12_map_equiv (M : Matcher) (hM : MatcherOK M) (p : Property) (s : Schema)
    (rules : Option MapRules) (sf : Option String) (xs : List Scalar)
    (hs : p.schema = .map s rules sf)
    (hwf : WFRules p = true) (hty : WellTyped false p (.list xs) = true) :
    ∃ c, compileRules p = .ok c ∧
      (pvField M (definedOf p) c false (.list xs) = .accept ↔
        ((p.required = true → xs ≠ []) ∧
         (∀ r, rules = some r →
            (∀ n, r.minPairs = some n → n ≤ xs.length) ∧
            (∀ n, r.maxPairs = some n → xs.length ≤ n)) ∧
         ∀ x ∈ xs, j5Item M s x = true)) := by
  obtain ⟨c, hc, hv⟩ := C12_equiv M hM false p (.list xs) hwf hty
  refine ⟨c, hc, ?_⟩
  have hp : p.hasPresence false = false := by
    simp [Property.hasPresence, hs]
  have hreq : p.effRequired = p.required := by
    simp [Property.effRequired, Property.primaryKey, hs]
  rw [← hp, hv, ofBool_eq_accept]
  simp [j5Accepts, hs, hreq, optAll_eq_true, and_assoc, Decidable.imp_iff_not_or]

/-- minimum / maximum are inclusive unless the exclusive flag is `true`. -/
theorem C12_int_inclusivity (M : Matcher) (fmt : IntFormat) (r : IntRules) (lr : ListRules)
    (name : String) (num : Nat) (v : Int)
    (hwf : intRulesWF fmt r = true) :
    ∃ c, compileRules { name := name, number := num, schema := .single (.integer fmt (some r) lr) } = .ok c ∧
      (pvField M [] c false (.single (.int v)) = .accept ↔
        (∀ m, r.minimum = some m → if r.exclusiveMinimum = some true then m < v else m ≤ v) ∧
        (∀ m, r.maximum = some m → if r.exclusiveMaximum = some true then v < m else v ≤ m)) := by
  refine ⟨_, compileRules_eq _ hwf rfl, ?_⟩
  change pvField M [] (fieldValidate (.single _) (some (.int fmt (ubOf r) (lbOf r))) false) false (.single (.int v)) =
    .accept ↔ _
  rw [pv_single, ofBool_eq_accept, ← intOk_iff]
  simp only [evalOpt, evalItem, evalInt_closed r (intRulesWF_ord hwf), Bool.not_false, Bool.true_or, Bool.true_and]

/-! ## what the hypotheses exclude (proved counterexamples) -/

/-- A bound the field's type cannot hold is a compile error (`checkIntegerBound`, Go commit 33463c1,
finding `int-bound-cast-wraps`): the conversion `int32(x)` would turn `maximum = 2^31` on an INT32 field
into `lte: -2^31`, which rejects 0. -/
theorem C12_int_out_of_range_rejected :
    (compileRules { name := "i", number := 2,
                    schema := .single (.integer .i32 (some { maximum := some (2 ^ 31) }) none) }).isErr = true ∧
    castTo .i32 (2 ^ 31) = -(2 ^ 31) := by
  constructor <;> decide +kernel

/-- Enum fields: the compiler rejects (error, never panic) exactly the declarations `WFRules`
excludes — a name under `in` / `notIn`, or a default filter of the list rules (Go commit b6c593a),
that is not an option of the enum, written with or without the prefix. -/
theorem C12_enum_rejected_iff_inadmissible (d : EnumDecl) (rules : Option EnumRules) (lr : ListRules) :
    (buildField (.enum d rules lr)).isErr = !schemaWF (.enum d rules lr) :=
  buildField_enum_isErr d rules lr

/-- a default filter which is not an option: compile error -/
example : (compileRules {
    name := "e", number := 2,
    schema := .single (.enum { name := "En", defaultPrefix := "EN_", options := ["A", "B"] } none
      (some { text := "f1/df43/s0/ds0/q0/qi-", defaultFilters := ["C"] })) }).isErr = true := by decide +kernel

/-- Reversed bounds: protovalidate reads `gte: 10, lte: 5` as "outside (5, 10)" and accepts 20,
which no value of a minimum-10 / maximum-5 declaration can satisfy. (An empty range is not an
admissible declaration; the compiler accepts it silently.) -/
theorem C12_int_reversed_counterexample :
    let p : Property := { name := "i", number := 2,
                          schema := .single (.integer .i64 (some { minimum := some 10, maximum := some 5 }) none) }
    ∃ c, compileRules p = .ok c ∧
      pvField ⟨fun _ _ => false⟩ [] c false (.single (.int 20)) = .accept ∧
      j5Accepts ⟨fun _ _ => false⟩ false p (.single (.int 20)) = false := by
  refine ⟨_, rfl, ?_, ?_⟩ <;> decide

/-- Open finding `array-unique-on-message-items`: `uniqueItems` on an array of objects compiles to
`repeated.unique`, which protovalidate cannot evaluate. -/
theorem C12_unique_message_counterexample :
    let p : Property := { name := "a", number := 2,
                          schema := .array (.object "foo.v1.Bar" false false) (some { uniqueItems := some true }) none }
    ∃ c, compileRules p = .ok c ∧
      pvField ⟨fun _ _ => false⟩ [] c false (.list [.msg]) = .error ∧
      j5Accepts ⟨fun _ _ => false⟩ false p (.list [.msg]) = true := by
  refine ⟨_, rfl, ?_, ?_⟩ <;> decide

/-- The presence parameter at `false` (finding `optional-field-without-presence`): a compiler that
compiles `field s ? string { rules.minLength = 1 }` to a field with `proto3_optional` but without the
synthetic oneof gives a field without presence; the declaration makes absence distinguishable and
allowed, but the only message that can express "unset" carries the empty string, which the compiled
constraint rejects. With Go commit c0f36ba the harness measures `optPres = true`:
`C12_presence_as_declared`, `C12_equiv_repaired`. -/
theorem C12_optional_presence_counterexample :
    let p : Property := { name := "s", number := 2, explicitlyOptional := true,
                          schema := .single (.string none (some { minLength := some 1 }) none) }
    p.declaredPresence = true ∧ p.hasPresence false = false ∧
    j5Accepts ⟨fun _ _ => false⟩ false p .absent = true ∧
    ∃ c, compileRules p = .ok c ∧
      pvField ⟨fun _ _ => false⟩ [] c (p.hasPresence false) (.single (.str [])) = .reject := by
  refine ⟨by decide, by decide, by decide, _, rfl, by decide⟩

/-- with the synthetic oneof in place (`optPres = true`, what the harness measures on the compiler
with Go commit c0f36ba) the compiled field has presence exactly where the declaration says so:
message kinds and `? type` -/
theorem C12_presence_as_declared (p : Property) : p.hasPresence true = p.declaredPresence := by
  obtain ⟨name, num, req, opt, desc, schema⟩ := p
  cases schema <;> simp [Property.hasPresence, Property.declaredPresence]

/-- **C12 at `optPres = true`**, the value the harness measures: presence as declared, an unset
`? type` field is accepted whatever its rules, a set one is judged by the rules. -/
theorem C12_equiv_repaired (M : Matcher) (hM : MatcherOK M) (p : Property) (v : FieldVal)
    (hwf : WFRules p = true) (hty : WellTyped true p v = true) :
    ∃ c, compileRules p = .ok c ∧
      pvField M (definedOf p) c p.declaredPresence v = ofBool (j5Accepts M true p v) := by
  have h := C12_equiv M hM true p v hwf hty
  rwa [C12_presence_as_declared] at h

/-- the witness of `C12_optional_presence_counterexample` at `optPres = true` is accepted: unset
`s ? string { minLength = 1 }` -/
example :
    let p : Property := { name := "s", number := 2, explicitlyOptional := true,
                          schema := .single (.string none (some { minLength := some 1 }) none) }
    WFRules p = true ∧ WellTyped true p .absent = true ∧ j5Accepts ⟨fun _ _ => false⟩ true p .absent = true ∧
    ∃ c, compileRules p = .ok c ∧ pvField ⟨fun _ _ => false⟩ [] c p.declaredPresence .absent = .accept := by
  refine ⟨by decide, by decide, by decide, _, rfl, by decide⟩

/-- `Wire.smallMatcher`, which the driver evaluates against protovalidate's RE2, implements the
published id62 pattern exactly; so the C12 theorems apply to the very model the correspondence tests. -/
theorem C12_driver_matcher_ok : MatcherOK Wire.smallMatcher := Wire.smallMatcher_id62

/-! ## non-vacuity: the hypotheses are satisfiable by non-trivial declarations and values -/

/-- a matcher satisfying `MatcherOK` exists -/
example : MatcherOK ⟨fun p x => if p = id62Pattern then id62Shape x else false⟩ := by
  intro x; simp

example : WFRules {
    name := "i", number := 2, required := true,
    schema := .single (.integer .u32 (some { minimum := some 1, maximum := some 10, exclusiveMaximum := some true }) none) } = true := by
  decide +kernel

example : WellTyped false {
    name := "i", number := 2, required := true,
    schema := .single (.integer .u32 (some { minimum := some 1, maximum := some 10, exclusiveMaximum := some true }) none) }
    (.single (.int 10)) = true := by decide +kernel

example : WFRules {
    name := "a", number := 2,
    schema := .array (.string none (some { minLength := some 2 }) none) (some { minItems := some 1, uniqueItems := some true }) none } = true := by
  decide +kernel

example : WFRules {
    name := "e", number := 2,
    schema := .single (.enum { name := "En", defaultPrefix := "EN_", options := ["A", "B", "C"] }
                (some { inn := ["A", "EN_B"], notIn := ["C"] }) none) } = true := by
  decide +kernel

example : WFRules {
    name := "e", number := 2,
    schema := .single (.enum { name := "En", defaultPrefix := "EN_", options := ["A", "B", "C"] }
                (some { notIn := ["C"] })
                (some { text := "f1/df41+454e5f42/s0/ds0/q0/qi-", defaultFilters := ["A", "EN_B"] })) } = true := by
  decide +kernel

example : WFRules {
    name := "m", number := 2, required := true,
    schema := .map (.integer .i32 (some { minimum := some 3 }) none) (some { minPairs := some 1, maxPairs := some 3 }) none } = true ∧
  WellTyped false {
    name := "m", number := 2, required := true,
    schema := .map (.integer .i32 (some { minimum := some 3 }) none) (some { minPairs := some 1, maxPairs := some 3 }) none }
    (.list [.int 3, .int 7]) = true := by
  decide +kernel

example : WFRules {
    name := "k", number := 2,
    schema := .single (.key (some .id62) (some { typ := .primary true }) none) } = true := by decide +kernel

/-! ## Source-fact obligations (regenerated by `extract/rules.go` on every check)

See `J5V/Rules/SrcFacts.lean`. The facts are re-extracted from the current
`internal/j5s/j5convert/fields.go`; a changed guard, cast, slot or an unrecognised construct makes
the obligation fail. The evaluations themselves are in `J5V/Rules/SrcProofs.lean`. -/
section Src
open J5V.Rules.Src

/-- **inclusivity table = model.** For each of the four integer formats and each member of the
`less_than` / `greater_than` oneofs (`lte, lt, gte, gt`) the source has exactly one copy; it takes
`st.Integer.Rules.Maximum` / `.Minimum` cast to the field's type, under `Rules != nil`, the
format's case, `<bound> != nil` and one of the two recognised spellings of the test on
`Exclusive<bound>`; and for each value of that flag (absent, false, true) the guard fires exactly
when the model's `compileInt` picks that member. The member is stored in the matching oneof slot. -/
theorem C12_src_inclusivity_table : writerInclusivityMatchesModel = true ∧ writerSlotsMatch = true :=
  ⟨writerTable_facts.inclusivity, writerTable_facts.slotsMatch⟩

/-- required: `node.Schema.Required`, forced for primary keys, written as
`(buf.validate.field).required = true` (the model's `setRequired` / `psmPrimaryKey`) -/
theorem C12_src_required_written : writerRequiredFacts = true := writerTable_facts.required

/-- array / map: item (value) constraints are attached whenever they or the container rules exist,
each container rule under `Rules != nil` alone (`wrapArray` / `wrapMap`); key formats map to
uuid / the id62 pattern / the declared pattern / nothing (`keyStringC`) -/
theorem C12_src_containers_and_keys : containerGuardFacts = true ∧ keyFormatFacts = true :=
  ⟨writerTable_facts.containerGuards, writerTable_facts.keyFormats⟩

/-- the range check of integer bounds (`checkIntegerBound`, 33463c1): per format the spelled
interval test agrees with the model's `boundFits` around every boundary -/
theorem C12_src_bound_range_check : boundCheckFacts = true := writerTable_facts.boundCheck

/-- every rule kind has a branch: each member of `schema.Field.type` is a case of `buildField`
(`buildProperty` for array / map), and unknown members are errors -/
theorem C12_src_branches : everyMemberHasWriterBranch = true ∧ writerDefaultsPresent = true :=
  ⟨readerTable_facts.writerBranch, readerTable_facts.writerDefaults⟩

/-- the rule fields the writer reads: every field of every `…Field.Rules` message except the
explicit list (multipleOf, object min/maxProperties: ignored; float rules: compile error;
timestamp bounds: not expressible in j5s text) -/
theorem C12_src_rule_fields_read : everySchemaFieldIsReadOrListed = true := coverage_facts.readOrListed

end Src

end J5V.Props.C12
