import J5V.Bcl.FmtDiffProofs
import J5V.Bcl.TrailingProofs
import J5V.Generated.BclunicodeFacts
import J5V.Generated.BcltokensFacts
/-!
# C19 — editor format edits are well-formed and equal the formatter

Only property theorems (+ non-vacuity examples, + obligations over regenerated source facts).
Models: `J5V.Bcl.Diff` (`fmtDiffs` = merge pass + edit loop, `rangeLines`, `gapNeeded`, `applyEdits`),
`J5V.Bcl.FmtDiffs` (`fmtDiffsSrc`, `fmtSrc`, `fragEdits`); predicates: `J5V.Bcl.EditSpec`; lemmas: `ApplyProofs`,
`FmtDiffProofs` (which rests on the parser position invariants of C11 and on `[]rune(string)` keeping line structure).
All statements hold for every classifier and every byte string; no bound.
-/
namespace J5V.Props.C19
open J5V.Go J5V.Bcl

/-- `FragRangesWF`: the fragments the formatter collects for `bytes` have line ranges with
`from < to ≤ lineCount`, each starting no earlier than the last line of the previous one. -/
def FragRangesWF (cls : Cls) (bytes : List Nat) : Prop :=
  ∀ frags, collectFragments cls (decodeRunes bytes) = .ok frags →
    RawWF (splitLines bytes).length 0 (fragEdits cls frags)

/-- The fragment ranges are well-formed for **every** source: consequence of the parser's position
invariants (every fragment has `start ≤ end` inside the file, fragments are in source order). -/
theorem C19_frag_ranges_wf (cls : Cls) (bytes : List Nat) : FragRangesWF cls bytes :=
  fun frags h => fragEdits_rawWF cls bytes frags h

/-- `FmtDiffs` never panics, on any input (no `lines[from:to]` out of range, no `lines[lastEnd]` out
of range, no lexer / walker panic). -/
theorem C19_never_panics (cls : Cls) (bytes : List Nat) (s : String) :
    fmtDiffsSrc cls bytes ≠ .panic s := by
  cases h : collectFragments cls (decodeRunes bytes) with
  | panic w => exact absurd h (collectFragments_ne_panic cls (decodeRunes bytes) w)
  | err => simp [fmtDiffsSrc, h]
  | ok frags => simp [fmtDiffsSrc_ok cls bytes frags h]

/-- For every source the formatter accepts, the list of line edits is computed without failure. -/
theorem C19_no_panic (cls : Cls) (bytes : List Nat) (hfmt : ∃ out, fmtSrc cls bytes = .ok out) :
    ∃ es, fmtDiffsSrc cls bytes = .ok es := by
  obtain ⟨out, h⟩ := hfmt
  obtain ⟨frags, hc, _⟩ := fmtSrc_ok_frags cls bytes out h
  exact ⟨_, fmtDiffsSrc_ok cls bytes frags hc⟩

/-- The edits are in ascending order, do not overlap, and satisfy `start ≤ end ≤ number of lines`
(`EditsWF n 0 es`: each edit starts at or after the end of the previous one, `from ≤ to ≤ n`). -/
theorem C19_wellformed (cls : Cls) (bytes : List Nat) (es : List Edit)
    (h : fmtDiffsSrc cls bytes = .ok es) : EditsWF (splitLines bytes).length 0 es := by
  obtain ⟨frags, hc, rfl⟩ := fmtDiffsSrc_ok_inv cls bytes es h
  exact (mergedEdits_wf _ _ (mergeFrags_wf _ _ (C19_frag_ranges_wf cls bytes frags hc))).1

/-- The same two facts for `fmtDiffs` itself over **arbitrary** source lines and fragments (not only
those the formatter produces). -/
theorem C19_fmtDiffs_wellformed (lines : List (List Nat)) (frags : List Edit)
    (h : RawWF lines.length 0 frags) :
    ∃ es, fmtDiffs lines frags = .ok es ∧ EditsWF lines.length 0 es :=
  fmtDiffs_spec lines frags h

/-! ## Applying the edits equals the formatter -/

/-- After the last fragment only white space is left: every line of the source from the last
fragment's end on is empty or whitespace-only. (Lexer: every rune that is not white space lies in a
token that is not an EOL; walker: every such token ends on or before the last line of some fragment —
a statement's trailing comment and EOL are on its last line.) -/
theorem C19_trailing_blank (cls : Cls) (hcls : ClsNL cls) (bytes : List Nat) :
    TrailingBlank cls bytes :=
  trailingBlank_all cls hcls bytes

/-- **Applying the edits to the document produces the formatter's output up to trailing blank lines**
(`EqT`: equal line lists after dropping trailing empty / whitespace-only lines and a final newline).
`applyEdits` is the LSP application: every edit replaces the byte range between the starts of its
lines; all edits refer to the original document (`C19_apply_document`). For every byte string and every
classifier for which `\n` is neither a letter nor a digit (`ClsNL`; Go's tables satisfy it:
`C19_src_newline_class`). -/
theorem C19_apply_eq_fmt (cls : Cls) (hcls : ClsNL cls) (bytes out : List Nat)
    (hfmt : fmtSrc cls bytes = .ok out) :
    ∃ es, fmtDiffsSrc cls bytes = .ok es ∧
      EqT (blankLine cls) (applyEdits (splitLines bytes) es) out :=
  fmtDiffs_apply_eq_fmt cls bytes (trailingBlank_all cls hcls bytes) out hfmt

/-- the same with `TrailingBlank` as an explicit hypothesis instead of `ClsNL` (any classifier) -/
theorem C19_apply_eq_fmt_partial (cls : Cls) (bytes : List Nat) (ht : TrailingBlank cls bytes)
    (out : List Nat) (hfmt : fmtSrc cls bytes = .ok out) :
    ∃ es, fmtDiffsSrc cls bytes = .ok es ∧
      EqT (blankLine cls) (applyEdits (splitLines bytes) es) out :=
  fmtDiffs_apply_eq_fmt cls bytes ht out hfmt

/-- The same for `fmtDiffs` over **arbitrary** lines and fragments: well-formed ranges, fragment texts
ending in a newline, blank lines after the last fragment. Covers the merge pass (several statements on
one line), multi-line fragments, leading / trailing blank lines, single and multiple gap lines. -/
theorem C19_fmtDiffs_apply (blank : List Nat → Bool) (hb : blank [] = true) (L : List (List Nat))
    (hL : L ≠ []) (hnl : ∀ l ∈ L, cNL ∉ l) (all : List Edit) (h : RawWF L.length 0 all)
    (hends : ∀ d ∈ all, ∃ x, d.newText = x ++ [cNL])
    (htrail : ∀ l ∈ L.drop (lastTo all 0), blank l = true) :
    ∃ es, fmtDiffs L all = .ok es ∧ EqT blank (applyEdits L es) (joinFrags all none) :=
  apply_eqT blank hb L hL hnl all h hends htrail

/-- the document `applyEdits` works on is the source itself -/
theorem C19_apply_document (bytes : List Nat) : joinWith [cNL] (splitLines bytes) = bytes :=
  joinWith_splitLines bytes

/-! ## Non-vacuity: a realistic source (leading blank lines, double gap, block, trailing comment,
header with trailing comment below line 1, whitespace-only gap line, two statements on one line,
trailing blank lines) is accepted by the formatter, satisfies `TrailingBlank` and produces edits -/

def sample : List Nat :=
  ofAscii "\n\na  =  1\n\n\n  b {\nc = \"x\" // k\nd e // t\n \nf = 2\n} g = 2\n  \n\n"

example : (match fmtSrc asciiCls sample with | .ok _ => true | _ => false) = true := by
  decide +kernel
example : (match fmtDiffsSrc asciiCls sample with | .ok es => decide (es.length ≥ 4) | _ => false)
    = true := by decide +kernel

/-- Boolean form of `TrailingBlank` for evaluation -/
def trailingBlankB (cls : Cls) (bytes : List Nat) : Bool :=
  match collectFragments cls (decodeRunes bytes) with
  | .ok frags => ((splitLines bytes).drop (lastTo (fragEdits cls frags) 0)).all (blankLine cls)
  | _ => true

theorem trailingBlankB_sound (cls : Cls) (bytes : List Nat) (h : trailingBlankB cls bytes = true) :
    TrailingBlank cls bytes := by
  intro frags hc l hl
  unfold trailingBlankB at h
  rw [hc] at h
  exact List.all_eq_true.mp h l hl

example : TrailingBlank asciiCls sample := trailingBlankB_sound _ _ (by decide +kernel)
example : ClsNL asciiCls := ⟨by decide, by decide⟩

end J5V.Props.C19

/-! ## Obligations over facts regenerated from the current source (`extract bcltokens`) -/
namespace J5V.Props.C19
open J5V.Generated.Bcltokens

/-- the conditions of `FmtDiffs` (merge test, leading edit, gap rule, changed test) are the modelled ones -/
theorem C19_src_fmtDiffs_conds : fmtDiffsConds =
    ["err != nil",
     "last := len(merged) - 1; last >= 0 && diff.FromLine < merged[last].ToLine",
     "idx == 0", "diff.FromLine > 0",
     "diff.FromLine > lastEnd+1 || (diff.FromLine == lastEnd+1 && lines.lines[lastEnd] != \"\")",
     "existing != diff.NewText"] := rfl
/-- in Go's tables `\n` is white space only — neither a digit (bit 2) nor a letter (bit 4) -/
theorem C19_src_newline_class : J5V.Generated.Bclunicode.asciiClass.getD 10 0 = 1 := by decide
theorem C19_src_rangeLines : rangeLinesBody = "{ return strings.Join(ls.lines[from:to], \"\\n\") + \"\\n\" }" :=
  rfl

end J5V.Props.C19
