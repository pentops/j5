import J5V.Compile.PermFiles
import J5V.Compile.CacheProofs
import J5V.Compile.PermPkgs
import J5V.Print.Layout
import J5V.Generated.MaprangeFacts
import J5V.Generated.BuildersFacts
/-!
# C14 — compilation is deterministic

About the list-indexed model `J5V.Compile.Package`: packages and files are lists in the order the
file source returns them, Go maps are association lists in write order.

Proved here:
* the general lemma: a fold whose body commutes is invariant under permutation (and, if also
  idempotent, under repetition) — the shape of every map-range loop classified by extractor E8
  (`C14_fold_perm_invariant`, `C14_fold_idempotent`); it stands by itself, the theorems below do
  not go through it;
* the package export table (`includeIO`) and the resolver (`Package.ResolveType`): with distinct
  export names, type resolution does not depend on the order in which the file source lists the
  files of a package (`C14_exports_perm`, `C14_resolve_perm`, `C14_ctx_perm`,
  `C14_convertFile_perm`);
* the full statement for the file listing: `C14_perm_files` — `compilePkg` of a package is the
  same for every permutation of its source file listing (`C14_sorted_files_perm`,
  `C14_deps_independent` are its parts);
* the package listing (`C14_perm_packages`), the order of `CompilePackage` calls on a fresh or
  reused `PackageSet` (`C14_order_calls`, `C14_order_calls_pair`, `C14_load_indep`), the order in
  which other files reach the linker (`C14_link_perm_others`);
* compile ∘ print, with the print half assumed (`C14_compile_print_deterministic_partial`);
* the obligations over the regenerated facts (`C14_src_*`).
-/
namespace J5V.Props.C14
open J5V.Go J5V.Compile

/-- **General lemma.** A left fold whose body commutes yields the same result for any permutation
of its input. -/
theorem C14_fold_perm_invariant {α β : Type} (f : β → α → β)
    (hcomm : ∀ b x y, f (f b x) y = f (f b y) x) {l₁ l₂ : List α} (p : l₁.Perm l₂) (b : β) :
    l₁.foldl f b = l₂.foldl f b :=
  fold_perm_invariant f hcomm p b

/-- …and, with an idempotent body, repetitions do not matter either (set semantics). -/
theorem C14_fold_idempotent {α β : Type} (f : β → α → β)
    (hcomm : ∀ b x y, f (f b x) y = f (f b y) x) (hidem : ∀ b x, f (f b x) x = f b x)
    (l : List α) (x : α) (hx : x ∈ l) (b : β) : (x :: l).foldl f b = l.foldl f b := by
  induction l generalizing b with
  | nil => simp at hx
  | cons y ys ih =>
    simp only [List.foldl_cons]
    by_cases hxy : x = y
    · subst hxy; rw [hidem]
    · have hx' : x ∈ ys := by
        rcases List.mem_cons.mp hx with h | h
        · exact absurd h hxy
        · exact h
      rw [hcomm b x y]
      have := ih hx' (f b y)
      simpa using this

/-- export names of a list of file summaries are pairwise distinct -/
def DistinctExports (sums : List Summary') : Prop :=
  ((sums.flatMap (·.exports)).map (·.1)).Nodup

/-- **The export table does not depend on the listing order** (`includeIO` writes
`pkg.Exports[name]` file by file): with distinct export names every lookup gives the same answer
for any permutation of the files. -/
theorem C14_exports_perm (sums sums' : List Summary') (h : sums.Perm sums')
    (hd : DistinctExports sums) (k : Str) :
    mapGet (sums.flatMap (·.exports)) k = mapGet (sums'.flatMap (·.exports)) k :=
  mapGet_perm (h.flatMap_right _) hd k

/-- **Type resolution does not depend on the listing order** of the package's files nor on the
order in which its dependencies were loaded (Go ranges over a map there). -/
theorem C14_resolve_perm (name : Str) (sums sums' : List Summary')
    (deps deps' : List (Str × List (Str × TypeRef)))
    (h : sums.Perm sums') (hd : DistinctExports sums)
    (hdeps : deps.Perm deps') (hdn : (deps.map (·.1)).Nodup) (pkg sch : Str) :
    ({ pkgName := name, exports := sums.flatMap (·.exports), deps := deps } : Resolver).resolveType pkg sch =
    ({ pkgName := name, exports := sums'.flatMap (·.exports), deps := deps' } : Resolver).resolveType pkg sch :=
  resolveType_perm name (h.flatMap_right _) hd hdeps hdn pkg sch

/-- the conversion context built from permuted listings is the *same function* -/
theorem C14_ctx_perm (im : ImportMap) (name : Str) (sums sums' : List Summary')
    (deps deps' : List (Str × List (Str × TypeRef)))
    (h : sums.Perm sums') (hd : DistinctExports sums)
    (hdeps : deps.Perm deps') (hdn : (deps.map (·.1)).Nodup) :
    resolveTypeNoImport im { pkgName := name, exports := sums.flatMap (·.exports), deps := deps } =
    resolveTypeNoImport im { pkgName := name, exports := sums'.flatMap (·.exports), deps := deps' } :=
  resolveTypeNoImport_perm im name (h.flatMap_right _) hd hdeps hdn

/-- hence every file converts to the same descriptors whatever the listing order -/
theorem C14_convertFile_perm (name : Str) (sums sums' : List Summary')
    (deps deps' : List (Str × List (Str × TypeRef)))
    (h : sums.Perm sums') (hd : DistinctExports sums)
    (hdeps : deps.Perm deps') (hdn : (deps.map (·.1)).Nodup)
    (path : Str) (imports : List Import) (elems : List Elem) :
    convertFile { pkgName := name, exports := sums.flatMap (·.exports), deps := deps } path imports elems =
    convertFile { pkgName := name, exports := sums'.flatMap (·.exports), deps := deps' } path imports elems :=
  convertFile_perm name (h.flatMap_right _) hd hdeps hdn path imports elems

/-- **Permuting the file listing.** For every bundle and package that compiles, whose export names
are distinct across its files and whose generated files have distinct names (ASSUMPTIONS `hdist`,
`hnames`: the generator only produces such bundles; they are not derived from `ValidBundle` — with
duplicate export names the winner in `Package.includeIO` does depend on the order), listing the package's source files in any other order yields the same compiled files —
same descriptors, in the same (sorted) order. Dependencies may be any packages of the bundle, at
any depth. (`compilePkg` = `CompilePackage` up to the link step; the link step is a function of
this result.) -/
theorem C14_perm_files (b : Bundle) (name : Str) (p : Pkg) (files' : List SrcFile)
    (hfind : b.find name = some p) (hperm : p.files.Perm files') (l : Loaded)
    (h : loadPkg b (b.pkgs.length + 1) [] name = .ok l)
    (hdist : (l.exports.map (·.1)).Nodup) (hnames : (l.files.map (·.name)).Nodup) :
    compilePkg (b.withFiles name files') name = compilePkg b name :=
  compilePkg_perm_files b name p files' hfind hperm l h hdist hnames

/-- the sorted list of generated files is the same for any order in which `pkg.Files` (a Go
map) is ranged over -/
theorem C14_sorted_files_perm {fs fs' : List FileSkel} (p : fs.Perm fs')
    (hnd : (fs.map (·.name)).Nodup) : sortFiles fs = sortFiles fs' :=
  sortFiles_perm p hnd

/-- a package being loaded never reads its own file listing again (cycle check first), so the
dependencies of the compiled package load identically whatever its own listing order is -/
theorem C14_deps_independent (b : Bundle) (name : Str) (files' : List SrcFile) (fuel : Nat)
    (chain : List Str) (d : Str) (h : chain.contains name = true) :
    loadPkg (b.withFiles name files') fuel chain d = loadPkg b fuel chain d :=
  loadPkg_withFiles_chain b name files' fuel chain d h

/-- **Call order, fresh vs reused `PackageSet`.** For a bundle whose package dependency graph is
acyclic (`rankOk`: some rank decreases along every dependency; ranks bounded by the number of
packages), every `CompilePackage` call of any call sequence — with repeats, in any order, on one
reused set or on a fresh set per call — returns exactly what compiling that package alone on a
fresh set returns. The cache (`PackageSet.Packages`) is transparent. -/
theorem C14_order_calls (b : Bundle) (r : Str → Nat) (hr : rankOk b r = true)
    (hF : ∀ n, r n < b.pkgs.length + 1) (reuse : Bool) (calls : List Str) :
    compileCalls b reuse calls [] = calls.map fun n => (n, compileLinked b n) :=
  compileCalls_agree b r hr hF reuse calls [] (by intro nl h; simp at h)

/-- in particular two call sequences agree on every package they both compile -/
theorem C14_order_calls_pair (b : Bundle) (r : Str → Nat) (hr : rankOk b r = true)
    (hF : ∀ n, r n < b.pkgs.length + 1) (reuse₁ reuse₂ : Bool) (calls₁ calls₂ : List Str) (n : Str)
    (o₁ o₂ : Outcome (List FileSkel))
    (h₁ : (n, o₁) ∈ compileCalls b reuse₁ calls₁ []) (h₂ : (n, o₂) ∈ compileCalls b reuse₂ calls₂ []) :
    o₁ = o₂ := by
  rw [C14_order_calls b r hr hF] at h₁ h₂
  simp only [List.mem_map, Prod.mk.injEq] at h₁ h₂
  obtain ⟨_, _, rfl, rfl⟩ := h₁
  obtain ⟨_, _, rfl, rfl⟩ := h₂
  rfl

/-- the cache-free loader itself does not depend on fuel or chain (beyond rank) -/
theorem C14_load_indep (b : Bundle) (r : Str → Nat) (hr : rankOk b r = true)
    (f f' : Nat) (chain chain' : List Str) (n : Str) (hf : r n < f) (hf' : r n < f')
    (hc : ∀ c ∈ chain, r n < r c) (hc' : ∀ c ∈ chain', r n < r c) :
    loadPkg b f chain n = loadPkg b f' chain' n :=
  loadPkg_indep b r hr f f' chain chain' n hf hf' hc hc'

/-- **Permuting the package listing.** With distinct package names, the order in which the file
source lists the packages (`ListPackages()`) changes nothing: for every package, the converted
files and the linked result are the same. (The listing only decides which names are local; the
model finds a package by name.) Any number of packages, any dependency graph. -/
theorem C14_perm_packages (b b' : Bundle) (hperm : b.pkgs.Perm b'.pkgs)
    (hnd : (b.pkgs.map (·.name)).Nodup) (name : Str) :
    compilePkg b name = compilePkg b' name ∧ compileLinked b name = compileLinked b' name :=
  compile_perm_pkgs b b' hperm hnd name

/-- **The link step under a permuted universe.** The files of the other packages (converted
dependencies, hand-written protos) reach the linker through Go maps; with distinct file names the
link result of a package's files does not depend on the order in which they are offered. -/
theorem C14_link_perm_others (others others' : List LFile) (files : List FileSkel)
    (hp : others.Perm others')
    (hnd : ((files.map (·.lfile) ++ others ++ builtinFiles).map (·.name)).Nodup) :
    linkFiles others files = linkFiles others' files :=
  linkFiles_congr others others' files
    (find?_key_perm (fun f : LFile => f.name) (List.Perm.append_right _ (List.Perm.append_left _ hp)) hnd)
    hp.length_eq (hp.flatMap_right (·.deps)).length_eq

/-! ## compile ∘ print, end to end on the models -/

/-- the printed text of every file of a compile result, by file name; `view` is the descriptor the
printer is handed for a generated file (`protoprint.PrintFile` reads a `protoreflect.FileDescriptor`
built from the compiled `FileDescriptorProto`) -/
def printAll (gen : String) (view : FileSkel → J5V.Print.Layout.FileD) (o : Outcome (List FileSkel)) :
    Outcome (List (Str × String)) :=
  o.map (List.map fun f => (f.name, J5V.Print.Layout.printText gen (view f)))

/-- **Compile ∘ print determinism on the models — PARTIAL: the compile half is proved, the print
half is assumed through `hview`.** Take a bundle `b`, list its packages in any other order (`b'`),
and list the files of the compiled package in any other order (`files'`). PROVED (from
`C14_perm_packages`, `C14_perm_files`): the compile results are EQUAL — outcome class, file names in
order, every skeleton — both up to the link step (`compilePkg`, under both permutations) and linked
(`compileLinked`, under the package permutation). Hence any function of the compile result is equal
too; `printAll` applies the printer model to a descriptor view of each file.
ASSUMED, not proved here: (1) `view` / `view'` are ARBITRARY functions `FileSkel → FileD` — there is
no model of the step "compiled FileDescriptorProto → protoreflect descriptor the printer reads"
(protodesc / protobuf-go are outside the model); (2) `hview`: the two views have the same
ARRANGEMENT (`FileD.arranged`) for every file. With `view' = view` (one deterministic view) `hview`
is `rfl` and the statement is exactly "equal compile results print equally"; for two different
views `hview` is precisely what a theorem about the printer's sort would have to establish:
`arranged` is invariant under a permutation of `items` only when the comparison is a strict total
order on them — `C05_order_total` needs `noTies`; elements without source lines that tie are NOT
covered (`sort.Sort` is unstable there; DESIGN §6). The print step itself is the statement of
`C05_print_function` (the text is a function of the arranged descriptor — true by the definition
of `printText`), re-derived in two lines. So this theorem adds to `C14_perm_*` only the packaging;
it does NOT prove that printing is independent of the element order the descriptor is read in. -/
theorem C14_compile_print_deterministic_partial (gen : String)
    (view view' : FileSkel → J5V.Print.Layout.FileD)
    (hview : ∀ f, (view f).arranged = (view' f).arranged)
    (b b' : Bundle) (hpk : b.pkgs.Perm b'.pkgs) (hnd : (b.pkgs.map (·.name)).Nodup)
    (name : Str) (p : Pkg) (files' : List SrcFile)
    (hfind : b'.find name = some p) (hperm : p.files.Perm files') (l : Loaded)
    (h : loadPkg b' (b'.pkgs.length + 1) [] name = .ok l)
    (hdist : (l.exports.map (·.1)).Nodup) (hnames : (l.files.map (·.name)).Nodup) :
    printAll gen view' (compilePkg (b'.withFiles name files') name) =
      printAll gen view (compilePkg b name) ∧
    printAll gen view' (compileLinked b' name) = printAll gen view (compileLinked b name) := by
  rw [compilePkg_perm_files b' name p files' hfind hperm l h hdist hnames,
    ← (compile_perm_pkgs b b' hpk hnd name).1, ← (compile_perm_pkgs b b' hpk hnd name).2]
  have hfun : (fun f : FileSkel => (f.name, J5V.Print.Layout.printText gen (view' f))) =
      fun f => (f.name, J5V.Print.Layout.printText gen (view f)) := by
    funext f
    have : J5V.Print.Layout.printText gen (view' f) = J5V.Print.Layout.printText gen (view f) := by
      unfold J5V.Print.Layout.printText J5V.Print.Layout.printFile
      rw [hview f]
    rw [this]
  unfold printAll
  rw [hfun]
  exact ⟨rfl, rfl⟩

/-! ## Non-vacuity -/

/-- a two-file package (second file refers to the first) meeting the hypotheses of `C14_perm_files` -/
def exBundle : Bundle :=
  { pkgs := [ { name := b!"foo.v1", files :=
      [ .j5s b!"foo/v1/a.j5s" [] [.object (.mk b!"A" [.mk b!"x" false false (.string [] false)] [] none)]
          b!"foo.v1",
        .j5s b!"foo/v1/b.j5s" []
          [.object (.mk b!"B" [.mk b!"a" false false (.objectRef [] b!"A" false [])] [] none)]
          b!"foo.v1" ] } ] }

example : (match loadPkg exBundle (exBundle.pkgs.length + 1) [] b!"foo.v1" with
    | .ok l => decide ((l.exports.map (·.1)).Nodup) && decide ((l.files.map (·.name)).Nodup)
                && l.files.length == 2
    | _ => false) = true := by decide +kernel

/-- two packages, `bar.v1` importing `foo.v1`: an acyclic bundle with its rank function -/
def exBundle2 : Bundle :=
  { pkgs := exBundle.pkgs ++ [ { name := b!"bar.v1", files :=
      [ .j5s b!"bar/v1/c.j5s" [⟨b!"foo.v1", []⟩]
          [.object (.mk b!"C" [.mk b!"a" false false (.objectRef b!"foo" b!"A" false [])] [] none)]
          b!"bar.v1" ] } ] }

def exRank (n : Str) : Nat := if n = b!"bar.v1" then 1 else 0

example : rankOk exBundle2 exRank = true := by decide +kernel
example : ∀ n, exRank n < exBundle2.pkgs.length + 1 := by
  intro n; unfold exRank; split <;> decide +kernel
example : (compileLinked exBundle2 b!"bar.v1").isOk = true := by decide +kernel

/-- hypotheses of `C14_perm_packages` for `exBundle2` and its reversed listing; hypotheses of
`C14_link_perm_others` for the files of `bar.v1` against the (reversed) files of `foo.v1` -/
example : exBundle2.pkgs.Perm exBundle2.pkgs.reverse ∧ (exBundle2.pkgs.map (·.name)).Nodup :=
  ⟨(List.reverse_perm _).symm, by decide +kernel⟩

def exLoaded : Loaded := match loadPkg exBundle2 3 [] b!"bar.v1" with | .ok l => l | _ => default

example : ((exLoaded.files.map (·.lfile) ++ exLoaded.depFiles.map (·.lfile) ++ builtinFiles).map (·.name)).Nodup ∧
    exLoaded.depFiles.length = 2 := by decide +kernel

example : DistinctExports
    [ { path := b!"a", pkg := b!"p", exports := [(b!"A", ⟨b!"p", b!"A", b!"a", .message false⟩)], depPkgs := [] },
      { path := b!"b", pkg := b!"p", exports := [(b!"B", ⟨b!"p", b!"B", b!"b", .message false⟩)], depPkgs := [] } ] := by
  unfold DistinctExports; decide +kernel

/-- hypotheses of `C14_compile_print_deterministic_partial`: `exBundle2`, its reversed package listing, the
two files of `foo.v1` listed the other way round, and a view that is not constant (imports and
package of the generated file) -/
def exBundle2r : Bundle := { pkgs := exBundle2.pkgs.reverse }
def exView (f : FileSkel) : J5V.Print.Layout.FileD :=
  { (default : J5V.Print.Layout.FileD) with
    pkg := String.ofList (f.pkg.map Char.ofNat),
    imports := f.deps.map fun d => (String.ofList (d.map Char.ofNat), "") }

example : exBundle2.pkgs.Perm exBundle2r.pkgs ∧ (exBundle2.pkgs.map (·.name)).Nodup ∧
    (match exBundle2r.find b!"foo.v1" with
     | some p => decide (p.files.length = 2)
     | none => false) = true ∧
    (match loadPkg exBundle2r (exBundle2r.pkgs.length + 1) [] b!"foo.v1" with
     | .ok l => decide ((l.exports.map (·.1)).Nodup) && decide ((l.files.map (·.name)).Nodup)
     | _ => false) = true ∧
    (match printAll "gen" exView (compilePkg exBundle2 b!"bar.v1") with
     | .ok [(n, _)] => decide (n = b!"bar/v1/c.j5s.proto")
     | _ => false) = true :=
  ⟨(List.reverse_perm _).symm, by decide +kernel, by decide +kernel, by decide +kernel, by decide +kernel⟩

end J5V.Props.C14

/-! ## Obligation over facts regenerated from the current source (`extract maprange`, E8)

Every `range` over a Go map, every `maps.Keys/Values` call and every protoreflect `Range`
callback in the anchored files, classified. A new or re-shaped loop fails the obligation. -/
namespace J5V.Props.C14
open J5V.Generated.Maprange

inductive LoopClass where
  /-- body only writes `m[k] = v` with distinct keys: commutative (`C14_exports_perm`) -/
  | insertIntoMap
  /-- collects, then sorts before use (`sortFiles`) -/
  | collectThenSort
  /-- result only feeds an error message or a warning, never the output -/
  | diagnosticOnly
  /-- loads each dependency and stores it: commutative up to which error is reported first -/
  | loadAndInsert
  /-- iteration order defined by protobuf-go (field / extension number order) -/
  | protobufOrder
  deriving Repr, DecidableEq

/-- the committed classification of the order-sensitive loops: (file, function, what, shape) ↦ class -/
def classified : List ((String × String × String × String) × LoopClass) :=
  [ (("protobuild/packages.go", "Package.includeIO", "range-map summary.Exports", "insert-into-map"), .insertIntoMap),
    (("protobuild/packages.go", "PackageSet.findFileByPath", "maps.Keys(pkg.Files)", "unsorted-slice"), .diagnosticOnly),
    (("protobuild/packages.go", "PackageSet.resolveDependencies", "range-map deps",
        "call:ps.loadPackage+insert-into-map+return"), .loadAndInsert),
    (("protobuild/packages.go", "PackageSet.CompilePackage", "range-map pkg.Files", "append:filenames:sorted"), .collectThenSort),
    (("protobuild/linker.go", "markOptionImportsUsed", "callback-range proto.RangeExtensions", "protobuf-defined-order"), .protobufOrder),
    (("j5convert/summary_walk.go", "SourceSummary", "range-map importMap.vals", "assign+call:ec.WarnPos+call:int+continue"), .diagnosticOnly),
    (("protoprint/optionreflect/builder.go", "Builder.OptionsFor", "callback-range srcReflect.Range", "protobuf-defined-order"), .protobufOrder),
    (("protoprint/optionreflect/walk.go", "walkOptionMap", "callback-range mp.Range", "protobuf-defined-order"), .protobufOrder) ]

/-- loops the extractor lists because it cannot resolve the ranged type; all of them range over
slices (declaration order), checked by reading: (file, function, what) -/
def sliceRanges : List (String × String × String) :=
  [ ("protobuild/source_resolver.go", "NewBundleResolver", "range-unknown bundleConfig.Packages"),
    ("protobuild/source_resolver.go", "newSourceResolver", "range-unknown packages"),
    ("protobuild/source_resolver.go", "sourceResolver.listPackageFiles", "range-unknown files"),
    ("protobuild/linker.go", "searchLinker.loadDependencies", "range-unknown desc.Dependency"),
    ("protobuild/lint.go", "LintFile", "range-unknown pkg.SourceFiles"),
    ("protobuild/lint.go", "LintAll", "range-unknown allPackages"),
    ("protobuild/lint.go", "LintAll", "range-unknown pkg.Files"),
    ("j5convert/builders.go", "fileContext.ensureImport", "range-unknown fb.fdp.Dependency"),
    ("j5convert/summary_walk.go", "summaryWalker.collectFileRefs", "range-unknown node.Schema.Options"),
    ("protoprint/protoprint.go", "fileBuffer.p", "range-unknown arg"),
    ("protoprint/protoprint.go", "fileBuilder.leadingComments", "range-unknown loc.LeadingDetachedComments") ]

/-- **E8**: every loop the extractor reports is either one of the classified order-sensitive loops
(same shape of body) or one of the known slice ranges; and every classified loop still exists -/
theorem C14_src_map_ranges_classified :
    (∀ r ∈ mapRanges, r ∈ classified.map (·.1) ∨ (r.1, r.2.1, r.2.2.1) ∈ sliceRanges) ∧
    (∀ c ∈ classified, c.1 ∈ mapRanges) := by
  decide +kernel

end J5V.Props.C14

/-! ## Obligation over facts regenerated from the current source (`extract builders`)

`fileContext.ensureImport` (j5convert/builders.go) statement by statement: the two explicit panics
(`Eff.imp`'s panic arms), return when the path is the file's own name, return when already present,
append, then `sort.Strings` on the SAME list — the shape `Compile.File.ensureImport` mirrors
("imports kept sorted on insertion", the first C14 mechanism). A removed sort, another order of the
statements, or any new statement fails the obligation. -/
namespace J5V.Props.C14
open J5V.Generated.Builders

theorem C14_src_ensure_import_sorted :
    ensureImportShape =
      ["panic-if-empty", "panic-if-no-slash", "return-if-self", "return-if-present:fb.fdp.Dependency",
       "append:fb.fdp.Dependency", "sort.Strings:fb.fdp.Dependency"] := rfl

/-- no other code of j5convert sorts or re-orders a descriptor list: besides appends at the end,
fresh literals and the in-place explicit zero enum value, the only write (a `sort.*` / `slices.*`
call is recorded as `call:<fn>`) is the `sort.Strings` inside `ensureImport` -/
theorem C14_src_only_imports_sorted :
    descriptorWrites.filter (fun r =>
        !(["append-end", "literal", "other:e.desc.Value[0] = value"].contains r.2.2.2)) =
      [("builders.go", "fileContext.ensureImport", "fb.fdp.Dependency", "call:sort.Strings")] := by decide +kernel

end J5V.Props.C14
