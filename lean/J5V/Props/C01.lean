import J5V.Codec.AnyPbProofs
import J5V.Codec.CanonProofs
import J5V.Codec.ScalarProofs
import J5V.Codec.RoundtripProofs
import J5V.Codec.EncTreeProofs
import J5V.Codec.AnyProofs
import J5V.Codec.InlinedOneof
import J5V.Generated.CodecFacts
/-!
# C01 — JSON codec round-trip: `decode (encode m) = m`

Only property theorems and their non-vacuity examples live here. All statements are about the
models `J5V.Codec.{Scalar,Encode,Decode}` (mirrors of `lib/j5reflect/value_go.go`,
`internal/codec/*.go`, `j5types/date_j5t`), for **every** value of the quantified kind; no bound.

Floats, timestamps and decimals are oracle types: the theorems take `OracleLaws O` (a hypothesis,
not an axiom) and `toyOracle_laws` shows the hypothesis is satisfiable.
-/
namespace J5V.Props.C01
open J5V.Go J5V.Json J5V.Codec

/-- **Per-scalar inverse pair** (mechanism 1 of C01): for every scalar kind and every representable
value of that kind, `scalarGoFromReflect`+`encodeScalarField` succeed and `scalarReflectFromGo`,
fed with the token the JSON reader delivers for what was written, returns the value again
(decimals: the normalised text). -/
theorem C01_scalar_roundtrip (O : Oracle) (L : OracleLaws O) (k : ScalarKind) (v : PVal)
    (h : scalarRepr O k v = true) :
    ∃ out, encodeScalar O k v = .ok out ∧
      decodeScalar O k (scalarTok out) = .ok (some (canonScalar O v)) :=
  scalar_roundtrip O L k v h

/-- standard base64 with padding decodes to the bytes it encodes, for all byte strings -/
theorem C01_base64_inv (bs : Bytes) : byteValueFromString (b64Encode bs) = some bs :=
  byteValueFromString_encode bs

/-- a 64-bit integer written as a quoted decimal is read back exactly -/
theorem C01_int64_quoted_inv (O : Oracle) (i : Int) (h1 : -(2 ^ 63 : Int) ≤ i) (h2 : i < 2 ^ 63) :
    decodeScalar O .int64 (.str (fmtInt i)) = .ok (some (.int i)) := by
  simp only [decodeScalar]
  rw [parseInt_fmtInt i 64 (by simpa using h1) (by simpa using h2)]

theorem C01_uint64_quoted_inv (O : Oracle) (n : Nat) (h : n < 2 ^ 64) :
    decodeScalar O .uint64 (.str (fmtNat n)) = .ok (some (.uint n)) := by
  simp only [decodeScalar]
  rw [parseUint_fmtNat n 64 h]

/-- every calendar date of the years 0–(2³¹−1) survives `DateString` / `DateFromString`
(the year is written `%04d`: mirrors pentops/j5 a89d26c) -/
theorem C01_date_inv (y m d : Int) (hy : 0 ≤ y) (hy2 : y < 2 ^ 31) (hm : 1 ≤ m) (hm2 : m ≤ 12)
    (hd : 1 ≤ d) (hd2 : d ≤ daysInMonth y m) :
    dateFromString (dateString y m d) = some (y, m, d) :=
  date_inv y m d hy hy2 hm hm2 hd hd2

/-! ## structure level -/

/-- **Full statement** of C01 on the byte level: for every environment, every root and every
representable message (`valOk` is schema directed and general: flattened objects, exposed oneofs,
anonymous proto oneofs are all covered by it; a j5 `Any` is `valOk` when it holds recognised
compact `j5_json` only), encoding succeeds and
decoding the bytes gives the message back. -/
def C01_roundtrip_full : Prop :=
  ∀ (c : Cfg) (_ : OracleLaws c.O) (root : String) (m : Fields),
    (valOk c.env c.O (.object root) (.msg m) = true ∨ valOk c.env c.O (.oneof root) (.msg m) = true) →
    ∃ bs, encodeBytes c.env c.O root (.msg m) = .ok bs ∧ decodeBytes c root bs = .ok m

/-- **Proved part (`_partial`)**, on the level of JSON trees: for every *flat* environment
(`Env.flat`: proto paths of any positive length — **flattened objects**, whose properties are
inlined into the parent with the full path —, **exposed oneofs** (empty path), **anonymous proto
oneofs** inside objects, **j5 `Any` properties**; no `google.protobuf.Any`, no exposed oneof
inlined from a flattened object) and every representable message
(`valOk`: sorted store, only schema fields, representable scalars, valid UTF-8, defined enum
numbers, non-empty lists and maps with distinct keys, at most one member per wrapper / exposed /
proto oneof, decimals in normal form): whatever tree the encoder writes, the decoder maps back to
exactly the original message. Covers objects, wrapper oneofs (`!type` framing), exposed oneofs
(the oneof object is decoded into the *enclosing* message), anonymous proto oneofs (where the
decoder's "second member" check 25c97b7 must not fire), enums, arrays and maps of scalars /
enums / objects / oneofs, every scalar kind, recursion through named roots, presence (unset
members stay unset), flattened sub-messages (created by the `Mutable` walk when the first leaf
below them is decoded; the decoder's message after any subset of members is the restriction
`restrictP` of the original message to the leaves read so far).

A j5 `Any` (`.any false`) is representable when it carries `j5_json` only, the bytes being the
compact rendering of a complete JSON value of depth ≤ 10000 which the specification-side oracle
`O.chunk` recognises; a **protobuf `Any`** (`.any true`) when its type URL is
`type.googleapis.com/<name>` for a name the resolver knows and its content is a non-empty
representable message of the resolved root (the wire bytes are represented by what they unmarshal
to). Which codec can decode them is a hypothesis **per value**: `c.canDecode m` (`modeOk`) — every
j5 `Any` in `m` needs the codec without `WithProtoToAny` (with it the decoder also stores the
expanded content), every protobuf `Any` needs `WithProtoToAny`, fewer than 100 enclosing `Any`
values and a message nested at most 1664 deep; a message without `Any` values satisfies it for
every codec (`C01_canDecode_of_noAny`), and environments that declare both kinds of `Any` are
covered as long as the message populates one kind.

Missing for the full statement: `Any` with both kinds populated in one message, j5 `Any` under
`WithProtoToAny`; an exposed oneof inlined from a flattened object. -/
theorem C01_roundtrip_tree_partial (c : Cfg) (hs : c.env.flat = true) (L : OracleLaws c.O)
    (root : String) (m : Fields) (t : PTree)
    (hok : valOk c.env c.O (.object root) (.msg m) = true ∨
      valOk c.env c.O (.oneof root) (.msg m) = true)
    (hM : c.canDecode m)
    (henc : encodeTree c.env c.O root (.msg m) = .ok t) : decRootTree c root t = .ok m := by
  obtain ⟨t', ht', hdec, _⟩ := root_flat c hs L root m hok _ (Nat.le_refl _) hM
  rw [encodeTree_msg, ht'] at henc; cases henc; exact hdec

/-- **Byte level (`_partial`)**: the same statement on the bytes `Codec.ProtoToJSON` returns and
`Codec.JSONToProto` reads — through the string escaper / unquoter, the number scanner, the
`Token()` state machine and the tree builder (`readDoc_render`). Same hypotheses, plus — for
environments that have `Any` fields — `ChunkLaws`:
what `O.chunk` recognises is compact JSON as the codec writes it (`PTree.Enc`); the `j5_json` of an
`Any` is spliced into the output verbatim and read back as part of the document. -/
theorem C01_roundtrip_bytes_partial (c : Cfg) (hs : c.env.flat = true) (L : OracleLaws c.O)
    (hC : c.env.noAny = true ∨ ChunkLaws c.O)
    (root : String) (m : Fields) (bs : Bytes)
    (hok : valOk c.env c.O (.object root) (.msg m) = true ∨
      valOk c.env c.O (.oneof root) (.msg m) = true)
    (hM : c.canDecode m)
    (henc : encodeBytes c.env c.O root (.msg m) = .ok bs) : decodeBytes c root bs = .ok m := by
  obtain ⟨bs', hbs', hdec⟩ := roundtrip_bytes c hs L hC root m hok hM
  rw [henc] at hbs'; cases hbs'; exact hdec

/-- **C01 for flat environments (`_partial` only in the class of schemas)**: encoding any
representable message succeeds, and decoding the bytes into a fresh message of the same type
yields exactly the original message. Unbounded in message size, nesting depth, number of
properties, string contents and integer values.

Missing for `C01_roundtrip_full`: j5 `Any` values with proto content or under `WithProtoToAny`
(equal only up to the expanded content), messages that populate both kinds of `Any`, an exposed
oneof inlined from a flattened object (all modelled and validated against Go by the correspondence, not yet covered by
this proof), "an empty flattened sub-object is treated as absent" is stated separately
(`C01_roundtrip_canon_partial`, `C01_roundtrip_same_partial`: `valOk` describes the canonical forms), and decimals that are
not in `decimal.String()` normal form (they round-trip up to numeric equality:
`C01_scalar_roundtrip`). -/
theorem C01_roundtrip_partial (c : Cfg) (hs : c.env.flat = true) (L : OracleLaws c.O)
    (hC : c.env.noAny = true ∨ ChunkLaws c.O)
    (root : String) (m : Fields)
    (hok : valOk c.env c.O (.object root) (.msg m) = true ∨
      valOk c.env c.O (.oneof root) (.msg m) = true)
    (hM : c.canDecode m) :
    ∃ bs, encodeBytes c.env c.O root (.msg m) = .ok bs ∧ decodeBytes c root bs = .ok m :=
  roundtrip_bytes c hs L hC root m hok hM

/-- **"an empty flattened sub-object is treated as absent"** (the property's own clause), general
form: let `m` be ANY message of a flat environment and `m'` a representable message that holds
**the same leaves** (`Same`, `Codec/Same.lean`: at every leaf path of the properties — flattened
ones with their full path, members of exposed oneofs — both are unset or hold values that are
again `Same`, at every depth, lists element by element, maps entry by entry; nothing is said about
flattened sub-messages that hold no leaf: they may be present and empty in `m` and absent in
`m'`). Then `Codec.ProtoToJSON m` succeeds, writes exactly what it writes for `m'` (the encoder
reads a message only through the leaves of its properties: `EQ_all`), and `Codec.JSONToProto` maps
the bytes to `m'`. (`hd`: `m'` is not nested deeper than `m`.) -/
theorem C01_roundtrip_same_partial (c : Cfg) (hs : c.env.flat = true) (L : OracleLaws c.O)
    (hC : c.env.noAny = true ∨ ChunkLaws c.O)
    (root : String) (m m' : Fields)
    (hsame : Same c.env (.object root) (.msg m) (.msg m') ∨
      Same c.env (.oneof root) (.msg m) (.msg m'))
    (hok : valOk c.env c.O (.object root) (.msg m') = true ∨
      valOk c.env c.O (.oneof root) (.msg m') = true)
    (hd : depthFields m' ≤ depthFields m)
    (hM : modeOkF c.protoToAny (6 * (depthFields m + 1) + 9) c.anyDepth m' = true) :
    ∃ bs, encodeBytes c.env c.O root (.msg m) = .ok bs ∧ decodeBytes c root bs = .ok m' :=
  roundtrip_same c hs L hC root m m' hsame hok hd hM

/-- **… with the canonical form written out** (`canonFlat`: the message restricted to the leaves of
its properties — flattened sub-messages that hold no leaf are dropped, through nested flattened
sub-messages; everything else is kept): for an object root of a flat environment and every
message `m` whose stores have strictly increasing field numbers (`sortedDeepF`: what a protobuf
message is) and whose canonical form is representable, **`decode (encode m) = canonFlat m`**.
A message with an empty flattened sub-message is not `valOk` itself (`valOk` describes the
canonical forms), so this is the statement for the messages `C01_roundtrip_partial` excludes.
Leaf values that themselves contain empty flattened sub-messages are covered by
`C01_roundtrip_same_partial`, not by this concrete form. -/
theorem C01_roundtrip_canon_partial (c : Cfg) (hs : c.env.flat = true) (L : OracleLaws c.O)
    (hC : c.env.noAny = true ∨ ChunkLaws c.O)
    (root : String) (props : List PropDef) (hfind : c.env.find root = some (.object props))
    (m : Fields) (hsort : asorted m = true) (hdeep : sortedDeepF m = true)
    (hok : valOk c.env c.O (.object root) (.msg (canonFlat c.env props m)) = true)
    (hM : modeOkF c.protoToAny (6 * (depthFields m + 1) + 9) c.anyDepth
      (canonFlat c.env props m) = true) :
    ∃ bs, encodeBytes c.env c.O root (.msg m) = .ok bs ∧
      decodeBytes c root bs = .ok (canonFlat c.env props m) :=
  roundtrip_canon c hs L hC root props hfind m
    (fun e _ => sortedAlong_of_deep e.1 m hsort hdeep) hok hM

/-- for an environment without `Any` fields the hypothesis `canDecode` of the round-trip theorems
is void: every representable message can be decoded by every codec -/
theorem C01_canDecode_of_noAny (c : Cfg) (hna : c.env.noAny = true) (root : String) (m : Fields)
    (hok : valOk c.env c.O (.object root) (.msg m) = true ∨
      valOk c.env c.O (.oneof root) (.msg m) = true) : c.canDecode m :=
  canDecode_of_noAny c hna root m hok

/-- encoding alone (first half of the statement) -/
theorem C01_encode_succeeds_partial (c : Cfg) (hs : c.env.flat = true) (L : OracleLaws c.O)
    (hC : c.env.noAny = true ∨ ChunkLaws c.O) (root : String) (m : Fields)
    (hok : valOk c.env c.O (.object root) (.msg m) = true ∨
      valOk c.env c.O (.oneof root) (.msg m) = true)
    (hM : ∃ mode, modeOkF mode (6 * (depthFields m + 1) + 9) 0 m = true) :
    ∃ bs, encodeBytes c.env c.O root (.msg m) = .ok bs :=
  encode_ok c hs L hC root m hok hM

/-- **`Any` (j5, one property, tree level)**: a `j5.types.any.v1.Any` holding `j5_json = V.render`
for a complete JSON value `V` of nesting depth ≤ 10000 and a valid UTF-8 type name is written as
`{"!type": typeName, "value": <j5_json verbatim>}` (`chunkNode`: the raw bytes, or — same bytes —
their parsed form), and the decoder (codec without `WithProtoToAny`) reading
`{"!type": typeName, "value": V}` into any property with a proto path stores exactly
`Any{type_name, j5_json}` again. The whole-message, byte-level statement is
`C01_roundtrip_partial`. -/
theorem C01_any_j5_partial (c : Cfg) (hmode : c.protoToAny = false) (props : List PropDef)
    (p : PropDef) (st : PS) (tn : Bytes) (tv : PTree) (f : Nat)
    (hf : p.field = .any false) (hp : p.path ≠ []) (hs : p.jsonName ∉ st.seen)
    (hgb : groupBusy props p st.m = false) (hc : tv.complete = true) (hd : tv.depth ≤ 10000)
    (hj : tv.render ≠ []) (hu : isValidUtf8 tn = true) :
    ∃ tlit nlit vlit,
      encValue c.env c.O (f + 1) (.any false) (.anyJ5 tn [] tv.render .none "" (.msg [])) =
        .ok (.obj (.cons typeKey tlit (.str tn nlit) (.cons valueKey vlit (chunkNode c.O tv.render) (.nil .closed)))) ∧
      decProp c props p
          (.obj (.cons typeKey tlit (.str tn nlit) (.cons valueKey vlit tv (.nil .closed)))) st =
        .ok { m := updPath props p (some (.anyJ5 tn [] tv.render .none "" (.msg []))) st.m,
              seen := p.jsonName :: st.seen } := by
  obtain ⟨tlit, nlit, vlit, henc⟩ := enc_any_j5 c.env c.O f tn [] tv.render .none "" (.msg []) hj hu
  exact ⟨tlit, nlit, vlit, henc,
    dec_any_j5 c hmode props p st tn tlit nlit vlit tv hf hp hs hgb hc hd⟩

/-- **`google.protobuf.Any` with `WithProtoToAny` (one property, both directions, `_partial`)**:
for a codec built `WithProtoToAny` over a flat environment, at a position not yet nested 100 `Any` values deep (`hdepth`, the
decoder's `maxAnyDepth`): a protobuf `Any` whose type URL is `type.googleapis.com/<name>` for a
name the resolver knows and whose content is a non-empty representable message `fs` of the
resolved root
* is written as `{"!type": <name>, "value": data}`, `data` being the codec's own encoding of `fs`;
* and — **explicit depth hypothesis** `hD`: the content is nested at most 1664 messages deep, so
  that its encoding stays within the 10000 levels of `encoding/json` which `popValueAsBytes`
  (`Decode(&raw)`) runs into (tree-depth bound `C01_encoder_tree_depth`: the encoder's tree is
  nested at most as deep as the fuel when no `j5_json` is involved) — the decoder reading that
  value into a protobuf `Any` property (any proto path, any decoder state in which the property is
  still unset) stores `Any{type_url, content = fs}` again: the inner document is decoded with
  `anyDepth + 1` back to exactly `fs` (the round trip of the inner message, `RTP` at the deeper
  configuration).
The wire bytes of the content are represented in the model by what they unmarshal to (`ik / iroot /
inner`; trusted base: "proto.Marshal / Unmarshal for the bytes inside Any values"), so
`unmarshal (marshal m) = m` is part of the modelling assumption, not a hypothesis here.

This is the protobuf-`Any` step of `C01_roundtrip_partial` in isolation (whole messages that
populate protobuf `Any` properties, nested or not, are covered there: the induction `RTP` is
proved for all codec configurations at once, so its `Any` case can use the facts at
`anyDepth + 1`; `hMi`: the codec at `anyDepth + 1` can decode the content). -/
theorem C01_any_pb_partial (c : Cfg) (hs : c.env.flat = true) (L : OracleLaws c.O)
    (hmode : c.protoToAny = true) (hdepth : c.anyDepth < maxAnyDepth)
    (props : List PropDef) (p : PropDef) (st : PS) (tn val : Bytes) (iroot : String) (fs : Fields)
    (hf : p.field = .any true) (hp : p.path ≠ []) (hseen : p.jsonName ∉ st.seen)
    (hgb : groupBusy props p st.m = false) (hu : isValidUtf8 tn = true)
    (hres : c.env.resolve tn = some iroot) (hne : fs ≠ [])
    (hok : valOk c.env c.O (.object iroot) (.msg fs) = true ∨
      valOk c.env c.O (.oneof iroot) (.msg fs) = true)
    (hMi : modeOkF c.protoToAny (6 * (depthFields fs + 1) + 9) (c.anyDepth + 1) fs = true)
    (hD : 6 * (depthFields fs + 1) + 10 ≤ 10000) :
    ∃ t, encValue c.env c.O (6 * (depthFields fs + 1) + 9 + 2) (.any true)
          (.anyPb (anyPrefix ++ tn) val .inn iroot (.msg fs)) = .ok t ∧
      Wire.anyTypeName (.anyPb (anyPrefix ++ tn) val .inn iroot (.msg fs)) = some tn ∧
      decProp c props p t st =
        .ok { m := updPath props p (some (.anyPb (anyPrefixB ++ tn) [] .inn iroot (.msg fs))) st.m,
              seen := p.jsonName :: st.seen } := by
  obtain ⟨t, he, hd⟩ := any_pb_roundtrip c hs L hmode hdepth props p st tn val iroot fs hf hp
    hseen hgb hu hres hne hok hMi hD
  refine ⟨t, he, ?_, hd⟩
  simp only [Wire.anyTypeName]
  exact congrArg some (trimPrefix_append _ tn)

/-- the tree-depth bound used for `popValueAsBytes`: for a value that holds no `j5_json`, the tree
the encoder builds with fuel `f` is nested at most `f` deep -/
theorem C01_encoder_tree_depth (env : Env) (O : Oracle) (f : Nat) (root : String) (v : PVal)
    (t : PTree) (hn : v.noJ5 = true) (h : encRoot env O f root v = .ok t) : t.depth ≤ f :=
  ((TD_all env O f).root root v t hn h).1

/-- **an exposed oneof inlined from a flattened object (one property, both directions, every
environment, `_partial`)**. When an object `F` with an exposed oneof is flattened into its
parent, the parent gets a oneof property `p` whose proto path is the path of the flattened message
(NON-empty), while `F`'s other properties are inlined with longer paths below it: the oneof's
members live in the same sub-message as the siblings' leaves. `Env.flat` excludes this shape (the
path of `p` is a proper prefix of its siblings' paths), so it is outside `C01_roundtrip_partial`;
this theorem states and proves what encoder and decoder do with `p`, for an ARBITRARY decoder state:

`S'` is the flattened sub-message as the original message holds it — sibling leaves (not looked at)
and at most one member of the oneof (`hone`), whose value round-trips (`hmem : MemberFacts`: the
facts `RTP.val` provides in flat environments; `C01_member_facts_scalar` discharges it for scalar
members in every environment). The encoder writes the oneof body over `S'` (`{}` when no member is
set, else `{"!type": name, name: value}`); the decoder — in any state whose sub-message at `p`'s
path holds no member of the oneof (`hS0`) and is `S'` without the oneof's member (`hS`) — starts
from the sub-message that is ALREADY there, reads the body and writes back exactly `S'`: **the
member is restored next to the sibling leaves decoded before, none of which is lost**. For `{}` the
sub-message is written back unchanged — created empty if no sibling leaf was decoded yet: that
transient empty flattened sub-message (filled by the later siblings) is what the whole-message
induction's invariant (`restrictP`) would have to allow, and the reason this shape is not yet inside
`C01_roundtrip_partial`. -/
theorem C01_inlined_oneof_partial (c : Cfg) (props : List PropDef) (p : PropDef) (st : PS)
    (ref : String) (ops : List PropDef) (hf : p.field = .oneof ref) (hp : p.path ≠ [])
    (hfind : c.env.find ref = some (.oneof ops)) (hroot : rootSimple (.oneof ops) = true)
    (hutf : ∀ q ∈ ops, isValidUtf8 q.jsonName = true)
    (hseen : p.jsonName ∉ st.seen) (hgb : groupBusy props p st.m = false)
    (S' : Fields) (f : Nat)
    (hone : (ops.filter (isSet S')).length ≤ 1) (hmem : MemberFacts c f ops S')
    (hS0 : ∀ q ∈ ops, ∀ k, q.path = [k] → aget k (PVal.asMsg (getPath st.m p.path)) = none)
    (hS : S' = PVal.asMsg (getPath st.m p.path) ∨
      ∃ q ∈ ops, ∃ k v, q.path = [k] ∧ S' = aset k v (PVal.asMsg (getPath st.m p.path))) :
    ∃ t, encValue c.env c.O (f + 3) (.oneof ref) (.msg S') = .ok t ∧
      decProp c props p t st =
        .ok { m := updPath props p (some (.msg S')) st.m, seen := p.jsonName :: st.seen } :=
  inlined_oneof_roundtrip c props p st ref ops hf hp hfind hroot hutf hseen hgb S' f hone hmem hS0 hS

/-- a scalar member of any kind provides `MemberFacts` (every environment; under `OracleLaws`) -/
theorem C01_member_facts_scalar (c : Cfg) (L : OracleLaws c.O) (f : Nat) (q : PropDef) (k : ScalarKind)
    (v : PVal) (hqf : q.field = .scalar k) (hok : scalarOk c.O k v = true)
    (hz : (q.pres == .imp && v.isZero) = false) :
    ∃ tv, encValue c.env c.O (f + 1) q.field v = .ok tv ∧ Dec c q.field v tv ∧
      (OracleWire c.O → Wire.Conforms c.env c.O q.field v tv) ∧
      (q.pres == .imp && v.isZero) = false ∧ v.isEmptyColl = false :=
  memberFacts_scalar c L f q k v hqf hok hz

/-- **j5 `Any` under `WithProtoToAny` (one property, `_partial`)**. With `WithProtoToAny`
the decoder does not only store `Any{type_name, j5_json}`: it also decodes the value as the message
type the name resolves to (one `Any` level deeper; an error if that fails or the name is unknown)
and keeps the result as the `Any`'s proto content. So for a j5 `Any` `a` holding `j5_json` only,
`decode (encode a)` is **`a` plus the expanded content** (`stored`; exactly `a` when the value
decodes to the empty message) — not `a`, which is why the whole-message theorem asks for the codec
without `WithProtoToAny` for j5 `Any` values (`canDecode`). Nothing observable through the codec
changes, though: the encoder prefers `j5_json` and writes it verbatim, so **the decoded value is
written as exactly the same document again** (third conjunct): `encode ∘ decode ∘ encode = encode`,
and a second round trip reproduces `stored` itself. -/
theorem C01_any_j5_expanded_partial (c : Cfg) (hmode : c.protoToAny = true)
    (hdepth : c.anyDepth < maxAnyDepth) (props : List PropDef) (p : PropDef) (st : PS)
    (tn : Bytes) (tv : PTree) (iroot : String) (fs : Fields) (f : Nat)
    (hf : p.field = .any false) (hp : p.path ≠ []) (hs : p.jsonName ∉ st.seen)
    (hgb : groupBusy props p st.m = false) (hc : tv.complete = true) (hd : tv.depth ≤ 10000)
    (hj : tv.render ≠ []) (hu : isValidUtf8 tn = true)
    (hres : c.env.resolve tn = some iroot)
    (hdec : decRootTree { c with anyDepth := c.anyDepth + 1 } iroot tv = .ok fs) :
    let stored : PVal :=
      if fs.isEmpty then .anyJ5 tn [] tv.render .none "" (.msg [])
      else .anyJ5 tn [] tv.render .inn iroot (.msg fs)
    ∃ tlit nlit vlit,
      encValue c.env c.O (f + 1) (.any false) (.anyJ5 tn [] tv.render .none "" (.msg [])) =
        .ok (.obj (.cons typeKey tlit (.str tn nlit) (.cons valueKey vlit (chunkNode c.O tv.render) (.nil .closed)))) ∧
      decProp c props p
          (.obj (.cons typeKey tlit (.str tn nlit) (.cons valueKey vlit tv (.nil .closed)))) st =
        .ok { m := updPath props p (some stored) st.m, seen := p.jsonName :: st.seen } ∧
      encValue c.env c.O (f + 1) (.any false) stored =
        .ok (.obj (.cons typeKey tlit (.str tn nlit) (.cons valueKey vlit (chunkNode c.O tv.render) (.nil .closed)))) := by
  intro stored
  obtain ⟨tlit, nlit, vlit, henc⟩ := enc_any_j5 c.env c.O f tn [] tv.render .none "" (.msg []) hj hu
  refine ⟨tlit, nlit, vlit, henc, ?_, ?_⟩
  · exact dec_any_j5_p c hmode hdepth props p st tn tlit nlit vlit tv iroot fs hf hp hs hgb hc hd hres hdec
  · rw [← henc]
    cases fs with
    | nil => rfl
    | cons a b => exact enc_any_j5_stable c.env c.O (f + 1) tn [] [] tv.render .inn .none iroot "" _ _ hj

/-- **decimals that are not in normal form (one member, `_partial`)**. What the code does,
precisely: the encoder writes the stored text `s` verbatim as a quoted string; the decoder stores
`decimal.NewFromString(s).String()` (`O.parseDec s = some norm`). So for ANY decimal whose text
parses (normal form or not: `1.50`, `+1.5`, `1e3`, `001.5`) and is valid UTF-8, in any decoder state:
`decode (encode (.dec s)) = .dec norm` — the round trip holds **up to numeric normalisation**
(`canonScalar`), as a property value and as an array element; and `norm` is a fixpoint
(`OracleLaws.dec`): encoding the decoded value and decoding again returns it unchanged, so
`decode ∘ encode` is idempotent and everything after the first round trip is exact. Not part of the
whole-message theorem (`valOk` asks for normal form): that needs the decoder's results to be carried
through the induction up to `canonScalar`. -/
theorem C01_decimal_normalised_partial (c : Cfg) (L : OracleLaws c.O) (props : List PropDef)
    (p : PropDef) (st : PS) (s norm : Bytes) (f : Nat)
    (hf : p.field = .scalar .decimal) (hp : p.path ≠ []) (hs : p.jsonName ∉ st.seen)
    (hgb : groupBusy props p st.m = false) (hu : isValidUtf8 s = true)
    (hpd : c.O.parseDec s = some norm) :
    ∃ lit, encValue c.env c.O (f + 1) (.scalar .decimal) (.dec s) = .ok (.str s lit) ∧
      decProp c props p (.str s lit) st =
        .ok { m := updPath props p (some (.dec norm)) st.m, seen := p.jsonName :: st.seen } ∧
      (∀ rest acc, decElems c (.scalar .decimal) (.cons (.str s lit) rest) acc =
        decElems c (.scalar .decimal) rest (acc ++ [.dec norm])) ∧
      canonScalar c.O (.dec s) = .dec norm ∧
      (∀ lit', decProp c props p (.str norm lit') st =
        .ok { m := updPath props p (some (.dec norm)) st.m, seen := p.jsonName :: st.seen }) := by
  obtain ⟨lit, hl⟩ := enc_decimal c.env c.O f s hu
  refine ⟨lit, hl, dec_decimal_prop c props p st s lit norm hf hp hs hgb hpd,
    fun rest acc => dec_decimal_elem c s lit norm rest acc hpd, by simp [canonScalar, hpd],
    fun lit' => dec_decimal_prop c props p st norm lit' norm hf hp hs hgb (L.dec s norm hpd)⟩

/-! ## the codec's own output as the `j5_json` of an `Any` -/

/-- **the codec's own output is a recognisable chunk**: for a representable message of a flat
environment the bytes `Codec.ProtoToJSON` returns are the rendering of an encoder tree — exactly
what `ChunkLaws` asks of a recognised `j5_json`. So an `Any` whose `j5_json` was produced by the
codec itself (the case the property quantifies over) is covered by `C01_roundtrip_partial` with
an oracle that recognises those bytes (`oracleLaws_withChunk`: the text-oracle laws are not
affected), as long as the nesting depth stays ≤ 10000 (`maxNestingDepth` of `encoding/json`). -/
theorem C01_own_output_is_chunk (c : Cfg) (hs : c.env.flat = true) (L : OracleLaws c.O)
    (hC : c.env.noAny = true ∨ ChunkLaws c.O) (root : String) (m : Fields)
    (hok : valOk c.env c.O (.object root) (.msg m) = true ∨
      valOk c.env c.O (.oneof root) (.msg m) = true)
    (hM : ∃ mode, modeOkF mode (6 * (depthFields m + 1) + 9) 0 m = true) :
    ∃ (bs : Bytes) (V : PTree), encodeBytes c.env c.O root (.msg m) = .ok bs ∧ V.Enc ∧ V.render = bs ∧
      V.complete = true := by
  obtain ⟨mode, hM⟩ := hM
  obtain ⟨t, ht, _, _, hE⟩ := root_flat_enc { c with protoToAny := mode, anyDepth := 0 } hs L hC root m
    hok _ (Nat.le_refl _) hM
  have henc : encodeTree c.env c.O root (.msg m) = .ok t := ht
  exact ⟨t.render, t, by simp [encodeBytes, henc], hE, rfl, enc_complete t hE⟩

/-! ## Non-vacuity -/

/-- hypotheses of `C01_any_j5_partial`: the value `{}` -/
example : (PTree.obj (.nil .closed)).complete = true ∧ (PTree.obj (.nil .closed)).depth ≤ 10000 ∧
    (PTree.obj (.nil .closed)).render ≠ [] := by decide

/-- … and a property / decoder state meeting the remaining hypotheses -/
example : ({ jsonName := ascii "a", path := [7], pres := .msg, field := .any false } : PropDef).path ≠ [] ∧
    groupBusy [] { jsonName := ascii "a", path := [7], pres := .msg, field := .any false } [] = false ∧
    isValidUtf8 (ascii "t.v1.T") = true := by decide

/-- a flat environment with every supported construct: scalars of several kinds, an enum, a
recursive object reference, an array of objects, maps, a wrapper oneof, an **exposed oneof**
(`kind`, members in fields 20 / 21 of the object itself), an **anonymous proto oneof** (fields
30 / 31, ordinary optional properties that share proto oneof 1) and a **flattened object** (field
40: its properties `fa`, `fb.x` … are inlined with paths `[40, 1]`, `[40, 2]`, and a second level
`[40, 3, 1]`) -/
def sampleEnv : Env :=
  { defs := [
      ("t.E", .enum (ascii "E_") [(ascii "UNSPECIFIED", 0), (ascii "A", 1), (ascii "B", 2)]),
      ("t.W", .oneof [
        { jsonName := ascii "s", path := [1], pres := .opt, field := .scalar .string, group := some 0 },
        { jsonName := ascii "o", path := [2], pres := .msg, field := .object "t.M", group := some 0 }]),
      ("t.M_kind", .oneof [
        { jsonName := ascii "num", path := [20], pres := .opt, field := .scalar .int32, group := some 0 },
        { jsonName := ascii "sub", path := [21], pres := .msg, field := .object "t.M", group := some 0 }]),
      ("t.M", .object [
        { jsonName := ascii "name", path := [1], pres := .imp, field := .scalar .string },
        { jsonName := ascii "n", path := [2], pres := .opt, field := .scalar .int64 },
        { jsonName := ascii "e", path := [3], pres := .imp, field := .enum "t.E" },
        { jsonName := ascii "kids", path := [4], pres := .list, field := .array (.object "t.M") },
        { jsonName := ascii "tags", path := [5], pres := .map, field := .map (.scalar .string) },
        { jsonName := ascii "w", path := [6], pres := .msg, field := .oneof "t.W" },
        { jsonName := ascii "when", path := [7], pres := .msg, field := .scalar .date },
        { jsonName := ascii "raw", path := [8], pres := .imp, field := .scalar .bytes },
        { jsonName := ascii "es", path := [9], pres := .list, field := .array (.enum "t.E") },
        { jsonName := ascii "kind", path := [], pres := .none, field := .oneof "t.M_kind" },
        { jsonName := ascii "altA", path := [30], pres := .opt, field := .scalar .string, group := some 1 },
        { jsonName := ascii "altB", path := [31], pres := .opt, field := .scalar .bool, group := some 1 },
        { jsonName := ascii "fa", path := [40, 1], pres := .imp, field := .scalar .string },
        { jsonName := ascii "fb", path := [40, 2], pres := .msg, field := .object "t.M" },
        { jsonName := ascii "fc", path := [40, 3, 1], pres := .list, field := .array (.scalar .uint32) }])] }

/-- a message using all of it (optional-with-zero-value `n`, nested message in an array, a oneof
arm holding a message, a map with two keys, the exposed oneof's `sub` arm, one member of the
anonymous proto oneof with its zero value) -/
def sampleMsg : Fields :=
  [(1, .str (ascii "x")), (2, .int 0), (3, .enum 2),
   (4, .list [.msg [(1, .str [0xC3, 0xA9]), (20, .int 7)], .msg []]),
   (5, .map [(ascii "a", .str []), (ascii "b", .str (ascii "q\""))]),
   (6, .msg [(2, .msg [(2, .int (-5))])]),
   (7, .date 33 1 2), (8, .bytes [0, 255]), (9, .list [.enum 1, .enum 0]),
   (21, .msg [(31, .bool false)]), (30, .str []),
   (40, .msg [(2, .msg [(40, .msg [(1, .str (ascii "deep"))])]), (3, .msg [(1, .list [.uint 1, .uint 2])])])]

example : sampleEnv.flat = true := by decide +kernel
example : valOk sampleEnv toyOracle (.object "t.M") (.msg sampleMsg) = true := by decide +kernel
/-- two members of the anonymous proto oneof, or of the exposed oneof, are not representable -/
example : valOk sampleEnv toyOracle (.object "t.M") (.msg [(30, .str []), (31, .bool true)]) = false := by
  decide +kernel
example : valOk sampleEnv toyOracle (.object "t.M") (.msg [(20, .int 1), (21, .msg [])]) = false := by
  decide +kernel
/-- an empty flattened sub-message is not representable (C01 treats it as absent) -/
example : valOk sampleEnv toyOracle (.object "t.M") (.msg [(40, .msg [])]) = false := by decide

/-! ### with `Any` -/

/-- the chunk `{"k":1}` in parsed form -/
def chunkTree : PTree :=
  .obj (.cons (ascii "k") (ascii "\"k\"") (.num (ascii "1")) (.nil .closed))

/-- an oracle whose specification-side recogniser knows the chunk `{"k":1}` -/
def anyOracle : Oracle :=
  { toyOracle with chunk := fun bs => if bs = ascii "{\"k\":1}" then some chunkTree else none }

/-- an environment with j5 `Any` properties: a plain one and one inside a flattened object -/
def sampleAnyEnv : Env :=
  { defs := [
      ("t.A", .object [
        { jsonName := ascii "name", path := [1], pres := .imp, field := .scalar .string },
        { jsonName := ascii "payload", path := [2], pres := .msg, field := .any false },
        { jsonName := ascii "inner", path := [3, 1], pres := .msg, field := .any false },
        { jsonName := ascii "kids", path := [4], pres := .list, field := .array (.object "t.A") }])] }

def sampleAnyMsg : Fields :=
  [(1, .str (ascii "x")),
   (2, .anyJ5 (ascii "t.v1.T") [] (ascii "{\"k\":1}") .none "" (.msg [])),
   (3, .msg [(1, .anyJ5 (ascii "u") [] (ascii "{\"k\":1}") .none "" (.msg []))]),
   (4, .list [.msg [(2, .anyJ5 (ascii "t.v1.T") [] (ascii "{\"k\":1}") .none "" (.msg []))]])]

example : sampleAnyEnv.flat = true := by decide +kernel
example : sampleAnyEnv.noAny = false := by decide
example : valOk sampleAnyEnv anyOracle (.object "t.A") (.msg sampleAnyMsg) = true := by decide +kernel
/-- bytes the oracle does not recognise, or an `Any` that also carries proto content, are not
representable in the sense of the theorem -/
example : valOk sampleAnyEnv anyOracle (.object "t.A")
    (.msg [(2, .anyJ5 (ascii "t") [] (ascii "}") .none "" (.msg []))]) = false := by decide
example : valOk sampleAnyEnv anyOracle (.object "t.A")
    (.msg [(2, .anyJ5 (ascii "t") [8, 1] (ascii "{\"k\":1}") .none "" (.msg []))]) = false := by decide
example : OracleLaws anyOracle := oracleLaws_withChunk toyOracle toyOracle_laws _
example : ChunkLaws anyOracle := by
  intro bs V h
  simp only [anyOracle] at h
  split at h
  · cases h
    simp only [chunkTree, PTree.Enc, PMembers.Enc]
    exact ⟨LitOk_of_appendString _ _ (by decide), numOk_fmtNat 1, trivial⟩
  · cases h
/-- the real oracles (the driver's: `chunk` is never set) satisfy `ChunkLaws` trivially -/
example : ChunkLaws toyOracle := chunkLaws_default _ rfl

/-! ### empty flattened sub-messages -/

/-- the properties of `t.M` -/
def sampleProps : List PropDef :=
  match sampleEnv.find "t.M" with
  | some (.object ps) => ps
  | _ => []

/-- a message with an empty flattened sub-message (field 40) and one that is empty two levels down
(`40.3`): not representable itself, its canonical form drops them -/
def emptyFlatMsg : Fields := [(1, .str (ascii "x")), (40, .msg [(3, .msg [])])]

example : sampleEnv.find "t.M" = some (.object sampleProps) := by decide +kernel
example : valOk sampleEnv toyOracle (.object "t.M") (.msg emptyFlatMsg) = false := by decide
example : canonFlat sampleEnv sampleProps emptyFlatMsg = [(1, .str (ascii "x"))] := by rfl
example : asorted emptyFlatMsg = true ∧ sortedDeepF emptyFlatMsg = true := by decide
example : valOk sampleEnv toyOracle (.object "t.M")
    (.msg (canonFlat sampleEnv sampleProps emptyFlatMsg)) = true := by decide +kernel
/-- a flattened sub-message that holds a leaf is kept -/
example : canonFlat sampleEnv sampleProps
    [(40, .msg [(1, .str (ascii "deep")), (3, .msg [])])] = [(40, .msg [(1, .str (ascii "deep"))])] := by
  rfl

/-! ### protobuf `Any` -/

/-- an environment with a protobuf `Any` property and a resolver entry for the inner type -/
def samplePbEnv : Env :=
  { defs := [
      ("t.I", .object [{ jsonName := ascii "id", path := [1], pres := .imp, field := .scalar .string }]),
      ("t.P", .object [{ jsonName := ascii "any", path := [2], pres := .msg, field := .any true }])],
    res := [(ascii "t.v1.I", "t.I")] }

example : samplePbEnv.flat = true ∧ samplePbEnv.noJ5Any = true ∧ samplePbEnv.noAny = false := by decide
/-- a message that populates the protobuf `Any` (content `{id: "x"}` of `t.v1.I`) -/
def samplePbMsg : Fields :=
  [(2, .anyPb (anyPrefixB ++ ascii "t.v1.I") [] .inn "t.I" (.msg [(1, .str (ascii "x"))]))]

example : valOk samplePbEnv toyOracle (.object "t.P") (.msg samplePbMsg) = true := by decide +kernel
/-- the codec `WithProtoToAny` can decode it, the codec without cannot -/
example : ({ env := samplePbEnv, O := toyOracle, protoToAny := true } : Cfg).canDecode samplePbMsg := by
  decide
example : ¬ ({ env := samplePbEnv, O := toyOracle } : Cfg).canDecode samplePbMsg := by decide
/-- the message with j5 `Any` values: the codec without `WithProtoToAny` -/
example : ({ env := sampleAnyEnv, O := anyOracle } : Cfg).canDecode sampleAnyMsg := by decide
example : ∃ mode, modeOkF mode (6 * (depthFields samplePbMsg + 1) + 9) 0 samplePbMsg = true :=
  ⟨true, by decide⟩
example : samplePbEnv.resolve (ascii "t.v1.I") = some "t.I" := by decide
example : valOk samplePbEnv toyOracle (.object "t.I") (.msg [(1, .str (ascii "x"))]) = true := by decide
example : (({ env := samplePbEnv, O := toyOracle, protoToAny := true } : Cfg).anyDepth < maxAnyDepth) := by
  decide
example : 6 * (depthFields [(1, PVal.str (ascii "x"))] + 1) + 10 ≤ 10000 := by decide
example : groupBusy [] { jsonName := ascii "any", path := [2], pres := .msg, field := .any true } [] = false ∧
    isValidUtf8 (ascii "t.v1.I") = true := by decide

/-! ### an exposed oneof inlined from a flattened object -/

/-- the exposed oneof `kind` of the flattened object: members `num` (field 20) and `txt` (21) -/
def ioOps : List PropDef := [
  { jsonName := ascii "num", path := [20], pres := .opt, field := .scalar .int32, group := some 0 },
  { jsonName := ascii "txt", path := [21], pres := .opt, field := .scalar .string, group := some 0 }]

/-- the parent's properties after flattening field 40: the siblings `fa`, `fb` with paths `[40, x]`
and the oneof property `kind` with path `[40]` — a proper prefix of its siblings' paths -/
def ioKind : PropDef := { jsonName := ascii "kind", path := [40], pres := .msg, field := .oneof "t.K" }
def ioProps : List PropDef := [
  { jsonName := ascii "fa", path := [40, 1], pres := .imp, field := .scalar .string },
  ioKind,
  { jsonName := ascii "fb", path := [40, 2], pres := .imp, field := .scalar .bool }]
def ioEnv : Env := { defs := [("t.K", .oneof ioOps), ("t.P", .object ioProps)] }
def ioCfg : Cfg := { env := ioEnv, O := toyOracle }

/-- the environment is NOT flat (so `C01_roundtrip_partial` does not apply to it) -/
example : ioEnv.flat = false := by decide +kernel
/-- the decoder state after the member `fa` has been read, and the flattened sub-message of the
original message: the sibling leaf `fa = "x"` and the oneof member `num = 7` -/
def ioState : PS := { m := [(40, .msg [(1, .str (ascii "x"))])], seen := [ascii "fa"] }
def ioSub : Fields := [(1, .str (ascii "x")), (20, .int 7)]

/-- `C01_inlined_oneof_partial` at this instance: all hypotheses hold, and the decoder's message
afterwards holds the sibling leaf AND the member -/
example : ∃ t, encValue ioEnv toyOracle 4 (.oneof "t.K") (.msg ioSub) = .ok t ∧
    decProp ioCfg ioProps ioKind t ioState =
      .ok { m := updPath ioProps ioKind (some (.msg ioSub)) ioState.m, seen := ascii "kind" :: ioState.seen } := by
  refine C01_inlined_oneof_partial ioCfg ioProps ioKind ioState "t.K" ioOps rfl (by decide) (by decide)
    (by decide) (by decide) (by decide) (by decide) ioSub 1 (by decide) ?_ ?_
    (Or.inr ⟨ioOps.head!, by decide, 20, .int 7, rfl, rfl⟩)
  · intro q hq k v hqk hag
    simp only [ioOps, List.mem_cons, List.not_mem_nil, or_false] at hq
    rcases hq with rfl | rfl
    · cases hqk
      have hv : v = .int 7 := by
        simp [ioSub, aget] at hag
        exact hag.symm
      subst hv
      exact C01_member_facts_scalar ioCfg toyOracle_laws 0 _ .int32 (.int 7) rfl (by decide) (by decide)
    · cases hqk
      simp [ioSub, aget] at hag
  · intro q hq k hqk
    simp only [ioOps, List.mem_cons, List.not_mem_nil, or_false] at hq
    rcases hq with rfl | rfl <;> cases hqk <;> rfl
example : updPath ioProps ioKind (some (.msg ioSub)) ioState.m = [(40, .msg ioSub)] := by rfl

/-! ### j5 `Any` under `WithProtoToAny` -/

/-- hypotheses of `C01_any_j5_expanded_partial`: the value `{"id":"x"}` of type `t.v1.I`, which the
codec `WithProtoToAny` also expands to the content `{id: "x"}` -/
def expTree : PTree := .obj (.cons (ascii "id") (ascii "\"id\"") (.str (ascii "x") (ascii "\"x\"")) (.nil .closed))
def expEnv : Env :=
  { defs := [
      ("t.I", .object [{ jsonName := ascii "id", path := [1], pres := .imp, field := .scalar .string }]),
      ("t.Q", .object [{ jsonName := ascii "any", path := [2], pres := .msg, field := .any false }])],
    res := [(ascii "t.v1.I", "t.I")] }
example : expTree.complete = true ∧ expTree.depth ≤ 10000 ∧ expTree.render ≠ [] ∧
    isValidUtf8 (ascii "t.v1.I") = true ∧ expEnv.resolve (ascii "t.v1.I") = some "t.I" := by decide
example : decRootTree { env := expEnv, O := toyOracle, protoToAny := true, anyDepth := 0 + 1 } "t.I" expTree =
    .ok [(1, .str (ascii "x"))] := by rfl

/-- `C01_decimal_normalised_partial`: an oracle that normalises `1.50` to `1.5` (and knows `1.5`),
satisfying the laws -/
def normOracle : Oracle :=
  { toyOracle with
    parseDec := fun t =>
      if t = ascii "1.50" then some (ascii "1.5") else if t = ascii "1.5" then some (ascii "1.5") else none }
example : normOracle.parseDec (ascii "1.50") = some (ascii "1.5") ∧ isValidUtf8 (ascii "1.50") = true := by
  decide
example : OracleLaws normOracle :=
  { toyOracle_laws with
    dec := by
      intro s norm h
      simp only [normOracle] at h ⊢
      split at h
      · cases h; decide
      · split at h
        · cases h; decide
        · cases h }
/-- the oracle laws are satisfiable -/
example : OracleLaws toyOracle := toyOracle_laws

/-- representable values of several kinds (boundaries included) -/
example : scalarRepr toyOracle .int64 (.int (-9223372036854775808)) = true := by decide
example : scalarRepr toyOracle .uint64 (.uint 18446744073709551615) = true := by decide
example : scalarRepr toyOracle .date (.date 33 1 2) = true := by decide
example : scalarRepr toyOracle .date (.date 2024 2 29) = true := by decide
example : scalarRepr toyOracle .date (.date 2023 2 29) = false := by decide
example : scalarRepr toyOracle .float64 (.f64 0x3ff8000000000000) = true := by decide
example : scalarRepr toyOracle .float64 (.f64 0x7ff0000000000000) = false := by decide
example : scalarRepr toyOracle .bytes (.bytes [0, 255, 16]) = true := by decide
/-- a year below 1000 is zero-padded (pentops/j5 a89d26c; `%4d` would give `"  33-01-02"`) -/
example : dateString 33 1 2 = ascii "0033-01-02" := by decide

/-! ## source facts
Obligations over `J5V.Generated.Codec` (regenerated from /repo's current source by extract/codec.go at
every check run). Maintained by codec-go; they tie the model's case analysis to the switches in
the Go source. -/
section SourceFacts
open J5V.Generated.Codec

/-- both directions of the scalar codec cover the same schema kinds and formats -/
theorem C01_src_inverse_pair_coverage :
    reflectFromGoCases = goFromReflectCases ∧
    reflectFromGoIntegerFormats = goFromReflectIntegerFormats ∧
    reflectFromGoFloatFormats = goFromReflectFloatFormats := by decide +kernel

/-- the decoder parses timestamps with the layout that accepts everything the encoder's layout prints -/
theorem C01_src_timestamp_layouts :
    timestampEncodeLayout = "time.RFC3339Nano" ∧ timestampDecodeLayout = "time.RFC3339" ∧
    dateStringFormat = "%04d-%02d-%02d" := by decide

theorem C01_src_extractor_ok : codecExtractorOk = true := by decide

end SourceFacts

end J5V.Props.C01
