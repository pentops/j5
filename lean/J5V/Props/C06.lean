import J5V.Codec.QuerySteps
import J5V.Codec.DecodeProofs
import J5V.Json.TokenProofs
import J5V.Generated.CodecFacts
/-!
# C06 — the decoder is total: no input crashes, hangs or exhausts the stack

Property theorems only. `decodeBytes` / `decodeQuery` are the models of `Codec.JSONToProto` /
`Codec.QueryToProto` (`J5V.Codec.{Decode,Query}`), in which every partial Go operation is an
explicit `.panic` outcome.

* **No panic** is a theorem for every byte string / every `url.Values`, every target root and
  every environment whose array / map items are not themselves arrays or maps (`Env.itemsOk`,
  decidable; proto cannot express such fields, and the harness never produces them).
* **Termination / no unbounded recursion**: the JSON reader runs on fuel `length + 1`
  (`tokenize`, `readDoc`) and every decoder function is accepted by Lean as *structurally*
  recursive on the tree `readDoc bytes` — there is no `partial`, no well-founded recursion and
  no fuel in `J5V.Codec.Decode`; the recursion depth is the nesting depth of the document.
* **Time bounded by the input size**: `C06_linear` — the step count `decodeBytesN`
  (`J5V.Codec.Steps`, same recursion as the decoder, continuing a loop with the decoder's own
  intermediate results) is at most `1010 · |bs| + 2222`.
-/
namespace J5V.Props.C06
open J5V.Go J5V.Json J5V.Codec

/-- JSON decoding never panics: for all byte strings, all roots, all well-formed environments,
both codec modes, any oracle. -/
theorem C06_decode_no_panic (c : Cfg) (hc : c.env.itemsOk = true) (root : String) (bs : Bytes) :
    ∀ w, decodeBytes c root bs ≠ .panic w :=
  decodeBytes_np c hc root bs

/-- the same on the level the proof works on: every partial JSON tree, i.e. every sequence of
`Token()` results including every way the stream can fail -/
theorem C06_decode_tree_no_panic (c : Cfg) (hc : c.env.itemsOk = true) (root : String) (t : PTree) :
    ∀ w, decRootTree c root t ≠ .panic w :=
  decRootTree_np c hc root t

/-- URL-query decoding never panics: for all key / value-list sequences (empty keys, dotted
paths into every kind, repeated and empty value lists). -/
theorem C06_query_no_panic (c : Cfg) (hc : c.env.itemsOk = true) (root : String)
    (kvs : List (Bytes × List Bytes)) : ∀ w, decodeQuery c root kvs ≠ .panic w :=
  decodeQuery_np c hc root kvs

/-- the tokenizer model never runs out of fuel: its `length + 1` iterations always suffice (every
`Token()` call consumes at least one byte), so no document is mis-classified as failing because
of the fuel bound -/
theorem C06_tokenize_fuel_ok (bs : Bytes) : Item.fuel ∉ tokenize bs :=
  tokenize_no_fuel bs

/-- `scalarReflectFromGo` never panics, whatever token reaches it -/
theorem C06_scalar_no_panic (O : Oracle) (k : ScalarKind) (t : GoTok) :
    ∀ w, decodeScalar O k t ≠ .panic w :=
  decodeScalar_np O k t

/-- the oneof post-checks (`foundKeys[0]`, repaired by da8a625) never panic -/
theorem C06_oneof_post_no_panic (ops : List PropDef) (found : List Bytes) (ct : Option Bytes)
    (m : Fields) : ∀ w, oneofPost ops found ct m ≠ .panic w :=
  oneofPost_np ops found ct m

/-! ## time bounded by the input size -/

/-- **C06_linear (tree level)**: the number of steps of the decoder — `decRootTreeN`
(`Codec/Steps.lean`): one per `decodeValue` call, one per loop iteration, for an `Any` value the
nodes `Decoder.Decode(&raw)` and `json.Compact` re-scan plus, with `WithProtoToAny`, the steps of
decoding the value again one level deeper — is at most `2 · anyFactor c` steps per node of the
document, where `anyFactor c = maxAnyDepth - c.anyDepth + 1 ≤ 101`: every node is visited a bounded
number of times. For every environment (no hypothesis), every root, both modes, every tree.
Before repair 309b762 there was no such bound: nested `Any` values were re-read at every level
(and in the real code re-marshalled: cubic time). 
What is counted (and what is not): the cost function is hand-written (`Codec/Steps.lean`) and counts
VISITS of document nodes — one per `decodeValue` call, loop iteration and terminator, the re-scan of an
`Any` value, the nested decode. Per visit, scalar conversion costs 1 (it is linear in the token, by
assumption on `strconv` / `decimal` — the decimal exponent guard 158a5b4 is not visible here), and
`createField` / `seen.contains`, `findProp`, `acc ++ [pv]`, the duplicate-key check `mget`, `finalType`,
`updPath` and error-path construction (69f067c) cost NOTHING in this count although they are linear in
the schema size / the number of members read so far in the model. So the theorem says: every node
is visited at most `2 · anyFactor c ≤ 202` times; it does not by itself say "time linear in `|bs|`" —
the per-visit cost is bounded by the schema and member count, not modelled, and wall time is observed
only by the Go-side `codec.stress` / `codec.fuzz` time bounds. -/
theorem C06_linear_tree (c : Cfg) (root : String) (t : PTree) :
    decRootTreeN c root t ≤ anyFactor c * (2 * t.size) :=
  decRootTreeN_le c root t

/-- **C06_linear**: `Codec.JSONToProto` on `bs` (fresh codec: `anyDepth = 0`) takes at most
`1010 · |bs| + 2222` decoder steps after one tokenisation pass: linear in the input size. (The
tree has at most five nodes per token, `readDoc_size`; the tokenizer delivers at most one token
per byte, `tokenize_length`, and never exhausts its fuel, `C06_tokenize_fuel_ok`.) -/
theorem C06_linear (c : Cfg) (hd : c.anyDepth = 0) (root : String) (bs : Bytes) :
    decodeBytesN c root bs ≤ 1010 * bs.length + 2222 :=
  decodeBytesN_linear c hd root bs

/-- **recursion depth**: every decoder function is structurally recursive on the document tree,
so the depth of its recursion is at most the nesting depth of the document (plus, per enclosing
`Any`, one restart — at most `maxAnyDepth` of them), and the nesting depth is at most the size:
no recursion without bound -/
theorem C06_depth_le_size (bs : Bytes) : (readDoc bs).depth ≤ 5 * bs.length + 11 :=
  Nat.le_trans (depth_le_size _) (readDoc_size bs)

/-- environment with an array of arrays (not expressible in proto) -/
def badProp : PropDef :=
  { jsonName := [0x61], path := [1], pres := .list, field := .array (.array (.scalar .string)) }

def badEnv : Env := { defs := [("r", .object [badProp])] }

/-- The hypothesis `itemsOk` is needed: `newFieldFactory` does panic on an array of arrays. -/
theorem C06_itemsOk_needed :
    decRootTree { env := badEnv, O := default } "r"
      (.obj (.cons [0x61] [] (.arr (.nil .closed)) (.nil .closed))) =
      .panic "invalid schema for leaf field" := by
  rfl

/-! ## Non-vacuity -/

/-- a realistic environment (object with scalar, enum, array-of-object, map, oneof, any members,
a recursive reference) satisfies `itemsOk` -/
def sampleEnv : Env :=
  { defs := [
      ("t.E", .enum (ascii "E_") [(ascii "UNSPECIFIED", 0), (ascii "A", 1)]),
      ("t.W", .oneof [
        { jsonName := ascii "s", path := [1], pres := .opt, field := .scalar .string, group := some 0 },
        { jsonName := ascii "o", path := [2], pres := .msg, field := .object "t.M", group := some 0 }]),
      ("t.M", .object [
        { jsonName := ascii "name", path := [1], pres := .imp, field := .scalar .string },
        { jsonName := ascii "n", path := [2], pres := .opt, field := .scalar .int64 },
        { jsonName := ascii "e", path := [3], pres := .imp, field := .enum "t.E" },
        { jsonName := ascii "kids", path := [4], pres := .list, field := .array (.object "t.M") },
        { jsonName := ascii "tags", path := [5], pres := .map, field := .map (.scalar .string) },
        { jsonName := ascii "w", path := [6], pres := .msg, field := .oneof "t.W" },
        { jsonName := ascii "any", path := [7], pres := .msg, field := .any false },
        { jsonName := ascii "flat", path := [8, 1], pres := .imp, field := .scalar .bool }])] }

example : sampleEnv.itemsOk = true := by decide +kernel

/-- a fresh codec has `anyDepth = 0` (hypothesis of `C06_linear`) -/
example : ({ env := sampleEnv, O := default } : Cfg).anyDepth = 0 := rfl

/-- the step count is not vacuous: `{"name":"x","n":"5"}` takes 6 steps (root, two members with
their values, terminator), `{"kids":[{}]}` takes 8 -/
example : decRootTreeN { env := sampleEnv, O := default } "t.M"
    (.obj (.cons (ascii "name") [] (.str (ascii "x") [])
      (.cons (ascii "n") [] (.str (ascii "5") []) (.nil .closed)))) = 6 := by decide +kernel
example : decRootTreeN { env := sampleEnv, O := default } "t.M"
    (.obj (.cons (ascii "kids") [] (.arr (.cons (.obj (.nil .closed)) (.nil .closed))) (.nil .closed))) = 8 := by
  decide +kernel

/-! ## URL queries: the step bound -/

/-- **step bound of URL-query decoding**: `decodeQueryN` (`Codec/QuerySteps.lean`) counts the
steps of `Codec.QueryToProto` in the style of `decRootTreeN` — same recursion as `decodeQuery` /
`queryKey`, continuing with the decoder's own intermediate states: one step per key, one per byte of
the key (`strings.Split`), one per path segment (`propertyAtPath`), one per value, and for a
container-valued parameter the decoder steps on its JSON text. Bound for every environment, root, mode
and every key / value list: `1 + Σ queryCost`, with `queryCost (key, values) = 2·|key| + 4 + |values| +
docBound values`, `docBound [v] = anyFactor c · 2 · (5·|TrimSpace v| + 11)` (only a single value can be a
document) and `0` otherwise. Same cost model as `C06_linear_tree` (visits, not instructions: `findProp`,
`propertyName` / `ToLowerCamel`, `seen.contains`, `updAt` cost nothing in the count; scalar conversion 1). -/
theorem C06_query_steps (c : Cfg) (root : String) (kvs : List (Bytes × List Bytes)) :
    decodeQueryN c root kvs ≤ 1 + (kvs.map (queryCost c)).sum :=
  decodeQueryN_le c root kvs

/-- **… linear in the size of the query** for a fresh codec: per key at most `2·|key| + |values| +
1010·Σ|v| + 2226` steps (`TrimSpace` never lengthens a value: `trimSpace_length`; `strings.Split`
returns at most `|key| + 1` segments: `splitDot_length`). Together with `C06_query_no_panic` this is
the query half of "return either success or an error in time bounded by the input size". -/
theorem C06_query_linear (c : Cfg) (hd : c.anyDepth = 0) (root : String)
    (kvs : List (Bytes × List Bytes)) :
    decodeQueryN c root kvs ≤ 1 + (kvs.map queryCostLin).sum :=
  decodeQueryN_linear c hd root kvs

/-- the query step count is not vacuous: `name=x` takes 9 steps, `w.s=x&n=5` takes 14 -/
example : decodeQueryN { env := sampleEnv, O := default } "t.M" [(ascii "name", [ascii "x"])] = 9 := by decide +kernel
example : decodeQueryN { env := sampleEnv, O := default } "t.M"
    [(ascii "w.s", [ascii "x"]), (ascii "n", [ascii "5"])] = 14 := by decide +kernel

/-! ## source facts
Obligations over `J5V.Generated.Codec` (regenerated from /repo's current source by extract/codec.go at
every check run). Maintained by codec-go; they tie the model's case analysis to the switches in
the Go source. -/
section SourceFacts
open J5V.Generated.Codec

/-- E6: `decodeValue` handles every `PropertyType` constant, `property.PropertyType` maps every
j5schema field schema type to one of them, and the fall-through arms are errors, not panics. -/
theorem C06_src_decode_switch_coverage :
    decodeValueCases = propertyTypeConsts ∧ propertyTypeSwitchResults = propertyTypeConsts ∧
    propertyTypeSwitchSchemas = fieldSchemaTypes ∧ decodeValueDefaultIsError = true := ⟨rfl, rfl, rfl, rfl⟩

/-- every scalar member of the `schema_j5pb.Field` oneof has an arm in `scalarReflectFromGo`
(the remaining members are the container kinds handled by `decodeValue`) -/
theorem C06_src_scalar_kinds_covered :
    (fieldTypeMembers.filter fun m => m ∉ ["Field_Array", "Field_Map", "Field_Object", "Field_Oneof", "Field_Enum"]) =
      reflectFromGoCases ∧
    reflectFromGoIntegerFormats = ["INT32", "INT64", "UINT32", "UINT64"] ∧
    reflectFromGoFloatFormats = ["FLOAT32", "FLOAT64"] := ⟨by decide +kernel, rfl, rfl⟩

/-- **the `Any` nesting bound of 309b762 ↔ `maxAnyDepth` / `Cfg.anyDepth`** (what
`C06_linear_tree`'s factor `anyFactor` rests on): the Go constant has the model's value, the check
`dec.anyDepth >= maxAnyDepth` is an error arm of `decodeAny` (model: `c.anyDepth ≥ maxAnyDepth` in
`decAnyMembers`), the nested decode runs at `dec.anyDepth + 1` (model: `{ c with anyDepth :=
c.anyDepth + 1 }`), and the two entry points start at depth `0`. -/
theorem C06_src_any_depth_bound :
    maxAnyDepthConst = J5V.Codec.maxAnyDepth ∧
    ("dec.anyDepth >= maxAnyDepth", "err") ∈ decodeAnyIfs ∧
    decodeAnyNestedDepthArgs = ["dec.anyDepth + 1"] ∧
    decodeRootDepthArgs = ["0", "0"] := ⟨rfl, by decide, rfl, rfl⟩

/-- the two remaining type switches of the decoder have an arm for every kind the model
distinguishes and an ERROR (not a panic, not a fall-through) as default: `decodeRootNested` (object /
oneof root; model `decRootTree`) and `decodeMapField` (scalar / enum / object / oneof values; model
`decMapMembers`, whose last arm is `.err "unknown map schema type"`) -/
theorem C06_src_root_and_map_switches :
    decodeRootNestedCases = ["Object", "Oneof"] ∧ decodeRootNestedDefaultIsError = true ∧
    decodeMapFieldCases = ["MapOfScalarField", "MapOfEnumField", "MapOfObjectField", "MapOfOneofField"] ∧
    decodeMapFieldDefaultIsError = true := ⟨rfl, rfl, rfl, rfl⟩

theorem C06_src_extractor_ok : codecExtractorOk = true := by decide

end SourceFacts

end J5V.Props.C06
