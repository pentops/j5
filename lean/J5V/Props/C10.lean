import J5V.Conc.SchedProofs
import J5V.Conc.SchedFlat
import J5V.Conc.SchedSerial
import J5V.Conc.SchedLocal
import J5V.Conc.SchedHB
import J5V.Conc.SchedHBDec
import J5V.Conc.SchedRW
import J5V.Conc.SchedRWSerial
import J5V.Conc.CacheProofs
import J5V.Conc.ClashProofs
import J5V.Conc.CacheSched
import J5V.Generated.LocksFacts
/-!
# C10 — shared codecs and schema caches are safe for concurrent use

Only the property theorems and their non-vacuity examples live here, and the obligations over the
tables regenerated from the Go source with the definitions they are stated in (`codeGuarded` …).

* `Sched` part: for **any** number of threads, **any** thread programs and **any** schedule.
  Locks are reader/writer locks with Go's writer preference (`Conc/Sched.lean`).
  - Race freedom in the happens-before sense (`RaceHB`: two conflicting accesses not ordered by
    program order + the synchronisation edges of `sync.Mutex`/`sync.RWMutex`):
    `C10_hb_publication` — writes under the write lock, reads of unpublished locations under at
    least the read lock, reads of *published* locations anywhere provided the execution obeys the
    publication rule (`PubOrdered`: the reader acquired the lock between the write and its read) —
    with the lockset theorems `C10_guarded_hb_race_free` (mutex) and
    `C10_rw_guarded_hb_race_free` (reader/writer) as the special case "nothing published".
  - The same disciplines exclude co-enabled conflicting accesses (`C10_guarded_race_free`,
    `C10_rw_guarded_race_free`).
  - Flat locking (no acquisition, in either mode, while a lock is held) excludes deadlock, also
    with waiting writers blocking new readers (`C10_no_deadlock`, `C10_can_finish`).
  - When every operation is one critical section of a mutex every schedule produces exactly the
    state (memory, every thread's observations) of a sequential execution of the operations in
    some order (`C10_serialisable`); with read sections, write sections run in isolation and read
    sections see one snapshot (`C10_rw_write_sections_isolated`), and a completed run is a sequential
    execution of whole operations in the order of their completion (`C10_rw_serialisable`).
* `Cache` part: for **any** descriptor graph (shared sub-schemas, self / mutual recursion, failing
  members) and **any** cache reachable by earlier requests, a request returns what it returns on
  an empty cache (`C10_cache_transparent`); a failed request leaves no trace; what has been
  returned is never modified again.
* Code part: the tables regenerated from the Go source by `extract/locks.go` satisfy the
  disciplines (`decide` over the whole tables).
* After the examples: the finding on colliding schema names (`C10_name_clash_*`), and N goroutines
  calling the cache under its mutex (`C10_concurrent_*`, `Conc/CacheSched.lean`).

Scope ("partial"): the theorems are about the lock discipline the extractor can see and about
the cache algorithm; the Go memory model (the synchronisation edges above; data-race-free programs
are sequentially consistent), the Go runtime and thread-safety inside protobuf-go are trusted.
-/
namespace J5V.Props.C10
open J5V.Conc.Sched J5V.Conc.Cache

/-! ## Any N, any schedule: race freedom -/

/-- **Publication.** Static discipline: every write under the write lock of `l`, every read of a
location outside `X` under the read or write lock, `l` flat. Rule of the execution: a location of
`X` is read by another thread only after that thread acquired `l` (in either mode) after the
write. Then no two conflicting accesses are unordered by happens-before.
**Given `PubOrdered`**: the rule of the execution is a hypothesis (`hpub`), it is not derived here for
any program — for the real code its static half is the extractor's table (`C10_code_published_dominated`:
every published read is dominated by a call through the lock), its dynamic half lives on the cache model
(`C10_no_unlinked_visible`, `C10_published_frozen`); the two halves are not connected by a theorem.
A program + schedule for which `PubOrdered` is *proved* (and one for which it fails and a race
follows) is `pubProg` / `pubGood` / `pubBad` below. -/
theorem C10_hb_publication (wv : WriteFn) (l : Nat) (X : Nat → Bool) (p : Prog) (h : PubGuardedBy l X p)
    (sched : List Nat) (hpub : PubOrdered l X (trace wv p sched)) : ¬ RaceHB (trace wv p sched) :=
  hb_race_free wv l X p h sched hpub

/-- Reader/writer lock discipline ⇒ no happens-before race (nothing published). -/
theorem C10_rw_guarded_hb_race_free (wv : WriteFn) (l : Nat) (p : Prog) (h : RWGuardedBy l p) :
    ∀ sched : List Nat, ¬ RaceHB (trace wv p sched) :=
  fun sched => hb_race_free wv l _ p h sched (pubOrdered_empty l _)

/-- Mutex discipline ⇒ no happens-before race: the lockset theorem as a corollary. -/
theorem C10_guarded_hb_race_free (wv : WriteFn) (l : Nat) (p : Prog) (h : AllGuardedBy l p) :
    ∀ sched : List Nat, ¬ RaceHB (trace wv p sched) :=
  C10_rw_guarded_hb_race_free wv l p (allGuarded_pubGuarded l _ p h)

/-- Happens-before races are decidable: the detector `raceHBb` (reachability through increasing
positions of the trace) says yes exactly when there is one. -/
theorem C10_race_detector (tr : List Ev) : RaceHB tr ↔ raceHBb tr = true := raceHB_iff tr

/-- The trace is the trace of `run`: the traced machine goes through the same states. -/
theorem C10_trace_of_run (wv : WriteFn) (p : Prog) (sched : List Nat) : (trun wv p sched).st = run wv p sched :=
  trun_st wv p sched

/-- Writes under the write lock and reads under at least the read lock ⇒ no two conflicting
accesses are ever enabled together, in every state reachable under every schedule. -/
theorem C10_rw_guarded_race_free (wv : WriteFn) (l : Nat) (p : Prog) (h : RWGuardedBy l p) :
    ∀ sched : List Nat, ¬ Race (run wv p sched) :=
  fun sched => gi_no_race l _ (gix_runFrom wv l _ (disc_pub l _) sched _ (gi_init l _ p h))

/-- Lock discipline (mutex) ⇒ no data race, in every state reachable under every schedule. -/
theorem C10_guarded_race_free (wv : WriteFn) (l : Nat) (p : Prog) (h : AllGuardedBy l p) :
    ∀ sched : List Nat, ¬ Race (run wv p sched) :=
  C10_rw_guarded_race_free wv l p (allGuarded_pubGuarded l _ p h)

/-! ## Any N, any schedule: deadlock freedom, serialisability -/

/-- No nested acquisition (any number of reader/writer locks, waiting writers block new readers)
⇒ as long as some thread is unfinished, some thread can take a step, in every state reachable
under every schedule. -/
theorem C10_no_deadlock (wv : WriteFn) (p : Prog) (h : NoNesting p) (sched : List Nat)
    (hnd : ¬ AllDone (run wv p sched)) : ∃ i, Enabled (run wv p sched) i :=
  finv_enabled _ (finv_run wv p h sched) hnd

/-- An enabled thread really moves: its next action is consumed. -/
theorem C10_enabled_progress (wv : WriteFn) (s : State) (i : Nat) (h : Enabled s i) :
    ∃ a r, s.rem[i]? = some (a :: r) ∧ (step wv s i).rem = s.rem.set i r :=
  enabled_step_rem wv s i h

/-- … until all are done: whatever has been scheduled so far, the run can be completed (every
thread finishes all its calls; nobody is blocked for ever). -/
theorem C10_can_finish (wv : WriteFn) (p : Prog) (h : NoNesting p) (sched : List Nat) :
    ∃ more : List Nat, AllDone (run wv p (sched ++ more)) := by
  obtain ⟨more, hm⟩ := finv_can_finish wv _ (run wv p sched) (finv_run wv p h sched) rfl
  exact ⟨more, by simpa [run, runFrom, List.foldl_append] using hm⟩

/-- Every operation one critical section ⇒ every reachable state is a sequential state plus a
proper prefix of one operation of one thread. -/
theorem C10_serialisable_prefix (wv : WriteFn) (l : Nat) (p : Prog) (h : OpsProg l p) (sched : List Nat) :
    (∃ order, run wv p sched = runSeq wv p order) ∨
    (∃ order i k, run wv p sched = stepN wv (runSeq wv p order) i k ∧
        0 < k ∧ k < opLen ((runSeq wv p order).rem.getD i [])) :=
  (good_run wv l p h sched).seq_or_prefix

/-- … and a completed run is exactly a sequential execution of the operations in some order:
same memory, same observations of every thread. -/
theorem C10_serialisable (wv : WriteFn) (l : Nat) (p : Prog) (h : OpsProg l p) (sched : List Nat)
    (hdone : AllDone (run wv p sched)) : ∃ order, run wv p sched = runSeq wv p order :=
  (good_run wv l p h sched).seq_of_allDone hdone

/-- The same when threads also take local steps between their operations (the work a goroutine does
with what a call returned): the results — shared memory and everything each thread has read — of a
completed run are those of a sequential execution of the operations in some order. -/
theorem C10_serialisable_local (wv : WriteFn) (l : Nat) (p : Prog) (h : OpsProgT l p) (sched : List Nat)
    (hdone : AllDone (run wv p sched)) :
    ∃ order, (run wv p sched).mem = (runSeq wv (stripProg p) order).mem ∧
      (run wv p sched).logs = (runSeq wv (stripProg p) order).logs := by
  obtain ⟨sched', hrel⟩ := rel_runFrom wv l sched (init p) (init (stripProg p)) (rel_init l p) (tinv_init l p h)
  have hdone' := rel_allDone l _ _ hrel hdone
  obtain ⟨order, ho⟩ := C10_serialisable wv l (stripProg p) (opsProg_strip l p h) sched' hdone'
  obtain ⟨_, _, _, hm, hlg, _, _⟩ := hrel
  refine ⟨order, ?_, ?_⟩
  · rw [← ho]; exact hm.symm
  · rw [← ho]; exact hlg.symm

/-- Reader/writer operations (write sections `lock … unlock`, read-only read sections
`rlock … runlock`): write sections are serialised with everything — while a thread is inside one,
no step of any other thread changes the memory or anybody's observations — and nothing is written
while a read lock is held (a read section sees one snapshot). -/
theorem C10_rw_write_sections_isolated (wv : WriteFn) (l : Nat) (p : Prog) (h : RWOpsProg l p) (sched : List Nat) :
    (∀ i j, (run wv p sched).owner l = some i → j ≠ i →
      (step wv (run wv p sched) j).mem = (run wv p sched).mem ∧
      (step wv (run wv p sched) j).logs = (run wv p sched).logs) ∧
    ((run wv p sched).readers l ≠ [] → ∀ j, (step wv (run wv p sched) j).mem = (run wv p sched).mem) := by
  have hg := gix_rwOps_run wv l p h sched
  exact ⟨fun i j hi hij => rw_write_isolated wv l _ hg i j hi hij, fun hr j => rw_read_snapshot wv l _ hg j hr⟩

/-- … and a completed run of reader/writer operations (read sections may overlap) is exactly a
sequential execution of whole operations, in the order in which they completed: same memory, same
observations of every thread. So a lookup under the read lock sees the cache as some sequence of
whole builds left it. -/
theorem C10_rw_serialisable (wv : WriteFn) (l : Nat) (p : Prog) (h : RWOpsProg l p) (sched : List Nat)
    (hdone : AllDone (run wv p sched)) :
    ∃ order, (run wv p sched).mem = (runSeqRW wv p order).mem ∧
      (run wv p sched).logs = (runSeqRW wv p order).logs ∧
      (run wv p sched).rem = (runSeqRW wv p order).rem :=
  rw_serialisable wv l p h sched hdone

/-! ## The cache -/

/-- A request returns what it returns alone, whatever was cached before: same verdict, and on
success the same linked schema for every schema reachable from the root. -/
theorem C10_cache_transparent (G : Graph) (c : Cache) (hc : Reachable G c) (d : Nat) :
    (schemaOf G c d).2 = (schemaOf G emptyCache d).2 ∧
    ((schemaOf G c d).2 = .ok → ∀ m, Reach G d m →
      find (schemaOf G c d).1 m = some (some (shallow G m)) ∧
      find (schemaOf G emptyCache d).1 m = some (some (shallow G m))) :=
  schemaOf_transparent G c emptyCache (reachable_inv G c hc) (inv_empty G) d

/-- Consequence for any sequence of requests (= any sequential order of the calls of any number
of goroutines, by `C10_serialisable`): the k-th call answers as it would alone. -/
theorem C10_calls_as_alone (G : Graph) (ds : List Nat) (d : Nat) :
    (schemaOf G (runReqs G emptyCache ds) d).2 = (schemaOf G emptyCache d).2 :=
  (C10_cache_transparent G _ (reachable_runReqs G _ Reachable.empty ds) d).1

/-- No caller can observe a placeholder: between calls every registered ref is linked. -/
theorem C10_no_unlinked_visible (G : Graph) (c : Cache) (hc : Reachable G c) (m : Nat) (e : Entry)
    (h : find c m = some e) : e = some (shallow G m) :=
  (reachable_inv G c hc m e h).1

/-- A failed request leaves the cache as it found it. -/
theorem C10_failed_build_leaves_no_trace (G : Graph) (c : Cache) (hc : Reachable G c) (d : Nat)
    (h : (schemaOf G c d).2 = .err) : ∀ m, find (schemaOf G c d).1 m = find c m :=
  (schemaOf_spec G c (reachable_inv G c hc) d).err_same h

/-- Published schemas are frozen: an entry, once visible, is never changed by later requests
(so reads outside the lock of what `Schema` returned never conflict with a later write). -/
theorem C10_published_frozen (G : Graph) (c : Cache) (hc : Reachable G c) (ds : List Nat) (m : Nat)
    (e : Entry) (h : find c m = some e) : find (runReqs G c ds) m = some e := by
  induction ds generalizing c with
  | nil => exact h
  | cons d ds ih =>
    exact ih _ (Reachable.step c d hc) ((schemaOf_spec G c (reachable_inv G c hc) d).keeps m e h)

/-- For a request whose closure builds (`GoodFrom G n`: every schema it reaches is well formed) the
recursion bound of the model is not the reason for a failure: the build with fuel `G.length + 1`
succeeds. (For a closure that does not build the answer is `.err` whatever the fuel, by
`schemaOf_spec`: `.ok ↔ GoodFrom`; the theorem says nothing more about that case.) -/
theorem C10_fuel_never_exhausted (G : Graph) (c : Cache) (n : Nat) (hg : GoodFrom G n) :
    (buildNode G (G.length + 1) c n).2 = true :=
  buildNode_fuel_enough G _ c n (Nat.lt_succ_of_le (unreg_le G c)) hg

/-! ## The code: obligations over the tables regenerated from the Go source (E7) -/

open J5V.Generated.Locks

/-- the mutex of `SchemaCache` (whatever the field is called; there must be exactly one) -/
def cacheLock : String :=
  match cacheLocks with
  | [l] => l
  | _ => "?"

def muId : Nat := lockNames.findIdx (· == cacheLock)

/-- held as the writer: `mu.Lock()` -/
def isW (g : Option Nat) : Bool := g == some muId && decide (muId < lockNames.length)

/-- held at least as a reader: `mu.Lock()`, `mu.RLock()`, or a helper only reached under one of them -/
def isRW (g : Option Nat) : Bool :=
  match g with
  | some k =>
    match lockNames[k]? with
    | some n => n == cacheLock || n == cacheLock ++ ".R" || n == cacheLock ++ "+" ++ cacheLock ++ ".R"
    | none => false
  | none => false

/-- accesses that the discipline requires to be under the lock: every write to a location that is
mutated after construction, and every access to a map or to a field of the struct that owns the
mutex (the cache index) or to a package-level variable -/
def mustGuard (a : Access) : Bool := a.write || a.isMap || a.lockOwner

/-- reader/writer discipline with one lock: writes hold it as the writer, the other protected
accesses at least as a reader -/
def codeGuarded : Bool := accesses.all (fun a => !mustGuard a || (if a.write then isW a.guard else isRW a.guard))

def isCacheSite (s : LockSite) : Bool :=
  match lockNames[s.lock]? with
  | some n => n == cacheLock || n == cacheLock ++ ".R"
  | none => false

def codeLockSites : Bool :=
  lockSites.all (fun s => !s.nested && (if isCacheSite s then s.deferredUnlock else s.leaf)) &&
  lockSites.any (fun s => s.lock == muId)

/-- The extractor found the three `Codec` entry points and the `Reflector` ones, the one lock of
the cache and guarded map writes. -/
theorem C10_code_extracted :
    rootsFound = 3 ∧ extraRoots.length ≥ 2 ∧ cacheLocks.length = 1 ∧ lockNames[muId]? = some cacheLock ∧
    accesses.any (fun a => a.write && a.isMap && isW a.guard) = true := by decide +kernel

/-- Every access that must be guarded is dominated by `mu.Lock()` + deferred `Unlock` (a read also
by `mu.RLock()` + deferred `RUnlock`) or lies in a helper only called with the lock held: one and
the same lock for every protected location. This is what breaks when a `Lock` is stripped, a map
access moves outside the lock, or the lock is split in two. -/
theorem C10_code_guarded : codeGuarded = true := by decide +kernel

/-- Every acquisition of the cache lock (in either mode) releases by `defer`, no acquisition is
reachable from a position where a lock is already held (no nesting, in either mode), other locks
are leaf locks: the premise of `C10_no_deadlock`; every `Schema` call is one critical section: the
premise of `C10_serialisable` / `C10_rw_write_sections_isolated`, hence lookups only ever see the
cache between whole builds (the premise `Reachable` of `C10_no_unlinked_visible`). -/
theorem C10_code_locksites : codeLockSites = true := by decide +kernel

/-- Nothing the extractor could not classify. -/
theorem C10_code_no_unknown : unknownLocations = 0 ∧ opaqueShared = [] := by decide

/-- **Published reads.** Every read outside the lock of a location that is written under it (the
fields of the schemas a `Schema` call returned: `RefSchema.To`, `ObjectSchema.Properties`, …) can
only be executed by a goroutine that has been through an obtainer — `SchemaCache.Schema`, or a
function that unconditionally calls one (`Reflector.NewRoot`, …) — since it entered the codec:
the static half of the publication rule (`PubOrdered`: the reader acquired the lock between the
write and its read). And these are all the unguarded rows of the table. -/
theorem C10_code_published_dominated :
    publishedReads.all (·.dominated) = true ∧ publishedReads.length > 10 ∧
    obtainers.contains "j5schema.SchemaCache.Schema" = true ∧
    (accesses.filter (fun a => !isRW a.guard)).length = publishedReads.length ∧
    (accesses.filter (fun a => !isRW a.guard)).all (fun a => !a.write && !mustGuard a) = true := by decide +kernel

/-- **Shared state beyond the cache index.** Of every package-level variable and every field of a
type reachable from the package-level variables (the default codecs among them), `Codec` and
`Reflector`: what is written by a function on the path is written under the write lock of the
cache (or inside a `sync.Once`); everything else is immutable after construction. -/
theorem C10_code_no_unguarded_shared_write :
    sharedState.all (fun r => !r.writtenOnPath || r.guarded) = true ∧
    sharedState.any (fun r => r.name == "Package.Schemas" && r.writtenOnPath && r.guarded) = true ∧
    sharedState.any (fun r => r.name == "var codec.Global" && !r.writtenOnPath) = true ∧
    sharedState.any (fun r => r.name == "var j5codec.Global" && !r.writtenOnPath) = true ∧
    sharedState.any (fun r => r.name == "Codec.refl" && !r.writtenOnPath) = true ∧
    sharedState.any (fun r => r.name == "Reflector.schemaSet" && !r.writtenOnPath) = true := by decide +kernel

/-! ### instantiation of the race theorems on the extracted sites -/

def act (a : Access) (x : Nat) : Action := if a.write then .write x else .read x

/-- The trace of one extracted access site on the concrete location `x`: inside a write section of
lock 0 when the table says the cache lock guards it as the writer, inside a read section when it
says "at least as a reader", bare otherwise (one section per access: finer than the code, hence
more interleavings). -/
def siteTrace (s : Access × Nat) : Thread :=
  if isW s.1.guard then [.lock 0, act s.1 s.2, .unlock 0]
  else if isRW s.1.guard then [.rlock 0, act s.1 s.2, .runlock 0]
  else [act s.1 s.2]

def codeThread (sites : List (Access × Nat)) : Thread := sites.flatMap siteTrace

theorem C10_code_write_rows_hold_write_lock (a : Access) (ha : a ∈ accesses) (hw : a.write = true) : isW a.guard = true := by
  have := List.all_eq_true.mp C10_code_guarded a ha
  simpa [mustGuard, hw] using this

theorem C10_code_writer_is_reader (g : Option Nat) (h : isW g = true) : isRW g = true := by
  simp only [isW, Bool.and_eq_true, beq_iff_eq, decide_eq_true_eq] at h
  obtain ⟨rfl, _⟩ := h
  obtain ⟨_, _, _, hmu, _⟩ := C10_code_extracted
  simp [isRW, hmu]

theorem C10_code_thread_disciplined (X : Nat → Bool) (sites : List (Access × Nat))
    (h : ∀ s ∈ sites, s.1 ∈ accesses ∧ (isRW s.1.guard = false → X s.2 = true)) :
    pubGuardedFrom 0 X .N (codeThread sites) = true := by
  induction sites with
  | nil => rfl
  | cons s sites ih =>
    obtain ⟨hs, hX⟩ := h s (List.mem_cons_self ..)
    have hrest := ih (fun b hb => h b (List.mem_cons_of_mem s hb))
    simp only [codeThread, List.flatMap_cons] at hrest ⊢
    by_cases hW : isW s.1.guard = true
    · have hst : siteTrace s = [.lock 0, act s.1 s.2, .unlock 0] := by simp [siteTrace, hW]
      rw [hst]
      cases hw : s.1.write <;> simp [act, hw, pubGuardedFrom, hrest]
    · have hnw : s.1.write = false := by
        cases hw : s.1.write with
        | false => rfl
        | true => exact absurd (C10_code_write_rows_hold_write_lock s.1 hs hw) hW
      by_cases hR : isRW s.1.guard = true
      · have hst : siteTrace s = [.rlock 0, act s.1 s.2, .runlock 0] := by simp [siteTrace, hW, hR]
        rw [hst]
        simp [act, hnw, pubGuardedFrom, hrest]
      · have hRf : isRW s.1.guard = false := by simpa using hR
        have hst : siteTrace s = [act s.1 s.2] := by simp [siteTrace, hW, hRf]
        rw [hst]
        simp [act, hnw, pubGuardedFrom, hrest, hX hRf]

/-- Any number of goroutines, each performing any sequence of the extracted access sites on any
concrete locations, where the sites the table lists outside the lock (the published reads) touch
only locations of `X`: under any schedule whose execution obeys the publication rule for `X`, no
happens-before race. **Conditional on `PubOrdered`** (hypothesis `hpub`, as in `C10_hb_publication`:
assumed, not derived from the code; the code side of it is the trusted extractor's boolean
`publishedReads.all (·.dominated)`), so this is the partial form of "the code is HB-race free"; the
unconditional instantiation is `C10_code_race_free` (protected sites only). -/
theorem C10_code_hb_race_free (wv : WriteFn) (X : Nat → Bool) (gs : List (List (Access × Nat)))
    (h : ∀ g ∈ gs, ∀ s ∈ g, s.1 ∈ accesses ∧ (isRW s.1.guard = false → X s.2 = true)) (sched : List Nat)
    (hpub : PubOrdered 0 X (trace wv (gs.map codeThread) sched)) :
    ¬ RaceHB (trace wv (gs.map codeThread) sched) := by
  apply C10_hb_publication wv 0 X _ _ sched hpub
  intro t ht
  obtain ⟨g, hg, rfl⟩ := List.mem_map.mp ht
  exact C10_code_thread_disciplined X g (h g hg)

def protectedAccesses : List Access := accesses.filter mustGuard

/-- … and the sites that must be guarded, alone, in any number and order on any locations: no race
at all (co-enabled or happens-before), under any schedule, without any rule for the execution. -/
theorem C10_code_race_free (wv : WriteFn) (gs : List (List (Access × Nat)))
    (h : ∀ g ∈ gs, ∀ s ∈ g, s.1 ∈ protectedAccesses) (sched : List Nat) :
    ¬ Race (run wv (gs.map codeThread) sched) ∧ ¬ RaceHB (trace wv (gs.map codeThread) sched) := by
  have hg : RWGuardedBy 0 (gs.map codeThread) := by
    intro t ht
    obtain ⟨g, hg, rfl⟩ := List.mem_map.mp ht
    refine C10_code_thread_disciplined _ g (fun s hs => ?_)
    obtain ⟨hmem, hmust⟩ := List.mem_filter.mp (h g hg s hs)
    refine ⟨hmem, fun hR => ?_⟩
    -- a protected row is under the lock: a write row as the writer, any other by its row of `codeGuarded`
    have : isRW s.1.guard = true := by
      cases hw : s.1.write with
      | true => exact C10_code_writer_is_reader _ (C10_code_write_rows_hold_write_lock s.1 hmem hw)
      | false =>
        have hrow := List.all_eq_true.mp C10_code_guarded s.1 hmem
        simpa [hmust, hw] using hrow
    rw [this] at hR; cases hR
  exact ⟨C10_rw_guarded_race_free wv 0 _ hg sched, C10_rw_guarded_hb_race_free wv 0 _ hg sched⟩

/-! ## Non-vacuity of the theorems above -/

abbrev one : WriteFn := fun _ _ _ => 1

/-- a real race: two threads, unguarded write and read of the same location -/
example : Race (run one [[.write 7], [.read 7]] []) :=
  ⟨0, 1, by decide, .write 7, .read 7, [], [], 7, true, false, rfl, rfl, rfl, rfl, Or.inl rfl⟩

/-- … and the same two accesses, run one after the other, are a happens-before race -/
example : RaceHB (trace one [[.write 7], [.read 7]] [0, 1]) :=
  ⟨0, 1, ⟨0, .write 7⟩, ⟨1, .read 7⟩, 7, true, false, by decide, by decide, by decide, by decide, rfl, rfl,
    Or.inl rfl, not_hb_of_closed _ (fun _ _ => false) (by decide +kernel) 0 1 rfl⟩

/-- … the same accesses under a lock satisfy the hypothesis of `C10_guarded_race_free` -/
example : AllGuardedBy 0 [[.lock 0, .write 7, .unlock 0], [.tau, .lock 0, .read 7, .unlock 0, .lock 3, .unlock 3]] := by decide
example : ¬ AllGuardedBy 0 [[.lock 0, .write 7, .unlock 0], [.read 7]] := by decide

/-- reader/writer discipline: a writer and two readers; a write under the read lock is rejected -/
example : RWGuardedBy 0 [[.lock 0, .read 7, .write 7, .unlock 0], [.rlock 0, .read 7, .runlock 0, .tau],
    [.rlock 0, .read 7, .runlock 0, .lock 0, .write 7, .unlock 0]] := by decide
example : ¬ RWGuardedBy 0 [[.rlock 0, .write 7, .runlock 0]] := by decide
/-- the mutex discipline does not accept `l` used as a read lock, the reader/writer one does -/
example : ¬ AllGuardedBy 0 [[.rlock 0, .read 7, .runlock 0]] ∧ RWGuardedBy 0 [[.rlock 0, .read 7, .runlock 0]] := by decide

/-- why writes need the write lock: two read sections are not ordered by happens-before even when
they run one after the other (`RUnlock` → `RLock` is no synchronisation edge), so two "writers"
under the read lock race -/
example : RaceHB (trace one [[.rlock 0, .write 7, .runlock 0], [.rlock 0, .write 7, .runlock 0]] [0, 0, 0, 1, 1, 1]) :=
  ⟨1, 4, ⟨0, .write 7⟩, ⟨1, .write 7⟩, 7, true, true, by decide, by decide, by decide, by decide, rfl, rfl,
    Or.inl rfl, not_hb_of_closed _ (fun a b => decide (b < 3) || decide (3 ≤ a)) (by decide +kernel) 1 4 rfl⟩

/-! ### publication -/

/-- location 5 is the payload that is read outside the lock, location 1 the index (the flag) -/
def pubX : Nat → Bool := fun x => x == 5

/-- a builder (writes payload and index in its critical section, reads the payload after it), a
reader through the mutex and a reader through the read lock (both read the payload after their
section) -/
def pubProg : Prog := [
  [.lock 0, .write 5, .write 1, .unlock 0, .read 5],
  [.lock 0, .read 1, .unlock 0, .read 5],
  [.rlock 0, .read 1, .runlock 0, .read 5]]

example : PubGuardedBy 0 pubX pubProg := by decide
/-- not covered by the lockset disciplines: the payload is read outside the lock -/
example : ¬ RWGuardedBy 0 pubProg := by decide

/-- the builder first, the readers' sections interleaved after it: the publication rule holds,
hence no happens-before race -/
def pubGood : List Nat := [0, 0, 0, 0, 2, 1, 2, 2, 1, 1, 2, 0, 1]

example : PubOrdered 0 pubX (trace one pubProg pubGood) := pubOrdered_of_check _ _ _ (by decide +kernel)
example : ¬ RaceHB (trace one pubProg pubGood) :=
  C10_hb_publication one 0 pubX pubProg (by decide) pubGood (pubOrdered_of_check _ _ _ (by decide +kernel))

/-- the rule violated: thread 1 went through the lock *before* the builder published and reads the
payload afterwards without going through the lock again — a happens-before race on location 5
between the builder's write (position 4) and that read (position 7) -/
def pubBad : List Nat := [1, 1, 1, 0, 0, 0, 0, 1]

theorem C10_publication_violated_races : RaceHB (trace one pubProg pubBad) :=
  ⟨4, 7, ⟨0, .write 5⟩, ⟨1, .read 5⟩, 5, true, false, by decide, by decide, by decide, by decide, rfl, rfl,
    Or.inl rfl, not_hb_of_closed _ (fun a b => !(decide (3 ≤ a) && b == 7)) (by decide +kernel) 4 7 rfl⟩

example : ¬ PubOrdered 0 pubX (trace one pubProg pubBad) :=
  fun h => C10_hb_publication one 0 pubX pubProg (by decide) pubBad h C10_publication_violated_races

/-- the same two facts by evaluation of the detector (an independent check of the theorem on this instance) -/
example : ¬ RaceHB (trace one pubProg pubGood) ∧ RaceHB (trace one pubProg pubBad) := by decide +kernel

/-- all schedules of `n` threads of the given length -/
def allScheds (n : Nat) : Nat → List (List Nat)
  | 0 => [[]]
  | len + 1 => (allScheds n len).flatMap fun σ => (List.range n).map (· :: σ)

/-- A builder and a reader that goes through the lock once and then reads the payload: over **all**
64 schedules of length 6, whenever the execution obeys the publication rule the detector finds no
race (what `C10_hb_publication` says), some schedules obey it and complete, and some do race (the
reader's section came first) — the hypothesis is what separates them. -/
def pubTiny : Prog := [[.lock 0, .write 5, .unlock 0], [.lock 0, .unlock 0, .read 5]]

example :
    (allScheds 2 6).all (fun σ => !pubOrderedB 0 pubX (trace one pubTiny σ) || !raceHBb (trace one pubTiny σ)) = true ∧
    (allScheds 2 6).any (fun σ => pubOrderedB 0 pubX (trace one pubTiny σ) && (run one pubTiny σ).rem.all List.isEmpty) = true ∧
    (allScheds 2 6).any (fun σ => raceHBb (trace one pubTiny σ)) = true := by decide +kernel

/-! ### deadlock -/

/-- flat locking with two locks, in both modes; nesting is rejected -/
example : NoNesting [[.lock 0, .write 7, .unlock 0, .rlock 1, .tau, .runlock 1], [.lock 1, .unlock 1, .rlock 0, .read 7, .runlock 0]] := by decide
example : ¬ NoNesting [[.lock 0, .lock 1, .unlock 1, .unlock 0]] := by decide
example : ¬ NoNesting [[.rlock 0, .rlock 0, .runlock 0, .runlock 0]] := by decide

/-- the classic deadlock is a nested program and really is stuck: both threads unfinished, none enabled -/
example : let s := run one [[.lock 0, .lock 1, .unlock 1, .unlock 0], [.lock 1, .lock 0, .unlock 0, .unlock 1]] [0, 1]
    (¬ AllDone s) ∧ ∀ i, ¬ Enabled s i := stuck_of_check _ (by decide +kernel)

/-- The seeded change C10-m3 in the model: a reader that takes the read lock twice (`cached` →
`SchemaByName`) and a writer (first use of a type). After the reader's first `RLock` the writer
announces itself; from then on the reader's second `RLock` waits for the writer and the writer for
the reader: stuck for ever. Without the writer the recursive read lock goes through. -/
def m3Prog : Prog := [[.rlock 0, .rlock 0, .read 7, .runlock 0, .runlock 0], [.lock 0, .write 7, .unlock 0]]

example : ¬ NoNesting m3Prog := by decide
example : let s := run one m3Prog [0, 1]
    (¬ AllDone s) ∧ ∀ i, ¬ Enabled s i := stuck_of_check _ (by decide +kernel)
example : AllDone (run one m3Prog [0, 0, 0, 0, 0, 1, 1, 1]) := allDone_of_check _ (by decide +kernel)

/-- reader/writer operations: two readers whose sections overlap in the schedule below, a writer,
local steps in between; a write inside a read section is not an operation -/
def rwProg : Prog := [
  [.rlock 0, .read 1, .runlock 0, .tau, .lock 0, .read 1, .write 2, .unlock 0],
  [.rlock 0, .read 1, .tau, .read 2, .runlock 0],
  [.tau, .lock 0, .write 1, .unlock 0]]

example : RWOpsProg 0 rwProg := by decide
example : ¬ RWOpsProg 0 [[.rlock 0, .write 1, .runlock 0]] := by decide
/-- the hypotheses of `C10_rw_serialisable` for a schedule in which the two read sections overlap
and the writer announces itself while they are inside -/
example : AllDone (run one rwProg [0, 1, 2, 2, 0, 1, 1, 0, 1, 1, 2, 2, 2, 0, 0, 0, 0, 0]) :=
  allDone_of_check _ (by decide +kernel)

/-- operations as critical sections -/
example : OpsProg 0 [[.lock 0, .read 1, .write 1, .unlock 0, .lock 0, .write 2, .unlock 0], [.lock 0, .read 1, .write 1, .unlock 0]] := by decide

example : OpsProgT 0 [[.tau, .lock 0, .read 1, .write 1, .unlock 0, .tau, .tau, .lock 0, .write 2, .unlock 0, .tau], [.lock 0, .read 1, .unlock 0]] := by decide

/-- the table has protected accesses, and a thread built from them is a genuine locked program -/
example : protectedAccesses.length > 10 := by decide
example : protectedAccesses.any (fun a => a.write && a.isMap && (siteTrace (a, 0)).length == 3) = true := by decide +kernel
/-- the published reads are sites outside every section -/
example : accesses.any (fun a => !isRW a.guard && (siteTrace (a, 0)).length == 1) = true := by decide +kernel

/-- if a `Lock` is stripped, the instantiation fails: an unguarded protected write violates the discipline -/
example : pubGuardedFrom 0 (fun _ => true) .N (siteTrace (⟨15, true, true, true, none, "SchemaCache.referencePackage", "x"⟩, 3)) = false := by decide

/-- A ↔ B mutually recursive, B → C shared with D, E fails (bad field), F → E. -/
def demo : Graph := [
  ⟨.obj, true, [⟨1, "", .ref 1⟩]⟩,                      -- 0 A
  ⟨.obj, true, [⟨1, "", .ref 0⟩, ⟨2, "a", .ref 2⟩]⟩,     -- 1 B
  ⟨.enm, true, []⟩,                                      -- 2 C
  ⟨.oneof, true, [⟨1, "", .ref 2⟩, ⟨2, "", .ref 3⟩]⟩,    -- 3 D (self recursive)
  ⟨.obj, true, [⟨1, "", .bad⟩]⟩,                         -- 4 E
  ⟨.obj, true, [⟨1, "m", .ref 0⟩, ⟨2, "", .ref 4⟩]⟩]     -- 5 F

example : (schemaOf demo emptyCache 0).2 = .ok := by decide +kernel
example : (schemaOf demo emptyCache 5).2 = .err ∧ (schemaOf demo emptyCache 5).1 = [] := by decide +kernel
/-- warm cache containing part of the closure (C via D), then A: same answer as alone -/
example : (schemaOf demo (runReqs demo emptyCache [3, 5]) 0).2 = .ok ∧
    [0, 1, 2].all (fun m => decide (find (schemaOf demo (runReqs demo emptyCache [3, 5]) 0).1 m = find (schemaOf demo emptyCache 0).1 m)) = true ∧
    find (runReqs demo emptyCache [3, 5]) 2 = some (some (shallow demo 2)) ∧ find (runReqs demo emptyCache [3, 5]) 4 = none := by decide +kernel
example : Reachable demo (runReqs demo emptyCache [3, 5]) := reachable_runReqs demo _ Reachable.empty _
/-- The algorithm as it was before `ccb2fec` (no roll-back of a failed build) is *not* transparent:
X → Y, Y fails, Z → Y. After the failed request X the placeholder of Y stays registered, so Z
"succeeds" with an unlinked reference although Z alone is rejected. (The witness of the fixed defect.) -/
def schemaOfNoRollback (G : Graph) (c : Cache) (d : Nat) : Cache × Res :=
  match find c d with
  | some (some _) => (c, .ok)
  | some none => (c, .err)
  | none =>
    let r := buildNode G (G.length + 1) (insert c d none) d
    if r.2 then (setTo r.1 d (shallow G d), .ok) else (r.1, .err)

def xyz : Graph := [⟨.obj, true, [⟨1, "", .ref 1⟩]⟩, ⟨.obj, true, [⟨1, "", .bad⟩]⟩, ⟨.obj, true, [⟨1, "", .ref 1⟩]⟩]

example : (schemaOfNoRollback xyz emptyCache 2).2 = .err ∧
    (schemaOfNoRollback xyz (schemaOfNoRollback xyz emptyCache 0).1 2).2 = .ok ∧
    find (schemaOfNoRollback xyz (schemaOfNoRollback xyz emptyCache 0).1 2).1 1 = some none := by decide +kernel
/-- … and with the roll-back the same history answers as alone -/
example : (schemaOf xyz (schemaOf xyz emptyCache 0).1 2).2 = .err ∧ (schemaOf xyz (schemaOf xyz emptyCache 0).1 2).1 = [] := by decide +kernel

example : GoodFrom demo 2 := by
  intro m hm
  cases hm with
  | refl => exact ⟨_, rfl, rfl, by simp⟩
  | head _ t _ ht _ => simp [refs, demo] at ht

/-! ### the table meets the hypotheses of the instantiation -/

/-- every write site of the table on location 3, every published-read site on location 7 (which
is in `X`): the hypothesis `h` of `C10_code_hb_race_free` holds, with sites inside and outside the
lock. This instance has no conflicting accesses (writes and reads are on different locations), so it
only shows that `h` is satisfiable by the table; the witness with a real write / read conflict on a
published location, `PubOrdered` proved and violated, is `pubProg` with `pubGood` / `pubBad` above
(`C10_publication_violated_races`). -/
example :
    let gs : List (List (Access × Nat)) :=
      [(accesses.filter (·.write)).map (·, 3), (accesses.filter (fun a => !isRW a.guard)).map (·, 7)]
    (∀ g ∈ gs, ∀ s ∈ g, s.1 ∈ accesses ∧ (isRW s.1.guard = false → (fun x => x == 7) s.2 = true)) ∧
    gs.all (fun g => g.length > 10) = true := by
  refine ⟨fun g hg s hs => ?_, by decide⟩
  simp only [List.mem_cons, List.not_mem_nil, or_false] at hg
  rcases hg with rfl | rfl <;> obtain ⟨a, ha, rfl⟩ := List.mem_map.mp hs <;>
    obtain ⟨ha, hp⟩ := List.mem_filter.mp ha
  · -- a write row holds the lock as the writer, so it is not a row outside the lock
    refine ⟨ha, fun hR => ?_⟩
    rw [C10_code_writer_is_reader _ (C10_code_write_rows_hold_write_lock a ha hp)] at hR
    cases hR
  · exact ⟨ha, fun _ => rfl⟩

/-! ## the seeded change C10-m2 in the model: a lock split

`buildMu` (lock 0) still serialises builds, but the index is guarded by a separate `mapMu`
(lock 1) held only per map operation, and `Schema` first looks the type up under `mapMu.RLock`
alone. Location 10 = the index (`Package.Schemas`), location 11 = `RefSchema.To`. -/

def m2Prog : Prog := [
  [.lock 0, .lock 1, .write 10, .unlock 1, .write 11, .unlock 0],   -- a build: register the placeholder, …, link
  [.rlock 1, .read 10, .read 11, .runlock 1]]                        -- the lookup fast path

/-- no discipline of this file accepts it: nested acquisition; neither lock guards all accesses;
the operations are not critical sections of one lock -/
example : ¬ NoNesting m2Prog ∧ ¬ RWGuardedBy 0 m2Prog ∧ ¬ RWGuardedBy 1 m2Prog ∧
    ¬ OpsProg 0 m2Prog ∧ ¬ RWOpsProg 0 m2Prog ∧ ¬ RWOpsProg 1 m2Prog := by decide +kernel

/-- lookups are not serialised with builds: the whole lookup runs while the builder is inside its
build (it still owns `buildMu`), and it observes the index entry (1) with `To` still unset (0) —
the placeholder of a build in progress -/
example : let s := run one m2Prog [0, 0, 0, 0, 1, 1, 1, 1]
    s.owner 0 = some 0 ∧ s.rem[1]? = some [] ∧ s.logs 1 = [1, 0] := by decide +kernel

/-- … and the link that follows is a happens-before race with that lookup's read of `To` -/
example : RaceHB (trace one m2Prog [0, 0, 0, 0, 1, 1, 1, 1, 0, 0]) :=
  ⟨6, 8, ⟨1, .read 11⟩, ⟨0, .write 11⟩, 11, false, true, by decide, by decide, by decide, by decide, rfl, rfl,
    Or.inr rfl, not_hb_of_closed _ (fun a b => !(decide (4 ≤ a) && decide (a ≤ 7) && decide (8 ≤ b))) (by decide +kernel) 6 8 rfl⟩

/-- In the cache model the state such a lookup sees is the cache right after the builder registered
the placeholder, `insert c d none`. It is not a state between whole requests — the premise
`Reachable` of `C10_no_unlinked_visible` fails — and `Schema` on it answers "unlinked ref". -/
theorem C10_m2_mid_build_state (G : Graph) (c : Cache) (d : Nat) :
    ¬ Reachable G (insert c d none) ∧ (schemaOf G (insert c d none) d).2 = .err := by
  refine ⟨fun hr => ?_, by simp [schemaOf, find, J5V.Conc.Cache.insert]⟩
  have := C10_no_unlinked_visible G _ hr d none (by simp [find, J5V.Conc.Cache.insert])
  cases this

/-- the request that fails in the middle of somebody else's build succeeds alone -/
example : (schemaOf demo emptyCache 0).2 = .ok ∧ (schemaOf demo (insert emptyCache 0 none) 0).2 = .err := by decide +kernel

/-! ## Schema-name collisions: a recorded finding (`cache-history:schema-name-clash`)

`J5V.Conc.Cache` identifies a schema with its descriptor, so `C10_cache_transparent` is the
theorem for descriptor sets with distinct schema names. `splitDescriptorName` is not injective;
on the collision family (`Conc/Clash.lean`) the full statement fails and the partial one holds. -/

open J5V.Conc.Clash in
/-- the full statement on the collision family: every request answers as it does alone -/
def ClashTransparent : Prop := ∀ (rs : List Nat) (r : Nat), r < 6 → (req (run rs) r).2 = (req J5V.Conc.Clash.init r).2

open J5V.Conc.Clash in
/-- alone, every request of the family succeeds -/
theorem C10_name_clash_alone_ok : ∀ r, r < 6 → (req J5V.Conc.Clash.init r).2 = true := by decide

open J5V.Conc.Clash in
/-- `Foo_Bar` after `Foo.Bar` is a schema error, alone it is fine (the witness op `clash m 1,2,4`) -/
theorem C10_name_clash_counterexample : ¬ ClashTransparent := by
  intro h
  have := h [1] 2 (by decide)
  revert this
  decide

open J5V.Conc.Clash in
/-- … and exactly that class is the exception: as long as the requests made so far and the request
itself do not need the colliding name for *both* descriptors, the request answers as alone. -/
theorem C10_name_clash_partial (rs : List Nat) (r : Nat) (hr : r < 6)
    (h : ((r :: rs).any touchesN && (r :: rs).any touchesT) = false) :
    (req (J5V.Conc.Clash.run rs) r).2 = (req J5V.Conc.Clash.init r).2 := by
  rw [C10_name_clash_alone_ok r hr]
  simp only [List.any_cons, Bool.and_eq_false_iff, Bool.or_eq_false_iff, List.any_eq_false] at h
  rcases h with ⟨hN, hNs⟩ | ⟨hT, hTs⟩
  · have ho := J5V.Conc.Clash.clash_owner_not_N rs J5V.Conc.Clash.init (by decide) (fun x hx => by simpa using hNs x hx)
    exact (J5V.Conc.Clash.clash_step_not_N _ r ho hN).2 hr
  · have ho := J5V.Conc.Clash.clash_owner_not_T rs J5V.Conc.Clash.init (by decide) (fun x hx => by simpa using hTs x hx)
    exact (J5V.Conc.Clash.clash_step_not_T _ r ho hT).2 hr

/-- the exception is real and the hypothesis of the partial theorem is satisfiable on both sides -/
example : (J5V.Conc.Clash.req (J5V.Conc.Clash.run [0, 1, 4]) 1).2 = true ∧ (J5V.Conc.Clash.req (J5V.Conc.Clash.run [3, 5, 2]) 3).2 = true ∧
    (J5V.Conc.Clash.req (J5V.Conc.Clash.run [3]) 0).2 = false := by decide +kernel

/-! ## Any schedule of N goroutines through the cache: every call answers as it does alone

`J5V.Conc.CacheSched`: goroutine `i` makes the calls `progs i` in order on one shared cache; a
schedule is any list of goroutine numbers; the mutex is explicit (a goroutine scheduled while
another one is inside `Schema` is blocked), and so is the mid-build state of the shared maps
(`midBuild`) between the moment a call takes the mutex and the moment it finishes. -/

open J5V.Conc.CacheSched in
/-- **Concurrent = sequential = alone, on the coarse machine.** Scope: in `CacheSched.cstep` a call is two
atomic steps (take the mutex; apply `schemaOf` and release) and a goroutine that does not own the
mutex cannot touch the maps — mutual exclusion and the atomicity of the critical section are *built
into this machine*, so that the interleaving is equivalent to a sequential order holds by
construction; what the theorem adds is the composition with the cache algorithm (`schemaOf_spec`,
i.e. `C10_cache_transparent`): whatever that order is, every answer is the answer alone. No theorem
connects the traces of the fine-grained `Sched` model, or the E7 tables of the code, to `schemaOf`:
that the real `Schema` behaves like one `cstep` pair is argued from `C10_code_guarded` /
`C10_code_locksites` (E7, `decide`) and `C10_serialisable` (Sched), in prose. "Every schedule" below
means every schedule *of the coarse machine*. Statement: for every descriptor graph (recursive types, failing
builds), every reachable start cache (fresh or warm), every number of goroutines with any request
lists, every schedule (overlapping first use of one type included: the second caller blocks).
With `s` the state after the schedule:
(1) the answers in order of completion are the answers of ONE goroutine making the same requests in
    that order (`seqRes`), and the maps as of the last completed call are those of that sequential run;
(2) every goroutine's own log is its part of that history, and its requests so far + the ones left
    are its program (nothing lost, duplicated or reordered);
(3) every answer, of every goroutine, is the answer the same request gets alone on a fresh cache. -/
theorem C10_concurrent_results_eq_sequential (G : Graph) (c0 : Cache) (hc : Reachable G c0)
    (progs : Nat → List Nat) (sched : List Nat) :
    let s := crun G (init c0 progs) sched
    (s.hist.map (·.res) = seqRes G c0 (s.hist.map (·.req)) ∧ s.base = runReqs G c0 (s.hist.map (·.req))) ∧
    (∀ i, s.log i = (s.hist.filter (fun h => h.thread = i)).map (fun h => (h.req, h.res)) ∧
          (s.log i).map (·.1) ++ s.rem i = progs i) ∧
    (∀ i d r, (d, r) ∈ s.log i → r = (schemaOf G emptyCache d).2) := by
  intro s
  have hinv : J5V.Conc.CacheSched.Inv G c0 progs s := inv_run G c0 progs sched _ (inv_init G c0 progs)
  exact ⟨⟨hinv.res_eq, hinv.base_eq⟩, fun i => ⟨hinv.log_eq i, hinv.prog i⟩, hinv.answers_alone hc⟩
open J5V.Conc.CacheSched in
/-- Between calls (mutex free) the shared maps are a between-requests state (`Reachable`): what a
goroutine reads from a schema it was handed is linked (`C10_no_unlinked_visible` applies) and a
lookup at that moment answers as alone. -/
theorem C10_concurrent_quiescent_reachable (G : Graph) (c0 : Cache) (hc : Reachable G c0)
    (progs : Nat → List Nat) (sched : List Nat)
    (hq : (crun G (init c0 progs) sched).holder = none) :
    Reachable G (crun G (init c0 progs) sched).cache ∧
    ∀ d, peek G (crun G (init c0 progs) sched) d = (schemaOf G emptyCache d).2 := by
  have hinv : J5V.Conc.CacheSched.Inv G c0 progs _ := inv_run G c0 progs sched _ (inv_init G c0 progs)
  have hb := hinv.base_eq
  simp only [CState.base, hq] at hb
  have hr : Reachable G (crun G (init c0 progs) sched).cache := by
    rw [hb]; exact reachable_runReqs G c0 hc _
  exact ⟨hr, fun d => alone_of_reachable G _ hr d⟩

/-- three goroutines on the demo graph, fresh cache: 0 and 1 both start with `A` (mutually recursive
with `B`), 1 is scheduled while 0 is inside the build (blocked), 2 asks for the failing `F` twice
and for `E`; goroutine 0 then asks for `F` after 2's failed build was rolled back. -/
def demoProgs : Nat → List Nat
  | 0 => [0, 5]
  | 1 => [0, 3]
  | 2 => [5, 4, 5]
  | _ => []

def demoSched : List Nat := [0, 1, 2, 1, 0, 1, 2, 2, 1, 0, 2, 1, 1, 0, 0, 2, 2, 2, 2, 1, 1, 2, 2]

open J5V.Conc.CacheSched in
example : let s := crun demo (init emptyCache demoProgs) demoSched
    s.log 0 = [(0, .ok), (5, .err)] ∧ s.log 1 = [(0, .ok), (3, .ok)] ∧
    s.log 2 = [(5, .err), (4, .err), (5, .err)] ∧ s.holder = none ∧
    s.hist.map (·.thread) = [0, 1, 0, 2, 2, 1, 2] ∧ (∀ i, i < 3 → s.rem i = []) := by decide +kernel

open J5V.Conc.CacheSched in
/-- The mutex is what makes it true: a lookup that reads the maps without it, while goroutine 0 is
building `A`, answers "unlinked ref" where the same request alone succeeds (seeded change C10-m2). -/
theorem C10_unlocked_lookup_differs :
    peek demo (crun demo (init emptyCache demoProgs) [0]) 0 = .err ∧ (schemaOf demo emptyCache 0).2 = .ok := by
  decide +kernel

open J5V.Conc.CacheSched in
/-- **No deadlock, no lost call** in the same coarse machine (one mutex, released by the step that
finishes the call: such a machine cannot deadlock by design — the theorem records that, plus "the
owner always has work" and "quiescent ⇒ everything answered"; deadlock freedom of the lock *usage*
in the fine-grained model is `C10_no_deadlock`, of the code `C10_code_locksites`), in every state any
schedule of the coarse machine reaches:
(1) while some goroutine has a request left, some goroutine can move (the owner of the mutex, else
    any goroutine with a request), and a goroutine that can move makes progress: its step starts or
    finishes a call (`progress` = 2 × finished calls + 1 for a call in progress grows by one);
(2) a goroutine that cannot move (blocked on the mutex, or done) changes nothing by being scheduled;
(3) the owner of the mutex always has the call it is serving on its list, so the mutex is never
    held by a goroutine that is done;
(4) when nobody can move, the mutex is free and every goroutine has an answer for every request
    of its program, in order. -/
theorem C10_concurrent_no_deadlock (G : Graph) (c0 : Cache) (progs : Nat → List Nat) (sched : List Nat) :
    let s := crun G (init c0 progs) sched
    ((∃ i, s.rem i ≠ []) → ∃ j, enabled s j = true) ∧
    (∀ j, enabled s j = true → (cstep G s j).progress = s.progress + 1) ∧
    (∀ j, enabled s j = false → cstep G s j = s) ∧
    (∀ j d b, s.holder = some (j, d, b) → s.rem j ≠ []) ∧
    ((∀ j, enabled s j = false) → s.holder = none ∧ ∀ i, (s.log i).map (·.1) = progs i) := by
  intro s
  have hinv : J5V.Conc.CacheSched.Inv G c0 progs s := inv_run G c0 progs sched _ (inv_init G c0 progs)
  exact ⟨fun ⟨i, hi⟩ => work_left_enabled s i hi, fun j hj => cstep_enabled G s j hj,
    fun j hj => cstep_blocked G s j hj, fun j d b hh => holder_has_work G c0 progs s hinv j d b hh,
    hinv.quiescent⟩
open J5V.Conc.CacheSched in
/-- on the demo schedule: nobody can move at the end, 7 calls finished, progress 14 -/
example : let s := crun demo (init emptyCache demoProgs) demoSched
    (∀ j, j < 4 → enabled s j = false) ∧ s.progress = 14 ∧
    enabled (crun demo (init emptyCache demoProgs) [0, 1]) 1 = false ∧
    enabled (crun demo (init emptyCache demoProgs) [0, 1]) 0 = true := by decide +kernel

end J5V.Props.C10
