import J5V.Print.TextStringProofs
import J5V.Print.RefNameProofs
import J5V.Print.OrderProofs
import J5V.Print.OptionTextProofs
import J5V.Print.LayoutProofs
import J5V.Print.Grammar
import J5V.Print.ScalarProofs
import J5V.Print.ReparseMain
import J5V.Print.CoverProofs
import J5V.Print.CoverLeadProofs
import J5V.Generated.PrintFacts
/-!
# C05 — generated .proto text re-parses to the descriptor it was printed from

Only the property theorems (and their non-vacuity examples) live here. They are about the four
kernels of `/repo/internal/j5s/protoprint` modelled in `J5V.Print.*` and about reader-side
specifications written from the protobuf language definition (string literals, relative-name
resolution, message-literal tokens). The grammar-level parser of bufbuild/protocompile is third
party: `C05_reparse_partial` relates an abstract reader to the kernels by an explicit hypothesis, and
`C05_reparse` (§7) is about `Grammar.parseFile`, a model of that parser for the subset the printer emits
(validated against protocompile by the `print.file` stream), on the decidable shape `SimpleFile`. The
whole-file equivalence for the real parser on real files is decided by the `print.reparse` oracle on
the real code (see `checks/C05.py`), not by a theorem.
-/
namespace J5V.Props.C05
open J5V.Print

/-! ## 1. string literals -/

/-- Every byte string, written by `prototextString`, is read back unchanged by the string-literal
reader — for all byte strings, including ill-formed UTF-8, control characters, quotes, NUL. -/
theorem C05_string_inv (s : List Nat) (hb : TextString.IsBytes s) :
    TextString.unescape (TextString.textString s) = some s := by
  unfold TextString.unescape TextString.textString
  exact TextString.unesc_escBody s hb

/-- The encoder is injective: two different values never print the same literal. -/
theorem C05_string_injective (s₁ s₂ : List Nat) (h₁ : TextString.IsBytes s₁) (h₂ : TextString.IsBytes s₂)
    (h : TextString.textString s₁ = TextString.textString s₂) : s₁ = s₂ := by
  have e₁ := C05_string_inv s₁ h₁
  have e₂ := C05_string_inv s₂ h₂
  rw [h, e₂] at e₁
  exact (Option.some.inj e₁).symm

example : TextString.IsBytes [0, 34, 92, 10, 0xC3, 0xA9, 0xFF, 0xED, 0xA0, 0x80, 0xF0, 0x9F, 0x98, 0x80] := by decide
/-! ## 2. relative type names -/

/-- **Inside one package the statement holds at full strength**: whatever else the file declares
(nested or sibling types, fields, methods with the same name), the printed name — shortened, or
fully qualified when an enclosing scope would capture it — resolves to the target. -/
theorem C05_refname_same_package (t : RefName.Tab) (only : Bool) (pkg ctx tgt : RefName.Path)
    (hwf : RefName.SymtabWF t only pkg tgt) :
    RefName.resolveName t pkg ctx only (RefName.refName t pkg ctx pkg tgt) = some (pkg ++ tgt) :=
  RefName.refName_resolves_same t only pkg ctx tgt hwf

/-- **Full strength, every reference** (field types, map value types, method request / response
types; the target in the same or in another package): whenever the target is declared, the printed
name resolves to it, whatever else the file and its imports declare. Across packages the printer
writes the package-qualified name and adds the leading dot exactly when a scope searched before the
root — an enclosing message / the service, the own package or one of its parents — declares the
first component (`contextRefName`; `refname-shadowed:cross-package` in `known_findings.d/print.json`). -/
theorem C05_refname_resolves (t : RefName.Tab) (only : Bool) (ctxPkg ctx tgtPkg tgt : RefName.Path)
    (hwf : RefName.SymtabWF t only tgtPkg tgt) :
    RefName.resolveName t ctxPkg ctx only (RefName.refName t ctxPkg ctx tgtPkg tgt) = some (tgtPkg ++ tgt) :=
  RefName.refName_resolves t only ctxPkg ctx tgtPkg tgt hwf

/-- the witness of `refname-shadowed:cross-package`: file of package `a.b` with `message M { b.X f = 1; }`, `X`
declared in package `b`. `b.X` would be looked up as `a.b.X`; the printer writes `.b.X`. -/
def shadowTab : RefName.Tab :=
  ⟨[⟨["a", "b", "M"], .msg⟩, ⟨["b", "X"], .msg⟩], [["a", "b"], ["b"]]⟩

example : RefName.refName shadowTab ["a", "b"] ["M"] ["b"] ["X"] = ⟨true, ["b", "X"]⟩ ∧
    RefName.resolveName shadowTab ["a", "b"] ["M"] true ⟨true, ["b", "X"]⟩ = some ["b", "X"] ∧
    RefName.resolveName shadowTab ["a", "b"] ["M"] true ⟨false, ["b", "X"]⟩ = none := by decide

example : RefName.SymtabWF shadowTab true ["b"] ["X"] := by
  refine ⟨by simp, ⟨.msg, by decide, by decide⟩, ?_, ?_⟩
  · intro j h1 h2; simp at h2; omega
  · intro i h1 h2
    have : i = 1 := by simp at h2; omega
    subst this; decide

/-! non-vacuity: a three-level file where the hypotheses hold and the name is really shortened -/

def okTab : RefName.Tab :=
  ⟨[⟨["p", "A"], .msg⟩, ⟨["p", "A", "B"], .msg⟩, ⟨["p", "A", "B", "C"], .enum⟩, ⟨["p", "A", "D"], .msg⟩,
    ⟨["q", "r", "X"], .msg⟩], [["p"], ["q", "r"]]⟩

example : RefName.refName okTab ["p"] ["A", "D"] ["p"] ["A", "B", "C"] = ⟨false, ["B", "C"]⟩ := by decide
theorem okTab_wf : RefName.SymtabWF okTab true ["p"] ["A", "B", "C"] := by
  refine ⟨by simp, ⟨.enum, by decide, by decide⟩, ?_, ?_⟩
  · intro j h1 h2
    have : j = 1 ∨ j = 2 := by simp at h2; omega
    rcases this with rfl | rfl <;> decide
  · intro i h1 h2
    have : i = 1 := by simp at h2; omega
    subst this; decide
/-- cross-package reference, printed package-qualified -/
example :
    RefName.refName okTab ["p"] ["A", "D"] ["q", "r"] ["X"] = ⟨false, ["q", "r", "X"]⟩ := by decide
/-- self reference and reference to an ancestor keep the type's own name -/
example : RefName.refName okTab ["p"] ["A", "B"] ["p"] ["A", "B"] = ⟨false, ["B"]⟩ ∧
    RefName.refName okTab ["p"] ["A", "B"] ["p"] ["A"] = ⟨false, ["A"]⟩ := by decide

/-- a nested declaration with the name of a sibling: the printer falls back to the leading-dot name
(`message Gen { message Gen {}  .gen.v1.Gen n1 = 1; }`, the witness of `refname-shadowed:same-package`) -/
def nestedTab : RefName.Tab :=
  ⟨[⟨["gen", "v1", "Gen"], .msg⟩, ⟨["gen", "v1", "Gen", "Gen"], .msg⟩], [["gen", "v1"]]⟩
example : RefName.refName nestedTab ["gen", "v1"] ["Gen"] ["gen", "v1"] ["Gen"] = ⟨true, ["gen", "v1", "Gen"]⟩ ∧
    RefName.resolveName nestedTab ["gen", "v1"] ["Gen"] true ⟨true, ["gen", "v1", "Gen"]⟩ = some ["gen", "v1", "Gen"] ∧
    RefName.resolve nestedTab ["gen", "v1"] ["Gen"] true ["Gen"] = some ["gen", "v1", "Gen", "Gen"] := by decide

/-- The printed name is never empty (the defect fixed by b1156d6 cannot come back unnoticed). -/
theorem C05_refname_nonempty (ctxPkg ctx tgtPkg tgt : RefName.Path) (h : tgt ≠ []) :
    RefName.shortName ctxPkg ctx tgtPkg tgt ≠ [] :=
  (RefName.home_append_shortName ctxPkg ctx tgtPkg tgt h).2

/-! ## 3. printing order -/

/-- `sourceElements.Less` is irreflexive and asymmetric for all elements … -/
theorem C05_order_irrefl (a : Order.Elem) : Order.less a a = false := Order.less_irrefl a

theorem C05_order_asymm (a b : Order.Elem) (h : Order.less a b = true) : Order.less b a = false :=
  Order.less_asymm a b h

/-- … but it is **not** transitive when elements with and without a source line are mixed
(`sort.Sort` then has no specified result). -/
theorem C05_order_not_transitive :
    ∃ a b c : Order.Elem, Order.less a b = true ∧ Order.less b c = true ∧ Order.less a c = false :=
  ⟨⟨0, 5, 0⟩, ⟨1, 0, 0⟩, ⟨2, 3, 0⟩, by decide⟩

/-- When all elements have a source line, or none has, `Less` is a strict weak order. -/
theorem C05_order_strict_weak_partial (a b c : Order.Elem)
    (hu : (a.startLine ≠ 0 ∧ b.startLine ≠ 0 ∧ c.startLine ≠ 0) ∨
          (a.startLine = 0 ∧ b.startLine = 0 ∧ c.startLine = 0)) :
    (Order.less a b = true → Order.less b c = true → Order.less a c = true) ∧
    ((Order.less a b = false ∧ Order.less b a = false) → (Order.less b c = false ∧ Order.less c b = false) →
      (Order.less a c = false ∧ Order.less c a = false)) :=
  ⟨Order.less_trans a b c hu, Order.incomp_trans a b c hu⟩

theorem uniform_cases (es : List Order.Elem) (hu : Order.uniformLines es = true) (a b c : Order.Elem)
    (ha : a ∈ es) (hb : b ∈ es) (hc : c ∈ es) :
    (a.startLine ≠ 0 ∧ b.startLine ≠ 0 ∧ c.startLine ≠ 0) ∨
    (a.startLine = 0 ∧ b.startLine = 0 ∧ c.startLine = 0) := by
  unfold Order.uniformLines at hu
  simp only [Bool.or_eq_true, List.all_eq_true, decide_eq_true_eq] at hu
  rcases hu with h | h
  · exact Or.inl ⟨h a ha, h b hb, h c hc⟩
  · exact Or.inr ⟨h a ha, h b hb, h c hc⟩

/-- The printing order is a function of the descriptor: there is at most one order in which any correct
sorting algorithm can leave the elements (so `sort.Sort`, unstable as it is, has no freedom) … -/
theorem C05_order_total (es out₁ out₂ : List Order.Elem)
    (h₁ : out₁.Perm es) (h₂ : out₂.Perm es)
    (s₁ : out₁.Pairwise (fun a b => Order.less a b = true))
    (s₂ : out₂.Pairwise (fun a b => Order.less a b = true)) : out₁ = out₂ :=
  Order.sorted_perm_unique Order.less Order.less_asymm es out₁ out₂ h₁ h₂ s₁ s₂

/-- … and when the lines are uniform and no two elements tie, the reference sort finds it. -/
theorem C05_order_sorted_exists (es : List Order.Elem)
    (hu : Order.uniformLines es = true) (hn : Order.noTies Order.less es = true) :
    (Order.isort Order.less es).Perm es ∧
    (Order.isort Order.less es).Pairwise (fun a b => Order.less a b = true) := by
  refine ⟨Order.isort_perm _ es, Order.isort_sorted _ es (Order.noTies_total _ es hn) ?_⟩
  intro a b c ha hb hc
  exact Order.less_trans a b c (uniform_cases es hu a b c ha hb hc)

example : Order.uniformLines [⟨1, 4, 0⟩, ⟨0, 9, 0⟩, ⟨2, 2, 1⟩] = true ∧
    Order.noTies Order.less [⟨1, 4, 0⟩, ⟨0, 9, 0⟩, ⟨2, 2, 1⟩] = true := by decide
example : Order.isort Order.less [⟨1, 0, 0⟩, ⟨0, 0, 0⟩, ⟨2, 0, 1⟩, ⟨1, 0, 1⟩] =
    [⟨0, 0, 0⟩, ⟨1, 0, 0⟩, ⟨1, 0, 1⟩, ⟨2, 0, 1⟩] := by decide

/-- Options of a field are sorted by qualified name: bytewise `<` is a strict total order, so the
sorted order of pairwise different names is unique (and `slices.SortFunc` has no freedom). -/
theorem C05_option_sort_unique (ns out₁ out₂ : List (List Nat))
    (h₁ : out₁.Perm ns) (h₂ : out₂.Perm ns)
    (s₁ : out₁.Pairwise (fun a b => Order.nameLess a b = true))
    (s₂ : out₂.Pairwise (fun a b => Order.nameLess a b = true)) : out₁ = out₂ :=
  Order.sorted_perm_unique Order.nameLess Order.nameLess_asymm ns out₁ out₂ h₁ h₂ s₁ s₂

theorem C05_option_sort_exists (ns : List (List Nat)) (hd : ns.Nodup) :
    (Order.isort Order.nameLess ns).Perm ns ∧
    (Order.isort Order.nameLess ns).Pairwise (fun a b => Order.nameLess a b = true) := by
  refine ⟨Order.isort_perm _ ns, Order.isort_sorted _ ns ?_ ?_⟩
  · exact hd.imp (fun hne => Order.nameLess_total _ _ hne)
  · intro a b c _ _ _; exact Order.nameLess_trans a b c

/-! ## 4. option values -/

/-- Hoisting single-field messages into the option name (`(ext).a.b = v`) loses nothing:
re-nesting the hoisted path yields the original value tree. -/
theorem C05_simplify_inv (maxDepth fuel : Nat) (root : OptionText.Opt) :
    OptionText.expand root.key (OptionText.simplify maxDepth fuel [] root).1
      (OptionText.simplify maxDepth fuel [] root).2 = root := by
  obtain ⟨ext, h1, h2⟩ := OptionText.simplify_expand maxDepth fuel [] root
  simp only [List.nil_append] at h1
  rw [h1]; exact h2

example : OptionText.simplify 5 9 [] (.msg "field" [.msg "string" [.scalar "min_len" "1"]]) =
    (["string", "min_len"], .scalar "min_len" "1") := by
  simp [OptionText.simplify]

/-- The token sequence the printer writes for an option value (message literal `{ k: v … }`, list
`[ v, … ]`, scalars) is read back by a parser of that grammar as the same tree — for every tree
`WalkOptionField` can produce (no list directly inside a list), of any size and depth. List
elements and the root come back without their (redundant) key: `norm`. -/
theorem C05_option_inv (v : OptionText.Opt) (hw : OptionText.wf v = true) :
    OptionText.pValue (OptionText.sz v) (OptionText.valueToks v) = some (OptionText.norm v) :=
  OptionText.pValue_valueToks v hw

/-- the value literal does not depend on the keys the text cannot carry -/
example : OptionText.valueToks (.arr "additional_bindings" [.msg "additional_bindings" [.scalar "post" "\"/a\""]]) =
    [.lbrack, .lbrace, .ident "post", .colon, .scalar "\"/a\"", .rbrace, .rbrack] := by
  simp [OptionText.valueToks, OptionText.arrToks, OptionText.msgToks]

example : OptionText.wf (.msg "http" [.scalar "post" "\"/a\"", .scalar "body" "\"*\"",
    .arr "additional_bindings" [.msg "additional_bindings" [.scalar "post" "\"/b\""], .msg "additional_bindings" []]]) = true := by
  simp [OptionText.wf, OptionText.wfKids, OptionText.wfElems]

/-- Integer option values of any size and sign (`strconv.FormatInt` / `FormatUint`, base 10) are read
back by the integer-literal reader (decimal / octal / hexadecimal forms of the language) as the
same number: numeric boundaries included, since there is no bound. Floats are not modelled: their
text is taken from the Go side and the real read-back is compared bit by bit by the `flt` ops. -/
theorem C05_int_inv (n : Int) : Scalar.readIntLit (Scalar.intDigits n) = some n :=
  Scalar.readIntLit_intDigits n

theorem C05_uint_inv (n : Nat) : Scalar.readNatLit (Scalar.natDigits n) = some n :=
  Scalar.readNatLit_natDigits n

/-! ## 5. the whole file, as far as the kernels carry it -/

/-- one occurrence of a type reference (field type, map value type, method request / response) -/
structure RefOcc where
  only : Bool
  ctxPkg : RefName.Path
  ctx : RefName.Path
  tgtPkg : RefName.Path
  tgt : RefName.Path

/-- The content of a file that travels through the kernels: the symbols in view, every type
reference, every string / bytes scalar (option values, file-level string options, json_name). -/
structure KFile where
  tab : RefName.Tab
  refs : List RefOcc
  strings : List (List Nat)

/-- what the printed text holds for them -/
structure KText where
  names : List (RefOcc × RefName.Name)   -- the scope an occurrence sits in, and the name written there
  lits : List (List Nat)

def printK (f : KFile) : KText :=
  ⟨f.refs.map (fun r => (r, RefName.refName f.tab r.ctxPkg r.ctx r.tgtPkg r.tgt)),
   f.strings.map TextString.textString⟩

def allSome {α} : List (Option α) → Option (List α)
  | [] => some []
  | none :: _ => none
  | some a :: rest => (allSome rest).map (a :: ·)

/-- The reader side. `read` stands for bufbuild/protocompile (parser + linker), which is third
party and not re-implemented; `spec` is the **assumption** made about it: it finds the same
occurrences in the text and reads each type name by protobuf name resolution in the scope it is
written in, and each string literal by the literal rules. (Both rules are the Lean functions
validated differentially against protocompile by the `print.ref` / `print.str` streams.) -/
structure Reader where
  read : RefName.Tab → KText → Option (List RefName.Path × List (List Nat))
  spec : ∀ tab txt, read tab txt =
    (match allSome (txt.names.map (fun (c, n) => RefName.resolveName tab c.ctxPkg c.ctx c.only n)),
           allSome (txt.lits.map TextString.unescape) with
     | some a, some b => some (a, b)
     | _, _ => none)

theorem allSome_map {α β} (f : α → Option β) (g : α → β) :
    ∀ (l : List α), (∀ a ∈ l, f a = some (g a)) → allSome (l.map f) = some (l.map g)
  | [], _ => rfl
  | a :: l, h => by
    simp only [List.map_cons]
    rw [h a (by simp)]
    simp only [allSome]
    rw [allSome_map f g l (fun b hb => h b (by simp [hb]))]
    rfl

/-- **Whole-file statement, partial.** `Reader.spec` fixes `read` completely, so "for every reader" ranges over exactly
one function (the specification itself, `specReader`): the theorem is the list lift of `C05_refname_resolves` and
`C05_string_inv` over the occurrences of a file, stated against an explicit interface. For every reader that treats kernel outputs as assumed
above: reading the printed file gives back every referenced type and every string value, provided
each referenced type is declared. Partial because (i) the reader's grammar level is
an assumption, (ii) comments, layout, element order, numeric scalars and option structure are outside this statement (order and
option trees have their own theorems above; the rest is covered by the `print.reparse` oracle). -/
theorem C05_reparse_partial (R : Reader) (f : KFile)
    (hrefs : ∀ r ∈ f.refs, RefName.SymtabWF f.tab r.only r.tgtPkg r.tgt)
    (hstr : ∀ s ∈ f.strings, TextString.IsBytes s) :
    R.read f.tab (printK f) = some (f.refs.map (fun r => r.tgtPkg ++ r.tgt), f.strings) := by
  rw [R.spec]
  unfold printK
  simp only [List.map_map]
  have h1 : allSome (f.refs.map ((fun (x : RefOcc × RefName.Name) =>
      RefName.resolveName f.tab x.1.ctxPkg x.1.ctx x.1.only x.2) ∘
      fun r => (r, RefName.refName f.tab r.ctxPkg r.ctx r.tgtPkg r.tgt))) =
      some (f.refs.map (fun r => r.tgtPkg ++ r.tgt)) := by
    apply allSome_map
    intro r hr
    exact C05_refname_resolves f.tab r.only r.ctxPkg r.ctx r.tgtPkg r.tgt (hrefs r hr)
  have h2 : allSome (f.strings.map (TextString.unescape ∘ TextString.textString)) = some (f.strings.map id) := by
    apply allSome_map
    intro s hs
    exact C05_string_inv s (hstr s hs)
  rw [h1, h2]
  simp

/-- Printing what was read reproduces the same names and literals (the kernel part of "printing
that result again reproduces the same text"; the layout part is `C05_reprint_fixed` below). -/
theorem C05_reprint_kernels (R : Reader) (f : KFile)
    (hrefs : ∀ r ∈ f.refs, RefName.SymtabWF f.tab r.only r.tgtPkg r.tgt)
    (hstr : ∀ s ∈ f.strings, TextString.IsBytes s)
    (tgts : List RefName.Path) (strs : List (List Nat))
    (hread : R.read f.tab (printK f) = some (tgts, strs)) :
    -- the re-read file has the same references (same scopes, the targets that were read) and strings
    tgts = f.refs.map (fun r => r.tgtPkg ++ r.tgt) ∧ strs = f.strings ∧
    (printK ⟨f.tab, f.refs, strs⟩).lits = (printK f).lits := by
  rw [C05_reparse_partial R f hrefs hstr] at hread
  simp only [Option.some.injEq, Prod.mk.injEq] at hread
  obtain ⟨h1, h2⟩ := hread
  subst h1 h2
  exact ⟨rfl, rfl, rfl⟩

/-- the hypotheses are satisfiable: a file with one in-package, one cross-package reference and
hard strings, and the reader defined by the specification itself -/
def specReader : Reader :=
  ⟨fun tab txt => match allSome (txt.names.map (fun (c, n) => RefName.resolveName tab c.ctxPkg c.ctx c.only n)),
      allSome (txt.lits.map TextString.unescape) with
    | some a, some b => some (a, b)
    | _, _ => none, fun _ _ => rfl⟩

theorem okTab_wf_cross : RefName.SymtabWF okTab true ["q", "r"] ["X"] := by
  refine ⟨by simp, ⟨.msg, by decide, by decide⟩, ?_, ?_⟩
  · intro j h1 h2; simp at h2; omega
  · intro i h1 h2
    have : i = 1 ∨ i = 2 := by simp at h2; omega
    rcases this with rfl | rfl <;> decide

example : ∃ f : KFile, f.refs.length = 2 ∧ f.strings = [[0, 34, 0xFF], [0xC3, 0xA9]] ∧
    (∀ r ∈ f.refs, RefName.SymtabWF f.tab r.only r.tgtPkg r.tgt) ∧
    (∀ s ∈ f.strings, TextString.IsBytes s) :=
  ⟨⟨okTab, [⟨true, ["p"], ["A", "D"], ["p"], ["A", "B", "C"]⟩, ⟨true, ["p"], ["A", "D"], ["q", "r"], ["X"]⟩],
    [[0, 34, 0xFF], [0xC3, 0xA9]]⟩, rfl, rfl, by
      intro r hr
      simp only [List.mem_cons, List.not_mem_nil, or_false] at hr
      rcases hr with rfl | rfl
      · exact okTab_wf
      · exact okTab_wf_cross, by decide⟩

/-! ## 6. the whole printer: printing the re-parsed result reproduces the same text

`Layout.printFile` is a model of all of `protoprint.PrintFile` above the kernels — element walk,
sorting, gaps, comments, option statements, field options, imports, file options — over an abstract
element tree (`Layout.FileD`: file → messages / enums / services → fields / values / methods →
options, every element with its source location and comments). It is compared with the real
printer on every file of the `print.file` stream. -/

open Layout in
/-- **Printing is a fixed point** ("printing that result again reproduces the same text"), for
every descriptor without source information (what `j5convert` builds before comments are attached;
fix 63476fb made the statement true): let `d'` be the file a reader of the printed text finds —
the elements of `d` in printed order, every element and option with the source lines of the text,
no comments (`relaidFile`). Then the printer writes for `d'` exactly the lines it wrote for `d`.

`relaidFile` asks of the locations only what holds of any faithful reading of the printed text:
start lines increase in printed order; two consecutive elements are more than a line apart only
where the printer leaves a gap anyway (after a block or a method, at a change of kind); an option
that can be written on one line was on one line; a single in-line field option was in line. That the
grammar model `Grammar.parseFile` (validated against protocompile on every `print.file` op) reads
the printed text this way is proved for the shape `SimpleFile` (`C05_reparse` below) and checked by the
stream on every op for the rest. -/
theorem C05_reprint_fixed (gen : String) (d d' : FileD) (hu : d.quiet) (hr : relaidFile d.arranged d') :
    printFile gen d' = printFile gen d :=
  printFile_reprint gen d d' hu hr

/-! non-vacuity: a file with imports, a file option, a service with a method option, a message with
an option, fields (one with an in-line option, one repeated), a nested message and a nested enum -/
section example_file
open Layout OptionText

def exOpt (name : String) (v : Opt) : SOpt := ⟨name, [v], false, false, false, 0, 0, name⟩

def exFile : FileD :=
  ⟨Loc.none, "p.v1", [("a.proto", "")], [exOpt "go_package" (.scalar "go_package" "\"x/y\"")], [],
   [ .block "message" 1 Loc.none 0 "M" [exOpt "(j5.ext.v1.message).object" (.msg "object" [])]
       [ .field ⟨.field, Loc.none, 0, "", "string", "a", 1, some "a", [exOpt "(x.v1.f).min" (.scalar "min" "1")]⟩,
         .field ⟨.field, Loc.none, 1, "repeated ", "E", "b_c", 2, some "bC", []⟩,
         .block "enum" 2 Loc.none 0 "E" [] [ .field ⟨.value, Loc.none, 0, "", "", "E_UNSPECIFIED", 0, none, []⟩,
                                            .field ⟨.value, Loc.none, 1, "", "", "E_X", 1, none, []⟩ ],
         .block "message" 1 Loc.none 0 "N" [] [] ],
     .block "service" 0 Loc.none 0 "S" []
       [ .rpc Loc.none 0 "Get" "M" "M.N" [exOpt "(google.api.http)" (.msg "http" [.scalar "get" "\"/a\""])] ] ]⟩


def lo (s e : Nat) : Loc := ⟨s, e, [], "", ""⟩
def exOptL (name : String) (v : Opt) (inl : Bool) (line : Nat) : SOpt := ⟨name, [v], true, true, inl, line, 0, ""⟩

/-- the arranged file -/
def exArr : FileD :=
  ⟨Loc.none, "p.v1", [("a.proto", "")], [exOpt "go_package" (.scalar "go_package" "\"x/y\"")], [],
   [ .block "service" 0 Loc.none 0 "S" []
       [ .rpc Loc.none 0 "Get" "M" "M.N" [exOpt "(google.api.http)" (.msg "http" [.scalar "get" "\"/a\""])] ],
     .block "message" 1 Loc.none 0 "M" [exOpt "(j5.ext.v1.message).object" (.msg "object" [])]
       [ .field ⟨.field, Loc.none, 0, "", "string", "a", 1, some "a", [exOpt "(x.v1.f).min" (.scalar "min" "1")]⟩,
         .field ⟨.field, Loc.none, 1, "repeated ", "E", "b_c", 2, some "bC", []⟩,
         .block "message" 1 Loc.none 0 "N" [] [],
         .block "enum" 2 Loc.none 0 "E" [] [ .field ⟨.value, Loc.none, 0, "", "", "E_UNSPECIFIED", 0, none, []⟩,
                                            .field ⟨.value, Loc.none, 1, "", "", "E_X", 1, none, []⟩ ] ] ]⟩

example : exFile.arranged = exArr := by rfl

/-- what a reader of the printed text finds (lines as printed above) -/
def exRead : FileD :=
  ⟨Loc.none, "p.v1", [("a.proto", "")], [exOptL "go_package" (.scalar "" "\"x/y\"") false 9], [],
   [ .block "service" 0 (lo 11 15) 0 "S" []
       [ .rpc (lo 12 14) 0 "Get" "M" "M.N" [exOptL "(google.api.http)" (.msg "" [.scalar "get" "\"/a\""]) false 13] ],
     .block "message" 1 (lo 17 29) 0 "M" [exOptL "(j5.ext.v1.message).object" (.msg "" []) false 18]
       [ .field ⟨.field, lo 20 20, 0, "", "string", "a", 1, some "a", [exOptL "(x.v1.f).min" (.scalar "" "1") true 20]⟩,
         .field ⟨.field, lo 21 21, 0, "repeated ", "E", "b_c", 2, some "bC", []⟩,
         .block "message" 1 (lo 23 23) 0 "N" [] [],
         .block "enum" 2 (lo 25 28) 0 "E" [] [ .field ⟨.value, lo 26 26, 0, "", "", "E_UNSPECIFIED", 0, none, []⟩,
                                            .field ⟨.value, lo 27 27, 0, "", "", "E_X", 1, none, []⟩ ] ] ]⟩

example : exFile.quiet := by
  simp [FileD.quiet, exFile, Loc.noComments, Loc.none, quietList, Item.quiet, FieldD.quiet, exOpt]

example : relaidFile exArr exRead := by
  simp [relaidFile, exArr, exRead, relaidKids, relaid, fieldOk, optsOk, optOk, Loc.noComments, lo, exOpt, exOptL, gapCond,
    Item.loc, Item.typeOrder, Item.gapEnder, eraseKeys, eraseKids, SOpt.single, SOpt.inl, sortImports,
    Order.locLess_irrefl, Order.isort, Order.insertBy, Loc.none]

/-- the text of the example and of its reading are the same -/
example : printFile "gen" exRead = printFile "gen" exFile :=
  C05_reprint_fixed "gen" exFile exRead
    (by simp [FileD.quiet, exFile, Loc.noComments, Loc.none, quietList, Item.quiet, FieldD.quiet, exOpt])
    (by
      have h : exFile.arranged = exArr := by rfl
      rw [h]
      simp [relaidFile, exArr, exRead, relaidKids, relaid, fieldOk, optsOk, optOk, Loc.noComments, lo, exOpt, exOptL, gapCond,
        Item.loc, Item.typeOrder, Item.gapEnder, eraseKeys, eraseKids, SOpt.single, SOpt.inl, sortImports,
        Order.locLess_irrefl, Order.isort, Order.insertBy, Loc.none])

end example_file

/-! ## 7. the printed text is read back as the descriptor it was printed from (a validated grammar model)

`Grammar.parseFile` is a model of the reader: a tokeniser (identifiers, numbers, string literals,
punctuation, line comments with protocompile's attribution rules) and a recursive-descent parser
of the proto3 subset the printer emits. It is validated against bufbuild/protocompile on every op
of the `print.file` stream (same elements, source lines, attributed comments, fields, options). The
theorem below discharges the "grammar assumed" hypothesis for the descriptor shape `SimpleFile`:
package, imports (plain / public / weak), services with methods (unary and streaming), messages with
nested messages and enums, fields (no label / `repeated` / `optional`; scalar, relative,
package-qualified and fully-qualified type names; any number, negative ones included), enum values —
real oneofs, map fields — with or without source locations (lines; the printer orders the children of a
block by them and leaves a gap where the source left a line free), bracket options and custom JSON names of fields,
statement options of messages, enums, services and methods (a `/` inside a string literal is fine), **leading comments** on
messages, enums, services, oneofs, fields, enum values and methods (the `//` lines are attributed by the model of
protocompile's comment attribution to the element below them; the comment text must end with a line break and is read back
verbatim) — without detached / trailing comments, extensions, options of files / oneofs / enum values (those are covered by
the stream only, not by the theorem). -/

open Layout Grammar Reparse in
/-- **parse (print d) = d′ with d′ ≍ d, and print d′ = print d.** For every `d` whose printed
arrangement is a `SimpleFile`: the grammar model reads the printed text as `rdFile d.arranged` — by
`relaidFileL` the same package, imports and elements (names, numbers, type names, labels, JSON
names, nesting, enum values, leading comments, in printed order) with the source lines of the text — and printing that
reading reproduces the text. Over characters: the tokeniser and the comment attribution are part of the statement. -/
theorem C05_reparse (gen : String) (d : FileD) (h : SimpleFile gen d.arranged) :
    parseFile (printText gen d) = some (rdFile d.arranged) ∧
    relaidFileL d.arranged (rdFile d.arranged) ∧
    printFile gen (rdFile d.arranged) = printFile gen d :=
  ⟨parse_print gen d.arranged h, relaid_rdFile gen d.arranged h, reprint_simple gen d.arranged h⟩

/-! non-vacuity: a file with a public import, a service with a server-streaming method, a message with
a scalar field, a repeated field of a package-qualified type, a nested empty message and a nested enum
with a negative value -/
section simple_example
open Layout OptionText Grammar Reparse

def fld (label ty name : String) (num : Int) : Item :=
  .field ⟨.field, Loc.none, 0, label, ty, name, num, some (String.ofList (defaultJSONName name.toList)), []⟩
def val (name : String) (num : Int) : Item := .field ⟨.value, Loc.none, 0, "", "", name, num, none, []⟩

/-- a simple file in printed order -/
def simpleEx : FileD :=
  ⟨Loc.none, "p.v1", [("a/b.proto", "public ")], [], [],
   [ .block "service" 0 Loc.none 0 "S" [] [ .rpc Loc.none 0 "Get" "M" "stream M.N" [] ],
     .block "message" 1 Loc.none 0 "M" []
       [ fld "" "string" "a" 1, fld "repeated " "q.E" "b_c" 2, fld "" "map<string, .p.v1.M.N>" "m" 5,
         .block "oneof" 0 Loc.none 0 "pick" [] [ fld "" "string" "x" 3, fld "" "M.N" "y" 4 ],
         .block "message" 1 Loc.none 0 "N" [] [],
         .block "enum" 2 Loc.none 0 "E" [] [val "E_UNSPECIFIED" 0, val "E_X" (-1)] ] ]⟩

theorem ident (s : String) (c : Char) (cs : List Char) (h : s.toList = c :: cs) (h1 : isLetter c = true)
    (h2 : cs.all isIdentChar = true) : IsIdent s :=
  ⟨c, cs, h, h1, by simpa [List.all_eq_true] using h2⟩

theorem kwOk_of (s : String) (h : decide (s ≠ "repeated" ∧ s ≠ "optional" ∧ s ≠ "option" ∧ s ≠ "message" ∧ s ≠ "enum" ∧ s ≠ "oneof") = true) :
    kwOk s := by unfold kwOk; exact of_decide_eq_true h

theorem simpleEx_ok : SimpleFile "gen" simpleEx :=
  Cover.simpleFileB_sound "gen" simpleEx (by decide +kernel)

/-- a file *with source locations* and without comments (what `j5convert` produces for a schema without
descriptions): the enum was declared on lines 1–3, the message on 5–12, field `b` (line 9) two lines after
field `a` (line 6): the printer keeps a gap there; the fields are listed out of source order -/
def fldAt (s e : Nat) (ix : Nat) (label ty name : String) (num : Int) : Item :=
  .field ⟨.field, ⟨s, e, [], "", ""⟩, ix, label, ty, name, num, some (String.ofList (defaultJSONName name.toList)), []⟩

def locatedEx : FileD :=
  ⟨Loc.none, "p.v1", [], [], [],
   [ .block "message" 1 ⟨5, 12, [], "", ""⟩ 0 "M" []
       [ fldAt 9 9 1 "" "int32" "b" 2, fldAt 6 6 0 "" "string" "a" 1, fldAt 10 10 2 "repeated " "M" "c" 3 ],
     .block "enum" 2 ⟨1, 3, [], "", ""⟩ 0 "E" [] [ .field ⟨.value, ⟨2, 2, [], "", ""⟩, 0, "", "", "E_UNSPECIFIED", 0, none, []⟩ ] ]⟩

theorem locatedEx_ok : SimpleFile "gen" locatedEx.arranged :=
  Cover.simpleFileB_sound "gen" locatedEx.arranged (by decide +kernel)

/-- the arrangement sorts by line: the enum of line 1 before the message of line 5 (the printed text, by `#eval`:
`enum E {` … `}` · gap · `message M {` · `string a = 1;` · gap · `int32 b = 2;` · `repeated M c = 3;` · `}`) -/
example : locatedEx.arranged.items.map (·.loc.startLine) = [1, 5] := by decide

/-- `C05_reparse` applies to the located file -/
example := C05_reparse "gen" locatedEx locatedEx_ok

/-- fields with bracket options and custom JSON names, with source lines (the shape of a j5s-compiled field):
`optional string foo_id = 1 [` / `(j5.ext.v1.field).string = {},` / `json_name = "foo_id"` / `];` and a map
field with two options -/
def exO1 : SOpt := ⟨"(j5.ext.v1.field).string", [.msg "" []], false, false, false, 0, 0, "j5.ext.v1.field"⟩
def exO2 : SOpt := ⟨"deprecated", [.scalar "" "true"], false, false, false, 0, 1, "deprecated"⟩
/-- an option with a message literal that fits one line: `(x.y).z = {min_len: 1}`. (Values that take several lines
— nested messages, lists — are inside `OptField` as well and the checker accepts them (`#eval`); the kernel cannot
*evaluate* `msgFields` (compiled by well-founded recursion), so they have no `decide` example here.) -/
def exO3 : SOpt := ⟨"(x.y).z", [.msg "" [.scalar "min_len" "1"]], false, false, false, 0, 0, "x.y"⟩
def optEx : FileD :=
  ⟨Loc.none, "p.v1", [], [], [],
   [ .block "message" 1 ⟨5, 12, [], "", ""⟩ 0 "M" []
       [ .field ⟨.field, ⟨7, 7, [], "", ""⟩, 0, "optional ", "string", "foo_id", 1, some "foo_id", [exO1]⟩,
         .field ⟨.field, ⟨9, 9, [], "", ""⟩, 1, "", "map<string, .p.M>", "m", 2, some "m", [exO1, exO2]⟩,
         .field ⟨.field, ⟨10, 10, [], "", ""⟩, 2, "", "M", "only_json", 3, some "only_json", []⟩,
         .field ⟨.field, ⟨11, 11, [], "", ""⟩, 3, "repeated ", "int32", "n", 4, some "n", [exO3]⟩ ] ]⟩

theorem optEx_ok : SimpleFile "gen" optEx.arranged :=
  Cover.simpleFileB_sound "gen" optEx.arranged (by decide +kernel)

/-- `C05_reparse` applies to it -/
example := C05_reparse "gen" optEx optEx_ok

/-- statement options: the shape of a j5s-compiled message (`option (j5.ext.v1.message).object = {};`, a gap, fields
with bracket options and `json_name`), a nested enum with an option and no values, source lines on every element -/
def exMsgOpt : SOpt := ⟨"(j5.ext.v1.message).object", [.msg "" []], false, false, false, 0, 0, "j5.ext.v1.message"⟩
def stmtEx : FileD :=
  ⟨Loc.none, "p.v1", [("j5/ext/v1/annotations.proto", "")], [], [],
   [ .block "message" 1 ⟨5, 12, [], "", ""⟩ 0 "Spec" [exMsgOpt]
       [ .field ⟨.field, ⟨7, 7, [], "", ""⟩, 0, "", "string", "foo_id", 1, some "foo_id", [exO1]⟩,
         .block "enum" 2 ⟨9, 11, [], "", ""⟩ 0 "E"
           [⟨"allow_alias", [.scalar "" "true"], false, false, false, 0, 0, "allow_alias"⟩] [] ],
     .block "message" 1 ⟨14, 16, [], "", ""⟩ 1 "OnlyOption" [exMsgOpt] [],
     .block "service" 0 ⟨30, 36, [], "", ""⟩ 0 "Topic"
       [⟨"(j5.messaging.v1.service)", [.msg "" [.scalar "topic_name" "\"a/b\""]], false, false, false, 0, 0, "j5.messaging.v1.service"⟩]
       [ .rpc ⟨32, 32, [], "", ""⟩ 0 "Post" "Spec" "google.protobuf.Empty" [],
         .rpc ⟨34, 36, [], "", ""⟩ 1 "Get" "Spec" "stream Spec"
           [⟨"(google.api.http)", [.msg "" [.scalar "get" "\"/v1/spec/{id}\""]], false, false, false, 0, 0, "google.api.http"⟩] ],
     .block "message" 1 ⟨18, 24, [], "", ""⟩ 2 "Choice" [⟨"(j5.ext.v1.message).oneof", [.msg "" []], false, false, false, 0, 0, "j5.ext.v1.message"⟩]
       [ .block "oneof" 0 ⟨20, 23, [], "", ""⟩ 0 "type" []
           [ .field ⟨.field, ⟨21, 21, [], "", ""⟩, 0, "", "Spec", "key", 1, some "key",
               [⟨"(j5.ext.v1.field).object", [.msg "" []], false, false, false, 0, 0, "j5.ext.v1.field"⟩]⟩ ] ] ]⟩

theorem stmtEx_ok : SimpleFile "gen" stmtEx.arranged :=
  Cover.simpleFileB_sound "gen" stmtEx.arranged (by decide +kernel)

/-- `C05_reparse` applies to it -/
example := C05_reparse "gen" stmtEx stmtEx_ok

/-- the example is its own arrangement (the service before the message; fields before the nested message before the enum) -/
example : simpleEx.arranged = simpleEx := by rfl

end simple_example

/-! ## 7b. printing is a fixed point — leading comments included

`C05_reprint_fixed` is about descriptors without comments. A j5s file with descriptions compiles to a descriptor
whose messages / fields / enum values / services / methods carry **leading comments** (≈ 70 % of the generated
j5s files). The layout theorem holds for them as well: `quietL` allows a leading comment on every element (still no
detached / trailing comment, no located option), `relaidFileL` asks of the reading the same leading comment on the
same element and does not ask the gap clause of an element with a leading comment (the printer writes a gap before
a leading comment whatever the lines say). `C05_reprint_leading_subsumes`: every instance of the comment-free
hypotheses is an instance of these. `C05_reprint_checked`: the same conclusion from the two *decidable* tests the
driver evaluates on every `print.file` op — on the arranged summary of the real descriptor and on what the grammar
model reads from the model's text (evidence `coverage.reprint_theorem_*`). For the shape `SimpleFile` (leading comments
included) `C05_reparse` proves that `Grammar.parseFile` reads the text this way; for files outside that
shape (options of files / oneofs / enum values, `extend` blocks) it is validated against protocompile on every op and
evaluated per op by these tests. -/

open Layout in
theorem C05_reprint_fixed_leading (gen : String) (d d' : FileD) (hu : d.quietL) (hr : relaidFileL d.arranged d') :
    printFile gen d' = printFile gen d :=
  printFile_reprintL gen d d' hu hr

open Layout in
theorem C05_reprint_leading_subsumes (d d' : FileD) (hu : d.quiet) (hr : relaidFile d.arranged d') :
    d.quietL ∧ relaidFileL d.arranged d' :=
  ⟨hu.toL, hr.toL (FileD.arranged_quiet d hu)⟩

open Layout in
theorem C05_reprint_checked (gen : String) (d d' : FileD)
    (h1 : Cover.quietLFileB d.arranged = true) (h2 : Cover.relaidFileLB d.arranged d' = true) :
    printFile gen d' = printFile gen d :=
  printFile_relaidL gen d.arranged d' (Cover.quietLFileB_sound h1) (Cover.relaidFileLB_sound h2)

section lead_example
open Layout OptionText

def lc (s e : Nat) (c : String) : Loc := ⟨s, e, [], c, ""⟩

def leadEx : FileD :=
  ⟨Loc.none, "p.v1", [("j5/ext/v1/annotations.proto", "")], [], [],
   [ .block "message" 1 (lc 5 12 " A thing.\n") 0 "Thing" [exMsgOpt]
       [ .field ⟨.field, lc 9 9 " second field\n over two lines\n", 1, "", "int32" , "n", 2, some "n", []⟩,
         .field ⟨.field, lc 7 7 "", 0, "optional ", "string", "foo_id", 1, some "foo_id", [exO1]⟩,
         .field ⟨.field, lc 10 10 " directly below\n", 2, "", "Kind" , "kind", 3, some "kind", []⟩ ],
     .block "enum" 2 (lc 14 18 "") 0 "Kind" []
       [ .field ⟨.value, lc 15 15 "", 0, "", "", "KIND_UNSPECIFIED", 0, none, []⟩,
         .field ⟨.value, lc 17 17 " the only kind\n", 1, "", "", "KIND_A", 1, none, []⟩ ],
     .block "service" 0 (lc 20 24 " Serves things.\n") 0 "Things" []
       [ .rpc (lc 22 22 " Get one.\n") 0 "Get" "Thing" "Thing" [] ] ]⟩

def rdO (name : String) (v : Opt) (line : Nat) : SOpt := ⟨name, [v], true, true, false, line, 0, ""⟩

def leadRead : FileD :=
  ⟨Loc.none, "p.v1", [("j5/ext/v1/annotations.proto", "")], [], [],
   [ .block "message" 1 (lc 9 23 " A thing.\n") 0 "Thing" [rdO "(j5.ext.v1.message).object" (.msg "" []) 10]
       [ .field ⟨.field, lc 12 15 "", 0, "optional ", "string", "foo_id", 1, some "foo_id",
           [rdO "(j5.ext.v1.field).string" (.msg "" []) 13]⟩,
         .field ⟨.field, lc 19 19 " second field\n over two lines\n", 0, "", "int32" , "n", 2, some "n", []⟩,
         .field ⟨.field, lc 22 22 " directly below\n", 0, "", "Kind" , "kind", 3, some "kind", []⟩ ],
     .block "enum" 2 (lc 25 30 "") 0 "Kind" []
       [ .field ⟨.value, lc 26 26 "", 0, "", "", "KIND_UNSPECIFIED", 0, none, []⟩,
         .field ⟨.value, lc 29 29 " the only kind\n", 0, "", "", "KIND_A", 1, none, []⟩ ],
     .block "service" 0 (lc 33 37 " Serves things.\n") 0 "Things" []
       [ .rpc (lc 36 36 " Get one.\n") 0 "Get" "Thing" "Thing" [] ] ]⟩

theorem leadEx_quiet : Cover.quietLFileB leadEx.arranged = true := by decide +kernel
theorem leadEx_relaid : Cover.relaidFileLB leadEx.arranged leadRead = true := by decide +kernel

example : printFile "gen" leadRead = printFile "gen" leadEx :=
  C05_reprint_checked "gen" leadEx leadRead leadEx_quiet leadEx_relaid

/-! The example with leading comments is inside the shape of the grammar theorem as well: `Cover.simpleFileB "gen"
leadEx.arranged` evaluates to `true` (`#eval`, and the driver evaluates the same test on every `print.file` op); it has no
`decide` proof here because the kernel does not evaluate `String.splitOn` (inside `commentBody`). -/

example : leadEx.quietL ∧ relaidFileL leadEx.arranged leadRead :=
  ⟨by simp [FileD.quietL, leadEx, Loc.noComments, Loc.none, quietListL, Item.quietL, FieldD.quietL, Loc.leadOnly, lc, exO1, exMsgOpt],
   Cover.relaidFileLB_sound leadEx_relaid⟩

end lead_example

/-! ## 7c. the reading links: `C05_reparse` composed with `C05_refname_resolves`

`C05_reparse` is a parse-after-print identity on the rendered syntax tree (`FileD` holds type names, labels and option
texts as strings). The property also speaks of *linking*. The composition below is the whole-file statement for type
names: every type-name position of the parsed file holds the name the `RefName` kernel produced, and that name resolves
to the symbol the descriptor points at. It holds for the shape `SimpleFile` (decidable, `Cover.simpleFileB`; measured
coverage of the generated `print.file` ops: `coverage.reparse_theorem_fraction`, ≈ 70 %). -/

/-- a type name as it is written -/
def nameText (n : RefName.Name) : String := (if n.abs then "." else "") ++ ".".intercalate n.parts

/-- what stands at a type-name position of the file: the name `refName` gives for a reference (`some r`), or
something that is no reference (`none`: a scalar type, a map type, a `stream` type, the empty type of an enum value) -/
def LinkSrc (T : RefName.Tab) (txt : String) : Option RefOcc → Prop
  | none => True
  | some r => txt = nameText (RefName.refName T r.ctxPkg r.ctx r.tgtPkg r.tgt)

/-- … and what a reader finds there: the same name, which resolves — by the scope rules, from the scope it is written
in — to the symbol the descriptor points at -/
def Linked (T : RefName.Tab) (txt : String) : Option RefOcc → Prop
  | none => True
  | some r => txt = nameText (RefName.refName T r.ctxPkg r.ctx r.tgtPkg r.tgt) ∧
      RefName.resolveName T r.ctxPkg r.ctx r.only (RefName.refName T r.ctxPkg r.ctx r.tgtPkg r.tgt) = some (r.tgtPkg ++ r.tgt)

open Layout Grammar Reparse in
/-- **The reading links.** `C05_reparse` is an identity on the printed syntax tree; composed with `C05_refname_resolves`:
for a `SimpleFile` whose type names are, position by position (`typeTextsL`, zipped with `srcs`: field types in printed order, nested
elements in place, request / response types of methods), the names the `RefName` kernel produced against the symbol
table `T` for references `srcs` (`none` where the position holds no reference), the file the grammar model reads from the
printed text carries exactly these names at the same positions, and each of them resolves under the scope rules to the
symbol the descriptor points at. (Reading a name text back into components is splitting at dots — `Cover.tyParts`,
`tyParts_sound` — and is not part of this statement; oneof membership, map key / value texts, labels and numbers are part
of the tree `C05_reparse` returns.) -/
theorem C05_reparse_links (gen : String) (d : FileD) (h : SimpleFile gen d.arranged) (T : RefName.Tab)
    (srcs : List (Option RefOcc))
    (hlen : (typeTextsL d.arranged.items).length = srcs.length)
    (hsrc : ∀ p ∈ (typeTextsL d.arranged.items).zip srcs, LinkSrc T p.1 p.2)
    (hwf : ∀ r, some r ∈ srcs → RefName.SymtabWF T r.only r.tgtPkg r.tgt) :
    ∃ d', parseFile (printText gen d) = some d' ∧ (typeTextsL d'.items).length = srcs.length ∧
      ∀ p ∈ (typeTextsL d'.items).zip srcs, Linked T p.1 p.2 := by
  refine ⟨rdFile d.arranged, (C05_reparse gen d h).1, ?_⟩
  rw [rdFile_typeTexts]
  refine ⟨hlen, fun p hp => ?_⟩
  have h1 := hsrc p hp
  obtain ⟨txt, o⟩ := p
  cases o with
  | none => trivial
  | some r =>
    exact ⟨h1, C05_refname_resolves T r.only r.ctxPkg r.ctx r.tgtPkg r.tgt (hwf r (List.of_mem_zip hp).2)⟩

section links_example
open Layout Grammar Reparse

def linkTab : RefName.Tab := ⟨[⟨["p", "M"], .msg⟩, ⟨["p", "M", "N"], .msg⟩], [["p"]]⟩
def linkEx : FileD :=
  ⟨Loc.none, "p", [], [], [],
   [ .block "message" 1 Loc.none 0 "M" [] [ fld "" "N" "a" 1, fld "" "string" "b" 2, .block "message" 1 Loc.none 0 "N" [] [] ] ]⟩
def linkSrcs : List (Option RefOcc) := [some ⟨true, ["p"], ["M"], ["p"], ["M", "N"]⟩, none]

theorem linkEx_ok : SimpleFile "gen" linkEx.arranged := Cover.simpleFileB_sound "gen" linkEx.arranged (by decide +kernel)
theorem linkEx_texts : typeTextsL linkEx.arranged.items = ["N", "string"] := by decide
theorem linkEx_name : nameText (RefName.refName linkTab ["p"] ["M"] ["p"] ["M", "N"]) = "N" := by decide
theorem linkTab_wf : RefName.SymtabWF linkTab true ["p"] ["M", "N"] := by
  refine ⟨by simp, ⟨.msg, by decide, by decide⟩, ?_, ?_⟩
  · intro j h1 h2
    have : j = 1 := by simp at h2; omega
    subst this; decide
  · intro i h1 h2
    have : i = 1 := by simp at h2; omega
    subst this; decide

/-- the message `M { N a = 1; string b = 2; message N {} }` of package `p`: the text `N` at the first position is what
`refName` gives for the reference from `p.M` to `p.M.N`; the parsed file holds it there and it resolves to `p.M.N` -/
example := C05_reparse_links "gen" linkEx linkEx_ok linkTab linkSrcs (by rw [linkEx_texts]; rfl)
  (by
    rw [linkEx_texts]
    intro p hp
    simp only [linkSrcs, List.zip_cons_cons, List.zip_nil_right, List.mem_cons, List.not_mem_nil, or_false] at hp
    rcases hp with rfl | rfl
    · exact linkEx_name.symm
    · trivial)
  (by
    intro r hr
    simp only [linkSrcs, List.mem_cons, Option.some.injEq, List.not_mem_nil, or_false, reduceCtorEq] at hr
    subst hr
    exact linkTab_wf)

end links_example

/-! ## 8. the printed text is a function of the descriptor (cited by C14)

`Layout.printText gen d` is a Lean function: equal descriptors give equal texts by construction. What
could make the *real* printer a relation rather than a function is the unstable `sort.Sort` of the
children of every block. `C05_order_total` says a sorted permutation is unique; lifted to elements:
whatever sorted permutation of the children a sorting algorithm returns, it is the same list, so the
emitted text does not depend on the algorithm. -/

open Layout in
/-- any two permutations of the same children that are sorted by `sourceElements.Less` are equal -/
theorem C05_sorted_children_unique (es out₁ out₂ : List Item)
    (h₁ : out₁.Perm es) (h₂ : out₂.Perm es)
    (s₁ : out₁.Pairwise (fun a b => Order.less a.elem b.elem = true))
    (s₂ : out₂.Pairwise (fun a b => Order.less a.elem b.elem = true)) : out₁ = out₂ :=
  Order.sorted_perm_unique (fun a b => Order.less a.elem b.elem) (fun a b => Order.less_asymm a.elem b.elem)
    es out₁ out₂ h₁ h₂ s₁ s₂

open Layout in
/-- **`print` is a function of the arranged descriptor**: two files with the same arrangement print
the same text. -/
theorem C05_print_function (gen : String) (d₁ d₂ : FileD) (h : d₁.arranged = d₂.arranged) :
    printText gen d₁ = printText gen d₂ := by
  unfold printText printFile
  rw [h]

open Layout in
/-- The top-level arrangement is the only sorted permutation of the elements, so the text written for any sorted
permutation of them is the same (the children of a block: the same argument with `C05_sorted_children_unique` one
level down). -/
theorem C05_print_function_sorted (gen : String) (f : FileD) (out₁ out₂ : List Item)
    (h₁ : out₁.Perm f.items) (h₂ : out₂.Perm f.items)
    (s₁ : out₁.Pairwise (fun a b => Order.less a.elem b.elem = true))
    (s₂ : out₂.Pairwise (fun a b => Order.less a.elem b.elem = true)) :
    run (fileCmds gen { f with items := out₁ }) false = run (fileCmds gen { f with items := out₂ }) false := by
  rw [C05_sorted_children_unique f.items out₁ out₂ h₁ h₂ s₁ s₂]

/-- non-vacuity: the example file's top level is such a sorted permutation (service before message) -/
example : (exFile.arranged.items.map Layout.Item.elem).Pairwise (fun a b => Order.less a b = true) := by
  decide

/-! ## 9. source facts (regenerated by `extract/print.go` from the current tree on every check)

The models above were written from these pieces of `internal/j5s/protoprint`; the extractor reads them again with
go/ast on every run and the obligations compare them with what the models assume. A change of the escape table, of
a case condition of `prototextString`, of the element order or of the blank-line rule breaks an obligation here (and,
independently, the correspondence streams). -/
section source_facts
open J5V.Generated.Print

/-- the escape letters of `prototextString` are the ones `TextString.escStep` writes -/
theorem C05_src_escape_table :
    escTable = [(34, 34), (92, 92), (10, 110), (13, 114), (9, 116)] ∧
    ∀ p ∈ escTable, (TextString.escStep [p.1]).1 = [92, p.2] := ⟨rfl, by decide⟩

/-- every other control byte (and DEL) is written `\\x` + two hex digits, as `goHexPad 2` does -/
theorem C05_src_escape_default :
    escDefault = "out = append(out, 'x') ; out = append(out, \"00\"[1+(bits.Len32(uint32(r))-1)/4:]...) ; out = strconv.AppendUint(out, uint64(r), 16)" ∧
    (TextString.escStep [1]).1 = 92 :: 120 :: TextString.goHexPad 2 1 ∧
    (TextString.escStep [0x7f]).1 = 92 :: 120 :: TextString.goHexPad 2 0x7f := ⟨rfl, by decide, by decide⟩

/-- the case conditions of the loop, the constant `outputASCII`, the `\\u` / `\\U` branch and the byte class of the fast path -/
theorem C05_src_escape_cases :
    escOuterCases = ["r == utf8.RuneError && n == 1", "r < ' ' || r == '\"' || r == '\\\\' || r == 0x7f", "r >= utf8.RuneSelf && (outputASCII || r <= 0x009f)", "default"] ∧
    outputASCII = "true" ∧
    unicodeBranch = "out = append(out, '\\\\') ; if r <= math.MaxUint16 { out = append(out, 'u') out = append(out, \"0000\"[1+(bits.Len32(uint32(r))-1)/4:]...) out = strconv.AppendUint(out, uint64(r), 16) } else { out = append(out, 'U') out = append(out, \"00000000\"[1+(bits.Len32(uint32(r))-1)/4:]...) out = strconv.AppendUint(out, uint64(r), 16) } ; in = in[n:]" ∧
    needEscape = "c < ' ' || c == '\"' || c == '\\'' || c == '\\\\' || c >= 0x7f" := ⟨rfl, rfl, rfl, rfl⟩

/-- `typeOrder`: message 1, enum 2, everything else 0 (`Layout.Item.typeOrder`, shipped by the summary) -/
theorem C05_src_type_order :
    typeOrderDefault = 0 ∧
    typeOrderCases = [("protoreflect.MessageDescriptor", 1), ("protoreflect.EnumDescriptor", 2), ("protoreflect.ServiceDescriptor", 0)] :=
  ⟨rfl, rfl⟩

/-- `sourceElements.Less` (model: `Order.less`) -/
theorem C05_src_less :
    lessBody = "{ if se[i].sourceLocation.StartLine == 0 || se[j].sourceLocation.StartLine == 0 { if se[i].typeOrder != se[j].typeOrder { return se[i].typeOrder < se[j].typeOrder } return se[i].descriptor.Index() < se[j].descriptor.Index() } return se[i].sourceLocation.StartLine < se[j].sourceLocation.StartLine }" := rfl

/-- the blank-line rule of `printElements` (model: `Layout.gapCond`), the loop state it reads, the sort before the loop, and
which kinds of element are followed by `addGap` (model: `Item.gapEnder`; a method adds its gap in `printMethod`) -/
theorem C05_src_gap_rule :
    sortCall = "sort.Sort(elements)" ∧
    gapCondSrc = "idx > 0 && ((lastEnd > 0 && element.sourceLocation.StartLine > lastEnd+1) || element.typeOrder != lastType)" ∧
    loopUpdates = ["lastEnd = element.sourceLocation.EndLine", "lastType = element.typeOrder"] ∧
    gapAfter = [("protoreflect.MessageDescriptor", true), ("protoreflect.ServiceDescriptor", true), ("protoreflect.EnumDescriptor", true), ("protoreflect.OneofDescriptor", true), ("protoreflect.FieldDescriptor", false), ("protoreflect.EnumValueDescriptor", false), ("protoreflect.MethodDescriptor", false)] := ⟨rfl, rfl, rfl, rfl⟩

/-- `commentLines` / `leadingComments` (model: `Layout.commentBody`, `commentLines`, `leadingCmds`) -/
theorem C05_src_comments :
    commentLinesBody = "{ if comment == \"\" { return nil } lines := strings.Split(comment, \"\\n\") lines = lines[:len(lines)-1] for i, line := range lines { lines[i] = fmt.Sprintf(\"//%s\", line) } return lines }" ∧
    leadingCommentsBody = "{ for _, comment := range loc.LeadingDetachedComments { parts := commentLines(comment) for _, part := range parts { fb.p(part) } fb.addGap() } if loc.LeadingComments != \"\" { fb.addGap() parts := commentLines(loc.LeadingComments) for _, part := range parts { fb.p(part) } } }" := ⟨rfl, rfl⟩

end source_facts

end J5V.Props.C05
