import J5V.Compile.ConvertProofs
import J5V.Compile.ShapeProofs
import J5V.Compile.RefsPkg
import J5V.Compile.SymProofs
import J5V.Compile.LoadProofs
import J5V.Compile.LinkImports
import J5V.Generated.CompileconstsFacts
import J5V.Generated.BuildersFacts
import J5V.Generated.ImportmapFacts
/-!
# C02 — j5s compiles to exactly the protobuf contract the source declares

Statements are about `J5V.Compile` (the model of `sourcewalk` + `j5convert`), for **every**
conversion context, parent path, property list, nesting depth; no bound.
Only property theorems and their non-vacuity examples live here.
-/
namespace J5V.Props.C02
open J5V.Go J5V.Compile

/-- **Field numbering.** In the message emitted for a declared (or virtual) object / oneof whose
conversion recorded no error, there is exactly one field per property — the virtual prepends
(request / upsert metadata) first, then the declared ones — and field `i` has number `i + 1`,
proto name `snake(name)` and JSON name `name`. -/
theorem C02_field_numbering (c : Ctx) (np : List Str) (isOneof : Bool) (virt : List Property)
    (name : Str) (props : List Property) (nested : List Nested) (psm : Option Psm)
    (h : (convDecl c np isOneof virt (.mk name props nested psm)).errs = 0) :
    let m := declMsg c np isOneof virt name props nested psm
    m ∈ (convDecl c np isOneof virt (.mk name props nested psm)).msgs ∧
    m.fields.length = virt.length + props.length ∧
    ∀ i (hi : i < (virt ++ props).length) (hf : i < m.fields.length),
      m.fields[i].number = i + 1 ∧
      m.fields[i].name = toSnake (virt ++ props)[i].name ∧
      m.fields[i].jsonName = (virt ++ props)[i].name := by
  intro m
  obtain ⟨hl, hn⟩ := bProps_numbering c (np ++ [name]) isOneof 1 (virt ++ props) (convDecl_props_errs h)
  refine ⟨by rw [convDecl_msgs]; simp [m], hl.trans List.length_append, fun i hi hf => ?_⟩
  have := hn i hi hf
  exact ⟨this.1.trans (Nat.add_comm 1 i), this.2.1, this.2.2⟩

/-- the same as one list equation: names and numbers of all fields of a declaration's message -/
theorem C02_field_list (c : Ctx) (np : List Str) (isOneof : Bool) (virt : List Property)
    (o : ObjDecl) (h : (convDecl c np isOneof virt o).errs = 0) :
    declMsgOf c np isOneof virt o ∈ (convDecl c np isOneof virt o).msgs ∧
    (declMsgOf c np isOneof virt o).fields.map (fun f => (f.name, f.number)) =
      (virt ++ o.props).zipIdx.map fun (p, i) => (toSnake p.name, i + 1) :=
  ⟨convDecl_msgOf c np isOneof virt o, declMsgOf_fields c np isOneof virt o h⟩

/-- **Position numbering at the source** (`mapProperties`): numbers are 1 … n over the virtual
prepends followed by the declared properties, in order. -/
theorem C02_mapProperties (virt props : List Property) :
    (mapProperties virt props).map (·.1) = List.range' 1 (virt.length + props.length) ∧
    (mapProperties virt props).map (·.2) = virt ++ props :=
  ⟨mapProperties_fst virt props, mapProperties_snd virt props⟩

/-- **Enum numbering.** Without a leading explicit zero (`UNSPECIFIED` / `<PREFIX>UNSPECIFIED`),
the values are the implicit `<PREFIX>UNSPECIFIED = 0` followed by option `k` with number `k + 1`;
the prefix is the declared one or `SCREAMING_SNAKE(name)_`; option names get the prefix unless
they carry it. -/
theorem C02_enum_numbering (e : EnumDecl)
    (h : ∀ first rest, e.opts = first :: rest → isExplicitUnspecified (enumPrefix e) first = false) :
    (convEnum e).name = e.name ∧
    (convEnum e).values =
      (enumPrefix e ++ b!"UNSPECIFIED", 0) ::
        e.opts.zipIdx.map fun (n, i) => (enumFull (enumPrefix e) n, i + 1) :=
  ⟨rfl, enumValues_implicit _ _ h⟩

/-- …with one, that option *is* value 0 (still called `<PREFIX>UNSPECIFIED`) and the rest are
numbered from 1. -/
theorem C02_enum_numbering_explicit_zero (e : EnumDecl) (first : Str) (rest : List Str)
    (ho : e.opts = first :: rest) (h : isExplicitUnspecified (enumPrefix e) first = true) :
    (convEnum e).values =
      (enumPrefix e ++ b!"UNSPECIFIED", 0) ::
        rest.zipIdx.map fun (n, i) => (enumFull (enumPrefix e) n, i + 1) := by
  simp only [convEnum, ho]
  rw [enumValues_explicit _ _ _ h, enumFull_explicit _ _ h]

theorem C02_enum_prefix_default (e : EnumDecl) (h : e.pfx = []) :
    enumPrefix e = toScreamingSnake e.name ++ b!"_" := by
  simp [enumPrefix, h]

/-- **Nested naming.** An inline object in field `f` of a message with path `np` is emitted as a
message named `CamelCase(f)` — or the override — added to the owner's nested types, and the field
refers to it by the path-qualified name. -/
theorem C02_nested_naming (c : Ctx) (np : List Str) (isOneof : Bool) (number : Nat)
    (fname : Str) (req opt : Bool) (name : Str) (props : List Property) (flatten : Bool)
    (rules : Rules) (f : FieldSkel)
    (h : (bProperty c np isOneof number
            (.mk fname req opt (.objectInl name props flatten rules))).fld = some f) :
    let nm := if name = [] then toCamel fname else name
    f.typeName = relName np nm ∧ f.type = .message ∧
    ∃ m ∈ (bProperty c np isOneof number
            (.mk fname req opt (.objectInl name props flatten rules))).eff.msgs, m.name = nm := by
  intro nm
  obtain ⟨r, hr, _, rfl⟩ := bProperty_fld_res c np isOneof number fname req opt _ f h
  rw [show builtField (.objectInl name props flatten rules) = .objectInl name props flatten rules from rfl,
    bField] at hr
  cases hr
  refine ⟨rfl, rfl, mkMsg nm false none (bProps c (np ++ [nm]) false 1 props).flds
    (bProps c (np ++ [nm]) false 1 props).eff.msgs (bProps c (np ++ [nm]) false 1 props).eff.enums, ?_, rfl⟩
  rw [bProperty_eq]
  simp [builtField, bField, msgInlField, finishProperty_msgs, wrapEff, nm]

/-- **Path parameters.** A path part `:name` is rewritten to `{snake(name)}`, and that is exactly
the proto name of the request field declared as `name`: for every request property there is an
emitted field with that JSON name whose proto name is what the rewritten path part contains. -/
theorem C02_path_param (c : Ctx) (np : List Str) (n : Nat) (req : List Property)
    (h : (bProps c np false n req).eff.errs = 0) (i : Nat) (hi : i < req.length) :
    ∃ f ∈ (bProps c np false n req).flds,
      f.jsonName = req[i].name ∧
      rewritePart (b!":" ++ req[i].name) = b!"{" ++ f.name ++ b!"}" := by
  obtain ⟨hl, hn⟩ := bProps_numbering c np false n req h
  have hf : i < (bProps c np false n req).flds.length := by rw [hl]; exact hi
  refine ⟨(bProps c np false n req).flds[i], List.getElem_mem hf, (hn i hi hf).2.2, ?_⟩
  rw [(hn i hi hf).2.1]
  rfl

/-- the whole path: split at `/`, each part rewritten, joined again -/
theorem C02_path_rewrite (req : List Property) (resolved : Str) :
    (rewritePath req resolved).1 =
      joinWith b!"/" ((splitOnByte 47 resolved).map rewritePart) := rfl

/-- **Imports.** `j5Imports` succeeds exactly when no import has an empty path and none is a
bare single-segment package without alias; the map holds the entries of every import, in order:
a package import `a.b.v1` is reachable as `b` (last-but-one segment) and as `a.b.v1`; an aliased
import only under its alias; a file import `a/b/v1/x.proto` under the package of its directory. -/
theorem C02_imports (pkg : Str) (imports : List Import) (h : ∀ imp ∈ imports, imp.path ≠ [])
    (hb : ∀ imp ∈ imports, importBad imp = false) :
    j5Imports pkg imports = .ok ⟨imports.flatMap importEntries, pkg⟩ ∧
    (∀ path, containsByte 47 path = false → 2 ≤ (splitOnByte 46 path).length →
      importEntries ⟨path, []⟩ =
        [((splitOnByte 46 path).getD ((splitOnByte 46 path).length - 2) [], path), (path, path)]) ∧
    (∀ path alias, containsByte 47 path = false → alias ≠ [] →
      importEntries ⟨path, alias⟩ = [(alias, path)]) ∧
    (∀ path alias, containsByte 47 path = true →
      importEntries ⟨path, alias⟩ = [(packageFromFilename path, packageFromFilename path)]) :=
  ⟨j5Imports_ok pkg imports h hb, importEntries_package, importEntries_alias, importEntries_file⟩

/-- **References resolve to the declared type.** Local references (no package, or the file's own
package) are looked up in the package's export table; references through an import key are looked
up in the export table of the package the key maps to. -/
theorem C02_refs_resolve (im : ImportMap) (r : Resolver) (hp : im.thisPackage = r.pkgName) :
    (∀ pkg schema, pkg = [] ∨ pkg = im.thisPackage →
      resolveTypeNoImport im r pkg schema = mapGet r.exports schema) ∧
    (∀ spec full schema, spec ≠ [] ∧ spec ≠ im.thisPackage → mapGet im.vals spec = some full →
      implicitRef spec schema = none → implicitRef full schema = none → full ≠ r.pkgName →
      resolveTypeNoImport im r spec schema =
        match mapGet r.deps full with
        | none => none
        | some ex => mapGet ex schema) :=
  ⟨fun pkg schema h => resolve_local im r pkg schema h hp,
   fun spec full schema h1 h2 h3 h4 h5 => resolve_imported im r spec full schema h1 h2 h3 h4 h5⟩

/-- …and a resolved reference gives the field the absolute name `.package.Name` of the declared
type and adds the file that declares it to the imports of the current file. -/
theorem C02_ref_adds_import (c : Ctx) (np : List Str) (d pkg schema : Str) (fl : Bool)
    (rules : Rules) (t : TypeRef) (h : c.resolve pkg schema = some t)
    (hm : t.kind.isMessage = true) (hpk : t.pkg ≠ []) :
    (∃ r, (bField c np d (.objectRef pkg schema fl rules)).res = some r ∧
      r.typeName = b!"." ++ t.pkg ++ b!"." ++ t.name ∧ r.type = .message) ∧
    t.file ∈ (bField c np d (.objectRef pkg schema fl rules)).eff.imports := by
  have := bField_objectRef_resolved c np d pkg schema fl rules t h hm
  rw [protoTypeName_abs t hpk] at this
  exact this

/-- **Exactness, per declaration.** A declared object yields exactly one message at its level (its
map entries live inside it) and no enum; a declared oneof yields its message preceded only by map
entries; a declared enum yields exactly one enum and no message; the message has exactly one field
per property (`C02_field_numbering`) — nothing else is emitted. -/
theorem C02_exactness (c : Ctx) (np : List Str) (virt : List Property) (name : Str)
    (props : List Property) (nested : List Nested) (psm : Option Psm) (e : EnumDecl) :
    (convDecl c np false virt (.mk name props nested psm)).msgs =
      [declMsg c np false virt name props nested psm] ∧
    (convDecl c np false virt (.mk name props nested psm)).enums = [] ∧
    (∃ entries, (convDecl c np true virt (.mk name props nested psm)).msgs =
        entries ++ [declMsg c np true virt name props nested psm] ∧
      ∀ m ∈ entries, m.kind = .mapentry) ∧
    (convDecl c np true virt (.mk name props nested psm)).enums = [] ∧
    convItem c (.enum e) = [{ target := .main, eff := { enums := [convEnum e] } }] := by
  refine ⟨?_, ?_, ⟨_, convDecl_msgs c np true virt name props nested psm, ?_⟩, ?_, rfl⟩
  · rw [convDecl_msgs, bProps_entries_object]; rfl
  · rw [convDecl_eq]
  · exact bProps_entries_kind c (np ++ [name]) true 1 (virt ++ props)
  · rw [convDecl_eq]

/-- **Exactness, services and topics.** A service yields exactly one service with exactly one rpc
per method (`C02_service_shape`); a topic node yields exactly one service with one rpc per message
(`C02_topic_shape`), after one message object per message. -/
theorem C02_exactness_steps (c : Ctx) (t : TopicNode) (ss : List Service) :
    (acceptTopic c t).length = t.msgs.length + 1 ∧
    (convServiceFile c ss).length = ss.length + 1 := by
  simp [acceptTopic, convServiceFile]

/-- **Service shape.** A service `N` whose methods all have a request and a supported verb is
emitted into the `.service` sub-package as service `NService`; each method `M` becomes an rpc with
input `MRequest`, output `MResponse` (or `google.api.HttpBody` when no response is declared), the
declared HTTP verb (body `*` unless GET), and the path `base/path` with every `:name` rewritten to
`{snake_name}`; the request / response objects are messages of the same file. -/
theorem C02_service_shape (c : Ctx) (s : Service) (name : Str) (hn : s.name = some name)
    (hreq : ∀ m ∈ s.methods, m.request.isSome = true)
    (hv : ∀ m ∈ s.methods, m.verb ≠ .unspecified) :
    (convService c s).target = .service ∧ (convService c s).hard = false ∧
    (convService c s).svcs =
      [{ name := name ++ b!"Service", sopt := soptSkel s.sopt,
         methods := s.methods.map (methodSkelOf s.basePath) }] := by
  unfold convService
  simp only [hn, built_methods c s.basePath s.methods hreq hv, and_self]

/-- the request / response objects of every method are emitted in the service file, named
`<Method>Request` / `<Method>Response` -/
theorem C02_service_messages (c : Ctx) (bp : Option Str) (m : Method) (req : List Property)
    (hr : m.request = some req) :
    (declMsg c [] false [] (m.name ++ b!"Request") req [] none) ∈ (walkMethod c bp m).eff.msgs ∧
    ∀ res, m.response = some res →
      (declMsg c [] false [] (m.name ++ b!"Response") res [] none) ∈ (walkMethod c bp m).eff.msgs := by
  rw [walkMethod_msgs_eq, methodMsgs, hr]
  exact ⟨by simp, fun res hres => by simp [hres]⟩

/-- **Sub-package files.** Service and topic output of `dir/base.j5s` goes to
`dir/<sub>/base.p.j5s.proto` in package `<package>.<sub>`; the file is created on first use. -/
theorem C02_subpackage_file (r : Root) (s : Step) (sub : Str) (hs : s.target.sub = some sub)
    (hnew : r.subs.any (·.2.pkg = r.main.pkg ++ b!"." ++ sub) = false) :
    ∃ f, (sub, f) ∈ (r.apply s).subs ∧ f.pkg = r.main.pkg ++ b!"." ++ sub ∧
      f.name = subPackageFileName r.main.name sub ∧ f.svcs = s.svcs ∧ f.msgs = s.eff.msgs := by
  unfold Root.apply
  simp only [hs, hnew, Bool.false_eq_true, if_false]
  refine ⟨({ name := subPackageFileName r.main.name sub, pkg := r.main.pkg ++ b!"." ++ sub } : FileB).apply
      s.eff s.svcs, ?_, rfl, rfl, by simp [FileB.apply], by simp [FileB.apply]⟩
  simp only [List.map_append, List.mem_append, List.map_cons, List.map_nil, List.mem_singleton]
  right
  simp

/-- **Topic shape.** When every message has a name (or the topic has a single message), a topic
`T` yields, in the `.topic` sub-package, one message object `<Name>Message` per message and a
service `<CamelCase(T)>Topic` carrying the messaging role, with one rpc per message returning
`google.protobuf.Empty`. -/
theorem C02_topic_shape (c : Ctx) (t : TopicNode)
    (hnames : ∀ m ∈ t.msgs, (topicMethodName t m).isSome = true) :
    (∀ s ∈ acceptTopic c t, s.target = .topic ∧ s.hard = false) ∧
    ∃ last, (acceptTopic c t).getLast? = some last ∧
      last.svcs =
        [{ name := toCamel t.name ++ b!"Topic", sopt := .topic t.topicName t.role t.entityName,
           methods := t.msgs.filterMap fun m => (topicMethodName t m).map fun n =>
             { name := n, input := n ++ b!"Message", output := googleProtoEmptyType, http := none,
               mopt := .none } }] := by
  rw [acceptTopic_eq]
  refine ⟨fun s hs => ?_, topicSvcStep t, by rw [List.getLast?_append, List.getLast?_singleton]; rfl, rfl⟩
  rcases List.mem_append.mp hs with hs | hs
  · obtain ⟨m, hm, rfl⟩ := List.mem_map.mp hs
    obtain ⟨n, hn⟩ := Option.isSome_iff_exists.mp (hnames m hm)
    rw [hn]; exact ⟨rfl, rfl⟩
  · rw [List.mem_singleton.mp hs]; exact ⟨rfl, rfl⟩

/-- **Messaging roles and implicit leading fields.** publish → role `publish`; reqres → two
topics `<T>Request` / `<T>Reply` with roles `request` / `reply`, both with the implicit leading
field `request` (`j5.messaging.v1.RequestMetadata`, required); upsert → role `upsert` with the
implicit leading field `upsert` (`UpsertMetadata`, required); topic name `snake(T)` throughout. -/
theorem C02_topic_roles (name : Str) (msgs reqs reps : List TopicMsg) (en : Str) (msg : TopicMsg) :
    topicNodes { name := name, type := .publish msgs } =
      [{ name := name, msgs := msgs, topicName := toSnake name, role := .publish }] ∧
    topicNodes { name := name, type := .reqres reqs reps } =
      [ { name := name ++ b!"Request", msgs := reqs, topicName := toSnake name,
          role := .request, prepend := requestPrepend },
        { name := name ++ b!"Reply", msgs := reps, topicName := toSnake name,
          role := .reply, prepend := requestPrepend } ] ∧
    topicNodes { name := name, type := .upsert en msg } =
      [{ name := name, msgs := [{ msg with name := some (msg.name.getD name) }],
         topicName := toSnake name, role := .upsert, entityName := en,
         prepend := upsertPrepend }] ∧
    requestPrepend = [.mk b!"request" true false (.objectRef b!"j5.messaging.v1" b!"RequestMetadata" false [])] ∧
    upsertPrepend = [.mk b!"upsert" true false (.objectRef b!"j5.messaging.v1" b!"UpsertMetadata" false [])] ∧
    ∀ (c : Ctx) (t : Topic), convTopic c t = (topicNodes t).flatMap (acceptTopic c) :=
  ⟨rfl, rfl, rfl, rfl, rfl, fun _ _ => rfl⟩

/-! ## File and package level -/

/-- **Exactness of a converted file.** When `ConvertJ5File` succeeds, the output is the main file
`<path>.proto` (package from the path, no services) followed by at most one file per sub-package
(`.service`, `.topic`), present exactly when a service / topic (or an entity, which expands to
both) is declared. Every component is a list equation over the visited items in declaration
order: messages and enums of the main file come from the object / oneof / enum items, messages
and services of a sub-package file from the service / topic items. Nothing else is emitted.
(`items` = the declarations with entities expanded, `C17_components`.) -/
theorem C02_exactness_file (res : Resolver) (path : Str) (imports : List Import) (elems : List Elem)
    (fs : List FileSkel) (h : convertFile res path imports elems = .ok fs) :
    ∃ im, j5Imports (packageFromFilename (path ++ b!".proto")) imports = .ok im ∧
      let c : Ctx := { resolve := resolveTypeNoImport im res }
      let pkg := packageFromFilename (path ++ b!".proto")
      let name := path ++ b!".proto"
      let items := elems.flatMap (itemsOfElem pkg)
      ∃ (main : FileSkel) (subs : List FileSkel), fs = main :: subs ∧
        main.name = name ∧ main.pkg = pkg ∧ main.svcs = [] ∧
        main.msgs = (items.filter (·.target = .main)).flatMap (itemMsgs c) ∧
        main.enums = (items.filter (·.target = .main)).flatMap (itemEnums c) ∧
        (subs.map (·.pkg)).Nodup ∧
        (∀ f ∈ subs, ∃ (t : Target) (k : Str), t.sub = some k ∧ (∃ i ∈ items, i.target = t) ∧
          f.name = subPackageFileName name k ∧ f.pkg = pkg ++ b!"." ++ k ∧
          f.msgs = (items.filter (·.target = t)).flatMap (itemMsgs c) ∧ f.enums = [] ∧
          f.svcs = (items.filter (·.target = t)).flatMap (itemSvcs c)) ∧
        (∀ (t : Target) (k : Str), t.sub = some k → (∃ i ∈ items, i.target = t) →
          ∃ f ∈ subs, f.pkg = pkg ++ b!"." ++ k) := by
  obtain ⟨im, hj, _, _, rfl⟩ := convertFile_ok res path imports elems fs h
  exact ⟨im, hj, filesOf_exact _ _ _ _⟩

/-- **Exactness, item by item**: what each visited item adds to its file. An object: exactly its
message (inline types, nested types and map entries live inside it, `C02_field_numbering`). A
oneof: its message, preceded only by the map entries of its options. An enum: exactly one enum.
A service file: per service the `<Method>Request` / `<Method>Response` objects of its methods and
one proto service when it is named. A topic file: per topic node one `<Name>Message` object per
named message (implicit leading fields first) and one proto service. -/
theorem C02_exactness_items (c : Ctx) :
    (∀ o, itemMsgs c (.object o) = [declMsgOf c [] false [] o] ∧ itemEnums c (.object o) = []) ∧
    (∀ o, (∃ entries, itemMsgs c (.oneof o) = entries ++ [declMsgOf c [] true [] o] ∧
        ∀ m ∈ entries, m.kind = .mapentry) ∧ itemEnums c (.oneof o) = []) ∧
    (∀ e, itemMsgs c (.enum e) = [] ∧ itemEnums c (.enum e) = [convEnum e]) ∧
    (∀ ss, itemMsgs c (.serviceFile ss) = ss.flatMap (fun s => s.methods.flatMap (methodMsgs c)) ∧
      itemSvcs c (.serviceFile ss) = ss.flatMap (serviceSvcs c)) ∧
    (∀ ts, itemMsgs c (.topicFile ts) = ts.flatMap (fun t => (topicNodes t).flatMap (topicMsgs c)) ∧
      itemSvcs c (.topicFile ts) = ts.flatMap fun t => (topicNodes t).map topicSvc) :=
  ⟨fun o => ⟨itemMsgs_object c o, itemEnums_object c o⟩,
   fun o => ⟨itemMsgs_oneof c o, itemEnums_oneof c o⟩,
   fun e => ⟨itemMsgs_enum c e, itemEnums_enum c e⟩,
   fun ss => ⟨itemMsgs_serviceFile c ss, itemSvcs_serviceFile c ss⟩,
   fun ts => ⟨itemMsgs_topicFile c ts, itemSvcs_topicFile c ts⟩⟩

/-- **Exactness of a compiled package.** The files `CompilePackage` hands to the linker are a
permutation (sorted by name) of the concatenation, over the source files of the package in listing
order, of what each j5s file converts to against the package's resolver (hand-written `.proto`
files contribute nothing); each of these conversions succeeded, so `C02_exactness_file` describes
it. -/
theorem C02_exactness_pkg (b : Bundle) (name : Str) (p : Pkg) (fs : List FileSkel)
    (hf : b.find name = some p) (h : compilePkg b name = .ok fs) :
    ∃ l, loadPkg b (b.pkgs.length + 1) [] name = .ok l ∧
      fs.Perm (p.files.flatMap (convOf l.resolver)) ∧
      ∀ f ∈ p.files, match f with
        | .proto _ _ _ => convOf l.resolver f = []
        | .j5s path imports elems _ =>
          convertFile l.resolver path imports elems = .ok (convOf l.resolver f) := by
  unfold compilePkg at h
  cases hl : loadPkg b (b.pkgs.length + 1) [] name with
  | err t => simp [hl] at h
  | panic w => simp [hl] at h
  | ok l =>
    simp only [hl, Outcome.ok.injEq] at h
    obtain ⟨hfiles, hok⟩ := loadPkg_ok_inv b _ [] name p l hf hl
    refine ⟨l, rfl, ?_, ?_⟩
    · rw [← h, ← hfiles]; exact sortFiles_perm_self _
    · intro f hfm
      cases f with
      | proto path msgs enums => rfl
      | j5s path imports elems decl =>
        obtain ⟨fs', hfs'⟩ := hok _ hfm
        simp only [convOf, hfs']

/-- **References resolve to the declared type, and its file is imported** (package level). In a
package that loads, for every j5s file and every type reference in it — local, cross-file,
imported by package / alias / last-but-one segment, dotted nested names, in objects, oneofs,
service request / response objects, topic messages, everything an entity expands to, at any inline
depth — the reference resolves in the file's conversion context (import map + the package's
resolver, `C02_refs_resolve` says which table is consulted), and the file that declares the type
is the generated file holding the reference or one of its dependencies. -/
theorem C02_refs_resolve_pkg (b : Bundle) (name : Str) (p : Pkg) (l : Loaded) (fuel : Nat)
    (chain : List Str) (hf : b.find name = some p) (hl : loadPkg b (fuel + 1) chain name = .ok l)
    (path : Str) (imports : List Import) (elems : List Elem) (decl : Str)
    (hmem : SrcFile.j5s path imports elems decl ∈ p.files) :
    ∃ im fs, j5Imports (packageFromFilename (path ++ b!".proto")) imports = .ok im ∧
      convertFile l.resolver path imports elems = .ok fs ∧ (∀ f ∈ fs, f ∈ l.files) ∧
      let c : Ctx := { resolve := resolveTypeNoImport im l.resolver }
      let pkg := packageFromFilename (path ++ b!".proto")
      ∀ i ∈ elems.flatMap (itemsOfElem pkg), ∀ r ∈ itemRefs i,
        ∃ t, c.resolve r.1 r.2 = some t ∧
          ∃ f ∈ fs, f.pkg = targetPkg pkg i.target ∧ (t.file = f.name ∨ t.file ∈ f.deps) := by
  obtain ⟨fs, hfs, hsub, _⟩ := loadPkg_member b fuel chain name p l hf hl hmem
  obtain ⟨im, hj, hrefs⟩ := convertFile_refs l.resolver path imports elems fs hfs
  exact ⟨im, fs, hj, hfs, hsub, hrefs⟩

/-- **Declared types are where the references point** (the link side of "references resolve to
the declared type"). In a package that loads, every object / oneof / enum a j5s file declares —
top level, nested, or inline at any depth, with the documented default or overridden nesting name
— is (a) an entry of the package's export table under its package-relative dotted name, whose
`TypeRef` names the generated main file `<path>.proto` (the table `C02_refs_resolve` says local
and imported references are looked up in), and (b) a message / enum symbol
`<package>.<dotted name>` of exactly that generated file in the link model. With
`C02_refs_resolve_pkg` (the declaring file is the holding file or one of its imports): the
absolute name `.pkg.Name` written on a referring field names a symbol of a visible file. -/
theorem C02_declared_types_link (b : Bundle) (name : Str) (p : Pkg) (l : Loaded) (fuel : Nat)
    (chain : List Str) (hf : b.find name = some p) (hl : loadPkg b (fuel + 1) chain name = .ok l)
    (path : Str) (imports : List Import) (elems : List Elem) (decl : Str)
    (hmem : SrcFile.j5s path imports elems decl ∈ p.files)
    (hpkg : packageFromFilename (path ++ b!".proto") ≠ []) :
    ∃ g ∈ l.files, g.name = path ++ b!".proto" ∧
      ∀ i ∈ elems.flatMap (itemsOfElem (packageFromFilename (path ++ b!".proto"))), i.target = .main →
        ∀ x ∈ itemExports i,
          (x.1, (⟨packageFromFilename (path ++ b!".proto"), x.1, path ++ b!".proto", x.2⟩ : TypeRef)) ∈ l.exports ∧
          (qual (packageFromFilename (path ++ b!".proto")) x.1, kindSym x.2) ∈ g.lfile.syms := by
  obtain ⟨fs, hfs, hsub, s, hsum, hexps⟩ := loadPkg_member b fuel chain name p l hf hl hmem
  obtain ⟨main, subs, hfs', hname, _, hsyms⟩ := convertFile_exports_syms l.resolver path imports elems fs hfs hpkg
  obtain ⟨_, _, _, _, hexp, _⟩ := sourceSummary_ok path imports elems _ hsum
  refine ⟨main, hsub _ (hfs' ▸ List.mem_cons_self), hname, fun i hi hit x hx => ⟨hexps _ ?_, hsyms i hi hit x hx⟩⟩
  rw [hexp]
  exact List.mem_map.mpr ⟨x, List.mem_flatMap.mpr ⟨i, hi, hx⟩, rfl⟩

/-! ## cardinality, optionality, oneof wrapper, proto type -/

/-- **Cardinality, optionality, oneof wrapper.** In the message emitted for a declared (or virtual)
object / oneof whose conversion recorded no error, field `i` (virtual prepends first) is
`repeated` exactly when the property is an array or a map; carries `proto3_optional` exactly when
the property is marked explicitly optional (`?` / `optional = true`) — and then it is not
required; is marked required (`(buf.validate.field).required`) whenever the property is `!`
required; and is a member of the message's single protobuf `oneof` (index 0) exactly when the
declaration is a j5s oneof — whose message has kind `oneof` (the wrapper: a message that holds one
real `oneof type { … }` with ALL fields inside), an object's fields are in no oneof. -/
theorem C02_field_shape (c : Ctx) (np : List Str) (isOneof : Bool) (virt : List Property)
    (name : Str) (props : List Property) (nested : List Nested) (psm : Option Psm)
    (h : (convDecl c np isOneof virt (.mk name props nested psm)).errs = 0) :
    let m := declMsg c np isOneof virt name props nested psm
    m.kind = (if isOneof then .oneof else .object) ∧
    ∀ i (hi : i < (virt ++ props).length) (hf : i < m.fields.length),
      m.fields[i].repeated = (virt ++ props)[i].schema.isRepeated ∧
      m.fields[i].p3opt = (virt ++ props)[i].explicitlyOptional ∧
      m.fields[i].oneof = (if isOneof then some 0 else none) ∧
      ((virt ++ props)[i].required = true → m.fields[i].req = true) ∧
      (m.fields[i].p3opt = true → m.fields[i].req = false) := by
  intro m
  refine ⟨by cases isOneof <;> rfl, fun i hi hf => ?_⟩
  exact bProperty_shape c (np ++ [name]) isOneof (1 + i) _ _
    (bProps_get c (np ++ [name]) isOneof 1 (virt ++ props) (convDecl_props_errs h) i hi hf)

/-- **Proto type of scalar fields.** A property of a scalar kind — string, bool, bytes, key, date,
decimal, timestamp, any, integer, float (not an array, map, reference or inline type) — that is
emitted at all is emitted non-repeated with exactly the type, type name and `(j5.ext.v1.field)`
member `scalarField` lists for its kind; the table: string / key → `string`, bool → `bool`, bytes →
`bytes`, integer:F → `int32 / int64 / uint32 / uint64` by format, date → message
`.j5.types.date.v1.Date`, decimal → `.j5.types.decimal.v1.Decimal`, timestamp →
`.google.protobuf.Timestamp`, any → `.j5.types.any.v1.Any`. -/
theorem C02_field_scalar_type (c : Ctx) (np : List Str) (io : Bool) (number : Nat) (name : Str)
    (req opt : Bool) (schema : Field) (b : BF) (r : FieldRes) (hs : scalarField schema = some b)
    (hr : b.res = some r) (f : FieldSkel)
    (h : (bProperty c np io number (.mk name req opt schema)).fld = some f) :
    f.type = r.type ∧ f.typeName = r.typeName ∧ f.ext = r.ext ∧ f.repeated = false := by
  obtain ⟨r', hr', _, rfl⟩ := bProperty_fld_res c np io number name req opt schema f h
  obtain ⟨hbf, hrep, hw⟩ := scalar_plain hs
  rw [hbf, bField_scalar c np (toCamel name) schema b hs, hr] at hr'
  cases hr'
  rw [hw]
  exact ⟨rfl, rfl, rfl, hrep⟩

theorem C02_scalar_type_table (rules : Rules) (lr : Bool) (ifmt : IntFmt) (kf : KeyFmt) (ek : EntKey) :
    ((scalarField (.string rules lr)).bind (·.res)).map (fun r => (r.type, r.typeName)) = some (.string, []) ∧
    ((scalarField (.bool rules lr)).bind (·.res)).map (fun r => (r.type, r.typeName)) = some (.bool, []) ∧
    ((scalarField (.bytes rules)).bind (·.res)).map (fun r => (r.type, r.typeName)) = some (.bytes, []) ∧
    ((scalarField (.key kf ek rules lr)).bind (·.res)).map (fun r => (r.type, r.typeName)) = some (.string, []) ∧
    ((scalarField (.date rules lr)).bind (·.res)).map (fun r => (r.type, r.typeName)) =
      some (.message, b!".j5.types.date.v1.Date") ∧
    ((scalarField (.decimal rules lr)).bind (·.res)).map (fun r => (r.type, r.typeName)) =
      some (.message, b!".j5.types.decimal.v1.Decimal") ∧
    ((scalarField (.timestamp rules)).bind (·.res)).map (fun r => (r.type, r.typeName)) =
      some (.message, b!".google.protobuf.Timestamp") ∧
    ((scalarField .any).bind (·.res)).map (fun r => (r.type, r.typeName)) =
      some (.message, b!".j5.types.any.v1.Any") ∧
    (intRulesErr rules = false →
      ((scalarField (.integer ifmt rules lr)).bind (·.res)).map (fun r => (r.type, r.typeName)) =
        some (intType ifmt, [])) := by
  refine ⟨rfl, rfl, rfl, rfl, rfl, rfl, rfl, rfl, ?_⟩
  intro h
  simp [scalarField, h]

/-- float fields: `float` / `double` by format (rule-free form: every float rule is rejected —
recorded finding `c07-rejected:isolated:float`) -/
theorem C02_scalar_type_float (ffmt : FloatFmt) (lr : Bool) :
    ((scalarField (.float ffmt [] lr)).bind (·.res)).map (fun r => (r.type, r.typeName)) =
      some (floatType ffmt, []) := by
  simp [scalarField]

/-- **Arrays.** An array property whose item type converts is a `repeated` field carrying the ITEM's
proto type and type name (scalar, well-known message, reference, inline type) and
`(j5.ext.v1.field).array`. -/
theorem C02_array_item_type (c : Ctx) (np : List Str) (io : Bool) (number : Nat) (name : Str)
    (req opt : Bool) (items : Field) (arules : Rules) (r : FieldRes)
    (hr : (bField c np (toCamel name) items).res = some r) (f : FieldSkel)
    (h : (bProperty c np io number (.mk name req opt (.array items arules))).fld = some f) :
    f.type = r.type ∧ f.typeName = r.typeName ∧ f.repeated = true ∧ f.ext = b!"array" := by
  obtain ⟨r', hr', _, rfl⟩ := bProperty_fld_res c np io number name req opt _ f h
  rw [show builtField (.array items arules) = items from rfl, hr] at hr'
  cases hr'
  exact ⟨rfl, rfl, rfl, rfl⟩

/-- **Type names of reference and inline fields** (next to `C02_ref_adds_import` for object
references): a oneof reference that resolves to a message and an enum reference that resolves to
an enum (rule values and default filters naming options) carry the absolute name
`TypeRef.protoTypeName` of the declared type, with proto type message / enum; an inline object or
oneof field refers to its nested message by the RELATIVE dotted name parent-path + (given name or
default nesting name). (Inline enums: `C02_nested_naming`'s enum twin is the `.enumInl` arm of
`bField`, typeName `relName np name` — covered by the list equations of `C02_exactness` only.) -/
theorem C02_ref_type_names (c : Ctx) (np : List Str) (d pkg schema : Str) (rules : Rules) (t : TypeRef)
    (h : c.resolve pkg schema = some t) :
    (∀ lr, t.kind.isMessage = true →
      ∃ r, (bField c np d (.oneofRef pkg schema rules lr)).res = some r ∧
        r.type = .message ∧ r.typeName = t.protoTypeName ∧ r.ext = b!"oneof") ∧
    (∀ (lr : Option (List Str)) pfx names, t.kind = .enum pfx names →
      mapValuesOk pfx names (enumRuleVals rules) = true → mapValuesOk pfx names (lr.getD []) = true →
      ∃ r, (bField c np d (.enumRef pkg schema rules lr)).res = some r ∧
        r.type = .enum ∧ r.typeName = t.protoTypeName ∧ r.ext = b!"enum") :=
  ⟨fun lr hm => bField_oneofRef_res c np d pkg schema rules lr t h hm,
   fun lr pfx names hk h1 h2 => bField_enumRef_res c np d pkg schema rules lr t pfx names h hk h1 h2⟩

theorem C02_inline_type_names (c : Ctx) (np : List Str) (d : Str) :
    (∀ name props fl rules, ((bField c np d (.objectInl name props fl rules)).res.map (fun r => (r.type, r.typeName))) =
      some (.message, relName np (if name = [] then d else name))) ∧
    (∀ name props rules lr, ((bField c np d (.oneofInl name props rules lr)).res.map (fun r => (r.type, r.typeName))) =
      some (.message, relName np (if name = [] then d else name))) := by
  constructor
  · intro name props fl rules
    rw [bField]; simp [msgInlField]
  · intro name props rules lr
    rw [bField]; simp [msgInlField]

/-- non-vacuity: an array of int64; an enum reference with a prefixed and a bare rule value -/
example :
    ((bProperty { resolve := fun _ _ => none } [b!"Foo"] false 1
      (.mk b!"nums" false false (.array (.integer .int64 [] false) []))).fld.map
        (fun f => (f.type, f.repeated))) = some (.int64, true) ∧
    ((bField { resolve := fun _ _ => some ⟨b!"bar.v1", b!"E", b!"bar/v1/b.j5s.proto", .enum b!"E_" [b!"E_UNSPECIFIED", b!"E_ONE"]⟩ }
        [b!"Foo"] b!"X" (.enumRef [] b!"E" [⟨b!"in", .strs [b!"ONE", b!"E_ONE"]⟩] none)).res.map (·.typeName)) =
      some b!".bar.v1.E" := by decide +kernel

/-- **Maps.** A map property whose item type converts is emitted as a `repeated` message field of type
`<CamelCase(snake(name))>Entry` with `(j5.ext.v1.field).map`, together with exactly one map-entry
message of that name for the enclosing context: `key` = string, number 1; `value` = number 2 with
the item's proto type, type name and extension member. -/
theorem C02_map_entry (c : Ctx) (np : List Str) (io : Bool) (number : Nat) (name : Str) (req opt : Bool)
    (items : Field) (mrules : Rules) (r : FieldRes)
    (hr : (bField c np (toCamel name) items).res = some r) (f : FieldSkel)
    (h : (bProperty c np io number (.mk name req opt (.map items mrules))).fld = some f) :
    (bProperty c np io number (.mk name req opt (.map items mrules))).entries =
        [mkEntry (mapName (toSnake name)) r] ∧
      f.type = .message ∧ f.typeName = mapName (toSnake name) ∧ f.repeated = true ∧ f.ext = b!"map" ∧
      (mkEntry (mapName (toSnake name)) r).kind = .mapentry ∧
      (mkEntry (mapName (toSnake name)) r).fields.map (fun g => (g.name, g.number, g.type, g.typeName)) =
        [(b!"key", 1, .string, []), (b!"value", 2, r.type, r.typeName)] := by
  obtain ⟨h1, h2, h3, h4, h5⟩ := bProperty_map c np io number name req opt items mrules r hr f h
  exact ⟨h1, h2, h3, h4, h5, rfl, rfl⟩

/-- non-vacuity: a map of int64 values -/
example : (bField { resolve := fun _ _ => none } [b!"Foo"] b!"Counts" (.integer .int64 [] false)).res =
      some { type := .int64, ext := b!"integer" } ∧
    ((bProperty { resolve := fun _ _ => none } [b!"Foo"] false 1
      (.mk b!"counts" false false (.map (.integer .int64 [] false) []))).fld.map (·.typeName)) =
      some b!"CountsEntry" := by decide +kernel

/-! ## Non-vacuity -/

/-- a two-package bundle: `bar.v1` refers to a type of `foo.v1` through the last-but-one segment
of an import, to a type of another file of its own package, and declares a service and a topic -/
def exBundle : Bundle :=
  { pkgs :=
    [ { name := b!"foo.v1", files :=
        [ .j5s b!"foo/v1/a.j5s" [] [.object (.mk b!"A" [.mk b!"x" false false (.string [] false)] [] none)]
            b!"foo.v1" ] },
      { name := b!"bar.v1", files :=
        [ .j5s b!"bar/v1/b.j5s" [] [.enum { name := b!"E", pfx := [], opts := [b!"ONE"] }] b!"bar.v1",
          .j5s b!"bar/v1/c.j5s" [⟨b!"foo.v1", []⟩]
            [ .object (.mk b!"C" [ .mk b!"a" false false (.objectRef b!"foo" b!"A" false []),
                                   .mk b!"e" false false (.enumRef [] b!"E" [] none) ] [] none),
              .service { name := some b!"Svc", basePath := none, methods :=
                [ { name := b!"Get", verb := .get, path := b!"/c", request := some [],
                    response := some [.mk b!"c" false false (.objectRef [] b!"C" false [])] } ] },
              .topic { name := b!"Pub", type := .publish [{ name := some b!"Ping", props := [] }] } ]
            b!"bar.v1" ] } ] }

/-- the hypotheses of `C02_exactness_pkg` / `C02_refs_resolve_pkg` hold for it: the package
compiles (three generated files for `c.j5s`, one for `b.j5s`) and links -/
example : (match compilePkg exBundle b!"bar.v1" with
    | .ok fs => decide (fs.map (·.name) = [b!"bar/v1/b.j5s.proto", b!"bar/v1/c.j5s.proto",
        b!"bar/v1/service/c.p.j5s.proto", b!"bar/v1/topic/c.p.j5s.proto"])
    | _ => false) = true := by decide +kernel

example : packageFromFilename (b!"bar/v1/c.j5s" ++ b!".proto") ≠ [] := by decide +kernel

/-- a concrete object: two scalar fields and an inline object, converted without error -/
def exObj : ObjDecl :=
  .mk b!"Foo"
    [ .mk b!"fooId" true false (.string [] false),
      .mk b!"count" false true (.integer .int64 [] false),
      .mk b!"child" false false (.objectInl [] [.mk b!"x" false false (.bool [] false)] false []) ]
    [] none

def exCtx : Ctx := { resolve := resolveTypeNoImport ⟨[], b!"foo.v1"⟩ ⟨b!"foo.v1", [], []⟩ }

example : (convDecl exCtx [] false [] exObj).errs = 0 := by decide +kernel

/-- `C02_field_shape` on the example: required, explicitly optional, plain; none repeated, none in
a oneof; and a oneof with an array member -/
example :
    ((declMsg exCtx [] false [] b!"Foo" exObj.props [] none).fields.map
      fun f => (f.repeated, f.p3opt, f.req, f.oneof)) =
      [(false, false, true, none), (false, true, false, none), (false, false, false, none)] ∧
    (convDecl exCtx [] true [] (.mk b!"Pick" [.mk b!"tags" false false (.array (.string [] false) [])] [] none)).errs = 0 ∧
    (declMsg exCtx [] true [] b!"Pick" [.mk b!"tags" false false (.array (.string [] false) [])] [] none).kind = .oneof ∧
    ((declMsg exCtx [] true [] b!"Pick" [.mk b!"tags" false false (.array (.string [] false) [])] [] none).fields.map
      fun f => (f.repeated, f.type, f.oneof)) = [(true, .string, some 0)] := by
  decide +kernel

example :
    ((declMsg exCtx [] false [] b!"Foo" exObj.props [] none).fields.map
      fun f => (f.name, f.jsonName, f.number)) =
      [(b!"foo_id", b!"fooId", 1), (b!"count", b!"count", 2), (b!"child", b!"child", 3)] := by
  decide +kernel

example : (rewritePath [.mk b!"fooId" true false (.string [] false)] b!"/foo/v1/:fooId/x").1 =
    b!"/foo/v1/{foo_id}/x" := by decide +kernel

/-- `import bar.baz.v1` makes `baz.Thing` and `bar.baz.v1.Thing` resolvable -/
example : importEntries ⟨b!"bar.baz.v1", []⟩ = [(b!"baz", b!"bar.baz.v1"), (b!"bar.baz.v1", b!"bar.baz.v1")] := by
  decide +kernel

example : subPackageFileName b!"foo/v1/a.j5s.proto" b!"service" = b!"foo/v1/service/a.p.j5s.proto" := by
  decide +kernel

def exMethod : Method :=
  { name := b!"GetFoo", verb := .get, path := b!":fooId/x",
    request := some [.mk b!"fooId" true false (.string [] false)], response := none }

/-- hypotheses of `C02_service_shape` / `C02_topic_shape` / `C02_ref_adds_import` are met by
ordinary declarations -/
def exService : Service := { name := some b!"Foo", basePath := some b!"/foo/v1", methods := [exMethod] }

example : exService.name = some b!"Foo" ∧ (∀ m ∈ exService.methods, m.request.isSome = true) ∧
    (∀ m ∈ exService.methods, m.verb ≠ .unspecified) := by decide +kernel

def exTopicNode : TopicNode :=
  { name := b!"Blob", msgs := [{ name := some b!"Ping", props := [] }, { name := some b!"Pong", props := [] }],
    topicName := b!"blob", role := .publish }

example : ∀ m ∈ exTopicNode.msgs, (topicMethodName exTopicNode m).isSome = true := by decide +kernel

def exResolver : Resolver :=
  { pkgName := b!"foo.v1", exports := [(b!"A", ⟨b!"foo.v1", b!"A", b!"foo/v1/a.j5s.proto", .message false⟩)],
    deps := [(b!"bar.v1", [(b!"B", ⟨b!"bar.v1", b!"B", b!"bar/v1/b.j5s.proto", .message false⟩)])] }

example : resolveTypeNoImport ⟨importEntries ⟨b!"bar.v1", []⟩, b!"foo.v1"⟩ exResolver b!"bar" b!"B" =
    some ⟨b!"bar.v1", b!"B", b!"bar/v1/b.j5s.proto", .message false⟩ := by decide +kernel

example : (methodSkelOf (some b!"/foo/v1") exMethod).http =
    some { verb := .get, path := b!"/foo/v1/{foo_id}/x", body := [] } := by decide +kernel

example : (convEnum { name := b!"Status", pfx := [], opts := [b!"ACTIVE", b!"STATUS_DONE"] }).values =
    [(b!"STATUS_UNSPECIFIED", 0), (b!"STATUS_ACTIVE", 1), (b!"STATUS_DONE", 2)] := by decide +kernel

end J5V.Props.C02

/-! ## Obligations over facts regenerated from the current source (`extract compileconsts`)

The model hard-codes the import paths of `j5convert/imports.go` and the `implicitImports` table;
these obligations re-check on every run that the source still says the same. -/
namespace J5V.Props.C02
open J5V.Compile J5V.Generated.Compileconsts

/-- the import constants the model uses are those of `imports.go` -/
theorem C02_src_import_consts :
    importConsts.lookup "bufValidateImport" = some bufValidateImport.toString ∧
    importConsts.lookup "j5ExtImport" = some j5ExtImport.toString ∧
    importConsts.lookup "j5DateImport" = some j5DateImport.toString ∧
    importConsts.lookup "j5DecimalImport" = some j5DecimalImport.toString ∧
    importConsts.lookup "j5ListAnnotationsImport" = some j5ListAnnotationsImport.toString ∧
    importConsts.lookup "pbTimestamp" = some pbTimestampImport.toString ∧
    importConsts.lookup "j5AnyImport" = some j5AnyImport.toString ∧
    importConsts.lookup "googleApiHttpBodyImport" = some googleApiHttpBodyImport.toString ∧
    importConsts.lookup "googleApiAnnotationsImport" = some googleApiAnnotationsImport.toString ∧
    importConsts.lookup "googleProtoEmptyImport" = some googleProtoEmptyImport.toString ∧
    importConsts.lookup "messagingAnnotationsImport" = some messagingAnnotationsImport.toString ∧
    importConsts.lookup "googleProtoEmptyType" = some googleProtoEmptyType.toString := by
  decide +kernel

/-- the `implicitImports` table of the model is the one in the source -/
theorem C02_src_implicit_imports :
    J5V.Generated.Compileconsts.implicitImports =
      J5V.Compile.implicitImports.flatMap fun (pkg, ts) =>
        ts.map fun t => (pkg.toString, t.name.toString, t.file.toString) := by
  decide +kernel

/-- the name suffixes and formats of services and topics -/
theorem C02_src_suffixes :
    ("sourcewalk/service.go", "serviceBuilder.accept", "%sRequest") ∈ stringLiterals ∧
    ("sourcewalk/service.go", "serviceBuilder.accept", "%sResponse") ∈ stringLiterals ∧
    ("sourcewalk/service.go", "serviceBuilder.accept", "Service") ∈ stringLiterals ∧
    ("sourcewalk/service.go", "serviceBuilder.accept", "google.api.HttpBody") ∈ stringLiterals := by
  decide +kernel

end J5V.Props.C02

/-! ## Obligation over facts regenerated from the current source (`extract builders`)

Every write to a descriptor list (`Dependency`, `MessageType`, `EnumType`, `Service`, `NestedType`,
`Field`, `OneofDecl`, `Value`, `Method`) in the non-test files of internal/j5s/j5convert. The model
appends in visit order everywhere (`FileB.apply`: `msgs := f.msgs ++ e.msgs` …; `bProps`: fields in
declaration order; `enumValues`; `convService` / `acceptTopic`: methods in order): that is faithful
only if every site has the form `X = append(X, one element)`. The exceptions are listed: the two
fresh literals (the single `oneof` declaration of a oneof wrapper; key / value of a map entry) and
the explicit zero enum value replacing the implicit one in place (`enumValues`' first branch). A
prepend / insert / new site / re-sorted list changes the table and fails the obligation. -/
namespace J5V.Props.C02
open J5V.Generated.Builders

theorem C02_src_append_order :
    descriptorWrites =
      [ ("builders.go", "fileContext.ensureImport", "fb.fdp.Dependency", "append-end"),
        ("builders.go", "fileContext.ensureImport", "fb.fdp.Dependency", "call:sort.Strings"),
        ("builders.go", "fileContext.addMessage", "fb.fdp.MessageType", "append-end"),
        ("builders.go", "fileContext.addEnum", "fb.fdp.EnumType", "append-end"),
        ("builders.go", "fileContext.addService", "fb.fdp.Service", "append-end"),
        ("builders.go", "MessageBuilder.addMessage", "msg.descriptor.NestedType", "append-end"),
        ("builders.go", "MessageBuilder.addEnum", "msg.descriptor.EnumType", "append-end"),
        ("conversion.go", "conversionVisitor.visitTopicNode", "desc.Method", "append-end"),
        ("conversion.go", "conversionVisitor.visitObjectNode", "message.descriptor.OneofDecl", "append-end"),
        ("conversion.go", "conversionVisitor.visitObjectNode", "message.descriptor.Field", "append-end"),
        ("conversion.go", "conversionVisitor.visitOneofNode", "message.descriptor.OneofDecl", "literal"),
        ("conversion.go", "conversionVisitor.visitOneofNode", "message.descriptor.Field", "append-end"),
        ("enum.go", "enumBuilder.addValue", "e.desc.Value", "other:e.desc.Value[0] = value"),
        ("enum.go", "enumBuilder.addValue", "e.desc.Value", "append-end"),
        ("fields.go", "buildProperty", "mb.descriptor.Field", "literal"),
        ("service.go", "conversionVisitor.visitServiceMethodNode", "service.desc.Method", "append-end") ] := rfl

end J5V.Props.C02

/-! ## Obligation over facts regenerated from the current source (`extract importmap`)

The import loop of `j5Imports` (j5convert/imports.go), statement by statement — the shape
`Imports.j5ImportsGo` mirrors and `C02_imports` is about: an empty path returns at once; a FILE path
(contains `/`) writes ONE entry, under the package of its directory, and continues (no short name);
an alias writes one entry, under the alias, and continues; a package name with fewer than two
segments is an error; otherwise TWO entries, the last-but-one segment and the full name, both the
same definition. Go map writes in program order = `mapGet` (last write wins). A file import that
falls through to the short-name registration (seeded change C02-m9), a new arm or a reordered write
changes the list and fails the obligation. -/
namespace J5V.Props.C02
open J5V.Generated.Importmap

theorem C02_src_import_loop :
    importLoop =
      [ "if imp.Path == \"\" { lets  ; writes  ; return }",
        "let var src *bcl_j5pb.SourceLocation",
        "if importSources != nil { lets  ; writes  ; - }",
        "if strings.Contains(imp.Path, \"/\") { lets pkg := PackageFromFilename(imp.Path) ; writes out[pkg] ; continue }",
        "let pkg := imp.Path",
        "if imp.Alias != \"\" { lets  ; writes out[imp.Alias] ; continue }",
        "let parts := strings.Split(pkg, \".\")",
        "if len(parts) < 2 { lets  ; writes  ; continue }",
        "let withoutVersion := parts[len(parts)-2]",
        "let def := &importDef{ fullPath: pkg, source: src, }",
        "write out[withoutVersion]",
        "write out[pkg]" ] := rfl

end J5V.Props.C02
