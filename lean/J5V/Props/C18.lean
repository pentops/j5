import J5V.Schema.CodecEmpty
import J5V.Schema.CodecRoundtrip
import J5V.Schema.ReaderEval
import J5V.Codec.ScalarProofs
import J5V.Schema.Export
import J5V.Generated.SchemaFacts
/-!
# C18 — schema reflection over arbitrary linked proto3 descriptor sets is total and self-consistent

Only the property theorems, their non-vacuity examples and (at the end) the source-fact obligations
live here. The statements are about
`J5V.Schema.Reader`, the model of `lib/j5schema/schema_from_proto.go` as an explicit stack machine
over an abstract descriptor set, for **every** descriptor set: any number of messages, any
nesting, any recursion, any combination of annotation cases.
-/
namespace J5V.Props.C18
open J5V.Go J5V.Schema J5V.Schema.Reader

/-- **No infinite recursion.** Every transition of the reader that does not stop strictly
decreases the pair (messages of the set whose schema name has no placeholder yet, work left on
the stack) in the lexicographic order — for every descriptor set, including self- and mutually
recursive messages. `run` is defined by well-founded recursion on exactly this measure (there is
no fuel parameter), so it returns a schema set, an error or a panic for every input. -/
theorem C18_terminates (ds : DescSet) (st st' : St) (h : step ds st = .cont st') :
    Prod.Lex (· < ·) (· < ·) (unregistered ds st'.reg, work st'.stack)
      (unregistered ds st.reg, work st.stack) :=
  step_decreases ds st st' h

/-- a message is entered only after its placeholder has been registered, and never twice: the
message pushed by a field is one of the set, its name was free and is taken afterwards -/
theorem C18_placeholder_first (ds : DescSet) (reg : Reg) (f : FieldD) (prop : RProp) (b : Built)
    (m : Msg) (h : buildProperty ds reg f = .ok (prop, b)) (hp : b.push = some m) :
    m ∈ ds.msgs ∧ reg.has m.pkg m.split = false ∧ (reg.applyAll b.ops).has m.pkg m.split = true :=
  buildProperty_push ds reg f prop b m h hp

/-- **Property names are unique within each object / oneof**: a message (or exposed oneof) is
only completed when the JSON names of its properties are pairwise distinct. -/
theorem C18_names_unique (fr : Frame) (ops : List RegOp) (h : finish fr = .ok ops) :
    (fr.props.map (·.json)).Nodup ∧ ∀ x ∈ fr.expose, (x.2.2.map (·.json)).Nodup :=
  ⟨(finish_ok h).1, (finish_ok h).2.1⟩

/-! ### totality

`linked ds` is what `protodesc` guarantees about a descriptor set (trusted; the driver evaluates
it on every generated set and the harness answers `linked=1` for every set that links): a message
/ enum kind field comes with its descriptor and the descriptor is in the set, enums have at least
one value, the listed file-level names exist, full names are unique across kinds (no message or
oneof has the full name of an enum, no message that of a oneof), field numbers are distinct
within a message, and schema names (`splitDescriptorName`) contain no dot. -/

/-- **Never panics.** For every linked descriptor set `SchemaSetFromFiles` returns a schema set
or an error — for any number of messages, any self / mutual recursion, any annotation
combination, and whether or not two descriptors collide on a J5 schema name. (Before af1da62 the
last case panicked: see `collisionWitness`.) -/
theorem C18_total (ds : DescSet) (hl : linked ds = true) :
    ∀ w, schemaSetFromFiles ds ≠ .panic w :=
  (schemaSetFromFiles_safe ds hl).1

/-- the same for `SchemaCache.Schema`, for any sequence of calls on one cache: each call returns
a schema or an error and leaves the cache settled — sound, every reference registered for the
descriptor it names, no placeholder left unlinked — including after a failed build, which is
rolled back. `Settled ds []` holds (`C18_cache_starts_settled`). -/
theorem C18_cache_total (ds : DescSet) (hl : linked ds = true) (reg : Reg) (hreg : Settled ds reg)
    (m : Msg) (hm : ds.msg? m.full = some m) :
    (∀ w, (cacheSchema ds reg m).1 ≠ .panic w) ∧ Settled ds (cacheSchema ds reg m).2 :=
  cacheSchema_safe ds hl reg m hm hreg

theorem C18_cache_starts_settled (ds : DescSet) : Settled ds [] := Settled.nil ds

/-- **Every reference is resolved.** In a reflected set no entry is left without a schema, and
every object / oneof schema registered for a descriptor was built from exactly that descriptor:
it is an object iff the message is not a oneof wrapper, each property describes a field of that
message, and the schema name a message-kind property refers to is the one registered for the
field's own target (`RegLinks`; colliding names are errors since af1da62). -/
theorem C18_refs_linked (ds : DescSet) (hl : linked ds = true) (reg : Reg)
    (h : schemaSetFromFiles ds = .ok reg) : (∀ e ∈ reg, e.to ≠ none) ∧ RegLinks ds reg :=
  ⟨((schemaSetFromFiles_safe ds hl).2 reg h).allLinked, ((schemaSetFromFiles_safe ds hl).2 reg h).links⟩

/-- `message Foo_E {}  message Foo { enum E { E_UNSPECIFIED = 0; E_A = 1; }
     E x = 1 [(buf.validate.field).enum.in = 1]; }` — both `Foo_E` and `Foo.E` are "Foo_E".
The witness of the repaired defect (first op of every `schema.reflect` shard on the Go side):
the unchecked `ref.To.(*EnumSchema)` used to panic here; now the second descriptor's claim on the
name is an error. -/
def collisionWitness : DescSet :=
  let x : FieldD := ⟨"x", "x", 1, .enum, .single, -1, .enum "wt.v1.Foo.E" "wt.v1" "Foo_E", false,
    some (.mk none none (.enum [1] [])), none, none, none, none, none⟩
  let fooE : Msg := ⟨"wt.v1.Foo_E", "wt.v1", "Foo_E", "Foo_E", none, none, "nofield", none, [], []⟩
  let foo : Msg := ⟨"wt.v1.Foo", "wt.v1", "Foo", "Foo", none, none, "nofield", none, [], [x]⟩
  let e : EnumD := ⟨"wt.v1.Foo.E", "wt.v1", "E", "Foo_E", false, [("E_UNSPECIFIED", 0), ("E_A", 1)]⟩
  ⟨["wt.v1.Foo_E", "wt.v1.Foo"], [], ["wt.v1.Foo_E", "wt.v1.Foo"], [fooE, foo], [e]⟩

example : linked collisionWitness = true := by decide +kernel

theorem C18_collision_is_an_error :
    schemaSetFromFiles collisionWitness = .err "schema name is used by two descriptors" :=
  schemaSetFromFilesN_sound collisionWitness 10 _ (by decide +kernel)

/-! ### proto paths resolve to fields of the matching kind; names are unique

`RegDescribes ds reg`: every object / oneof schema registered under (p, k) was built from a
message of the set whose schema name (or whose oneof's) is (p, k); each of its properties either
has the number of a field of that message as its path, with a schema that `describes` the field
(cardinality: array ↔ repeated, map ↔ map; element: J5 scalar ↔ proto kind by `scalarFits`,
well-known scalar ↔ its message, enum / object / oneof ↔ the referenced descriptor's own schema
name, oneof-ness as `isOneofWrapper` says), or is the wrapper of an exposed oneof of the message;
and the JSON names of its properties are pairwise distinct.

`google.protobuf.Struct` used to be the exception (reflected as `MapField{AnyField}` over a
message-kind field, finding `struct-as-map:*`); since the repair it is an "unsupported google type"
schema error like `google.protobuf.Duration`, and the statement holds for every descriptor set. -/

/-- `message M { google.protobuf.Struct s = 1; }` — the witness of the repaired `struct-as-map` -/
def structWitness : DescSet :=
  let f : FieldD := ⟨"s", "s", 1, .message, .single, -1,
    .msg "google.protobuf.Struct" "google.protobuf" "Struct", false, none, none, none, none, none, none⟩
  let m : Msg := ⟨"wt.v1.M", "wt.v1", "M", "M", none, none, "nofield", none, [], [f]⟩
  ⟨["wt.v1.M"], [], ["wt.v1.M"], [m], []⟩

/-- `message M { google.protobuf.Duration d = 1; }` — the witness of the repaired
`duration-as-string` -/
def durationWitness : DescSet :=
  let f : FieldD := ⟨"d", "d", 1, .message, .single, -1,
    .msg "google.protobuf.Duration" "google.protobuf" "Duration", false, none, none, none, none, none, none⟩
  let m : Msg := ⟨"wt.v1.M", "wt.v1", "M", "M", none, none, "nofield", none, [], [f]⟩
  ⟨["wt.v1.M"], [], ["wt.v1.M"], [m], []⟩

-- (`String.startsWith` on a long enough string does not unfold for the elaborator's `decide`; the
-- kernel evaluates it: `decide +kernel` adds no axiom)
example : linked structWitness = true ∧ linked durationWitness = true := by decide +kernel

/-- the two repaired witnesses are schema errors now (Go: among the first ops of every
`schema.reflect` shard) -/
theorem C18_unsupported_are_errors :
    schemaSetFromFiles structWitness = .err "unsupported google type" ∧
    schemaSetFromFiles durationWitness = .err "unsupported google type" :=
  ⟨schemaSetFromFilesN_sound structWitness 10 _ (by decide +kernel),
   schemaSetFromFilesN_sound durationWitness 10 _ (by decide +kernel)⟩

/-- **Paths resolve, kinds match, names are unique.** For every descriptor set, if reflection
succeeds then every schema of the set points into the message it was built from, with matching
cardinality and kind, and distinct property names. -/
theorem C18_paths_resolve (ds : DescSet) (reg : Reg)
    (h : schemaSetFromFiles ds = .ok reg) : RegDescribes ds reg :=
  schemaSetFromFiles_describes ds reg h

/-- the per-field core of it: the property built for a field has that field's number as path,
its JSON name, and a schema describing it — whatever annotations the field carries -/
theorem C18_property_describes_field (ds : DescSet) (reg : Reg) (f : FieldD) (prop : RProp)
    (b : Built) (h : buildProperty ds reg f = .ok (prop, b)) :
    prop.path = [f.number] ∧ prop.json = f.jsonName ∧ describes ds f prop.schema = true :=
  buildProperty_describes ds reg f prop b h

/-- what C15 assumes of a reflected scalar (`wfField`): the reader only ever builds integer and
float scalars with a format the importer's `intKinds` / `floatKinds` tables know -/
theorem C18_reader_formats_importable (kind : PKind) (e : Ext) (key : Option KeySum) (tag : STag)
    (fmt : Nat) (h : buildScalar kind e key = .ok (tag, fmt)) :
    (tag = .integer → (intKind fmt).isSome = true) ∧ (tag = .float → (floatKind fmt).isSome = true) := by
  -- `scalarFits` pairs the integer / float tags with exactly the formats of the two tables
  obtain ⟨hi, hf⟩ := scalarFits_formats (buildScalar_fits kind e key tag fmt h)
  exact ⟨fun ht => by rcases hi ht with rfl | rfl | rfl | rfl <;> rfl,
    fun ht => by rcases hf ht with rfl | rfl <;> rfl⟩

/-! ### the property-set layer of the codec accepts what the reader produced

`lib/j5reflect` builds, for a message, the client properties (flattened fields expanded), walks
every proto path (`newPropSet`) and checks every field schema against the proto kind before it
touches a value (`buildProperty`, `newMessageFieldFactory`, `newFieldFactory`). Values themselves
(encode / decode of a populated message) are the codec cluster's model (C01, C06); what is proved
here is that none of these checks can fail or panic on a schema that describes its field. -/

/-- **Flattening terminates.** `ClientProperties` descends into a flattened object only when it
is not already on the flattening stack, and each descent strictly decreases the number of
registered schema names not on the stack (the repair 595283b; without the guard a message that
flattens itself recursed until the stack overflowed). `clientProps` is defined by well-founded
recursion on exactly this measure. -/
theorem C18_flatten_terminates (reg : Reg) (fl : List Ref) (r : Ref) (e : REntry)
    (hf : reg.find r.pkg r.schema = some e) (hn : onStack fl r = false) :
    unflattened reg (fl ++ [r]) < unflattened reg fl :=
  unflattened_lt reg fl r e hf hn

/-- `message M { M child = 1 [flatten]; string name = 2; }`: the self-flattening field stays a
nested object -/
example :
    let child : RProp := ⟨"child", false, false, [1], .object ⟨"wt.v1", "M"⟩ true⟩
    let name : RProp := ⟨"name", false, false, [2], .scalar .string 0 9 ""⟩
    clientProperties [⟨"wt.v1", "M", some (.object "wt.v1" "M" none [] [child, name]), "wt.v1.M"⟩]
      ⟨"wt.v1", "M"⟩ = .ok [child, name] := by
  simp [clientProperties, objectProps, Reg.find, Outcome.bind, clientProps, onStack, Outcome.map]

/-- **The codec's checks pass** (partial: for properties that point at a field — flattened paths
are concatenations of such steps —, and not for a list / map of `Any`, open finding
`any-in-collection`). If a property of a schema built from message `m` describes field `f` of
`m`, then `newPropSet` resolves its path to a field with that number and every kind check of the
field factories succeeds — no error, no panic. Together with `C18_paths_resolve` this covers
every non-flattened property of every reflected schema. -/
theorem C18_codec_ok_partial (ds : DescSet) (m : Msg) (f : FieldD) (hf : f ∈ m.fields) (s : RField)
    (h : describes ds f s = true) (hany : anyInCollection s = false) :
    (∃ g, resolvePath ds m [f.number] = .ok (some g) ∧ g ∈ m.fields ∧ g.number = f.number) ∧
    reflectField f s = .ok () :=
  ⟨resolvePath_single ds m f hf, reflectField_ok ds f s h hany⟩

/-- `message M { repeated j5.types.any.v1.Any a = 1; }` — the witness of the open finding
`any-in-collection` (the Go side runs it in every `schema.reflect` shard) -/
def anyListWitness : DescSet :=
  let f : FieldD := ⟨"a", "a", 1, .message, .list, -1,
    .msg "j5.types.any.v1.Any" "j5.types.any.v1" "Any", false, none, none, none, none, none, none⟩
  let m : Msg := ⟨"wt.v1.M", "wt.v1", "M", "M", none, none, "nofield", none, [], [f]⟩
  ⟨["wt.v1.M"], [], ["wt.v1.M"], [m], []⟩

theorem anyListWitness_reflects :
    schemaSetFromFiles anyListWitness =
      .ok [⟨"wt.v1", "M", some (.object "wt.v1" "M" none [] [⟨"a", false, false, [1], .array .any⟩]),
        "wt.v1.M"⟩] :=
  schemaSetFromFilesN_sound anyListWitness 10 _ (by decide +kernel)

/-- the full statement (every reflected property passes the codec's checks) … -/
def C18_codec_ok_full : Prop :=
  ∀ (ds : DescSet) (reg : Reg), schemaSetFromFiles ds = .ok reg →
    ∀ e ∈ reg, ∀ p k en am ps, e.to = some (.object p k en am ps) →
      ∀ m ∈ ds.msgs, m.full = e.src → ∀ prop ∈ ps, ∀ f ∈ m.fields, prop.path = [f.number] →
        reflectField f prop.schema = .ok ()

/-- … is false of the code as it is: the reader accepts `repeated Any`, `newMessageArrayField`
has no case for it (the repair — array / map of Any in `lib/j5reflect` and `internal/codec` — is
not a small one; rejecting the field at reflection, a9e5f7d, broke j5s packages with `array:any`
and was taken back in a76cc98) -/
theorem C18_codec_ok_counterexample : ¬ C18_codec_ok_full := by
  intro h
  have := h anyListWitness _ anyListWitness_reflects _ (List.mem_singleton.mpr rfl) _ _ _ _ _ rfl
    _ (List.mem_singleton.mpr rfl) rfl _ (List.mem_singleton.mpr rfl) _ (List.mem_singleton.mpr rfl) rfl
  revert this
  decide

/-! ### flattened fields: every client property of every reflected root is usable

`ObjectSchema.ClientProperties()` replaces a flattened field by the client properties of its
object, paths concatenated, recursively (guarded against cycles, `C18_flatten_terminates`). The
codec builds its property set from that list: `newPropSet` walks every path message by message,
the field factories check the schema against the final field. -/

/-- **`ClientProperties()` of every reflected object succeeds, and each client property — however
many flattened fields its path goes through — resolves in the message the schema was built from
to a field its schema describes**, or is the wrapper of an exposed oneof of the message the path
ends in. `newPropSet`'s walk over them succeeds, and so does every kind check of the field
factories (a list / map of `Any` excepted: open finding `any-in-collection`).

Scope: the first four conjuncts (`ClientProperties()` succeeds, `ClientOK`, `resolveAll`) have no
hypothesis beyond `linked`; the LAST conjunct (the field factories' checks) is conditional on
`anyInCollection q.schema = false` per property — in that respect this is the `_partial` of
`C18_codec_ok_full` (refuted by `C18_codec_ok_counterexample`). There is no `clientNamesOK`
hypothesis here; client-name uniqueness is the separate `C18_client_names_partial`. -/
theorem C18_codec_ok (ds : DescSet) (hl : linked ds = true) (reg : Reg)
    (h : schemaSetFromFiles ds = .ok reg) (e : REntry) (he : e ∈ reg) (p k : String)
    (en : Option (String × Int)) (am : List String) (ps : List RProp)
    (hto : e.to = some (.object p k en am ps)) :
    ∃ m cps, ds.msg? e.src = some m ∧ clientProps reg [⟨e.pkg, e.key⟩] ps = .ok cps ∧
      (∀ q ∈ cps, ClientOK ds m q) ∧ resolveAll ds m cps = .ok () ∧
      (∀ q ∈ cps, ∀ g, resolvePath ds m q.path = .ok (some g) → describes ds g q.schema = true →
        anyInCollection q.schema = false → reflectField g q.schema = .ok ()) := by
  obtain ⟨m, cps, hm, hcps, hok, hres⟩ := ((schemaSetFromFiles_safe ds hl).2 reg h).object_ok hl he hto
  exact ⟨m, cps, hm, hcps, hok, hres, fun q _ g _ hd hany => reflectField_ok ds g q.schema hd hany⟩

/-- the same for a oneof schema (a oneof wrapper message, or an exposed oneof: its members are
fields of the message that declares it): `ClientProperties()` is the property list itself -/
theorem C18_codec_ok_oneof (ds : DescSet) (hl : linked ds = true) (reg : Reg)
    (h : schemaSetFromFiles ds = .ok reg) (e : REntry) (he : e ∈ reg) (p k : String)
    (ps : List RProp) (hto : e.to = some (.oneof p k ps)) :
    ∃ m, m ∈ ds.msgs ∧ (∀ q ∈ ps, ClientOK ds m q) ∧ resolveAll ds m ps = .ok () :=
  ((schemaSetFromFiles_safe ds hl).2 reg h).oneof_ok hl he hto

/-- **`Reflector.NewRoot` succeeds** on every message whose schema the set holds (the class the
`schema.reflect` stream compares for every message of every generated set) -/
theorem C18_newroot_ok (ds : DescSet) (hl : linked ds = true) (reg : Reg)
    (h : schemaSetFromFiles ds = .ok reg) (m : Msg) (hm : ds.msg? m.full = some m) (e : REntry)
    (hfind : reg.find m.pkg m.split = some e) (hsrc : e.src = m.full) :
    newRoot ds reg m = .ok () :=
  ((schemaSetFromFiles_safe ds hl).2 reg h).newRoot_ok hl hm hfind hsrc

/-- `message A { B b = 1 [flatten]; string x = 2; }  message B { string y = 1; C c = 2 [flatten]; }
message C { int32 z = 1; }` — two levels of flattening -/
def flattenChain : DescSet :=
  let flat : Option J5Sum := some ⟨"object", true, "none", 0⟩
  let fb : FieldD := ⟨"b", "b", 1, .message, .single, -1, .msg "fl.v1.B" "fl.v1" "B", false, none, none, flat, none, none, none⟩
  let fx : FieldD := ⟨"x", "x", 2, .string, .single, -1, .none, false, none, none, none, none, none, none⟩
  let fy : FieldD := ⟨"y", "y", 1, .string, .single, -1, .none, false, none, none, none, none, none, none⟩
  let fc : FieldD := ⟨"c", "c", 2, .message, .single, -1, .msg "fl.v1.C" "fl.v1" "C", false, none, none, flat, none, none, none⟩
  let fz : FieldD := ⟨"z", "z", 1, .int32, .single, -1, .none, false, none, none, none, none, none, none⟩
  let a : Msg := ⟨"fl.v1.A", "fl.v1", "A", "A", none, none, "nofield", none, [], [fb, fx]⟩
  let b : Msg := ⟨"fl.v1.B", "fl.v1", "B", "B", none, none, "nofield", none, [], [fy, fc]⟩
  let c : Msg := ⟨"fl.v1.C", "fl.v1", "C", "C", none, none, "nofield", none, [], [fz]⟩
  ⟨["fl.v1.A", "fl.v1.B", "fl.v1.C"], [], ["fl.v1.A", "fl.v1.B", "fl.v1.C"], [a, b, c], []⟩

def flattenChainReg : Reg :=
  [⟨"fl.v1", "A", some (.object "fl.v1" "A" none []
      [⟨"b", false, false, [1], .object ⟨"fl.v1", "B"⟩ true⟩, ⟨"x", false, false, [2], .scalar .string 0 9 ""⟩]),
      "fl.v1.A"⟩,
   ⟨"fl.v1", "B", some (.object "fl.v1" "B" none []
      [⟨"y", false, false, [1], .scalar .string 0 9 ""⟩, ⟨"c", false, false, [2], .object ⟨"fl.v1", "C"⟩ true⟩]),
      "fl.v1.B"⟩,
   ⟨"fl.v1", "C", some (.object "fl.v1" "C" none [] [⟨"z", false, false, [1], .scalar .integer 1 5 ""⟩]),
      "fl.v1.C"⟩]

/-- non-vacuity of `C18_codec_ok`: the chain is linked, reflects, … -/
example : linked flattenChain = true := by decide +kernel

theorem flattenChain_reflects : schemaSetFromFiles flattenChain = .ok flattenChainReg :=
  schemaSetFromFilesN_sound flattenChain 20 _ (by decide +kernel)

/-- … and the client properties of `A` are `y` (path 1.1), `z` (path 1.2.1) and `x` (path 2), each
resolving to the field it describes -/
example :
    clientProps flattenChainReg [⟨"fl.v1", "A"⟩]
        [⟨"b", false, false, [1], .object ⟨"fl.v1", "B"⟩ true⟩, ⟨"x", false, false, [2], .scalar .string 0 9 ""⟩] =
      .ok [⟨"y", false, false, [1, 1], .scalar .string 0 9 ""⟩,
           ⟨"z", false, false, [1, 2, 1], .scalar .integer 1 5 ""⟩,
           ⟨"x", false, false, [2], .scalar .string 0 9 ""⟩] :=
  clientPropsN_sound _ 10 _ _ _ (by decide +kernel)

/-! ### client property names (open finding `duplicate-client-property-name`)

Within one schema the property names are unique (`C18_names_unique`, part of `RegLinks`). The
*client* properties of an object — after flattening — are what the codec keys on, and the reader
does not check those: a flattened field can bring a name the object already has. -/

/-- the full statement: the client properties of every reflected object have distinct names -/
def C18_client_names_full : Prop :=
  ∀ (ds : DescSet) (reg : Reg), linked ds = true → schemaSetFromFiles ds = .ok reg →
    ∀ e ∈ reg, clientNamesOK reg e = .ok ()

/-- `message A { string x = 1; B b = 2 [flatten]; }  message B { string x = 1; }` — witness 8 of
every `schema.reflect` shard -/
def flattenClashWitness : DescSet :=
  let flat : Option J5Sum := some ⟨"object", true, "none", 0⟩
  let fx : FieldD := ⟨"x", "x", 1, .string, .single, -1, .none, false, none, none, none, none, none, none⟩
  let fb : FieldD := ⟨"b", "b", 2, .message, .single, -1, .msg "wt.v1.B" "wt.v1" "B", false, none, none, flat, none, none, none⟩
  let a : Msg := ⟨"wt.v1.A", "wt.v1", "A", "A", none, none, "nofield", none, [], [fx, fb]⟩
  let b : Msg := ⟨"wt.v1.B", "wt.v1", "B", "B", none, none, "nofield", none, [], [fx]⟩
  ⟨["wt.v1.A", "wt.v1.B"], [], ["wt.v1.A", "wt.v1.B"], [a, b], []⟩

def flattenClashReg : Reg :=
  [⟨"wt.v1", "A", some (.object "wt.v1" "A" none []
      [⟨"x", false, false, [1], .scalar .string 0 9 ""⟩, ⟨"b", false, false, [2], .object ⟨"wt.v1", "B"⟩ true⟩]),
      "wt.v1.A"⟩,
   ⟨"wt.v1", "B", some (.object "wt.v1" "B" none [] [⟨"x", false, false, [1], .scalar .string 0 9 ""⟩]),
      "wt.v1.B"⟩]

theorem flattenClash_reflects : schemaSetFromFiles flattenClashWitness = .ok flattenClashReg :=
  schemaSetFromFilesN_sound flattenClashWitness 20 _ (by decide +kernel)

theorem C18_client_names_counterexample : ¬ C18_client_names_full := by
  intro h
  have := h flattenClashWitness _ (by decide +kernel) flattenClash_reflects
    ⟨"wt.v1", "A", some (.object "wt.v1" "A" none []
      [⟨"x", false, false, [1], .scalar .string 0 9 ""⟩, ⟨"b", false, false, [2], .object ⟨"wt.v1", "B"⟩ true⟩]),
      "wt.v1.A"⟩ (List.mem_cons_self ..)
  have hcp : clientProps flattenClashReg [⟨"wt.v1", "A"⟩]
      [⟨"x", false, false, [1], .scalar .string 0 9 ""⟩, ⟨"b", false, false, [2], .object ⟨"wt.v1", "B"⟩ true⟩] =
      .ok [⟨"x", false, false, [1], .scalar .string 0 9 ""⟩, ⟨"x", false, false, [2, 1], .scalar .string 0 9 ""⟩] :=
    clientPropsN_sound _ 10 _ _ _ (by decide +kernel)
  simp only [clientNamesOK, hcp, Outcome.bind] at this
  revert this
  decide

/-- no property of the list is a flattened object -/
def noFlatten (ps : List RProp) : Bool :=
  ps.all fun p => match p.schema with | .object _ true => false | _ => true

theorem clientProps_noFlatten (reg : Reg) (fl : List Ref) (ps : List RProp) (h : noFlatten ps = true) :
    clientProps reg fl ps = .ok ps := by
  induction ps with
  | nil => simp [clientProps]
  | cons p ps ih =>
    simp only [noFlatten, List.all_cons, Bool.and_eq_true] at h
    have ih' := ih (by simpa [noFlatten] using h.2)
    rw [clientProps]
    split
    · rename_i ref hsch
      simp [hsch] at h
    · simp [Outcome.bind, ih', Outcome.map]

/-- **Client names are unique** (partial: objects without a flattened field; exactly the recorded
class is excluded — with a flattened field the names may clash, `flattenClashWitness`) -/
theorem C18_client_names_partial (ds : DescSet) (hl : linked ds = true) (reg : Reg)
    (h : schemaSetFromFiles ds = .ok reg) (e : REntry) (he : e ∈ reg) (p k : String)
    (en : Option (String × Int)) (am : List String) (ps : List RProp)
    (hto : e.to = some (.object p k en am ps)) (hnf : noFlatten ps = true) :
    clientNamesOK reg e = .ok () := by
  have hs := (schemaSetFromFiles_safe ds hl).2 reg h
  obtain ⟨m, _, _, _, hnd⟩ := hs.object he hto
  unfold clientNamesOK
  rw [hto]
  simp only [clientProps_noFlatten reg _ ps hnf, Outcome.bind]
  have : namesUnique ps = true := by simpa [namesUnique] using hnd
  simp [this]

example : noFlatten [⟨"x", false, false, [1], .scalar .string 0 9 ""⟩] = true := by decide

/-! ### the codec model's well-formedness predicate holds for reflected schemas -/

/-- **A reflected schema set, rendered as the codec model's environment
(`J5V.Schema.Bridge.toEnv`), satisfies `Env.itemsOk`** — array / map items are never arrays or
maps — for every descriptor set. `itemsOk` is the hypothesis of the codec cluster's no-panic
theorems (`C06_decode_no_panic`, `C06_query_no_panic`): for schemas that come out of reflection it
holds by construction. -/
theorem C18_reflected_itemsOk (ds : DescSet) (reg : Reg) (h : schemaSetFromFiles ds = .ok reg) :
    (Bridge.toEnv ds reg).itemsOk = true :=
  Bridge.reflected_itemsOk ds reg h

/-- … so the decoder model cannot panic on any input for any reflected root (the codec cluster's
theorem, instantiated) -/
theorem C18_reflected_decode_no_panic (ds : DescSet) (reg : Reg) (h : schemaSetFromFiles ds = .ok reg)
    (c : Codec.Cfg) (hc : c.env = Bridge.toEnv ds reg) (root : String) (bs : Json.Bytes) :
    ∀ w, Codec.decodeBytes c root bs ≠ .panic w :=
  Codec.decodeBytes_np c (by rw [hc]; exact C18_reflected_itemsOk ds reg h) root bs

example : (Bridge.toEnv flattenChain flattenChainReg).itemsOk = true :=
  C18_reflected_itemsOk _ _ flattenChain_reflects

/-- **The codec encodes and decodes the empty message of every reflected object** — on the codec
cluster's model, with the env rendered from the reflected registry: `ProtoToJSON` of the empty
message is `{}`, `JSONToProto` of `{}` is the empty message. (That the def names `package.Name`
of the registry are pairwise distinct follows from `linked`: schema names contain no dot,
`Bridge.nameInj_of_settled`.) -/
theorem C18_empty_message (ds : DescSet) (hl : linked ds = true) (reg : Reg)
    (h : schemaSetFromFiles ds = .ok reg) (e : REntry)
    (he : e ∈ reg) (p k : String) (en : Option (String × Int)) (am : List String) (ps : List RProp)
    (hto : e.to = some (.object p k en am ps)) (O : Codec.Oracle) (c : Codec.Cfg)
    (hc : c.env = Bridge.toEnv ds reg) :
    Codec.encodeBytes (Bridge.toEnv ds reg) O (Bridge.rootName e.pkg e.key) (.msg []) = .ok (Json.ascii "{}") ∧
    Codec.decodeBytes c (Bridge.rootName e.pkg e.key) (Json.ascii "{}") = .ok [] :=
  Bridge.settled_empty_message ds hl reg ((schemaSetFromFiles_safe ds hl).2 reg h) e he p k en am ps hto O c hc

/-- the same for every reflected oneof schema (oneof wrapper message or exposed oneof): no member
set ⇒ `{}`, and `{}` decodes to the message with no member set -/
theorem C18_empty_message_oneof (ds : DescSet) (hl : linked ds = true) (reg : Reg)
    (h : schemaSetFromFiles ds = .ok reg) (e : REntry) (he : e ∈ reg) (p k : String)
    (ps : List RProp) (hto : e.to = some (.oneof p k ps)) (O : Codec.Oracle) (c : Codec.Cfg)
    (hc : c.env = Bridge.toEnv ds reg) :
    Codec.encodeBytes (Bridge.toEnv ds reg) O (Bridge.rootName e.pkg e.key) (.msg []) = .ok (Json.ascii "{}") ∧
    Codec.decodeBytes c (Bridge.rootName e.pkg e.key) (Json.ascii "{}") = .ok [] :=
  Bridge.settled_empty_message_oneof ds hl reg ((schemaSetFromFiles_safe ds hl).2 reg h) e he p k ps hto O c hc

/-! ### C18 → C01: the codec round trip on reflected schemas

The codec clause of the property — "the codec can encode and decode an empty and a populated
message of every reflected type" — beyond the empty message: for a descriptor set the reader
accepts and whose reflected environment lies in the codec cluster's `Env.flat`, **every**
representable message of **every** reflected root round-trips through the codec
(`C01_roundtrip_partial` = `Codec.roundtrip_bytes`, instantiated at `toEnv ds reg`; `toEnv` is tied
to the real structures by the `env=` part of the `schema.reflect` correspondence).
`_partial`: `Env.flat` of the reflected environment is a hypothesis (decidable, evaluated on the
witness below); a reflected set with a flatten name clash (open finding
`duplicate-client-property-name`) or a flattened leaf that is an array / map of arrays is outside it.
That `flat` follows from `clientNamesOK` for every reflected set is not proved. -/
theorem C18_reflected_roundtrip_partial (ds : DescSet) (reg : Reg) (h : schemaSetFromFiles ds = .ok reg)
    (c : Codec.Cfg) (hc : c.env = Bridge.toEnv ds reg) (hflat : (Bridge.toEnv ds reg).flat = true)
    (L : Codec.OracleLaws c.O) (hC : (Bridge.toEnv ds reg).noAny = true ∨ Codec.ChunkLaws c.O)
    (root : String) (m : Codec.Fields)
    (hok : Codec.valOk (Bridge.toEnv ds reg) c.O (.object root) (.msg m) = true ∨
      Codec.valOk (Bridge.toEnv ds reg) c.O (.oneof root) (.msg m) = true)
    (hM : c.canDecode m) :
    ∃ bs, Codec.encodeBytes (Bridge.toEnv ds reg) c.O root (.msg m) = .ok bs ∧
      Codec.decodeBytes c root bs = .ok m :=
  Bridge.reflected_roundtrip ds reg h c hc hflat L hC root m hok hM

/-- … and when no `Any` field is reflected nothing is asked of the codec configuration: every
codec over the reflected environment (with or without `WithProtoToAny`) round-trips every
representable message -/
theorem C18_reflected_roundtrip_noAny_partial (ds : DescSet) (reg : Reg)
    (h : schemaSetFromFiles ds = .ok reg) (c : Codec.Cfg) (hc : c.env = Bridge.toEnv ds reg)
    (hflat : (Bridge.toEnv ds reg).flat = true) (hna : (Bridge.toEnv ds reg).noAny = true)
    (L : Codec.OracleLaws c.O) (root : String) (m : Codec.Fields)
    (hok : Codec.valOk (Bridge.toEnv ds reg) c.O (.object root) (.msg m) = true ∨
      Codec.valOk (Bridge.toEnv ds reg) c.O (.oneof root) (.msg m) = true) :
    ∃ bs, Codec.encodeBytes (Bridge.toEnv ds reg) c.O root (.msg m) = .ok bs ∧
      Codec.decodeBytes c root bs = .ok m :=
  Bridge.reflected_roundtrip_noAny ds reg h c hc hflat hna L root m hok

/-- the reflected environment of `flattenChain` (two levels of flattening), computed by the fuel
version of `toEnv` -/
def flattenChainEnv : Codec.Env := (Bridge.toEnvN 10 flattenChain flattenChainReg).getD ⟨[], []⟩

theorem flattenChain_env : Bridge.toEnv flattenChain flattenChainReg = flattenChainEnv :=
  Bridge.toEnv_eq_getD 10 _ _ (by decide +kernel)

/-- `A{ b: B{ y: "hi", c: C{ z: 5 } }, x: "q" }` -/
def flattenChainMsg : Codec.Fields :=
  [(1, .msg [(1, .str (Json.ascii "hi")), (2, .msg [(1, .int 5)])]), (2, .str (Json.ascii "q"))]

/-- non-vacuity of `C18_reflected_roundtrip_partial`: the reflected environment of `flattenChain`
is flat and has no `Any`, and the populated message above is representable … -/
example : flattenChainEnv.flat = true ∧ flattenChainEnv.noAny = true ∧
    Codec.valOk flattenChainEnv Codec.toyOracle (.object "fl.v1.A") (.msg flattenChainMsg) = true := by
  decide +kernel

/-- … so the theorem applies: the populated message of `A` (flattened through `B` and `C`) is
encoded, and decoded back to itself, by every codec over the reflected schema -/
example (c : Codec.Cfg) (hc : c.env = Bridge.toEnv flattenChain flattenChainReg) (hO : c.O = Codec.toyOracle) :
    ∃ bs, Codec.encodeBytes (Bridge.toEnv flattenChain flattenChainReg) c.O "fl.v1.A" (.msg flattenChainMsg) = .ok bs ∧
      Codec.decodeBytes c "fl.v1.A" bs = .ok flattenChainMsg := by
  have h : flattenChainEnv.flat = true ∧ flattenChainEnv.noAny = true ∧
      Codec.valOk flattenChainEnv Codec.toyOracle (.object "fl.v1.A") (.msg flattenChainMsg) = true := by
    decide +kernel
  rw [← flattenChain_env, ← hO] at h
  exact C18_reflected_roundtrip_noAny_partial _ _ flattenChain_reflects c hc h.1 h.2.1
    (hO ▸ Codec.toyOracle_laws) _ _ (Or.inl h.2.2)

/-- a second witness with every container: `message R { repeated string tags = 1;
map<string,int32> counts = 2; E e = 3; optional bool on = 4; S s = 5; }  message S { int64 n = 1; }
enum E { E_UNSPECIFIED = 0; E_A = 1; E_B = 2; }` -/
def richSet : DescSet :=
  let tags : FieldD := ⟨"tags", "tags", 1, .string, .list, -1, .none, false, none, none, none, none, none, none⟩
  let counts : FieldD := ⟨"counts", "counts", 2, .message, .map, -1, .none, false, none, none, none, none,
    some .string, some (.int32, .none, none)⟩
  let e : FieldD := ⟨"e", "e", 3, .enum, .single, -1, .enum "rc.v1.E" "rc.v1" "E", false, none, none, none, none, none, none⟩
  let on : FieldD := ⟨"on", "on", 4, .bool, .single, -1, .none, true, none, none, none, none, none, none⟩
  let s : FieldD := ⟨"s", "s", 5, .message, .single, -1, .msg "rc.v1.S" "rc.v1" "S", false, none, none, none, none, none, none⟩
  let n : FieldD := ⟨"n", "n", 1, .int64, .single, -1, .none, false, none, none, none, none, none, none⟩
  let r : Msg := ⟨"rc.v1.R", "rc.v1", "R", "R", none, none, "nofield", none, [], [tags, counts, e, on, s]⟩
  let sm : Msg := ⟨"rc.v1.S", "rc.v1", "S", "S", none, none, "nofield", none, [], [n]⟩
  let en : EnumD := ⟨"rc.v1.E", "rc.v1", "E", "E", false, [("E_UNSPECIFIED", 0), ("E_A", 1), ("E_B", 2)]⟩
  ⟨["rc.v1.R", "rc.v1.S"], ["rc.v1.E"], ["rc.v1.R", "rc.v1.S"], [r, sm], [en]⟩

/-- what the reader model makes of it (three entries: R, S, E) -/
def richReg : Reg := match schemaSetFromFilesN richSet 20 with | some (.ok r) => r | _ => []

example : linked richSet = true ∧ richReg.length = 3 := by decide +kernel

theorem richSet_reflects : schemaSetFromFiles richSet = .ok richReg :=
  schemaSetFromFilesN_sound richSet 20 _ (by decide +kernel)

def richEnv : Codec.Env := (Bridge.toEnvN 10 richSet richReg).getD ⟨[], []⟩

theorem richSet_env : Bridge.toEnv richSet richReg = richEnv :=
  Bridge.toEnv_eq_getD 10 _ _ (by decide +kernel)

/-- `R{ tags: ["a","b"], counts: {"k": 3}, e: E_B, on: false (set), s: S{ n: 7 } }` -/
def richMsg : Codec.Fields :=
  [(1, .list [.str (Json.ascii "a"), .str (Json.ascii "b")]),
   (2, .map [(Json.ascii "k", .int 3)]),
   (3, .enum 2), (4, .bool false), (5, .msg [(1, .int 7)])]

/-- the populated message (array, map, enum, explicitly-set optional bool, nested object) of the
reflected `R` round-trips through every codec over the reflected schema; its JSON is
`{"tags":["a","b"],"counts":{"k":3},"e":"B","on":false,"s":{"n":"7"}}` -/
example (c : Codec.Cfg) (hc : c.env = Bridge.toEnv richSet richReg) (hO : c.O = Codec.toyOracle) :
    ∃ bs, Codec.encodeBytes (Bridge.toEnv richSet richReg) c.O "rc.v1.R" (.msg richMsg) = .ok bs ∧
      Codec.decodeBytes c "rc.v1.R" bs = .ok richMsg := by
  have h : richEnv.flat = true ∧ richEnv.noAny = true ∧
      Codec.valOk richEnv Codec.toyOracle (.object "rc.v1.R") (.msg richMsg) = true := by decide +kernel
  rw [← richSet_env, ← hO] at h
  exact C18_reflected_roundtrip_noAny_partial _ _ richSet_reflects c hc h.1 h.2.1
    (hO ▸ Codec.toyOracle_laws) _ _ (Or.inl h.2.2)

example : Codec.encodeBytes richEnv Codec.toyOracle "rc.v1.R" (.msg richMsg) =
    .ok (Json.ascii "{\"tags\":[\"a\",\"b\"],\"counts\":{\"k\":3},\"e\":\"B\",\"on\":false,\"s\":{\"n\":\"7\"}}") := by
  decide +kernel

/-! ## Non-vacuity -/

/-- `message M { M child = 1; string name = 2; }` — self-recursive -/
def selfRecursive : DescSet :=
  let f1 : FieldD := ⟨"child", "child", 1, .message, .single, -1, .msg "p.v1.M" "p.v1" "M", false,
    none, none, none, none, none, none⟩
  let f2 : FieldD := ⟨"name", "name", 2, .string, .single, -1, .none, false,
    none, none, none, none, none, none⟩
  let m : Msg := ⟨"p.v1.M", "p.v1", "M", "M", none, none, "nofield", none, [], [f1, f2]⟩
  ⟨["p.v1.M"], [], ["p.v1.M"], [m], []⟩

example : linked selfRecursive = true := by decide +kernel

/-- … and it reflects: one object `M` with an object property pointing back at `M` -/
example : schemaSetFromFiles selfRecursive =
    .ok [⟨"p.v1", "M", some (.object "p.v1" "M" none []
      [⟨"child", false, false, [1], .object ⟨"p.v1", "M"⟩ false⟩,
       ⟨"name", false, false, [2], .scalar .string 0 9 ""⟩]), "p.v1.M"⟩] :=
  schemaSetFromFilesN_sound selfRecursive 10 _ (by decide +kernel)

/-! ## Obligations over facts regenerated from the current source (`extract -what schema`)

The model's kind table (`buildSchema`, `buildScalar`) and well-known-type table (`wktSchema`) are
hand-written; these obligations re-check on every run that the source still has exactly the case
groups the model encodes (a kind moved into or out of a case changes which descriptor sets
reflect, and with which J5 type). -/
section Src
open J5V.Generated.Schema

theorem C18_src_kind_switches :
    readerSwitches =
      [("Package.buildSchema", "src.Kind()", [["MessageKind"], ["EnumKind"]]),
       ("buildScalarType", "src.Kind()",
         [["StringKind"], ["BoolKind"], ["Int32Kind", "Sint32Kind"], ["Uint32Kind"],
          ["Int64Kind", "Sint64Kind"], ["Uint64Kind"], ["FloatKind"], ["DoubleKind"], ["BytesKind"],
          ["default"]]),
       ("wktSchema", "string(fullName)",
         [["google.protobuf.Timestamp"], ["j5.types.date.v1.Date"],
          ["j5.types.decimal.v1.Decimal"],
          ["j5.types.any.v1.Any", "google.protobuf.Any"]])] := by decide +kernel

/-- the model agrees with that table: exactly the listed scalar kinds are accepted (without
annotations), every other kind is an error -/
theorem C18_model_kind_table :
    ([PKind.string, .bool, .int32, .sint32, .uint32, .int64, .sint64, .uint64, .float, .double,
        .bytes].all fun k => (buildScalar k ⟨none, none, none⟩ none).isOk) = true ∧
    ([PKind.fixed32, .fixed64, .sfixed32, .sfixed64, .group, .message, .enum].all fun k =>
        (buildScalar k ⟨none, none, none⟩ none).isErr) = true := by decide +kernel

end Src

end J5V.Props.C18
