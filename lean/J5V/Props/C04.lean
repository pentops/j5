import J5V.Rules.RoundtripProofs
import J5V.Rules.NormProofs
import J5V.Rules.Root
import J5V.Rules.SrcProofs
/-!
# C04 — schema read back from compiled proto equals the j5s source schema

Only property theorems, non-vacuity examples and (at the end) the source-fact obligations.
`writeField` models the writer
(`internal/j5s/j5convert/fields.go`), `readField` the reader (`lib/j5schema/schema_from_proto.go`),
`roundtrip p` is `readField` on what `writeField p` returns. "Equals" is equality with the normal form `normField p`
(normalisations N1–N6, each a semantic no-op of the schema language; see `J5V/Rules/Norm.lean`).
The text path (printed-and-reparsed .proto) is the composition with C05 and is checked on the Go
side only.
-/
namespace J5V.Props.C04
open J5V.Go J5V.Rules

/-- **C04, field level.** For every covered declaration — every rule, flag and format set to
arbitrary admissible values — compiling the property and reflecting the compiled field gives back
the declared property (name, proto field number, required / optional, description, type and
format, every rule with its inclusivity, item counts and uniqueness, enum in / not-in, key format
and entity key, flatten, list rules).

`_partial` of `C04_full` (below): `WFField` (`Rules/Norm.lean`) excludes, beside the inadmissible
declarations (compile errors: rule values, required + optional), exactly these classes, each with a
proved counterexample below and confirmed on the real code:
* `StringField.format` (`C04_string_format_counterexample`);
* array items / map values whose own `(j5.ext.v1.field)` annotation is replaced by the array
  annotation / sits on the map entry's value field: keys without uuid / id62 format or with an
  entity, strings with a well-known pattern, date / decimal rules, **`flatten` objects**
  (`C04_container_flatten_counterexample`), **`any` with `onlyDefined` / `types`**
  (`C04_container_any_counterexample`) (`C04_array_key_…`, `C04_string_id62_pattern_…`,
  `C04_custom_id62_key_lr_…`, `C04_map_value_annotations_…`);
* list rules on map values (`C04_map_value_annotations_counterexample`);
* **`? array` / `? map`** — accepted by the compiler, `explicitlyOptional` is not carried by a repeated
  / map field (`C04_optional_container_counterexample`).
(`WFField` also leaves out arrays of keys that carry an entity although they round-trip: harmless
over-exclusion.) -/
theorem C04_field_roundtrip_partial (p : Property) (h : WFField p = true) :
    roundtrip p = .ok (normField p) :=
  field_roundtrip p h

/-- the reader never panics and never fails on what the writer produced from a covered declaration -/
theorem C04_reader_total (p : Property) (h : WFField p = true) :
    ∃ a q, writeField p = .ok a ∧ readField a = .ok q :=
  let ⟨a, hw, hr⟩ := write_read p h
  ⟨a, _, hw, hr⟩

/-- the compiler stores the declared j5s name in `json_name` and snake-cases it (`strcase.ToSnake`,
as modelled byte by byte in `J5V/Compile/Strcase.lean`) for the proto field name -/
theorem C04_json_and_proto_name (p : Property) (a : Annot) (h : writeField p = .ok a) :
    a.jsonName = p.name ∧ a.protoName = snakeName p.name :=
  let ⟨h1, h2, _⟩ := writeField_ok p a h
  ⟨h1, h2⟩

/-- the reader names every property — single field, array and map alike — by `json_name`, never
by the proto name -/
theorem C04_reader_uses_json_name (a : Annot) (q : Property) (h : readField a = .ok q) :
    q.name = a.jsonName :=
  (readField_ok a q h).1

/-- `strcase.ToLowerCamel` of the proto name — what `jsonFieldName(field.Name())` would give — is
NOT the declared name as soon as the name is not canonical lowerCamel (acronyms, digits): naming a
property from its proto name loses `htmlURLs`, `labelsByID`, `x2y`, `URL`. -/
def lowerCamelOfProtoName (declared : String) : String :=
  J5V.Compile.Str.toString (J5V.Compile.toLowerCamel ((snakeName declared).toList.map Char.toNat))

example : snakeName "htmlURLs" = "html_ur_ls" ∧ lowerCamelOfProtoName "htmlURLs" = "htmlUrLs" ∧
    snakeName "labelsByID" = "labels_by_id" ∧ lowerCamelOfProtoName "labelsByID" = "labelsById" ∧
    snakeName "x2y" = "x_2_y" ∧ lowerCamelOfProtoName "x2y" = "x2Y" ∧
    snakeName "URL" = "url" ∧ lowerCamelOfProtoName "URL" = "url" ∧
    lowerCamelOfProtoName "tagNames" = "tagNames" := by
  decide +kernel

/-! Objects / oneofs as a whole. `RootDecl`, `writeRoot`, `readRoot`, `WFRoot` live in `J5V/Rules/Root.lean`
(the driver runs them). -/

theorem C04_properties_roundtrip (ps : List Property) (h : ps.all WFField = true) :
    ∃ as, writeAll ps = .ok as ∧ readAll as = .ok (ps.map normField) :=
  writeAll_readAll ps h

/-- **C04, root level.** For every object or oneof declaration whose properties are covered:
the reflected root has the same kind, name and description, the same entity annotation and
any-membership, and the same properties in the same order with the same proto field numbers, each
in normal form. `env` gives the `(j5.ext.v1.psm)` annotation of referenced object types. -/
theorem C04_root_roundtrip (env : RefPsm) (r : RootDecl) (h : WFRoot env r = true) :
    rootRoundtrip env r = .ok { r with properties := r.properties.map normField } :=
  root_roundtrip env r h

theorem C04_names_order_paths (env : RefPsm) (r : RootDecl) (h : WFRoot env r = true) :
    ∃ q, rootRoundtrip env r = .ok q ∧ q.kind = r.kind ∧ q.name = r.name ∧ q.description = r.description ∧
      q.entity = r.entity ∧ q.anyMember = r.anyMember ∧
      q.properties.map (fun p => (p.name, p.number, p.description)) =
        r.properties.map (fun p => (p.name, p.number, p.description)) := by
  refine ⟨_, C04_root_roundtrip env r h, rfl, rfl, rfl, rfl, rfl, ?_⟩
  simp [List.map_map, Function.comp_def, normField]

/-- Open finding `schema-diff:root:entity:invented[keys-field]`: the reader's legacy lookup. An
object WITHOUT entity annotation that has a field `keys` of an entity-annotated object type is
reflected as if it were part of that entity. -/
theorem C04_root_entity_invented_counterexample :
    let env : RefPsm := fun ref => if ref = "foo.v1.Bar" then some { entityName := "Widget", entityPart := some 1 } else none
    let r : RootDecl := { name := "Foo", properties := [{ name := "keys", number := 2, schema := .single (.object "foo.v1.Bar" false false) }] }
    rootRoundtrip env r = .ok { r with entity := some { entity := "Widget", part := 1 } } := by
  decide +kernel

/-- non-vacuity: an entity object with any-membership, and a oneof -/
example :
    let env : RefPsm := fun _ => none
    WFRoot env { name := "Foo", description := "the foo", entity := some { entity := "Thing", part := 1 },
                 anyMember := ["alpha"],
                 properties := [{ name := "a", number := 2, required := true, schema := .single (.string none none none) },
                                { name := "m", number := 3, schema := .map (.bool none none) (some { minPairs := some 1 }) none }] } = true ∧
    WFRoot env { kind := .oneof, name := "Foo",
                 properties := [{ name := "a", number := 1, schema := .single (.object "foo.v1.Bar" false false) },
                                { name := "b", number := 2, schema := .single (.integer .i32 (some { minimum := some 3 }) none) }] } = true := by
  decide +kernel

/-- N2: dropping `exclusive… = false` does not change which integers are allowed
("bounds with their inclusivity") -/
theorem C04_norm_int_meaning (r : IntRules) (v : Int) : intOk (normIntRules r) v = intOk r v :=
  intOk_norm r v

/-- **The reflected schema means what the declared one means**: for every covered non-enum
declaration, the schema read back from the compiled descriptors allows exactly the values the
source declaration allows (normalisations N1–N4, N6 are semantic no-ops; enum names are compared
by number, see `C12_equiv`). -/
theorem C04_reflected_same_meaning (M : Matcher) (hM : ∀ x, M.run id62Pattern x = id62Shape x)
    (optPres : Bool) (p q : Property) (h : WFField p = true) (hne : p.schema.item.isEnum = false)
    (hq : roundtrip p = .ok q) (v : FieldVal) :
    j5Accepts M optPres q v = j5Accepts M optPres p v := by
  rw [field_roundtrip p h] at hq
  cases hq
  exact j5Accepts_norm M hM optPres p hne v

theorem C04_norm_int_idem (r : IntRules) : normIntRules (normIntRules r) = normIntRules r := by
  obtain ⟨mn, mx, emn, emx⟩ := r
  (rcases emn with _ | _ | _) <;> (rcases emx with _ | _ | _) <;> rfl

/-! ## recorded open findings: the full statement, its refutation, and what `WFField` excludes -/

/-- declarations that are admissible in the sense of the property (no exclusion of the recorded
defect classes): rule values admissible, not both required and optional -/
def Admissible (p : Property) : Bool :=
  schemaWF p.schema.item && !(p.explicitlyOptional && p.effRequired)

/-- the full-strength statement -/
def C04_full : Prop := ∀ p : Property, Admissible p = true → roundtrip p = .ok (normField p)

/-- `schema-diff:str:sfmt:dropped`: `StringField.format` is ignored by the writer -/
theorem C04_string_format_counterexample :
    roundtrip { name := "s", number := 2, schema := .single (.string (some "email") none none) }
      = .ok { name := "s", number := 2, schema := .single (.string none none none) } := by
  decide +kernel

theorem C04_full_counterexample : ¬ C04_full := by
  intro h
  have := h { name := "s", number := 2, schema := .single (.string (some "email") none none) } (by decide)
  rw [C04_string_format_counterexample] at this
  exact absurd this (by decide)

/-- `schema-diff:array:key:kind:key->str`: the array annotation replaces the item's key annotation -/
theorem C04_array_key_counterexample :
    roundtrip { name := "k", number := 2, schema := .array (.key none none none) none none }
      = .ok { name := "k", number := 2, schema := .array (.string none none none) none none } := by
  decide +kernel

/-- `schema-diff:array:str:kind:str->key[id62-pattern]`: the reader keeps a field marked as J5 string a
string (Go commit b1eebc1), but array items lose the mark -/
theorem C04_string_id62_pattern_counterexample :
    roundtrip { name := "s", number := 2,
                schema := .array (.string none (some { pattern := some id62Pattern }) none) none none }
      = .ok { name := "s", number := 2, schema := .array (.key (some .id62) none none) (some {}) none } := by
  decide +kernel

/-- `reader-error:array:key[kf=cus,id62-pattern,lr]` (array items only; a single field keeps its own
pattern, Go commit b1eebc1) -/
theorem C04_custom_id62_key_lr_counterexample :
    (roundtrip { name := "k", number := 2,
                 schema := .array (.key (some (.custom id62Pattern)) none (some { text := "f1/df/s0/ds0/q0/qi-" })) none none }).isErr = true := by
  decide +kernel

/-- inside `WFField` (Go commit b1eebc1): a single string whose pattern is the id62 pattern, also with
list rules, and a single custom key with that pattern and list rules, are read back as declared -/
example :
    let s : Property := {
      name := "s", number := 2,
      schema := .single (.string none (some { pattern := some id62Pattern }) (some { text := "f0/df/s0/ds0/q1/qi-" })) }
    let k : Property := {
      name := "k", number := 2,
      schema := .single (.key (some (.custom id62Pattern)) none (some { text := "f1/df/s0/ds0/q0/qi-" })) }
    WFField s = true ∧ WFField k = true ∧ normField k = k := by
  decide +kernel

/-- `schema-diff:map:key:kind:key->str[kf=]` and `schema-diff:map:value-list-rules:dropped`: the
annotations of a map's values sit on the entry's value field, which the reader never consults -/
theorem C04_map_value_annotations_counterexample :
    roundtrip { name := "m", number := 2, schema := .map (.key none none none) none none }
      = .ok { name := "m", number := 2, schema := .map (.string none none none) none none } ∧
    roundtrip { name := "m", number := 2,
                schema := .map (.bool none (some { text := "f1/df/s0/ds0/q0/qi-" })) none none }
      = .ok { name := "m", number := 2, schema := .map (.bool none none) none none } := by
  constructor <;> decide +kernel

/-- `schema-diff:array:any:od:1->0` / `…:types:dropped` (and `map:`): `onlyDefined` / `types` of `any`
items / values travel in the item's `(j5.ext.v1.field).any`, which the array annotation replaces and
which for maps sits on the entry's value field. Real code (probe, 4dfe9b2): `array:any {
items.any.onlyDefined = true  items.any.types = ["foo.v1.Bar"] }` reflects with `od=0 types=~`. -/
theorem C04_container_any_counterexample :
    roundtrip { name := "a", number := 2, schema := .array (.any true ["foo.v1.Bar"] none) none none }
      = .ok { name := "a", number := 2, schema := .array (.any false [] none) none none } ∧
    roundtrip { name := "a", number := 2, schema := .map (.any true [] none) none none }
      = .ok { name := "a", number := 2, schema := .map (.any false [] none) none none } := by
  constructor <;> decide +kernel

/-- `schema-diff:array:obj:flat:1->0` (and `map:`): `items.object.flatten = true` is written in the
item's `(j5.ext.v1.field).object`, lost like the other item annotations. Real code: reflects `flat=0`. -/
theorem C04_container_flatten_counterexample :
    roundtrip { name := "o", number := 2, schema := .array (.object "Bar" true false) none none }
      = .ok { name := "o", number := 2, schema := .array (.object "Bar" false false) none none } ∧
    roundtrip { name := "o", number := 2, schema := .map (.object "Bar" true false) none none }
      = .ok { name := "o", number := 2, schema := .map (.object "Bar" false false) none none } := by
  constructor <;> decide +kernel

/-- `schema-diff:array:<kind>:opt:1->0` (and `map:`): `field x ? array:string` / `? map:string`
compile (no error), the descriptor of a repeated / map field cannot carry `optional`, and the schema
read back is not explicitly optional. Real code: reflects `opt=0`, in memory and through the text. -/
theorem C04_optional_container_counterexample :
    roundtrip { name := "s", number := 2, explicitlyOptional := true, schema := .array (.string none none none) none none }
      = .ok { name := "s", number := 2, schema := .array (.string none none none) none none } ∧
    roundtrip { name := "s", number := 2, explicitlyOptional := true, schema := .map (.string none none none) none none }
      = .ok { name := "s", number := 2, schema := .map (.string none none none) none none } ∧
    Admissible { name := "s", number := 2, explicitlyOptional := true, schema := .array (.string none none none) none none } = true ∧
    normField { name := "s", number := 2, explicitlyOptional := true, schema := .array (.string none none none) none none }
      ≠ { name := "s", number := 2, schema := .array (.string none none none) none none } := by
  refine ⟨by decide, by decide, by decide, by decide⟩

/-- maps (writer: Go commit d9448b1, reader: ff3022c): required, pair counts, singleForm, value rules -/
example : WFField {
    name := "m", number := 5, required := true, description := "a map",
    schema := .map (.string none (some { minLength := some 2, pattern := some "^[a-z]+$" }) none)
                (some { minPairs := some 1, maxPairs := some 3 }) (some "thing") } = true ∧
  WFField {
    name := "m", number := 5,
    schema := .map (.enum { name := "En", defaultPrefix := "EN_", options := ["A", "B"] } (some { inn := ["A"] }) none) none none } = true := by
  decide +kernel


example : WFField {
    name := "i", number := 2, required := true, description := "count",
    schema := .single (.integer .u32 (some { minimum := some 1, maximum := some 10, exclusiveMaximum := some false }) (some { text := "f1/df/s1/ds0/q0/qi-" })) } = true := by
  decide +kernel

example : WFField {
    name := "k", number := 3,
    schema := .single (.key (some (.custom "^x$")) (some { typ := .foreign "foo.v1.thing", tenantKey := some "t" }) (some { text := "f1/df/s0/ds0/q0/qi-" })) } = true := by
  decide +kernel

example : WFField {
    name := "e", number := 4,
    schema := .array (.enum { name := "En", defaultPrefix := "EN_", options := ["A", "B", "C"] }
                (some { inn := ["A", "EN_B"], notIn := ["C"] }) none) (some { minItems := some 1, uniqueItems := some true }) none } = true := by
  decide +kernel

/-- list rules of an enum field with default filters naming options (with and without prefix) -/
example : WFField {
    name := "e", number := 4,
    schema := .single (.enum { name := "En", defaultPrefix := "EN_", options := ["A", "B", "C"] } none
                (some { text := "f1/df41+454e5f42/s0/ds0/q0/qi-", defaultFilters := ["A", "EN_B"] })) } = true := by
  decide +kernel

/-- ... and the inadmissible neighbour: a default filter that is no option of the enum does not
compile (Go commit b6c593a), so there is nothing to read back -/
example : (roundtrip {
    name := "e", number := 4,
    schema := .single (.enum { name := "En", defaultPrefix := "EN_", options := ["A", "B", "C"] } none
                (some { text := "f1/df61/s0/ds0/q0/qi-", defaultFilters := ["a"] })) }).isErr = true := by
  decide +kernel

/-- **Enum declarations.** The canonical declaration the reader returns for ANY declared enum:
the effective prefix (declared, or the default), and as options `UNSPECIFIED` = 0 followed by the
declared options in order, numbered from 1, as short names — whether they were written with or
without the prefix, and whether or not `UNSPECIFIED` was declared explicitly first; the enum's
description; and one description per option: the declared one, where the zero option has one only
if it was declared explicitly. -/
theorem C04_enum_decl_normal_form (d : EnumDecl) :
    normDecl d = { name := d.name, declPrefix := some d.pfx, defaultPrefix := d.pfx,
                   options := "UNSPECIFIED" :: d.rest.map (normEnumName d),
                   description := d.description,
                   descs := if d.isExplicit then d.optDescs else "" :: d.optDescs } := by
  simp only [normDecl, values_general d, List.map_cons, trimPrefix_append, numberFrom_map_trim, EnumDecl.valueDescs]

/-- **Option descriptions survive the trip through the comments.** The writer files each option's
description as a leading comment under the value's *number* (`comments`), the reader looks comments
up by the value's *index* in the descriptor (`commentAt … i`): for every declaration — implicit
zero, explicit zero with or without description, descriptions on some or all options — every
compiled value gets back exactly the description declared for it. -/
theorem C04_enum_option_descriptions (d : EnumDecl) :
    (List.range d.values.length).map (commentAt d.comments) = d.valueDescs ∧
    d.valueDescs.length = d.values.length := by
  refine ⟨descs_read d, ?_⟩
  have hl := rest_length d
  have ho := optDescs_length d
  rw [values_general d]
  simp only [List.length_cons, numberFrom_length, EnumDecl.valueDescs]
  cases he : d.isExplicit <;> simp [he] at hl ⊢ <;> omega

/-- explicit UNSPECIFIED with a description (the input on which the seeded change C04-m6, filing under
`len(Value)`, differs). Filing the comment under the number (0) is what makes it come back on the zero option. -/
example :
    let d : EnumDecl := { name := "En", defaultPrefix := "EN_", options := ["UNSPECIFIED", "A", "B"],
                          description := "the enum", descs := ["zero", "", "bee"] }
    d.comments = [(0, "zero"), (2, "bee")] ∧ (normDecl d).descs = ["zero", "", "bee"] ∧
    (normDecl d).description = "the enum" := by
  decide +kernel

/-- … and with the implicit zero option the declared descriptions shift by one -/
example :
    let d : EnumDecl := { name := "En", defaultPrefix := "EN_", options := ["A", "B"], descs := ["ay", "bee"] }
    d.comments = [(1, "ay"), (2, "bee")] ∧ (normDecl d).descs = ["", "ay", "bee"] := by
  decide +kernel

/-- enum declarations of every spelling are inside `WFField`: declared prefix, an option written
with the prefix, explicit leading UNSPECIFIED; rule names and default filters in both spellings -/
example : WFField {
    name := "e", number := 4,
    schema := .single (.enum { name := "En", declPrefix := some "XX_", defaultPrefix := "EN_",
                               options := ["XX_UNSPECIFIED", "A", "XX_B", "C"] }
                (some { inn := ["A", "XX_B"], notIn := ["UNSPECIFIED"] })
                (some { text := "f1/df43/s0/ds0/q0/qi-", defaultFilters := ["XX_C"] })) } = true := by
  decide +kernel

example : normDecl { name := "En", declPrefix := some "XX_", defaultPrefix := "EN_",
                     options := ["XX_UNSPECIFIED", "A", "XX_B", "C"] }
    = { name := "En", declPrefix := some "XX_", defaultPrefix := "XX_", options := ["UNSPECIFIED", "A", "B", "C"],
        descs := ["", "", "", ""] } := by
  decide +kernel

/-- the normal form is not the identity: e.g. `exclusiveMaximum = false` disappears -/
example : normField {
    name := "i", number := 2,
    schema := .single (.integer .i32 (some { maximum := some 10, exclusiveMaximum := some false }) none) }
    = { name := "i", number := 2, schema := .single (.integer .i32 (some { maximum := some 10 }) none) } := by
  decide +kernel

/-! ## Source-fact obligations (regenerated by `extract/rules.go` on every check)

`J5V/Generated/RulesFacts.lean` lists, per branch of the writer (`buildProperty` / `buildField`,
internal/j5s/j5convert/fields.go) and of the reader (lib/j5schema/schema_from_proto.go), what is
read and every copy `(target, source, text, guards)`. The hand-written side — which option field
carries which schema field and where the reader picks it up again — is `J5V/Rules/SrcFacts.lean`.
A new / renamed / dropped field, a changed guard or an unrecognised construct produces a text the
tables do not contain, and the obligation fails. The evaluations themselves are in
`J5V/Rules/SrcProofs.lean`, one per table. -/
section Src
open J5V.Rules.Src

/-- every member of the `schema.Field.type` oneof has a branch in the writer (`buildField`, or
`buildProperty` for array / map) and a producer in the reader; both writer switches keep their
error `default` -/
theorem C04_src_branches :
    everyMemberHasWriterBranch = true ∧ everyMemberHasReaderProducer = true ∧ writerDefaultsPresent = true :=
  ⟨readerTable_facts.writerBranch, readerTable_facts.readerProducer, readerTable_facts.writerDefaults⟩

/-- every field of every j5 field message (and of its `Rules` message) is read by the writer's
branch for that kind, except the explicit list `schemaExceptions` -/
theorem C04_src_schema_fields_read : everySchemaFieldIsReadOrListed = true := coverage_facts.readOrListed

/-- … and that list is exact: each listed field exists and is not read (repairing one of them has
to shorten the list). Its open-finding part is `StringField.format` (`schema-diff:str:sfmt:dropped`
and its array / map variants); the other entries are outside the property, with the reason given. -/
theorem C04_src_exceptions_exact :
    exceptionsAreExact = true ∧ openSchemaExceptions = [("StringField", "Format")] :=
  ⟨coverage_facts.exceptionsExact, coverage_facts.openExceptions⟩

/-- every option field the writer fills from the declared schema is a slot of the table (a new
copy needs a reader slot), and no table row is stale -/
theorem C04_src_writer_copies_have_slots : everyWriterCopyHasSlot = true ∧ everySlotIsWritten = true :=
  ⟨writerTable_facts.copyHasSlot, writerTable_facts.slotIsWritten⟩

/-- every slot is read back by the reader from that very option field into the paired schema
field (for enum in / notIn: under the guard on that option field); every field of a typed `Ext`
message copied by `setJ5Ext` is read back from `(j5.ext.v1.field).<member>` -/
theorem C04_src_slots_read_back : everySlotIsReadBack = true ∧ everyExtFieldIsReadBack = true :=
  ⟨readerTable_facts.slotIsReadBack, readerTable_facts.extFieldIsReadBack⟩

/-- the two container branches — and no other branch — set a member of `(j5.ext.v1.field)` around
an item built by `buildField`: `array` replaces the item's annotation on the same field (open
findings `…:array:…`), `map` annotates the map field while the item's annotations stay on the
entry's value field, which no reader consults (open findings `…:map:…`). A third wrapper, or a
repair that moves the item annotation elsewhere, changes this list. -/
theorem C04_src_container_annotations :
    containerExtCalls = [("buildProperty/Field_Map", "setJ5Ext(\"map\")"),
                         ("buildProperty/Field_Array", "setJ5Ext(\"array\")")] := writerTable_facts.containerCalls

/-- the reader inverts the writer's inclusivity table exactly as `readIntRules` does: per integer
format and per member of `less_than` / `greater_than`, the bound is read from that member, and the
exclusive flag is set (to true) in the `Lt` / `Gt` cases only -/
theorem C04_src_reader_inclusivity : readerInclusivityMatchesModel = true := readerTable_facts.inclusivity

/-- list rules: the member of `(j5.list.v1.field)` a key's list rules are written to, per key
format, is the model's `keyListExt` (unique_string for no / informal / custom format, id62, uuid);
float list rules go to `double` for FLOAT64 and to `float` otherwise; integer list rules to the
member of their format -/
theorem C04_src_list_slots : listSlotFacts = true := writerTable_facts.listSlots

/-- roots: an object root carries exactly entity name, entity part and any-membership into its
message options and each is read back from that very option field; the `object` / `oneof` mark of
`(j5.ext.v1.message).type` is written by the two visitors and decides `isOneofWrapper` first -/
theorem C04_src_root_annotations : rootFacts = true := readerTable_facts.root

/-- the writer's enum declaration (`visitEnumNode`, `enumBuilder.addValue`): default prefix, implicit /
explicit UNSPECIFIED = 0 and numbering from 1, prefixing of option names, and the source-location
paths of descriptions — an option's under its NUMBER (`EnumDecl.comments`, `C04_enum_option_descriptions`),
a property's under its index -/
theorem C04_src_enum_writer : enumWriterFacts = true := readerTable_facts.enumWriter

/-- the reader's legacy entity lookup through a field called `keys` is present, and is the only
re-assignment of the PSM options: the open finding `schema-diff:root:entity:invented[keys-field]`
(`C04_root_entity_invented_counterexample`); repairing it changes this fact -/
theorem C04_src_legacy_keys_lookup : legacyKeysLookupFacts = true := readerTable_facts.legacyKeysLookup

/-- `Required` / `ExplicitlyOptional` are read as the model's `readField` reads them (array and map
properties: `(buf.validate.field).required` only), and every property builder names the property
by `json_name` (`C04_reader_uses_json_name`) -/
theorem C04_src_required_and_names : readerRequiredFacts = true ∧ readerNameFacts = true :=
  ⟨readerTable_facts.required, readerTable_facts.names⟩

end Src

end J5V.Props.C04
