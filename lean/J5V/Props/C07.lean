import J5V.Compile.NoPanicPkg
import J5V.Compile.AstValueProofs
import J5V.Compile.UsesAll
import J5V.Compile.ValidPkg
import J5V.Compile.LinkImports
import J5V.Compile.LinkAssemble
import J5V.Compile.LinkRelative
import J5V.Generated.SetextFacts
import J5V.Generated.ImportsFacts
/-!
# C07 — the j5s compiler is total and accepts the documented language

Proved here (about the models `J5V.Compile.*` / `AstValue`, which mirror the code after the Go commits
`fix: 9a528a0`, `fix: 089cff6`, `fix: 6beb7c7`):
* the schema-level conversion (`buildFieldNode`, `buildField`, `buildProperty`, the property loop)
  reaches no panic arm for **any** property list at any nesting depth, under any resolver that
  returns well-formed file names (date / decimal rules: `fix: 9a528a0`; a required map field:
  `fix: 089cff6`); `ConvertJ5File` and `CompilePackage` never
  panic on well-formed sources (`C07_convertFile_no_panic`, `C07_compile_no_panic`);
* the converter accepts every valid bundle (`C07_accepts_partial`); with the link step the full
  statement fails on the model as on the code (`C07_accepts_counterexample`); three of the five
  arms of the spec-level link step `linkFiles` are discharged from the sources
  (`C07_link_acyclic`, `C07_link_imports_found`, `C07_link_uses`, together
  `C07_accepts_links_partial`, `C07_links_iff`), the other two (`NoDupSyms`, `NamesResolve`) stay
  conditions on the generated files (`C07_link_relative_resolves`, `C07_link_absolute_resolves`,
  `C07_link_names_sites` say what they amount to);
* a rule in isolation converts and imports what it uses (`C07_isolated_rule`, `C07_uses_imported`);
* literal → scalar conversion is exact on the whole range of the attribute's integer format
  (INT64 attributes are read with 64 bits: `fix: 6beb7c7`), rejects everything outside,
  and never panics.

The BCL walker (`internal/bcl/internal/walker`, j5s text → `SourceFile`) is modelled in
`J5V.Walker` and its totality is `Props/C07Walker.lean`. Not modelled: protocompile's linker
itself — `J5V.Compile.Link` is a spec-level link step (`linkFiles`) after its name resolution, tied to
the code by the `compile.total` stream only.
-/
namespace J5V.Props.C07
open J5V.Go J5V.Compile

/-! ## conversion never panics -/

/-- **No panic**: for every well-formed context and every property list (any length, any nesting
of inline objects / oneofs / enums, arrays and maps, any rules), the conversion reaches no panic
arm. -/
theorem C07_convert_no_panic (c : Ctx) (hc : WfCtx c) (np : List Str) (io : Bool) (n : Nat)
    (ps : List Property) : (bProps c np io n ps).eff.panic = false :=
  hc.inv.bProps np io n ps fun _ _ => trivial

/-- the same for a single field, including the inline types visited before an (erroneous)
array-of-array is rejected -/
theorem C07_field_no_panic (c : Ctx) (hc : WfCtx c) (np : List Str) (d : Str) (f : Field) :
    (bField c np d f).eff.panic = false ∧ (bField c np d f).walk.panic = false :=
  hc.inv.bField np d f fun _ _ => trivial

/-- **`ConvertJ5File` never panics** on a well-formed file (every oneof named, every method with
a request — what j5parse guarantees), for any resolver that returns well-formed file names. -/
theorem C07_convertFile_no_panic (res : Resolver) (path : Str) (imports : List Import)
    (elems : List Elem) (hres : ∀ im, WfCtx { resolve := resolveTypeNoImport im res })
    (h : WfElems elems = true) : ∀ w, convertFile res path imports elems ≠ .panic w := by
  intro w hw
  have := convertFile_no_panic res path imports elems hres h
  rw [hw] at this
  cases this

/-- **`CompilePackage` never panics**: for every bundle of well-formed files (any number of
packages, files, declarations; entities, services, topics; any dependency graph, cyclic or not)
and every package name, loading, converting and linking return `ok` or `err`.
`WfBundle` = for every file: every oneof named, every method with a request (what j5parse
guarantees) AND the file path contains a `/` (`containsByte 47 path`). The last condition excludes a
root-level source file (`a.j5s`, package ""): referenced from another file its generated name
`a.j5s.proto` would reach the explicit `panic("invalid import path")` of `ensureImport` (the
`Eff.imp` panic arm). By reading, not proved: the file sources of protobuild list files per package
directory (`ListSourceFiles(pkg)`), so every path of a real bundle has a directory part; the
harness never offers a root-level file, so this exclusion is NOT exercised by the streams either.
"Never hangs": fuel exhaustion of `loadPkg` is an `err "fuel"` arm, not a panic arm, so this theorem
alone would not see a modelled hang — see `C07_load_fuel_independent` below (under `rankOk` the
result does not depend on the fuel; without `rankOk`, i.e. for cyclic package graphs, the chain check
`err "circular"` stops the recursion — that the fuel `pkgs.length + 1` is never exhausted in that
case is a comment in `Compile/Package.lean`, not a theorem). -/
theorem C07_compile_no_panic (b : Bundle) (hb : WfBundle b) (name : Str) :
    ∀ w, compileLinked b name ≠ .panic w := by
  intro w hw
  have := compileLinked_no_panic b hb name
  rw [hw] at this
  cases this

/-- a one-package bundle for the example of `C07_load_fuel_independent` -/
def capturePkgForFuel : Pkg :=
  { name := b!"foo.v1", files :=
      [ .j5s b!"foo/v1/a.j5s" [] [.object (.mk b!"A" [.mk b!"x" false false (.string [] false)] [] none)]
          b!"foo.v1" ] }

/-- **The loader's fuel is irrelevant for acyclic package graphs** ("never hangs" at package
level): with a rank that decreases along every package dependency (`rankOk`), loading any package
with ANY two fuels above its rank (in particular `pkgs.length + 1` and every larger value) and any
two admissible chains gives the same outcome — the `err "fuel"` arm is not what decides a result. -/
theorem C07_load_fuel_independent (b : Bundle) (r : Str → Nat) (hr : rankOk b r = true)
    (f f' : Nat) (n : Str) (hf : r n < f) (hf' : r n < f') :
    loadPkg b f [] n = loadPkg b f' [] n :=
  loadPkg_indep b r hr f f' [] [] n hf hf' (by intro c hc; cases hc) (by intro c hc; cases hc)

/-- non-vacuity: a bundle with such a rank -/
example : rankOk { pkgs := [capturePkgForFuel] } (fun _ => 0) = true := by decide +kernel

/-! ## acceptance of the supported language -/

/-- **The converter accepts the supported language** (converter half of "accepts"). For every
bundle that is valid — a decidable predicate on the sources alone (`ValidBundle`: package
declarations match paths; imports well formed; every declaration, entities expanded, within the
language `okItem`: references resolve to the right kind against the export tables computed from
the sources, enum `in` / `notIn` / default-filter values name options, no array / map directly in
an array / map, integer `exclusive*` rules come with their bound, no float rules [recorded
finding], nothing both required and explicitly optional, services named with verbs and path
parameters that exist, topic messages named; every dependency local or built in; acyclic package
graph) — `CompilePackage` up to the link step succeeds for every package: parsing of imports,
summaries, dependency loading and `ConvertJ5File` of every file report no error, whatever else the
files contain. Any number of packages, files, declarations, any nesting depth. -/
theorem C07_accepts_partial (b : Bundle) (r : Str → Nat) (hv : ValidBundle b r) (p : Pkg)
    (hp : p ∈ b.pkgs) : ∃ fs, compilePkg b p.name = .ok fs :=
  compilePkg_accepts b r hv p hp

/-- the full statement: …and the result links -/
def AcceptsAndLinks : Prop :=
  ∀ (b : Bundle) (r : Str → Nat), ValidBundle b r → ∀ p ∈ b.pkgs, (compileLinked b p.name).isOk = true

/-- the recorded finding `c07-rejected:valid-capture-inline-name`: an inline type whose default
name equals the name of its top-level ancestor (`object Foo { field foo object { … } }`) -/
def capturePkg : Pkg :=
  { name := b!"foo.v1", files :=
      [ .j5s b!"foo/v1/a.j5s" []
          [.object (.mk b!"Foo" [.mk b!"foo" false false
            (.objectInl [] [.mk b!"x" false false (.string [] false)] false [])] [] none)]
          b!"foo.v1" ] }

def captureBundle : Bundle := { pkgs := [capturePkg] }

theorem captureBundle_valid : ValidBundle captureBundle (fun _ => 0) := by
  refine ⟨by decide +kernel, fun n => by simp [captureBundle], by unfold WfBundle; decide +kernel, ?_⟩
  intro p hp
  simp only [captureBundle, List.mem_singleton] at hp
  subst hp
  exact ⟨rfl, by decide +kernel⟩

/-- **the full statement fails on the model as on the code**: the capture witness is valid, is
accepted by the converter, and does not link (j5convert writes the RELATIVE name `Foo.Foo`, which
protobuf scoping resolves inside the nested `Foo.Foo`). What is missing for a `links` theorem is
exactly the link half: for capture-free bundles with per-scope unique names, relative names
resolve to the inline type and no symbol is declared twice — not proved. -/
theorem C07_accepts_counterexample : ¬ AcceptsAndLinks := by
  intro h
  have := h captureBundle (fun _ => 0) captureBundle_valid capturePkg (by simp [captureBundle])
  revert this
  decide +kernel

/-- non-vacuity of `C07_accepts_partial` beyond the capture witness: two packages, an import by
last-but-one segment, a cross-file reference, an enum with list-rule default filters, a service
with a path parameter, a topic, an entity — a valid bundle (rank: `bar.v1` above `foo.v1`) -/
def validPkgs : List Pkg :=
  [ { name := b!"foo.v1", files :=
      [ .j5s b!"foo/v1/a.j5s" [] [.object (.mk b!"A" [.mk b!"x" false false (.string [] false)] [] none)]
          b!"foo.v1" ] },
    { name := b!"bar.v1", files :=
      [ .j5s b!"bar/v1/b.j5s" [] [.enum { name := b!"E", pfx := [], opts := [b!"ONE"] }] b!"bar.v1",
        .j5s b!"bar/v1/c.j5s" [⟨b!"foo.v1", []⟩]
          [ .object (.mk b!"C" [ .mk b!"a" false false (.objectRef b!"foo" b!"A" false []),
                                 .mk b!"e" false false (.enumRef [] b!"E" [] (some [b!"ONE"])),
                                 .mk b!"m" true false (.map (.integer .int64 [⟨b!"minimum", .int 1⟩] false) []) ]
              [] none),
            .service { name := some b!"Svc", basePath := some b!"/bar", methods :=
              [ { name := b!"Get", verb := .get, path := b!"/c/:cId",
                  request := some [.mk b!"cId" true false (.key .uuid .nokey [] false)],
                  response := some [.mk b!"c" false false (.objectRef [] b!"C" false [])] } ] },
            .topic { name := b!"Pub", type := .publish [{ name := some b!"Ping", props := [] }] },
            .entity { name := b!"thing", baseUrl := [],
                      keys := [⟨.mk b!"thingId" false false (.key .uuid (.ek (.primary true) none) [] false), false⟩],
                      data := [.mk b!"title" false false (.string [] false)], statuses := [b!"ACTIVE"],
                      events := [.mk b!"Made" [] [] none], commands := [], summaries := [],
                      query := some { eventsInGet := false, filters := [b!"ACTIVE"] }, nested := [] } ]
          b!"bar.v1" ] } ]

def validBundle : Bundle := { pkgs := validPkgs }
def validRank (n : Str) : Nat := if n = b!"bar.v1" then 1 else 0

example : ValidBundle validBundle validRank := by
  refine ⟨by decide +kernel, fun n => by unfold validRank; split <;> decide +kernel, by unfold WfBundle; decide +kernel, ?_⟩
  intro p hp
  simp only [validBundle, validPkgs, List.mem_cons, List.mem_nil_iff, or_false] at hp
  rcases hp with rfl | rfl
  · exact ⟨rfl, by decide +kernel⟩
  · exact ⟨rfl, by decide +kernel⟩

/-- **A rule in isolation** (the import facts of E5 on the model): a file that holds nothing but
one object with one field — of any scalar type, with ANY rule list the language supports, required
or not, directly or as array items / map values — converts, and the generated file imports the
file of every extension set on it. (With an import missing the link step fails for exactly such a
file; the `ensureImport` calls mirror Go commits 2a8c264 / 9a528a0.) -/
theorem C07_isolated_rule (res : Resolver)
    (hres : ∀ im, WfCtx { resolve := resolveTypeNoImport im res })
    (f : Field) (req : Bool)
    (hf : okProperty (fileCtx res b!"iso/v1/only.j5s" []) (.mk b!"f" req false f) = true) :
    ∃ fs, convertFile res b!"iso/v1/only.j5s" []
        [.object (.mk b!"Only" [.mk b!"f" req false f] [] none)] = .ok fs ∧
      ∀ file ∈ fs, ∀ u ∈ file.uses, u = file.name ∨ u ∈ file.deps := by
  obtain ⟨fs, hfs⟩ := convertFile_accepts res b!"iso/v1/only.j5s" []
    [.object (.mk b!"Only" [.mk b!"f" req false f] [] none)] hres (by decide +kernel)
    (by simp [okElems, itemsOfElem, WfItem, WfDecl, WfNested, okItem, okDecl, okNested, okProps, hf])
  refine ⟨fs, hfs, ?_⟩
  exact convertFile_uses_imported res _ _ _ fs hfs (by intro s hs; simp at hs)

/-- every rule list is within the language for string / bool / bytes / date / decimal /
timestamp / key fields; integer rules when `exclusive*` comes with its bound -/
theorem C07_isolated_rule_scalars (c : Ctx) (d : Str) (rules : Rules) (lr : Bool) (fmt : IntFmt)
    (kf : KeyFmt) (ek : EntKey) :
    okField c d (.string rules lr) = true ∧ okField c d (.bool rules lr) = true ∧
    okField c d (.bytes rules) = true ∧ okField c d (.date rules lr) = true ∧
    okField c d (.decimal rules lr) = true ∧ okField c d (.timestamp rules) = true ∧
    okField c d (.key kf ek rules lr) = true ∧
    (intRulesErr rules = false → okField c d (.integer fmt rules lr) = true) := by
  refine ⟨rfl, rfl, rfl, rfl, rfl, rfl, rfl, ?_⟩
  intro h
  simp [okField, h]

/-! ## every generated file imports what it uses (the link precondition of E5, as a theorem) -/

/-- **Imports of extensions.** In every file `ConvertJ5File` returns — main file, `.service` and
`.topic` sub-package files — each file whose extensions are set on some option message
(`buf/validate`, `j5/ext/v1`, `j5/list/v1`, `google/api`, `j5/messaging/v1`) is among the file's
dependencies: for every field type, every rule list, required or not, inline and nested types at
any depth, services, topics, entities. This is what `markExtensionImportsUsed` and the
descriptor's option interpretation need at link time; a missing `ensureImport` in one branch of
`buildField` breaks it (the calls of Go commits 2a8c264 / 9a528a0). Side condition: a plain
`service` declaration carries no service annotation (the parser never produces one). -/
theorem C07_uses_imported (res : Resolver) (path : Str) (imports : List Import)
    (elems : List Elem) (fs : List FileSkel) (h : convertFile res path imports elems = .ok fs)
    (hplain : ∀ s, Elem.service s ∈ elems → s.sopt = .none) :
    ∀ f ∈ fs, ∀ u ∈ f.uses, u = f.name ∨ u ∈ f.deps :=
  convertFile_uses_imported res path imports elems fs h hplain

/-- …for every generated file of a package that loads -/
theorem C07_uses_imported_pkg (b : Bundle) (name : Str) (p : Pkg) (l : Loaded) (fuel : Nat)
    (chain : List Str) (hf : b.find name = some p) (hl : loadPkg b (fuel + 1) chain name = .ok l)
    (hplain : ∀ path imports elems decl, SrcFile.j5s path imports elems decl ∈ p.files →
      ∀ s, Elem.service s ∈ elems → s.sopt = .none) :
    ∀ f ∈ l.files, ∀ u ∈ f.uses, u = f.name ∨ u ∈ f.deps := by
  intro f hfm
  obtain ⟨path, imports, elems, decl, fs, hsrc, hconv, hfs⟩ := loadPkg_files_from b fuel chain name p l hf hl f hfm
  exact convertFile_uses_imported l.resolver path imports elems fs hconv
    (hplain path imports elems decl hsrc) f hfs

/-! ## the link half, bridge by bridge (`C07_link_*`)

`linkFiles` (`Compile/Link.lean`, the spec-level linker) fails in five ways: an import cycle, a
duplicate symbol, and per file an import that is not found, a used extension file that is not
imported, a type name that does not resolve. The bridges from the SOURCES to "this arm is not
taken" are proved one at a time. -/

/-- **Bridge: where imports come from.** Every dependency of every file `ConvertJ5File` returns —
main file and `.service` / `.topic` sub-package files, for every declaration kind, field kind,
rule list, nesting depth, services, topics, entities — is one of the eleven import constants of
`j5convert/imports.go` or the file of a type that a reference OCCURRING IN THE SOURCE FILE
(`fileRefs`: what `SourceSummary` collects — fields at any depth, request / response / topic
messages, entity parts) resolves to in the file's own context (`resolveTypeNoImport`: implicit
import, own package export, export of a direct dependency).
Nothing else is ever handed to `ensureImport`. No hypothesis beyond "the conversion succeeded". -/
theorem C07_link_deps_from (res : Resolver) (path : Str) (imports : List Import) (elems : List Elem)
    (fs : List FileSkel) (h : convertFile res path imports elems = .ok fs) :
    ∃ im, j5Imports (packageFromFilename (path ++ b!".proto")) imports = .ok im ∧
      ∀ f ∈ fs, ∀ d ∈ f.deps, d ∈ constImports ∨
        ∃ pkg schema t, (pkg, schema) ∈ fileRefs (packageFromFilename (path ++ b!".proto")) elems ∧
          resolveTypeNoImport im res pkg schema = some t ∧ t.file = d :=
  convertFile_deps_from res path imports elems fs h

/-- **Bridge: imports found.** For every local package that loads (any bundle, any dependency
graph, any fuel / chain), every dependency of every generated file names a file of the universe
`CompilePackage` links against: the package's own generated files, the generated files and
hand-written protos of the loaded dependency packages, or a built-in file — so the import lookup
of `linkFile` (`f.deps.mapM (univ.find? ·)`) succeeds for every file handed to the linker. -/
theorem C07_link_imports_found (b : Bundle) (fuel : Nat) (chain : List Str) (name : Str) (p : Pkg)
    (l : Loaded) (hf : b.find name = some p) (hl : loadPkg b (fuel + 1) chain name = .ok l) :
    ∀ f ∈ sortFiles l.files,
      (∀ d ∈ f.deps, ∃ g ∈ (sortFiles l.files).map (·.lfile) ++
          (l.depFiles.map (·.lfile) ++ l.protos.map protoLFile) ++ builtinFiles, g.name = d) ∧
      (f.deps.mapM fun d =>
        ((sortFiles l.files).map (·.lfile) ++ (l.depFiles.map (·.lfile) ++ l.protos.map protoLFile)
          ++ builtinFiles).find? (·.name = d)).isSome = true := by
  intro f hfm
  exact ⟨loadPkg_imports_found b fuel chain name p l hf hl f
      ((sortFiles_perm_self l.files).mem_iff.mp hfm),
    loadPkg_imports_lookup b fuel chain name p l hf hl f hfm⟩

/-- **Bridge: uses ⊆ deps**, in `linkFile`'s own terms: the extension-import check
(`markExtensionImportsUsed`) passes for every file handed to the linker. -/
theorem C07_link_uses (b : Bundle) (name : Str) (p : Pkg) (l : Loaded) (fuel : Nat)
    (chain : List Str) (hf : b.find name = some p) (hl : loadPkg b (fuel + 1) chain name = .ok l)
    (hplain : ∀ path imports elems decl, SrcFile.j5s path imports elems decl ∈ p.files →
      ∀ s, Elem.service s ∈ elems → s.sopt = .none) :
    ∀ f ∈ sortFiles l.files, (f.uses.all fun u => u = f.name || f.deps.contains u) = true := by
  intro f hfm
  have hfm' : f ∈ l.files := (sortFiles_perm_self l.files).mem_iff.mp hfm
  have h := C07_uses_imported_pkg b name p l fuel chain hf hl hplain f hfm'
  simp only [List.all_eq_true, Bool.or_eq_true, decide_eq_true_eq, List.contains_iff_mem]
  exact h

/-- **Bridge: no import cycle.** For every package of a valid bundle that has a file rank
(`fileRankOk b rk`, a `Bool` computed from the SOURCES: import constants have rank 0; every main
file `<path>.proto` has a positive rank below its `service` / `topic` sub-package files; every
reference occurring in a j5s file resolves — through the file's import map and the export tables
computed from the sources — into the file's own main file or into a file of smaller rank), no file
handed to the linker reaches itself through imports, whatever the search depth: the cycle check of
`linkFiles` (`CircularDependencyError` of `searchLinker`) passes. The files of the transitive
dependency packages are covered too (each is a generated file of the bundle, `load_accepts`).
Package-level acyclicity alone (`rankOk` in `ValidBundle`) does not give this: two files of one
package that use each other's types import each other. -/
theorem C07_link_acyclic (b : Bundle) (r : Str → Nat) (hv : ValidBundle b r) (rk : Str → Nat)
    (hrk : fileRankOk b rk = true) (p : Pkg) (hp : p ∈ b.pkgs) :
    ∃ l, loadPkg b (b.pkgs.length + 1) [] p.name = .ok l ∧
      ∀ n, (sortFiles l.files).any (fun f => reachesSelf (linkUniv l) f.name n f.name) = false :=
  link_acyclic b r hv rk hrk p hp

/-- **Acceptance including the link step — three of the five link arms from the sources**
(link half of "accepts", PARTIAL). For every package of a bundle that is valid (`ValidBundle`),
has a file rank (`fileRankOk`) and whose hand-written `service` declarations carry no entity
annotation (the parser never produces one): `CompilePackage` up to the link step succeeds with the
sorted generated files `out`, and the spec-level linker `linkFiles` accepts them — i.e.
`compileLinked = ok` — PROVIDED the two remaining arms are not taken on `out`:
`NoDupSyms` (no fully-qualified symbol twice over the linked set) and `NamesResolve` (every type
name of every field and rpc resolves by protobuf scoping). Proved from the sources: no import
cycle (`C07_link_acyclic`), every import found in the universe (`C07_link_imports_found`), every
used extension file imported (`C07_link_uses`). MISSING for the full partial statement
`ValidBundle b r → fileRankOk b rk → ∃ out, compileLinked b p.name = ok out`: the source-level bridges to
`NoDupSyms` (per-scope uniqueness of declared, inline, map-entry, field, synthetic-oneof and enum
value names, also against the dependency files) and to `NamesResolve` (relative names: no ancestor
has a child named like the first segment — the recorded capture class fails exactly this arm, see
the example below; absolute names: no earlier visible file shadows the symbol). -/
theorem C07_accepts_links_partial (b : Bundle) (r : Str → Nat) (hv : ValidBundle b r)
    (rk : Str → Nat) (hrk : fileRankOk b rk = true) (p : Pkg) (hp : p ∈ b.pkgs)
    (hplain : ∀ path imports elems decl, SrcFile.j5s path imports elems decl ∈ p.files →
      ∀ s, Elem.service s ∈ elems → s.sopt = .none) :
    ∃ l out, loadPkg b (b.pkgs.length + 1) [] p.name = .ok l ∧ compilePkg b p.name = .ok out ∧
      out = sortFiles l.files ∧
      (NoDupSyms (linkUniv l) out → (∀ f ∈ out, NamesResolve (linkUniv l) f) →
        ∃ linked, compileLinked b p.name = .ok linked) := by
  obtain ⟨l, hl, hc, h⟩ := compileLinked_ok_of_bridges b r hv rk hrk p hp hplain
  exact ⟨l, _, hl, hc, rfl, h⟩

/-- **…and the two remaining arms are exactly what is left**: under the same source-level
hypotheses the package links IF AND ONLY IF no symbol is declared twice over the linked set and
every type name resolves — no other arm of `linkFiles` remains for a valid bundle with a file rank.
(So a full `links` theorem ABOUT THE LINK MODEL needs precisely the two missing bridges.)
Scope: `linkFiles` is a SPEC of the link step of `CompilePackage` (protocompile: imports, cycles,
symbols, name scoping, extension imports), validated against the real `CompilePackage` only by the
differential streams. It has no arm for descriptor well-formedness rules that protocompile's link
does not enforce either: an entity with 0 events or a `oneof Empty {}` (both pass `ValidBundle`)
compile AND link in the code as in the model, and are rejected only later by `protodesc.NewFiles`
("oneof must contain at least one field") — the recorded open findings
`c17-client-api:entity-without-events` (compile.json) and `empty-oneof` (print.json). The iff says
nothing about that later stage. -/
theorem C07_links_iff (b : Bundle) (r : Str → Nat) (hv : ValidBundle b r)
    (rk : Str → Nat) (hrk : fileRankOk b rk = true) (p : Pkg) (hp : p ∈ b.pkgs)
    (hplain : ∀ path imports elems decl, SrcFile.j5s path imports elems decl ∈ p.files →
      ∀ s, Elem.service s ∈ elems → s.sopt = .none) :
    ∃ l, loadPkg b (b.pkgs.length + 1) [] p.name = .ok l ∧
      ((∃ out, compileLinked b p.name = .ok out) ↔
        (NoDupSyms (linkUniv l) (sortFiles l.files) ∧
          ∀ f ∈ sortFiles l.files, NamesResolve (linkUniv l) f)) := by
  obtain ⟨l, hl, _, h⟩ := compileLinked_ok_of_bridges b r hv rk hrk p hp hplain
  refine ⟨l, hl, ?_, fun ⟨h1, h2⟩ => h h1 h2⟩
  rintro ⟨out, hout⟩
  simp only [compileLinked, hl] at hout
  exact linkFiles_ok_inv _ _ out hout

/-- **Bridge (link-model half): relative names resolve.** j5convert writes inline types, map
entries and rpc messages as RELATIVE names. In the link model, for any file `self`, any imports and
any stack `scopes` of enclosing messages: a relative name `name` (not starting with a dot) whose
full form `<pkg>.<name>` is a message / enum symbol of the file, whose first segment is a message
of the package (or is the whole name), resolves by protobuf scoping to exactly `.<pkg>.<name>` of
the wanted kind — provided NO enclosing message scope has a child or namespace named like the first
segment (`hnocap`: the capture condition; the recorded finding `valid-capture-inline-name` is a
violation of it, example below). Still open: deriving `hsym` / `hfirst` / `hnocap` for every
reference of every generated file from the sources (`C02_declared_types_link` gives the symbols of
declared types; the scopes of a field are the `NestPath` prefixes). -/
theorem C07_link_relative_resolves (self : LFile) (deps : List LFile) (scopes : List Str) (name : Str)
    (k k1 : SymKind) (hk : k = .msg ∨ k = .enum)
    (hrel : ∀ rest, name ≠ 46 :: rest) (hpkg : self.pkg ≠ [])
    (hsym : self.syms.lookup (qual self.pkg name) = some k)
    (hfirst : self.syms.lookup (qual self.pkg (firstPart name)) = some k1)
    (hagg : k1 = .msg ∨ firstPart name = name)
    (hnocap : ∀ m ∈ scopes, self.find (qual m (firstPart name)) = none) :
    resolveType self (self :: deps) scopes k name = some (b!"." ++ qual self.pkg name) := by
  unfold resolveType
  rw [resolveName_relative self deps scopes name k k1 hk hrel hpkg hsym hfirst hagg hnocap]
  simp

/-- **Bridge (link-model half): absolute names resolve.** References to declared types and the
well-known types are written absolutely (`.pkg.Name`, `TypeRef.protoTypeName`). In the link model
such a name resolves to itself, with the wanted kind, as soon as some visible file `g` declares it
and every file visible BEFORE `g` (the file itself first, then its imports in sorted order) neither
declares the name nor has a package namespace matching it (`f.find abs = none`), from any scope.
With `C02_declared_types_link` (the declaring file has the symbol), `C02_refs_resolve_pkg` (the
declaring file is the file itself or one of its deps) and `C07_link_imports_found` (the dep is in
the universe) what is still open for references is the shadowing condition `hbefore` from the
sources. -/
theorem C07_link_absolute_resolves (self : LFile) (before after : List LFile) (g : LFile)
    (scopes : List Str) (abs : Str) (k : SymKind)
    (hbefore : ∀ f ∈ before, f.find abs = none)
    (hsym : g.syms.lookup abs = some k) :
    resolveType self (before ++ g :: after) scopes k (46 :: abs) = some (b!"." ++ abs) := by
  unfold resolveType resolveName
  simp only [findVisible]
  rw [findSome?_append_none _ _ _ hbefore]
  simp [List.findSome?_cons, LFile.find, hsym]

/-- **`NamesResolve`, site by site.** The resolution arm of a generated file is a statement about
each field *site* — every field of every (nested) message together with the stack of enclosing
message names `resolveMsg` resolves it in (`msgsSites`) — and about each rpc's input and output:
the arm is not taken iff the type name at every site and of every rpc resolves. The two lemmas
above discharge one site each; what is open is to supply their hypotheses for every site from the
sources. -/
theorem C07_link_names_sites (univ : List LFile) (f : FileSkel) :
    NamesResolve univ f ↔
      (∀ s ∈ msgsSites [] f.pkg f.msgs, (resolveField f.lfile (visOf univ f) s.1 s.2).isSome = true) ∧
      (∀ svc ∈ f.svcs, ∀ m ∈ svc.methods,
        (resolveType f.lfile (visOf univ f) [] .msg m.input).isSome = true ∧
        (resolveType f.lfile (visOf univ f) [] .msg m.output).isSome = true) := by
  unfold NamesResolve namesResolve
  rw [Bool.and_eq_true, resolveMsgs_isSome_iff, mapM_isSome_iff]
  apply and_congr Iff.rfl
  constructor
  · intro h svc hsvc
    exact (resolveSvc_isSome_iff _ _ svc).mp (h svc hsvc)
  · intro h svc hsvc
    exact (resolveSvc_isSome_iff _ _ svc).mpr (h svc hsvc)

/-- non-vacuity of the link bridges: a two-file package `bar.v1` (`c.j5s` refers to the enum `E` of
`b.j5s` — cross-file — and to `foo.v1`'s `A` through an import — cross-package — and holds a map
field with rules) next to `foo.v1` -/
def linkPkgs : List Pkg :=
  [ { name := b!"foo.v1", files :=
      [ .j5s b!"foo/v1/a.j5s" [] [.object (.mk b!"A" [.mk b!"x" false false (.string [] false)] [] none)]
          b!"foo.v1" ] },
    { name := b!"bar.v1", files :=
      [ .j5s b!"bar/v1/b.j5s" [] [.enum { name := b!"E", pfx := [], opts := [b!"ONE"] }] b!"bar.v1",
        .j5s b!"bar/v1/c.j5s" [⟨b!"foo.v1", []⟩]
          [ .object (.mk b!"C" [ .mk b!"a" false false (.objectRef b!"foo" b!"A" false []),
                                 .mk b!"e" false false (.enumRef [] b!"E" [] (some [b!"ONE"])),
                                 .mk b!"m" true false (.map (.integer .int64 [⟨b!"minimum", .int 1⟩] false) []),
                                 .mk b!"in" false false
                                   (.objectInl [] [.mk b!"y" false false (.string [] false)] false []) ]
              [] none) ]
          b!"bar.v1" ] } ]

def linkBundle : Bundle := { pkgs := linkPkgs }

/-- a file rank for `linkBundle`: `a` and `b` below `c`, sub-package files above their main file -/
def linkFileRank (n : Str) : Nat :=
  if n = b!"bar/v1/c.j5s.proto" then 3
  else if n = b!"bar/v1/service/c.p.j5s.proto" ∨ n = b!"bar/v1/topic/c.p.j5s.proto" then 4
  else if n = b!"foo/v1/a.j5s.proto" ∨ n = b!"bar/v1/b.j5s.proto" then 1
  else if n = b!"foo/v1/service/a.p.j5s.proto" ∨ n = b!"foo/v1/topic/a.p.j5s.proto" ∨
      n = b!"bar/v1/service/b.p.j5s.proto" ∨ n = b!"bar/v1/topic/b.p.j5s.proto" then 2
  else 0

theorem linkBundle_valid : ValidBundle linkBundle validRank := by
  refine ⟨by decide +kernel, fun n => by unfold validRank; split <;> decide +kernel, by unfold WfBundle; decide +kernel, ?_⟩
  intro p hp
  simp only [linkBundle, linkPkgs, List.mem_cons, List.mem_nil_iff, or_false] at hp
  rcases hp with rfl | rfl
  · exact ⟨rfl, by decide +kernel⟩
  · exact ⟨rfl, by decide +kernel⟩

example : fileRankOk linkBundle linkFileRank = true := by decide +kernel

def linkLoaded : Loaded := match loadPkg linkBundle 3 [] b!"bar.v1" with | .ok l => l | _ => default

/-- the two remaining arms hold on the generated files of `bar.v1` (so `C07_accepts_links_partial`
yields `compileLinked = ok` there), the files do carry a cross-file and a cross-package import, a
constant import, and the link result is `ok` -/
example : NoDupSyms (linkUniv linkLoaded) (sortFiles linkLoaded.files) ∧
    (sortFiles linkLoaded.files).all (namesResolve (linkUniv linkLoaded)) = true ∧
    (sortFiles linkLoaded.files).map (·.deps) =
      [[], [b!"bar/v1/b.j5s.proto", b!"buf/validate/validate.proto", b!"foo/v1/a.j5s.proto",
            b!"j5/ext/v1/annotations.proto", b!"j5/list/v1/annotations.proto"]] ∧
    (compileLinked linkBundle b!"bar.v1").isOk = true := by
  unfold NoDupSyms
  decide +kernel

/-- a two-file cycle inside one package (`a.j5s` uses `B`, `b.j5s` uses `A`) is a valid bundle that
does NOT link: no file rank exists for it — the `fileRankOk` hypothesis is not redundant -/
def cyclePkg : Pkg :=
  { name := b!"foo.v1", files :=
      [ .j5s b!"foo/v1/a.j5s" []
          [.object (.mk b!"A" [.mk b!"b" false false (.objectRef [] b!"B" false [])] [] none)] b!"foo.v1",
        .j5s b!"foo/v1/b.j5s" []
          [.object (.mk b!"B" [.mk b!"a" false false (.objectRef [] b!"A" false [])] [] none)] b!"foo.v1" ] }

example : okPkg { pkgs := [cyclePkg] } cyclePkg = true ∧
    (compilePkg { pkgs := [cyclePkg] } b!"foo.v1").isOk = true ∧
    (compileLinked { pkgs := [cyclePkg] } b!"foo.v1").isOk = false := by
  decide +kernel

/-- the recorded capture class fails exactly the `NamesResolve` arm: every other arm passes on the
capture witness (a rank exists, imports are found, no duplicate symbol) -/
def captureLoaded : Loaded := match loadPkg captureBundle 2 [] b!"foo.v1" with | .ok l => l | _ => default

example : fileRankOk captureBundle (fun n => if n = b!"foo/v1/a.j5s.proto" then 1
      else if n = b!"foo/v1/service/a.p.j5s.proto" ∨ n = b!"foo/v1/topic/a.p.j5s.proto" then 2 else 0) = true ∧
    NoDupSyms (linkUniv captureLoaded) (sortFiles captureLoaded.files) ∧
    (sortFiles captureLoaded.files).all (namesResolve (linkUniv captureLoaded)) = false := by
  unfold NoDupSyms
  decide +kernel

/-- hypotheses of `C07_link_relative_resolves` on the generated file of `c.j5s`: the inline object of
field `in` is referred to as `C.In` from inside `bar.v1.C`; on the capture witness the name `Foo.Foo`
is captured: the scope `foo.v1.Foo` has a child `Foo` -/
example :
    (match (sortFiles linkLoaded.files)[1]? with
     | some f =>
       decide (f.lfile.syms.lookup (qual f.lfile.pkg b!"C.In") = some SymKind.msg) &&
       decide (f.lfile.syms.lookup (qual f.lfile.pkg (firstPart b!"C.In")) = some SymKind.msg) &&
       decide (f.lfile.find (qual b!"bar.v1.C" (firstPart b!"C.In")) = none) &&
       decide (f.lfile.pkg ≠ [])
     | none => false) = true ∧
    (match (sortFiles captureLoaded.files)[0]? with
     | some f => decide (f.lfile.find (qual b!"foo.v1.Foo" (firstPart b!"Foo.Foo")) ≠ none)
     | none => false) = true := by
  decide +kernel

/-- hypotheses of `C07_link_absolute_resolves` on the generated file of `c.j5s`: `.foo.v1.A` is declared
by the third visible file (`foo/v1/a.j5s.proto`); the file itself, `bar/v1/b.j5s.proto` and
`buf/validate/validate.proto`, visible before it, do not know the name -/
example :
    (match (sortFiles linkLoaded.files)[1]? with
     | some f =>
       match visOf (linkUniv linkLoaded) f with
       | v0 :: v1 :: v2 :: g :: _ =>
         decide (g.name = b!"foo/v1/a.j5s.proto") &&
         decide (g.syms.lookup b!"foo.v1.A" = some SymKind.msg) &&
         [v0, v1, v2].all (fun v => decide (v.find b!"foo.v1.A" = none))
       | _ => false
     | none => false) = true := by decide +kernel

/-- the sites of the generated file of `c.j5s`: 7 fields in 3 messages (`C`, its map entry, the
inline `C.In`), the innermost with a scope stack of length 2 -/
example :
    (match (sortFiles linkLoaded.files)[1]? with
     | some f => decide ((msgsSites [] f.pkg f.msgs).length = 7) &&
         (msgsSites [] f.pkg f.msgs).any (fun s => decide (s.1 = [b!"bar.v1.C", b!"bar.v1.C.In"]))
     | none => false) = true := by decide +kernel

def emptyCtx : Ctx := { resolve := fun _ _ => none }

theorem emptyCtx_wf : WfCtx emptyCtx := by intro _ _ _ h; cases h

/-! ## literal conversion -/

/-- **Literal conversion is exact**: a decimal literal in the range of the attribute's integer
format converts to exactly that number, for every format. -/
theorem C07_literal_exact (fmt : ScalarFmt) (n : Nat) (hr : inRange fmt n = true) :
    astToScalar fmt (intLit n) = .ok (intValue fmt n) := by
  have hf : fmt = .int32 ∨ fmt = .int64 ∨ fmt = .uint32 ∨ fmt = .uint64 := by
    cases fmt <;> first | cases hr | simp
  rw [astToScalar_intLit fmt n hf, if_pos hr]

/-- out-of-range literals are rejected (never wrapped or truncated) -/
theorem C07_literal_range_rejected (fmt : ScalarFmt) (n : Nat)
    (hf : fmt = .int32 ∨ fmt = .int64 ∨ fmt = .uint32 ∨ fmt = .uint64)
    (hr : inRange fmt n = false) : ∃ e, astToScalar fmt (intLit n) = .err e :=
  ⟨_, by rw [astToScalar_intLit fmt n hf, hr]; rfl⟩

/-- literal conversion never panics, whatever the token -/
theorem C07_literal_no_panic (fmt : ScalarFmt) (t : AstTok) :
    (astToScalar fmt t).isPanic = false :=
  astToScalar_isPanic fmt t

/-! ## Non-vacuity -/

/-- date rules and a required map field convert without panic (the inputs of Go commits
`fix: 9a528a0`, `fix: 089cff6`) -/
example : (bProps emptyCtx [b!"Foo"] false 1
    [ .mk b!"a" false false (.date [⟨b!"minimum", .str b!"2020-01-01"⟩] false),
      .mk b!"m" true false (.map (.string [] false) []) ]).eff.panic = false := by decide +kernel

/-- a bundle satisfying the hypothesis of `C07_compile_no_panic`: an entity, a service, a oneof -/
def exBundle : Bundle :=
  { pkgs := [ { name := b!"foo.v1", files :=
      [ .j5s b!"foo/v1/a.j5s" []
          [ .oneof (.mk b!"Choice" [.mk b!"a" false false (.string [] false)] [] none),
            .service { name := some b!"Foo", basePath := some b!"/foo", methods :=
              [ { name := b!"GetFoo", verb := .get, path := b!":id",
                  request := some [.mk b!"id" true false (.key .uuid .nokey [] false)],
                  response := some [] } ] },
            .entity { name := b!"thing", baseUrl := [], keys := [], data := [], statuses := [b!"A"],
                      events := [.mk b!"Made" [] [] none], commands := [], summaries := [],
                      query := none, nested := [] } ] b!"foo.v1" ] } ] }

example : WfBundle exBundle := by unfold WfBundle; decide +kernel

/-- the hypotheses of `C07_uses_imported` on the witnesses of 2a8c264 / 9a528a0: a file holding one
object with a string field with rules and a date field with rules converts, and its file does set
extensions of two other files -/
def exRuleElems : List Elem :=
  [.object (.mk b!"Only"
    [ .mk b!"f" false false (.string [⟨b!"minLength", .int 1⟩] false),
      .mk b!"d" false false (.date [⟨b!"minimum", .str b!"2020-01-01"⟩] false) ] [] none)]

example : (match convertFile ⟨b!"iso.v1", [], []⟩ b!"iso/v1/only.j5s" [] exRuleElems with
    | .ok fs => fs.map (fun f => (f.deps, dedup f.uses)) =
        [([b!"buf/validate/validate.proto", b!"j5/ext/v1/annotations.proto", b!"j5/types/date/v1/date.proto"],
          [b!"buf/validate/validate.proto", b!"j5/ext/v1/annotations.proto"])]
    | _ => false) = true ∧ (∀ s, Elem.service s ∈ exRuleElems → s.sopt = .none) := by
  refine ⟨by decide +kernel, ?_⟩
  intro s hs
  simp [exRuleElems] at hs

example : inRange .int64 (2 ^ 31) = true := by decide +kernel
example : astToScalar .uint64 (intLit 18446744073709551615) = .ok (.uint 18446744073709551615) := by
  decide +kernel

end J5V.Props.C07

/-! ## Obligations over facts regenerated from the current source (`extract setext`, `imports`) -/
namespace J5V.Props.C07
open J5V.Generated.Setext J5V.Generated.Imports

/-- **E4**: every `proto.SetExtension` call of j5convert passes a value whose static Go type is the
extension's declared type (a mismatch is a run-time panic) -/
theorem C07_src_setext_types :
    ∀ row ∈ setExtensionCalls, row.2.2.1 = row.2.2.2 := by decide +kernel

theorem C07_src_setext_count : setExtensionCallCount = setExtensionCalls.length := by decide +kernel

/-- the import constant that must be in scope where an extension / well-known type is used -/
def requiredImport (what : String) : Option String :=
  if what = "ext:validate.E_Field" then some "bufValidateImport"
  else if what = "ext:list_j5pb.E_Field" then some "j5ListAnnotationsImport"
  else if what = "ext:messaging_j5pb.E_Service" then some "messagingAnnotationsImport"
  else if what = "ext:annotations.E_Http" then some "googleApiAnnotationsImport"
  else if what = "type:.j5.types.date.v1.Date" then some "j5DateImport"
  else if what = "type:.j5.types.decimal.v1.Decimal" then some "j5DecimalImport"
  else if what = "type:.j5.types.any.v1.Any" then some "j5AnyImport"
  else if what = "type:.google.protobuf.Timestamp" then some "pbTimestamp"
  else if what = "type:googleProtoEmptyType" then some "googleProtoEmptyImport"
  else none

/-- **E5**: every branch imports the file of what it uses. (Extensions of `j5/ext/v1` need no
per-branch import: a field, method or service always sits in a file that holds a message, and
`visitObjectNode` / `visitOneofNode` import it — last two conjuncts.) -/
theorem C07_src_branch_imports :
    (∀ row ∈ uses, ∀ imp, requiredImport row.2.2.1 = some imp → imp ∈ row.2.2.2) ∧
    ("conversionVisitor.visitObjectNode", "", "ext:ext_j5pb.E_Message", ["j5ExtImport"]) ∈ uses ∧
    ("conversionVisitor.visitOneofNode", "", "ext:ext_j5pb.E_Message", ["j5ExtImport"]) ∈ uses := by
  decide +kernel

end J5V.Props.C07
