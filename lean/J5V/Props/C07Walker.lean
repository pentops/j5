import J5V.Generated.BclunicodeFacts
import J5V.Walker.ParserLink
import J5V.Walker.TextRoundtrip
import J5V.Walker.PP.Slices
import J5V.Walker.TermCheck
/-!
# C07 (walker part) — the schema-driven BCL walker `j5s text → SourceFile`

Model: `J5V.Walker` (`walkSchema env body msg : Res Node`, a result `.ok tree`, `.err e` or `.panic why`;
`env` = block spec + schema of containers and scalars, here `j5Env` converted from the regenerated facts
`Generated/WalkerspecFacts`, `Generated/WalkerschemaFacts`; `stub j5Env filename` = `FileStub(filename)`);
`body` = the statements of the BCL parser model `J5V.Bcl.parseFile cls src ff` (C11). Tie to the code:
stream `walker.parse` (PROTOCOL-walker.md). Only property theorems, non-vacuity examples and obligations over
regenerated facts live here; lemmas: `J5V/Walker/*Proofs.lean`, `WalkMain.lean`,
`ParserLink.lean`, `TermCheck.lean`.

Every source-level statement holds for **every** classifier `cls`, **every** rune string `src` (Go strings
reach the lexer through `[]rune(data)`), both parser modes `ff` and **every** file name (arbitrary bytes);
there is no bound on length or nesting.

`InFileLC src p` is "`p.line < lineCount` and `p.col ≤` rune length of that line" over
`strings.Split(src, "\n")` (the EOL / EOF column is allowed) — `J5V/Bcl/PosLines.lean`.
-/
namespace J5V.Props.C07Walker
open J5V.Bcl J5V.Walker

/-! ## Obligations over the facts regenerated from the current source -/

/-- the extractors met nothing they could not represent: no unknown construct in the literal `J5SchemaSpec`
(`internal/j5s/j5parse/schema.go`), no unknown field type / unresolved name in the j5 schema closure of
`SourceFile` -/
theorem C07W_src_facts_complete : factsProblems = [] := by decide

/-- **the spec the code ships is well formed** (`Env.WF`, decidable, evaluated by the kernel on the
regenerated facts; the six conjuncts of `J5V/Walker/WF.lean`): `closed` — every object / oneof / enum a
property type names is in the schema table; `typesOK` — no property type is unknown, an object reference
resolves to an object schema and a oneof reference to a oneof schema, array / map items are object / oneof
/ scalar / enum / any; `rootOK` — the root schema is in the table and is an object; `stubOK` — the
properties `FileStub` presets (`path`, `package.name`, `sourceLocations`) have types that admit the
preset; `splitOK` — every path of every scalar split of `J5SchemaSpec` is non-empty and, followed from the
block's own schema through aliases and properties, ends at a scalar field; `mapNamesFresh` — the name
`<schema>.<property>` of a map container is neither a schema name nor the name of a block of
`J5SchemaSpec`. A change of `J5SchemaSpec` or of the j5 schema that breaks one of these breaks this theorem
— and with it every source-level theorem below, which all rest on it. (It is also the non-vacuity witness
for the hypothesis `env.WF` of the general forms.) -/
theorem C07W_src_spec_wf : j5Env.WF = true := j5Env_WF

/-! ## No panic -/

/-- **General form.** For any environment that is well formed (`env.WF`), any well-typed message `msg`
(`TreeOK`) and any statement list in which every block type reference has at least one ident
(`bodyTypesOK`, decidable), the walk returns `.ok` or `.err`: none of the model's panic sites (nil scope
root, index out of range, type assertion on a node of the wrong kind, exhausted fuel) is reached. -/
theorem C07W_walk_no_panic {env : Env} (hwf : env.WF = true) {msg : Node} (hmsg : TreeOK env msg)
    (body : List Statement) (hb : bodyTypesOK body = true) (why : String) :
    walkSchema env body msg ≠ .panic why :=
  J5V.Walker.C07W_walk_no_panic hwf hmsg body hb why

/-- **Source-level form for j5s files.** Whatever the source text, parser mode and file name: if the BCL
parser returns a tree, walking its statements over the file stub with the j5 spec never panics. The
hypothesis `bodyTypesOK` is discharged by the parser (`parseFile_bodyTypesOK`), `WF` by
`C07W_src_spec_wf`, `TreeOK` of the stub by `j5_stub_treeOK`. -/
theorem C07W_parse_walk_no_panic (cls : Cls) (src : List Rune) (ff : Bool) (f : File) (filename : Str)
    (h : parseFile cls src ff = .tree f) (why : String) :
    walkSchema j5Env f.body (stub j5Env filename) ≠ .panic why :=
  parse_walk_no_panic cls src ff f filename h why

/-- the parser never builds a block whose type reference is empty (both modes): every block header of the
tree is the header of a header fragment, and `popReference` pops an ident before `newReference` -/
theorem C07W_parse_types_ok (cls : Cls) (src : List Rune) (ff : Bool) (f : File)
    (h : parseFile cls src ff = .tree f) : bodyTypesOK f.body = true :=
  parseFile_bodyTypesOK cls src ff f h

/-- **The hypothesis `bodyTypesOK` is necessary for the MODEL** (checked counterexample, evaluated by the
kernel): on the statement list `cexBody` = one block whose type reference has NO ident, with a description
line in its body, the walk with the well-formed `j5Env` over the well-typed stub panics (`buildScope …
.resetScope` with an empty path returns the tail scope, whose root is nil; `setDescription` dereferences
it). Such a statement list cannot come from the parser: Go's `NewReference` indexes `idents[0]`, so the
real code would have panicked already when building the reference, and the parser model pops an ident first
(`C07W_parse_types_ok`). The source-level theorems therefore carry no such hypothesis. -/
theorem C07W_walk_counterexample :
    bodyTypesOK cexBody = false ∧ (walkSchema j5Env cexBody (stub j5Env [97])).isPanic = true :=
  ⟨rfl, walkSchema_panics_on_empty_type_reference⟩

/-! ## Error positions -/

/-- **General form.** An error of the walk carries a position (a span), and both ends of the span are
positions of the statements: `BodyPos body p` = `p` belongs to every set of positions that contains `0:0`
(the span of the synthetic `true` of a `!` / `?` mark) and both ends of every span stored in the statements
(statement, key / type idents, end of the type reference, tags and qualifiers with their reference idents,
values incl. array elements, descriptions). The side condition excludes the one error raised BEFORE the
walk, when the spec of the root schema cannot be built — a property of `env` alone. -/
theorem C07W_error_positions {env : Env} (hwf : env.WF = true) {msg : Node} (hmsg : TreeOK env msg)
    (body : List Statement) (hb : bodyTypesOK body = true) {e : WErr}
    (h : walkSchema env body msg = .err e) (hroot : newRootSchemaWalker env ≠ .err e) :
    ∃ sp, e.pos = some sp ∧ BodyPos body sp.start ∧ BodyPos body sp.end_ :=
  C07W_walk_error_position hwf hmsg body hb h hroot

/-- for the j5 spec the side condition of the general form holds: the spec of the root schema builds -/
theorem C07W_j5_root_builds (e : WErr) : newRootSchemaWalker j5Env ≠ .err e := j5Env_root_walker e

/-- **Source-level form for j5s files.** Every error the walk of a parsed file returns carries a position,
and both ends of it lie inside the file: line `<` number of lines of `src`, column `≤` rune length of that
line (`InFileLC`; lines as `strings.Split(src, "\n")`). (C11 gives the same for the parser's own
diagnostics.) -/
theorem C07W_parse_error_positions (cls : Cls) (src : List Rune) (ff : Bool) (f : File) (filename : Str)
    (h : parseFile cls src ff = .tree f) {e : WErr}
    (he : walkSchema j5Env f.body (stub j5Env filename) = .err e) :
    ∃ sp, e.pos = some sp ∧ InFileLC src sp.start ∧ InFileLC src sp.end_ :=
  parse_walk_error_position cls src ff f filename h he

/-- every position of the statements of a parsed file is a position of the file -/
theorem C07W_parse_body_positions (cls : Cls) (src : List Rune) (ff : Bool) (f : File)
    (h : parseFile cls src ff = .tree f) : ∀ p, BodyPos f.body p → InFileLC src p :=
  parseFile_bodyPos cls src ff f h

/-! ## Successful walks -/

/-- **General form.** A successful walk returns a well-typed tree (`TreeOK`: every node has the shape its
schema property prescribes) that extends the message it started from (`Ext`, "the tree only grows": every
typed address that was valid in `msg` is valid in the result, and a container found there is still a
container of the same shape — message, list or map). -/
theorem C07W_walk_ok {env : Env} (hwf : env.WF = true) {msg tree : Node} (hmsg : TreeOK env msg)
    (body : List Statement) (hb : bodyTypesOK body = true) (h : walkSchema env body msg = .ok tree) :
    TreeOK env tree ∧ Ext env msg tree :=
  J5V.Walker.C07W_walk_ok hwf hmsg body hb h

/-- **Source-level form for j5s files**: the result of walking a parsed file is a well-typed `SourceFile`
that extends the stub (path, package name, empty source locations). -/
theorem C07W_parse_walk_ok (cls : Cls) (src : List Rune) (ff : Bool) (f : File) (filename : Str)
    (h : parseFile cls src ff = .tree f) {tree : Node}
    (hw : walkSchema j5Env f.body (stub j5Env filename) = .ok tree) :
    TreeOK j5Env tree ∧ Ext j5Env (stub j5Env filename) tree :=
  parse_walk_ok cls src ff f filename h hw

/-! ## Termination

What is proved, exactly. `walkSchema` is a Lean function, so it returns on every input; the question is
whether it can return "I gave up". Every function of the model is a STRUCTURAL recursion (over the
statements, the values, the lists of the spec): accepted by Lean's structural-recursion checker, and
`J5V/Walker/TermCheck.lean` fails the build if a project function reachable from `walkSchema` / `stub` is
defined by well-founded recursion, `partial`, `unsafe` or `opaque`. The one recursion that follows the
SPEC instead of the input — `setAttribute` ⇄ `setContainerFromScalar`: a scalar assigned to a container
is split over the container's own attributes, which may be containers with a split again — is structural
on a fuel argument, started at `fuelOf env = 2·|given| + |schemas| + 8`, and returns `.panic "fuel"` at
zero (the Go code would recurse until the stack overflows on a cyclic spec). The theorem: under `env.WF`
the fuel is never exhausted — `Env.splitOK` makes every path of a scalar split end at a scalar field, so the nesting
is one and four units are enough for every such `env` (`J5V/Walker/WalkAttr.lean`; `fuelOf env ≥ 4` is all that is
used of the formula). -/

/-- **General form**: for a well-formed environment the spec-following recursion never runs out of fuel,
whatever the statements (with `bodyTypesOK`) and the well-typed message. Corollary of
`C07W_walk_no_panic`. -/
theorem C07W_terminates {env : Env} (hwf : env.WF = true) {msg : Node} (hmsg : TreeOK env msg)
    (body : List Statement) (hb : bodyTypesOK body = true) : walkSchema env body msg ≠ .panic "fuel" :=
  J5V.Walker.C07W_walk_no_panic hwf hmsg body hb "fuel"

/-- **Source-level form for j5s files**: walking any parsed file with the j5 spec never exhausts the
fuel. -/
theorem C07W_parse_walk_terminates (cls : Cls) (src : List Rune) (ff : Bool) (f : File) (filename : Str)
    (h : parseFile cls src ff = .tree f) : walkSchema j5Env f.body (stub j5Env filename) ≠ .panic "fuel" :=
  parse_walk_no_panic cls src ff f filename h "fuel"

/-! ## Parse + walk, combined -/

/-- **From text to `SourceFile`, total.** For every classifier, every rune string `src`, either parser mode
and every file name: `ParseFile` returns a non-empty list of diagnostics, or a tree; and for a tree the
walk over the file stub returns either `.ok tree'` with `tree'` a well-typed `SourceFile` extending the
stub, or `.err e` where `e` has a position with both ends inside `src` — never `.panic` (no nil
dereference, index or type-assertion failure, no exhausted fuel). -/
theorem C07W_parse_walk_total (cls : Cls) (src : List Rune) (ff : Bool) (filename : Str) :
    (∃ es, es ≠ [] ∧ parseFile cls src ff = .errors es) ∨
    (∃ f, parseFile cls src ff = .tree f ∧
      ((∃ tree, walkSchema j5Env f.body (stub j5Env filename) = .ok tree ∧
          TreeOK j5Env tree ∧ Ext j5Env (stub j5Env filename) tree) ∨
       (∃ e sp, walkSchema j5Env f.body (stub j5Env filename) = .err e ∧
          e.pos = some sp ∧ InFileLC src sp.start ∧ InFileLC src sp.end_))) :=
  parse_walk_total cls src ff filename

/-! ## Non-vacuity (evaluated by the kernel on `asciiCls`, file name `a`)

`C07W_src_spec_wf` is the witness for `env.WF`; `j5_stub_treeOK` for `TreeOK`. -/

/-- a small j5s file parses to a tree and its walk succeeds (hypotheses and the `.ok` branch are
inhabited) -/
example : ∃ f, parseFile asciiCls (ofAscii "object Foo {\n field a ! string\n}\n") true = .tree f ∧
    (walkSchema j5Env f.body (stub j5Env [97])).isOk = true :=
  tree_of_match (by rw [j5Env_nf]; decide +kernel)

/-- a file the parser accepts and the walk rejects: `object` has no block `required`; the error sits on
line 1, columns 1–8 (the `.err` branch is inhabited, with a position) -/
example : ∃ f, parseFile asciiCls (ofAscii "object Foo {\n required {\n }\n}\n") true = .tree f ∧
    (walkSchema j5Env f.body (stub j5Env [97])).errPos = some ⟨⟨1, 1⟩, ⟨1, 8⟩⟩ :=
  tree_of_match (by rw [j5Env_nf]; decide +kernel)

/-- … and that position is inside the file -/
example : InFileLC (ofAscii "object Foo {\n required {\n }\n}\n") ⟨1, 1⟩ ∧
    InFileLC (ofAscii "object Foo {\n required {\n }\n}\n") ⟨1, 8⟩ := by decide +kernel


/-! ## Acceptance of the documented language: print, then parse -/

/-- **C07W, print / parse.** For every abstract j5s file `ast` of the generator's syntax (`J5V.Compile.SrcFile`, the
type the compile theorems C02 / C07 / C13 / C17 start from) inside the fragment `supported` — package, imports, objects,
oneofs and enums with fields of all 15 kinds, every format and qualifier form, `!` / `?` marks, flatten, arrays and maps,
inline and nested schemas, every rule kind with literals of the right kind, services and methods, topics, entities with
keys, data, statuses, events, commands, summaries and query — walking the syntax tree `toBcl ast` of the printed text over
the stub of `filename` succeeds and returns EXACTLY the message `toMsg filename ast` the file denotes (every touched flag
included). `toBcl` / `toMsg` are written independently of the walker (`Walker/Print.lean`) and tied to the real printer
and parser by the stream `walker.print` (the parse tree of the printed text, erased, equals `toBcl ast`; the real
parser's message equals `toMsg`). Proof: exact symbolic execution of the interpreter by induction over the syntax
(`Walker/PP/*`). -/
theorem C07W_print_parse (filename : Str) (ast : J5V.Compile.SrcFile) (h : supported ast = true) :
    walkSchema j5Env (toBcl ast) (stub j5Env filename) = .ok (toMsg filename ast) :=
  J5V.Walker.C07W_print_parse filename ast h

/-- a file inside the fragment: `foo/v1/a.j5s` with `object Foo { field a ! string; field b integer:INT32;
field c array:object:Bar }` and `enum Kind { A B }` -/
def demoAst : J5V.Compile.SrcFile :=
  .j5s [102,111,111,47,118,49,47,97,46,106,53,115] [] [
    .object (.mk [70,111,111] [
      .mk [97] true false (.string [] false),
      .mk [98] false false (.integer .int32 [] false),
      .mk [99] false false (.array (.objectRef [] [66,97,114] false []) [])] [] none),
    .enum ⟨[75,105,110,100], [], [[65], [66]]⟩] [102,111,111,46,118,49]
example : supported demoAst = true := by
  unfold supported; rw [j5Env_nf]; decide +kernel

/-! ## Error spans are not reversed

The spans the walker puts on an error are spans of single nodes, POINT spans (`walkTags`: end of the type
reference / of a tag), the zero span (`!` / `?` marks) and HULLS `⟨first.span.start, last.span.end_⟩` of a run
of tags (`finishTags`), of qualifiers (`walkQualifiers`) or of the `remaining` values of a scalar split
(`setContainerFromScalar`: elements of ONE array value in their source order — `rightToLeft` reverses twice —
or `strings.Split` pieces of ONE string, which all carry that string's span). `BodyOrdered body`
(`J5V/Walker/OrderDefs.lean`, a structural predicate over the statements at any depth) is what makes all of
them `start ≤ end_`: every node span the walker reads (statement, key / type idents, tags and qualifiers with
their reference idents, values incl. nested array elements, descriptions) has `start ≤ end_`, and the tags of
a header, its qualifiers, and the elements of every array value are in SOURCE ORDER (each one's `span.end_ ≤`
every later one's `span.start`). Proof: the walk verified for an arbitrary set `S` of spans that contains
the node spans, the point spans and the hulls of all sublists of the three kinds of runs
(`walkSchema_specS`, `J5V/Walker/WalkProofs.lean`), instantiated with `S sp := sp.start ≤ sp.end_`. -/

/-- **General form.** For a well-formed environment, a well-typed message and statements that are
`BodyOrdered` (and whose block type references have an ident, as in `C07W_error_positions`), the span of an
error of the walk is not reversed: `sp.start ≤ sp.end_` in the lexicographic order on (line, column). -/
theorem C07W_error_span_ordered {env : Env} (hwf : env.WF = true) {msg : Node} (hmsg : TreeOK env msg)
    (body : List Statement) (hb : bodyTypesOK body = true) (hord : BodyOrdered body) {e : WErr}
    (h : walkSchema env body msg = .err e) (hroot : newRootSchemaWalker env ≠ .err e) :
    ∃ sp, e.pos = some sp ∧ sp.start ≤ sp.end_ :=
  C07W_walk_error_span_ordered hwf hmsg body hb hord h hroot

/-- **the parser's trees are `BodyOrdered`** (both modes, every classifier, every source): the parser reads
the tokens in source order (`WInv.ordered`), so consecutive tags, qualifiers and array elements are in
source order, and every node span has `start ≤ end_` (`J5V/Bcl/OrderProofs.lean`) -/
theorem C07W_parse_body_ordered (cls : Cls) (src : List Rune) (ff : Bool) (f : File)
    (h : parseFile cls src ff = .tree f) : BodyOrdered f.body :=
  J5V.Bcl.parseFile_bodyOrdered cls src ff f h

/-- **Source-level form for j5s files.** Every error the walk of a parsed file returns carries a span whose
two ends lie inside the file (`C07W_parse_error_positions`) and whose start is not after its end — the three
conditions of "inside the file" of the correspondence protocol (`0 ≤ line < lineCount`,
`0 ≤ col ≤ runeLen(line)`, `start ≤ end`), for every source text, parser mode and file name. -/
theorem C07W_parse_error_span_ordered (cls : Cls) (src : List Rune) (ff : Bool) (f : File) (filename : Str)
    (h : parseFile cls src ff = .tree f) {e : WErr}
    (he : walkSchema j5Env f.body (stub j5Env filename) = .err e) :
    ∃ sp, e.pos = some sp ∧ InFileLC src sp.start ∧ InFileLC src sp.end_ ∧ sp.start ≤ sp.end_ :=
  parse_walk_error_span_ordered cls src ff f filename h he

/-- non-vacuity of `BodyOrdered` + the `.err` branch, on a HULL span: `object Foo Bar Baz { }` parses, its
statements are `BodyOrdered`, and the walk rejects the two extra tags `Bar Baz` at the hull of their spans,
line 0, columns 11–17 (evaluated by the kernel) -/
example : ∃ f, parseFile asciiCls (ofAscii "object Foo Bar Baz {\n}\n") true = .tree f ∧
    BodyOrdered f.body ∧ bodyTypesOK f.body = true ∧
    (walkSchema j5Env f.body (stub j5Env [97])).errPos = some ⟨⟨0, 11⟩, ⟨0, 17⟩⟩ := by
  obtain ⟨f, hf, he⟩ : ∃ f, parseFile asciiCls (ofAscii "object Foo Bar Baz {\n}\n") true = .tree f ∧
      (walkSchema j5Env f.body (stub j5Env [97])).errPos = some ⟨⟨0, 11⟩, ⟨0, 17⟩⟩ :=
    tree_of_match (by rw [j5Env_nf]; decide +kernel)
  exact ⟨f, hf, C07W_parse_body_ordered _ _ _ f hf, C07W_parse_types_ok _ _ _ f hf, he⟩


/-! ## Acceptance from source TEXT

`printJ5s ast` (`Walker/PrintText.lean`) is the text the harness printer `j5sgen.PrintFile` writes in its plain style:
one statement per line, two spaces per open block, single spaces between tokens, `type:qualifier`, strings quoted,
a blank line after `package`, after the imports, after every element and in front of nested schemas. The stream
`walker.print` compares it byte for byte with the Go printer's text on every op. `ClsAscii cls`: the classifier agrees
with ASCII on runes < 128 (letters, digits, white space) — Go's tables do: `C07W_src_ascii_class`. -/

/-- **C07W, text round trip.** For every file `ast` of the fragment `supported`, the BCL parser (either mode)
accepts the plain-style text `printJ5s ast`, and the syntax tree it builds is `toBcl ast` up to positions. (Proof:
the text is `renderFile plainGap (toBcl ast)`; `toBcl ast` is well formed for the lexer and the walker
(`toBcl_textOK`); `tree_text_roundtrip` — the C09 machinery: the text lexes to the canonical tokens, the BCL walker
reads them back, `fragmentsToFile` inverts the flattening.) -/
theorem C07W_text_roundtrip (cls : Cls) (hcls : ClsAscii cls) (ast : J5V.Compile.SrcFile)
    (h : supported ast = true) (ff : Bool) :
    ∃ t, parseFile cls (printJ5s ast) ff = .tree t ∧
      Statement.eraseList t.body = Statement.eraseList (toBcl ast) :=
  text_roundtrip cls hcls ast h ff

/-- the schema walker does not look at positions: two statement lists equal up to positions give the same result up
to the position of the error -/
theorem C07W_walk_position_free (env : Env) (body body' : List Statement) (msg : Node)
    (he : Statement.eraseList body' = Statement.eraseList body) :
    (walkSchema env body' msg).dropPos = (walkSchema env body msg).dropPos :=
  walkSchema_dropPos_of_erase_eq env body body' msg he

/-- **C07W, acceptance from source text.** Every file of the documented fragment, written in the plain style, is
accepted and denotes its SourceDef: `ParseFile` of `printJ5s ast` gives a tree, and the walk of that tree over the stub
of `filename` returns exactly `toMsg filename ast`. (`C07W_text_roundtrip` + `C07W_walk_position_free` +
`C07W_print_parse`.) -/
theorem C07W_text_parse_walk (cls : Cls) (hcls : ClsAscii cls) (filename : Str)
    (ast : J5V.Compile.SrcFile) (h : supported ast = true) (ff : Bool) :
    ∃ t, parseFile cls (printJ5s ast) ff = .tree t ∧
      walkSchema j5Env t.body (stub j5Env filename) = .ok (toMsg filename ast) :=
  text_parse_walk cls hcls filename ast h ff

/-- in Go's tables the ASCII runes are classified as `asciiCls` classifies them (bit 1 = `unicode.IsSpace`, 2 =
`IsDigit`, 4 = `IsLetter`): the hypothesis `ClsAscii` of the text theorems holds for the real classifier -/
theorem C07W_src_ascii_class :
    (List.range 128).all (fun r =>
      let b := J5V.Generated.Bclunicode.asciiClass.getD r 0
      decide ((b % 2 = 1) = (asciiCls.isSpace r = true)) &&
      decide ((b / 2 % 2 = 1) = (asciiCls.isDigit r = true)) &&
      decide ((b / 4 % 2 = 1) = (asciiCls.isLetter r = true))) = true := by decide +kernel

example : ClsAscii asciiCls := asciiCls_clsAscii

end J5V.Props.C07Walker
