import J5V.Schema.ExportSet
import J5V.Schema.ImportTotal
import J5V.Generated.SchemaFacts
/-!
# C15 — schema sets survive export to the source-API form and re-import

Only the property theorems, their non-vacuity examples and (at the end) the source-fact obligations
live here. All other statements are about
`J5V.Schema.Export` (the model of `ToJ5Root / ToJ5Field` and of `schema_from_desc.go`), for
**every** field schema, root schema and schema set; no bound on sizes or nesting.

Hypotheses. Field / root level: `wfField / wfRoot` — an integer / float scalar carries one of the
formats the importer knows (`intKinds`, `floatKinds`); that the reader never builds another one is
`C18_reader_formats_importable`. Set level (`C15_fixpoint_set`, `C15_refs_link`): additionally
`SetWF s` (package names and schema keys unique) and `Closed s` (every reference held by a schema
of the set names a schema of the set). **These two are hypotheses, not derived**: there is no
theorem from C18's reader output (`Reg`) to `SetWF ∧ Closed` of the corresponding `SSet` (the
ingredients would be `C18_names_unique` / `C18_refs_linked`); on the Go side they are exercised by
the `schema.loop` stream only (the set dumped by the real reader is the model's input, and the
oracle `unlinked-ref` / `import-error` fires if a reference does not resolve).
-/
namespace J5V.Props.C15
open J5V.Go J5V.Schema

/-- export ∘ import ∘ export = export, for every field schema: the import of an exported field
succeeds and the result exports to exactly the same descriptor. -/
theorem C15_fixpoint_field (pkg : String) (f : SField) (h : wfField f = true) :
    ∃ f', fieldFromDesc pkg (toJ5Field f) = .ok f' ∧ toJ5Field f' = toJ5Field f :=
  ⟨normField f, (fieldFromDesc_toJ5Field pkg f _).mpr ⟨h, rfl⟩, toJ5Field_norm f⟩

/-- export ∘ import ∘ export = export, for every root schema (object, oneof, enum), whatever
package it is imported into. -/
theorem C15_fixpoint (pkg : String) (r : SRoot) (h : wfRoot r = true) :
    ∃ r', rootFromDesc pkg (toJ5Root r) = .ok r' ∧ toJ5Root r' = toJ5Root r :=
  ⟨normRoot pkg r, (rootFromDesc_toJ5Root pkg r _).mpr ⟨h, rfl⟩, toJ5Root_norm pkg r⟩

/-- The round trip never reaches an error arm of the importer. -/
theorem C15_import_total (pkg : String) (r : SRoot) (h : wfRoot r = true) :
    (rootFromDesc pkg (toJ5Root r)).isOk = true := by
  rw [(rootFromDesc_toJ5Root pkg r _).mpr ⟨h, rfl⟩]; rfl

/-- **`PackageSetFromSourceAPI` never panics — on any source API**, export image or not. (Until the
nil check in `schemaFromDesc` an absent `ArrayField.items`, `MapField.item_schema` or
`ObjectProperty.schema` was a nil dereference; the `import` ops of `schema.loop` push exactly such
APIs through the real code.) -/
theorem C15_importer_never_panics (api : Api) : ∀ w, packageSetFromSourceAPI api ≠ .panic w :=
  packageSetFromSourceAPI_np api

/-- an API with an array without items: an error -/
example : packageSetFromSourceAPI
    [("p.v1", [("A", .object (.mk "A" "" "~" [] [.mk "xs" false false "" [1] (some (.array none "~" "~"))]))])] =
    .err "missing field schema" := by decide

/-! ### nothing is lost

What the round trip may change is spelled out by `normField / normProp / normRoot`: `Kind` and
`WellKnownTypeName` of a scalar (recomputed; not part of the export form), pointer registration,
`ReadOnly` / `WriteOnly` (never exported, never set by the reader) and the owning package. The
theorems below name every component the property lists and state that it is returned unchanged. -/

/-- rules, list rules, ext, flatten, any-types, the whole scalar type (with its rules and list
rules) and the referenced name of a field, as a comparable record -/
def fieldContent : SField → SField
  | .scalar tag fmt _ _ pay => .scalar tag fmt 0 "" pay
  | .any od types lr => .any od types lr
  | .enum ref rules lr ext => .enum ref.reg rules lr ext
  | .object ref fl rules ext => .object ref.reg fl rules ext
  | .oneof ref rules lr ext => .oneof ref.reg rules lr ext
  | .map item rules ext => .map (fieldContent item) rules ext
  | .array item rules ext => .array (fieldContent item) rules ext

theorem fieldContent_norm (f : SField) : fieldContent (normField f) = fieldContent f := by
  induction f with
  | scalar tag fmt k w pay => cases tag <;> rfl
  | any od types lr => rfl
  | enum ref rules lr ext => simp [normField, fieldContent, SRef.reg]
  | object ref fl rules ext => simp [normField, fieldContent, SRef.reg]
  | oneof ref rules lr ext => simp [normField, fieldContent, SRef.reg]
  | map item rules ext ih => simp [normField, fieldContent, ih]
  | array item rules ext ih => simp [normField, fieldContent, ih]

/-- No rule, list rule, ext, flatten flag, any-type list or reference name of a field is lost or
altered by the round trip (at any nesting depth of arrays and maps). -/
theorem C15_nothing_lost_field (pkg : String) (f f' : SField)
    (h : fieldFromDesc pkg (toJ5Field f) = .ok f') : fieldContent f' = fieldContent f := by
  rw [((fieldFromDesc_toJ5Field pkg f f').mp h).2]
  exact fieldContent_norm f

/-- name, description, entity marker, any-membership, enum prefix, enum options **with their
info maps**, enum info-field declarations, and per property: JSON name, required,
explicitly-optional, description, proto path and field content -/
def propContent (p : SProp) : SProp :=
  { p with readOnly := false, writeOnly := false, schema := fieldContent p.schema }

def rootContent : SRoot → SRoot
  | .object _ name desc entity am props => .object "" name desc entity am (props.map propContent)
  | .oneof _ name desc props => .oneof "" name desc (props.map propContent)
  | .enum _ name desc pfx options info => .enum "" name desc pfx options info

/-- No rule, enum option info, entity marker, any-membership or list rule (nor anything else the
export form carries) is lost in the round trip of a root schema. -/
theorem C15_nothing_lost (pkg : String) (r r' : SRoot) (hwf : wfRoot r = true)
    (h : rootFromDesc pkg (toJ5Root r) = .ok r') : rootContent r' = rootContent r := by
  rw [(rootFromDesc_toJ5Root pkg r _).mpr ⟨hwf, rfl⟩] at h
  cases h
  cases r <;>
    simp [normRoot, rootContent, List.map_map, Function.comp_def, propContent, normProp,
      fieldContent_norm]

/-- In particular the enum option info survives (the defect repaired by 622a251: before it the
importer returned options without `info` and no info-field declarations). -/
theorem C15_enum_info_kept (pkg p name desc pfx : String) (options : List EnumOption)
    (info : List InfoField) :
    rootFromDesc pkg (toJ5Root (.enum p name desc pfx options info)) =
      .ok (.enum pkg name desc pfx options info) := rfl

/-- … and the list rules of any / oneof / enum fields (repaired by 729e9c2). -/
theorem C15_list_rules_kept (pkg : String) (od : Bool) (types : List String) (lr : Pay)
    (ref : SRef) (rules ext : Pay) :
    fieldFromDesc pkg (toJ5Field (.any od types lr)) = .ok (.any od types lr) ∧
    fieldFromDesc pkg (toJ5Field (.oneof ref rules lr ext)) = .ok (.oneof ref.reg rules lr ext) ∧
    fieldFromDesc pkg (toJ5Field (.enum ref rules lr ext)) = .ok (.enum ref.reg rules lr ext) :=
  ⟨rfl, rfl, rfl⟩

/-! ### whole schema sets

A schema set as Go holds it (`SSet`: packages by name, schemas by key). `SetWF` = map keys are
unique and scalars carry importable formats; `Closed` = every reference held by a schema of the
set names a schema of the set (expected of every set the reader returns — referenced messages and
enums are reflected with the referrer — but NOT proved from the reader model: see the file header). -/

/-- `export (import (export s)) = export s` for a whole set, **with every reference resolved**:
`PackageSetFromSourceAPI` (all packages, then `assertRefsLink` on each) accepts the export of the
set, and each schema of the result exports to exactly what it exported to before — including
cross-package references, recursive types, and enums referenced only from fields. -/
theorem C15_fixpoint_set (s : SSet) (hwf : SetWF s) (hc : Closed s) :
    ∃ env', packageSetFromSourceAPI (toApi s) = .ok env' ∧
      ∀ p k, exportLookup env' p k = (lookupSet s p k).map toJ5Root := by
  obtain ⟨env', h1, h2, _⟩ := packageSet_roundtrip s hwf hc
  exact ⟨env', h1, h2⟩

/-- every reference of the re-imported set is resolved: every registered name (including the
placeholders created for references) is linked to a schema -/
theorem C15_refs_link (s : SSet) (hwf : SetWF s) (hc : Closed s) (env' : Env)
    (h : packageSetFromSourceAPI (toApi s) = .ok env') :
    ∀ e ∈ env'.entries, (env'.linkedAt e.pkg e.key).isSome = true := by
  obtain ⟨env'', h1, _, h3⟩ := packageSet_roundtrip s hwf hc
  rw [h] at h1
  cases h1
  exact h3

/-- the walk of `assertRefsLink` itself cannot fail once every reference resolves (whatever the
shape of the reference graph: cycles, self references, shared targets) -/
theorem C15_assertRefsLink_ok (env : Env)
    (hroots : ∀ p k r, env.linkedAt p k = some r → ∀ ref ∈ r.refs, Resolves env ref)
    (hentries : ∀ e ∈ env.entries, (env.linkedAt e.pkg e.key).isSome = true) (p : String) :
    assertRefsLink env p = .ok () :=
  assertRefsLink_ok env hroots hentries p

/-- what the driver exports from a parsed set is the export of that set -/
theorem C15_exportEnv_is_toApi (env : Env) : exportEnv env = toApi (envSet env) := exportEnv_eq env

/-! ## Non-vacuity -/

/-- a schema with every feature the property lists: entity marker, any-membership, rules, list
rules, enum reference, a map of arrays of integers -/
def sampleObject : SRoot :=
  .object "vt.v1" "Foo" "a foo" (some "0a03466f6f1002") ["vt_any"]
    [ ⟨"id", true, false, false, false, "key", [1],
        .scalar .key 0 kindString "" "ba0200"⟩,
      ⟨"kind", false, false, false, false, "", [2],
        .enum ⟨"vt.v1", "Kind", true⟩ (some "0a0141") (some "5200") none⟩,
      ⟨"anything", false, true, false, false, "", [3],
        .any true ["vt.v1.Foo"] (some "5200")⟩,
      ⟨"grid", false, false, false, false, "", [4],
        .map (.array (.scalar .integer 2 kindInt64 "" "fa01020802") (some "0801") none) none none⟩ ]

/-- a closed two-package set: `Foo` refers to the enum `Kind` of its own package, to itself
(through `parent`) and to `other.v1.Bar`, which refers back to `Foo` -/
def sampleSet : SSet :=
  [ ("vt.v1",
      [ ("Foo", .object "vt.v1" "Foo" "" none []
          [ ⟨"kind", false, false, false, false, "", [1], .enum ⟨"vt.v1", "Kind", true⟩ none none none⟩,
            ⟨"parent", false, false, false, false, "", [2], .object ⟨"vt.v1", "Foo", true⟩ false none none⟩,
            ⟨"bars", false, false, false, false, "", [3],
              .array (.object ⟨"other.v1", "Bar", true⟩ false none none) none none⟩ ]),
        ("Kind", .enum "vt.v1" "Kind" "" "KIND_" [⟨"UNSPECIFIED", 0, "", []⟩, ⟨"A", 1, "", [("colour", "red")]⟩]
          [⟨"colour", "Colour", ""⟩]) ]),
    ("other.v1",
      [ ("Bar", .oneof "other.v1" "Bar" "" [⟨"foo", false, false, false, false, "", [1],
          .object ⟨"vt.v1", "Foo", true⟩ true none none⟩]) ]) ]

example : SetWF sampleSet := ⟨by decide, by decide, by decide⟩
example : Closed sampleSet := by unfold Closed; decide

example : wfRoot sampleObject = true := by decide
example : (rootFromDesc "other.v1" (toJ5Root sampleObject)).isOk = true := by decide
/-- the hypothesis excludes something: an integer scalar with format UNSPECIFIED is rejected -/
example : fieldFromDesc "p" (toJ5Field (.scalar .integer 0 0 "" "fa0100")) =
    .err "unsupported integer format" := by decide

/-! ## Obligations over facts regenerated from the current source (`extract -what schema`)

**E10 — field copy.** `exportLits` lists every `schema_j5pb` composite literal the exporters
build (with the text of each value), `importLits` every `j5schema` struct literal the importers
build. `pairing` is the hand-written statement of the round trip: descriptor field ↔ struct
field, with the value text(s) an importer literal must carry for that field. The obligations:
every descriptor field an exporter writes is paired (an exported field without a reader is
exactly a "lost" finding), and **every** importer literal of the struct sets the paired field from
the paired descriptor field (so dropping it in one arm, as the original code did for inline
enums, breaks the obligation). -/
section Src
open J5V.Generated.Schema

/-- D messages that only wrap (oneof members, the root / field envelopes) -/
def wrappers : List String :=
  ["RootSchema", "RootSchema_Enum", "RootSchema_Object", "RootSchema_Oneof", "Field", "Field_Any",
   "Field_Enum", "Field_Object", "Field_Oneof", "Field_Map", "Field_Array", "Field_String_",
   "EnumField_Ref", "ObjectField_Ref", "OneofField_Ref"]

/-- ((D message, D field), (S struct, S field), accepted value texts in an importer literal;
`[]` = the field is filled in after the literal, see `laterReads`) -/
def pairing : List ((String × String) × (String × String) × List String) := [
  (("Enum_Option", "Name"), ("EnumOption", "name"), ["src.Name"]),
  (("Enum_Option", "Number"), ("EnumOption", "number"), ["src.Number"]),
  (("Enum_Option", "Description"), ("EnumOption", "description"), ["src.Description"]),
  (("Enum_Option", "Info"), ("EnumOption", "Info"), ["src.Info"]),
  (("Enum", "Name"), ("rootSchema", "name"), ["sch.Name"]),
  (("Enum", "Description"), ("rootSchema", "description"), ["sch.Description"]),
  (("Enum", "Options"), ("EnumSchema", "Options"), ["opts"]),
  (("Enum", "Prefix"), ("EnumSchema", "NamePrefix"), ["sch.Prefix"]),
  (("Enum", "Info"), ("EnumSchema", "InfoFields"), ["sch.Info"]),
  (("Object", "Description"), ("rootSchema", "description"), ["sch.Description"]),
  (("Object", "Name"), ("rootSchema", "name"), ["sch.Name"]),
  (("Object", "Properties"), ("ObjectSchema", "Properties"), ["make([]*ObjectProperty,len(sch.Properties))"]),
  (("Object", "Entity"), ("ObjectSchema", "Entity"), ["sch.Entity"]),
  (("Object", "AnyMember"), ("ObjectSchema", "AnyMember"), ["sch.AnyMember"]),
  (("Oneof", "Description"), ("rootSchema", "description"), ["sch.Description"]),
  (("Oneof", "Name"), ("rootSchema", "name"), ["sch.Name"]),
  (("Oneof", "Properties"), ("OneofSchema", "Properties"), ["make([]*ObjectProperty,len(sch.Properties))"]),
  (("ObjectProperty", "Schema"), ("ObjectProperty", "Schema"), ["propSchema"]),
  (("ObjectProperty", "Name"), ("ObjectProperty", "JSONName"), ["prop.Name"]),
  (("ObjectProperty", "Required"), ("ObjectProperty", "Required"), ["prop.Required"]),
  (("ObjectProperty", "ExplicitlyOptional"), ("ObjectProperty", "ExplicitlyOptional"), ["prop.ExplicitlyOptional"]),
  (("ObjectProperty", "Description"), ("ObjectProperty", "Description"), ["prop.Description"]),
  (("ObjectProperty", "ProtoField"), ("ObjectProperty", "ProtoField"), ["protoField"]),
  (("AnyField", "OnlyDefined"), ("AnyField", "OnlyDefined"), ["st.Any.OnlyDefined"]),
  (("AnyField", "Types"), ("AnyField", "Types"), ["stringSliceConvert(st.Any.Types)"]),
  (("AnyField", "ListRules"), ("AnyField", "ListRules"), ["st.Any.ListRules"]),
  (("EnumField", "Schema"), ("EnumField", "Ref"), ["ref", "item.AsRef()"]),
  (("EnumField", "Rules"), ("EnumField", "Rules"), ["st.Enum.Rules"]),
  (("EnumField", "ListRules"), ("EnumField", "ListRules"), ["st.Enum.ListRules"]),
  (("EnumField", "Ext"), ("EnumField", "Ext"), ["st.Enum.Ext"]),
  (("ObjectField", "Schema"), ("ObjectField", "Ref"), ["ref", "item.AsRef()"]),
  (("ObjectField", "Flatten"), ("ObjectField", "Flatten"), ["st.Object.Flatten"]),
  (("ObjectField", "Rules"), ("ObjectField", "Rules"), ["st.Object.Rules"]),
  (("ObjectField", "Ext"), ("ObjectField", "Ext"), ["st.Object.Ext"]),
  (("OneofField", "Schema"), ("OneofField", "Ref"), ["ref", "item.AsRef()"]),
  (("OneofField", "Rules"), ("OneofField", "Rules"), ["st.Oneof.Rules"]),
  (("OneofField", "ListRules"), ("OneofField", "ListRules"), ["st.Oneof.ListRules"]),
  (("OneofField", "Ext"), ("OneofField", "Ext"), ["st.Oneof.Ext"]),
  (("MapField", "ItemSchema"), ("MapField", "Schema"), []),
  (("MapField", "Rules"), ("MapField", "Rules"), ["st.Map.Rules"]),
  (("MapField", "Ext"), ("MapField", "Ext"), ["st.Map.Ext"]),
  (("ArrayField", "Items"), ("ArrayField", "Schema"), []),
  (("ArrayField", "Rules"), ("ArrayField", "Rules"), ["st.Array.Rules"]),
  (("ArrayField", "Ext"), ("ArrayField", "Ext"), ["st.Array.Ext"]),
  (("Ref", "Package"), ("RefSchema", "Package"), []),
  (("Ref", "Schema"), ("RefSchema", "Schema"), []) ]

/-- exported constants no importer needs (`MapField.key_schema` is always `string`) -/
def constants : List (String × String) := [("MapField", "KeySchema")]

/-- reads that must appear in an importer function for the fields filled in outside a literal -/
def laterReads : List (String × String) := [
  ("Package.schemaFromDesc", "st.Array.Items"), ("Package.schemaFromDesc", "st.Map.ItemSchema"),
  ("Package.schemaFromDesc", "field.Schema"),
  ("Package.schemaFromDesc", "inner.Ref.Package"), ("Package.schemaFromDesc", "inner.Ref.Schema"),
  ("Package.enumSchemaFromDesc", "sch.Options"),
  ("Package.objectSchemaFromDesc", "sch.Properties"), ("Package.objectSchemaFromDesc", "object.Properties"),
  ("Package.oneofSchemaFromDesc", "sch.Properties"), ("Package.oneofSchemaFromDesc", "oneof.Properties"),
  ("Package.objectPropertyFromDesc", "prop.Schema"), ("Package.objectPropertyFromDesc", "prop.ProtoField") ]

def everyExportedFieldIsPaired : Bool :=
  exportLits.all fun (_, typ, keys) =>
    wrappers.contains typ ||
    keys.all fun (k, _) => constants.contains (typ, k) || pairing.any fun (d, _, _) => d == (typ, k)

def everyImporterLiteralCopiesThePairedField : Bool :=
  pairing.all fun (_, (st, sf), texts) =>
    texts.isEmpty ||
    importLits.all fun (_, typ, keys) =>
      typ != st || keys.any fun (k, v) => k == sf && texts.contains v

def everyPairedStructIsBuilt : Bool :=
  pairing.all fun (_, (st, _), texts) => texts.isEmpty || importLits.any fun (_, typ, _) => typ == st

def laterReadsPresent : Bool :=
  laterReads.all fun (fn, e) => importReads.any fun (f, rs) => f == fn && rs.contains e

/-- the model's export writes exactly these descriptor fields; a new one needs a reader -/
theorem C15_src_exported_fields_paired : everyExportedFieldIsPaired = true := by decide +kernel
/-- every importer literal (every arm) copies the paired descriptor field -/
theorem C15_src_importers_copy : everyImporterLiteralCopiesThePairedField = true := by decide +kernel
theorem C15_src_importers_exist : everyPairedStructIsBuilt = true := by decide +kernel
theorem C15_src_later_reads : laterReadsPresent = true := by decide +kernel

/-! **E6-schema — type-switch coverage.** The importer's switches cover every member of the oneofs
they switch over (an uncovered member would fall into `default` = error, breaking the fixpoint),
and `assertRefsLink` looks into every field schema that can hold a reference. -/

def casesOf (fn subject : String) : List (List String) :=
  typeSwitches.filterMap fun (f, s, cs) => if f == fn && s == subject then some cs else none

def membersOf (iface : String) : List String :=
  (oneofMembers.find? fun (i, _) => i == iface).map (·.2) |>.getD ["<unknown oneof>"]

def covers (fn subject iface : String) : Bool :=
  match casesOf fn subject with
  | [cs] => (membersOf iface).all fun m => cs.contains m
  | _ => false

theorem C15_src_switch_field : covers "Package.schemaFromDesc" "schema.Type" "isField_Type" = true := by
  decide +kernel
theorem C15_src_switch_root : covers "Package.buildRoot" "schema.Type" "isRootSchema_Type" = true := by
  decide +kernel
theorem C15_src_switch_inner :
    covers "Package.schemaFromDesc" "st.Object.Schema" "isObjectField_Schema" = true ∧
    covers "Package.schemaFromDesc" "st.Oneof.Schema" "isOneofField_Schema" = true ∧
    covers "Package.schemaFromDesc" "st.Enum.Schema" "isEnumField_Schema" = true := by decide +kernel

/-- the model's `SField` has one constructor per `FieldSchema` implementation, and the walk of
`assertRefsLink` has a case for each one that holds a reference or a nested field -/
theorem C15_src_field_impls :
    fieldSchemaImpls = ["AnyField", "ArrayField", "EnumField", "MapField", "ObjectField",
      "OneofField", "ScalarSchema"] ∧
    casesOf "Package.assertRefsLink" "root" =
      [["ObjectSchema", "OneofSchema", "EnumSchema", "default"],
       ["ObjectField", "OneofField", "EnumField", "MapField", "ArrayField"]] := by decide +kernel

end Src

end J5V.Props.C15
