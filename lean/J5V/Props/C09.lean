import J5V.Bcl.DescProofs
import J5V.Bcl.PreserveProofs
import J5V.Bcl.IdemProofs
import J5V.Bcl.BytesProofs
import J5V.Generated.BcltokensFacts
import J5V.Generated.BclunicodeFacts
/-!
# C09 — formatter preserves meaning, is idempotent and emits parseable source

Only property theorems (+ non-vacuity examples with the source `demoSrc` they read, + obligations over
regenerated source facts).
Models: `J5V.Bcl.Fmt` (`tokenSource`, `quoteString`, `doubleSlashes`, `diffFile`,
`reformatDescription`, `fmt`), `J5V.Bcl.Lexer`, `J5V.Bcl.Parser`, for sources given as bytes `J5V.Bcl.FmtDiffs`
(`fmtSrc`) and `J5V.Bcl.Utf8` (`decodeRunes`); definitions: `Equiv`, `FmtInv`, `LexSpec`, `DescItems`,
`ReadBackSpec`; lemmas: `J5V.Bcl.*Proofs`.
All statements hold for every classifier `cls` (hypotheses about `cls` are explicit).

Contents: token level (`C09_token_inv_*`, `C09_token_inv`, `C09_lexed_tokens_wf`), descriptions
(`C09_description_words`, `C09_description_reflow_stable`), whole files (`C09_line_inv`,
`C09_walk_position_free`, `C09_fragments_wf`, `C09_fragment_inv`, `C09_preserves_fragments`, **`C09_preserves`**,
`C09_output_parses`, **`C09_idempotent`**, `C09_formatter` = the property as stated; `C09_preserves_bytes`,
`C09_idempotent_bytes` for sources given as bytes), non-vacuity, source obligations.

## `C09_token_inv_*`: the lexer inverts `tokenSource` for every token kind

For each kind the hypothesis is the shape of literal the lexer can produce for that kind, and a
condition on the text that follows the token in the output (what the formatter puts there always
satisfies it: a space, an operator, a newline, or nothing).
-/
namespace J5V.Props.C09
open J5V.Bcl

/-! `LexesTo cls c src rest ty lit` (defined in `J5V.Bcl.FmtInv`): lexing `src ++ rest` from lexer state `c`
reads exactly one token `(ty, lit)` without error and stops before `rest`. -/

/-- STRING: every literal (quotes, backslashes, newlines, tabs, control and non-printable characters,
any Unicode), any following text. -/
theorem C09_token_inv_string (cls : Cls) (c : Cur) (tok : Token) (h : tok.ty = .string)
    (rest : List Rune) : LexesTo cls c (tokenSource tok) rest .string tok.lit := by
  unfold tokenSource; rw [h, quoteString_eq]; exact (Lexeme.string rest).lexesTo c

/-- REGEX: every literal the lexer can produce (`RegexLitWF`: non-empty, not starting with `/` or `*`,
no newline), in front of any text not starting with `/`. Slashes are doubled and read back single. -/
theorem C09_token_inv_regex (cls : Cls) (c : Cur) (tok : Token) (h : tok.ty = .regex)
    (hwf : RegexLitWF tok.lit) (rest : List Rune) (hrest : rest.head? ≠ some cSLASH) :
    LexesTo cls c (tokenSource tok) rest .regex tok.lit := by
  unfold tokenSource; rw [h]; exact (Lexeme.regex hwf hrest).lexesTo c

/-- IDENT and BOOL (an identifier-shaped literal is BOOL exactly when it spells `true` / `false`), in
front of text that does not continue the identifier. -/
theorem C09_token_inv_ident (cls : Cls) (c : Cur) (tok : Token)
    (h : tok.ty = .ident ∨ tok.ty = .bool) (hwf : IdentLitWF cls tok.lit) (rest : List Rune)
    (hstop : IdentStop cls rest) :
    LexesTo cls c (tokenSource tok) rest
      (if tok.lit = litTrue ∨ tok.lit = litFalse then .bool else .ident) tok.lit := by
  have : tokenSource tok = tok.lit := by unfold tokenSource; rcases h with h | h <;> rw [h]
  rw [this]; exact (Lexeme.ident hwf hstop).lexesTo c

/-- INT: a digit-headed run of digits, in front of text that is neither a digit nor `.`. -/
theorem C09_token_inv_int (cls : Cls) (c : Cur) (tok : Token) (h : tok.ty = .int) (r : Rune)
    (ds : List Rune) (hl : tok.lit = r :: ds) (hh : DigitHead cls r)
    (hds : ∀ x ∈ ds, cls.isDigit x = true) (rest : List Rune) (hstop : NumberStop cls rest) :
    LexesTo cls c (tokenSource tok) rest .int tok.lit := by
  have : tokenSource tok = tok.lit := by unfold tokenSource; rw [h]
  rw [this, hl]
  exact (Lexeme.int hh hds hstop).lexesTo c

/-- DECIMAL: digits, one `.`, digits (`.` is not a digit for the classifier). -/
theorem C09_token_inv_decimal (cls : Cls) (c : Cur) (tok : Token) (h : tok.ty = .decimal) (r : Rune)
    (ds fs : List Rune) (hl : tok.lit = r :: ds ++ cDOT :: fs) (hh : DigitHead cls r)
    (hds : ∀ x ∈ ds, cls.isDigit x = true) (hfs : ∀ x ∈ fs, cls.isDigit x = true)
    (hdot : cls.isDigit cDOT = false) (rest : List Rune) (hstop : NumberStop cls rest) :
    LexesTo cls c (tokenSource tok) rest .decimal tok.lit := by
  have : tokenSource tok = tok.lit := by unfold tokenSource; rw [h]
  rw [this, hl]
  exact (Lexeme.decimal hh hds hfs hdot hstop).lexesTo c

/-- COMMENT (`//…`): any literal without a newline, at the end of a line. -/
theorem C09_token_inv_comment (cls : Cls) (c : Cur) (tok : Token) (h : tok.ty = .comment)
    (hlit : ∀ r ∈ tok.lit, r ≠ cNL) (rest : List Rune) (hend : LineEnd rest) :
    LexesTo cls c (tokenSource tok) rest .comment tok.lit := by
  unfold tokenSource; rw [h]
  exact (Lexeme.comment hlit hend).lexesTo c

/-- BLOCK_COMMENT: any literal not containing `*/` (newlines allowed), any following text. -/
theorem C09_token_inv_blockComment (cls : Cls) (c : Cur) (tok : Token) (h : tok.ty = .blockComment)
    (hlit : NoCloser tok.lit) (rest : List Rune) :
    LexesTo cls c (tokenSource tok) rest .blockComment tok.lit := by
  unfold tokenSource; rw [h]
  exact (Lexeme.blockComment rest hlit).lexesTo c

/-- DESCRIPTION: a literal without newline that does not start with white space, at the end of a line
(`' '` must be white space for the classifier). -/
theorem C09_token_inv_description (cls : Cls) (hsp : cls.isSpace cSP = true) (c : Cur) (tok : Token)
    (h : tok.ty = .description) (hlit : ∀ r ∈ tok.lit, r ≠ cNL)
    (hhead : ∀ r, tok.lit.head? = some r → cls.isSpace r = false) (rest : List Rune)
    (hend : LineEnd rest) : LexesTo cls c (tokenSource tok) rest .description tok.lit := by
  unfold tokenSource; rw [h]
  exact (Lexeme.description (sp := [cSP])
    (fun r hr => by cases List.mem_singleton.mp hr; exact ⟨hsp, by decide⟩) hlit hhead hend).lexesTo c

/-- operators: the token's character -/
theorem C09_token_inv_operator (cls : Cls) (c : Cur) (tok : Token) (r : Rune)
    (hop : operatorOf r = some tok.ty) (hl : tok.lit = [r]) (rest : List Rune) :
    LexesTo cls c (tokenSource tok) rest tok.ty tok.lit := by
  have : tokenSource tok = tok.lit := by
    have := operatorOf_isOperator hop
    unfold tokenSource; cases hty : tok.ty <;> rw [hty] at this <;> first | rfl | cases this
  rw [this, hl]; exact (Lexeme.op rest hop).lexesTo c

/-! ## All kinds at once, for exactly the tokens the lexer produces -/

/-! `FollowOK cls ty rest` (defined in `J5V.Bcl.FmtInv`): what may follow the rendered token, by kind — REGEX:
not `/`; IDENT / BOOL: no letter, digit or `_`; INT / DECIMAL: no digit or `.`; COMMENT / DESCRIPTION: end
of line; other kinds: anything. What `Fmt` emits after a token always satisfies it (`C09_line_inv`). -/

/-- Every token of an error-free lex has a literal of the shape of its kind (`TokLitWF`). -/
theorem C09_lexed_tokens_wf (cls : Cls) (ff : Bool) (src : List Rune) (ts : List Token)
    (h : allTokens cls ff src = .toks ts) : ∀ t ∈ ts, TokLitWF cls t :=
  allTokens_tokwf h

/-- **`tokenSource` is inverted by the lexer for every token the lexer can produce**: for a token `t`
with a well-shaped literal, followed by admissible text, lexing `tokenSource t ++ rest` reads exactly
one token with the same kind and literal and leaves `rest`. (Kinds: every literal kind, every operator
and EOL; `' '` must be white space for the classifier — needed for DESCRIPTION only.) -/
theorem C09_token_inv (cls : Cls) (hsp : cls.isSpace cSP = true) (c : Cur) (t : Token)
    (hwf : TokLitWF cls t) (rest : List Rune) (hf : FollowOK cls t.ty rest)
    (hkind : t.ty.isLiteral = true ∨ t.ty.isOperator = true) :
    LexesTo cls c (tokenSource t) rest t.ty t.lit :=
  TokLitWF.lexesTo cls hsp c t hwf rest hf hkind

/-! ## Descriptions: same words and paragraph breaks; re-flowing is stable

`itemsOf cls lines` reads lines as items (the words of each line by `strings.Fields`, a marker for each
blank line); `canon` drops leading and repeated blank-line markers: the words in order and the
paragraph breaks of a description. -/

/-- Re-flowing a description keeps its words and paragraph breaks: the canonical items of
`strings.Join(reformatDescription(v, w), "\n")` — which is what the lexer + `popDescription` produce
from the formatted lines — equal those of `v`. Any width (also ≤ 0), any value. -/
theorem C09_description_words (cls : Cls) (hsp : cls.isSpace cSP = true) (v : List Rune)
    (maxWidth : Int) :
    canon (itemsOf cls (splitOn cNL (joinWith [cNL] (reformatDescription cls v maxWidth)))) =
      canon (itemsOf cls (splitOn cNL v)) :=
  reformat_preserves_words cls hsp v maxWidth

/-- Formatting a second time changes nothing in a description: re-flowing the already re-flowed text at
the same width gives the same lines. -/
theorem C09_description_reflow_stable (cls : Cls) (hsp : cls.isSpace cSP = true) (v : List Rune)
    (maxWidth : Int) :
    reformatDescription cls (joinWith [cNL] (reformatDescription cls v maxWidth)) maxWidth =
      reformatDescription cls v maxWidth :=
  reformat_stable cls hsp v maxWidth

/-! ## Whole files

`ClsOK cls` is what the whole-file theorems need from the classifier: `' '` and tab are white space,
and space, newline, tab and the operator characters `= { } [ ] . , : + ! ?` are neither letters nor
digits (Go's tables satisfy it: `C09_src_sep_class` below).

`Token.erase`, `Fragment.erase`, … set every position to `0:0` and keep everything else; `File.equiv cls f' f`
(and `Fragment.equivList`) say that two trees (fragment lists) are equal up to positions — the same blocks with the
same type, tags, marks, qualifiers, header description and trailing comment in the same nesting, the same
assignments with identical keys, operators and literal values — and that stand-alone descriptions have the same
words and paragraph breaks (`DescEquiv`, the notion of `C09_description_words`). -/

/-- **Line lemma**: the text of a part list `parts.flatMap tokenSource` (the formatter's single spaces are parts
of kind SPACE) in front of any `tail` lexes to exactly the non-space parts (same kinds as the lexer assigns, same
literals), provided adjacent parts do not run into each other (`PartsOK`: every non-space part has a literal of the
shape of its kind and is followed by admissible text) — which holds for the token lists the formatter builds for
a header and an assignment (`headerTokens_partsOK`, `assignTokens_partsOK`, used in `C09_fragment_inv`). -/
theorem C09_line_inv (cls : Cls) (hcls : ClsOK cls) (ps : List Token) (c : Cur) (tail : List Rune)
    (h : PartsOK cls ps tail) :
    ∃ new c', new.map Token.erase = canonParts ps ∧
      LexSeg cls c (ps.flatMap tokenSource) tail new c' :=
  LexSeg.parts hcls ps c tail h

/-- **The walker is position-independent**: walking tokens whose positions have been erased gives the erased
result (tree, diagnostics classes, or panic) — the tree depends only on kinds, literals and their order. -/
theorem C09_walk_position_free (ff : Bool) (ts : List Token) :
    walk ff (ts.map Token.erase) = (walk ff ts).erase :=
  walk_erase ff ts

/-- every fragment the formatter gets from an accepted source has the shape `FragWF` (identifiers are
identifier literals, tags are a reference or a string with an optional mark, values in arrays are literals that do
not end the line, …) — the hypothesis of `C09_fragment_inv` is what the walker produces -/
theorem C09_fragments_wf (cls : Cls) (src : List Rune) (frags : List Fragment)
    (h : collectFragments cls src = .ok frags) : ∀ f ∈ frags, FragWF cls f :=
  collectFragments_fragWF cls src frags h

/-- **One fragment** (header, close, assignment, description, comment): the text `fmtFragment` prints for it — at
any indent, from any lexer state, in front of any text — lexes to tokens from which `nextFragment` reads a
fragment denoting the same thing. (`rest`: the tokens that follow; after a stand-alone description they must not
start with a DESCRIPTION token, which `Fmt` guarantees by the blank line it keeps between two descriptions.) -/
theorem C09_fragment_inv (cls : Cls) (hcls : ClsOK cls) (indent : Nat) (f : Fragment)
    (hwf : FragWF cls f) (c : Cur) (tail : List Rune) :
    ∃ new c', LexSeg cls c (fmtFragment cls indent f).1.newText tail new c' ∧
      ∀ (prev : Option Token) (rest : List Token) (pfuel : Nat),
        (∀ d, f = .desc d → headTy rest ≠ some .description) → 2 * new.length ≤ pfuel →
        ∃ f' w', nextFragment pfuel ⟨prev, new ++ rest⟩ = .ok (some f') w' ∧
          Fragment.equiv cls f' f :=
  fragment_roundtrip cls hcls indent f hwf c tail

/-- **Fragments are preserved** (this includes the comments, which the tree drops): if the formatter's front end
accepts `src` with fragments `frags`, then `Fmt` succeeds, and its output is accepted with fragments that denote the
same: the same sequence of headers, closing braces, assignments, comments and descriptions. -/
theorem C09_preserves_fragments (cls : Cls) (hcls : ClsOK cls) (src : List Rune)
    (frags : List Fragment) (h : collectFragments cls src = .ok frags) :
    ∃ out frags', fmt cls src = .ok out ∧ collectFragments cls out = .ok frags' ∧
      Fragment.equivList cls frags' frags := by
  obtain ⟨hfmt, ts', frags', hts', _, hwk', hnorm⟩ := fmt_roundtrip cls hcls src frags h
  exact ⟨_, frags', hfmt, collectFragments_of hts' hwk',
    normFrags_equiv cls hcls.spSpace frags frags' 0 hnorm⟩

/-- **The formatter preserves the document**: for every classifier with `ClsOK`, every source (any runes),
both parser modes: if `ParseFile` accepts `src` with tree `f`, then `Fmt` succeeds and `ParseFile` accepts its
output with a tree `f'` denoting the same document (`File.equiv`). -/
theorem C09_preserves (cls : Cls) (hcls : ClsOK cls) (src : List Rune) (ff : Bool) (f : File)
    (h : parseFile cls src ff = .tree f) :
    ∃ out, fmt cls src = .ok out ∧ ∃ f', parseFile cls out ff = .tree f' ∧ File.equiv cls f' f :=
  parse_roundtrip cls hcls src ff f h

/-- **The formatter's output is accepted by the parser** (corollary) -/
theorem C09_output_parses (cls : Cls) (hcls : ClsOK cls) (src : List Rune) (ff : Bool) (f : File)
    (h : parseFile cls src ff = .tree f) :
    ∃ out f', fmt cls src = .ok out ∧ parseFile cls out ff = .tree f' := by
  obtain ⟨out, h1, f', h2, _⟩ := C09_preserves cls hcls src ff f h
  exact ⟨out, f', h1, h2⟩

/-- **Formatting the output a second time changes nothing**: for every classifier with `ClsOK` and every
source (any runes) on which `Fmt` succeeds — in particular every source the parser accepts (`C09_preserves`) —
`Fmt` of the output is the output. (Text of every fragment: the formatter's text does not depend on positions, and
re-flowing a re-flowed description is stable (`C09_description_reflow_stable`); blank lines: the fragments read
back from the output start / end on lines that reproduce the 0 / ≥ 1 blank-line decision.) -/
theorem C09_idempotent (cls : Cls) (hcls : ClsOK cls) (src out : List Rune)
    (h : fmt cls src = .ok out) : fmt cls out = .ok out :=
  fmt_idempotent cls hcls src out h

/-- the property as stated: accepted source ⇒ output accepted, same document, and a fixed point of `Fmt` -/
theorem C09_formatter (cls : Cls) (hcls : ClsOK cls) (src : List Rune) (ff : Bool) (f : File)
    (h : parseFile cls src ff = .tree f) :
    ∃ out f', fmt cls src = .ok out ∧ parseFile cls out ff = .tree f' ∧ File.equiv cls f' f ∧
      fmt cls out = .ok out := by
  obtain ⟨out, h1, f', h2, h3⟩ := C09_preserves cls hcls src ff f h
  exact ⟨out, f', h1, h2, h3, C09_idempotent cls hcls src out h1⟩

/-! ### On bytes (Go strings): `fmtSrc` = decode to runes, `Fmt`, encode to UTF-8

The formatter prints only runes of the source and ASCII punctuation (`fmt_runes`), decoding yields valid runes
(U+FFFD for invalid bytes) and encoding valid runes is inverted by decoding (`decode_encode`), so both whole-file
theorems hold for `parser.Fmt(string) string` on arbitrary byte strings, invalid UTF-8 included. -/

/-- `C09_preserves` for a source given as bytes -/
theorem C09_preserves_bytes (cls : Cls) (hcls : ClsOK cls) (bytes : List Nat) (ff : Bool) (f : File)
    (h : parseFile cls (decodeRunes bytes) ff = .tree f) :
    ∃ out, fmtSrc cls bytes = .ok out ∧
      ∃ f', parseFile cls (decodeRunes out) ff = .tree f' ∧ File.equiv cls f' f :=
  parse_roundtrip_bytes cls hcls bytes ff f h

/-- `C09_idempotent` for a source given as bytes -/
theorem C09_idempotent_bytes (cls : Cls) (hcls : ClsOK cls) (bytes out : List Nat)
    (h : fmtSrc cls bytes = .ok out) : fmtSrc cls out = .ok out :=
  fmtSrc_idempotent cls hcls bytes out h

/-! ## Non-vacuity -/

/-- a description with odd spacing, a tab, leading and repeated blank lines, re-flowed at width 6 -/
example : reformatDescription asciiCls (ofAscii "\n aa   bb\tcc\n\n\n dd") 6 =
    [ofAscii "aa bb", ofAscii "cc", [], ofAscii "dd"] := by decide +kernel
example : canon (itemsOf asciiCls (splitOn cNL (ofAscii "\n aa   bb\tcc\n\n\n dd"))) =
    [.word (ofAscii "aa"), .word (ofAscii "bb"), .word (ofAscii "cc"), .blank, .word (ofAscii "dd")] := by
  decide +kernel

/-- the ASCII classifier meets `ClsOK` -/
example : ClsOK asciiCls := ⟨by decide, by decide, by decide⟩
/-- a source with every fragment kind, tags with marks, qualifiers, nested arrays, a reference value, trailing
comments, a re-flowed description, blank-line runs: it is accepted, `Fmt` succeeds and changes it -/
def demoSrc : List Rune := ofAscii
  "foo b.c \"x\" ! q :? \"w\" { // c\n a = [1, /r//x/, [b.c]] // t\n\n\n | one   two\n | three\n x.y += /* bc */\n}\n| d1\n\n| d2\nh | hd\na = // vc\n"
example : (match parseFile asciiCls demoSrc true with | .tree _ => true | _ => false) = true := by
  decide +kernel
example : (match fmt asciiCls demoSrc with | .ok out => decide (out ≠ demoSrc) | _ => false) = true := by
  decide +kernel

/-- the equivalence is not trivial: a different literal, or a different word, is a different document -/
example : ¬ Fragment.equiv asciiCls
    (.comment ⟨⟨.comment, ofAscii " a", ⟨0, 0⟩, ⟨0, 4⟩⟩, ofAscii " a", ⟨⟨0, 0⟩, ⟨0, 4⟩⟩⟩)
    (.comment ⟨⟨.comment, ofAscii " b", ⟨3, 0⟩, ⟨3, 4⟩⟩, ofAscii " b", ⟨⟨3, 0⟩, ⟨3, 4⟩⟩⟩) := by
  simp [Fragment.equiv, Comment.erase, Token.erase, ofAscii]
example : Fragment.equiv asciiCls
    (.comment ⟨⟨.comment, ofAscii " a", ⟨0, 0⟩, ⟨0, 4⟩⟩, ofAscii " a", ⟨⟨0, 0⟩, ⟨0, 4⟩⟩⟩)
    (.comment ⟨⟨.comment, ofAscii " a", ⟨3, 0⟩, ⟨3, 4⟩⟩, ofAscii " a", ⟨⟨3, 0⟩, ⟨3, 4⟩⟩⟩) := by
  simp [Fragment.equiv, Comment.erase, Token.erase, Span.zero]
example : ¬ DescEquiv asciiCls ⟨[], ofAscii "one two", Span.zero⟩ ⟨[], ofAscii "one\ntwo three", Span.zero⟩ := by
  unfold DescEquiv; decide +kernel
example : DescEquiv asciiCls ⟨[], ofAscii "one  two\n\n\nthree", Span.zero⟩ ⟨[], ofAscii "one\ntwo\n\nthree", Span.zero⟩ := by
  unfold DescEquiv; decide +kernel

/-- `a/b"c` is a well-formed regex literal -/
example : RegexLitWF [97, 47, 98, 34, 99] :=
  ⟨⟨97, [47, 98, 34, 99], rfl, by decide, by decide⟩, by decide⟩
/-- `x_1` is a well-formed identifier for the ASCII classifier -/
example : IdentLitWF asciiCls (ofAscii "x_1") :=
  ⟨by decide, fun r h => by
      have : r = 120 := by simpa [ofAscii] using h.symm
      subst this
      exact ⟨by decide, by decide, by decide, by decide, by decide, by decide, by decide, by decide⟩,
    by decide⟩
example : NoCloser (ofAscii "a * / b **") := by decide +kernel
example : asciiCls.isSpace cSP = true := by decide
/-- an error-free lex with every literal kind -/
example : (match allTokens asciiCls true
      (ofAscii "a.b = [1, 2.5, \"x\\\"\", /r//x/, true] // c\n/* b */ | d\n") with
    | .toks ts => decide (ts.length = 20) | _ => false) = true := by decide +kernel

end J5V.Props.C09

/-! ## Obligations over facts regenerated from the current source -/
namespace J5V.Props.C09
open J5V.Generated.Bcltokens

theorem C09_src_tokenSource : tokenSourceCases =
    [("STRING", "quoteString(tok.Lit)"),
     ("REGEX", "fmt.Sprintf(\"/%s/\", strings.ReplaceAll(tok.Lit, \"/\", \"//\"))"),
     ("DESCRIPTION", "fmt.Sprintf(\"| %s\", tok.Lit)"),
     ("COMMENT", "fmt.Sprintf(\"//%s\", tok.Lit)"),
     ("BLOCK_COMMENT", "fmt.Sprintf(\"/*%s*/\", tok.Lit)"),
     ("otherwise", "tok.Lit")] := rfl
theorem C09_src_quoteString : quoteStringBody =
    "{ sb := &strings.Builder{} sb.WriteByte('\"') for _, r := range lit { switch r { case '\\\\', '\"', '\\n': sb.WriteByte('\\\\') } sb.WriteRune(r) } sb.WriteByte('\"') return sb.String() }" := by
  rfl
/-- in Go's tables `' '` is white space (bit 1) — the classifier hypothesis of the DESCRIPTION and
description-reflow theorems -/
theorem C09_src_space_class : J5V.Generated.Bclunicode.asciiClass.getD 32 0 % 2 = 1 := by decide
/-- in Go's tables `' '` and tab are white space (bit 1), and space, newline, tab and the operator characters are
neither digits (bit 2) nor letters (bit 4) — the classifier hypothesis `ClsOK` of the whole-file theorems -/
theorem C09_src_sep_class :
    J5V.Generated.Bclunicode.asciiClass.getD 32 0 % 2 = 1 ∧ J5V.Generated.Bclunicode.asciiClass.getD 9 0 % 2 = 1 ∧
    ∀ r ∈ J5V.Bcl.sepRunes, (J5V.Generated.Bclunicode.asciiClass.getD r 0 / 2) % 4 = 0 := by
  decide +kernel
theorem C09_src_description : descriptionWordSplit = "strings.Fields(line)" ∧
    descriptionConds = ["strings.TrimSpace(line) == \"\"", "pend != \"\"",
      "!lastWasEmpty && len(linesOut) > 0", "pend == \"\"", "len(pend)+len(word) > maxWidth",
      "pend != \"\""] := ⟨rfl, rfl⟩

end J5V.Props.C09
