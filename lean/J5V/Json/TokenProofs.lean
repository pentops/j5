import J5V.Json.Token
/-!
# The tokenizer model: every `Token()` call consumes input, fuel is never exhausted
-/
namespace J5V.Json

theorem skipWs_length (inp : Bytes) : (skipWs inp).length ≤ inp.length := by
  induction inp with
  | nil => simp [skipWs]
  | cons c t ih =>
    unfold skipWs
    split
    · simp only [List.length_cons]; omega
    · simp

theorem spanDigits_eq (s : Bytes) : s = (spanDigits s).1 ++ (spanDigits s).2 := by
  induction s with
  | nil => simp [spanDigits]
  | cons c t ih =>
    unfold spanDigits
    split
    · simp only [List.cons_append]; congr 1
    · simp

theorem stripPrefix_eq : ∀ (p s r : Bytes), stripPrefix p s = some r → s = p ++ r
  | [], s, r, h => by simp [stripPrefix] at h; simp [h]
  | _ :: _, [], r, h => by simp [stripPrefix] at h
  | a :: ps, c :: cs, r, h => by
    simp only [stripPrefix] at h
    split at h
    · next hac => subst hac; rw [stripPrefix_eq ps cs r h]; rfl
    · cases h

theorem hex4_eq (s : Bytes) (n : Nat) (r : Bytes) (h : hex4 s = some (n, r)) : s = s.take 4 ++ r := by
  unfold hex4 at h
  split at h
  · split at h
    · cases h; rfl
    · cases h
  · cases h

theorem getu4_eq (s : Bytes) (n : Nat) (r : Bytes) (h : getu4 s = some (n, r)) : s = s.take 6 ++ r := by
  unfold getu4 at h
  split at h
  · next rest => exact congrArg (0x5C :: 0x75 :: ·) (hex4_eq rest n r h)
  · cases h

theorem readUnicode_eq (rest2 d raw r : Bytes) (h : readUnicode rest2 = some (d, raw, r)) :
    rest2 = raw ++ r := by
  unfold readUnicode at h
  cases hh4 : hex4 rest2 with
  | none => simp [hh4] at h
  | some x =>
    obtain ⟨rr, rest3⟩ := x
    have e4 := hex4_eq rest2 rr rest3 hh4
    simp only [hh4] at h
    split at h
    · next dec rest4 hpair =>
      have hg : ∃ rr1, getu4 rest3 = some (rr1, rest4) := by
        split at hpair
        · cases hg' : getu4 rest3 with
          | none => simp [hg'] at hpair
          | some y =>
            obtain ⟨rr1, r4⟩ := y
            simp only [hg'] at hpair
            split at hpair
            · simp only [Option.some.injEq, Prod.mk.injEq] at hpair
              exact ⟨rr1, by rw [hpair.2]⟩
            · cases hpair
        · cases hpair
      obtain ⟨rr1, hg'⟩ := hg
      have e6 := getu4_eq rest3 rr1 rest4 hg'
      simp only [Option.some.injEq, Prod.mk.injEq] at h
      obtain ⟨_, rfl, rfl⟩ := h
      rw [List.append_assoc, ← e6, ← e4]
    · simp only [Option.some.injEq, Prod.mk.injEq] at h
      obtain ⟨_, rfl, rfl⟩ := h
      exact e4

/-- what one step of the string scanner consumes -/
theorem stringStep_consumes (s : Bytes) :
    match stringStep s with
    | .done rest => s = 0x22 :: rest
    | .chunk _ raw rest => s = raw ++ rest
    | .fail => True := by
  unfold stringStep
  match s with
  | [] => trivial
  | c :: t =>
    simp only []
    -- `split` is very slow on conditions `c = 0x..` over `UInt8`; `by_cases` and `if_pos` / `if_neg` are not
    by_cases h1 : c = 0x22
    · rw [if_pos h1, h1]
    rw [if_neg h1]
    by_cases h2 : c = 0x5C
    · rw [if_pos h2]
      match t with
      | [] => trivial
      | e :: t2 =>
        simp only []
        cases simpleEscape e with
        | some out => rfl
        | none =>
          simp only []
          by_cases h3 : e = 0x75
          · rw [if_pos h3]
            cases hu : readUnicode t2 with
            | none => trivial
            | some x => exact congrArg (c :: e :: ·) (readUnicode_eq t2 x.1 x.2.1 x.2.2 hu)
          · rw [if_neg h3]; trivial
    rw [if_neg h2]
    by_cases h3 : c.toNat < 0x20
    · rw [if_pos h3]; trivial
    rw [if_neg h3]
    by_cases h4 : c.toNat < 0x80
    · rw [if_pos h4]; rfl
    rw [if_neg h4]
    by_cases h5 : (decodeRune (c :: t)).1 = runeError ∧ (decodeRune (c :: t)).2 = 1
    · rw [if_pos h5]; rfl
    · rw [if_neg h5]; exact (List.take_append_drop _ _).symm

/-- the raw literal `readString` returns is exactly the input it consumed -/
theorem readString_eq : ∀ (F : Nat) (s d raw r : Bytes), readString F s = some (d, raw, r) →
    s = raw ++ r
  | 0, _, _, _, _, h => nomatch h
  | F + 1, s, d, raw, r, h => by
    have hc := stringStep_consumes s
    rw [readString] at h
    cases hs : stringStep s with
    | fail => rw [hs] at h; cases h
    | done rest => rw [hs] at h hc; cases h; exact hc
    | chunk d0 raw0 rest =>
      simp only [hs] at h hc
      cases hr : readString F rest with
      | none => rw [hr] at h; cases h
      | some x =>
        rw [hr] at h; cases h
        rw [List.append_assoc, ← readString_eq F rest _ _ _ hr]; exact hc

/-! ## numbers and literals -/

theorem scanSign_eq (s : Bytes) : s = (scanSign s).1 ++ (scanSign s).2 := by
  unfold scanSign; split <;> simp

theorem scanInt_eq (s a r : Bytes) (h : scanInt s = some (a, r)) : s = a ++ r ∧ a ≠ [] := by
  unfold scanInt at h
  cases s with
  | nil => cases h
  | cons c t =>
    simp only [] at h
    split at h
    · cases h; exact ⟨rfl, by simp⟩
    · split at h
      · cases h
        exact ⟨by rw [List.cons_append, ← spanDigits_eq], by simp⟩
      · cases h

theorem scanFrac_eq (s a r : Bytes) (h : scanFrac s = some (a, r)) : s = a ++ r := by
  unfold scanFrac at h
  split at h
  · next r2 =>
    simp only [] at h
    split at h
    · cases h
    · cases h; rw [List.cons_append, ← spanDigits_eq]
  · cases h; rfl

theorem scanExpSign_eq (s : Bytes) : s = (scanExpSign s).1 ++ (scanExpSign s).2 := by
  unfold scanExpSign; split <;> simp

theorem scanExp_eq (s a r : Bytes) (h : scanExp s = some (a, r)) : s = a ++ r := by
  unfold scanExp at h
  split at h
  · cases h; rfl
  · next e r3 =>
    split at h
    · simp only [] at h
      split at h
      · cases h
      · cases h
        rw [List.cons_append, List.append_assoc, ← spanDigits_eq, ← scanExpSign_eq]
    · cases h; rfl

theorem scanNumber_eq (s t r : Bytes) (h : scanNumber s = some (t, r)) : s = t ++ r ∧ t ≠ [] := by
  unfold scanNumber at h
  simp only [] at h
  cases hi : scanInt (scanSign s).2 with
  | none => simp [hi] at h
  | some x =>
    obtain ⟨ip, a1⟩ := x
    simp only [hi] at h
    cases hf : scanFrac a1 with
    | none => simp [hf] at h
    | some y =>
      obtain ⟨fp, a2⟩ := y
      simp only [hf] at h
      cases he : scanExp a2 with
      | none => simp [he] at h
      | some z =>
        obtain ⟨ep, a3⟩ := z
        simp only [he, Option.some.injEq, Prod.mk.injEq] at h
        obtain ⟨rfl, rfl⟩ := h
        obtain ⟨e1, hne⟩ := scanInt_eq _ _ _ hi
        have e2 := scanFrac_eq _ _ _ hf
        have e3 := scanExp_eq _ _ _ he
        refine ⟨?_, ?_⟩
        · conv => lhs; rw [scanSign_eq s, e1, e2, e3]
          simp [List.append_assoc]
        · intro hnil
          simp only [List.append_eq_nil_iff] at hnil
          exact hne hnil.1.1.2

/-- a scalar token consumes at least one byte -/
theorem scanScalar_length (s : Bytes) (t : Tok) (r : Bytes) (h : scanScalar s = some (t, r)) :
    r.length < s.length := by
  match s with
  | [] => cases h
  | c :: rest =>
    have lit : ∀ (p : Bytes) (tk : Tok),
        (stripPrefix p rest).map (fun r => (tk, r)) = some (t, r) → r.length < (c :: rest).length := by
      intro p tk hh
      cases hp : stripPrefix p rest with
      | none => rw [hp] at hh; cases hh
      | some r' =>
        rw [hp] at hh; cases hh
        rw [stripPrefix_eq p rest r hp]
        simp only [List.length_cons, List.length_append]; omega
    unfold scanScalar at h
    simp only [] at h
    by_cases h1 : c = 0x22
    · rw [if_pos h1] at h
      cases hr : readString (rest.length + 1) rest with
      | none => rw [hr] at h; cases h
      | some x =>
        rw [hr] at h; cases h
        rw [readString_eq _ _ _ _ _ hr]
        simp only [List.length_cons, List.length_append]; omega
    rw [if_neg h1] at h
    by_cases h2 : c = 0x74
    · rw [if_pos h2] at h; exact lit _ _ h
    rw [if_neg h2] at h
    by_cases h3 : c = 0x66
    · rw [if_pos h3] at h; exact lit _ _ h
    rw [if_neg h3] at h
    by_cases h4 : c = 0x6E
    · rw [if_pos h4] at h; exact lit _ _ h
    rw [if_neg h4] at h
    by_cases h5 : c = 0x2D ∨ isDigit c
    · rw [if_pos h5] at h
      cases hn : scanNumber (c :: rest) with
      | none => rw [hn] at h; cases h
      | some x =>
        rw [hn] at h; cases h
        obtain ⟨e, hne⟩ := scanNumber_eq _ _ _ hn
        rw [e, List.length_append]
        have := List.length_pos_iff.mpr hne
        omega
    · rw [if_neg h5] at h; cases h

/-! ## fuel -/

/-- The outcomes of one `Token()` iteration: what is handed on is the input after its leading
whitespace, less its first byte or less the scalar at its head. -/
theorem tokStep_cases {P : TokStep → Prop} (st : TS) (stack : List TS) (inp : Bytes)
    (eof : P .eof) (bad : ∀ b, P (.bad b))
    (byte : ∀ c rest t st' stack', skipWs inp = c :: rest → P (.emit t st' stack' rest))
    (scalar : ∀ t r st', scanScalar (skipWs inp) = some (t, r) → P (.emit t st' stack r))
    (skip : ∀ c rest st', skipWs inp = c :: rest → P (.skip st' stack rest)) :
    P (tokStep st stack inp) := by
  unfold tokStep
  split
  · exact eof
  next c rest hsk =>
  rw [hsk] at scalar
  have closer : ∀ t, P (match stack with
      | [] => .bad true
      | s :: stack' => .emit t (valueEnd s) stack' rest) := fun t => by
    cases stack with
    | nil => exact bad _
    | cons s stack' => exact byte _ _ _ _ _ hsk
  have value : ∀ st', P (match scanScalar (c :: rest) with
      | some (t, r) => .emit t st' stack r
      | none => .bad false) := fun st' => by
    cases hs : scanScalar (c :: rest) with
    | none => exact bad _
    | some x => exact scalar _ _ _ hs
  by_cases h : c = 0x5B
  · rw [if_pos h]; split; exact byte _ _ _ _ _ hsk; exact bad _
  rw [if_neg h]
  by_cases h : c = 0x5D
  · rw [if_pos h]; split; exact closer _; exact bad _
  rw [if_neg h]
  by_cases h : c = 0x7B
  · rw [if_pos h]; split; exact byte _ _ _ _ _ hsk; exact bad _
  rw [if_neg h]
  by_cases h : c = 0x7D
  · rw [if_pos h]; split; exact closer _; exact bad _
  rw [if_neg h]
  by_cases h : c = 0x3A
  · rw [if_pos h]; split; exact skip _ _ _ hsk; exact bad _
  rw [if_neg h]
  by_cases h : c = 0x2C
  · rw [if_pos h]; split; exact skip _ _ _ hsk; split; exact skip _ _ _ hsk; exact bad _
  rw [if_neg h]
  split
  · exact value _
  split
  · exact bad _
  · exact value _

/-- every step that continues hands on a strictly shorter input -/
theorem tokStep_length (st : TS) (stack : List TS) (inp : Bytes) :
    match tokStep st stack inp with
    | .emit _ _ _ rest | .skip _ _ rest => rest.length < inp.length
    | _ => True := by
  have hws := skipWs_length inp
  refine tokStep_cases (P := fun s => match s with
    | .emit _ _ _ rest | .skip _ _ rest => rest.length < inp.length
    | _ => True) st stack inp trivial (fun _ => trivial) ?_ ?_ ?_
  · intro c rest _ _ _ hsk
    rwa [hsk] at hws
  · intro t r _ hs
    exact Nat.lt_of_lt_of_le (scanScalar_length _ _ _ hs) hws
  · intro c rest _ hsk
    rwa [hsk] at hws

/-- with more fuel than input bytes the result does not depend on the fuel and never contains the
exhaustion marker -/
theorem tokLoop_fuel : ∀ (f f' : Nat) (st : TS) (stack : List TS) (inp : Bytes),
    inp.length < f → inp.length < f' →
    tokLoop f st stack inp = tokLoop f' st stack inp ∧ Item.fuel ∉ tokLoop f st stack inp := by
  intro f
  induction f with
  | zero => intro f' st stack inp h; omega
  | succ f ih =>
    intro f' st stack inp h h'
    cases f' with
    | zero => omega
    | succ f' =>
      have hlen := tokStep_length st stack inp
      simp only [tokLoop]
      cases hs : tokStep st stack inp with
      | eof => simp
      | bad c => simp
      | emit t st' stack' rest =>
        rw [hs] at hlen
        obtain ⟨h1, h2⟩ := ih f' st' stack' rest (by omega) (by omega)
        simp only []
        exact ⟨by rw [h1], by simp [h2]⟩
      | skip st' stack' rest =>
        rw [hs] at hlen
        exact ih f' st' stack' rest (by omega) (by omega)

/-- **the tokenizer never runs out of fuel**: `Item.fuel` does not occur in `tokenize bs` -/
theorem tokenize_no_fuel (bs : Bytes) : Item.fuel ∉ tokenize bs :=
  (tokLoop_fuel (bs.length + 1) (bs.length + 1) .top [] bs (by omega) (by omega)).2

end J5V.Json
