import J5V.Json.Token
/-!
# Partial JSON trees

`buildValue` on `tokenize bytes` (`readDoc`) groups the token stream delivered by `Decoder.Token()` into a tree, up
to the first failing `Token()` call. The tree records exactly what a streaming client that uses
`Token()`, `More()` and `Decode(&raw)` can observe, in the order it observes it:

* `PTree.bad` — the `Token()` call that should deliver (the first token of) this value fails
  (syntax error or `io.EOF`);
* the terminator of a member / element list:
  `closed`   — `More()` is false and the next `Token()` delivers the matching closer;
  `errAfter` — `More()` is false (next byte is `]`/`}` in the wrong place, or EOF) and the next
               `Token()` fails: a client leaves its `for dec.More()` loop normally, runs whatever
               it does after the loop, and fails when it asks for the closer;
  `errIn`    — `More()` is true and the next `Token()` fails: the client fails inside the loop.

Nothing after the first failure is represented (a streaming client never gets there).

The same type is the output of the encoder model (`render`); `PTree.raw` (bytes inserted
verbatim, used for the value of an `Any`) is produced only by the encoder, never by `buildValue`.
-/
namespace J5V.Json

inductive Term where
  | closed | errAfter | errIn
  deriving Repr, DecidableEq, Inhabited

mutual
inductive PTree where
  | str (s raw : Bytes)
  | num (text : Bytes)
  | bool (b : Bool)
  | null
  | obj (ms : PMembers)
  | arr (xs : PElems)
  | bad
  | raw (bs : Bytes)
inductive PMembers where
  | nil (t : Term)
  | cons (k kraw : Bytes) (v : PTree) (rest : PMembers)
inductive PElems where
  | nil (t : Term)
  | cons (v : PTree) (rest : PElems)
end

instance : Inhabited PTree := ⟨.bad⟩

mutual
/-- the value starting at the head of the item list -/
def buildValue : Nat → List Item → PTree × List Item
  | 0, its => (.bad, its)
  | _ + 1, [] => (.bad, [])
  | f + 1, .tok t :: rest =>
    match t with
    | .str s raw => (.str s raw, rest)
    | .num x => (.num x, rest)
    | .tru => (.bool true, rest)
    | .fls => (.bool false, rest)
    | .null => (.null, rest)
    | .lb => let r := buildMembers f rest; (.obj r.1, r.2)
    | .lk => let r := buildElems f rest; (.arr r.1, r.2)
    | .rb => (.bad, [])
    | .rk => (.bad, [])
  | _ + 1, _ :: _ => (.bad, [])
/-- members of an object whose `{` has been consumed -/
def buildMembers : Nat → List Item → PMembers × List Item
  | 0, its => (.nil .errIn, its)
  | _ + 1, [] => (.nil .errAfter, [])
  | f + 1, it :: rest =>
    match it with
    | .bad true => (.nil .errAfter, [])
    | .tok .rb => (.nil .closed, rest)
    | .tok (.str k kraw) =>
      let v := buildValue f rest
      let ms := buildMembers f v.2
      (.cons k kraw v.1 ms.1, ms.2)
    | _ => (.nil .errIn, [])
/-- elements of an array whose `[` has been consumed -/
def buildElems : Nat → List Item → PElems × List Item
  | 0, its => (.nil .errIn, its)
  | _ + 1, [] => (.nil .errAfter, [])
  | f + 1, it :: rest =>
    match it with
    | .bad true => (.nil .errAfter, [])
    | .bad false => (.nil .errIn, [])
    | .fuel => (.nil .errIn, [])
    | .tok .rk => (.nil .closed, rest)
    | .tok .rb => (.nil .errAfter, [])
    | .tok _ =>
      let v := buildValue f (it :: rest)
      let xs := buildElems f v.2
      (.cons v.1 xs.1, xs.2)
end

/-- the tree of the first top-level value of a document (anything after it is never read). -/
def readDoc (bs : Bytes) : PTree :=
  let its := tokenize bs
  (buildValue (its.length + 1) its).1

mutual
/-- bytes of a tree as the encoder writes them: no whitespace, strings by their raw literal. -/
def PTree.render : PTree → Bytes
  | .str _ raw => raw
  | .num t => t
  | .bool true => ascii "true"
  | .bool false => ascii "false"
  | .null => ascii "null"
  | .obj ms => 0x7B :: ms.render true
  | .arr xs => 0x5B :: xs.render true
  | .bad => []
  | .raw bs => bs
def PMembers.render : PMembers → Bool → Bytes
  | .nil _, _ => [0x7D]
  | .cons _ kraw v rest, first =>
    (if first then [] else [0x2C]) ++ kraw ++ [0x3A] ++ v.render ++ rest.render false
def PElems.render : PElems → Bool → Bytes
  | .nil _, _ => [0x5D]
  | .cons v rest, first => (if first then [] else [0x2C]) ++ v.render ++ rest.render false
end

mutual
/-- no failure anywhere, every container closed (and no `raw` chunk) -/
def PTree.complete : PTree → Bool
  | .obj ms => ms.complete
  | .arr xs => xs.complete
  | .bad => false
  | .raw _ => false
  | _ => true
def PMembers.complete : PMembers → Bool
  | .nil t => t == .closed
  | .cons _ _ v rest => v.complete && rest.complete
def PElems.complete : PElems → Bool
  | .nil t => t == .closed
  | .cons v rest => v.complete && rest.complete
end

mutual
def PTree.depth : PTree → Nat
  | .obj ms => ms.depth + 1
  | .arr xs => xs.depth + 1
  | _ => 0
def PMembers.depth : PMembers → Nat
  | .nil _ => 0
  | .cons _ _ v rest => max v.depth rest.depth
def PElems.depth : PElems → Nat
  | .nil _ => 0
  | .cons v rest => max v.depth rest.depth
end

mutual
/-- number of nodes (for the step bound of C06) -/
def PTree.size : PTree → Nat
  | .obj ms => ms.size + 1
  | .arr xs => xs.size + 1
  | _ => 1
def PMembers.size : PMembers → Nat
  | .nil _ => 1
  | .cons _ _ v rest => v.size + rest.size + 1
def PElems.size : PElems → Nat
  | .nil _ => 1
  | .cons v rest => v.size + rest.size + 1
end

/-- `popValueAsBytes`: `Decoder.Decode(&json.RawMessage{})` followed by `json.Compact`.
`Decode` re-scans the value with the full scanner, which accepts exactly the complete values
and additionally enforces `maxNestingDepth = 10000`. -/
def popValueAsBytes (t : PTree) : Option Bytes :=
  if t.complete && t.depth ≤ 10000 then some t.render else none

end J5V.Json
