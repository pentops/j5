import J5V.Json.Tree
/-!
# Trees that read back: `PTree.Enc`

The trees the statements about the encoder's output are made for (C08, C01 on bytes). Definitions only;
`readDoc (render t) = t` for them is `Json/ReaderProofs.lean`.
-/
namespace J5V.Json
open J5V.Go

/-- the literal reads back as `s` (what `appendString s = .ok raw` guarantees) -/
def LitOk (s raw : Bytes) : Prop :=
  ∃ body, raw = 0x22 :: (body ++ [0x22]) ∧
    ∀ (rest : Bytes) (F : Nat), body.length < F →
      readString F (body ++ 0x22 :: rest) = some (s, body ++ [0x22], rest)

/-- what may follow a value in rendered output: nothing, or `,` `}` `]` -/
def AfterValue : Bytes → Prop
  | [] => True
  | c :: _ => c = 0x2C ∨ c = 0x7D ∨ c = 0x5D

/-- the text is a number literal the scanner reads back, whatever follows -/
def NumOk (t : Bytes) : Prop :=
  (∃ c r, t = c :: r ∧ (c = 0x2D ∨ isDigit c = true)) ∧
  ∀ rest, AfterValue rest → scanNumber (t ++ rest) = some (t, rest)

mutual
/-- trees the encoder produces (no `raw` chunk): closed containers, literals that read back -/
def PTree.Enc : PTree → Prop
  | .str s raw => LitOk s raw
  | .num t => NumOk t
  | .bool _ => True
  | .null => True
  | .obj ms => ms.Enc
  | .arr xs => xs.Enc
  | .bad => False
  | .raw _ => False
def PMembers.Enc : PMembers → Prop
  | .nil t => t = .closed
  | .cons k kraw v rest => LitOk k kraw ∧ v.Enc ∧ rest.Enc
def PElems.Enc : PElems → Prop
  | .nil t => t = .closed
  | .cons v rest => v.Enc ∧ rest.Enc
end

end J5V.Json
