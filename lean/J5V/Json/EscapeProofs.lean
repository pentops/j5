import J5V.Json.Escape
/-!
# The string escaper writes JSON string literals that denote the input

(`C08_escape_valid`; C01's round trip uses it as `LitOk_of_appendString`, through `Codec/EncTreeProofs.lean`.)
-/
namespace J5V.Json
open J5V.Go

theorem leadInfo_some (p0 sz lo hi : Nat) (h : leadInfo p0 = some (sz, lo, hi)) :
    (sz = 2 ∧ 0xC2 ≤ p0 ∧ p0 ≤ 0xDF ∧ lo = 0x80 ∧ hi = 0xBF) ∨
    (sz = 3 ∧ p0 = 0xE0 ∧ lo = 0xA0 ∧ hi = 0xBF) ∨
    (sz = 3 ∧ 0xE1 ≤ p0 ∧ p0 ≤ 0xEF ∧ 0x80 ≤ lo ∧ hi ≤ 0xBF) ∨
    (sz = 4 ∧ p0 = 0xF0 ∧ lo = 0x90 ∧ hi = 0xBF) ∨
    (sz = 4 ∧ 0xF1 ≤ p0 ∧ p0 ≤ 0xF4 ∧ 0x80 ≤ lo ∧ hi ≤ 0xBF) := by
  unfold leadInfo at h
  by_cases h1 : 0xC2 ≤ p0 ∧ p0 ≤ 0xDF
  · rw [if_pos h1] at h; cases h; exact .inl ⟨rfl, h1.1, h1.2, rfl, rfl⟩
  rw [if_neg h1] at h
  by_cases h2 : p0 = 0xE0
  · rw [if_pos h2] at h; cases h; exact .inr (.inl ⟨rfl, h2, rfl, rfl⟩)
  rw [if_neg h2] at h
  by_cases h3 : (0xE1 ≤ p0 ∧ p0 ≤ 0xEC) ∨ p0 = 0xEE ∨ p0 = 0xEF
  · rw [if_pos h3] at h; cases h
    exact .inr (.inr (.inl ⟨rfl, by omega, by omega, Nat.le_refl _, Nat.le_refl _⟩))
  rw [if_neg h3] at h
  by_cases h4 : p0 = 0xED
  · rw [if_pos h4] at h; cases h
    exact .inr (.inr (.inl ⟨rfl, by omega, by omega, Nat.le_refl _, by decide⟩))
  rw [if_neg h4] at h
  by_cases h5 : p0 = 0xF0
  · rw [if_pos h5] at h; cases h; exact .inr (.inr (.inr (.inl ⟨rfl, h5, rfl, rfl⟩)))
  rw [if_neg h5] at h
  by_cases h6 : 0xF1 ≤ p0 ∧ p0 ≤ 0xF3
  · rw [if_pos h6] at h; cases h
    exact .inr (.inr (.inr (.inr ⟨rfl, h6.1, by omega, Nat.le_refl _, Nat.le_refl _⟩)))
  rw [if_neg h6] at h
  by_cases h7 : p0 = 0xF4
  · rw [if_pos h7] at h; cases h
    exact .inr (.inr (.inr (.inr ⟨rfl, by omega, by omega, Nat.le_refl _, by decide⟩)))
  rw [if_neg h7] at h; cases h

/-- the shapes `DecodeRune` can return on a non-empty input -/
theorem decodeRune_cases (c : UInt8) (t : Bytes) :
    (c.toNat < 0x80 ∧ decodeRune (c :: t) = (c.toNat, 1)) ∨
    (0x80 ≤ c.toNat ∧ decodeRune (c :: t) = (runeError, 1)) ∨
    (0x80 ≤ c.toNat ∧ ∃ r n, decodeRune (c :: t) = (r, n) ∧ 2 ≤ n ∧ n ≤ (c :: t).length ∧ 0x80 ≤ r ∧
      ∀ X, decodeRune ((c :: t).take n ++ X) = (r, n)) := by
  by_cases h80 : c.toNat < 0x80
  · left; exact ⟨h80, by simp [decodeRune, h80]⟩
  · right
    have hge : 0x80 ≤ c.toNat := by omega
    cases hl : leadInfo c.toNat with
    | none => left; exact ⟨hge, by simp [decodeRune, h80, hl]⟩
    | some info =>
      obtain ⟨sz, lo, hi⟩ := info
      have hinfo := leadInfo_some _ _ _ _ hl
      cases t with
      | nil => left; exact ⟨hge, by simp [decodeRune, h80, hl]⟩
      | cons c1 t1 =>
        by_cases hb1 : c1.toNat < lo ∨ hi < c1.toNat
        · left; exact ⟨hge, by simp [decodeRune, h80, hl, hb1]⟩
        · by_cases hs2 : sz = 2
          · right
            refine ⟨hge, c.toNat % 32 * 64 + c1.toNat % 64, 2, by simp [decodeRune, h80, hl, hb1, hs2], by omega, by simp, ?_, ?_⟩
            · have := c1.toNat_lt; omega
            · intro X; simp [decodeRune, h80, hl, hb1, hs2]
          · cases t1 with
            | nil => left; exact ⟨hge, by simp [decodeRune, h80, hl, hb1, hs2]⟩
            | cons c2 t2 =>
              by_cases hc2 : isCont c2.toNat = true
              · by_cases hs3 : sz = 3
                · right
                  refine ⟨hge, c.toNat % 16 * 4096 + c1.toNat % 64 * 64 + c2.toNat % 64, 3, by simp [decodeRune, h80, hl, hb1, hs2, hc2, hs3], by omega, by simp, ?_, ?_⟩
                  · have := c1.toNat_lt; omega
                  · intro X; simp [decodeRune, h80, hl, hb1, hs2, hc2, hs3]
                · cases t2 with
                  | nil => left; exact ⟨hge, by simp [decodeRune, h80, hl, hb1, hs2, hc2, hs3]⟩
                  | cons c3 t3 =>
                    by_cases hc3 : isCont c3.toNat = true
                    · right
                      refine ⟨hge, c.toNat % 8 * 262144 + c1.toNat % 64 * 4096 + c2.toNat % 64 * 64 + c3.toNat % 64, 4, by simp [decodeRune, h80, hl, hb1, hs2, hc2, hs3, hc3], by omega, by simp, ?_, ?_⟩
                      · have := c1.toNat_lt; omega
                      · intro X; simp [decodeRune, h80, hl, hb1, hs2, hc2, hs3, hc3]
                    · left; exact ⟨hge, by simp [decodeRune, h80, hl, hb1, hs2, hc2, hs3, hc3]⟩
              · left; exact ⟨hge, by simp [decodeRune, h80, hl, hb1, hs2, hc2]⟩

theorem escapeRune_length (r : Nat) : 0 < (escapeRune r).length := by
  have h : (escapeRune r).head? = some 0x5C := by
    unfold escapeRune; simp only [apply_ite List.head?, List.head?_cons, ite_self]
  cases he : escapeRune r with
  | nil => rw [he] at h; cases h
  | cons _ _ => exact Nat.succ_pos _

theorem hexVal_hexLower : ∀ d, d < 16 → hexVal (hexLower d) = some d := by decide

theorem uint8_eq_of_toNat (c : UInt8) (n : Nat) (hn : n < 256) (h : c.toNat = n) : c = UInt8.ofNat n := by
  apply UInt8.toNat_inj.mp
  rw [UInt8.toNat_ofNat']; omega

theorem readString_chunk (F : Nat) (s d raw rest : Bytes) (h : stringStep s = .chunk d raw rest) :
    readString (F + 1) s =
      match readString F rest with
      | some (d', raw', r) => some (d ++ d', raw ++ raw', r)
      | none => none := by
  simp only [readString, h]
  cases readString F rest <;> rfl

/-- reading back one escape sequence -/
theorem stringStep_escapeRune (c : UInt8) (hc : needsEscape c.toNat = true) (X : Bytes) :
    stringStep (escapeRune c.toNat ++ X) = .chunk [c] (escapeRune c.toNat) X := by
  have hlt := c.toNat_lt
  unfold escapeRune
  by_cases h1 : c.toNat = 0x22
  · have hc' := uint8_eq_of_toNat c _ (by omega) h1
    subst hc'; simp [stringStep, simpleEscape]
  by_cases h2 : c.toNat = 0x5C
  · have hc' := uint8_eq_of_toNat c _ (by omega) h2
    subst hc'; simp [stringStep, simpleEscape]
  by_cases h3 : c.toNat = 8
  · have hc' := uint8_eq_of_toNat c _ (by omega) h3
    subst hc'; simp [stringStep, simpleEscape]
  by_cases h4 : c.toNat = 12
  · have hc' := uint8_eq_of_toNat c _ (by omega) h4
    subst hc'; simp [stringStep, simpleEscape]
  by_cases h5 : c.toNat = 10
  · have hc' := uint8_eq_of_toNat c _ (by omega) h5
    subst hc'; simp [stringStep, simpleEscape]
  by_cases h6 : c.toNat = 13
  · have hc' := uint8_eq_of_toNat c _ (by omega) h6
    subst hc'; simp [stringStep, simpleEscape]
  by_cases h7 : c.toNat = 9
  · have hc' := uint8_eq_of_toNat c _ (by omega) h7
    subst hc'; simp [stringStep, simpleEscape]
  · have h20 : c.toNat < 0x20 := by
      simp only [needsEscape, Bool.or_eq_true, decide_eq_true_eq] at hc
      omega
    rw [if_neg h1, if_neg h2, if_neg h3, if_neg h4, if_neg h5, if_neg h6, if_neg h7]
    have hh1 := hexVal_hexLower (c.toNat / 16) (by omega)
    have hh2 := hexVal_hexLower (c.toNat % 16) (by omega)
    have h0 : hexVal 0x30 = some 0 := by decide
    have e : c.toNat / 16 * 16 + c.toNat % 16 = c.toNat := by omega
    have henc : encodeRune c.toNat = [c] := by
      unfold encodeRune
      rw [if_pos (by omega)]
      simp
    have hse : simpleEscape 0x75 = none := by decide
    simp only [List.cons_append, List.nil_append, stringStep, hse]
    simp [readUnicode, hex4, h0, hh1, hh2, isHighSurr, isSurrogate, e]
    rw [if_neg (by omega), if_neg (by omega), henc]

theorem readString_quote (F : Nat) (rest : Bytes) :
    readString (F + 1) (0x22 :: rest) = some ([], [0x22], rest) := by
  simp [readString, stringStep]

/-- an ASCII byte that needs no escape is copied -/
theorem stringStep_plain (c : UInt8) (h80 : c.toNat < 0x80) (hne : needsEscape c.toNat = false)
    (X : Bytes) : stringStep (c :: X) = .chunk [c] [c] X := by
  simp only [needsEscape, Bool.or_eq_false_iff, decide_eq_false_iff_not] at hne
  have h1 : c ≠ 0x22 := by intro e; subst e; simp at hne
  have h2 : c ≠ 0x5C := by intro e; subst e; simp at hne
  have h3 : ¬ c.toNat < 0x20 := hne.1.1
  simp only [stringStep, h1, h2, h3, h80, if_false, if_true]

/-- a valid multi-byte rune is copied -/
theorem stringStep_multi (c : UInt8) (t : Bytes) (hge : 0x80 ≤ c.toNat) (r n : Nat)
    (hn2 : 2 ≤ n) (hnl : n ≤ (c :: t).length)
    (hpre : ∀ X, decodeRune ((c :: t).take n ++ X) = (r, n)) (X : Bytes) :
    stringStep ((c :: t).take n ++ X) = .chunk ((c :: t).take n) ((c :: t).take n) X := by
  obtain ⟨n', rfl⟩ : ∃ n', n = n' + 1 := ⟨n - 1, by omega⟩
  have htake : (c :: t).take (n' + 1) = c :: t.take n' := rfl
  have hlen : ((c :: t).take (n' + 1)).length = n' + 1 := by
    rw [List.length_take]; omega
  have h1 : c ≠ 0x22 := by intro e; subst e; simp at hge
  have h2 : c ≠ 0x5C := by intro e; subst e; simp at hge
  have hp := hpre X
  rw [htake] at hp ⊢
  simp only [List.cons_append] at hp ⊢
  have h3 : ¬ c.toNat < 0x20 := by omega
  have h4 : ¬ c.toNat < 0x80 := by omega
  have h5 : ¬ (r = runeError ∧ n' + 1 = 1) := by omega
  have hdrop : (c :: (t.take n' ++ X)).drop (n' + 1) = X := by
    simp only [List.drop_succ_cons]
    rw [List.drop_left' (by rw [htake] at hlen; simpa using hlen)]
  have htk : (c :: (t.take n' ++ X)).take (n' + 1) = c :: t.take n' := by
    simp only [List.take_succ_cons]
    rw [List.take_left' (by rw [htake] at hlen; simpa using hlen)]
  simp only [stringStep, h1, h2, h3, h4, if_false, hp, h5, hdrop, htk]

/-- One rune of the escaper: on invalid UTF-8 it fails; otherwise it writes a non-empty chunk which the
string scanner reads back as the bytes of the rune, and goes on behind the rune. -/
theorem escapeLoop_cons (fuel : Nat) (c : UInt8) (t : Bytes) :
    (escapeLoop (fuel + 1) (c :: t) = .err "invalid UTF-8" ∧ validUtf8 (fuel + 1) (c :: t) = false) ∨
    ∃ n chunk, 1 ≤ n ∧ n ≤ (c :: t).length ∧ chunk ≠ [] ∧
      (∀ X, stringStep (chunk ++ X) = .chunk ((c :: t).take n) chunk X) ∧
      escapeLoop (fuel + 1) (c :: t) = (escapeLoop fuel ((c :: t).drop n)).map (chunk ++ ·) ∧
      validUtf8 (fuel + 1) (c :: t) = validUtf8 fuel ((c :: t).drop n) := by
  have step : ∀ r n, decodeRune (c :: t) = (r, n) → ¬(r = runeError ∧ n = 1) →
      escapeLoop (fuel + 1) (c :: t) = (escapeLoop fuel ((c :: t).drop n)).map
        ((if needsEscape r then escapeRune r else (c :: t).take n) ++ ·) ∧
      validUtf8 (fuel + 1) (c :: t) = validUtf8 fuel ((c :: t).drop n) := by
    intro r n hd hne
    simp only [escapeLoop, validUtf8, hd, if_neg hne]
    cases escapeLoop fuel ((c :: t).drop n) with
    | ok rest => by_cases hq : needsEscape r = true <;> simp [hq, Outcome.map]
    | err e => simp [Outcome.map]
    | panic w => simp [Outcome.map]
  rcases decodeRune_cases c t with ⟨h80, hd⟩ | ⟨hge, hd⟩ | ⟨hge, r, n, hd, hn2, hnl, hr80, hpre⟩
  · right
    have hs := step _ _ hd (by unfold runeError; omega)
    by_cases hesc : needsEscape c.toNat = true
    · rw [if_pos hesc] at hs
      exact ⟨1, _, Nat.le_refl _, by simp, fun h => by simpa [h] using escapeRune_length c.toNat,
        stringStep_escapeRune c hesc, hs⟩
    · rw [if_neg hesc] at hs
      exact ⟨1, _, Nat.le_refl _, by simp, by simp,
        stringStep_plain c h80 (by simpa using hesc), hs⟩
  · left
    simp [escapeLoop, validUtf8, hd]
  · right
    have hs := step _ _ hd (by omega)
    have hesc : ¬ needsEscape r = true := by
      simp only [needsEscape, Bool.or_eq_true, decide_eq_true_eq]; omega
    rw [if_neg hesc] at hs
    exact ⟨n, _, by omega, hnl, by simp; omega, stringStep_multi c t hge r n hn2 hnl hpre, hs⟩

/-- **the escaper's output, followed by the closing quote, reads back as the input** -/
theorem readString_escapeLoop : ∀ (fuel : Nat) (s body rest : Bytes) (F : Nat),
    escapeLoop fuel s = .ok body → body.length < F →
    readString F (body ++ 0x22 :: rest) = some (s, body ++ [0x22], rest)
  | fuel, [], body, rest, F, h, hF => by
    have : body = [] := by cases fuel <;> (simp only [escapeLoop] at h; cases h; rfl)
    subst this
    obtain ⟨F', rfl⟩ : ∃ F', F = F' + 1 := ⟨F - 1, by omega⟩
    exact readString_quote F' rest
  | 0, _ :: _, _, _, _, h, _ => by simp [escapeLoop] at h
  | fuel + 1, c :: t, body, rest, F, h, hF => by
    rcases escapeLoop_cons fuel c t with ⟨he, _⟩ | ⟨n, chunk, _, _, hne, hstep, he, _⟩
    · rw [he] at h; cases h
    · rw [he] at h
      cases hrec : escapeLoop fuel ((c :: t).drop n) with
      | err e => rw [hrec] at h; cases h
      | panic w => rw [hrec] at h; cases h
      | ok body' =>
        rw [hrec] at h; cases h
        obtain ⟨F', rfl⟩ : ∃ F', F = F' + 1 := ⟨F - 1, by omega⟩
        have hlen : body'.length < F' := by
          have := List.length_pos_iff.mpr hne
          simp only [List.length_append] at hF; omega
        rw [List.append_assoc, readString_chunk F' _ _ _ _ (hstep _),
          readString_escapeLoop fuel _ body' rest F' hrec hlen]
        simp only [List.append_assoc, List.take_append_drop]

/-- the escaper never runs out of fuel, and fails exactly on invalid UTF-8 -/
theorem escapeLoop_total : ∀ (fuel : Nat) (s : Bytes), s.length ≤ fuel →
    (∀ w, escapeLoop fuel s ≠ .panic w) ∧
    (validUtf8 fuel s = true → ∃ body, escapeLoop fuel s = .ok body) ∧
    (validUtf8 fuel s = false → ∃ e, escapeLoop fuel s = .err e)
  | fuel, [], _ => by cases fuel <;> simp [escapeLoop, validUtf8]
  | 0, _ :: _, hs => by simp at hs
  | fuel + 1, c :: t, hs => by
    rcases escapeLoop_cons fuel c t with ⟨he, hv⟩ | ⟨n, chunk, hn1, hnl, _, _, he, hv⟩
    · rw [he, hv]; simp
    · have ih := escapeLoop_total fuel ((c :: t).drop n) (by
        rw [List.length_drop]; simp only [List.length_cons] at hs hnl ⊢; omega)
      rw [he, hv]
      cases hr : escapeLoop fuel ((c :: t).drop n) with
      | ok b =>
        refine ⟨nofun, fun _ => ⟨_, rfl⟩, fun hv => ?_⟩
        obtain ⟨e, he⟩ := ih.2.2 hv; rw [hr] at he; cases he
      | err e =>
        refine ⟨nofun, fun hv => ?_, fun _ => ⟨_, rfl⟩⟩
        obtain ⟨b, hb⟩ := ih.2.1 hv; rw [hr] at hb; cases hb
      | panic w => exact absurd hr (ih.1 w)

/-- `appendString` never panics; it succeeds exactly on valid UTF-8 -/
theorem appendString_total (s : Bytes) :
    (∀ w, appendString s ≠ .panic w) ∧
    (isValidUtf8 s = true → ∃ lit, appendString s = .ok lit) ∧
    (isValidUtf8 s = false → ∃ e, appendString s = .err e) := by
  have h := escapeLoop_total s.length s (Nat.le_refl _)
  unfold appendString isValidUtf8
  refine ⟨?_, ?_, ?_⟩
  · intro w
    cases hr : escapeLoop s.length s with
    | ok b => simp
    | err e => simp
    | panic w' => exact absurd hr (h.1 w')
  · intro hv; obtain ⟨b, hb⟩ := h.2.1 hv; rw [hb]; exact ⟨_, rfl⟩
  · intro hv; obtain ⟨e, he⟩ := h.2.2 hv; rw [he]; exact ⟨_, rfl⟩

/-- **C08_escape_valid**: whatever `appendString` writes is `"` body `"` where the body, read by
the JSON string reader (scanner + unquote), denotes exactly the input bytes and ends at the
closing quote. -/
theorem appendString_reads (s lit : Bytes) (h : appendString s = .ok lit) :
    ∃ body, lit = 0x22 :: (body ++ [0x22]) ∧
      ∀ (rest : Bytes) (F : Nat), body.length < F →
        readString F (body ++ 0x22 :: rest) = some (s, body ++ [0x22], rest) := by
  unfold appendString at h
  cases hr : escapeLoop s.length s with
  | ok body =>
    simp only [hr] at h; cases h
    exact ⟨body, rfl, fun rest F hF => readString_escapeLoop _ s body rest F hr hF⟩
  | err e => simp [hr] at h
  | panic w => simp [hr] at h

end J5V.Json
