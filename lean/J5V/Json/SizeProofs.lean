import J5V.Json.Tree
/-!
# The tree the JSON reader builds is no larger than its input (C06)

`(tokenize bs).length ≤ bs.length + 2`, a built tree has at most five nodes per token
(`BuildBound`), hence `(readDoc bs).size ≤ 5 * bs.length + 11`: the number of nodes the decoder
walks is linear in the number of input bytes. The bounds hold whatever happens to the fuel of the
tree builder (they do not need fuel sufficiency).
-/
namespace J5V.Json

theorem tokLoop_length : ∀ (f : Nat) (st : TS) (stack : List TS) (inp : Bytes),
    (tokLoop f st stack inp).length ≤ f + 1 := by
  intro f
  induction f with
  | zero => intro st stack inp; simp [tokLoop]
  | succ f ih =>
    intro st stack inp
    simp only [tokLoop]
    cases tokStep st stack inp with
    | eof => simp
    | bad c => simp
    | emit t st' stack' rest =>
      simp only [List.length_cons]
      have := ih st' stack' rest
      omega
    | skip st' stack' rest =>
      simp only []
      have := ih st' stack' rest
      omega

theorem tokenize_length (bs : Bytes) : (tokenize bs).length ≤ bs.length + 2 := by
  unfold tokenize
  exact tokLoop_length _ _ _ _

/-- The potential: `nodes built + 5 * items left over ≤ 5 * items given + c`, so that the bounds add up along
consecutive calls. `vs` is the strict form for a value whose first item is a token (with `1 ≤ f` it is consumed):
`buildElems` needs it, which consumes no token of its own per element but passes the head token on to
`buildValue`. At fuel 0 the builders consume nothing, so the bounds hold whether or not the fuel suffices. -/
structure BuildBound (f : Nat) : Prop where
  v : ∀ its, (buildValue f its).1.size + 5 * (buildValue f its).2.length ≤ 5 * its.length + 1
  vs : ∀ t rest, 1 ≤ f →
    (buildValue f (.tok t :: rest)).1.size + 5 * (buildValue f (.tok t :: rest)).2.length + 1 ≤
      5 * (rest.length + 1)
  m : ∀ its, (buildMembers f its).1.size + 5 * (buildMembers f its).2.length ≤ 5 * its.length + 1
  e : ∀ its, (buildElems f its).1.size + 5 * (buildElems f its).2.length ≤ 5 * its.length + 3

theorem buildBound_all : ∀ f, BuildBound f := by
  intro f
  induction f with
  | zero =>
    refine ⟨?_, ?_, ?_, ?_⟩
    · intro its; simp [buildValue, PTree.size]; omega
    · intro t rest h; omega
    · intro its; simp [buildMembers, PMembers.size]; omega
    · intro its; simp [buildElems, PElems.size]; omega
  | succ f ih =>
    have hvs : ∀ t rest,
        (buildValue (f + 1) (.tok t :: rest)).1.size +
          5 * (buildValue (f + 1) (.tok t :: rest)).2.length + 1 ≤ 5 * (rest.length + 1) := by
      intro t rest
      cases t with
      | lb =>
        simp only [buildValue, PTree.size]
        have := ih.m rest
        omega
      | lk =>
        simp only [buildValue, PTree.size]
        have := ih.e rest
        omega
      | _ => simp [buildValue, PTree.size] <;> omega
    refine ⟨?_, fun t rest _ => hvs t rest, ?_, ?_⟩
    · intro its
      cases its with
      | nil => simp [buildValue, PTree.size]
      | cons it rest =>
        cases it with
        | tok t =>
          have := hvs t rest
          simp only [List.length_cons]
          omega
        | bad c => simp [buildValue, PTree.size]
        | fuel => simp [buildValue, PTree.size]
    · intro its
      cases its with
      | nil => simp [buildMembers, PMembers.size]
      | cons it rest =>
        cases it with
        | bad c => cases c <;> simp [buildMembers, PMembers.size]
        | fuel => simp [buildMembers, PMembers.size]
        | tok t =>
          cases t with
          | rb => simp [buildMembers, PMembers.size]; omega
          | str k kraw =>
            simp only [buildMembers, PMembers.size, List.length_cons]
            have h1 := ih.v rest
            have h2 := ih.m (buildValue f rest).2
            omega
          | _ => simp [buildMembers, PMembers.size]
    · intro its
      cases its with
      | nil => simp [buildElems, PElems.size]
      | cons it rest =>
        cases it with
        | bad c => cases c <;> simp [buildElems, PElems.size]
        | fuel => simp [buildElems, PElems.size]
        | tok t =>
          by_cases hf : f = 0
          · subst hf
            cases t <;> simp [buildElems, buildValue, PElems.size, PTree.size] <;> omega
          · have h1 := ih.vs t rest (by omega)
            have h2 := ih.e (buildValue f (.tok t :: rest)).2
            cases t <;> simp only [buildElems, PElems.size, List.length_cons, List.length_nil] <;> omega

/-- the tree of a document has at most five nodes per token, the tokens at most one per byte -/
theorem readDoc_size (bs : Bytes) : (readDoc bs).size ≤ 5 * bs.length + 11 := by
  unfold readDoc
  have h1 := (buildBound_all ((tokenize bs).length + 1)).v (tokenize bs)
  have h2 := tokenize_length bs
  simp only [] at h1 ⊢
  omega

mutual
theorem depth_le_size (t : PTree) : t.depth ≤ t.size := by
  cases t <;> simp only [PTree.depth, PTree.size] <;> try omega
  case obj ms => have := mdepth_le_size ms; omega
  case arr xs => have := edepth_le_size xs; omega
termination_by structural t
theorem mdepth_le_size (ms : PMembers) : ms.depth ≤ ms.size := by
  cases ms with
  | nil t => simp [PMembers.depth]
  | cons k kr v rest =>
    simp only [PMembers.depth, PMembers.size]
    have := depth_le_size v
    have := mdepth_le_size rest
    omega
termination_by structural ms
theorem edepth_le_size (xs : PElems) : xs.depth ≤ xs.size := by
  cases xs with
  | nil t => simp [PElems.depth]
  | cons v rest =>
    simp only [PElems.depth, PElems.size]
    have := depth_le_size v
    have := edepth_le_size rest
    omega
termination_by structural xs
end

end J5V.Json
