import J5V.Json.TreeSpec
import J5V.Json.TokenProofs
import J5V.Json.EscapeProofs
/-!
# The reader inverts the renderer: `readDoc (render t) = t` for the trees the encoder produces
-/
namespace J5V.Json
open J5V.Go

/-! ## fuel-free view of the tokenizer -/

/-- `tokLoop` with enough fuel -/
def toksOf (st : TS) (stack : List TS) (inp : Bytes) : List Item :=
  tokLoop (inp.length + 1) st stack inp

theorem toksOf_step (st : TS) (stack : List TS) (inp : Bytes) :
    toksOf st stack inp =
      match tokStep st stack inp with
      | .eof => []
      | .bad closer => [.bad closer]
      | .emit t st' stack' rest => .tok t :: toksOf st' stack' rest
      | .skip st' stack' rest => toksOf st' stack' rest := by
  have hlen := tokStep_length st stack inp
  have hL : toksOf st stack inp =
      match tokStep st stack inp with
      | .eof => []
      | .bad closer => [.bad closer]
      | .emit t st' stack' rest => .tok t :: tokLoop inp.length st' stack' rest
      | .skip st' stack' rest => tokLoop inp.length st' stack' rest := by
    unfold toksOf; rw [tokLoop]
    cases tokStep st stack inp <;> rfl
  rw [hL]
  cases hs : tokStep st stack inp with
  | eof => rfl
  | bad c => rfl
  | emit t st' stack' rest =>
    rw [hs] at hlen
    simp only [toksOf]
    rw [(tokLoop_fuel inp.length (rest.length + 1) st' stack' rest (by omega) (by omega)).1]
  | skip st' stack' rest =>
    rw [hs] at hlen
    simp only [toksOf]
    rw [(tokLoop_fuel inp.length (rest.length + 1) st' stack' rest (by omega) (by omega)).1]

theorem tokenize_eq (bs : Bytes) : tokenize bs = toksOf .top [] bs := rfl

theorem skipWs_nonspace (c : UInt8) (rest : Bytes) (h : isSpace c = false) :
    skipWs (c :: rest) = c :: rest := by
  simp [skipWs, h]

/-! ## what the encoder writes -/

theorem LitOk_of_appendString (s raw : Bytes) (h : appendString s = .ok raw) : LitOk s raw :=
  appendString_reads s raw h

mutual
def PTree.toks : PTree → List Tok
  | .str s raw => [.str s raw]
  | .num t => [.num t]
  | .bool true => [.tru]
  | .bool false => [.fls]
  | .null => [.null]
  | .obj ms => .lb :: ms.toks
  | .arr xs => .lk :: xs.toks
  | .bad => []
  | .raw _ => []
def PMembers.toks : PMembers → List Tok
  | .nil _ => [.rb]
  | .cons k kraw v rest => .str k kraw :: (v.toks ++ rest.toks)
def PElems.toks : PElems → List Tok
  | .nil _ => [.rk]
  | .cons v rest => v.toks ++ rest.toks
end


/-! ## single steps on rendered output -/

theorem valueAllowed_not_key (st : TS) (h : valueAllowed st = true) :
    ¬ (st = .objStart ∨ st = .objKey) := by
  cases st <;> simp [valueAllowed] at h ⊢

theorem tokStep_lbrace (st : TS) (stack : List TS) (rest : Bytes) (h : valueAllowed st = true) :
    tokStep st stack (0x7B :: rest) = .emit .lb .objStart (st :: stack) rest := by
  simp [tokStep, skipWs, isSpace, h]

theorem tokStep_lbrack (st : TS) (stack : List TS) (rest : Bytes) (h : valueAllowed st = true) :
    tokStep st stack (0x5B :: rest) = .emit .lk .arrStart (st :: stack) rest := by
  simp [tokStep, skipWs, isSpace, h]

theorem tokStep_rbrace (st s : TS) (stack : List TS) (rest : Bytes)
    (h : st = .objStart ∨ st = .objComma) :
    tokStep st (s :: stack) (0x7D :: rest) = .emit .rb (valueEnd s) stack rest := by
  simp [tokStep, skipWs, isSpace, h]

theorem tokStep_rbrack (st s : TS) (stack : List TS) (rest : Bytes)
    (h : st = .arrStart ∨ st = .arrComma) :
    tokStep st (s :: stack) (0x5D :: rest) = .emit .rk (valueEnd s) stack rest := by
  simp [tokStep, skipWs, isSpace, h]

theorem tokStep_colon (stack : List TS) (rest : Bytes) :
    tokStep .objColon stack (0x3A :: rest) = .skip .objValue stack rest := by
  simp [tokStep, skipWs, isSpace]

theorem tokStep_comma_obj (stack : List TS) (rest : Bytes) :
    tokStep .objComma stack (0x2C :: rest) = .skip .objKey stack rest := by
  simp [tokStep, skipWs, isSpace]

theorem tokStep_comma_arr (stack : List TS) (rest : Bytes) :
    tokStep .arrComma stack (0x2C :: rest) = .skip .arrValue stack rest := by
  simp [tokStep, skipWs, isSpace]

theorem scanScalar_lit (s raw rest : Bytes) (h : LitOk s raw) :
    scanScalar (raw ++ rest) = some (.str s raw, rest) := by
  obtain ⟨body, rfl, hr⟩ := h
  simp only [List.cons_append, List.append_assoc, List.nil_append, scanScalar, if_true]
  rw [hr rest _ (by simp only [List.length_append, List.length_cons]; omega)]

theorem tokStep_key (st : TS) (stack : List TS) (k kraw rest : Bytes) (h : LitOk k kraw)
    (hst : st = .objStart ∨ st = .objKey) :
    tokStep st stack (kraw ++ rest) = .emit (.str k kraw) .objColon stack rest := by
  have hs := scanScalar_lit k kraw rest h
  obtain ⟨body, rfl, _⟩ := h
  simp only [List.cons_append, List.append_assoc, List.nil_append] at hs ⊢
  simp only [tokStep, skipWs, isSpace]
  simp [hst, hs]

/-- a value token: the head byte is no space and none of `[]{}:,`, a value is allowed here, and
the scalar scanner succeeds -/
theorem tokStep_value (st : TS) (stack : List TS) (c : UInt8) (rest r : Bytes) (t : Tok)
    (hsp : isSpace c = false)
    (hp : c ≠ 0x5B ∧ c ≠ 0x5D ∧ c ≠ 0x7B ∧ c ≠ 0x7D ∧ c ≠ 0x3A ∧ c ≠ 0x2C)
    (hst : valueAllowed st = true) (hs : scanScalar (c :: rest) = some (t, r)) :
    tokStep st stack (c :: rest) = .emit t (valueEnd st) stack r := by
  have hnk := valueAllowed_not_key st hst
  simp only [tokStep, skipWs, hsp, Bool.false_eq_true, if_false]
  rw [if_neg hp.1, if_neg hp.2.1, if_neg hp.2.2.1, if_neg hp.2.2.2.1, if_neg hp.2.2.2.2.1,
    if_neg hp.2.2.2.2.2, if_neg (fun h => hnk h.2)]
  simp [hst, hs]

theorem tokStep_str (st : TS) (stack : List TS) (s raw rest : Bytes) (h : LitOk s raw)
    (hst : valueAllowed st = true) :
    tokStep st stack (raw ++ rest) = .emit (.str s raw) (valueEnd st) stack rest := by
  have hs := scanScalar_lit s raw rest h
  obtain ⟨body, rfl, _⟩ := h
  exact tokStep_value st stack 0x22 _ rest _ (by decide) (by decide) hst hs

theorem isDigit_props (c : UInt8) (h : c = 0x2D ∨ isDigit c = true) :
    isSpace c = false ∧ c ≠ 0x5B ∧ c ≠ 0x5D ∧ c ≠ 0x7B ∧ c ≠ 0x7D ∧ c ≠ 0x3A ∧ c ≠ 0x2C ∧ c ≠ 0x22 ∧
      c ≠ 0x74 ∧ c ≠ 0x66 ∧ c ≠ 0x6E := by
  rcases h with rfl | h
  · decide
  · simp only [isDigit, Bool.and_eq_true, decide_eq_true_eq] at h
    refine ⟨?_, ?_, ?_, ?_, ?_, ?_, ?_, ?_, ?_, ?_, ?_⟩
    · simp only [isSpace, Bool.or_eq_false_iff, decide_eq_false_iff_not]
      refine ⟨⟨⟨?_, ?_⟩, ?_⟩, ?_⟩ <;> (intro e; subst e; simp at h)
    all_goals (intro e; subst e; simp at h)

theorem tokStep_num (st : TS) (stack : List TS) (t rest : Bytes) (h : NumOk t) (hr : AfterValue rest)
    (hst : valueAllowed st = true) :
    tokStep st stack (t ++ rest) = .emit (.num t) (valueEnd st) stack rest := by
  obtain ⟨⟨c, r, rfl, hc⟩, hscan⟩ := h
  obtain ⟨hsp, h1, h2, h3, h4, h5, h6, hq, ht, hf, hn⟩ := isDigit_props c hc
  refine tokStep_value st stack c _ rest _ hsp ⟨h1, h2, h3, h4, h5, h6⟩ hst ?_
  have hsn := hscan rest hr
  simp only [List.cons_append] at hsn
  simp only [scanScalar, if_neg hq, if_neg ht, if_neg hf, if_neg hn, if_pos hc]
  rw [show scanNumber (c :: r.append rest) = _ from hsn]; rfl

theorem ascii_true : ascii "true" = [0x74, 0x72, 0x75, 0x65] := by decide
theorem ascii_false : ascii "false" = [0x66, 0x61, 0x6C, 0x73, 0x65] := by decide
theorem ascii_null : ascii "null" = [0x6E, 0x75, 0x6C, 0x6C] := by decide

theorem tokStep_true (st : TS) (stack : List TS) (rest : Bytes) (hst : valueAllowed st = true) :
    tokStep st stack (ascii "true" ++ rest) = .emit .tru (valueEnd st) stack rest := by
  rw [ascii_true]
  exact tokStep_value st stack 0x74 _ rest _ (by decide) (by decide) hst
    (by simp [scanScalar, stripPrefix])

theorem tokStep_false (st : TS) (stack : List TS) (rest : Bytes) (hst : valueAllowed st = true) :
    tokStep st stack (ascii "false" ++ rest) = .emit .fls (valueEnd st) stack rest := by
  rw [ascii_false]
  exact tokStep_value st stack 0x66 _ rest _ (by decide) (by decide) hst
    (by simp [scanScalar, stripPrefix])

theorem tokStep_null (st : TS) (stack : List TS) (rest : Bytes) (hst : valueAllowed st = true) :
    tokStep st stack (ascii "null" ++ rest) = .emit .null (valueEnd st) stack rest := by
  rw [ascii_null]
  exact tokStep_value st stack 0x6E _ rest _ (by decide) (by decide) hst
    (by simp [scanScalar, stripPrefix])


/-! ## tokenizing rendered trees -/

theorem afterValue_members (ms : PMembers) (rest : Bytes) : AfterValue (ms.render false ++ rest) := by
  cases ms with
  | nil t => simp [PMembers.render, AfterValue]
  | cons k kraw v r => simp [PMembers.render, AfterValue]

theorem afterValue_elems (xs : PElems) (rest : Bytes) : AfterValue (xs.render false ++ rest) := by
  cases xs with
  | nil t => simp [PElems.render, AfterValue]
  | cons v r => simp [PElems.render, AfterValue]

theorem toksOf_emit {st st' : TS} {stack stack' : List TS} {inp rest : Bytes} {t : Tok}
    (h : tokStep st stack inp = .emit t st' stack' rest) :
    toksOf st stack inp = .tok t :: toksOf st' stack' rest := by
  rw [toksOf_step, h]

theorem toksOf_skip {st st' : TS} {stack stack' : List TS} {inp rest : Bytes}
    (h : tokStep st stack inp = .skip st' stack' rest) :
    toksOf st stack inp = toksOf st' stack' rest := by
  rw [toksOf_step, h]

mutual
theorem toks_value (t : PTree) (h : t.Enc) (st : TS) (stack : List TS) (rest : Bytes)
    (hst : valueAllowed st = true) (hr : AfterValue rest) :
    toksOf st stack (t.render ++ rest) = t.toks.map Item.tok ++ toksOf (valueEnd st) stack rest := by
  cases t with
  | str s raw => exact toksOf_emit (tokStep_str st stack s raw rest h hst)
  | num x => exact toksOf_emit (tokStep_num st stack x rest h hr hst)
  | bool b =>
    cases b
    · exact toksOf_emit (tokStep_false st stack rest hst)
    · exact toksOf_emit (tokStep_true st stack rest hst)
  | null => exact toksOf_emit (tokStep_null st stack rest hst)
  | obj ms =>
    simp only [PTree.render, List.cons_append, PTree.toks, List.map_cons]
    rw [toksOf_emit (tokStep_lbrace st stack _ hst)]
    exact congrArg _ (toks_members ms h true st stack rest)
  | arr xs =>
    simp only [PTree.render, List.cons_append, PTree.toks, List.map_cons]
    rw [toksOf_emit (tokStep_lbrack st stack _ hst)]
    exact congrArg _ (toks_elems xs h true st stack rest)
  | bad => exact h.elim
  | raw bs => exact h.elim
termination_by structural t

theorem toks_members (ms : PMembers) (h : ms.Enc) (first : Bool) (s0 : TS) (stack : List TS)
    (rest : Bytes) :
    toksOf (if first then .objStart else .objComma) (s0 :: stack) (ms.render first ++ rest) =
      ms.toks.map Item.tok ++ toksOf (valueEnd s0) stack rest := by
  cases ms with
  | nil t =>
    exact toksOf_emit (tokStep_rbrace _ s0 stack rest (by cases first <;> simp))
  | cons k kraw v r =>
    obtain ⟨hk, hv, hrm⟩ := h
    have hval := toks_value v hv .objValue (s0 :: stack) (r.render false ++ rest) rfl
      (afterValue_members r rest)
    have hrest := toks_members r hrm false s0 stack rest
    simp only [Bool.false_eq_true, if_false] at hrest
    simp only [valueEnd] at hval
    cases first with
    | true =>
      simp only [if_true, PMembers.render, List.nil_append, List.append_assoc, List.cons_append]
      rw [toksOf_emit (tokStep_key .objStart _ k kraw _ hk (Or.inl rfl)), toksOf_skip (tokStep_colon _ _),
        hval, hrest]
      simp [PMembers.toks]
    | false =>
      simp only [Bool.false_eq_true, if_false, PMembers.render, List.append_assoc, List.cons_append,
        List.nil_append]
      rw [toksOf_skip (tokStep_comma_obj _ _), toksOf_emit (tokStep_key .objKey _ k kraw _ hk (Or.inr rfl)),
        toksOf_skip (tokStep_colon _ _), hval, hrest]
      simp [PMembers.toks]
termination_by structural ms

theorem toks_elems (xs : PElems) (h : xs.Enc) (first : Bool) (s0 : TS) (stack : List TS)
    (rest : Bytes) :
    toksOf (if first then .arrStart else .arrComma) (s0 :: stack) (xs.render first ++ rest) =
      xs.toks.map Item.tok ++ toksOf (valueEnd s0) stack rest := by
  cases xs with
  | nil t =>
    exact toksOf_emit (tokStep_rbrack _ s0 stack rest (by cases first <;> simp))
  | cons v r =>
    obtain ⟨hv, hrm⟩ := h
    have hrest := toks_elems r hrm false s0 stack rest
    simp only [Bool.false_eq_true, if_false] at hrest
    cases first with
    | true =>
      have hval := toks_value v hv .arrStart (s0 :: stack) (r.render false ++ rest) rfl
        (afterValue_elems r rest)
      simp only [valueEnd] at hval
      simp only [if_true, PElems.render, List.nil_append, List.append_assoc]
      rw [hval, hrest]
      simp [PElems.toks]
    | false =>
      have hval := toks_value v hv .arrValue (s0 :: stack) (r.render false ++ rest) rfl
        (afterValue_elems r rest)
      simp only [valueEnd] at hval
      simp only [Bool.false_eq_true, if_false, PElems.render, List.append_assoc, List.cons_append,
        List.nil_append]
      rw [toksOf_skip (tokStep_comma_arr _ _), hval, hrest]
      simp [PElems.toks]
termination_by structural xs
end


/-! ## building the tree from the tokens -/

/-- the first token of a value is never a closer -/
theorem toks_head (t : PTree) (h : t.Enc) :
    ∃ tk tl, t.toks = tk :: tl ∧ tk ≠ .rb ∧ tk ≠ .rk := by
  cases t with
  | str s raw => exact ⟨_, _, rfl, by simp, by simp⟩
  | num x => exact ⟨_, _, rfl, by simp, by simp⟩
  | bool b => cases b <;> exact ⟨_, _, rfl, by simp, by simp⟩
  | null => exact ⟨_, _, rfl, by simp, by simp⟩
  | obj ms => exact ⟨_, _, rfl, by simp, by simp⟩
  | arr xs => exact ⟨_, _, rfl, by simp, by simp⟩
  | bad => simp [PTree.Enc] at h
  | raw bs => simp [PTree.Enc] at h

theorem elems_toks_pos (xs : PElems) : 1 ≤ xs.toks.length := by
  cases xs with
  | nil t => simp [PElems.toks]
  | cons v r =>
    simp only [PElems.toks, List.length_append]
    have := elems_toks_pos r
    omega

mutual
theorem build_value (t : PTree) (h : t.Enc) (f : Nat) (rest : List Item) (hf : t.toks.length ≤ f) :
    buildValue f (t.toks.map Item.tok ++ rest) = (t, rest) := by
  obtain ⟨f', rfl⟩ : ∃ f', f = f' + 1 := by
    obtain ⟨tk, tl, e, _⟩ := toks_head t h
    exact ⟨f - 1, by rw [e] at hf; simp only [List.length_cons] at hf; omega⟩
  cases t with
  | str s raw => simp [PTree.toks, buildValue]
  | num x => simp [PTree.toks, buildValue]
  | bool b => cases b <;> simp [PTree.toks, buildValue]
  | null => simp [PTree.toks, buildValue]
  | obj ms =>
    simp only [PTree.toks, List.length_cons] at hf
    have := build_members ms h f' rest (by omega)
    simp [PTree.toks, buildValue, this]
  | arr xs =>
    simp only [PTree.toks, List.length_cons] at hf
    have := build_elems xs h f' rest (by omega)
    simp [PTree.toks, buildValue, this]
  | bad => simp [PTree.Enc] at h
  | raw bs => simp [PTree.Enc] at h
termination_by structural t

theorem build_members (ms : PMembers) (h : ms.Enc) (f : Nat) (rest : List Item)
    (hf : ms.toks.length ≤ f) :
    buildMembers f (ms.toks.map Item.tok ++ rest) = (ms, rest) := by
  cases ms with
  | nil t =>
    simp only [PMembers.Enc] at h; subst h
    obtain ⟨f', rfl⟩ : ∃ f', f = f' + 1 := ⟨f - 1, by simp [PMembers.toks] at hf; omega⟩
    simp [PMembers.toks, buildMembers]
  | cons k kraw v r =>
    simp only [PMembers.Enc] at h
    obtain ⟨_, hv, hr⟩ := h
    simp only [PMembers.toks, List.length_cons, List.length_append] at hf
    obtain ⟨f', rfl⟩ : ∃ f', f = f' + 1 := ⟨f - 1, by omega⟩
    have h1 := build_value v hv f' (r.toks.map Item.tok ++ rest) (by omega)
    have h2 := build_members r hr f' rest (by omega)
    simp only [PMembers.toks, List.map_cons, List.map_append, List.cons_append, List.append_assoc,
      buildMembers, h1, h2]
termination_by structural ms

theorem build_elems (xs : PElems) (h : xs.Enc) (f : Nat) (rest : List Item)
    (hf : xs.toks.length ≤ f) :
    buildElems f (xs.toks.map Item.tok ++ rest) = (xs, rest) := by
  cases xs with
  | nil t =>
    simp only [PElems.Enc] at h; subst h
    obtain ⟨f', rfl⟩ : ∃ f', f = f' + 1 := ⟨f - 1, by simp [PElems.toks] at hf; omega⟩
    simp [PElems.toks, buildElems]
  | cons v r =>
    simp only [PElems.Enc] at h
    obtain ⟨hv, hr⟩ := h
    simp only [PElems.toks, List.length_append] at hf
    obtain ⟨tk, tl, htk, hn1, hn2⟩ := toks_head v hv
    have hpos := elems_toks_pos r
    have hvpos : 1 ≤ v.toks.length := by rw [htk]; simp
    obtain ⟨f', rfl⟩ : ∃ f', f = f' + 1 := ⟨f - 1, by omega⟩
    have h1 := build_value v hv f' (r.toks.map Item.tok ++ rest) (by omega)
    have h2 := build_elems r hr f' rest (by omega)
    simp only [PElems.toks, List.map_append, List.append_assoc]
    rw [htk] at h1 ⊢
    simp only [List.map_cons, List.cons_append] at h1 ⊢
    cases tk <;> simp only [buildElems, h1, h2] <;> first | rfl | exact absurd rfl hn1 | exact absurd rfl hn2
termination_by structural xs
end

theorem tokenize_render (t : PTree) (h : t.Enc) : tokenize t.render = t.toks.map Item.tok := by
  rw [tokenize_eq]
  have := toks_value t h .top [] [] rfl trivial
  simp only [List.append_nil] at this
  rw [this, toksOf_step]
  simp [tokStep, skipWs]

/-- **the reader inverts the renderer** on everything the encoder writes -/
theorem readDoc_render (t : PTree) (h : t.Enc) : readDoc t.render = t := by
  unfold readDoc
  rw [tokenize_render t h]
  have := build_value t h ((t.toks.map Item.tok).length + 1) [] (by simp)
  simp only [List.append_nil] at this
  simp only [this]


/-! ## a JSON number literal is read back whatever (legal) follows it -/

/-- head of the remaining input cannot continue a number -/
def NumEnd : Bytes → Prop
  | [] => True
  | c :: _ => isDigit c = false ∧ c ≠ 0x2E ∧ c ≠ 0x65 ∧ c ≠ 0x45 ∧ c ≠ 0x2B ∧ c ≠ 0x2D

theorem numEnd_of_afterValue (rest : Bytes) (h : AfterValue rest) : NumEnd rest := by
  cases rest with
  | nil => trivial
  | cons c r =>
    simp only [AfterValue] at h
    rcases h with rfl | rfl | rfl <;> simp [NumEnd, isDigit]

theorem spanDigits_ext (s rest : Bytes) (h : NumEnd rest) :
    spanDigits (s ++ rest) = ((spanDigits s).1, (spanDigits s).2 ++ rest) := by
  induction s with
  | nil =>
    cases rest with
    | nil => rfl
    | cons c r => simp only [NumEnd] at h; simp [spanDigits, h.1]
  | cons c t ih =>
    simp only [List.cons_append, spanDigits]
    split
    · rw [ih]
    · rfl

theorem scanInt_ext (s a r rest : Bytes) (h : scanInt s = some (a, r)) (hr : NumEnd rest) :
    scanInt (s ++ rest) = some (a, r ++ rest) := by
  cases s with
  | nil => simp [scanInt] at h
  | cons c t =>
    simp only [scanInt, List.cons_append] at h ⊢
    split
    · next hc => simp only [hc, if_true] at h; cases h; rw [hc]
    · next hc =>
      simp only [hc, if_false] at h
      split
      · next hd =>
        simp only [hd, if_true] at h; cases h
        rw [spanDigits_ext t rest hr]
      · next hd => simp [hd] at h

theorem scanFrac_ext (s a r rest : Bytes) (h : scanFrac s = some (a, r)) (hr : NumEnd rest) :
    scanFrac (s ++ rest) = some (a, r ++ rest) := by
  cases s with
  | nil =>
    simp only [scanFrac] at h; cases h
    cases rest with
    | nil => rfl
    | cons c r' =>
      simp only [NumEnd] at hr
      simp only [List.nil_append]
      unfold scanFrac
      split
      · next heq => simp at heq; exact absurd heq.1 hr.2.1
      · rfl
  | cons c t =>
    by_cases hc : c = 0x2E
    · subst hc
      simp only [scanFrac, List.cons_append] at h ⊢
      rw [spanDigits_ext t rest hr]
      simp only []
      split at h
      · cases h
      · next hne => cases h; simp [hne]
    · have e1 : scanFrac (c :: t) = some ([], c :: t) := by
        unfold scanFrac; split
        · next heq => simp at heq; exact absurd heq.1 hc
        · rfl
      have e2 : scanFrac (c :: (t ++ rest)) = some ([], c :: (t ++ rest)) := by
        unfold scanFrac; split
        · next heq => simp at heq; exact absurd heq.1 hc
        · rfl
      rw [e1] at h; cases h
      simp only [List.cons_append, e2]

theorem scanExpSign_ext (s rest : Bytes) (hr : NumEnd rest) :
    scanExpSign (s ++ rest) = ((scanExpSign s).1, (scanExpSign s).2 ++ rest) := by
  cases s with
  | nil =>
    cases rest with
    | nil => rfl
    | cons c r =>
      simp only [NumEnd] at hr
      simp only [List.nil_append]
      unfold scanExpSign
      split
      · next heq => simp at heq; exact absurd heq.1 hr.2.2.2.2.1
      · next heq => simp at heq; exact absurd heq.1 hr.2.2.2.2.2
      · rfl
  | cons c t =>
    simp only [List.cons_append]
    unfold scanExpSign
    split
    · next heq => simp at heq; obtain ⟨rfl, rfl⟩ := heq; rfl
    · next heq => simp at heq; obtain ⟨rfl, rfl⟩ := heq; rfl
    · next h1 h2 =>
      split
      · next heq => simp at heq; exact (h1 _ (by rw [heq.1])).elim
      · next heq => simp at heq; exact (h2 _ (by rw [heq.1])).elim
      · rfl

theorem scanExp_ext (s a r rest : Bytes) (h : scanExp s = some (a, r)) (hr : NumEnd rest) :
    scanExp (s ++ rest) = some (a, r ++ rest) := by
  cases s with
  | nil =>
    simp only [scanExp] at h; cases h
    cases rest with
    | nil => rfl
    | cons c r' =>
      simp only [NumEnd] at hr
      simp only [List.nil_append, scanExp]
      rw [if_neg (by intro e; rcases e with e | e; exact hr.2.2.1 e; exact hr.2.2.2.1 e)]
  | cons e r3 =>
    simp only [scanExp, List.cons_append] at h ⊢
    split
    · next he =>
      simp only [he, if_true] at h
      rw [scanExpSign_ext r3 rest hr]
      simp only []
      rw [spanDigits_ext _ rest hr]
      simp only []
      split at h
      · cases h
      · next hne => cases h; simp [hne]
    · next he => simp only [he, if_false] at h; cases h; rfl

theorem scanSign_ext (c : UInt8) (t rest : Bytes) :
    scanSign (c :: t ++ rest) = ((scanSign (c :: t)).1, (scanSign (c :: t)).2 ++ rest) := by
  simp only [List.cons_append]
  unfold scanSign
  split
  · next heq =>
    simp at heq; obtain ⟨rfl, rfl⟩ := heq
    rfl
  · next h1 =>
    split
    · next heq => simp at heq; exact (h1 _ (by rw [heq.1])).elim
    · rfl

/-- a text that is exactly one JSON number is scanned back, whatever value terminator follows -/
theorem numOk_of_scan (t : Bytes) (h : ∃ x, scanNumber t = some (x, [])) : NumOk t := by
  obtain ⟨x, hx⟩ := h
  obtain ⟨ht, hne⟩ := scanNumber_eq t x [] hx
  simp only [List.append_nil] at ht
  subst ht
  cases t with
  | nil => exact absurd rfl hne
  | cons c r =>
    constructor
    · -- the first byte is `-` or a digit
      refine ⟨c, r, rfl, ?_⟩
      by_cases hc : c = 0x2D
      · exact Or.inl hc
      · right
        unfold scanNumber at hx
        have hs : scanSign (c :: r) = ([], c :: r) := by
          unfold scanSign; split
          · next heq => simp at heq; exact absurd heq.1 hc
          · rfl
        rw [hs] at hx
        simp only [] at hx
        cases hi : scanInt (c :: r) with
        | none => simp [hi] at hx
        | some y =>
          unfold scanInt at hi
          by_cases h0 : c = 0x30
          · subst h0; decide
          · by_cases hd : isDigit c = true
            · exact hd
            · simp [h0, hd] at hi
    · intro rest hrest
      have hr := numEnd_of_afterValue rest hrest
      unfold scanNumber at hx ⊢
      rw [scanSign_ext c r rest]
      simp only [] at hx ⊢
      cases hi : scanInt (scanSign (c :: r)).2 with
      | none => simp [hi] at hx
      | some y =>
        obtain ⟨ip, a1⟩ := y
        simp only [hi] at hx
        rw [scanInt_ext _ ip a1 rest hi hr]
        simp only []
        cases hf : scanFrac a1 with
        | none => simp [hf] at hx
        | some z =>
          obtain ⟨fp, a2⟩ := z
          simp only [hf] at hx
          rw [scanFrac_ext _ fp a2 rest hf hr]
          simp only []
          cases he : scanExp a2 with
          | none => simp [he] at hx
          | some w =>
            obtain ⟨ep, a3⟩ := w
            simp only [he, Option.some.injEq, Prod.mk.injEq] at hx
            obtain ⟨hx1, hx2⟩ := hx
            subst hx2
            rw [scanExp_ext _ ep [] rest he hr]
            simp only [List.nil_append, hx1]

end J5V.Json
