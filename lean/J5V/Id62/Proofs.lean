import J5V.Id62.Model
import Mathlib.Data.Nat.Digits.Lemmas
/-!
# Lemmas about the id62 model (Mathlib's `Nat.digits` carries the arithmetic)

Everything is done on digits as numbers (`textDigits`, `renderDigits`, `Nat.ofDigits 62`), so that Mathlib's
lemmas apply; the bytes `0-9A-Za-z` come in only through `digitByte` and `byteDigit`.
-/
namespace J5V.Id62
open J5V.Go

theorem digitsLE_eq (b : Nat) (hb : 2 ≤ b) (n : Nat) : digitsLE b n = Nat.digits b n := by
  induction n using Nat.strong_induction_on with
  | _ n ih =>
    rw [digitsLE]
    by_cases h0 : n = 0
    · subst h0; simp
    · have : ¬ (n = 0 ∨ b < 2) := by omega
      simp only [this, dite_false]
      rw [ih (n / b) (Nat.div_lt_self (Nat.pos_of_ne_zero h0) (by omega))]
      rw [Nat.digits_def' (by omega) (Nat.pos_of_ne_zero h0)]

theorem bytesToNat_eq (bs : List Nat) : bytesToNat bs = Nat.ofDigits 256 bs.reverse := by
  unfold bytesToNat
  suffices h : ∀ acc, List.foldl (fun acc b => acc * 256 + b) acc bs
      = acc * 256 ^ bs.length + Nat.ofDigits 256 bs.reverse by simpa using h 0
  induction bs with
  | nil => intro acc; simp
  | cons b bs ih =>
    intro acc
    simp only [List.foldl_cons, List.reverse_cons, List.length_cons]
    rw [ih, Nat.ofDigits_append, Nat.ofDigits_singleton]
    simp only [List.length_reverse]
    ring

theorem scanDigits_eq (cs : List Nat) (ds : List Nat) (acc : Nat)
    (h : cs.map byteDigit = ds.map some) :
    scanDigits cs acc = some (acc * 62 ^ ds.length + Nat.ofDigits 62 ds.reverse) := by
  induction cs generalizing ds acc with
  | nil =>
    cases ds with
    | nil => simp [scanDigits]
    | cons d ds => simp at h
  | cons c cs ih =>
    cases ds with
    | nil => simp at h
    | cons d ds =>
      simp only [List.map_cons, List.cons.injEq] at h
      simp only [scanDigits, h.1]
      rw [ih ds _ h.2]
      simp only [List.reverse_cons, List.length_cons, Nat.ofDigits_append, Nat.ofDigits_singleton,
        List.length_reverse]
      congr 1
      ring

theorem byteDigit_digitByte : ∀ d, d < 62 → byteDigit (digitByte d) = some d := by
  decide +kernel

theorem digitByte_alnum : ∀ d, d < 62 →
    let c := digitByte d
    ((48 ≤ c && c ≤ 57) || (65 ≤ c && c ≤ 90) || (97 ≤ c && c ≤ 122)) = true := by
  decide +kernel

theorem digitByte_not_sign : ∀ d, d < 62 → digitByte d ≠ 43 ∧ digitByte d ≠ 45 := by
  decide +kernel

theorem two_pow_128_lt : 2 ^ 128 < 62 ^ 22 := by norm_num

theorem bytesToNat_lt (id : List Nat) (h : IsId id) : bytesToNat id < 2 ^ 128 := by
  rw [bytesToNat_eq]
  have := Nat.ofDigits_lt_base_pow_length (b := 256) (l := id.reverse) (by norm_num)
    (by intro x hx; exact h.2 x (List.mem_reverse.mp hx))
  rw [List.length_reverse, h.1] at this
  calc _ < 256 ^ 16 := this
    _ = 2 ^ 128 := by norm_num

/-- the digit list of `text62 n`, as numbers -/
def textDigits (n : Nat) : List Nat := if n = 0 then [0] else (Nat.digits 62 n).reverse

theorem text62_eq (n : Nat) : text62 n = (textDigits n).map digitByte := by
  unfold text62 textDigits
  split
  · simp [digitByte]
  · rw [digitsLE_eq 62 (by norm_num)]

theorem textDigits_lt (n : Nat) : ∀ d ∈ textDigits n, d < 62 := by
  unfold textDigits
  split
  · simp
  · intro d hd
    exact Nat.digits_lt_base (by norm_num) (List.mem_reverse.mp hd)

theorem textDigits_value (n : Nat) : Nat.ofDigits 62 (textDigits n).reverse = n := by
  unfold textDigits
  split
  · subst_vars; simp
  · simp [Nat.ofDigits_digits]

theorem textDigits_length_le (n : Nat) (h : n < 62 ^ 22) : (textDigits n).length ≤ 22 := by
  unfold textDigits
  split
  · simp
  · simpa using (Nat.digits_length_le_iff (by norm_num) _).mpr h

theorem textDigits_ne_nil (n : Nat) : textDigits n ≠ [] := by
  unfold textDigits
  split
  · simp
  · simpa [Nat.digits_eq_nil_iff_eq_zero]

def renderDigits (n : Nat) : List Nat :=
  List.replicate (22 - (textDigits n).length) 0 ++ textDigits n

theorem render_eq (id : List Nat) (h : IsId id) :
    render id = .ok ((renderDigits (bytesToNat id)).map digitByte) := by
  have hlt := lt_trans (bytesToNat_lt id h) two_pow_128_lt
  have hlen := textDigits_length_le _ hlt
  unfold render renderDigits
  simp only [text62_eq, List.length_map]
  by_cases h22 : (textDigits (bytesToNat id)).length < 22
  · simp [h22, digitByte]
  · have : (textDigits (bytesToNat id)).length = 22 := by omega
    simp [this]

theorem renderDigits_length (n : Nat) (h : n < 62 ^ 22) : (renderDigits n).length = 22 := by
  have := textDigits_length_le n h
  simp [renderDigits]; omega

theorem renderDigits_lt (n : Nat) : ∀ d ∈ renderDigits n, d < 62 := by
  intro d hd
  simp only [renderDigits, List.mem_append, List.mem_replicate] at hd
  rcases hd with ⟨_, rfl⟩ | hd
  · norm_num
  · exact textDigits_lt n d hd

theorem renderDigits_value (n : Nat) : Nat.ofDigits 62 (renderDigits n).reverse = n := by
  simp [renderDigits, Nat.ofDigits_append, Nat.ofDigits_replicate_zero, textDigits_value]

theorem renderDigits_ne_nil (n : Nat) : renderDigits n ≠ [] := by
  simp [renderDigits, textDigits_ne_nil]

theorem map_byteDigit_digitByte (ds : List Nat) (h : ∀ d ∈ ds, d < 62) :
    (ds.map digitByte).map byteDigit = ds.map some := by
  induction ds with
  | nil => rfl
  | cons d ds ih =>
    simp only [List.map_cons, List.cons.injEq]
    exact ⟨byteDigit_digitByte d (h d (by simp)), ih (fun x hx => h x (by simp [hx]))⟩

theorem setString62_render (ds : List Nat) (hne : ds ≠ []) (h : ∀ d ∈ ds, d < 62) :
    setString62 (ds.map digitByte) = some (Nat.ofDigits 62 ds.reverse) := by
  unfold setString62
  cases ds with
  | nil => exact absurd rfl hne
  | cons d ds =>
    have hd := digitByte_not_sign d (h d (by simp))
    have hbody : stripSign ((d :: ds).map digitByte) = (d :: ds).map digitByte := by
      simp only [List.map_cons]
      unfold stripSign
      split
      · rename_i heq; simp only [List.cons.injEq] at heq; exact absurd heq.1 hd.1
      · rename_i heq; simp only [List.cons.injEq] at heq; exact absurd heq.1 hd.2
      · rfl
    simp only [hbody]
    rw [scanDigits_eq _ (d :: ds) 0 (map_byteDigit_digitByte _ h)]
    simp

theorem natBytes_eq (n : Nat) : natBytes n = (Nat.digits 256 n).reverse := by
  unfold natBytes; rw [digitsLE_eq 256 (by norm_num)]

theorem parse_of_value (s : List Nat) (n : Nat) (hs : setString62 s = some n) (hn : n < 2 ^ 128) :
    ∃ bs, parse s = .ok bs ∧ IsId bs ∧ bytesToNat bs = n := by
  have hlen : (natBytes n).length ≤ 16 := by
    rw [natBytes_eq, List.length_reverse]
    exact (Nat.digits_length_le_iff (by norm_num) _).mpr (by calc n < 2 ^ 128 := hn
      _ = 256 ^ 16 := by norm_num)
  have hb : ∀ b ∈ natBytes n, b < 256 := by
    intro b hb
    rw [natBytes_eq] at hb
    exact Nat.digits_lt_base (by norm_num) (List.mem_reverse.mp hb)
  have hv : bytesToNat (natBytes n) = n := by
    rw [bytesToNat_eq, natBytes_eq, List.reverse_reverse, Nat.ofDigits_digits]
  unfold parse
  simp only [hs]
  by_cases h16 : (natBytes n).length < 16
  · refine ⟨List.replicate (16 - (natBytes n).length) 0 ++ natBytes n, ?_, ⟨?_, ?_⟩, ?_⟩
    · simp [h16, Nat.not_lt.mpr hlen]
    · simp; omega
    · intro b hb'
      simp only [List.mem_append, List.mem_replicate] at hb'
      rcases hb' with ⟨_, rfl⟩ | hb'
      · norm_num
      · exact hb b hb'
    · rw [bytesToNat_eq, List.reverse_append, Nat.ofDigits_append, List.reverse_replicate,
        Nat.ofDigits_replicate_zero, ← bytesToNat_eq, hv]; simp
  · have : (natBytes n).length = 16 := by omega
    refine ⟨natBytes n, ?_, ⟨this, hb⟩, hv⟩
    simp [this]

theorem isId_ext (a b : List Nat) (ha : IsId a) (hb : IsId b) (h : bytesToNat a = bytesToNat b) :
    a = b := by
  rw [bytesToNat_eq, bytesToNat_eq] at h
  have := Nat.ofDigits_inj_of_len_eq (b := 256) (by norm_num)
    (L1 := a.reverse) (L2 := b.reverse) (by simp [ha.1, hb.1])
    (fun l hl => ha.2 l (List.mem_reverse.mp hl)) (fun l hl => hb.2 l (List.mem_reverse.mp hl)) h
  simpa using congrArg List.reverse this

theorem parse_wide (s : List Nat) (n : Nat) (hs : setString62 s = some n) (hn : 2 ^ 128 ≤ n) :
    parse s = .err "base62 value is too large" := by
  have : 16 < (natBytes n).length := by
    rw [natBytes_eq, List.length_reverse]
    exact (Nat.lt_digits_length_iff (by norm_num) _).mpr (by calc 256 ^ 16 = 2 ^ 128 := by norm_num
      _ ≤ n := hn)
  unfold parse
  simp [hs, this]

theorem render_spec (id : List Nat) (h : IsId id) (s : List Nat) (hs : render id = .ok s) :
    s.length = 22 ∧ matchesPattern s = true ∧ parse s = .ok id := by
  rw [render_eq id h] at hs
  cases hs
  have hl : ((renderDigits (bytesToNat id)).map digitByte).length = 22 := by
    simpa using renderDigits_length _ (lt_trans (bytesToNat_lt id h) two_pow_128_lt)
  refine ⟨hl, ?_, ?_⟩
  · simp only [matchesPattern, Bool.and_eq_true, beq_iff_eq, List.all_eq_true]
    refine ⟨hl, fun c hc => ?_⟩
    obtain ⟨d, hd, rfl⟩ := List.mem_map.mp hc
    exact digitByte_alnum d (renderDigits_lt _ d hd)
  · have hv := setString62_render (renderDigits (bytesToNat id)) (renderDigits_ne_nil _)
      (renderDigits_lt _)
    rw [renderDigits_value] at hv
    obtain ⟨bs, hp, hid, hval⟩ := parse_of_value _ _ hv (bytesToNat_lt id h)
    rw [hp, isId_ext bs id hid h hval]

theorem parse_noPanic (s : List Nat) : ∀ w, parse s ≠ .panic w := by
  intro w
  unfold parse
  split
  · simp
  · simp only []
    split
    · simp
    · split <;> simp

theorem parse_ok (s : List Nat) (bs : List Nat) (h : parse s = .ok bs) :
    IsId bs ∧ setString62 s = some (bytesToNat bs) := by
  cases hs : setString62 s with
  | none => simp [parse, hs] at h
  | some n =>
    by_cases hn : n < 2 ^ 128
    · obtain ⟨bs', hp, hid, hv⟩ := parse_of_value s n hs hn
      rw [hp] at h; cases h
      exact ⟨hid, by rw [hv]⟩
    · rw [parse_wide s n hs (by omega)] at h; cases h

end J5V.Id62
