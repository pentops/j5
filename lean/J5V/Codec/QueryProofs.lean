import J5V.Codec.AtPathProofs
import J5V.Codec.Doc
import J5V.Codec.DecodeProofs
/-!
# A scalar query parameter decodes like the equivalent document (C03)

`decodeQuery c root [(key, [s])]` and `decRootTree c root (queryDoc …)` have the same outcome
class and, on success, the same message — for every environment, dotted paths through object /
wrapper-oneof / exposed-oneof containers of any proto path, every scalar kind and enums.
-/
namespace J5V.Codec
open J5V.Go J5V.Json

/-- same outcome class, same value on success -/
def Sim {α} (a b : Outcome α) : Prop :=
  (∃ x, a = .ok x ∧ b = .ok x) ∨ (∃ e e', a = .err e ∧ b = .err e') ∨ (∃ w w', a = .panic w ∧ b = .panic w')

/-- the message that holds `X` at proto location `loc` and nothing else -/
def wrapAt : List Nat → Fields → Fields
  | [], X => X
  | k :: rest, X => [(k, .msg (wrapAt rest X))]

theorem updAt_wrap (f : Fields → Fields) : ∀ (loc : List Nat) (X : Fields),
    updAt loc f (wrapAt loc X) = wrapAt loc (f X) := by
  intro loc
  induction loc with
  | nil => intro X; rfl
  | cons k rest ih =>
    intro X
    simp only [updAt, wrapAt, aget, if_true, PVal.asMsg, ih]
    simp [aset]

theorem msgAt_wrap : ∀ (loc : List Nat) (X : Fields), msgAt loc (wrapAt loc X) = X := by
  intro loc
  induction loc with
  | nil => intro X; rfl
  | cons k rest ih => intro X; simp [msgAt, wrapAt, aget, PVal.asMsg, ih]

theorem wrapAt_append : ∀ (loc path : List Nat) (X : Fields),
    wrapAt (loc ++ path) X = wrapAt loc (wrapAt path X) := by
  intro loc
  induction loc with
  | nil => intro path X; rfl
  | cons k rest ih => intro path X; simp [wrapAt, ih]

theorem msgAt_nil : ∀ (loc : List Nat), msgAt loc [] = [] := by
  intro loc
  induction loc with
  | nil => rfl
  | cons k rest ih => simp [msgAt, aget, PVal.asMsg, ih]

theorem groupBusy_empty (props : List PropDef) (p : PropDef) : groupBusy props p [] = false := by
  unfold groupBusy
  split
  · simp only [msgAt_nil, List.any_eq_false]
    intro q _
    split <;> simp [aget]
  · rfl

theorem clearGroup_empty (props : List PropDef) (pfx : List Nat) (g : Option Nat) (k : Nat) :
    clearGroup props pfx g k [] = [] := by
  unfold clearGroup
  cases g with
  | none => rfl
  | some gi =>
    simp only []
    have : ∀ (l : List PropDef), l.foldl (fun acc p =>
        if p.group == some gi && p.path.dropLast == pfx then
          match p.path.getLast? with
          | some k' => if k' == k then acc else aerase k' acc
          | none => acc
        else acc) ([] : Fields) = [] := by
      intro l
      induction l with
      | nil => rfl
      | cons q t ih =>
        rw [List.foldl_cons]
        have : (if q.group == some gi && q.path.dropLast == pfx then
            match q.path.getLast? with
            | some k' => if k' == k then ([] : Fields) else aerase k' []
            | none => []
          else []) = [] := by
          split
          · split
            · split <;> rfl
            · rfl
          · rfl
        rw [this]; exact ih
    exact this props

/-- storing a message at a path of the empty message builds the chain of sub-messages -/
theorem updGo_msg_nil (props : List PropDef) (p : PropDef) (X : Fields) :
    ∀ (path pfx : List Nat), path ≠ [] →
      updPath.go props p (some (.msg X)) pfx path [] = wrapAt path X := by
  intro path
  induction path with
  | nil => intro pfx h; exact absurd rfl h
  | cons k t ih =>
    intro pfx _
    cases t with
    | nil =>
      rw [updPath.go, clearGroup_empty]
      simp [setLeaf, PVal.isZero, PVal.isEmptyColl, aset, wrapAt]
    | cons k2 r =>
      rw [updPath.go]
      · simp only [aget, PVal.asMsg]
        rw [ih (pfx ++ [k]) (by simp)]
        simp [aset, wrapAt]
      · simp

theorem updPath_msg_nil (props : List PropDef) (p : PropDef) (X : Fields) (h : p.path ≠ []) :
    updPath props p (some (.msg X)) [] = wrapAt p.path X :=
  updGo_msg_nil props p X p.path [] h

theorem propertyName_found (props : List PropDef) (seg : Bytes) (p : PropDef)
    (h : findProp props seg = some p) : propertyName props seg = seg := by
  unfold propertyName; simp [h]

theorem goTok_queryLeafTree (k : ScalarKind) (s : Bytes) :
    goTok (queryLeafTree k s) = some (queryGoValue k s) := by
  -- `queryGoValue` is a boolean, or the text unchanged
  have h : (∃ b, queryGoValue k s = .bool b) ∨ queryGoValue k s = .str s := by
    unfold queryGoValue
    split
    · split
      · exact Or.inl ⟨_, rfl⟩
      · split
        · exact Or.inl ⟨_, rfl⟩
        · exact Or.inr rfl
    · exact Or.inr rfl
  unfold queryLeafTree
  rcases h with ⟨b, h⟩ | h <;> rw [h] <;> rfl

theorem not_seen_of_short (seen : List (List Bytes)) (trail : List Bytes) (name : Bytes)
    (h : ∀ x ∈ seen, x.length ≤ trail.length) : seen.contains (trail ++ [name]) = false := by
  cases hc : seen.contains (trail ++ [name]) with
  | false => rfl
  | true =>
    have hm : trail ++ [name] ∈ seen := by simpa using hc
    have := h _ hm
    simp only [List.length_append, List.length_singleton] at this
    omega

theorem Sim_err {α} (e e' : String) : Sim (Outcome.err e : Outcome α) (Outcome.err e') :=
  Or.inr (Or.inl ⟨e, e', rfl, rfl⟩)

theorem Sim_ok {α} (x : α) : Sim (Outcome.ok x) (Outcome.ok x) := Or.inl ⟨x, rfl, rfl⟩

theorem Sim_panic {α} (w w' : String) : Sim (Outcome.panic w : Outcome α) (Outcome.panic w') :=
  Or.inr (Or.inr ⟨w, w', rfl, rfl⟩)

/-- `qCreate` on a fresh location: the flag check and the oneof check pass -/
theorem qCreate_fresh_ok (props : List PropDef) (p : PropDef) (loc : List Nat) (trail : List Bytes)
    (seen : List (List Bytes)) (h : ∀ x ∈ seen, x.length ≤ trail.length) (hne : p.path ≠ [])
    (hf : (∃ k, p.field = .scalar k) ∨ (∃ r, p.field = .enum r) ∨ (∃ r, p.field = .object r) ∨
      (∃ r, p.field = .oneof r)) :
    qCreate props p loc trail { m := wrapAt loc [], seen := seen } =
      .ok { m := wrapAt loc [], seen := (trail ++ [p.jsonName]) :: seen } := by
  unfold qCreate
  simp only [not_seen_of_short seen trail p.jsonName h, Bool.false_eq_true, if_false, msgAt_wrap,
    groupBusy_empty]
  cases hp : p.path with
  | nil => exact absurd hp hne
  | cons a t =>
    rcases hf with ⟨k, hk⟩ | ⟨r, hk⟩ | ⟨r, hk⟩ | ⟨r, hk⟩ <;> rw [hk]

theorem qCreate_fresh_exposed (props : List PropDef) (p : PropDef) (loc : List Nat)
    (trail : List Bytes) (seen : List (List Bytes)) (h : ∀ x ∈ seen, x.length ≤ trail.length)
    (hp : p.path = []) (r : String) (hf : p.field = .oneof r) :
    qCreate props p loc trail { m := wrapAt loc [], seen := seen } =
      .ok { m := wrapAt loc [], seen := (trail ++ [p.jsonName]) :: seen } := by
  unfold qCreate
  simp only [not_seen_of_short seen trail p.jsonName h, Bool.false_eq_true, if_false, msgAt_wrap,
    groupBusy_empty]
  rw [hp, hf]

theorem qCreate_fresh_nopath (props : List PropDef) (p : PropDef) (loc : List Nat)
    (trail : List Bytes) (seen : List (List Bytes)) (h : ∀ x ∈ seen, x.length ≤ trail.length)
    (hp : p.path = []) (hf : (∃ k, p.field = .scalar k) ∨ (∃ r, p.field = .enum r) ∨ (∃ r, p.field = .object r)) :
    ∃ e, qCreate props p loc trail { m := wrapAt loc [], seen := seen } = .err e := by
  unfold qCreate
  simp only [not_seen_of_short seen trail p.jsonName h, Bool.false_eq_true, if_false, msgAt_wrap,
    groupBusy_empty]
  rcases hf with ⟨k, hk⟩ | ⟨r, hk⟩ | ⟨r, hk⟩ <;> (rw [hp, hk]; exact ⟨_, rfl⟩)

theorem createField_empty (props : List PropDef) (p : PropDef) :
    createField props p { m := [], seen := [] } = .ok { m := [], seen := [p.jsonName] } := by
  unfold createField
  simp [groupBusy_empty]

/-- message part of a query state / wrapped message of a decoder state -/
def qOut (r : Outcome QS) : Outcome Fields := r.bind fun x => .ok x.m
def dOut (loc : List Nat) (r : Outcome PS) : Outcome Fields := r.bind fun x => .ok (wrapAt loc x.m)

/-! ## the document side, one member at a time -/

theorem leaf_scalar (c : Cfg) (props : List PropDef) (p : PropDef) (k : ScalarKind) (s : Bytes) :
    decScalarProp c props p k (queryLeafTree k s) { m := [], seen := [] } =
      if p.path.isEmpty then .err pathErr
      else (decodeScalar c.O k (queryGoValue k s)).bind fun v =>
        .ok { m := updPath props p v [], seen := [p.jsonName] } := by
  have hg := goTok_queryLeafTree k s
  unfold queryLeafTree at hg ⊢
  unfold decScalarProp
  cases hq : queryGoValue k s with
  | bool b => simp [createField_empty, Outcome.bind, goTok]
  | str v =>
    rw [hq] at hg
    simp only [goTok, Option.some.injEq, GoTok.str.injEq] at hg
    subst hg
    simp [createField_empty, Outcome.bind, goTok]
  | num x => rw [hq] at hg; simp [goTok] at hg
  | null => rw [hq] at hg; simp [goTok] at hg

theorem leaf_enum (c : Cfg) (props : List PropDef) (p : PropDef) (ref : String) (s : Bytes) :
    decEnumProp c props p ref (.str s []) { m := [], seen := [] } =
      if p.path.isEmpty then .err pathErr
      else
        match c.env.find ref with
        | some (.enum pfx opts) =>
          match enumOptionByName pfx opts s with
          | some n => .ok { m := updPath props p (some (.enum n)) [], seen := [p.jsonName] }
          | none => .err "enum value not found"
        | _ => .err "unexpected token, expected string" := by
  unfold decEnumProp
  simp only [createField_empty, Outcome.bind]
  split
  · rfl
  · cases c.env.find ref with
    | none => rfl
    | some r => cases r <;> rfl

/-- a container property holding the single member `seg2 : tree` -/
theorem dec_object_single (c : Cfg) (props : List PropDef) (p : PropDef) (ref : String)
    (sub : List PropDef) (seg2 : Bytes) (tree : PTree) (p2 : PropDef) (hfld : p.field = .object ref)
    (hf : c.env.find ref = some (.object sub)) (hfp2 : findProp sub seg2 = some p2)
    (hne : p.path ≠ []) :
    decProp c props p (.obj (.cons seg2 [] tree (.nil .closed))) { m := [], seen := [] } =
      (decProp c sub p2 tree { m := [], seen := [] }).bind fun st2 =>
        .ok { m := wrapAt p.path st2.m, seen := [p.jsonName] } := by
  have hem : p.path.isEmpty = false := List.isEmpty_eq_false_iff.mpr hne
  have hsub : subStart p { m := [], seen := [p.jsonName] } = { m := [], seen := [] } := by
    unfold subStart; rw [getPath_nil]; rfl
  conv => lhs; unfold decProp
  rw [hfld]
  simp only [createField_empty, Outcome.bind, hem, Bool.false_eq_true, if_false, hf, hsub,
    decObjMembers, hfp2]
  cases decProp c sub p2 tree { m := [], seen := [] } with
  | ok st2 =>
    simp only [show (Term.closed == Term.errIn) = false from rfl, Bool.false_eq_true, if_false,
      finishObjectProp, Outcome.bind, closeOk, beq_self_eq_true, if_true]
    rw [updPath_msg_nil props p st2.m hne]
  | err e => simp [finishObjectProp, Outcome.bind]
  | panic w => simp [finishObjectProp, Outcome.bind]

theorem dec_oneof_single (c : Cfg) (props : List PropDef) (p : PropDef) (ref : String)
    (ops : List PropDef) (seg2 : Bytes) (tree : PTree) (p2 : PropDef) (hfld : p.field = .oneof ref)
    (hf : c.env.find ref = some (.oneof ops)) (hfp2 : findProp ops seg2 = some p2)
    (hseg2 : seg2 ≠ ascii "!type") :
    decProp c props p (.obj (.cons seg2 [] tree (.nil .closed))) { m := [], seen := [] } =
      (decProp c ops p2 tree { m := [], seen := [] }).bind fun st2 =>
        .ok { m := wrapAt p.path st2.m, seen := [p.jsonName] } := by
  have hstart : oneofStart p { m := [], seen := [p.jsonName] } = { m := [], seen := [] } := by
    unfold oneofStart
    split
    · rfl
    · rw [getPath_nil]; rfl
  conv => lhs; unfold decProp
  rw [hfld]
  simp only [createField_empty, Outcome.bind, hf, hstart, decOneofMembers, hseg2, if_false, hfp2]
  cases decProp c ops p2 tree { m := [], seen := [] } with
  | ok st2 =>
    simp only [finishOneofProp, Outcome.bind, show (Term.closed == Term.errIn) = false from rfl,
      Bool.false_eq_true, if_false, List.nil_append, oneofPost, closeOk, beq_self_eq_true, if_true,
      applyPost]
    cases hpp : p.path with
    | nil => simp [wrapAt]
    | cons a t =>
      have hne : p.path ≠ [] := by rw [hpp]; simp
      simp only [List.isEmpty_cons, Bool.false_eq_true, if_false]
      rw [← hpp, updPath_msg_nil props p st2.m hne]
  | err e => simp [finishOneofProp, Outcome.bind]
  | panic w => simp [finishOneofProp, Outcome.bind]

/-! ## the query side, one segment at a time -/

theorem query_enter (props : List PropDef) (p : PropDef) (loc : List Nat)
    (trail : List Bytes) (seen : List (List Bytes)) (hseen : ∀ x ∈ seen, x.length ≤ trail.length)
    (hok : (p.path ≠ [] ∧ ((∃ r, p.field = .object r) ∨ (∃ r, p.field = .oneof r))) ∨
      (p.path = [] ∧ ∃ r, p.field = .oneof r)) :
    qEnter props p loc trail { m := wrapAt loc [], seen := seen } =
      .ok { m := wrapAt (loc ++ p.path) [], seen := (trail ++ [p.jsonName]) :: seen } := by
  unfold qEnter
  simp only [not_seen_of_short seen trail p.jsonName hseen, Bool.false_eq_true, if_false]
  rcases hok with ⟨hne, hk⟩ | ⟨hp0, r, hk⟩
  · rw [qCreate_fresh_ok props p loc trail seen hseen hne (Or.inr (Or.inr hk))]
    have hem : p.path.isEmpty = false := List.isEmpty_eq_false_iff.mpr hne
    have hmut : p.field.mutable = true := by
      rcases hk with ⟨r, hk⟩ | ⟨r, hk⟩ <;> rw [hk] <;> rfl
    simp only [Outcome.bind, hem, Bool.false_eq_true, if_false, hmut, if_true]
    rw [updAt_wrap, getPath_nil]
    simp only [PVal.asMsg]
    rw [updPath_msg_nil props p [] hne, wrapAt_append]
  · rw [qCreate_fresh_exposed props p loc trail seen hseen hp0 r hk]
    simp [Outcome.bind, hp0]

theorem qvt_key (c : Cfg) (seg : Bytes) (rest : List Bytes) (props : List PropDef) (s : Bytes)
    (kv : Bytes × PTree) (h : queryValueTree c (seg :: rest) props s = some kv) : kv.1 = seg := by
  cases rest with
  | nil =>
    simp only [queryValueTree] at h
    split at h
    · split at h <;> first | (cases h; rfl) | cases h
    · cases h
  | cons s3 r3 =>
    simp only [queryValueTree] at h
    split at h
    · split at h
      · split at h
        · simp only [Option.map_eq_some_iff] at h
          obtain ⟨_, _, rfl⟩ := h; rfl
        · cases h
      · split at h
        · simp only [Option.map_eq_some_iff] at h
          obtain ⟨_, _, rfl⟩ := h; rfl
        · cases h
      · cases h
    · cases h

/-- lifting the induction hypothesis through a container -/
theorem Sim_lift (loc path : List Nat) (name : Bytes) (X : Outcome QS) (Y : Outcome PS)
    (h : Sim (qOut X) (dOut (loc ++ path) Y)) :
    Sim (qOut X) (dOut loc (Y.bind fun st2 => .ok { m := wrapAt path st2.m, seen := [name] })) := by
  cases Y with
  | ok st2 =>
    simp only [dOut, Outcome.bind] at h ⊢
    rw [← wrapAt_append]; exact h
  | err e => simpa [dOut, Outcome.bind] using h
  | panic w => simpa [dOut, Outcome.bind] using h

theorem leaf_scalar_sim (c : Cfg) (props : List PropDef) (p : PropDef) (k : ScalarKind) (loc : List Nat)
    (trail : List Bytes) (seen : List (List Bytes)) (s : Bytes) (hfld : p.field = .scalar k)
    (hseen : ∀ x ∈ seen, x.length ≤ trail.length) :
    Sim (qOut (match qCreate props p loc trail { m := wrapAt loc [], seen := seen } with
          | .ok st1 => queryLeaf c props p loc trail [s] st1
          | .err e => .err e
          | .panic w => .panic w))
        (dOut loc (decProp c props p (queryLeafTree k s) { m := [], seen := [] })) := by
  unfold decProp; rw [hfld]; simp only []
  rw [leaf_scalar]
  cases hpp : p.path with
  | nil =>
    -- no proto path: `CreateField` fails on one side, the path check on the other
    obtain ⟨e, he⟩ := qCreate_fresh_nopath props p loc trail seen hseen hpp (Or.inl ⟨k, hfld⟩)
    rw [he]
    simp only [List.isEmpty_nil, if_true, qOut, dOut, Outcome.bind]
    exact Sim_err _ _
  | cons a t =>
    have hne : p.path ≠ [] := by rw [hpp]; simp
    rw [← hpp, qCreate_fresh_ok props p loc trail seen hseen hne (Or.inl ⟨k, hfld⟩)]
    simp only [queryLeaf, hfld, List.isEmpty_eq_false_iff.mpr hne, Bool.false_eq_true, if_false]
    cases decodeScalar c.O k (queryGoValue k s) with
    | ok x =>
      simp only [qOut, dOut, Outcome.bind, updAt_wrap]
      exact Sim_ok _
    | err e => simp only [qOut, dOut, Outcome.bind]; exact Sim_err _ _
    | panic w => simp only [qOut, dOut, Outcome.bind]; exact Sim_panic _ _

theorem leaf_enum_sim (c : Cfg) (props : List PropDef) (p : PropDef) (ref : String) (loc : List Nat)
    (trail : List Bytes) (seen : List (List Bytes)) (s : Bytes) (hfld : p.field = .enum ref)
    (hseen : ∀ x ∈ seen, x.length ≤ trail.length) :
    Sim (qOut (match qCreate props p loc trail { m := wrapAt loc [], seen := seen } with
          | .ok st1 => queryLeaf c props p loc trail [s] st1
          | .err e => .err e
          | .panic w => .panic w))
        (dOut loc (decProp c props p (.str s []) { m := [], seen := [] })) := by
  unfold decProp; rw [hfld]; simp only []
  rw [leaf_enum]
  cases hpp : p.path with
  | nil =>
    obtain ⟨e, he⟩ := qCreate_fresh_nopath props p loc trail seen hseen hpp
      (Or.inr (Or.inl ⟨ref, hfld⟩))
    rw [he]
    simp only [List.isEmpty_nil, if_true, qOut, dOut, Outcome.bind]
    exact Sim_err _ _
  | cons a t =>
    have hne : p.path ≠ [] := by rw [hpp]; simp
    rw [← hpp, qCreate_fresh_ok props p loc trail seen hseen hne (Or.inr (Or.inl ⟨ref, hfld⟩))]
    simp only [queryLeaf, hfld, List.isEmpty_eq_false_iff.mpr hne, Bool.false_eq_true, if_false]
    cases c.env.find ref with
    | none => simp only [qOut, dOut, Outcome.bind]; exact Sim_err _ _
    | some rt =>
      cases rt with
      | «enum» pfx opts =>
        simp only []
        cases enumOptionByName pfx opts s with
        | none => simp only [qOut, dOut, Outcome.bind]; exact Sim_err _ _
        | some n =>
          simp only [qOut, dOut, Outcome.bind, updAt_wrap]
          exact Sim_ok _
      | _ => simp only [qOut, dOut, Outcome.bind]; exact Sim_err _ _

/-- one key against the document it stands for, by induction on the segments. Carried along: the query
state is `wrapAt loc []`, the empty message seen from the location the segments so far lead to; the
document side runs on a fresh property set and is wrapped afterwards (`dOut loc`); the flags set so
far belong to ancestors (`x.length ≤ trail.length`), so the flag of the property met next is not
among them and `CreateField` passes on both sides. -/
theorem queryKey_fresh (c : Cfg) : ∀ (segs : List Bytes) (props : List PropDef) (loc : List Nat)
    (trail : List Bytes) (s : Bytes) (kv : Bytes × PTree) (seen : List (List Bytes)),
    queryValueTree c segs props s = some kv → ascii "!type" ∉ segs →
    (∀ x ∈ seen, x.length ≤ trail.length) →
    ∃ p, findProp props kv.1 = some p ∧
      Sim (qOut (queryKey c segs props loc trail [s] { m := wrapAt loc [], seen := seen }))
          (dOut loc (decProp c props p kv.2 { m := [], seen := [] })) := by
  intro segs
  induction segs with
  | nil => intro props loc trail s kv seen h; simp [queryValueTree] at h
  | cons seg rest ih =>
    intro props loc trail s kv seen h hnt hseen
    have hkey := qvt_key c seg rest props s kv h
    cases rest with
    | nil =>
      simp only [queryValueTree] at h
      cases hfp : findProp props seg with
      | none => simp [hfp] at h
      | some p =>
        simp only [hfp] at h
        have hpn := propertyName_found props seg p hfp
        refine ⟨p, by rw [hkey]; exact hfp, ?_⟩
        simp only [queryKey, hpn, hfp]
        cases hfld : p.field with
        | scalar k =>
          simp only [hfld, Option.some.injEq] at h
          subst h
          exact leaf_scalar_sim c props p k loc trail seen s hfld hseen
        | «enum» ref =>
          simp only [hfld, Option.some.injEq] at h
          subst h
          exact leaf_enum_sim c props p ref loc trail seen s hfld hseen
        | _ => simp [hfld] at h
    | cons seg2 rest2 =>
      simp only [queryValueTree] at h
      cases hfp : findProp props seg with
      | none => simp [hfp] at h
      | some p =>
        simp only [hfp] at h
        have hpn := propertyName_found props seg p hfp
        have hnt2 : ascii "!type" ∉ seg2 :: rest2 := fun hm => hnt (List.mem_cons_of_mem _ hm)
        have hseg2 : seg2 ≠ ascii "!type" := fun e => hnt (by rw [← e]; simp)
        have hseen' : ∀ x ∈ (trail ++ [p.jsonName]) :: seen, x.length ≤ (trail ++ [p.jsonName]).length := by
          intro x hx
          rcases List.mem_cons.mp hx with rfl | hx'
          · exact Nat.le_refl _
          · have := hseen x hx'
            simp only [List.length_append, List.length_singleton]; omega
        refine ⟨p, by rw [hkey]; exact hfp, ?_⟩
        cases hfld : p.field with
        | object ref =>
          simp only [hfld] at h
          cases hf : c.env.find ref with
          | none => simp [hf] at h
          | some rt =>
            cases rt with
            | object sub =>
              simp only [hf, Option.map_eq_some_iff] at h
              obtain ⟨kv', hkv', rfl⟩ := h
              have hk2 := qvt_key c seg2 rest2 sub s kv' hkv'
              obtain ⟨p2, hfp2, hsim⟩ := ih sub (loc ++ p.path) (trail ++ [p.jsonName]) s kv' _ hkv' hnt2 hseen'
              rw [hk2] at hfp2
              simp only [queryKey, hpn, hfp]
              cases hpp : p.path with
              | nil =>
                -- an object property without a proto path: both sides fail
                unfold qEnter
                simp only [not_seen_of_short seen trail p.jsonName hseen, Bool.false_eq_true, if_false]
                obtain ⟨e, he⟩ := qCreate_fresh_nopath props p loc trail seen hseen hpp
                  (Or.inr (Or.inr ⟨ref, hfld⟩))
                rw [he]
                unfold decProp; rw [hfld]
                simp only [createField_empty, Outcome.bind, hpp, List.isEmpty_nil, if_true, qOut, dOut]
                exact Sim_err _ _
              | cons a t =>
                have hne : p.path ≠ [] := by rw [hpp]; simp
                rw [← hpp, query_enter props p loc trail seen hseen (Or.inl ⟨hne, Or.inl ⟨ref, hfld⟩⟩)]
                simp only [hfld, hf]
                rw [dec_object_single c props p ref sub kv'.1 kv'.2 p2 hfld hf (by rw [hk2]; exact hfp2) hne]
                exact Sim_lift loc p.path p.jsonName _ _ hsim
            | _ => simp [hf] at h
        | oneof ref =>
          simp only [hfld] at h
          cases hf : c.env.find ref with
          | none => simp [hf] at h
          | some rt =>
            cases rt with
            | oneof ops =>
              simp only [hf, Option.map_eq_some_iff] at h
              obtain ⟨kv', hkv', rfl⟩ := h
              have hk2 := qvt_key c seg2 rest2 ops s kv' hkv'
              obtain ⟨p2, hfp2, hsim⟩ := ih ops (loc ++ p.path) (trail ++ [p.jsonName]) s kv' _ hkv' hnt2 hseen'
              simp only [queryKey, hpn, hfp]
              have hok : (p.path ≠ [] ∧ ((∃ r, p.field = .object r) ∨ (∃ r, p.field = .oneof r))) ∨
                  (p.path = [] ∧ ∃ r, p.field = .oneof r) := by
                cases hpp : p.path with
                | nil => exact Or.inr ⟨rfl, ref, hfld⟩
                | cons a t => exact Or.inl ⟨by simp, Or.inr ⟨ref, hfld⟩⟩
              rw [query_enter props p loc trail seen hseen hok]
              simp only [hfld, hf]
              rw [dec_oneof_single c props p ref ops kv'.1 kv'.2 p2 hfld hf hfp2 (by rw [hk2]; exact hseg2)]
              exact Sim_lift loc p.path p.jsonName _ _ hsim
            | _ => simp [hf] at h
        | _ => simp [hfld] at h

/-- **a scalar query parameter decodes like the equivalent document** -/
theorem query_scalar_doc (c : Cfg) (root : String) (props : List PropDef) (key s : Bytes)
    (doc : PTree)
    (hroot : c.env.find root = some (.object props) ∨ c.env.find root = some (.oneof props))
    (hnt : ascii "!type" ∉ splitDot key) (hdoc : queryDoc c (splitDot key) props s = some doc) :
    Sim (decodeQuery c root [(key, [s])]) (decRootTree c root doc) := by
  unfold queryDoc at hdoc
  simp only [Option.map_eq_some_iff] at hdoc
  obtain ⟨kv, hkv, rfl⟩ := hdoc
  obtain ⟨p, hfp, hsim⟩ := queryKey_fresh c (splitDot key) props [] [] s kv [] hkv hnt
    (fun _ h => by cases h)
  simp only [wrapAt] at hsim
  have hq : decodeQuery c root [(key, [s])] =
      qOut (queryKey c (splitDot key) props [] [] [s] { m := [], seen := [] }) := by
    unfold decodeQuery
    rcases hroot with hr | hr <;>
    · rw [hr]
      simp only [List.foldl_cons, List.foldl_nil, List.isEmpty_cons, Bool.false_eq_true, if_false]
      unfold qOut
      cases queryKey c (splitDot key) props [] [] [s] { m := [], seen := [] } <;> rfl
  have hk1 : kv.1 ≠ ascii "!type" := by
    cases hsp : splitDot key with
    | nil => rw [hsp] at hkv; simp [queryValueTree] at hkv
    | cons seg rest =>
      rw [hsp] at hkv hnt
      rw [qvt_key c seg rest props s kv hkv]
      intro e; exact hnt (by rw [← e]; simp)
  have hd : decRootTree c root (.obj (.cons kv.1 [] kv.2 (.nil .closed))) =
      dOut [] (decProp c props p kv.2 { m := [], seen := [] }) := by
    unfold decRootTree
    rcases hroot with hr | hr
    · rw [hr]
      simp only [decObjMembers, hfp]
      cases decProp c props p kv.2 { m := [], seen := [] } with
      | ok st1 =>
        simp [finishObject, closeOk, dOut, Outcome.bind, wrapAt]
      | err e => simp [finishObject, dOut, Outcome.bind]
      | panic w => simp [finishObject, dOut, Outcome.bind]
    · rw [hr]
      simp only [decOneofMembers, hk1, if_false, hfp]
      cases decProp c props p kv.2 { m := [], seen := [] } with
      | ok st1 =>
        simp [finishOneof, closeOk, oneofPost, applyPost, dOut, Outcome.bind, wrapAt]
      | err e => simp [finishOneof, dOut, Outcome.bind]
      | panic w => simp [finishOneof, dOut, Outcome.bind]
  rw [hq, hd]
  exact hsim

end J5V.Codec
