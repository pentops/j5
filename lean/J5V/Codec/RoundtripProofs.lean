import J5V.Codec.ScalarProofs
import J5V.Codec.StoreProofs
import J5V.Codec.ConformProofs
import J5V.Codec.EncodeEqs
import J5V.Codec.DecodeRel
import J5V.Go.ListLemmas
import J5V.Json.EscapeProofs
/-!
# What the round trip is assembled from (C01)

`Dec` (the tree decodes to the value wherever the decoder reads a value) from `DecVal`, per kind of field. The
round trip itself is `root_flat` (RoundtripInd.lean), on bytes `roundtrip_bytes` (EncTreeProofs.lean).
-/
namespace J5V.Codec
open J5V.Go J5V.Json

theorem strNode_ok (s : Bytes) (h : isValidUtf8 s = true) : ∃ lit, strNode s = .ok (.str s lit) := by
  obtain ⟨lit, hl⟩ := (appendString_total s).2.1 h
  exact ⟨lit, by simp [strNode, hl]⟩

theorem goTok_bareNode (t : Bytes) : goTok (bareNode t) = some (scalarTok (.bare t)) := by
  simp only [scalarTok]
  rcases bareNode_cases t with ⟨h, hb⟩ | ⟨h, hb⟩ | ⟨h1, h2, hb⟩
  · rw [hb, if_pos h]; rfl
  · rw [hb, h, if_neg (by decide), if_pos rfl]; rfl
  · rw [hb, if_neg h1, if_neg h2]; rfl

theorem scalarRepr_of_scalarOk {O : Oracle} {k : ScalarKind} {v : PVal} (h : scalarOk O k v = true) :
    scalarRepr O k v = true :=
  (Bool.and_eq_true_iff.mp h).1

/-- the text of every quoted scalar is valid UTF-8 -/
theorem quoted_valid (O : Oracle) (L : OracleLaws O) (k : ScalarKind) (v : PVal) (s : Bytes)
    (hok : scalarOk O k v = true) (he : encodeScalar O k v = .ok (.quoted s)) :
    isValidUtf8 s = true := by
  obtain ⟨hr, hx⟩ := Bool.and_eq_true_iff.mp hok
  cases ScalarRepr.of_eq_true hr <;> simp only [encodeScalar] at he
  case string s' => cases he; exact hx
  case key s' => cases he; exact hx
  case bool b => cases he
  case int32 i _ _ => cases he
  case uint32 n _ => cases he
  case int64 i _ _ => cases he; exact isValidUtf8_ascii _ (fmtInt_ascii i)
  case uint64 n _ => cases he; exact isValidUtf8_ascii _ (fmtNat_ascii n)
  case float32 b hb => rw [finite32_exp b hb, nonFinite_finite] at he; cases he
  case float64 b hb => rw [finite64_exp b hb, nonFinite_finite] at he; cases he
  case bytes b => cases he; exact isValidUtf8_ascii _ (b64Encode_ascii b)
  case timestamp s' n hts => cases he; exact L.timeUtf8 s' n hts
  case date y m d _ _ _ _ _ _ => cases he; exact isValidUtf8_ascii _ (dateString_ascii y m d)
  case decimal s' norm _ => cases he; exact (Bool.and_eq_true_iff.mp hx).2

theorem canonScalar_ok (O : Oracle) (k : ScalarKind) (v : PVal) (hok : scalarOk O k v = true) :
    canonScalar O v = v := by
  obtain ⟨hr, hx⟩ := Bool.and_eq_true_iff.mp hok
  cases ScalarRepr.of_eq_true hr <;> try rfl
  case decimal s norm _ =>
    simp only [Bool.and_eq_true, beq_iff_eq] at hx
    simp [canonScalar, hx.1]

/-- the scalar node round trip: what `encodeScalarField` writes is a node whose token
`scalarReflectFromGo` maps back to the value -/
theorem scalarNode_roundtrip (O : Oracle) (L : OracleLaws O) (k : ScalarKind) (v : PVal)
    (hok : scalarOk O k v = true) :
    ∃ t tok, scalarNode O k v = .ok t ∧ goTok t = some tok ∧
      decodeScalar O k tok = .ok (some v) := by
  obtain ⟨out, he, hd⟩ := scalar_roundtrip O L k v (scalarRepr_of_scalarOk hok)
  rw [canonScalar_ok O k v hok] at hd
  cases out with
  | quoted s =>
    obtain ⟨lit, hl⟩ := strNode_ok s (quoted_valid O L k v s hok he)
    exact ⟨.str s lit, .str s, by simp [scalarNode, he, hl], rfl, hd⟩
  | bare t =>
    exact ⟨bareNode t, _, by simp [scalarNode, he], goTok_bareNode t, hd⟩


theorem groupBusy_none (props : List PropDef) (p : PropDef) (m : Fields) (h : p.group = none) :
    groupBusy props p m = false := by
  unfold groupBusy; rw [h]

theorem groupBusy_nil (props : List PropDef) (p : PropDef) (k : Nat) (hp : p.path = [k]) :
    groupBusy props p [] = false := by
  unfold groupBusy
  split
  · simp only [hp, List.dropLast_singleton, msgAt, List.any_eq_false]
    intro q _
    split <;> simp [aget]
  · rfl

theorem itemCheck_simple (item : Field) (hi : itemSimple item = true) : itemCheck item = .ok () := by
  cases item <;> simp [itemSimple] at hi <;> rfl

theorem Dec.of_val {c : Cfg} {fld : Field} {v : PVal} {t : PTree} (h : DecVal c fld none t v) :
    Dec c fld v t where
  prop := fun props p st hf hp hs hg hgb => h.runs.1 props p st hf hp hs hg hgb
  elem := fun hi rest acc => (h.runs.2 rfl (itemCheck_simple fld hi)).1 rest acc
  mapv := fun hi key kraw rest acc hm => (h.runs.2 rfl (itemCheck_simple fld hi)).2 key kraw rest acc hm

theorem Dec_scalar (c : Cfg) (L : OracleLaws c.O) (k : ScalarKind) (v : PVal) (t : PTree)
    (hok : scalarOk c.O k v = true) (ht : scalarNode c.O k v = .ok t) : Dec c (.scalar k) v t := by
  obtain ⟨t', tok, ht', hgt, hdec⟩ := scalarNode_roundtrip c.O L k v hok
  rw [ht] at ht'; cases ht'
  exact .of_val (.scalar hgt hdec)

/-! ## decimals that are not in `decimal.String()` normal form (one property in isolation)

The encoder writes the stored decimal text verbatim as a quoted string; the decoder stores
`decimal.NewFromString(token).String()` (`O.parseDec`). So a decimal member round-trips **up to
numeric normalisation**: `decode (encode (.dec s)) = .dec norm` with `parseDec s = some norm`, and the
normalised value is a fixpoint (`OracleLaws.dec`): a second round trip returns it unchanged.
-/

/-- what the encoder writes for a decimal with valid UTF-8 text: the text itself, quoted -/
theorem enc_decimal (env : Env) (O : Oracle) (f : Nat) (s : Bytes) (hu : isValidUtf8 s = true) :
    ∃ lit, encValue env O (f + 1) (.scalar .decimal) (.dec s) = .ok (.str s lit) := by
  obtain ⟨lit, hl⟩ := strNode_ok s hu
  exact ⟨lit, by simp [encValue, scalarNode, encodeScalar, hl]⟩

/-- the decoder reading the quoted text as a decimal yields the NORMALISED text -/
theorem decVal_decimal (c : Cfg) (start : Option PVal) (s lit norm : Bytes)
    (hpd : c.O.parseDec s = some norm) : DecVal c (.scalar .decimal) start (.str s lit) (.dec norm) :=
  .scalar (tok := .str s) rfl (by simp [decodeScalar, hpd])

/-- … into a decimal property -/
theorem dec_decimal_prop (c : Cfg) (props : List PropDef) (p : PropDef) (st : PS) (s lit norm : Bytes)
    (hf : p.field = .scalar .decimal) (hp : p.path ≠ []) (hs : p.jsonName ∉ st.seen)
    (hgb : groupBusy props p st.m = false) (hpd : c.O.parseDec s = some norm) :
    decProp c props p (.str s lit) st =
      .ok { m := updPath props p (some (.dec norm)) st.m, seen := p.jsonName :: st.seen } :=
  (decVal_decimal c _ s lit norm hpd).runs.1 props p st hf hp hs rfl hgb

/-- … and as an array element -/
theorem dec_decimal_elem (c : Cfg) (s lit norm : Bytes) (rest : PElems) (acc : List PVal)
    (hpd : c.O.parseDec s = some norm) :
    decElems c (.scalar .decimal) (.cons (.str s lit) rest) acc =
      decElems c (.scalar .decimal) rest (acc ++ [.dec norm]) :=
  ((decVal_decimal c none s lit norm hpd).runs.2 rfl rfl).1 rest acc

theorem findPath_self (props : List PropDef) (hnd : (props.map (·.path)).Nodup) (p : PropDef)
    (hp : p ∈ props) : props.find? (fun q => q.path == p.path) = some p :=
  find?_unique (·.path) props hnd p hp

theorem optionByNumber_pair (opts : List (Bytes × Int)) (n : Int) (name : Bytes)
    (h : optionByNumber opts n = some name) : (name, n) ∈ opts := by
  unfold optionByNumber at h
  cases hf : opts.find? (fun o => o.2 == n) with
  | none => simp [hf] at h
  | some o =>
    simp only [hf, Option.map_some, Option.some.injEq] at h
    have h2 : o.2 = n := by simpa using List.find?_some hf
    rw [← h, ← h2]; exact List.mem_of_find?_eq_some hf

/-- `OptionByNumber` followed by `enumOptionByName` is the identity on defined numbers -/
theorem enum_roundtrip (pfx : Bytes) (opts : List (Bytes × Int)) (hnd : (opts.map (·.1)).Nodup)
    (n : Int) (name : Bytes) (h : optionByNumber opts n = some name) :
    enumOptionByName pfx opts name = some n := by
  unfold optionByNumber at h
  cases hf : opts.find? (fun o => o.2 == n) with
  | none => simp [hf] at h
  | some o =>
    simp only [hf, Option.map_some, Option.some.injEq] at h
    have hm := List.mem_of_find?_eq_some hf
    have hn : o.2 = n := by simpa using List.find?_some hf
    have := find?_unique (·.1) opts hnd o hm
    unfold enumOptionByName
    rw [← h, this]
    simp only [hn]


/-! ## environment facts -/

theorem find_rootSimple (env : Env) (h : env.simple = true) (name : String) (r : Root)
    (hf : env.find name = some r) : rootSimple r = true := by
  obtain ⟨d, hm, rfl⟩ := find_mem env name r hf
  unfold Env.simple at h
  simp only [Bool.and_eq_true] at h
  exact List.all_eq_true.mp h.1 d hm

theorem find_names_utf8 (env : Env) (h : env.simple = true) (name : String) (ps : List PropDef)
    (hf : env.find name = some (.object ps) ∨ env.find name = some (.oneof ps)) :
    ∀ p ∈ ps, isValidUtf8 p.jsonName = true :=
  find_props_all env _ (Bool.and_eq_true_iff.mp h).2 name ps hf

/-! ## enums -/

theorem Dec_enum (c : Cfg) (ref : String) (pfx : Bytes) (opts : List (Bytes × Int)) (n : Int)
    (name lit : Bytes) (hfind : c.env.find ref = some (.enum pfx opts))
    (hlook : enumOptionByName pfx opts name = some n) :
    Dec c (.enum ref) (.enum n) (.str name lit) := .of_val (.enum hfind hlook)

/-! ## objects and oneofs, given the member loops -/

theorem Dec_object (c : Cfg) (ref : String) (sub : List PropDef) (fs : Fields) (ms : PMembers)
    (S : List Bytes) (hfind : c.env.find ref = some (.object sub))
    (hdec : decObjMembers c sub ms { m := [], seen := [] } = .ok ({ m := fs, seen := S }, .closed)) :
    Dec c (.object ref) (.msg fs) (.obj ms) :=
  .of_val (.object (r := { m := fs, seen := S }) hfind (decObj_sound _ _ _ _ _ _ hdec))

theorem Dec_oneof (c : Cfg) (ref : String) (ops : List PropDef) (fs : Fields) (ms : PMembers)
    (st' : PS) (found : List Bytes) (ct : Option Bytes)
    (hfind : c.env.find ref = some (.oneof ops))
    (hdec : decOneofMembers c ops ms { m := [], seen := [] } [] none = .ok (st', found, ct, .closed))
    (hm : st'.m = fs) (hpost : oneofPost ops found ct fs = .ok none) :
    Dec c (.oneof ref) (.msg fs) (.obj ms) := by
  subst hm
  exact .of_val (.oneof (tp := none) hfind (decOneofMembers_ok_iff.mp hdec) hpost)

/-! ## arrays -/

theorem decElems_all (c : Cfg) (item : Field) (hi : itemSimple item = true) (g : PVal → Outcome PTree) :
    ∀ (xs : List PVal) (ts : List PTree) (acc : List PVal),
      (∀ x ∈ xs, ∀ t, g x = .ok t → Dec c item x t) → Outcome.seq g xs = .ok ts →
      decElems c item (elemsOf ts) acc = .ok (acc ++ xs, .closed)
  | [], _, acc, _, h => by cases h; simp [elemsOf, decElems]
  | x :: xs, _, acc, hdec, h => by
    obtain ⟨t, ts, rfl, hx, hrest⟩ := Outcome.seq_cons_ok.mp h
    simp only [elemsOf]
    rw [(hdec x List.mem_cons_self t hx).elem hi,
      decElems_all c item hi g xs ts _ (fun y hy => hdec y (List.mem_cons_of_mem _ hy)) hrest]
    simp

theorem Dec_array (c : Cfg) (item : Field) (hi : itemSimple item = true) (xs : List PVal)
    (ts : List PTree)
    (hdec : decElems c item (elemsOf ts) [] = .ok (xs, .closed)) :
    Dec c (.array item) (.list xs) (.arr (elemsOf ts)) :=
  .of_val (.array (itemCheck_simple item hi) (decElems_sound _ _ _ _ _ _ hdec))

/-! ## maps -/

theorem mset_append {α : Type} (k : Bytes) (v : α) (acc : List (Bytes × α)) (h : mget k acc = none) :
    mset k v acc = acc ++ [(k, v)] := by
  induction acc with
  | nil => rfl
  | cons kv t ih =>
    obtain ⟨k', v'⟩ := kv
    simp only [mget] at h
    by_cases hk : k = k'
    · simp [hk] at h
    · rw [if_neg hk] at h
      simp [mset, hk, ih h]

theorem mget_append_ne {α : Type} (k k' : Bytes) (v : α) (acc : List (Bytes × α)) (hne : k ≠ k')
    (h : mget k acc = none) : mget k (acc ++ [(k', v)]) = none := by
  induction acc with
  | nil => simp [mget, hne]
  | cons kv t ih =>
    obtain ⟨k2, v2⟩ := kv
    simp only [mget] at h
    by_cases hk : k = k2
    · simp [hk] at h
    · rw [if_neg hk] at h
      simp [mget, hk, ih h]

/-- keys of the remaining entries are distinct and not among `seen` -/
theorem mapOk_cons (env : Env) (O : Oracle) (item : Field) (seen : List Bytes) (k : Bytes) (v : PVal)
    (rest : List (Bytes × PVal)) (h : mapOk env O item seen ((k, v) :: rest) = true) :
    k ∉ seen ∧ isValidUtf8 k = true ∧ valOk env O item v = true ∧ mapOk env O item (k :: seen) rest = true := by
  simp only [mapOk, Bool.and_eq_true, Bool.not_eq_true'] at h
  exact ⟨by simpa using h.1.1.1, h.1.1.2, h.1.2, h.2⟩

theorem decMapMembers_all (c : Cfg) (item : Field) (hi : itemSimple item = true)
    (g : PVal → Outcome PTree) :
    ∀ (kvs : List (Bytes × PVal)) (os : List (Option (Bytes × Bytes × PTree)))
      (acc : List (Bytes × PVal)) (seen : List Bytes),
      (∀ kv ∈ kvs, ∀ t, valOk c.env c.O item kv.2 = true → g kv.2 = .ok t → Dec c item kv.2 t) →
      Outcome.seq (fun kv : Bytes × PVal => member kv.1 (g kv.2)) kvs = .ok os →
      mapOk c.env c.O item seen kvs = true → (∀ k, k ∉ seen → mget k acc = none) →
      decMapMembers c item (membersOfSet os) acc = .ok (acc ++ kvs, .closed)
  | [], _, acc, _, _, h, _, _ => by cases h; simp [membersOfSet, List.reduceOption, membersOf, decMapMembers]
  | (k, v) :: kvs, _, acc, seen, hdec, h, hok, hacc => by
    obtain ⟨o, os, rfl, hm, hrest⟩ := Outcome.seq_cons_ok.mp h
    obtain ⟨lit, t, _, hg, rfl⟩ := member_ok_inv k (g v) o hm
    obtain ⟨hks, _, hvok, hok'⟩ := mapOk_cons _ _ _ _ _ _ _ hok
    have hmg : mget k acc = none := hacc k hks
    show decMapMembers c item (.cons k lit t (membersOfSet os)) acc = _
    rw [(hdec (k, v) List.mem_cons_self t hvok hg).mapv hi k lit _ acc hmg, mset_append k v acc hmg,
      decMapMembers_all c item hi g kvs os _ (k :: seen)
        (fun kv hkv => hdec kv (List.mem_cons_of_mem _ hkv)) hrest hok']
    · simp
    · intro k2 hk2
      simp only [List.mem_cons, not_or] at hk2
      exact mget_append_ne k2 k v acc hk2.1 (hacc k2 hk2.2)

theorem Dec_map (c : Cfg) (item : Field) (hi : itemSimple item = true) (kvs : List (Bytes × PVal))
    (es : List (Bytes × Bytes × PTree))
    (hdec : decMapMembers c item (membersOf es) [] = .ok (kvs, .closed)) :
    Dec c (.map item) (.map kvs) (.obj (membersOf es)) :=
  .of_val (.map (itemCheck_simple item hi) (decMap_sound _ _ _ _ _ _ hdec))

/-! ## single-element proto paths -/

theorem clearGroup_none (props : List PropDef) (pfx : List Nat) (k : Nat) (m : Fields) :
    clearGroup props pfx none k m = m := rfl

theorem updPath_single (props : List PropDef) (p : PropDef) (k : Nat) (v : PVal) (m : Fields)
    (hp : p.path = [k]) :
    updPath props p (some v) m = setLeaf p.pres k v (clearGroup props [] p.group k m) := by
  unfold updPath; rw [hp]; rfl

theorem valOk_not_emptyColl (env : Env) (O : Oracle) (fld : Field) (v : PVal)
    (h : valOk env O fld v = true) : v.isEmptyColl = false := by
  cases v <;> try rfl
  case list xs =>
    cases fld <;> simp only [valOk, Bool.false_eq_true] at h
    simp only [Bool.and_eq_true, Bool.not_eq_true'] at h
    simpa [PVal.isEmptyColl] using h.1
  case map kvs =>
    cases fld <;> simp only [valOk, Bool.false_eq_true] at h
    simp only [Bool.and_eq_true, Bool.not_eq_true'] at h
    simpa [PVal.isEmptyColl] using h.1

theorem setLeaf_store (pres : Pres) (k : Nat) (v : PVal) (m : Fields)
    (h1 : (pres == .imp && v.isZero) = false) (h2 : v.isEmptyColl = false) :
    setLeaf pres k v m = aset k v m := by
  unfold setLeaf; simp [h1, h2]

theorem hasProp_single (env : Env) (f : Nat) (p : PropDef) (k : Nat) (m : Fields) (hp : p.path = [k]) :
    hasProp env (f + 1) p m = (aget k m).isSome := by
  rw [hasProp, hp]; simp [getPath]

theorem filterKeys_cons_absent {α : Type} (S : List Nat) (m : List (Nat × α)) (k : Nat)
    (h : aget k m = none) : filterKeys (k :: S) m = filterKeys S m := by
  unfold filterKeys
  apply List.filter_congr
  intro kv hkv
  have hne : kv.1 ≠ k := by
    intro e
    have hm : k ∈ akeys m := e ▸ List.mem_map.mpr ⟨kv, hkv, rfl⟩
    -- a key of the store has a value
    clear hkv e
    induction m with
    | nil => simp [akeys] at hm
    | cons a t ih =>
      obtain ⟨k', v'⟩ := a
      simp only [aget] at h
      by_cases hk : k = k'
      · simp [hk] at h
      · rw [if_neg hk] at h
        simp only [akeys, List.map_cons, List.mem_cons] at hm
        rcases hm with hm | hm
        · exact hk hm
        · exact ih h hm
  simp [hne]

theorem aget_filterKeys_absent {α : Type} (S : List Nat) (m : List (Nat × α)) (k : Nat) (h : k ∉ S) :
    aget k (filterKeys S m) = none := by
  apply aget_none_of_not_mem
  intro hm
  exact h (akeys_filterKeys_subset S m k hm).1

/-! ## inversion of `valOk` -/

theorem valOk_scalar (env : Env) (O : Oracle) (k : ScalarKind) (v : PVal)
    (h : valOk env O (.scalar k) v = true) : scalarOk O k v = true := by
  cases v <;> simp only [valOk, Bool.false_eq_true] at h <;> exact h

theorem valOk_enum (env : Env) (O : Oracle) (ref : String) (v : PVal)
    (h : valOk env O (.enum ref) v = true) :
    ∃ n pfx opts, v = .enum n ∧ env.find ref = some (.enum pfx opts) ∧
      (optionByNumber opts n).isSome = true := by
  cases v <;> simp only [valOk, Bool.false_eq_true] at h
  case enum n =>
    cases hf : env.find ref with
    | none => simp [hf] at h
    | some r =>
      cases r <;> simp only [hf, Bool.false_eq_true] at h
      case enum pfx opts => exact ⟨n, pfx, opts, rfl, rfl, h⟩
  all_goals (cases h)

theorem valOk_object (env : Env) (O : Oracle) (ref : String) (v : PVal)
    (h : valOk env O (.object ref) v = true) :
    ∃ fs props, v = .msg fs ∧ env.find ref = some (.object props) ∧ asorted fs = true ∧
      fieldsOk env O props fs = true ∧ groupsOk props fs = true ∧ exposedOk env props fs = true := by
  cases v <;> simp only [valOk, Bool.false_eq_true] at h
  case msg fs =>
    cases hf : env.find ref with
    | none => simp [hf] at h
    | some r =>
      cases r <;> simp only [hf, Bool.false_eq_true] at h
      case object props =>
        simp only [Bool.and_eq_true] at h
        exact ⟨fs, props, rfl, rfl, h.1.1.1, h.1.1.2, h.1.2, h.2⟩
  all_goals (cases h)

theorem valOk_oneof (env : Env) (O : Oracle) (ref : String) (v : PVal)
    (h : valOk env O (.oneof ref) v = true) :
    ∃ fs ops, v = .msg fs ∧ env.find ref = some (.oneof ops) ∧ asorted fs = true ∧
      fieldsOk env O ops fs = true ∧ fs.length ≤ 1 := by
  cases v <;> simp only [valOk, Bool.false_eq_true] at h
  case msg fs =>
    cases hf : env.find ref with
    | none => simp [hf] at h
    | some r =>
      cases r <;> simp only [hf, Bool.false_eq_true] at h
      case oneof ops =>
        simp only [Bool.and_eq_true, decide_eq_true_eq] at h
        exact ⟨fs, ops, rfl, rfl, h.1.1, h.1.2, h.2⟩
  all_goals (cases h)

theorem valOk_array (env : Env) (O : Oracle) (item : Field) (v : PVal)
    (h : valOk env O (.array item) v = true) :
    ∃ xs, v = .list xs ∧ listOk env O item xs = true := by
  cases v <;> simp only [valOk, Bool.false_eq_true] at h
  case list xs =>
    simp only [Bool.and_eq_true] at h
    exact ⟨xs, rfl, h.2⟩
  all_goals (cases h)

theorem valOk_map (env : Env) (O : Oracle) (item : Field) (v : PVal)
    (h : valOk env O (.map item) v = true) :
    ∃ kvs, v = .map kvs ∧ mapOk env O item [] kvs = true := by
  cases v <;> simp only [valOk, Bool.false_eq_true] at h
  case map kvs =>
    simp only [Bool.and_eq_true] at h
    exact ⟨kvs, rfl, h.2⟩
  all_goals (cases h)

theorem listOk_mem (env : Env) (O : Oracle) (item : Field) (xs : List PVal)
    (h : listOk env O item xs = true) : ∀ x ∈ xs, valOk env O item x = true := by
  induction xs with
  | nil => intro x hx; cases hx
  | cons a t ih =>
    simp only [listOk, Bool.and_eq_true] at h
    intro x hx
    rcases List.mem_cons.mp hx with rfl | hx
    · exact h.1
    · exact ih h.2 x hx

theorem propsUnder_nil (k : Nat) (props : List PropDef) (h : ∀ p ∈ props, p.path.length ≤ 1) :
    propsUnder k props = [] := by
  unfold propsUnder
  apply List.filterMap_eq_nil_iff.mpr
  intro p hp
  have := h p hp
  split
  · next k' k2 r heq => rw [heq] at this; simp at this
  · rfl

theorem fieldsOk_cons (env : Env) (O : Oracle) (props : List PropDef) (k : Nat) (v : PVal)
    (rest : Fields) :
    fieldsOk env O props ((k, v) :: rest) =
      ((match leafProp env props k with
        | some p => valOk env O p.field v && !(p.pres == Pres.imp && v.isZero)
        | none =>
          match v with
          | PVal.msg sub =>
            !sub.isEmpty && asorted sub && !(propsUnder k props).isEmpty &&
              fieldsOk env O (propsUnder k props) sub
          | _ => false) && fieldsOk env O props rest) := by
  conv => lhs; rw [fieldsOk.eq_def]
  rfl

/-- without flattened objects every stored field is a leaf owned by a property (directly or
through an exposed oneof) -/
theorem fieldsOk_mem (env : Env) (O : Oracle) (props : List PropDef) (fs : Fields)
    (hflat : ∀ p ∈ props, p.path.length ≤ 1)
    (h : fieldsOk env O props fs = true) : ∀ k v, (k, v) ∈ fs →
      ∃ p, leafProp env props k = some p ∧ valOk env O p.field v = true ∧
        (p.pres == .imp && v.isZero) = false := by
  induction fs with
  | nil => intro k v hm; cases hm
  | cons kv t ih =>
    obtain ⟨k', v'⟩ := kv
    rw [fieldsOk_cons] at h
    simp only [Bool.and_eq_true] at h
    intro k v hm
    rcases List.mem_cons.mp hm with heq | hm'
    · cases heq
      cases hf : leafProp env props k' with
      | none =>
        simp only [hf] at h
        have hnil := propsUnder_nil k' props hflat
        cases v' <;> simp [hnil] at h
      | some p =>
        simp only [hf, Bool.and_eq_true] at h
        refine ⟨p, rfl, h.1.1, ?_⟩
        have := h.1.2
        cases hx : (p.pres == Pres.imp && v'.isZero) with
        | false => rfl
        | true => simp [hx] at this
    · exact ih h.2 k v hm'

theorem exposedOps_nonempty_path (env : Env) (p : PropDef) (h : p.path ≠ []) :
    exposedOps env p = [] := by
  unfold exposedOps
  split
  · next hp _ => exact absurd hp h
  · rfl

/-- the owner of a leaf key is one of the properties, and the key is among its keys -/
theorem leafProp_inv (env : Env) (props : List PropDef) (k : Nat) (q : PropDef)
    (h : leafProp env props k = some q) :
    (q ∈ props ∧ q.path = [k]) ∨
    (∃ p ∈ props, q ∈ exposedOps env p ∧ q.path = [k]) := by
  unfold leafProp at h
  split at h
  · next p hf =>
    cases h
    exact Or.inl ⟨List.mem_of_find?_eq_some hf, by simpa using List.find?_some hf⟩
  · obtain ⟨p, hp, hq⟩ := List.exists_of_findSome?_eq_some h
    exact Or.inr ⟨p, hp, List.mem_of_find?_eq_some hq, by simpa using List.find?_some hq⟩

end J5V.Codec
