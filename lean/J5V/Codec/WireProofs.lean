import J5V.Codec.RoundtripProofs
/-!
# The encoder's scalar output has the documented representation (C08)
-/
namespace J5V.Codec
open J5V.Go J5V.Json

/-! ## integers -/

theorem digitsValue_eq (s : Bytes) : Wire.digitsValue s = parseDigits s := by
  cases s with
  | nil => rfl
  | cons c t =>
    simp only [Wire.digitsValue, parseDigits]
    congr 1
    funext acc d
    cases acc with
    | none => rfl
    | some n =>
      simp only [isDigit, Bool.and_eq_true, decide_eq_true_eq]

theorem isJsonNat_digitsSpec (n : Nat) : Wire.isJsonNat (digitsSpec n) = true := by
  by_cases h10 : n < 10
  · rw [digitsSpec, dif_pos h10]
    simp only [Wire.isJsonNat, Bool.and_eq_true, decide_eq_true_eq]
    rw [digitByte_toNat n h10]; omega
  · obtain ⟨c, t, hc, hd, hz⟩ := digitsSpec_head_nonzero n (by omega)
    have hall := digitsSpec_all_digits n
    rw [hc] at hall ⊢
    have hlen : t ≠ [] := by
      intro ht
      rw [digitsSpec, dif_neg h10] at hc
      have : (digitsSpec (n / 10) ++ [digitByte (n % 10)]).length = (c :: t).length := by rw [hc]
      rw [ht] at this
      simp only [List.length_append, List.length_cons, List.length_nil] at this
      have hne := digitsSpec_ne_nil (n / 10)
      cases hq : digitsSpec (n / 10) with
      | nil => exact hne hq
      | cons a b => rw [hq] at this; simp at this
    cases t with
    | nil => exact absurd rfl hlen
    | cons t1 t2 =>
      simp only [Wire.isJsonNat, Bool.and_eq_true, decide_eq_true_eq, List.all_eq_true]
      simp only [isDigit, Bool.and_eq_true, decide_eq_true_eq] at hd
      refine ⟨⟨?_, hd.2⟩, ?_⟩
      · have : c.toNat ≠ 0x30 := by
          intro e; apply hz; apply UInt8.toNat_inj.mp; simpa using e
        omega
      · intro x hx
        have := hall x (List.mem_cons_of_mem _ hx)
        simpa [isDigit] using this

theorem jsonIntValue_fmtNat (n : Nat) : Wire.jsonIntValue (fmtNat n) = some (n : Int) := by
  rw [fmtNat_eq]
  obtain ⟨c, t, hc, hd⟩ := digitsSpec_head n
  have hne := (isDigit_not_sign c hd).2
  have h1 := isJsonNat_digitsSpec n
  have h2 : Wire.digitsValue (digitsSpec n) = some n := by
    rw [digitsValue_eq, ← fmtNat_eq, parseDigits_fmtNat]
  rw [hc] at h1 h2 ⊢
  unfold Wire.jsonIntValue
  split
  · next heq => simp at heq; exact absurd heq.1 hne
  · simp [h1, h2]

theorem jsonIntValue_fmtInt (i : Int) : Wire.jsonIntValue (fmtInt i) = some i := by
  unfold fmtInt
  split
  · next hneg =>
    have h1 := isJsonNat_digitsSpec i.natAbs
    have h2 : Wire.digitsValue (fmtNat i.natAbs) = some i.natAbs := by
      rw [digitsValue_eq, parseDigits_fmtNat]
    rw [← fmtNat_eq] at h1
    simp only [Wire.jsonIntValue, h1, h2, if_true]
    have : -((i.natAbs : Nat) : Int) = i := by omega
    simp [this]
  · next hneg =>
    rw [jsonIntValue_fmtNat]
    congr 1; omega

/-! ## base64 -/

theorem isStdAlphabet_b64Char : ∀ v, v < 64 → Wire.isStdAlphabet (b64Char v) = true := by decide

theorem isPadded_b64Encode (bs : Bytes) : Wire.isPaddedStdBase64 (b64Encode bs) bs.length = true := by
  refine b64Encode_groups (P := fun bs out => Wire.isPaddedStdBase64 out bs.length = true) rfl
    (fun _ x y hx hy => ?_) (fun _ _ x y z hx hy hz => ?_)
    (fun _ _ _ rest out x y z w hx hy hz hw ih => ?_) bs
  · simp [Wire.isPaddedStdBase64, isStdAlphabet_b64Char _ hx, isStdAlphabet_b64Char _ hy]
  · simp [Wire.isPaddedStdBase64, isStdAlphabet_b64Char _ hx, isStdAlphabet_b64Char _ hy,
      isStdAlphabet_b64Char _ hz]
  · rw [show (_ :: _ :: _ :: rest).length = rest.length + 3 from rfl]
    simp [Wire.isPaddedStdBase64, isStdAlphabet_b64Char _ hx, isStdAlphabet_b64Char _ hy,
      isStdAlphabet_b64Char _ hz, isStdAlphabet_b64Char _ hw, ih]


/-! ## dates -/

theorem digitsSpec_length_le (k : Nat) : ∀ n, n < 10 ^ (k + 1) → (digitsSpec n).length ≤ k + 1 := by
  induction k with
  | zero =>
    intro n h
    rw [digitsSpec, dif_pos (by simpa using h)]; simp
  | succ k ih =>
    intro n h
    rw [digitsSpec]
    by_cases h10 : n < 10
    · rw [dif_pos h10]; simp
    · rw [dif_neg h10]
      have : n / 10 < 10 ^ (k + 1) := by
        rw [Nat.pow_succ] at h
        omega
      have := ih (n / 10) this
      simp only [List.length_append, List.length_cons, List.length_nil]
      omega

theorem fmtZero4_length (y : Int) (h0 : 0 ≤ y) (h1 : y ≤ 9999) : (fmtZero4 y).length = 4 := by
  rw [fmtZero4_nonneg y h0]
  have hlen : (fmtNat y.toNat).length ≤ 4 := by
    rw [fmtNat_eq]; exact digitsSpec_length_le 3 _ (by omega)
  simp only [List.length_append, List.length_replicate]; omega

theorem fmtZero2_length (v : Int) (h0 : 0 ≤ v) (h1 : v ≤ 99) : (fmtZero2 v).length = 2 := by
  rw [fmtZero2_nonneg v h0, fmtNat_eq]
  by_cases hs : v < 10
  · rw [if_pos hs, digitsSpec, dif_pos (by omega)]; rfl
  · rw [if_neg hs, digitsSpec, dif_neg (by omega), digitsSpec, dif_pos (by omega)]; rfl

theorem isDigitB_eq (c : UInt8) : Wire.isDigitB c = isDigit c := rfl

theorem dateShape_parts (a b c : Bytes) (ha : a.length = 4) (hb : b.length = 2) (hc : c.length = 2)
    (hda : ∀ x ∈ a, isDigit x = true) (hdb : ∀ x ∈ b, isDigit x = true)
    (hdc : ∀ x ∈ c, isDigit x = true) :
    Wire.isDateShape (a ++ [0x2D] ++ b ++ [0x2D] ++ c) = true ∧
    (a ++ [0x2D] ++ b ++ [0x2D] ++ c).take 4 = a ∧
    ((a ++ [0x2D] ++ b ++ [0x2D] ++ c).drop 5).take 2 = b ∧
    ((a ++ [0x2D] ++ b ++ [0x2D] ++ c).drop 8).take 2 = c := by
  match a, ha with
  | [a1, a2, a3, a4], _ =>
    match b, hb with
    | [b1, b2], _ =>
      match c, hc with
      | [c1, c2], _ =>
        refine ⟨?_, rfl, rfl, rfl⟩
        simp only [List.cons_append, List.nil_append, Wire.isDateShape, isDigitB_eq,
          Bool.and_eq_true, beq_self_eq_true, and_true]
        simp only [List.mem_cons, List.not_mem_nil, or_false] at hda hdb hdc
        exact ⟨⟨⟨⟨⟨⟨⟨hda a1 (Or.inl rfl), hda a2 (Or.inr (Or.inl rfl))⟩,
          hda a3 (Or.inr (Or.inr (Or.inl rfl)))⟩, hda a4 (Or.inr (Or.inr (Or.inr rfl)))⟩,
          hdb b1 (Or.inl rfl)⟩, hdb b2 (Or.inr rfl)⟩, hdc c1 (Or.inl rfl)⟩, hdc c2 (Or.inr rfl)⟩

/-- `Date.DateString()` has the documented shape and denotes the date -/
theorem date_conforms (y m d : Int) (hy0 : 0 ≤ y) (hy : y ≤ 9999) (hm0 : 0 ≤ m) (hm : m ≤ 99)
    (hd0 : 0 ≤ d) (hd : d ≤ 99) :
    Wire.isDateShape (dateString y m d) = true ∧
    Wire.dateParts (dateString y m d) = some (y.toNat, m.toNat, d.toNat) := by
  obtain ⟨da, pa⟩ := fmtZero4_digits y hy0
  obtain ⟨db, pb⟩ := fmtZero2_digits m hm0
  obtain ⟨dc, pc⟩ := fmtZero2_digits d hd0
  obtain ⟨hshape, h1, h2, h3⟩ := dateShape_parts _ _ _ (fmtZero4_length y hy0 hy) (fmtZero2_length m hm0 hm)
    (fmtZero2_length d hd0 hd) da db dc
  unfold dateString
  refine ⟨hshape, ?_⟩
  unfold Wire.dateParts
  rw [h1, h2, h3, digitsValue_eq, digitsValue_eq, digitsValue_eq, pa, pb, pc]


/-! ## every scalar kind -/

theorem bareNode_num (t : Bytes) (h : ∃ c r, t = c :: r ∧ (c = 0x2D ∨ isDigit c = true)) :
    bareNode t = .num t := by
  obtain ⟨c, r, rfl, hc⟩ := h
  have hne := isDigit_ne_tf c hc
  rcases bareNode_cases (c :: r) with ⟨h, _⟩ | ⟨h, _⟩ | ⟨_, _, h⟩
  · rw [ascii_true] at h; exact absurd (List.cons.inj h).1 hne.1
  · rw [ascii_false] at h; exact absurd (List.cons.inj h).1 hne.2
  · exact h

/-- **every representable scalar is written in its documented representation** -/
theorem scalar_conforms (O : Oracle) (L : OracleLaws O) (k : ScalarKind)
    (W : k = .timestamp → OracleWire O)
    (v : PVal) (hok : scalarOk O k v = true) :
    ∃ t, scalarNode O k v = .ok t ∧ Wire.scalarConforms O k v t := by
  have hq := quoted_valid O L k v
  cases ScalarRepr.of_eq_true (scalarRepr_of_scalarOk hok)
  case string s =>
    obtain ⟨lit, hl⟩ := strNode_ok s (hq s hok rfl)
    exact ⟨.str s lit, by simp [scalarNode, encodeScalar, hl], rfl⟩
  case key s =>
    obtain ⟨lit, hl⟩ := strNode_ok s (hq s hok rfl)
    exact ⟨.str s lit, by simp [scalarNode, encodeScalar, hl], rfl⟩
  case bool b =>
    cases b
    · exact ⟨.bool false, by simp [scalarNode, encodeScalar, bareNode, ascii_true, ascii_false], rfl⟩
    · exact ⟨.bool true, by simp [scalarNode, encodeScalar, bareNode], rfl⟩
  case int32 i _ _ =>
    exact ⟨.num (fmtInt i), by simp [scalarNode, encodeScalar, bareNode_num _ (fmtInt_head i)],
      jsonIntValue_fmtInt i⟩
  case uint32 n _ =>
    exact ⟨.num (fmtNat n), by simp [scalarNode, encodeScalar, bareNode_num _ (fmtNat_head n)],
      jsonIntValue_fmtNat n⟩
  case int64 i _ _ =>
    obtain ⟨lit, hl⟩ := strNode_ok _ (hq (fmtInt i) hok rfl)
    exact ⟨.str (fmtInt i) lit, by simp [scalarNode, encodeScalar, hl], jsonIntValue_fmtInt i⟩
  case uint64 n _ =>
    obtain ⟨lit, hl⟩ := strNode_ok _ (hq (fmtNat n) hok rfl)
    exact ⟨.str (fmtNat n) lit, by simp [scalarNode, encodeScalar, hl], jsonIntValue_fmtNat n⟩
  case float32 b hr =>
    obtain ⟨hnum, b64, hp⟩ := L.f32 b hr
    refine ⟨.num (O.fmtF32 b), ?_, hnum, b64, hp⟩
    simp [scalarNode, encodeScalar, finite32_exp b hr, nonFinite_finite,
      bareNode_num _ (isJsonNumber_head _ hnum)]
  case float64 b hr =>
    obtain ⟨hnum, b32, hp⟩ := L.f64 b hr
    refine ⟨.num (O.fmtF64 b), ?_, hnum, b32, hp⟩
    simp [scalarNode, encodeScalar, finite64_exp b hr, nonFinite_finite,
      bareNode_num _ (isJsonNumber_head _ hnum)]
  case bytes b =>
    obtain ⟨lit, hl⟩ := strNode_ok _ (hq (b64Encode b) hok rfl)
    exact ⟨.str (b64Encode b) lit, by simp [scalarNode, encodeScalar, hl], isPadded_b64Encode b, b64_inv b⟩
  case timestamp s n hr =>
    obtain ⟨lit, hl⟩ := strNode_ok _ (hq (O.fmtTime s n) hok rfl)
    exact ⟨.str (O.fmtTime s n) lit, by simp [scalarNode, encodeScalar, hl], (W rfl).time s n hr, L.time s n hr⟩
  case date y m d _ _ _ _ _ _ =>
    obtain ⟨lit, hl⟩ := strNode_ok _ (hq (dateString y m d) hok rfl)
    have hd31 := daysInMonth_le y m
    obtain ⟨h1, h2⟩ := date_conforms y m d (by omega) (by omega) (by omega) (by omega) (by omega)
      (by omega)
    exact ⟨.str (dateString y m d) lit, by simp [scalarNode, encodeScalar, hl], h1, h2, by omega, by omega, by omega⟩
  case decimal s norm _ =>
    obtain ⟨lit, hl⟩ := strNode_ok _ (hq s hok rfl)
    exact ⟨.str s lit, by simp [scalarNode, encodeScalar, hl], rfl⟩


/-! ## an oracle with the documented timestamp shape (non-vacuity of `OracleLaws ∧ OracleWire`) -/

def wireTimePrefix : Bytes := ascii "0000-00-00T00:00:00."

/-- like `toyOracle`, but timestamps are written in RFC 3339 shape: a fixed date-time followed by
a fraction that carries the value -/
def wireOracle : Oracle :=
  { toyOracle with
    fmtTime := fun s n => wireTimePrefix ++ toyOracle.fmtTime s n ++ [0x5A]
    parseTime := fun t => toyOracle.parseTime ((t.drop 20).dropLast) }

theorem wireOracle_fmt_parse (s n : Int) :
    ((wireOracle.fmtTime s n).drop 20).dropLast = toyOracle.fmtTime s n := by
  show (((wireTimePrefix ++ toyOracle.fmtTime s n ++ [0x5A]).drop 20).dropLast) = _
  have h20 : wireTimePrefix.length = 20 := by decide
  rw [List.append_assoc, List.drop_append_of_le_length (by omega), ← h20, List.drop_length,
    List.nil_append, List.dropLast_concat]

theorem wireOracle_laws : OracleLaws wireOracle where
  f64 := toyOracle_laws.f64
  f32 := toyOracle_laws.f32
  time s n h := by
    show toyOracle.parseTime (((wireOracle.fmtTime s n).drop 20).dropLast) = some (s, n)
    rw [wireOracle_fmt_parse]; exact toyOracle_laws.time s n h
  dec := toyOracle_laws.dec
  timeUtf8 s n h := by
    show isValidUtf8 (wireTimePrefix ++ toyOracle.fmtTime s n ++ [0x5A]) = true
    apply isValidUtf8_ascii
    intro c hc
    simp only [List.mem_append, List.mem_singleton] at hc
    rcases hc with (hc | hc) | hc
    · revert c; decide
    · exact fmtNat_ascii _ c hc
    · subst hc; decide

theorem wireOracle_wire : OracleWire wireOracle where
  time s n _ := by
    show Wire.isRfc3339Utc (wireTimePrefix ++ toyOracle.fmtTime s n ++ [0x5A]) = true
    have hd : toyOracle.fmtTime s n = digitsSpec ((s - tsMin).toNat * 1000000000 + n.toNat) := fmtNat_eq _
    obtain ⟨d0, dt, hdd, hd0⟩ := digitsSpec_head ((s - tsMin).toNat * 1000000000 + n.toNat)
    have hall := digitsSpec_all_digits ((s - tsMin).toNat * 1000000000 + n.toNat)
    rw [hd, hdd] at *
    have hallt : ∀ c ∈ dt, isDigit c = true := fun c hc => hall c (List.mem_cons_of_mem _ hc)
    simp only [Wire.isRfc3339Utc, wireTimePrefix, ascii]
    -- the fixed part is evaluated; the fraction is `d0 :: dt ++ "Z"`
    simp [Wire.isDateShape, Wire.isDigitB, isDigit] at hd0 hallt ⊢
    have hdl : (d0 :: (dt ++ [0x5A])).dropLast = d0 :: dt := by
      rw [← List.cons_append, List.dropLast_concat]
    have hgl : (d0 :: (dt ++ [0x5A])).getLast? = some 0x5A := by
      rw [← List.cons_append, List.getLast?_concat]
    refine ⟨?_, ?_⟩
    · intro x hx
      rw [hdl] at hx
      rcases List.mem_cons.mp hx with rfl | hx
      · exact hd0
      · exact hallt x hx
    · exact hgl

end J5V.Codec
