import J5V.Codec.Conform
import J5V.Codec.Encode
/-!
# Vocabulary of the round-trip and well-formedness statements (C01, C08)

What the statements are restricted to, and what "the tree is read back as the value" means (`Dec`), beside the
classes of `Conform.lean`. Definitions only, so that stating a property imports no proof.
-/
namespace J5V.Codec
open J5V.Go J5V.Json

/-- every member of every oneof root has a proto path (no exposed oneof directly inside a oneof) -/
def Env.oneofsPlain (env : Env) : Bool :=
  env.defs.all fun d =>
    match d.2 with
    | .oneof ps => ps.all fun p => !p.path.isEmpty
    | _ => true

/-- entries with comparable paths coincide: leaf paths are distinct and prefix-free in an object root
of a flat environment (`object_root_facts`, ConformProofs) -/
def LeafH (env : Env) (props : List PropDef) : Prop :=
  ∀ a ∈ leafEntries env props, ∀ b ∈ leafEntries env props, a.1 <+: b.1 → a = b

mutual
/-- no `j5_json` anywhere in the value -/
def PVal.noJ5 : PVal → Bool
  | .anyJ5 _ _ j5 _ _ inner => j5.isEmpty && inner.noJ5
  | .anyPb _ _ _ _ inner => inner.noJ5
  | .msg fs => noJ5F fs
  | .list xs => noJ5L xs
  | .map kvs => noJ5M kvs
  | _ => true
def noJ5F : List (Nat × PVal) → Bool
  | [] => true
  | (_, v) :: rest => v.noJ5 && noJ5F rest
def noJ5L : List PVal → Bool
  | [] => true
  | v :: rest => v.noJ5 && noJ5L rest
def noJ5M : List (Bytes × PVal) → Bool
  | [] => true
  | (_, v) :: rest => v.noJ5 && noJ5M rest
end

/-- the codec `c` can decode the `Any` values of the message `m` (per VALUE, see `modeOk`): every
j5 `Any` in `m` needs `c` without `WithProtoToAny`; every protobuf `Any` needs `WithProtoToAny`,
fewer than `maxAnyDepth` enclosing `Any` values (counting `c.anyDepth`) and a message nested at
most 1664 deep (the fuel of the encoder model, an upper bound of the nesting depth of the encoding,
must stay within the 10000 levels of `encoding/json`). A message without `Any` values satisfies it
for every codec. -/
def Cfg.canDecode (c : Cfg) (m : Fields) : Prop :=
  modeOkF c.protoToAny (6 * (depthFields m + 1) + 9) c.anyDepth m = true

instance (c : Cfg) (m : Fields) : Decidable (c.canDecode m) := by
  unfold Cfg.canDecode; infer_instance

/-- `t` is the encoding of `v` for field schema `fld`, as far as the three decoding contexts
(property value, array element, map value) are concerned -/
structure Dec (c : Cfg) (fld : Field) (v : PVal) (t : PTree) : Prop where
  prop : ∀ (props : List PropDef) (p : PropDef) (st : PS),
      p.field = fld → p.path ≠ [] → p.jsonName ∉ st.seen → getPath st.m p.path = none →
      groupBusy props p st.m = false →
      decProp c props p t st =
        .ok { m := updPath props p (some v) st.m, seen := p.jsonName :: st.seen }
  elem : itemSimple fld = true → ∀ rest acc,
      decElems c fld (.cons t rest) acc = decElems c fld rest (acc ++ [v])
  mapv : itemSimple fld = true → ∀ key kraw rest acc, mget key acc = none →
      decMapMembers c fld (.cons key kraw t rest) acc = decMapMembers c fld rest (mset key v acc)

/-- what the round trip of a member's value consists of (what `RTP.val` provides in a flat
environment; a hypothesis here, so that `oneShape_of_members` holds in every environment) -/
def MemberFacts (c : Cfg) (f : Nat) (ops : List PropDef) (fs : Fields) : Prop :=
  ∀ q ∈ ops, ∀ k v, q.path = [k] → aget k fs = some v →
    ∃ tv, encValue c.env c.O f q.field v = .ok tv ∧ Dec c q.field v tv ∧
      (OracleWire c.O → Wire.Conforms c.env c.O q.field v tv) ∧
      (q.pres == .imp && v.isZero) = false ∧ v.isEmptyColl = false

end J5V.Codec
