import J5V.Go.ListLemmas
import J5V.Codec.StoredProofs
import J5V.Codec.ConformProofs
/-!
# `Env.flat → Env.apart`, `Env.flat → Env.itemsOk`

C03's whole-document exactness holds for every flat environment; and the class C01 / C03 are proved
for satisfies the schema well-formedness C06 needs (array / map items are never arrays or maps), so
theorems that combine both need only `Env.flat`.
-/
namespace J5V.Codec
open J5V.Go J5V.Json

/-- members of a `flatMap` that come from different elements of a duplicate-free result differ -/
theorem flatMap_cross {α β : Type} (f : α → List β) :
    ∀ (l : List α), (l.flatMap f).Nodup → ∀ p ∈ l, ∀ p' ∈ l, p ≠ p' → ∀ x, x ∈ f p → x ∈ f p' → False := by
  intro l
  induction l with
  | nil => intro _ p hp; cases hp
  | cons a t ih =>
    intro hnd p hp p' hp' hne x hx hx'
    simp only [List.flatMap_cons] at hnd
    obtain ⟨_, h2, h3⟩ := List.nodup_append.mp hnd
    rcases List.mem_cons.mp hp with rfl | hpt
    · rcases List.mem_cons.mp hp' with rfl | hpt'
      · exact hne rfl
      · exact h3 x hx x (List.mem_flatMap.mpr ⟨p', hpt', hx'⟩) rfl
    · rcases List.mem_cons.mp hp' with rfl | hpt'
      · exact h3 x hx' x (List.mem_flatMap.mpr ⟨p, hpt, hx⟩) rfl
      · exact ih h2 p hpt p' hpt' hne x hx hx'

/-- a oneof root of a flat environment: one-element paths, unrelated -/
theorem oneof_root_apart (ops : List PropDef) (h : rootSimple (.oneof ops) = true) :
    (∀ q ∈ ops, ∃ k, q.path = [k]) ∧ PathsApart ops := by
  simp only [rootSimple, Bool.and_eq_true, decide_eq_true_eq] at h
  obtain ⟨⟨⟨hall, _⟩, hpaths⟩, _⟩ := h
  have hsingle : ∀ q ∈ ops, ∃ k, q.path = [k] := by
    intro q hq
    have := List.all_eq_true.mp hall q hq
    simp only [propSimple, Bool.and_eq_true, beq_iff_eq] at this
    cases hqp : q.path with
    | nil => rw [hqp] at this; simp at this
    | cons a b =>
      cases b with
      | nil => exact ⟨a, rfl⟩
      | cons b1 b2 => rw [hqp] at this; simp at this
  refine ⟨hsingle, ?_, ?_⟩
  · intro q hq
    obtain ⟨k, hk⟩ := hsingle q hq
    rw [hk]; simp
  · intro p hp q hq hne hpre
    obtain ⟨a, ha⟩ := hsingle p hp
    obtain ⟨b, hb⟩ := hsingle q hq
    rw [ha, hb] at hpre
    have hab : a = b := by
      obtain ⟨t, ht⟩ := hpre
      simp only [List.cons_append, List.nil_append, List.cons.injEq] at ht
      exact ht.1
    have : p.path = q.path := by rw [ha, hb, hab]
    exact hne (congrArg (·.jsonName) (inj_of_nodup_map (·.path) ops hpaths p hp q hq this))

theorem leaf_entry_mem (env : Env) (p q : PropDef) (hsingle : p.path = [] → ∀ q ∈ exposedOps env p, ∃ k, q.path = [k])
    (hq : q ∈ leavesOf env p) : (q.path, q.field, q.pres) ∈ propLeaves env p := by
  unfold leavesOf at hq
  unfold propLeaves
  by_cases hpe : p.path = []
  · rw [if_pos hpe] at hq
    rw [hpe]
    simp only [List.mem_filterMap]
    obtain ⟨k, hk⟩ := hsingle hpe q hq
    exact ⟨q, hq, by rw [hk]⟩
  · rw [if_neg hpe] at hq
    simp only [List.mem_singleton] at hq
    subst hq
    cases hqp : q.path with
    | nil => exact absurd hqp hpe
    | cons a b => simp

/-- an object root of a flat environment addresses unrelated leaves -/
theorem apartX_of_flat (env : Env) (hflat : env.flat = true) (props : List PropDef)
    (h : rootFlat env (.object props) = true) : ApartX env props := by
  obtain ⟨hall, hnames, hpaths, hleaf⟩ := object_root_facts env props h
  have hexp : ∀ p ∈ props, p.path = [] → ∃ ref ops, p.field = .oneof ref ∧
      env.find ref = some (.oneof ops) ∧ (∀ q ∈ ops, ∃ k, q.path = [k]) ∧ PathsApart ops := by
    intro p hp hpe
    rcases hall p hp with hf | hx
    · simp [propFlat, hpe] at hf
    · obtain ⟨_, _, ref, ops, hfld, hfind⟩ := propExposed_inv env p hx
      have hroot := rootFlat_oneof env ops (find_rootFlat env hflat ref _ hfind)
      obtain ⟨h1, h2⟩ := oneof_root_apart ops hroot
      exact ⟨ref, ops, hfld, hfind, h1, h2⟩
  have hsingle : ∀ p ∈ props, p.path = [] → ∀ q ∈ exposedOps env p, ∃ k, q.path = [k] := by
    intro p hp hpe q hq
    obtain ⟨ref, ops, hfld, hfind, h1, _⟩ := hexp p hp hpe
    have : exposedOps env p = ops := by
      have := leavesOf_exposed env p ref ops hpe hfld hfind
      unfold leavesOf at this; rw [if_pos hpe] at this; exact this
    rw [this] at hq
    exact h1 q hq
  refine ⟨hexp, ?_⟩
  intro p hp p' hp' hne q hq q' hq' hpre
  have ha := leaf_entry_mem env p q (hsingle p hp) hq
  have hb := leaf_entry_mem env p' q' (hsingle p' hp') hq'
  have hae : (q.path, q.field, q.pres) ∈ leafEntries env props :=
    List.mem_flatMap.mpr ⟨p, hp, ha⟩
  have hbe : (q'.path, q'.field, q'.pres) ∈ leafEntries env props :=
    List.mem_flatMap.mpr ⟨p', hp', hb⟩
  have heq := hleaf _ hae _ hbe hpre
  have hpq : q.path = q'.path := congrArg (·.1) heq
  have hnd : (props.flatMap (fun p => (propLeaves env p).map (·.1))).Nodup := by
    have : (leafEntries env props).map (·.1) = props.flatMap (fun p => (propLeaves env p).map (·.1)) := by
      unfold leafEntries; rw [List.map_flatMap]
    rw [← this]; exact hpaths
  exact flatMap_cross _ props hnd p hp p' hp' (fun e => hne (by rw [e])) q.path
    (List.mem_map.mpr ⟨_, ha, rfl⟩) (by rw [hpq]; exact List.mem_map.mpr ⟨_, hb, rfl⟩)

theorem apart_of_flat (env : Env) (hflat : env.flat = true) : env.apart := by
  intro name props
  refine ⟨?_, ?_⟩
  · intro hf
    exact apartX_of_flat env hflat props (find_rootFlat env hflat name _ hf)
  · intro hf
    exact (oneof_root_apart props (rootFlat_oneof env props (find_rootFlat env hflat name _ hf))).2

/-! ## `Env.flat → Env.itemsOk` -/

theorem fieldOk_of_simple (f : Field) (h : fieldSimple f = true) : fieldOk f = true := by
  cases f with
  | array i => cases i <;> simp_all [fieldSimple, itemSimple, fieldOk]
  | map i => cases i <;> simp_all [fieldSimple, itemSimple, fieldOk]
  | _ => rfl

theorem fieldOk_of_exposed (env : Env) (p : PropDef) (h : propExposed env p = true) :
    fieldOk p.field = true := by
  unfold propExposed at h
  cases hf : p.field <;> simp_all [fieldOk]

theorem rootOk_of_flat (env : Env) (r : Root) (h : rootFlat env r = true) : rootOk r = true := by
  cases r with
  | object ps =>
    simp only [rootFlat, Bool.and_eq_true] at h
    obtain ⟨⟨⟨hall, _⟩, _⟩, _⟩ := h
    simp only [rootOk, propsOk]
    apply List.all_eq_true.mpr
    intro p hp
    have := List.all_eq_true.mp hall p hp
    simp only [Bool.or_eq_true] at this
    rcases this with h1 | h1
    · simp only [propFlat, Bool.and_eq_true] at h1
      exact fieldOk_of_simple _ h1.2
    · exact fieldOk_of_exposed env p h1
  | oneof ps =>
    simp only [rootFlat, rootSimple, Bool.and_eq_true] at h
    obtain ⟨⟨⟨hall, _⟩, _⟩, _⟩ := h
    simp only [rootOk, propsOk]
    apply List.all_eq_true.mpr
    intro p hp
    have := List.all_eq_true.mp hall p hp
    simp only [propSimple, Bool.and_eq_true] at this
    exact fieldOk_of_simple _ this.2
  | «enum» pfx opts => rfl
  | noschema => rfl

theorem itemsOk_of_flat (env : Env) (h : env.flat = true) : env.itemsOk = true := by
  unfold Env.flat at h
  simp only [Bool.and_eq_true] at h
  unfold Env.itemsOk
  apply List.all_eq_true.mpr
  intro d hd
  exact rootOk_of_flat env d.2 (List.all_eq_true.mp h.1 d hd)

end J5V.Codec
