import J5V.Codec.Scalar
import J5V.Json.Tree
/-!
# Encoder: mirror of `/repo/internal/codec/{encoder,structure_encode}.go` over
`lib/j5reflect` (`propSet.RangeValues/GetValue/GetOne/buildValue`, array / map `Range`).

The Go encoder appends to a `bytes.Buffer` and discards the buffer on error; the model builds the
JSON tree (`PTree`, strings with the literal `appendString` produced) and `encodeBytes` renders
it — the bytes are the same concatenation. Recursion is on `fuel` (a message nests finitely; the
value at a proto path is found by lookup, so it is not a syntactic sub-term); running out of fuel
is `.panic "fuel"`, proved unreachable for `5 * PVal.depth + 1 ≤ fuel` (`EncTotal.lean`).
-/
namespace J5V.Codec
open J5V.Go J5V.Json

/-- `addString` -/
def strNode (s : Bytes) : Outcome PTree :=
  match appendString s with
  | .ok lit => .ok (.str s lit)
  | .err e => .err e
  | .panic w => .panic w

/-- a bare literal: `true` / `false` (`addBool`) or number text -/
def bareNode (t : Bytes) : PTree :=
  if t = ascii "true" then .bool true else if t = ascii "false" then .bool false else .num t

/-- `encodeScalarField`: the JSON node written for a scalar -/
def scalarNode (O : Oracle) (k : ScalarKind) (v : PVal) : Outcome PTree :=
  match encodeScalar O k v with
  | .ok (.quoted s) => strNode s
  | .ok (.bare t) => .ok (bareNode t)
  | .err e => .err e
  | .panic w => .panic w

/-- first failure in document order wins -/
def consMember (r : Outcome (Option (Bytes × Bytes × PTree))) (rest : Outcome PMembers) :
    Outcome PMembers :=
  match r with
  | .ok none => rest
  | .ok (some (k, kraw, v)) =>
    match rest with
    | .ok ms => .ok (.cons k kraw v ms)
    | .err e => .err e
    | .panic w => .panic w
  | .err e => .err e
  | .panic w => .panic w

def consElem (r : Outcome PTree) (rest : Outcome PElems) : Outcome PElems :=
  match r with
  | .ok v =>
    match rest with
    | .ok xs => .ok (.cons v xs)
    | .err e => .err e
    | .panic w => .panic w
  | .err e => .err e
  | .panic w => .panic w

/-- `fieldLabel(name)` + value -/
def member (name : Bytes) (v : Outcome PTree) : Outcome (Option (Bytes × Bytes × PTree)) :=
  match appendString name with
  | .ok lit =>
    match v with
    | .ok t => .ok (some (name, lit, t))
    | .err e => .err e
    | .panic w => .panic w
  | .err e => .err e
  | .panic w => .panic w

def anyPrefix : Bytes := ascii "type.googleapis.com/"
def typeKey : Bytes := ascii "!type"
def valueKey : Bytes := ascii "value"

/-- `propSet.GetValue(name)` reports `has` — for a property with a proto path: every field on the
path is populated; for an exposed oneof (empty path): `GetOne` finds exactly one set member. -/
def hasProp (env : Env) : Nat → PropDef → Fields → Bool
  | 0, _, _ => false
  | f + 1, p, m =>
    match p.path with
    | [] =>
      match p.field with
      | .oneof ref =>
        match env.find ref with
        | some (.oneof ops) =>
          (ops.filter fun q =>
            match findProp ops q.jsonName with
            | some q' => hasProp env f q' m
            | none => false).length == 1
        | _ => false
      | _ => false
    | path => (getPath m path).isSome

/-- `GetOne`'s test: is member `q` of the oneof set in message `m`? (`GetValue` goes through the
name map, so for a duplicated JSON name the last property answers) -/
def oneofSet (env : Env) (f : Nat) (ops : List PropDef) (m : Fields) (q : PropDef) : Bool :=
  match findProp ops q.jsonName with
  | some q' => hasProp env f q' m
  | none => false

mutual
/-- `GetValue(p)` then `encodeValue`: `none` = not set (the member is omitted) -/
def encField (env : Env) (O : Oracle) : Nat → PropDef → Fields → Outcome (Option PTree)
  | 0, _, _ => .panic "fuel"
  | f + 1, p, m =>
    match p.path with
    | [] =>
      -- exposed oneof: a oneof over the same message
      match p.field with
      | .oneof ref =>
        match env.find ref with
        | some (.oneof ops) =>
          if hasProp env (f + 1) p m then
            match encOneofBody env O f ops m with
            | .ok t => .ok (some t)
            | .err e => .err e
            | .panic w => .panic w
          else .ok none
        | _ => .err "oneof ref"
      | _ => .err "Reflection Bug: no proto field and not a oneof"
    | path =>
      match getPath m path with
      | none => .ok none
      | some v =>
        match encValue env O f p.field v with
        | .ok t => .ok (some t)
        | .err e => .err e
        | .panic w => .panic w

/-- `encodeObjectBody` = `RangeValues` over the property list -/
def encObjectBody (env : Env) (O : Oracle) : Nat → List PropDef → Fields → Outcome PTree
  | 0, _, _ => .panic "fuel"
  | f + 1, props, m =>
    let ms := props.foldr (fun p acc =>
      consMember
        (match findProp props p.jsonName with
         | none => .err "no property"
         | some q =>
           match encField env O f q m with
           | .ok none => .ok none
           | .ok (some t) => member q.jsonName (.ok t)
           | .err e => .err e
           | .panic w => .panic w) acc) (.ok (.nil .closed))
    match ms with
    | .ok ms => .ok (.obj ms)
    | .err e => .err e
    | .panic w => .panic w

/-- `encodeOneofBody`: `GetOne`, then `{}` or `{"!type":name,name:value}` -/
def encOneofBody (env : Env) (O : Oracle) : Nat → List PropDef → Fields → Outcome PTree
  | 0, _, _ => .panic "fuel"
  | f + 1, ops, m =>
    match ops.filter (oneofSet env (f + 1) ops m) with
    | [] => .ok (.obj (.nil .closed))
    | [q0] =>
      match findProp ops q0.jsonName with
      | none => .err "no property"
      | some q =>
        match strNode q.jsonName with
        | .ok nameNode =>
          match appendString typeKey with
          | .ok typeLit =>
            match encField env O f q m with
            | .ok (some t) =>
              (match member q.jsonName (.ok t) with
               | .ok (some (k, kraw, v)) =>
                 .ok (.obj (.cons typeKey typeLit nameNode (.cons k kraw v (.nil .closed))))
               | .ok none => .err "unreachable"
               | .err e => .err e
               | .panic w => .panic w)
            | .ok none => .err "value vanished"
            | .err e => .err e
            | .panic w => .panic w
          | .err e => .err e
          | .panic w => .panic w
        | .err e => .err e
        | .panic w => .panic w
    | _ => .err "multiple values set for oneof"

/-- `encodeValue` on the `Field` built for the value -/
def encValue (env : Env) (O : Oracle) : Nat → Field → PVal → Outcome PTree
  | 0, _, _ => .panic "fuel"
  | f + 1, fld, v =>
    match fld with
    | .scalar k => scalarNode O k v
    | .enum ref =>
      match env.find ref, v with
      | some (.enum _ opts), .enum n =>
        match optionByNumber opts n with
        | some name => strNode name
        | none => .err "enum value not found"
      | _, _ => .err "enum"
    | .object ref =>
      match env.find ref, v with
      | some (.object props), .msg fs => encObjectBody env O f props fs
      | _, _ => .err "object"
    | .oneof ref =>
      match env.find ref, v with
      | some (.oneof ops), .msg fs => encOneofBody env O f ops fs
      | _, _ => .err "oneof"
    | .array item =>
      match item, v with
      | .array _, _ => .err "unsupported array item schema"
      | .map _, _ => .err "unsupported array item schema"
      | .any _, _ => .err "unsupported array item schema"
      | _, .list xs =>
        match xs.foldr (fun x acc => consElem (encValue env O f item x) acc) (.ok (.nil .closed)) with
        | .ok es => .ok (.arr es)
        | .err e => .err e
        | .panic w => .panic w
      | _, _ => .err "array"
    | .map item =>
      match item, v with
      | .array _, _ => .err "unsupported schema type"
      | .map _, _ => .err "unsupported schema type"
      | .any _, _ => .err "unsupported schema type"
      | _, .map kvs =>
        match kvs.foldr (fun kv acc =>
            consMember (member kv.1 (encValue env O f item kv.2)) acc) (.ok (.nil .closed)) with
        | .ok ms => .ok (.obj ms)
        | .err e => .err e
        | .panic w => .panic w
      | _, _ => .err "map"
    | .any _ =>
      -- `GetJ5Any`: (typeName, J5Json, Proto) of either flavour
      -- (typeName, J5Json, `Proto != nil`, …); a pb Any's `Proto` is never nil (691a6dd)
      let parts : Option (Bytes × Bytes × Bool × InnerKind × String × PVal) :=
        match v with
        | .anyJ5 tn proto j5 ik iroot inner => some (tn, j5, !proto.isEmpty, ik, iroot, inner)
        | .anyPb url _ ik iroot inner => some (trimPrefix url anyPrefix, [], true, ik, iroot, inner)
        | _ => none
      match parts with
      | none => .err "any"
      | some (tn, j5, hasProto, ik, iroot, inner) =>
        let jsonData : Outcome PTree :=
          if !j5.isEmpty then .ok (chunkNode O j5)
          else if hasProto then
            match ik with
            | .none => .err "resolver: not found"
            | .bad => .err "proto.Unmarshal"
            | .inn => encRoot env O f iroot inner
          else .err "any has neither j5_json nor proto content"
        match jsonData with
        | .ok data =>
          match appendString typeKey, strNode tn, appendString valueKey with
          | .ok typeLit, .ok tnNode, .ok valueLit =>
            .ok (.obj (.cons typeKey typeLit tnNode (.cons valueKey valueLit data (.nil .closed))))
          | .panic w, _, _ => .panic w
          | _, .panic w, _ => .panic w
          | _, _, .panic w => .panic w
          | _, _, _ => .err "invalid UTF-8"
        | .err e => .err e
        | .panic w => .panic w

/-- `Codec.encode(msg)`: `NewRoot` + `encodeObject` / `encodeOneofBody` -/
def encRoot (env : Env) (O : Oracle) : Nat → String → PVal → Outcome PTree
  | 0, _, _ => .panic "fuel"
  | f + 1, root, v =>
    match env.find root, v with
    | some (.object props), .msg fs => encObjectBody env O f props fs
    | some (.oneof ops), .msg fs => encOneofBody env O f ops fs
    | _, _ => .err "unsupported root schema type"
end

mutual
def PVal.depth : PVal → Nat
  | .msg fs => depthFields fs + 1
  | .list xs => depthList xs + 1
  | .map kvs => depthMap kvs + 1
  | .anyJ5 _ _ _ _ _ inner => inner.depth + 1
  | .anyPb _ _ _ _ inner => inner.depth + 1
  | _ => 0
def depthFields : List (Nat × PVal) → Nat
  | [] => 0
  | (_, v) :: rest => max v.depth (depthFields rest)
def depthList : List PVal → Nat
  | [] => 0
  | v :: rest => max v.depth (depthList rest)
def depthMap : List (Bytes × PVal) → Nat
  | [] => 0
  | (_, v) :: rest => max v.depth (depthMap rest)
end

/-- enough fuel for any message: at most five levels of the mutual recursion per nesting level (exposed oneof) -/
def encFuel (v : PVal) : Nat := 6 * v.depth + 10

def encodeTree (env : Env) (O : Oracle) (root : String) (v : PVal) : Outcome PTree :=
  encRoot env O (encFuel v) root v

/-- `Codec.ProtoToJSON` -/
def encodeBytes (env : Env) (O : Oracle) (root : String) (v : PVal) : Outcome Bytes :=
  match encodeTree env O root v with
  | .ok t => .ok t.render
  | .err e => .err e
  | .panic w => .panic w

end J5V.Codec
