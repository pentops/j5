import J5V.Codec.ScalarProofs
/-!
# Lemmas for C03: alternate spellings are accepted, faults are rejected (scalar level)
-/
namespace J5V.Codec
open J5V.Go J5V.Json

/-! ## base64: URL-safe alphabet -/

def stdToUrl (c : UInt8) : UInt8 := if c = 0x2B then 0x2D else if c = 0x2F then 0x5F else c

theorem urlToStd_stdToUrl_of_fixed (c : UInt8) (h : urlToStd c = c) : urlToStd (stdToUrl c) = c := by
  unfold stdToUrl
  by_cases h1 : c = 0x2B
  · subst h1; decide
  · by_cases h2 : c = 0x2F
    · subst h2; decide
    · rw [if_neg h1, if_neg h2]; exact h

theorem map_fixed_mem {f : UInt8 → UInt8} : ∀ (l : Bytes), l.map f = l → ∀ c ∈ l, f c = c
  | [], _, c, hc => by cases hc
  | a :: t, h, c, hc => by
    simp only [List.map_cons, List.cons.injEq] at h
    rcases List.mem_cons.mp hc with rfl | hc
    · exact h.1
    · exact map_fixed_mem t h.2 c hc

/-- URL-safe base64 (`-` `_`) of any byte string is accepted and gives the same bytes -/
theorem byteValueFromString_url (bs : Bytes) :
    byteValueFromString ((b64Encode bs).map stdToUrl) = some bs := by
  rw [byteValueFromString_eq]
  have hfix := map_fixed_mem _ (b64Encode_urlToStd bs)
  have hmap : ((b64Encode bs).map stdToUrl).map urlToStd = b64Encode bs := by
    rw [List.map_map]
    conv => rhs; rw [← List.map_id (b64Encode bs)]
    apply List.map_congr_left
    intro c hc
    exact urlToStd_stdToUrl_of_fixed c (hfix c hc)
  simp only [hmap]
  rw [if_neg (by simp [b64Encode_length])]
  exact b64_inv bs

/-! ## base64: missing padding is restored -/

def stripPad (s : Bytes) : Bytes := s.filter (· ≠ 0x3D)

theorem b64Char_ne_pad : ∀ v, v < 64 → (b64Char v != 0x3D) = true := by decide

theorem stripPad_cons_char (v : Nat) (hv : v < 64) (l : Bytes) :
    stripPad (b64Char v :: l) = b64Char v :: stripPad l := by
  have h := b64Char_ne_pad v hv
  simp only [bne_iff_ne, ne_eq] at h
  simp [stripPad, h]

theorem stripPad_pad (l : Bytes) : stripPad (0x3D :: l) = stripPad l := by
  simp [stripPad]

theorem stripPad_nil : stripPad [] = [] := rfl

theorem stripPad_repad (bs : Bytes) :
    (if (stripPad (b64Encode bs)).length % 4 ≠ 0
      then stripPad (b64Encode bs) ++ List.replicate (4 - (stripPad (b64Encode bs)).length % 4) 0x3D
      else stripPad (b64Encode bs)) = b64Encode bs := by
  fun_induction b64Encode bs with
  | case1 => rfl
  | case2 a n =>
    have ha := a.toNat_lt
    have hn : n = a.toNat := rfl
    rw [stripPad_cons_char _ (by omega), stripPad_cons_char _ (by omega), stripPad_pad, stripPad_pad,
      stripPad_nil]
    rfl
  | case3 a b n =>
    have ha := a.toNat_lt
    have hb := b.toNat_lt
    have hn : n = a.toNat * 256 + b.toNat := rfl
    rw [stripPad_cons_char _ (by omega), stripPad_cons_char _ (by omega),
      stripPad_cons_char _ (by omega), stripPad_pad, stripPad_nil]
    rfl
  | case4 a b c rest n ih =>
    have ha := a.toNat_lt
    have hb := b.toNat_lt
    have hc := c.toNat_lt
    have hn : n = a.toNat * 65536 + b.toNat * 256 + c.toNat := rfl
    rw [stripPad_cons_char _ (by omega), stripPad_cons_char _ (by omega),
      stripPad_cons_char _ (by omega), stripPad_cons_char _ (by omega)]
    generalize stripPad (b64Encode rest) = sp at ih ⊢
    have e : (b64Char (n / 262144) :: b64Char (n / 4096 % 64) :: b64Char (n / 64 % 64) ::
        b64Char (n % 64) :: sp).length % 4 = sp.length % 4 := by
      simp only [List.length_cons]; omega
    rw [e]
    split
    · next hne => rw [if_pos hne] at ih; simp only [List.cons_append, ih]
    · next hne => rw [if_neg hne] at ih; simp only [ih]

theorem stripPad_urlToStd (bs : Bytes) : (stripPad (b64Encode bs)).map urlToStd = stripPad (b64Encode bs) := by
  have hfix := map_fixed_mem _ (b64Encode_urlToStd bs)
  conv => rhs; rw [← List.map_id (stripPad (b64Encode bs))]
  apply List.map_congr_left
  intro c hc
  exact hfix c (List.mem_filter.mp hc).1

/-- unpadded base64 of any byte string is accepted and gives the same bytes -/
theorem byteValueFromString_unpadded (bs : Bytes) :
    byteValueFromString (stripPad (b64Encode bs)) = some bs := by
  rw [byteValueFromString_eq]
  simp only [stripPad_urlToStd]
  rw [stripPad_repad bs]
  exact b64_inv bs

/-! ## enum names with and without the prefix -/

/-- the exact short name is always found first -/
theorem enumOptionByName_short (pfx : Bytes) (opts : List (Bytes × Int)) (name : Bytes) (n : Int)
    (h : (opts.find? fun o => o.1 == name) = some (name, n)) :
    enumOptionByName pfx opts name = some n := by
  unfold enumOptionByName; rw [h]

/-- the prefixed spelling denotes the same option, unless an option carries that full name -/
theorem enumOptionByName_prefixed (pfx : Bytes) (opts : List (Bytes × Int)) (name : Bytes) (n : Int)
    (h : (opts.find? fun o => o.1 == name) = some (name, n))
    (hfull : (opts.find? fun o => o.1 == pfx ++ name) = none) :
    enumOptionByName pfx opts (pfx ++ name) = some n := by
  unfold enumOptionByName; rw [hfull]
  simp only [optionByName, trimPrefix_append, h, Option.map_some]

theorem enumOptionByName_mem (pfx : Bytes) (opts : List (Bytes × Int)) (name : Bytes) (n : Int)
    (h : enumOptionByName pfx opts name = some n) :
    (name, n) ∈ opts ∨ (trimPrefix name pfx, n) ∈ opts := by
  unfold enumOptionByName at h
  cases hf : opts.find? (fun o => o.1 == name) with
  | some o =>
    simp only [hf, Option.some.injEq] at h
    have hm := List.mem_of_find?_eq_some hf
    have he : o.1 = name := by simpa using List.find?_some hf
    left
    have : o = (name, n) := Prod.ext he h
    rw [← this]; exact hm
  | none =>
    simp only [hf, optionByName] at h
    cases hg : opts.find? (fun o => o.1 == trimPrefix name pfx) with
    | none => simp [hg] at h
    | some o =>
      simp only [hg, Option.map_some, Option.some.injEq] at h
      have hm := List.mem_of_find?_eq_some hg
      have he : o.1 = trimPrefix name pfx := by simpa using List.find?_some hg
      right
      have : o = (trimPrefix name pfx, n) := Prod.ext he h
      rw [← this]; exact hm

/-- JSON value of a type the field kind does not take -/
def wrongType (k : ScalarKind) (t : GoTok) : Bool :=
  match k, t with
  | .bool, .str _ | .bool, .num _ => true
  | .string, .num _ | .string, .bool _ => true
  | .key, .num _ | .key, .bool _ => true
  | .int32, .bool _ | .int64, .bool _ | .uint32, .bool _ | .uint64, .bool _ => true
  | .float32, .bool _ | .float64, .bool _ => true
  | .bytes, .num _ | .bytes, .bool _ => true
  | .timestamp, .num _ | .timestamp, .bool _ => true
  | .date, .num _ | .date, .bool _ => true
  | .decimal, .bool _ => true
  | _, _ => false

theorem decodeScalar_wrongType (O : Oracle) (k : ScalarKind) (t : GoTok) (h : wrongType k t = true) :
    ∃ e, decodeScalar O k t = .err e := by
  cases k <;> cases t <;> simp only [wrongType, Bool.false_eq_true] at h <;>
    exact ⟨_, rfl⟩

/-- an integer text that `strconv` cannot parse (syntax or range) is rejected, quoted or bare -/
theorem decodeScalar_int_unparsable (O : Oracle) (text : Bytes) :
    (parseInt text 64 = none → ∃ e, decodeScalar O .int32 (.num text) = .err e) ∧
    (parseInt text 64 = none → ∃ e, decodeScalar O .int64 (.num text) = .err e) ∧
    (parseInt text 64 = none → ∃ e, decodeScalar O .uint32 (.num text) = .err e) ∧
    (parseUint text 64 = none → ∃ e, decodeScalar O .uint64 (.num text) = .err e) ∧
    (parseInt text 32 = none → ∃ e, decodeScalar O .int32 (.str text) = .err e) ∧
    (parseInt text 64 = none → ∃ e, decodeScalar O .int64 (.str text) = .err e) ∧
    (parseUint text 32 = none → ∃ e, decodeScalar O .uint32 (.str text) = .err e) ∧
    (parseUint text 64 = none → ∃ e, decodeScalar O .uint64 (.str text) = .err e) := by
  refine ⟨?_, ?_, ?_, ?_, ?_, ?_, ?_, ?_⟩ <;> intro h <;> simp only [decodeScalar, h] <;> exact ⟨_, rfl⟩

/-- a bare number outside the 32-bit range is rejected -/
theorem decodeScalar_int32_range (O : Oracle) (text : Bytes) (v : Int) (hp : parseInt text 64 = some v)
    (hr : v > 2147483647 ∨ v < -2147483648) : ∃ e, decodeScalar O .int32 (.num text) = .err e := by
  simp only [decodeScalar, hp, if_pos hr]; exact ⟨_, rfl⟩

theorem decodeScalar_uint32_range (O : Oracle) (text : Bytes) (v : Int) (hp : parseInt text 64 = some v)
    (hr : v < 0 ∨ v > 4294967295) : ∃ e, decodeScalar O .uint32 (.num text) = .err e := by
  simp only [decodeScalar, hp, if_pos hr]; exact ⟨_, rfl⟩

/-- whatever the oracle functions or the model's own parsers reject is rejected by the field -/
theorem decodeScalar_invalid_text (O : Oracle) (s : Bytes) :
    (byteValueFromString s = none → ∃ e, decodeScalar O .bytes (.str s) = .err e) ∧
    (dateFromString s = none → ∃ e, decodeScalar O .date (.str s) = .err e) ∧
    (O.parseDec s = none → ∃ e, decodeScalar O .decimal (.str s) = .err e) ∧
    (O.parseTime s = none → ∃ e, decodeScalar O .timestamp (.str s) = .err e) ∧
    (O.parseFloat s = none → ∃ e, decodeScalar O .float64 (.str s) = .err e) ∧
    (O.parseFloat s = none → ∃ e, decodeScalar O .float32 (.num s) = .err e) := by
  refine ⟨?_, ?_, ?_, ?_, ?_, ?_⟩ <;> intro h <;> simp only [decodeScalar, h] <;> exact ⟨_, rfl⟩

end J5V.Codec
