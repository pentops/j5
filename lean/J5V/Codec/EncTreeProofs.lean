import J5V.Codec.RoundtripInd
import J5V.Json.Strict
/-!
# Everything the encoder writes is read back by the JSON reader (C08 well-formedness, C01 on bytes)
-/
namespace J5V.Codec
open J5V.Go J5V.Json

/-! ## strict parsing of rendered encoder trees -/

mutual
theorem enc_complete (t : PTree) (h : t.Enc) : t.complete = true := by
  cases t <;> simp only [PTree.Enc] at h <;> simp only [PTree.complete]
  case obj ms => exact enc_complete_members ms h
  case arr xs => exact enc_complete_elems xs h
termination_by structural t
theorem enc_complete_members (ms : PMembers) (h : ms.Enc) : ms.complete = true := by
  cases ms with
  | nil t => simp only [PMembers.Enc] at h; subst h; rfl
  | cons k kr v r =>
    simp only [PMembers.Enc] at h
    simp only [PMembers.complete, Bool.and_eq_true]
    exact ⟨enc_complete v h.2.1, enc_complete_members r h.2.2⟩
termination_by structural ms
theorem enc_complete_elems (xs : PElems) (h : xs.Enc) : xs.complete = true := by
  cases xs with
  | nil t => simp only [PElems.Enc] at h; subst h; rfl
  | cons v r =>
    simp only [PElems.Enc] at h
    simp only [PElems.complete, Bool.and_eq_true]
    exact ⟨enc_complete v h.1, enc_complete_elems r h.2⟩
termination_by structural xs
end

/-- the strict parser accepts the rendering of every encoder tree and returns that tree -/
theorem parse_render (t : PTree) (h : t.Enc) : parse t.render = some t := by
  unfold parse
  rw [tokenize_render t h]
  have := build_value t h ((t.toks.map Item.tok).length + 1) [] (by simp)
  simp only [List.append_nil] at this
  simp only [this, enc_complete t h]
  simp

/-! ## nodes the encoder writes -/

theorem strNode_enc (s : Bytes) (t : PTree) (h : strNode s = .ok t) : t.Enc := by
  obtain ⟨lit, ha, rfl⟩ := strNode_ok_inv s t h
  exact LitOk_of_appendString s lit ha

theorem numOk_of_isJsonNumber (t : Bytes) (h : Wire.isJsonNumber t = true) : NumOk t := by
  apply numOk_of_scan
  unfold Wire.isJsonNumber at h
  cases hs : scanNumber t with
  | none => simp [hs] at h
  | some x =>
    obtain ⟨a, r⟩ := x
    cases r with
    | nil => exact ⟨a, rfl⟩
    | cons c r' => simp [hs] at h

theorem numOk_fmtInt (v : Int) : NumOk (fmtInt v) := numOk_of_isJsonNumber _ (isJsonNumber_fmtInt v)

theorem numOk_fmtNat (n : Nat) : NumOk (fmtNat n) := numOk_of_isJsonNumber _ (isJsonNumber_fmtNat n)

theorem bareNode_enc (t : Bytes) (h : t = ascii "true" ∨ t = ascii "false" ∨ NumOk t) :
    (bareNode t).Enc := by
  rcases bareNode_cases t with ⟨_, hb⟩ | ⟨_, hb⟩ | ⟨h1, h2, hb⟩ <;> rw [hb]
  · trivial
  · trivial
  · exact h.elim (absurd · h1) (·.elim (absurd · h2) id)

theorem floatTextOk_of_laws (O : Oracle) (L : OracleLaws O) : FloatTextOk O :=
  ⟨fun b h => (L.f64 b h).1, fun b h => (L.f32 b h).1⟩

/-- `addFloat` writes a bare text only for a finite value, and then it is the `FormatFloat` text -/
theorem nonFinite_bare {a e m : Bool} {t x : Bytes} (h : nonFinite a e m t = .bare x) :
    e = false ∧ x = t := by
  cases e
  · exact ⟨rfl, (ScalarOut.bare.inj ((nonFinite_finite a m t).symm.trans h)).symm⟩
  · cases m <;> cases a <;> cases h

theorem float64_bare_ok (O : Oracle) (hO : FloatTextOk O) (b : Nat) (x : Bytes)
    (he : nonFinite (decide (b / 2 ^ 63 % 2 = 1)) (decide (b / 2 ^ 52 % 2048 = 2047))
      (decide (b % 2 ^ 52 = 0)) (O.fmtF64 b) = .bare x) : NumOk x := by
  obtain ⟨hfin, rfl⟩ := nonFinite_bare he
  exact numOk_of_isJsonNumber _ (hO.1 b (by simpa [finite64] using hfin))

theorem float32_bare_ok (O : Oracle) (hO : FloatTextOk O) (b : Nat) (x : Bytes)
    (he : nonFinite (decide (b / 2 ^ 31 % 2 = 1)) (decide (b / 2 ^ 23 % 256 = 255))
      (decide (b % 2 ^ 23 = 0)) (O.fmtF32 b) = .bare x) : NumOk x := by
  obtain ⟨hfin, rfl⟩ := nonFinite_bare he
  exact numOk_of_isJsonNumber _ (hO.2 b (by simpa [finite32] using hfin))

theorem bare_ok (O : Oracle) (hO : FloatTextOk O) (k : ScalarKind) (v : PVal) (x : Bytes)
    (he : encodeScalar O k v = .ok (.bare x)) :
    x = ascii "true" ∨ x = ascii "false" ∨ NumOk x := by
  unfold encodeScalar at he
  split at he
  · cases he
  · cases he
  · next b => cases he; cases b <;> simp
  · cases he; exact .inr (.inr (numOk_fmtInt _))
  · cases he; exact .inr (.inr (numOk_fmtNat _))
  · cases he
  · cases he
  · next b => exact .inr (.inr (float32_bare_ok O hO b x (Outcome.ok.inj he)))
  · next b => exact .inr (.inr (float64_bare_ok O hO b x (Outcome.ok.inj he)))
  · cases he
  · cases he
  · cases he
  · cases he
  · cases he

/-- every scalar node is an encoder node, for **every** value (non-finite floats included) -/
theorem scalarNode_enc (O : Oracle) (hO : FloatTextOk O) (k : ScalarKind) (v : PVal) (t : PTree)
    (h : scalarNode O k v = .ok t) : t.Enc := by
  unfold scalarNode at h
  cases he : encodeScalar O k v with
  | err e => simp [he] at h
  | panic w => simp [he] at h
  | ok out =>
    simp only [he] at h
    cases out with
    | quoted s => exact strNode_enc s t h
    | bare x =>
      cases h
      exact bareNode_enc x (bare_ok O hO k v x he)


/-! ## the whole tree -/

theorem membersOf_enc (es : List (Bytes × Bytes × PTree))
    (h : ∀ e ∈ es, LitOk e.1 e.2.1 ∧ e.2.2.Enc) : (membersOf es).Enc := by
  induction es with
  | nil => simp [membersOf, PMembers.Enc]
  | cons e t ih =>
    obtain ⟨k, kr, v⟩ := e
    simp only [membersOf, PMembers.Enc]
    have := h (k, kr, v) List.mem_cons_self
    exact ⟨this.1, this.2, ih (fun e he => h e (List.mem_cons_of_mem _ he))⟩

theorem elemsOf_enc (ts : List PTree) (h : ∀ t ∈ ts, t.Enc) : (elemsOf ts).Enc := by
  induction ts with
  | nil => simp [elemsOf, PElems.Enc]
  | cons t r ih =>
    simp only [elemsOf, PElems.Enc]
    exact ⟨h t List.mem_cons_self, ih (fun x hx => h x (List.mem_cons_of_mem _ hx))⟩

theorem find_noAny (env : Env) (h : env.noAny = true) (name : String) (ps : List PropDef)
    (hf : env.find name = some (.object ps) ∨ env.find name = some (.oneof ps)) :
    ∀ p ∈ ps, fieldNoAny p.field = true :=
  find_props_all env (fun p => fieldNoAny p.field) h name ps hf

/-! ## `Any`: recognised chunks -/

/-- the laws about the text oracles do not involve the specification-side chunk recogniser -/
theorem oracleLaws_withChunk (O : Oracle) (L : OracleLaws O) (g : Bytes → Option PTree) :
    OracleLaws { O with chunk := g } :=
  ⟨L.f64, L.f32, L.time, L.dec, L.timeUtf8⟩

theorem chunkLaws_default (O : Oracle) (h : O.chunk = fun _ => none) : ChunkLaws O := by
  intro bs V hc; rw [h] at hc; cases hc

theorem chunkNode_enc (O : Oracle) (hC : ChunkLaws O) (bs : Bytes) (h : chunkKnown O bs = true) :
    (chunkNode O bs).Enc := by
  unfold chunkKnown at h
  cases hc : O.chunk bs with
  | none => simp [hc] at h
  | some V =>
    simp only [hc, beq_iff_eq] at h
    rw [chunkNode_some O bs V hc h]
    exact hC bs V hc

theorem chunksOk_getPath (O : Oracle) : ∀ (path : List Nat) (m : Fields) (v : PVal),
    chunksOkFields O m = true → getPath m path = some v → v.chunksOk O = true :=
  of_getPath_of_cons (fun _ _ h => by simpa only [chunksOkFields, Bool.and_eq_true] using h)
    (fun _ h => by simpa only [PVal.chunksOk] using h)

theorem chunksOk_mem_list (O : Oracle) : ∀ (xs : List PVal) (x : PVal), chunksOkList O xs = true →
    x ∈ xs → x.chunksOk O = true :=
  of_mem_of_cons fun _ _ h => by simpa only [chunksOkList, Bool.and_eq_true] using h

theorem chunksOk_mem_map (O : Oracle) : ∀ (kvs : List (Bytes × PVal)) (kv : Bytes × PVal),
    chunksOkMap O kvs = true → kv ∈ kvs → kv.2.chunksOk O = true :=
  of_mem_of_cons (P := fun kv : Bytes × PVal => kv.2.chunksOk O = true) fun _ _ h => by
    simpa only [chunksOkMap, Bool.and_eq_true] using h

/-- the value is one the well-formedness theorem speaks about: either the environment has no `Any`
at all (then the message is arbitrary), or every `j5_json` stored in it is a recognised chunk -/
def GoodV (env : Env) (O : Oracle) (fld : Field) (v : PVal) : Prop :=
  (env.noAny = true ∧ fieldNoAny fld = true) ∨ (ChunkLaws O ∧ v.chunksOk O = true)

def GoodM (env : Env) (O : Oracle) (props : List PropDef) (m : Fields) : Prop :=
  (env.noAny = true ∧ ∀ p ∈ props, fieldNoAny p.field = true) ∨
    (ChunkLaws O ∧ chunksOkFields O m = true)

theorem goodM_of_find (env : Env) (O : Oracle) (fld : Field) (ref : String) (ps : List PropDef)
    (fs : Fields) (hg : GoodV env O fld (.msg fs))
    (hf : env.find ref = some (.object ps) ∨ env.find ref = some (.oneof ps)) : GoodM env O ps fs := by
  rcases hg with ⟨hna, _⟩ | ⟨hC, hc⟩
  · exact Or.inl ⟨hna, find_noAny env hna ref ps hf⟩
  · exact Or.inr ⟨hC, by simpa [PVal.chunksOk] using hc⟩

theorem goodV_of_goodM (env : Env) (O : Oracle) (props : List PropDef) (m : Fields) (p : PropDef)
    (v : PVal) (hg : GoodM env O props m) (hp : p ∈ props) (hv : getPath m p.path = some v) :
    GoodV env O p.field v := by
  rcases hg with ⟨hna, hall⟩ | ⟨hC, hc⟩
  · exact Or.inl ⟨hna, hall p hp⟩
  · exact Or.inr ⟨hC, chunksOk_getPath O p.path m v hc hv⟩

/-- the facts about encoder trees at fuel `f` -/
structure ET (env : Env) (O : Oracle) (f : Nat) : Prop where
  val : ∀ fld v t, GoodV env O fld v → encValue env O f fld v = .ok t → t.Enc
  fld : ∀ props p m t, GoodM env O props m → p ∈ props → encField env O f p m = .ok (some t) → t.Enc
  obj : ∀ props m t, GoodM env O props m → encObjectBody env O f props m = .ok t → t.Enc
  one : ∀ ops m t, GoodM env O ops m → encOneofBody env O f ops m = .ok t → t.Enc
  root : ∀ r v t, ChunkLaws O → v.chunksOk O = true → encRoot env O f r v = .ok t → t.Enc

theorem member_enc (name : Bytes) (t : PTree) (e : Bytes × Bytes × PTree) (ht : t.Enc)
    (h : member name (.ok t) = .ok (some e)) : LitOk e.1 e.2.1 ∧ e.2.2.Enc := by
  obtain ⟨lit, t', ha, ht', hr⟩ := member_ok_inv _ _ _ h
  cases ht'; cases hr
  exact ⟨LitOk_of_appendString name lit ha, ht⟩

theorem ET_all (env : Env) (O : Oracle) (hO : FloatTextOk O) :
    ∀ f, ET env O f := by
  intro f
  induction f with
  | zero =>
    refine ⟨?_, ?_, ?_, ?_, ?_⟩
    · intro fld v t _ h; simp [encValue] at h
    · intro props p m t _ _ h; simp [encField] at h
    · intro props m t _ h; simp [encObjectBody] at h
    · intro ops m t _ h; simp [encOneofBody] at h
    · intro r v t _ _ h; simp [encRoot] at h
  | succ f ih =>
    refine ⟨?_, ?_, ?_, ?_, ?_⟩
    · intro fld v t hg h
      cases fld with
      | scalar k => exact scalarNode_enc O hO k v t (by simpa only [encValue] using h)
      | «enum» ref =>
        obtain ⟨name, hs⟩ := encValue_enum_ok h
        exact strNode_enc _ t hs
      | object ref =>
        obtain ⟨props, fs, hfind, rfl, hb⟩ := encValue_object_ok h
        exact ih.obj props fs t (goodM_of_find env O _ ref props fs hg (Or.inl hfind)) hb
      | oneof ref =>
        obtain ⟨ops, fs, hfind, rfl, hb⟩ := encValue_oneof_ok h
        exact ih.one ops fs t (goodM_of_find env O _ ref ops fs hg (Or.inr hfind)) hb
      | any pb =>
        obtain ⟨hC, hc⟩ : ChunkLaws O ∧ v.chunksOk O = true := by
          rcases hg with ⟨_, hfn⟩ | hc
          · simp [fieldNoAny] at hfn
          · exact hc
        obtain ⟨tn, j5, iroot, inner, typeLit, tnNode, valueLit, data, hv, hd, h1, h2, h3, rfl⟩ :=
          encValue_any_ok h
        have hc' : (j5.isEmpty = true ∨ chunkKnown O j5 = true) ∧ inner.chunksOk O = true := by
          rcases hv with ⟨proto, ik, rfl⟩ | ⟨url, val, ik, rfl, _, rfl⟩
          · simpa only [PVal.chunksOk, Bool.and_eq_true, Bool.or_eq_true] using hc
          · exact ⟨.inl rfl, by simpa only [PVal.chunksOk] using hc⟩
        have hde : data.Enc := by
          rcases hd with ⟨hj, rfl⟩ | ⟨_, hdata⟩
          · rcases hc'.1 with he | hk
            · rw [he] at hj; cases hj
            · exact chunkNode_enc O hC j5 hk
          · exact ih.root iroot inner data hC hc'.2 hdata
        simp only [PTree.Enc, PMembers.Enc]
        exact ⟨LitOk_of_appendString _ _ h1, strNode_enc _ _ h2, LitOk_of_appendString _ _ h3, hde,
          trivial⟩
      | array item =>
        obtain ⟨xs, ts, rfl, rfl, hts⟩ := encValue_array_ok h
        simp only [PTree.Enc]
        refine elemsOf_enc ts fun t' ht' => ?_
        obtain ⟨x, hx, hgx⟩ := hts t' ht'
        refine ih.val item x t' ?_ hgx
        rcases hg with ⟨hna, hfn⟩ | ⟨hC, hc⟩
        · exact Or.inl ⟨hna, by simpa [fieldNoAny] using hfn⟩
        · exact Or.inr ⟨hC, chunksOk_mem_list O xs x (by simpa [PVal.chunksOk] using hc) hx⟩
      | map item =>
        obtain ⟨kvs, es, rfl, rfl, hes⟩ := encValue_map_ok h
        simp only [PTree.Enc]
        refine membersOf_enc es fun e he => ?_
        obtain ⟨kv, hkv, hk, ha, hgx⟩ := hes e he
        refine ⟨by rw [hk]; exact LitOk_of_appendString _ _ ha, ih.val item kv.2 e.2.2 ?_ hgx⟩
        rcases hg with ⟨hna, hfn⟩ | ⟨hC, hc⟩
        · exact Or.inl ⟨hna, by simpa [fieldNoAny] using hfn⟩
        · exact Or.inr ⟨hC, chunksOk_mem_map O kvs kv (by simpa [PVal.chunksOk] using hc) hkv⟩
    · intro props p m t hg hpm h
      rcases encField_ok h with ⟨ref, ops, _, _, hfind, hb⟩ | ⟨v, _, hv, hb⟩
      · refine ih.one ops m _ ?_ hb
        rcases hg with ⟨hna, _⟩ | hc
        · exact Or.inl ⟨hna, find_noAny env hna _ ops (Or.inr hfind)⟩
        · exact Or.inr hc
      · exact ih.val p.field v _ (goodV_of_goodM env O props m p v hg hpm hv) hb
    · intro props m t hg h
      obtain ⟨es, rfl, hes⟩ := encObjectBody_ok h
      simp only [PTree.Enc]
      refine membersOf_enc es fun e he => ?_
      obtain ⟨q, hqm, t', ht', hm⟩ := hes e he
      exact member_enc q.jsonName t' e (ih.fld props q m t' hg hqm ht') hm
    · intro ops m t hg h
      rcases encOneofBody_ok h with rfl | ⟨q, hqm, nameNode, typeLit, t', e, hn, htl, ht', hmem, rfl⟩
      · simp [PTree.Enc, PMembers.Enc]
      · have hme := member_enc q.jsonName t' e (ih.fld ops q m t' hg hqm ht') hmem
        simp only [PTree.Enc, PMembers.Enc]
        exact ⟨LitOk_of_appendString _ _ htl, strNode_enc _ _ hn, hme.1, hme.2, trivial⟩
    · intro r v t hC hc h
      obtain ⟨ps, fs, rfl, ⟨_, hb⟩ | ⟨_, hb⟩⟩ := encRoot_ok h
      · exact ih.obj ps fs t (Or.inr ⟨hC, by simpa [PVal.chunksOk] using hc⟩) hb
      · exact ih.one ps fs t (Or.inr ⟨hC, by simpa [PVal.chunksOk] using hc⟩) hb

/-- whatever tree the encoder produces — for any message at all of an environment without `Any`,
or for a message of any environment whose stored `j5_json` chunks are all recognised — is an
encoder tree: closed containers, literals that read back -/
theorem encRoot_enc (env : Env) (O : Oracle) (hO : FloatTextOk O) (root : String) (v : PVal)
    (t : PTree) (hg : env.noAny = true ∨ (ChunkLaws O ∧ v.chunksOk O = true)) (f : Nat)
    (h : encRoot env O f root v = .ok t) : t.Enc := by
  cases f with
  | zero => simp [encRoot] at h
  | succ f =>
    obtain ⟨ps, fs, rfl, ⟨hfind, hb⟩ | ⟨hfind, hb⟩⟩ := encRoot_ok h
    · refine (ET_all env O hO f).obj ps fs t ?_ hb
      rcases hg with hna | ⟨hC, hc⟩
      · exact Or.inl ⟨hna, find_noAny env hna root ps (Or.inl hfind)⟩
      · exact Or.inr ⟨hC, by simpa [PVal.chunksOk] using hc⟩
    · refine (ET_all env O hO f).one ps fs t ?_ hb
      rcases hg with hna | ⟨hC, hc⟩
      · exact Or.inl ⟨hna, find_noAny env hna root ps (Or.inr hfind)⟩
      · exact Or.inr ⟨hC, by simpa [PVal.chunksOk] using hc⟩

theorem encodeTree_enc (env : Env) (O : Oracle) (hO : FloatTextOk O)
    (root : String) (v : PVal) (t : PTree)
    (hg : env.noAny = true ∨ (ChunkLaws O ∧ v.chunksOk O = true))
    (h : encodeTree env O root v = .ok t) : t.Enc :=
  encRoot_enc env O hO root v t hg (encFuel v) h


/-! ## a representable message holds only recognised chunks -/

theorem scalarOk_not_any (O : Oracle) (k : ScalarKind) (v : PVal)
    (hv : (∃ a b c d e, v = .anyPb a b c d e) ∨ (∃ a b c d e f, v = .anyJ5 a b c d e f)) :
    scalarOk O k v = false := by
  refine Bool.eq_false_iff.mpr fun h => ?_
  have hr := ScalarRepr.of_eq_true (scalarRepr_of_scalarOk h)
  rcases hv with ⟨a, b, c, d, e, rfl⟩ | ⟨a, b, c, d, e, f, rfl⟩ <;> cases hr

mutual
theorem valOk_chunksOk (env : Env) (O : Oracle) : (v : PVal) → (fld : Field) →
    valOk env O fld v = true → v.chunksOk O = true
  | .msg fs, fld, h => by
    simp only [PVal.chunksOk]
    cases fld with
    | object ref =>
      obtain ⟨fs', props, hv, _, _, hfok, _, _⟩ := valOk_object env O ref _ h
      cases hv
      exact fieldsOk_chunksOk env O fs props hfok
    | oneof ref =>
      obtain ⟨fs', ops, hv, _, _, hfok, _⟩ := valOk_oneof env O ref _ h
      cases hv
      exact fieldsOk_chunksOk env O fs ops hfok
    | _ => simp [valOk] at h
  | .list xs, fld, h => by
    simp only [PVal.chunksOk]
    cases fld with
    | array item =>
      obtain ⟨xs', hv, hl⟩ := valOk_array env O item _ h
      cases hv
      exact listOk_chunksOk env O xs item hl
    | _ => simp [valOk] at h
  | .map kvs, fld, h => by
    simp only [PVal.chunksOk]
    cases fld with
    | map item =>
      obtain ⟨kvs', hv, hm⟩ := valOk_map env O item _ h
      cases hv
      exact mapOk_chunksOk env O kvs item [] hm
    | _ => simp [valOk] at h
  | .anyJ5 tn proto j5 ik iroot inner, fld, h => by
    cases fld with
    | any pb =>
      cases pb with
      | true => simp [valOk] at h
      | false =>
        obtain ⟨tn', j5', V, hv, _, _, _, hch, hr, _, _⟩ := valOk_any env O _ h
        cases hv
        simp [PVal.chunksOk, chunksOkFields, chunkKnown, hch, hr]
    | _ => simp [valOk] at h
  | .anyPb a b c d e, fld, h => by
    have ih := valOk_chunksOk env O e
    cases fld with
    | any pb =>
      cases pb with
      | false => simp [valOk] at h
      | true =>
        obtain ⟨tn, iroot, fs, hv, _, _, _, hiok⟩ := valOk_anyPb env O _ h
        cases hv
        exact hiok.elim (ih _) (ih _)
    | _ => simp [valOk] at h
  | .bool _, _, _ => rfl
  | .int _, _, _ => rfl
  | .uint _, _, _ => rfl
  | .f32 _, _, _ => rfl
  | .f64 _, _, _ => rfl
  | .str _, _, _ => rfl
  | .bytes _, _, _ => rfl
  | .enum _, _, _ => rfl
  | .ts _ _, _, _ => rfl
  | .date _ _ _, _, _ => rfl
  | .dec _, _, _ => rfl
termination_by structural v => v

theorem fieldsOk_chunksOk (env : Env) (O : Oracle) : (fs : Fields) → (props : List PropDef) →
    fieldsOk env O props fs = true → chunksOkFields O fs = true
  | [], _, _ => rfl
  | (k, v) :: rest, props, h => by
    rw [fieldsOk_cons] at h
    simp only [Bool.and_eq_true] at h
    simp only [chunksOkFields, Bool.and_eq_true]
    refine ⟨?_, fieldsOk_chunksOk env O rest props h.2⟩
    have h1 := h.1
    split at h1
    · next p _ =>
      simp only [Bool.and_eq_true] at h1
      exact valOk_chunksOk env O v p.field h1.1
    · cases v with
      | msg sub =>
        simp only [Bool.and_eq_true] at h1
        simp only [PVal.chunksOk]
        exact fieldsOk_chunksOk env O sub _ h1.2
      | _ => cases h1
termination_by structural fs => fs

theorem listOk_chunksOk (env : Env) (O : Oracle) : (xs : List PVal) → (item : Field) →
    listOk env O item xs = true → chunksOkList O xs = true
  | [], _, _ => rfl
  | x :: rest, item, h => by
    simp only [listOk, Bool.and_eq_true] at h
    simp only [chunksOkList, Bool.and_eq_true]
    exact ⟨valOk_chunksOk env O x item h.1, listOk_chunksOk env O rest item h.2⟩
termination_by structural xs => xs

theorem mapOk_chunksOk (env : Env) (O : Oracle) : (kvs : List (Bytes × PVal)) → (item : Field) →
    (seen : List Bytes) → mapOk env O item seen kvs = true → chunksOkMap O kvs = true
  | [], _, _, _ => rfl
  | (k, v) :: rest, item, seen, h => by
    simp only [mapOk, Bool.and_eq_true] at h
    simp only [chunksOkMap, Bool.and_eq_true]
    exact ⟨valOk_chunksOk env O v item h.1.2, mapOk_chunksOk env O rest item _ h.2⟩
termination_by structural kvs => kvs
end

/-- `Codec.ProtoToJSON` output parses with the strict reader — for ANY message of an environment
without `Any`, and for any message of any environment whose stored `j5_json` chunks are recognised -/
theorem encodeBytes_parses (env : Env) (O : Oracle) (hO : FloatTextOk O)
    (root : String) (v : PVal) (bs : Bytes)
    (hg : env.noAny = true ∨ (ChunkLaws O ∧ v.chunksOk O = true))
    (h : encodeBytes env O root v = .ok bs) :
    ∃ t, encodeTree env O root v = .ok t ∧ bs = t.render ∧ parse bs = some t := by
  unfold encodeBytes at h
  cases ht : encodeTree env O root v with
  | err e => simp [ht] at h
  | panic w => simp [ht] at h
  | ok t =>
    simp only [ht] at h; cases h
    exact ⟨t, rfl, rfl, parse_render t (encodeTree_enc env O hO root v t hg ht)⟩

/-- `root_flat` with a fourth conjunct: the tree is an encoder tree (`parse_render`, `readDoc_render` apply) -/
theorem root_flat_enc (c : Cfg) (hs : c.env.flat = true) (L : OracleLaws c.O)
    (hC : c.env.noAny = true ∨ ChunkLaws c.O) (root : String) (m : Fields)
    (hok : valOk c.env c.O (.object root) (.msg m) = true ∨ valOk c.env c.O (.oneof root) (.msg m) = true)
    (F : Nat) (hF : 6 * (depthFields m + 1) + 9 ≤ F)
    (hM : modeOkF c.protoToAny F c.anyDepth m = true) :
    ∃ t, encRoot c.env c.O (F + 1) root (.msg m) = .ok t ∧ decRootTree c root t = .ok m ∧
      (OracleWire c.O → Wire.RootConforms c.env c.O root m t) ∧ t.Enc := by
  obtain ⟨t, ht, hdec, hcf⟩ := root_flat c hs L root m hok F hF hM
  have hch : (PVal.msg m).chunksOk c.O = true := hok.elim (valOk_chunksOk _ _ _ _) (valOk_chunksOk _ _ _ _)
  exact ⟨t, ht, hdec, hcf, encRoot_enc c.env c.O (floatTextOk_of_laws c.O L) root (.msg m) t
    (hC.elim Or.inl fun h => Or.inr ⟨h, hch⟩) _ ht⟩

/-- **byte-level round trip with progress**: `Codec.ProtoToJSON` succeeds on every representable
message of a flat environment (j5 `Any` included, codec without `WithProtoToAny`) and
`Codec.JSONToProto` maps the bytes back to exactly that message -/
theorem roundtrip_bytes (c : Cfg) (hs : c.env.flat = true) (L : OracleLaws c.O)
    (hC : c.env.noAny = true ∨ ChunkLaws c.O)
    (root : String)
    (m : Fields)
    (hok : valOk c.env c.O (.object root) (.msg m) = true ∨ valOk c.env c.O (.oneof root) (.msg m) = true)
    (hM : modeOkF c.protoToAny (6 * (depthFields m + 1) + 9) c.anyDepth m = true) :
    ∃ bs, encodeBytes c.env c.O root (.msg m) = .ok bs ∧ decodeBytes c root bs = .ok m := by
  obtain ⟨t, ht, hdec, _, hE⟩ := root_flat_enc c hs L hC root m hok _ (Nat.le_refl _) hM
  refine ⟨t.render, by simp [encodeBytes, encodeTree_msg, ht], ?_⟩
  unfold decodeBytes
  rw [readDoc_render t hE]
  exact hdec

/-- **encoding a representable message of a flat environment succeeds** -/
theorem encode_ok (c : Cfg) (hs : c.env.flat = true) (L : OracleLaws c.O)
    (hC : c.env.noAny = true ∨ ChunkLaws c.O) (root : String) (m : Fields)
    (hok : valOk c.env c.O (.object root) (.msg m) = true ∨ valOk c.env c.O (.oneof root) (.msg m) = true)
    (hM : ∃ mode, modeOkF mode (6 * (depthFields m + 1) + 9) 0 m = true) :
    ∃ bs, encodeBytes c.env c.O root (.msg m) = .ok bs := by
  obtain ⟨mode, hM⟩ := hM
  obtain ⟨bs, hbs, _⟩ := roundtrip_bytes { c with protoToAny := mode, anyDepth := 0 } hs L hC root m hok hM
  exact ⟨bs, hbs⟩

/-- the shape of an encoded `Any` -/
theorem any_shape (env : Env) (O : Oracle) (f : Nat) (pb : Bool) (v : PVal) (t : PTree)
    (h : encValue env O f (.any pb) v = .ok t) :
    ∃ tn l1 l2 l3 data, Wire.anyTypeName v = some tn ∧
      t = .obj (.cons (ascii "!type") l1 (.str tn l2) (.cons (ascii "value") l3 data (.nil .closed))) := by
  cases f with
  | zero => simp [encValue] at h
  | succ f =>
    obtain ⟨tn, j5, iroot, inner, typeLit, tnNode, valueLit, data, hv, _, _, h2, _, rfl⟩ :=
      encValue_any_ok h
    obtain ⟨lit, _, rfl⟩ := strNode_ok_inv tn _ h2
    rcases hv with ⟨proto, ik, rfl⟩ | ⟨url, val, ik, rfl, rfl, _⟩ <;> exact ⟨_, _, _, _, _, rfl, rfl⟩

end J5V.Codec
