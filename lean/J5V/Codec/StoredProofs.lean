import J5V.Codec.ExactProofs
import J5V.Codec.RoundtripProofs
/-!
# C03: a successfully decoded document stored exactly what it says (`StoredRoot`)

`decRootTree c root t = .ok m → StoredRoot c root m t` for environments whose property sets
address unrelated leaves (`Env.apart`: no leaf path of one property a prefix of a leaf path of
another, an exposed oneof counting with the one-element paths of its members; flattened objects,
anonymous proto oneofs, wrapper oneofs, arrays, maps, enums, `Any` are all allowed).

Organisation: `storedAt_of_upd` / `fresh_step` (one member), persistence of a stored leaf through the
rest of a member loop (`member_persists`, `loop_inv`, `Decodes.loops`), then one induction on the
successful calls of the decoder (`Decodes.stored`).
-/
namespace J5V.Codec
open J5V.Go J5V.Json

/-- properties of an object not yet met have all their leaves unset -/
def FreshX (env : Env) (props : List PropDef) (st : PS) : Prop :=
  ∀ p ∈ props, p.jsonName ∉ st.seen → ∀ q ∈ leavesOf env p, getPath st.m q.path = none

theorem freshX_empty (env : Env) (props : List PropDef) : FreshX env props { m := [], seen := [] } :=
  fun _ _ _ q _ => getPath_nil q.path

theorem leavesOf_ne (env : Env) (p : PropDef) (h : p.path ≠ []) : leavesOf env p = [p] := by
  unfold leavesOf; rw [if_neg h]

theorem leavesOf_exposed (env : Env) (p : PropDef) (ref : String) (ops : List PropDef)
    (h : p.path = []) (hf : p.field = .oneof ref) (hfind : env.find ref = some (.oneof ops)) :
    leavesOf env p = ops := by
  unfold leavesOf exposedOps; rw [if_pos h, h, hf]; simp [hfind]

theorem leaf_ne (env : Env) (props : List PropDef) (hA : ApartX env props) (p : PropDef)
    (hp : p ∈ props) (q : PropDef) (hq : q ∈ leavesOf env p) : q.path ≠ [] := by
  by_cases h : p.path = []
  · obtain ⟨ref, ops, hf, hfind, hsingle, _⟩ := hA.exposed p hp h
    rw [leavesOf_exposed env p ref ops h hf hfind] at hq
    obtain ⟨k, hk⟩ := hsingle q hq
    rw [hk]; simp
  · rw [leavesOf_ne env p h] at hq
    simp only [List.mem_singleton] at hq
    rw [hq]; exact h

/-- properties not yet met in this property set are unset -/
def Fresh (props : List PropDef) (st : PS) : Prop :=
  ∀ q ∈ props, q.jsonName ∉ st.seen → getPath st.m q.path = none

theorem fresh_empty (props : List PropDef) : Fresh props { m := [], seen := [] } :=
  fun q _ _ => getPath_nil q.path

/-- after `Message.Set` at the path of a property the value is there (or it is one protobuf does
not keep) -/
theorem storedAt_of_upd (props : List PropDef) (p : PropDef) (vv : PVal) (m : Fields)
    (hne : p.path ≠ []) : storedAt (updPath props p (some vv) m) p vv := by
  unfold storedAt
  cases he : ((p.pres == .imp && vv.isZero) || vv.isEmptyColl) with
  | false =>
    left
    simp only [Bool.or_eq_false_iff] at he
    exact getPath_go_self props p vv he.1 he.2 p.path [] m rfl hne
  | true =>
    right
    exact ⟨rfl, getPath_go_erased props p vv he p.path [] m hne⟩

theorem storedAt_congr (fs fs' : Fields) (p : PropDef) (vv : PVal)
    (h : getPath fs' p.path = getPath fs p.path) (hs : storedAt fs p vv) : storedAt fs' p vv := by
  unfold storedAt at hs ⊢; rw [h]; exact hs

/-- one member keeps the unseen properties unset -/
theorem fresh_step {c : Cfg} {props : List PropDef} (hpa : PathsApart props) {p : PropDef}
    (hp : p ∈ props) {t : PTree} {st st1 : PS} (h : DecProp c props p t st st1)
    (hf : Fresh props st) : Fresh props st1 := by
  intro q hq hqs
  rcases DecProp.marks h with ⟨_, rfl⟩ | ⟨_, _, hseen⟩
  · exact hf q hq hqs
  · rw [hseen] at hqs
    have hnn : q.jsonName ≠ p.jsonName := fun e => hqs (by rw [e]; exact List.mem_cons_self)
    rw [decProp_frame h (hpa.1 p hp) q.path (hpa.1 q hq)
      (hpa.2 p hp q hq (fun e => hnn e.symm)) (hpa.2 q hq p hp hnn)]
    exact hf q hq (fun hmem => hqs (List.mem_cons_of_mem _ hmem))

theorem mget_mset_self {α : Type} (k : Bytes) (v : α) (acc : List (Bytes × α)) :
    mget k (mset k v acc) = some v := by
  induction acc with
  | nil => simp [mset, mget]
  | cons kv t ih =>
    obtain ⟨k2, v2⟩ := kv
    simp only [mset]
    split
    · simp [mget]
    · next h2 => simp [mget, h2, ih]

/-- `oneof.NewValue` after the loop: only for a body without keys, and for a member of the oneof -/
theorem oneofPost_some (ops : List PropDef) (found : List Bytes) (ct : Option Bytes) (m : Fields)
    (q : PropDef) (h : oneofPost ops found ct m = .ok (some q)) : found = [] ∧ q ∈ ops := by
  unfold oneofPost at h
  split at h
  · refine ⟨rfl, ?_⟩
    split at h
    · cases h
    · next name =>
      split at h
      · cases h
      · next p hfp =>
        split at h
        · cases h
        · cases h
        · split at h
          · cases h
          · cases h; exact findProp_mem ops name _ hfp
  · split at h
    · split at h <;> cases h
    · cases h
  · cases h

/-! ## exposed oneofs: the whole oneof decode leaves foreign leaves alone -/

/-- the member loop of a oneof leaves every path unrelated to its members' paths alone -/
theorem oneof_frame {c : Cfg} {ops : List PropDef} (hpa : PathsApart ops) (x : List Nat)
    (hx : x ≠ []) (hap : ∀ q ∈ ops, ¬ q.path <+: x ∧ ¬ x <+: q.path) {ms : PMembers} {st st' : PS}
    {found found' : List Bytes} {ct ct' : Option Bytes} {term : Term}
    (h : DecOne c ops ms st found ct st' found' ct' term) : getPath st'.m x = getPath st.m x :=
  Decodes.chain (c := c) (fun ps s s' => ps = ops → getPath s'.m x = getPath s.m x) (fun _ _ _ => rfl)
    (fun _ _ _ _ e1 e2 e => (e2 e).trans (e1 e))
    (fun ps k q v s s1 hf hd e => by
      subst e
      have hq := findProp_mem _ k q hf
      exact decProp_frame hd (hpa.1 q hq) x hx (hap q hq).1 (hap q hq).2) h rfl

/-- `oneof.NewValue` for a member with a one-element path leaves foreign fields alone (the other
members of the oneof being unset) -/
theorem touch_frame (ops : List PropDef) (q : PropDef) (k : Nat) (hq : q.path = [k]) (m : Fields)
    (hsib : SiblingsUnset ops q k m) (k' : Nat) (xs : List Nat) (hne : k' ≠ k) :
    getPath (touchProp ops q m) (k' :: xs) = getPath m (k' :: xs) := by
  have hcg : clearGroup ops [] q.group k m = m := by
    have := clearGroup_id_at ops q k m hsib
    rw [hq] at this; simpa using this
  unfold touchProp
  rw [hq]
  unfold touchProp.go
  cases hf : q.field <;> simp only [hcg]
  all_goals first
    | rfl
    | (apply getPath_head_congr; rw [aget_setLeaf_ne _ _ _ _ _ hne])
    | (split
       · rfl
       · apply getPath_head_congr; rw [aget_setLeaf_ne _ _ _ _ _ hne])

/-- one member of an object leaves every leaf unrelated to the member's own leaves alone -/
theorem prop_frame {c : Cfg} {props : List PropDef} (hA : ApartX c.env props) {p : PropDef}
    (hp : p ∈ props) {v : PTree} {st st1 : PS} (h : DecProp c props p v st st1)
    (hfr : FreshX c.env props st) (x : List Nat) (hx : x ≠ [])
    (hap : ∀ q ∈ leavesOf c.env p, ¬ q.path <+: x ∧ ¬ x <+: q.path) :
    getPath st1.m x = getPath st.m x := by
  by_cases hpe : p.path = []
  · obtain ⟨ref, ops, hf, hfind, hsingle, hpaops⟩ := hA.exposed p hp hpe
    have hl := leavesOf_exposed c.env p ref ops hpe hf hfind
    rw [hl] at hap
    cases h with
    | null => rfl
    | value hne => exact absurd hpe hne
    | @exposed _ _ ref' ops' ms _ r found ct tp _ hf' hfind' hns _ hr hpost =>
      rw [hf] at hf'; cases hf'
      rw [hfind] at hfind'; cases hfind'
      have hfrm := oneof_frame hpaops x hx hap hr
      cases tp with
      | none => exact hfrm
      | some q0 =>
        simp only [applyPost]
        obtain ⟨hfe, hq0⟩ := oneofPost_some ops found ct r.m q0 hpost
        obtain ⟨hfk, _, hall⟩ := Decodes.loops hr
        have hreq := hall (by rw [hfe] at hfk; simpa using hfk.symm)
        obtain ⟨k0, hk0⟩ := hsingle q0 hq0
        cases x with
        | nil => exact absurd rfl hx
        | cons k' xs =>
          have hne : k' ≠ k0 := by
            intro e
            have := (hap q0 hq0).1
            rw [hk0, e] at this
            exact this ⟨xs, rfl⟩
          rw [hreq]
          apply touch_frame ops q0 k0 hk0 st.m ?_ k' xs hne
          intro gi _ q' hq' _ _ k'' hk'' _
          obtain ⟨kq, hkq⟩ := hsingle q' hq'
          rw [hkq] at hk''
          simp only [List.getLast?_singleton, Option.some.injEq] at hk''
          have := hfr p hp hns q' (by rw [hl]; exact hq')
          rw [hkq, hk''] at this
          simpa [getPath] using this
  · have hl := leavesOf_ne c.env p hpe
    rw [hl] at hap
    exact decProp_frame h hpe x hx (hap p (by simp)).1 (hap p (by simp)).2

/-- one member keeps the unseen properties unset and the leaves of the properties already met -/
theorem step_inv {c : Cfg} {props : List PropDef} (hA : ApartX c.env props) {p : PropDef}
    (hp : p ∈ props) {v : PTree} {st st1 : PS} (h : DecProp c props p v st st1)
    (hfr : FreshX c.env props st) :
    FreshX c.env props st1 ∧
      ∀ p' ∈ props, p'.jsonName ∈ st.seen → p'.jsonName ∈ st1.seen ∧ ∀ q ∈ leavesOf c.env p',
        getPath st1.m q.path = getPath st.m q.path := by
  rcases DecProp.marks h with ⟨_, rfl⟩ | ⟨_, hfresh, hseen⟩
  · exact ⟨hfr, fun _ _ hm => ⟨hm, fun _ _ => rfl⟩⟩
  have key : ∀ p' ∈ props, p'.jsonName ≠ p.jsonName → ∀ q' ∈ leavesOf c.env p',
      getPath st1.m q'.path = getPath st.m q'.path := by
    intro p' hp' hne q' hq'
    apply prop_frame hA hp h hfr q'.path (leaf_ne c.env props hA p' hp' q' hq')
    intro q hq
    exact ⟨hA.apart p hp p' hp' (fun e => hne e.symm) q hq q' hq', hA.apart p' hp' p hp hne q' hq' q hq⟩
  refine ⟨?_, ?_⟩
  · intro p' hp' hns q' hq'
    have hne : p'.jsonName ≠ p.jsonName := fun e => hns (by rw [hseen, e]; exact List.mem_cons_self)
    rw [key p' hp' hne q' hq']
    exact hfr p' hp' (fun hm => hns (by rw [hseen]; exact List.mem_cons_of_mem _ hm)) q' hq'
  · intro p' hp' hs'
    exact ⟨by rw [hseen]; exact List.mem_cons_of_mem _ hs', key p' hp' (fun e => hfresh (e ▸ hs'))⟩

/-- the member loop of an object keeps both invariants -/
theorem loop_inv {c : Cfg} {props : List PropDef} (hA : ApartX c.env props) {ms : PMembers}
    {st st' : PS} {term : Term} (h : DecObj c props ms st st' term) (hf : FreshX c.env props st) :
    FreshX c.env props st' ∧
      ∀ p' ∈ props, p'.jsonName ∈ st.seen → ∀ q ∈ leavesOf c.env p',
        getPath st'.m q.path = getPath st.m q.path := by
  have := Decodes.chain (c := c)
    (fun ps s s' => ps = props → FreshX c.env props s → FreshX c.env props s' ∧
      ∀ p' ∈ props, p'.jsonName ∈ s.seen → p'.jsonName ∈ s'.seen ∧
        ∀ q ∈ leavesOf c.env p', getPath s'.m q.path = getPath s.m q.path)
    (fun _ _ _ hs => ⟨hs, fun _ _ hm => ⟨hm, fun _ _ => rfl⟩⟩)
    (fun _ a b d hab hbd e ha => by
      obtain ⟨hb, h1⟩ := hab e ha
      obtain ⟨hd, h2⟩ := hbd e hb
      refine ⟨hd, fun p' hp' hm => ?_⟩
      obtain ⟨hmb, e1⟩ := h1 p' hp' hm
      obtain ⟨hmd, e2⟩ := h2 p' hp' hmb
      exact ⟨hmd, fun q hq => (e2 q hq).trans (e1 q hq)⟩)
    (fun ps k p v s s1 hfp hd e hs => by subst e; exact step_inv hA (findProp_mem _ k p hfp) hd hs)
    h rfl hf
  exact ⟨this.1, fun p' hp' hm => (this.2 p' hp' hm).2⟩

theorem storedO_congr (c : Cfg) (ops : List PropDef) (fs fs' : Fields)
    (hc : ∀ q ∈ ops, getPath fs' q.path = getPath fs q.path) :
    ∀ (ms : PMembers), StoredO c ops fs ms → StoredO c ops fs' ms
  | .nil t, _ => by simp only [StoredO]
  | .cons k kr v rest, h => by
    simp only [StoredO] at h ⊢
    refine ⟨?_, storedO_congr c ops fs fs' hc rest h.2⟩
    rcases h.1 with h1 | h1 | ⟨p, vv, hfp, hsv, hst⟩
    · exact Or.inl h1
    · exact Or.inr (Or.inl h1)
    · exact Or.inr (Or.inr ⟨p, vv, hfp, hsv,
        storedAt_congr fs fs' p vv (hc p (findProp_mem ops k p hfp)) hst⟩)

theorem onlyO_congr (ops : List PropDef) (fs fs' : Fields) (ms : PMembers)
    (hc : ∀ q ∈ ops, getPath fs' q.path = getPath fs q.path) (h : OnlyO ops fs ms) :
    OnlyO ops fs' ms := by
  intro hk q hq hset
  rw [hc q hq] at hset
  exact h hk q hq hset

/-- every name in `s1` was already in `s0` or is the key of a non-null member -/
def SeenFrom (ms : PMembers) (s0 s1 : List Bytes) : Prop :=
  ∀ x ∈ s1, x ∈ s0 ∨ ∃ v, isMember x v ms ∧ v ≠ .null

theorem onlyM_of (env : Env) (props : List PropDef) (st' : PS) (ms : PMembers)
    (hf : FreshX env props st') (hs : SeenFrom ms [] st'.seen) : OnlyM env props st'.m ms := by
  intro p hp ⟨q, hq, hset⟩
  by_cases hmem : p.jsonName ∈ st'.seen
  · rcases hs _ hmem with h | h
    · cases h
    · exact h
  · rw [hf p hp hmem q hq] at hset; cases hset

theorem onlyO_of (ops : List PropDef) (st' : PS) (ms : PMembers) (hf : Fresh ops st')
    (hs : SeenFrom ms [] st'.seen) :
    ∀ q ∈ ops, (getPath st'.m q.path).isSome = true → ∃ v, isMember q.jsonName v ms ∧ v ≠ .null := by
  intro q hq hset
  by_cases hmem : q.jsonName ∈ st'.seen
  · rcases hs _ hmem with h | h
    · cases h
    · exact h
  · rw [hf q hq hmem] at hset; cases hset

/-- the names a member loop has seen, with one more member in front -/
theorem seenFrom_cons {c : Cfg} {props : List PropDef} {p : PropDef} {k : Bytes} (kr : Bytes)
    (hfp : findProp props k = some p) {v : PTree} {rest : PMembers} {st st1 : PS} {s' : List Bytes}
    (hd : DecProp c props p v st st1) (h : SeenFrom rest st1.seen s') :
    SeenFrom (.cons k kr v rest) st.seen s' := by
  intro x hx
  rcases h x hx with h1 | ⟨v', hm', hn'⟩
  · rcases DecProp.marks hd with ⟨_, rfl⟩ | ⟨hnn, _, hseen⟩
    · exact Or.inl h1
    · rw [hseen] at h1
      rcases List.mem_cons.mp h1 with rfl | h1
      · exact Or.inr ⟨v, Or.inl ⟨(findProp_name props k p hfp).symm, rfl⟩, hnn⟩
      · exact Or.inl h1
  · exact Or.inr ⟨v', Or.inr hm', hn'⟩

/-- the final message of a oneof (after `oneofPost` / `applyPost`) still holds every arm member, and
nothing else -/
theorem stored_oneof_final {c : Cfg} {ops : List PropDef} {ms : PMembers} {st r : PS}
    {found : List Bytes} {ct : Option Bytes} {tp : Option PropDef} {term : Term}
    (hr : DecOne c ops ms st [] none r found ct term)
    (hres : StoredO c ops r.m ms ∧ (found = [] → ∀ fs, StoredO c ops fs ms) ∧
      (∃ ks, found = [] ++ ks) ∧ Fresh ops r ∧ SeenFrom ms [] r.seen)
    (hpost : oneofPost ops found ct r.m = .ok tp) :
    StoredO c ops (applyPost ops tp r.m) ms ∧ OnlyO ops (applyPost ops tp r.m) ms := by
  obtain ⟨hso, hall, _, hfresh, hs⟩ := hres
  cases tp with
  | none => exact ⟨hso, fun _ => onlyO_of ops r ms hfresh hs⟩
  | some q =>
    have hfe := (oneofPost_some ops found ct r.m q hpost).1
    refine ⟨hall hfe _, fun hk => ?_⟩
    have hfk := (Decodes.loops hr).1
    rw [hfe] at hfk
    exact absurd (by simpa using hfk.symm) hk

/-- the scalar clause of `StoredV` / `SpellsV`, on any tree (an object or an array has no token) -/
theorem StoredV_scalar {c : Cfg} {k : ScalarKind} {vv : PVal} {t : PTree} :
    StoredV c (.scalar k) vv t ↔ scalarSpells c.O k vv t := by
  cases t <;> simp [StoredV, scalarSpells, goTok]

theorem SpellsV_scalar {c : Cfg} {k : ScalarKind} {vv : PVal} {t : PTree} :
    SpellsV c (.scalar k) vv t ↔ scalarSpells c.O k vv t := by
  cases t <;> simp [SpellsV, scalarSpells, goTok]

/-- what an accepted call stored (the object / oneof loops under their freshness invariants) -/
def StoredJ (c : Cfg) : Call → Prop
  | .val fld start t pv => start = none → StoredV c fld pv t
  | .prop props p t st st' => t ≠ .null →
      (p.path ≠ [] → getPath st.m p.path = none →
        ∃ vv, StoredV c p.field vv t ∧ st'.m = updPath props p (some vv) st.m) ∧
      (p.path = [] → ∀ ref ops, p.field = .oneof ref → c.env.find ref = some (.oneof ops) →
        PathsApart ops → (∀ q ∈ ops, getPath st.m q.path = none) → StoredX c ops st'.m t)
  | .obj props ms st st' _ => ApartX c.env props → FreshX c.env props st →
      StoredM c props st'.m ms ∧ FreshX c.env props st' ∧ SeenFrom ms st.seen st'.seen
  | .one ops ms st found _ st' found' _ _ => PathsApart ops → Fresh ops st →
      StoredO c ops st'.m ms ∧ (found' = found → ∀ fs, StoredO c ops fs ms) ∧
        (∃ ks, found' = found ++ ks) ∧ Fresh ops st' ∧ SeenFrom ms st.seen st'.seen
  | .elems item xs acc l _ => ∃ vs, l = acc ++ vs ∧ StoredE c item vs xs
  | .map item ms acc l _ => StoredMap c item l ms ∧ l.map (·.1) = acc.map (·.1) ++ memberKeys ms

theorem Decodes.stored {c : Cfg} (hE : c.env.apart) {j : Call} (h : Decodes c j) : StoredJ c j := by
  induction h with
  | @scalar k _ t tok pv hg hd =>
    intro _
    exact StoredV_scalar.mpr ⟨DecVal.ne_null (.scalar (start := none) hg hd), tok, hg, hd⟩
  | «enum» hf hn => intro _; simp [StoredV, hf, hn]
  | @object ref _ sub ms r hf _ ih =>
    rintro rfl
    obtain ⟨h1, h2, h3⟩ := ih ((hE ref sub).1 hf) (freshX_empty c.env sub)
    simp only [StoredV, hf]; exact ⟨h1, onlyM_of c.env sub r ms h2 h3⟩
  | @oneof ref _ ops _ _ _ _ _ hf hr hpost ih =>
    rintro rfl
    simp only [StoredV, hf]
    exact stored_oneof_final hr (ih ((hE ref ops).2 hf) (fresh_empty ops)) hpost
  | any => intro _; simp [StoredV]
  | array _ _ ih =>
    rintro rfl
    obtain ⟨vs, hl, hse⟩ := ih
    simp only [PVal.asList, List.nil_append] at hl; subst hl
    simp only [StoredV]; exact hse
  | map _ _ ih =>
    rintro rfl
    simp only [StoredV]; exact ⟨ih.1, by simpa [PVal.asMap] using ih.2⟩
  | null => exact fun h => absurd rfl h
  | value hne _ _ _ ih => exact fun _ => ⟨fun _ hfr => ⟨_, ih hfr, rfl⟩, fun hpe => absurd hpe hne⟩
  | exposed hpe hfld hf _ _ hr hpost ih =>
    refine fun _ => ⟨fun hne => absurd hpe hne, fun _ ref' ops' hfld' hf' hpa hfresh => ?_⟩
    rw [hfld] at hfld'; cases hfld'
    rw [hf] at hf'; cases hf'
    simp only [StoredX]
    exact stored_oneof_final hr (ih hpa fun q hq _ => hfresh q hq) hpost
  | objNil _ => exact fun _ hf => ⟨by simp only [StoredM], hf, fun x hx => Or.inl hx⟩
  | @objCons props k kr v rest p st st1 st' _ hfp hd hr ihp ihr =>
    intro hA hf
    have hp := findProp_mem props k p hfp
    obtain ⟨hf1, _⟩ := step_inv hA hp hd hf
    obtain ⟨hrest, hfr', hsn⟩ := ihr hA hf1
    obtain ⟨_, hper⟩ := loop_inv hA hr hf1
    refine ⟨?_, hfr', seenFrom_cons kr hfp hd hsn⟩
    simp only [StoredM]
    refine ⟨?_, hrest⟩
    rcases DecProp.marks hd with ⟨hnull, _⟩ | ⟨hnull, hns, hs1⟩
    · exact Or.inl hnull
    · right
      have hseen : p.jsonName ∈ st1.seen := by rw [hs1]; exact List.mem_cons_self
      by_cases hpe : p.path = []
      · -- exposed oneof: a oneof object over the same message
        right
        obtain ⟨ref, ops, hfo, hfind, _, hpaops⟩ := hA.exposed p hp hpe
        have hl := leavesOf_exposed c.env p ref ops hpe hfo hfind
        have hx : exposedOps c.env p = ops := by
          have := hl; unfold leavesOf at this; rw [if_pos hpe] at this; exact this
        have hcg : ∀ q ∈ ops, getPath st'.m q.path = getPath st1.m q.path := fun q hq =>
          hper p hp hseen q (by rw [hl]; exact hq)
        have hsx := (ihp hnull).2 hpe ref ops hfo hfind hpaops
          fun q hq => hf p hp hns q (by rw [hl]; exact hq)
        refine ⟨p, hfp, hpe, ?_⟩
        rw [hx]
        cases v with
        | obj ms' =>
          simp only [StoredX] at hsx ⊢
          exact ⟨storedO_congr c ops _ st'.m hcg ms' hsx.1, onlyO_congr ops _ st'.m ms' hcg hsx.2⟩
        | _ => simp [StoredX] at hsx
      · left
        have hlp : p ∈ leavesOf c.env p := by rw [leavesOf_ne c.env p hpe]; exact List.mem_singleton.mpr rfl
        obtain ⟨vv, hsv, hm⟩ := (ihp hnull).1 hpe (hf p hp hns p hlp)
        refine ⟨p, vv, hfp, hpe, hsv, ?_⟩
        apply storedAt_congr st1.m st'.m p vv (hper p hp hseen p hlp)
        rw [hm]
        exact storedAt_of_upd props p vv st.m hpe
  | oneNil =>
    exact fun _ hf => ⟨by simp only [StoredO], fun _ _ => by simp only [StoredO], ⟨[], by simp⟩, hf,
      fun x hx => Or.inl hx⟩
  | oneType _ ih =>
    intro hpa hf
    obtain ⟨h1, h2, h3, h4, h5⟩ := ih hpa hf
    refine ⟨by simp only [StoredO]; exact ⟨Or.inl trivial, h1⟩,
      fun e fs => by simp only [StoredO]; exact ⟨Or.inl trivial, h2 e fs⟩, h3, h4, ?_⟩
    intro x hx
    rcases h5 x hx with h6 | ⟨v', hm', hn'⟩
    · exact Or.inl h6
    · exact Or.inr ⟨v', Or.inr hm', hn'⟩
  | @oneCons ops k kr v rest p st st1 found _ st' found' _ _ hk hfp hd hr ihp ihr =>
    intro hpa hf
    have hp := findProp_mem ops k p hfp
    obtain ⟨h1, _, ⟨ks, hks⟩, hfr', hsn⟩ := ihr hpa (fresh_step hpa hp hd hf)
    refine ⟨?_, ?_, ⟨k :: ks, by rw [hks]; simp⟩, hfr', seenFrom_cons kr hfp hd hsn⟩
    · simp only [StoredO]
      refine ⟨?_, h1⟩
      rcases DecProp.marks hd with ⟨hnull, _⟩ | ⟨hnull, hns, hs1⟩
      · exact Or.inr (Or.inl hnull)
      · right; right
        have hpne := hpa.1 p hp
        obtain ⟨vv, hsv, hm⟩ := (ihp hnull).1 hpne (hf p hp hns)
        refine ⟨p, vv, hfp, hsv, ?_⟩
        apply storedAt_congr st1.m st'.m p vv
          (member_persists hpa hp hr rfl (by rw [hs1]; exact List.mem_cons_self))
        rw [hm]
        exact storedAt_of_upd ops p vv st.m hpne
    · intro e
      rw [hks] at e
      have : (found ++ [k] ++ ks).length = found.length := by rw [e]
      simp at this
  | elemsNil _ => exact ⟨[], by simp, by simp only [StoredE]⟩
  | @elemsCons _ _ _ pv _ _ _ _ _ _ ihv ihr =>
    obtain ⟨vs, hl, hse⟩ := ihr
    refine ⟨pv :: vs, by rw [hl]; simp, ?_⟩
    simp only [StoredE]
    exact ⟨pv, vs, rfl, ihv rfl, hse⟩
  | mapNil _ => exact ⟨by simp only [StoredMap], by simp [memberKeys]⟩
  | @mapCons _ k _ _ _ pv acc _ _ _ hnone _ hr ihv ihr =>
    refine ⟨?_, ?_⟩
    · simp only [StoredMap]
      exact ⟨⟨pv, Decodes.loops hr k pv (mget_mset_self k pv acc), ihv rfl⟩, ihr.1⟩
    · rw [ihr.2, mset_append k pv acc hnone]
      simp [memberKeys]

theorem stored_prop (c : Cfg) (hE : c.env.apart) (props : List PropDef) (p : PropDef)
    (hne : p.path ≠ []) :
    ∀ (t : PTree) (st st' : PS), decProp c props p t st = .ok st' → t ≠ .null →
      getPath st.m p.path = none →
      ∃ vv, StoredV c p.field vv t ∧ st'.m = updPath props p (some vv) st.m ∧
        groupBusy props p st.m = false :=
  fun t st st' h hnn hfr => by
    have hd := decProp_sound c props p t st st' h
    obtain ⟨vv, hsv, hm⟩ := (Decodes.stored hE hd hnn).1 hne hfr
    refine ⟨vv, hsv, hm, ?_⟩
    -- `CreateField`'s check, a premise of the one rule that stores at a path
    cases hd with
    | null => exact absurd rfl hnn
    | value _ _ hgb _ => exact hgb
    | exposed hpe => exact absurd hpe hne

theorem stored_item (c : Cfg) (hE : c.env.apart) (item : Field) :
    ∀ (v : PTree) (pv : PVal), ItemDec c item v pv → StoredV c item pv v :=
  fun v pv h => Decodes.stored hE (item_sound c item v pv (fun ref sub fs => decObject_sound c ref sub v fs)
    (fun ref ops fs => decOneof_sound c ref ops v fs) h) rfl

theorem stored_elems (c : Cfg) (hE : c.env.apart) (item : Field) :
    ∀ (xs : PElems) (acc l : List PVal) (term : Term),
      decElems c item xs acc = .ok (l, term) → ∃ vs, l = acc ++ vs ∧ StoredE c item vs xs :=
  fun xs acc l term h => Decodes.stored hE (decElems_sound c item xs acc l term h)

theorem stored_map (c : Cfg) (hE : c.env.apart) (item : Field) :
    ∀ (ms : PMembers) (acc l : List (Bytes × PVal)) (term : Term),
      decMapMembers c item ms acc = .ok (l, term) →
      StoredMap c item l ms ∧ l.map (·.1) = acc.map (·.1) ++ memberKeys ms :=
  fun ms acc l term h => Decodes.stored hE (decMap_sound c item ms acc l term h)

/-- **C03, whole document**: whatever `Codec.JSONToProto` accepts is stored exactly -/
theorem stored_root (c : Cfg) (hE : c.env.apart) (root : String) (t : PTree) (m : Fields)
    (h : decRootTree c root t = .ok m) : StoredRoot c root m t := by
  -- the root is an array element of object / oneof type, so to speak
  unfold StoredRoot
  rw [decRootTree_eq] at h
  split at h
  · next props hfind =>
    have := stored_item c hE (.object root) t (.msg m) ⟨props, m, hfind, h, rfl⟩
    cases t with
    | obj ms => simpa only [StoredV, hfind] using this
    | _ => cases h
  · next ops hfind =>
    have := stored_item c hE (.oneof root) t (.msg m) ⟨ops, m, hfind, h, rfl⟩
    cases t with
    | obj ms => simpa only [StoredV, hfind] using this
    | _ => cases h
  · cases h

theorem storedM_member (c : Cfg) (props : List PropDef) (fs : Fields) :
    ∀ (ms : PMembers), StoredM c props fs ms → ∀ k v p, isMember k v ms → v ≠ .null →
      findProp props k = some p → p.path ≠ [] →
      ∃ vv, StoredV c p.field vv v ∧ storedAt fs p vv
  | .nil _, _, k, v, p, hm, _, _, _ => by simp [isMember] at hm
  | .cons k0 _ v0 rest, h, k, v, p, hm, hnn, hfp, hne => by
    simp only [StoredM] at h
    simp only [isMember] at hm
    rcases hm with ⟨rfl, rfl⟩ | hm
    · rcases h.1 with h1 | ⟨p', vv, hfp', _, hsv, hst⟩ | ⟨p', hfp', hpe, _⟩
      · exact absurd h1 hnn
      · rw [hfp] at hfp'; cases hfp'; exact ⟨vv, hsv, hst⟩
      · rw [hfp] at hfp'; cases hfp'; exact absurd hpe hne
    · exact storedM_member c props fs rest h.2 k v p hm hnn hfp hne

/-! ## a decidable check for `Env.apart` -/

theorem apartX_of_B (env : Env) (props : List PropDef) (h : apartXB env props = true) :
    ApartX env props := by
  unfold apartXB at h
  simp only [Bool.and_eq_true, List.all_eq_true, Bool.or_eq_true, bne_iff_ne, ne_eq,
    beq_iff_eq, Bool.not_eq_true'] at h
  refine ⟨?_, ?_⟩
  · intro p hp hpe
    rcases h.1 p hp with h1 | h1
    · exact absurd hpe h1
    · split at h1
      · next ref hf =>
        split at h1
        · next ops hfind =>
          simp only [Bool.and_eq_true, List.all_eq_true, beq_iff_eq, decide_eq_true_eq] at h1
          refine ⟨ref, ops, hf, hfind, ?_, h1.2⟩
          intro q hq
          have := h1.1 q hq
          cases hqp : q.path with
          | nil => rw [hqp] at this; simp at this
          | cons a b =>
            cases b with
            | nil => exact ⟨a, rfl⟩
            | cons b1 b2 => rw [hqp] at this; simp at this
        · cases h1
      · cases h1
  · intro p hp p' hp' hne q hq q' hq'
    rcases h.2 p hp p' hp' with h1 | h1
    · exact absurd h1 hne
    · have := h1 q hq q' hq'
      intro hpre
      have h2 := List.isPrefixOf_iff_prefix.mpr hpre
      rw [h2] at this; cases this

theorem apart_of_apartB (env : Env) (h : env.apartB = true) : env.apart := by
  intro name props
  unfold Env.apartB at h
  refine ⟨?_, ?_⟩
  · intro hf
    obtain ⟨d, hm, hd⟩ := find_mem env name _ hf
    have := List.all_eq_true.mp h d hm
    rw [hd] at this
    exact apartX_of_B env props this
  · intro hf
    obtain ⟨d, hm, hd⟩ := find_mem env name _ hf
    have := List.all_eq_true.mp h d hm
    rw [hd] at this
    simpa using this

end J5V.Codec
