import J5V.Codec.Schema
/-!
# Protobuf message store (the model of `protoreflect.Message` the codec reads and writes)

A message is an association list from proto field numbers to values, kept **sorted by field
number without duplicates** (`aset` inserts in place), so that two stores holding the same fields
are syntactically equal — `proto.Equal` is extensional and so is `=` on sorted stores
(`Store.ext` in `StoreProofs`). Presence follows protobuf-go:

* a field is present iff it is in the list (`Has` ⇔ `aget … ≠ none`);
* implicit-presence scalars are never stored with their zero value, lists and maps are never
  stored empty (`setLeaf` erases instead) — `Has` is `≠ zero` / `len > 0` for them;
* setting a member of a real proto oneof clears the other members (`clearGroup`).

Well-known leaf messages (`Timestamp`, `Date`, `Decimal`, `Any`) are leaves, as on the wire of
the line protocol (`PROTOCOL-codec.md` §4).
-/
namespace J5V.Codec
open J5V.Json

/-! ## generic sorted association lists (field number ↦ value) -/

def aget {α} (k : Nat) : List (Nat × α) → Option α
  | [] => none
  | (k', v) :: rest => if k = k' then some v else aget k rest

/-- sorted insert-or-replace -/
def aset {α} (k : Nat) (v : α) : List (Nat × α) → List (Nat × α)
  | [] => [(k, v)]
  | (k', v') :: rest =>
    if k < k' then (k, v) :: (k', v') :: rest
    else if k = k' then (k, v) :: rest
    else (k', v') :: aset k v rest

def aerase {α} (k : Nat) : List (Nat × α) → List (Nat × α)
  | [] => []
  | (k', v') :: rest => if k = k' then aerase k rest else (k', v') :: aerase k rest

/-- strictly ascending keys -/
def asorted {α} : List (Nat × α) → Bool
  | [] => true
  | [_] => true
  | (k, _) :: (k', v') :: rest => k < k' && asorted ((k', v') :: rest)

/-! ## string-keyed maps: insertion order, `Set` replaces -/

def mget {α} (k : Bytes) : List (Bytes × α) → Option α
  | [] => none
  | (k', v) :: rest => if k = k' then some v else mget k rest

def mset {α} (k : Bytes) (v : α) : List (Bytes × α) → List (Bytes × α)
  | [] => [(k, v)]
  | (k', v') :: rest => if k = k' then (k, v) :: rest else (k', v') :: mset k v rest

/-! ## values -/

/-- outcome of resolving + `proto.Unmarshal`-ing the proto bytes carried by an `Any` -/
inductive InnerKind where
  | none | bad | inn
  deriving Repr, DecidableEq, Inhabited

inductive PVal where
  | bool (b : Bool)
  | int (v : Int)
  | uint (v : Nat)
  | f32 (bits : Nat)
  | f64 (bits : Nat)
  | str (s : Bytes)
  | bytes (s : Bytes)
  | enum (n : Int)
  | ts (secs nanos : Int)
  | date (y m d : Int)
  | dec (s : Bytes)
  /-- `j5.types.any.v1.Any`: `proto` / `j5json` empty = unset. `ik/iroot/inner`: the proto bytes
  unmarshalled with the resolver (the bytes themselves are opaque to the model). -/
  | anyJ5 (typeName proto j5json : Bytes) (ik : InnerKind) (iroot : String) (inner : PVal)
  /-- `google.protobuf.Any` -/
  | anyPb (typeUrl value : Bytes) (ik : InnerKind) (iroot : String) (inner : PVal)
  | msg (fields : List (Nat × PVal))
  | list (xs : List PVal)
  | map (kvs : List (Bytes × PVal))
  deriving Repr, Inhabited

abbrev Fields := List (Nat × PVal)

/-- `Message.Has` is false exactly when `setLeaf` refuses to store: zero value of an
implicit-presence field, empty list / map. -/
def PVal.isZero : PVal → Bool
  | .bool b => !b
  | .int v => v == 0
  | .uint v => v == 0
  | .f32 b => b == 0
  | .f64 b => b == 0
  | .str s => s.isEmpty
  | .bytes s => s.isEmpty
  | .enum n => n == 0
  | _ => false

def PVal.isEmptyColl : PVal → Bool
  | .list xs => xs.isEmpty
  | .map kvs => kvs.isEmpty
  | _ => false

def PVal.asMsg : Option PVal → Fields
  | some (.msg fs) => fs
  | _ => []

/-- value at a proto path (`buildValue` walk with `create = false`): `none` as soon as a field on
the way is not populated. An empty path is not a field (exposed oneof). -/
def getPath (m : Fields) : List Nat → Option PVal
  | [] => none
  | [k] => aget k m
  | k :: rest =>
    match aget k m with
    | some (.msg sub) => getPath sub rest
    | _ => none

/-- clear the other members of proto oneof `g` among the properties that live in the same
message (`props` = the property set being decoded, `pfx` = the path prefix of that message). -/
def clearGroup (props : List PropDef) (pfx : List Nat) (g : Option Nat) (keep : Nat) (m : Fields) :
    Fields :=
  match g with
  | none => m
  | some gi =>
    props.foldl (fun acc p =>
      if p.group == some gi && p.path.dropLast == pfx then
        match p.path.getLast? with
        | some k => if k == keep then acc else aerase k acc
        | none => acc
      else acc) m

/-- the message reached from `m` along the proto path `loc` (an absent message reads as empty) -/
def msgAt : List Nat → Fields → Fields
  | [], m => m
  | k :: rest, m => msgAt rest (PVal.asMsg (aget k m))

/-- `buildValue(create = true)` since 25c97b7: the final field of `p` is a member of a real proto
oneof and `walkMessage.WhichOneof(oneof)` names a **different** member — creating the field is then
an error (before, `Message.Set` silently dropped the other member). The members of the proto oneof
are the properties of the same property set with the same `group` whose final field lives in the
same message (`clearGroup` uses the same reading). Never true for an empty path. -/
def groupBusy (props : List PropDef) (p : PropDef) (m : Fields) : Bool :=
  match p.group, p.path.getLast? with
  | some gi, some k =>
    let wm := msgAt p.path.dropLast m
    props.any fun q =>
      q.group == some gi && q.path.dropLast == p.path.dropLast &&
        (match q.path.getLast? with
         | some k' => k' != k && (aget k' wm).isSome
         | none => false)
  | _, _ => false

/-- `Message.Set(fd, v)` at the end of the walk -/
def setLeaf (pres : Pres) (k : Nat) (v : PVal) (m : Fields) : Fields :=
  if (pres == .imp && v.isZero) || v.isEmptyColl then aerase k m else aset k v m

/-- write at a proto path, creating the intermediate messages (`Mutable` walk of `buildValue`
with `create = true`): `some v` = `Message.Set` (clearing the sibling members of the final
field's proto oneof), `none` = `Message.Clear` (what `protoPair.setValue` does with an invalid
`protoreflect.Value`). -/
def updPath (props : List PropDef) (p : PropDef) (v : Option PVal) (m : Fields) : Fields :=
  let rec go (pfx : List Nat) : List Nat → Fields → Fields
    | [], m => m
    | [k], m =>
      match v with
      | some v => setLeaf p.pres k v (clearGroup props pfx p.group k m)
      | none => aerase k m
    | k :: rest, m => aset k (.msg (go (pfx ++ [k]) rest (PVal.asMsg (aget k m)))) m
  go [] p.path m

def setPath (props : List PropDef) (p : PropDef) (v : PVal) (m : Fields) : Fields :=
  updPath props p (some v) m

/-- `Mutable` walk only (the `create = true` walk of `buildValue` for a message-valued final
field, before anything is decoded into it): every message on the path exists afterwards. -/
def touchPath : List Nat → Fields → Fields
  | [], m => m
  | k :: rest, m => aset k (.msg (touchPath rest (PVal.asMsg (aget k m)))) m

end J5V.Codec
