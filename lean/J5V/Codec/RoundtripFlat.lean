import J5V.Codec.FlattenConform
import J5V.Codec.DecodeRel
/-!
# The member loops: the oneof body, and the object body with flattened objects, exposed oneofs and proto oneofs (C01)

The shape of what `encodeOneofBody` writes (`OneShape`) and how `decodeOneofInner` reads it back
into any message that holds none of the oneof's members (`decOneof_one`) — used for wrapper oneofs
(fresh message) and exposed oneofs (the enclosing message). Then the loop over the members of an
object: the decoder's message after it has read the members of a set of properties is the restriction
of the original message to the leaf paths of those properties (`restrictP`). The fuel induction is in `RoundtripInd.lean`.
-/
namespace J5V.Codec
open J5V.Go J5V.Json

theorem path_of_dropLast_nil (path : List Nat) (k : Nat) (h1 : path.dropLast = [])
    (h2 : path.getLast? = some k) : path = [k] := by
  cases path with
  | nil => simp at h2
  | cons a t =>
    cases t with
    | nil => simp at h2; rw [h2]
    | cons b r => simp [List.dropLast] at h1

theorem flatMap_nodup_unique {α β : Type} (f : α → List β) :
    ∀ (l : List α), (l.flatMap f).Nodup → ∀ a ∈ l, ∀ b ∈ l, ∀ x, x ∈ f a → x ∈ f b → a = b := by
  intro l
  induction l with
  | nil => intro _ a ha; cases ha
  | cons c t ih =>
    intro hnd a ha b hb x hxa hxb
    rw [List.flatMap_cons, List.nodup_append] at hnd
    obtain ⟨_, htn, hdis⟩ := hnd
    rcases List.mem_cons.mp ha with rfl | ha'
    · rcases List.mem_cons.mp hb with rfl | hb'
      · rfl
      · exact absurd rfl (hdis x hxa x (List.mem_flatMap.mpr ⟨b, hb', hxb⟩))
    · rcases List.mem_cons.mp hb with rfl | hb'
      · exact absurd rfl (hdis x hxb x (List.mem_flatMap.mpr ⟨a, ha', hxa⟩))
      · exact ih htn a ha' b hb' x hxa hxb

theorem length_le_one_cases {α : Type} (l : List α) (h : l.length ≤ 1) : l = [] ∨ ∃ a, l = [a] := by
  cases l with
  | nil => exact Or.inl rfl
  | cons a t =>
    cases t with
    | nil => exact Or.inr ⟨a, rfl⟩
    | cons b r => simp at h

/-! ## properties and their keys -/

theorem exposedOps_eq (env : Env) (p : PropDef) (ref : String) (ops : List PropDef)
    (hp : p.path = []) (hf : p.field = .oneof ref) (hfind : env.find ref = some (.oneof ops)) :
    exposedOps env p = ops := by
  unfold exposedOps; rw [hp, hf]; simp only [hfind]

theorem leafProp_simple (env : Env) (props : List PropDef) (k : Nat) (q : PropDef)
    (hs : ∀ p ∈ props, propSimple p = true) (h : leafProp env props k = some q) :
    q ∈ props ∧ q.path = [k] := by
  rcases leafProp_inv env props k q h with h | ⟨p, hp, hq, _⟩
  · exact h
  · obtain ⟨k', hk'⟩ := propSimple_path p (hs p hp)
    rw [exposedOps_nonempty_path env p (by rw [hk']; simp)] at hq
    cases hq



/-! ## the oneof body -/

/-- what `encodeOneofBody` writes for the members `ops` over message `fs` -/
inductive OneShape (c : Cfg) (ops : List PropDef) (fs : Fields) : Outcome PTree → Prop
  | empty : ops.filter (isSet fs) = [] → OneShape c ops fs (.ok (.obj (.nil .closed)))
  | one (q : PropDef) (k : Nat) (v : PVal) (tlit nlit qlit : Bytes) (tv : PTree) :
      ops.filter (isSet fs) = [q] → q ∈ ops → q.path = [k] → aget k fs = some v →
      Dec c q.field v tv → (OracleWire c.O → Wire.Conforms c.env c.O q.field v tv) →
      (q.pres == .imp && v.isZero) = false → v.isEmptyColl = false →
      OneShape c ops fs
        (.ok (.obj (.cons typeKey tlit (.str q.jsonName nlit) (.cons q.jsonName qlit tv (.nil .closed)))))

theorem isSet_single (fs : Fields) (q : PropDef) (k : Nat) (hq : q.path = [k]) :
    isSet fs q = (aget k fs).isSome := by
  unfold isSet; rw [hq]; rfl

/-- members of a oneof other than the one that is set are unset -/
theorem filter_one_others (ops : List PropDef) (fs : Fields) (q : PropDef) (k : Nat)
    (hf : ops.filter (isSet fs) = [q]) (hqk : q.path = [k]) :
    ∀ q' ∈ ops, ∀ k', q'.path = [k'] → k' ≠ k → aget k' fs = none := by
  intro q' hq' k' hk' hne
  cases hg : aget k' fs with
  | none => rfl
  | some v' =>
    have : q' ∈ ops.filter (isSet fs) := by
      apply List.mem_filter.mpr
      exact ⟨hq', by rw [isSet_single fs q' k' hk', hg]; rfl⟩
    rw [hf] at this
    simp only [List.mem_singleton] at this
    subst this
    rw [hqk] at hk'; cases hk'; exact absurd rfl hne

theorem filter_nil_unset (ops : List PropDef) (fs : Fields) (hf : ops.filter (isSet fs) = []) :
    ∀ q ∈ ops, ∀ k, q.path = [k] → aget k fs = none := by
  intro q hq k hk
  have := (List.filter_eq_nil_iff.mp hf) q hq
  rw [isSet_single fs q k hk] at this
  cases hg : aget k fs with
  | none => rfl
  | some v => simp [hg] at this

theorem oneof_member_step (c : Cfg) (ops : List PropDef) (q : PropDef) (k : Nat) (v : PVal)
    (tv : PTree) (m : Fields) (hqk : q.path = [k]) (hdec : Dec c q.field v tv)
    (hz : (q.pres == .imp && v.isZero) = false) (hec : v.isEmptyColl = false)
    (hk : aget k m = none)
    (hothers : ∀ q' ∈ ops, ∀ k', q'.path = [k'] → k' ≠ k → aget k' m = none) :
    decProp c ops q tv { m := m, seen := [] } = .ok { m := aset k v m, seen := [q.jsonName] } := by
  -- at a one-element path the proto-oneof siblings are the other one-element members
  have hsib : SiblingsUnset ops q k m := fun gi _ q' hq' _ hqd k' hk' hne => by
    rw [hqk, List.dropLast_singleton] at hqd
    exact hothers q' hq' k' (path_of_dropLast_nil q'.path k' hqd hk') hne
  have hcg := clearGroup_id_at ops q k m hsib
  rw [hqk, List.dropLast_singleton] at hcg
  have hstep := hdec.prop ops q { m := m, seen := [] } rfl (by rw [hqk]; simp) (by simp)
    (by rw [hqk]; exact hk) (groupBusy_false_at ops q k m (by rw [hqk]; rfl) (by rw [hqk]; exact hsib))
  simp only [] at hstep
  rwa [updPath_single ops q k v m hqk, hcg, setLeaf_store _ _ _ _ hz hec] at hstep

/-- the decoder reads the one-member oneof body back: into any message that holds neither the
member nor any other member of the oneof -/
theorem decOneof_one (c : Cfg) (ops : List PropDef) (hroot : rootSimple (.oneof ops) = true)
    (q : PropDef) (k : Nat) (v : PVal) (tlit nlit qlit : Bytes) (tv : PTree) (m : Fields)
    (hq : q ∈ ops) (hqk : q.path = [k]) (hdec : Dec c q.field v tv)
    (hz : (q.pres == .imp && v.isZero) = false) (hec : v.isEmptyColl = false)
    (hk : aget k m = none)
    (hothers : ∀ q' ∈ ops, ∀ k', q'.path = [k'] → k' ≠ k → aget k' m = none) :
    decOneofMembers c ops
        (.cons typeKey tlit (.str q.jsonName nlit) (.cons q.jsonName qlit tv (.nil .closed)))
        { m := m, seen := [] } [] none =
      .ok ({ m := aset k v m, seen := [q.jsonName] }, [q.jsonName], some q.jsonName, .closed) ∧
    oneofPost ops [q.jsonName] (some q.jsonName) (aset k v m) = .ok none := by
  obtain ⟨_, hnames, _, hnotype⟩ := oneof_root_facts ops hroot
  have hstep := oneof_member_step c ops q k v tv m hqk hdec hz hec hk hothers
  constructor
  · rw [decOneofMembers_type c ops typeKey _ _ _ _ _ _ rfl]
    dsimp only
    rw [decOneofMembers_cons c ops _ _ _ _ _ _ _ (hnotype q hq), findProp_self ops hnames q hq]
    simp only [hstep, Outcome.bind, decOneofMembers_nil, List.nil_append]
  · simp [oneofPost]

/-! ## the object body -/

def propPaths (env : Env) (p : PropDef) : List (List Nat) := (propLeaves env p).map (·.1)

theorem propPaths_nonempty (env : Env) (p : PropDef) (hp : p.path ≠ []) : propPaths env p = [p.path] := by
  unfold propPaths; rw [propLeaves_nonempty env p hp]; rfl

/-- what one property of an object contributes to the body -/
inductive MemberSpecF (c : Cfg) (fs : Fields) (p : PropDef) : Option (Bytes × Bytes × PTree) → Prop
  | unset : p.path ≠ [] → getPath fs p.path = none → MemberSpecF c fs p none
  | leaf (v : PVal) (lit : Bytes) (t : PTree) : p.path ≠ [] → getPath fs p.path = some v →
      Dec c p.field v t → (OracleWire c.O → Wire.Conforms c.env c.O p.field v t) →
      (p.pres == .imp && v.isZero) = false → v.isEmptyColl = false →
      MemberSpecF c fs p (some (p.jsonName, lit, t))
  | exposedUnset : p.path = [] →
      (∀ q ∈ exposedOps c.env p, getPath fs q.path = none) → MemberSpecF c fs p none
  | exposedSet (ref : String) (ops : List PropDef) (q : PropDef) (k : Nat) (v : PVal)
      (lit tlit nlit qlit : Bytes) (tv : PTree) :
      p.path = [] → p.group = none → p.field = .oneof ref → c.env.find ref = some (.oneof ops) →
      rootSimple (.oneof ops) = true → q ∈ ops → q.path = [k] → aget k fs = some v →
      (∀ x ∈ propPaths c.env p, x ≠ [k] → getPath fs x = none) →
      Dec c q.field v tv → (OracleWire c.O → Wire.Conforms c.env c.O q.field v tv) →
      (q.pres == .imp && v.isZero) = false → v.isEmptyColl = false →
      MemberSpecF c fs p (some (p.jsonName, lit,
        .obj (.cons typeKey tlit (.str q.jsonName nlit) (.cons q.jsonName qlit tv (.nil .closed)))))

/-- two members of one proto oneof (same message) are not both set (from `groupsOk`) -/
def GroupsExclF (props : List PropDef) (fs : Fields) : Prop :=
  ∀ p ∈ props, ∀ q ∈ props, p.group.isSome = true → q.group = p.group →
    q.path.dropLast = p.path.dropLast → q.path ≠ p.path → (getPath fs p.path).isSome = true →
    getPath fs q.path = none

theorem groupsExclF_of_groupsOk (props : List PropDef) (fs : Fields) (h : groupsOk props fs = true) :
    GroupsExclF props fs := by
  intro p hp q hq hgs hg hdl hne hset
  unfold groupsOk at h
  have := List.all_eq_true.mp (List.all_eq_true.mp h p hp) q hq
  simp only [isSet, Bool.not_eq_true', Bool.and_eq_false_iff] at this
  cases hx : getPath fs q.path with
  | none => rfl
  | some v' =>
    exfalso
    rcases this with ((((h1 | h1) | h1) | h1) | h1) | h1
    · simp [hgs] at h1
    · simp [hg] at h1
    · simp [hdl] at h1
    · have : p.path ≠ q.path := fun e => hne e.symm
      simp [this] at h1
    · simp [hset] at h1
    · simp [hx] at h1

theorem dropLast_concat_last (path : List Nat) (k : Nat) (h : path.getLast? = some k) :
    path.dropLast ++ [k] = path := by
  have hne : path ≠ [] := by intro e; subst e; simp at h
  have := List.dropLast_concat_getLast hne
  rw [List.getLast?_eq_some_getLast hne] at h
  cases h
  exact this

theorem updPath_eq_go (props : List PropDef) (p : PropDef) (v : Option PVal) (m : Fields) :
    updPath props p v m = updPath.go props p v [] p.path m := rfl

/-- what the loop uses of a representable message `fs` of an object root of a flat environment -/
structure StoreFacts (env : Env) (props : List PropDef) (fs : Fields) : Prop where
  sorted : asorted fs = true
  along : ∀ x ∈ leafEntries env props, SortedAlong x.1 fs
  leafH : LeafH env props
  groups : GroupsExclF props fs

theorem StoreFacts.of_ok (env : Env) (O : Oracle) (props : List PropDef) (fs : Fields)
    (hroot : rootFlat env (.object props) = true) (hsort : asorted fs = true)
    (hfok : fieldsOk env O props fs = true) (hgrp : groupsOk props fs = true) : StoreFacts env props fs :=
  have hLH := (object_root_facts env props hroot).2.2.2
  { sorted := hsort
    along := fun x hx => (fieldsOk_path env O x.1 props fs x.2.1 x.2.2 hLH hfok hsort hx).1
    leafH := hLH
    groups := groupsExclF_of_groupsOk props fs hgrp }

/-- what the member loop knows when it meets property `p`: the message so far is the restriction
to the leaf paths `S` read so far, and the paths of `p` are new -/
structure StepCtx (c : Cfg) (props : List PropDef) (fs : Fields) (p : PropDef) (st : PS)
    (S : List (List Nat)) : Prop where
  facts : StoreFacts c.env props fs
  mem : p ∈ props
  state : st.m = restrictP S fs
  fresh : p.jsonName ∉ st.seen
  apart : ∀ x ∈ propPaths c.env p, Apart x S
  along : ∀ x ∈ propPaths c.env p, SortedAlong x fs
  pathNe : ∀ x ∈ propPaths c.env p, x ≠ []

/-- the other members of `p`'s proto oneof are unset in `fs` (`GroupsExclF`), hence in the restriction,
so `CreateField` passes and `clearGroup` clears nothing; the path is unset in the restriction (`Apart`),
so `Dec.prop` applies; and `Message.Set` into the restriction adds the path (`updGo_restrict`) -/
theorem step_leaf (c : Cfg) (props : List PropDef) (fs : Fields) (p : PropDef) (st : PS)
    (S : List (List Nat)) (hctx : StepCtx c props fs p st S) (v : PVal) (t : PTree)
    (hpne : p.path ≠ []) (hget : getPath fs p.path = some v) (hdec : Dec c p.field v t)
    (hz : (p.pres == .imp && v.isZero) = false) (hec : v.isEmptyColl = false) :
    decProp c props p t st =
      .ok { m := restrictP (propPaths c.env p ++ S) fs, seen := p.jsonName :: st.seen } := by
  obtain ⟨hsf, hpm, hm, hfresh, hapart, halong, _⟩ := hctx
  have hpp : propPaths c.env p = [p.path] := propPaths_nonempty c.env p hpne
  have hpin : p.path ∈ propPaths c.env p := by rw [hpp]; simp
  have hap := hapart p.path hpin
  obtain ⟨kl, hkl⟩ := last_of_ne p.path hpne
  have hsibfs : ∀ gi, p.group = some gi → ∀ q ∈ props, q.group = some gi →
      q.path.dropLast = p.path.dropLast → ∀ k', q.path.getLast? = some k' → k' ≠ kl →
      getPath fs q.path = none := by
    intro gi hg q hq hqg hqd k' hk' hne
    apply hsf.groups p hpm q hq (by rw [hg]; rfl) (by rw [hqg, hg]) hqd _ (by rw [hget]; rfl)
    intro e
    rw [e, hkl] at hk'
    exact hne (Option.some.inj hk').symm
  have hsib : SiblingsUnset props p kl (msgAt p.path.dropLast st.m) := by
    intro gi hg q hq hqg hqd k' hk' hne
    rw [aget_msgAt, ← hqd, dropLast_concat_last q.path k' hk', hm]
    have hqne : q.path ≠ [] := by intro e; rw [e] at hk'; simp at hk'
    exact getPath_restrictP_none q.path S fs (hsf.along _ (leafEntries_mem_path c.env props q hq hqne))
      (hsibfs gi hg q hq hqg hqd k' hk' hne)
  rw [hdec.prop props p st rfl hpne hfresh
    (by rw [hm]; exact getPath_restrictP_apart p.path S fs (halong _ hpin) hpne hap)
    (groupBusy_false_at props p kl st.m hkl hsib)]
  rw [updPath_eq_go, hm,
    updGo_restrict props p v kl hkl hz hec p.path [] S fs rfl hpne (halong _ hpin) hget hap
      (by
        intro gi hg q hq hqg hqd k' hk' hne
        rw [← hqd, dropLast_concat_last q.path k' hk']
        exact hsibfs gi hg q hq hqg hqd k' hk' hne),
    hpp]
  rfl

/-- the facts about the enclosing message an exposed oneof's body is read into -/
theorem exposed_target (c : Cfg) (props : List PropDef) (fs : Fields) (p : PropDef) (st : PS)
    (S : List (List Nat)) (hctx : StepCtx c props fs p st S) (ops : List PropDef)
    (hp0 : p.path = []) (hops : exposedOps c.env p = ops) :
    (∀ q ∈ ops, ∀ k, q.path = [k] → [k] ∈ propPaths c.env p) ∧
    (∀ q ∈ ops, ∀ k, q.path = [k] → aget k st.m = none) := by
  have hin : ∀ q ∈ ops, ∀ k, q.path = [k] → [k] ∈ propPaths c.env p := by
    intro q hq k hqk
    unfold propPaths
    exact List.mem_map.mpr ⟨_, propLeaves_exposed_mem c.env p q k hp0 (by rw [hops]; exact hq) hqk, rfl⟩
  refine ⟨hin, ?_⟩
  intro q hq k hqk
  have hkin := hin q hq k hqk
  have := getPath_restrictP_apart [k] S fs (hctx.along _ hkin) (by simp) (hctx.apart _ hkin)
  rw [hctx.state]; simpa [getPath] using this

/-- what reading a spelled oneof body into message `m` gives -/
inductive OneResult (c : Cfg) (ops : List PropDef) (fs : Fields) (ms : PMembers) (m : Fields) : Prop
  | empty (seen1 found ct) :
      (∀ q ∈ ops, getPath fs q.path = none) →
      decOneofMembers c ops ms { m := m, seen := [] } [] none =
        .ok ({ m := m, seen := seen1 }, found, ct, .closed) →
      oneofPost ops found ct m = .ok none → OneResult c ops fs ms m
  | set (q : PropDef) (k : Nat) (v : PVal) (seen1 found ct) :
      q ∈ ops → q.path = [k] → aget k fs = some v →
      (∀ q' ∈ ops, q'.path ≠ [k] → getPath fs q'.path = none) →
      decOneofMembers c ops ms { m := m, seen := [] } [] none =
        .ok ({ m := aset k v m, seen := seen1 }, found, ct, .closed) →
      oneofPost ops found ct (aset k v m) = .ok none → OneResult c ops fs ms m

theorem step_exposed (c : Cfg) (props : List PropDef) (fs : Fields) (p : PropDef) (st : PS)
    (S : List (List Nat)) (hctx : StepCtx c props fs p st S) (ref : String) (ops : List PropDef)
    (ms : PMembers) (hp0 : p.path = []) (hpg : p.group = none) (hpf : p.field = .oneof ref)
    (hfind : c.env.find ref = some (.oneof ops)) (hops : exposedOps c.env p = ops)
    (hres : OneResult c ops fs ms st.m) :
    decProp c props p (.obj ms) st =
      .ok { m := restrictP (propPaths c.env p ++ S) fs, seen := p.jsonName :: st.seen } := by
  obtain ⟨hin, _⟩ := exposed_target c props fs p st S hctx ops hp0 hops
  obtain ⟨hsf, hpm, hm, hfresh, hapart, halong, hne_path⟩ := hctx
  -- the leaf paths of `p` are the one-element paths of the members
  have hpaths : ∀ x ∈ propPaths c.env p, ∃ q ∈ ops, ∃ k', q.path = [k'] ∧ x = [k'] := by
    intro x hx
    obtain ⟨b, hb, rfl⟩ := List.mem_map.mp hx
    obtain ⟨q, k', hq, hqk, rfl⟩ := propLeaves_exposed_inv c.env p b hp0 hb
    exact ⟨q, hops ▸ hq, k', hqk, rfl⟩
  have hgb : groupBusy props p st.m = false := groupBusy_none props p st.m hpg
  cases hres with
  | empty seen1 found ct hnone hloop hpost =>
    rw [decProp_ok_iff.mpr (.exposed (tp := none) hp0 hpf hfind hfresh hgb
      (decOneofMembers_ok_iff.mp hloop) hpost)]
    simp only [applyPost]
    rw [hm, restrictP_append_absorb _ S fs (fun x hx => by
      obtain ⟨q, hq, k', hqk, rfl⟩ := hpaths x hx
      exact Or.inr ⟨hne_path _ hx, halong _ hx, hqk ▸ hnone q hq⟩)]
  | set q k v seen1 found ct hq hqk hag hoth hloop hpost =>
    rw [decProp_ok_iff.mpr (.exposed (tp := none) hp0 hpf hfind hfresh hgb
      (decOneofMembers_ok_iff.mp hloop) hpost)]
    simp only [applyPost]
    rw [hm, aset_restrictP_single S fs hsf.sorted k v hag,
      restrictP_append_one (propPaths c.env p) S fs k (hin q hq k hqk) (fun x hx hne => by
        obtain ⟨q', hq', k2, hq'k, rfl⟩ := hpaths x hx
        exact ⟨hne_path _ hx, halong _ hx, hq'k ▸ hoth q' hq' (by rw [hq'k]; exact hne)⟩)]

/-! ## the object loop, for members in any order: what the decoder needs of an object document to
read it back to `fs`, whoever wrote it (the encoder, `readsM_of_enc`; any speller, `SpellProofs.lean`) -/

/-- the value `v` of a member for property `p` is read back to what `fs` holds for `p`: a leaf the
tree decodes to, or the body of an exposed oneof over the same message -/
inductive Reads (c : Cfg) (fs : Fields) (p : PropDef) : PTree → Prop
  | leaf {v : PTree} (vv : PVal) : p.path ≠ [] → getPath fs p.path = some vv → Dec c p.field vv v →
      (p.pres == .imp && vv.isZero) = false → vv.isEmptyColl = false → Reads c fs p v
  | exposed (ref : String) (ops : List PropDef) (ms : PMembers) : p.path = [] → p.group = none →
      p.field = .oneof ref → c.env.find ref = some (.oneof ops) →
      (∀ m, (∀ q ∈ ops, ∀ k, q.path = [k] → aget k m = none) → OneResult c ops fs ms m) →
      Reads c fs p (.obj ms)

/-- the members of an object document: any order, explicit nulls anywhere, each property given at
most once (`used` = the JSON names given so far), and what is never given is unset in `fs` -/
inductive ReadsM (c : Cfg) (props : List PropDef) (fs : Fields) : List Bytes → PMembers → Prop
  | nil {used : List Bytes} : (∀ p ∈ props, p.jsonName ∉ used →
        (p.path ≠ [] → getPath fs p.path = none) ∧
        (p.path = [] → ∀ q ∈ exposedOps c.env p, getPath fs q.path = none)) →
      ReadsM c props fs used (.nil .closed)
  | null {used : List Bytes} {k kr : Bytes} {rest : PMembers} (p : PropDef) : findProp props k = some p →
      ReadsM c props fs used rest → ReadsM c props fs used (.cons k kr .null rest)
  | member {used : List Bytes} {k kr : Bytes} {v : PTree} {rest : PMembers} (p : PropDef) :
      findProp props k = some p → k ∉ used → Reads c fs p v → ReadsM c props fs (k :: used) rest →
      ReadsM c props fs used (.cons k kr v rest)

theorem propPaths_entry (env : Env) (props : List PropDef) (p : PropDef) (hp : p ∈ props)
    (x : List Nat) (hx : x ∈ propPaths env p) : ∃ a ∈ leafEntries env props, a.1 = x := by
  obtain ⟨b, hb, rfl⟩ := List.mem_map.mp hx
  exact ⟨b, List.mem_flatMap.mpr ⟨p, hp, hb⟩, rfl⟩

theorem apart_of_unused (env : Env) (props ups : List PropDef)
    (hpnd : (props.flatMap (propPaths env)).Nodup) (hLH : LeafH env props)
    (hups : ∀ q ∈ ups, q ∈ props) (p : PropDef) (hp : p ∈ props) (hpu : p ∉ ups) :
    ∀ x ∈ propPaths env p, Apart x (ups.flatMap (propPaths env)) := by
  intro x hx s hs
  obtain ⟨q, hq, hsq⟩ := List.mem_flatMap.mp hs
  obtain ⟨a, ha, rfl⟩ := propPaths_entry env props p hp x hx
  obtain ⟨b, hb, rfl⟩ := propPaths_entry env props q (hups q hq) s hsq
  have hne : p ≠ q := fun e => hpu (e ▸ hq)
  constructor
  · intro hpre
    have := hLH b hb a ha hpre
    subst this
    exact hne (flatMap_nodup_unique (propPaths env) props hpnd p hp q (hups q hq) _ hx hsq)
  · intro hpre
    have := hLH a ha b hb hpre
    subst this
    exact hne (flatMap_nodup_unique (propPaths env) props hpnd p hp q (hups q hq) _ hx hsq)

theorem unused_of_name (props ups : List PropDef) (hnames : (props.map (·.jsonName)).Nodup)
    (hups : ∀ q ∈ ups, q ∈ props) (p : PropDef) (hp : p ∈ props) :
    p.jsonName ∉ ups.map (·.jsonName) ↔ p ∉ ups := by
  constructor
  · intro h hm; exact h (List.mem_map.mpr ⟨p, hm, rfl⟩)
  · intro h hm
    obtain ⟨q, hq, hn⟩ := List.mem_map.mp hm
    have := inj_of_nodup_map (·.jsonName) props hnames q (hups q hq) p hp hn
    subst this; exact h hq

theorem propPaths_flat_nodup (env : Env) (props : List PropDef)
    (h : ((leafEntries env props).map (·.1)).Nodup) : (props.flatMap (propPaths env)).Nodup := by
  have : props.flatMap (propPaths env) = (leafEntries env props).map (·.1) := by
    unfold leafEntries propPaths
    rw [List.map_flatMap]
  rw [this]; exact h

theorem restrictP_read_all (c : Cfg) (props ups : List PropDef) (fs : Fields)
    (hnames : (props.map (·.jsonName)).Nodup) (hups : ∀ q ∈ ups, q ∈ props)
    (hfok : fieldsOk c.env c.O props fs = true) (hsf : StoreFacts c.env props fs)
    (hunused : ∀ p ∈ props, p.jsonName ∉ ups.map (·.jsonName) →
      (p.path ≠ [] → getPath fs p.path = none) ∧
      (p.path = [] → ∀ q ∈ exposedOps c.env p, getPath fs q.path = none)) :
    restrictP (ups.flatMap (propPaths c.env)) fs = fs := by
  rw [← restrictP_append_absorb (props.flatMap (propPaths c.env)) _ fs]
  · apply restrictP_all c.env c.O fs props _ hfok
    intro x hx
    obtain ⟨p, hp, hxp⟩ := List.mem_flatMap.mp hx
    exact List.mem_append.mpr (Or.inl (List.mem_flatMap.mpr ⟨p, hp, List.mem_map.mpr ⟨x, hxp, rfl⟩⟩))
  · intro x hx
    obtain ⟨p, hp, hxp⟩ := List.mem_flatMap.mp hx
    by_cases hpu : p ∈ ups
    · exact Or.inl (List.mem_flatMap.mpr ⟨p, hpu, hxp⟩)
    · right
      obtain ⟨h1, h2⟩ := hunused p hp ((unused_of_name props ups hnames hups p hp).mpr hpu)
      obtain ⟨a, ha, hax⟩ := propPaths_entry c.env props p hp x hxp
      refine ⟨by rw [← hax]; exact leafEntries_path_ne c.env props a ha,
        by rw [← hax]; exact hsf.along a ha, ?_⟩
      cases hpp : p.path with
      | nil =>
        obtain ⟨b, hb, rfl⟩ := List.mem_map.mp hxp
        obtain ⟨q, k, hq, hqk, rfl⟩ := propLeaves_exposed_inv c.env p b hpp hb
        have := h2 hpp q hq
        rw [hqk] at this; exact this
      | cons a' t' =>
        have hpne : p.path ≠ [] := by rw [hpp]; simp
        rw [propPaths_nonempty c.env p hpne] at hxp
        simp only [List.mem_singleton] at hxp
        rw [hxp]; exact h1 hpne

/-- **the object loop**: the decoder's message, the restriction of `fs` to the leaves of the
properties given so far, grows by the leaves of each new member and is `fs` at the end -/
theorem decObjMembers_reads (c : Cfg) (props : List PropDef) (fs : Fields)
    (hnames : (props.map (·.jsonName)).Nodup) (hpnd : (props.flatMap (propPaths c.env)).Nodup)
    (hsf : StoreFacts c.env props fs) (hfok : fieldsOk c.env c.O props fs = true)
    {used : List Bytes} {ms : PMembers} (h : ReadsM c props fs used ms) :
    ∀ (ups : List PropDef), used = ups.map (·.jsonName) → (∀ q ∈ ups, q ∈ props) →
    ∀ (st : PS), st.m = restrictP (ups.flatMap (propPaths c.env)) fs →
      (∀ p ∈ props, p.jsonName ∉ used → p.jsonName ∉ st.seen) →
      ∃ seen', decObjMembers c props ms st = .ok ({ m := fs, seen := seen' }, .closed) := by
  induction h with
  | nil hunused =>
    intro ups hused hups st hm _
    refine ⟨st.seen, ?_⟩
    unfold decObjMembers
    simp only [show (Term.closed == Term.errIn) = false from rfl, Bool.false_eq_true, if_false]
    have hfull := restrictP_read_all c props ups fs hnames hups hfok hsf (hused ▸ hunused)
    cases st with
    | mk m' s' => simp only [] at hm; rw [hm, hfull]
  | null p hfp _ ih =>
    intro ups hused hups st hm hseen
    rw [decObjMembers_cons, hfp]
    dsimp only
    rw [decProp_null]
    exact ih ups hused hups st hm hseen
  | @member used k kr v rest p hfp hku hr _ ih =>
    intro ups hused hups st hm hseen
    have hpm : p ∈ props := findProp_mem props k p hfp
    have hname : p.jsonName = k := findProp_name props k p hfp
    have hpu : p ∉ ups :=
      (unused_of_name props ups hnames hups p hpm).mp (by rw [← hused, hname]; exact hku)
    have hctx : StepCtx c props fs p st (ups.flatMap (propPaths c.env)) :=
      { facts := hsf, mem := hpm, state := hm
        fresh := hseen p hpm (by rw [hname]; exact hku)
        apart := apart_of_unused c.env props ups hpnd hsf.leafH hups p hpm hpu
        along := fun x hx => by
          obtain ⟨a, ha, hax⟩ := propPaths_entry c.env props p hpm x hx
          rw [← hax]; exact hsf.along a ha
        pathNe := fun x hx => by
          obtain ⟨a, ha, hax⟩ := propPaths_entry c.env props p hpm x hx
          rw [← hax]; exact leafEntries_path_ne c.env props a ha }
    have hstep : decProp c props p v st = .ok
        { m := restrictP (propPaths c.env p ++ ups.flatMap (propPaths c.env)) fs,
          seen := p.jsonName :: st.seen } := by
      cases hr with
      | leaf vv hpne hget hdec hz hec => exact step_leaf c props fs p st _ hctx vv v hpne hget hdec hz hec
      | exposed ref ops ms' hp0 hpg hpf hfind hres =>
        have hops : exposedOps c.env p = ops := exposedOps_eq c.env p ref ops hp0 hpf hfind
        exact step_exposed c props fs p st _ hctx ref ops ms' hp0 hpg hpf hfind hops
          (hres st.m (exposed_target c props fs p st _ hctx ops hp0 hops).2)
    rw [decObjMembers_cons, hfp]
    dsimp only
    rw [hstep]
    exact ih (p :: ups) (by rw [hused, List.map_cons, hname]) (fun q hq => by
        rcases List.mem_cons.mp hq with rfl | hq'
        · exact hpm
        · exact hups q hq') _ (by rw [List.flatMap_cons]) (by
        intro p' hp' hn'
        simp only [List.mem_cons, not_or] at hn' ⊢
        exact ⟨by rw [hname]; exact hn'.1, hseen p' hp' hn'.2⟩)

theorem decObjMembers_reads_fresh (c : Cfg) (props : List PropDef) (fs : Fields)
    (hnames : (props.map (·.jsonName)).Nodup) (hpnd : (props.flatMap (propPaths c.env)).Nodup)
    (hsf : StoreFacts c.env props fs) (hfok : fieldsOk c.env c.O props fs = true) {ms : PMembers}
    (h : ReadsM c props fs [] ms) :
    ∃ seen', decObjMembers c props ms { m := [], seen := [] } =
      .ok ({ m := fs, seen := seen' }, .closed) :=
  decObjMembers_reads c props fs hnames hpnd hsf hfok h [] rfl (fun _ hq => by cases hq)
    { m := [], seen := [] } (by simp [restrictP_nil]) (fun _ _ _ => by simp)

theorem MemberSpecF.unset_of_none {c : Cfg} {fs : Fields} {p : PropDef} (h : MemberSpecF c fs p none) :
    (p.path ≠ [] → getPath fs p.path = none) ∧
    (p.path = [] → ∀ q ∈ exposedOps c.env p, getPath fs q.path = none) := by
  cases h with
  | unset hpne hget => exact ⟨fun _ => hget, fun h0 => absurd h0 hpne⟩
  | exposedUnset hp0 hops => exact ⟨fun hne => absurd hp0 hne, fun _ => hops⟩

theorem MemberSpecF.reads {c : Cfg} {fs : Fields} {p : PropDef} {e : Bytes × Bytes × PTree}
    (h : MemberSpecF c fs p (some e)) : e.1 = p.jsonName ∧ Reads c fs p e.2.2 := by
  cases h with
  | leaf v lit t hpne hget hdec _ hz hec => exact ⟨rfl, .leaf v hpne hget hdec hz hec⟩
  | exposedSet ref ops q k v lit tlit nlit qlit tv hp0 hpg hpf hfind hroot hq hqk hag hoth hdec _ hz hec =>
    have hops : exposedOps c.env p = ops := exposedOps_eq c.env p ref ops hp0 hpf hfind
    refine ⟨rfl, .exposed ref ops _ hp0 hpg hpf hfind fun m htarget => ?_⟩
    obtain ⟨hloop, hpost⟩ := decOneof_one c ops hroot q k v tlit nlit qlit tv m hq hqk hdec hz hec
      (htarget q hq k hqk) (fun q' hq' k' hk' _ => htarget q' hq' k' hk')
    refine .set q k v _ _ _ hq hqk hag (fun q' hq' hne => ?_) hloop hpost
    obtain ⟨k', hk'⟩ := propSimple_path q' ((oneof_root_facts ops hroot).1 q' hq')
    rw [hk'] at hne ⊢
    refine hoth [k'] ?_ hne
    unfold propPaths
    exact List.mem_map.mpr ⟨_, propLeaves_exposed_mem c.env p q' k' hp0 (by rw [hops]; exact hq') hk', rfl⟩

theorem readsM_of_enc (c : Cfg) (props : List PropDef) (fs : Fields)
    (hnames : (props.map (·.jsonName)).Nodup)
    (g : PropDef → Outcome (Option (Bytes × Bytes × PTree)))
    (hspec : ∀ p ∈ props, ∀ r, g p = .ok r → MemberSpecF c fs p r) :
    ∀ (ps : List PropDef) (os : List (Option (Bytes × Bytes × PTree))) (used : List Bytes),
      Outcome.seq g ps = .ok os → (∀ p ∈ ps, p ∈ props) → (ps.map (·.jsonName)).Nodup →
      (∀ p ∈ ps, p.jsonName ∉ used) →
      (∀ p ∈ props, p ∉ ps → p.jsonName ∉ used →
        (p.path ≠ [] → getPath fs p.path = none) ∧
        (p.path = [] → ∀ q ∈ exposedOps c.env p, getPath fs q.path = none)) →
      ReadsM c props fs used (membersOfSet os) := by
  intro ps
  induction ps with
  | nil =>
    intro os used h _ _ _ hdone
    cases h
    exact .nil fun p hp hn => hdone p hp (by simp) hn
  | cons p ps ih =>
    intro os used h hsub hnd hfresh hdone
    obtain ⟨o, os', rfl, hgp, hrest⟩ := Outcome.seq_cons_ok.mp h
    have hpm : p ∈ props := hsub p List.mem_cons_self
    simp only [List.map_cons, List.nodup_cons] at hnd
    have hsub' : ∀ q ∈ ps, q ∈ props := fun q hq => hsub q (List.mem_cons_of_mem _ hq)
    cases o with
    | none =>
      -- no member written: the property is unset
      refine ih os' used hrest hsub' hnd.2 (fun q hq => hfresh q (List.mem_cons_of_mem _ hq)) ?_
      intro q hq hqps hn
      by_cases hqp : q = p
      · exact hqp ▸ (hspec p hpm none hgp).unset_of_none
      · exact hdone q hq (by simp [hqp, hqps]) hn
    | some e =>
      -- one member written
      obtain ⟨hk, hr⟩ := (hspec p hpm (some e) hgp).reads
      obtain ⟨k, kr, v⟩ := e
      subst hk
      refine .member p (findProp_self props hnames p hpm) (hfresh p List.mem_cons_self) hr
        (ih os' _ hrest hsub' hnd.2 ?_ ?_)
      · intro q hq
        simp only [List.mem_cons, not_or]
        exact ⟨fun e => hnd.1 (List.mem_map.mpr ⟨q, hq, e⟩), hfresh q (List.mem_cons_of_mem _ hq)⟩
      · intro q hq hqps hn
        simp only [List.mem_cons, not_or] at hn
        exact hdone q hq (by simp only [List.mem_cons, not_or]; exact ⟨fun e => hn.1 (e ▸ rfl), hqps⟩) hn.2

theorem decObjMembers_enc (c : Cfg) (props : List PropDef) (fs : Fields)
    (hnames : (props.map (·.jsonName)).Nodup) (hpnd : (props.flatMap (propPaths c.env)).Nodup)
    (hsf : StoreFacts c.env props fs) (hfok : fieldsOk c.env c.O props fs = true)
    (g : PropDef → Outcome (Option (Bytes × Bytes × PTree)))
    (hspec : ∀ p ∈ props, ∀ r, g p = .ok r → MemberSpecF c fs p r)
    (os : List (Option (Bytes × Bytes × PTree))) (hseq : Outcome.seq g props = .ok os) :
    ∃ seen', decObjMembers c props (membersOfSet os) { m := [], seen := [] } =
      .ok ({ m := fs, seen := seen' }, .closed) :=
  decObjMembers_reads_fresh c props fs hnames hpnd hsf hfok
    (readsM_of_enc c props fs hnames g hspec props os [] hseq (fun _ h => h) hnames
      (fun _ _ => by simp) (fun p hp hnp => absurd hp hnp))

end J5V.Codec
