import J5V.Codec.RoundtripFlat
import J5V.Codec.WireProofs
import J5V.Codec.AnyProofs
import J5V.Codec.TreeDepth
/-!
# The induction on the encoder's fuel (C01, environments with flattened objects, exposed oneofs,
proto oneofs — `Env.flat`)

`RTP c f`: at fuel `f` (enough for the value at hand: five levels of the encoder's mutual
recursion per nesting level) the encoder **succeeds** on every representable value and the decoder
reads the tree back to exactly that value. `RTP` also carries, for an oracle with `OracleWire`, that the
tree conforms to the wire description (`Wire.Conforms`); the file ends with the statement at the root
(`root_flat`).
-/
namespace J5V.Codec
open J5V.Go J5V.Json

theorem member_ok (name : Bytes) (t : PTree) (h : isValidUtf8 name = true) :
    ∃ lit, member name (.ok t) = .ok (some (name, lit, t)) := by
  obtain ⟨lit, hl⟩ := (appendString_total name).2.1 h
  exact ⟨lit, by simp [member, hl]⟩

theorem mapOk_mem (env : Env) (O : Oracle) (item : Field) :
    ∀ (kvs : List (Bytes × PVal)) (seen : List Bytes), mapOk env O item seen kvs = true →
      ∀ kv ∈ kvs, isValidUtf8 kv.1 = true ∧ valOk env O item kv.2 = true := by
  intro kvs
  induction kvs with
  | nil => intro _ _ kv h; cases h
  | cons a t ih =>
    intro seen hok kv hkv
    obtain ⟨k, v⟩ := a
    obtain ⟨_, hu, hv, hrest⟩ := mapOk_cons _ _ _ _ _ _ _ hok
    rcases List.mem_cons.mp hkv with rfl | h'
    · exact ⟨hu, hv⟩
    · exact ih _ hrest kv h'

theorem typeKey_lit : ∃ lit, appendString typeKey = .ok lit :=
  (appendString_total typeKey).2.1 (by decide)

/-- `encFuel (.msg m) = 6 * (depthFields m + 1) + 10`, so `encRoot` hands `6 * (depthFields m + 1) + 9` to the body:
the number the whole-message statements (and `Cfg.canDecode`) carry as the fuel argument of `modeOkF`. `encFuel`
is generous: the recursion needs `5 * depth + 1` (`EncAgree`). -/
theorem encodeTree_msg (env : Env) (O : Oracle) (root : String) (m : Fields) :
    encodeTree env O root (.msg m) = encRoot env O (6 * (depthFields m + 1) + 9 + 1) root (.msg m) :=
  rfl

/-- The bounds `5 * depth + 1 / + 5 / + 3` are those of `EncAgree` (EncTotal.lean): every `by omega` in the step
lemmas `RTP_val`, `RTP_obj`, `RTP_one`, `objMember_spec` checks one edge of that table. The fuel is also the second
argument of `modeOk`: the tree is nested at most as deep as the fuel (`TD_all`), and `popValueAsBytes` accepts
10000 levels, which `modeOk` asks of the fuel for a protobuf `Any`. -/
structure RTP (c : Cfg) (f : Nat) : Prop where
  val : ∀ fld v, fieldSimple fld = true → valOk c.env c.O fld v = true → 5 * v.depth + 1 ≤ f →
    modeOk c.protoToAny f c.anyDepth v = true →
    ∃ t, encValue c.env c.O f fld v = .ok t ∧ Dec c fld v t ∧
      (OracleWire c.O → Wire.Conforms c.env c.O fld v t)
  obj : ∀ props fs, rootFlat c.env (.object props) = true →
    (∀ p ∈ props, isValidUtf8 p.jsonName = true) → asorted fs = true →
    fieldsOk c.env c.O props fs = true → groupsOk props fs = true → exposedOk c.env props fs = true →
    5 * depthFields fs + 5 ≤ f → modeOkF c.protoToAny f c.anyDepth fs = true →
    ∃ ms S, encObjectBody c.env c.O f props fs = .ok (.obj ms) ∧
      decObjMembers c props ms { m := [], seen := [] } = .ok ({ m := fs, seen := S }, .closed) ∧
      (OracleWire c.O → Wire.MembersConform c.env c.O fs props ms)
  one : ∀ ops fs, rootSimple (.oneof ops) = true → (∀ p ∈ ops, isValidUtf8 p.jsonName = true) →
    (ops.filter (isSet fs)).length ≤ 1 →
    (∀ q ∈ ops, ∀ k v, q.path = [k] → aget k fs = some v →
      valOk c.env c.O q.field v = true ∧ (q.pres == .imp && v.isZero) = false) →
    5 * depthFields fs + 3 ≤ f → modeOkF c.protoToAny f c.anyDepth fs = true →
    OneShape c ops fs (encOneofBody c.env c.O f ops fs)

/-- the filter `encodeOneofBody` / `GetOne` applies is "the member's field is populated" -/
theorem oneofSet_eq (env : Env) (f : Nat) (ops : List PropDef) (fs : Fields)
    (hroot : rootSimple (.oneof ops) = true) :
    ops.filter (oneofSet env (f + 1) ops fs) = ops.filter (isSet fs) := by
  obtain ⟨hsimple, hnames, _, _⟩ := oneof_root_facts ops hroot
  apply List.filter_congr
  intro q hq
  unfold oneofSet
  rw [findProp_self ops hnames q hq]
  obtain ⟨k, hk⟩ := propSimple_path q (hsimple q hq)
  simp only [hasProp_single env f q k fs hk, isSet_single fs q k hk]

/-- `encodeOneofBody` over ANY message `fs` in which at most one member of the oneof is set (the
other fields of `fs` are not looked at): `OneShape`, in every environment -/
theorem oneShape_of_members (c : Cfg) (f : Nat) (ops : List PropDef) (fs : Fields)
    (hroot : rootSimple (.oneof ops) = true) (hutf : ∀ p ∈ ops, isValidUtf8 p.jsonName = true)
    (hle : (ops.filter (isSet fs)).length ≤ 1) (hmem : MemberFacts c f ops fs) :
    OneShape c ops fs (encOneofBody c.env c.O (f + 2) ops fs) := by
  obtain ⟨hsimple, hnames, _, _⟩ := oneof_root_facts ops hroot
  rw [encOneofBody_eq, oneofSet_eq c.env (f + 1) ops fs hroot]
  rcases length_le_one_cases _ hle with hnil | ⟨q, hone⟩
  · rw [hnil]; exact OneShape.empty hnil
  · rw [hone]
    have hqf : q ∈ ops.filter (isSet fs) := by rw [hone]; exact List.mem_singleton.mpr rfl
    obtain ⟨hq, hset⟩ := List.mem_filter.mp hqf
    obtain ⟨k, hqk⟩ := propSimple_path q (hsimple q hq)
    rw [isSet_single fs q k hqk] at hset
    cases hag : aget k fs with
    | none => simp [hag] at hset
    | some v =>
      obtain ⟨tv, htv, hdec, hcf, hz, hec⟩ := hmem q hq k v hqk hag
      obtain ⟨nlit, hnl⟩ := strNode_ok q.jsonName (hutf q hq)
      obtain ⟨tlit, htl⟩ := typeKey_lit
      obtain ⟨qlit, hql⟩ := member_ok q.jsonName tv (hutf q hq)
      simp only [findProp_self ops hnames q hq, oneofSetMember, hnl, htl,
        encField_path_eq c.env c.O f q fs (by rw [hqk]; simp), hqk, getPath, hag, htv, Outcome.map,
        Outcome.bind, hql]
      exact OneShape.one q k v tlit nlit qlit tv hone hq hqk hag hdec hcf hz hec

theorem RTP_one (c : Cfg) (f : Nat) (ih : ∀ f' < f + 1, RTP c f') :
    ∀ ops fs, rootSimple (.oneof ops) = true → (∀ p ∈ ops, isValidUtf8 p.jsonName = true) →
      (ops.filter (isSet fs)).length ≤ 1 →
      (∀ q ∈ ops, ∀ k v, q.path = [k] → aget k fs = some v →
        valOk c.env c.O q.field v = true ∧ (q.pres == .imp && v.isZero) = false) →
      5 * depthFields fs + 3 ≤ f + 1 → modeOkF c.protoToAny (f + 1) c.anyDepth fs = true →
      OneShape c ops fs (encOneofBody c.env c.O (f + 1) ops fs) := by
  intro ops fs hroot hutf hle hvals hd hM
  obtain ⟨f', rfl⟩ : ∃ f', f = f' + 1 := ⟨f - 1, by omega⟩
  obtain ⟨hsimple, _, _, _⟩ := oneof_root_facts ops hroot
  refine oneShape_of_members c f' ops fs hroot hutf hle fun q hq k v hqk hag => ?_
  obtain ⟨hvok, hz⟩ := hvals q hq k v hqk hag
  have hdv := depthFields_mem fs k v (aget_mem k v fs hag)
  obtain ⟨tv, htv, hdec, hcf⟩ := (ih f' (by omega)).val q.field v (propSimple_field q (hsimple q hq))
    hvok (by omega) (modeOk_anti _ _ _ (by omega) v _ (modeOk_aget _ _ _ fs k v hM hag))
  exact ⟨tv, htv, hdec, hcf, hz, valOk_not_emptyColl _ _ _ _ hvok⟩

/-! ## a wrapper oneof holds at most one field -/

theorem filter_length_le_one {α β : Type} (f : α → β) (P : α → Bool) (c : β) (l : List α)
    (hnd : (l.map f).Nodup) (h : ∀ a ∈ l.filter P, f a = c) : (l.filter P).length ≤ 1 := by
  have hsub : ((l.filter P).map f).Nodup :=
    List.Nodup.sublist (List.Sublist.map f List.filter_sublist) hnd
  cases hl : l.filter P with
  | nil => simp
  | cons a t =>
    cases t with
    | nil => simp
    | cons b r =>
      exfalso
      rw [hl] at hsub h
      have ha := h a List.mem_cons_self
      have hb := h b (List.mem_cons_of_mem _ List.mem_cons_self)
      simp only [List.map_cons, List.nodup_cons, List.mem_cons, not_or] at hsub
      exact hsub.1.1 (by rw [ha, hb])

theorem single_store (fs : Fields) (k : Nat) (v : PVal) (hlen : fs.length ≤ 1)
    (h : aget k fs = some v) : fs = [(k, v)] := by
  rcases length_le_one_cases fs hlen with rfl | ⟨⟨k0, v0⟩, rfl⟩
  · simp [aget] at h
  · simp only [aget] at h
    by_cases hk : k = k0
    · rw [if_pos hk] at h; cases h; rw [hk]
    · rw [if_neg hk] at h; simp [aget] at h

/-- the members of a wrapper oneof: values are representable, at most one is set -/
theorem oneof_store_facts (c : Cfg) (ops : List PropDef) (fs : Fields)
    (hroot : rootSimple (.oneof ops) = true) (hfok : fieldsOk c.env c.O ops fs = true) :
    (∀ q ∈ ops, ∀ k v, q.path = [k] → aget k fs = some v →
      valOk c.env c.O q.field v = true ∧ (q.pres == .imp && v.isZero) = false) := by
  obtain ⟨hsimple, _, hpaths, _⟩ := oneof_root_facts ops hroot
  intro q hq k v hqk hag
  obtain ⟨p, hfp, hvok, hz⟩ := fieldsOk_mem _ _ ops fs (simple_no_flatten ops hsimple) hfok k v
    (aget_mem k v fs hag)
  obtain ⟨hp, hpk⟩ := leafProp_simple c.env ops k p hsimple hfp
  have : p = q := inj_of_nodup_map (·.path) ops hpaths p hp q hq (by rw [hpk, hqk])
  subst this
  exact ⟨hvok, hz⟩

theorem oneof_store_le (ops : List PropDef) (fs : Fields) (hroot : rootSimple (.oneof ops) = true)
    (hlen : fs.length ≤ 1) : (ops.filter (isSet fs)).length ≤ 1 := by
  obtain ⟨hsimple, _, hpaths, _⟩ := oneof_root_facts ops hroot
  rcases length_le_one_cases fs hlen with rfl | ⟨⟨k0, v0⟩, rfl⟩
  · have : ops.filter (isSet ([] : Fields)) = [] := by
      apply List.filter_eq_nil_iff.mpr
      intro q hq
      obtain ⟨k, hk⟩ := propSimple_path q (hsimple q hq)
      rw [isSet_single _ q k hk]; simp [aget]
    rw [this]; simp
  · apply filter_length_le_one (·.path) _ [k0] ops hpaths
    intro q hq
    obtain ⟨hqm, hset⟩ := List.mem_filter.mp hq
    obtain ⟨k, hk⟩ := propSimple_path q (hsimple q hqm)
    rw [isSet_single _ q k hk] at hset
    simp only [aget] at hset
    by_cases hkk : k = k0
    · rw [hk, hkk]
    · rw [if_neg hkk] at hset; simp [aget] at hset

/-- the members of a oneof that are not the one set are unset, as paths -/
theorem others_unset_paths (ops : List PropDef) (fs : Fields) (q : PropDef) (k : Nat)
    (hroot : rootSimple (.oneof ops) = true) (hone : ops.filter (isSet fs) = [q]) (hqk : q.path = [k]) :
    ∀ q' ∈ ops, q'.path ≠ q.path → getPath fs q'.path = none := by
  obtain ⟨hsimple, _, _, _⟩ := oneof_root_facts ops hroot
  intro q' hq' hne
  obtain ⟨k', hk'⟩ := propSimple_path q' (hsimple q' hq')
  rw [hk']
  have hkk : k' ≠ k := by intro e; apply hne; rw [hk', hqk, e]
  simpa [getPath] using filter_one_others ops fs q k hone hqk q' hq' k' hk' hkk

theorem elemsConform_of_all (env : Env) (O : Oracle) (item : Field) (g : PVal → Outcome PTree) :
    ∀ (xs : List PVal) (ts : List PTree), Outcome.seq g xs = .ok ts →
      (∀ x ∈ xs, ∀ t, g x = .ok t → Wire.Conforms env O item x t) →
      Wire.ElemsConform env O item xs (elemsOf ts)
  | [], _, h, _ => by cases h; exact Wire.ElemsConform.nil item
  | x :: xs, _, h, hc => by
    obtain ⟨t, ts, rfl, hx, hr⟩ := Outcome.seq_cons_ok.mp h
    exact Wire.ElemsConform.cons item x xs t (elemsOf ts) (hc x List.mem_cons_self t hx)
      (elemsConform_of_all env O item g xs ts hr fun y hy => hc y (List.mem_cons_of_mem _ hy))

theorem mapConform_of_all (env : Env) (O : Oracle) (item : Field) (g : PVal → Outcome PTree) :
    ∀ (kvs : List (Bytes × PVal)) (os : List (Option (Bytes × Bytes × PTree))),
      Outcome.seq (fun kv : Bytes × PVal => member kv.1 (g kv.2)) kvs = .ok os →
      (∀ kv ∈ kvs, ∀ t, g kv.2 = .ok t → Wire.Conforms env O item kv.2 t) →
      Wire.MapConform env O item kvs (membersOfSet os)
  | [], _, h, _ => by cases h; exact Wire.MapConform.nil item
  | (k, v) :: kvs, _, h, hc => by
    obtain ⟨o, os, rfl, hm, hr⟩ := Outcome.seq_cons_ok.mp h
    obtain ⟨lit, t, _, hg, rfl⟩ := member_ok_inv k (g v) o hm
    exact Wire.MapConform.cons item k v kvs t lit (membersOfSet os) (hc (k, v) List.mem_cons_self t hg)
      (mapConform_of_all env O item g kvs os hr fun y hy => hc y (List.mem_cons_of_mem _ hy))

/-- a wrapper oneof (a message of its own, at most one field) is read back from what the encoder
wrote for it -/
theorem wrapper_of_shape (c : Cfg) (ops : List PropDef) (fs : Fields) (r : Outcome PTree)
    (hroot : rootSimple (.oneof ops) = true) (hfok : fieldsOk c.env c.O ops fs = true)
    (hlen : fs.length ≤ 1) (h : OneShape c ops fs r) :
    ∃ ms st' found ct, r = .ok (.obj ms) ∧
      decOneofMembers c ops ms { m := [], seen := [] } [] none = .ok (st', found, ct, .closed) ∧
      st'.m = fs ∧ oneofPost ops found ct fs = .ok none ∧
      (OracleWire c.O → Wire.OneofConforms c.env c.O fs ops (.obj ms)) := by
  obtain ⟨hsimple, _, _, _⟩ := oneof_root_facts ops hroot
  cases h with
  | empty hnil =>
    have hfs : fs = [] := by
      rcases length_le_one_cases fs hlen with h | ⟨⟨k0, v0⟩, h⟩
      · exact h
      · exfalso
        subst h
        obtain ⟨p, hfp, _, _⟩ := fieldsOk_mem _ _ ops _ (simple_no_flatten ops hsimple) hfok k0 v0
          List.mem_cons_self
        obtain ⟨hp, hpk⟩ := leafProp_simple c.env ops k0 p hsimple hfp
        have := filter_nil_unset ops _ hnil p hp k0 hpk
        simp [aget] at this
    subst hfs
    refine ⟨_, { m := [], seen := [] }, [], none, rfl, by simp [decOneofMembers], rfl, by simp [oneofPost],
      fun _ => Wire.OneofConforms.empty [] ops fun q hq => ?_⟩
    obtain ⟨k, hk⟩ := propSimple_path q (hsimple q hq)
    rw [hk]; rfl
  | one q k v tlit nlit qlit tv hone hq hqk hag hdec hcf hz hec =>
    have hfs : aset k v ([] : Fields) = fs := by rw [single_store fs k v hlen hag]; rfl
    obtain ⟨hloop, hpost⟩ := decOneof_one c ops hroot q k v tlit nlit qlit tv [] hq hqk hdec hz hec rfl
      (fun _ _ _ _ _ => rfl)
    rw [hfs] at hloop hpost
    exact ⟨_, _, _, _, rfl, hloop, rfl, hpost, fun W => Wire.OneofConforms.set fs ops q v tv tlit nlit qlit hq
      (by rw [hqk]; simpa [getPath] using hag) (others_unset_paths ops fs q k hroot hone hqk) (hcf W)⟩

theorem wrapper_oneof (c : Cfg) (hs : c.env.flat = true) (f : Nat) (R : RTP c f) (ref : String)
    (ops : List PropDef) (fs : Fields) (hfind : c.env.find ref = some (.oneof ops))
    (hfok : fieldsOk c.env c.O ops fs = true) (hlen : fs.length ≤ 1)
    (hd : 5 * depthFields fs + 3 ≤ f) (hM : modeOkF c.protoToAny f c.anyDepth fs = true) :
    ∃ ms st' found ct, encOneofBody c.env c.O f ops fs = .ok (.obj ms) ∧
      decOneofMembers c ops ms { m := [], seen := [] } [] none = .ok (st', found, ct, .closed) ∧
      st'.m = fs ∧ oneofPost ops found ct fs = .ok none ∧
      (OracleWire c.O → Wire.OneofConforms c.env c.O fs ops (.obj ms)) := by
  have hroot := rootFlat_oneof c.env ops (find_rootFlat c.env hs ref _ hfind)
  have hshape := R.one ops fs hroot (find_names_utf8' c.env hs ref ops (Or.inr hfind))
    (oneof_store_le ops fs hroot hlen) (oneof_store_facts c ops fs hroot hfok) hd hM
  exact wrapper_of_shape c ops fs _ hroot hfok hlen hshape

theorem root_of_RTP (c : Cfg) (hs : c.env.flat = true) (root : String) (m : Fields)
    (hok : valOk c.env c.O (.object root) (.msg m) = true ∨ valOk c.env c.O (.oneof root) (.msg m) = true)
    (F : Nat) (R : RTP c F) (hF : 5 * depthFields m + 5 ≤ F)
    (hM : modeOkF c.protoToAny F c.anyDepth m = true) :
    ∃ t, encRoot c.env c.O (F + 1) root (.msg m) = .ok t ∧ decRootTree c root t = .ok m ∧
      (OracleWire c.O → Wire.RootConforms c.env c.O root m t) := by
  rcases hok with hok | hok
  · obtain ⟨fs, props, hv, hfind, hsort, hfok, hgrp, hexp⟩ := valOk_object _ _ root _ hok
    cases hv
    obtain ⟨ms, S, henc, hdec, hcf⟩ := R.obj props m
      (find_rootFlat c.env hs root _ hfind) (find_names_utf8' c.env hs root props (Or.inl hfind))
      hsort hfok hgrp hexp (by omega) hM
    refine ⟨.obj ms, ?_, ?_, fun W => Or.inl ⟨props, ms, hfind, rfl, hcf W⟩⟩
    · show encRoot c.env c.O (F + 1) root (.msg m) = .ok (.obj ms)
      simp only [encRoot, hfind]; exact henc
    · simp [decRootTree, hfind, hdec, finishObject, closeOk]
  · obtain ⟨fs, ops, hv, hfind, _, hfok, hlen⟩ := valOk_oneof _ _ root _ hok
    cases hv
    obtain ⟨ms, st', found, ct, henc, hloop, hm, hpost, hoc⟩ := wrapper_oneof c hs F R root ops m hfind
      hfok hlen (by omega) hM
    refine ⟨.obj ms, by simp only [encRoot, hfind]; exact henc, ?_, fun W => Or.inr ⟨ops, hfind, hoc W⟩⟩
    simp [decRootTree, hfind, hloop, finishOneof, closeOk, hpost, applyPost, hm]

theorem of_ok_unique {α : Type} {a : Outcome α} {P : α → Prop} (h : ∃ t, a = .ok t ∧ P t) {t' : α}
    (h' : a = .ok t') : P t' := by
  obtain ⟨t, ht, hp⟩ := h
  rw [ht] at h'; cases h'; exact hp

theorem scalarNode_facts (c : Cfg) (L : OracleLaws c.O) (k : ScalarKind) (v : PVal)
    (hsok : scalarOk c.O k v = true) :
    ∃ t, scalarNode c.O k v = .ok t ∧ Dec c (.scalar k) v t ∧
      (OracleWire c.O → Wire.Conforms c.env c.O (.scalar k) v t) := by
  obtain ⟨t, _, ht, _⟩ := scalarNode_roundtrip c.O L k v hsok
  refine ⟨t, ht, Dec_scalar c L k v t hsok ht, fun W => ?_⟩
  obtain ⟨t', ht', hc⟩ := scalar_conforms c.O L k (fun _ => W) v hsok
  rw [ht] at ht'; cases ht'
  exact Wire.Conforms.scalar k v t hc

theorem RTP_val (c : Cfg) (hs : c.env.flat = true) (L : OracleLaws c.O) (f : Nat)
    (ih : ∀ f' < f + 1, RTP c f')
    (ihD : ∀ f' < f + 1, RTP { c with anyDepth := c.anyDepth + 1 } f') :
    ∀ fld v, fieldSimple fld = true → valOk c.env c.O fld v = true → 5 * v.depth + 1 ≤ f + 1 →
      modeOk c.protoToAny (f + 1) c.anyDepth v = true →
      ∃ t, encValue c.env c.O (f + 1) fld v = .ok t ∧ Dec c fld v t ∧
        (OracleWire c.O → Wire.Conforms c.env c.O fld v t) := by
  intro fld v hfs hok hd hM
  cases fld with
  | scalar k =>
    obtain ⟨t, ht, hdec, hcf⟩ := scalarNode_facts c L k v (valOk_scalar _ _ k v hok)
    exact ⟨t, by simp only [encValue]; exact ht, hdec, hcf⟩
  | «enum» ref =>
    obtain ⟨n, pfx, opts, rfl, hfind, hsome⟩ := valOk_enum _ _ ref v hok
    cases hn : optionByNumber opts n with
    | none => simp [hn] at hsome
    | some name =>
      have hroot := rootFlat_enum c.env pfx opts (find_rootFlat c.env hs ref _ hfind)
      simp only [rootSimple, Bool.and_eq_true, decide_eq_true_eq] at hroot
      have hmem := optionByNumber_pair opts n name hn
      obtain ⟨lit, hl⟩ := strNode_ok name (List.all_eq_true.mp hroot.2 (name, n) hmem)
      exact ⟨_, by simp only [encValue, hfind, hn]; exact hl,
        Dec_enum c ref pfx opts n name lit hfind (enum_roundtrip pfx opts hroot.1.1 n name hn),
        fun _ => Wire.Conforms.enum ref pfx opts n name lit hfind hmem⟩
  | object ref =>
    obtain ⟨fs, props, rfl, hfind, hsort, hfok, hgrp, hexp⟩ := valOk_object _ _ ref v hok
    simp only [PVal.depth] at hd
    obtain ⟨ms, S, henc, hdec, hcf⟩ := (ih f (Nat.lt_succ_self f)).obj props fs
      (find_rootFlat c.env hs ref _ hfind) (find_names_utf8' c.env hs ref props (Or.inl hfind))
      hsort hfok hgrp hexp (by omega)
      (modeOkF_anti c.protoToAny (f + 1) f (Nat.le_succ f) fs _ (by simpa [modeOk] using hM))
    exact ⟨.obj ms, by simp only [encValue, hfind]; exact henc, Dec_object c ref props fs ms S hfind hdec,
      fun W => Wire.Conforms.object ref props fs ms hfind (hcf W)⟩
  | oneof ref =>
    obtain ⟨fs, ops, rfl, hfind, _, hfok, hlen⟩ := valOk_oneof _ _ ref v hok
    simp only [PVal.depth] at hd
    obtain ⟨ms, st', found, ct, henc, hloop, hm, hpost, hoc⟩ := wrapper_oneof c hs f
      (ih f (Nat.lt_succ_self f)) ref ops fs hfind hfok hlen (by omega)
      (modeOkF_anti c.protoToAny (f + 1) f (Nat.le_succ f) fs _ (by simpa [modeOk] using hM))
    exact ⟨.obj ms, by simp only [encValue, hfind]; exact henc,
      Dec_oneof c ref ops fs ms st' found ct hfind hloop hm hpost,
      fun W => Wire.Conforms.oneof ref ops fs _ hfind (hoc W)⟩
  | any pb =>
    cases pb with
    | false =>
      obtain ⟨tn, j5, V, rfl, hna, hu, hj, hch, hr, hc, hd'⟩ := valOk_any _ _ v hok
      have hmode : c.protoToAny = false := by simpa [modeOk] using hM
      obtain ⟨tlit, nlit, vlit, he⟩ := enc_any_j5 c.env c.O f tn [] j5 .none "" (.msg []) hj hu
      rw [chunkNode_some c.O j5 V hch hr] at he
      refine ⟨_, he, ?_, fun _ => Wire.Conforms.anyJ5 tn [] j5 .none "" (.msg []) tlit nlit vlit V
        hj hr⟩
      have := Dec_any c hmode tn tlit nlit vlit V hc hd'
      rw [hr] at this; exact this
    | true =>
      -- the content is a whole message: `root_of_RTP` one `Any` level deeper (`ihD`) at the smaller fuel; the
      -- decoder's `popValueAsBytes` wants the subtree complete and ≤ 10000 deep: `modeOk` caps the fuel (`hcap`)
      -- and forbids `j5_json` inside, and then the tree is no deeper than the fuel (`TD_all`)
      obtain ⟨tn, iroot, fs, rfl, hne, hu, hres, hiok⟩ := valOk_anyPb _ _ v hok
      simp only [PVal.depth] at hd
      simp only [modeOk, Bool.and_eq_true, decide_eq_true_eq] at hM
      obtain ⟨⟨⟨hmode, hdepth⟩, hcap⟩, hMi⟩ := hM
      obtain ⟨F, rfl⟩ : ∃ F, f = F + 1 := ⟨f - 1, by omega⟩
      have hMi' : modeOkF c.protoToAny F (c.anyDepth + 1) fs = true :=
        modeOkF_anti c.protoToAny (F + 1 + 1) F (by omega) fs _ (by simpa [modeOk] using hMi)
      obtain ⟨data, henc, hdec, hrc⟩ := root_of_RTP { c with anyDepth := c.anyDepth + 1 } hs iroot fs hiok F
        (ihD F (by omega)) (by omega) hMi'
      have hn5 : (PVal.msg fs).noJ5 = true := by
        have hMt : modeOkF true F (c.anyDepth + 1) fs = true := by
          have h := hMi'
          rw [hmode] at h
          exact h
        have := modeOkF_noJ5 F (c.anyDepth + 1) fs hMt
        simpa [PVal.noJ5] using this
      obtain ⟨hdd, hcc⟩ := (TD_all c.env c.O (F + 1)).root iroot (.msg fs) data hn5 henc
      obtain ⟨tlit, nlit, vlit, he⟩ := enc_any_pb c.env c.O F (anyPrefixB ++ tn) [] iroot (.msg fs) data
        henc (by rw [anyPrefixB_eq, trimPrefix_append]; exact hu)
      rw [anyPrefixB_eq, trimPrefix_append] at he
      refine ⟨_, he, ?_, fun W => ?_⟩
      · exact Dec_anyPb c hmode hdepth tn tlit nlit vlit data iroot fs hcc (by omega) hres hdec hne
      · rcases hrc W with ⟨props, ms, hfind, rfl, hmc⟩ | ⟨ops, hfind, hoc⟩
        · exact Wire.Conforms.anyPbObj [] tn iroot fs props tlit nlit vlit ms hres hfind hmc
        · exact Wire.Conforms.anyPbOne [] tn iroot fs ops tlit nlit vlit data hres hfind hoc
  | array item =>
    obtain ⟨xs, rfl, hlok⟩ := valOk_array _ _ item v hok
    have hi : itemSimple item = true := by simpa [fieldSimple] using hfs
    simp only [PVal.depth] at hd
    have hall : ∀ x ∈ xs, ∃ t, encValue c.env c.O f item x = .ok t ∧ Dec c item x t ∧
        (OracleWire c.O → Wire.Conforms c.env c.O item x t) := by
      intro x hx
      have hdx := depthList_mem xs x hx
      exact (ih f (Nat.lt_succ_self f)).val item x (itemSimple_field item hi)
        (listOk_mem _ _ item xs hlok x hx) (by omega)
        (modeOk_anti c.protoToAny (f + 1) f (Nat.le_succ f) x _
          (modeOk_mem_list _ _ _ xs x (by simpa [modeOk] using hM) hx))
    obtain ⟨ts, hts⟩ := Outcome.seq_exists_ok (encValue c.env c.O f item) xs
      (fun x hx => by obtain ⟨t, ht, _⟩ := hall x hx; exact ⟨t, ht⟩)
    have hdec := decElems_all c item hi (encValue c.env c.O f item) xs ts []
      (fun x hx t' ht' => (of_ok_unique (hall x hx) ht').1) hts
    simp only [List.nil_append] at hdec
    refine ⟨.arr (elemsOf ts), ?_, Dec_array c item hi xs ts hdec, ?_⟩
    · rw [encValue_array_eq, if_pos hi]; simp only [hts]; rfl
    · intro W
      exact Wire.Conforms.array item xs _ (elemsConform_of_all c.env c.O item _ xs ts hts
        (fun x hx t' ht' => (of_ok_unique (hall x hx) ht').2 W))
  | map item =>
    obtain ⟨kvs, rfl, hmok⟩ := valOk_map _ _ item v hok
    have hi : itemSimple item = true := by simpa [fieldSimple] using hfs
    simp only [PVal.depth] at hd
    have hall : ∀ kv ∈ kvs, valOk c.env c.O item kv.2 = true →
        ∃ t, encValue c.env c.O f item kv.2 = .ok t ∧ Dec c item kv.2 t ∧
          (OracleWire c.O → Wire.Conforms c.env c.O item kv.2 t) := by
      intro kv hkv hv
      have hdx := depthMap_mem kvs kv.1 kv.2 hkv
      exact (ih f (Nat.lt_succ_self f)).val item kv.2 (itemSimple_field item hi) hv (by omega)
        (modeOk_anti c.protoToAny (f + 1) f (Nat.le_succ f) kv.2 _
          (modeOk_mem_map _ _ _ kvs kv.1 kv.2 (by simpa [modeOk] using hM) hkv))
    obtain ⟨os, hos⟩ := Outcome.seq_exists_ok
      (fun kv : Bytes × PVal => member kv.1 (encValue c.env c.O f item kv.2)) kvs (by
      intro kv hkv
      obtain ⟨hu, hv⟩ := mapOk_mem _ _ item kvs [] hmok kv hkv
      obtain ⟨t, ht, _⟩ := hall kv hkv hv
      obtain ⟨lit, hl⟩ := member_ok kv.1 t hu
      exact ⟨_, by rw [ht]; exact hl⟩)
    have hdec := decMapMembers_all c item hi (encValue c.env c.O f item) kvs os [] []
      (fun kv hkv t' hxok ht' => (of_ok_unique (hall kv hkv hxok) ht').1)
      hos hmok (fun _ _ => rfl)
    simp only [List.nil_append] at hdec
    refine ⟨.obj (membersOfSet os), ?_, Dec_map c item hi kvs _ hdec, ?_⟩
    · rw [encValue_map_eq, if_pos hi]; simp only [hos]; rfl
    · intro W
      exact Wire.Conforms.map item kvs _ (mapConform_of_all c.env c.O item _ kvs os hos
        (fun kv hkv t' ht' =>
          (of_ok_unique (hall kv hkv (mapOk_mem _ _ item kvs [] hmok kv hkv).2) ht').2 W))


/-- `GetValue` on an exposed oneof: exactly one member's field is populated -/
theorem hasProp_exposed (env : Env) (f : Nat) (p : PropDef) (ref : String) (ops : List PropDef)
    (fs : Fields) (hp0 : p.path = []) (hpf : p.field = .oneof ref)
    (hfind : env.find ref = some (.oneof ops)) (hroot : rootSimple (.oneof ops) = true) :
    hasProp env (f + 2) p fs = ((ops.filter (isSet fs)).length == 1) := by
  rw [hasProp, hp0]
  simp only [hpf, hfind]
  have := oneofSet_eq env f ops fs hroot
  unfold oneofSet at this
  rw [this]

theorem objMember_spec (c : Cfg) (f : Nat)
    (ih : ∀ f' < f + 3, RTP c f') (props : List PropDef) (fs : Fields)
    (hroot : rootFlat c.env (.object props) = true)
    (hutf : ∀ p ∈ props, isValidUtf8 p.jsonName = true) (hsort : asorted fs = true)
    (hfok : fieldsOk c.env c.O props fs = true) (hexp : exposedOk c.env props fs = true)
    (hd : 5 * depthFields fs + 5 ≤ f + 3)
    (hM : modeOkF c.protoToAny (f + 3) c.anyDepth fs = true)
    (hfindroot : ∀ ref ops, c.env.find ref = some (.oneof ops) →
      rootSimple (.oneof ops) = true ∧ ∀ q ∈ ops, isValidUtf8 q.jsonName = true)
    (p : PropDef) (hp : p ∈ props) :
    ∃ r, objMember c.env c.O (f + 2) props fs p = .ok r ∧ MemberSpecF c fs p r := by
  obtain ⟨hkinds, hnames, _, _⟩ := object_root_facts c.env props hroot
  rw [objMember_eq c.env c.O (f + 2) props fs p p (findProp_self props hnames p hp)]
  rcases hkinds p hp with hflat | hexposed
  · -- an ordinary or flattened property
    obtain ⟨hpne, hfs⟩ := propFlat_inv p hflat
    rw [encField_path_eq c.env c.O (f + 1) p fs hpne]
    cases hget : getPath fs p.path with
    | none => exact ⟨none, rfl, MemberSpecF.unset hpne hget⟩
    | some v =>
      simp only []
      obtain ⟨_, hvok, hz, hdv⟩ := fieldsOk_leaf c.env c.O props fs hroot hfok hsort p hp hpne v hget
      obtain ⟨t, ht, hdec, hcf⟩ := (ih (f + 1) (by omega)).val p.field v hfs hvok (by omega)
        (modeOk_anti _ _ _ (by omega) v _ (modeOk_getPath _ _ _ p.path fs v hM hget))
      rw [ht]
      obtain ⟨lit, hl⟩ := member_ok p.jsonName t (hutf p hp)
      exact ⟨_, hl, MemberSpecF.leaf v lit t hpne hget hdec hcf hz (valOk_not_emptyColl _ _ _ _ hvok)⟩
  · -- an exposed oneof
    obtain ⟨hp0, hpg, ref, ops, hpf, hfind⟩ := propExposed_inv c.env p hexposed
    obtain ⟨hopsroot, hopsutf⟩ := hfindroot ref ops hfind
    have hops : exposedOps c.env p = ops := exposedOps_eq c.env p ref ops hp0 hpf hfind
    have hle : (ops.filter (isSet fs)).length ≤ 1 := by
      have := List.all_eq_true.mp hexp p hp
      rw [hops] at this
      simpa using this
    have hvals := hops ▸ fieldsOk_exposed c.env c.O props fs hroot hfok hsort p hp hp0
    have hshape := (ih (f + 1) (by omega)).one ops fs hopsroot hopsutf hle hvals (by omega)
      (modeOkF_anti _ _ _ (by omega) fs _ hM)
    rw [encField_exposed_eq c.env c.O (f + 1) p fs hp0]
    simp only [hpf, hfind]
    rw [hasProp_exposed c.env f p ref ops fs hp0 hpf hfind hopsroot]
    have hpaths_inv : ∀ x ∈ propPaths c.env p, ∃ q ∈ ops, ∃ k, q.path = [k] ∧ x = [k] := by
      intro x hx
      obtain ⟨b, hb, rfl⟩ := List.mem_map.mp hx
      obtain ⟨q, k, hq, hqk, rfl⟩ := propLeaves_exposed_inv c.env p b hp0 hb
      rw [hops] at hq
      exact ⟨q, hq, k, hqk, rfl⟩
    generalize encOneofBody c.env c.O (f + 1) ops fs = r at hshape
    cases hshape with
    | empty hnil =>
      refine ⟨none, by simp [hnil, Outcome.bind], MemberSpecF.exposedUnset hp0 ?_⟩
      · intro q hq
        rw [hops] at hq
        obtain ⟨k, hk⟩ := propSimple_path q ((oneof_root_facts ops hopsroot).1 q hq)
        rw [hk]; simpa [getPath] using filter_nil_unset ops fs hnil q hq k hk
    | one q k v tlit nlit qlit tv hone hq hqk hag hdec hcf hz hec =>
      obtain ⟨lit, hl⟩ := member_ok p.jsonName
        (.obj (.cons typeKey tlit (.str q.jsonName nlit) (.cons q.jsonName qlit tv (.nil .closed))))
        (hutf p hp)
      refine ⟨_, by simp only [hone, List.length_singleton, beq_self_eq_true, if_true]; exact hl,
        MemberSpecF.exposedSet ref ops q k v lit tlit nlit qlit tv hp0 hpg hpf hfind hopsroot hq hqk hag
          ?_ hdec hcf hz hec⟩
      intro x hx hne
      obtain ⟨q', hq', k', hq'k, rfl⟩ := hpaths_inv x hx
      have hkk : k' ≠ k := fun e => hne (by rw [e])
      simpa [getPath] using filter_one_others ops fs q k hone hqk q' hq' k' hq'k hkk

/-- the members written for a property list conform: one member per set property, in order -/
theorem membersConform_of_specs (c : Cfg) (fs : Fields) (W : OracleWire c.O)
    (g : PropDef → Outcome (Option (Bytes × Bytes × PTree))) :
    ∀ (ps : List PropDef) (os : List (Option (Bytes × Bytes × PTree))),
      (∀ p ∈ ps, ∀ r, g p = .ok r → MemberSpecF c fs p r) → Outcome.seq g ps = .ok os →
      Wire.MembersConform c.env c.O fs ps (membersOfSet os)
  | [], _, _, h => by cases h; exact Wire.MembersConform.nil fs
  | p :: ps, _, hspec, h => by
    obtain ⟨o, os, rfl, hg, hrest⟩ := Outcome.seq_cons_ok.mp h
    have ih := membersConform_of_specs c fs W g ps os
      (fun q hq => hspec q (List.mem_cons_of_mem _ hq)) hrest
    cases hspec p List.mem_cons_self o hg with
    | unset hpne hget => exact Wire.MembersConform.skip fs p ps _ hpne hget ih
    | exposedUnset hp0 hall => exact Wire.MembersConform.skipExposed fs p ps _ hp0 hall ih
    | leaf v lit t hpne hget hdec hcf hz hec =>
      exact Wire.MembersConform.emit fs p ps v t lit _ hpne hget (hcf W) ih
    | exposedSet ref ops q k v lit tlit nlit qlit tv hp0 hpg hpf hfind hroot hq hqk hag hoth hdec hcf hz hec =>
      have hops : exposedOps c.env p = ops := exposedOps_eq c.env p ref ops hp0 hpf hfind
      obtain ⟨hsimple, _, _, _⟩ := oneof_root_facts ops hroot
      refine Wire.MembersConform.emitExposed fs p ps _ lit _ hp0
        ⟨q, by rw [hops]; exact hq, by rw [hqk]; simp [getPath, hag]⟩ ?_ ih
      rw [hops]
      refine Wire.OneofConforms.set fs ops q v tv tlit nlit qlit hq
        (by rw [hqk]; simpa [getPath] using hag) ?_ (hcf W)
      intro q' hq' hne
      obtain ⟨k', hk'⟩ := propSimple_path q' (hsimple q' hq')
      rw [hk']
      apply hoth
      · unfold propPaths
        exact List.mem_map.mpr ⟨_, propLeaves_exposed_mem c.env p q' k' hp0 (by rw [hops]; exact hq') hk', rfl⟩
      · intro e; apply hne; rw [hk', hqk]; exact e

theorem RTP_obj (c : Cfg) (hs : c.env.flat = true) (f : Nat)
    (ih : ∀ f' < f + 1, RTP c f') :
    ∀ props fs, rootFlat c.env (.object props) = true →
      (∀ p ∈ props, isValidUtf8 p.jsonName = true) → asorted fs = true →
      fieldsOk c.env c.O props fs = true → groupsOk props fs = true → exposedOk c.env props fs = true →
      5 * depthFields fs + 5 ≤ f + 1 → modeOkF c.protoToAny (f + 1) c.anyDepth fs = true →
      ∃ ms S, encObjectBody c.env c.O (f + 1) props fs = .ok (.obj ms) ∧
        decObjMembers c props ms { m := [], seen := [] } = .ok ({ m := fs, seen := S }, .closed) ∧
        (OracleWire c.O → Wire.MembersConform c.env c.O fs props ms) := by
  intro props fs hroot hutf hsort hfok hgrp hexp hd hM
  obtain ⟨_, hnames, hpathsnd, _⟩ := object_root_facts c.env props hroot
  obtain ⟨f2, rfl⟩ : ∃ f2, f = f2 + 2 := ⟨f - 2, by omega⟩
  have hfindroot : ∀ ref ops, c.env.find ref = some (.oneof ops) →
      rootSimple (.oneof ops) = true ∧ ∀ q ∈ ops, isValidUtf8 q.jsonName = true :=
    fun ref ops hfind => ⟨rootFlat_oneof c.env ops (find_rootFlat c.env hs ref _ hfind),
      find_names_utf8' c.env hs ref ops (Or.inr hfind)⟩
  have hspec := objMember_spec c f2 ih props fs hroot hutf hsort hfok hexp hd hM hfindroot
  have hspec' : ∀ p ∈ props, ∀ r, objMember c.env c.O (f2 + 2) props fs p = .ok r → MemberSpecF c fs p r :=
    fun p hp r hr => by
      obtain ⟨r', hr', hsp⟩ := hspec p hp
      rw [hr'] at hr; cases hr; exact hsp
  have hsf := StoreFacts.of_ok c.env c.O props fs hroot hsort hfok hgrp
  obtain ⟨os, hos⟩ := Outcome.seq_exists_ok (objMember c.env c.O (f2 + 2) props fs) props
    (fun p hp => by obtain ⟨r, hr, _⟩ := hspec p hp; exact ⟨r, hr⟩)
  have hpnd := propPaths_flat_nodup c.env props hpathsnd
  obtain ⟨seen', hdec⟩ := decObjMembers_enc c props fs hnames hpnd hsf hfok
    (objMember c.env c.O (f2 + 2) props fs) hspec' os hos
  refine ⟨membersOf os.reduceOption, seen', ?_, hdec, ?_⟩
  · rw [encObjectBody_eq, hos]; rfl
  · intro W
    exact membersConform_of_specs c fs W (objMember c.env c.O (f2 + 2) props fs) props os
      hspec' hos

/-- **structure-level round trip with progress**, all fuels, all codec configurations over the same
environment (the protobuf-`Any` case uses the facts at `anyDepth + 1`) -/
theorem RTP_all' (env : Env) (O : Oracle) (mode : Bool) (hs : env.flat = true) (L : OracleLaws O) :
    ∀ f d, RTP { env := env, O := O, protoToAny := mode, anyDepth := d } f := by
  intro f
  induction f using Nat.strongRecOn with
  | _ f ih =>
    intro d
    cases f with
    | zero =>
      refine ⟨?_, ?_, ?_⟩
      · intro fld v _ _ h; omega
      · intro props fs _ _ _ _ _ _ h; omega
      · intro ops fs _ _ _ _ h; omega
    | succ f =>
      exact ⟨RTP_val { env := env, O := O, protoToAny := mode, anyDepth := d } hs L f
          (fun f' h => ih f' h d) (fun f' h => ih f' h (d + 1)),
        RTP_obj { env := env, O := O, protoToAny := mode, anyDepth := d } hs f (fun f' h => ih f' h d),
        RTP_one { env := env, O := O, protoToAny := mode, anyDepth := d } f (fun f' h => ih f' h d)⟩

theorem RTP_all (c : Cfg) (hs : c.env.flat = true) (L : OracleLaws c.O) : ∀ f, RTP c f :=
  fun f => RTP_all' c.env c.O c.protoToAny hs L f c.anyDepth

/-- **C01 and C08 on trees, flat environments**, at every sufficient fuel -/
theorem root_flat (c : Cfg) (hs : c.env.flat = true) (L : OracleLaws c.O) (root : String) (m : Fields)
    (hok : valOk c.env c.O (.object root) (.msg m) = true ∨ valOk c.env c.O (.oneof root) (.msg m) = true)
    (F : Nat) (hF : 6 * (depthFields m + 1) + 9 ≤ F)
    (hM : modeOkF c.protoToAny F c.anyDepth m = true) :
    ∃ t, encRoot c.env c.O (F + 1) root (.msg m) = .ok t ∧ decRootTree c root t = .ok m ∧
      (OracleWire c.O → Wire.RootConforms c.env c.O root m t) :=
  root_of_RTP c hs root m hok F (RTP_all c hs L F) (by omega) hM

end J5V.Codec
