import J5V.Go.Outcome
import J5V.Codec.Value
import J5V.Json.Token
import J5V.Json.Tree
/-!
# Scalars: `scalarGoFromReflect` / `encodeScalarField` and `scalarReflectFromGo`

Mirrors `/repo/lib/j5reflect/value_go.go`, `internal/codec/structure_encode.go`
(`encodeScalarField`), `internal/codec/encoder.go` (`addInt32` …), `j5types/date_j5t/date.go`
(`DateString`, `DateFromString`), `lib/j5schema/root_schema.go` (`OptionByName/ByNumber`) and the
library functions on the way: `strconv.ParseInt/ParseUint/Atoi/FormatInt`, `encoding/base64`
(`StdEncoding`), `fmt` `%04d` / `%02d`.

Floats, timestamps and decimals are **oracle** types (DESIGN §2.1): their text ↔ value functions
(`strconv.FormatFloat/ParseFloat`, `time.Format/Parse`, `decimal.NewFromString/String`) are the
fields of `Oracle`; theorems that need their round-trip law take it as a hypothesis.
-/
namespace J5V.Codec
open J5V.Go J5V.Json

/-! ## strconv -/

def natDigitsAux : Nat → Nat → Bytes → Bytes
  | 0, _, acc => acc
  | fuel + 1, n, acc =>
    if n < 10 then UInt8.ofNat (48 + n) :: acc
    else natDigitsAux fuel (n / 10) (UInt8.ofNat (48 + n % 10) :: acc)

/-- `strconv.FormatUint(n, 10)` -/
def fmtNat (n : Nat) : Bytes := natDigitsAux (n + 1) n []

/-- `strconv.FormatInt(v, 10)` -/
def fmtInt (v : Int) : Bytes :=
  if v < 0 then 0x2D :: fmtNat v.natAbs else fmtNat v.toNat

/-- all bytes are ASCII digits, at least one: the value (`ParseUint` digit loop, unbounded) -/
def parseDigits : Bytes → Option Nat
  | [] => none
  | s => s.foldl (fun acc c =>
      match acc with
      | none => none
      | some n => if isDigit c then some (n * 10 + (c.toNat - 48)) else none) (some 0)

/-- `strconv.ParseUint(s, 10, bits)`: `none` = `ErrSyntax` or `ErrRange` -/
def parseUint (s : Bytes) (bits : Nat) : Option Nat :=
  match parseDigits s with
  | some n => if n < 2 ^ bits then some n else none
  | none => none

/-- `strconv.ParseInt(s, 10, bits)` (also `Atoi` = `ParseInt(s, 10, 0)` with `int` = 64 bits,
whose fast path accepts and rejects the same strings) -/
def parseInt (s : Bytes) (bits : Nat) : Option Int :=
  match s with
  | [] => none
  | c :: rest =>
    let (neg, body) : Bool × Bytes :=
      if c = 0x2B then (false, rest) else if c = 0x2D then (true, rest) else (false, s)
    match parseDigits body with
    | none => none
    | some n =>
      if neg then (if n ≤ 2 ^ (bits - 1) then some (-(n : Int)) else none)
      else (if n < 2 ^ (bits - 1) then some (n : Int) else none)

/-- Go's `int32(x)` conversion of an `int` -/
def wrapInt32 (v : Int) : Int := (v + 2 ^ 31) % 2 ^ 32 - 2 ^ 31

/-! ## base64 (`encoding/base64.StdEncoding`) -/

def b64Char (v : Nat) : UInt8 :=
  if v < 26 then UInt8.ofNat (65 + v)
  else if v < 52 then UInt8.ofNat (97 + (v - 26))
  else if v < 62 then UInt8.ofNat (48 + (v - 52))
  else if v = 62 then 0x2B else 0x2F

def b64Val (c : UInt8) : Option Nat :=
  let n := c.toNat
  if 65 ≤ n ∧ n ≤ 90 then some (n - 65)
  else if 97 ≤ n ∧ n ≤ 122 then some (n - 97 + 26)
  else if 48 ≤ n ∧ n ≤ 57 then some (n - 48 + 52)
  else if n = 0x2B then some 62
  else if n = 0x2F then some 63
  else none

/-- `StdEncoding.EncodeToString` -/
def b64Encode : Bytes → Bytes
  | [] => []
  | [a] =>
    let n := a.toNat
    [b64Char (n / 4), b64Char (n % 4 * 16), 0x3D, 0x3D]
  | [a, b] =>
    let n := a.toNat * 256 + b.toNat
    [b64Char (n / 1024), b64Char (n / 16 % 64), b64Char (n % 16 * 4), 0x3D]
  | a :: b :: c :: rest =>
    let n := a.toNat * 65536 + b.toNat * 256 + c.toNat
    b64Char (n / 262144) :: b64Char (n / 4096 % 64) :: b64Char (n / 64 % 64) :: b64Char (n % 64)
      :: b64Encode rest

def isNl (c : UInt8) : Bool := c = 0x0A || c = 0x0D

def skipNl : Bytes → Bytes
  | [] => []
  | c :: rest => if isNl c then skipNl rest else c :: rest

/-- `StdEncoding.DecodeString` (non-strict: `\r` / `\n` are skipped, trailing bits ignored).
`acc` = sextets of the current quantum, most significant first. -/
def b64Decode : Bytes → List Nat → Option Bytes
  | [], acc => if acc.isEmpty then some [] else none
  | c :: rest, acc =>
    match b64Val c with
    | some v =>
      match acc with
      | [x, y, z] =>
        let n := x * 262144 + y * 4096 + z * 64 + v
        match b64Decode rest [] with
        | some out =>
          some (UInt8.ofNat (n / 65536) :: UInt8.ofNat (n / 256 % 256) :: UInt8.ofNat (n % 256) :: out)
        | none => none
      | _ => b64Decode rest (acc ++ [v])
    | none =>
      if isNl c then b64Decode rest acc
      else if c = 0x3D then
        match acc with
        | [x, y] =>
          -- "==" expected
          match skipNl rest with
          | p :: rest2 =>
            if p = 0x3D ∧ (skipNl rest2).isEmpty then some [UInt8.ofNat ((x * 64 + y) / 16)] else none
          | [] => none
        | [x, y, z] =>
          if (skipNl rest).isEmpty then
            let n := x * 4096 + y * 64 + z
            some [UInt8.ofNat (n / 1024), UInt8.ofNat (n / 4 % 256)]
          else none
        | _ => none
      else none

/-- `byteValueFromString`: `-`→`+`, `_`→`/`, re-pad to a multiple of four, std decode. -/
def byteValueFromString (s : Bytes) : Option Bytes :=
  let s1 := s.map fun c => if c = 0x2D then 0x2B else if c = 0x5F then 0x2F else c
  let s2 := if s1.length % 4 ≠ 0 then s1 ++ List.replicate (4 - s1.length % 4) 0x3D else s1
  b64Decode s2 []

/-! ## dates -/

/-- `fmt.Sprintf("%04d", v)`: zero-padded to width 4, the sign counts towards the width
(`-5` ↦ `-005`) -/
def fmtZero4 (v : Int) : Bytes :=
  if v < 0 then
    let d := fmtNat v.natAbs
    0x2D :: (List.replicate (3 - d.length) 0x30 ++ d)
  else
    let d := fmtNat v.toNat
    List.replicate (4 - d.length) 0x30 ++ d

/-- `fmt.Sprintf("%02d", v)`: zero-padded to width 2, the sign counts towards the width -/
def fmtZero2 (v : Int) : Bytes :=
  if 0 ≤ v ∧ v < 10 then 0x30 :: fmtInt v else fmtInt v

/-- `Date.DateString()` = `fmt.Sprintf("%04d-%02d-%02d", y, m, d)` -/
def dateString (y m d : Int) : Bytes :=
  fmtZero4 y ++ [0x2D] ++ fmtZero2 m ++ [0x2D] ++ fmtZero2 d

/-- `strings.Split(s, "-")` -/
def splitDash : Bytes → List Bytes
  | [] => [[]]
  | c :: rest =>
    match splitDash rest with
    | [] => [[]]   -- unreachable: `splitDash` never returns `[]`
    | h :: t => if c = 0x2D then [] :: h :: t else (c :: h) :: t

/-- Go's `isLeap` (proleptic Gregorian; `%` truncates towards zero, which does not matter for
divisibility) -/
def isLeapYear (y : Int) : Bool := y % 4 == 0 && (y % 100 != 0 || y % 400 == 0)

/-- number of days of a month, `1 ≤ m ≤ 12` -/
def daysInMonth (y m : Int) : Int :=
  if m = 2 then (if isLeapYear y then 29 else 28)
  else if m = 4 ∨ m = 6 ∨ m = 9 ∨ m = 11 then 30
  else 31

/-- `DateFromString`: three `-`-separated `Atoi`s; the year must fit `int32`, the month is 1–12,
the day 1–31 and `time.Date(y, m, d).Day() == d`, i.e. the day exists in that month. -/
def dateFromString (s : Bytes) : Option (Int × Int × Int) :=
  match splitDash s with
  | [a, b, c] =>
    match parseInt a 64, parseInt b 64, parseInt c 64 with
    | some y, some m, some d =>
      if y < -2147483648 ∨ y > 2147483647 then none
      else if m < 1 ∨ m > 12 ∨ d < 1 ∨ d > 31 then none
      else if d > daysInMonth y m then none
      else some (y, m, d)
    | _, _, _ => none
  | _ => none

/-! ## enums -/

/-- `strings.TrimPrefix` -/
def trimPrefix (s pfx : Bytes) : Bytes :=
  match stripPrefix pfx s with
  | some r => r
  | none => s

/-- `EnumSchema.OptionByName` -/
def optionByName (pfx : Bytes) (opts : List (Bytes × Int)) (name : Bytes) : Option Int :=
  let short := trimPrefix name pfx
  (opts.find? fun o => o.1 == short).map (·.2)

/-- `enumOptionByName` (`lib/j5reflect/type_enum.go`): the name as written first, then with the
enum's prefix removed -/
def enumOptionByName (pfx : Bytes) (opts : List (Bytes × Int)) (name : Bytes) : Option Int :=
  match opts.find? fun o => o.1 == name with
  | some o => some o.2
  | none => optionByName pfx opts name

/-- `EnumSchema.OptionByNumber` -/
def optionByNumber (opts : List (Bytes × Int)) (n : Int) : Option Bytes :=
  (opts.find? fun o => o.2 == n).map (·.1)

/-! ## oracle types -/

structure Oracle where
  /-- `strconv.FormatFloat(v, 'g', -1, 64)` of the float64 with these bits -/
  fmtF64 : Nat → Bytes
  /-- `strconv.FormatFloat(float64(v), 'g', -1, 32)` of the float32 with these bits -/
  fmtF32 : Nat → Bytes
  /-- `strconv.ParseFloat(text, 64)`: float64 bits and the bits of `float32(v)`, or `none` for the
  latter when `v` is finite and `float32(v)` overflows to ±Inf -/
  parseFloat : Bytes → Option (Nat × Option Nat)
  /-- `time.Unix(secs, nanos).In(time.UTC).Format(time.RFC3339Nano)` -/
  fmtTime : Int → Int → Bytes
  /-- `time.Parse(time.RFC3339, text)` as `timestamppb.New(t).{Seconds,Nanos}` -/
  parseTime : Bytes → Option (Int × Int)
  /-- `decimal.NewFromString(text)` then `.String()` -/
  parseDec : Bytes → Option Bytes
  /-- SPECIFICATION SIDE ONLY (the driver never sets it, the decoder never reads it): recognises the
  `j5_json` chunks a theorem speaks about and gives their parsed form. The encoder model keeps a
  recognised chunk in its tree in parsed form instead of as one `raw` node *only if it renders to
  exactly the same bytes* (`chunkNode`), so the bytes the model writes do not depend on this field
  (`chunkNode_render`). -/
  chunk : Bytes → Option J5V.Json.PTree := fun _ => none

instance : Inhabited Oracle :=
  ⟨⟨fun _ => [], fun _ => [], fun _ => none, fun _ _ => [], fun _ => none, fun _ => none, fun _ => none⟩⟩

/-- the node the encoder model puts into its tree for the `j5_json` bytes of an `Any`: one `raw`
chunk, or — same bytes — the parsed form when the specification-side oracle recognises it. -/
def chunkNode (O : Oracle) (bs : Bytes) : J5V.Json.PTree :=
  match O.chunk bs with
  | some V => if V.render = bs then V else .raw bs
  | none => .raw bs

theorem chunkNode_render (O : Oracle) (bs : Bytes) : (chunkNode O bs).render = bs := by
  unfold chunkNode
  split
  · split
    · assumption
    · rfl
  · rfl

/-! ## encode -/

/-- what the encoder writes for a scalar: a JSON string (to be escaped by `appendString`) or a
bare literal -/
inductive ScalarOut where
  | quoted (s : Bytes)
  | bare (text : Bytes)
  deriving Repr, DecidableEq

/-- `addFloat`: NaN, +Inf and -Inf are written as the quoted strings protojson uses; finite values
as the bare `strconv.FormatFloat(v, 'g', -1, bits)` text -/
def nonFinite (neg expAllOnes mantZero : Bool) (text : Bytes) : ScalarOut :=
  if expAllOnes then
    (if mantZero then (if neg then .quoted (ascii "-Infinity") else .quoted (ascii "Infinity"))
     else .quoted (ascii "NaN"))
  else .bare text

/-- `scalarGoFromReflect` followed by the `encodeScalarField` switch. The proto kind of the stored
value is fixed by the descriptor; a value of the wrong shape cannot occur in a real message and
is an error here. -/
def encodeScalar (O : Oracle) (k : ScalarKind) (v : PVal) : Outcome ScalarOut :=
  match k, v with
  | .string, .str s => .ok (.quoted s)
  | .key, .str s => .ok (.quoted s)
  | .bool, .bool b => .ok (.bare (if b then ascii "true" else ascii "false"))
  | .int32, .int i => .ok (.bare (fmtInt i))
  | .uint32, .uint n => .ok (.bare (fmtNat n))
  | .int64, .int i => .ok (.quoted (fmtInt i))
  | .uint64, .uint n => .ok (.quoted (fmtNat n))
  | .float32, .f32 b => .ok (nonFinite (b / 2 ^ 31 % 2 = 1) (b / 2 ^ 23 % 256 = 255) (b % 2 ^ 23 = 0) (O.fmtF32 b))
  | .float64, .f64 b => .ok (nonFinite (b / 2 ^ 63 % 2 = 1) (b / 2 ^ 52 % 2048 = 2047) (b % 2 ^ 52 = 0) (O.fmtF64 b))
  | .bytes, .bytes s => .ok (.quoted (b64Encode s))
  | .date, .date y m d => .ok (.quoted (dateString y m d))
  | .decimal, .dec s => .ok (.quoted s)
  | .timestamp, .ts s n => .ok (.quoted (O.fmtTime s n))
  | _, _ => .err "scalar kind mismatch"

/-! ## decode -/

/-- the Go value a JSON token is handed over as: `string | json.Number | bool | nil` -/
inductive GoTok where
  | str (s : Bytes)
  | num (text : Bytes)
  | bool (b : Bool)
  | null
  deriving Repr, DecidableEq

/-- `scalarReflectFromGo(schema, token)`: `.ok (some v)` a valid `protoreflect.Value`,
`.ok none` the invalid `protoreflect.Value{}` returned with a nil error, `.err` an error. -/
def decodeScalar (O : Oracle) (k : ScalarKind) (t : GoTok) : Outcome (Option PVal) :=
  match k with
  | .bool =>
    match t with
    | .bool b => .ok (some (.bool b))
    | .null => .ok none
    | _ => .err "expected bool"
  | .string | .key =>
    match t with
    | .str s => .ok (some (.str s))
    | .null => .ok none
    | _ => .err "expected string"
  | .int32 =>
    match t with
    | .num text =>
      match parseInt text 64 with
      | none => .err "json.Number.Int64"
      | some v => if v > 2147483647 ∨ v < -2147483648 then .err "out of range" else .ok (some (.int v))
    | .str s =>
      match parseInt s 32 with
      | none => .err "strconv.ParseInt"
      | some v => .ok (some (.int v))
    | _ => .err "expected int"
  | .int64 =>
    match t with
    | .num text =>
      match parseInt text 64 with
      | none => .err "json.Number.Int64"
      | some v => .ok (some (.int v))
    | .str s =>
      match parseInt s 64 with
      | none => .err "strconv.ParseInt"
      | some v => .ok (some (.int v))
    | _ => .err "expected int"
  | .uint32 =>
    match t with
    | .num text =>
      match parseInt text 64 with
      | none => .err "json.Number.Int64"
      | some v => if v < 0 ∨ v > 4294967295 then .err "out of range" else .ok (some (.uint v.toNat))
    | .str s =>
      match parseUint s 32 with
      | none => .err "strconv.ParseUint"
      | some v => .ok (some (.uint v))
    | _ => .err "expected uint32"
  | .uint64 =>
    match t with
    | .num text =>
      match parseUint text 64 with
      | none => .err "strconv.ParseUint"
      | some v => .ok (some (.uint v))
    | .str s =>
      match parseUint s 64 with
      | none => .err "strconv.ParseUint"
      | some v => .ok (some (.uint v))
    | _ => .err "expected uint64"
  | .float32 =>
    let text : Option Bytes := match t with
      | .num x => some x
      | .str s => some s
      | _ => none
    match text with
    | none => .err "value can't float"
    | some x =>
      match O.parseFloat x with
      | none => .err "ParseFloat"
      | some (_, none) => .err "out of range for float32"
      | some (_, some b32) => .ok (some (.f32 b32))
  | .float64 =>
    let text : Option Bytes := match t with
      | .num x => some x
      | .str s => some s
      | _ => none
    match text with
    | none => .err "value can't float"
    | some x =>
      match O.parseFloat x with
      | none => .err "ParseFloat"
      | some (b64, _) => .ok (some (.f64 b64))
  | .bytes =>
    match t with
    | .str s =>
      match byteValueFromString s with
      | some b => .ok (some (.bytes b))
      | none => .err "base64"
    | _ => .err "expected []byte"
  | .timestamp =>
    match t with
    | .str s =>
      match O.parseTime s with
      | some (secs, nanos) => .ok (some (.ts secs nanos))
      | none => .err "time.Parse"
    | _ => .err "expected timestamp"
  | .decimal =>
    let text : Option Bytes := match t with
      | .str s => some s
      | .num x => some x
      | _ => none
    match text with
    | none => .err "expected decimal"
    | some s =>
      match O.parseDec s with
      | some norm => .ok (some (.dec norm))
      | none => .err "decimal.NewFromString"
  | .date =>
    match t with
    | .str s =>
      match dateFromString s with
      | some (y, m, d) => .ok (some (.date y m d))
      | none => .err "Invalid date string"
    | _ => .err "expected date"

end J5V.Codec
