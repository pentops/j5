import J5V.Codec.RoundtripInd
/-!
# An exposed oneof inlined from a flattened object (C01, one property in isolation)

When an object `F` that declares an exposed oneof `kind` (members = fields `y` of `F` itself) is
flattened into its parent `M` at field `k`, `M` gets a property `kind` with the NON-empty proto path
`[k]` (in general: the path of the flattened message) and field `.oneof ref`, while the other
properties of `F` appear in `M` with the paths `[k, x]`. So the oneof's members live at `[k, y]`, in
the SAME sub-message as the siblings' leaves: the path of `kind` is a proper prefix of its
siblings' paths, which `Env.flat` (`prefixFree`) excludes from the whole-message induction.

This file proves what encoder and decoder do with such a property, for an arbitrary decoder state:
`decodeOneofProperty` starts from the sub-message that is ALREADY there (`oneofStart`), adds the
member and writes the whole sub-message back — the sibling leaves decoded before are kept.
-/
namespace J5V.Codec
open J5V.Go J5V.Json

/-- the decoder reading the one-member body `{"!type": name, name: value}` of a oneof property with
a proto path into ANY state: the member is added to the sub-message already stored at the path
(`S0`, which holds no member of the oneof — it may hold anything else), everything else in it is
kept -/
theorem dec_inlined_oneof_set (c : Cfg) (props : List PropDef) (p : PropDef) (st : PS)
    (ref : String) (ops : List PropDef) (hf : p.field = .oneof ref) (hp : p.path ≠ [])
    (hfind : c.env.find ref = some (.oneof ops)) (hroot : rootSimple (.oneof ops) = true)
    (hseen : p.jsonName ∉ st.seen) (hgb : groupBusy props p st.m = false)
    (q : PropDef) (k : Nat) (v : PVal) (tlit nlit qlit : Bytes) (tv : PTree)
    (hq : q ∈ ops) (hqk : q.path = [k]) (hdec : Dec c q.field v tv)
    (hz : (q.pres == .imp && v.isZero) = false) (hec : v.isEmptyColl = false)
    (hk : aget k (PVal.asMsg (getPath st.m p.path)) = none)
    (hothers : ∀ q' ∈ ops, ∀ k', q'.path = [k'] → k' ≠ k →
      aget k' (PVal.asMsg (getPath st.m p.path)) = none) :
    decProp c props p
        (.obj (.cons typeKey tlit (.str q.jsonName nlit) (.cons q.jsonName qlit tv (.nil .closed)))) st =
      .ok { m := updPath props p (some (.msg (aset k v (PVal.asMsg (getPath st.m p.path))))) st.m,
            seen := p.jsonName :: st.seen } := by
  obtain ⟨hloop, hpost⟩ := decOneof_one c ops hroot q k v tlit nlit qlit tv
    (PVal.asMsg (getPath st.m p.path)) hq hqk hdec hz hec hk hothers
  exact (Decodes.oneof (start := getPath st.m p.path) (tp := none) hfind
    (decOneofMembers_ok_iff.mp hloop) hpost).runs.1 props p st hf hp hseen rfl hgb

/-- … and the empty body `{}` (written when the flattened sub-message exists but no member of the
oneof is set): the sub-message already there is written back unchanged — created empty if it was
not there yet (the transient state the whole-message induction would have to carry) -/
theorem dec_inlined_oneof_empty (c : Cfg) (props : List PropDef) (p : PropDef) (st : PS)
    (ref : String) (ops : List PropDef) (hf : p.field = .oneof ref) (hp : p.path ≠ [])
    (hfind : c.env.find ref = some (.oneof ops))
    (hseen : p.jsonName ∉ st.seen) (hgb : groupBusy props p st.m = false) :
    decProp c props p (.obj (.nil .closed)) st =
      .ok { m := updPath props p (some (.msg (PVal.asMsg (getPath st.m p.path)))) st.m,
            seen := p.jsonName :: st.seen } := by
  exact (Decodes.oneof (start := getPath st.m p.path) (tp := none) hfind .oneNil
    (by simp [oneofPost])).runs.1 props p st hf hp hseen rfl hgb

/-- a scalar member provides the facts (every environment) -/
theorem memberFacts_scalar (c : Cfg) (L : OracleLaws c.O) (f : Nat) (q : PropDef) (k : ScalarKind)
    (v : PVal) (hqf : q.field = .scalar k) (hok : scalarOk c.O k v = true)
    (hz : (q.pres == .imp && v.isZero) = false) :
    ∃ tv, encValue c.env c.O (f + 1) q.field v = .ok tv ∧ Dec c q.field v tv ∧
      (OracleWire c.O → Wire.Conforms c.env c.O q.field v tv) ∧
      (q.pres == .imp && v.isZero) = false ∧ v.isEmptyColl = false := by
  obtain ⟨t, ht, hdec, hcf⟩ := scalarNode_facts c L k v hok
  rw [hqf]
  exact ⟨t, by simp only [encValue]; exact ht, hdec, hcf, hz,
    by cases ScalarRepr.of_eq_true (scalarRepr_of_scalarOk hok) <;> rfl⟩

/-- **both directions, one property, every environment**: `S'` is the flattened sub-message as the
original message holds it (sibling leaves — not looked at — and at most one member of the oneof,
whose value round-trips: `MemberFacts`); the encoder writes the oneof body over `S'`; the decoder,
in a state whose sub-message `S0` at the property's path holds no member of the oneof and is `S'`
without the oneof's member (`hS`: `S' = S0`, or `S' = aset k v S0` for the member at field `k`),
reads that body back, and the sub-message becomes exactly `S'`: the member is restored next to the
sibling leaves decoded before. -/
theorem inlined_oneof_roundtrip (c : Cfg) (props : List PropDef) (p : PropDef) (st : PS)
    (ref : String) (ops : List PropDef) (hf : p.field = .oneof ref) (hp : p.path ≠ [])
    (hfind : c.env.find ref = some (.oneof ops)) (hroot : rootSimple (.oneof ops) = true)
    (hutf : ∀ q ∈ ops, isValidUtf8 q.jsonName = true)
    (hseen : p.jsonName ∉ st.seen) (hgb : groupBusy props p st.m = false)
    (S' : Fields) (f : Nat)
    (hone : (ops.filter (isSet S')).length ≤ 1) (hmem : MemberFacts c f ops S')
    (hS0 : ∀ q ∈ ops, ∀ k, q.path = [k] → aget k (PVal.asMsg (getPath st.m p.path)) = none)
    (hS : S' = PVal.asMsg (getPath st.m p.path) ∨
      ∃ q ∈ ops, ∃ k v, q.path = [k] ∧ S' = aset k v (PVal.asMsg (getPath st.m p.path))) :
    ∃ t, encValue c.env c.O (f + 3) (.oneof ref) (.msg S') = .ok t ∧
      decProp c props p t st =
        .ok { m := updPath props p (some (.msg S')) st.m, seen := p.jsonName :: st.seen } := by
  have hshape := oneShape_of_members c f ops S' hroot hutf hone hmem
  have henc : encValue c.env c.O (f + 3) (.oneof ref) (.msg S') =
      encOneofBody c.env c.O (f + 2) ops S' := by
    simp only [encValue, hfind]
  rw [henc]
  generalize encOneofBody c.env c.O (f + 2) ops S' = r at hshape
  cases hshape with
  | empty hnil =>
    refine ⟨_, rfl, ?_⟩
    have hS'0 : S' = PVal.asMsg (getPath st.m p.path) := by
      rcases hS with h | ⟨q, hq, k, v, hqk, h⟩
      · exact h
      · exfalso
        have := filter_nil_unset ops S' hnil q hq k hqk
        rw [h, aget_aset] at this
        simp at this
    rw [hS'0]
    exact dec_inlined_oneof_empty c props p st ref ops hf hp hfind hseen hgb
  | one q k v tlit nlit qlit tv hone' hq hqk hag hdec hcf hz hec =>
    refine ⟨_, rfl, ?_⟩
    have hS'1 : S' = aset k v (PVal.asMsg (getPath st.m p.path)) := by
      rcases hS with h | ⟨q2, hq2, k2, v2, hqk2, h⟩
      · exfalso
        rw [h, hS0 q hq k hqk] at hag
        cases hag
      · have hk2 : k2 = k := by
          cases Nat.decEq k2 k with
          | isTrue e => exact e
          | isFalse ne =>
            exfalso
            have := filter_one_others ops S' q k hone' hqk q2 hq2 k2 hqk2 ne
            rw [h, aget_aset] at this
            simp at this
        subst hk2
        have : v2 = v := by
          rw [h, aget_aset] at hag
          simpa using hag
        subst this
        exact h
    rw [hS'1]
    exact dec_inlined_oneof_set c props p st ref ops hf hp hfind hroot hseen hgb q k v tlit nlit qlit tv
      hq hqk hdec hz hec (hS0 q hq k hqk) (fun q' hq' k' hk' _ => hS0 q' hq' k' hk')

end J5V.Codec
