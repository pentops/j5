import J5V.Codec.Value
/-!
# Sorted association lists (generic in the value type), and induction over nested messages

`filterKeys` and `restrictP` are instances of the entry-wise partial map `mapFilter`. On `Fields`, a
predicate defined as "head and tail" holds of every member, lookup and path.
-/
namespace J5V.Codec

variable {α : Type}

def akeys (m : List (Nat × α)) : List Nat := m.map (·.1)

def filterKeys (S : List Nat) (m : List (Nat × α)) : List (Nat × α) :=
  m.filter fun kv => decide (kv.1 ∈ S)

/-! ## lookups and keys -/

theorem aget_none_of_not_mem (k : Nat) (m : List (Nat × α)) (h : k ∉ akeys m) : aget k m = none := by
  induction m with
  | nil => rfl
  | cons kv t ih =>
    obtain ⟨k', v'⟩ := kv
    simp only [akeys, List.map_cons, List.mem_cons, not_or] at h
    simp only [aget, if_neg h.1]
    exact ih h.2

theorem mem_akeys_of_aget (k : Nat) (v : α) (m : List (Nat × α)) (h : aget k m = some v) :
    k ∈ akeys m := by
  induction m with
  | nil => simp [aget] at h
  | cons kv t ih =>
    obtain ⟨k', v'⟩ := kv
    simp only [aget] at h
    simp only [akeys, List.map_cons, List.mem_cons]
    by_cases hk : k = k'
    · exact Or.inl hk
    · rw [if_neg hk] at h; exact Or.inr (ih h)

theorem aerase_of_not_mem (k : Nat) (m : List (Nat × α)) (h : k ∉ akeys m) : aerase k m = m := by
  induction m with
  | nil => rfl
  | cons kv t ih =>
    obtain ⟨k', v'⟩ := kv
    simp only [akeys, List.map_cons, List.mem_cons, not_or] at h
    simp only [aerase, if_neg h.1]
    rw [ih h.2]

theorem akeys_filterKeys_subset (S : List Nat) (m : List (Nat × α)) (k : Nat)
    (h : k ∈ akeys (filterKeys S m)) : k ∈ S ∧ k ∈ akeys m := by
  simp only [akeys, filterKeys, List.mem_map, List.mem_filter] at h
  obtain ⟨kv, ⟨hm, hs⟩, rfl⟩ := h
  exact ⟨by simpa using hs, List.mem_map.mpr ⟨kv, hm, rfl⟩⟩

/-- all keys of a sorted store that follow the head are larger -/
theorem asorted_tail (kv : Nat × α) (t : List (Nat × α)) (h : asorted (kv :: t) = true) :
    asorted t = true ∧ ∀ k ∈ akeys t, kv.1 < k := by
  induction t generalizing kv with
  | nil => exact ⟨rfl, by intro k hk; simp [akeys] at hk⟩
  | cons kv2 t2 ih =>
    obtain ⟨k1, v1⟩ := kv
    obtain ⟨k2, v2⟩ := kv2
    simp only [asorted, Bool.and_eq_true, decide_eq_true_eq] at h
    refine ⟨h.2, ?_⟩
    intro k hk
    simp only [akeys, List.map_cons, List.mem_cons] at hk
    rcases hk with rfl | hk
    · exact h.1
    · have := (ih (k2, v2) h.2).2 k (by simpa [akeys] using hk)
      simp only [] at this ⊢
      omega

theorem filterKeys_all (S : List Nat) (m : List (Nat × α)) (h : ∀ k ∈ akeys m, k ∈ S) :
    filterKeys S m = m := by
  unfold filterKeys
  apply List.filter_eq_self.mpr
  intro kv hkv
  have := h kv.1 (List.mem_map.mpr ⟨kv, hkv, rfl⟩)
  simpa using this

theorem filterKeys_nil (m : List (Nat × α)) : filterKeys [] m = [] := by
  unfold filterKeys
  apply List.filter_eq_nil_iff.mpr
  intro kv _; simp


/-! ## extensionality of sorted stores, `aset` -/

theorem aget_cons_self (k : Nat) (v : α) (t : List (Nat × α)) : aget k ((k, v) :: t) = some v := by
  simp [aget]

theorem aget_cons_ne (k k' : Nat) (v : α) (t : List (Nat × α)) (h : k ≠ k') :
    aget k ((k', v) :: t) = aget k t := by
  simp [aget, h]

theorem aget_some_of_mem_akeys (k : Nat) (m : List (Nat × α)) (h : k ∈ akeys m) :
    ∃ v, aget k m = some v := by
  induction m with
  | nil => simp [akeys] at h
  | cons kv t ih =>
    obtain ⟨k', v'⟩ := kv
    by_cases hk : k = k'
    · exact ⟨v', by simp [aget, hk]⟩
    · simp only [akeys, List.map_cons, List.mem_cons] at h
      rcases h with h | h
      · exact absurd h hk
      · obtain ⟨v, hv⟩ := ih (by simpa [akeys] using h)
        exact ⟨v, by simp [aget, hk, hv]⟩

theorem not_mem_akeys_of_aget_none (k : Nat) (m : List (Nat × α)) (h : aget k m = none) :
    k ∉ akeys m := by
  intro hm
  obtain ⟨v, hv⟩ := aget_some_of_mem_akeys k m hm
  rw [h] at hv; cases hv

/-- two sorted stores with the same lookups are equal (`proto.Equal` is extensional) -/
theorem Store.ext : ∀ (a b : List (Nat × α)), asorted a = true → asorted b = true →
    (∀ k, aget k a = aget k b) → a = b := by
  intro a
  induction a with
  | nil =>
    intro b _ _ h
    cases b with
    | nil => rfl
    | cons kv t =>
      obtain ⟨k, v⟩ := kv
      have := h k
      simp [aget] at this
  | cons kv ta ih =>
    intro b ha hb h
    obtain ⟨k, v⟩ := kv
    cases b with
    | nil => have := h k; simp [aget] at this
    | cons kv' tb =>
      obtain ⟨k', v'⟩ := kv'
      have hta := asorted_tail (k, v) ta ha
      have htb := asorted_tail (k', v') tb hb
      have hkk : k = k' := by
        -- each head key occurs in the other list, and is its minimum
        have h1 := h k
        rw [aget_cons_self] at h1
        have h2 := h k'
        rw [aget_cons_self] at h2
        by_cases e : k = k'
        · exact e
        · exfalso
          rw [aget_cons_ne k k' v' tb e] at h1
          rw [aget_cons_ne k' k v ta (fun x => e x.symm)] at h2
          have m1 := htb.2 k (mem_akeys_of_aget k v tb h1.symm)
          have m2 := hta.2 k' (mem_akeys_of_aget k' v' ta h2)
          simp only [] at m1 m2
          omega
      subst hkk
      have hv : v = v' := by
        have := h k
        rw [aget_cons_self, aget_cons_self] at this
        exact Option.some.inj this
      subst hv
      congr 1
      apply ih tb hta.1 htb.1
      intro x
      by_cases hx : x = k
      · subst hx
        have n1 : x ∉ akeys ta := fun hm => by have := hta.2 x hm; simp at this
        have n2 : x ∉ akeys tb := fun hm => by have := htb.2 x hm; simp at this
        rw [aget_none_of_not_mem x ta n1, aget_none_of_not_mem x tb n2]
      · have := h x
        rw [aget_cons_ne x k v ta hx, aget_cons_ne x k v tb hx] at this
        exact this

theorem aget_aset (k k' : Nat) (x : α) (m : List (Nat × α)) :
    aget k' (aset k x m) = if k' = k then some x else aget k' m := by
  induction m with
  | nil => simp [aset, aget]
  | cons kv t ih =>
    obtain ⟨k2, v2⟩ := kv
    simp only [aset]
    split
    · -- inserted in front
      by_cases h : k' = k
      · simp [aget, h]
      · simp [aget, h]
    · split
      · next hk => -- replaced
        subst hk
        by_cases h : k' = k
        · simp [aget, h]
        · simp [aget, h]
      · next hlt hne =>
        by_cases h : k' = k
        · subst h
          have : k' ≠ k2 := hne
          simp [aget, this, ih]
        · by_cases h2 : k' = k2
          · simp [aget, h2, h]
            intro e; exact absurd (e ▸ h2) h
          · simp [aget, h2, ih, h]

theorem asorted_cons_of (k : Nat) (v : α) (t : List (Nat × α)) (ht : asorted t = true)
    (h : ∀ x ∈ akeys t, k < x) : asorted ((k, v) :: t) = true := by
  cases t with
  | nil => rfl
  | cons kv t' =>
    obtain ⟨k', v'⟩ := kv
    simp only [asorted, Bool.and_eq_true, decide_eq_true_eq]
    exact ⟨h k' (by simp [akeys]), ht⟩

theorem akeys_aset (k : Nat) (x : α) (m : List (Nat × α)) (y : Nat) (h : y ∈ akeys (aset k x m)) :
    y = k ∨ y ∈ akeys m := by
  obtain ⟨v, hv⟩ := aget_some_of_mem_akeys y _ h
  rw [aget_aset] at hv
  by_cases e : y = k
  · exact Or.inl e
  · rw [if_neg e] at hv
    exact Or.inr (mem_akeys_of_aget y v m hv)

theorem asorted_aset (k : Nat) (x : α) (m : List (Nat × α)) (h : asorted m = true) :
    asorted (aset k x m) = true := by
  induction m with
  | nil => rfl
  | cons kv t ih =>
    obtain ⟨k2, v2⟩ := kv
    have ht := asorted_tail (k2, v2) t h
    simp only [aset]
    split
    · next hlt =>
      apply asorted_cons_of k x _ h
      intro y hy
      simp only [akeys, List.map_cons, List.mem_cons] at hy
      rcases hy with rfl | hy
      · exact hlt
      · have := ht.2 y (by simpa [akeys] using hy); simp only [] at this; omega
    · split
      · next hk =>
        subst hk
        exact asorted_cons_of k x t ht.1 (fun y hy => ht.2 y hy)
      · next hlt hne =>
        apply asorted_cons_of k2 v2 _ (ih ht.1)
        intro y hy
        rcases akeys_aset k x t y hy with rfl | hy'
        · omega
        · exact ht.2 y hy'

/-! ## entry-wise partial maps of a store -/

/-- keep / rewrite / drop every entry independently -/
def mapFilter (g : Nat → α → Option α) (m : List (Nat × α)) : List (Nat × α) :=
  m.filterMap fun kv => (g kv.1 kv.2).map fun v => (kv.1, v)

theorem mapFilter_cons (g : Nat → α → Option α) (k : Nat) (v : α) (t : List (Nat × α)) :
    mapFilter g ((k, v) :: t) =
      match g k v with
      | some v' => (k, v') :: mapFilter g t
      | none => mapFilter g t := by
  unfold mapFilter
  rw [List.filterMap_cons]
  cases g k v <;> rfl

theorem akeys_mapFilter_subset (g : Nat → α → Option α) (m : List (Nat × α)) (x : Nat)
    (h : x ∈ akeys (mapFilter g m)) : x ∈ akeys m := by
  induction m with
  | nil => simp [mapFilter, akeys] at h
  | cons kv t ih =>
    obtain ⟨k, v⟩ := kv
    rw [mapFilter_cons] at h
    simp only [akeys, List.map_cons, List.mem_cons]
    cases hg : g k v with
    | none => rw [hg] at h; exact Or.inr (ih h)
    | some v' =>
      rw [hg] at h
      simp only [akeys, List.map_cons, List.mem_cons] at h
      rcases h with h | h
      · exact Or.inl h
      · exact Or.inr (ih (by simpa [akeys] using h))

theorem asorted_mapFilter (g : Nat → α → Option α) (m : List (Nat × α)) (h : asorted m = true) :
    asorted (mapFilter g m) = true := by
  induction m with
  | nil => rfl
  | cons kv t ih =>
    obtain ⟨k, v⟩ := kv
    have ht := asorted_tail (k, v) t h
    rw [mapFilter_cons]
    cases g k v with
    | none => exact ih ht.1
    | some v' =>
      exact asorted_cons_of k v' _ (ih ht.1)
        (fun y hy => ht.2 y (akeys_mapFilter_subset g t y hy))

theorem aget_mapFilter (g : Nat → α → Option α) (m : List (Nat × α)) (h : asorted m = true) (x : Nat) :
    aget x (mapFilter g m) = (aget x m).bind (g x) := by
  induction m with
  | nil => rfl
  | cons kv t ih =>
    obtain ⟨k, v⟩ := kv
    have ht := asorted_tail (k, v) t h
    rw [mapFilter_cons]
    by_cases hx : x = k
    · subst hx
      rw [aget_cons_self]
      simp only [Option.bind_some]
      cases hg : g x v with
      | none =>
        simp only []
        apply aget_none_of_not_mem
        intro hm
        have := ht.2 x (akeys_mapFilter_subset g t x hm)
        simp at this
      | some v' => simp [aget]
    · rw [aget_cons_ne x k v t hx]
      cases g k v with
      | none => exact ih ht.1
      | some v' => simp only []; rw [aget_cons_ne x k v' _ hx]; exact ih ht.1

/-! ## restriction to a set of keys -/

theorem filterKeys_eq_mapFilter (S : List Nat) (m : List (Nat × α)) :
    filterKeys S m = mapFilter (fun k v => if k ∈ S then some v else none) m := by
  induction m with
  | nil => rfl
  | cons kv t ih =>
    obtain ⟨k, v⟩ := kv
    rw [mapFilter_cons, ← ih]
    unfold filterKeys; rw [List.filter_cons]
    by_cases h : k ∈ S <;> simp [h]

theorem aget_filterKeys (S : List Nat) (m : List (Nat × α)) (h : asorted m = true) (x : Nat) :
    aget x (filterKeys S m) = if x ∈ S then aget x m else none := by
  rw [filterKeys_eq_mapFilter, aget_mapFilter _ m h]
  by_cases hx : x ∈ S <;> cases aget x m <;> simp [hx]

/-- inserting the entry `m` holds for `k` into the restriction of `m` to `S` gives the
restriction to `k :: S` -/
theorem aset_filterKeys (S : List Nat) (m : List (Nat × α)) (k : Nat) (v : α)
    (hs : asorted m = true) (hg : aget k m = some v) (hk : k ∉ S) :
    aset k v (filterKeys S m) = filterKeys (k :: S) m := by
  have hsorted : ∀ S', asorted (filterKeys S' m) = true := fun S' => by
    rw [filterKeys_eq_mapFilter]; exact asorted_mapFilter _ m hs
  refine Store.ext _ _ (asorted_aset k v _ (hsorted S)) (hsorted _) fun x => ?_
  rw [aget_aset, aget_filterKeys S m hs, aget_filterKeys (k :: S) m hs]
  by_cases hx : x = k
  · subst hx; simp [hg]
  · simp [hx]

/-! ## predicates that hold of a container when they hold of everything in it -/

theorem aget_mem (k : Nat) (v : α) (m : List (Nat × α)) (h : aget k m = some v) : (k, v) ∈ m := by
  induction m with
  | nil => simp [aget] at h
  | cons kv t ih =>
    obtain ⟨k', v'⟩ := kv
    simp only [aget] at h
    by_cases hk : k = k'
    · rw [if_pos hk] at h; cases h; subst hk; exact List.mem_cons_self
    · rw [if_neg hk] at h; exact List.mem_cons_of_mem _ (ih h)

/-- `PL` is defined by recursion over the list as "`P` of the head and `PL` of the tail" -/
theorem of_mem_of_cons {β : Type} {PL : List β → Prop} {P : β → Prop}
    (cons : ∀ a l, PL (a :: l) → P a ∧ PL l) : ∀ (l : List β) (a : β), PL l → a ∈ l → P a
  | b :: l, a, hl, ha => by
    rcases List.mem_cons.mp ha with rfl | ha'
    · exact (cons _ l hl).1
    · exact of_mem_of_cons cons l a (cons b l hl).2 ha'

theorem of_aget_of_cons {PF : List (Nat × α) → Prop} {P : α → Prop}
    (cons : ∀ kv l, PF (kv :: l) → P kv.2 ∧ PF l) (m : List (Nat × α)) (k : Nat) (v : α) (hm : PF m)
    (h : aget k m = some v) : P v :=
  of_mem_of_cons (P := fun kv => P kv.2) cons m (k, v) hm (aget_mem k v m h)

/-- … and so of the value at a path, when `P` of a sub-message means `PF` of its fields -/
theorem of_getPath_of_cons {PF : Fields → Prop} {P : PVal → Prop}
    (cons : ∀ kv l, PF (kv :: l) → P kv.2 ∧ PF l) (msg : ∀ fs, P (.msg fs) → PF fs) :
    ∀ (path : List Nat) (m : Fields) (v : PVal), PF m → getPath m path = some v → P v
  | [], _, _, _, h => by simp [getPath] at h
  | [k], m, v, hm, h => of_aget_of_cons cons m k v hm (by simpa only [getPath] using h)
  | k :: k2 :: r, m, v, hm, h => by
    simp only [getPath] at h
    split at h
    · next sub hsub =>
      exact of_getPath_of_cons cons msg (k2 :: r) sub v (msg sub (of_aget_of_cons cons m k _ hm hsub)) h
    · cases h

/-- induction over a message and, through its `.msg` values, over the messages nested in it -/
theorem Fields.induct {P : Fields → Prop} (nil : P [])
    (cons : ∀ k v rest, (∀ sub, v = .msg sub → P sub) → P rest → P ((k, v) :: rest)) : ∀ fs, P fs
  | [] => nil
  | (k, v) :: rest =>
    cons k v rest (fun sub h => Fields.induct nil cons sub) (Fields.induct nil cons rest)
termination_by fs => sizeOf fs
decreasing_by
  · subst h; simp_wf; omega
  · simp_wf; omega

end J5V.Codec
