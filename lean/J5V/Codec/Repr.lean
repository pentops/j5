import J5V.Codec.Wire
import J5V.Json.TreeSpec
/-!
# Representable values and the laws assumed of the oracle functions

`scalarRepr` is the decidable "representable in the documented wire format" predicate of C01 for
one scalar; `OracleLaws` states what is assumed (never as an axiom: always as a hypothesis) of
`strconv.FormatFloat/ParseFloat`, `time.Format/Parse` and `shopspring/decimal` (`OracleWire`,
`FloatTextOk`, `ChunkLaws`: of the written bytes, C08). At the end: how a
written scalar comes back from the JSON reader (`scalarTok`) and up to what decimals are compared
(`canonScalar`), the two notions the per-scalar round trip is stated with.
-/
namespace J5V.Codec
open J5V.Json

/-- exponent field not all ones (the bit pattern is `< 2 ^ 64` by type in Go) -/
def finite64 (b : Nat) : Bool := (b / 2 ^ 52) % 2048 != 2047
def finite32 (b : Nat) : Bool := (b / 2 ^ 23) % 256 != 255

/-- seconds of 0001-01-01T00:00:00Z and 9999-12-31T23:59:59Z -/
def tsMin : Int := -62135596800
def tsMax : Int := 253402300799

def tsRepr (s n : Int) : Bool := decide (tsMin ≤ s ∧ s ≤ tsMax ∧ 0 ≤ n ∧ n < 1000000000)

theorem tsRepr_iff (s n : Int) :
    tsRepr s n = true ↔ (-62135596800 ≤ s ∧ s ≤ 253402300799 ∧ 0 ≤ n ∧ n < 1000000000) := by
  unfold tsRepr tsMin tsMax
  exact decide_eq_true_iff

structure OracleLaws (O : Oracle) : Prop where
  /-- `ParseFloat(FormatFloat(v,'g',-1,64),64) = v` on finite values, and the text is a JSON number -/
  f64 : ∀ b, finite64 b = true →
    Wire.isJsonNumber (O.fmtF64 b) = true ∧ ∃ b32, O.parseFloat (O.fmtF64 b) = some (b, b32)
  /-- `float32(ParseFloat(FormatFloat(float64(v),'g',-1,32),64)) = v` on finite float32 values -/
  f32 : ∀ b, finite32 b = true →
    Wire.isJsonNumber (O.fmtF32 b) = true ∧ ∃ b64, O.parseFloat (O.fmtF32 b) = some (b64, some b)
  /-- `time.Parse(RFC3339, t.UTC().Format(RFC3339Nano)) = t` for years 0001–9999 -/
  time : ∀ s n, tsRepr s n = true → O.parseTime (O.fmtTime s n) = some (s, n)
  /-- `decimal.String()` is a fixpoint of `NewFromString(..).String()` -/
  dec : ∀ s norm, O.parseDec s = some norm → O.parseDec norm = some norm
  /-- the formatted timestamp is valid UTF-8 (it is ASCII) -/
  timeUtf8 : ∀ s n, tsRepr s n = true → isValidUtf8 (O.fmtTime s n) = true

/-- shape of the formatted texts (needed only by the wire-format theorems of C08) -/
structure OracleWire (O : Oracle) : Prop where
  /-- `t.UTC().Format(RFC3339Nano)` has the RFC 3339 shape with the `Z` offset for years 0001–9999 -/
  time : ∀ s n, tsRepr s n = true → Wire.isRfc3339Utc (O.fmtTime s n) = true

/-- what is assumed of `FormatFloat` for the well-formedness of *all* outputs: the text written
for a finite value is a JSON number -/
def FloatTextOk (O : Oracle) : Prop :=
  (∀ b, finite64 b = true → Wire.isJsonNumber (O.fmtF64 b) = true) ∧
  (∀ b, finite32 b = true → Wire.isJsonNumber (O.fmtF32 b) = true)

/-- every chunk the specification-side oracle recognises is an encoder tree (compact JSON as
`json.Compact` / the codec itself writes it) -/
def ChunkLaws (O : Oracle) : Prop := ∀ bs V, O.chunk bs = some V → V.Enc

/-- representable scalar values (C01's quantifier), for the proto kind the schema prescribes -/
def scalarRepr (O : Oracle) (k : ScalarKind) (v : PVal) : Bool :=
  match k, v with
  | .string, .str _ => true
  | .key, .str _ => true
  | .bool, .bool _ => true
  | .int32, .int i => decide (-(2 ^ 31 : Int) ≤ i) && decide (i < 2 ^ 31)
  | .int64, .int i => decide (-(2 ^ 63 : Int) ≤ i) && decide (i < 2 ^ 63)
  | .uint32, .uint n => decide (n < 2 ^ 32)
  | .uint64, .uint n => decide (n < 2 ^ 64)
  | .float32, .f32 b => finite32 b
  | .float64, .f64 b => finite64 b
  | .bytes, .bytes _ => true
  | .timestamp, .ts s n => tsRepr s n
  | .date, .date y m d =>
    decide (1 ≤ y ∧ y ≤ 9999 ∧ 1 ≤ m ∧ m ≤ 12 ∧ 1 ≤ d ∧ d ≤ daysInMonth y m)
  | .decimal, .dec s => (O.parseDec s).isSome
  | _, _ => false

/-- `scalarRepr` as a relation: the representable (kind, value) pairs with their bounds spelt out,
so that a proof about representable scalars is one `cases` -/
inductive ScalarRepr (O : Oracle) : ScalarKind → PVal → Prop
  | string (s : Bytes) : ScalarRepr O .string (.str s)
  | key (s : Bytes) : ScalarRepr O .key (.str s)
  | bool (b : Bool) : ScalarRepr O .bool (.bool b)
  | int32 (i : Int) : -(2 ^ 31 : Int) ≤ i → i < 2 ^ 31 → ScalarRepr O .int32 (.int i)
  | int64 (i : Int) : -(2 ^ 63 : Int) ≤ i → i < 2 ^ 63 → ScalarRepr O .int64 (.int i)
  | uint32 (n : Nat) : n < 2 ^ 32 → ScalarRepr O .uint32 (.uint n)
  | uint64 (n : Nat) : n < 2 ^ 64 → ScalarRepr O .uint64 (.uint n)
  | float32 (b : Nat) : finite32 b = true → ScalarRepr O .float32 (.f32 b)
  | float64 (b : Nat) : finite64 b = true → ScalarRepr O .float64 (.f64 b)
  | bytes (b : Bytes) : ScalarRepr O .bytes (.bytes b)
  | timestamp (s n : Int) : tsRepr s n = true → ScalarRepr O .timestamp (.ts s n)
  | date (y m d : Int) : 1 ≤ y → y ≤ 9999 → 1 ≤ m → m ≤ 12 → 1 ≤ d → d ≤ daysInMonth y m →
      ScalarRepr O .date (.date y m d)
  | decimal (s norm : Bytes) : O.parseDec s = some norm → ScalarRepr O .decimal (.dec s)

theorem ScalarRepr.of_eq_true {O : Oracle} {k : ScalarKind} {v : PVal} (h : scalarRepr O k v = true) :
    ScalarRepr O k v := by
  unfold scalarRepr at h
  split at h
  · exact .string _
  · exact .key _
  · exact .bool _
  · rw [Bool.and_eq_true] at h; exact .int32 _ (of_decide_eq_true h.1) (of_decide_eq_true h.2)
  · rw [Bool.and_eq_true] at h; exact .int64 _ (of_decide_eq_true h.1) (of_decide_eq_true h.2)
  · exact .uint32 _ (of_decide_eq_true h)
  · exact .uint64 _ (of_decide_eq_true h)
  · exact .float32 _ h
  · exact .float64 _ h
  · exact .bytes _
  · exact .timestamp _ _ h
  · have h := of_decide_eq_true h
    exact .date _ _ _ h.1 h.2.1 h.2.2.1 h.2.2.2.1 h.2.2.2.2.1 h.2.2.2.2.2
  · exact (Option.isSome_iff_exists.mp h).elim fun _ hn => .decimal _ _ hn
  · cases h

/-- how the JSON reader hands back what `encodeScalar` wrote: a string, a number, or a bool -/
def scalarTok : ScalarOut → GoTok
  | .quoted s => .str s
  | .bare t => if t = ascii "true" then .bool true else if t = ascii "false" then .bool false else .num t

/-- decimals are compared numerically: the decoder stores the normalised text -/
def canonScalar (O : Oracle) : PVal → PVal
  | .dec s => .dec ((O.parseDec s).getD s)
  | v => v

end J5V.Codec
