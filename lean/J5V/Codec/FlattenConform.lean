import J5V.Codec.FlattenStore
import J5V.Codec.RoundtripProofs
/-!
# Representable messages with flattened objects: what `fieldsOk` says along a proto path
-/
namespace J5V.Codec
open J5V.Json

/-! ## leaf entries -/

theorem propLeaves_nonempty (env : Env) (p : PropDef) (hp : p.path ≠ []) :
    propLeaves env p = [(p.path, p.field, p.pres)] := by
  unfold propLeaves
  split
  · next h => exact absurd h hp
  · rfl

theorem propLeaves_exposed_mem (env : Env) (p q : PropDef) (k : Nat) (hp : p.path = [])
    (hq : q ∈ exposedOps env p) (hqk : q.path = [k]) : ([k], q.field, q.pres) ∈ propLeaves env p := by
  unfold propLeaves; rw [hp]
  exact List.mem_filterMap.mpr ⟨q, hq, by rw [hqk]⟩

theorem propLeaves_exposed_inv (env : Env) (p : PropDef) (x : List Nat × Field × Pres)
    (hp : p.path = []) (h : x ∈ propLeaves env p) :
    ∃ q k, q ∈ exposedOps env p ∧ q.path = [k] ∧ x = ([k], q.field, q.pres) := by
  unfold propLeaves at h; rw [hp] at h
  obtain ⟨q, hq, hx⟩ := List.mem_filterMap.mp h
  split at hx
  · next k hk => cases hx; exact ⟨q, k, hq, hk, rfl⟩
  · cases hx

theorem leafEntries_path_ne (env : Env) (props : List PropDef) (x : List Nat × Field × Pres)
    (h : x ∈ leafEntries env props) : x.1 ≠ [] := by
  obtain ⟨p, _, hx⟩ := List.mem_flatMap.mp h
  cases hp : p.path with
  | nil =>
    obtain ⟨q, k, _, _, rfl⟩ := propLeaves_exposed_inv env p x hp hx
    simp
  | cons a t =>
    rw [propLeaves_nonempty env p (by rw [hp]; simp)] at hx
    simp only [List.mem_singleton] at hx
    rw [hx, hp]; simp

theorem mem_propsUnder (k : Nat) (props : List PropDef) (p' : PropDef) (h : p' ∈ propsUnder k props) :
    ∃ p ∈ props, ∃ k2 r, p.path = k :: k2 :: r ∧ p' = { p with path := k2 :: r } := by
  unfold propsUnder at h
  obtain ⟨p, hp, hx⟩ := List.mem_filterMap.mp h
  split at hx
  · next k' k2 r hpath =>
    split at hx
    · next hk => cases hx; subst hk; exact ⟨p, hp, k2, r, hpath, rfl⟩
    · cases hx
  · cases hx

theorem leafEntries_under (env : Env) (k : Nat) (props : List PropDef) (x : List Nat × Field × Pres)
    (h : x ∈ leafEntries env (propsUnder k props)) : (k :: x.1, x.2) ∈ leafEntries env props := by
  obtain ⟨p', hp', hx⟩ := List.mem_flatMap.mp h
  obtain ⟨p, hp, k2, r, hpath, rfl⟩ := mem_propsUnder k props p' hp'
  rw [propLeaves_nonempty env _ (by simp)] at hx
  simp only [List.mem_singleton] at hx
  subst hx
  apply List.mem_flatMap.mpr
  refine ⟨p, hp, ?_⟩
  rw [propLeaves_nonempty env p (by rw [hpath]; simp), hpath]
  simp

theorem leafEntries_under_mk (env : Env) (k k2 : Nat) (r : List Nat) (props : List PropDef)
    (f : Field) (pr : Pres) (h : (k :: k2 :: r, f, pr) ∈ leafEntries env props) :
    (k2 :: r, f, pr) ∈ leafEntries env (propsUnder k props) := by
  obtain ⟨p, hp, hx⟩ := List.mem_flatMap.mp h
  cases hpp : p.path with
  | nil =>
    obtain ⟨q, k', _, _, hx'⟩ := propLeaves_exposed_inv env p _ hpp hx
    cases hx'
  | cons a t =>
    rw [propLeaves_nonempty env p (by rw [hpp]; simp)] at hx
    simp only [List.mem_singleton, Prod.mk.injEq] at hx
    obtain ⟨h1, h2, h3⟩ := hx
    apply List.mem_flatMap.mpr
    refine ⟨{ p with path := k2 :: r }, ?_, ?_⟩
    · unfold propsUnder
      apply List.mem_filterMap.mpr
      refine ⟨p, hp, ?_⟩
      rw [← h1]; simp
    · rw [propLeaves_nonempty env _ (by simp)]
      simp [h2, h3]

theorem LeafH.under {env : Env} {props : List PropDef} (h : LeafH env props) (k : Nat) :
    LeafH env (propsUnder k props) := by
  intro a ha b hb hpre
  have ha' := leafEntries_under env k props a ha
  have hb' := leafEntries_under env k props b hb
  have := h _ ha' _ hb' (by simpa using hpre)
  simp only [Prod.mk.injEq, List.cons.injEq, true_and] at this
  exact Prod.ext this.1 this.2

theorem leafProp_entry (env : Env) (props : List PropDef) (k : Nat) (q : PropDef)
    (h : leafProp env props k = some q) : ([k], q.field, q.pres) ∈ leafEntries env props := by
  rcases leafProp_inv env props k q h with ⟨hq, hqk⟩ | ⟨p, hp, hq, hqk⟩
  · apply List.mem_flatMap.mpr
    exact ⟨q, hq, by rw [propLeaves_nonempty env q (by rw [hqk]; simp), hqk]; simp⟩
  · have hp0 : p.path = [] := by
      cases hpp : p.path with
      | nil => rfl
      | cons a t => rw [exposedOps_nonempty_path env p (by rw [hpp]; simp)] at hq; cases hq
    exact List.mem_flatMap.mpr ⟨p, hp, propLeaves_exposed_mem env p q k hp0 hq hqk⟩

theorem leafProp_some_of_entry (env : Env) (props : List PropDef) (k : Nat) (f : Field) (pr : Pres)
    (h : ([k], f, pr) ∈ leafEntries env props) : ∃ q, leafProp env props k = some q := by
  obtain ⟨p, hp, hx⟩ := List.mem_flatMap.mp h
  unfold leafProp
  cases hf : props.find? (fun p => p.path == [k]) with
  | some p' => exact ⟨p', rfl⟩
  | none =>
    simp only []
    cases hpp : p.path with
    | nil =>
      obtain ⟨q, k', hq, hqk, hx'⟩ := propLeaves_exposed_inv env p _ hpp hx
      simp only [Prod.mk.injEq, List.cons.injEq, and_true] at hx'
      obtain ⟨hk, _, _⟩ := hx'
      subst hk
      cases hfs : props.findSome? (fun p => (exposedOps env p).find? (fun q => q.path == [k])) with
      | some q' => exact ⟨q', rfl⟩
      | none =>
        exfalso
        have := (List.findSome?_eq_none_iff.mp hfs) p hp
        have := (List.find?_eq_none.mp this) q hq
        simp [hqk] at this
    | cons a t =>
      exfalso
      rw [propLeaves_nonempty env p (by rw [hpp]; simp)] at hx
      simp only [List.mem_singleton, Prod.mk.injEq] at hx
      have := (List.find?_eq_none.mp hf) p hp
      simp [← hx.1] at this

/-! ## one entry of a representable store -/

theorem fieldsOk_entry (env : Env) (O : Oracle) (props : List PropDef) (fs : Fields)
    (h : fieldsOk env O props fs = true) : ∀ k v, (k, v) ∈ fs →
      (match leafProp env props k with
       | some p => valOk env O p.field v && !(p.pres == Pres.imp && v.isZero)
       | none =>
         match v with
         | PVal.msg sub =>
           !sub.isEmpty && asorted sub && !(propsUnder k props).isEmpty &&
             fieldsOk env O (propsUnder k props) sub
         | _ => false) = true := by
  induction fs with
  | nil => intro k v hm; cases hm
  | cons kv t ih =>
    obtain ⟨k', v'⟩ := kv
    rw [fieldsOk_cons] at h
    simp only [Bool.and_eq_true] at h
    intro k v hm
    rcases List.mem_cons.mp hm with heq | hm'
    · cases heq; exact h.1
    · exact ih h.2 k v hm'

/-- what a representable store holds at the path of a leaf entry -/
theorem fieldsOk_path (env : Env) (O : Oracle) : ∀ (path : List Nat) (props : List PropDef)
    (fs : Fields) (f : Field) (pr : Pres), LeafH env props → fieldsOk env O props fs = true →
    asorted fs = true → (path, f, pr) ∈ leafEntries env props →
    SortedAlong path fs ∧ ∀ v, getPath fs path = some v →
      valOk env O f v = true ∧ (pr == .imp && v.isZero) = false ∧ v.depth ≤ depthFields fs := by
  intro path
  induction path with
  | nil => intro props fs f pr _ _ _ hm; exact absurd rfl (leafEntries_path_ne env props _ hm)
  | cons k t ih =>
    intro props fs f pr hH hfok hsort hm
    cases t with
    | nil =>
      refine ⟨hsort, ?_⟩
      intro v hget
      simp only [getPath] at hget
      have hmem := aget_mem k v fs hget
      have he := fieldsOk_entry env O props fs hfok k v hmem
      obtain ⟨q, hq⟩ := leafProp_some_of_entry env props k f pr hm
      rw [hq] at he
      simp only [Bool.and_eq_true, Bool.not_eq_true'] at he
      have := hH _ (leafProp_entry env props k q hq) _ hm (List.prefix_refl _)
      simp only [Prod.mk.injEq, true_and] at this
      rw [← this.1, ← this.2]
      exact ⟨he.1, he.2, depthFields_mem fs k v hmem⟩
    | cons k2 r =>
      -- the field `k` is a flattened sub-message: no leaf lives at `[k]`
      have hnoleaf : leafProp env props k = none := by
        cases hq : leafProp env props k with
        | none => rfl
        | some q =>
          have := hH _ (leafProp_entry env props k q hq) _ hm (by simp)
          simp at this
      have hsub : ∀ sub, aget k fs = some (.msg sub) →
          asorted sub = true ∧ fieldsOk env O (propsUnder k props) sub = true := by
        intro sub hag
        have he := fieldsOk_entry env O props fs hfok k _ (aget_mem k _ fs hag)
        rw [hnoleaf] at he
        simp only [Bool.and_eq_true] at he
        exact ⟨he.1.1.2, he.2⟩
      have hm' := leafEntries_under_mk env k k2 r props f pr hm
      constructor
      · refine ⟨hsort, ?_⟩
        intro sub hag
        obtain ⟨hs1, hs2⟩ := hsub sub hag
        exact (ih (propsUnder k props) sub f pr (hH.under k) hs2 hs1 hm').1
      · intro v hget
        obtain ⟨sub, hag, hget⟩ := getPath_cons2_some hget
        obtain ⟨hs1, hs2⟩ := hsub sub hag
        obtain ⟨h1, h2, h3⟩ := (ih (propsUnder k props) sub f pr (hH.under k) hs2 hs1 hm').2 v hget
        refine ⟨h1, h2, ?_⟩
        have := depthFields_mem fs k _ (aget_mem k _ fs hag)
        simp only [PVal.depth] at this
        omega

/-- … for a property with a proto path -/
theorem fieldsOk_leaf (env : Env) (O : Oracle) (props : List PropDef) (fs : Fields)
    (hroot : rootFlat env (.object props) = true) (hfok : fieldsOk env O props fs = true)
    (hsort : asorted fs = true) (p : PropDef) (hp : p ∈ props) (hpne : p.path ≠ []) (v : PVal)
    (hget : getPath fs p.path = some v) :
    fieldSimple p.field = true ∧ valOk env O p.field v = true ∧
      (p.pres == .imp && v.isZero) = false ∧ v.depth ≤ depthFields fs := by
  obtain ⟨hkinds, _, _, hLH⟩ := object_root_facts env props hroot
  refine ⟨?_, (fieldsOk_path env O p.path props fs p.field p.pres hLH hfok hsort
    (leafEntries_mem_path env props p hp hpne)).2 v hget⟩
  rcases hkinds p hp with h | h
  · exact (propFlat_inv p h).2
  · exact absurd (propExposed_inv env p h).1 hpne

/-- … and for the members of an exposed oneof -/
theorem fieldsOk_exposed (env : Env) (O : Oracle) (props : List PropDef) (fs : Fields)
    (hroot : rootFlat env (.object props) = true) (hfok : fieldsOk env O props fs = true)
    (hsort : asorted fs = true) (p : PropDef) (hp : p ∈ props) (hp0 : p.path = []) :
    ∀ q ∈ exposedOps env p, ∀ k v, q.path = [k] → aget k fs = some v →
      valOk env O q.field v = true ∧ (q.pres == .imp && v.isZero) = false := by
  intro q hq k v hqk hag
  obtain ⟨h1, h2, _⟩ := (fieldsOk_path env O [k] props fs q.field q.pres (object_root_facts env props hroot).2.2.2
    hfok hsort (List.mem_flatMap.mpr ⟨p, hp, propLeaves_exposed_mem env p q k hp0 hq hqk⟩)).2 v
    (by simpa [getPath] using hag)
  exact ⟨h1, h2⟩

/-! ## the restriction to all leaf paths is the whole message -/

theorem restrictP_all (env : Env) (O : Oracle) (fs : Fields) : ∀ (props : List PropDef)
    (S : List (List Nat)), fieldsOk env O props fs = true →
    (∀ x ∈ leafEntries env props, x.1 ∈ S) → restrictP S fs = fs := by
  induction fs using Fields.induct with
  | nil => intro _ _ _ _; rw [restrictP.eq_def]
  | cons k v rest hsub hrest =>
    intro props S hfok hS
    rw [fieldsOk_cons] at hfok
    simp only [Bool.and_eq_true] at hfok
    have hE : restrictE S k v = some v := by
      cases hq : leafProp env props k with
      | some q => exact restrictE_leaf S k v (hS _ (leafProp_entry env props k q hq))
      | none =>
        have he := hfok.1
        rw [hq] at he
        match v, he, hsub with
        | .msg sub, he, hsub =>
          simp only [Bool.and_eq_true, Bool.not_eq_true'] at he
          by_cases hk : [k] ∈ S
          · exact restrictE_leaf S k _ hk
          · rw [restrictE_msg S k sub hk, hsub sub rfl (propsUnder k props) (tailsAt k S) he.2 (by
              intro x hx
              exact (mem_tailsAt k S x.1).mpr ⟨leafEntries_path_ne env _ x hx,
                hS _ (leafEntries_under env k props x hx)⟩)]
            simp [he.1.1.1]
    rw [restrictP.eq_def]
    simp only [hE]
    rw [hrest props S hfok.2 hS]

end J5V.Codec
