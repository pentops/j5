import J5V.Codec.StoredSpec
import J5V.Codec.AtPathProofs
import J5V.Codec.DecodeRel
/-!
# Exactness, one member at a time (C03, first sentence)

A successfully decoded non-null scalar member is stored with exactly the value its token
denotes, at the proto path of its property; array elements are appended in order, each with the
value its token denotes; storing a later member leaves every leaf at an unrelated path alone.
-/
namespace J5V.Codec
open J5V.Go J5V.Json

/-- a scalar member: what is stored is what the token denotes -/
theorem scalar_member_exact {c : Cfg} {props : List PropDef} {p : PropDef} {k : ScalarKind}
    {t : PTree} {st st' : PS} (h : DecProp c props p t st st') (hf : p.field = .scalar k)
    (hnn : t ≠ .null) :
    ∃ vv, scalarSpells c.O k vv t ∧ p.path ≠ [] ∧ groupBusy props p st.m = false ∧
      st' = { m := updPath props p (some vv) st.m, seen := p.jsonName :: st.seen } := by
  cases h with
  | null => exact absurd rfl hnn
  | value hne _ hgb hv =>
    rw [hf] at hv
    cases hv with
    | scalar hg hd => exact ⟨_, ⟨hnn, _, hg, hd⟩, hne, hgb, rfl⟩
  | exposed _ hfld => rw [hf] at hfld; cases hfld

/-- a member with a proto path changes the message by one `Message.Set` at that path: every leaf at
an unrelated path (neither above nor below) keeps its value -/
theorem decProp_frame {c : Cfg} {props : List PropDef} {p : PropDef} {t : PTree} {st st1 : PS}
    (h : DecProp c props p t st st1) (hne : p.path ≠ []) (x : List Nat) (hx : x ≠ [])
    (h1 : ¬ p.path <+: x) (h2 : ¬ x <+: p.path) : getPath st1.m x = getPath st.m x := by
  cases h with
  | null => rfl
  | value _ _ hgb _ =>
    obtain ⟨kl, hkl⟩ := last_of_ne p.path hne
    exact getPath_updPath_frame props p _ kl hkl st.m x hne hx h1 h2
      (siblingsUnset_of_not_busy props p kl st.m hkl hgb)
  | exposed hpe => exact absurd hpe hne

/-- the stored scalar is found at its path (unless it is the zero value of an implicit-presence
field, which protobuf does not store), and every leaf at an unrelated path is untouched -/
theorem scalar_member_stored {c : Cfg} {props : List PropDef} {p : PropDef} {k : ScalarKind}
    {t : PTree} {st st' : PS} (h : DecProp c props p t st st') (hf : p.field = .scalar k)
    (hnn : t ≠ .null) :
    ∃ vv, scalarSpells c.O k vv t ∧
      (getPath st'.m p.path = some vv ∨
        ((p.pres == .imp && vv.isZero) = true ∧ getPath st'.m p.path = none)) ∧
      ∀ x, x ≠ [] → ¬ p.path <+: x → ¬ x <+: p.path → getPath st'.m x = getPath st.m x := by
  obtain ⟨vv, hsp, hne, _, rfl⟩ := scalar_member_exact h hf hnn
  -- a scalar is never an empty collection
  have hec : vv.isEmptyColl = false := by
    obtain ⟨_, tok, _, hd⟩ := hsp
    exact (Denotes.of_ok hd).not_emptyColl
  refine ⟨vv, hsp, ?_, fun x hx h1 h2 => decProp_frame h hne x hx h1 h2⟩
  cases hz : (p.pres == .imp && vv.isZero) with
  | false => exact .inl (getPath_go_self props p vv hz hec p.path [] st.m rfl hne)
  | true =>
    exact .inr ⟨rfl, getPath_go_erased props p vv (by simp [hz]) p.path [] st.m hne⟩

theorem persists_step {c : Cfg} {props : List PropDef} (hpa : PathsApart props) {p q : PropDef}
    (hp : p ∈ props) (hq : q ∈ props) {t : PTree} {st st1 : PS} (h : DecProp c props q t st st1)
    (hseen : p.jsonName ∈ st.seen) :
    p.jsonName ∈ st1.seen ∧ getPath st1.m p.path = getPath st.m p.path := by
  rcases DecProp.marks h with ⟨_, rfl⟩ | ⟨_, hfresh, hs⟩
  · exact ⟨hseen, rfl⟩
  · have hnn : q.jsonName ≠ p.jsonName := fun e => hfresh (e ▸ hseen)
    exact ⟨hs ▸ List.mem_cons_of_mem _ hseen, decProp_frame h (hpa.1 q hq) p.path (hpa.1 p hp)
      (hpa.2 q hq p hp hnn) (hpa.2 p hp q hq fun e => hnn e.symm)⟩

theorem member_persists {c : Cfg} {props : List PropDef} (hpa : PathsApart props) {p : PropDef}
    (hp : p ∈ props) {j : Call} (h : Decodes c j) :
    match j with
    | .obj ps _ st st' _ => ps = props → p.jsonName ∈ st.seen → getPath st'.m p.path = getPath st.m p.path
    | .one ps _ st _ _ st' _ _ _ =>
        ps = props → p.jsonName ∈ st.seen → getPath st'.m p.path = getPath st.m p.path
    | _ => True := by
  have := Decodes.chain (c := c)
    (fun ps s s' => ps = props → p.jsonName ∈ s.seen →
      p.jsonName ∈ s'.seen ∧ getPath s'.m p.path = getPath s.m p.path)
    (fun _ _ _ hs => ⟨hs, rfl⟩)
    (fun _ a b d hab hbd e ha => ⟨(hbd e (hab e ha).1).1, (hbd e (hab e ha).1).2.trans (hab e ha).2⟩)
    (fun ps k q v s s1 hf hd e hs => by subst e; exact persists_step hpa hp (findProp_mem _ k q hf) hd hs)
    h
  cases j <;> first | trivial | exact fun e hs => (this e hs).2

/-- one level down: a scalar array is, in order, the values its element tokens denote; every non-null
scalar member of an object with unrelated leaves is found at its path with a value its token denotes
(or is an unstored zero value) -/
def ScalarsExact (c : Cfg) : Call → Prop
  | .elems (.scalar k) xs acc l _ => ∃ vs, l = acc ++ vs ∧ elemsDenote c.O k vs xs
  | .obj props ms _ st' _ => PathsApart props →
      ∀ k v p kk, isMember k v ms → v ≠ .null → findProp props k = some p → p.field = .scalar kk →
        ∃ vv, scalarSpells c.O kk vv v ∧
          (getPath st'.m p.path = some vv ∨
            ((p.pres == .imp && vv.isZero) = true ∧ getPath st'.m p.path = none))
  | _ => True

theorem Decodes.scalarsExact {c : Cfg} {j : Call} (h : Decodes c j) : ScalarsExact c j := by
  induction h with
  | @elemsNil item _ _ _ => cases item <;> first | trivial | exact ⟨[], by simp, by simp [elemsDenote]⟩
  | @elemsCons item _ _ pv _ _ _ _ hv _ _ ih =>
    cases item <;> try trivial
    obtain ⟨vs, hl, hden⟩ := ih
    cases hv with
    | scalar hg hd =>
      exact ⟨pv :: vs, by rw [hl]; simp, by simp only [elemsDenote]; exact ⟨⟨_, hg, hd⟩, hden⟩⟩
  | objNil _ => intro _ k v p kk hmem; simp [isMember] at hmem
  | @objCons props k0 _ v0 _ q _ st1 _ _ hf hd hr _ ih =>
    intro hpa k v p kk hmem hnn hfp hfld
    rcases hmem with ⟨rfl, rfl⟩ | hmem
    · -- this member: stored now, and kept by the members after it
      have e : p = q := Option.some.inj (hfp.symm.trans hf)
      subst e
      have hp := findProp_mem props k0 p hfp
      obtain ⟨vv, hsp, hst, _⟩ := scalar_member_stored hd hfld hnn
      have hseen : p.jsonName ∈ st1.seen := by
        rcases DecProp.marks hd with ⟨e, _⟩ | ⟨_, _, hs⟩
        · exact absurd e hnn
        · rw [hs]; exact List.mem_cons_self
      exact ⟨vv, hsp, by rw [member_persists hpa hp hr rfl hseen]; exact hst⟩
    · exact ih hpa k v p kk hmem hnn hfp hfld
  | _ => trivial

end J5V.Codec
