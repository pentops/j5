import J5V.Codec.Doc
/-! # `Env.apart`, the hypothesis of the theorem about `StoredRoot` (definitions only) -/
namespace J5V.Codec
open J5V.Go J5V.Json

/-- distinct properties address unrelated leaves (what `Env.flat` gives for object roots without
exposed oneofs) -/
def PathsApart (props : List PropDef) : Prop :=
  (∀ p ∈ props, p.path ≠ []) ∧
  ∀ p ∈ props, ∀ q ∈ props, p.jsonName ≠ q.jsonName → ¬ p.path <+: q.path

/-- the properties of an object address unrelated leaves: an exposed oneof (empty path) is a oneof
root whose members have one-element paths, unrelated among themselves; the leaves of different
properties (`leavesOf`: the own path, or the members of the exposed oneof) are unrelated -/
structure ApartX (env : Env) (props : List PropDef) : Prop where
  exposed : ∀ p ∈ props, p.path = [] → ∃ ref ops, p.field = .oneof ref ∧
    env.find ref = some (.oneof ops) ∧ (∀ q ∈ ops, ∃ k, q.path = [k]) ∧ PathsApart ops
  apart : ∀ p ∈ props, ∀ p' ∈ props, p.jsonName ≠ p'.jsonName →
    ∀ q ∈ leavesOf env p, ∀ q' ∈ leavesOf env p', ¬ q.path <+: q'.path

/-- every named root of the environment addresses unrelated leaves with its properties -/
def Env.apart (env : Env) : Prop :=
  ∀ name props, (env.find name = some (.object props) → ApartX env props) ∧
    (env.find name = some (.oneof props) → PathsApart props)

instance (props : List PropDef) : Decidable (PathsApart props) := by
  unfold PathsApart; infer_instance

def apartXB (env : Env) (props : List PropDef) : Bool :=
  props.all (fun p => p.path != [] ||
    (match p.field with
     | .oneof ref =>
       match env.find ref with
       | some (.oneof ops) => ops.all (fun q => q.path.length == 1) && decide (PathsApart ops)
       | _ => false
     | _ => false)) &&
  props.all (fun p => props.all (fun p' => p.jsonName == p'.jsonName ||
    (leavesOf env p).all (fun q => (leavesOf env p').all (fun q' => !(q.path.isPrefixOf q'.path)))))

def Env.apartB (env : Env) : Bool :=
  env.defs.all fun d =>
    match d.2 with
    | .object ps => apartXB env ps
    | .oneof ps => decide (PathsApart ps)
    | _ => true

end J5V.Codec
