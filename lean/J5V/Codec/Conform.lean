import J5V.Codec.Repr
import J5V.Codec.Decode
/-!
# Decidable well-formedness predicates for the structure-level theorems

* `valOk` — "representable message" (C01's quantifier), schema directed and **general** (every
  construct of the schema language): stores are sorted and hold only fields the schema addresses —
  as the final field of a property (`path = [k]`), as the member of an exposed oneof (a property
  with an empty path whose oneof lives in the same message), or as a flattened sub-message (an
  interior field of longer paths; it must be non-empty: C01 treats an empty flattened sub-object
  as absent) — with values of the right shape; scalars are `scalarRepr` with valid UTF-8 and
  decimals in `decimal.String()` normal form; enum numbers are defined; lists and maps are
  non-empty, map keys distinct valid UTF-8; a oneof (wrapper, exposed or anonymous proto oneof) has
  at most one member set; implicit presence fields are never stored with their zero value.
* `Env.simple` — one-element proto paths only (no flattened objects, no exposed oneofs),
  no anonymous proto oneof in objects.
* `Env.flat` ⊇ `Env.simple` — the class the structure-level round trip is proved for:
  additionally **anonymous proto oneofs** in objects (`group`), **exposed oneofs** (empty path)
  and **flattened objects** (proto paths of any positive length, prefix-free), and **j5 `Any`**
  properties (`.any false`; not as array / map items, which the codec does not support);
  `google.protobuf.Any` properties (`.any true`), populated by a `valOk` message when the content is a
  non-empty representable message of the root the type URL resolves to. Still excluded: an exposed oneof inlined from a flattened object
  (its path is a prefix of its siblings' paths).
-/
namespace J5V.Codec
open J5V.Json

def itemSimple : Field → Bool
  | .scalar _ | .enum _ | .object _ | .oneof _ => true
  | _ => false

def fieldSimple : Field → Bool
  | .scalar _ | .enum _ | .object _ | .oneof _ => true
  | .array i => itemSimple i
  | .map i => itemSimple i
  | .any _ => true

def propSimple (p : PropDef) : Bool := p.path.length == 1 && fieldSimple p.field

def typeKeyBytes : Bytes := ascii "!type"

def rootSimple : Root → Bool
  | .object ps =>
    ps.all (fun p => propSimple p && p.group.isNone) &&
    decide ((ps.map (·.jsonName)).Nodup) && decide ((ps.map (·.path)).Nodup)
  | .oneof ps =>
    ps.all propSimple &&
    decide ((ps.map (·.jsonName)).Nodup) && decide ((ps.map (·.path)).Nodup) &&
    !(ps.map (·.jsonName)).contains typeKeyBytes
  | .enum _ opts =>
    decide ((opts.map (·.1)).Nodup) && decide ((opts.map (·.2)).Nodup) &&
    opts.all (fun o => isValidUtf8 o.1)
  | .noschema => true

def Env.simple (env : Env) : Bool :=
  env.defs.all (fun d => rootSimple d.2) &&
  env.defs.all (fun d => match d.2 with
    | .object ps | .oneof ps => ps.all (fun p => isValidUtf8 p.jsonName)
    | _ => true)

/-! ## exposed oneofs, flattened objects -/

/-- the property that owns top-level field `k` as a leaf -/
def leafProp (env : Env) (props : List PropDef) (k : Nat) : Option PropDef :=
  match props.find? (fun p => p.path == [k]) with
  | some p => some p
  | none => props.findSome? fun p => (exposedOps env p).find? (fun q => q.path == [k])

/-- the properties inlined from the flattened message at field `k`, re-rooted at that message -/
def propsUnder (k : Nat) (props : List PropDef) : List PropDef :=
  props.filterMap fun p =>
    match p.path with
    | k' :: k2 :: r => if k' = k then some { p with path := k2 :: r } else none
    | _ => none

def isSet (fs : Fields) (p : PropDef) : Bool := (getPath fs p.path).isSome

/-- at most one member of every real proto oneof is set -/
def groupsOk (props : List PropDef) (fs : Fields) : Bool :=
  props.all fun p => props.all fun q =>
    !(p.group.isSome && p.group == q.group && p.path.dropLast == q.path.dropLast && p.path != q.path &&
      isSet fs p && isSet fs q)

/-- at most one member of every exposed oneof is set -/
def exposedOk (env : Env) (props : List PropDef) (fs : Fields) : Bool :=
  props.all fun p => decide (((exposedOps env p).filter (isSet fs)).length ≤ 1)

/-- an exposed-oneof property whose reference resolves -/
def propExposed (env : Env) (p : PropDef) : Bool :=
  p.path.isEmpty && p.group.isNone &&
  (match p.field with
   | .oneof ref =>
     match env.find ref with
     | some (.oneof _) => true
     | _ => false
   | _ => false)

/-! ## flattened objects -/

/-- the leaves of the message a property addresses: (proto path, field schema, presence class) -/
def propLeaves (env : Env) (p : PropDef) : List (List Nat × Field × Pres) :=
  match p.path with
  | [] =>
    (exposedOps env p).filterMap fun q =>
      match q.path with
      | [k] => some ([k], q.field, q.pres)
      | _ => none
  | path => [(path, p.field, p.pres)]

def leafEntries (env : Env) (props : List PropDef) : List (List Nat × Field × Pres) :=
  props.flatMap (propLeaves env)

/-- no path is a proper prefix of another (a flattened message field is not itself a property) -/
def prefixFree (L : List (List Nat)) : Bool :=
  L.all fun a => L.all fun b => a == b || !(a.isPrefixOf b)

def propFlat (p : PropDef) : Bool := !p.path.isEmpty && fieldSimple p.field

/-- object roots of `Env.flat`: every property has a proto path of any positive length
(**flattened objects**: the sub-message's properties are inlined with the full path) or is an
exposed oneof; the leaf paths are distinct and prefix-free -/
def rootFlat (env : Env) : Root → Bool
  | .object ps =>
    ps.all (fun p => propFlat p || propExposed env p) &&
    decide ((ps.map (·.jsonName)).Nodup) &&
    decide (((leafEntries env ps).map (·.1)).Nodup) && prefixFree ((leafEntries env ps).map (·.1))
  | r => rootSimple r

def Env.flat (env : Env) : Bool :=
  env.defs.all (fun d => rootFlat env d.2) &&
  env.defs.all (fun d => match d.2 with
    | .object ps | .oneof ps => ps.all (fun p => isValidUtf8 p.jsonName)
    | _ => true)

def fieldNoAny : Field → Bool
  | .any _ => false
  | .array i => fieldNoAny i
  | .map i => fieldNoAny i
  | _ => true

/-- no `Any` field anywhere in the environment (an `Any` carries `j5_json` bytes that the encoder
inserts verbatim and unchecked) -/
def Env.noAny (env : Env) : Bool :=
  env.defs.all fun d => match d.2 with
    | .object ps | .oneof ps => ps.all fun p => fieldNoAny p.field
    | _ => true

def fieldNoJ5 : Field → Bool
  | .any pb => pb
  | .array i => fieldNoJ5 i
  | .map i => fieldNoJ5 i
  | _ => true

/-- no `j5.types.any.v1.Any` field anywhere in the environment (protobuf `Any` fields allowed) -/
def Env.noJ5Any (env : Env) : Bool :=
  env.defs.all fun d => match d.2 with
    | .object ps | .oneof ps => ps.all fun p => fieldNoJ5 p.field
    | _ => true

/-- scalar values: representable, strings valid UTF-8, decimals in normal form -/
def scalarOk (O : Oracle) (k : ScalarKind) (v : PVal) : Bool :=
  scalarRepr O k v &&
  (match k, v with
   | .string, .str s => isValidUtf8 s
   | .key, .str s => isValidUtf8 s
   | .decimal, .dec s => O.parseDec s == some s && isValidUtf8 s
   | _, _ => true)

mutual
def valOk (env : Env) (O : Oracle) : Field → PVal → Bool
  | fld, .msg fs =>
    match fld with
    | .object ref =>
      match env.find ref with
      | some (.object props) =>
        asorted fs && fieldsOk env O props fs && groupsOk props fs && exposedOk env props fs
      | _ => false
    | .oneof ref =>
      match env.find ref with
      | some (.oneof props) => asorted fs && fieldsOk env O props fs && fs.length ≤ 1
      | _ => false
    | _ => false
  | fld, .list xs =>
    match fld with
    | .array item => !xs.isEmpty && listOk env O item xs
    | _ => false
  | fld, .map kvs =>
    match fld with
    | .map item => !kvs.isEmpty && mapOk env O item [] kvs
    | _ => false
  | fld, .enum n =>
    match fld with
    | .enum ref =>
      match env.find ref with
      | some (.enum _ opts) => (optionByNumber opts n).isSome
      | _ => false
    | _ => false
  | fld, .anyJ5 tn proto j5 ik iroot inner =>
    -- a j5 `Any` that carries `j5_json` only: the stored bytes are the compact rendering of a
    -- complete JSON value of nesting depth ≤ 10000 (what `json.Compact` / the codec itself
    -- writes), recognised by the specification-side `O.chunk`; only in an environment that has
    -- j5 `Any` fields at all
    match fld, proto, ik, iroot, inner with
    | .any false, [], .none, "", .msg [] =>
      !env.noJ5Any && isValidUtf8 tn && !j5.isEmpty &&
        (match O.chunk j5 with
         | some V => V.render == j5 && V.complete && decide (V.depth ≤ 10000)
         | none => false)
    | _, _, _, _, _ => false
  | fld, .anyPb url value ik iroot inner =>
    -- a `google.protobuf.Any` whose content unmarshals to a non-empty representable message of the
    -- root its type URL resolves to (the wire bytes are represented by `ik / iroot / inner`)
    match fld, value, ik with
    | .any true, [], .inn =>
      (match inner with
       | .msg fs => !fs.isEmpty
       | _ => false) &&
      (url == anyPrefixB ++ url.drop anyPrefixB.length) &&
      isValidUtf8 (url.drop anyPrefixB.length) &&
      (env.resolve (url.drop anyPrefixB.length) == some iroot) &&
      (valOk env O (.object iroot) inner || valOk env O (.oneof iroot) inner)
    | _, _, _ => false
  | fld, v =>
    match fld with
    | .scalar k => scalarOk O k v
    | _ => false
def fieldsOk (env : Env) (O : Oracle) (props : List PropDef) : List (Nat × PVal) → Bool
  | [] => true
  | (k, v) :: rest =>
    (match leafProp env props k with
     | some p => valOk env O p.field v && !(p.pres == .imp && v.isZero)
     | none =>
       -- a flattened sub-message: non-empty, its fields belong to the inlined properties
       match v with
       | .msg sub =>
         !sub.isEmpty && asorted sub && !(propsUnder k props).isEmpty &&
           fieldsOk env O (propsUnder k props) sub
       | _ => false) && fieldsOk env O props rest
def listOk (env : Env) (O : Oracle) (item : Field) : List PVal → Bool
  | [] => true
  | v :: rest => valOk env O item v && listOk env O item rest
def mapOk (env : Env) (O : Oracle) (item : Field) (seen : List Bytes) : List (Bytes × PVal) → Bool
  | [] => true
  | (k, v) :: rest =>
    !seen.contains k && isValidUtf8 k && valOk env O item v && mapOk env O item (k :: seen) rest
end

/-! ## the `j5_json` chunks stored in a message (C08's quantifier for `Any`) -/

/-- the specification-side oracle recognises the chunk *as these very bytes* -/
def chunkKnown (O : Oracle) (bs : Bytes) : Bool :=
  match O.chunk bs with
  | some V => V.render == bs
  | none => false

mutual
/-- every `j5_json` stored anywhere in the value (at any depth, also inside the proto content of
an `Any`) is a recognised chunk; no schema involved, no other condition on the value -/
def PVal.chunksOk (O : Oracle) : PVal → Bool
  | .anyJ5 _ _ j5 _ _ inner => (j5.isEmpty || chunkKnown O j5) && inner.chunksOk O
  | .anyPb _ _ _ _ inner => inner.chunksOk O
  | .msg fs => chunksOkFields O fs
  | .list xs => chunksOkList O xs
  | .map kvs => chunksOkMap O kvs
  | _ => true
def chunksOkFields (O : Oracle) : List (Nat × PVal) → Bool
  | [] => true
  | (_, v) :: rest => v.chunksOk O && chunksOkFields O rest
def chunksOkList (O : Oracle) : List PVal → Bool
  | [] => true
  | v :: rest => v.chunksOk O && chunksOkList O rest
def chunksOkMap (O : Oracle) : List (Bytes × PVal) → Bool
  | [] => true
  | (_, v) :: rest => v.chunksOk O && chunksOkMap O rest
end

/-! ## which codec can decode the `Any` values of a message (per VALUE) -/

mutual
/-- `modeOk p F d v`: a codec with `protoToAny = p`, at `anyDepth = d`, decodes the `Any` values in
`v`: a j5 `Any` needs the codec without `WithProtoToAny`; a protobuf `Any` needs `WithProtoToAny`,
fewer than `maxAnyDepth` enclosing `Any` values, and (`F`: the fuel the encoder model runs with, an
upper bound of the nesting depth of the tree it builds) its encoding must stay within the 10000
levels of `encoding/json`. A value without `Any` satisfies it for every codec. -/
def modeOk (p : Bool) (F : Nat) : Nat → PVal → Bool
  | _, .anyJ5 _ _ _ _ _ _ => !p
  | d, .anyPb _ _ _ _ inner => p && decide (d < maxAnyDepth) && decide (F ≤ 10000) && modeOk p F (d + 1) inner
  | d, .msg fs => modeOkF p F d fs
  | d, .list xs => modeOkL p F d xs
  | d, .map kvs => modeOkM p F d kvs
  | _, _ => true
def modeOkF (p : Bool) (F : Nat) : Nat → List (Nat × PVal) → Bool
  | _, [] => true
  | d, (_, v) :: rest => modeOk p F d v && modeOkF p F d rest
def modeOkL (p : Bool) (F : Nat) : Nat → List PVal → Bool
  | _, [] => true
  | d, v :: rest => modeOk p F d v && modeOkL p F d rest
def modeOkM (p : Bool) (F : Nat) : Nat → List (Bytes × PVal) → Bool
  | _, [] => true
  | d, (_, v) :: rest => modeOk p F d v && modeOkM p F d rest
end

end J5V.Codec
