import J5V.Codec.FaultProofs
import J5V.Codec.Doc
/-!
# A document with a fault is rejected (C03): `FaultRoot c root t → decRootTree c root t = .err _`

At any nesting position, whatever surrounds the fault: no successful call of the decoder (`Decodes`)
is on a value, a member list or an element list with a fault (`Decodes.noFault`).
-/
namespace J5V.Codec
open J5V.Go J5V.Json

def NotOk {α} (o : Outcome α) : Prop := ∀ a, o ≠ .ok a

theorem NotOk_err {α} (e : String) : NotOk (Outcome.err e : Outcome α) := by intro a h; cases h
theorem NotOk_panic {α} (w : String) : NotOk (Outcome.panic w : Outcome α) := by intro a h; cases h

theorem NotOk_bind {α β} (x : Outcome α) (f : α → Outcome β) (h : ∀ a, x = .ok a → NotOk (f a)) :
    NotOk (x.bind f) := by
  cases x with
  | ok a => exact h a rfl
  | err e => exact NotOk_err e
  | panic w => exact NotOk_panic w

theorem NotOk_bind_left {α β} (x : Outcome α) (f : α → Outcome β) (h : NotOk x) : NotOk (x.bind f) :=
  NotOk_bind x f fun a ha => absurd ha (h a)

theorem oneofPost_fault (ops : List PropDef) (ms : PMembers) (m : Fields) (h : FaultOneofPost ops ms) :
    NotOk (oneofPost ops (oneofKeys ms) (finalType ms none) m) := by
  have notOk : ∀ {o : Outcome (Option PropDef)}, IsErr o → NotOk o := by
    rintro _ ⟨e, rfl⟩; exact NotOk_err e
  unfold FaultOneofPost at h
  split at h
  · next hk => rw [hk]; exact notOk (oneof_multiple_keys ops _ _ _ _ m)
  · next hk hct => rw [hk, hct]; exact notOk (oneof_type_mismatch ops _ _ m h)
  · next hk hct => rw [hk, hct]; exact notOk (oneof_type_unknown ops _ m h)
  · exact absurd h (by simp)

theorem post_ok {c : Cfg} {ops : List PropDef} {ms : PMembers} {st r : PS} {found : List Bytes}
    {ct : Option Bytes} {tp : Option PropDef} {term : Term}
    (hr : DecOne c ops ms st [] none r found ct term)
    (hpost : oneofPost ops found ct r.m = .ok tp) : ¬ FaultOneofPost ops ms := by
  intro hv
  obtain ⟨hfound, hct, _⟩ := Decodes.loops hr
  rw [hfound, hct, List.nil_append] at hpost
  exact oneofPost_fault ops ms r.m hv tp hpost

/-- the scalar clause of `FaultV`, on any tree -/
theorem FaultV_scalar {c : Cfg} {k : ScalarKind} {t : PTree} :
    FaultV c (.scalar k) t ↔
      t ≠ .null ∧ ∀ tok, goTok t = some tok → ∃ e, decodeScalar c.O k tok = .err e := by
  cases t <;> simp [FaultV, goTok]

/-- what a successful call rules out: a fault in the value / below the members it read (a loop that
stopped at a truncated container has read a fault), and a second non-null member for a property
that is marked -/
def NoFault (c : Cfg) : Call → Prop
  | .val fld _ t _ => ¬ FaultV c fld t
  | .prop _ p t _ _ => ¬ FaultV c p.field t
  | .obj props ms st _ term =>
      (term = .closed → ¬ FaultM c props ms) ∧ ∀ k ∈ st.seen, ¬ hasNonNull k ms
  | .one ops ms _ _ _ _ _ _ term => term = .closed → ¬ FaultO c ops ms
  | .elems item xs _ _ term => term = .closed → ¬ FaultE c item xs
  | .map item ms _ _ term => term = .closed → ¬ FaultMap c item ms

theorem Decodes.noFault {c : Cfg} {j : Call} (hd : Decodes c j) : NoFault c j := by
  induction hd with
  | scalar hg hd =>
    intro h
    obtain ⟨e, he⟩ := (FaultV_scalar.mp h).2 _ hg
    rw [he] at hd; cases hd
  | «enum» hf hn => intro h; simp only [FaultV, hf] at h; rw [h] at hn; cases hn
  | object hf _ ih => intro h; simp only [FaultV, hf] at h; exact ih.1 rfl h
  | oneof hf hr hpost ih =>
    intro h; simp only [FaultV, hf] at h
    exact h.elim (ih rfl) (post_ok hr hpost)
  | any => intro h; simp [FaultV] at h
  | array _ _ ih => intro h; simp only [FaultV] at h; exact ih rfl h
  | map _ _ ih => intro h; simp only [FaultV] at h; exact ih rfl h
  | null => intro h; simp [FaultV] at h
  | value _ _ _ _ ih => exact ih
  | exposed _ hfld hf _ _ hr hpost ih =>
    intro h
    rw [hfld] at h
    simp only [FaultV, hf] at h
    exact h.elim (ih rfl) (post_ok hr hpost)
  | objNil _ => exact ⟨fun hc h => by simp only [FaultM] at h; exact h hc, fun _ _ h => h⟩
  | objCons hf hp _ ihp ihr =>
    have hname := findProp_name _ _ _ hf
    refine ⟨fun hc h => ?_, fun k hseen h => ?_⟩
    · simp only [FaultM] at h
      rcases h with h | ⟨p', hp', hv⟩ | ⟨hv, hdup⟩ | h
      · rw [hf] at h; cases h
      · rw [hf] at hp'; cases hp'; exact ihp hv
      · -- the member marked its property, so the later non-null member is a second one
        rcases DecProp.marks hp with ⟨e, _⟩ | ⟨_, _, hs⟩
        · exact hv e
        · exact ihr.2 _ (by rw [hs, hname]; exact List.mem_cons_self) hdup
      · exact ihr.1 hc h
    · rcases DecProp.marks hp with ⟨e, rfl⟩ | ⟨hv, hns, hs⟩
      · rcases h with ⟨_, hv⟩ | h
        · exact hv e
        · exact ihr.2 k hseen h
      · rcases h with ⟨rfl, _⟩ | h
        · exact hns (hname ▸ hseen)
        · exact ihr.2 k (by rw [hs]; exact List.mem_cons_of_mem _ hseen) h
  | oneNil => intro hc h; simp only [FaultO] at h; exact h hc
  | oneType _ ih =>
    intro hc h
    simp only [FaultO] at h
    rcases h with ⟨_, hns⟩ | ⟨hne, _⟩ | ⟨hne, _⟩ | h
    · exact hns _ _ rfl
    · exact hne rfl
    · exact hne rfl
    · exact ih hc h
  | oneCons hk hf _ _ ihp ihr =>
    intro hc h
    simp only [FaultO] at h
    rcases h with ⟨he, _⟩ | ⟨_, hnone⟩ | ⟨_, p', hp', hv⟩ | h
    · exact hk he
    · rw [hf] at hnone; cases hnone
    · rw [hf] at hp'; cases hp'; exact ihp hv
    · exact ihr hc h
  | elemsNil _ => intro hc h; simp only [FaultE] at h; exact h hc
  | elemsCons _ hv _ ihv ihr =>
    intro hc h
    simp only [FaultE] at h
    exact h.elim (DecVal.ne_null hv) fun h => h.elim ihv (ihr hc)
  | mapNil _ => intro hc h; simp only [FaultMap] at h; exact h hc
  | mapCons _ _ hv _ ihv ihr =>
    intro hc h
    simp only [FaultMap] at h
    exact h.elim (DecVal.ne_null hv) fun h => h.elim ihv (ihr hc)

/-- a faulty value is rejected as the value of a property, whatever the decoder state -/
theorem faultV_prop (c : Cfg) (props : List PropDef) (p : PropDef) (t : PTree)
    (h : FaultV c p.field t) (st : PS) : NotOk (decProp c props p t st) :=
  fun st' hd => (decProp_sound c props p t st st' hd).noFault h

theorem faultE_elems (c : Cfg) (item : Field) (xs : PElems) (h : FaultE c item xs)
    (acc : List PVal) : ∀ r, decElems c item xs acc ≠ .ok (r, .closed) :=
  fun r hc => (decElems_sound c item xs acc r _ hc).noFault rfl h

theorem faultMap_members (c : Cfg) (item : Field) (ms : PMembers) (h : FaultMap c item ms)
    (acc : List (Bytes × PVal)) : ∀ r, decMapMembers c item ms acc ≠ .ok (r, .closed) :=
  fun r hc => (decMap_sound c item ms acc r _ hc).noFault rfl h

/-- a faulty (or `null`) value is rejected as an array element / map value of object type -/
theorem faultV_decObject (c : Cfg) (ref : String) (sub : List PropDef) (v : PTree)
    (hf : c.env.find ref = some (.object sub)) (hv : v = .null ∨ FaultV c (.object ref) v) :
    NotOk (decObject c sub v) := fun fs hd =>
  have hd := decObject_sound c ref sub v fs hf hd
  hv.elim (DecVal.ne_null hd) hd.noFault

theorem faultV_decOneof (c : Cfg) (ref : String) (ops : List PropDef) (v : PTree)
    (hf : c.env.find ref = some (.oneof ops)) (hv : v = .null ∨ FaultV c (.oneof ref) v) :
    NotOk (decOneof c ops v) := fun fs hd =>
  have hd := decOneof_sound c ref ops v fs hf hd
  hv.elim (DecVal.ne_null hd) hd.noFault

theorem faultRoot_notOk (c : Cfg) (root : String) (t : PTree) (h : FaultRoot c root t) :
    NotOk (decRootTree c root t) := by
  unfold FaultRoot at h
  refine decRootTree_cases c root t (fun props hf => ?_) (fun ops hf => ?_) NotOk_err
  · rw [hf] at h
    cases t with
    | obj ms => exact faultV_decObject c root props _ hf (Or.inr (by simp only [FaultV, hf]; exact h))
    | _ => exact NotOk_err _
  · rw [hf] at h
    cases t with
    | obj ms => exact faultV_decOneof c root ops _ hf (Or.inr (by simp only [FaultV, hf]; exact h))
    | _ => exact NotOk_err _

/-- **a document with a fault is rejected with an error** — not accepted, not partially accepted,
no panic -/
theorem fault_rejected (c : Cfg) (hc : c.env.itemsOk = true) (root : String) (t : PTree)
    (h : FaultRoot c root t) : ∃ e, decRootTree c root t = .err e :=
  err_of_notOk_noPanic (faultRoot_notOk c root t h) (decRootTree_np c hc root t)

end J5V.Codec
