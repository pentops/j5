import J5V.Codec.EncTreeProofs
/-!
# `google.protobuf.Any` with `WithProtoToAny` (C01, one property, under an explicit depth hypothesis)

A protobuf `Any` can only be decoded by a codec built `WithProtoToAny`: reading
`{"!type": tn, "value": V}` it resolves `tn`, decodes `V` into a fresh message of that type (with
`anyDepth + 1`), marshals it and stores the bytes. In the model the bytes are represented by what
they unmarshal to (`ik / iroot / inner`), so no marshal / unmarshal law is needed beyond the
modelling assumption (trusted base: "proto.Marshal / Unmarshal for the bytes inside Any values").

Then: without `Any` fields every codec can decode (`canDecode_of_noAny`).
-/
namespace J5V.Codec
open J5V.Go J5V.Json

theorem fieldNoJ5_of_noAny (fld : Field) (h : fieldNoAny fld = true) : fieldNoJ5 fld = true := by
  induction fld with
  | any pb => simp [fieldNoAny] at h
  | array i ih => simp only [fieldNoAny] at h; simp only [fieldNoJ5]; exact ih h
  | map i ih => simp only [fieldNoAny] at h; simp only [fieldNoJ5]; exact ih h
  | _ => rfl

/-- an environment without any `Any` field has no j5 `Any` field -/
theorem noJ5Any_of_noAny (env : Env) (h : env.noAny = true) : env.noJ5Any = true := by
  unfold Env.noAny at h
  unfold Env.noJ5Any
  apply List.all_eq_true.mpr
  intro d hd
  have := List.all_eq_true.mp h d hd
  obtain ⟨name, r⟩ := d
  cases r with
  | object ps =>
    simp only [] at this ⊢
    exact List.all_eq_true.mpr fun p hp => fieldNoJ5_of_noAny _ (List.all_eq_true.mp this p hp)
  | oneof ps =>
    simp only [] at this ⊢
    exact List.all_eq_true.mpr fun p hp => fieldNoJ5_of_noAny _ (List.all_eq_true.mp this p hp)
  | «enum» a b => rfl
  | noschema => rfl

/-- **protobuf `Any`, one property**: for a codec built `WithProtoToAny`, fewer than `maxAnyDepth`
enclosing `Any` values: a protobuf `Any` whose type URL is `type.googleapis.com/` + a resolvable
name and whose content is a non-empty representable message `fs` of the resolved root (which the
codec at `anyDepth + 1` can decode: `hMi`; nested at most 1664 messages deep: `hD`) is written as
`{"!type": name, "value": data}` with `data` the codec's encoding of `fs`, and the decoder reading
that value into a protobuf `Any` property stores `Any{type_url, content = fs}` again
(`anyPrefixB = anyPrefix`: `anyPrefixB_eq`). (The whole-message
statement is `roundtrip_bytes`; this is its `Any` step in isolation.) -/
theorem any_pb_roundtrip (c : Cfg) (hs : c.env.flat = true) (L : OracleLaws c.O)
    (hmode : c.protoToAny = true) (hdepth : c.anyDepth < maxAnyDepth)
    (props : List PropDef) (p : PropDef) (st : PS) (tn val : Bytes) (iroot : String) (fs : Fields)
    (hf : p.field = .any true) (hp : p.path ≠ []) (hseen : p.jsonName ∉ st.seen)
    (hgb : groupBusy props p st.m = false) (hu : isValidUtf8 tn = true)
    (hres : c.env.resolve tn = some iroot) (hne : fs ≠ [])
    (hok : valOk c.env c.O (.object iroot) (.msg fs) = true ∨
      valOk c.env c.O (.oneof iroot) (.msg fs) = true)
    (hMi : modeOkF c.protoToAny (6 * (depthFields fs + 1) + 9) (c.anyDepth + 1) fs = true)
    (hD : 6 * (depthFields fs + 1) + 10 ≤ 10000) :
    ∃ t, encValue c.env c.O (6 * (depthFields fs + 1) + 9 + 2) (.any true)
          (.anyPb (anyPrefix ++ tn) val .inn iroot (.msg fs)) = .ok t ∧
      decProp c props p t st =
        .ok { m := updPath props p (some (.anyPb (anyPrefixB ++ tn) [] .inn iroot (.msg fs))) st.m,
              seen := p.jsonName :: st.seen } := by
  obtain ⟨data, henc, hdec, _⟩ := root_flat { c with anyDepth := c.anyDepth + 1 } hs L
    iroot fs hok (6 * (depthFields fs + 1) + 9) (Nat.le_refl _) hMi
  have hn5 : (PVal.msg fs).noJ5 = true := by
    have h := hMi
    rw [hmode] at h
    have := modeOkF_noJ5 _ _ fs h
    simpa [PVal.noJ5] using this
  obtain ⟨hdd, hcc⟩ := (TD_all c.env c.O _).root iroot (.msg fs) data hn5 henc
  obtain ⟨tlit, nlit, vlit, he⟩ := enc_any_pb c.env c.O (6 * (depthFields fs + 1) + 9)
    (anyPrefix ++ tn) val iroot (.msg fs) data henc (by rw [trimPrefix_append]; exact hu)
  rw [trimPrefix_append] at he
  exact ⟨_, he, dec_any_pb c hmode hdepth props p st tn tlit nlit vlit data iroot fs hf hp hseen hgb
    hcc (Nat.le_trans hdd hD) hres hdec hne⟩

/-! ## messages of an environment without `Any` can be decoded by every codec -/

theorem exposedOps_noAny (env : Env) (hna : env.noAny = true) (p0 q : PropDef)
    (hq : q ∈ exposedOps env p0) : fieldNoAny q.field = true := by
  unfold exposedOps at hq
  split at hq
  · next ref _ _ =>
    split at hq
    · next ops hfind => exact find_noAny env hna ref ops (Or.inr hfind) q hq
    · cases hq
  · cases hq

mutual
theorem valOk_modeOk (env : Env) (O : Oracle) (hna : env.noAny = true) (p : Bool) (F : Nat) :
    (v : PVal) → (fld : Field) → (d : Nat) → fieldNoAny fld = true → valOk env O fld v = true →
    modeOk p F d v = true
  | .msg fs, fld, d, hf, h => by
    simp only [modeOk]
    cases fld with
    | object ref =>
      obtain ⟨fs', props, hv, hfind, _, hfok, _, _⟩ := valOk_object env O ref _ h
      cases hv
      exact fieldsOk_modeOk env O hna p F fs props d (find_noAny env hna ref props (Or.inl hfind)) hfok
    | oneof ref =>
      obtain ⟨fs', ops, hv, hfind, _, hfok, _⟩ := valOk_oneof env O ref _ h
      cases hv
      exact fieldsOk_modeOk env O hna p F fs ops d (find_noAny env hna ref ops (Or.inr hfind)) hfok
    | _ => simp [valOk] at h
  | .list xs, fld, d, hf, h => by
    simp only [modeOk]
    cases fld with
    | array item =>
      obtain ⟨xs', hv, hl⟩ := valOk_array env O item _ h
      cases hv
      exact listOk_modeOk env O hna p F xs item d (by simpa [fieldNoAny] using hf) hl
    | _ => simp [valOk] at h
  | .map kvs, fld, d, hf, h => by
    simp only [modeOk]
    cases fld with
    | map item =>
      obtain ⟨kvs', hv, hm⟩ := valOk_map env O item _ h
      cases hv
      exact mapOk_modeOk env O hna p F kvs item [] d (by simpa [fieldNoAny] using hf) hm
    | _ => simp [valOk] at h
  | .anyJ5 a b c e f g, fld, d, hf, h => by
    cases fld with
    | any pb => simp [fieldNoAny] at hf
    | _ => simp [valOk] at h
  | .anyPb a b c e f, fld, d, hf, h => by
    cases fld with
    | any pb => simp [fieldNoAny] at hf
    | _ => simp [valOk] at h
  | .bool _, _, _, _, _ => by simp [modeOk]
  | .int _, _, _, _, _ => by simp [modeOk]
  | .uint _, _, _, _, _ => by simp [modeOk]
  | .f32 _, _, _, _, _ => by simp [modeOk]
  | .f64 _, _, _, _, _ => by simp [modeOk]
  | .str _, _, _, _, _ => by simp [modeOk]
  | .bytes _, _, _, _, _ => by simp [modeOk]
  | .enum _, _, _, _, _ => by simp [modeOk]
  | .ts _ _, _, _, _, _ => by simp [modeOk]
  | .date _ _ _, _, _, _, _ => by simp [modeOk]
  | .dec _, _, _, _, _ => by simp [modeOk]
termination_by structural v => v

theorem fieldsOk_modeOk (env : Env) (O : Oracle) (hna : env.noAny = true) (p : Bool) (F : Nat) :
    (fs : Fields) → (props : List PropDef) → (d : Nat) →
    (∀ q ∈ props, fieldNoAny q.field = true) → fieldsOk env O props fs = true →
    modeOkF p F d fs = true
  | [], _, _, _, _ => by simp [modeOkF]
  | (k, v) :: rest, props, d, hp, h => by
    rw [fieldsOk_cons] at h
    simp only [Bool.and_eq_true] at h
    simp only [modeOkF, Bool.and_eq_true]
    refine ⟨?_, fieldsOk_modeOk env O hna p F rest props d hp h.2⟩
    have h1 := h.1
    split at h1
    · next q hq =>
      simp only [Bool.and_eq_true] at h1
      have hqf : fieldNoAny q.field = true := by
        rcases leafProp_inv env props k q hq with ⟨hqm, _⟩ | ⟨p0, _, hq0, _⟩
        · exact hp q hqm
        · exact exposedOps_noAny env hna p0 q hq0
      exact valOk_modeOk env O hna p F v q.field d hqf h1.1
    · cases v with
      | msg sub =>
        simp only [Bool.and_eq_true] at h1
        simp only [modeOk]
        refine fieldsOk_modeOk env O hna p F sub _ d ?_ h1.2
        intro q' hq'
        obtain ⟨q, hqm, _, _, _, rfl⟩ := mem_propsUnder k props q' hq'
        exact hp q hqm
      | _ => cases h1
termination_by structural fs => fs

theorem listOk_modeOk (env : Env) (O : Oracle) (hna : env.noAny = true) (p : Bool) (F : Nat) :
    (xs : List PVal) → (item : Field) → (d : Nat) → fieldNoAny item = true →
    listOk env O item xs = true → modeOkL p F d xs = true
  | [], _, _, _, _ => by simp [modeOkL]
  | x :: rest, item, d, hf, h => by
    simp only [listOk, Bool.and_eq_true] at h
    simp only [modeOkL, Bool.and_eq_true]
    exact ⟨valOk_modeOk env O hna p F x item d hf h.1, listOk_modeOk env O hna p F rest item d hf h.2⟩
termination_by structural xs => xs

theorem mapOk_modeOk (env : Env) (O : Oracle) (hna : env.noAny = true) (p : Bool) (F : Nat) :
    (kvs : List (Bytes × PVal)) → (item : Field) → (seen : List Bytes) → (d : Nat) →
    fieldNoAny item = true → mapOk env O item seen kvs = true → modeOkM p F d kvs = true
  | [], _, _, _, _, _ => by simp [modeOkM]
  | (k, v) :: rest, item, seen, d, hf, h => by
    simp only [mapOk, Bool.and_eq_true] at h
    simp only [modeOkM, Bool.and_eq_true]
    exact ⟨valOk_modeOk env O hna p F v item d hf h.1.2,
      mapOk_modeOk env O hna p F rest item _ d hf h.2⟩
termination_by structural kvs => kvs
end

/-- **a representable message of an environment without `Any` fields can be decoded by every
codec** (so for such environments the `canDecode` hypothesis of the round-trip theorems is void) -/
theorem canDecode_of_noAny (c : Cfg) (hna : c.env.noAny = true) (root : String) (m : Fields)
    (hok : valOk c.env c.O (.object root) (.msg m) = true ∨
      valOk c.env c.O (.oneof root) (.msg m) = true) : c.canDecode m := by
  unfold Cfg.canDecode
  rcases hok with h | h
  · have := valOk_modeOk c.env c.O hna c.protoToAny (6 * (depthFields m + 1) + 9) (.msg m)
      (.object root) c.anyDepth rfl h
    simpa [modeOk] using this
  · have := valOk_modeOk c.env c.O hna c.protoToAny (6 * (depthFields m + 1) + 9) (.msg m)
      (.oneof root) c.anyDepth rfl h
    simpa [modeOk] using this

end J5V.Codec
