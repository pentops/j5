import J5V.Codec.EncodeInv
import J5V.Codec.RoundtripSpec
import J5V.Codec.StoreProofs
/-!
# The encoder's tree is nested at most as deep as the fuel

For values without `j5_json`, and the tree is complete (the protobuf-`Any` case of `RTP_val` needs both for
`popValueAsBytes`).
-/
namespace J5V.Codec
open J5V.Go J5V.Json

/-! ## values without `j5_json`

The encoder's recursion spends at least one unit of fuel per level of the tree it builds, except
for the `j5_json` chunk of an `Any`, which is inserted as it is. So for a value that holds no
`j5_json` the tree is nested at most as deep as the fuel. -/

theorem noJ5_getPath : ∀ (path : List Nat) (m : Fields) (v : PVal), noJ5F m = true →
    getPath m path = some v → v.noJ5 = true :=
  of_getPath_of_cons (fun _ _ h => by simpa only [noJ5F, Bool.and_eq_true] using h)
    (fun _ h => by simpa only [PVal.noJ5] using h)

theorem noJ5_mem_list : ∀ (xs : List PVal) (x : PVal), noJ5L xs = true → x ∈ xs → x.noJ5 = true :=
  of_mem_of_cons fun _ _ h => by simpa only [noJ5L, Bool.and_eq_true] using h

theorem noJ5_mem_map : ∀ (kvs : List (Bytes × PVal)) (kv : Bytes × PVal), noJ5M kvs = true →
    kv ∈ kvs → kv.2.noJ5 = true :=
  of_mem_of_cons (P := fun kv : Bytes × PVal => kv.2.noJ5 = true) fun _ _ h => by
    simpa only [noJ5M, Bool.and_eq_true] using h

/-- nested at most `f` deep and complete -/
def Good (t : PTree) (f : Nat) : Prop := t.depth ≤ f ∧ t.complete = true

theorem good_succ {t : PTree} {f : Nat} (h : Good t f) : Good t (f + 1) :=
  ⟨Nat.le_succ_of_le h.1, h.2⟩

theorem membersOf_good (n : Nat) : ∀ (es : List (Bytes × Bytes × PTree)),
    (∀ e ∈ es, Good e.2.2 n) → (membersOf es).depth ≤ n ∧ (membersOf es).complete = true
  | [], _ => by simp [membersOf, PMembers.depth, PMembers.complete]
  | (k, kr, v) :: t, h => by
    have h1 := h (k, kr, v) List.mem_cons_self
    have h2 := membersOf_good n t (fun e he => h e (List.mem_cons_of_mem _ he))
    simp only [membersOf, PMembers.depth, PMembers.complete, Bool.and_eq_true]
    exact ⟨Nat.max_le.mpr ⟨h1.1, h2.1⟩, h1.2, h2.2⟩

theorem elemsOf_good (n : Nat) : ∀ (ts : List PTree), (∀ t ∈ ts, Good t n) →
    (elemsOf ts).depth ≤ n ∧ (elemsOf ts).complete = true
  | [], _ => by simp [elemsOf, PElems.depth, PElems.complete]
  | a :: t, h => by
    have h1 := h a List.mem_cons_self
    have h2 := elemsOf_good n t (fun e he => h e (List.mem_cons_of_mem _ he))
    simp only [elemsOf, PElems.depth, PElems.complete, Bool.and_eq_true]
    exact ⟨Nat.max_le.mpr ⟨h1.1, h2.1⟩, h1.2, h2.2⟩

theorem strNode_good (s : Bytes) (t : PTree) (h : strNode s = .ok t) :
    t.depth = 0 ∧ t.complete = true := by
  obtain ⟨lit, _, rfl⟩ := strNode_ok_inv s t h
  exact ⟨rfl, rfl⟩

theorem scalarNode_good (O : Oracle) (k : ScalarKind) (v : PVal) (t : PTree)
    (h : scalarNode O k v = .ok t) : t.depth = 0 ∧ t.complete = true := by
  unfold scalarNode at h
  split at h
  · exact strNode_good _ t h
  · cases h
    rcases bareNode_cases _ with ⟨_, h⟩ | ⟨_, h⟩ | ⟨_, _, h⟩ <;> rw [h] <;> exact ⟨rfl, rfl⟩
  · cases h
  · cases h

theorem member_tree (name : Bytes) (t : PTree) (e : Bytes × Bytes × PTree)
    (h : member name (.ok t) = .ok (some e)) : e.2.2 = t := by
  obtain ⟨lit, t', _, ht', hr⟩ := member_ok_inv _ _ _ h
  cases ht'; cases hr; rfl

/-- `{k1: a, k2: b}` with a leaf `a` -/
theorem pair_good (k1 l1 k2 l2 : Bytes) (a b : PTree) (f : Nat)
    (ha : a.depth = 0 ∧ a.complete = true) (hb : Good b f) :
    Good (.obj (.cons k1 l1 a (.cons k2 l2 b (.nil .closed)))) (f + 1) := by
  refine ⟨?_, ?_⟩
  · simp only [PTree.depth, PMembers.depth]
    have := hb.1
    omega
  · simp [PTree.complete, PMembers.complete, ha.2, hb.2]

/-- the facts at fuel `f` -/
structure TD (env : Env) (O : Oracle) (f : Nat) : Prop where
  val : ∀ fld v t, v.noJ5 = true → encValue env O f fld v = .ok t → Good t f
  fld : ∀ p m t, noJ5F m = true → encField env O f p m = .ok (some t) → Good t f
  obj : ∀ props m t, noJ5F m = true → encObjectBody env O f props m = .ok t → Good t f
  one : ∀ ops m t, noJ5F m = true → encOneofBody env O f ops m = .ok t → Good t f
  root : ∀ r v t, v.noJ5 = true → encRoot env O f r v = .ok t → Good t f

theorem TD_all (env : Env) (O : Oracle) : ∀ f, TD env O f := by
  intro f
  induction f with
  | zero =>
    refine ⟨?_, ?_, ?_, ?_, ?_⟩
    · intro fld v t _ h; simp [encValue] at h
    · intro p m t _ h; simp [encField] at h
    · intro props m t _ h; simp [encObjectBody] at h
    · intro ops m t _ h; simp [encOneofBody] at h
    · intro r v t _ h; simp [encRoot] at h
  | succ f ih =>
    have container : ∀ {d : Nat} {c : Bool}, d ≤ f ∧ c = true → d + 1 ≤ f + 1 ∧ c = true :=
      fun h => ⟨Nat.succ_le_succ h.1, h.2⟩
    refine ⟨?_, ?_, ?_, ?_, ?_⟩
    · intro fld v t hn h
      cases fld with
      | scalar k =>
        obtain ⟨h1, h2⟩ := scalarNode_good O k v t (by simpa only [encValue] using h)
        exact ⟨h1 ▸ Nat.zero_le _, h2⟩
      | «enum» ref =>
        obtain ⟨name, hs⟩ := encValue_enum_ok h
        obtain ⟨h1, h2⟩ := strNode_good _ t hs
        exact ⟨h1 ▸ Nat.zero_le _, h2⟩
      | object ref =>
        obtain ⟨props, fs, _, rfl, hb⟩ := encValue_object_ok h
        exact good_succ (ih.obj props fs t (by simpa [PVal.noJ5] using hn) hb)
      | oneof ref =>
        obtain ⟨ops, fs, _, rfl, hb⟩ := encValue_oneof_ok h
        exact good_succ (ih.one ops fs t (by simpa [PVal.noJ5] using hn) hb)
      | any pb =>
        obtain ⟨tn, j5, iroot, inner, typeLit, tnNode, valueLit, data, hv, hd, _, h2, _, rfl⟩ :=
          encValue_any_ok h
        have hn' : j5.isEmpty = true ∧ inner.noJ5 = true := by
          rcases hv with ⟨proto, ik, rfl⟩ | ⟨url, val, ik, rfl, _, rfl⟩
          · simpa only [PVal.noJ5, Bool.and_eq_true] using hn
          · exact ⟨rfl, by simpa only [PVal.noJ5] using hn⟩
        have hde : Good data f := by
          rcases hd with ⟨hj, _⟩ | ⟨_, hdata⟩
          · rw [hn'.1] at hj; cases hj
          · exact ih.root iroot inner data hn'.2 hdata
        exact pair_good _ _ _ _ _ _ f (strNode_good _ _ h2) hde
      | array item =>
        obtain ⟨xs, ts, rfl, rfl, hts⟩ := encValue_array_ok h
        exact container (elemsOf_good f ts fun t' ht' => by
          obtain ⟨x, hx, hgx⟩ := hts t' ht'
          exact ih.val item x t' (noJ5_mem_list xs x (by simpa [PVal.noJ5] using hn) hx) hgx)
      | map item =>
        obtain ⟨kvs, es, rfl, rfl, hes⟩ := encValue_map_ok h
        exact container (membersOf_good f es fun e he => by
          obtain ⟨kv, hkv, _, _, hgx⟩ := hes e he
          exact ih.val item kv.2 e.2.2 (noJ5_mem_map kvs kv (by simpa [PVal.noJ5] using hn) hkv) hgx)
    · intro p m t hn h
      rcases encField_ok h with ⟨ref, ops, _, _, _, hb⟩ | ⟨v, _, hv, hb⟩
      · exact good_succ (ih.one ops m _ hn hb)
      · exact good_succ (ih.val p.field v _ (noJ5_getPath _ m v hn hv) hb)
    · intro props m t hn h
      obtain ⟨es, rfl, hes⟩ := encObjectBody_ok h
      exact container (membersOf_good f es fun e he => by
        obtain ⟨q, _, t', ht', hm⟩ := hes e he
        rw [member_tree q.jsonName t' e hm]; exact ih.fld q m t' hn ht')
    · intro ops m t hn h
      rcases encOneofBody_ok h with rfl | ⟨q, _, nameNode, typeLit, t', e, hnn, _, ht', hmem, rfl⟩
      · exact ⟨Nat.succ_le_succ (Nat.zero_le f), rfl⟩
      · rw [member_tree q.jsonName t' e hmem]
        exact pair_good _ _ _ _ _ _ f (strNode_good _ _ hnn) (ih.fld q m t' hn ht')
    · intro r v t hn h
      obtain ⟨ps, fs, rfl, ⟨_, hb⟩ | ⟨_, hb⟩⟩ := encRoot_ok h
      · exact good_succ (ih.obj ps fs t (by simpa [PVal.noJ5] using hn) hb)
      · exact good_succ (ih.one ps fs t (by simpa [PVal.noJ5] using hn) hb)

mutual
/-- a value a codec `WithProtoToAny` can decode holds no `j5_json` -/
theorem modeOk_noJ5 (F : Nat) : (v : PVal) → (d : Nat) → modeOk true F d v = true → v.noJ5 = true
  | .anyJ5 .., _, h => by simp [modeOk] at h
  | .anyPb a b c e inner, d, h => by
    simp only [modeOk, Bool.and_eq_true] at h
    simp only [PVal.noJ5]
    exact modeOk_noJ5 F inner (d + 1) h.2
  | .msg fs, d, h => by simp only [modeOk] at h; simp only [PVal.noJ5]; exact modeOkF_noJ5 F d fs h
  | .list xs, d, h => by simp only [modeOk] at h; simp only [PVal.noJ5]; exact modeOkL_noJ5 F d xs h
  | .map kvs, d, h => by simp only [modeOk] at h; simp only [PVal.noJ5]; exact modeOkM_noJ5 F d kvs h
  | .bool _, _, _ => rfl
  | .int _, _, _ => rfl
  | .uint _, _, _ => rfl
  | .f32 _, _, _ => rfl
  | .f64 _, _, _ => rfl
  | .str _, _, _ => rfl
  | .bytes _, _, _ => rfl
  | .enum _, _, _ => rfl
  | .ts _ _, _, _ => rfl
  | .date _ _ _, _, _ => rfl
  | .dec _, _, _ => rfl
theorem modeOkF_noJ5 (F d : Nat) : (fs : List (Nat × PVal)) → modeOkF true F d fs = true →
    noJ5F fs = true
  | [], _ => rfl
  | (_, v) :: rest, h => by
    simp only [modeOkF, Bool.and_eq_true] at h
    simp only [noJ5F, Bool.and_eq_true]
    exact ⟨modeOk_noJ5 F v d h.1, modeOkF_noJ5 F d rest h.2⟩
theorem modeOkL_noJ5 (F d : Nat) : (xs : List PVal) → modeOkL true F d xs = true → noJ5L xs = true
  | [], _ => rfl
  | v :: rest, h => by
    simp only [modeOkL, Bool.and_eq_true] at h
    simp only [noJ5L, Bool.and_eq_true]
    exact ⟨modeOk_noJ5 F v d h.1, modeOkL_noJ5 F d rest h.2⟩
theorem modeOkM_noJ5 (F d : Nat) : (kvs : List (Bytes × PVal)) → modeOkM true F d kvs = true →
    noJ5M kvs = true
  | [], _ => rfl
  | (_, v) :: rest, h => by
    simp only [modeOkM, Bool.and_eq_true] at h
    simp only [noJ5M, Bool.and_eq_true]
    exact ⟨modeOk_noJ5 F v d h.1, modeOkM_noJ5 F d rest h.2⟩
end

end J5V.Codec
