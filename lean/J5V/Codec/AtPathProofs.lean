import J5V.Codec.StoreProofs
/-!
# Reading and writing a message at a proto path

A property addresses its field by a proto path: the final field number is `p.path.getLast?`, the
message that holds it sits at `p.path.dropLast`, and the other members of its proto oneof are the
properties with the same prefix and group (`SiblingsUnset`).
-/
namespace J5V.Codec

theorem getPath_nil : ∀ (path : List Nat), getPath [] path = none
  | [] => rfl
  | [_] => rfl
  | _ :: _ :: _ => rfl

theorem getPath_cons2 (fs : Fields) (k k2 : Nat) (r : List Nat) :
    getPath fs (k :: k2 :: r) =
      match aget k fs with
      | some (.msg sub) => getPath sub (k2 :: r)
      | _ => none := by
  rw [getPath]
  · rfl
  · intro h; cases h

theorem getPath_asMsg (fs : Fields) (k k2 : Nat) (r : List Nat) :
    getPath fs (k :: k2 :: r) = getPath (PVal.asMsg (aget k fs)) (k2 :: r) := by
  rw [getPath_cons2]
  cases aget k fs with
  | none => exact (getPath_nil _).symm
  | some v => cases v <;> first | rfl | exact (getPath_nil _).symm

theorem getPath_cons2_some {fs : Fields} {k k2 : Nat} {r : List Nat} {v : PVal}
    (h : getPath fs (k :: k2 :: r) = some v) :
    ∃ sub, aget k fs = some (.msg sub) ∧ getPath sub (k2 :: r) = some v := by
  rw [getPath_cons2] at h
  cases hag : aget k fs with
  | none => rw [hag] at h; cases h
  | some vk =>
    rw [hag] at h
    cases vk with
    | msg sub => exact ⟨sub, rfl, h⟩
    | _ => cases h

theorem aget_msgAt : ∀ (pfx : List Nat) (k : Nat) (m : Fields),
    aget k (msgAt pfx m) = getPath m (pfx ++ [k]) := by
  intro pfx
  induction pfx with
  | nil => intro k m; rfl
  | cons a t ih =>
    intro k m
    simp only [msgAt, List.cons_append]
    have hne : t ++ [k] ≠ [] := by simp
    rw [ih k]
    obtain ⟨k2, r, hkr⟩ : ∃ k2 r, t ++ [k] = k2 :: r := by
      cases hh : t ++ [k] with
      | nil => exact absurd hh hne
      | cons k2 r => exact ⟨k2, r, rfl⟩
    rw [hkr, getPath_asMsg]

theorem getPath_under {fs sub : Fields} {k : Nat} (hag : aget k fs = some (.msg sub)) :
    ∀ (x : List Nat), x ≠ [] → getPath fs (k :: x) = getPath sub x
  | [], h => absurd rfl h
  | _ :: _, _ => by rw [getPath_cons2, hag]

/-! In `updPath.go`, `pfx` is the part of `p.path` already walked, the list argument what is left. -/

theorem updPath_go_last (props : List PropDef) (p : PropDef) (v : Option PVal) (pfx : List Nat)
    (k : Nat) (m : Fields) :
    updPath.go props p v pfx [k] m =
      match v with
      | some v => setLeaf p.pres k v (clearGroup props pfx p.group k m)
      | none => aerase k m := by
  cases v <;> rfl

theorem updPath_go_cons2 (props : List PropDef) (p : PropDef) (v : Option PVal) (pfx : List Nat)
    (k k2 : Nat) (r : List Nat) (m : Fields) :
    updPath.go props p v pfx (k :: k2 :: r) m =
      aset k (.msg (updPath.go props p v (pfx ++ [k]) (k2 :: r) (PVal.asMsg (aget k m)))) m := by
  rw [updPath.go]
  simp

theorem walked_last {pfx path : List Nat} {k : Nat} (h : pfx ++ [k] = path) :
    pfx = path.dropLast ∧ path.getLast? = some k := by
  subst h; simp

theorem getLast_cons2 (k k2 : Nat) (r : List Nat) : (k :: k2 :: r).getLast? = (k2 :: r).getLast? := by
  simp [List.getLast?_cons_cons]

/-- the other members of `p`'s proto oneof (same message: same path prefix) are unset in `m`, the
message that holds the final field -/
def SiblingsUnset (props : List PropDef) (p : PropDef) (k : Nat) (m : Fields) : Prop :=
  ∀ gi, p.group = some gi → ∀ q ∈ props, q.group = some gi → q.path.dropLast = p.path.dropLast →
    ∀ k', q.path.getLast? = some k' → k' ≠ k → aget k' m = none

theorem foldl_fixed {α β : Type} (f : β → α → β) (b : β) :
    ∀ (l : List α), (∀ a ∈ l, f b a = b) → l.foldl f b = b
  | [], _ => rfl
  | a :: l, h => by
    rw [List.foldl_cons, h a List.mem_cons_self]
    exact foldl_fixed f b l fun x hx => h x (List.mem_cons_of_mem _ hx)

theorem clearGroup_id_at (props : List PropDef) (p : PropDef) (k : Nat) (m : Fields)
    (h : SiblingsUnset props p k m) : clearGroup props p.path.dropLast p.group k m = m := by
  unfold clearGroup
  cases hg : p.group with
  | none => rfl
  | some gi =>
    refine foldl_fixed _ m props fun q hq => ?_
    split
    · next hc =>
      simp only [Bool.and_eq_true, beq_iff_eq] at hc
      split
      · next k' hk' =>
        split
        · rfl
        · next hne =>
          exact aerase_of_not_mem k' m (not_mem_akeys_of_aget_none k' m
            (h gi hg q hq hc.1 hc.2 k' hk' (by simpa using hne)))
      · rfl
    · rfl

theorem groupBusy_false_at (props : List PropDef) (p : PropDef) (k : Nat) (m : Fields)
    (hk : p.path.getLast? = some k)
    (h : SiblingsUnset props p k (msgAt p.path.dropLast m)) : groupBusy props p m = false := by
  unfold groupBusy
  split
  · next gi k0 hg hl =>
    rw [hk] at hl; cases hl
    simp only [List.any_eq_false]
    intro q hq hcon
    simp only [Bool.and_eq_true, beq_iff_eq] at hcon
    obtain ⟨⟨hqg, hqd⟩, hmm⟩ := hcon
    cases hl : q.path.getLast? with
    | none => simp [hl] at hmm
    | some k' =>
      simp only [hl, Bool.and_eq_true, bne_iff_ne, ne_eq] at hmm
      have := h gi hg q hq hqg hqd k' hl hmm.1
      simp [this] at hmm
  · rfl

/-! ## the frame of `Message.Set` at a path, provided the other members of the final field's proto
oneof are unset (which `CreateField` has checked: 25c97b7) -/

theorem aget_aerase (k k' : Nat) (m : Fields) :
    aget k' (aerase k m) = if k' = k then none else aget k' m := by
  induction m with
  | nil => simp [aerase, aget]
  | cons kv t ih =>
    obtain ⟨k2, v2⟩ := kv
    simp only [aerase]
    by_cases h : k = k2
    · subst h
      rw [if_pos rfl, ih]
      by_cases h2 : k' = k
      · simp [h2]
      · simp [h2, aget]
    · rw [if_neg h]
      by_cases h2 : k' = k2
      · subst h2
        have : k' ≠ k := fun e => h e.symm
        simp [aget, this]
      · simp [aget, h2, ih]

theorem aget_setLeaf_ne (pres : Pres) (k k' : Nat) (v : PVal) (m : Fields) (h : k' ≠ k) :
    aget k' (setLeaf pres k v m) = aget k' m := by
  unfold setLeaf
  split
  · rw [aget_aerase, if_neg h]
  · rw [aget_aset, if_neg h]

theorem getPath_head_congr (m m' : Fields) (k : Nat) (t : List Nat) (h : aget k m = aget k m') :
    getPath m (k :: t) = getPath m' (k :: t) := by
  cases t with
  | nil => simp [getPath, h]
  | cons k2 r => rw [getPath_cons2, getPath_cons2, h]

theorem msgAt_cons (k : Nat) (rest : List Nat) (m : Fields) :
    msgAt (k :: rest) m = msgAt rest (PVal.asMsg (aget k m)) := rfl

/-- leaves apart from the path keep their value -/
theorem getPath_go_frame (props : List PropDef) (p : PropDef) (v : Option PVal) (kl : Nat)
    (hkl : p.path.getLast? = some kl) :
    ∀ (rem pfx : List Nat) (m : Fields) (x : List Nat), pfx ++ rem = p.path → rem ≠ [] → x ≠ [] →
      ¬ rem <+: x → ¬ x <+: rem → SiblingsUnset props p kl (msgAt rem.dropLast m) →
      getPath (updPath.go props p v pfx rem m) x = getPath m x := by
  intro rem
  induction rem with
  | nil => intro pfx m x _ h; exact absurd rfl h
  | cons k t ih =>
    intro pfx m x hpath _ hx h1 h2 hsib
    cases x with
    | nil => exact absurd rfl hx
    | cons k' tx =>
      cases t with
      | nil =>
        have hne : k' ≠ k := by
          intro e; subst e; exact h1 (by simp)
        obtain ⟨hpfx, hpl⟩ := walked_last hpath
        obtain rfl : kl = k := Option.some.inj (hkl.symm.trans hpl)
        simp only [List.dropLast_singleton, msgAt] at hsib
        apply getPath_head_congr
        rw [updPath_go_last]
        cases v with
        | some v' =>
          simp only []
          rw [hpfx, clearGroup_id_at props p kl m hsib]
          exact aget_setLeaf_ne _ _ _ _ _ hne
        | none => exact (aget_aerase _ _ _).trans (if_neg hne)
      | cons k2 r =>
        rw [updPath_go_cons2]
        · by_cases hk : k' = k
          · subst hk
            cases tx with
            | nil => exact absurd (by simp) h2
            | cons k3 r3 =>
              rw [getPath_asMsg, aget_aset, if_pos rfl]
              have hsib' : SiblingsUnset props p kl
                  (msgAt (k2 :: r).dropLast (PVal.asMsg (aget k' m))) := by
                have : (k' :: k2 :: r).dropLast = k' :: (k2 :: r).dropLast := by simp [List.dropLast]
                rw [this, msgAt_cons] at hsib
                exact hsib
              exact (ih (pfx ++ [k']) (PVal.asMsg (aget k' m)) (k3 :: r3) (by rw [← hpath]; simp)
                (by simp) (by simp) (by intro hp; exact h1 (by simpa using hp))
                (by intro hp; exact h2 (by simpa using hp)) hsib').trans (getPath_asMsg ..).symm
          · apply getPath_head_congr
            rw [aget_aset, if_neg hk]

theorem getPath_updPath_frame (props : List PropDef) (p : PropDef) (v : Option PVal) (kl : Nat)
    (hkl : p.path.getLast? = some kl) (m : Fields) (x : List Nat) (hne : p.path ≠ []) (hx : x ≠ [])
    (h1 : ¬ p.path <+: x) (h2 : ¬ x <+: p.path)
    (hsib : SiblingsUnset props p kl (msgAt p.path.dropLast m)) :
    getPath (updPath props p v m) x = getPath m x :=
  getPath_go_frame props p v kl hkl p.path [] m x rfl hne hx h1 h2 hsib

/-- the value is stored at its path -/
theorem getPath_go_self (props : List PropDef) (p : PropDef) (v : PVal)
    (hz : (p.pres == .imp && v.isZero) = false) (hec : v.isEmptyColl = false) :
    ∀ (rem pfx : List Nat) (m : Fields), pfx ++ rem = p.path → rem ≠ [] →
      getPath (updPath.go props p (some v) pfx rem m) rem = some v := by
  intro rem
  induction rem with
  | nil => intro pfx m _ h; exact absurd rfl h
  | cons k t ih =>
    intro pfx m hpath _
    cases t with
    | nil =>
      rw [updPath_go_last]
      simp only [getPath]
      unfold setLeaf
      simp [hz, hec, aget_aset]
    | cons k2 r =>
      rw [updPath_go_cons2, getPath_cons2, aget_aset, if_pos rfl]
      exact ih (pfx ++ [k]) _ (by rw [← hpath]; simp) (by simp)

/-- an erased value (zero of an implicit-presence field, empty list / map) is absent -/
theorem getPath_go_erased (props : List PropDef) (p : PropDef) (v : PVal)
    (he : ((p.pres == .imp && v.isZero) || v.isEmptyColl) = true) :
    ∀ (rem pfx : List Nat) (m : Fields), rem ≠ [] →
      getPath (updPath.go props p (some v) pfx rem m) rem = none := by
  intro rem
  induction rem with
  | nil => intro pfx m h; exact absurd rfl h
  | cons k t ih =>
    intro pfx m _
    cases t with
    | nil =>
      rw [updPath_go_last]
      simp only [getPath]
      unfold setLeaf
      rw [if_pos he, aget_aerase, if_pos rfl]
    | cons k2 r =>
      rw [updPath_go_cons2, getPath_cons2, aget_aset, if_pos rfl]
      exact ih (pfx ++ [k]) _ (by simp)

theorem last_of_ne (path : List Nat) (h : path ≠ []) : ∃ kl, path.getLast? = some kl :=
  ⟨path.getLast h, List.getLast?_eq_some_getLast h⟩

/-- the other members of the proto oneof are unset when `CreateField` passed its check -/
theorem siblingsUnset_of_not_busy (props : List PropDef) (p : PropDef) (kl : Nat) (m : Fields)
    (hkl : p.path.getLast? = some kl) (h : groupBusy props p m = false) :
    SiblingsUnset props p kl (msgAt p.path.dropLast m) := by
  intro gi hg q hq hqg hqd k' hk' hne
  unfold groupBusy at h
  rw [hg, hkl] at h
  simp only [List.any_eq_false] at h
  have := h q hq
  simp only [hqg, hqd, hk', beq_self_eq_true, Bool.true_and, Bool.and_eq_true, bne_iff_ne, ne_eq,
    not_and, Bool.not_eq_true, Option.isSome_eq_false_iff, Option.isNone_iff_eq_none] at this
  exact this hne

end J5V.Codec
