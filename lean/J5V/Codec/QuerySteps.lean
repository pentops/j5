import J5V.Codec.StepBound
import J5V.Codec.Query
/-!
# Step count of URL-query decoding (C06: "time bounded by the input size")

`decodeQueryN c root kvs` counts the steps of `decodeQuery c root kvs` in the style of `Steps.lean`:
same recursion as `queryKey` / `decodeQuery`, continuing with the decoder's own intermediate states;
one step per key, per character of the key (`strings.Split`), per path segment (`propertyAtPath`),
per value, and — for a container-valued parameter, whose value is a JSON document — the decoder
steps on that document (`decObjMembersN` / `decOneofMembersN`). Scalar conversion is one step per
value (linear in the value, as in `Steps.lean`).
-/
namespace J5V.Codec
open J5V.Go J5V.Json

/-- decoder steps on the JSON text of a container-valued query parameter (state as in `queryLeaf`) -/
def queryDocN (c : Cfg) (props : List PropDef) (p : PropDef) (loc : List Nat) (v : Bytes) (st : QS) : Nat :=
  match p.field with
  | .object ref =>
    match c.env.find ref, readDoc (trimSpace v) with
    | some (.object sub), .obj ms =>
      let m1 := updAt loc (updPath props p (some (.msg (PVal.asMsg (getPath (msgAt loc st.m) p.path))))) st.m
      decObjMembersN c sub ms { m := PVal.asMsg (getPath (msgAt loc m1) p.path), seen := [] }
    | _, _ => 0
  | .oneof ref =>
    match c.env.find ref, readDoc (trimSpace v) with
    | some (.oneof ops), .obj ms =>
      let cur := msgAt loc st.m
      let m1 := if p.path.isEmpty then st.m
                else updAt loc (updPath props p (some (.msg (PVal.asMsg (getPath cur p.path))))) st.m
      decOneofMembersN c ops ms
        { m := if p.path.isEmpty then cur else PVal.asMsg (getPath (msgAt loc m1) p.path), seen := [] }
    | _, _ => 0
  | _ => 0

/-- one step, one per value, and the document steps of a single container value -/
def queryLeafN (c : Cfg) (props : List PropDef) (p : PropDef) (loc : List Nat) (values : List Bytes)
    (st : QS) : Nat :=
  1 + values.length +
    (match values with
     | [v] => queryDocN c props p loc v st
     | _ => 0)

/-- `propertyAtPath` (one step per segment) and the loop body, following `queryKey` -/
def queryKeyN (c : Cfg) : List Bytes → List PropDef → List Nat → List Bytes → List Bytes → QS → Nat
  | [], _, _, _, _, _ => 1
  | [tail], props, loc, trail, values, st =>
    match findProp props (propertyName props tail) with
    | none => 1
    | some p =>
      match qCreate props p loc trail st with
      | .ok st1 => 1 + queryLeafN c props p loc values st1
      | _ => 1
  | part :: rest, props, loc, trail, values, st =>
    match findProp props (propertyName props part) with
    | none => 1
    | some p =>
      match qEnter props p loc trail st with
      | .ok s =>
        match p.field with
        | .object ref =>
          match c.env.find ref with
          | some (.object sub) => 1 + queryKeyN c rest sub (loc ++ p.path) (trail ++ [p.jsonName]) values s
          | _ => 1
        | .oneof ref =>
          match c.env.find ref with
          | some (.oneof ops) => 1 + queryKeyN c rest ops (loc ++ p.path) (trail ++ [p.jsonName]) values s
          | _ => 1
        | _ => 1
      | _ => 1

/-- steps of `Codec.QueryToProto`: the loop over the keys with the decoder's own states -/
def decodeQueryN (c : Cfg) (root : String) (kvs : List (Bytes × List Bytes)) : Nat :=
  match c.env.find root with
  | some (.object props) | some (.oneof props) =>
    (kvs.foldl (fun (acc : Outcome QS × Nat) kv =>
      match acc.1 with
      | .ok st =>
        if kv.2.isEmpty then (.err "no value provided for field", acc.2 + 1)
        else (queryKey c (splitDot kv.1) props [] [] kv.2 st,
              acc.2 + 1 + kv.1.length + queryKeyN c (splitDot kv.1) props [] [] kv.2 st)
      | other => (other, acc.2)) (.ok { m := [], seen := [] }, 1)).2
  | _ => 1

/-- bound of the document steps of a value list: only a single value can be a document -/
def docBound (c : Cfg) (values : List Bytes) : Nat :=
  match values with
  | [v] => anyFactor c * (2 * (5 * (trimSpace v).length + 11))
  | _ => 0

theorem queryDocN_le (c : Cfg) (props : List PropDef) (p : PropDef) (loc : List Nat) (v : Bytes)
    (st : QS) : queryDocN c props p loc v st ≤ anyFactor c * (2 * (5 * (trimSpace v).length + 11)) := by
  have hsz := readDoc_size (trimSpace v)
  unfold queryDocN
  split
  · split
    · next sub ms _ hrd =>
      simp only []
      rw [hrd] at hsz
      simp only [PTree.size] at hsz
      refine Nat.le_trans (decObjMembersN_le c sub ms _) ?_
      apply Nat.mul_le_mul_left
      omega
    · exact Nat.zero_le _
  · split
    · next ops ms _ hrd =>
      simp only []
      rw [hrd] at hsz
      simp only [PTree.size] at hsz
      refine Nat.le_trans (decOneofMembersN_le c ops ms _) ?_
      apply Nat.mul_le_mul_left
      omega
    · exact Nat.zero_le _
  · exact Nat.zero_le _

theorem queryLeafN_le (c : Cfg) (props : List PropDef) (p : PropDef) (loc : List Nat)
    (values : List Bytes) (st : QS) :
    queryLeafN c props p loc values st ≤ 1 + values.length + docBound c values := by
  unfold queryLeafN docBound
  split
  · next v => exact Nat.add_le_add_left (queryDocN_le c props p loc v st) _
  · simp

theorem queryKeyN_le (c : Cfg) : ∀ (segs : List Bytes) (props : List PropDef) (loc : List Nat)
    (trail values : List Bytes) (st : QS),
    queryKeyN c segs props loc trail values st ≤ segs.length + 2 + values.length + docBound c values
  | [], _, _, _, _, _ => by unfold queryKeyN; omega
  | [tail], props, loc, trail, values, st => by
    unfold queryKeyN
    split
    · simp only [List.length_cons, List.length_nil]; omega
    · next p _ =>
      split
      · next st1 _ =>
        have := queryLeafN_le c props p loc values st1
        simp only [List.length_cons, List.length_nil]; omega
      · simp only [List.length_cons, List.length_nil]; omega
  | part :: r1 :: rest, props, loc, trail, values, st => by
    unfold queryKeyN
    split
    · simp only [List.length_cons]; omega
    · next p _ =>
      split
      · next s _ =>
        split
        · split
          · next sub _ =>
            have := queryKeyN_le c (r1 :: rest) sub (loc ++ p.path) (trail ++ [p.jsonName]) values s
            simp only [List.length_cons] at this ⊢; omega
          · simp only [List.length_cons]; omega
        · split
          · next ops _ =>
            have := queryKeyN_le c (r1 :: rest) ops (loc ++ p.path) (trail ++ [p.jsonName]) values s
            simp only [List.length_cons] at this ⊢; omega
          · simp only [List.length_cons]; omega
        · simp only [List.length_cons]; omega
      · simp only [List.length_cons]; omega

theorem splitDot_length : ∀ (s : Bytes), (splitDot s).length ≤ s.length + 1
  | [] => by simp [splitDot]
  | c :: rest => by
    have ih := splitDot_length rest
    unfold splitDot
    split
    · simp
    · next h t heq =>
      rw [heq] at ih
      split <;> simp only [List.length_cons] at ih ⊢ <;> omega

theorem trimLeft_length : ∀ (f : Nat) (s : Bytes), (trimLeft f s).length ≤ s.length
  | 0, s => by simp [trimLeft]
  | f + 1, [] => by simp [trimLeft]
  | f + 1, a :: t => by
    unfold trimLeft
    simp only []
    split
    · refine Nat.le_trans (trimLeft_length f _) ?_
      simp only [List.length_drop]
      omega
    · exact Nat.le_refl _

theorem stripPrefix_length : ∀ (p r r' : Bytes), stripPrefix p r = some r' → r'.length ≤ r.length
  | [], r, r', h => by simp [stripPrefix] at h; subst h; exact Nat.le_refl _
  | a :: p, [], r', h => by simp [stripPrefix] at h
  | a :: p, b :: r, r', h => by
    simp only [stripPrefix] at h
    split at h
    · have := stripPrefix_length p r r' h
      simp only [List.length_cons]; omega
    · cases h

theorem trimRightRev_length : ∀ (f : Nat) (r : Bytes), (trimRightRev f r).length ≤ r.length
  | 0, r => by simp [trimRightRev]
  | f + 1, r => by
    unfold trimRightRev
    split
    · next r' hfs =>
      obtain ⟨p, _, hp⟩ := List.exists_of_findSome?_eq_some hfs
      exact Nat.le_trans (trimRightRev_length f r') (stripPrefix_length p r r' hp)
    · exact Nat.le_refl _

theorem trimSpace_length (s : Bytes) : (trimSpace s).length ≤ s.length := by
  unfold trimSpace
  simp only [List.length_reverse]
  refine Nat.le_trans (trimRightRev_length _ _) ?_
  simp only [List.length_reverse]
  exact trimLeft_length _ _

/-- the cost of one key with its values. `2 · |key| + 4`: `1 + |key|` in the fold of `decodeQueryN`,
then `queryKeyN_le`'s `segments + 2` with at most `|key| + 1` segments -/
def queryCost (c : Cfg) (kv : Bytes × List Bytes) : Nat :=
  2 * kv.1.length + 4 + kv.2.length + docBound c kv.2

theorem decodeQueryN_le (c : Cfg) (root : String) (kvs : List (Bytes × List Bytes)) :
    decodeQueryN c root kvs ≤ 1 + (kvs.map (queryCost c)).sum := by
  unfold decodeQueryN
  have key : ∀ (props : List PropDef) (kvs : List (Bytes × List Bytes)) (acc : Outcome QS × Nat),
      (kvs.foldl (fun (acc : Outcome QS × Nat) kv =>
        match acc.1 with
        | .ok st =>
          if kv.2.isEmpty then (.err "no value provided for field", acc.2 + 1)
          else (queryKey c (splitDot kv.1) props [] [] kv.2 st,
                acc.2 + 1 + kv.1.length + queryKeyN c (splitDot kv.1) props [] [] kv.2 st)
        | other => (other, acc.2)) acc).2 ≤ acc.2 + (kvs.map (queryCost c)).sum := by
    intro props kvs
    induction kvs with
    | nil => intro acc; simp
    | cons kv t ih =>
      intro acc
      simp only [List.foldl_cons, List.map_cons, List.sum_cons]
      refine Nat.le_trans (ih _) ?_
      obtain ⟨o, n⟩ := acc
      cases o with
      | ok st =>
        simp only []
        split
        · simp only [queryCost]; omega
        · have h1 := queryKeyN_le c (splitDot kv.1) props [] [] kv.2 st
          have h2 := splitDot_length kv.1
          simp only [queryCost]; omega
      | err e => simp only []; omega
      | panic w => simp only []; omega
  split
  · next props _ => exact key props kvs _
  · next props _ => exact key props kvs _
  · omega

/-- `decodeBytesN_linear`'s bound on the trimmed value -/
theorem docBound_le (c : Cfg) (hd : c.anyDepth = 0) (values : List Bytes) :
    docBound c values ≤ 1010 * (values.map List.length).sum + 2222 := by
  have hf : anyFactor c = 101 := by unfold anyFactor maxAnyDepth; rw [hd]
  unfold docBound
  split
  · next v =>
    have := trimSpace_length v
    rw [hf]
    simp only [List.map_cons, List.map_nil, List.sum_cons, List.sum_nil]
    omega
  · omega

/-- the linear cost of one key with its values: input size = key length + value lengths
(`2226 = 2222 + 4`) -/
def queryCostLin (kv : Bytes × List Bytes) : Nat :=
  2 * kv.1.length + kv.2.length + 1010 * (kv.2.map List.length).sum + 2226

/-- **linear in the input**: for a fresh codec (`anyDepth = 0`), two steps per byte of a key, one per
value, `1010 · |v| + 2222` for a container-valued parameter `v` -/
theorem decodeQueryN_linear (c : Cfg) (hd : c.anyDepth = 0) (root : String)
    (kvs : List (Bytes × List Bytes)) :
    decodeQueryN c root kvs ≤ 1 + (kvs.map queryCostLin).sum := by
  refine Nat.le_trans (decodeQueryN_le c root kvs) ?_
  apply Nat.add_le_add_left
  induction kvs with
  | nil => simp
  | cons kv t ih =>
    simp only [List.map_cons, List.sum_cons]
    have := docBound_le c hd kv.2
    simp only [queryCost, queryCostLin]
    omega

end J5V.Codec
