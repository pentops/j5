import J5V.Codec.Decode
/-!
# Step count of the decoder (C06: "time bounded by the input size")

`decRootTreeN c root t` is the number of steps `decRootTree c root t` makes: one per call of
`decodeValue` (`decProp`), one per iteration of a member / element loop, one per terminator, plus
— for the value of an `Any` — the size of the subtree `Decoder.Decode(&raw)` + `json.Compact`
re-scan (`popValueAsBytes`) and, with `WithProtoToAny`, the steps of decoding that value again
into the named type (`codec.decode(valueBytes, msg)`), which happens only while fewer than
`maxAnyDepth` Any values enclose it (309b762).

The count functions have the same recursion as the decoder (structural on the tree) and take the
decoder's own intermediate results (`decProp … = .ok st1`) to continue a loop exactly where the
decoder continues; where the decoder stops, counting stops. Scalar conversion (`decodeScalar`,
linear in the token) is one step per token.
-/
namespace J5V.Codec
open J5V.Go J5V.Json

mutual
def decPropN (c : Cfg) (props : List PropDef) (p : PropDef) (t : PTree) (st : PS) : Nat :=
  match p.field with
  | .scalar _ => 1
  | .enum _ => 1
  | .object ref =>
    match t with
    | .obj ms =>
      match createField props p st with
      | .ok st1 =>
        match c.env.find ref with
        | some (.object sub) => 1 + decObjMembersN c sub ms (subStart p st1)
        | _ => 1
      | _ => 1
    | _ => 1
  | .oneof ref =>
    match t with
    | .obj ms =>
      match createField props p st with
      | .ok st1 =>
        match c.env.find ref with
        | some (.oneof ops) => 1 + decOneofMembersN c ops ms (oneofStart p st1)
        | _ => 1
      | _ => 1
    | _ => 1
  | .any _ =>
    match t with
    | .obj ms => 1 + decAnyMembersN c (finalType ms none) ms
    | _ => 1
  | .array item =>
    match t with
    | .arr xs => 1 + decElemsN c item xs
    | _ => 1
  | .map item =>
    match t with
    | .obj ms => 1 + decMapMembersN c item ms
    | _ => 1

def decObjMembersN (c : Cfg) (props : List PropDef) (ms : PMembers) (st : PS) : Nat :=
  match ms with
  | .nil _ => 1
  | .cons k _ v rest =>
    match findProp props k with
    | none => 1
    | some p =>
      1 + decPropN c props p v st +
        (match decProp c props p v st with
         | .ok st1 => decObjMembersN c props rest st1
         | _ => 0)

def decOneofMembersN (c : Cfg) (ops : List PropDef) (ms : PMembers) (st : PS) : Nat :=
  match ms with
  | .nil _ => 1
  | .cons k _ v rest =>
    if k = ascii "!type" then 1 + decOneofMembersN c ops rest st
    else
      match findProp ops k with
      | none => 1
      | some p =>
        1 + decPropN c ops p v st +
          (match decProp c ops p v st with
           | .ok st1 => decOneofMembersN c ops rest st1
           | _ => 0)

def decAnyMembersN (c : Cfg) (ftype : Option Bytes) (ms : PMembers) : Nat :=
  match ms with
  | .nil _ => 1
  | .cons k _ v rest =>
    if k = ascii "!type" then 1 + decAnyMembersN c ftype rest
    else if k ≠ ascii "value" then 1
    else
      -- `popValueAsBytes`: the scanner and `Compact` walk the value once each
      1 + 2 * v.size +
        (match ftype with
         | none => 0
         | some tn =>
           if c.protoToAny && decide (c.anyDepth < maxAnyDepth) then
             match c.env.resolve tn with
             | none => 0
             | some root => decRootTreeN { c with anyDepth := c.anyDepth + 1 } root v
           else 0) +
        decAnyMembersN c ftype rest

def decElemsN (c : Cfg) (item : Field) (xs : PElems) : Nat :=
  match xs with
  | .nil _ => 1
  | .cons v rest =>
    1 + (match item with
         | .object ref =>
           match c.env.find ref with
           | some (.object sub) => decObjectN c sub v
           | _ => 0
         | .oneof ref =>
           match c.env.find ref with
           | some (.oneof ops) => decOneofN c ops v
           | _ => 0
         | _ => 1) + decElemsN c item rest

def decMapMembersN (c : Cfg) (item : Field) (ms : PMembers) : Nat :=
  match ms with
  | .nil _ => 1
  | .cons _ _ v rest =>
    1 + (match item with
         | .object ref =>
           match c.env.find ref with
           | some (.object sub) => decObjectN c sub v
           | _ => 0
         | .oneof ref =>
           match c.env.find ref with
           | some (.oneof ops) => decOneofN c ops v
           | _ => 0
         | _ => 1) + decMapMembersN c item rest

def decObjectN (c : Cfg) (props : List PropDef) (t : PTree) : Nat :=
  match t with
  | .obj ms => 1 + decObjMembersN c props ms { m := [], seen := [] }
  | _ => 1

def decOneofN (c : Cfg) (ops : List PropDef) (t : PTree) : Nat :=
  match t with
  | .obj ms => 1 + decOneofMembersN c ops ms { m := [], seen := [] }
  | _ => 1

-- written out like `decRootTree`, for the same reason (called from `decAnyMembersN` on a subtree)
def decRootTreeN (c : Cfg) (root : String) (t : PTree) : Nat :=
  match c.env.find root with
  | some (.object props) =>
    match t with
    | .obj ms => 1 + decObjMembersN c props ms { m := [], seen := [] }
    | _ => 1
  | some (.oneof ops) =>
    match t with
    | .obj ms => 1 + decOneofMembersN c ops ms { m := [], seen := [] }
    | _ => 1
  | _ => 1
end

/-- steps of `Codec.JSONToProto` after tokenisation (which is one pass over the bytes) -/
def decodeBytesN (c : Cfg) (root : String) (bs : Bytes) : Nat :=
  decRootTreeN c root (readDoc bs)

end J5V.Codec
