import J5V.Codec.RoundtripProofs
/-!
# `Any` values (C01, tree level): what the encoder writes and what the decoder recovers

A `j5.types.any.v1.Any` that carries `j5_json` is written as `{"!type": typeName, "value": <the
j5_json bytes verbatim>}`; reading `{"!type": typeName, "value": V}` (codec without
`WithProtoToAny`) stores `typeName` and the compact bytes of `V` (`Decode(&raw)` + `Compact`).
So the pair round-trips exactly when `j5_json` is the compact rendering of a JSON value of
nesting depth ≤ 10000. At the byte level the encoder's tree holds the bytes as one `raw` chunk while
the reader delivers the parsed value; `ChunkLaws` and `roundtrip_bytes` (`EncTreeProofs.lean`) connect
the two, and `Props/C01.lean` states the round trip on bytes.
-/
namespace J5V.Codec
open J5V.Go J5V.Json

theorem chunkNode_some (O : Oracle) (bs : Bytes) (V : PTree) (h : O.chunk bs = some V)
    (hr : V.render = bs) : chunkNode O bs = V := by
  unfold chunkNode; simp [h, hr]

theorem chunkNode_none (O : Oracle) (bs : Bytes) (h : O.chunk bs = none) : chunkNode O bs = .raw bs := by
  unfold chunkNode; simp [h]

/-- the encoder's tree for a j5 Any with `j5_json`: the bytes as one chunk (in parsed form when
the specification-side oracle recognises them — same bytes, `chunkNode_render`) -/
theorem enc_any_j5 (env : Env) (O : Oracle) (f : Nat) (tn proto j5 : Bytes) (ik : InnerKind)
    (iroot : String) (inner : PVal) (hj : j5 ≠ []) (hu : isValidUtf8 tn = true) :
    ∃ tlit nlit vlit, encValue env O (f + 1) (.any false) (.anyJ5 tn proto j5 ik iroot inner) =
      .ok (.obj (.cons typeKey tlit (.str tn nlit) (.cons valueKey vlit (chunkNode O j5) (.nil .closed)))) := by
  obtain ⟨tlit, htl⟩ := (appendString_total typeKey).2.1 (by decide)
  obtain ⟨vlit, hvl⟩ := (appendString_total valueKey).2.1 (by decide)
  obtain ⟨nlit, hnl⟩ := strNode_ok tn hu
  refine ⟨tlit, nlit, vlit, ?_⟩
  have hne : j5.isEmpty = false := by cases j5 with | nil => exact absurd rfl hj | cons a b => rfl
  simp [encValue_any_eq, anyParts, anyFrame, Outcome.bind, hne, htl, hvl, hnl]

/-- what `valOk` says about a j5 `Any` value -/
theorem valOk_any (env : Env) (O : Oracle) (v : PVal) (h : valOk env O (.any false) v = true) :
    ∃ tn j5 V, v = .anyJ5 tn [] j5 .none "" (.msg []) ∧ env.noJ5Any = false ∧ isValidUtf8 tn = true ∧
      j5 ≠ [] ∧ O.chunk j5 = some V ∧ V.render = j5 ∧ V.complete = true ∧ V.depth ≤ 10000 := by
  cases v with
  | anyJ5 tn proto j5 ik iroot inner =>
    unfold valOk at h
    split at h
    · next heq1 heq2 heq3 heq4 =>
      cases hch : O.chunk j5 with
      | none => simp [hch] at h
      | some V =>
        simp only [hch, Bool.and_eq_true, Bool.not_eq_true', beq_iff_eq, decide_eq_true_eq] at h
        obtain ⟨⟨⟨hna, hu⟩, hj⟩, ⟨hr, hc⟩, hd⟩ := h
        refine ⟨tn, j5, V, rfl, hna, hu, ?_, hch, hr, hc, hd⟩
        intro hnil; rw [hnil] at hj; cases hj
    · cases h
  | _ => simp [valOk] at h

/-- the `Any` member loop on `{"!type": tn, "value": tv}`, either member order -/
theorem decAnyMembers_frame (c : Cfg) (tn tlit nlit vlit : Bytes) (tv : PTree) (ms : PMembers)
    (hms : ms = .cons typeKey tlit (.str tn nlit) (.cons valueKey vlit tv (.nil .closed)) ∨
      ms = .cons valueKey vlit tv (.cons typeKey tlit (.str tn nlit) (.nil .closed)))
    (hc : tv.complete = true) (hd : tv.depth ≤ 10000) :
    ∃ acc, decAnyMembers c (finalType ms none) ms {} = .ok (acc, .closed) ∧ acc.ct = some tn ∧
      acc.valueBytes = some tv.render ∧
      ∀ iroot fs, c.anyDepth < maxAnyDepth → c.env.resolve tn = some iroot →
        decRootTree { c with anyDepth := c.anyDepth + 1 } iroot tv = .ok fs →
        acc.inner = .ok (some (iroot, fs)) := by
  have hpop : popValueAsBytes tv = some tv.render := by
    unfold popValueAsBytes; simp [hc, hd]
  have hvk : ascii "value" ≠ ascii "!type" := by decide
  rcases hms with rfl | rfl
  all_goals
    simp only [finalType, finalType.typeKeyB, decAnyMembers, typeKey, valueKey, if_true, hvk, if_false,
      ne_eq, not_true_eq_false, Option.isSome_none, Bool.false_eq_true, hpop]
    refine ⟨_, rfl, rfl, rfl, fun iroot fs hdepth hres hdec => ?_⟩
    simp [Nat.not_le.mpr hdepth, hres, hdec]

/-- the decoder (without `WithProtoToAny`) recovers type name and value bytes from the framed
value, in either order of the two members -/
theorem dec_any_j5_of (c : Cfg) (hmode : c.protoToAny = false) (props : List PropDef) (p : PropDef)
    (st : PS) (tn : Bytes) (tlit nlit vlit : Bytes) (tv t : PTree)
    (ht : t = .obj (.cons typeKey tlit (.str tn nlit) (.cons valueKey vlit tv (.nil .closed))) ∨
      t = .obj (.cons valueKey vlit tv (.cons typeKey tlit (.str tn nlit) (.nil .closed))))
    (hf : p.field = .any false) (hp : p.path ≠ []) (hs : p.jsonName ∉ st.seen)
    (hgb : groupBusy props p st.m = false) (hc : tv.complete = true) (hd : tv.depth ≤ 10000) :
    decProp c props p t st =
      .ok { m := updPath props p (some (.anyJ5 tn [] tv.render .none "" (.msg []))) st.m,
            seen := p.jsonName :: st.seen } := by
  have key : ∀ ms, _ → decProp c props p (.obj ms) st = _ := fun ms hms => by
    obtain ⟨acc, hr, hct, hvb, _⟩ := decAnyMembers_frame c tn tlit nlit vlit tv ms hms hc hd
    exact (Decodes.any (pb := false) (inner := none) hr hct hvb (by rw [hmode]; rfl)
      (fun h => nomatch h)).runs.1 props p st hf hp hs rfl hgb
  rcases ht with rfl | rfl
  · exact key _ (.inl rfl)
  · exact key _ (.inr rfl)

theorem dec_any_j5 (c : Cfg) (hmode : c.protoToAny = false) (props : List PropDef) (p : PropDef)
    (st : PS) (tn : Bytes) (tlit nlit vlit : Bytes) (tv : PTree)
    (hf : p.field = .any false) (hp : p.path ≠ []) (hs : p.jsonName ∉ st.seen)
    (hgb : groupBusy props p st.m = false) (hc : tv.complete = true) (hd : tv.depth ≤ 10000) :
    decProp c props p
        (.obj (.cons typeKey tlit (.str tn nlit) (.cons valueKey vlit tv (.nil .closed)))) st =
      .ok { m := updPath props p (some (.anyJ5 tn [] tv.render .none "" (.msg []))) st.m,
            seen := p.jsonName :: st.seen } :=
  dec_any_j5_of c hmode props p st tn tlit nlit vlit tv _ (.inl rfl) hf hp hs hgb hc hd

theorem Dec_any_rev (c : Cfg) (hmode : c.protoToAny = false) (tn tlit nlit vlit : Bytes) (tv : PTree)
    (hc : tv.complete = true) (hd : tv.depth ≤ 10000) :
    Dec c (.any false) (.anyJ5 tn [] tv.render .none "" (.msg []))
      (.obj (.cons valueKey vlit tv (.cons typeKey tlit (.str tn nlit) (.nil .closed)))) where
  prop := fun props p st hf hp hs _ hgb =>
    dec_any_j5_of c hmode props p st tn tlit nlit vlit tv _ (.inr rfl) hf hp hs hgb hc hd
  elem := fun h => by simp [itemSimple] at h
  mapv := fun h => by simp [itemSimple] at h

/-- a framed value `{"!type": tn, "value": V}` decodes (codec without `WithProtoToAny`) to the j5
`Any` that holds the compact bytes of `V`, in the only decoding context an `Any` can stand in
(property value; arrays / maps of `Any` are not supported by the codec) -/
theorem Dec_any (c : Cfg) (hmode : c.protoToAny = false) (tn tlit nlit vlit : Bytes) (tv : PTree)
    (hc : tv.complete = true) (hd : tv.depth ≤ 10000) :
    Dec c (.any false) (.anyJ5 tn [] tv.render .none "" (.msg []))
      (.obj (.cons typeKey tlit (.str tn nlit) (.cons valueKey vlit tv (.nil .closed)))) where
  prop := fun props p st hf hp hs _ hgb =>
    dec_any_j5 c hmode props p st tn tlit nlit vlit tv hf hp hs hgb hc hd
  elem := fun h => by simp [itemSimple] at h
  mapv := fun h => by simp [itemSimple] at h

/-! ## `google.protobuf.Any` -/

theorem anyPrefixB_eq : anyPrefixB = anyPrefix := rfl

/-- what the encoder writes for a protobuf `Any` whose content unmarshals to `inner` -/
theorem enc_any_pb (env : Env) (O : Oracle) (F : Nat) (url val : Bytes) (iroot : String)
    (inner : PVal) (data : PTree) (hroot : encRoot env O (F + 1) iroot inner = .ok data)
    (hu : isValidUtf8 (trimPrefix url anyPrefix) = true) :
    ∃ tlit nlit vlit, encValue env O (F + 2) (.any true) (.anyPb url val .inn iroot inner) =
      .ok (.obj (.cons typeKey tlit (.str (trimPrefix url anyPrefix) nlit)
        (.cons valueKey vlit data (.nil .closed)))) := by
  obtain ⟨tlit, htl⟩ := (appendString_total typeKey).2.1 (by decide)
  obtain ⟨vlit, hvl⟩ := (appendString_total valueKey).2.1 (by decide)
  obtain ⟨nlit, hnl⟩ := strNode_ok _ hu
  refine ⟨tlit, nlit, vlit, ?_⟩
  simp [encValue_any_eq, anyParts, anyFrame, Outcome.bind, hroot, htl, hvl, hnl]

/-- the decoder built `WithProtoToAny` reading the framed value into a protobuf `Any` property -/
theorem dec_any_pb (c : Cfg) (hmode : c.protoToAny = true) (hdepth : c.anyDepth < maxAnyDepth)
    (props : List PropDef) (p : PropDef) (st : PS) (tn tlit nlit vlit : Bytes) (data : PTree)
    (iroot : String) (fs : Fields)
    (hf : p.field = .any true) (hp : p.path ≠ []) (hs : p.jsonName ∉ st.seen)
    (hgb : groupBusy props p st.m = false) (hc : data.complete = true) (hd : data.depth ≤ 10000)
    (hres : c.env.resolve tn = some iroot)
    (hdec : decRootTree { c with anyDepth := c.anyDepth + 1 } iroot data = .ok fs)
    (hne : fs ≠ []) :
    decProp c props p
        (.obj (.cons typeKey tlit (.str tn nlit) (.cons valueKey vlit data (.nil .closed)))) st =
      .ok { m := updPath props p (some (.anyPb (anyPrefixB ++ tn) [] .inn iroot (.msg fs))) st.m,
            seen := p.jsonName :: st.seen } := by
  obtain ⟨acc, hr, hct, hvb, hin⟩ := decAnyMembers_frame c tn tlit nlit vlit data _ (.inl rfl) hc hd
  have := (Decodes.any (pb := true) (inner := some (iroot, fs)) hr hct hvb
    (by rw [hmode]; exact hin iroot fs hdepth hres hdec) (fun _ => rfl)).runs.1 props p st hf hp hs rfl hgb
  cases fs with
  | nil => exact absurd rfl hne
  | cons a b => exact this

/-- what `valOk` says about a protobuf `Any` value -/
theorem valOk_anyPb (env : Env) (O : Oracle) (v : PVal) (h : valOk env O (.any true) v = true) :
    ∃ tn iroot fs, v = .anyPb (anyPrefixB ++ tn) [] .inn iroot (.msg fs) ∧ fs ≠ [] ∧
      isValidUtf8 tn = true ∧ env.resolve tn = some iroot ∧
      (valOk env O (.object iroot) (.msg fs) = true ∨ valOk env O (.oneof iroot) (.msg fs) = true) := by
  cases v with
  | anyPb url value ik iroot inner =>
    unfold valOk at h
    split at h
    · next heq1 heq2 =>
      simp only [Bool.and_eq_true, Bool.or_eq_true, beq_iff_eq] at h
      obtain ⟨⟨⟨⟨hin, hurl⟩, hu⟩, hres⟩, hok⟩ := h
      cases inner with
      | msg fs =>
        simp only [Bool.not_eq_true', List.isEmpty_eq_false_iff] at hin
        exact ⟨url.drop anyPrefixB.length, iroot, fs, by rw [← hurl], hin, hu, hres, hok⟩
      | _ => simp at hin
    · cases h
  | _ => simp [valOk] at h

/-- the framed value decodes (codec `WithProtoToAny`, fewer than `maxAnyDepth` enclosing `Any`
values) to the protobuf `Any` whose content is what the inner document decodes to -/
theorem Dec_anyPb (c : Cfg) (hmode : c.protoToAny = true) (hdepth : c.anyDepth < maxAnyDepth)
    (tn tlit nlit vlit : Bytes) (data : PTree) (iroot : String) (fs : Fields)
    (hc : data.complete = true) (hd : data.depth ≤ 10000) (hres : c.env.resolve tn = some iroot)
    (hdec : decRootTree { c with anyDepth := c.anyDepth + 1 } iroot data = .ok fs) (hne : fs ≠ []) :
    Dec c (.any true) (.anyPb (anyPrefixB ++ tn) [] .inn iroot (.msg fs))
      (.obj (.cons typeKey tlit (.str tn nlit) (.cons valueKey vlit data (.nil .closed)))) where
  prop := fun props p st hf hp hs _ hgb =>
    dec_any_pb c hmode hdepth props p st tn tlit nlit vlit data iroot fs hf hp hs hgb hc hd hres hdec hne
  elem := fun h => by simp [itemSimple] at h
  mapv := fun h => by simp [itemSimple] at h

/-! ## `modeOk`: propagation to the parts of a value -/

theorem modeOk_aget (p : Bool) (F d : Nat) : ∀ (m : Fields) (k : Nat) (v : PVal),
    modeOkF p F d m = true → aget k m = some v → modeOk p F d v = true :=
  of_aget_of_cons fun _ _ h => by simpa only [modeOkF, Bool.and_eq_true] using h

theorem modeOk_getPath (p : Bool) (F d : Nat) : ∀ (path : List Nat) (m : Fields) (v : PVal),
    modeOkF p F d m = true → getPath m path = some v → modeOk p F d v = true :=
  of_getPath_of_cons (fun _ _ h => by simpa only [modeOkF, Bool.and_eq_true] using h)
    (fun _ h => by simpa only [modeOk] using h)

theorem modeOk_mem_list (p : Bool) (F d : Nat) : ∀ (xs : List PVal) (x : PVal),
    modeOkL p F d xs = true → x ∈ xs → modeOk p F d x = true :=
  of_mem_of_cons fun _ _ h => by simpa only [modeOkL, Bool.and_eq_true] using h

theorem modeOk_mem_map (p : Bool) (F d : Nat) (kvs : List (Bytes × PVal)) (k : Bytes) (v : PVal)
    (h : modeOkM p F d kvs = true) (hm : (k, v) ∈ kvs) : modeOk p F d v = true :=
  of_mem_of_cons (PL := fun l => modeOkM p F d l = true) (P := fun kv => modeOk p F d kv.2 = true)
    (fun _ _ h => by simpa only [modeOkM, Bool.and_eq_true] using h) kvs (k, v) h hm

mutual
/-- a smaller fuel cap is easier -/
theorem modeOk_anti (p : Bool) (F F' : Nat) (hF : F' ≤ F) : (v : PVal) → (d : Nat) →
    modeOk p F d v = true → modeOk p F' d v = true
  | .anyJ5 .., d, h => by simpa [modeOk] using h
  | .anyPb a b c e inner, d, h => by
    simp only [modeOk, Bool.and_eq_true, decide_eq_true_eq] at h ⊢
    exact ⟨⟨⟨h.1.1.1, h.1.1.2⟩, Nat.le_trans hF h.1.2⟩, modeOk_anti p F F' hF inner (d + 1) h.2⟩
  | .msg fs, d, h => by
    simp only [modeOk] at h ⊢; exact modeOkF_anti p F F' hF fs d h
  | .list xs, d, h => by
    simp only [modeOk] at h ⊢; exact modeOkL_anti p F F' hF xs d h
  | .map kvs, d, h => by
    simp only [modeOk] at h ⊢; exact modeOkM_anti p F F' hF kvs d h
  | .bool _, _, _ => by simp [modeOk]
  | .int _, _, _ => by simp [modeOk]
  | .uint _, _, _ => by simp [modeOk]
  | .f32 _, _, _ => by simp [modeOk]
  | .f64 _, _, _ => by simp [modeOk]
  | .str _, _, _ => by simp [modeOk]
  | .bytes _, _, _ => by simp [modeOk]
  | .enum _, _, _ => by simp [modeOk]
  | .ts _ _, _, _ => by simp [modeOk]
  | .date _ _ _, _, _ => by simp [modeOk]
  | .dec _, _, _ => by simp [modeOk]
theorem modeOkF_anti (p : Bool) (F F' : Nat) (hF : F' ≤ F) : (fs : List (Nat × PVal)) → (d : Nat) →
    modeOkF p F d fs = true → modeOkF p F' d fs = true
  | [], _, _ => by simp [modeOkF]
  | (_, v) :: rest, d, h => by
    simp only [modeOkF, Bool.and_eq_true] at h ⊢
    exact ⟨modeOk_anti p F F' hF v d h.1, modeOkF_anti p F F' hF rest d h.2⟩
theorem modeOkL_anti (p : Bool) (F F' : Nat) (hF : F' ≤ F) : (xs : List PVal) → (d : Nat) →
    modeOkL p F d xs = true → modeOkL p F' d xs = true
  | [], _, _ => by simp [modeOkL]
  | v :: rest, d, h => by
    simp only [modeOkL, Bool.and_eq_true] at h ⊢
    exact ⟨modeOk_anti p F F' hF v d h.1, modeOkL_anti p F F' hF rest d h.2⟩
theorem modeOkM_anti (p : Bool) (F F' : Nat) (hF : F' ≤ F) : (kvs : List (Bytes × PVal)) → (d : Nat) →
    modeOkM p F d kvs = true → modeOkM p F' d kvs = true
  | [], _, _ => by simp [modeOkM]
  | (_, v) :: rest, d, h => by
    simp only [modeOkM, Bool.and_eq_true] at h ⊢
    exact ⟨modeOk_anti p F F' hF v d h.1, modeOkM_anti p F F' hF rest d h.2⟩
end

/-! ## a j5 `Any` under `WithProtoToAny` (one property in isolation)

With `WithProtoToAny` the decoder does not only store `Any{type_name, j5_json}`: it also decodes
the value as the message type the name resolves to and stores the result as the `Any`'s proto
content. So `decode (encode a) ≠ a` for a j5 `Any` `a` that carries `j5_json` only — the result is
`a` **plus the expanded content** — but nothing observable through the codec changes: the encoder
prefers `j5_json` and writes it verbatim, so the decoded value is written as exactly the same
document again (`decode ∘ encode` is idempotent on it, and `encode ∘ decode ∘ encode = encode`).
-/

/-- the decoder built `WithProtoToAny` reading `{"!type": tn, "value": V}` into a j5 `Any`
property: `Any{type_name, j5_json = compact V}` plus, as proto content, what `V` decodes to as a
message of the root `tn` resolves to (one `Any` level deeper); when that is the EMPTY message, no
content is stored: the result is the `Any` the codec without `WithProtoToAny` stores -/
theorem dec_any_j5_p (c : Cfg) (hmode : c.protoToAny = true) (hdepth : c.anyDepth < maxAnyDepth)
    (props : List PropDef) (p : PropDef) (st : PS) (tn tlit nlit vlit : Bytes) (tv : PTree)
    (iroot : String) (fs : Fields)
    (hf : p.field = .any false) (hp : p.path ≠ []) (hs : p.jsonName ∉ st.seen)
    (hgb : groupBusy props p st.m = false) (hc : tv.complete = true) (hd : tv.depth ≤ 10000)
    (hres : c.env.resolve tn = some iroot)
    (hdec : decRootTree { c with anyDepth := c.anyDepth + 1 } iroot tv = .ok fs) :
    decProp c props p
        (.obj (.cons typeKey tlit (.str tn nlit) (.cons valueKey vlit tv (.nil .closed)))) st =
      .ok { m := updPath props p (some (if fs.isEmpty then .anyJ5 tn [] tv.render .none "" (.msg [])
              else .anyJ5 tn [] tv.render .inn iroot (.msg fs))) st.m,
            seen := p.jsonName :: st.seen } := by
  obtain ⟨acc, hr, hct, hvb, hin⟩ := decAnyMembers_frame c tn tlit nlit vlit tv _ (.inl rfl) hc hd
  have := (Decodes.any (pb := false) (inner := some (iroot, fs)) hr hct hvb
    (by rw [hmode]; exact hin iroot fs hdepth hres hdec) (fun h => nomatch h)).runs.1 props p st hf hp hs rfl hgb
  cases fs <;> exact this

/-- **stability**: what the encoder writes for a j5 `Any` that holds `j5_json` does not depend on
anything else the `Any` carries (proto bytes, expanded content) -/
theorem enc_any_j5_stable (env : Env) (O : Oracle) (f : Nat) (tn proto proto' j5 : Bytes)
    (ik ik' : InnerKind) (iroot iroot' : String) (inner inner' : PVal) (hj : j5 ≠ []) :
    encValue env O f (.any false) (.anyJ5 tn proto j5 ik iroot inner) =
      encValue env O f (.any false) (.anyJ5 tn proto' j5 ik' iroot' inner') := by
  have hne : j5.isEmpty = false := by
    cases j5 with
    | nil => exact absurd rfl hj
    | cons a b => rfl
  cases f with
  | zero => rfl
  | succ f => simp [encValue_any_eq, anyParts, hne]

end J5V.Codec
