import J5V.Codec.DecodeRel
/-!
# Structural faults are rejected (C03): unknown key, duplicate key, oneof with several keys,
`!type` contradicting the key, and propagation of a nested error to the enclosing container.
-/
namespace J5V.Codec
open J5V.Go J5V.Json

def IsErr {α} (o : Outcome α) : Prop := ∃ e, o = .err e

theorem IsErr_err {α} (e : String) : IsErr (Outcome.err e : Outcome α) := ⟨e, rfl⟩

theorem IsErr_bind_left {α β} (x : Outcome α) (f : α → Outcome β) (h : IsErr x) : IsErr (x.bind f) := by
  obtain ⟨e, rfl⟩ := h; exact ⟨e, rfl⟩

theorem unknown_key_object (c : Cfg) (props : List PropDef) (k kr : Bytes) (v : PTree)
    (rest : PMembers) (st : PS) (h : findProp props k = none) :
    IsErr (decObjMembers c props (.cons k kr v rest) st) := by
  rw [decObjMembers_cons, h]; exact IsErr_err _

theorem unknown_key_oneof (c : Cfg) (ops : List PropDef) (k kr : Bytes) (v : PTree)
    (rest : PMembers) (st : PS) (found : List Bytes) (ct : Option Bytes)
    (hk : k ≠ ascii "!type") (h : findProp ops k = none) :
    IsErr (decOneofMembers c ops (.cons k kr v rest) st found ct) := by
  rw [decOneofMembers_cons c ops k kr v rest st found ct hk, h]; exact IsErr_err _

theorem createField_dup (props : List PropDef) (p : PropDef) (st : PS) (h : p.jsonName ∈ st.seen) :
    createField props p st = .err "already set" := by
  unfold createField; simp [h]

theorem createField_busy (props : List PropDef) (p : PropDef) (st : PS)
    (h : groupBusy props p st.m = true) : IsErr (createField props p st) := by
  unfold createField
  by_cases hs : st.seen.contains p.jsonName = true
  · rw [if_pos hs]; exact IsErr_err _
  · rw [if_neg hs, if_pos h]; exact IsErr_err _

/-- when `CreateField` fails, so does every non-null value, whatever the field kind and whatever the
value looks like -/
theorem createField_err_prop (c : Cfg) (props : List PropDef) (p : PropDef) (t : PTree) (st : PS)
    (hcf : IsErr (createField props p st)) (hnn : t ≠ .null) : IsErr (decProp c props p t st) := by
  obtain ⟨e, hcf⟩ := hcf
  unfold decProp
  split
  · unfold decScalarProp
    cases t <;> simp [hcf, Outcome.bind, IsErr] at hnn ⊢
  · unfold decEnumProp
    cases t <;> simp [hcf, Outcome.bind, IsErr] at hnn ⊢
  all_goals (cases t <;> simp [hcf, Outcome.bind, IsErr] at hnn ⊢)

/-- a second non-null value for a property that is already set (duplicate key) is an error -/
theorem duplicate_key (c : Cfg) (props : List PropDef) (p : PropDef) (t : PTree) (st : PS)
    (hseen : p.jsonName ∈ st.seen) (hnn : t ≠ .null) : IsErr (decProp c props p t st) :=
  createField_err_prop c props p t st ⟨_, createField_dup props p st hseen⟩ hnn

/-- a non-null value for a member of a proto oneof while a *different* member of that oneof is
already set in the message is an error (`createField`'s `groupBusy` check; mirrors Go commit 25c97b7) -/
theorem proto_oneof_second_member (c : Cfg) (props : List PropDef) (p : PropDef) (t : PTree) (st : PS)
    (hbusy : groupBusy props p st.m = true) (hnn : t ≠ .null) : IsErr (decProp c props p t st) :=
  createField_err_prop c props p t st (createField_busy props p st hbusy) hnn

/-- an error at a member value is an error of the object (faults at any nesting position) -/
theorem object_propagates (c : Cfg) (props : List PropDef) (k kr : Bytes) (v : PTree)
    (rest : PMembers) (st : PS) (p : PropDef) (hf : findProp props k = some p)
    (h : IsErr (decProp c props p v st)) : IsErr (decObjMembers c props (.cons k kr v rest) st) := by
  rw [decObjMembers_cons, hf]; exact IsErr_bind_left _ _ h

/-- … and of every later position: once a member fails, the members before it do not matter -/
theorem object_propagates_later (c : Cfg) (props : List PropDef) (k kr : Bytes) (v : PTree)
    (rest : PMembers) (st st1 : PS) (p : PropDef) (hf : findProp props k = some p)
    (hok : decProp c props p v st = .ok st1) (h : IsErr (decObjMembers c props rest st1)) :
    IsErr (decObjMembers c props (.cons k kr v rest) st) := by
  rw [decObjMembers_cons, hf]; dsimp only; rw [hok]; exact h

theorem array_propagates_object (c : Cfg) (ref : String) (sub : List PropDef) (v : PTree)
    (rest : PElems) (acc : List PVal) (hfind : c.env.find ref = some (.object sub))
    (h : IsErr (decObject c sub v)) : IsErr (decElems c (.object ref) (.cons v rest) acc) := by
  obtain ⟨e, he⟩ := h
  unfold decElems; simp [hfind, he, IsErr]

theorem array_propagates_scalar (c : Cfg) (k : ScalarKind) (v : PTree) (tok : GoTok)
    (rest : PElems) (acc : List PVal) (hg : goTok v = some tok)
    (h : IsErr (decodeScalar c.O k tok)) : IsErr (decElems c (.scalar k) (.cons v rest) acc) := by
  obtain ⟨e, he⟩ := h
  unfold decElems; simp [hg, he, IsErr]

theorem map_propagates_scalar (c : Cfg) (k : ScalarKind) (key kr : Bytes) (v : PTree) (tok : GoTok)
    (rest : PMembers) (acc : List (Bytes × PVal)) (hg : goTok v = some tok)
    (h : IsErr (decodeScalar c.O k tok)) :
    IsErr (decMapMembers c (.scalar k) (.cons key kr v rest) acc) := by
  obtain ⟨e, he⟩ := h
  unfold decMapMembers; simp [hg, he, IsErr]

theorem scalar_prop_propagates (c : Cfg) (props : List PropDef) (p : PropDef) (k : ScalarKind)
    (t : PTree) (tok : GoTok) (st : PS) (hf : p.field = .scalar k) (hg : goTok t = some tok)
    (hnn : t ≠ .null) (h : IsErr (decodeScalar c.O k tok)) : IsErr (decProp c props p t st) := by
  cases hd : decProp c props p t st with
  | err e => exact ⟨e, rfl⟩
  | ok st' =>
    -- a success would have converted this very token
    cases decProp_sound c props p t st st' hd with
    | null => exact absurd rfl hnn
    | value _ _ _ hv =>
      rw [hf] at hv
      cases hv with
      | scalar hg' hdec =>
        obtain ⟨e, he⟩ := h
        rw [hg] at hg'; cases hg'
        rw [he] at hdec; cases hdec
    | exposed _ hfld => rw [hf] at hfld; cases hfld
  | panic w =>
    unfold decProp at hd; rw [hf] at hd
    exact absurd hd (decScalarProp_np c props p k t st w)

theorem oneof_multiple_keys (ops : List PropDef) (a b : Bytes) (rest : List Bytes) (ct : Option Bytes)
    (m : Fields) : IsErr (oneofPost ops (a :: b :: rest) ct m) := by
  unfold oneofPost; simp [IsErr]

/-- a `!type` that contradicts the key present -/
theorem oneof_type_mismatch (ops : List PropDef) (k name : Bytes) (m : Fields) (h : k ≠ name) :
    IsErr (oneofPost ops [k] (some name) m) := by
  unfold oneofPost; simp [h, IsErr]

/-- a `!type` naming no member (and no key) -/
theorem oneof_type_unknown (ops : List PropDef) (name : Bytes) (m : Fields)
    (h : findProp ops name = none) : IsErr (oneofPost ops [] (some name) m) := by
  unfold oneofPost; simp [h, IsErr]

/-- a failing post-check fails the oneof, whatever the closer -/
theorem finishOneof_post_err (ops : List PropDef) (st : PS) (found : List Bytes) (ct : Option Bytes)
    (term : Term) (h : IsErr (oneofPost ops found ct st.m)) :
    IsErr (finishOneof ops (.ok (st, found, ct, term))) := by
  obtain ⟨e, he⟩ := h
  unfold finishOneof
  simp only []
  split
  · exact IsErr_err _
  · simp [he, IsErr]

end J5V.Codec
