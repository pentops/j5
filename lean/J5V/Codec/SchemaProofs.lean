import J5V.Codec.Schema
import J5V.Go.ListLemmas
/-!
# Looking things up in a schema: `Env.find`, `findProp`
-/
namespace J5V.Codec
open J5V.Go J5V.Json

theorem find_mem (env : Env) (name : String) (r : Root) (hf : env.find name = some r) :
    ∃ d ∈ env.defs, d.2 = r := by
  unfold Env.find at hf
  cases hd : env.defs.find? (fun d => d.1 == name) with
  | none => simp [hd] at hf
  | some d =>
    simp only [hd, Option.map_some, Option.some.injEq] at hf
    exact ⟨d, List.mem_of_find?_eq_some hd, hf⟩

/-- a condition all properties of all object and oneof roots meet holds of the properties of a root
that is found -/
theorem find_props_all (env : Env) (P : PropDef → Bool)
    (h : (env.defs.all fun d => match d.2 with
      | .object ps | .oneof ps => ps.all P
      | _ => true) = true)
    (name : String) (ps : List PropDef)
    (hf : env.find name = some (.object ps) ∨ env.find name = some (.oneof ps)) :
    ∀ p ∈ ps, P p = true := by
  rcases hf with hf | hf
  all_goals
    obtain ⟨d, hm, hd⟩ := find_mem env name _ hf
    have := List.all_eq_true.mp h d hm
    rw [hd] at this
    exact fun p hp => List.all_eq_true.mp this p hp

theorem findProp_mem (props : List PropDef) (k : Bytes) (p : PropDef) (h : findProp props k = some p) :
    p ∈ props := by
  unfold findProp at h
  simpa using List.mem_of_find?_eq_some h

theorem findProp_name (props : List PropDef) (k : Bytes) (p : PropDef) (h : findProp props k = some p) :
    p.jsonName = k := by
  unfold findProp at h
  simpa using List.find?_some h

theorem findProp_self (props : List PropDef) (hnd : (props.map (·.jsonName)).Nodup) (p : PropDef)
    (hp : p ∈ props) : findProp props p.jsonName = some p := by
  unfold findProp
  have hnd' : (props.reverse.map (·.jsonName)).Nodup := by
    rw [List.map_reverse]
    unfold List.Nodup at *
    rw [List.pairwise_reverse]
    exact hnd.imp (fun hab => Ne.symm hab)
  exact find?_unique (·.jsonName) props.reverse hnd' p (List.mem_reverse.mpr hp)

end J5V.Codec
