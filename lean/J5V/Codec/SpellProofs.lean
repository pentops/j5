import J5V.Codec.Doc
import J5V.Codec.RoundtripInd
/-!
# Every admissible spelling of a message decodes to that message (C03, first sentence)

`SpellsRoot c root m t → decRootTree c root t = .ok m`, for `Env.flat` environments and
representable messages: members in any order, explicit nulls, `"!type"` before / after / absent,
any accepted scalar spelling.
-/
namespace J5V.Codec
open J5V.Go J5V.Json

theorem Dec_scalar_tok (c : Cfg) (k : ScalarKind) (v : PVal) (t : PTree) (h : scalarSpells c.O k v t) :
    Dec c (.scalar k) v t := by
  obtain ⟨_, tok, hgt, hdec⟩ := h
  exact .of_val (.scalar hgt hdec)

/-- a oneof message with at most one field, none of whose members is set, is empty -/
theorem oneof_empty_store (c : Cfg) (ops : List PropDef) (fs : Fields)
    (hroot : rootSimple (.oneof ops) = true) (hfok : fieldsOk c.env c.O ops fs = true)
    (hnone : ∀ q ∈ ops, getPath fs q.path = none) : fs = [] := by
  obtain ⟨hsimple, _, _, _⟩ := oneof_root_facts ops hroot
  cases fs with
  | nil => rfl
  | cons kv rest =>
    exfalso
    obtain ⟨k0, v0⟩ := kv
    obtain ⟨p, hfp, _, _⟩ := fieldsOk_mem _ _ ops _ (simple_no_flatten ops hsimple) hfok k0 v0
      List.mem_cons_self
    obtain ⟨hp, hpk⟩ := leafProp_simple c.env ops k0 p hsimple hfp
    have := hnone p hp
    rw [hpk] at this
    simp [getPath, aget] at this

/-! ## the induction on the document -/

theorem SpellsM_nil (c : Cfg) (props : List PropDef) (fs : Fields) (used : List Bytes) (term : Term) :
    SpellsM c props fs used (.nil term) ↔
      (term = .closed ∧ ∀ p ∈ props, p.jsonName ∉ used →
        (p.path ≠ [] → getPath fs p.path = none) ∧
        (p.path = [] → ∀ q ∈ exposedOps c.env p, getPath fs q.path = none)) := by
  simp only [SpellsM]

theorem SpellsM_cons (c : Cfg) (props : List PropDef) (fs : Fields) (used : List Bytes)
    (k kr : Bytes) (v : PTree) (rest : PMembers) :
    SpellsM c props fs used (.cons k kr v rest) ↔
      ∃ p, findProp props k = some p ∧
        ((v = .null ∧ SpellsM c props fs used rest) ∨
         (k ∉ used ∧ p.path ≠ [] ∧
           (∃ vv, getPath fs p.path = some vv ∧ SpellsV c p.field vv v) ∧
           SpellsM c props fs (k :: used) rest) ∨
         (k ∉ used ∧ p.path = [] ∧ SpellsX c (exposedOps c.env p) fs v ∧
           SpellsM c props fs (k :: used) rest)) := by
  simp only [SpellsM]

mutual
theorem spellsV_dec (c : Cfg) (hs : c.env.flat = true)
    (hA : c.protoToAny = false ∨ c.env.noJ5Any = true) (fld : Field) (vv : PVal) (t : PTree)
    (hfs : fieldSimple fld = true) (hok : valOk c.env c.O fld vv = true) (h : SpellsV c fld vv t) :
    Dec c fld vv t := by
  cases t with
  | obj ms =>
    cases fld with
    | object ref =>
      obtain ⟨fs, props, rfl, hfind, hsort, hfok, hgrp, hexp⟩ := valOk_object _ _ ref vv hok
      simp only [SpellsV, hfind] at h
      have hroot := find_rootFlat c.env hs ref _ hfind
      obtain ⟨_, hnames, hpathsnd, _⟩ := object_root_facts c.env props hroot
      obtain ⟨seen', hdec⟩ := decObjMembers_reads_fresh c props fs hnames
        (propPaths_flat_nodup c.env props hpathsnd) (.of_ok c.env c.O props fs hroot hsort hfok hgrp) hfok
        (spellsM_reads c hs hA props fs hroot hsort hfok ms [] h)
      exact Dec_object c ref props fs ms seen' hfind hdec
    | oneof ref =>
      obtain ⟨fs, ops, rfl, hfind, hsort, hfok, hlen⟩ := valOk_oneof _ _ ref vv hok
      simp only [SpellsV, hfind] at h
      have hroot := rootFlat_oneof c.env ops (find_rootFlat c.env hs ref _ hfind)
      have hres := spellsO_dec c hs hA ops fs hroot (oneof_store_facts c ops fs hroot hfok) ms h []
        (fun _ _ _ _ => rfl)
      cases hres with
      | empty seen1 found ct hnone hloop hpost =>
        have hfs' : fs = [] := oneof_empty_store c ops fs hroot hfok hnone
        subst hfs'
        exact Dec_oneof c ref ops [] ms _ found ct hfind hloop rfl hpost
      | set q k v seen1 found ct hq hqk hag hoth hloop hpost =>
        have hfs' : fs = [(k, v)] := single_store fs k v hlen hag
        refine Dec_oneof c ref ops fs ms _ found ct hfind hloop ?_ ?_
        · rw [hfs']; rfl
        · rw [hfs']; exact hpost
    | map item =>
      obtain ⟨kvs, rfl, hmok⟩ := valOk_map _ _ item vv hok
      have hi : itemSimple item = true := by simpa [fieldSimple] using hfs
      simp only [SpellsV] at h
      have hdec := spellsMap_dec c hs hA item kvs ms hi [] hmok h [] (fun _ _ => rfl)
      simp only [List.nil_append] at hdec
      exact .of_val (.map (itemCheck_simple item hi) (decMap_sound _ _ _ _ _ _ hdec))
    | scalar k => simp [SpellsV] at h
    | «enum» ref => simp [SpellsV] at h
    | any pb =>
      simp only [SpellsV] at h
      obtain ⟨rfl, tn, V, l1, l2, l3, rfl, hc, hd, hms⟩ := h
      obtain ⟨_, _, _, _, hna, _⟩ := valOk_any _ _ _ hok
      have hmode : c.protoToAny = false := by
        rcases hA with h1 | h1
        · exact h1
        · rw [h1] at hna; cases hna
      rcases hms with rfl | rfl
      · exact Dec_any c hmode tn l1 l2 l3 V hc hd
      · exact Dec_any_rev c hmode tn l1 l2 l3 V hc hd
    | array item => cases vv <;> simp [SpellsV] at h
  | arr xs =>
    cases fld with
    | array item =>
      obtain ⟨vs, rfl, hlok⟩ := valOk_array _ _ item vv hok
      have hi : itemSimple item = true := by simpa [fieldSimple] using hfs
      simp only [SpellsV] at h
      have hdec := spellsE_dec c hs hA item vs xs hi hlok h []
      simp only [List.nil_append] at hdec
      exact .of_val (.array (itemCheck_simple item hi) (decElems_sound _ _ _ _ _ _ hdec))
    | _ => cases vv <;> simp [SpellsV] at h
  | str s raw =>
    cases fld with
    | scalar k => exact Dec_scalar_tok c k vv _ (by simpa [SpellsV] using h)
    | «enum» ref =>
      obtain ⟨n, pfx, opts, rfl, hfind, _⟩ := valOk_enum _ _ ref vv hok
      simp only [SpellsV, hfind] at h
      exact Dec_enum c ref pfx opts n s raw hfind h
    | any pb => cases vv <;> simp [SpellsV] at h
    | _ => simp [SpellsV] at h
  | num x =>
    cases fld with
    | scalar k => exact Dec_scalar_tok c k vv _ (by simpa [SpellsV] using h)
    | any pb => cases vv <;> simp [SpellsV] at h
    | _ => simp [SpellsV] at h
  | bool b =>
    cases fld with
    | scalar k => exact Dec_scalar_tok c k vv _ (by simpa [SpellsV] using h)
    | any pb => cases vv <;> simp [SpellsV] at h
    | _ => simp [SpellsV] at h
  | _ =>
    -- `null`, and what the tokenizer gives for a broken document: no token spells a value
    cases fld with
    | scalar k => simp [SpellsV, scalarSpells, goTok] at h
    | any pb => cases vv <;> simp [SpellsV] at h
    | _ => simp [SpellsV] at h
termination_by structural t

theorem spellsM_reads (c : Cfg) (hs : c.env.flat = true)
    (hA : c.protoToAny = false ∨ c.env.noJ5Any = true) (props : List PropDef) (fs : Fields)
    (hroot : rootFlat c.env (.object props) = true) (hsort : asorted fs = true)
    (hfok : fieldsOk c.env c.O props fs = true)
    (ms : PMembers) (used : List Bytes) (h : SpellsM c props fs used ms) :
    ReadsM c props fs used ms := by
  cases ms with
  | nil term =>
    obtain ⟨rfl, hunused⟩ := (SpellsM_nil c props fs used term).mp h
    exact .nil hunused
  | cons k kr v rest =>
    obtain ⟨p, hfp, halt⟩ := (SpellsM_cons c props fs used k kr v rest).mp h
    have hpm : p ∈ props := findProp_mem props k p hfp
    rcases halt with ⟨rfl, hrest⟩ | ⟨hku, hpne, ⟨vv, hget, hsp⟩, hrest⟩ | ⟨hku, hp0, hbody, hrest⟩
    · exact .null p hfp (spellsM_reads c hs hA props fs hroot hsort hfok rest used hrest)
    · -- a property of the message
      obtain ⟨hfsimple, hvok, hz, _⟩ := fieldsOk_leaf c.env c.O props fs hroot hfok hsort p hpm hpne vv hget
      exact .member p hfp hku
        (.leaf vv hpne hget (spellsV_dec c hs hA p.field vv v hfsimple hvok hsp) hz
          (valOk_not_emptyColl _ _ _ _ hvok))
        (spellsM_reads c hs hA props fs hroot hsort hfok rest (k :: used) hrest)
    · -- an exposed oneof
      have hexposed : propExposed c.env p = true :=
        ((object_root_facts c.env props hroot).1 p hpm).resolve_left fun h1 => (propFlat_inv p h1).1 hp0
      obtain ⟨_, hpg, ref, ops, hpf, hfind⟩ := propExposed_inv c.env p hexposed
      have hops : exposedOps c.env p = ops := exposedOps_eq c.env p ref ops hp0 hpf hfind
      have hopsroot := rootFlat_oneof c.env ops (find_rootFlat c.env hs ref _ hfind)
      have hvals := hops ▸ fieldsOk_exposed c.env c.O props fs hroot hfok hsort p hpm hp0
      cases v with
      | obj ms' =>
        rw [hops] at hbody
        simp only [SpellsX] at hbody
        exact .member p hfp hku
          (.exposed ref ops ms' hp0 hpg hpf hfind fun m htarget =>
            spellsO_dec c hs hA ops fs hopsroot hvals ms' hbody m htarget)
          (spellsM_reads c hs hA props fs hroot hsort hfok rest (k :: used) hrest)
      | _ => simp [SpellsX] at hbody
termination_by structural ms

theorem spellsO_dec (c : Cfg) (hs : c.env.flat = true)
    (hA : c.protoToAny = false ∨ c.env.noJ5Any = true) (ops : List PropDef) (fs : Fields)
    (hroot : rootSimple (.oneof ops) = true)
    (hvals : ∀ q ∈ ops, ∀ k v, q.path = [k] → aget k fs = some v →
      valOk c.env c.O q.field v = true ∧ (q.pres == .imp && v.isZero) = false)
    (ms : PMembers) (h : SpellsO c ops fs ms) (m : Fields)
    (htarget : ∀ q ∈ ops, ∀ k, q.path = [k] → aget k m = none) : OneResult c ops fs ms m := by
  obtain ⟨hsimple, hnames, _, hnotype⟩ := oneof_root_facts ops hroot
  -- reading the member `k1 : v1` of the body into `m`
  have member : ∀ (k1 : Bytes) (v1 : PTree) (q : PropDef) (kk : Nat) (vv : PVal),
      findProp ops k1 = some q → q.path = [kk] → aget kk fs = some vv →
      (fieldSimple q.field = true → valOk c.env c.O q.field vv = true → Dec c q.field vv v1) →
      q ∈ ops ∧ q.jsonName = k1 ∧
      decProp c ops q v1 { m := m, seen := [] } = .ok { m := aset kk vv m, seen := [q.jsonName] } := by
    intro k1 v1 q kk vv hfq hqk hag hdec
    have hq := findProp_mem ops k1 q hfq
    obtain ⟨hvok, hz⟩ := hvals q hq kk vv hqk hag
    refine ⟨hq, findProp_name ops k1 q hfq, ?_⟩
    exact oneof_member_step c ops q kk vv v1 m hqk (hdec (propSimple_field q (hsimple q hq)) hvok) hz
      (valOk_not_emptyColl _ _ _ _ hvok) (htarget q hq kk hqk)
      (fun q' hq' k' hk' _ => htarget q' hq' k' hk')
  cases ms with
  | nil term =>
    simp only [SpellsO] at h
    obtain ⟨rfl, hnone⟩ := h
    exact OneResult.empty [] [] none hnone (decOneofMembers_nil ..) (by simp [oneofPost])
  | cons k1 kr1 v1 rest1 =>
    cases rest1 with
    | nil term =>
      simp only [SpellsO] at h
      obtain ⟨rfl, hk1, q, kk, vv, hfq, hqk, hag, hoth, hsp⟩ := h
      obtain ⟨hq, hqn, hstep⟩ := member k1 v1 q kk vv hfq hqk hag
        (fun hfs hok => spellsV_dec c hs hA q.field vv v1 hfs hok hsp)
      exact OneResult.set q kk vv [q.jsonName] [k1] none hq hqk hag hoth
        (decOneofMembers_ok_iff.mpr (.oneCons hk1 hfq (decProp_ok_iff.mp hstep) .oneNil))
        (by simp [oneofPost])
    | cons k2 kr2 v2 rest2 =>
      cases rest2 with
      | nil term =>
        simp only [SpellsO] at h
        obtain ⟨rfl, halt⟩ := h
        rcases halt with ⟨hk1, hk2, ⟨raw, hv1⟩, q, kk, vv, hfq, hqk, hag, hoth, hsp⟩ |
          ⟨hk2, hk1, ⟨raw, hv2⟩, q, kk, vv, hfq, hqk, hag, hoth, hsp⟩
        · subst hv1
          obtain ⟨hq, hqn, hstep⟩ := member k2 v2 q kk vv hfq hqk hag
            (fun hfs hok => spellsV_dec c hs hA q.field vv v2 hfs hok hsp)
          exact OneResult.set q kk vv [q.jsonName] [k2] (some k2) hq hqk hag hoth
            (decOneofMembers_ok_iff.mpr (hk1 ▸ .oneType (.oneCons hk2 hfq (decProp_ok_iff.mp hstep) .oneNil)))
            (by simp [oneofPost])
        · subst hv2
          obtain ⟨hq, hqn, hstep⟩ := member k1 v1 q kk vv hfq hqk hag
            (fun hfs hok => spellsV_dec c hs hA q.field vv v1 hfs hok hsp)
          exact OneResult.set q kk vv [q.jsonName] [k1] (some k1) hq hqk hag hoth
            (decOneofMembers_ok_iff.mpr (.oneCons hk1 hfq (decProp_ok_iff.mp hstep) (hk2 ▸ .oneType .oneNil)))
            (by simp [oneofPost])
      | cons k3 kr3 v3 rest3 => simp [SpellsO] at h
termination_by structural ms

theorem spellsE_dec (c : Cfg) (hs : c.env.flat = true)
    (hA : c.protoToAny = false ∨ c.env.noJ5Any = true) (item : Field) (vs : List PVal) (xs : PElems)
    (hi : itemSimple item = true) (hlok : listOk c.env c.O item vs = true) (h : SpellsE c item vs xs)
    (acc : List PVal) : decElems c item xs acc = .ok (acc ++ vs, .closed) := by
  cases xs with
  | nil term =>
    simp only [SpellsE] at h
    obtain ⟨rfl, rfl⟩ := h
    simp [decElems]
  | cons t rest =>
    simp only [SpellsE] at h
    obtain ⟨v, vs', rfl, hsp, hrest⟩ := h
    simp only [listOk, Bool.and_eq_true] at hlok
    have hdec := spellsV_dec c hs hA item v t (itemSimple_field item hi) hlok.1 hsp
    rw [hdec.elem hi, spellsE_dec c hs hA item vs' rest hi hlok.2 hrest]
    simp
termination_by structural xs

theorem spellsMap_dec (c : Cfg) (hs : c.env.flat = true)
    (hA : c.protoToAny = false ∨ c.env.noJ5Any = true) (item : Field) (kvs : List (Bytes × PVal))
    (ms : PMembers) (hi : itemSimple item = true) (seen : List Bytes)
    (hmok : mapOk c.env c.O item seen kvs = true) (h : SpellsMap c item kvs ms)
    (acc : List (Bytes × PVal)) (hacc : ∀ k, k ∉ seen → mget k acc = none) :
    decMapMembers c item ms acc = .ok (acc ++ kvs, .closed) := by
  cases ms with
  | nil term =>
    simp only [SpellsMap] at h
    obtain ⟨rfl, rfl⟩ := h
    simp [decMapMembers]
  | cons k kr t rest =>
    simp only [SpellsMap] at h
    obtain ⟨v, kvs', rfl, hsp, hrest⟩ := h
    obtain ⟨hks, _, hvok, hok'⟩ := mapOk_cons _ _ _ _ _ _ _ hmok
    have hmg : mget k acc = none := hacc k hks
    have hdec := spellsV_dec c hs hA item v t (itemSimple_field item hi) hvok hsp
    rw [hdec.mapv hi k kr _ acc hmg, mset_append k v acc hmg,
      spellsMap_dec c hs hA item kvs' rest hi (k :: seen) hok' hrest]
    · simp
    · intro k2 hk2
      simp only [List.mem_cons, not_or] at hk2
      exact mget_append_ne k2 k v acc hk2.1 (hacc k2 hk2.2)
termination_by structural ms
end

/-- **every admissible spelling of a representable message decodes to exactly that message**: the
root document is, for the decoder, an array element of the root's object / oneof schema -/
theorem spells_root_decodes (c : Cfg) (hs : c.env.flat = true)
    (hA : c.protoToAny = false ∨ c.env.noJ5Any = true) (root : String) (m : Fields) (t : PTree)
    (hok : valOk c.env c.O (.object root) (.msg m) = true ∨ valOk c.env c.O (.oneof root) (.msg m) = true)
    (h : SpellsRoot c root m t) : decRootTree c root t = .ok m := by
  have key : ∀ fld, fld = .object root ∨ fld = .oneof root → valOk c.env c.O fld (.msg m) = true →
      SpellsV c fld (.msg m) t → ∃ pv, ItemDec c fld t pv ∧ pv = .msg m := by
    intro fld hfld hv hsp
    have hsimple : itemSimple fld = true := by rcases hfld with rfl | rfl <;> rfl
    have hdec := spellsV_dec c hs hA fld (.msg m) t (by rcases hfld with rfl | rfl <;> rfl) hv hsp
    have hone : decElems c fld (.cons t (.nil .closed)) [] = .ok ([.msg m], .closed) := by
      rw [hdec.elem hsimple]; simp [decElems]
    obtain ⟨pv, hid, hrest⟩ := elem_step_inv c fld t _ [] _ hone
    refine ⟨pv, hid, ?_⟩
    simp only [decElems, List.nil_append] at hrest
    simpa using hrest
  unfold SpellsRoot at h
  rw [decRootTree_eq]
  rcases hok with hok | hok
  · obtain ⟨_, props, _, hfind, _⟩ := valOk_object _ _ root _ hok
    rw [hfind] at h ⊢
    cases t with
    | obj ms =>
      obtain ⟨_, ⟨sub, fs, hf, hd, hpv⟩, rfl⟩ := key _ (Or.inl rfl) hok (by simpa only [SpellsV, hfind] using h)
      rw [hfind] at hf; cases hf; cases hpv; exact hd
    | _ => simp at h
  · obtain ⟨_, ops, _, hfind, _⟩ := valOk_oneof _ _ root _ hok
    rw [hfind] at h ⊢
    cases t with
    | obj ms =>
      obtain ⟨_, ⟨sub, fs, hf, hd, hpv⟩, rfl⟩ := key _ (Or.inr rfl) hok (by simpa only [SpellsV, hfind] using h)
      rw [hfind] at hf; cases hf; cases hpv; exact hd
    | _ => simp at h

end J5V.Codec
