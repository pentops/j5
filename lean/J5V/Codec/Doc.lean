import J5V.Codec.DecodeSpec
import J5V.Codec.Query
/-!
# Documents with a fault (C03, second sentence), declaratively

`FaultV c fld t`: the JSON value `t`, read for a field of schema `fld`, contains — at the value
itself or at *any* nesting position below it (member of a nested object, array element, map value,
oneof arm) — a member that cannot be represented in its target field:

* wrong JSON type (an object / array where a scalar is expected and vice versa, a non-string enum),
* a scalar token `scalarReflectFromGo` rejects (unparsable or out-of-range number, invalid base64 /
  date / decimal / timestamp text — the scalar-level theorems of `Props/C03.lean` list the classes),
* an unknown enum name, an unknown key,
* more than one key in a oneof, a `"!type"` that contradicts the key present,
* a `null` array element / map value,
* (also rejected, though not in the property's list: a duplicate key with two non-null values, a
  truncated container).

Everything *around* the fault is arbitrary: other members may be anything. The definitions recurse
on the tree only (never on decoder state).
-/
namespace J5V.Codec
open J5V.Go J5V.Json

/-- a later member with key `k` and a non-null value -/
def hasNonNull (k : Bytes) : PMembers → Prop
  | .nil _ => False
  | .cons k' _ v rest => (k' = k ∧ v ≠ .null) ∨ hasNonNull k rest

/-- the terminator of a member list -/
def membersTerm : PMembers → Term
  | .nil t => t
  | .cons _ _ _ rest => membersTerm rest

/-- the post-check faults of a oneof body: more than one key, or a `"!type"` that contradicts the
key present / names no member -/
def FaultOneofPost (ops : List PropDef) (ms : PMembers) : Prop :=
  match oneofKeys ms, finalType ms none with
  | _ :: _ :: _, _ => True
  | [k], some name => k ≠ name
  | [], some name => findProp ops name = none
  | _, _ => False

mutual
/-- the value `t` of a field with schema `fld` contains a fault -/
def FaultV (c : Cfg) (fld : Field) : PTree → Prop
  | .null => False
  | .obj ms =>
    match fld with
    | .object ref =>
      match c.env.find ref with
      | some (.object sub) => FaultM c sub ms
      | _ => True
    | .oneof ref =>
      match c.env.find ref with
      | some (.oneof ops) => FaultO c ops ms ∨ FaultOneofPost ops ms
      | _ => True
    | .map item => FaultMap c item ms
    | .any _ => False
    | _ => True          -- an object where a scalar / enum / array is expected
  | .arr xs =>
    match fld with
    | .array item => FaultE c item xs
    | _ => True          -- an array where something else is expected
  | t =>
    match fld with
    | .scalar k =>
      match goTok t with
      | some tok => ∃ e, decodeScalar c.O k tok = .err e
      | none => True
    | .enum ref =>
      match t, c.env.find ref with
      | .str s _, some (.enum pfx opts) => enumOptionByName pfx opts s = none
      | _, _ => True
    | _ => True          -- a scalar where a container is expected
/-- the members of an object contain a fault -/
def FaultM (c : Cfg) (props : List PropDef) : PMembers → Prop
  | .nil term => term ≠ .closed
  | .cons k _ v rest =>
    findProp props k = none ∨
    (∃ p, findProp props k = some p ∧ FaultV c p.field v) ∨
    (v ≠ .null ∧ hasNonNull k rest) ∨
    FaultM c props rest
/-- the body of a oneof contains a fault (a fault of the key / value itself; the post-checks are
in `FaultOneofPost`) -/
def FaultO (c : Cfg) (ops : List PropDef) : PMembers → Prop
  | .nil term => term ≠ .closed
  | .cons k _ v rest =>
    (k = ascii "!type" ∧ (∀ s raw, v ≠ .str s raw)) ∨
    (k ≠ ascii "!type" ∧ findProp ops k = none) ∨
    (k ≠ ascii "!type" ∧ ∃ p, findProp ops k = some p ∧ FaultV c p.field v) ∨
    FaultO c ops rest
/-- the elements of an array contain a fault -/
def FaultE (c : Cfg) (item : Field) : PElems → Prop
  | .nil term => term ≠ .closed
  | .cons v rest => v = .null ∨ FaultV c item v ∨ FaultE c item rest
/-- the values of a map contain a fault -/
def FaultMap (c : Cfg) (item : Field) : PMembers → Prop
  | .nil term => term ≠ .closed
  | .cons _ _ v rest => v = .null ∨ FaultV c item v ∨ FaultMap c item rest
end

/-- the document `t` for root `root` contains a fault -/
def FaultRoot (c : Cfg) (root : String) (t : PTree) : Prop :=
  match c.env.find root with
  | some (.object props) =>
    match t with
    | .obj ms => FaultM c props ms
    | _ => True
  | some (.oneof ops) =>
    match t with
    | .obj ms => FaultO c ops ms ∨ FaultOneofPost ops ms
    | _ => True
  | _ => True

/-! # Documents that spell a message (C03, first sentence), declaratively

`SpellsRoot c root m t`: the document `t` is one of the admissible ways to write the message `m`:

* the members of an object may come in **any order**; a property the message holds is given
  exactly once; **explicit `null` members** may appear anywhere (for absent and for present
  properties); properties of flattened objects are members of the parent; an exposed oneof is a
  oneof object over the same message;
* a oneof object is `{}` (nothing set), or its one member with the `"!type"` member before it,
  after it, or **left out**;
* array elements and map values in order; a j5 `Any` is `"!type"` and `"value"` in either order;
* a scalar is **any** token `scalarReflectFromGo` maps to the stored value — the canonical one and
  the documented alternates (quoted / bare numbers, URL-safe or unpadded base64, RFC 3339 at any
  offset, float respellings; `Props/C03.lean` lists them as theorems); an enum is the short or the
  prefixed option name.

The definitions recurse on the document only. -/

/-- the token denotes the scalar value `vv` of kind `k` -/
def scalarSpells (O : Oracle) (k : ScalarKind) (vv : PVal) (t : PTree) : Prop :=
  t ≠ .null ∧ ∃ tok, goTok t = some tok ∧ decodeScalar O k tok = .ok (some vv)

/-- the members spell a j5 `Any` that holds `j5_json` only: `"!type"` and `"value"` in either
order, the value any complete JSON value whose compact rendering is the stored `j5_json` -/
def SpellsAny (pb : Bool) (vv : PVal) (ms : PMembers) : Prop :=
  pb = false ∧ ∃ (tn : Bytes) (V : PTree) (l1 l2 l3 : Bytes),
    vv = .anyJ5 tn [] V.render .none "" (.msg []) ∧ V.complete = true ∧ V.depth ≤ 10000 ∧
    (ms = .cons (ascii "!type") l1 (.str tn l2) (.cons (ascii "value") l3 V (.nil .closed)) ∨
     ms = .cons (ascii "value") l3 V (.cons (ascii "!type") l1 (.str tn l2) (.nil .closed)))

mutual
/-- the tree `t` spells the value `vv` of a field with schema `fld` -/
def SpellsV (c : Cfg) (fld : Field) (vv : PVal) : PTree → Prop
  | .obj ms =>
    match fld, vv with
    | .object ref, .msg fs =>
      match c.env.find ref with
      | some (.object sub) => SpellsM c sub fs [] ms
      | _ => False
    | .oneof ref, .msg fs =>
      match c.env.find ref with
      | some (.oneof ops) => SpellsO c ops fs ms
      | _ => False
    | .map item, .map kvs => SpellsMap c item kvs ms
    | .any pb, v => SpellsAny pb v ms
    | _, _ => False
  | .arr xs =>
    match fld, vv with
    | .array item, .list vs => SpellsE c item vs xs
    | _, _ => False
  | t =>
    match fld with
    | .scalar k => scalarSpells c.O k vv t
    | .enum ref =>
      match t, c.env.find ref, vv with
      | .str s _, some (.enum pfx opts), .enum n => enumOptionByName pfx opts s = some n
      | _, _, _ => False
    | _ => False
/-- the members spell the object message `fs`; `used` = JSON names of the properties given so far -/
def SpellsM (c : Cfg) (props : List PropDef) (fs : Fields) (used : List Bytes) : PMembers → Prop
  | .nil term =>
    term = .closed ∧ ∀ p ∈ props, p.jsonName ∉ used →
      (p.path ≠ [] → getPath fs p.path = none) ∧
      (p.path = [] → ∀ q ∈ exposedOps c.env p, getPath fs q.path = none)
  | .cons k _ v rest =>
    ∃ p, findProp props k = some p ∧
      ((v = .null ∧ SpellsM c props fs used rest) ∨
       (k ∉ used ∧ p.path ≠ [] ∧
         (∃ vv, getPath fs p.path = some vv ∧ SpellsV c p.field vv v) ∧
         SpellsM c props fs (k :: used) rest) ∨
       (k ∉ used ∧ p.path = [] ∧ SpellsX c (exposedOps c.env p) fs v ∧
         SpellsM c props fs (k :: used) rest))
/-- the value of an exposed-oneof member: a oneof object over the enclosing message -/
def SpellsX (c : Cfg) (ops : List PropDef) (fs : Fields) : PTree → Prop
  | .obj ms' => SpellsO c ops fs ms'
  | _ => False
/-- the members spell a oneof over the message `fs` -/
def SpellsO (c : Cfg) (ops : List PropDef) (fs : Fields) : PMembers → Prop
  | .nil term => term = .closed ∧ ∀ q ∈ ops, getPath fs q.path = none
  | .cons k1 _ v1 (.nil term) =>
    term = .closed ∧ k1 ≠ ascii "!type" ∧
      ∃ q kk vv, findProp ops k1 = some q ∧ q.path = [kk] ∧ aget kk fs = some vv ∧
        (∀ q' ∈ ops, q'.path ≠ [kk] → getPath fs q'.path = none) ∧ SpellsV c q.field vv v1
  | .cons k1 _ v1 (.cons k2 _ v2 (.nil term)) =>
    term = .closed ∧
      ((k1 = ascii "!type" ∧ k2 ≠ ascii "!type" ∧ (∃ raw, v1 = .str k2 raw) ∧
        ∃ q kk vv, findProp ops k2 = some q ∧ q.path = [kk] ∧ aget kk fs = some vv ∧
          (∀ q' ∈ ops, q'.path ≠ [kk] → getPath fs q'.path = none) ∧ SpellsV c q.field vv v2) ∨
       (k2 = ascii "!type" ∧ k1 ≠ ascii "!type" ∧ (∃ raw, v2 = .str k1 raw) ∧
        ∃ q kk vv, findProp ops k1 = some q ∧ q.path = [kk] ∧ aget kk fs = some vv ∧
          (∀ q' ∈ ops, q'.path ≠ [kk] → getPath fs q'.path = none) ∧ SpellsV c q.field vv v1))
  | _ => False
/-- the elements spell the list, position by position -/
def SpellsE (c : Cfg) (item : Field) (vs : List PVal) : PElems → Prop
  | .nil term => term = .closed ∧ vs = []
  | .cons t rest => ∃ v vs', vs = v :: vs' ∧ SpellsV c item v t ∧ SpellsE c item vs' rest
/-- the members spell the map, entry by entry, in the stored order -/
def SpellsMap (c : Cfg) (item : Field) (kvs : List (Bytes × PVal)) : PMembers → Prop
  | .nil term => term = .closed ∧ kvs = []
  | .cons k _ t rest => ∃ v kvs', kvs = (k, v) :: kvs' ∧ SpellsV c item v t ∧ SpellsMap c item kvs' rest
end

/-- the document `t` spells the message `m` of root `root` -/
def SpellsRoot (c : Cfg) (root : String) (m : Fields) (t : PTree) : Prop :=
  match c.env.find root, t with
  | some (.object props), .obj ms => SpellsM c props m [] ms
  | some (.oneof ops), .obj ms => SpellsO c ops m ms
  | _, _ => False

/-! # What a successfully decoded document stored (C03, "stores exactly the value the document
denotes")

`StoredRoot c root m t`: every non-null member of the document `t` — at every depth: nested
objects, array elements, map values, oneof arms — is found in the message `m`, at the proto path
of its property (array elements by position, map values by key), with exactly a value its token
denotes (`scalarSpells`: a value `scalarReflectFromGo` maps the token to; enums: the number of the
named option). A value protobuf does not store (the zero value of an implicit-presence field, an
empty list or map) counts as stored when the path is unset (`storedAt`). Conversely **nothing
else is stored**: a property of an object (at every depth) is set only if the document has a
non-null member for it (`OnlyM`; oneofs with an arm member: `OnlyO`), a stored list has exactly
one value per element and a stored map exactly the document's keys, in order. The content of an
`Any` is not examined. The definitions recurse on the document only. -/

/-- `(k, v)` is a member of the object body -/
def isMember (k : Bytes) (v : PTree) : PMembers → Prop
  | .nil _ => False
  | .cons k' _ v' rest => (k' = k ∧ v' = v) ∨ isMember k v rest

/-- the keys of a member list, in order -/
def memberKeys : PMembers → List Bytes
  | .nil _ => []
  | .cons k _ _ rest => k :: memberKeys rest

/-- the leaves a property owns in the message of its object: its own proto path, or — exposed
oneof (empty path) — the paths of the members of the oneof -/
def leavesOf (env : Env) (p : PropDef) : List PropDef :=
  if p.path = [] then exposedOps env p else [p]

/-- **nothing else is stored** (object): a property one of whose leaves is set has a non-null
member -/
def OnlyM (env : Env) (props : List PropDef) (fs : Fields) (ms : PMembers) : Prop :=
  ∀ p ∈ props, (∃ q ∈ leavesOf env p, (getPath fs q.path).isSome = true) →
    ∃ v, isMember p.jsonName v ms ∧ v ≠ .null

/-- **nothing else is stored** (oneof with an arm member; a body that consists of `"!type"`
members only selects the named arm with an empty value, which is not described here) -/
def OnlyO (ops : List PropDef) (fs : Fields) (ms : PMembers) : Prop :=
  oneofKeys ms ≠ [] →
    ∀ q ∈ ops, (getPath fs q.path).isSome = true → ∃ v, isMember q.jsonName v ms ∧ v ≠ .null

/-- the value is found at the property's path — or it is a value `Message.Set` does not keep (zero
value with implicit presence, empty list / map) and the path is unset -/
def storedAt (fs : Fields) (p : PropDef) (vv : PVal) : Prop :=
  getPath fs p.path = some vv ∨
    (((p.pres == .imp && vv.isZero) || vv.isEmptyColl) = true ∧ getPath fs p.path = none)

mutual
/-- the (non-null) tree `t`, read as a value of schema `fld`, is stored as `vv` -/
def StoredV (c : Cfg) (fld : Field) (vv : PVal) : PTree → Prop
  | .obj ms =>
    match fld, vv with
    | .object ref, .msg fs =>
      match c.env.find ref with
      | some (.object sub) => StoredM c sub fs ms ∧ OnlyM c.env sub fs ms
      | _ => False
    | .oneof ref, .msg fs =>
      match c.env.find ref with
      | some (.oneof ops) => StoredO c ops fs ms ∧ OnlyO ops fs ms
      | _ => False
    | .map item, .map kvs => StoredMap c item kvs ms ∧ kvs.map (·.1) = memberKeys ms
    | .any _, _ => True
    | _, _ => False
  | .arr xs =>
    match fld, vv with
    | .array item, .list vs => StoredE c item vs xs
    | _, _ => False
  | t =>
    match fld with
    | .scalar k => scalarSpells c.O k vv t
    | .enum ref =>
      match t, c.env.find ref, vv with
      | .str s _, some (.enum pfx opts), .enum n => enumOptionByName pfx opts s = some n
      | _, _, _ => False
    | _ => False
/-- every non-null member of an object body is stored in `fs` at its property's path -/
def StoredM (c : Cfg) (props : List PropDef) (fs : Fields) : PMembers → Prop
  | .nil _ => True
  | .cons k _ v rest =>
    (v = .null ∨
      (∃ p vv, findProp props k = some p ∧ p.path ≠ [] ∧ StoredV c p.field vv v ∧ storedAt fs p vv) ∨
      (∃ p, findProp props k = some p ∧ p.path = [] ∧ StoredX c (exposedOps c.env p) fs v)) ∧
      StoredM c props fs rest
/-- the value of an exposed-oneof member: a oneof object over the *same* message -/
def StoredX (c : Cfg) (ops : List PropDef) (fs : Fields) : PTree → Prop
  | .obj ms' => StoredO c ops fs ms' ∧ OnlyO ops fs ms'
  | _ => False
/-- every non-null arm member of a oneof body is stored in `fs` (the `"!type"` member is framing) -/
def StoredO (c : Cfg) (ops : List PropDef) (fs : Fields) : PMembers → Prop
  | .nil _ => True
  | .cons k _ v rest =>
    (k = ascii "!type" ∨ v = .null ∨
      ∃ p vv, findProp ops k = some p ∧ StoredV c p.field vv v ∧ storedAt fs p vv) ∧
      StoredO c ops fs rest
/-- the stored list holds one value per element, in order -/
def StoredE (c : Cfg) (item : Field) (vs : List PVal) : PElems → Prop
  | .nil _ => vs = []
  | .cons t rest => ∃ v vs', vs = v :: vs' ∧ StoredV c item v t ∧ StoredE c item vs' rest
/-- every member of a map body is stored under its key -/
def StoredMap (c : Cfg) (item : Field) (kvs : List (Bytes × PVal)) : PMembers → Prop
  | .nil _ => True
  | .cons k _ t rest => (∃ v, mget k kvs = some v ∧ StoredV c item v t) ∧ StoredMap c item kvs rest
end

/-- the message `m` holds everything the document `t` says -/
def StoredRoot (c : Cfg) (root : String) (m : Fields) (t : PTree) : Prop :=
  match c.env.find root, t with
  | some (.object props), .obj ms => StoredM c props m ms ∧ OnlyM c.env props m ms
  | some (.oneof ops), .obj ms => StoredO c ops m ms ∧ OnlyO ops m ms
  | _, _ => False

/-- the values the elements of a scalar array denote, position by position -/
def elemsDenote (O : Oracle) (k : ScalarKind) : List PVal → PElems → Prop
  | vs, .nil _ => vs = []
  | [], .cons _ _ => False
  | v :: vs, .cons t rest =>
    (∃ tok, goTok t = some tok ∧ decodeScalar O k tok = .ok (some v)) ∧ elemsDenote O k vs rest

/-! # The document equivalent to a scalar query parameter (C03: "scalar values supplied as URL
query parameters produce the same message as the canonical spelling")

`a.b.c=v` is the document `{"a":{"b":{"c":V}}}` where `V` is `true` / `false` for a boolean
field given as `true` / `false` (`queryGoValue`) and the string `"v"` otherwise; the segments are
the JSON names as written. -/

/-- the JSON value of a scalar query parameter -/
def queryLeafTree (k : ScalarKind) (s : Bytes) : PTree :=
  match queryGoValue k s with
  | .bool b => .bool b
  | _ => .str s []

/-- the value tree for the path `segs` below the property set `props`; `none` when the path does
not lead through object / oneof containers to a scalar or enum property -/
def queryValueTree (c : Cfg) : List Bytes → List PropDef → Bytes → Option (Bytes × PTree)
  | [], _, _ => none
  | [seg], props, s =>
    match findProp props seg with
    | some p =>
      match p.field with
      | .scalar k => some (seg, queryLeafTree k s)
      | .enum _ => some (seg, .str s [])
      | _ => none
    | none => none
  | seg :: seg2 :: rest, props, s =>
    match findProp props seg with
    | some p =>
      match p.field with
      | .object ref =>
        match c.env.find ref with
        | some (.object sub) =>
          (queryValueTree c (seg2 :: rest) sub s).map fun kv =>
            (seg, .obj (.cons kv.1 [] kv.2 (.nil .closed)))
        | _ => none
      | .oneof ref =>
        match c.env.find ref with
        | some (.oneof ops) =>
          (queryValueTree c (seg2 :: rest) ops s).map fun kv =>
            (seg, .obj (.cons kv.1 [] kv.2 (.nil .closed)))
        | _ => none
      | _ => none
    | none => none

/-- the document equivalent to the query `segs.join(".") = s` -/
def queryDoc (c : Cfg) (segs : List Bytes) (props : List PropDef) (s : Bytes) : Option PTree :=
  (queryValueTree c segs props s).map fun kv => .obj (.cons kv.1 [] kv.2 (.nil .closed))

end J5V.Codec
