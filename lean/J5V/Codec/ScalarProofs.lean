import J5V.Codec.Scalar
import J5V.Codec.ScalarSpec
import J5V.Codec.Repr
import J5V.Json.ReaderProofs
/-!
# Lemmas about the scalar codecs: the inverse pairs (the rejections are in `SpellingProofs.lean`)
-/
namespace J5V.Codec
open J5V.Go J5V.Json

/-! ## decimal digits -/

def digitByte (d : Nat) : UInt8 := UInt8.ofNat (48 + d)

theorem digitByte_toNat (d : Nat) (h : d < 10) : (digitByte d).toNat = 48 + d := by
  unfold digitByte; rw [UInt8.toNat_ofNat']; omega

theorem isDigit_digitByte (d : Nat) (h : d < 10) : isDigit (digitByte d) = true := by
  unfold isDigit; rw [digitByte_toNat d h]; simp; omega

/-- specification of `fmtNat` -/
def digitsSpec (n : Nat) : Bytes :=
  if h : n < 10 then [digitByte n] else digitsSpec (n / 10) ++ [digitByte (n % 10)]
termination_by n
decreasing_by omega

theorem natDigitsAux_eq (fuel n : Nat) (acc : Bytes) (h : n < fuel) :
    natDigitsAux fuel n acc = digitsSpec n ++ acc := by
  induction fuel generalizing n acc with
  | zero => omega
  | succ f ih =>
    unfold natDigitsAux
    by_cases h10 : n < 10
    · rw [if_pos h10, digitsSpec, dif_pos h10]; rfl
    · rw [if_neg h10, ih (n / 10) _ (by omega)]
      conv => rhs; rw [digitsSpec, dif_neg h10]
      simp [digitByte]

theorem fmtNat_eq (n : Nat) : fmtNat n = digitsSpec n := by
  unfold fmtNat; rw [natDigitsAux_eq _ _ _ (by omega)]; simp

theorem digitsSpec_ne_nil (n : Nat) : digitsSpec n ≠ [] := by
  rw [digitsSpec]; split <;> simp

/-- one step of the `parseDigits` fold -/
def pdStep (acc : Option Nat) (c : UInt8) : Option Nat :=
  match acc with
  | none => none
  | some n => if isDigit c then some (n * 10 + (c.toNat - 48)) else none

theorem parseDigits_eq (s : Bytes) (h : s ≠ []) : parseDigits s = s.foldl pdStep (some 0) := by
  cases s with
  | nil => exact absurd rfl h
  | cons c t => rfl

theorem foldl_pdStep_digits (n a : Nat) :
    ∃ k, (digitsSpec n).foldl pdStep (some a) = some (a * 10 ^ k + n) := by
  induction n using Nat.strongRecOn with
  | _ n ih =>
    rw [digitsSpec]
    by_cases h10 : n < 10
    · rw [dif_pos h10]
      exact ⟨1, by simp [pdStep, isDigit_digitByte n h10, digitByte_toNat n h10]⟩
    · rw [dif_neg h10]
      obtain ⟨k, hk⟩ := ih (n / 10) (by omega)
      refine ⟨k + 1, ?_⟩
      rw [List.foldl_append, hk]
      have hd : n % 10 < 10 := Nat.mod_lt _ (by omega)
      simp only [List.foldl_cons, List.foldl_nil, pdStep, isDigit_digitByte _ hd,
        digitByte_toNat _ hd, if_true]
      congr 1
      rw [Nat.pow_succ]
      have : n = n / 10 * 10 + n % 10 := by omega
      generalize 10 ^ k = p at *
      have e : (a * p + n / 10) * 10 = a * (p * 10) + n / 10 * 10 := by
        rw [Nat.add_mul, Nat.mul_assoc]
      omega

theorem parseDigits_fmtNat (n : Nat) : parseDigits (fmtNat n) = some n := by
  rw [fmtNat_eq, parseDigits_eq _ (digitsSpec_ne_nil n)]
  obtain ⟨k, hk⟩ := foldl_pdStep_digits n 0
  simpa using hk

theorem parseUint_fmtNat (n bits : Nat) (h : n < 2 ^ bits) : parseUint (fmtNat n) bits = some n := by
  unfold parseUint; rw [parseDigits_fmtNat]; simp [h]

theorem digitsSpec_all_digits (n : Nat) : ∀ c ∈ digitsSpec n, isDigit c = true := by
  induction n using Nat.strongRecOn with
  | _ n ih =>
    rw [digitsSpec]
    by_cases h10 : n < 10
    · rw [dif_pos h10]; intro c hc; simp at hc; subst hc; exact isDigit_digitByte n h10
    · rw [dif_neg h10]; intro c hc
      rcases List.mem_append.mp hc with h | h
      · exact ih (n / 10) (by omega) c h
      · simp at h; subst h; exact isDigit_digitByte _ (Nat.mod_lt _ (by omega))

/-- the first byte of a decimal rendering is a digit, hence neither `+` nor `-` -/
theorem digitsSpec_head (n : Nat) : ∃ c t, digitsSpec n = c :: t ∧ isDigit c = true := by
  cases h : digitsSpec n with
  | nil => exact absurd h (digitsSpec_ne_nil n)
  | cons c t => exact ⟨c, t, rfl, digitsSpec_all_digits n c (h ▸ List.mem_cons_self)⟩

theorem isDigit_not_sign (c : UInt8) (h : isDigit c = true) : c ≠ 0x2B ∧ c ≠ 0x2D := by
  unfold isDigit at h
  simp only [Bool.and_eq_true, decide_eq_true_eq] at h
  constructor <;> intro e <;> subst e <;> simp at h

theorem parseInt_neg (body : Bytes) (bits : Nat) :
    parseInt (0x2D :: body) bits =
      match parseDigits body with
      | none => none
      | some n => if n ≤ 2 ^ (bits - 1) then some (-(n : Int)) else none := by
  cases h : parseDigits body <;> simp [parseInt, h]

theorem parseInt_nosign (c : UInt8) (t : Bytes) (bits : Nat) (h1 : c ≠ 0x2B) (h2 : c ≠ 0x2D) :
    parseInt (c :: t) bits =
      match parseDigits (c :: t) with
      | none => none
      | some n => if n < 2 ^ (bits - 1) then some (n : Int) else none := by
  cases h : parseDigits (c :: t) <;> simp [parseInt, if_neg h1, if_neg h2, h]

theorem parseInt_of_digits (s : Bytes) (n bits : Nat) (hd : ∀ c ∈ s, isDigit c = true)
    (hp : parseDigits s = some n) (hn : n < 2 ^ (bits - 1)) : parseInt s bits = some (n : Int) := by
  cases s with
  | nil => cases hp
  | cons c t =>
    have hs := isDigit_not_sign c (hd c List.mem_cons_self)
    rw [parseInt_nosign c t bits hs.1 hs.2, hp]
    simp [hn]

theorem parseInt_fmtInt (v : Int) (bits : Nat)
    (hlo : -(2 ^ (bits - 1) : Int) ≤ v) (hhi : v < 2 ^ (bits - 1)) :
    parseInt (fmtInt v) bits = some v := by
  unfold fmtInt
  by_cases hneg : v < 0
  · rw [if_pos hneg, parseInt_neg, parseDigits_fmtNat]
    have h1 : v.natAbs ≤ 2 ^ (bits - 1) := by
      have : ((v.natAbs : Nat) : Int) ≤ ((2 ^ (bits - 1) : Nat) : Int) := by
        push_cast; omega
      exact_mod_cast this
    simp only [h1, if_true]
    congr 1; omega
  · have h1 : v.toNat < 2 ^ (bits - 1) := by
      have : ((v.toNat : Nat) : Int) < ((2 ^ (bits - 1) : Nat) : Int) := by
        push_cast; omega
      exact_mod_cast this
    rw [if_neg hneg, parseInt_of_digits _ _ bits (fun c hc => digitsSpec_all_digits _ c (fmtNat_eq _ ▸ hc))
      (parseDigits_fmtNat _) h1]
    congr 1; omega

/-! ## base64 -/

theorem b64Val_b64Char : ∀ v, v < 64 → b64Val (b64Char v) = some v := by decide
theorem b64Val_pad : b64Val 0x3D = none := by decide
theorem isNl_pad : isNl 0x3D = false := by decide

theorem ofNat_toNat_of_eq (a : UInt8) (n : Nat) (h : n = a.toNat) : UInt8.ofNat n = a := by
  subst h; exact UInt8.ofNat_toNat

theorem b64_inv1 (a : UInt8) : b64Decode (b64Encode [a]) [] = some [a] := by
  have ha := a.toNat_lt
  have h1 : a.toNat / 4 < 64 := by omega
  have h2 : a.toNat % 4 * 16 < 64 := by omega
  simp only [b64Encode]
  simp only [b64Decode, b64Val_b64Char _ h1, b64Val_b64Char _ h2, List.nil_append,
    List.cons_append, b64Val_pad, isNl_pad, skipNl]
  simp
  refine ⟨rfl, ?_⟩
  apply ofNat_toNat_of_eq; omega

theorem b64_inv2 (a b : UInt8) : b64Decode (b64Encode [a, b]) [] = some [a, b] := by
  have ha := a.toNat_lt
  have hb := b.toNat_lt
  have h1 : (a.toNat * 256 + b.toNat) / 1024 < 64 := by omega
  have h2 : (a.toNat * 256 + b.toNat) / 16 % 64 < 64 := by omega
  have h3 : (a.toNat * 256 + b.toNat) % 16 * 4 < 64 := by omega
  simp only [b64Encode]
  simp only [b64Decode, b64Val_b64Char _ h1, b64Val_b64Char _ h2, b64Val_b64Char _ h3,
    List.nil_append, List.cons_append, b64Val_pad, isNl_pad, skipNl]
  simp
  constructor <;> apply ofNat_toNat_of_eq <;> omega

theorem b64Decode_quantum (x y z w : Nat) (hx : x < 64) (hy : y < 64) (hz : z < 64) (hw : w < 64)
    (rest : Bytes) :
    b64Decode (b64Char x :: b64Char y :: b64Char z :: b64Char w :: rest) [] =
      match b64Decode rest [] with
      | some out =>
        let n := x * 262144 + y * 4096 + z * 64 + w
        some (UInt8.ofNat (n / 65536) :: UInt8.ofNat (n / 256 % 256) :: UInt8.ofNat (n % 256) :: out)
      | none => none := by
  simp only [b64Decode, b64Val_b64Char _ hx, b64Val_b64Char _ hy, b64Val_b64Char _ hz,
    b64Val_b64Char _ hw, List.nil_append, List.cons_append]
  cases b64Decode rest [] <;> rfl

/-- induction along what `b64Encode` writes: four characters per three bytes, the last group padded -/
theorem b64Encode_groups {P : Bytes → Bytes → Prop} (nil : P [] [])
    (one : ∀ a x y, x < 64 → y < 64 → P [a] [b64Char x, b64Char y, 0x3D, 0x3D])
    (two : ∀ a b x y z, x < 64 → y < 64 → z < 64 → P [a, b] [b64Char x, b64Char y, b64Char z, 0x3D])
    (three : ∀ a b c rest out x y z w, x < 64 → y < 64 → z < 64 → w < 64 → P rest out →
      P (a :: b :: c :: rest) (b64Char x :: b64Char y :: b64Char z :: b64Char w :: out)) :
    ∀ bs, P bs (b64Encode bs) := by
  intro bs
  fun_induction b64Encode bs with
  | case1 => exact nil
  | case2 a n =>
    have := a.toNat_lt
    have hn : n = a.toNat := rfl
    exact one a _ _ (by omega) (by omega)
  | case3 a b n =>
    have := a.toNat_lt
    have := b.toNat_lt
    have hn : n = a.toNat * 256 + b.toNat := rfl
    exact two a b _ _ _ (by omega) (by omega) (by omega)
  | case4 a b c rest n ih =>
    have := a.toNat_lt
    have := b.toNat_lt
    have := c.toNat_lt
    have hn : n = a.toNat * 65536 + b.toNat * 256 + c.toNat := rfl
    exact three a b c rest _ _ _ _ _ (by omega) (by omega) (by omega) (by omega) ih

/-- the four sextets of a 24-bit group, regrouped to bytes, are the three bytes it was made of -/
theorem sextets_bytes (a b c : UInt8) :
    let n := a.toNat * 65536 + b.toNat * 256 + c.toNat
    let m := n / 262144 * 262144 + n / 4096 % 64 * 4096 + n / 64 % 64 * 64 + n % 64
    UInt8.ofNat (m / 65536) = a ∧ UInt8.ofNat (m / 256 % 256) = b ∧ UInt8.ofNat (m % 256) = c := by
  intro n m
  have ha := a.toNat_lt
  have hb := b.toNat_lt
  have hc := c.toNat_lt
  have hm : m = n := by omega
  rw [hm]
  refine ⟨?_, ?_, ?_⟩ <;> apply ofNat_toNat_of_eq <;> omega

/-- `StdEncoding.DecodeString(StdEncoding.EncodeToString(b)) = b` -/
theorem b64_inv (bs : Bytes) : b64Decode (b64Encode bs) [] = some bs := by
  fun_induction b64Encode bs with
  | case1 => rfl
  | case2 a => exact b64_inv1 a
  | case3 a b => exact b64_inv2 a b
  | case4 a b c rest n ih =>
    have hn : n < 64 * 262144 := by
      have ha := a.toNat_lt
      have hb := b.toNat_lt
      have hc := c.toNat_lt
      show a.toNat * 65536 + b.toNat * 256 + c.toNat < _
      omega
    rw [b64Decode_quantum _ _ _ _ (Nat.div_lt_of_lt_mul hn) (Nat.mod_lt _ (by decide))
      (Nat.mod_lt _ (by decide)) (Nat.mod_lt _ (by decide)), ih]
    obtain ⟨h1, h2, h3⟩ := sextets_bytes a b c
    simp only [] at h1 h2 h3 ⊢
    rw [h1, h2, h3]

/-! ## dates -/

theorem splitDash_ne_nil (s : Bytes) : splitDash s ≠ [] := by
  induction s with
  | nil => simp [splitDash]
  | cons c t ih =>
    unfold splitDash
    split
    · simp
    · split <;> simp

theorem splitDash_cons (c : UInt8) (t : Bytes) (h : Bytes) (tl : List Bytes)
    (hs : splitDash t = h :: tl) :
    splitDash (c :: t) = if c = 0x2D then [] :: h :: tl else (c :: h) :: tl := by
  rw [splitDash, hs]

theorem splitDash_nodash (s : Bytes) (h : ∀ c ∈ s, c ≠ 0x2D) : splitDash s = [s] := by
  induction s with
  | nil => rfl
  | cons c t ih =>
    have := ih (fun x hx => h x (List.mem_cons_of_mem _ hx))
    rw [splitDash_cons _ _ _ _ this]
    simp [h c (List.mem_cons_self)]

theorem splitDash_append (a rest : Bytes) (h : ∀ c ∈ a, c ≠ 0x2D) :
    splitDash (a ++ 0x2D :: rest) = a :: splitDash rest := by
  induction a with
  | nil =>
    simp only [List.nil_append]
    cases hs : splitDash rest with
    | nil => exact absurd hs (splitDash_ne_nil rest)
    | cons x y => rw [splitDash_cons _ _ _ _ hs]; simp
  | cons c t ih =>
    have := ih (fun x hx => h x (List.mem_cons_of_mem _ hx))
    simp only [List.cons_append]
    rw [splitDash_cons _ _ _ _ this]
    simp [h c (List.mem_cons_self)]

theorem fmtInt_nonneg (v : Int) (h : 0 ≤ v) : fmtInt v = fmtNat v.toNat := by
  unfold fmtInt; rw [if_neg (by omega)]

theorem foldl_pdStep_zeros (k : Nat) :
    (List.replicate k (0x30 : UInt8)).foldl pdStep (some 0) = some 0 := by
  induction k with
  | zero => rfl
  | succ k ih =>
    rw [List.replicate_succ, List.foldl_cons]
    have : pdStep (some 0) 0x30 = some 0 := by decide
    rw [this, ih]

theorem parseDigits_zeros_fmtNat (k n : Nat) :
    parseDigits (List.replicate k 0x30 ++ fmtNat n) = some n := by
  have hne : List.replicate k (0x30 : UInt8) ++ fmtNat n ≠ [] := by
    rw [fmtNat_eq]; intro h
    exact digitsSpec_ne_nil n (List.append_eq_nil_iff.mp h).2
  rw [parseDigits_eq _ hne, List.foldl_append, foldl_pdStep_zeros, fmtNat_eq]
  obtain ⟨_, hk⟩ := foldl_pdStep_digits n 0
  simpa using hk

theorem zeros_fmtNat_digits (k n : Nat) : ∀ c ∈ List.replicate k (0x30 : UInt8) ++ fmtNat n, isDigit c = true := by
  intro c hc
  rcases List.mem_append.mp hc with h | h
  · rw [List.mem_replicate] at h; rw [h.2]; decide
  · rw [fmtNat_eq] at h; exact digitsSpec_all_digits n c h

theorem nodash_of_digits {s : Bytes} (hd : ∀ c ∈ s, isDigit c = true) : ∀ c ∈ s, c ≠ 0x2D :=
  fun c hc => (isDigit_not_sign c (hd c hc)).2

theorem fmtZero4_nonneg (y : Int) (h : 0 ≤ y) :
    fmtZero4 y = List.replicate (4 - (fmtNat y.toNat).length) 0x30 ++ fmtNat y.toNat := by
  unfold fmtZero4; rw [if_neg (by omega)]

theorem fmtZero2_nonneg (v : Int) (h : 0 ≤ v) :
    fmtZero2 v = List.replicate (if v < 10 then 1 else 0) 0x30 ++ fmtNat v.toNat := by
  unfold fmtZero2
  by_cases hs : v < 10
  · rw [if_pos ⟨h, hs⟩, if_pos hs, fmtInt_nonneg v h]; rfl
  · rw [if_neg (fun e => hs e.2), if_neg hs, fmtInt_nonneg v h]; rfl

theorem fmtZero4_digits (y : Int) (h : 0 ≤ y) :
    (∀ c ∈ fmtZero4 y, isDigit c = true) ∧ parseDigits (fmtZero4 y) = some y.toNat := by
  rw [fmtZero4_nonneg y h]; exact ⟨zeros_fmtNat_digits _ _, parseDigits_zeros_fmtNat _ _⟩

theorem fmtZero2_digits (v : Int) (h : 0 ≤ v) :
    (∀ c ∈ fmtZero2 v, isDigit c = true) ∧ parseDigits (fmtZero2 v) = some v.toNat := by
  rw [fmtZero2_nonneg v h]; exact ⟨zeros_fmtNat_digits _ _, parseDigits_zeros_fmtNat _ _⟩

theorem daysInMonth_le (y m : Int) : daysInMonth y m ≤ 31 := by
  unfold daysInMonth
  split
  · split <;> omega
  · split <;> omega

/-- `DateFromString(DateString(d)) = d` for every calendar date with a non-negative year -/
theorem date_inv (y m d : Int) (hy : 0 ≤ y) (hy2 : y < 2 ^ 31) (hm : 1 ≤ m) (hm2 : m ≤ 12)
    (hd : 1 ≤ d) (hd2 : d ≤ daysInMonth y m) :
    dateFromString (dateString y m d) = some (y, m, d) := by
  have hd31 : d ≤ 31 := Int.le_trans hd2 (daysInMonth_le y m)
  obtain ⟨dy, py⟩ := fmtZero4_digits y hy
  obtain ⟨dm, pm⟩ := fmtZero2_digits m (by omega)
  obtain ⟨dd, pd⟩ := fmtZero2_digits d (by omega)
  unfold dateFromString dateString
  simp only [List.append_assoc, List.cons_append, List.nil_append]
  rw [splitDash_append _ _ (nodash_of_digits dy), splitDash_append _ _ (nodash_of_digits dm),
    splitDash_nodash _ (nodash_of_digits dd)]
  simp only []
  rw [parseInt_of_digits _ _ 64 dy py (by omega), parseInt_of_digits _ _ 64 dm pm (by omega),
    parseInt_of_digits _ _ 64 dd pd (by omega)]
  simp only [Int.toNat_of_nonneg hy, Int.toNat_of_nonneg (show 0 ≤ m by omega), Int.toNat_of_nonneg (show 0 ≤ d by omega)]
  rw [if_neg (by omega), if_neg (by omega), if_neg (by omega)]

/-! ## base64 alternate alphabets -/

def urlToStd (c : UInt8) : UInt8 := if c = 0x2D then 0x2B else if c = 0x5F then 0x2F else c

theorem urlToStd_b64Char : ∀ v, v < 64 → urlToStd (b64Char v) = b64Char v := by decide

theorem b64Encode_length (bs : Bytes) : (b64Encode bs).length % 4 = 0 :=
  b64Encode_groups (P := fun _ out => out.length % 4 = 0) (by simp) (fun _ _ _ _ _ => by simp)
    (fun _ _ _ _ _ _ _ _ => by simp)
    (fun _ _ _ _ out _ _ _ _ _ _ _ _ ih => by simp only [List.length_cons]; omega) bs

theorem b64Encode_urlToStd (bs : Bytes) : (b64Encode bs).map urlToStd = b64Encode bs := by
  have pad : urlToStd 0x3D = 0x3D := by decide
  refine b64Encode_groups (P := fun _ out => out.map urlToStd = out) rfl
    (fun _ x y hx hy => ?_) (fun _ _ x y z hx hy hz => ?_)
    (fun _ _ _ _ out x y z w hx hy hz hw ih => ?_) bs
  · simp only [List.map_cons, List.map_nil, urlToStd_b64Char _ hx, urlToStd_b64Char _ hy, pad]
  · simp only [List.map_cons, List.map_nil, urlToStd_b64Char _ hx, urlToStd_b64Char _ hy,
      urlToStd_b64Char _ hz, pad]
  · simp only [List.map_cons, urlToStd_b64Char _ hx, urlToStd_b64Char _ hy, urlToStd_b64Char _ hz,
      urlToStd_b64Char _ hw, ih]

theorem byteValueFromString_eq (s : Bytes) : byteValueFromString s =
    b64Decode (let s1 := s.map urlToStd
      if s1.length % 4 ≠ 0 then s1 ++ List.replicate (4 - s1.length % 4) 0x3D else s1) [] := rfl

theorem byteValueFromString_encode (bs : Bytes) : byteValueFromString (b64Encode bs) = some bs := by
  rw [byteValueFromString_eq]
  simp only [b64Encode_urlToStd]
  rw [if_neg (by simp [b64Encode_length])]
  exact b64_inv bs

/-! ## the per-scalar inverse pair -/

theorem scalarTok_bare_num (c : UInt8) (r : Bytes) (h1 : c ≠ 0x74) (h2 : c ≠ 0x66) :
    scalarTok (.bare (c :: r)) = .num (c :: r) := by
  unfold scalarTok
  rw [ascii_true, ascii_false]
  simp [h1, h2]

theorem isJsonNumber_scan (t : Bytes) (h : Wire.isJsonNumber t = true) :
    ∃ x, scanNumber t = some (x, []) := by
  unfold Wire.isJsonNumber at h
  split at h
  · exact ⟨_, ‹_›⟩
  · cases h

theorem isJsonNumber_head (t : Bytes) (h : Wire.isJsonNumber t = true) :
    ∃ c r, t = c :: r ∧ (c = 0x2D ∨ isDigit c = true) :=
  (numOk_of_scan t (isJsonNumber_scan t h)).1

theorem isDigit_ne_tf (c : UInt8) (h : c = 0x2D ∨ isDigit c = true) : c ≠ 0x74 ∧ c ≠ 0x66 :=
  have hp := isDigit_props c h
  ⟨hp.2.2.2.2.2.2.2.2.1, hp.2.2.2.2.2.2.2.2.2.1⟩

theorem fmtInt_head (v : Int) : ∃ c r, fmtInt v = c :: r ∧ (c = 0x2D ∨ isDigit c = true) := by
  unfold fmtInt
  split
  · exact ⟨_, _, rfl, Or.inl rfl⟩
  · obtain ⟨c, t, hc, hd⟩ := digitsSpec_head v.toNat
    exact ⟨c, t, by rw [fmtNat_eq, hc], Or.inr hd⟩

theorem fmtNat_head (n : Nat) : ∃ c r, fmtNat n = c :: r ∧ (c = 0x2D ∨ isDigit c = true) := by
  obtain ⟨c, t, hc, hd⟩ := digitsSpec_head n
  exact ⟨c, t, by rw [fmtNat_eq, hc], Or.inr hd⟩

theorem nonFinite_finite (a c : Bool) (t : Bytes) : nonFinite a false c t = .bare t := by
  simp [nonFinite]

theorem nonFinite_allOnes (a m : Bool) (t : Bytes) :
    ∃ s, nonFinite a true m t = .quoted s ∧
      (s = ascii "NaN" ∨ s = ascii "Infinity" ∨ s = ascii "-Infinity") := by
  cases a <;> cases m <;> exact ⟨_, rfl, by simp⟩

theorem finite32_exp (b : Nat) (h : finite32 b = true) : decide (b / 2 ^ 23 % 256 = 255) = false := by
  simp only [finite32, bne_iff_ne, ne_eq] at h
  simp [h]

theorem finite64_exp (b : Nat) (h : finite64 b = true) : decide (b / 2 ^ 52 % 2048 = 2047) = false := by
  simp only [finite64, bne_iff_ne, ne_eq] at h
  simp [h]

theorem scalarTok_num_of_head (t : Bytes) (h : ∃ c r, t = c :: r ∧ (c = 0x2D ∨ isDigit c = true)) :
    scalarTok (.bare t) = .num t := by
  obtain ⟨c, r, rfl, hc⟩ := h
  have := isDigit_ne_tf c hc
  exact scalarTok_bare_num c r this.1 this.2

theorem encodeScalar_denotes (O : Oracle) (L : OracleLaws O) {k : ScalarKind} {v : PVal} (h : ScalarRepr O k v) :
    ∃ out, encodeScalar O k v = .ok out ∧ Denotes O k (scalarTok out) (canonScalar O v) := by
  cases h with
  | string s => exact ⟨_, rfl, .string s⟩
  | key s => exact ⟨_, rfl, .key s⟩
  | bool b => cases b <;> exact ⟨_, rfl, .bool _⟩
  | int32 i hlo hhi =>
    refine ⟨_, rfl, ?_⟩
    rw [scalarTok_num_of_head _ (fmtInt_head i)]
    exact .int32Num (parseInt_fmtInt i 64 (by omega) (by omega)) (by omega) (by omega)
  | int64 i hlo hhi => exact ⟨_, rfl, .int64Str (parseInt_fmtInt i 64 (by simpa using hlo) (by simpa using hhi))⟩
  | uint32 n hn =>
    refine ⟨_, rfl, ?_⟩
    rw [scalarTok_num_of_head _ (fmtNat_head n)]
    have := parseInt_fmtInt (n : Int) 64 (by omega) (by omega)
    rw [fmtInt_nonneg _ (by omega), Int.toNat_natCast] at this
    exact .uint32Num this (by omega) (by omega)
  | uint64 n hn => exact ⟨_, rfl, .uint64Str (parseUint_fmtNat n 64 hn)⟩
  | float32 b hb =>
    obtain ⟨hnum, b64, hp⟩ := L.f32 b hb
    refine ⟨.bare (O.fmtF32 b), by simp only [encodeScalar, finite32_exp b hb, nonFinite_finite], ?_⟩
    rw [scalarTok_num_of_head _ (isJsonNumber_head _ hnum)]
    exact .f32Num hp
  | float64 b hb =>
    obtain ⟨hnum, b32, hp⟩ := L.f64 b hb
    refine ⟨.bare (O.fmtF64 b), by simp only [encodeScalar, finite64_exp b hb, nonFinite_finite], ?_⟩
    rw [scalarTok_num_of_head _ (isJsonNumber_head _ hnum)]
    exact .f64Num hp
  | bytes b => exact ⟨_, rfl, .bytes (byteValueFromString_encode b)⟩
  | timestamp s n hts => exact ⟨_, rfl, .timestamp (L.time s n hts)⟩
  | date y m d hy hy2 hm hm2 hd hd2 =>
    exact ⟨_, rfl, .date (date_inv y m d (by omega) (by omega) hm hm2 hd hd2)⟩
  | decimal s norm hp => exact ⟨_, rfl, by simp only [canonScalar, hp]; exact .decStr hp⟩

/-- per-scalar inverse pair -/
theorem scalar_roundtrip (O : Oracle) (L : OracleLaws O) (k : ScalarKind) (v : PVal)
    (h : scalarRepr O k v = true) :
    ∃ out, encodeScalar O k v = .ok out ∧
      decodeScalar O k (scalarTok out) = .ok (some (canonScalar O v)) :=
  let ⟨out, he, hd⟩ := encodeScalar_denotes O L (ScalarRepr.of_eq_true h)
  ⟨out, he, hd.decode⟩

/-! ## integers are JSON numbers -/

theorem spanDigits_digits (t : Bytes) (ht : ∀ c ∈ t, isDigit c = true) : spanDigits t = (t, []) := by
  induction t with
  | nil => rfl
  | cons c t ih =>
    have h1 := ht c (List.mem_cons_self)
    have h2 := ih (fun x hx => ht x (List.mem_cons_of_mem _ hx))
    simp only [spanDigits, h1, h2, if_true]

theorem digitsSpec_head_nonzero (n : Nat) (h : 0 < n) :
    ∃ c t, digitsSpec n = c :: t ∧ isDigit c = true ∧ c ≠ 0x30 := by
  induction n using Nat.strongRecOn with
  | _ n ih =>
    rw [digitsSpec]
    by_cases h10 : n < 10
    · rw [dif_pos h10]
      refine ⟨_, _, rfl, isDigit_digitByte n h10, ?_⟩
      intro e
      have := congrArg UInt8.toNat e
      rw [digitByte_toNat n h10] at this
      simp at this; omega
    · rw [dif_neg h10]
      obtain ⟨c, t, hc, hd, hz⟩ := ih (n / 10) (by omega) (by omega)
      exact ⟨c, t ++ [digitByte (n % 10)], by rw [hc]; rfl, hd, hz⟩

theorem scanInt_digitsSpec (n : Nat) : scanInt (digitsSpec n) = some (digitsSpec n, []) := by
  by_cases h0 : n = 0
  · subst h0
    have : digitsSpec 0 = [0x30] := by rw [digitsSpec]; rfl
    rw [this]; rfl
  · obtain ⟨c, t, hc, hd, hz⟩ := digitsSpec_head_nonzero n (by omega)
    have hall := digitsSpec_all_digits n
    rw [hc] at hall ⊢
    simp only [scanInt, if_neg hz, hd, if_true]
    rw [spanDigits_digits t (fun x hx => hall x (List.mem_cons_of_mem _ hx))]

/-- `FormatUint(n, 10)` is a JSON number: the scanner takes all of it. (That it is then also read back in
front of any value terminator is `numOk_of_scan`.) -/
theorem scanNumber_fmtNat (n : Nat) : scanNumber (fmtNat n) = some (fmtNat n, []) := by
  rw [fmtNat_eq]
  obtain ⟨c, t, hc, hd⟩ := digitsSpec_head n
  have hsign : scanSign (digitsSpec n) = ([], digitsSpec n) := by
    rw [hc]
    unfold scanSign; split
    · next heq => simp at heq; exact absurd heq.1 (isDigit_not_sign c hd).2
    · rfl
  unfold scanNumber
  rw [hsign]
  simp [scanInt_digitsSpec n, scanFrac, scanExp]

theorem scanNumber_fmtInt (v : Int) : scanNumber (fmtInt v) = some (fmtInt v, []) := by
  unfold fmtInt
  split
  · rw [fmtNat_eq]
    unfold scanNumber
    simp [scanSign, scanInt_digitsSpec, scanFrac, scanExp]
  · exact scanNumber_fmtNat _

theorem isJsonNumber_fmtInt (v : Int) : Wire.isJsonNumber (fmtInt v) = true := by
  simp [Wire.isJsonNumber, scanNumber_fmtInt v]

theorem isJsonNumber_fmtNat (n : Nat) : Wire.isJsonNumber (fmtNat n) = true := by
  simp [Wire.isJsonNumber, scanNumber_fmtNat n]

/-! ## ASCII texts are valid UTF-8 -/

theorem validUtf8_ascii : ∀ (fuel : Nat) (s : Bytes), s.length ≤ fuel → (∀ c ∈ s, c.toNat < 0x80) →
    validUtf8 fuel s = true := by
  intro fuel
  induction fuel with
  | zero => intro s hs _; have : s = [] := List.eq_nil_of_length_eq_zero (by omega); subst this; rfl
  | succ f ih =>
    intro s hs ha
    cases s with
    | nil => rfl
    | cons c t =>
      have hc := ha c List.mem_cons_self
      have hd : decodeRune (c :: t) = (c.toNat, 1) := by simp [decodeRune, hc]
      simp only [validUtf8, hd]
      have : ¬ (c.toNat = runeError ∧ True) := by unfold runeError; omega
      simp only [this, if_false, List.drop_succ_cons, List.drop_zero]
      exact ih t (by simp only [List.length_cons] at hs; omega) (fun x hx => ha x (List.mem_cons_of_mem _ hx))

theorem isValidUtf8_ascii (s : Bytes) (h : ∀ c ∈ s, c.toNat < 0x80) : isValidUtf8 s = true :=
  validUtf8_ascii s.length s (Nat.le_refl _) h

theorem isDigit_ascii (c : UInt8) (h : isDigit c = true) : c.toNat < 0x80 := by
  simp only [isDigit, Bool.and_eq_true, decide_eq_true_eq] at h; omega

theorem fmtNat_ascii (n : Nat) : ∀ c ∈ fmtNat n, c.toNat < 0x80 := by
  intro c hc; rw [fmtNat_eq] at hc
  exact isDigit_ascii c (digitsSpec_all_digits n c hc)

theorem fmtInt_ascii (v : Int) : ∀ c ∈ fmtInt v, c.toNat < 0x80 := by
  unfold fmtInt
  split
  · intro c hc
    rcases List.mem_cons.mp hc with rfl | hc
    · decide
    · exact fmtNat_ascii _ c hc
  · exact fmtNat_ascii _

theorem b64Char_ascii : ∀ v, v < 64 → (b64Char v).toNat < 0x80 := by decide

theorem b64Encode_ascii (bs : Bytes) : ∀ c ∈ b64Encode bs, c.toNat < 0x80 := by
  have pad : (0x3D : UInt8).toNat < 0x80 := by decide
  refine b64Encode_groups (P := fun _ out => ∀ c ∈ out, c.toNat < 0x80) (fun _ h => nomatch h)
    (fun _ x y hx hy => ?_) (fun _ _ x y z hx hy hz => ?_)
    (fun _ _ _ _ out x y z w hx hy hz hw ih => ?_) bs
  · simp only [List.forall_mem_cons]
    exact ⟨b64Char_ascii _ hx, b64Char_ascii _ hy, pad, pad, fun _ h => nomatch h⟩
  · simp only [List.forall_mem_cons]
    exact ⟨b64Char_ascii _ hx, b64Char_ascii _ hy, b64Char_ascii _ hz, pad, fun _ h => nomatch h⟩
  · simp only [List.forall_mem_cons]
    exact ⟨b64Char_ascii _ hx, b64Char_ascii _ hy, b64Char_ascii _ hz, b64Char_ascii _ hw, ih⟩

theorem fmtZero2_ascii (v : Int) : ∀ c ∈ fmtZero2 v, c.toNat < 0x80 := by
  unfold fmtZero2
  split
  · intro c hc
    rcases List.mem_cons.mp hc with rfl | hc
    · decide
    · exact fmtInt_ascii _ c hc
  · exact fmtInt_ascii _

theorem fmtZero4_ascii (v : Int) : ∀ c ∈ fmtZero4 v, c.toNat < 0x80 := by
  unfold fmtZero4
  split
  · intro c hc
    rcases List.mem_cons.mp hc with rfl | hc
    · decide
    · rcases List.mem_append.mp hc with h | h
      · rw [List.mem_replicate] at h; rw [h.2]; decide
      · exact fmtNat_ascii _ c h
  · intro c hc
    rcases List.mem_append.mp hc with h | h
    · rw [List.mem_replicate] at h; rw [h.2]; decide
    · exact fmtNat_ascii _ c h

theorem dateString_ascii (y m d : Int) : ∀ c ∈ dateString y m d, c.toNat < 0x80 := by
  unfold dateString
  intro c hc
  simp only [List.mem_append, List.mem_cons, List.not_mem_nil, or_false] at hc
  rcases hc with (((h | rfl) | h) | rfl) | h
  · exact fmtZero4_ascii y c h
  · decide
  · exact fmtZero2_ascii m c h
  · decide
  · exact fmtZero2_ascii d c h

/-! ## a lawful oracle exists (non-vacuity of `OracleLaws`) -/

/-- not Go's functions: any injective text codec satisfies the laws the theorems assume -/
def toyOracle : Oracle where
  fmtF64 b := fmtNat b
  fmtF32 b := fmtNat b
  parseFloat t := (parseDigits t).map fun n => (n, some n)
  fmtTime s n := fmtNat ((s - tsMin).toNat * 1000000000 + n.toNat)
  parseTime t := (parseDigits t).map fun p =>
    (((p / 1000000000 : Nat) : Int) + tsMin, ((p % 1000000000 : Nat) : Int))
  parseDec t := if (parseDigits t).isSome then some t else none

theorem toyOracle_laws : OracleLaws toyOracle where
  f64 b _ := ⟨isJsonNumber_fmtNat b, b, by simp [toyOracle, parseDigits_fmtNat]⟩
  f32 b _ := ⟨isJsonNumber_fmtNat b, b, by simp [toyOracle, parseDigits_fmtNat]⟩
  time s n h := by
    rw [tsRepr_iff] at h
    simp only [toyOracle, parseDigits_fmtNat, Option.map_some, tsMin]
    congr 1
    refine Prod.ext ?_ ?_ <;> simp only [] <;> omega
  dec s norm h := by
    simp only [toyOracle] at h ⊢
    split at h
    · cases h; simp [*]
    · cases h
  timeUtf8 s n _ := isValidUtf8_ascii _ (fmtNat_ascii _)

/-! ## enum names: the prefix is taken off again -/

theorem stripPrefix_append (pfx name : Bytes) : stripPrefix pfx (pfx ++ name) = some name := by
  induction pfx with
  | nil => cases name <;> rfl
  | cons p ps ih => simp [stripPrefix, ih]

theorem trimPrefix_append (pfx name : Bytes) : trimPrefix (pfx ++ name) pfx = name := by
  unfold trimPrefix; rw [stripPrefix_append]

end J5V.Codec
