import J5V.Codec.AtPathProofs
/-!
# Nested stores: restriction of a message to a set of leaf paths

A property of an object addresses a leaf of the message by its proto path; flattened objects make
the paths longer than one element and the message a tree of sub-messages. `restrictP S fs` is the
message that holds exactly the leaves of `fs` at the paths in `S` (a sub-message exists iff it
holds a leaf). The decoder's state after it has processed a set of properties is such a
restriction; `updPath` adds one leaf.
-/
namespace J5V.Codec

/-- the continuations of the paths in `S` that enter field `k` -/
def tailsAt (k : Nat) (S : List (List Nat)) : List (List Nat) :=
  S.filterMap fun path =>
    match path with
    | k' :: k2 :: r => if k' = k then some (k2 :: r) else none
    | _ => none

theorem mem_tailsAt (k : Nat) (S : List (List Nat)) (r : List Nat) :
    r ∈ tailsAt k S ↔ r ≠ [] ∧ (k :: r) ∈ S := by
  unfold tailsAt
  rw [List.mem_filterMap]
  constructor
  · rintro ⟨path, hp, hr⟩
    split at hr
    · next k' k2 r' =>
      split at hr
      · next hk => cases hr; subst hk; exact ⟨by simp, hp⟩
      · cases hr
    · cases hr
  · rintro ⟨hne, hm⟩
    cases r with
    | nil => exact absurd rfl hne
    | cons k2 r' => exact ⟨k :: k2 :: r', hm, by simp⟩

theorem tailsAt_cons_same (k : Nat) (k2 : Nat) (r : List Nat) (S : List (List Nat)) :
    tailsAt k ((k :: k2 :: r) :: S) = (k2 :: r) :: tailsAt k S := by
  simp [tailsAt, List.filterMap_cons]

theorem tailsAt_cons_single (k k' : Nat) (S : List (List Nat)) :
    tailsAt k ([k'] :: S) = tailsAt k S := by
  simp [tailsAt, List.filterMap_cons]

theorem tailsAt_cons_other (k k' : Nat) (path : List Nat) (S : List (List Nat)) (h : k' ≠ k) :
    tailsAt k ((k' :: path) :: S) = tailsAt k S := by
  cases path with
  | nil => exact tailsAt_cons_single k k' S
  | cons k2 r => simp [tailsAt, List.filterMap_cons, h]

mutual
/-- what is kept of the entry `(k, v)`: a leaf of `S` at `[k]` whole, message or not (the value of an
object / oneof property is a leaf); a flattened sub-message restricted in turn, and dropped when empty
(a representable message holds no empty one, the decoder creates one only with its first leaf) -/
def restrictE (S : List (List Nat)) (k : Nat) : PVal → Option PVal
  | .msg sub =>
    if [k] ∈ S then some (.msg sub)
    else if (restrictP (tailsAt k S) sub).isEmpty then none
    else some (.msg (restrictP (tailsAt k S) sub))
  | v => if [k] ∈ S then some v else none
/-- the message restricted to the leaves at the paths `S` -/
def restrictP (S : List (List Nat)) : Fields → Fields
  | [] => []
  | (k, v) :: rest =>
    match restrictE S k v with
    | some v' => (k, v') :: restrictP S rest
    | none => restrictP S rest
end

theorem restrictP_eq_mapFilter (S : List (List Nat)) (fs : Fields) :
    restrictP S fs = mapFilter (restrictE S) fs := by
  induction fs with
  | nil => rw [restrictP.eq_def]; rfl
  | cons kv t ih =>
    obtain ⟨k, v⟩ := kv
    rw [mapFilter_cons, ← ih]
    conv => lhs; rw [restrictP.eq_def]
    simp only []
    cases restrictE S k v <;> rfl

theorem restrictE_leaf (S : List (List Nat)) (k : Nat) (v : PVal) (h : [k] ∈ S) :
    restrictE S k v = some v := by
  cases v <;> (rw [restrictE.eq_def]; simp [h])

theorem restrictE_msg (S : List (List Nat)) (k : Nat) (sub : Fields) (h : [k] ∉ S) :
    restrictE S k (.msg sub) =
      if (restrictP (tailsAt k S) sub).isEmpty then none
      else some (.msg (restrictP (tailsAt k S) sub)) := by
  rw [restrictE.eq_def]; simp [h]

theorem restrictE_nonmsg_none (S : List (List Nat)) (k : Nat) (v : PVal) (h : [k] ∉ S)
    (hv : ∀ sub, v ≠ .msg sub) : restrictE S k v = none := by
  cases v <;> first | exact absurd rfl (hv _) | (rw [restrictE.eq_def]; simp [h])

theorem restrictP_nil (fs : Fields) : restrictP [] fs = [] := by
  induction fs using Fields.induct with
  | nil => rw [restrictP.eq_def]
  | cons k v rest hsub hrest =>
    have hE : restrictE [] k v = none := by
      cases v with
      | msg sub =>
        rw [restrictE_msg [] k sub (by simp), show tailsAt k [] = [] from rfl, hsub sub rfl]; rfl
      | _ => exact restrictE_nonmsg_none [] k _ (by simp) (by intro s h; cases h)
    rw [restrictP.eq_def]
    simp only [hE]
    exact hrest

theorem asorted_restrictP (S : List (List Nat)) (fs : Fields) (h : asorted fs = true) :
    asorted (restrictP S fs) = true := by
  rw [restrictP_eq_mapFilter]; exact asorted_mapFilter _ fs h

theorem aget_restrictP (S : List (List Nat)) (fs : Fields) (h : asorted fs = true) (x : Nat) :
    aget x (restrictP S fs) = (aget x fs).bind (restrictE S x) := by
  rw [restrictP_eq_mapFilter]; exact aget_mapFilter _ fs h x

/-- the sub-message the `Mutable` walk finds at field `k` of a restriction -/
theorem asMsg_aget_restrictP (S : List (List Nat)) (fs : Fields) (h : asorted fs = true) (k : Nat)
    (sub : Fields) (hk : aget k fs = some (.msg sub)) (hS : [k] ∉ S) :
    PVal.asMsg (aget k (restrictP S fs)) = restrictP (tailsAt k S) sub := by
  rw [aget_restrictP S fs h k, hk]
  simp only [Option.bind_some]
  rw [restrictE_msg S k sub hS]
  split
  · next he =>
    simp only [PVal.asMsg]
    cases hr : restrictP (tailsAt k S) sub with
    | nil => rfl
    | cons a b => rw [hr] at he; simp at he
  · rfl

/-! ## sortedness along a path -/

/-- the message and the sub-messages on the way to `path` are sorted -/
def SortedAlong : List Nat → Fields → Prop
  | k :: k2 :: r, fs => asorted fs = true ∧ ∀ sub, aget k fs = some (.msg sub) → SortedAlong (k2 :: r) sub
  | _, fs => asorted fs = true

theorem SortedAlong.top {path : List Nat} {fs : Fields} (h : SortedAlong path fs) : asorted fs = true := by
  cases path with
  | nil => exact h
  | cons k t =>
    cases t with
    | nil => exact h
    | cons k2 r => exact h.1

/-! ## lookups in a restriction -/

theorem getPath_restrictP_cons2 (S : List (List Nat)) (fs : Fields) (h : asorted fs = true)
    (k k2 : Nat) (r : List Nat) :
    getPath (restrictP S fs) (k :: k2 :: r) =
      if [k] ∈ S then getPath fs (k :: k2 :: r)
      else match aget k fs with
        | some (.msg sub) => getPath (restrictP (tailsAt k S) sub) (k2 :: r)
        | _ => none := by
  rw [getPath_cons2, aget_restrictP S fs h k]
  by_cases hk : [k] ∈ S
  · rw [if_pos hk, getPath_cons2]
    cases aget k fs with
    | none => rfl
    | some v => simp only [Option.bind_some]; rw [restrictE_leaf S k v hk]
  · rw [if_neg hk]
    cases aget k fs with
    | none => rfl
    | some v =>
      simp only [Option.bind_some]
      cases v with
      | msg sub =>
        rw [restrictE_msg S k sub hk]
        by_cases he : (restrictP (tailsAt k S) sub).isEmpty = true
        · rw [if_pos he]; simp only []; rw [List.isEmpty_iff.mp he, getPath_nil]
        · rw [if_neg he]
      | _ => rw [restrictE_nonmsg_none S k _ hk (by intro sub h; cases h)]

/-- a leaf at a path of `S` is in the restriction -/
theorem getPath_restrictP_mem : ∀ (path : List Nat) (S : List (List Nat)) (fs : Fields),
    SortedAlong path fs → path ∈ S → getPath (restrictP S fs) path = getPath fs path
  | [], _, _, _, _ => rfl
  | [k], S, fs, hs, hm => by
    simp only [getPath]
    rw [aget_restrictP S fs hs k]
    cases aget k fs with
    | none => rfl
    | some v => exact restrictE_leaf S k v hm
  | k :: k2 :: r, S, fs, hs, hm => by
    rw [getPath_restrictP_cons2 S fs hs.1]
    split
    · rfl
    · rw [getPath_cons2]
      cases hag : aget k fs with
      | some v =>
        cases v with
        | msg sub =>
          exact getPath_restrictP_mem (k2 :: r) (tailsAt k S) sub (hs.2 sub hag)
            ((mem_tailsAt k S _).mpr ⟨by simp, hm⟩)
        | _ => rfl
      | none => rfl

/-- a restriction adds nothing -/
theorem getPath_restrictP_none : ∀ (path : List Nat) (S : List (List Nat)) (fs : Fields),
    SortedAlong path fs → getPath fs path = none → getPath (restrictP S fs) path = none
  | [], _, _, _, _ => rfl
  | [k], S, fs, hs, hn => by
    simp only [getPath] at hn ⊢
    rw [aget_restrictP S fs hs k, hn]; rfl
  | k :: k2 :: r, S, fs, hs, hn => by
    rw [getPath_restrictP_cons2 S fs hs.1]
    split
    · exact hn
    · rw [getPath_cons2] at hn
      cases hag : aget k fs with
      | some v =>
        rw [hag] at hn
        cases v with
        | msg sub => exact getPath_restrictP_none (k2 :: r) (tailsAt k S) sub (hs.2 sub hag) hn
        | _ => rfl
      | none => rfl

/-- `path` is unrelated to every path of `S`: neither extends the other -/
def Apart (path : List Nat) (S : List (List Nat)) : Prop :=
  ∀ s ∈ S, ¬ (s <+: path) ∧ ¬ (path <+: s)

theorem Apart.tails {k k2 : Nat} {r : List Nat} {S : List (List Nat)} (h : Apart (k :: k2 :: r) S) :
    Apart (k2 :: r) (tailsAt k S) := by
  intro s hs
  obtain ⟨_, hm⟩ := (mem_tailsAt k S s).mp hs
  obtain ⟨h1, h2⟩ := h (k :: s) hm
  constructor
  · intro hp; exact h1 (by simpa using hp)
  · intro hp; exact h2 (by simpa using hp)

theorem Apart.single_not_mem {k : Nat} {t : List Nat} {S : List (List Nat)} (h : Apart (k :: t) S) :
    [k] ∉ S := by
  intro hm
  exact (h [k] hm).1 (by simp)

theorem getPath_restrictP_apart : ∀ (path : List Nat) (S : List (List Nat)) (fs : Fields),
    SortedAlong path fs → path ≠ [] → Apart path S → getPath (restrictP S fs) path = none
  | [], _, _, _, h, _ => absurd rfl h
  | [k], S, fs, hs, _, hap => by
    simp only [getPath]
    rw [aget_restrictP S fs hs k]
    cases aget k fs with
    | none => rfl
    | some v =>
      cases v with
      | msg sub =>
        -- no path of `S` goes below `[k]`
        have hnil : tailsAt k S = [] :=
          List.eq_nil_iff_forall_not_mem.mpr fun s hsm =>
            (hap (k :: s) ((mem_tailsAt k S s).mp hsm).2).2 (by simp)
        simp only [Option.bind_some]
        rw [restrictE_msg S k sub hap.single_not_mem, hnil, restrictP_nil sub]; rfl
      | _ => exact restrictE_nonmsg_none S k _ hap.single_not_mem (by intro sub h; cases h)
  | k :: k2 :: r, S, fs, hs, _, hap => by
    rw [getPath_restrictP_cons2 S fs hs.1, if_neg hap.single_not_mem]
    cases hag : aget k fs with
    | some v =>
      cases v with
      | msg sub =>
        exact getPath_restrictP_apart (k2 :: r) (tailsAt k S) sub (hs.2 sub hag) (by simp) hap.tails
      | _ => rfl
    | none => rfl

/-! ## adding a path to the restriction set -/

theorem restrictE_congr (S S' : List (List Nat)) (x : Nat) (v : PVal) (h1 : [x] ∈ S ↔ [x] ∈ S')
    (h2 : ∀ sub, v = .msg sub → [x] ∉ S → restrictP (tailsAt x S) sub = restrictP (tailsAt x S') sub) :
    restrictE S x v = restrictE S' x v := by
  by_cases hx : [x] ∈ S
  · rw [restrictE_leaf S x v hx, restrictE_leaf S' x v (h1.mp hx)]
  · have hx' : [x] ∉ S' := fun h => hx (h1.mpr h)
    cases v with
    | msg sub => rw [restrictE_msg S x sub hx, restrictE_msg S' x sub hx', h2 sub rfl hx]
    | _ =>
      rw [restrictE_nonmsg_none S x _ hx (by intro s h; cases h),
        restrictE_nonmsg_none S' x _ hx' (by intro s h; cases h)]

theorem restrictP_ext (S S' : List (List Nat)) (fs : Fields) (hs : asorted fs = true)
    (h : ∀ x v, aget x fs = some v → restrictE S x v = restrictE S' x v) :
    restrictP S fs = restrictP S' fs := by
  apply Store.ext _ _ (asorted_restrictP S fs hs) (asorted_restrictP S' fs hs)
  intro x
  rw [aget_restrictP S fs hs x, aget_restrictP S' fs hs x]
  cases hag : aget x fs with
  | none => rfl
  | some v => simp only [Option.bind_some]; exact h x v hag

theorem single_mem_cons_iff (x : Nat) (path : List Nat) (S : List (List Nat)) (h : path ≠ [x]) :
    [x] ∈ path :: S ↔ [x] ∈ S := by
  simp only [List.mem_cons]
  constructor
  · rintro (h' | h')
    · exact absurd h'.symm h
    · exact h'
  · exact Or.inr

/-- a path at which the message holds nothing can be added to the set -/
theorem restrictP_cons_unset : ∀ (path : List Nat) (S : List (List Nat)) (fs : Fields),
    SortedAlong path fs → path ≠ [] → getPath fs path = none →
    restrictP (path :: S) fs = restrictP S fs := by
  intro path
  induction path with
  | nil => intro S fs _ h _; exact absurd rfl h
  | cons k t ih =>
    intro S fs hs _ hn
    apply restrictP_ext _ _ fs hs.top
    intro x v hag
    cases t with
    | nil =>
      simp only [getPath] at hn
      have hxk : x ≠ k := by intro e; subst e; rw [hn] at hag; cases hag
      apply restrictE_congr
      · exact single_mem_cons_iff x [k] S (by intro e; cases e; exact hxk rfl)
      · intro sub _ _; rw [tailsAt_cons_single]
    | cons k2 r =>
      apply restrictE_congr
      · exact single_mem_cons_iff x _ S (by intro e; cases e)
      · intro sub hv hx
        by_cases hxk : x = k
        · subst hxk; subst hv
          rw [tailsAt_cons_same]
          rw [getPath_cons2, hag] at hn
          exact ih (tailsAt x S) sub (hs.2 sub hag) (by simp) hn
        · rw [tailsAt_cons_other x k (k2 :: r) S (fun e => hxk e.symm)]

/-! ## `Message.Set` at a path of a restriction -/

/-- storing a top-level leaf the message holds -/
theorem aset_restrictP_single (S : List (List Nat)) (fs : Fields) (hs : asorted fs = true) (k : Nat)
    (v : PVal) (hget : aget k fs = some v) :
    aset k v (restrictP S fs) = restrictP ([k] :: S) fs := by
  apply Store.ext _ _ (asorted_aset k v _ (asorted_restrictP S fs hs)) (asorted_restrictP _ fs hs)
  intro x
  rw [aget_aset, aget_restrictP S fs hs x, aget_restrictP _ fs hs x]
  by_cases hx : x = k
  · subst hx
    rw [if_pos rfl, hget]
    simp only [Option.bind_some]
    rw [restrictE_leaf _ x v (by simp)]
  · rw [if_neg hx]
    cases hag : aget x fs with
    | none => rfl
    | some v' =>
      simp only [Option.bind_some]
      apply restrictE_congr
      · exact (single_mem_cons_iff x [k] S (by intro e; cases e; exact hx rfl)).symm
      · intro sub _ _; rw [tailsAt_cons_single]

theorem aset_restrictP_msg (S : List (List Nat)) (fs : Fields) (hs : asorted fs = true) (k k2 : Nat)
    (r : List Nat) (sub : Fields) (hag : aget k fs = some (.msg sub)) (hkS : [k] ∉ S)
    (hne : (restrictP ((k2 :: r) :: tailsAt k S) sub).isEmpty = false) :
    aset k (.msg (restrictP ((k2 :: r) :: tailsAt k S) sub)) (restrictP S fs) =
      restrictP ((k :: k2 :: r) :: S) fs := by
  apply Store.ext _ _ (asorted_aset k _ _ (asorted_restrictP S fs hs)) (asorted_restrictP _ fs hs)
  intro x
  rw [aget_aset, aget_restrictP S fs hs x, aget_restrictP _ fs hs x]
  by_cases hx : x = k
  · subst hx
    rw [if_pos rfl, hag]
    simp only [Option.bind_some]
    rw [restrictE_msg _ x sub (by
      intro hm
      rcases List.mem_cons.mp hm with e | e
      · cases e
      · exact hkS e), tailsAt_cons_same]
    simp [hne]
  · rw [if_neg hx]
    cases aget x fs with
    | none => rfl
    | some v' =>
      simp only [Option.bind_some]
      apply restrictE_congr
      · exact (single_mem_cons_iff x _ S (by intro e; cases e)).symm
      · intro sub' _ _
        rw [tailsAt_cons_other x k (k2 :: r) S (fun e => hx e.symm)]

/-- **`Message.Set` at a path, on a restriction**: writing into the restriction to `S` the `v` the
original holds at `rem` gives the restriction to `rem :: S`. `pfx` is the part of `p.path` already
walked, `fs` the (sub-)message of the original reached so far. -/
theorem updGo_restrict (props : List PropDef) (p : PropDef) (v : PVal) (kl : Nat)
    (hkl : p.path.getLast? = some kl)
    (hz : (p.pres == .imp && v.isZero) = false) (hec : v.isEmptyColl = false) :
    ∀ (rem pfx : List Nat) (S : List (List Nat)) (fs : Fields),
      pfx ++ rem = p.path → rem ≠ [] → SortedAlong rem fs → getPath fs rem = some v → Apart rem S →
      (∀ gi, p.group = some gi → ∀ q ∈ props, q.group = some gi →
        q.path.dropLast = p.path.dropLast → ∀ k', q.path.getLast? = some k' → k' ≠ kl →
        getPath fs (rem.dropLast ++ [k']) = none) →
      updPath.go props p (some v) pfx rem (restrictP S fs) = restrictP (rem :: S) fs := by
  intro rem
  induction rem with
  | nil => intro pfx S fs _ h; exact absurd rfl h
  | cons k t ih =>
    intro pfx S fs hpath _ hs hget hap hsib
    have hkS : [k] ∉ S := hap.single_not_mem
    cases t with
    | nil =>
      obtain ⟨hpfx, hpl⟩ := walked_last hpath
      obtain rfl : kl = k := Option.some.inj (hkl.symm.trans hpl)
      simp only [getPath] at hget
      rw [updPath_go_last, hpfx, clearGroup_id_at props p kl (restrictP S fs) (by
        intro gi hg q hq hqg hqd k' hk' hne
        have := hsib gi hg q hq hqg hqd k' hk' hne
        simp only [List.dropLast_singleton, List.nil_append, getPath] at this
        rw [aget_restrictP S fs hs k', this]; rfl)]
      have hsl : setLeaf p.pres kl v (restrictP S fs) = aset kl v (restrictP S fs) := by
        unfold setLeaf; simp [hz, hec]
      simp only []
      rw [hsl]
      exact aset_restrictP_single S fs hs kl v hget
    | cons k2 r =>
      obtain ⟨sub, hag, hget⟩ := getPath_cons2_some hget
      rw [updPath_go_cons2, asMsg_aget_restrictP S fs hs.1 k sub hag hkS,
        ih (pfx ++ [k]) (tailsAt k S) sub (by rw [← hpath]; simp) (by simp) (hs.2 sub hag) hget
          hap.tails (fun gi hg q hq hqg hqd k' hk' hne => by
            -- the siblings' paths, re-rooted at `sub`
            have := hsib gi hg q hq hqg hqd k' hk' hne
            rwa [show (k :: k2 :: r).dropLast ++ [k'] = k :: ((k2 :: r).dropLast ++ [k']) by
              simp [List.dropLast], getPath_under hag _ (by simp)] at this)]
      refine aset_restrictP_msg S fs hs.1 k k2 r sub hag hkS ?_
      -- the rebuilt sub-message holds `v`, so it is not empty
      have hs2 : getPath (restrictP ((k2 :: r) :: tailsAt k S) sub) (k2 :: r) = some v := by
        rw [getPath_restrictP_mem (k2 :: r) _ sub (hs.2 sub hag) List.mem_cons_self]; exact hget
      cases hr : restrictP ((k2 :: r) :: tailsAt k S) sub with
      | nil => rw [hr, getPath_nil] at hs2; cases hs2
      | cons _ _ => rfl

/-! ## the restriction depends on the set of paths only -/

theorem tailsAt_congr (k : Nat) (S S' : List (List Nat)) (h : ∀ path, path ∈ S ↔ path ∈ S') :
    ∀ path, path ∈ tailsAt k S ↔ path ∈ tailsAt k S' := by
  intro path
  rw [mem_tailsAt, mem_tailsAt, h]

theorem restrictP_congr_mem (fs : Fields) : ∀ (S S' : List (List Nat)),
    (∀ path, path ∈ S ↔ path ∈ S') → restrictP S fs = restrictP S' fs := by
  induction fs using Fields.induct with
  | nil => intro _ _ _; rw [restrictP.eq_def, restrictP.eq_def]
  | cons k v rest hsub hrest =>
    intro S S' h
    have hE : restrictE S k v = restrictE S' k v :=
      restrictE_congr S S' k v (h [k]) fun s hs _ =>
        hsub s hs (tailsAt k S) (tailsAt k S') (tailsAt_congr k S S' h)
    conv => lhs; rw [restrictP.eq_def]
    conv => rhs; rw [restrictP.eq_def]
    simp only []
    rw [hE, hrest S S' h]

theorem restrictP_append_absorb (P S : List (List Nat)) (fs : Fields)
    (h : ∀ x ∈ P, x ∈ S ∨ (x ≠ [] ∧ SortedAlong x fs ∧ getPath fs x = none)) :
    restrictP (P ++ S) fs = restrictP S fs := by
  induction P with
  | nil => rfl
  | cons x t ih =>
    have iht := ih (fun y hy => h y (List.mem_cons_of_mem _ hy))
    rw [List.cons_append]
    rcases h x List.mem_cons_self with hx | ⟨h1, h2, h3⟩
    · rw [← iht]
      apply restrictP_congr_mem
      intro path
      simp only [List.mem_cons, List.mem_append]
      constructor
      · rintro (e | e)
        · subst e; exact Or.inr hx
        · exact e
      · exact Or.inr
    · rw [restrictP_cons_unset x _ fs h2 h1 h3]; exact iht

/-- paths of which the message holds exactly the top-level leaf `[k]` -/
theorem restrictP_append_one (P S : List (List Nat)) (fs : Fields) (k : Nat) (hk : [k] ∈ P)
    (h : ∀ x ∈ P, x ≠ [k] → x ≠ [] ∧ SortedAlong x fs ∧ getPath fs x = none) :
    restrictP (P ++ S) fs = restrictP ([k] :: S) fs := by
  rw [← restrictP_append_absorb P ([k] :: S) fs fun x hx => by
    by_cases hxk : x = [k]
    · exact Or.inl (hxk ▸ List.mem_cons_self)
    · exact Or.inr (h x hx hxk)]
  apply restrictP_congr_mem
  intro path
  simp only [List.mem_append, List.mem_cons]
  constructor
  · rintro (h | h)
    · exact Or.inl h
    · exact Or.inr (Or.inr h)
  · rintro (h | h | h)
    · exact Or.inl h
    · exact Or.inl (h ▸ hk)
    · exact Or.inr h

theorem restrictP_nil_set (fs : Fields) : restrictP [] fs = [] := restrictP_nil fs

end J5V.Codec
