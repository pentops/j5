import J5V.Codec.Scalar
/-! # What a scalar token denotes (the decoder side of the scalar codec)

`Denotes O k tok v`: the JSON token `tok` denotes the value `v` for a field of scalar kind `k`, in terms
of the parsers alone; `decodeScalar_spec`: `scalarReflectFromGo` answers with exactly that value.
`ScalarRepr` (`Repr.lean`) is the encoder-side counterpart. -/
namespace J5V.Codec
open J5V.Go J5V.Json

theorem dateFromString_eq_some {s : Bytes} {y m d : Int} (h : dateFromString s = some (y, m, d)) :
    ∃ a b c, splitDash s = [a, b, c] ∧ parseInt a 64 = some y ∧ parseInt b 64 = some m ∧ parseInt c 64 = some d ∧
      -2147483648 ≤ y ∧ y ≤ 2147483647 ∧ 1 ≤ m ∧ m ≤ 12 ∧ 1 ≤ d ∧ d ≤ 31 ∧ d ≤ daysInMonth y m := by
  unfold dateFromString at h
  split at h
  · next a b c hsplit =>
    split at h
    · next y' m' d' h1 h2 h3 =>
      split at h
      · cases h
      · split at h
        · cases h
        · split at h
          · cases h
          · cases h
            exact ⟨a, b, c, hsplit, h1, h2, h3, by omega, by omega, by omega, by omega, by omega, by omega, by omega⟩
    · cases h
  · cases h

/-- one constructor per accepting arm of `scalarReflectFromGo`. `scalarSpells`, `elemsDenote`
(`Codec/Doc.lean`) say the same as `decodeScalar O k tok = .ok (some v)`; `Denotes.of_ok` and
`Denotes.decode` lead from one to the other -/
inductive Denotes (O : Oracle) : ScalarKind → GoTok → PVal → Prop
  | bool b : Denotes O .bool (.bool b) (.bool b)
  | string s : Denotes O .string (.str s) (.str s)
  | key s : Denotes O .key (.str s) (.str s)
  | int32Num {text i} : parseInt text 64 = some i → -2147483648 ≤ i → i ≤ 2147483647 →
      Denotes O .int32 (.num text) (.int i)
  | int32Str {text i} : parseInt text 32 = some i → Denotes O .int32 (.str text) (.int i)
  | int64Num {text i} : parseInt text 64 = some i → Denotes O .int64 (.num text) (.int i)
  | int64Str {text i} : parseInt text 64 = some i → Denotes O .int64 (.str text) (.int i)
  | uint32Num {text i} : parseInt text 64 = some i → 0 ≤ i → i ≤ 4294967295 →
      Denotes O .uint32 (.num text) (.uint i.toNat)
  | uint32Str {text n} : parseUint text 32 = some n → Denotes O .uint32 (.str text) (.uint n)
  | uint64Num {text n} : parseUint text 64 = some n → Denotes O .uint64 (.num text) (.uint n)
  | uint64Str {text n} : parseUint text 64 = some n → Denotes O .uint64 (.str text) (.uint n)
  | f32Num {x b b32} : O.parseFloat x = some (b, some b32) → Denotes O .float32 (.num x) (.f32 b32)
  | f32Str {x b b32} : O.parseFloat x = some (b, some b32) → Denotes O .float32 (.str x) (.f32 b32)
  | f64Num {x b b32} : O.parseFloat x = some (b, b32) → Denotes O .float64 (.num x) (.f64 b)
  | f64Str {x b b32} : O.parseFloat x = some (b, b32) → Denotes O .float64 (.str x) (.f64 b)
  | bytes {s b} : byteValueFromString s = some b → Denotes O .bytes (.str s) (.bytes b)
  | timestamp {s secs nanos} : O.parseTime s = some (secs, nanos) →
      Denotes O .timestamp (.str s) (.ts secs nanos)
  | decNum {x norm} : O.parseDec x = some norm → Denotes O .decimal (.num x) (.dec norm)
  | decStr {x norm} : O.parseDec x = some norm → Denotes O .decimal (.str x) (.dec norm)
  | date {s y m d} : dateFromString s = some (y, m, d) → Denotes O .date (.str s) (.date y m d)

/-- `scalarReflectFromGo` answers: a value exactly when the token denotes it, the invalid value
exactly for `null` into a bool / string / key field, and never panics -/
theorem decodeScalar_spec (O : Oracle) (k : ScalarKind) (tok : GoTok) :
    (∃ v, decodeScalar O k tok = .ok (some v) ∧ Denotes O k tok v) ∨
    (decodeScalar O k tok = .ok none ∧ tok = .null) ∨ (∃ e, decodeScalar O k tok = .err e) := by
  have err : ∀ {o : Outcome (Option PVal)} e, o = .err e →
      (∃ v, o = .ok (some v) ∧ Denotes O k tok v) ∨ (o = .ok none ∧ tok = .null) ∨ ∃ e, o = .err e :=
    fun e h => .inr (.inr ⟨e, h⟩)
  have ok : ∀ {o : Outcome (Option PVal)} v, o = .ok (some v) → Denotes O k tok v →
      (∃ v, o = .ok (some v) ∧ Denotes O k tok v) ∨ (o = .ok none ∧ tok = .null) ∨ ∃ e, o = .err e :=
    fun v h hd => .inl ⟨v, h, hd⟩
  cases k <;> cases tok
  case bool.bool b => exact ok _ rfl (.bool b)
  case string.str s => exact ok _ rfl (.string s)
  case key.str s => exact ok _ rfl (.key s)
  case bool.null | string.null | key.null => exact .inr (.inl ⟨rfl, rfl⟩)
  case int32.num text =>
    cases hp : parseInt text 64 with
    | none => exact err _ (by simp only [decodeScalar, hp]; rfl)
    | some i =>
      by_cases hr : i > 2147483647 ∨ i < -2147483648
      · exact err _ (by simp only [decodeScalar, hp, if_pos hr]; rfl)
      · exact ok _ (by simp only [decodeScalar, hp, if_neg hr]) (.int32Num hp (by omega) (by omega))
  case int32.str text =>
    cases hp : parseInt text 32 with
    | none => exact err _ (by simp only [decodeScalar, hp]; rfl)
    | some i => exact ok _ (by simp only [decodeScalar, hp]) (.int32Str hp)
  case int64.num text =>
    cases hp : parseInt text 64 with
    | none => exact err _ (by simp only [decodeScalar, hp]; rfl)
    | some i => exact ok _ (by simp only [decodeScalar, hp]) (.int64Num hp)
  case int64.str text =>
    cases hp : parseInt text 64 with
    | none => exact err _ (by simp only [decodeScalar, hp]; rfl)
    | some i => exact ok _ (by simp only [decodeScalar, hp]) (.int64Str hp)
  case uint32.num text =>
    cases hp : parseInt text 64 with
    | none => exact err _ (by simp only [decodeScalar, hp]; rfl)
    | some i =>
      by_cases hr : i < 0 ∨ i > 4294967295
      · exact err _ (by simp only [decodeScalar, hp, if_pos hr]; rfl)
      · exact ok _ (by simp only [decodeScalar, hp, if_neg hr]) (.uint32Num hp (by omega) (by omega))
  case uint32.str text =>
    cases hp : parseUint text 32 with
    | none => exact err _ (by simp only [decodeScalar, hp]; rfl)
    | some i => exact ok _ (by simp only [decodeScalar, hp]) (.uint32Str hp)
  case uint64.num text =>
    cases hp : parseUint text 64 with
    | none => exact err _ (by simp only [decodeScalar, hp]; rfl)
    | some i => exact ok _ (by simp only [decodeScalar, hp]) (.uint64Num hp)
  case uint64.str text =>
    cases hp : parseUint text 64 with
    | none => exact err _ (by simp only [decodeScalar, hp]; rfl)
    | some i => exact ok _ (by simp only [decodeScalar, hp]) (.uint64Str hp)
  case float32.num x =>
    cases hp : O.parseFloat x with
    | none => exact err _ (by simp only [decodeScalar, hp]; rfl)
    | some r =>
      obtain ⟨b, b32⟩ := r
      cases b32 with
      | none => exact err _ (by simp only [decodeScalar, hp]; rfl)
      | some b32 => exact ok _ (by simp only [decodeScalar, hp]) (.f32Num hp)
  case float32.str x =>
    cases hp : O.parseFloat x with
    | none => exact err _ (by simp only [decodeScalar, hp]; rfl)
    | some r =>
      obtain ⟨b, b32⟩ := r
      cases b32 with
      | none => exact err _ (by simp only [decodeScalar, hp]; rfl)
      | some b32 => exact ok _ (by simp only [decodeScalar, hp]) (.f32Str hp)
  case float64.num x =>
    cases hp : O.parseFloat x with
    | none => exact err _ (by simp only [decodeScalar, hp]; rfl)
    | some r => exact ok _ (by simp only [decodeScalar, hp]) (.f64Num (b32 := r.2) hp)
  case float64.str x =>
    cases hp : O.parseFloat x with
    | none => exact err _ (by simp only [decodeScalar, hp]; rfl)
    | some r => exact ok _ (by simp only [decodeScalar, hp]) (.f64Str (b32 := r.2) hp)
  case bytes.str s =>
    cases hp : byteValueFromString s with
    | none => exact err _ (by simp only [decodeScalar, hp]; rfl)
    | some r => exact ok _ (by simp only [decodeScalar, hp]) (.bytes hp)
  case timestamp.str s =>
    cases hp : O.parseTime s with
    | none => exact err _ (by simp only [decodeScalar, hp]; rfl)
    | some r => exact ok _ (by simp only [decodeScalar, hp]) (.timestamp hp)
  case decimal.num s =>
    cases hp : O.parseDec s with
    | none => exact err _ (by simp only [decodeScalar, hp]; rfl)
    | some r => exact ok _ (by simp only [decodeScalar, hp]) (.decNum hp)
  case decimal.str s =>
    cases hp : O.parseDec s with
    | none => exact err _ (by simp only [decodeScalar, hp]; rfl)
    | some r => exact ok _ (by simp only [decodeScalar, hp]) (.decStr hp)
  case date.str s =>
    cases hp : dateFromString s with
    | none => exact err _ (by simp only [decodeScalar, hp]; rfl)
    | some r => exact ok _ (by simp only [decodeScalar, hp]) (.date hp)
  all_goals exact err _ rfl

theorem Denotes.of_ok {O : Oracle} {k : ScalarKind} {tok : GoTok} {v : PVal}
    (h : decodeScalar O k tok = .ok (some v)) : Denotes O k tok v := by
  rcases decodeScalar_spec O k tok with ⟨v', e, hd⟩ | ⟨e, _⟩ | ⟨_, e⟩ <;> rw [e] at h <;> cases h
  exact hd

theorem Denotes.decode {O : Oracle} {k : ScalarKind} {tok : GoTok} {v : PVal} (h : Denotes O k tok v) :
    decodeScalar O k tok = .ok (some v) := by
  cases h with
  | int32Num hp h1 h2 => simp only [decodeScalar, hp]; rw [if_neg (by omega)]
  | uint32Num hp h1 h2 => simp only [decodeScalar, hp]; rw [if_neg (by omega)]
  | bool | string | key => rfl
  | int32Str hp | int64Num hp | int64Str hp | uint32Str hp | uint64Num hp | uint64Str hp | f32Num hp | f32Str hp
  | f64Num hp | f64Str hp | bytes hp | timestamp hp | decNum hp | decStr hp | date hp => simp only [decodeScalar, hp]

theorem Denotes.not_emptyColl {O : Oracle} {k : ScalarKind} {tok : GoTok} {v : PVal} (h : Denotes O k tok v) :
    v.isEmptyColl = false := by
  cases h <;> rfl

theorem Denotes.ne_null {O : Oracle} {k : ScalarKind} {tok : GoTok} {v : PVal} (h : Denotes O k tok v) :
    tok ≠ .null := by
  cases h <;> exact nofun

theorem decodeScalar_ok_none {O : Oracle} {k : ScalarKind} {tok : GoTok}
    (h : decodeScalar O k tok = .ok none) : tok = .null := by
  rcases decodeScalar_spec O k tok with ⟨_, e, _⟩ | ⟨_, ht⟩ | ⟨_, e⟩
  · rw [e] at h; cases h
  · exact ht
  · rw [e] at h; cases h

end J5V.Codec
