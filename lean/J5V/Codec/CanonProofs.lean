import J5V.Codec.Same
import J5V.Codec.EncTreeProofs
/-!
# The encoder ignores empty flattened sub-objects (C01: "treated as absent")

`encRoot_same`: messages with the same leaves (`Same`) have the same encoding, at every fuel. With the
round trip for representable messages this gives `decode (encode m) = m'` for every message `m`
and every representable `m'` with the same leaves (`roundtrip_same`), in particular for
`m' = restrictP (leaf paths) m` (`roundtrip_canon`: the message without its empty flattened
sub-messages).
-/
namespace J5V.Codec
open J5V.Go J5V.Json

theorem all2_refl {α : Type} (R : α → α → Prop) (h : ∀ a, R a a) : ∀ l : List α, all2 R l l
  | [] => trivial
  | a :: l => ⟨h a, all2_refl R h l⟩

theorem sameV_refl (env : Env) (n : Nat) (fld : Field) (v : PVal) : SameV env n fld v v := by
  cases n with
  | zero => simp [SameV]
  | succ n => simp [SameV]

theorem same_refl (env : Env) (fld : Field) (v : PVal) : Same env fld v v :=
  fun n => sameV_refl env n fld v

theorem optRel_refl (R : PVal → PVal → Prop) (h : ∀ a, R a a) (x : Option PVal) : optRel R x x := by
  cases x with
  | none => trivial
  | some a => exact h a

theorem optRel_forall (R : Nat → PVal → PVal → Prop) (a b : Option PVal)
    (h : ∀ n, optRel (R n) a b) : optRel (fun x y => ∀ n, R n x y) a b := by
  cases a with
  | none => cases b with
    | none => trivial
    | some y => exact h 0
  | some x => cases b with
    | none => exact h 0
    | some y => exact fun n => h n

theorem all2_forall {α : Type} (R : Nat → α → α → Prop) (hr : ∀ n a, R n a a) :
    ∀ (xs ys : List α), (∀ n, xs = ys ∨ all2 (R n) xs ys) → all2 (fun a b => ∀ n, R n a b) xs ys
  | [], [], _ => trivial
  | [], b :: bs, h => by rcases h 0 with h1 | h1 <;> cases h1
  | a :: as, [], h => by rcases h 0 with h1 | h1 <;> cases h1
  | a :: as, b :: bs, h => by
    refine ⟨?_, all2_forall R hr as bs ?_⟩
    · intro n
      rcases h n with h1 | h1
      · cases h1; exact hr n a
      · exact h1.1
    · intro n
      rcases h n with h1 | h1
      · cases h1; exact Or.inl rfl
      · exact Or.inr h1.2

/-- what `Same` says about two message values, for a kind of field whose `SameV` step compares the
leaves of the properties `ps` (objects and oneofs) -/
theorem same_msg (env : Env) (fld : Field) (ps : List PropDef) (v v' : PVal)
    (hstep : ∀ n, SameV env (n + 1) fld v v' → v = v' ∨ ∃ fs fs', v = .msg fs ∧ v' = .msg fs' ∧
      ∀ e ∈ leafEntries env ps, optRel (SameV env n e.2.1) (getPath fs e.1) (getPath fs' e.1))
    (h : Same env fld v v') :
    v = v' ∨ ∃ fs fs', v = .msg fs ∧ v' = .msg fs' ∧ SameM env ps fs fs' := by
  by_cases he : v = v'
  · exact Or.inl he
  right
  have key := fun n => (hstep n (h (n + 1))).resolve_left he
  obtain ⟨fs, fs', hv, hv', _⟩ := key 0
  refine ⟨fs, fs', hv, hv', fun e he' => optRel_forall _ _ _ fun n => ?_⟩
  obtain ⟨fs1, fs1', hv1, hv1', h1⟩ := key n
  rw [hv] at hv1; rw [hv'] at hv1'
  cases hv1; cases hv1'
  exact h1 e he'

theorem same_object (env : Env) (ref : String) (v v' : PVal) (h : Same env (.object ref) v v') :
    v = v' ∨ ∃ props fs fs', env.find ref = some (.object props) ∧ v = .msg fs ∧ v' = .msg fs' ∧
      SameM env props fs fs' := by
  by_cases he : v = v'
  · exact .inl he
  have h1 := (h 1).resolve_left he
  simp only [SameV] at h1
  split at h1
  · next props hfind =>
    exact (same_msg env _ props v v' (fun n h => by simpa only [SameV, hfind] using h) h).imp_right
      fun ⟨fs, fs', a, b, c⟩ => ⟨props, fs, fs', hfind, a, b, c⟩
  · exact h1.elim

theorem same_oneof (env : Env) (ref : String) (v v' : PVal) (h : Same env (.oneof ref) v v') :
    v = v' ∨ ∃ ops fs fs', env.find ref = some (.oneof ops) ∧ v = .msg fs ∧ v' = .msg fs' ∧
      SameM env ops fs fs' := by
  by_cases he : v = v'
  · exact .inl he
  have h1 := (h 1).resolve_left he
  simp only [SameV] at h1
  split at h1
  · next ops hfind =>
    exact (same_msg env _ ops v v' (fun n h => by simpa only [SameV, hfind] using h) h).imp_right
      fun ⟨fs, fs', a, b, c⟩ => ⟨ops, fs, fs', hfind, a, b, c⟩
  · exact h1.elim

theorem same_array (env : Env) (item : Field) (v v' : PVal) (h : Same env (.array item) v v') :
    v = v' ∨ ∃ xs xs', v = .list xs ∧ v' = .list xs' ∧ all2 (Same env item) xs xs' := by
  by_cases he : v = v'
  · exact Or.inl he
  right
  have key : ∀ n, ∃ xs xs', v = .list xs ∧ v' = .list xs' ∧ all2 (SameV env n item) xs xs' := by
    intro n
    have := h (n + 1)
    simp only [SameV] at this
    rcases this with h1 | h1
    · exact absurd h1 he
    · exact h1
  obtain ⟨xs, xs', hv, hv', _⟩ := key 0
  refine ⟨xs, xs', hv, hv', ?_⟩
  apply all2_forall (fun n => SameV env n item) (fun n a => sameV_refl env n item a)
  intro n
  obtain ⟨xs1, xs1', hv1, hv1', h1⟩ := key n
  rw [hv] at hv1; rw [hv'] at hv1'
  cases hv1; cases hv1'
  exact Or.inr h1

/-- regroup `∀ n, (a.1 = b.1 ∧ …)` into `a.1 = b.1 ∧ ∀ n, …` -/
theorem all2_regroup (env : Env) (item : Field) : ∀ (kvs kvs' : List (Bytes × PVal)),
    all2 (fun a b => ∀ n, a.1 = b.1 ∧ SameV env n item a.2 b.2) kvs kvs' →
    all2 (fun a b => a.1 = b.1 ∧ Same env item a.2 b.2) kvs kvs'
  | [], [], _ => trivial
  | [], _ :: _, h => h
  | _ :: _, [], h => h
  | a :: as, b :: bs, h => ⟨⟨(h.1 0).1, fun n => (h.1 n).2⟩, all2_regroup env item as bs h.2⟩

theorem same_map (env : Env) (item : Field) (v v' : PVal) (h : Same env (.map item) v v') :
    v = v' ∨ ∃ kvs kvs', v = .map kvs ∧ v' = .map kvs' ∧
      all2 (fun a b => a.1 = b.1 ∧ Same env item a.2 b.2) kvs kvs' := by
  by_cases he : v = v'
  · exact Or.inl he
  right
  have key : ∀ n, ∃ kvs kvs', v = .map kvs ∧ v' = .map kvs' ∧
      all2 (fun a b => a.1 = b.1 ∧ SameV env n item a.2 b.2) kvs kvs' := by
    intro n
    have := h (n + 1)
    simp only [SameV] at this
    rcases this with h1 | h1
    · exact absurd h1 he
    · exact h1
  obtain ⟨kvs, kvs', hv, hv', _⟩ := key 0
  refine ⟨kvs, kvs', hv, hv', ?_⟩
  have := all2_forall (fun n (a b : Bytes × PVal) => a.1 = b.1 ∧ SameV env n item a.2 b.2)
    (fun n a => ⟨rfl, sameV_refl env n item a.2⟩) kvs kvs' (by
      intro n
      obtain ⟨k1, k1', hv1, hv1', h1⟩ := key n
      rw [hv] at hv1; rw [hv'] at hv1'
      cases hv1; cases hv1'
      exact Or.inr h1)
  exact all2_regroup env item kvs kvs' this

/-- at depth 1 `SameV` of a field without parts reads `v = v' ∨ False` -/
theorem same_leaf (env : Env) (fld : Field) (v v' : PVal) (h : Same env fld v v')
    (hf : match fld with | .scalar _ | .enum _ | .any _ => True | _ => False) : v = v' := by
  have := h 1
  cases fld <;> simp only [SameV] at this hf <;> first | (rcases this with h1 | h1 <;> first | exact h1 | cases h1) | cases hf

/-! ## the encoder reads a message only through the leaves of its properties -/

/-- `m` and `m'` hold the same leaves at the entries `L` -/
def RelOn (env : Env) (L : List (List Nat × Field × Pres)) (m m' : Fields) : Prop :=
  ∀ e ∈ L, optRel (Same env e.2.1) (getPath m e.1) (getPath m' e.1)

/-- the members of every exposed oneof of the property set have one-element paths -/
def ExpSingle (env : Env) (props : List PropDef) : Prop :=
  ∀ q ∈ props, q.path = [] → ∀ q' ∈ exposedOps env q, ∃ k, q'.path = [k]

theorem hasProp_leaf (env : Env) (L : List (List Nat × Field × Pres)) (m m' : Fields)
    (hr : RelOn env L m m') (f : Nat) (q : PropDef) (hq : q.path ≠ [])
    (he : (q.path, q.field, q.pres) ∈ L) : hasProp env f q m = hasProp env f q m' := by
  cases f with
  | zero => rfl
  | succ f =>
    unfold hasProp
    cases hp : q.path with
    | nil => exact absurd hp hq
    | cons a b =>
      simp only []
      have := hr _ he
      simp only [] at this
      rw [hp] at this
      cases h1 : getPath m (a :: b) <;> cases h2 : getPath m' (a :: b) <;>
        simp [h1, h2, optRel] at this ⊢

theorem oneofSet_same (env : Env) (L : List (List Nat × Field × Pres)) (m m' : Fields)
    (hr : RelOn env L m m') (f : Nat) (ops : List PropDef)
    (hent : ∀ q ∈ ops, q.path ≠ [] ∧ (q.path, q.field, q.pres) ∈ L) (q : PropDef) :
    oneofSet env f ops m q = oneofSet env f ops m' q := by
  unfold oneofSet
  cases hfp : findProp ops q.jsonName with
  | none => rfl
  | some q' =>
    exact hasProp_leaf env L m m' hr f q' (hent q' (findProp_mem ops _ q' hfp)).1
      (hent q' (findProp_mem ops _ q' hfp)).2

theorem seq_all2 {α β : Type} (R : α → α → Prop) (g g' : α → Outcome β)
    (hg : ∀ a b, R a b → g a = g' b) :
    ∀ (xs xs' : List α), all2 R xs xs' → Outcome.seq g xs = Outcome.seq g' xs'
  | [], [], _ => rfl
  | [], _ :: _, h => by cases h
  | _ :: _, [], h => by cases h
  | a :: as, b :: bs, h => by
    rw [Outcome.seq, Outcome.seq, hg a b h.1, seq_all2 R g g' hg as bs h.2]

/-- the encoder functions at fuel `f` give the same result on messages with the same leaves -/
structure EQ (env : Env) (O : Oracle) (f : Nat) : Prop where
  val : ∀ fld v v', Same env fld v v' → encValue env O f fld v = encValue env O f fld v'
  fld : ∀ L m m', RelOn env L m m' → ∀ p, p.path ≠ [] → (p.path, p.field, p.pres) ∈ L →
    encField env O f p m = encField env O f p m'
  xfld : ∀ props m m', SameM env props m m' → ExpSingle env props → ∀ q ∈ props, q.path = [] →
    encField env O f q m = encField env O f q m'
  one : ∀ L m m', RelOn env L m m' → ∀ ops,
    (∀ q ∈ ops, q.path ≠ [] ∧ (q.path, q.field, q.pres) ∈ L) →
    encOneofBody env O f ops m = encOneofBody env O f ops m'
  obj : ∀ props m m', SameM env props m m' → ExpSingle env props →
    encObjectBody env O f props m = encObjectBody env O f props m'

/-- an object root of a flat environment: exposed oneofs have one-element member paths -/
theorem expSingle_of_flat (env : Env) (hflat : env.flat = true) (props : List PropDef)
    (h : rootFlat env (.object props) = true) : ExpSingle env props := by
  obtain ⟨hall, _, _, _⟩ := object_root_facts env props h
  intro q hq hpe q' hq'
  rcases hall q hq with hf | hx
  · simp [propFlat, hpe] at hf
  · obtain ⟨_, _, ref, ops, hfld, hfind⟩ := propExposed_inv env q hx
    have hops : exposedOps env q = ops := by
      unfold exposedOps; rw [hpe, hfld]; simp [hfind]
    rw [hops] at hq'
    obtain ⟨hsimple, _, _, _⟩ := oneof_root_facts ops (rootFlat_oneof env ops (find_rootFlat env hflat ref _ hfind))
    exact propSimple_path q' (hsimple q' hq')

/-- the members of a oneof root of a flat environment are leaf entries of it -/
theorem oneof_entries (env : Env) (ops : List PropDef) (h : rootSimple (.oneof ops) = true) :
    ∀ q ∈ ops, q.path ≠ [] ∧ (q.path, q.field, q.pres) ∈ leafEntries env ops := by
  obtain ⟨hsimple, _, _, _⟩ := oneof_root_facts ops h
  intro q hq
  obtain ⟨k, hk⟩ := propSimple_path q (hsimple q hq)
  have hne : q.path ≠ [] := by rw [hk]; simp
  exact ⟨hne, leafEntries_mem_path env ops q hq hne⟩

theorem EQ_all (env : Env) (O : Oracle) (hflat : env.flat = true) : ∀ f, EQ env O f := by
  intro f
  induction f with
  | zero =>
    refine ⟨?_, ?_, ?_, ?_, ?_⟩
    · intro fld v v' _; simp [encValue]
    · intro L m m' _ p _ _; simp [encField]
    · intro props m m' _ _ q _ _; simp [encField]
    · intro L m m' _ ops _; simp [encOneofBody]
    · intro props m m' _ _; simp [encObjectBody]
  | succ f ih =>
    refine ⟨?_, ?_, ?_, ?_, ?_⟩
    · -- values
      intro fld v v' h
      cases fld with
      | scalar k => rw [same_leaf env _ v v' h trivial]
      | «enum» ref => rw [same_leaf env _ v v' h trivial]
      | any pb => rw [same_leaf env _ v v' h trivial]
      | object ref =>
        rcases same_object env ref v v' h with rfl | ⟨props, fs, fs', hfind, rfl, rfl, hs⟩
        · rfl
        · simp only [encValue, hfind]
          exact ih.obj props fs fs' hs
            (expSingle_of_flat env hflat props (find_rootFlat env hflat ref _ hfind))
      | oneof ref =>
        rcases same_oneof env ref v v' h with rfl | ⟨ops, fs, fs', hfind, rfl, rfl, hs⟩
        · rfl
        · simp only [encValue, hfind]
          exact ih.one _ fs fs' hs ops
            (oneof_entries env ops (rootFlat_oneof env ops (find_rootFlat env hflat ref _ hfind)))
      | array item =>
        rcases same_array env item v v' h with rfl | ⟨xs, xs', rfl, rfl, hs⟩
        · rfl
        · simp only [encValue_array_eq]
          rw [seq_all2 _ _ _ (fun x x' hx => ih.val item x x' hx) xs xs' hs]
      | map item =>
        rcases same_map env item v v' h with rfl | ⟨xs, xs', rfl, rfl, hs⟩
        · rfl
        · simp only [encValue_map_eq]
          rw [seq_all2 _ _ _ (fun a b hab => by rw [hab.1, ih.val item a.2 b.2 hab.2]) xs xs' hs]
    · -- a property with a proto path
      intro L m m' hr p hp he
      rw [encField_path_eq env O f p m hp, encField_path_eq env O f p m' hp]
      have := hr _ he
      simp only [] at this
      cases h1 : getPath m p.path <;> cases h2 : getPath m' p.path <;>
        simp only [h1, h2, optRel] at this ⊢
      rw [ih.val p.field _ _ this]
    · -- an exposed oneof
      intro props m m' hs hX q hq hqe
      rw [encField_exposed_eq env O f q m hqe, encField_exposed_eq env O f q m' hqe]
      split
      · next ref hfl =>
        split
        · next ops hfind =>
          have hops : exposedOps env q = ops := by
            unfold exposedOps; rw [hqe, hfl]; simp [hfind]
          have hent : ∀ q' ∈ ops, q'.path ≠ [] ∧
              (q'.path, q'.field, q'.pres) ∈ leafEntries env props := by
            intro q' hq'
            obtain ⟨k, hk⟩ := hX q hq hqe q' (by rw [hops]; exact hq')
            refine ⟨by rw [hk]; simp, ?_⟩
            rw [hk]
            exact List.mem_flatMap.mpr ⟨q, hq,
              propLeaves_exposed_mem env q q' k hqe (by rw [hops]; exact hq') hk⟩
          have hhas : hasProp env (f + 1) q m = hasProp env (f + 1) q m' := by
            unfold hasProp
            simp only [hqe, hfl, hfind]
            congr 2
            exact List.filter_congr fun q1 _ => oneofSet_same env _ m m' hs f ops hent q1
          rw [hhas, ih.one _ m m' hs ops hent]
        · rfl
      · rfl
    · -- oneof body
      intro L m m' hr ops hent
      have hfilt : ops.filter (oneofSet env (f + 1) ops m) = ops.filter (oneofSet env (f + 1) ops m') :=
        List.filter_congr fun q _ => oneofSet_same env L m m' hr (f + 1) ops hent q
      rw [encOneofBody_eq, encOneofBody_eq, hfilt]
      split
      · rfl
      · next q0 _ =>
        cases hfp : findProp ops q0.jsonName with
        | none => rfl
        | some q =>
          simp only [oneofSetMember]
          rw [ih.fld L m m' hr q (hent q (findProp_mem ops _ q hfp)).1
            (hent q (findProp_mem ops _ q hfp)).2]
      · rfl
    · -- object body
      intro props m m' hs hX
      have key : ∀ q, q ∈ props → encField env O f q m = encField env O f q m' := by
        intro q hq
        by_cases hqe : q.path = []
        · exact ih.xfld props m m' hs hX q hq hqe
        · exact ih.fld _ m m' hs q hqe (leafEntries_mem_path env props q hq hqe)
      rw [encObjectBody_eq, encObjectBody_eq, Outcome.seq_congr _ (objMember env O f props m') props]
      intro p _
      unfold objMember
      cases hfp : findProp props p.jsonName with
      | none => rfl
      | some q => simp only []; rw [key q (findProp_mem props _ q hfp)]

/-! ## messages with the same leaves have the same encoding; the round trip up to `Same` -/

theorem encRoot_same (env : Env) (O : Oracle) (hflat : env.flat = true) (root : String)
    (m m' : Fields)
    (hs : Same env (.object root) (.msg m) (.msg m') ∨ Same env (.oneof root) (.msg m) (.msg m')) :
    ∀ f, encRoot env O f root (.msg m) = encRoot env O f root (.msg m')
  | 0 => rfl
  | f + 1 => by
    rcases hs with h | h
    · rcases same_object env root _ _ h with he | ⟨props, fs, fs', hfind, hv, hv', hsm⟩
      · rw [he]
      · cases hv; cases hv'
        simp only [encRoot, hfind]
        exact (EQ_all env O hflat f).obj props m m' hsm
          (expSingle_of_flat env hflat props (find_rootFlat env hflat root _ hfind))
    · rcases same_oneof env root _ _ h with he | ⟨ops, fs, fs', hfind, hv, hv', hsm⟩
      · rw [he]
      · cases hv; cases hv'
        simp only [encRoot, hfind]
        exact (EQ_all env O hflat f).one _ m m' hsm ops
          (oneof_entries env ops (rootFlat_oneof env ops (find_rootFlat env hflat root _ hfind)))

/-- **C01 up to empty flattened sub-objects**: if `m'` is representable and holds the same leaves
as `m` (`Same`), then `Codec.ProtoToJSON m` succeeds with the bytes it writes for `m'`, and
`Codec.JSONToProto` maps them to `m'`. (`hd`: `m'` is not nested deeper than `m`, so the fuel the
encoder model takes for `m` is enough for `m'`.) -/
theorem roundtrip_same (c : Cfg) (hs : c.env.flat = true) (L : OracleLaws c.O)
    (hC : c.env.noAny = true ∨ ChunkLaws c.O)
    (root : String) (m m' : Fields)
    (hsame : Same c.env (.object root) (.msg m) (.msg m') ∨
      Same c.env (.oneof root) (.msg m) (.msg m'))
    (hok : valOk c.env c.O (.object root) (.msg m') = true ∨
      valOk c.env c.O (.oneof root) (.msg m') = true)
    (hd : depthFields m' ≤ depthFields m)
    (hM : modeOkF c.protoToAny (6 * (depthFields m + 1) + 9) c.anyDepth m' = true) :
    ∃ bs, encodeBytes c.env c.O root (.msg m) = .ok bs ∧ decodeBytes c root bs = .ok m' := by
  obtain ⟨t, ht, hdec, _, hE⟩ := root_flat_enc c hs L hC root m' hok
    (6 * (depthFields m + 1) + 9) (by omega) hM
  have henc : encodeTree c.env c.O root (.msg m) = .ok t := by
    rw [encodeTree_msg, encRoot_same c.env c.O hs root m m' hsame]
    exact ht
  refine ⟨t.render, by simp [encodeBytes, henc], ?_⟩
  unfold decodeBytes
  rw [readDoc_render t hE]
  exact hdec

/-! ## the concrete canonical form: the message without its empty flattened sub-messages -/

/-- the leaf paths of a property set -/
def leafPaths (env : Env) (props : List PropDef) : List (List Nat) :=
  (leafEntries env props).map (·.1)

/-- the message restricted to the leaves of its properties: flattened sub-messages that hold no
leaf are dropped (recursively through nested flattened sub-messages), everything else is kept -/
def canonFlat (env : Env) (props : List PropDef) (m : Fields) : Fields :=
  restrictP (leafPaths env props) m

theorem restrictE_depth (S : List (List Nat)) (k : Nat) (v v' : PVal)
    (ih : ∀ sub, v = .msg sub → ∀ S', depthFields (restrictP S' sub) ≤ depthFields sub)
    (h : restrictE S k v = some v') : v'.depth ≤ v.depth := by
  cases v with
  | msg sub =>
    rw [restrictE.eq_def] at h
    simp only [] at h
    split at h
    · cases h; exact Nat.le_refl _
    · split at h
      · cases h
      · cases h
        simp only [PVal.depth]
        have := ih sub rfl (tailsAt k S)
        omega
  | _ =>
    rw [restrictE.eq_def] at h
    simp only [] at h
    split at h
    · cases h; exact Nat.le_refl _
    · cases h

theorem depthFields_restrictP (fs : Fields) : ∀ (S : List (List Nat)),
    depthFields (restrictP S fs) ≤ depthFields fs := by
  induction fs using Fields.induct with
  | nil => intro _; rw [restrictP.eq_def]; exact Nat.le_refl _
  | cons k v rest hsub hrest =>
    intro S
    have hrest := hrest S
    rw [restrictP.eq_def]
    simp only []
    cases hE : restrictE S k v with
    | none =>
      simp only [depthFields]
      exact Nat.le_trans hrest (Nat.le_max_right _ _)
    | some v' =>
      simp only [depthFields]
      have hv := restrictE_depth S k v v' hsub hE
      exact Nat.max_le.mpr ⟨Nat.le_trans hv (Nat.le_max_left _ _),
        Nat.le_trans hrest (Nat.le_max_right _ _)⟩

theorem sortedDeepF_aget : ∀ (fs : Fields) (k : Nat) (v : PVal), sortedDeepF fs = true →
    aget k fs = some v → v.sortedDeep = true :=
  of_aget_of_cons fun _ _ h => by simpa only [sortedDeepF, Bool.and_eq_true] using h

theorem sortedAlong_of_deep : ∀ (path : List Nat) (fs : Fields), asorted fs = true →
    sortedDeepF fs = true → SortedAlong path fs
  | [], _, h, _ => h
  | [_], _, h, _ => h
  | k :: k2 :: r, fs, h, hd => by
    refine ⟨h, ?_⟩
    intro sub hag
    have := sortedDeepF_aget fs k _ hd hag
    simp only [PVal.sortedDeep, Bool.and_eq_true] at this
    exact sortedAlong_of_deep (k2 :: r) sub this.1 this.2

/-- the message and its canonical form hold the same leaves -/
theorem same_canonFlat (env : Env) (root : String) (props : List PropDef)
    (hfind : env.find root = some (.object props)) (m : Fields)
    (hsort : ∀ e ∈ leafEntries env props, SortedAlong e.1 m) :
    Same env (.object root) (.msg m) (.msg (canonFlat env props m)) := by
  intro n
  cases n with
  | zero => simp [SameV]
  | succ n =>
    simp only [SameV, hfind]
    right
    refine ⟨m, canonFlat env props m, rfl, rfl, ?_⟩
    intro e he
    unfold canonFlat
    rw [getPath_restrictP_mem e.1 (leafPaths env props) m (hsort e he)
      (List.mem_map.mpr ⟨e, he, rfl⟩)]
    exact optRel_refl _ (fun a => sameV_refl env n e.2.1 a) _

/-- **C01, "an empty flattened sub-object is treated as absent"**: for an object root of a flat
environment and ANY message `m` of it whose canonical form `canonFlat m` (= `m` without the
flattened sub-messages that hold no leaf) is representable: encoding `m` succeeds and decoding the
bytes yields exactly `canonFlat m`. (`hsort`: the stores on the way to the leaves have strictly
increasing field numbers — what a protobuf message is.) -/
theorem roundtrip_canon (c : Cfg) (hs : c.env.flat = true) (L : OracleLaws c.O)
    (hC : c.env.noAny = true ∨ ChunkLaws c.O)
    (root : String) (props : List PropDef) (hfind : c.env.find root = some (.object props))
    (m : Fields) (hsort : ∀ e ∈ leafEntries c.env props, SortedAlong e.1 m)
    (hok : valOk c.env c.O (.object root) (.msg (canonFlat c.env props m)) = true)
    (hM : modeOkF c.protoToAny (6 * (depthFields m + 1) + 9) c.anyDepth
      (canonFlat c.env props m) = true) :
    ∃ bs, encodeBytes c.env c.O root (.msg m) = .ok bs ∧
      decodeBytes c root bs = .ok (canonFlat c.env props m) :=
  roundtrip_same c hs L hC root m (canonFlat c.env props m)
    (Or.inl (same_canonFlat c.env root props hfind m hsort)) (Or.inl hok)
    (depthFields_restrictP m _) hM

end J5V.Codec
