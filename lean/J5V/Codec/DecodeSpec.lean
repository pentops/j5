import J5V.Codec.Decode
/-! # Vocabulary for statements about the decoder (definitions only) -/
namespace J5V.Codec
open J5V.Go J5V.Json

/-- proto has no repeated-of-repeated / map-of-map fields: array and map items are never arrays or
maps (`newFieldFactory` panics on such a schema) -/
def fieldOk : Field → Bool
  | .array (.array _) | .array (.map _) | .map (.array _) | .map (.map _) => false
  | _ => true

def propsOk (ps : List PropDef) : Bool := ps.all fun p => fieldOk p.field

def rootOk : Root → Bool
  | .object ps => propsOk ps
  | .oneof ps => propsOk ps
  | _ => true

/-- the decidable well-formedness of an environment that C06 needs -/
def Env.itemsOk (env : Env) : Bool := env.defs.all fun d => rootOk d.2

def NP {α} (o : Outcome α) : Prop := ∀ w, o ≠ .panic w

/-- the keys of a oneof body other than `"!type"` (`foundKeys`) -/
def oneofKeys : PMembers → List Bytes
  | .nil _ => []
  | .cons k _ _ rest => if k = ascii "!type" then oneofKeys rest else k :: oneofKeys rest

end J5V.Codec
