import J5V.Codec.EncodeEqs
import J5V.Codec.SchemaProofs
/-!
# What a successful encoding was made of

From `enc… = .ok t` to the parts of `t` and the calls that returned them (read off `EncodeEqs.lean`): what the
inductions on the fuel about encoder trees use (`TD_all`, `ET_all`).
-/
namespace J5V.Codec
open J5V.Go J5V.Json

theorem encValue_enum_ok {env : Env} {O : Oracle} {f : Nat} {ref : String} {v : PVal} {t : PTree}
    (h : encValue env O (f + 1) (.enum ref) v = .ok t) : ∃ name, strNode name = .ok t := by
  simp only [encValue] at h
  split at h
  · split at h
    · exact ⟨_, h⟩
    · cases h
  · cases h

theorem encValue_object_ok {env : Env} {O : Oracle} {f : Nat} {ref : String} {v : PVal} {t : PTree}
    (h : encValue env O (f + 1) (.object ref) v = .ok t) :
    ∃ props fs, env.find ref = some (.object props) ∧ v = .msg fs ∧
      encObjectBody env O f props fs = .ok t := by
  simp only [encValue] at h
  split at h
  · next props fs hfind => exact ⟨props, fs, hfind, rfl, h⟩
  · cases h

theorem encValue_oneof_ok {env : Env} {O : Oracle} {f : Nat} {ref : String} {v : PVal} {t : PTree}
    (h : encValue env O (f + 1) (.oneof ref) v = .ok t) :
    ∃ ops fs, env.find ref = some (.oneof ops) ∧ v = .msg fs ∧
      encOneofBody env O f ops fs = .ok t := by
  simp only [encValue] at h
  split at h
  · next ops fs hfind => exact ⟨ops, fs, hfind, rfl, h⟩
  · cases h

theorem mem_membersOfSet {os : List (Option (Bytes × Bytes × PTree))} {e : Bytes × Bytes × PTree}
    (h : e ∈ os.reduceOption) : some e ∈ os := by
  obtain ⟨o, ho, rfl⟩ := List.mem_filterMap.mp h
  exact ho

theorem encValue_array_ok {env : Env} {O : Oracle} {f : Nat} {item : Field} {v : PVal} {t : PTree}
    (h : encValue env O (f + 1) (.array item) v = .ok t) :
    ∃ xs ts, v = .list xs ∧ t = .arr (elemsOf ts) ∧
      ∀ t' ∈ ts, ∃ x ∈ xs, encValue env O f item x = .ok t' := by
  rw [encValue_array_eq] at h
  split at h
  · split at h
    · next xs =>
      obtain ⟨ts, hs, rfl⟩ := map_eq_ok h
      exact ⟨xs, ts, rfl, rfl, Outcome.seq_ok_mem hs⟩
    · cases h
  · cases h

theorem encValue_map_ok {env : Env} {O : Oracle} {f : Nat} {item : Field} {v : PVal} {t : PTree}
    (h : encValue env O (f + 1) (.map item) v = .ok t) :
    ∃ kvs es, v = .map kvs ∧ t = .obj (membersOf es) ∧
      ∀ e ∈ es, ∃ kv ∈ kvs, e.1 = kv.1 ∧ appendString kv.1 = .ok e.2.1 ∧
        encValue env O f item kv.2 = .ok e.2.2 := by
  rw [encValue_map_eq] at h
  split at h
  · split at h
    · next kvs =>
      obtain ⟨os, hs, rfl⟩ := map_eq_ok h
      refine ⟨kvs, os.reduceOption, rfl, rfl, fun e he => ?_⟩
      obtain ⟨kv, hkv, hm⟩ := Outcome.seq_ok_mem hs _ (mem_membersOfSet he)
      obtain ⟨lit, t', ha, ht', hr⟩ := member_ok_inv _ _ _ hm
      cases hr
      exact ⟨kv, hkv, rfl, ha, ht'⟩
    · cases h
  · cases h

theorem anyFrame_ok {tn : Bytes} {data t : PTree} (h : anyFrame tn data = .ok t) :
    ∃ typeLit tnNode valueLit, appendString typeKey = .ok typeLit ∧ strNode tn = .ok tnNode ∧
      appendString valueKey = .ok valueLit ∧
      t = .obj (.cons typeKey typeLit tnNode (.cons valueKey valueLit data (.nil .closed))) := by
  unfold anyFrame at h
  split at h
  · next typeLit tnNode valueLit h1 h2 h3 => cases h; exact ⟨typeLit, tnNode, valueLit, h1, h2, h3, rfl⟩
  all_goals cases h

theorem encValue_any_ok {env : Env} {O : Oracle} {f : Nat} {pb : Bool} {v : PVal} {t : PTree}
    (h : encValue env O (f + 1) (.any pb) v = .ok t) :
    ∃ tn j5 iroot inner typeLit tnNode valueLit data,
      ((∃ proto ik, v = .anyJ5 tn proto j5 ik iroot inner) ∨
        (∃ url val ik, v = .anyPb url val ik iroot inner ∧ tn = trimPrefix url anyPrefix ∧ j5 = [])) ∧
      (j5.isEmpty = false ∧ data = chunkNode O j5 ∨
        j5.isEmpty = true ∧ encRoot env O f iroot inner = .ok data) ∧
      appendString typeKey = .ok typeLit ∧ strNode tn = .ok tnNode ∧
      appendString valueKey = .ok valueLit ∧
      t = .obj (.cons typeKey typeLit tnNode (.cons valueKey valueLit data (.nil .closed))) := by
  rw [encValue_any_eq] at h
  cases hparts : anyParts v with
  | none => rw [hparts] at h; cases h
  | some x =>
    obtain ⟨tn, j5, hasProto, ik, iroot, inner⟩ := x
    rw [hparts] at h
    obtain ⟨data, hdata, hf⟩ := bind_eq_ok h
    obtain ⟨typeLit, tnNode, valueLit, h1, h2, h3, rfl⟩ := anyFrame_ok hf
    refine ⟨tn, j5, iroot, inner, typeLit, tnNode, valueLit, data, ?_, ?_, h1, h2, h3, rfl⟩
    · cases v <;> simp only [anyParts, Option.some.injEq, Prod.mk.injEq, reduceCtorEq] at hparts
      · obtain ⟨rfl, rfl, _, rfl, rfl, rfl⟩ := hparts; exact .inl ⟨_, _, rfl⟩
      · obtain ⟨rfl, rfl, _, rfl, rfl, rfl⟩ := hparts; exact .inr ⟨_, _, _, rfl, rfl, rfl⟩
    · split at hdata
      · next hj => cases hdata; exact .inl ⟨by simpa using hj, rfl⟩
      · next hj =>
        split at hdata
        · cases ik <;> first | cases hdata | exact .inr ⟨by simpa using hj, hdata⟩
        · cases hdata

theorem encField_ok {env : Env} {O : Oracle} {f : Nat} {p : PropDef} {m : Fields} {t : PTree}
    (h : encField env O (f + 1) p m = .ok (some t)) :
    (∃ ref ops, p.path = [] ∧ p.field = .oneof ref ∧ env.find ref = some (.oneof ops) ∧
        encOneofBody env O f ops m = .ok t) ∨
    (∃ v, p.path ≠ [] ∧ getPath m p.path = some v ∧ encValue env O f p.field v = .ok t) := by
  by_cases hp : p.path = []
  · rw [encField_exposed_eq env O f p m hp] at h
    split at h
    · next ref hfld =>
      split at h
      · next ops hfind =>
        split at h
        · obtain ⟨t', ht', e⟩ := map_eq_ok h
          cases e; exact .inl ⟨ref, ops, hp, hfld, hfind, ht'⟩
        · cases h
      · cases h
    · cases h
  · rw [encField_path_eq env O f p m hp] at h
    split at h
    · cases h
    · next v hv =>
      obtain ⟨t', ht', e⟩ := map_eq_ok h
      cases e; exact .inr ⟨v, hp, hv, ht'⟩

theorem encObjectBody_ok {env : Env} {O : Oracle} {f : Nat} {props : List PropDef} {m : Fields}
    {t : PTree} (h : encObjectBody env O (f + 1) props m = .ok t) :
    ∃ es, t = .obj (membersOf es) ∧
      ∀ e ∈ es, ∃ q ∈ props, ∃ t', encField env O f q m = .ok (some t') ∧
        member q.jsonName (.ok t') = .ok (some e) := by
  rw [encObjectBody_eq] at h
  obtain ⟨os, hs, rfl⟩ := map_eq_ok h
  refine ⟨os.reduceOption, rfl, fun e he => ?_⟩
  obtain ⟨p, _, hgp⟩ := Outcome.seq_ok_mem hs _ (mem_membersOfSet he)
  cases hq : findProp props p.jsonName with
  | none => simp [objMember, hq] at hgp
  | some q =>
    rw [objMember_eq env O f props m p q hq] at hgp
    obtain ⟨o, ho, hm⟩ := bind_eq_ok hgp
    cases o with
    | none => cases hm
    | some t' => exact ⟨q, findProp_mem props _ q hq, t', ho, hm⟩

theorem encOneofBody_ok {env : Env} {O : Oracle} {f : Nat} {ops : List PropDef} {m : Fields}
    {t : PTree} (h : encOneofBody env O (f + 1) ops m = .ok t) :
    t = .obj (.nil .closed) ∨
    ∃ q ∈ ops, ∃ nameNode typeLit t' e, strNode q.jsonName = .ok nameNode ∧
      appendString typeKey = .ok typeLit ∧ encField env O f q m = .ok (some t') ∧
      member q.jsonName (.ok t') = .ok (some e) ∧
      t = .obj (.cons typeKey typeLit nameNode (.cons e.1 e.2.1 e.2.2 (.nil .closed))) := by
  rw [encOneofBody_eq] at h
  split at h
  · cases h; exact .inl rfl
  · next q0 _ =>
    split at h
    · cases h
    · next q hq =>
      obtain ⟨nameNode, hn, h⟩ := bind_eq_ok h
      obtain ⟨typeLit, htl, h⟩ := bind_eq_ok h
      obtain ⟨o, ho, h⟩ := bind_eq_ok h
      cases o with
      | none => cases h
      | some t' =>
        obtain ⟨r, hr, h⟩ := bind_eq_ok h
        cases r with
        | none => cases h
        | some e =>
          cases h
          exact .inr ⟨q, findProp_mem ops _ q hq, nameNode, typeLit, t', e, hn, htl, ho, hr, rfl⟩
  · cases h
theorem encRoot_ok {env : Env} {O : Oracle} {f : Nat} {r : String} {v : PVal} {t : PTree}
    (h : encRoot env O (f + 1) r v = .ok t) :
    ∃ ps fs, v = .msg fs ∧
      (env.find r = some (.object ps) ∧ encObjectBody env O f ps fs = .ok t ∨
        env.find r = some (.oneof ps) ∧ encOneofBody env O f ps fs = .ok t) := by
  simp only [encRoot] at h
  split at h
  · next props fs hfind => exact ⟨props, fs, rfl, .inl ⟨hfind, h⟩⟩
  · next ops fs hfind => exact ⟨ops, fs, rfl, .inr ⟨hfind, h⟩⟩
  · cases h

end J5V.Codec
