import J5V.Codec.Steps
import J5V.Json.SizeProofs
/-!
# The decoder's step count is linear in the size of the document (C06)
-/
namespace J5V.Codec
open J5V.Go J5V.Json

/-- the factor: one pass, plus one more for every level of `Any` that may still be expanded -/
def anyFactor (c : Cfg) : Nat := (maxAnyDepth - c.anyDepth) + 1

theorem anyFactor_pos (c : Cfg) : 1 ≤ anyFactor c := by unfold anyFactor; omega

theorem anyFactor_succ (c : Cfg) (h : c.anyDepth < maxAnyDepth) :
    anyFactor { c with anyDepth := c.anyDepth + 1 } + 1 = anyFactor c := by
  unfold anyFactor; simp only []; omega

theorem bound_leaf (K n : Nat) (hK : 1 ≤ K) (hn : 1 ≤ n) : 1 ≤ K * (2 * n) := by
  have : 1 * (2 * 1) ≤ K * (2 * n) := Nat.mul_le_mul hK (Nat.mul_le_mul_left 2 hn)
  omega

theorem bound_node (K a x : Nat) (hK : 1 ≤ K) (hx : x ≤ K * (2 * a)) : 1 + x ≤ K * (2 * (a + 1)) := by
  have h1 : K * (2 * (a + 1)) = K * (2 * a) + K * 2 := by rw [Nat.mul_add 2 a 1, Nat.mul_add]
  rw [h1]; omega

theorem bound_cons (K a b x y : Nat) (hK : 1 ≤ K) (hx : x ≤ K * (2 * a)) (hy : y ≤ K * (2 * b)) :
    1 + x + y ≤ K * (2 * (a + b + 1)) := by
  have h1 : K * (2 * (a + b + 1)) = K * (2 * a) + K * (2 * b) + K * 2 := by
    rw [Nat.mul_add 2 (a + b) 1, Nat.mul_add 2 a b, Nat.mul_add, Nat.mul_add]
  rw [h1]; omega

theorem size_pos (t : PTree) : 1 ≤ t.size := by
  cases t <;> simp [PTree.size] <;> omega

theorem msize_pos (ms : PMembers) : 1 ≤ ms.size := by
  cases ms <;> simp [PMembers.size] <;> omega

theorem esize_pos (xs : PElems) : 1 ≤ xs.size := by
  cases xs <;> simp [PElems.size] <;> omega

/-- the value of an `Any`: re-scan + (optionally) decode again one level deeper -/
theorem bound_any (K K' s b y z : Nat) (hK' : K' + 1 ≤ K) (hy : y ≤ K' * (2 * s))
    (hz : z ≤ K * (2 * b)) : 1 + 2 * s + y + z ≤ K * (2 * (s + b + 1)) := by
  have h1 : K * (2 * (s + b + 1)) = K * (2 * s) + K * (2 * b) + K * 2 := by
    rw [Nat.mul_add 2 (s + b) 1, Nat.mul_add 2 s b, Nat.mul_add, Nat.mul_add]
  have h2 : (K' + 1) * (2 * s) ≤ K * (2 * s) := Nat.mul_le_mul_right _ hK'
  have h3 : (K' + 1) * (2 * s) = K' * (2 * s) + 2 * s := by rw [Nat.add_mul]; omega
  rw [h1]; omega

theorem decRootTreeN_eq (c : Cfg) (root : String) (t : PTree) :
    decRootTreeN c root t =
      match c.env.find root with
      | some (.object props) => decObjectN c props t
      | some (.oneof ops) => decOneofN c ops t
      | _ => 1 := by
  unfold decRootTreeN decObjectN decOneofN
  cases c.env.find root with
  | none => rfl
  | some r => cases r <;> rfl

/-- the steps spent on one array element / map value, given the bound for an object / oneof value -/
theorem decItemN_le (c : Cfg) (item : Field) (v : PTree) (B : Nat) (hB : 1 ≤ B)
    (hobj : ∀ sub, decObjectN c sub v ≤ B) (hone : ∀ ops, decOneofN c ops v ≤ B) :
    (match item with
     | .object ref =>
       match c.env.find ref with
       | some (.object sub) => decObjectN c sub v
       | _ => 0
     | .oneof ref =>
       match c.env.find ref with
       | some (.oneof ops) => decOneofN c ops v
       | _ => 0
     | _ => 1) ≤ B := by
  split
  · split
    · exact hobj _
    · exact Nat.zero_le _
  · split
    · exact hone _
    · exact Nat.zero_le _
  · exact hB

mutual
theorem decPropN_le (c : Cfg) (props : List PropDef) (p : PropDef) (t : PTree) (st : PS) :
    decPropN c props p t st ≤ anyFactor c * (2 * t.size) := by
  have hK := anyFactor_pos c
  have hleaf : 1 ≤ anyFactor c * (2 * t.size) := bound_leaf _ _ hK (size_pos t)
  unfold decPropN
  split
  · exact hleaf
  · exact hleaf
  · cases t with
    | obj ms =>
      dsimp only
      split
      · split
        · next sub _ => exact bound_node _ _ _ hK (decObjMembersN_le c sub ms _)
        · exact hleaf
      · exact hleaf
    | _ => exact hleaf
  · cases t with
    | obj ms =>
      dsimp only
      split
      · split
        · next ops _ => exact bound_node _ _ _ hK (decOneofMembersN_le c ops ms _)
        · exact hleaf
      · exact hleaf
    | _ => exact hleaf
  · cases t with
    | obj ms => exact bound_node _ _ _ hK (decAnyMembersN_le c _ ms)
    | _ => exact hleaf
  · cases t with
    | arr xs => exact bound_node _ _ _ hK (decElemsN_le c _ xs)
    | _ => exact hleaf
  · cases t with
    | obj ms => exact bound_node _ _ _ hK (decMapMembersN_le c _ ms)
    | _ => exact hleaf
termination_by structural t

theorem decObjMembersN_le (c : Cfg) (props : List PropDef) (ms : PMembers) (st : PS) :
    decObjMembersN c props ms st ≤ anyFactor c * (2 * ms.size) := by
  have hK := anyFactor_pos c
  cases ms with
  | nil term => exact bound_leaf _ _ hK (msize_pos _)
  | cons k kr v rest =>
    unfold decObjMembersN
    split
    · exact bound_leaf _ _ hK (msize_pos _)
    · next p _ =>
      apply bound_cons _ _ _ _ _ hK (decPropN_le c props p v st)
      split
      · exact decObjMembersN_le c props rest _
      · exact Nat.zero_le _
termination_by structural ms

theorem decOneofMembersN_le (c : Cfg) (ops : List PropDef) (ms : PMembers) (st : PS) :
    decOneofMembersN c ops ms st ≤ anyFactor c * (2 * ms.size) := by
  have hK := anyFactor_pos c
  cases ms with
  | nil term => exact bound_leaf _ _ hK (msize_pos _)
  | cons k kr v rest =>
    unfold decOneofMembersN
    split
    · -- the `"!type"` member: one step, its value is not read
      exact bound_cons _ _ _ 0 _ hK (Nat.zero_le (anyFactor c * (2 * v.size)))
        (decOneofMembersN_le c ops rest st)
    · split
      · exact bound_leaf _ _ hK (msize_pos _)
      · next p _ =>
        apply bound_cons _ _ _ _ _ hK (decPropN_le c ops p v st)
        split
        · exact decOneofMembersN_le c ops rest _
        · exact Nat.zero_le _
termination_by structural ms

theorem decAnyMembersN_le (c : Cfg) (ftype : Option Bytes) (ms : PMembers) :
    decAnyMembersN c ftype ms ≤ anyFactor c * (2 * ms.size) := by
  have hK := anyFactor_pos c
  cases ms with
  | nil term => exact bound_leaf _ _ hK (msize_pos _)
  | cons k kr v rest =>
    unfold decAnyMembersN
    split
    · exact bound_cons _ _ _ 0 _ hK (Nat.zero_le (anyFactor c * (2 * v.size)))
        (decAnyMembersN_le c ftype rest)
    · split
      · exact bound_leaf _ _ hK (msize_pos _)
      · -- the inner decode, if any, happens one level deeper
        have hinner : ∃ K', K' + 1 ≤ anyFactor c ∧
            (match ftype with
             | none => 0
             | some tn =>
               if c.protoToAny && decide (c.anyDepth < maxAnyDepth) then
                 match c.env.resolve tn with
                 | none => 0
                 | some root => decRootTreeN { c with anyDepth := c.anyDepth + 1 } root v
               else 0) ≤ K' * (2 * v.size) := by
          cases ftype with
          | none => exact ⟨0, hK, Nat.zero_le _⟩
          | some tn =>
            dsimp only
            split
            · next hcond =>
              simp only [Bool.and_eq_true, decide_eq_true_eq] at hcond
              refine ⟨anyFactor { c with anyDepth := c.anyDepth + 1 },
                Nat.le_of_eq (anyFactor_succ c hcond.2), ?_⟩
              split
              · exact Nat.zero_le _
              · next root _ =>
                rw [decRootTreeN_eq]
                split
                · next props _ => exact decObjectN_le { c with anyDepth := c.anyDepth + 1 } props v
                · next ops _ => exact decOneofN_le { c with anyDepth := c.anyDepth + 1 } ops v
                · exact bound_leaf _ _ (anyFactor_pos _) (size_pos v)
            · exact ⟨0, hK, Nat.zero_le _⟩
        obtain ⟨K', hK', hy⟩ := hinner
        exact bound_any _ K' _ _ _ _ hK' hy (decAnyMembersN_le c ftype rest)
termination_by structural ms

theorem decElemsN_le (c : Cfg) (item : Field) (xs : PElems) :
    decElemsN c item xs ≤ anyFactor c * (2 * xs.size) := by
  cases xs with
  | nil term => exact bound_leaf _ _ (anyFactor_pos c) (esize_pos _)
  | cons v rest =>
    unfold decElemsN
    exact bound_cons _ _ _ _ _ (anyFactor_pos c) 
      (decItemN_le c item v _ (bound_leaf _ _ (anyFactor_pos c) (size_pos v))
        (fun sub => decObjectN_le c sub v) (fun ops => decOneofN_le c ops v))
      (decElemsN_le c item rest)
termination_by structural xs

theorem decMapMembersN_le (c : Cfg) (item : Field) (ms : PMembers) :
    decMapMembersN c item ms ≤ anyFactor c * (2 * ms.size) := by
  cases ms with
  | nil term => exact bound_leaf _ _ (anyFactor_pos c) (msize_pos _)
  | cons k kr v rest =>
    unfold decMapMembersN
    exact bound_cons _ _ _ _ _ (anyFactor_pos c) 
      (decItemN_le c item v _ (bound_leaf _ _ (anyFactor_pos c) (size_pos v))
        (fun sub => decObjectN_le c sub v) (fun ops => decOneofN_le c ops v))
      (decMapMembersN_le c item rest)
termination_by structural ms

theorem decObjectN_le (c : Cfg) (props : List PropDef) (t : PTree) :
    decObjectN c props t ≤ anyFactor c * (2 * t.size) := by
  have hK := anyFactor_pos c
  cases t with
  | obj ms => exact bound_node _ _ _ hK (decObjMembersN_le c props ms _)
  | _ => exact bound_leaf _ _ hK (size_pos _)
termination_by structural t

theorem decOneofN_le (c : Cfg) (ops : List PropDef) (t : PTree) :
    decOneofN c ops t ≤ anyFactor c * (2 * t.size) := by
  have hK := anyFactor_pos c
  cases t with
  | obj ms => exact bound_node _ _ _ hK (decOneofMembersN_le c ops ms _)
  | _ => exact bound_leaf _ _ hK (size_pos _)
termination_by structural t
end

theorem decRootTreeN_le (c : Cfg) (root : String) (t : PTree) :
    decRootTreeN c root t ≤ anyFactor c * (2 * t.size) := by
  rw [decRootTreeN_eq]
  split
  · next props _ => exact decObjectN_le c props t
  · next ops _ => exact decOneofN_le c ops t
  · exact bound_leaf _ _ (anyFactor_pos c) (size_pos t)

/-- a fresh codec (`anyDepth = 0`) on a byte string: the tree has at most five nodes per byte
(`readDoc_size`) and `anyFactor` is 101 -/
theorem decodeBytesN_linear (c : Cfg) (hd : c.anyDepth = 0) (root : String) (bs : Bytes) :
    decodeBytesN c root bs ≤ 1010 * bs.length + 2222 := by
  unfold decodeBytesN
  have h1 := decRootTreeN_le c root (readDoc bs)
  have h2 := readDoc_size bs
  have hf : anyFactor c = 101 := by unfold anyFactor maxAnyDepth; rw [hd]
  rw [hf] at h1
  omega

end J5V.Codec
