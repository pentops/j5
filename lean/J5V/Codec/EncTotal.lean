import J5V.Codec.EncodeEqs
import J5V.Codec.ConformProofs
import J5V.Codec.NPLemmas
import J5V.Codec.StoreProofs
import J5V.Json.EscapeProofs
/-!
# The fuel of the encoder model (C08): it is never exhausted, and above the bound it does not matter

`encValue / encObjectBody / encOneofBody / encField / encRoot` recurse on fuel; `.panic "fuel"` is the
only panic the encoder model can originate. For every environment whose oneof roots have members
with proto paths (`Env.oneofsPlain`: a oneof wrapper's members are fields of the wrapper — always so
for reflected schemas; every `Env.flat` environment) and EVERY message (representable or not), five
levels of the mutual recursion per nesting level of the message are enough: from that fuel on each
function returns one and the same result, and it is not a panic (`Agree`).
-/
namespace J5V.Codec
open J5V.Go J5V.Json

theorem oneofsPlain_find (env : Env) (h : env.oneofsPlain = true) (ref : String) (ops : List PropDef)
    (hf : env.find ref = some (.oneof ops)) : ∀ q ∈ ops, q.path ≠ [] := by
  obtain ⟨d, hm, hd⟩ := find_mem env ref _ hf
  unfold Env.oneofsPlain at h
  have := List.all_eq_true.mp h d hm
  rw [hd] at this
  intro q hq e
  have := List.all_eq_true.mp this q hq
  rw [e] at this
  cases this

theorem depth_getPath : ∀ (path : List Nat) (fs : Fields) (v : PVal),
    getPath fs path = some v → v.depth ≤ depthFields fs
  | [], fs, v, h => by simp [getPath] at h
  | [k], fs, v, h => by
    simp only [getPath] at h
    exact depthFields_mem fs k v (aget_mem k v fs h)
  | k :: k2 :: rest, fs, v, h => by
    simp only [getPath] at h
    split at h
    · next sub hs =>
      have h1 := depth_getPath (k2 :: rest) sub v h
      have h2 := depthFields_mem fs k _ (aget_mem k _ fs hs)
      simp only [PVal.depth] at h2
      omega
    · cases h


/-! ## helpers never originate a panic -/

theorem np_strNode (s : Bytes) : NP (strNode s) := by
  unfold strNode
  cases hx : appendString s with
  | ok lit => exact NP_ok _
  | err e => exact NP_err _
  | panic w => exact absurd hx ((appendString_total s).1 w)

theorem np_encodeScalar (O : Oracle) (k : ScalarKind) (v : PVal) : NP (encodeScalar O k v) := by
  intro w h
  unfold encodeScalar at h
  repeat' (split at h) <;> cases h

theorem np_scalarNode (O : Oracle) (k : ScalarKind) (v : PVal) : NP (scalarNode O k v) := by
  unfold scalarNode
  cases hx : encodeScalar O k v with
  | ok out =>
    cases out with
    | quoted s => exact np_strNode s
    | bare t => exact NP_ok _
  | err e => exact NP_err _
  | panic w => exact absurd hx (np_encodeScalar O k v w)

theorem np_member (name : Bytes) (v : Outcome PTree) (hv : NP v) : NP (member name v) := by
  unfold member
  cases hx : appendString name with
  | ok lit =>
    cases v with
    | ok t => exact NP_ok _
    | err e => exact NP_err _
    | panic w => exact absurd rfl (hv w)
  | err e => exact NP_err _
  | panic w => exact absurd hx ((appendString_total name).1 w)

/-- a `match r with | .ok a => g a | .err e => .err e | .panic w => .panic w` (a bind written out) never
originates a panic when `r` and every `g a` do not -/
theorem np_map {α β : Type} (r : Outcome α) (g : α → Outcome β) (hr : NP r) (hg : ∀ a, NP (g a)) :
    NP (match r with
      | .ok a => g a
      | .err e => .err e
      | .panic w => .panic w) := by
  cases r with
  | ok a => exact hg a
  | err e => exact NP_err _
  | panic w => exact absurd rfl (hr w)


theorem np_anyFrame (tn : Bytes) (data : PTree) : NP (anyFrame tn data) := by
  unfold anyFrame
  split
  · exact NP_ok _
  · exact absurd ‹appendString typeKey = Outcome.panic _› ((appendString_total typeKey).1 _)
  · exact absurd ‹strNode _ = Outcome.panic _› (np_strNode _ _)
  · exact absurd ‹appendString valueKey = Outcome.panic _› ((appendString_total valueKey).1 _)
  · exact NP_err _

/-- one function of the encoder at two fuels that are both enough: no panic, the same result -/
def Agree {α : Type} (a b : Outcome α) : Prop := NP a ∧ a = b

theorem Agree.of_np {α : Type} {a : Outcome α} (h : NP a) : Agree a a := ⟨h, rfl⟩

theorem Agree.ok {α : Type} (x : α) : Agree (Outcome.ok x) (.ok x) := .of_np (NP_ok x)

theorem Agree.err {α : Type} (e : String) : Agree (Outcome.err e : Outcome α) (.err e) :=
  .of_np (NP_err e)

theorem Agree.bind {α β : Type} {a b : Outcome α} {k k' : α → Outcome β} (h : Agree a b)
    (hk : ∀ x, Agree (k x) (k' x)) : Agree (a.bind k) (b.bind k') := by
  obtain ⟨hn, rfl⟩ := h
  cases a with
  | ok x => exact hk x
  | err e => exact .err e
  | panic w => exact absurd rfl (hn w)

theorem Agree.map {α β : Type} {a b : Outcome α} (h : Agree a b) (k : α → β) :
    Agree (a.map k) (b.map k) := by
  obtain ⟨hn, rfl⟩ := h
  cases a with
  | ok x => exact .ok _
  | err e => exact .err e
  | panic w => exact absurd rfl (hn w)

theorem Agree.seq {α β : Type} {g g' : α → Outcome β} {xs : List α}
    (h : ∀ x ∈ xs, Agree (g x) (g' x)) : Agree (Outcome.seq g xs) (Outcome.seq g' xs) := by
  induction xs with
  | nil => exact .ok _
  | cons x xs ih =>
    obtain ⟨hn, he⟩ := h x List.mem_cons_self
    obtain ⟨hn', he'⟩ := ih fun y hy => h y (List.mem_cons_of_mem _ hy)
    rw [Outcome.seq, Outcome.seq, ← he, ← he']
    cases hx : g x with
    | ok t =>
      cases hs : Outcome.seq g xs with
      | ok ts => exact .ok _
      | err e => exact .err e
      | panic w => exact absurd hs (hn' w)
    | err e => exact .err e
    | panic w => exact absurd hx (hn w)

theorem Agree.member (name : Bytes) {a b : Outcome PTree} (h : Agree a b) :
    Agree (member name a) (member name b) := by
  obtain ⟨hn, rfl⟩ := h
  exact .of_np (np_member name a hn)

theorem hasProp_plain (env : Env) (f : Nat) (p : PropDef) (m : Fields) (hp : p.path ≠ []) :
    hasProp env (f + 1) p m = (getPath m p.path).isSome := by
  unfold hasProp
  split
  · next h => exact absurd h hp
  · rfl

theorem oneofSet_stable (env : Env) (f g : Nat) (ops : List PropDef) (m : Fields)
    (hops : ∀ q ∈ ops, q.path ≠ []) :
    oneofSet env (f + 1) ops m = oneofSet env (g + 1) ops m := by
  funext q
  unfold oneofSet
  cases h : findProp ops q.jsonName with
  | none => rfl
  | some q' =>
    simp only []
    rw [hasProp_plain env f q' m (hops q' (findProp_mem ops _ q' h)),
      hasProp_plain env g q' m (hops q' (findProp_mem ops _ q' h))]

theorem hasProp_exposed_stable (env : Env) (hE : env.oneofsPlain = true) (f g : Nat) (p : PropDef)
    (m : Fields) (hp : p.path = []) : hasProp env (f + 2) p m = hasProp env (g + 2) p m := by
  unfold hasProp
  rw [hp]
  simp only []
  cases hf : p.field with
  | oneof ref =>
    simp only []
    cases hfind : env.find ref with
    | none => rfl
    | some r =>
      cases r with
      | oneof ops =>
        simp only []
        have := oneofSet_stable env f g ops m (oneofsPlain_find env hE ref ops hfind)
        unfold oneofSet at this
        rw [this]
      | _ => rfl
  | _ => rfl

theorem anyParts_depth {v inner : PVal} {tn j5 : Bytes} {hasProto : Bool} {ik : InnerKind}
    {iroot : String} (h : anyParts v = some (tn, j5, hasProto, ik, iroot, inner)) :
    inner.depth + 1 = v.depth := by
  cases v <;> simp only [anyParts, Option.some.injEq, Prod.mk.injEq, reduceCtorEq] at h
  all_goals obtain ⟨_, _, _, _, _, rfl⟩ := h; rfl

/-- the bounds: one nesting level of the message is at most the five calls `encodeObjectBody → GetValue →
encodeOneofBody → GetValue → encodeValue`, and each function needs what its callees need plus one -/
structure EncAgree (env : Env) (O : Oracle) (f g : Nat) : Prop where
  val : ∀ fld v, 5 * v.depth + 1 ≤ f → Agree (encValue env O f fld v) (encValue env O g fld v)
  obj : ∀ props fs, 5 * depthFields fs + 5 ≤ f →
    Agree (encObjectBody env O f props fs) (encObjectBody env O g props fs)
  one : ∀ ops fs, (∀ q ∈ ops, q.path ≠ []) → 5 * depthFields fs + 3 ≤ f →
    Agree (encOneofBody env O f ops fs) (encOneofBody env O g ops fs)
  fldE : ∀ p fs, p.path = [] → 5 * depthFields fs + 4 ≤ f →
    Agree (encField env O f p fs) (encField env O g p fs)
  fldP : ∀ p fs, p.path ≠ [] → 5 * depthFields fs + 2 ≤ f →
    Agree (encField env O f p fs) (encField env O g p fs)
  root : ∀ r v, 5 * v.depth + 1 ≤ f → Agree (encRoot env O f r v) (encRoot env O g r v)

variable {env : Env} {O : Oracle} {f g : Nat}

theorem EncAgree.fld (ih : EncAgree env O f g) (p : PropDef) (fs : Fields)
    (hd : 5 * depthFields fs + 4 ≤ f) : Agree (encField env O f p fs) (encField env O g p fs) := by
  cases hp : p.path with
  | nil => exact ih.fldE p fs hp hd
  | cons a b => exact ih.fldP p fs (by rw [hp]; simp) (by omega)

theorem EncAgree.fldP_succ (ih : EncAgree env O f g) (p : PropDef) (fs : Fields) (hp : p.path ≠ [])
    (hd : 5 * depthFields fs + 2 ≤ f + 1) :
    Agree (encField env O (f + 1) p fs) (encField env O (g + 1) p fs) := by
  rw [encField_path_eq env O f p fs hp, encField_path_eq env O g p fs hp]
  cases hg : getPath fs p.path with
  | none => exact .ok _
  | some v =>
    have := depth_getPath p.path fs v hg
    exact (ih.val p.field v (by omega)).map some

theorem EncAgree.fldE_succ (hE : env.oneofsPlain = true) (ih : EncAgree env O f g) (hfg : f ≤ g)
    (p : PropDef) (fs : Fields) (hp : p.path = []) (hd : 5 * depthFields fs + 4 ≤ f + 1) :
    Agree (encField env O (f + 1) p fs) (encField env O (g + 1) p fs) := by
  rw [encField_exposed_eq env O f p fs hp, encField_exposed_eq env O g p fs hp]
  obtain ⟨f', rfl⟩ : ∃ f', f = f' + 1 := ⟨f - 1, by omega⟩
  obtain ⟨g', rfl⟩ : ∃ g', g = g' + 1 := ⟨g - 1, by omega⟩
  rw [hasProp_exposed_stable env hE f' g' p fs hp]
  cases p.field with
  | oneof ref =>
    simp only []
    cases hfind : env.find ref with
    | none => exact .err _
    | some r =>
      cases r with
      | oneof ops =>
        simp only []
        split
        · exact (ih.one ops fs (oneofsPlain_find env hE ref ops hfind) (by omega)).map some
        · exact .ok _
      | _ => exact .err _
  | _ => exact .err _

theorem EncAgree.obj_succ (ih : EncAgree env O f g) (props : List PropDef) (fs : Fields)
    (hd : 5 * depthFields fs + 5 ≤ f + 1) :
    Agree (encObjectBody env O (f + 1) props fs) (encObjectBody env O (g + 1) props fs) := by
  rw [encObjectBody_eq, encObjectBody_eq]
  refine (Agree.seq fun p _ => ?_).map _
  cases hq : findProp props p.jsonName with
  | none => simp only [objMember, hq]; exact .err _
  | some q =>
    rw [objMember_eq env O f props fs p q hq, objMember_eq env O g props fs p q hq]
    refine (ih.fld q fs (by omega)).bind fun o => .of_np ?_
    cases o with
    | none => exact NP_ok _
    | some t => exact np_member _ _ (NP_ok _)

theorem EncAgree.one_succ (ih : EncAgree env O f g) (ops : List PropDef) (fs : Fields)
    (hops : ∀ q ∈ ops, q.path ≠ []) (hd : 5 * depthFields fs + 3 ≤ f + 1) :
    Agree (encOneofBody env O (f + 1) ops fs) (encOneofBody env O (g + 1) ops fs) := by
  rw [encOneofBody_eq, encOneofBody_eq, oneofSet_stable env f g ops fs hops]
  split
  · exact .ok _
  · next q0 _ =>
    cases hq : findProp ops q0.jsonName with
    | none => exact .err _
    | some q =>
      refine Agree.bind (.of_np (np_strNode _)) fun nameNode =>
        Agree.bind (.of_np (appendString_total typeKey).1) fun typeLit =>
        Agree.bind (ih.fldP q fs (hops q (findProp_mem ops _ q hq)) (by omega)) fun o => .of_np ?_
      cases o with
      | none => exact NP_err _
      | some t =>
        refine NP_bind _ _ (np_member _ _ (NP_ok _)) fun r => ?_
        cases r with
        | none => exact NP_err _
        | some e => exact NP_ok _
  · exact .err _

theorem EncAgree.root_succ (hE : env.oneofsPlain = true) (ih : EncAgree env O f g) (r : String)
    (v : PVal) (hd : 5 * v.depth + 1 ≤ f + 1) :
    Agree (encRoot env O (f + 1) r v) (encRoot env O (g + 1) r v) := by
  unfold encRoot
  split
  · next props fs hfind =>
    simp only [PVal.depth] at hd
    exact ih.obj props fs (by omega)
  · next ops fs hfind =>
    simp only [PVal.depth] at hd
    exact ih.one ops fs (oneofsPlain_find env hE r ops hfind) (by omega)
  · exact .err _

theorem EncAgree.val_succ (hE : env.oneofsPlain = true) (ih : EncAgree env O f g) (fld : Field)
    (v : PVal) (hd : 5 * v.depth + 1 ≤ f + 1) :
    Agree (encValue env O (f + 1) fld v) (encValue env O (g + 1) fld v) := by
  cases fld with
  | scalar k => simp only [encValue]; exact .of_np (np_scalarNode O k v)
  | «enum» ref =>
    simp only [encValue]
    refine .of_np ?_
    split
    · split
      · exact np_strNode _
      · exact NP_err _
    · exact NP_err _
  | object ref =>
    simp only [encValue]
    split
    · next props fs hfind =>
      simp only [PVal.depth] at hd
      exact ih.obj props fs (by omega)
    · exact .err _
  | oneof ref =>
    simp only [encValue]
    split
    · next ops fs hfind =>
      simp only [PVal.depth] at hd
      exact ih.one ops fs (oneofsPlain_find env hE ref ops hfind) (by omega)
    · exact .err _
  | array item =>
    rw [encValue_array_eq, encValue_array_eq]
    split
    · split
      · next xs =>
        simp only [PVal.depth] at hd
        refine (Agree.seq fun x hx => ?_).map _
        have := depthList_mem xs x hx
        exact ih.val item x (by omega)
      · exact .err _
    · exact .err _
  | map item =>
    rw [encValue_map_eq, encValue_map_eq]
    split
    · split
      · next kvs =>
        simp only [PVal.depth] at hd
        refine (Agree.seq fun kv hkv => ?_).map _
        have := depthMap_mem kvs kv.1 kv.2 hkv
        exact (ih.val item kv.2 (by omega)).member kv.1
      · exact .err _
    · exact .err _
  | any pb =>
    rw [encValue_any_eq, encValue_any_eq]
    cases hparts : anyParts v with
    | none => exact .err _
    | some x =>
      obtain ⟨tn, j5, hasProto, ik, iroot, inner⟩ := x
      have := anyParts_depth hparts
      refine Agree.bind ?_ fun data => .of_np (np_anyFrame tn data)
      split
      · exact .ok _
      · split
        · cases ik with
          | inn => exact ih.root iroot inner (by omega)
          | _ => exact .err _
        · exact .err _

theorem encAgree (env : Env) (O : Oracle) (hE : env.oneofsPlain = true) :
    ∀ f g, f ≤ g → EncAgree env O f g := by
  intro f
  induction f with
  | zero =>
    intro g _
    refine ⟨?_, ?_, ?_, ?_, ?_, ?_⟩
    · intro _ _ h; omega
    · intro _ _ h; omega
    · intro _ _ _ h; omega
    · intro _ _ _ h; omega
    · intro _ _ _ h; omega
    · intro _ _ h; omega
  | succ f ih =>
    intro g hg
    obtain ⟨g', rfl⟩ : ∃ g', g = g' + 1 := ⟨g - 1, by omega⟩
    have ih' := ih g' (by omega)
    exact ⟨ih'.val_succ hE, ih'.obj_succ, ih'.one_succ, ih'.fldE_succ hE (by omega), ih'.fldP_succ,
      ih'.root_succ hE⟩

/-- **the encoder model never panics**: every message, every root, at the fuel `encodeTree` uses -/
theorem encodeTree_np (env : Env) (O : Oracle) (hE : env.oneofsPlain = true) (root : String)
    (v : PVal) : NP (encodeTree env O root v) := by
  unfold encodeTree encFuel
  exact ((encAgree env O hE _ _ (Nat.le_refl _)).root root v (by omega)).1

theorem encodeBytes_np (env : Env) (O : Oracle) (hE : env.oneofsPlain = true) (root : String)
    (v : PVal) : NP (encodeBytes env O root v) := by
  unfold encodeBytes
  cases hx : encodeTree env O root v with
  | ok t => exact NP_ok _
  | err e => exact NP_err _
  | panic w => exact absurd hx (encodeTree_np env O hE root v w)

/-- **fuel independence**: at every fuel from `encFuel` on, the encoder model computes the same
tree — `encodeTree` is the fuel-free semantics of the encoder -/
theorem encRoot_fuel_stable (env : Env) (O : Oracle) (hE : env.oneofsPlain = true) (root : String)
    (v : PVal) (F : Nat) (hF : encFuel v ≤ F) : encRoot env O F root v = encodeTree env O root v := by
  unfold encodeTree
  exact ((encAgree env O hE (encFuel v) F hF).root root v (by unfold encFuel; omega)).2.symm

/-- flat environments qualify -/
theorem oneofsPlain_of_flat (env : Env) (h : env.flat = true) : env.oneofsPlain = true := by
  unfold Env.flat at h
  simp only [Bool.and_eq_true] at h
  unfold Env.oneofsPlain
  apply List.all_eq_true.mpr
  intro d hd
  have hr := List.all_eq_true.mp h.1 d hd
  cases hd2 : d.2 with
  | oneof ps =>
    rw [hd2] at hr
    simp only [rootFlat] at hr
    obtain ⟨hsimple, _, _, _⟩ := oneof_root_facts ps hr
    apply List.all_eq_true.mpr
    intro p hp
    obtain ⟨k, hk⟩ := propSimple_path p (hsimple p hp)
    rw [hk]; rfl
  | _ => rfl

end J5V.Codec
