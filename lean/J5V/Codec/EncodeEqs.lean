import J5V.Codec.Encode
import J5V.Codec.Conform
import J5V.Go.OutcomeLemmas
/-!
# The encoder in sequenced form

`Encode.lean` follows the Go text: every call is followed by its own `match … | .err e => .err e
| .panic w => .panic w`, and the loops are folds with `consElem` / `consMember`. Here the arms with such
plumbing are stated once more with `Outcome.bind`, `Outcome.map` and `Outcome.seq`.

Trap: a `match` written here is the model's own matcher only where its text is the model's; `Outcome.bind` /
`map` have their own, not definitionally the model's on a stuck scrutinee: so each equation is by cases on it.
-/
namespace J5V.Codec
open J5V.Go J5V.Json

def elemsOf : List PTree → PElems
  | [] => .nil .closed
  | t :: ts => .cons t (elemsOf ts)

def membersOf : List (Bytes × Bytes × PTree) → PMembers
  | [] => .nil .closed
  | (k, kr, t) :: rest => .cons k kr t (membersOf rest)

theorem foldr_consElem_eq {α : Type} (g : α → Outcome PTree) (xs : List α) :
    xs.foldr (fun x acc => consElem (g x) acc) (.ok (.nil .closed)) =
      (Outcome.seq g xs).map elemsOf := by
  induction xs with
  | nil => rfl
  | cons x xs ih =>
    rw [List.foldr_cons, ih, Outcome.seq]
    cases g x with
    | ok t => cases Outcome.seq g xs <;> rfl
    | err e => rfl
    | panic w => rfl

def membersOfSet (os : List (Option (Bytes × Bytes × PTree))) : PMembers :=
  membersOf os.reduceOption

theorem foldr_consMember_eq {α : Type} (g : α → Outcome (Option (Bytes × Bytes × PTree)))
    (xs : List α) :
    xs.foldr (fun x acc => consMember (g x) acc) (.ok (.nil .closed)) =
      (Outcome.seq g xs).map membersOfSet := by
  induction xs with
  | nil => rfl
  | cons x xs ih =>
    rw [List.foldr_cons, ih, Outcome.seq]
    cases g x with
    | ok o =>
      cases o with
      | none => cases Outcome.seq g xs <;> rfl
      | some e => obtain ⟨k, kr, t⟩ := e; cases Outcome.seq g xs <;> rfl
    | err e => rfl
    | panic w => rfl

theorem encValue_array_eq (env : Env) (O : Oracle) (f : Nat) (item : Field) (v : PVal) :
    encValue env O (f + 1) (.array item) v =
      if itemSimple item then
        match v with
        | .list xs => (Outcome.seq (encValue env O f item) xs).map fun ts => .arr (elemsOf ts)
        | _ => .err "array"
      else .err "unsupported array item schema" := by
  simp only [encValue, foldr_consElem_eq]
  cases item <;> simp only [itemSimple, if_true, Bool.false_eq_true, if_false] <;> cases v <;>
    first | rfl | (simp only []; cases Outcome.seq _ _ <;> rfl)

theorem encValue_map_eq (env : Env) (O : Oracle) (f : Nat) (item : Field) (v : PVal) :
    encValue env O (f + 1) (.map item) v =
      if itemSimple item then
        match v with
        | .map kvs =>
          (Outcome.seq (fun kv : Bytes × PVal => member kv.1 (encValue env O f item kv.2)) kvs).map
            fun os => .obj (membersOfSet os)
        | _ => .err "map"
      else .err "unsupported schema type" := by
  simp only [encValue, foldr_consMember_eq]
  cases item <;> simp only [itemSimple, if_true, Bool.false_eq_true, if_false] <;> cases v <;>
    first | rfl | (simp only []; cases Outcome.seq _ _ <;> rfl)

/-- `GetJ5Any`, for either kind of `Any` -/
def anyParts : PVal → Option (Bytes × Bytes × Bool × InnerKind × String × PVal)
  | .anyJ5 tn proto j5 ik iroot inner => some (tn, j5, !proto.isEmpty, ik, iroot, inner)
  | .anyPb url _ ik iroot inner => some (trimPrefix url anyPrefix, [], true, ik, iroot, inner)
  | _ => none

/-- `{"!type": tn, "value": data}` -/
def anyFrame (tn : Bytes) (data : PTree) : Outcome PTree :=
  match appendString typeKey, strNode tn, appendString valueKey with
  | .ok typeLit, .ok tnNode, .ok valueLit =>
    .ok (.obj (.cons typeKey typeLit tnNode (.cons valueKey valueLit data (.nil .closed))))
  | .panic w, _, _ => .panic w
  | _, .panic w, _ => .panic w
  | _, _, .panic w => .panic w
  | _, _, _ => .err "invalid UTF-8"

theorem encValue_any_eq (env : Env) (O : Oracle) (f : Nat) (pb : Bool) (v : PVal) :
    encValue env O (f + 1) (.any pb) v =
      match anyParts v with
      | none => .err "any"
      | some (tn, j5, hasProto, ik, iroot, inner) =>
        Outcome.bind
          (if !j5.isEmpty then .ok (chunkNode O j5)
            else if hasProto then
              match ik with
              | .none => .err "resolver: not found"
              | .bad => .err "proto.Unmarshal"
              | .inn => encRoot env O f iroot inner
            else .err "any has neither j5_json nor proto content")
          (anyFrame tn) := by
  simp only [encValue]
  cases v with
  | anyJ5 tn proto j5 ik iroot inner =>
    simp only [anyParts]
    generalize (if (!j5.isEmpty) = true then _ else _ : Outcome PTree) = r
    cases r <;> rfl
  | anyPb url val ik iroot inner =>
    simp only [anyParts]
    generalize (if (!([] : Bytes).isEmpty) = true then _ else _ : Outcome PTree) = r
    cases r <;> rfl
  | _ => rfl

theorem encField_path_eq (env : Env) (O : Oracle) (f : Nat) (p : PropDef) (m : Fields)
    (hp : p.path ≠ []) :
    encField env O (f + 1) p m =
      match getPath m p.path with
      | none => .ok none
      | some v => (encValue env O f p.field v).map some := by
  rw [encField]
  cases hpp : p.path with
  | nil => exact absurd hpp hp
  | cons a t =>
    simp only []
    cases getPath m (a :: t) with
    | none => rfl
    | some v => simp only []; cases encValue env O f p.field v <;> rfl

theorem encField_exposed_eq (env : Env) (O : Oracle) (f : Nat) (p : PropDef) (m : Fields)
    (hp : p.path = []) :
    encField env O (f + 1) p m =
      match p.field with
      | .oneof ref =>
        match env.find ref with
        | some (.oneof ops) =>
          if hasProp env (f + 1) p m then (encOneofBody env O f ops m).map some else .ok none
        | _ => .err "oneof ref"
      | _ => .err "Reflection Bug: no proto field and not a oneof" := by
  rw [encField, hp]
  cases p.field with
  | oneof ref =>
    simp only []
    cases env.find ref with
    | none => rfl
    | some r =>
      cases r with
      | oneof ops =>
        simp only []
        split
        · cases encOneofBody env O f ops m <;> rfl
        · rfl
      | _ => rfl
  | _ => rfl

/-- what one property contributes to an object body -/
def objMember (env : Env) (O : Oracle) (f : Nat) (props : List PropDef) (m : Fields) (p : PropDef) :
    Outcome (Option (Bytes × Bytes × PTree)) :=
  match findProp props p.jsonName with
  | none => .err "no property"
  | some q =>
    match encField env O f q m with
    | .ok none => .ok none
    | .ok (some t) => member q.jsonName (.ok t)
    | .err e => .err e
    | .panic w => .panic w

theorem objMember_eq (env : Env) (O : Oracle) (f : Nat) (props : List PropDef) (m : Fields)
    (p q : PropDef) (h : findProp props p.jsonName = some q) :
    objMember env O f props m p =
      (encField env O f q m).bind fun
        | none => .ok none
        | some t => member q.jsonName (.ok t) := by
  simp only [objMember, h]
  cases encField env O f q m with
  | ok o => cases o <;> rfl
  | err e => rfl
  | panic w => rfl

theorem encObjectBody_eq (env : Env) (O : Oracle) (f : Nat) (props : List PropDef) (m : Fields) :
    encObjectBody env O (f + 1) props m =
      (Outcome.seq (objMember env O f props m) props).map fun os => .obj (membersOfSet os) := by
  rw [encObjectBody]
  show (match props.foldr (fun p acc => consMember (objMember env O f props m p) acc)
      (.ok (.nil .closed)) with
    | .ok ms => Outcome.ok (PTree.obj ms)
    | .err e => .err e
    | .panic w => .panic w) = _
  rw [foldr_consMember_eq]
  cases Outcome.seq (objMember env O f props m) props <;> rfl

/-- `{"!type": name, name: value}` for the member `q` that is set -/
def oneofSetMember (env : Env) (O : Oracle) (f : Nat) (m : Fields) (q : PropDef) : Outcome PTree :=
  (strNode q.jsonName).bind fun nameNode =>
  (appendString typeKey).bind fun typeLit =>
  (encField env O f q m).bind fun
    | none => .err "value vanished"
    | some t =>
      (member q.jsonName (.ok t)).bind fun
        | some (k, kraw, v) =>
          .ok (.obj (.cons typeKey typeLit nameNode (.cons k kraw v (.nil .closed))))
        | none => .err "unreachable"

theorem encOneofBody_eq (env : Env) (O : Oracle) (f : Nat) (ops : List PropDef) (m : Fields) :
    encOneofBody env O (f + 1) ops m =
      match ops.filter (oneofSet env (f + 1) ops m) with
      | [] => .ok (.obj (.nil .closed))
      | [q0] =>
        match findProp ops q0.jsonName with
        | none => .err "no property"
        | some q => oneofSetMember env O f m q
      | _ => .err "multiple values set for oneof" := by
  rw [encOneofBody]
  generalize ops.filter (oneofSet env (f + 1) ops m) = l
  match l with
  | [] => rfl
  | _ :: _ :: _ => rfl
  | [q0] =>
    simp only []
    cases findProp ops q0.jsonName with
    | none => rfl
    | some q =>
      simp only [oneofSetMember]
      cases strNode q.jsonName with
      | ok nameNode =>
        cases appendString typeKey with
        | ok typeLit =>
          cases encField env O f q m with
          | ok o =>
            cases o with
            | none => rfl
            | some t =>
              simp only [Outcome.bind]
              cases member q.jsonName (.ok t) with
              | ok r => cases r <;> rfl
              | err e => rfl
              | panic w => rfl
          | err e => rfl
          | panic w => rfl
        | err e => rfl
        | panic w => rfl
      | err e => rfl
      | panic w => rfl

theorem strNode_ok_inv (s : Bytes) (t : PTree) (h : strNode s = .ok t) :
    ∃ lit, appendString s = .ok lit ∧ t = .str s lit := by
  unfold strNode at h
  cases ha : appendString s with
  | ok lit => simp only [ha] at h; cases h; exact ⟨lit, rfl, rfl⟩
  | err e => simp [ha] at h
  | panic w => simp [ha] at h

theorem bareNode_cases (t : Bytes) :
    t = ascii "true" ∧ bareNode t = .bool true ∨ t = ascii "false" ∧ bareNode t = .bool false ∨
      t ≠ ascii "true" ∧ t ≠ ascii "false" ∧ bareNode t = .num t := by
  unfold bareNode
  by_cases h1 : t = ascii "true"
  · rw [if_pos h1]; exact .inl ⟨h1, rfl⟩
  by_cases h2 : t = ascii "false"
  · rw [if_neg h1, if_pos h2]; exact .inr (.inl ⟨h2, rfl⟩)
  · rw [if_neg h1, if_neg h2]; exact .inr (.inr ⟨h1, h2, rfl⟩)

theorem member_ok_inv (name : Bytes) (v : Outcome PTree) (r : Option (Bytes × Bytes × PTree))
    (h : member name v = .ok r) : ∃ lit t, appendString name = .ok lit ∧ v = .ok t ∧ r = some (name, lit, t) := by
  unfold member at h
  cases ha : appendString name with
  | err e => simp [ha] at h
  | panic w => simp [ha] at h
  | ok lit =>
    cases v with
    | err e => simp [ha] at h
    | panic w => simp [ha] at h
    | ok t => simp only [ha] at h; cases h; exact ⟨lit, t, rfl, rfl, rfl⟩

theorem depthList_mem (xs : List PVal) (v : PVal) (h : v ∈ xs) : v.depth ≤ depthList xs := by
  induction xs with
  | nil => cases h
  | cons a t ih =>
    simp only [depthList]
    rcases List.mem_cons.mp h with rfl | h'
    · exact Nat.le_max_left _ _
    · exact Nat.le_trans (ih h') (Nat.le_max_right _ _)

theorem depthMap_mem (kvs : List (Bytes × PVal)) (k : Bytes) (v : PVal) (h : (k, v) ∈ kvs) :
    v.depth ≤ depthMap kvs := by
  induction kvs with
  | nil => cases h
  | cons kv t ih =>
    obtain ⟨k', v'⟩ := kv
    simp only [depthMap]
    rcases List.mem_cons.mp h with heq | h'
    · cases heq; exact Nat.le_max_left _ _
    · exact Nat.le_trans (ih h') (Nat.le_max_right _ _)

theorem depthFields_mem (fs : List (Nat × PVal)) (k : Nat) (v : PVal) (h : (k, v) ∈ fs) :
    v.depth ≤ depthFields fs := by
  induction fs with
  | nil => cases h
  | cons kv t ih =>
    obtain ⟨k', v'⟩ := kv
    simp only [depthFields]
    rcases List.mem_cons.mp h with heq | h'
    · cases heq; exact Nat.le_max_left _ _
    · exact Nat.le_trans (ih h') (Nat.le_max_right _ _)

end J5V.Codec
