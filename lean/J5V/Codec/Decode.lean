import J5V.Codec.Scalar
import J5V.Json.Tree
/-!
# Decoder: mirror of `/repo/internal/codec/decoder.go` over `lib/j5reflect`
(`property.CreateField`, `propSet.GetProperty/NewValue/buildValue`, `scalarField.SetGoValue`,
`enumField.SetFromString`, `arrayOf…Field.AppendGoValue/NewObjectElement`,
`mapOf…Field.SetGoValue/SetEnum/NewObjectElement`, `anyField.SetJ5Any`).

The Go decoder is a recursive descent over `json.Decoder.Token()/More()`; the model is the same
descent over the partial tree `readDoc bytes` (`J5V.Json.Tree`), which presents the token stream
in the order the decoder consumes it, so every function is **structurally recursive** on the tree:
termination and the step bound of C06 hold by construction.

Partial Go operations on the way are explicit `.panic` arms. After the repairs da8a625
(`foundKeys[0]`), 1330ca4 (`List.Append` / `Map.Set` of an invalid `protoreflect.Value`) and
b7a2948 (integer string arms) the only one left is `newFieldFactory`'s
`panic("invalid schema for leaf field")` for an array / map whose item is itself an array or map
(excluded by `Env.itemsOk`: proto has no such fields).

The decoder state of one property set is the message being filled (`Fields`) and `seen`, the JSON
names whose `property.hasValue` flag is set (`CreateField` fails with "already set" on the second).
-/
namespace J5V.Codec
open J5V.Go J5V.Json

structure Cfg where
  env : Env
  O : Oracle
  /-- `WithProtoToAny()` -/
  protoToAny : Bool := false
  /-- `decoder.anyDepth`: the number of `Any` values this document is nested inside (309b762) -/
  anyDepth : Nat := 0

/-- `maxAnyDepth` (309b762): with `WithProtoToAny` an `Any` nested this deep is rejected instead of
being expanded (the expansion costs time cubic in the nesting depth) -/
def maxAnyDepth : Nat := 100

/-- one property set being decoded -/
structure PS where
  m : Fields
  seen : List Bytes
  deriving Inhabited

/-- `json.Token` of a scalar tree node -/
def goTok : PTree → Option GoTok
  | .str s _ => some (.str s)
  | .num t => some (.num t)
  | .bool b => some (.bool b)
  | .null => some .null
  | _ => none

/-- `property.CreateField()`: the `hasValue` flag check, then `buildValue(create = true)`'s check
that no other member of the final field's proto oneof is set (25c97b7). The remaining checks of
`buildValue` / `buildProperty` (empty path, item schema) follow at the call sites, in Go's order. -/
def createField (props : List PropDef) (p : PropDef) (st : PS) : Outcome PS :=
  if st.seen.contains p.jsonName then .err "already set"
  else if groupBusy props p st.m then .err "another member of the proto oneof is already set"
  else .ok { st with seen := p.jsonName :: st.seen }

/-- `expectDelim(closer)` after a member / element loop -/
def closeOk (t : Term) : Bool := t == .closed

/-- `oneof.NewValue(name)` → `buildOrCreate`: the `Mutable` walk of `buildValue(create = true)`.
Messages on the way are created; a message-valued final field (object / oneof / any) is created
empty (which also selects it in its proto oneof); a scalar or enum final field is not touched. -/
def touchProp (props : List PropDef) (p : PropDef) (m : Fields) : Fields :=
  let rec go (pfx : List Nat) : List Nat → Fields → Fields
    | [], m => m
    | [k], m =>
      match p.field with
      | .object _ | .oneof _ =>
        setLeaf p.pres k (.msg (PVal.asMsg (aget k m))) (clearGroup props pfx p.group k m)
      | .any pb =>
        match aget k m with
        | some _ => m
        | none =>
          setLeaf p.pres k (if pb then .anyPb [] [] .none "" (.msg []) else .anyJ5 [] [] [] .none "" (.msg []))
            (clearGroup props pfx p.group k m)
      | _ => m
    | k :: rest, m => aset k (.msg (go (pfx ++ [k]) rest (PVal.asMsg (aget k m)))) m
  go [] p.path m

/-- the oneof post-checks of `decodeOneofInner` (after the member loop); `some p` = the arm that
`"!type"` alone selected (`oneof.NewValue`) -/
def oneofPost (ops : List PropDef) (found : List Bytes) (ct : Option Bytes) (m : Fields) :
    Outcome (Option PropDef) :=
  match found with
  | [] =>
    match ct with
    | none => .ok none
    | some name =>
      match findProp ops name with
      | none => .err "no such key"
      | some p =>
        match p.path, p.field with
        | [], .oneof _ => .ok none
        | [], _ => .err "no such key"
        | _, _ =>
          -- `oneof.NewValue` → `buildValue(create = true)`: the proto-oneof check (25c97b7)
          if groupBusy ops p m then .err "no such key" else .ok (some p)
  | [k] =>
    match ct with
    | some name => if k = name then .ok none else .err "key does not match type"
    | none => .ok none
  | _ => .err "multiple keys found in oneof"

/-- apply the outcome of `oneofPost` to the oneof's message -/
def applyPost (ops : List PropDef) (t : Option PropDef) (m : Fields) : Fields :=
  match t with
  | some p => touchProp ops p m
  | none => m

/-- accumulator of `decodeAny`'s member loop -/
structure AnyAcc where
  valueBytes : Option Bytes := none
  /-- mode `p`: the outcome of decoding the value into the type named by the final `"!type"` -/
  inner : Outcome (Option (String × Fields)) := .ok none
  ct : Option Bytes := none

/-- the `"!type"` the loop ends with, if all `"!type"` members are strings (otherwise the loop
fails anyway) -/
def finalType : PMembers → Option Bytes → Option Bytes
  | .nil _, acc => acc
  | .cons k _ v rest, acc =>
    if k = typeKeyB then
      match v with
      | .str s _ => finalType rest (some s)
      | _ => finalType rest acc
    else finalType rest acc
where typeKeyB : Bytes := ascii "!type"

/-- the tail of `decodeObject` after the member loop: `expectDelim('}')` -/
def finishObject (r : Outcome (PS × Term)) : Outcome Fields :=
  match r with
  | .ok (r, term) => if closeOk term then .ok r.m else .err "token"
  | .err e => .err e
  | .panic w => .panic w

/-- the tail of `decodeOneof` after the member loop: post-checks, then `expectDelim('}')` -/
def finishOneof (ops : List PropDef)
    (r : Outcome (PS × List Bytes × Option Bytes × Term)) : Outcome Fields :=
  match r with
  | .ok (r, found, ct, term) =>
    if term == .errIn then .err "token" else
    match oneofPost ops found ct r.m with
    | .ok tp => if closeOk term then .ok (applyPost ops tp r.m) else .err "token"
    | .err e => .err e
    | .panic w => .panic w
  | .err e => .err e
  | .panic w => .panic w

def anyPrefixB : Bytes := ascii "type.googleapis.com/"

def pathErr : String := "Reflection Bug: no proto field and not a oneof"

/-- `decodeScalar(prop)` -/
def decScalarProp (c : Cfg) (props : List PropDef) (p : PropDef) (k : ScalarKind) (t : PTree)
    (st : PS) : Outcome PS :=
  match t with
  | .bad => .err "token"
  | .raw _ => .err "token"
  | .null => .ok st
  | _ =>
    (createField props p st).bind fun st1 =>
      if p.path.isEmpty then .err pathErr else
      match goTok t with
      | none => .err "unexpected token, expected scalar"
      | some tok =>
        (decodeScalar c.O k tok).bind fun v => .ok { st1 with m := updPath props p v st1.m }

/-- `decodeEnum(prop)` -/
def decEnumProp (c : Cfg) (props : List PropDef) (p : PropDef) (ref : String) (t : PTree)
    (st : PS) : Outcome PS :=
  match t with
  | .bad => .err "token"
  | .raw _ => .err "token"
  | .null => .ok st
  | _ =>
    (createField props p st).bind fun st1 =>
      if p.path.isEmpty then .err pathErr else
      match t, c.env.find ref with
      | .str s _, some (.enum pfx opts) =>
        match enumOptionByName pfx opts s with
        | some n => .ok { st1 with m := updPath props p (some (.enum n)) st1.m }
        | none => .err "enum value not found"
      | _, _ => .err "unexpected token, expected string"

/-- the message a nested object / wrapper oneof is decoded into (`Mutable` of the field) -/
def subStart (p : PropDef) (st1 : PS) : PS := { m := PVal.asMsg (getPath st1.m p.path), seen := [] }

/-- tail of `decodeObjectProperty` after the member loop -/
def finishObjectProp (props : List PropDef) (p : PropDef) (st1 : PS) (r : Outcome (PS × Term)) :
    Outcome PS :=
  r.bind fun (r, term) =>
    if closeOk term then .ok { st1 with m := updPath props p (some (.msg r.m)) st1.m }
    else .err "token"

/-- an exposed oneof (empty path) is a view of the same message -/
def oneofStart (p : PropDef) (st1 : PS) : PS :=
  { m := if p.path.isEmpty then st1.m else PVal.asMsg (getPath st1.m p.path), seen := [] }

/-- tail of `decodeOneofProperty` after the member loop: post-checks, closer, store -/
def finishOneofProp (ops props : List PropDef) (p : PropDef) (st1 : PS)
    (r : Outcome (PS × List Bytes × Option Bytes × Term)) : Outcome PS :=
  r.bind fun (r, found, ct, term) =>
    if term == .errIn then .err "token" else
    (oneofPost ops found ct r.m).bind fun tp =>
      if closeOk term then
        let rm := applyPost ops tp r.m
        .ok { st1 with m := if p.path.isEmpty then rm else updPath props p (some (.msg rm)) st1.m }
      else .err "token"

/-- tail of `decodeAny` after the member loop -/
def finishAnyProp (c : Cfg) (props : List PropDef) (p : PropDef) (pb : Bool) (st1 : PS)
    (r : Outcome (AnyAcc × Term)) : Outcome PS :=
  r.bind fun (acc, term) =>
    if term == .errIn then .err "token" else
    match acc.ct, acc.valueBytes with
    | none, _ => .err "no type found in Any"
    | some _, none => .err "no value found in Any"
    | some tn, some vb =>
      (if c.protoToAny then acc.inner else .ok none).bind fun inner =>
        let (ik, iroot, ival) : InnerKind × String × PVal :=
          match inner with
          | some (r, fs) => if fs.isEmpty then (.none, "", .msg []) else (.inn, r, .msg fs)
          | none => (.none, "", .msg [])
        if pb then
          -- pbAnyImpl.setAny: "proto is required"
          if inner.isNone then .err "proto is required for PB Any type"
          else if closeOk term then
            let av : PVal := .anyPb (anyPrefixB ++ tn) [] ik iroot ival
            .ok { st1 with m := updPath props p (some av) st1.m }
          else .err "token"
        else if closeOk term then
          .ok { st1 with m := updPath props p (some (.anyJ5 tn [] vb ik iroot ival)) st1.m }
        else .err "token"

/-- `buildProperty` for an array / map: which item schemas `newLeaf…Field` / `newMessage…Field` /
`newFieldFactory` accept -/
def itemCheck (item : Field) : Outcome Unit :=
  match item with
  | .array _ => .panic "invalid schema for leaf field"
  | .map _ => .panic "invalid schema for leaf field"
  | .any _ => .err "unsupported item schema"
  | _ => .ok ()

def listStart (p : PropDef) (st1 : PS) : List PVal :=
  match getPath st1.m p.path with
  | some (.list l) => l
  | _ => []

def mapStart (p : PropDef) (st1 : PS) : List (Bytes × PVal) :=
  match getPath st1.m p.path with
  | some (.map l) => l
  | _ => []

def finishArrayProp (props : List PropDef) (p : PropDef) (st1 : PS)
    (r : Outcome (List PVal × Term)) : Outcome PS :=
  r.bind fun (l, term) =>
    if closeOk term then .ok { st1 with m := updPath props p (some (.list l)) st1.m }
    else .err "token"

def finishMapProp (props : List PropDef) (p : PropDef) (st1 : PS)
    (r : Outcome (List (Bytes × PVal) × Term)) : Outcome PS :=
  r.bind fun (l, term) =>
    if closeOk term then .ok { st1 with m := updPath props p (some (.map l)) st1.m }
    else .err "token"

mutual
/-- `decodeValue(prop)` for property `p` of the property set `props`, at tree `t` -/
def decProp (c : Cfg) (props : List PropDef) (p : PropDef) (t : PTree) (st : PS) : Outcome PS :=
  match p.field with
  | .scalar k => decScalarProp c props p k t st
  | .enum ref => decEnumProp c props p ref t st
  | .object ref =>
    -- decodeObjectProperty
    match t with
    | .null => .ok st
    | .obj ms =>
      (createField props p st).bind fun st1 =>
        if p.path.isEmpty then .err pathErr else
        match c.env.find ref with
        | some (.object sub) => finishObjectProp props p st1 (decObjMembers c sub ms (subStart p st1))
        | _ => .err "object ref"
    | _ => .err "unexpected token, expected {"
  | .oneof ref =>
    -- decodeOneofProperty
    match t with
    | .null => .ok st
    | .obj ms =>
      (createField props p st).bind fun st1 =>
        match c.env.find ref with
        | some (.oneof ops) =>
          finishOneofProp ops props p st1 (decOneofMembers c ops ms (oneofStart p st1) [] none)
        | _ => .err "oneof ref"
    | _ => .err "unexpected token, expected {"
  | .any pb =>
    -- decodeAny
    match t with
    | .null => .ok st
    | .obj ms =>
      (createField props p st).bind fun st1 =>
        if p.path.isEmpty then .err pathErr else
        finishAnyProp c props p pb st1 (decAnyMembers c (finalType ms none) ms {})
    | _ => .err "unexpected token, expected {"
  | .array item =>
    -- decodeArrayProperty
    match t with
    | .null => .ok st
    | .arr xs =>
      (createField props p st).bind fun st1 =>
        if p.path.isEmpty then .err pathErr else
        (itemCheck item).bind fun _ =>
          finishArrayProp props p st1 (decElems c item xs (listStart p st1))
    | _ => .err "unexpected token, expected ["
  | .map item =>
    -- decodeMapProperty
    match t with
    | .null => .ok st
    | .obj ms =>
      (createField props p st).bind fun st1 =>
        if p.path.isEmpty then .err pathErr else
        (itemCheck item).bind fun _ =>
          finishMapProp props p st1 (decMapMembers c item ms (mapStart p st1))
    | _ => .err "unexpected token, expected {"

/-- `decodeObjectInner`: the `jsonObjectBody` loop over the members of an object -/
def decObjMembers (c : Cfg) (props : List PropDef) (ms : PMembers) (st : PS) :
    Outcome (PS × Term) :=
  match ms with
  | .nil term => if term == .errIn then .err "token" else .ok (st, term)
  | .cons k _ v rest =>
    match findProp props k with
    | none => .err "no such field"
    | some p =>
      match decProp c props p v st with
      | .ok st1 => decObjMembers c props rest st1
      | .err e => .err e
      | .panic w => .panic w

/-- the member loop of `decodeOneofInner`; `found` = `foundKeys` (in order), `ct` = `constrainType`.
An `errIn` terminator is reported to the caller (it fails before the post-checks). -/
def decOneofMembers (c : Cfg) (ops : List PropDef) (ms : PMembers) (st : PS)
    (found : List Bytes) (ct : Option Bytes) : Outcome (PS × List Bytes × Option Bytes × Term) :=
  match ms with
  | .nil term => .ok (st, found, ct, term)
  | .cons k _ v rest =>
    if k = ascii "!type" then
      match v with
      | .str s _ => decOneofMembers c ops rest st found (some s)
      | _ => .err "unexpected token, expected string"
    else
      match findProp ops k with
      | none => .err "no such key"
      | some p =>
        match decProp c ops p v st with
        | .ok st1 => decOneofMembers c ops rest st1 (found ++ [k]) ct
        | .err e => .err e
        | .panic w => .panic w

/-- the member loop of `decodeAny`. `ftype` is the `"!type"` the loop will end with (needed to
decode the value when it is met, which keeps the recursion structural; the outcome is only used
after the loop, as in Go). -/
def decAnyMembers (c : Cfg) (ftype : Option Bytes) (ms : PMembers) (acc : AnyAcc) :
    Outcome (AnyAcc × Term) :=
  match ms with
  | .nil term => .ok (acc, term)
  | .cons k _ v rest =>
    if k = ascii "!type" then
      match v with
      | .str s _ => decAnyMembers c ftype rest { acc with ct := some s }
      | _ => .err "unexpected token, expected string"
    else if k ≠ ascii "value" then .err "no such field"
    else if acc.valueBytes.isSome then .err "multiple keys found in Any"
    else
      match popValueAsBytes v with
      | none => .err "value"
      | some vb =>
        let inner : Outcome (Option (String × Fields)) :=
          match ftype with
          | none => .ok none
          | some tn =>
            if c.anyDepth ≥ maxAnyDepth then .err "Any values are nested too deeply" else
            match c.env.resolve tn with
            | none => .err "no type in registry"
            | some root =>
              match decRootTree { c with anyDepth := c.anyDepth + 1 } root v with
              | .ok fs => .ok (some (root, fs))
              | .err e => .err e
              | .panic w => .panic w
        decAnyMembers c ftype rest { acc with valueBytes := some vb, inner := inner }

/-- the element loop of `decodeArrayProperty` (`decodeArrayFieldValue` per element) -/
def decElems (c : Cfg) (item : Field) (xs : PElems) (acc : List PVal) :
    Outcome (List PVal × Term) :=
  match xs with
  | .nil term => if term == .errIn then .err "token" else .ok (acc, term)
  | .cons v rest =>
    match item with
    | .scalar k =>
      match goTok v with
      | none => .err "unexpected token, expected scalar"
      | some tok =>
        match decodeScalar c.O k tok with
        | .ok (some pv) => decElems c item rest (acc ++ [pv])
        | .ok none => .err "cannot append a nil value"
        | .err e => .err e
        | .panic w => .panic w
    | .enum ref =>
      match v, c.env.find ref with
      | .str s _, some (.enum pfx opts) =>
        match enumOptionByName pfx opts s with
        | some n => decElems c item rest (acc ++ [.enum n])
        | none => .err "enum value not found"
      | _, _ => .err "cannot set enum value"
    | .object ref =>
      match c.env.find ref with
      | some (.object sub) =>
        match decObject c sub v with
        | .ok fs => decElems c item rest (acc ++ [.msg fs])
        | .err e => .err e
        | .panic w => .panic w
      | _ => .err "object ref"
    | .oneof ref =>
      match c.env.find ref with
      | some (.oneof ops) =>
        match decOneof c ops v with
        | .ok fs => decElems c item rest (acc ++ [.msg fs])
        | .err e => .err e
        | .panic w => .panic w
      | _ => .err "oneof ref"
    | _ => .err "unknown array schema type"

/-- the member loop of `decodeMapField` -/
def decMapMembers (c : Cfg) (item : Field) (ms : PMembers) (acc : List (Bytes × PVal)) :
    Outcome (List (Bytes × PVal) × Term) :=
  match ms with
  | .nil term => if term == .errIn then .err "token" else .ok (acc, term)
  | .cons k _ v rest =>
    match item with
    | .scalar sk =>
      match goTok v with
      | none => .err "unexpected token, expected scalar"
      | some tok =>
        match decodeScalar c.O sk tok with
        | .ok (some pv) =>
          if (mget k acc).isSome then .err "key already exists in map"
          else decMapMembers c item rest (mset k pv acc)
        | .ok none => .err "cannot set a nil value"
        | .err e => .err e
        | .panic w => .panic w
    | .enum ref =>
      match v, c.env.find ref with
      | .str s _, some (.enum pfx opts) =>
        match enumOptionByName pfx opts s with
        | some n =>
          if (mget k acc).isSome then .err "key already exists in map"
          else decMapMembers c item rest (mset k (.enum n) acc)
        | none => .err "enum value not found"
      | _, _ => .err "unexpected token, expected string"
    | .object ref =>
      if (mget k acc).isSome then .err "key already exists in map" else
      match c.env.find ref with
      | some (.object sub) =>
        match decObject c sub v with
        | .ok fs => decMapMembers c item rest (mset k (.msg fs) acc)
        | .err e => .err e
        | .panic w => .panic w
      | _ => .err "object ref"
    | .oneof ref =>
      if (mget k acc).isSome then .err "key already exists in map" else
      match c.env.find ref with
      | some (.oneof ops) =>
        match decOneof c ops v with
        | .ok fs => decMapMembers c item rest (mset k (.msg fs) acc)
        | .err e => .err e
        | .panic w => .panic w
      | _ => .err "oneof ref"
    | _ => .err "unknown map schema type"

/-- `decodeObject`: `expectDelim('{')`, `decodeObjectInner`, `expectDelim('}')` into a fresh message -/
def decObject (c : Cfg) (props : List PropDef) (t : PTree) : Outcome Fields :=
  match t with
  | .obj ms => finishObject (decObjMembers c props ms { m := [], seen := [] })
  | _ => .err "unexpected token, expected {"

/-- `decodeOneof` into a fresh message -/
def decOneof (c : Cfg) (ops : List PropDef) (t : PTree) : Outcome Fields :=
  match t with
  | .obj ms => finishOneof ops (decOneofMembers c ops ms { m := [], seen := [] } [] none)
  | _ => .err "unexpected token, expected {"

-- The bodies of `decObject` / `decOneof` are written out again, not called: `decAnyMembers` calls this
-- function on a subtree `v`, and the recursion is structural only if it goes on to the members of `v`.
/-- `Codec.decode` = `NewRoot` + `decodeRoot` on a fresh message -/
def decRootTree (c : Cfg) (root : String) (t : PTree) : Outcome Fields :=
  match c.env.find root with
  | some (.object props) =>
    match t with
    | .obj ms => finishObject (decObjMembers c props ms { m := [], seen := [] })
    | _ => .err "unexpected token, expected {"
  | some (.oneof ops) =>
    match t with
    | .obj ms => finishOneof ops (decOneofMembers c ops ms { m := [], seen := [] } [] none)
    | _ => .err "unexpected token, expected {"
  | _ => .err "unsupported root schema type"
end

/-- `Codec.JSONToProto(bytes, fresh message of root)` -/
def decodeBytes (c : Cfg) (root : String) (bs : Bytes) : Outcome Fields :=
  decRootTree c root (readDoc bs)

end J5V.Codec
