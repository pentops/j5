import J5V.Codec.DecodeSpec
/-! # `NP` ("no panic") through `ok`, `err`, `bind`, `if` -/
namespace J5V.Codec
open J5V.Go

theorem NP_ok {α} (a : α) : NP (Outcome.ok a) := by intro w h; cases h
theorem NP_err {α} (e : String) : NP (Outcome.err e : Outcome α) := by intro w h; cases h

theorem NP_bind {α β} (x : Outcome α) (f : α → Outcome β) (hx : NP x) (hf : ∀ a, NP (f a)) :
    NP (x.bind f) := by
  cases x with
  | ok a => exact hf a
  | err e => exact NP_err e
  | panic w => exact absurd rfl (hx w)

theorem NP_ite {α} (b : Prop) [Decidable b] (x y : Outcome α) (hx : NP x) (hy : NP y) :
    NP (if b then x else y) := by
  split <;> assumption

end J5V.Codec
