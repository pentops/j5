import J5V.Codec.DecodeProofs
/-!
# What a successful run of the decoder did, as a relation

`Decodes c call`: the call succeeded — one constructor per successful arm of `Codec/Decode.lean`
(the content of an `Any` stays the executable call). "Read the tree `t` as a value of schema `fld`"
(`DecVal`) is one notion for the three places where the decoder does it: a property's value, an array
element, a map value. What holds of every accepted document is an induction on `Decodes`.
-/
namespace J5V.Codec
open J5V.Go J5V.Json

def PVal.asList : Option PVal → List PVal
  | some (.list l) => l
  | _ => []

def PVal.asMap : Option PVal → List (Bytes × PVal)
  | some (.map l) => l
  | _ => []

/-- what `finishAnyProp` stores (`inner = none` without `WithProtoToAny`) -/
def anyVal (pb : Bool) (tn vb : Bytes) (inner : Option (String × Fields)) : PVal :=
  let x : InnerKind × String × PVal :=
    match inner with
    | some (r, fs) => if fs.isEmpty then (.none, "", .msg []) else (.inn, r, .msg fs)
    | none => (.none, "", .msg [])
  if pb then .anyPb (anyPrefixB ++ tn) [] x.1 x.2.1 x.2.2 else .anyJ5 tn [] vb x.1 x.2.1 x.2.2

/-- a call of one of the decoder's functions: its arguments, then what it returned -/
inductive Call where
  /-- a value of schema `fld` read from `t` into a field that holds `start`: `pv` -/
  | val (fld : Field) (start : Option PVal) (t : PTree) (pv : PVal)
  /-- `decProp` -/
  | prop (props : List PropDef) (p : PropDef) (t : PTree) (st st' : PS)
  /-- `decObjMembers` -/
  | obj (props : List PropDef) (ms : PMembers) (st st' : PS) (term : Term)
  /-- `decOneofMembers` -/
  | one (ops : List PropDef) (ms : PMembers) (st : PS) (found : List Bytes) (ct : Option Bytes)
      (st' : PS) (found' : List Bytes) (ct' : Option Bytes) (term : Term)
  /-- `decElems` -/
  | elems (item : Field) (xs : PElems) (acc l : List PVal) (term : Term)
  /-- `decMapMembers` -/
  | map (item : Field) (ms : PMembers) (acc l : List (Bytes × PVal)) (term : Term)

inductive Decodes (c : Cfg) : Call → Prop
  | scalar {k start t tok pv} : goTok t = some tok → decodeScalar c.O k tok = .ok (some pv) →
      Decodes c (.val (.scalar k) start t pv)
  | enum {ref start s raw pfx opts n} : c.env.find ref = some (.enum pfx opts) →
      enumOptionByName pfx opts s = some n → Decodes c (.val (.enum ref) start (.str s raw) (.enum n))
  | object {ref start sub ms r} : c.env.find ref = some (.object sub) →
      Decodes c (.obj sub ms { m := PVal.asMsg start, seen := [] } r .closed) →
      Decodes c (.val (.object ref) start (.obj ms) (.msg r.m))
  | oneof {ref start ops ms r found ct tp} : c.env.find ref = some (.oneof ops) →
      Decodes c (.one ops ms { m := PVal.asMsg start, seen := [] } [] none r found ct .closed) →
      oneofPost ops found ct r.m = .ok tp →
      Decodes c (.val (.oneof ref) start (.obj ms) (.msg (applyPost ops tp r.m)))
  /-- opaque: the premise is the executable loop, so an induction on `Decodes` knows nothing about
  what an `Any` holds -/
  | any {pb start ms acc tn vb inner} :
      decAnyMembers c (finalType ms none) ms {} = .ok (acc, .closed) → acc.ct = some tn →
      acc.valueBytes = some vb → (if c.protoToAny then acc.inner else .ok none) = .ok inner →
      (pb = true → inner.isSome = true) →
      Decodes c (.val (.any pb) start (.obj ms) (anyVal pb tn vb inner))
  | array {item start xs l} : itemCheck item = .ok () →
      Decodes c (.elems item xs (PVal.asList start) l .closed) →
      Decodes c (.val (.array item) start (.arr xs) (.list l))
  | map {item start ms l} : itemCheck item = .ok () →
      Decodes c (.map item ms (PVal.asMap start) l .closed) →
      Decodes c (.val (.map item) start (.obj ms) (.map l))
  | null {props p st} : Decodes c (.prop props p .null st st)
  | value {props p t st pv} : p.path ≠ [] → p.jsonName ∉ st.seen → groupBusy props p st.m = false →
      Decodes c (.val p.field (getPath st.m p.path) t pv) →
      Decodes c (.prop props p t st { m := updPath props p (some pv) st.m, seen := p.jsonName :: st.seen })
  /-- an exposed oneof (no proto path): a oneof body read into the same message -/
  | exposed {props p ref ops ms st r found ct tp} : p.path = [] → p.field = .oneof ref →
      c.env.find ref = some (.oneof ops) → p.jsonName ∉ st.seen → groupBusy props p st.m = false →
      Decodes c (.one ops ms { m := st.m, seen := [] } [] none r found ct .closed) →
      oneofPost ops found ct r.m = .ok tp →
      Decodes c (.prop props p (.obj ms) st { m := applyPost ops tp r.m, seen := p.jsonName :: st.seen })
  | objNil {props term st} : term ≠ .errIn → Decodes c (.obj props (.nil term) st st term)
  | objCons {props k kr v rest p st st1 st' term} : findProp props k = some p →
      Decodes c (.prop props p v st st1) → Decodes c (.obj props rest st1 st' term) →
      Decodes c (.obj props (.cons k kr v rest) st st' term)
  | oneNil {ops term st found ct} : Decodes c (.one ops (.nil term) st found ct st found ct term)
  | oneType {ops kr s raw rest st found ct st' found' ct' term} :
      Decodes c (.one ops rest st found (some s) st' found' ct' term) →
      Decodes c (.one ops (.cons (ascii "!type") kr (.str s raw) rest) st found ct st' found' ct' term)
  | oneCons {ops k kr v rest p st st1 found ct st' found' ct' term} : k ≠ ascii "!type" →
      findProp ops k = some p → Decodes c (.prop ops p v st st1) →
      Decodes c (.one ops rest st1 (found ++ [k]) ct st' found' ct' term) →
      Decodes c (.one ops (.cons k kr v rest) st found ct st' found' ct' term)
  | elemsNil {item term acc} : term ≠ .errIn → Decodes c (.elems item (.nil term) acc acc term)
  | elemsCons {item v rest pv acc l term} : itemCheck item = .ok () →
      Decodes c (.val item none v pv) → Decodes c (.elems item rest (acc ++ [pv]) l term) →
      Decodes c (.elems item (.cons v rest) acc l term)
  | mapNil {item term acc} : term ≠ .errIn → Decodes c (.map item (.nil term) acc acc term)
  /-- whether the key is checked before or after the value is read (both occur) does not show in a
  successful step -/
  | mapCons {item k kr v rest pv acc l term} : itemCheck item = .ok () → mget k acc = none →
      Decodes c (.val item none v pv) → Decodes c (.map item rest (mset k pv acc) l term) →
      Decodes c (.map item (.cons k kr v rest) acc l term)

abbrev DecVal (c : Cfg) (fld : Field) (start : Option PVal) (t : PTree) (pv : PVal) : Prop :=
  Decodes c (.val fld start t pv)
abbrev DecProp (c : Cfg) (props : List PropDef) (p : PropDef) (t : PTree) (st st' : PS) : Prop :=
  Decodes c (.prop props p t st st')
abbrev DecObj (c : Cfg) (props : List PropDef) (ms : PMembers) (st st' : PS) (term : Term) : Prop :=
  Decodes c (.obj props ms st st' term)
abbrev DecOne (c : Cfg) (ops : List PropDef) (ms : PMembers) (st : PS) (found : List Bytes)
    (ct : Option Bytes) (st' : PS) (found' : List Bytes) (ct' : Option Bytes) (term : Term) : Prop :=
  Decodes c (.one ops ms st found ct st' found' ct' term)
abbrev DecElems (c : Cfg) (item : Field) (xs : PElems) (acc l : List PVal) (term : Term) : Prop :=
  Decodes c (.elems item xs acc l term)
abbrev DecMap (c : Cfg) (item : Field) (ms : PMembers) (acc l : List (Bytes × PVal)) (term : Term) :
    Prop := Decodes c (.map item ms acc l term)

theorem nil_ok_inv {α : Type} {term : Term} {a : α} {r : α × Term}
    (h : (if term == .errIn then .err "token" else .ok (a, term) : Outcome (α × Term)) = .ok r) :
    term ≠ .errIn ∧ r = (a, term) := by
  split at h
  · cases h
  · next hne => cases h; exact ⟨fun e => hne (by rw [e]; rfl), rfl⟩

theorem finishAnyProp_inv (c : Cfg) (props : List PropDef) (p : PropDef) (pb : Bool) (st1 s2 : PS)
    (r : Outcome (AnyAcc × Term)) (h : finishAnyProp c props p pb st1 r = .ok s2) :
    ∃ acc tn vb inner, r = .ok (acc, .closed) ∧ acc.ct = some tn ∧ acc.valueBytes = some vb ∧
      (if c.protoToAny then acc.inner else .ok none) = .ok inner ∧ (pb = true → inner.isSome = true) ∧
      s2 = { m := updPath props p (some (anyVal pb tn vb inner)) st1.m, seen := st1.seen } := by
  unfold finishAnyProp at h
  obtain ⟨⟨acc, term⟩, rfl, h⟩ := bind_eq_ok h
  replace h := (ite_eq_ok h).2
  cases hct : acc.ct with
  | none => rw [hct] at h; cases h
  | some tn =>
    cases hvb : acc.valueBytes with
    | none => rw [hct, hvb] at h; cases h
    | some vb =>
      rw [hct, hvb] at h
      obtain ⟨inner, hin, h⟩ := bind_eq_ok h
      have hcl : ∀ {x : PS} {e : String}, (if closeOk term then .ok x else .err e : Outcome PS) = .ok s2 →
          term = .closed ∧ x = s2 := by
        intro x e h
        split at h
        · next hc => cases h; exact ⟨(closeOk_iff term).mp hc, rfl⟩
        · cases h
      split at h
      next ik iroot ival heq =>
      have hv : ∀ pb, anyVal pb tn vb inner =
          if pb then .anyPb (anyPrefixB ++ tn) [] ik iroot ival else .anyJ5 tn [] vb ik iroot ival := by
        intro pb
        unfold anyVal
        cases inner with
        | none => cases heq; rfl
        | some rf =>
          dsimp only at heq ⊢
          by_cases hfs : rf.2.isEmpty = true
          · rw [if_pos hfs] at heq ⊢; cases heq; rfl
          · rw [if_neg hfs] at heq ⊢; cases heq; rfl
      cases pb with
      | true =>
        rw [if_pos rfl] at h
        by_cases hsome : inner.isNone = true
        · rw [if_pos hsome] at h; cases h
        · rw [if_neg hsome] at h
          obtain ⟨rfl, rfl⟩ := hcl h
          have hs : inner.isSome = true := by
            cases inner with
            | none => exact absurd rfl hsome
            | some _ => rfl
          exact ⟨acc, tn, vb, inner, rfl, hct, hvb, hin, fun _ => hs, by rw [hv]; rfl⟩
      | false =>
        rw [if_neg (by decide)] at h
        obtain ⟨rfl, rfl⟩ := hcl h
        exact ⟨acc, tn, vb, inner, rfl, hct, hvb, hin, fun e => (by cases e), by rw [hv]; rfl⟩

theorem itemCheck_of_itemDec {c : Cfg} {item : Field} {v : PTree} {pv : PVal} (h : ItemDec c item v pv) :
    itemCheck item = .ok () := by
  cases item <;> first | rfl | exact h.elim

/-- one array element / map value, given the derivation for a nested object / oneof -/
theorem item_sound (c : Cfg) (item : Field) (v : PTree) (pv : PVal)
    (hobj : ∀ ref sub fs, c.env.find ref = some (.object sub) → decObject c sub v = .ok fs →
      DecVal c (.object ref) none v (.msg fs))
    (hone : ∀ ref ops fs, c.env.find ref = some (.oneof ops) → decOneof c ops v = .ok fs →
      DecVal c (.oneof ref) none v (.msg fs))
    (h : ItemDec c item v pv) : DecVal c item none v pv := by
  cases item with
  | scalar k => obtain ⟨tok, hg, hd⟩ := h; exact .scalar hg hd
  | «enum» ref => obtain ⟨s, raw, pfx, opts, n, rfl, hf, hn, rfl⟩ := h; exact .enum hf hn
  | object ref => obtain ⟨sub, fs, hf, hd, rfl⟩ := h; exact hobj ref sub fs hf hd
  | oneof ref => obtain ⟨ops, fs, hf, hd, rfl⟩ := h; exact hone ref ops fs hf hd
  | _ => exact h.elim

mutual
theorem decProp_sound (c : Cfg) (props : List PropDef) (p : PropDef) (t : PTree) (st st' : PS)
    (h : decProp c props p t st = .ok st') : DecProp c props p t st st' := by
  by_cases hnn : t = .null
  · subst hnn; rw [decProp_null] at h; cases h; exact .null
  unfold decProp at h
  cases hfld : p.field with
  | scalar k =>
    rw [hfld] at h; dsimp only at h
    unfold decScalarProp at h
    split at h
    · cases h
    · cases h
    · exact absurd rfl hnn
    · obtain ⟨hne, hns, hgb, h⟩ := createField_path_inv props p st st' _ h
      split at h
      · cases h
      · next tok hg =>
        obtain ⟨x, hd, h⟩ := bind_eq_ok h
        cases h
        cases x with
        | none => cases decodeScalar_ok_none hd; cases t <;> first | exact absurd rfl hnn | cases hg
        | some v => exact .value hne hns hgb (hfld ▸ .scalar hg hd)
  | «enum» ref =>
    rw [hfld] at h; dsimp only at h
    unfold decEnumProp at h
    cases t with
    | null => exact absurd rfl hnn
    | str s raw =>
      obtain ⟨hne, hns, hgb, h⟩ := createField_path_inv props p st st' _ h
      split at h
      · next _ _ _ _ pfx opts heq hfind =>
        cases heq
        split at h
        · next n hn => cases h; exact .value hne hns hgb (hfld ▸ .enum hfind hn)
        · cases h
      · cases h
    | bad => cases h
    | raw bs => cases h
    | _ => obtain ⟨_, _, _, h⟩ := createField_path_inv props p st st' _ h; cases h
  | object ref =>
    rw [hfld] at h
    cases t with
    | obj ms =>
      obtain ⟨hne, hns, hgb, h⟩ := createField_path_inv props p st st' _ h
      split at h
      · next sub hfind =>
        obtain ⟨⟨r, term⟩, hr, h⟩ := bind_eq_ok h
        dsimp only at h
        split at h
        · next hc =>
          cases h; rw [(closeOk_iff term).mp hc] at hr
          exact .value hne hns hgb (hfld ▸ .object hfind (decObj_sound c sub ms _ r _ hr))
        · cases h
      · cases h
    | null => exact absurd rfl hnn
    | _ => cases h
  | oneof ref =>
    rw [hfld] at h
    cases t with
    | obj ms =>
      obtain ⟨st1, hcf, h⟩ := bind_eq_ok h
      obtain ⟨rfl, hns, hgb⟩ := createField_inv props p st st1 hcf
      split at h
      · next ops hfind =>
        obtain ⟨⟨r, found, ct, term⟩, hr, h⟩ := bind_eq_ok h
        obtain ⟨tp, hpost, h⟩ := bind_eq_ok (ite_eq_ok h).2
        split at h
        · next hc =>
          cases h; rw [(closeOk_iff term).mp hc] at hr
          have hd := decOne_sound c ops ms _ [] none r found ct _ hr
          unfold oneofStart at hd
          cases hp : p.path with
          | nil =>
            rw [hp] at hd
            simpa [hp] using Decodes.exposed hp hfld hfind hns hgb hd hpost
          | cons a l =>
            have hne : p.path ≠ [] := by rw [hp]; exact List.cons_ne_nil a l
            rw [if_neg (by rw [hp]; simp)] at hd
            simpa [hp] using Decodes.value hne hns hgb (hfld ▸ .oneof hfind hd hpost)
        · cases h
      · cases h
    | null => exact absurd rfl hnn
    | _ => cases h
  | any pb =>
    rw [hfld] at h
    cases t with
    | obj ms =>
      obtain ⟨hne, hns, hgb, h⟩ := createField_path_inv props p st st' _ h
      obtain ⟨acc, tn, vb, inner, hr, hct, hvb, hin, hpb, rfl⟩ := finishAnyProp_inv c props p pb _ st' _ h
      exact .value hne hns hgb (hfld ▸ .any hr hct hvb hin hpb)
    | null => exact absurd rfl hnn
    | _ => cases h
  | array item =>
    rw [hfld] at h
    cases t with
    | arr xs =>
      obtain ⟨hne, hns, hgb, h⟩ := createField_path_inv props p st st' _ h
      obtain ⟨_, hic, h⟩ := bind_eq_ok h
      obtain ⟨⟨l, term⟩, hr, h⟩ := bind_eq_ok h
      dsimp only at h
      split at h
      · next hc =>
        cases h; rw [(closeOk_iff term).mp hc] at hr
        exact .value hne hns hgb (hfld ▸ .array hic (decElems_sound c item xs _ l _ hr))
      · cases h
    | null => exact absurd rfl hnn
    | _ => cases h
  | map item =>
    rw [hfld] at h
    cases t with
    | obj ms =>
      obtain ⟨hne, hns, hgb, h⟩ := createField_path_inv props p st st' _ h
      obtain ⟨_, hic, h⟩ := bind_eq_ok h
      obtain ⟨⟨l, term⟩, hr, h⟩ := bind_eq_ok h
      dsimp only at h
      split at h
      · next hc =>
        cases h; rw [(closeOk_iff term).mp hc] at hr
        exact .value hne hns hgb (hfld ▸ .map hic (decMap_sound c item ms _ l _ hr))
      · cases h
    | null => exact absurd rfl hnn
    | _ => cases h
termination_by structural t

theorem decObj_sound (c : Cfg) (props : List PropDef) (ms : PMembers) (st st' : PS) (term : Term)
    (h : decObjMembers c props ms st = .ok (st', term)) : DecObj c props ms st st' term := by
  cases ms with
  | nil t =>
    rw [decObjMembers_nil] at h
    obtain ⟨hne, e⟩ := nil_ok_inv h
    cases e; exact .objNil hne
  | cons k kr v rest =>
    rw [decObjMembers_cons] at h
    split at h
    · cases h
    · next p hf =>
      obtain ⟨st1, hd, h⟩ := bind_eq_ok h
      exact .objCons hf (decProp_sound c props p v st st1 hd) (decObj_sound c props rest st1 st' term h)
termination_by structural ms

theorem decOne_sound (c : Cfg) (ops : List PropDef) (ms : PMembers) (st : PS) (found : List Bytes)
    (ct : Option Bytes) (st' : PS) (found' : List Bytes) (ct' : Option Bytes) (term : Term)
    (h : decOneofMembers c ops ms st found ct = .ok (st', found', ct', term)) :
    DecOne c ops ms st found ct st' found' ct' term := by
  cases ms with
  | nil t => rw [decOneofMembers_nil] at h; cases h; exact .oneNil
  | cons k kr v rest =>
    by_cases hk : k = ascii "!type"
    · rw [decOneofMembers_type c ops k kr v rest st found ct hk] at h
      subst hk
      cases v with
      | str s raw => exact .oneType (decOne_sound c ops rest st found (some s) st' found' ct' term h)
      | _ => cases h
    · rw [decOneofMembers_cons c ops k kr v rest st found ct hk] at h
      split at h
      · cases h
      · next p hf =>
        obtain ⟨st1, hd, h⟩ := bind_eq_ok h
        exact .oneCons hk hf (decProp_sound c ops p v st st1 hd)
          (decOne_sound c ops rest st1 _ ct st' found' ct' term h)
termination_by structural ms

theorem decElems_sound (c : Cfg) (item : Field) (xs : PElems) (acc l : List PVal) (term : Term)
    (h : decElems c item xs acc = .ok (l, term)) : DecElems c item xs acc l term := by
  cases xs with
  | nil t =>
    unfold decElems at h
    obtain ⟨hne, e⟩ := nil_ok_inv h
    cases e; exact .elemsNil hne
  | cons v rest =>
    obtain ⟨pv, hid, hrest⟩ := elem_step_inv c item v rest acc _ h
    exact .elemsCons (itemCheck_of_itemDec hid)
      (item_sound c item v pv (fun ref sub fs hf hd => decObject_sound c ref sub v fs hf hd)
        (fun ref ops fs hf hd => decOneof_sound c ref ops v fs hf hd) hid)
      (decElems_sound c item rest _ l term hrest)
termination_by structural xs

theorem decMap_sound (c : Cfg) (item : Field) (ms : PMembers) (acc l : List (Bytes × PVal))
    (term : Term) (h : decMapMembers c item ms acc = .ok (l, term)) : DecMap c item ms acc l term := by
  cases ms with
  | nil t =>
    unfold decMapMembers at h
    obtain ⟨hne, e⟩ := nil_ok_inv h
    cases e; exact .mapNil hne
  | cons k kr v rest =>
    obtain ⟨hk, pv, hid, hrest⟩ := map_step_inv c item k kr v rest acc _ h
    exact .mapCons (itemCheck_of_itemDec hid) hk
      (item_sound c item v pv (fun ref sub fs hf hd => decObject_sound c ref sub v fs hf hd)
        (fun ref ops fs hf hd => decOneof_sound c ref ops v fs hf hd) hid)
      (decMap_sound c item rest _ l term hrest)
termination_by structural ms

theorem decObject_sound (c : Cfg) (ref : String) (sub : List PropDef) (t : PTree) (fs : Fields)
    (hf : c.env.find ref = some (.object sub)) (h : decObject c sub t = .ok fs) :
    DecVal c (.object ref) none t (.msg fs) := by
  cases t with
  | obj ms =>
    rw [decObject_obj] at h
    obtain ⟨r, hr, rfl⟩ := finishObject_inv _ _ h
    exact .object hf (decObj_sound c sub ms _ r _ hr)
  | _ => cases h
termination_by structural t

theorem decOneof_sound (c : Cfg) (ref : String) (ops : List PropDef) (t : PTree) (fs : Fields)
    (hf : c.env.find ref = some (.oneof ops)) (h : decOneof c ops t = .ok fs) :
    DecVal c (.oneof ref) none t (.msg fs) := by
  cases t with
  | obj ms =>
    rw [decOneof_obj] at h
    obtain ⟨r, found, ct, tp, hr, hpost, rfl⟩ := finishOneof_inv ops _ _ h
    exact .oneof hf (decOne_sound c ops ms _ [] none r found ct _ hr) hpost
  | _ => cases h
termination_by structural t
end

theorem createField_ok (props : List PropDef) (p : PropDef) (st : PS) (h : p.jsonName ∉ st.seen)
    (hgb : groupBusy props p st.m = false) :
    createField props p st = .ok { m := st.m, seen := p.jsonName :: st.seen } := by
  unfold createField; simp [h, hgb]

theorem createField_path_ok (props : List PropDef) (p : PropDef) (st : PS) (tail : PS → Outcome PS)
    (hne : p.path ≠ []) (hns : p.jsonName ∉ st.seen) (hgb : groupBusy props p st.m = false) :
    ((createField props p st).bind fun st1 => if p.path.isEmpty then .err pathErr else tail st1) =
      tail { m := st.m, seen := p.jsonName :: st.seen } := by
  rw [createField_ok props p st hns hgb]
  simp only [Outcome.bind, List.isEmpty_eq_false_iff.mpr hne, Bool.false_eq_true, if_false]

theorem finishAnyProp_closed (c : Cfg) (props : List PropDef) (p : PropDef) (pb : Bool) (st1 : PS)
    (acc : AnyAcc) (tn vb : Bytes) (inner : Option (String × Fields)) (hct : acc.ct = some tn)
    (hvb : acc.valueBytes = some vb) (hin : (if c.protoToAny then acc.inner else .ok none) = .ok inner)
    (hpb : pb = true → inner.isSome = true) :
    finishAnyProp c props p pb st1 (.ok (acc, .closed)) =
      .ok { m := updPath props p (some (anyVal pb tn vb inner)) st1.m, seen := st1.seen } := by
  unfold finishAnyProp anyVal
  simp only [Outcome.bind, hct, hvb, hin, closeOk]
  cases pb with
  | false => rfl
  | true =>
    cases inner with
    | none => exact absurd (hpb rfl) (by simp)
    | some x => rfl

/-- the executable decoder returns the call's result; a value is read so in each of its three places —
as an element / map value only from nothing (`start = none`: the loops read items into fresh values)
and for an item schema `buildProperty` accepted before the loop (`itemCheck`) -/
def Runs (c : Cfg) : Call → Prop
  | .val fld start t pv =>
      (∀ props p st, p.field = fld → p.path ≠ [] → p.jsonName ∉ st.seen →
        getPath st.m p.path = start → groupBusy props p st.m = false →
        decProp c props p t st =
          .ok { m := updPath props p (some pv) st.m, seen := p.jsonName :: st.seen }) ∧
      (start = none → itemCheck fld = .ok () →
        (∀ rest acc, decElems c fld (.cons t rest) acc = decElems c fld rest (acc ++ [pv])) ∧
        ∀ key kraw rest acc, mget key acc = none →
          decMapMembers c fld (.cons key kraw t rest) acc = decMapMembers c fld rest (mset key pv acc))
  | .prop props p t st st' => decProp c props p t st = .ok st'
  | .obj props ms st st' term => decObjMembers c props ms st = .ok (st', term)
  | .one ops ms st found ct st' found' ct' term =>
      decOneofMembers c ops ms st found ct = .ok (st', found', ct', term)
  | .elems item xs acc l term => decElems c item xs acc = .ok (l, term)
  | .map item ms acc l term => decMapMembers c item ms acc = .ok (l, term)

theorem Decodes.runs {c : Cfg} {j : Call} (h : Decodes c j) : Runs c j := by
  induction h with
  | @scalar k _ t tok pv hg hd =>
    have htok : tok ≠ .null := (Denotes.of_ok hd).ne_null
    refine ⟨fun props p st hf hne hns _ hgb => ?_,
      fun _ _ => ⟨fun rest acc => ?_, fun key kraw rest acc hm => ?_⟩⟩
    · unfold decProp; rw [hf]; dsimp only
      unfold decScalarProp
      cases t <;> simp only [goTok, Option.some.injEq, reduceCtorEq] at hg <;>
        first
        | exact absurd hg.symm htok
        | (rw [createField_path_ok props p st _ hne hns hgb]; simp only [goTok, hg, hd, Outcome.bind])
    · conv => lhs; unfold decElems
      simp only [hg, hd]
    · conv => lhs; unfold decMapMembers
      simp [hg, hd, hm]
  | @«enum» ref _ s raw pfx opts n hf hn =>
    refine ⟨fun props p st hfld hne hns _ hgb => ?_,
      fun _ _ => ⟨fun rest acc => ?_, fun key kraw rest acc hm => ?_⟩⟩
    · unfold decProp; rw [hfld]; dsimp only
      unfold decEnumProp
      rw [createField_path_ok props p st _ hne hns hgb]
      simp only [hf, hn]
    · conv => lhs; unfold decElems
      simp only [hf, hn]
    · conv => lhs; unfold decMapMembers
      simp [hf, hn, hm]
  | @object ref start sub ms r hf _ ih =>
    have ih : decObjMembers c sub ms { m := PVal.asMsg start, seen := [] } = .ok (r, .closed) := ih
    refine ⟨fun props p st hfld hne hns hstart hgb => ?_,
      fun hs _ => ⟨fun rest acc => ?_, fun key kraw rest acc hm => ?_⟩⟩
    · unfold decProp; rw [hfld]; dsimp only
      rw [createField_path_ok props p st _ hne hns hgb]
      subst hstart
      simp only [hf, subStart, ih, finishObjectProp, Outcome.bind, closeOk, beq_self_eq_true, if_true]
    · subst hs
      conv => lhs; unfold decElems
      simp only [hf, decObject, show decObjMembers c sub ms { m := [], seen := [] } = _ from ih,
        finishObject, closeOk, beq_self_eq_true, if_true]
    · subst hs
      conv => lhs; unfold decMapMembers
      simp [hf, decObject, show decObjMembers c sub ms { m := [], seen := [] } = _ from ih, finishObject,
        closeOk, hm]
  | @oneof ref start ops ms r found ct tp hf _ hpost ih =>
    have ih : decOneofMembers c ops ms { m := PVal.asMsg start, seen := [] } [] none =
        .ok (r, found, ct, .closed) := ih
    refine ⟨fun props p st hfld hne hns hstart hgb => ?_,
      fun hs _ => ⟨fun rest acc => ?_, fun key kraw rest acc hm => ?_⟩⟩
    · have hpe : p.path.isEmpty = false := List.isEmpty_eq_false_iff.mpr hne
      unfold decProp; rw [hfld]; dsimp only
      rw [createField_ok props p st hns hgb]
      subst hstart
      simp [Outcome.bind, hf, oneofStart, hpe, ih, finishOneofProp, hpost, closeOk]
    · subst hs
      conv => lhs; unfold decElems
      simp [hf, decOneof, show decOneofMembers c ops ms { m := [], seen := [] } [] none = _ from ih,
        finishOneof, hpost, closeOk]
    · subst hs
      conv => lhs; unfold decMapMembers
      simp [hf, decOneof, show decOneofMembers c ops ms { m := [], seen := [] } [] none = _ from ih,
        finishOneof, hpost, closeOk, hm]
  | @any pb _ ms acc tn vb inner hr hct hvb hin hpb =>
    refine ⟨fun props p st hfld hne hns _ hgb => ?_, fun _ hic => by cases hic⟩
    unfold decProp; rw [hfld]; dsimp only
    rw [createField_path_ok props p st _ hne hns hgb, hr,
      finishAnyProp_closed c props p pb _ acc tn vb inner hct hvb hin hpb]
  | @array item start xs l hic _ ih =>
    have ih : decElems c item xs (PVal.asList start) = .ok (l, .closed) := ih
    refine ⟨fun props p st hfld hne hns hstart hgb => ?_, fun _ hc => by cases hc⟩
    unfold decProp; rw [hfld]; dsimp only
    rw [createField_path_ok props p st _ hne hns hgb, hic]
    subst hstart
    simp only [Outcome.bind]
    rw [show listStart p { m := st.m, seen := p.jsonName :: st.seen } = PVal.asList (getPath st.m p.path)
      from rfl, ih]
    simp [finishArrayProp, Outcome.bind, closeOk]
  | @map item start ms l hic _ ih =>
    have ih : decMapMembers c item ms (PVal.asMap start) = .ok (l, .closed) := ih
    refine ⟨fun props p st hfld hne hns hstart hgb => ?_, fun _ hc => by cases hc⟩
    unfold decProp; rw [hfld]; dsimp only
    rw [createField_path_ok props p st _ hne hns hgb, hic]
    subst hstart
    simp only [Outcome.bind]
    rw [show mapStart p { m := st.m, seen := p.jsonName :: st.seen } = PVal.asMap (getPath st.m p.path)
      from rfl, ih]
    simp [finishMapProp, Outcome.bind, closeOk]
  | null => exact decProp_null _ _ _ _
  | value hne hns hgb _ ih => exact ih.1 _ _ _ rfl hne hns rfl hgb
  | @exposed props p ref ops ms st r found ct tp hpe hfld hf hns hgb _ hpost ih =>
    have ih : decOneofMembers c ops ms { m := st.m, seen := [] } [] none = .ok (r, found, ct, .closed) := ih
    show decProp c props p (.obj ms) st = _
    unfold decProp; rw [hfld]; dsimp only
    rw [createField_ok props p st hns hgb]
    simp [Outcome.bind, hf, oneofStart, hpe, ih, finishOneofProp, hpost, closeOk]
  | objNil hne =>
    show decObjMembers _ _ _ _ = _
    rw [decObjMembers_nil, if_neg (by cases ‹Term› <;> simp_all)]
  | objCons hf _ _ ihp ihr =>
    show decObjMembers _ _ _ _ = _
    rw [decObjMembers_cons, hf]; dsimp only
    rw [show decProp _ _ _ _ _ = _ from ihp]; exact ihr
  | oneNil => exact decOneofMembers_nil _ _ _ _ _ _
  | oneType _ ih =>
    show decOneofMembers _ _ _ _ _ _ = _
    rw [decOneofMembers_type _ _ _ _ _ _ _ _ _ rfl]; exact ih
  | oneCons hk hf _ _ ihp ihr =>
    show decOneofMembers _ _ _ _ _ _ = _
    rw [decOneofMembers_cons _ _ _ _ _ _ _ _ _ hk, hf]; dsimp only
    rw [show decProp _ _ _ _ _ = _ from ihp]; exact ihr
  | elemsNil hne =>
    show decElems _ _ _ _ = _
    unfold decElems
    rw [if_neg (by cases ‹Term› <;> simp_all)]
  | elemsCons hic _ _ ihv ihr =>
    show decElems _ _ _ _ = _
    rw [(ihv.2 rfl hic).1]; exact ihr
  | mapNil hne =>
    show decMapMembers _ _ _ _ = _
    unfold decMapMembers
    rw [if_neg (by cases ‹Term› <;> simp_all)]
  | mapCons hic hm _ _ ihv ihr =>
    show decMapMembers _ _ _ _ = _
    rw [(ihv.2 rfl hic).2 _ _ _ _ hm]; exact ihr

theorem decProp_ok_iff {c : Cfg} {props : List PropDef} {p : PropDef} {t : PTree} {st st' : PS} :
    decProp c props p t st = .ok st' ↔ DecProp c props p t st st' :=
  ⟨decProp_sound c props p t st st', Decodes.runs⟩

theorem decOneofMembers_ok_iff {c : Cfg} {ops : List PropDef} {ms : PMembers} {st st' : PS}
    {found found' : List Bytes} {ct ct' : Option Bytes} {term : Term} :
    decOneofMembers c ops ms st found ct = .ok (st', found', ct', term) ↔
      DecOne c ops ms st found ct st' found' ct' term :=
  ⟨decOne_sound c ops ms st found ct st' found' ct' term, Decodes.runs⟩

theorem DecVal.ne_null {c : Cfg} {fld : Field} {start : Option PVal} {t : PTree} {pv : PVal}
    (h : DecVal c fld start t pv) : t ≠ .null := by
  rintro rfl
  cases h with
  | scalar hg hd => cases hg; exact (Denotes.of_ok hd).ne_null rfl

theorem DecProp.marks {c : Cfg} {props : List PropDef} {p : PropDef} {t : PTree} {st st' : PS}
    (h : DecProp c props p t st st') :
    (t = .null ∧ st' = st) ∨ (t ≠ .null ∧ p.jsonName ∉ st.seen ∧ st'.seen = p.jsonName :: st.seen) := by
  cases h with
  | null => exact .inl ⟨rfl, rfl⟩
  | value _ hns _ hv => exact .inr ⟨DecVal.ne_null hv, hns, rfl⟩
  | exposed _ _ _ hns _ _ _ => exact .inr ⟨PTree.noConfusion, hns, rfl⟩

/-- a reflexive, transitive relation on decoder states that holds across every `decodeValue` step
holds across a member loop -/
theorem Decodes.chain {c : Cfg} (R : List PropDef → PS → PS → Prop) (hr : ∀ ps s, R ps s s)
    (ht : ∀ ps a b d, R ps a b → R ps b d → R ps a d)
    (hs : ∀ ps k p v s s1, findProp ps k = some p → DecProp c ps p v s s1 → R ps s s1) {j : Call}
    (h : Decodes c j) :
    match j with
    | .obj ps _ st st' _ => R ps st st'
    | .one ps _ st _ _ st' _ _ _ => R ps st st'
    | _ => True := by
  induction h with
  | objNil _ => exact hr _ _
  | objCons hf hp _ _ ih => exact ht _ _ _ _ (hs _ _ _ _ _ _ hf hp) ih
  | oneNil => exact hr _ _
  | oneType _ ih => exact ih
  | oneCons _ hf hp _ _ ih => exact ht _ _ _ _ (hs _ _ _ _ _ _ hf hp) ih
  | _ => trivial

/-- the oneof loop hands `foundKeys` and the last `"!type"` to the post-checks and, without an arm
member, leaves the message alone; a key once in a map keeps its value -/
def LoopFacts : Call → Prop
  | .one _ ms st found ct st' found' ct' _ =>
      found' = found ++ oneofKeys ms ∧ ct' = finalType ms ct ∧ (oneofKeys ms = [] → st' = st)
  | .map _ _ acc l _ => ∀ k0 v0, mget k0 acc = some v0 → mget k0 l = some v0
  | _ => True

theorem mget_mset_ne {α : Type} (k k' : Bytes) (v : α) (acc : List (Bytes × α)) (hne : k ≠ k') :
    mget k (mset k' v acc) = mget k acc := by
  induction acc with
  | nil => simp [mset, mget, hne]
  | cons kv t ih =>
    obtain ⟨k2, v2⟩ := kv
    simp only [mset]
    split
    · next h2 => subst h2; simp [mget, hne]
    · simp only [mget, ih]

theorem Decodes.loops {c : Cfg} {j : Call} (h : Decodes c j) : LoopFacts j := by
  induction h with
  | oneNil => simp [LoopFacts, oneofKeys, finalType]
  | oneType _ ih =>
    obtain ⟨h1, h2, h3⟩ := ih
    exact ⟨by rw [h1]; simp [oneofKeys], by rw [h2]; simp [finalType, finalType.typeKeyB],
      fun hk => h3 (by simpa [oneofKeys] using hk)⟩
  | oneCons hk _ _ _ _ ih =>
    obtain ⟨h1, h2, _⟩ := ih
    exact ⟨by rw [h1]; simp [oneofKeys, hk], by rw [h2]; simp [finalType, finalType.typeKeyB, hk],
      fun h0 => by simp [oneofKeys, hk] at h0⟩
  | mapNil _ => exact fun _ _ h => h
  | @mapCons _ k _ _ _ pv acc _ _ _ hnone _ _ _ ih =>
    intro k0 v0 hk
    have hne : k0 ≠ k := by intro e; rw [e, hnone] at hk; cases hk
    exact ih k0 v0 (by rw [mget_mset_ne k0 k pv acc hne]; exact hk)
  | _ => trivial

end J5V.Codec
