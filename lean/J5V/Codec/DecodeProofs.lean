import J5V.Codec.Query
import J5V.Go.OutcomeLemmas
import J5V.Codec.ScalarSpec
import J5V.Codec.SchemaProofs
import J5V.Codec.NPLemmas
/-!
# The decoder model: its equations, what a success tells, and totality (C06)

The loops of `Codec/Decode.lean` written with `Outcome.bind`, the root as the object / oneof decoder
of the named schema, what one iteration of the element / map loops does, and: no `.panic` outcome
is reachable, neither from a document (`decRootTree_np`) nor from a URL query (`decodeQuery_np`).
Every recursion over the document is structural, like the decoder's own.
-/
namespace J5V.Codec
open J5V.Go J5V.Json

theorem decodeScalar_np (O : Oracle) (k : ScalarKind) (t : GoTok) : NP (decodeScalar O k t) := by
  intro w
  rcases decodeScalar_spec O k t with ⟨_, e, _⟩ | ⟨e, _⟩ | ⟨_, e⟩ <;> rw [e] <;> exact nofun

theorem find_rootOk (env : Env) (h : env.itemsOk = true) (name : String) (r : Root)
    (hf : env.find name = some r) : rootOk r = true := by
  unfold Env.find at hf
  cases hd : env.defs.find? (fun d => d.1 == name) with
  | none => simp [hd] at hf
  | some d =>
    simp only [hd, Option.map_some, Option.some.injEq] at hf
    subst hf
    exact List.all_eq_true.mp h d (List.mem_of_find?_eq_some hd)

theorem find_object_ok (c : Cfg) (hc : c.env.itemsOk = true) (ref : String) (sub : List PropDef)
    (h : c.env.find ref = some (.object sub)) : propsOk sub = true :=
  find_rootOk c.env hc ref _ h

theorem find_oneof_ok (c : Cfg) (hc : c.env.itemsOk = true) (ref : String) (sub : List PropDef)
    (h : c.env.find ref = some (.oneof sub)) : propsOk sub = true :=
  find_rootOk c.env hc ref _ h

theorem propsOk_mem (props : List PropDef) (h : propsOk props = true) (p : PropDef) (hp : p ∈ props) :
    fieldOk p.field = true :=
  List.all_eq_true.mp h p hp

/-- the properties a member key selects are well-formed -/
theorem findProp_ok (props : List PropDef) (h : propsOk props = true) (k : Bytes) (p : PropDef)
    (hf : findProp props k = some p) : fieldOk p.field = true :=
  propsOk_mem props h p (findProp_mem props k p hf)

/-! ## the decoder's equations -/

theorem decObjMembers_nil (c : Cfg) (props : List PropDef) (term : Term) (st : PS) :
    decObjMembers c props (.nil term) st =
      if term == .errIn then .err "token" else .ok (st, term) := by
  rw [decObjMembers]

theorem decObjMembers_cons (c : Cfg) (props : List PropDef) (k kr : Bytes) (v : PTree)
    (rest : PMembers) (st : PS) :
    decObjMembers c props (.cons k kr v rest) st =
      match findProp props k with
      | none => .err "no such field"
      | some p => (decProp c props p v st).bind fun st1 => decObjMembers c props rest st1 := by
  rw [decObjMembers]
  cases findProp props k with
  | none => rfl
  | some p => cases h : decProp c props p v st <;> simp only [h, Outcome.bind]

theorem decOneofMembers_nil (c : Cfg) (ops : List PropDef) (term : Term) (st : PS)
    (found : List Bytes) (ct : Option Bytes) :
    decOneofMembers c ops (.nil term) st found ct = .ok (st, found, ct, term) := by
  rw [decOneofMembers]

/-- the reserved key: a string sets `constrainType`, anything else is an error -/
theorem decOneofMembers_type (c : Cfg) (ops : List PropDef) (k kr : Bytes) (v : PTree)
    (rest : PMembers) (st : PS) (found : List Bytes) (ct : Option Bytes) (hk : k = ascii "!type") :
    decOneofMembers c ops (.cons k kr v rest) st found ct =
      match v with
      | .str s _ => decOneofMembers c ops rest st found (some s)
      | _ => .err "unexpected token, expected string" := by
  conv => lhs; unfold decOneofMembers
  rw [if_pos hk]
  cases v <;> rfl

theorem decOneofMembers_cons (c : Cfg) (ops : List PropDef) (k kr : Bytes) (v : PTree)
    (rest : PMembers) (st : PS) (found : List Bytes) (ct : Option Bytes) (hk : k ≠ ascii "!type") :
    decOneofMembers c ops (.cons k kr v rest) st found ct =
      match findProp ops k with
      | none => .err "no such key"
      | some p => (decProp c ops p v st).bind fun st1 =>
          decOneofMembers c ops rest st1 (found ++ [k]) ct := by
  conv => lhs; unfold decOneofMembers
  rw [if_neg hk]
  cases findProp ops k with
  | none => rfl
  | some p => cases h : decProp c ops p v st <;> simp only [h, Outcome.bind]

theorem decObject_obj (c : Cfg) (props : List PropDef) (ms : PMembers) :
    decObject c props (.obj ms) = finishObject (decObjMembers c props ms { m := [], seen := [] }) := by
  rw [decObject]

theorem decOneof_obj (c : Cfg) (ops : List PropDef) (ms : PMembers) :
    decOneof c ops (.obj ms) =
      finishOneof ops (decOneofMembers c ops ms { m := [], seen := [] } [] none) := by
  rw [decOneof]

/-- the root is decoded as an object / oneof of the named schema -/
theorem decRootTree_eq (c : Cfg) (root : String) (t : PTree) :
    decRootTree c root t =
      match c.env.find root with
      | some (.object props) => decObject c props t
      | some (.oneof ops) => decOneof c ops t
      | _ => .err "unsupported root schema type" := by
  unfold decRootTree decObject decOneof
  cases c.env.find root with
  | none => rfl
  | some r => cases r <;> rfl

/-- a property of every outcome of the object / oneof decoders (and of the error) holds of the root -/
theorem decRootTree_cases {P : Outcome Fields → Prop} (c : Cfg) (root : String) (t : PTree)
    (hobj : ∀ props, c.env.find root = some (.object props) → P (decObject c props t))
    (hone : ∀ ops, c.env.find root = some (.oneof ops) → P (decOneof c ops t))
    (herr : ∀ e, P (.err e)) : P (decRootTree c root t) := by
  rw [decRootTree_eq]
  split
  · next props hfind => exact hobj props hfind
  · next ops hfind => exact hone ops hfind
  · exact herr _

/-- `decodeValue` skips an explicit `null`, whatever the field kind -/
theorem decProp_null (c : Cfg) (props : List PropDef) (p : PropDef) (st : PS) :
    decProp c props p .null st = .ok st := by
  unfold decProp
  cases p.field <;> rfl

/-! ## what a success tells -/

theorem createField_inv (props : List PropDef) (p : PropDef) (st st1 : PS)
    (h : createField props p st = .ok st1) :
    st1 = { m := st.m, seen := p.jsonName :: st.seen } ∧ p.jsonName ∉ st.seen ∧
      groupBusy props p st.m = false := by
  unfold createField at h
  split at h
  · cases h
  · next hns =>
    split at h
    · cases h
    · next hgb =>
      cases h
      exact ⟨rfl, fun hmem => hns (List.contains_iff_mem.mpr hmem), by simpa using hgb⟩

theorem closeOk_iff (t : Term) : closeOk t = true ↔ t = .closed := by
  cases t <;> simp [closeOk]

theorem finishObject_inv (r : Outcome (PS × Term)) (fs : Fields) (h : finishObject r = .ok fs) :
    ∃ st, r = .ok (st, .closed) ∧ fs = st.m := by
  unfold finishObject at h
  split at h
  · next st term =>
    split at h
    · next hc =>
      cases h; rw [(closeOk_iff term).mp hc]; exact ⟨st, rfl, rfl⟩
    · cases h
  · cases h
  · cases h

theorem finishOneof_inv (ops : List PropDef) (r : Outcome (PS × List Bytes × Option Bytes × Term))
    (fs : Fields) (h : finishOneof ops r = .ok fs) :
    ∃ st found ct tp, r = .ok (st, found, ct, .closed) ∧ oneofPost ops found ct st.m = .ok tp ∧
      fs = applyPost ops tp st.m := by
  unfold finishOneof at h
  split at h
  · next st found ct term =>
    split at h
    · cases h
    · split at h
      · next tp hpost =>
        split at h
        · next hc =>
          cases h; rw [(closeOk_iff term).mp hc]; exact ⟨st, found, ct, tp, rfl, hpost, rfl⟩
        · cases h
      · cases h
      · cases h
  · cases h
  · cases h

/-- `CreateField` and the path check in front of every container arm of `decodeValue` -/
theorem createField_path_inv (props : List PropDef) (p : PropDef) (st st' : PS) (tail : PS → Outcome PS)
    (h : ((createField props p st).bind fun st1 =>
      if p.path.isEmpty then .err pathErr else tail st1) = .ok st') :
    p.path ≠ [] ∧ p.jsonName ∉ st.seen ∧ groupBusy props p st.m = false ∧
      tail { m := st.m, seen := p.jsonName :: st.seen } = .ok st' := by
  obtain ⟨st1, hcf, h⟩ := bind_eq_ok h
  obtain ⟨rfl, hns, hgb⟩ := createField_inv props p st st1 hcf
  split at h
  · cases h
  · next hpe => exact ⟨fun e => hpe (by rw [e]; rfl), hns, hgb, h⟩

/-- what the decoder did with one array element / map value -/
def ItemDec (c : Cfg) (item : Field) (v : PTree) (pv : PVal) : Prop :=
  match item with
  | .scalar k => ∃ tok, goTok v = some tok ∧ decodeScalar c.O k tok = .ok (some pv)
  | .enum ref => ∃ s raw pfx opts n, v = .str s raw ∧ c.env.find ref = some (.enum pfx opts) ∧
      enumOptionByName pfx opts s = some n ∧ pv = .enum n
  | .object ref => ∃ sub fs, c.env.find ref = some (.object sub) ∧ decObject c sub v = .ok fs ∧
      pv = .msg fs
  | .oneof ref => ∃ ops fs, c.env.find ref = some (.oneof ops) ∧ decOneof c ops v = .ok fs ∧
      pv = .msg fs
  | _ => False

/-- the nested decode of an object / oneof item panicked -/
def ItemPanic (c : Cfg) (item : Field) (v : PTree) (w : String) : Prop :=
  (∃ ref sub, item = .object ref ∧ c.env.find ref = some (.object sub) ∧ decObject c sub v = .panic w) ∨
  (∃ ref ops, item = .oneof ref ∧ c.env.find ref = some (.oneof ops) ∧ decOneof c ops v = .panic w)

/-! No `bind` form over "decode one item": the same item failure has different texts in the array
loop, the map loop and `decProp`, and the map loop checks the key before a container value but after a
scalar or enum. So a step is stated up to the text of the error. -/

/-- one array element: its value is appended and the loop goes on, or the loop fails -/
theorem elem_step (c : Cfg) (item : Field) (v : PTree) (rest : PElems) (acc : List PVal) :
    (∃ pv, ItemDec c item v pv ∧
      decElems c item (.cons v rest) acc = decElems c item rest (acc ++ [pv])) ∨
    (∃ e, decElems c item (.cons v rest) acc = .err e) ∨
    (∃ w, decElems c item (.cons v rest) acc = .panic w ∧ ItemPanic c item v w) := by
  generalize hL : decElems c item (.cons v rest) acc = L
  unfold decElems at hL
  cases item with
  | scalar k =>
    dsimp only at hL
    split at hL
    · exact Or.inr (Or.inl ⟨_, hL.symm⟩)
    · next tok htok =>
      split at hL
      · next pv hd => exact Or.inl ⟨pv, ⟨tok, htok, hd⟩, hL.symm⟩
      · exact Or.inr (Or.inl ⟨_, hL.symm⟩)
      · exact Or.inr (Or.inl ⟨_, hL.symm⟩)
      · next w hd => exact absurd hd (decodeScalar_np _ _ _ w)
  | «enum» ref =>
    dsimp only at hL
    split at hL
    · next _ _ s raw pfx opts hfind =>
      split at hL
      · next n hn => exact Or.inl ⟨.enum n, ⟨s, raw, pfx, opts, n, rfl, hfind, hn, rfl⟩, hL.symm⟩
      · exact Or.inr (Or.inl ⟨_, hL.symm⟩)
    · exact Or.inr (Or.inl ⟨_, hL.symm⟩)
  | object ref =>
    dsimp only at hL
    split at hL
    · next sub hfind =>
      split at hL
      · next fs hd => exact Or.inl ⟨.msg fs, ⟨sub, fs, hfind, hd, rfl⟩, hL.symm⟩
      · exact Or.inr (Or.inl ⟨_, hL.symm⟩)
      · next w hd => exact Or.inr (Or.inr ⟨w, hL.symm, Or.inl ⟨ref, sub, rfl, hfind, hd⟩⟩)
    · exact Or.inr (Or.inl ⟨_, hL.symm⟩)
  | oneof ref =>
    dsimp only at hL
    split at hL
    · next ops hfind =>
      split at hL
      · next fs hd => exact Or.inl ⟨.msg fs, ⟨ops, fs, hfind, hd, rfl⟩, hL.symm⟩
      · exact Or.inr (Or.inl ⟨_, hL.symm⟩)
      · next w hd => exact Or.inr (Or.inr ⟨w, hL.symm, Or.inr ⟨ref, ops, rfl, hfind, hd⟩⟩)
    · exact Or.inr (Or.inl ⟨_, hL.symm⟩)
  | _ => exact Or.inr (Or.inl ⟨_, hL.symm⟩)

/-- one map value: it is set under its (new) key and the loop goes on, or the loop fails -/
theorem map_step (c : Cfg) (item : Field) (k kr : Bytes) (v : PTree) (rest : PMembers)
    (acc : List (Bytes × PVal)) :
    (mget k acc = none ∧ ∃ pv, ItemDec c item v pv ∧
      decMapMembers c item (.cons k kr v rest) acc = decMapMembers c item rest (mset k pv acc)) ∨
    (∃ e, decMapMembers c item (.cons k kr v rest) acc = .err e) ∨
    (∃ w, decMapMembers c item (.cons k kr v rest) acc = .panic w ∧ ItemPanic c item v w) := by
  generalize hL : decMapMembers c item (.cons k kr v rest) acc = L
  unfold decMapMembers at hL
  cases item with
  | scalar sk =>
    dsimp only at hL
    split at hL
    · exact Or.inr (Or.inl ⟨_, hL.symm⟩)
    · next tok htok =>
      split at hL
      · next pv hd =>
        split at hL
        · exact Or.inr (Or.inl ⟨_, hL.symm⟩)
        · next hk => exact Or.inl ⟨by simpa using hk, pv, ⟨tok, htok, hd⟩, hL.symm⟩
      · exact Or.inr (Or.inl ⟨_, hL.symm⟩)
      · exact Or.inr (Or.inl ⟨_, hL.symm⟩)
      · next w hd => exact absurd hd (decodeScalar_np _ _ _ w)
  | «enum» ref =>
    dsimp only at hL
    split at hL
    · next _ _ s raw pfx opts hfind =>
      split at hL
      · next n hn =>
        split at hL
        · exact Or.inr (Or.inl ⟨_, hL.symm⟩)
        · next hk =>
          exact Or.inl ⟨by simpa using hk, .enum n, ⟨s, raw, pfx, opts, n, rfl, hfind, hn, rfl⟩, hL.symm⟩
      · exact Or.inr (Or.inl ⟨_, hL.symm⟩)
    · exact Or.inr (Or.inl ⟨_, hL.symm⟩)
  | object ref =>
    dsimp only at hL
    split at hL
    · exact Or.inr (Or.inl ⟨_, hL.symm⟩)
    · next hk =>
      split at hL
      · next sub hfind =>
        split at hL
        · next fs hd => exact Or.inl ⟨by simpa using hk, .msg fs, ⟨sub, fs, hfind, hd, rfl⟩, hL.symm⟩
        · exact Or.inr (Or.inl ⟨_, hL.symm⟩)
        · next w hd => exact Or.inr (Or.inr ⟨w, hL.symm, Or.inl ⟨ref, sub, rfl, hfind, hd⟩⟩)
      · exact Or.inr (Or.inl ⟨_, hL.symm⟩)
  | oneof ref =>
    dsimp only at hL
    split at hL
    · exact Or.inr (Or.inl ⟨_, hL.symm⟩)
    · next hk =>
      split at hL
      · next ops hfind =>
        split at hL
        · next fs hd => exact Or.inl ⟨by simpa using hk, .msg fs, ⟨ops, fs, hfind, hd, rfl⟩, hL.symm⟩
        · exact Or.inr (Or.inl ⟨_, hL.symm⟩)
        · next w hd => exact Or.inr (Or.inr ⟨w, hL.symm, Or.inr ⟨ref, ops, rfl, hfind, hd⟩⟩)
      · exact Or.inr (Or.inl ⟨_, hL.symm⟩)
  | _ => exact Or.inr (Or.inl ⟨_, hL.symm⟩)
theorem elem_step_inv (c : Cfg) (item : Field) (v : PTree) (rest : PElems) (acc : List PVal)
    (r : List PVal × Term) (h : decElems c item (.cons v rest) acc = .ok r) :
    ∃ pv, ItemDec c item v pv ∧ decElems c item rest (acc ++ [pv]) = .ok r := by
  rcases elem_step c item v rest acc with ⟨pv, hid, e⟩ | ⟨_, e⟩ | ⟨_, e, _⟩
  · exact ⟨pv, hid, e ▸ h⟩
  · rw [e] at h; cases h
  · rw [e] at h; cases h

theorem map_step_inv (c : Cfg) (item : Field) (k kr : Bytes) (v : PTree) (rest : PMembers)
    (acc : List (Bytes × PVal)) (r : List (Bytes × PVal) × Term)
    (h : decMapMembers c item (.cons k kr v rest) acc = .ok r) :
    mget k acc = none ∧ ∃ pv, ItemDec c item v pv ∧ decMapMembers c item rest (mset k pv acc) = .ok r := by
  rcases map_step c item k kr v rest acc with ⟨hk, pv, hid, e⟩ | ⟨_, e⟩ | ⟨_, e, _⟩
  · exact ⟨hk, pv, hid, e ▸ h⟩
  · rw [e] at h; cases h
  · rw [e] at h; cases h

/-! ## no panic: documents -/

theorem createField_np (props : List PropDef) (p : PropDef) (st : PS) :
    NP (createField props p st) := by
  intro w; unfold createField; (repeat' split) <;> simp

theorem oneofPost_np (ops : List PropDef) (found : List Bytes) (ct : Option Bytes) (m : Fields) :
    NP (oneofPost ops found ct m) := by
  intro w; unfold oneofPost; (repeat' split) <;> simp

theorem decScalarProp_np (c : Cfg) (props : List PropDef) (p : PropDef) (k : ScalarKind) (t : PTree)
    (st : PS) : NP (decScalarProp c props p k t st) := by
  unfold decScalarProp
  split
  · exact NP_err _
  · exact NP_err _
  · exact NP_ok _
  · refine NP_bind _ _ (createField_np _ p st) fun st1 => NP_ite _ _ _ (NP_err _) ?_
    split
    · exact NP_err _
    · exact NP_bind _ _ (decodeScalar_np _ _ _) (fun v => NP_ok _)

theorem decEnumProp_np (c : Cfg) (props : List PropDef) (p : PropDef) (ref : String) (t : PTree)
    (st : PS) : NP (decEnumProp c props p ref t st) := by
  unfold decEnumProp
  split
  · exact NP_err _
  · exact NP_err _
  · exact NP_ok _
  · refine NP_bind _ _ (createField_np _ p st) fun st1 => NP_ite _ _ _ (NP_err _) ?_
    split
    · split
      · exact NP_ok _
      · exact NP_err _
    · exact NP_err _

theorem finishObjectProp_np (props : List PropDef) (p : PropDef) (st1 : PS) (r : Outcome (PS × Term))
    (h : NP r) : NP (finishObjectProp props p st1 r) :=
  NP_bind _ _ h fun _ => NP_ite _ _ _ (NP_ok _) (NP_err _)

theorem finishOneofProp_np (ops props : List PropDef) (p : PropDef) (st1 : PS)
    (r : Outcome (PS × List Bytes × Option Bytes × Term)) (h : NP r) :
    NP (finishOneofProp ops props p st1 r) :=
  NP_bind _ _ h fun _ => NP_ite _ _ _ (NP_err _)
    (NP_bind _ _ (oneofPost_np _ _ _ _) fun _ => NP_ite _ _ _ (NP_ok _) (NP_err _))

theorem finishArrayProp_np (props : List PropDef) (p : PropDef) (st1 : PS)
    (r : Outcome (List PVal × Term)) (h : NP r) : NP (finishArrayProp props p st1 r) :=
  NP_bind _ _ h fun _ => NP_ite _ _ _ (NP_ok _) (NP_err _)

theorem finishMapProp_np (props : List PropDef) (p : PropDef) (st1 : PS)
    (r : Outcome (List (Bytes × PVal) × Term)) (h : NP r) : NP (finishMapProp props p st1 r) :=
  NP_bind _ _ h fun _ => NP_ite _ _ _ (NP_ok _) (NP_err _)

theorem finishObject_np (r : Outcome (PS × Term)) (h : NP r) : NP (finishObject r) := by
  unfold finishObject
  split
  · exact NP_ite _ _ _ (NP_ok _) (NP_err _)
  · exact NP_err _
  · next w' => exact absurd rfl (h w')

theorem finishOneof_np (ops : List PropDef) (r : Outcome (PS × List Bytes × Option Bytes × Term))
    (h : NP r) : NP (finishOneof ops r) := by
  unfold finishOneof
  split
  · refine NP_ite _ _ _ (NP_err _) ?_
    split
    · exact NP_ite _ _ _ (NP_ok _) (NP_err _)
    · exact NP_err _
    · next w' heq => exact absurd heq (oneofPost_np _ _ _ _ w')
  · exact NP_err _
  · next w' => exact absurd rfl (h w')

/-- the accumulator of `decodeAny` never holds a panicking inner outcome -/
def AnyAcc.npInner (acc : AnyAcc) : Prop := NP acc.inner

theorem finishAnyProp_np (c : Cfg) (props : List PropDef) (p : PropDef) (pb : Bool) (st1 : PS)
    (r : Outcome (AnyAcc × Term)) (h : NP r) (hin : ∀ acc term, r = .ok (acc, term) → NP acc.inner) :
    NP (finishAnyProp c props p pb st1 r) := by
  unfold finishAnyProp
  cases r with
  | err e => exact NP_err e
  | panic w' => exact absurd rfl (h w')
  | ok a =>
    obtain ⟨acc, term⟩ := a
    have hacc := hin acc term rfl
    refine NP_ite _ _ _ (NP_err _) ?_
    cases acc.ct with
    | none => exact NP_err _
    | some tn =>
      cases acc.valueBytes with
      | none => exact NP_err _
      | some vb =>
        refine NP_bind _ _ (NP_ite _ _ _ hacc (NP_ok _)) fun inner => ?_
        exact NP_ite _ _ _ (NP_ite _ _ _ (NP_err _) (NP_ite _ _ _ (NP_ok _) (NP_err _)))
          (NP_ite _ _ _ (NP_ok _) (NP_err _))

theorem itemCheck_np (item : Field) (h : fieldOk (.array item) = true ∨ fieldOk (.map item) = true) :
    NP (itemCheck item) := by
  intro w
  cases item <;> simp [itemCheck, fieldOk] at h ⊢

mutual
theorem decProp_np (c : Cfg) (hc : c.env.itemsOk = true) (props : List PropDef) (p : PropDef)
    (hp : fieldOk p.field = true) (t : PTree) (st : PS) : NP (decProp c props p t st) := by
  unfold decProp
  split
  · exact decScalarProp_np _ _ _ _ _ _
  · exact decEnumProp_np _ _ _ _ _ _
  · -- object
    cases t with
    | null => exact NP_ok _
    | obj ms =>
      refine NP_bind _ _ (createField_np _ p st) fun st1 => NP_ite _ _ _ (NP_err _) ?_
      split
      · next sub hfind =>
        exact finishObjectProp_np _ _ _ _
          (decObjMembers_np c hc sub (find_object_ok c hc _ sub hfind) ms _)
      · exact NP_err _
    | _ => exact NP_err _
  · -- oneof
    cases t with
    | null => exact NP_ok _
    | obj ms =>
      refine NP_bind _ _ (createField_np _ p st) fun st1 => ?_
      split
      · next ops hfind =>
        exact finishOneofProp_np _ _ _ _ _
          (decOneofMembers_np c hc ops (find_oneof_ok c hc _ ops hfind) ms _ _ _)
      · exact NP_err _
    | _ => exact NP_err _
  · -- any
    cases t with
    | null => exact NP_ok _
    | obj ms =>
      refine NP_bind _ _ (createField_np _ p st) fun st1 => NP_ite _ _ _ (NP_err _) ?_
      have h := decAnyMembers_np c hc (finalType ms none) ms {} (NP_ok _)
      exact finishAnyProp_np _ _ _ _ _ _ h.1 h.2
    | _ => exact NP_err _
  · -- array
    next item hfield =>
    cases t with
    | null => exact NP_ok _
    | arr xs =>
      refine NP_bind _ _ (createField_np _ p st) fun st1 => NP_ite _ _ _ (NP_err _) ?_
      exact NP_bind _ _ (itemCheck_np item (Or.inl (hfield ▸ hp))) fun _ =>
        finishArrayProp_np _ _ _ _ (decElems_np c hc item xs _)
    | _ => exact NP_err _
  · -- map
    next item hfield =>
    cases t with
    | null => exact NP_ok _
    | obj ms =>
      refine NP_bind _ _ (createField_np _ p st) fun st1 => NP_ite _ _ _ (NP_err _) ?_
      exact NP_bind _ _ (itemCheck_np item (Or.inr (hfield ▸ hp))) fun _ =>
        finishMapProp_np _ _ _ _ (decMapMembers_np c hc item ms _)
    | _ => exact NP_err _
termination_by structural t

theorem decObjMembers_np (c : Cfg) (hc : c.env.itemsOk = true) (props : List PropDef)
    (hps : propsOk props = true) (ms : PMembers) (st : PS) : NP (decObjMembers c props ms st) := by
  cases ms with
  | nil term => rw [decObjMembers_nil]; exact NP_ite _ _ _ (NP_err _) (NP_ok _)
  | cons k kr v rest =>
    rw [decObjMembers_cons]
    split
    · exact NP_err _
    · next p hfp =>
      exact NP_bind _ _ (decProp_np c hc props p (findProp_ok props hps k p hfp) v st)
        fun st1 => decObjMembers_np c hc props hps rest st1
termination_by structural ms

theorem decOneofMembers_np (c : Cfg) (hc : c.env.itemsOk = true) (ops : List PropDef)
    (hps : propsOk ops = true) (ms : PMembers) (st : PS) (found : List Bytes) (ct : Option Bytes) :
    NP (decOneofMembers c ops ms st found ct) := by
  cases ms with
  | nil term => rw [decOneofMembers_nil]; exact NP_ok _
  | cons k kr v rest =>
    by_cases hk : k = ascii "!type"
    · rw [decOneofMembers_type c ops k kr v rest st found ct hk]
      split
      · exact decOneofMembers_np c hc ops hps rest _ _ _
      · exact NP_err _
    · rw [decOneofMembers_cons c ops k kr v rest st found ct hk]
      split
      · exact NP_err _
      · next p hfp =>
        exact NP_bind _ _ (decProp_np c hc ops p (findProp_ok ops hps k p hfp) v st)
          fun st1 => decOneofMembers_np c hc ops hps rest st1 _ _
termination_by structural ms

/-- second half: `finishAnyProp` reads `acc.inner` after the loop -/
theorem decAnyMembers_np (c : Cfg) (hc : c.env.itemsOk = true) (ftype : Option Bytes) (ms : PMembers)
    (acc : AnyAcc) (hacc : NP acc.inner) :
    NP (decAnyMembers c ftype ms acc) ∧
      ∀ acc' term, decAnyMembers c ftype ms acc = .ok (acc', term) → NP acc'.inner := by
  have herr : ∀ e, NP (Outcome.err e : Outcome (AnyAcc × Term)) ∧
      ∀ acc' term, (Outcome.err e : Outcome (AnyAcc × Term)) = .ok (acc', term) → NP acc'.inner :=
    fun e => ⟨NP_err e, fun _ _ h => by cases h⟩
  cases ms with
  | nil term =>
    unfold decAnyMembers
    exact ⟨NP_ok _, fun acc' term' h => by cases h; exact hacc⟩
  | cons k kr v rest =>
    unfold decAnyMembers
    by_cases hk : k = ascii "!type"
    · rw [if_pos hk]
      cases v with
      | str s raw => exact decAnyMembers_np c hc ftype rest _ hacc
      | _ => exact herr _
    · rw [if_neg hk]
      by_cases hv : k ≠ ascii "value"
      · rw [if_pos hv]; exact herr _
      · rw [if_neg hv]
        by_cases hvb : acc.valueBytes.isSome = true
        · rw [if_pos hvb]; exact herr _
        · rw [if_neg hvb]
          cases popValueAsBytes v with
          | none => exact herr _
          | some vb =>
            -- the value decoded into the named type, one level deeper
            apply decAnyMembers_np c hc ftype rest
            dsimp only
            split
            · exact NP_ok _
            · refine NP_ite _ _ _ (NP_err _) ?_
              split
              · exact NP_err _
              · next root _ =>
                have : NP (decRootTree { c with anyDepth := c.anyDepth + 1 } root v) :=
                  decRootTree_cases _ root v
                    (fun props hf => decObject_np { c with anyDepth := c.anyDepth + 1 } hc props
                      (find_object_ok c hc _ props hf) v)
                    (fun ops hf => decOneof_np { c with anyDepth := c.anyDepth + 1 } hc ops
                      (find_oneof_ok c hc _ ops hf) v) NP_err
                split
                · exact NP_ok _
                · exact NP_err _
                · next w' heq => exact absurd heq (this w')
termination_by structural ms

theorem decElems_np (c : Cfg) (hc : c.env.itemsOk = true) (item : Field) (xs : PElems)
    (acc : List PVal) : NP (decElems c item xs acc) := by
  cases xs with
  | nil term => unfold decElems; exact NP_ite _ _ _ (NP_err _) (NP_ok _)
  | cons v rest =>
    rcases elem_step c item v rest acc with ⟨pv, _, e⟩ | ⟨_, e⟩ | ⟨w, _, hp⟩
    · rw [e]; exact decElems_np c hc item rest _
    · rw [e]; exact NP_err _
    · rcases hp with ⟨ref, sub, _, hf, hd⟩ | ⟨ref, ops, _, hf, hd⟩
      · exact absurd hd (decObject_np c hc sub (find_object_ok c hc _ sub hf) v w)
      · exact absurd hd (decOneof_np c hc ops (find_oneof_ok c hc _ ops hf) v w)
termination_by structural xs

theorem decMapMembers_np (c : Cfg) (hc : c.env.itemsOk = true) (item : Field) (ms : PMembers)
    (acc : List (Bytes × PVal)) : NP (decMapMembers c item ms acc) := by
  cases ms with
  | nil term => unfold decMapMembers; exact NP_ite _ _ _ (NP_err _) (NP_ok _)
  | cons k kr v rest =>
    rcases map_step c item k kr v rest acc with ⟨_, pv, _, e⟩ | ⟨_, e⟩ | ⟨w, _, hp⟩
    · rw [e]; exact decMapMembers_np c hc item rest _
    · rw [e]; exact NP_err _
    · rcases hp with ⟨ref, sub, _, hf, hd⟩ | ⟨ref, ops, _, hf, hd⟩
      · exact absurd hd (decObject_np c hc sub (find_object_ok c hc _ sub hf) v w)
      · exact absurd hd (decOneof_np c hc ops (find_oneof_ok c hc _ ops hf) v w)
termination_by structural ms

theorem decObject_np (c : Cfg) (hc : c.env.itemsOk = true) (props : List PropDef)
    (hps : propsOk props = true) (t : PTree) : NP (decObject c props t) := by
  cases t with
  | obj ms => rw [decObject_obj]; exact finishObject_np _ (decObjMembers_np c hc props hps ms _)
  | _ => exact NP_err _
termination_by structural t

theorem decOneof_np (c : Cfg) (hc : c.env.itemsOk = true) (ops : List PropDef)
    (hps : propsOk ops = true) (t : PTree) : NP (decOneof c ops t) := by
  cases t with
  | obj ms => rw [decOneof_obj]; exact finishOneof_np _ _ (decOneofMembers_np c hc ops hps ms _ _ _)
  | _ => exact NP_err _
termination_by structural t

end

theorem decRootTree_np (c : Cfg) (hc : c.env.itemsOk = true) (root : String) (t : PTree) :
    NP (decRootTree c root t) :=
  decRootTree_cases c root t
    (fun props hf => decObject_np c hc props (find_object_ok c hc _ props hf) t)
    (fun ops hf => decOneof_np c hc ops (find_oneof_ok c hc _ ops hf) t) NP_err

/-- `Codec.JSONToProto` never panics, on any byte string -/
theorem decodeBytes_np (c : Cfg) (hc : c.env.itemsOk = true) (root : String) (bs : Bytes) :
    NP (decodeBytes c root bs) := decRootTree_np c hc root _

/-! ## no panic: URL queries -/

theorem qCreate_np (props : List PropDef) (p : PropDef) (hp : fieldOk p.field = true)
    (loc : List Nat) (trail : List Bytes) (st : QS) :
    NP (qCreate props p loc trail st) := by
  unfold qCreate
  refine NP_ite _ _ _ (NP_err _) (NP_ite _ _ _ (NP_err _) ?_)
  -- `fieldOk` excludes the four panicking arms
  split <;> first | exact NP_ok _ | exact NP_err _ | (next hf _ => rw [hf] at hp; cases hp)

theorem qEnter_np (props : List PropDef) (p : PropDef) (hp : fieldOk p.field = true) (loc : List Nat)
    (trail : List Bytes) (st : QS) : NP (qEnter props p loc trail st) := by
  unfold qEnter
  split
  · exact NP_ok _
  · exact NP_bind _ _ (qCreate_np props p hp loc trail st) fun s =>
      NP_ite _ _ _ (NP_ok _) (NP_ite _ _ _ (NP_ok _) (NP_ok _))

theorem queryLeaf_np (c : Cfg) (hc : c.env.itemsOk = true) (props : List PropDef) (p : PropDef)
    (loc : List Nat) (trail : List Bytes) (values : List Bytes) (hv : values ≠ []) (st : QS) :
    NP (queryLeaf c props p loc trail values st) := by
  unfold queryLeaf
  extract_lets setv
  split
  · -- scalar
    split
    · exact NP_err _
    · exact absurd rfl hv
    · split
      · exact NP_ok _
      · exact NP_err _
      · next w' heq => exact absurd heq (decodeScalar_np _ _ _ w')
  · -- enum
    split
    · exact NP_err _
    · exact absurd rfl hv
    · split
      · split
        · exact NP_ok _
        · exact NP_err _
      · exact NP_err _
  · -- array of scalar
    dsimp only
    split
    · exact NP_ok _
    · exact NP_err _
    · next w' heq =>
      refine absurd heq (foldl_noPanic _ (fun l v => ?_) (fun x b hx => ?_) values _ (NP_ok _) w')
      · dsimp only
        split
        · exact NP_ok _
        · exact NP_err _
        · exact NP_err _
        · next w' heq => exact absurd heq (decodeScalar_np _ _ _ w')
      · cases x with
        | ok a => exact absurd rfl (hx a)
        | _ => rfl
  · -- array of enum
    split
    · dsimp only
      split
      · exact NP_ok _
      · exact NP_err _
      · next w' heq =>
        refine absurd heq (foldl_noPanic _ (fun l v => ?_) (fun x b hx => ?_) values _ (NP_ok _) w')
        · dsimp only
          split
          · exact NP_ok _
          · exact NP_err _
        · cases x with
          | ok a => exact absurd rfl (hx a)
          | _ => rfl
    · exact NP_ite _ _ _ (NP_ok _) (NP_err _)
  · -- object
    split
    · exact NP_err _
    · exact absurd rfl hv
    · dsimp only
      refine NP_ite _ _ _ (NP_err _) ?_
      split
      · next sub hfind =>
        split
        · split
          · exact NP_ite _ _ _ (NP_ok _) (NP_err _)
          · exact NP_err _
          · next w' heq =>
            exact absurd heq (decObjMembers_np c hc sub (find_object_ok c hc _ sub hfind) _ _ w')
        · exact NP_err _
      · exact NP_err _
  · -- oneof
    split
    · exact NP_err _
    · exact absurd rfl hv
    · dsimp only
      refine NP_ite _ _ _ (NP_err _) ?_
      split
      · next ops hfind =>
        split
        · split
          · refine NP_ite _ _ _ (NP_err _) ?_
            split
            · exact NP_ite _ _ _ (NP_ok _) (NP_err _)
            · exact NP_err _
            · next w' heq => exact absurd heq (oneofPost_np _ _ _ _ w')
          · exact NP_err _
          · next w' heq =>
            exact absurd heq
              (decOneofMembers_np c hc ops (find_oneof_ok c hc _ ops hfind) _ _ _ _ w')
        · exact NP_err _
      · exact NP_err _
  · exact NP_err _

theorem queryKey_np (c : Cfg) (hc : c.env.itemsOk = true) (parts : List Bytes) (props : List PropDef)
    (hps : propsOk props = true) (loc : List Nat) (trail : List Bytes) (values : List Bytes)
    (hv : values ≠ []) (st : QS) : NP (queryKey c parts props loc trail values st) := by
  induction parts generalizing props loc trail st with
  | nil => unfold queryKey; exact NP_err _
  | cons part rest ih =>
    cases rest with
    | nil =>
      unfold queryKey
      split
      · exact NP_err _
      · next p hfp =>
        split
        · exact queryLeaf_np c hc props p loc trail values hv _
        · exact NP_err _
        · next w' heq =>
          exact absurd heq (qCreate_np _ p (findProp_ok props hps _ p hfp) _ trail st w')
    | cons r2 rest2 =>
      unfold queryKey
      split
      · exact NP_err _
      · next p hfp =>
        dsimp only
        split
        · split
          · split
            · next sub hfind => exact ih sub (find_object_ok c hc _ sub hfind) _ _ _
            · exact NP_err _
          · split
            · next ops hfind => exact ih ops (find_oneof_ok c hc _ ops hfind) _ _ _
            · exact NP_err _
          · exact NP_err _
        · exact NP_err _
        · next w' heq =>
          exact absurd heq (qEnter_np props p (findProp_ok props hps _ p hfp) loc trail st w')

/-- `Codec.QueryToProto` never panics, on any `url.Values` -/
theorem decodeQuery_np (c : Cfg) (hc : c.env.itemsOk = true) (root : String)
    (kvs : List (Bytes × List Bytes)) : NP (decodeQuery c root kvs) := by
  have key : ∀ props, propsOk props = true →
      NP (kvs.foldl (fun (acc : Outcome QS) kv =>
        match acc with
        | .ok st =>
          if kv.2.isEmpty then .err "no value provided for field"
          else queryKey c (splitDot kv.1) props [] [] kv.2 st
        | other => other) (.ok { m := [], seen := [] })) := by
    intro props hps
    refine foldl_noPanic _ (fun a b => ?_) (fun x b hx => ?_) kvs _ (NP_ok _)
    · dsimp only
      split
      · exact NP_err _
      · next hne =>
        exact queryKey_np c hc _ props hps _ _ _ (by intro h; rw [h] at hne; exact hne rfl) _
    · cases x with
      | ok a => exact absurd rfl (hx a)
      | _ => rfl
  unfold decodeQuery
  split
  · next props hfind =>
    have := key props (find_object_ok c hc _ props hfind)
    dsimp only
    split
    · exact NP_ok _
    · exact NP_err _
    · next w' heq => exact absurd heq (this w')
  · next props hfind =>
    have := key props (find_oneof_ok c hc _ props hfind)
    dsimp only
    split
    · exact NP_ok _
    · exact NP_err _
    · next w' heq => exact absurd heq (this w')
  · exact NP_err _

end J5V.Codec
