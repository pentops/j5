import J5V.Codec.RoundtripSpec
import J5V.Codec.SchemaProofs
/-!
# What the classes of `Conform.lean` say of a property, a root, an environment

The Boolean conjunctions `propSimple` … `rootFlat`, `Env.flat`, each taken apart once.
-/
namespace J5V.Codec
open J5V.Go J5V.Json

theorem itemSimple_field (item : Field) (h : itemSimple item = true) : fieldSimple item = true := by
  cases item <;> simp [itemSimple] at h <;> rfl

theorem propSimple_path (p : PropDef) (h : propSimple p = true) : ∃ k, p.path = [k] := by
  simp only [propSimple, Bool.and_eq_true, beq_iff_eq] at h
  cases hp : p.path with
  | nil => simp [hp] at h
  | cons k t =>
    cases t with
    | nil => exact ⟨k, rfl⟩
    | cons k2 t2 => simp [hp] at h

theorem propSimple_field (p : PropDef) (h : propSimple p = true) : fieldSimple p.field = true := by
  simp only [propSimple, Bool.and_eq_true] at h; exact h.2

theorem simple_no_flatten (ops : List PropDef) (h : ∀ p ∈ ops, propSimple p = true) :
    ∀ p ∈ ops, p.path.length ≤ 1 := by
  intro p hp
  obtain ⟨k, hk⟩ := propSimple_path p (h p hp); rw [hk]; simp

theorem propFlat_inv (p : PropDef) (h : propFlat p = true) : p.path ≠ [] ∧ fieldSimple p.field = true := by
  unfold propFlat at h
  simp only [Bool.and_eq_true, Bool.not_eq_true', List.isEmpty_eq_false_iff] at h
  exact h

theorem propExposed_inv (env : Env) (p : PropDef) (h : propExposed env p = true) :
    p.path = [] ∧ p.group = none ∧ ∃ ref ops, p.field = .oneof ref ∧ env.find ref = some (.oneof ops) := by
  unfold propExposed at h
  simp only [Bool.and_eq_true, List.isEmpty_iff, Option.isNone_iff_eq_none] at h
  obtain ⟨⟨h1, h2⟩, h3⟩ := h
  refine ⟨h1, h2, ?_⟩
  cases hf : p.field <;> simp only [hf, Bool.false_eq_true] at h3
  case oneof ref =>
    split at h3
    · next ops hfind => exact ⟨ref, ops, rfl, hfind⟩
    · cases h3

theorem oneof_root_facts (ops : List PropDef) (h : rootSimple (.oneof ops) = true) :
    (∀ p ∈ ops, propSimple p = true) ∧ (ops.map (·.jsonName)).Nodup ∧ (ops.map (·.path)).Nodup ∧
    (∀ p ∈ ops, p.jsonName ≠ ascii "!type") := by
  simp only [rootSimple, Bool.and_eq_true, decide_eq_true_eq, Bool.not_eq_true'] at h
  obtain ⟨⟨⟨hall, hnames⟩, hpaths⟩, hnotype⟩ := h
  refine ⟨fun p hp => List.all_eq_true.mp hall p hp, hnames, hpaths, ?_⟩
  intro p hp e
  have : typeKeyBytes ∈ ops.map (·.jsonName) := by
    rw [typeKeyBytes, ← e]; exact List.mem_map.mpr ⟨p, hp, rfl⟩
  have hc : (ops.map (·.jsonName)).contains typeKeyBytes = true := by simpa using this
  rw [hnotype] at hc; cases hc

theorem rootFlat_oneof (env : Env) (ops : List PropDef) (h : rootFlat env (.oneof ops) = true) :
    rootSimple (.oneof ops) = true := h

theorem rootFlat_enum (env : Env) (pfx : Bytes) (opts : List (Bytes × Int))
    (h : rootFlat env (.enum pfx opts) = true) : rootSimple (.enum pfx opts) = true := h

/-- the facts about an object root of a flat environment -/
theorem object_root_facts (env : Env) (props : List PropDef) (h : rootFlat env (.object props) = true) :
    (∀ p ∈ props, propFlat p = true ∨ propExposed env p = true) ∧
    (props.map (·.jsonName)).Nodup ∧ ((leafEntries env props).map (·.1)).Nodup ∧ LeafH env props := by
  simp only [rootFlat, Bool.and_eq_true, decide_eq_true_eq] at h
  obtain ⟨⟨⟨hall, hnames⟩, hpaths⟩, hpf⟩ := h
  refine ⟨?_, hnames, hpaths, ?_⟩
  · intro p hp
    have := List.all_eq_true.mp hall p hp
    simpa using this
  · intro a ha b hb hpre
    unfold prefixFree at hpf
    have := List.all_eq_true.mp (List.all_eq_true.mp hpf a.1 (List.mem_map.mpr ⟨a, ha, rfl⟩)) b.1
      (List.mem_map.mpr ⟨b, hb, rfl⟩)
    simp only [Bool.or_eq_true, beq_iff_eq, Bool.not_eq_true'] at this
    rcases this with h1 | h1
    · exact inj_of_nodup_map (·.1) _ hpaths a ha b hb h1
    · have := List.isPrefixOf_iff_prefix.mpr hpre
      rw [this] at h1; cases h1

theorem leafEntries_mem_path (env : Env) (props : List PropDef) (p : PropDef) (hp : p ∈ props)
    (hne : p.path ≠ []) : (p.path, p.field, p.pres) ∈ leafEntries env props := by
  refine List.mem_flatMap.mpr ⟨p, hp, ?_⟩
  unfold propLeaves
  split
  · next h => exact absurd h hne
  · exact List.mem_singleton.mpr rfl

theorem find_rootFlat (env : Env) (h : env.flat = true) (name : String) (r : Root)
    (hf : env.find name = some r) : rootFlat env r = true := by
  obtain ⟨d, hm, rfl⟩ := find_mem env name r hf
  unfold Env.flat at h
  simp only [Bool.and_eq_true] at h
  exact List.all_eq_true.mp h.1 d hm

theorem find_names_utf8' (env : Env) (h : env.flat = true) (name : String) (ps : List PropDef)
    (hf : env.find name = some (.object ps) ∨ env.find name = some (.oneof ps)) :
    ∀ p ∈ ps, isValidUtf8 p.jsonName = true :=
  find_props_all env _ (Bool.and_eq_true_iff.mp h).2 name ps hf

end J5V.Codec
