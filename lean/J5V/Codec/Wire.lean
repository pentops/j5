import J5V.Codec.Scalar
import J5V.Json.Tree
/-!
# The documented wire format (README "Scalar Types" + structure rules), written declaratively

This file is **independent of the encoder model**: it never mentions `encodeScalar`, `fmtInt`,
`dateString`, `b64Encode` or `escapeLoop`. Numbers are described by the JSON grammar plus a
positional evaluation, base64 by length / alphabet / decoded value, dates by their shape.

| J5 type | JSON |
|---|---|
| string, key | string |
| bool | `true` / `false` |
| int32, uint32, float32, float64 | unquoted literal |
| int64, uint64, decimal | quoted string |
| bytes | padded standard base64 string |
| timestamp | RFC3339 string, UTC |
| date | string `YYYY-MM-DD`, zero padded |
| enum | string, the short option name |
-/
namespace J5V.Codec.Wire
open J5V.Json J5V.Codec

/-- value of a digit string, most significant first; `none` if empty or not all digits -/
def digitsValue : Bytes → Option Nat
  | [] => none
  | s => s.foldl (fun acc c =>
      match acc with
      | some n => if 0x30 ≤ c.toNat ∧ c.toNat ≤ 0x39 then some (n * 10 + (c.toNat - 0x30)) else none
      | none => none) (some 0)

/-- JSON `int` production without sign: `0` or a non-zero digit followed by digits -/
def isJsonNat : Bytes → Bool
  | [] => false
  | [c] => 0x30 ≤ c.toNat && c.toNat ≤ 0x39
  | c :: rest => 0x31 ≤ c.toNat && c.toNat ≤ 0x39 && rest.all fun d => 0x30 ≤ d.toNat && d.toNat ≤ 0x39

/-- the integer a JSON integer literal (`-? int`, no fraction, no exponent) denotes -/
def jsonIntValue (t : Bytes) : Option Int :=
  match t with
  | 0x2D :: rest => if isJsonNat rest then (digitsValue rest).map fun n => -(n : Int) else none
  | _ => if isJsonNat t then (digitsValue t).map fun n => (n : Int) else none

def isStdAlphabet (c : UInt8) : Bool :=
  let n := c.toNat
  (65 ≤ n && n ≤ 90) || (97 ≤ n && n ≤ 122) || (48 ≤ n && n ≤ 57) || n = 0x2B || n = 0x2F

/-- padded standard base64 (RFC 4648 §4) of a byte string of length `len`: groups of four
alphabet characters for every three bytes; a final group for one byte is two characters and
`==`, for two bytes three characters and `=` -/
def isPaddedStdBase64 : Bytes → Nat → Bool
  | [], 0 => true
  | [c0, c1, p, q], 1 => isStdAlphabet c0 && isStdAlphabet c1 && p == 0x3D && q == 0x3D
  | [c0, c1, c2, q], 2 => isStdAlphabet c0 && isStdAlphabet c1 && isStdAlphabet c2 && q == 0x3D
  | c0 :: c1 :: c2 :: c3 :: rest, n + 3 =>
    isStdAlphabet c0 && isStdAlphabet c1 && isStdAlphabet c2 && isStdAlphabet c3 &&
      isPaddedStdBase64 rest n
  | _, _ => false

def isDigitB (c : UInt8) : Bool := 0x30 ≤ c.toNat && c.toNat ≤ 0x39

/-- `YYYY-MM-DD`, every part zero padded to its width -/
def isDateShape (s : Bytes) : Bool :=
  match s with
  | [y1, y2, y3, y4, d1, m1, m2, d2, dd1, dd2] =>
    isDigitB y1 && isDigitB y2 && isDigitB y3 && isDigitB y4 && d1 == 0x2D &&
    isDigitB m1 && isDigitB m2 && d2 == 0x2D && isDigitB dd1 && isDigitB dd2
  | _ => false

def dateParts (s : Bytes) : Option (Nat × Nat × Nat) :=
  match digitsValue (s.take 4), digitsValue ((s.drop 5).take 2), digitsValue ((s.drop 8).take 2) with
  | some y, some m, some d => some (y, m, d)
  | _, _, _ => none

/-- RFC 3339 `date-time` with the `Z` offset: `YYYY-MM-DDTHH:MM:SS[.f+]Z` -/
def isRfc3339Utc (s : Bytes) : Bool :=
  isDateShape (s.take 10) &&
  (match s.drop 10 with
   | t :: h1 :: h2 :: c1 :: mi1 :: mi2 :: c2 :: s1 :: s2 :: rest =>
     t == 0x54 && isDigitB h1 && isDigitB h2 && c1 == 0x3A && isDigitB mi1 && isDigitB mi2 &&
     c2 == 0x3A && isDigitB s1 && isDigitB s2 &&
     (match rest with
      | [z] => z == 0x5A
      | dot :: frac =>
        dot == 0x2E && frac.length ≥ 2 && (frac.dropLast).all isDigitB && frac.getLast? == some 0x5A
      | [] => false)
   | _ => false)

/-- is the text a JSON number (RFC 8259 `number`)? -/
def isJsonNumber (t : Bytes) : Bool :=
  match scanNumber t with
  | some (_, []) => true
  | _ => false

/-- the documented JSON representation of one scalar / enum value -/
def scalarConforms (O : Oracle) (k : ScalarKind) (v : PVal) (t : PTree) : Prop :=
  match k, v, t with
  | .string, .str s, .str s' _ => s' = s
  | .key, .str s, .str s' _ => s' = s
  | .bool, .bool b, .bool b' => b' = b
  | .int32, .int i, .num x => jsonIntValue x = some i
  | .uint32, .uint n, .num x => jsonIntValue x = some (n : Int)
  | .int64, .int i, .str x _ => jsonIntValue x = some i
  | .uint64, .uint n, .str x _ => jsonIntValue x = some (n : Int)
  | .float32, .f32 b, .num x => isJsonNumber x = true ∧ ∃ b64, O.parseFloat x = some (b64, some b)
  | .float64, .f64 b, .num x => isJsonNumber x = true ∧ ∃ b32, O.parseFloat x = some (b, b32)
  | .bytes, .bytes b, .str x _ => isPaddedStdBase64 x b.length = true ∧ b64Decode x [] = some b
  | .timestamp, .ts s n, .str x _ => isRfc3339Utc x = true ∧ O.parseTime x = some (s, n)
  | .date, .date y m d, .str x _ =>
    isDateShape x = true ∧ dateParts x = some (y.toNat, m.toNat, d.toNat) ∧ 0 ≤ y ∧ 0 ≤ m ∧ 0 ≤ d
  | .decimal, .dec s, .str x _ => x = s
  | _, _, _ => False

/-- the string literal is a JSON string denoting the bytes (checked by the JSON reader model) -/
def literalDenotes (raw s : Bytes) : Prop :=
  match raw with
  | 0x22 :: body => readString (body.length + 1) body = some (s, body, [])
  | _ => False

/-! ## structure rules

"Oneofs are objects with `!type` plus exactly the key it names, Any values are
`{"!type", "value"}`, flattened objects are inlined into their parent, unset members are omitted,
and member names are the schema's JSON names."

A property addresses its value by its proto path (`getPath`): a flattened object's properties
carry the full path, so they appear as members of the *parent* object (inlined); a property with
an empty path is an exposed oneof — a oneof object over the *same* message. -/

/-- the type name of an `Any` value -/
def anyTypeName : PVal → Option Bytes
  | .anyJ5 tn _ _ _ _ _ => some tn
  | .anyPb url _ _ _ _ => some (trimPrefix url (ascii "type.googleapis.com/"))
  | _ => none

mutual
/-- `t` is the documented JSON representation of value `v` of a field with schema `fld` -/
inductive Conforms (env : Env) (O : Oracle) : Field → PVal → PTree → Prop
  | scalar (k : ScalarKind) (v : PVal) (t : PTree) :
      scalarConforms O k v t → Conforms env O (.scalar k) v t
  /-- an enum is a string: the short option name of the number -/
  | enum (ref : String) (pfx : Bytes) (opts : List (Bytes × Int)) (n : Int) (name lit : Bytes) :
      env.find ref = some (.enum pfx opts) → (name, n) ∈ opts →
      Conforms env O (.enum ref) (.enum n) (.str name lit)
  | object (ref : String) (props : List PropDef) (fs : Fields) (ms : PMembers) :
      env.find ref = some (.object props) → MembersConform env O fs props ms →
      Conforms env O (.object ref) (.msg fs) (.obj ms)
  | oneof (ref : String) (ops : List PropDef) (fs : Fields) (t : PTree) :
      env.find ref = some (.oneof ops) → OneofConforms env O fs ops t →
      Conforms env O (.oneof ref) (.msg fs) t
  | array (item : Field) (xs : List PVal) (es : PElems) :
      ElemsConform env O item xs es → Conforms env O (.array item) (.list xs) (.arr es)
  | map (item : Field) (kvs : List (Bytes × PVal)) (ms : PMembers) :
      MapConform env O item kvs ms → Conforms env O (.map item) (.map kvs) (.obj ms)
  /-- a j5 `Any` that holds `j5_json` is `{"!type": typeName, "value": <the stored j5_json>}`: the
  value renders to exactly the stored bytes (whatever else the `Any` carries) -/
  | anyJ5 (tn proto j5 : Bytes) (ik : InnerKind) (iroot : String) (inner : PVal)
      (l1 l2 l3 : Bytes) (data : PTree) :
      j5 ≠ [] → data.render = j5 →
      Conforms env O (.any false) (.anyJ5 tn proto j5 ik iroot inner)
        (.obj (.cons (ascii "!type") l1 (.str tn l2) (.cons (ascii "value") l3 data (.nil .closed))))
  /-- a protobuf `Any` is `{"!type": name, "value": <the content>}`: `name` is the type URL without
  `type.googleapis.com/`, and the value is the documented representation of the content as a
  message of the type that name resolves to — an object … -/
  | anyPbObj (val tn : Bytes) (iroot : String) (fs : Fields) (props : List PropDef)
      (l1 l2 l3 : Bytes) (ms : PMembers) :
      env.resolve tn = some iroot → env.find iroot = some (.object props) →
      MembersConform env O fs props ms →
      Conforms env O (.any true) (.anyPb (ascii "type.googleapis.com/" ++ tn) val .inn iroot (.msg fs))
        (.obj (.cons (ascii "!type") l1 (.str tn l2) (.cons (ascii "value") l3 (.obj ms) (.nil .closed))))
  /-- … or a oneof -/
  | anyPbOne (val tn : Bytes) (iroot : String) (fs : Fields) (ops : List PropDef)
      (l1 l2 l3 : Bytes) (data : PTree) :
      env.resolve tn = some iroot → env.find iroot = some (.oneof ops) →
      OneofConforms env O fs ops data →
      Conforms env O (.any true) (.anyPb (ascii "type.googleapis.com/" ++ tn) val .inn iroot (.msg fs))
        (.obj (.cons (ascii "!type") l1 (.str tn l2) (.cons (ascii "value") l3 data (.nil .closed))))
/-- a oneof over the message `fs`: `{}` when no member is set, else `{"!type": name, name: value}`
— the type key plus exactly the key it names -/
inductive OneofConforms (env : Env) (O : Oracle) : Fields → List PropDef → PTree → Prop
  | empty (fs : Fields) (ops : List PropDef) : (∀ q ∈ ops, getPath fs q.path = none) →
      OneofConforms env O fs ops (.obj (.nil .closed))
  | set (fs : Fields) (ops : List PropDef) (p : PropDef) (v : PVal) (t : PTree) (l1 l2 l3 : Bytes) :
      p ∈ ops → getPath fs p.path = some v →
      (∀ q ∈ ops, q.path ≠ p.path → getPath fs q.path = none) → Conforms env O p.field v t →
      OneofConforms env O fs ops
        (.obj (.cons (ascii "!type") l1 (.str p.jsonName l2) (.cons p.jsonName l3 t (.nil .closed))))
/-- the members of an object: one member per *set* property, in schema order, named by the
property's JSON name; unset properties are omitted; flattened properties are looked up by their
full path (inlined); an exposed oneof is a oneof object over the same message -/
inductive MembersConform (env : Env) (O : Oracle) : Fields → List PropDef → PMembers → Prop
  | nil (fs : Fields) : MembersConform env O fs [] (.nil .closed)
  | skip (fs : Fields) (p : PropDef) (ps : List PropDef) (ms : PMembers) :
      p.path ≠ [] → getPath fs p.path = none → MembersConform env O fs ps ms →
      MembersConform env O fs (p :: ps) ms
  | emit (fs : Fields) (p : PropDef) (ps : List PropDef) (v : PVal) (t : PTree)
      (kraw : Bytes) (ms : PMembers) :
      p.path ≠ [] → getPath fs p.path = some v → Conforms env O p.field v t →
      MembersConform env O fs ps ms →
      MembersConform env O fs (p :: ps) (.cons p.jsonName kraw t ms)
  | skipExposed (fs : Fields) (p : PropDef) (ps : List PropDef) (ms : PMembers) :
      p.path = [] → (∀ q ∈ exposedOps env p, getPath fs q.path = none) →
      MembersConform env O fs ps ms → MembersConform env O fs (p :: ps) ms
  | emitExposed (fs : Fields) (p : PropDef) (ps : List PropDef) (t : PTree) (kraw : Bytes)
      (ms : PMembers) :
      p.path = [] → (∃ q ∈ exposedOps env p, (getPath fs q.path).isSome = true) →
      OneofConforms env O fs (exposedOps env p) t → MembersConform env O fs ps ms →
      MembersConform env O fs (p :: ps) (.cons p.jsonName kraw t ms)
inductive ElemsConform (env : Env) (O : Oracle) : Field → List PVal → PElems → Prop
  | nil (item : Field) : ElemsConform env O item [] (.nil .closed)
  | cons (item : Field) (x : PVal) (xs : List PVal) (t : PTree) (es : PElems) :
      Conforms env O item x t → ElemsConform env O item xs es →
      ElemsConform env O item (x :: xs) (.cons t es)
inductive MapConform (env : Env) (O : Oracle) : Field → List (Bytes × PVal) → PMembers → Prop
  | nil (item : Field) : MapConform env O item [] (.nil .closed)
  | cons (item : Field) (k : Bytes) (v : PVal) (kvs : List (Bytes × PVal)) (t : PTree)
      (kraw : Bytes) (ms : PMembers) :
      Conforms env O item v t → MapConform env O item kvs ms →
      MapConform env O item ((k, v) :: kvs) (.cons k kraw t ms)
end

/-- the whole document for a message of root `root`: an object's members, or a oneof object -/
def RootConforms (env : Env) (O : Oracle) (root : String) (m : Fields) (t : PTree) : Prop :=
  (∃ props ms, env.find root = some (.object props) ∧ t = .obj ms ∧ MembersConform env O m props ms) ∨
  (∃ ops, env.find root = some (.oneof ops) ∧ OneofConforms env O m ops t)

end J5V.Codec.Wire
