import J5V.Go.Outcome
/-!
# C16 — `convertSchema` (`internal/export/convert.go`), the shape of its recursion (core only)

One constructor per member of the oneof `j5.schema.v1.Field.type` (the source-fact obligation
`C16_src_swagger_arms` checks that `convertSchema` has an arm for each), plus the three ways an input
can be malformed: a field whose `type` oneof is unset (`unset` → the `default:` arm), an enum /
object / oneof field whose `schema` oneof is unset (`…Unset` → the inner `default:` arms), and a nil
`*Field` where one is dereferenced (`nil` → run-time panic on `schema.Type`).

Inline objects and oneofs are modelled with a list of property fields; `convertObjectItem` /
`convertOneofItem` convert them in order and stop at the first error. The result is the canonical
type description the kernel op `swag` prints from the real JSON document.
-/
namespace J5V.Pipe
open J5V.Go

inductive SField where
  | any | str | int | float | bool | bytes | decimal | date | timestamp | key
  | enumRef | enumInline | enumUnset
  | objRef | objInline (props : List SField) | objUnset
  | oneofRef | oneofInline (props : List SField) | oneofUnset
  | array (items : SField) | map (items : SField)
  | unset | nil
  deriving Repr, Inhabited

mutual
  def convertSchema : SField → Outcome String
    | .any => .ok "any"
    | .str | .bytes | .decimal | .date | .timestamp | .key | .enumInline => .ok "string"
    | .int => .ok "integer"
    | .float => .ok "number"
    | .bool => .ok "boolean"
    | .enumRef | .objRef | .oneofRef => .ok "ref"
    | .enumUnset | .objUnset | .oneofUnset | .unset => .err "unknown-schema-type"
    | .nil => .panic "nil-pointer"
    | .objInline props =>
      match convertProps props with
      | .ok ts => .ok ("object{" ++ ",".intercalate ts ++ "}")
      | .err e => .err e
      | .panic w => .panic w
    | .oneofInline props =>
      match convertProps props with
      | .ok ts => .ok ("oneof{" ++ ",".intercalate ts ++ "}")
      | .err e => .err e
      | .panic w => .panic w
    | .array items =>
      match convertSchema items with
      | .ok t => .ok ("array(" ++ t ++ ")")
      | .err e => .err e
      | .panic w => .panic w
    | .map items =>
      match convertSchema items with
      | .ok t => .ok ("map(" ++ t ++ ")")
      | .err e => .err e
      | .panic w => .panic w
  def convertProps : List SField → Outcome (List String)
    | [] => .ok []
    | p :: ps =>
      match convertSchema p with
      | .ok t =>
        match convertProps ps with
        | .ok ts => .ok (t :: ts)
        | .err e => .err e
        | .panic w => .panic w
      | .err e => .err e
      | .panic w => .panic w
end

mutual
  /-- every oneof wrapper is set and no field is nil: what the schema reflection produces -/
  def SField.wellFormed : SField → Bool
    | .enumUnset | .objUnset | .oneofUnset | .unset | .nil => false
    | .objInline props => wellFormedAll props
    | .oneofInline props => wellFormedAll props
    | .array items => items.wellFormed
    | .map items => items.wellFormed
    | _ => true
  def wellFormedAll : List SField → Bool
    | [] => true
    | p :: ps => p.wellFormed && wellFormedAll ps
end

/-! ## `Document.addMethod` (`internal/export/swagger.go`): operations grouped by path

`dd.Paths` is a list of path items, a path item a list of operations; `PathItem.MapKey()` is the
path of its first operation (`""` when empty). A method's operation is appended to the first path
item whose key equals the method's path, else a new path item is appended. `PathSet` and
`PathItem` are rendered by `OrderedMap.MarshalJSON` as JSON objects keyed by `MapKey()`, in list
order: `{"<path>": {"<verb>": …, …}, …}`. Paths are byte strings (`List Nat`), verbs the lower-case
method names. -/

structure SOp where
  verb : String
  path : List Nat
  deriving Repr, DecidableEq

abbrev PathItem := List SOp

/-- `PathItem.MapKey()` -/
def PathItem.key : PathItem → List Nat
  | [] => []
  | op :: _ => op.path

/-- the loop at the end of `addMethod` -/
def addOp : List PathItem → SOp → List PathItem
  | [], op => [[op]]
  | item :: rest, op =>
    if PathItem.key item = op.path then (item ++ [op]) :: rest else item :: addOp rest op

/-- `BuildSwagger`'s `doc.addService` loop over every method of every declared service -/
def groupOps (ops : List SOp) : List PathItem := ops.foldl addOp []

end J5V.Pipe
