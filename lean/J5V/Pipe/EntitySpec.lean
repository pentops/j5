import J5V.Pipe.Entity
/-! # C16, entity query service: definitions only -/
namespace J5V.Pipe
open J5V.Go
open J5V.Compile (Str toCamel toSnake joinWith splitOnByte pathJoin)

/-- the three methods of the query service, as declarations -/
def entityGetDecl (e : J5V.Compile.Entity) : MethodDecl :=
  { name := toCamel e.name ++ b!"Get", verb := .get,
    path := joinWith b!"/" (J5V.Compile.Entity.colonPath (J5V.Compile.Entity.getKeys e)),
    req := propNames (J5V.Compile.Entity.getKeys e), hasResp := true }

def entityListDecl (e : J5V.Compile.Entity) : MethodDecl :=
  { name := toCamel e.name ++ b!"List", verb := .get,
    path := joinWith b!"/" (J5V.Compile.Entity.colonPath (J5V.Compile.Entity.listKeys e)),
    req := propNames (J5V.Compile.Entity.listKeys e) ++ [b!"page", b!"query"], hasResp := true }

def entityEventsDecl (e : J5V.Compile.Entity) : MethodDecl :=
  { name := toCamel e.name ++ b!"Events", verb := .get,
    path := joinWith b!"/" (J5V.Compile.Entity.colonPath (J5V.Compile.Entity.getKeys e) ++ [b!"events"]),
    req := propNames (J5V.Compile.Entity.getKeys e) ++ [b!"page", b!"query"], hasResp := true }

end J5V.Pipe
