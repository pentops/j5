import J5V.Go.Outcome
/-! # `Option (Outcome α)`: a Go function modelled with fuel (core only)

`none` = the fuel ran out, `some o` = what the function returns. `bindOO` is sequencing in which the
first failure wins. The client builder of `SwaggerDoc.lean` is written with it; the loops of the walks
(`Walk`, `Flatten`, `ListRequest`, `Client`) spell the same `match … | none => none | some (.err e) => … |
some (.ok x) => …` out, and their proof files give most loops one equation in `bindOO` form
(`walkPropsWith_cons` and its like).

The models spell the `match` out (over plain `Outcome` too) to follow the Go text statement by
statement, one arm per `if err != nil { return nil, err }`. Lean does not ask for it (`mapMOO` below
recurses through `bindOO`); a loop written with `bind` / `bindOO` / `Outcome.seq` comes under
`Go/OutcomeLemmas.lean` as it stands, a spelled-out one through `seq_unique`. -/
namespace J5V.Pipe
open J5V.Go

def bindOO {α β} (a : Option (Outcome α)) (f : α → Option (Outcome β)) : Option (Outcome β) :=
  match a with
  | none => none
  | some (.err e) => some (.err e)
  | some (.panic w) => some (.panic w)
  | some (.ok x) => f x

def mapMOO {α β} (f : α → Option (Outcome β)) : List α → Option (Outcome (List β))
  | [] => some (.ok [])
  | a :: as => bindOO (f a) fun b => bindOO (mapMOO f as) fun bs => some (.ok (b :: bs))

@[simp] theorem bindOO_some_ok {α β} (x : α) (f : α → Option (Outcome β)) : bindOO (some (.ok x)) f = f x := rfl

theorem bindOO_eq_ok {α β} {a : Option (Outcome α)} {f : α → Option (Outcome β)} {y : β} :
    bindOO a f = some (.ok y) ↔ ∃ x, a = some (.ok x) ∧ f x = some (.ok y) := by
  rcases a with _ | _ | _ | _ <;> simp [bindOO]

theorem bindOO_isSome {α β} {a : Option (Outcome α)} {f : α → Option (Outcome β)}
    (ha : a.isSome = true) (hf : ∀ x, a = some (.ok x) → (f x).isSome = true) : (bindOO a f).isSome = true := by
  rcases a with _ | x | _ | _
  · cases ha
  · exact hf x rfl
  · rfl
  · rfl

/-- an answer survives when both parts keep theirs -/
theorem bindOO_mono {α β} {a a' : Option (Outcome α)} {f f' : α → Option (Outcome β)}
    (ha : ∀ x, a = some x → a' = some x) (hf : ∀ x y, f x = some y → f' x = some y) {y : Outcome β}
    (h : bindOO a f = some y) : bindOO a' f' = some y := by
  rcases a with _ | x | _ | _
  · cases h
  · rw [ha _ rfl]; exact hf x y h
  · rw [ha _ rfl]; exact h
  · rw [ha _ rfl]; exact h

theorem mapMOO_eq_ok {α β} (f : α → Option (Outcome β)) : ∀ (as : List α) (bs : List β),
    mapMOO f as = some (.ok bs) → ∀ b ∈ bs, ∃ a ∈ as, f a = some (.ok b)
  | [], bs, h => by cases h; intro b hb; cases hb
  | a :: as, bs, h => by
    obtain ⟨b0, hb0, h⟩ := bindOO_eq_ok.mp h
    obtain ⟨bs0, hbs0, h⟩ := bindOO_eq_ok.mp h
    cases h
    intro b hb
    rcases List.mem_cons.mp hb with rfl | hb
    · exact ⟨a, by simp, hb0⟩
    · obtain ⟨a', ha', hf⟩ := mapMOO_eq_ok f as bs0 hbs0 b hb
      exact ⟨a', List.mem_cons_of_mem _ ha', hf⟩

theorem mapMOO_total {α β} (f : α → Option (Outcome β)) : ∀ (as : List α),
    (∀ a ∈ as, ∃ b, f a = some (.ok b)) → ∃ bs, mapMOO f as = some (.ok bs) ∧ bs.length = as.length
  | [], _ => ⟨[], rfl, rfl⟩
  | a :: as, h => by
    obtain ⟨b, hb⟩ := h a (by simp)
    obtain ⟨bs, hbs, hlen⟩ := mapMOO_total f as (fun x hx => h x (List.mem_cons_of_mem _ hx))
    exact ⟨b :: bs, by simp [mapMOO, hb, hbs], by simp [hlen]⟩

end J5V.Pipe
