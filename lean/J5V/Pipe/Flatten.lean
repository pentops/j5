import J5V.Pipe.Walk
/-!
# C16 — `ObjectSchema.ClientProperties()` (`lib/j5schema/root_schema.go`): flattening (core only)

The client view of an object replaces every property whose object field is marked `flatten` by
the client properties of the object it refers to (each child cloned with the parent's proto field
number in front: the JSON name stays the child's). `clientProperties(flattening)` carries the
objects whose flattened fields are being expanded; a flattened field whose object is already being
expanded stays an ordinary nested object (it would expand forever otherwise).

* `clientPropsFuel` — that recursion with fuel (`none` = fuel exhausted; theorem
  `C16_flatten_terminates`: `|g| + 1` is always enough).
* Go's `propType.Schema()` is `Ref.To.(*ObjectSchema)`: an unlinked reference or a reference to a
  schema that is no object is a run-time panic — explicit `.panic` arms here; `FlatLinked g`
  (decidable) says no flattened property is like that, and is what the schema reader produces
  (`flatten` only exists on object fields, whose reference is to a message).
* `clientGraph` — the schema set as the client sees it: the same nodes, every object with its
  client properties. `walkSchemaFields(…, asClient = true, …)` and `collectPackageRefs`'
  `walkRefRoot` are `walk` / `collect` on this graph. Go computes `ClientProperties()` on demand,
  this computes it for every object up front: the same on `FlatLinked` graphs.
-/
namespace J5V.Pipe
open J5V.Compile J5V.Go

/-- `properties = append(properties, children...)` after the rest of the loop: the first failure
(of the part in front) wins -/
def appendO (a b : Option (Outcome (List Prop'))) : Option (Outcome (List Prop')) :=
  match a with
  | none => none
  | some (.err e) => some (.err e)
  | some (.panic w) => some (.panic w)
  | some (.ok cs) =>
    match b with
    | none => none
    | some (.err e) => some (.err e)
    | some (.panic w) => some (.panic w)
    | some (.ok rest) => some (.ok (cs ++ rest))

/-- the loop over `s.Properties`; `rec r` = client properties of the flattened object `r` -/
def expandWith (rec : Nat → Option (Outcome (List Prop'))) (flattening : List Nat) :
    List Prop' → Option (Outcome (List Prop'))
  | [] => some (.ok [])
  | p :: ps =>
    let here : Option (Outcome (List Prop')) :=
      match p.flat, p.field with
      | true, .object r => if flattening.contains r then some (.ok [p]) else rec r
      | _, _ => some (.ok [p])
    appendO here (expandWith rec flattening ps)

/-- `(*ObjectSchema).clientProperties(flattening)` for the object `i` -/
def clientPropsFuel (g : Graph) : Nat → List Nat → Nat → Option (Outcome (List Prop'))
  | 0, _, _ => none
  | fuel + 1, flattening, i =>
    match g[i]? with
    | none => some (.panic "nil-schema")
    | some node =>
      match node.kind with
      | .object =>
        expandWith (fun r => clientPropsFuel g fuel (i :: flattening) r) (i :: flattening) node.props
      | _ => some (.panic "type-assertion")

/-- `ClientProperties()` of the schema `i`: objects are flattened, oneofs keep their properties -/
def clientProps (g : Graph) (i : Nat) (node : Node) : Option (Outcome (List Prop')) :=
  match node.kind with
  | .object => clientPropsFuel g (g.length + 1) [] i
  | _ => some (.ok node.props)

/-- the schema set as the client sees it, node by node (index `i` upwards) -/
def clientNodesFrom (g : Graph) : Nat → List Node → Option (Outcome (List Node))
  | _, [] => some (.ok [])
  | i, n :: ns =>
    match clientProps g i n with
    | none => none
    | some (.err e) => some (.err e)
    | some (.panic w) => some (.panic w)
    | some (.ok ps) =>
      match clientNodesFrom g (i + 1) ns with
      | none => none
      | some (.err e) => some (.err e)
      | some (.panic w) => some (.panic w)
      | some (.ok rest) => some (.ok ({ n with props := ps } :: rest))

def clientGraph (g : Graph) : Option (Outcome Graph) := clientNodesFrom g 0 g

/-- `ToJ5ClientObject()` of a request body or response body: the client properties of an object
that is no node of the graph (the `<Method>Request` / `<Method>Response` message, or the clone
`fillRequest` makes of it) — nothing can refer back to it, so the `flattening` guard starts empty -/
def clientMessageProps (g : Graph) (props : List Prop') : Option (Outcome (List Prop')) :=
  expandWith (fun r => clientPropsFuel g (g.length + 1) [] r) [] props

/-- a flattened object field refers to an object of the graph -/
def Prop'.flatOk (g : Graph) (p : Prop') : Bool :=
  match p.flat, p.field with
  | true, .object r =>
    match g[r]? with
    | some n => n.kind == .object
    | none => false
  | _, _ => true

/-- no flattened property points outside the graph or at something that is no object -/
def FlatLinked (g : Graph) : Prop := ∀ node ∈ g, ∀ p ∈ node.props, p.flatOk g = true

instance (g : Graph) : Decidable (FlatLinked g) := by
  unfold FlatLinked
  exact List.decidableBAll _ _

end J5V.Pipe
