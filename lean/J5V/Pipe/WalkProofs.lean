import J5V.Pipe.WalkSpec
import J5V.Pipe.OO
import J5V.Go.ListLemmas
/-! # Lemmas for C16: termination and completeness of the schema walks -/
namespace J5V.Pipe
open J5V.Go J5V.Compile

/-- the schemas being walked (the current path, or the visited set): distinct, inside the graph, and
few enough for the fuel that is left. Every guarded traversal below keeps this, so none runs dry. -/
structure Fuelled (g : Graph) (fuel : Nat) (w : List Nat) : Prop where
  nodup : w.Nodup
  bound : ∀ x ∈ w, x < g.length
  enough : g.length + 1 ≤ fuel + w.length

theorem Fuelled.start (g : Graph) : Fuelled g (g.length + 1) [] :=
  ⟨List.nodup_nil, fun _ h => (nomatch h), Nat.le_add_right ..⟩

theorem Fuelled.pos {g : Graph} {fuel : Nat} {w : List Nat} (h : Fuelled g fuel w) : 0 < fuel := by
  have := nodup_length_le g.length w h.nodup h.bound
  have := h.enough
  omega

theorem Fuelled.mono {g : Graph} {fuel fuel' : Nat} {w : List Nat} (h : Fuelled g fuel w) (hle : fuel ≤ fuel') :
    Fuelled g fuel' w :=
  ⟨h.nodup, h.bound, Nat.le_trans h.enough (Nat.add_le_add_right hle _)⟩

theorem getElem?_some_lt {g : Graph} {i : Nat} {n : Node} (h : g[i]? = some n) : i < g.length :=
  (List.getElem?_eq_some_iff.mp h).1

/-- entering a schema of the graph that is not being walked yet costs one unit of fuel -/
theorem Fuelled.cons {g : Graph} {fuel : Nat} {w : List Nat} {r : Nat} {n : Node} (h : Fuelled g (fuel + 1) w)
    (hr : w.contains r = false) (hn : g[r]? = some n) : Fuelled g fuel (r :: w) := by
  refine ⟨List.nodup_cons.mpr ⟨fun hm => ?_, h.nodup⟩, ?_, ?_⟩
  · rw [List.contains_iff_mem.mpr hm] at hr; cases hr
  · intro x hx
    rcases List.mem_cons.mp hx with rfl | e
    · exact getElem?_some_lt hn
    · exact h.bound x e
  · have := h.enough
    simp only [List.length_cons]; omega

/-! ## `walkSchemaFields` -/

/-- one turn of the walk's loop: the descent, then the rest, then the visits in order -/
theorem walkPropsWith_cons (rec : Nat → List Str → Option (Outcome (List Visit))) (path : List Str)
    (p : Prop') (ps : List Prop') :
    walkPropsWith rec path (p :: ps) =
      bindOO (match p.field.descend? with
        | some r => rec r (path ++ [p.name])
        | none => some (.ok [])) fun vs =>
      bindOO (walkPropsWith rec path ps) fun ws =>
      some (.ok ({ path := path ++ [p.name], field := p.field, tag := p.tag } :: vs ++ ws)) := by
  rw [walkPropsWith]
  cases p.field.descend? with
  | none => rcases walkPropsWith rec path ps with _ | _ | _ | _ <;> rfl
  | some r =>
    dsimp only
    rcases rec r (path ++ [p.name]) with _ | _ | _ | _ <;> try rfl
    rcases walkPropsWith rec path ps with _ | _ | _ | _ <;> rfl

theorem walkPropsWith_isSome (rec : Nat → List Str → Option (Outcome (List Visit)))
    (hrec : ∀ r pp, (rec r pp).isSome = true) (path : List Str) (props : List Prop') :
    (walkPropsWith rec path props).isSome = true := by
  induction props with
  | nil => rfl
  | cons p ps ih =>
    rw [walkPropsWith_cons]
    refine bindOO_isSome ?_ fun _ _ => bindOO_isSome ih fun _ _ => rfl
    cases p.field.descend? with
    | none => rfl
    | some r => exact hrec r _

theorem walkFuel_isSome (g : Graph) : ∀ fuel root path walking, Fuelled g fuel walking →
    (walkFuel g fuel root path walking).isSome = true := by
  intro fuel
  induction fuel with
  | zero => intro _ _ _ hf; exact absurd hf.pos (Nat.lt_irrefl 0)
  | succ fuel ih =>
    intro root path walking hf
    unfold walkFuel
    cases hc : walking.contains root with
    | true => rfl
    | false =>
      cases hn : g[root]? with
      | none => rfl
      | some node => exact walkPropsWith_isSome _ (fun r pp => ih r pp _ (hf.cons hc hn)) _ _

theorem walkPropsWith_ok (rec : Nat → List Str → Option (Outcome (List Visit))) (path : List Str)
    (props : List Prop')
    (hrec : ∀ p ∈ props, ∀ r, p.field.descend? = some r → ∀ pp, ∃ vs, rec r pp = some (.ok vs)) :
    ∃ vs, walkPropsWith rec path props = some (.ok vs) := by
  induction props with
  | nil => exact ⟨[], rfl⟩
  | cons p ps ih =>
    obtain ⟨ws, hws⟩ := ih (fun q hq => hrec q (List.mem_cons_of_mem _ hq))
    rw [walkPropsWith_cons, hws]
    cases hd : p.field.descend? with
    | none => exact ⟨_, rfl⟩
    | some r =>
      obtain ⟨vs, hvs⟩ := hrec p (by simp) r hd (path ++ [p.name])
      exact ⟨_, by simp only [hvs]; rfl⟩

theorem mem_walkProps (n : Node) : ∀ p ∈ n.walkProps, p ∈ n.props := by
  intro p hp
  unfold Node.walkProps at hp
  cases hk : n.kind <;> simp [hk] at hp <;> exact hp

/-- on a linked graph the repaired walk returns a list of visits (no error) from every schema of
the graph -/
theorem walkFuel_ok (g : Graph) (hl : Linked g) : ∀ fuel root path walking, Fuelled g fuel walking →
    root < g.length → ∃ vs, walkFuel g fuel root path walking = some (.ok vs) := by
  intro fuel
  induction fuel with
  | zero => intro _ _ _ hf; exact absurd hf.pos (Nat.lt_irrefl 0)
  | succ fuel ih =>
    intro root path walking hf hroot
    unfold walkFuel
    cases hc : walking.contains root with
    | true => exact ⟨[], rfl⟩
    | false =>
      have hn : g[root]? = some g[root] := List.getElem?_eq_getElem hroot
      simp only [Bool.false_eq_true, if_false, hn]
      exact walkPropsWith_ok _ _ _ fun p hp r hd pp =>
        ih r pp _ (hf.cons hc hn) (hl g[root] (List.getElem_mem hroot) p (mem_walkProps _ p hp) r hd)

theorem walkPropsWith_mono (rec rec' : Nat → List Str → Option (Outcome (List Visit)))
    (h : ∀ r pp x, rec r pp = some x → rec' r pp = some x) (path : List Str) (props : List Prop') :
    ∀ y, walkPropsWith rec path props = some y → walkPropsWith rec' path props = some y := by
  induction props with
  | nil => exact fun _ hy => hy
  | cons p ps ih =>
    intro y hy
    rw [walkPropsWith_cons] at hy ⊢
    refine bindOO_mono ?_ (fun _ _ => bindOO_mono ih fun _ _ e => e) hy
    cases p.field.descend? with
    | none => exact fun _ e => e
    | some r => exact h r _

theorem walkFuel_mono (g : Graph) : ∀ fuel fuel' root path walking x, fuel ≤ fuel' →
    walkFuel g fuel root path walking = some x → walkFuel g fuel' root path walking = some x := by
  intro fuel
  induction fuel with
  | zero => intro fuel' root path walking x _ h; cases h
  | succ fuel ih =>
    intro fuel' root path walking x hle h
    obtain ⟨fuel', rfl⟩ : ∃ k, fuel' = k + 1 := ⟨fuel' - 1, by omega⟩
    unfold walkFuel at h ⊢
    cases hc : walking.contains root with
    | true => simpa only [hc, if_true] using h
    | false =>
      simp only [hc, Bool.false_eq_true, if_false] at h ⊢
      cases hn : g[root]? with
      | none => simpa only [hn] using h
      | some node =>
        simp only [hn] at h ⊢
        exact walkPropsWith_mono _ _ (fun r pp y hy => ih fuel' r pp _ y (by omega) hy) _ _ x h

/-- the walk before the repair, on the one-schema cycle `A { a: object A }`: no fuel is enough -/
def selfLoop : Graph := [{ kind := .object, props := [{ name := b!"a", field := .object 0 }] }]

theorem walkOld_selfLoop_diverges : ∀ fuel path, walkOld selfLoop fuel 0 path = none := by
  intro fuel
  induction fuel with
  | zero => intro path; rfl
  | succ fuel ih =>
    intro path
    unfold walkOld
    simp only [selfLoop, List.getElem?_cons_zero, Node.walkProps, walkPropsWith, Field.descend?]
    have := ih (path ++ [b!"a"])
    simp only [selfLoop] at this
    rw [this]

/-! ## `collectPackageRefs` -/

/-- the loop over the fields keeps whatever every call for one schema keeps -/
theorem collectFieldsWith_spec (P : List Nat → Prop) (rec : List Nat → Nat → Option (List Nat))
    (hrec : ∀ s r, P s → ∃ s', rec s r = some s' ∧ P s') :
    ∀ fs s, P s → ∃ s', collectFieldsWith rec s fs = some s' ∧ P s' := by
  intro fs
  induction fs with
  | nil => exact fun s hs => ⟨s, rfl, hs⟩
  | cons f fs ih =>
    intro s hs
    unfold collectFieldsWith
    cases f.target? with
    | none => exact ih s hs
    | some r =>
      obtain ⟨s1, h1, hp1⟩ := hrec s r hs
      simp only [h1]
      exact ih s1 hp1

theorem collectFuel_isSome (g : Graph) : ∀ fuel seen r, Fuelled g fuel seen →
    ∃ seen', collectFuel g fuel seen r = some seen' ∧ Fuelled g fuel seen' := by
  intro fuel
  induction fuel with
  | zero => intro _ _ hf; exact absurd hf.pos (Nat.lt_irrefl 0)
  | succ fuel ih =>
    intro seen r hf
    unfold collectFuel
    cases hc : seen.contains r with
    | true => exact ⟨seen, rfl, hf⟩
    | false =>
      cases hn : g[r]? with
      | none => exact ⟨seen, rfl, hf⟩
      | some node =>
        obtain ⟨s', h1, hp⟩ := collectFieldsWith_spec (Fuelled g fuel) (fun s r' => collectFuel g fuel s r')
          (fun s r' hs => ih s r' hs) (node.walkProps.map (·.field)) (r :: seen) (hf.cons hc hn)
        exact ⟨s', h1, hp.mono (Nat.le_succ fuel)⟩

theorem collect_isSome (g : Graph) (roots : List Field) : ∃ s, collect g roots = some s := by
  obtain ⟨s', h, _⟩ := collectFieldsWith_spec (Fuelled g (g.length + 1))
    (fun s r => collectFuel g (g.length + 1) s r) (collectFuel_isSome g _) roots [] (Fuelled.start g)
  exact ⟨s', h⟩

/-! ## `assertRefsLink` -/

theorem linkFieldsWith_cons (rec : List Nat → Nat → Option (Outcome (List Nat))) (seen : List Nat)
    (f : Field) (fs : List Field) :
    linkFieldsWith rec seen (f :: fs) =
      bindOO (match f.target? with
        | none => some (.ok seen)
        | some r => rec seen r) fun seen' => linkFieldsWith rec seen' fs := by
  rw [linkFieldsWith]
  cases f.target? with
  | none => rfl
  | some r => dsimp only; rcases rec seen r with _ | _ | _ | _ <;> rfl

theorem linkFieldsWith_isSome (P : List Nat → Prop) (rec : List Nat → Nat → Option (Outcome (List Nat)))
    (hrec : ∀ s r, P s → (rec s r).isSome = true ∧ ∀ s', rec s r = some (.ok s') → P s') :
    ∀ fs s, P s → (linkFieldsWith rec s fs).isSome = true ∧ ∀ s', linkFieldsWith rec s fs = some (.ok s') → P s' := by
  intro fs
  induction fs with
  | nil => intro s hs; exact ⟨rfl, fun s' e => by cases e; exact hs⟩
  | cons f fs ih =>
    intro s hs
    rw [linkFieldsWith_cons]
    have hhere : (match f.target? with | none => some (Outcome.ok s) | some r => rec s r).isSome = true ∧
        ∀ s1, (match f.target? with | none => some (Outcome.ok s) | some r => rec s r) = some (.ok s1) → P s1 := by
      cases f.target? with
      | none => exact ⟨rfl, fun s1 e => by cases e; exact hs⟩
      | some r => exact hrec s r hs
    refine ⟨bindOO_isSome hhere.1 fun s1 e => (ih s1 (hhere.2 s1 e)).1, fun s' e => ?_⟩
    obtain ⟨s1, h1, h2⟩ := bindOO_eq_ok.mp e
    exact (ih s1 (hhere.2 s1 h1)).2 s' h2

theorem linkFuel_isSome (g : Graph) : ∀ fuel seen r, Fuelled g fuel seen →
    (linkFuel g fuel seen r).isSome = true ∧ ∀ seen', linkFuel g fuel seen r = some (.ok seen') → Fuelled g fuel seen' := by
  intro fuel
  induction fuel with
  | zero => intro _ _ hf; exact absurd hf.pos (Nat.lt_irrefl 0)
  | succ fuel ih =>
    intro seen r hf
    unfold linkFuel
    cases hn : g[r]? with
    | none => exact ⟨rfl, fun _ e => by cases e⟩
    | some node =>
      cases hc : seen.contains r with
      | true => exact ⟨rfl, fun _ e => by cases e; exact hf⟩
      | false =>
        have := linkFieldsWith_isSome (Fuelled g fuel) (fun s r' => linkFuel g fuel s r')
          (fun s r' hs => ih s r' hs) (node.walkProps.map (·.field)) (r :: seen) (hf.cons hc hn)
        exact ⟨this.1, fun s' e => (this.2 s' e).mono (Nat.le_succ fuel)⟩

theorem linkRoots_isSome (g : Graph) : ∀ rs seen, Fuelled g (g.length + 1) seen →
    (linkRoots g seen rs).isSome = true := by
  intro rs
  induction rs with
  | nil => intro _ _; rfl
  | cons r rs ih =>
    intro seen hf
    have h := linkFuel_isSome g _ seen r hf
    unfold linkRoots
    rcases hl : linkFuel g (g.length + 1) seen r with _ | s' | _ | _
    · rw [hl] at h; cases h.1
    · exact ih s' (h.2 s' hl)
    · rfl
    · rfl

/-! ### completeness: the collected set is closed under "refers to" -/

/-- everything newly added between `s` and `s'` has all its references in `s'` -/
def ClosedNew (g : Graph) (s s' : List Nat) : Prop :=
  ∀ n ∈ s', n ∉ s → ∀ m, Refers g n m → m ∈ s'

structure CollectSpec (g : Graph) (s : List Nat) (targets : List Nat) (s' : List Nat) : Prop where
  sub : ∀ x ∈ s, x ∈ s'
  hit : ∀ r ∈ targets, r < g.length → r ∈ s'
  closed : ClosedNew g s s'

theorem collectFieldsWith_closed (g : Graph) (rec : List Nat → Nat → Option (List Nat))
    (hrec : ∀ s r s', rec s r = some s' → CollectSpec g s [r] s') :
    ∀ fs s s', collectFieldsWith rec s fs = some s' →
      CollectSpec g s (fs.filterMap Field.target?) s' := by
  intro fs
  induction fs with
  | nil =>
    intro s s' h
    simp [collectFieldsWith] at h
    subst h
    exact ⟨fun _ h => h, by simp, fun n hn hns => absurd hn hns⟩
  | cons f fs ih =>
    intro s s' h
    unfold collectFieldsWith at h
    simp only [] at h
    cases ht : f.target? with
    | none =>
      simp only [ht] at h
      have := ih s s' h
      exact ⟨this.sub, by simpa [List.filterMap_cons, ht] using this.hit, this.closed⟩
    | some r =>
      simp only [ht] at h
      cases h1 : rec s r with
      | none => simp [h1] at h
      | some s1 =>
        simp only [h1] at h
        have a := hrec s r s1 h1
        have b := ih s1 s' h
        refine ⟨fun x hx => b.sub x (a.sub x hx), ?_, ?_⟩
        · intro x hx hlt
          simp only [List.filterMap_cons, ht, List.mem_cons] at hx
          rcases hx with e | e
          · subst e; exact b.sub _ (a.hit x (by simp) hlt)
          · exact b.hit x e hlt
        · intro n hn hns m hm
          by_cases h1n : n ∈ s1
          · exact b.sub m (a.closed n h1n hns m hm)
          · exact b.closed n hn h1n m hm

theorem collectFuel_closed (g : Graph) : ∀ fuel s r s', collectFuel g fuel s r = some s' →
    CollectSpec g s [r] s' := by
  intro fuel
  induction fuel with
  | zero => intro s r s' h; simp [collectFuel] at h
  | succ fuel ih =>
    intro s r s' h
    unfold collectFuel at h
    cases hc : s.contains r with
    | true =>
      simp only [hc, if_true] at h
      cases h
      refine ⟨fun _ h => h, ?_, fun n hn hns => absurd hn hns⟩
      intro x hx _
      simp at hx; subst hx
      exact List.contains_iff_mem.mp hc
    | false =>
      simp only [hc, Bool.false_eq_true, if_false] at h
      cases hn : g[r]? with
      | none =>
        simp only [hn] at h
        cases h
        refine ⟨fun _ h => h, ?_, fun n hn hns => absurd hn hns⟩
        intro x hx hlt
        simp at hx; subst hx
        have : g[x]? ≠ none := by
          intro e
          have := List.getElem?_eq_none_iff.mp e
          omega
        exact absurd hn this
      | some node =>
        simp only [hn] at h
        have sp := collectFieldsWith_closed g (fun s r' => collectFuel g fuel s r')
          (fun s r' s' e => ih s r' s' e) _ _ _ h
        refine ⟨fun x hx => sp.sub x (List.mem_cons_of_mem _ hx), ?_, ?_⟩
        · intro x hx _
          simp at hx; subst hx
          exact sp.sub _ (by simp)
        · intro n hnm hns m hm
          by_cases e : n = r
          · subst e
            obtain ⟨node', hg, p, hp, htp, hlt⟩ := hm
            rw [hn] at hg; cases hg
            apply sp.hit m _ hlt
            simp only [List.filterMap_map, List.mem_filterMap]
            exact ⟨p, hp, by simpa using htp⟩
          · exact sp.closed n hnm (by simp [e, hns]) m hm

/-- the collected set holds every root's target and is closed under "refers to" -/
theorem collect_spec (g : Graph) (roots : List Field) (s : List Nat) (h : collect g roots = some s) :
    (∀ f ∈ roots, ∀ r, f.target? = some r → r < g.length → r ∈ s) ∧
    (∀ n ∈ s, ∀ m, Refers g n m → m ∈ s) := by
  unfold collect at h
  have sp := collectFieldsWith_closed g (fun s r => collectFuel g (g.length + 1) s r)
    (fun s r s' e => collectFuel_closed g _ s r s' e) roots [] s h
  exact ⟨fun f hf r ht hlt => sp.hit r (List.mem_filterMap.mpr ⟨f, hf, ht⟩) hlt,
    fun n hn m hm => sp.closed n hn (by simp) m hm⟩

theorem collect_complete (g : Graph) (roots : List Field) (s : List Nat)
    (h : collect g roots = some s) : ∀ n, Reach g roots n → n ∈ s := by
  obtain ⟨hit, closed⟩ := collect_spec g roots s h
  intro n hr
  induction hr with
  | root hf ht hlt => exact hit _ hf _ ht hlt
  | step _ hab ih => exact closed _ ih _ hab

end J5V.Pipe
