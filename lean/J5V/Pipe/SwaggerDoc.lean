import J5V.Pipe.Swagger
import J5V.Pipe.Client
import J5V.Pipe.Split
import J5V.Pipe.OO
/-!
# C16 — the OpenAPI document: `BuildSwagger` / `Document.addService` / `Document.addMethod`
(`internal/export/convert.go`, `internal/export/swagger.go`) on top of the client API (core only)

Two layers.

**The client API as `BuildSwagger` reads it** (`ClientAPI`): per declared service its methods (verb,
path, path parameters, query parameters, request body, response body) and the schema map. It is
produced by the model's client builder `buildClient`, which composes what is already modelled:
`fillRequest`'s split on the request's own properties (`splitProps`, by `pathParamNames`), the body
and the response through `ToJ5ClientObject()` (`clientMessageProps`: flattened object fields show
the client properties of their object), path and query parameters as they are (`ToJ5Proto()`), and
the schema map = `collectPackageRefs` (`clientSchemas`, whose roots are the *raw* properties of
request and response: `walkRootObject` ranges over `schema.Properties`), each schema rendered by
`ToJ5ClientRoot()` (objects with their client properties: the node of the client view).

**The document** (`Document`): `addMethod` builds one operation per method — parameters = path
parameters (`in: path`, required) then query parameters (`in: query`, required as declared), each
through `convertSchema`; request body through `convertObjectItem` when the method has one; the
`200` response with the response body through `convertObjectItem` when there is one — stopping at
the first conversion error; the operation is filed under its path (`addOperation` = `addOp` of
`Swagger.lean` on whole operations). Then every schema of the schema map goes through
`ConvertRootSchema` into `components.schemas` under `<package>.<key>`.

In the client API every object / oneof / enum field is a *reference* (`ObjectField.ToJ5Field()` …
always emit `…_Ref{Package, Schema}`; inline schemas were hoisted to named ones when the source was
read), so a field of the schema graph converts through `Field.toSField`; the graph does not
distinguish the scalar kinds, `.str` stands for the ten scalar arms of `convertSchema` (none
recurses or fails: `C16_swagger_convert_total`). A `$ref` is `#/definitions/<package>.<schema>`;
here it is the index of the node it names (`Field.target?`), and a component's key is its index.
-/
namespace J5V.Pipe
open J5V.Compile J5V.Go

/-! ## the client API -/

/-- `client_j5pb.Method` as far as `addMethod` reads it (`Request` is never nil: `Method.ToJ5Proto`
always sets it) -/
structure ApiMethod where
  name : Str
  verb : Verb
  path : Str
  pathParams : List Prop'
  queryParams : List Prop'
  body : Option (List Prop')
  response : Option (List Prop')
  deriving Repr, DecidableEq

structure ApiService where
  name : Str
  methods : List ApiMethod
  deriving Repr, DecidableEq

/-- the packages' `services` (declared services only: `BuildSwagger` does not look at the services
of state entities) and the union of their `schemas` maps: (node index, client-view node) -/
structure ClientAPI where
  services : List ApiService
  schemas : List (Nat × Node)
  deriving Repr, DecidableEq

/-! ## the model's client builder -/

/-- a declared method as the source API gives it: request and response message properties -/
structure MethodIn where
  name : Str
  verb : Verb
  path : Str
  req : List Prop'
  resp : Option (List Prop')
  deriving Repr, DecidableEq

structure ServiceIn where
  name : Str
  methods : List MethodIn
  deriving Repr, DecidableEq

def MethodIn.roots (m : MethodIn) : MethodRoots :=
  { request := m.req.map (·.field), response := m.resp.map (·.map (·.field)) }

/-- `fillRequest` on the properties themselves: (path parameters, the rest) -/
def splitProps (path : Str) (props : List Prop') : List Prop' × List Prop' :=
  let names := pathParamNames path
  (props.filter (fun p => names.contains p.name), props.filter (fun p => !names.contains p.name))

/-- `ToJ5ClientObject()` of an optional message -/
def clientMessage? (g : Graph) : Option (List Prop') → Option (Outcome (Option (List Prop')))
  | none => some (.ok none)
  | some ps => bindOO (clientMessageProps g ps) fun cs => some (.ok (some cs))

def buildMethod (g : Graph) (m : MethodIn) : Option (Outcome ApiMethod) :=
  let (pathProps, rest) := splitProps m.path m.req
  bindOO (if m.verb.hasBody then clientMessage? g (some rest) else some (.ok none)) fun body =>
  bindOO (clientMessage? g m.resp) fun response =>
  some (.ok { name := m.name, verb := m.verb, path := m.path, pathParams := pathProps,
              queryParams := if m.verb.hasBody then [] else rest, body, response })

def buildService (g : Graph) (s : ServiceIn) : Option (Outcome ApiService) :=
  bindOO (mapMOO (buildMethod g) s.methods) fun ms => some (.ok { name := s.name, methods := ms })

def packageRoots (services : List ServiceIn) (entities : List EntityRoots) : PackageRoots :=
  { entities, services := services.map fun s => s.methods.map MethodIn.roots }

/-- the client API of a package: `none` = fuel exhausted (never) -/
def buildClient (g : Graph) (services : List ServiceIn) (entities : List EntityRoots) :
    Option (Outcome ClientAPI) :=
  bindOO (mapMOO (buildService g) services) fun svcs =>
  bindOO (clientGraph g) fun cg =>
  bindOO (clientSchemas g (packageRoots services entities)) fun s =>
  some (.ok { services := svcs, schemas := s.filterMap fun i => (cg[i]?).map fun n => (i, n) })

/-! ## the document -/

/-- `ToJ5Field()`: what `convertSchema` gets for a field of the schema set -/
def Field.toSField : Field → SField
  | .scalar => .str
  | .object _ => .objRef
  | .oneof _ => .oneofRef
  | .enum _ => .enumRef
  | .array e => .array e.toSField
  | .map e => .map e.toSField

/-- a converted schema: the canonical description (`convertSchema`) and the `$ref` below it -/
structure DSchema where
  desc : String
  ref : Option Nat
  deriving Repr, DecidableEq

def convertField (f : Field) : Outcome DSchema :=
  match convertSchema f.toSField with
  | .ok d => .ok { desc := d, ref := f.target? }
  | .err e => .err e
  | .panic w => .panic w

/-- the property loop of `convertObjectItem` / `convertOneofItem`: first error wins -/
def convertPropList : List Prop' → Outcome (List (Str × DSchema))
  | [] => .ok []
  | p :: ps =>
    match convertField p.field with
    | .ok s =>
      match convertPropList ps with
      | .ok rest => .ok ((p.name, s) :: rest)
      | .err e => .err e
      | .panic w => .panic w
    | .err e => .err e
    | .panic w => .panic w

inductive ParamIn where
  | path | query
  deriving Repr, DecidableEq

structure DParam where
  name : Str
  loc : ParamIn
  required : Bool
  schema : DSchema
  deriving Repr, DecidableEq

/-- `required` of a query parameter is the property's own flag, which the graph does not carry:
`false` here, never compared -/
def convertParams (loc : ParamIn) : List Prop' → Outcome (List DParam)
  | [] => .ok []
  | p :: ps =>
    match convertField p.field with
    | .ok s =>
      match convertParams loc ps with
      | .ok rest => .ok ({ name := p.name, loc, required := loc == .path, schema := s } :: rest)
      | .err e => .err e
      | .panic w => .panic w
    | .err e => .err e
    | .panic w => .panic w

/-- `out.Properties[prop.Name] = &ObjectProperty{…}` inside the loop: `Properties` is a Go map, a
later property of the same name replaces an earlier one (it happens: a flattened field's child
may carry the JSON name of a sibling) -/
def lastWins : List (Str × DSchema) → List (Str × DSchema)
  | [] => []
  | x :: xs => if xs.any (fun y => y.1 = x.1) then lastWins xs else x :: lastWins xs

def convertBody? : Option (List Prop') → Outcome (Option (List (Str × DSchema)))
  | none => .ok none
  | some ps =>
    match convertPropList ps with
    | .ok xs => .ok (some (lastWins xs))
    | .err e => .err e
    | .panic w => .panic w

structure DOperation where
  verb : Verb
  path : Str
  service : Str
  method : Str
  params : List DParam
  body : Option (List (Str × DSchema))
  response : Option (List (Str × DSchema))
  deriving Repr, DecidableEq

/-- the part of `addMethod` in front of the path grouping -/
def buildOperation (service : Str) (m : ApiMethod) : Outcome DOperation :=
  match convertParams .path m.pathParams with
  | .err e => .err e
  | .panic w => .panic w
  | .ok pp =>
    match convertParams .query m.queryParams with
    | .err e => .err e
    | .panic w => .panic w
    | .ok qp =>
      match convertBody? m.body with
      | .err e => .err e
      | .panic w => .panic w
      | .ok body =>
        match convertBody? m.response with
        | .err e => .err e
        | .panic w => .panic w
        | .ok response =>
          .ok { verb := m.verb, path := m.path, service, method := m.name, params := pp ++ qp, body, response }

abbrev DPathItem := List DOperation

def DPathItem.key : DPathItem → Str
  | [] => []
  | op :: _ => op.path

/-- the loop at the end of `addMethod`, on whole operations -/
def addOperation : List DPathItem → DOperation → List DPathItem
  | [], op => [[op]]
  | item :: rest, op =>
    if DPathItem.key item = op.path then (item ++ [op]) :: rest else item :: addOperation rest op

/-- `ConvertRootSchema`: objects and oneofs through their property loop, enums have no fields -/
def convertRoot (n : Node) : Outcome (List (Str × DSchema)) :=
  match n.kind with
  | .enum => .ok []
  | _ =>
    match convertPropList n.props with
    | .ok xs => .ok (lastWins xs)
    | .err e => .err e
    | .panic w => .panic w

structure Document where
  paths : List DPathItem
  components : List (Nat × List (Str × DSchema))
  deriving Repr, DecidableEq

def addMethods (service : Str) : List DPathItem → List ApiMethod → Outcome (List DPathItem)
  | items, [] => .ok items
  | items, m :: ms =>
    match buildOperation service m with
    | .ok op => addMethods service (addOperation items op) ms
    | .err e => .err e
    | .panic w => .panic w

def addServices : List DPathItem → List ApiService → Outcome (List DPathItem)
  | items, [] => .ok items
  | items, s :: ss =>
    match addMethods s.name items s.methods with
    | .ok items' => addServices items' ss
    | .err e => .err e
    | .panic w => .panic w

def convertComponents : List (Nat × Node) → Outcome (List (Nat × List (Str × DSchema)))
  | [] => .ok []
  | (i, n) :: rest =>
    match convertRoot n with
    | .ok c =>
      match convertComponents rest with
      | .ok cs => .ok ((i, c) :: cs)
      | .err e => .err e
      | .panic w => .panic w
    | .err e => .err e
    | .panic w => .panic w

/-- `BuildSwagger` -/
def buildSwagger (api : ClientAPI) : Outcome Document :=
  match addServices [] api.services with
  | .err e => .err e
  | .panic w => .panic w
  | .ok paths =>
    match convertComponents api.schemas with
    | .err e => .err e
    | .panic w => .panic w
    | .ok components => .ok { paths, components }

/-! ## what the document refers to -/

def propRefs (ps : List (Str × DSchema)) : List Nat := ps.filterMap (·.2.ref)

def DOperation.refs (op : DOperation) : List Nat :=
  op.params.filterMap (·.schema.ref) ++ propRefs (op.body.getD []) ++ propRefs (op.response.getD [])

/-- every `$ref` of the document: operations (parameters, request bodies, responses) and components -/
def Document.refs (d : Document) : List Nat :=
  d.paths.flatten.flatMap DOperation.refs ++ d.components.flatMap fun c => propRefs c.2

def Document.componentKeys (d : Document) : List Nat := d.components.map (·.1)

/-- `methodShortString` -/
def Verb.lower : Verb → String
  | .get => "get" | .post => "post" | .put => "put" | .delete => "delete" | .patch => "patch"

def DOperation.toSOp (op : DOperation) : SOp := { verb := op.verb.lower, path := op.path }

/-- every reference in the graph (through arrays and maps, enum references too) points into it -/
def RefsLinked (g : Graph) : Prop :=
  ∀ node ∈ g, ∀ p ∈ node.props, ∀ r, p.field.target? = some r → r < g.length

instance (g : Graph) : Decidable (RefsLinked g) := by
  unfold RefsLinked
  exact List.decidableBAll _ _

/-- the same for a list of message properties -/
def PropsLinked (g : Graph) (ps : List Prop') : Prop :=
  ∀ p ∈ ps, ∀ r, p.field.target? = some r → r < g.length

instance (g : Graph) (ps : List Prop') : Decidable (PropsLinked g ps) := by
  unfold PropsLinked
  exact List.decidableBAll _ _

def MethodIn.linked (g : Graph) (m : MethodIn) : Prop :=
  PropsLinked g m.req ∧ PropsLinked g (m.resp.getD [])

end J5V.Pipe
