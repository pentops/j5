import J5V.Pipe.Walk
/-! # What the theorems about the schema walks speak of (C16; definitions only) -/
namespace J5V.Pipe

/-- every reference the field walk can follow points into the graph (`Ref.To != nil` everywhere:
what `assertRefsLink` establishes for a schema set built from a source API) -/
def Linked (g : Graph) : Prop :=
  ∀ node ∈ g, ∀ p ∈ node.props, ∀ r, p.field.descend? = some r → r < g.length

instance (g : Graph) : Decidable (Linked g) := by
  unfold Linked
  exact List.decidableBAll _ _

/-- `a` has a property whose field refers (directly, or through arrays / maps) to the schema `b`,
and `b` is in the graph -/
def Refers (g : Graph) (a b : Nat) : Prop :=
  ∃ node, g[a]? = some node ∧ ∃ p ∈ node.walkProps, p.field.target? = some b ∧ b < g.length

inductive Reach (g : Graph) (roots : List Field) : Nat → Prop
  | root {f r} : f ∈ roots → f.target? = some r → r < g.length → Reach g roots r
  | step {a b} : Reach g roots a → Refers g a b → Reach g roots b

end J5V.Pipe
