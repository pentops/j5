import J5V.Pipe.SwaggerDocSpec
import J5V.Pipe.FlattenProofs
import J5V.Pipe.SwaggerProofs
import J5V.Go.OutcomeLemmas
/-! # Lemmas for C16: the OpenAPI document is total and its references resolve; the client builder is
total (core only) -/
namespace J5V.Pipe
open J5V.Compile J5V.Go

/-! ## conversion never fails on fields of the schema set -/

theorem Field.toSField_wf : ∀ f : Field, f.toSField.wellFormed = true
  | .scalar => rfl
  | .object _ => rfl
  | .oneof _ => rfl
  | .enum _ => rfl
  | .array e => by simpa [Field.toSField, SField.wellFormed] using Field.toSField_wf e
  | .map e => by simpa [Field.toSField, SField.wellFormed] using Field.toSField_wf e

def Field.dschema (f : Field) : DSchema := { desc := (convertSchema f.toSField).get, ref := f.target? }

theorem convertField_eq (f : Field) : convertField f = .ok f.dschema := by
  obtain ⟨t, ht⟩ := convertSchema_total f.toSField (Field.toSField_wf f)
  simp [convertField, Field.dschema, ht, Outcome.get]

def Prop'.dprop (p : Prop') : Str × DSchema := (p.name, p.field.dschema)

theorem convertPropList_eq : ∀ ps : List Prop', convertPropList ps = .ok (ps.map Prop'.dprop)
  | [] => rfl
  | p :: ps => by simp [convertPropList, convertField_eq, convertPropList_eq ps, Prop'.dprop]

def Prop'.dparam (loc : ParamIn) (p : Prop') : DParam :=
  { name := p.name, loc, required := loc == .path, schema := p.field.dschema }

theorem convertParams_eq (loc : ParamIn) : ∀ ps : List Prop', convertParams loc ps = .ok (ps.map (Prop'.dparam loc))
  | [] => rfl
  | p :: ps => by simp [convertParams, convertField_eq, convertParams_eq loc ps, Prop'.dparam]

theorem propRefs_dprop (ps : List Prop') : propRefs (ps.map Prop'.dprop) = ps.filterMap (·.field.target?) := by
  simp [propRefs, List.filterMap_map, Function.comp_def, Prop'.dprop, Field.dschema]

theorem lastWins_sub : ∀ (xs : List (Str × DSchema)), ∀ x ∈ lastWins xs, x ∈ xs
  | [], _, h => by simp [lastWins] at h
  | y :: ys, x, h => by
    unfold lastWins at h
    split at h
    · exact List.mem_cons_of_mem _ (lastWins_sub ys x h)
    · rcases List.mem_cons.mp h with rfl | h
      · simp
      · exact List.mem_cons_of_mem _ (lastWins_sub ys x h)

theorem lastWins_names : ∀ (xs : List (Str × DSchema)) (n : Str),
    n ∈ (lastWins xs).map (·.1) ↔ n ∈ xs.map (·.1)
  | [], n => by simp [lastWins]
  | y :: ys, n => by
    unfold lastWins
    split
    · rename_i hany
      rw [lastWins_names ys n]
      simp only [List.map_cons, List.mem_cons]
      constructor
      · exact Or.inr
      · rintro (rfl | h)
        · obtain ⟨z, hz, hzn⟩ := List.any_eq_true.mp hany
          exact List.mem_map.mpr ⟨z, hz, by simpa using hzn⟩
        · exact h
    · simp only [List.map_cons, List.mem_cons, lastWins_names ys n]

theorem lastWins_nodup : ∀ (xs : List (Str × DSchema)), ((lastWins xs).map (·.1)).Nodup
  | [] => by simp [lastWins]
  | y :: ys => by
    unfold lastWins
    split
    · exact lastWins_nodup ys
    · rename_i hany
      simp only [List.map_cons, List.nodup_cons]
      refine ⟨?_, lastWins_nodup ys⟩
      intro hm
      rw [lastWins_names ys y.1] at hm
      obtain ⟨z, hz, hzn⟩ := List.mem_map.mp hm
      exact hany (List.any_eq_true.mpr ⟨z, hz, by simpa using hzn⟩)

theorem propRefs_lastWins (xs : List (Str × DSchema)) : ∀ r ∈ propRefs (lastWins xs), r ∈ propRefs xs := by
  intro r hr
  unfold propRefs at hr ⊢
  obtain ⟨x, hx, hxr⟩ := List.mem_filterMap.mp hr
  exact List.mem_filterMap.mpr ⟨x, lastWins_sub xs x hx, hxr⟩

/-- the properties of a request body or a response as the document shows them -/
def dbody (b : Option (List Prop')) : Option (List (Str × DSchema)) := b.map fun ps => lastWins (ps.map Prop'.dprop)

theorem convertBody?_eq (b : Option (List Prop')) : convertBody? b = .ok (dbody b) := by
  cases b with
  | none => rfl
  | some ps => simp [convertBody?, convertPropList_eq, dbody]

theorem dbody_names (b : Option (List Prop')) (n : Str) :
    n ∈ ((dbody b).getD []).map (·.1) ↔ n ∈ (b.getD []).map (·.name) := by
  cases b with
  | none => simp [dbody]
  | some ps => simp only [dbody, Option.map_some, Option.getD_some]; rw [lastWins_names]; simp [Prop'.dprop]

theorem dbody_nodup (b : Option (List Prop')) : (((dbody b).getD []).map (·.1)).Nodup := by
  cases b with
  | none => simp [dbody]
  | some ps => exact lastWins_nodup _

theorem dbody_refs (b : Option (List Prop')) :
    ∀ r ∈ propRefs ((dbody b).getD []), r ∈ (b.getD []).filterMap (·.field.target?) := by
  cases b with
  | none => intro r hr; simp [dbody, propRefs] at hr
  | some ps => intro r hr; rw [← propRefs_dprop]; exact propRefs_lastWins _ r hr

/-- the operation `addMethod` builds for a method -/
def ApiMethod.operation (service : Str) (m : ApiMethod) : DOperation :=
  { verb := m.verb, path := m.path, service, method := m.name,
    params := m.pathParams.map (Prop'.dparam .path) ++ m.queryParams.map (Prop'.dparam .query),
    body := dbody m.body, response := dbody m.response }

theorem buildOperation_eq (service : Str) (m : ApiMethod) : buildOperation service m = .ok (m.operation service) := by
  simp [buildOperation, convertParams_eq, convertBody?_eq, ApiMethod.operation]

theorem ApiMethod.operationOf (service : Str) (m : ApiMethod) : OperationOf service m (m.operation service) where
  verb := rfl
  path := rfl
  service := rfl
  method := rfl
  paramNames := by simp [ApiMethod.operation, Prop'.dparam, Function.comp_def]
  paramIn := by simp [ApiMethod.operation, Prop'.dparam, Function.comp_def]
  pathRequired := by
    intro x hx hloc
    simp only [ApiMethod.operation, List.mem_append, List.mem_map] at hx
    rcases hx with ⟨p, _, rfl⟩ | ⟨p, _, rfl⟩
    · rfl
    · cases hloc
  body := by simp [ApiMethod.operation, dbody]
  bodyNames := dbody_names m.body
  bodyNodup := dbody_nodup m.body
  response := by simp [ApiMethod.operation, dbody]
  responseNames := dbody_names m.response
  responseNodup := dbody_nodup m.response
  refs := by
    intro r hr
    simp only [DOperation.refs, ApiMethod.operation, ApiMethod.props, List.filterMap_append, List.mem_append,
      List.filterMap_map] at hr ⊢
    rcases hr with (hr | hr) | hr
    · exact Or.inl (Or.inl (by simpa [Function.comp_def, Prop'.dparam, Field.dschema, List.filterMap_append] using hr))
    · exact Or.inl (Or.inr (dbody_refs m.body r hr))
    · exact Or.inr (dbody_refs m.response r hr)

/-! ## path grouping on whole operations -/

theorem addOperation_flatten_mem (items : List DPathItem) (op o : DOperation) :
    o ∈ (addOperation items op).flatten ↔ o ∈ items.flatten ∨ o = op := by
  induction items with
  | nil => simp [addOperation]
  | cons item rest ih =>
    unfold addOperation
    split
    · simp [or_comm, or_left_comm]
    · simp [ih, or_assoc]

/-- the grouping of whole operations is the grouping of `Swagger.lean` on (verb, path) -/
theorem addOperation_toSOp (items : List DPathItem) (op : DOperation) :
    (addOperation items op).map (·.map DOperation.toSOp) =
      addOp (items.map (·.map DOperation.toSOp)) op.toSOp := by
  induction items with
  | nil => rfl
  | cons item rest ih =>
    have hk : PathItem.key (item.map DOperation.toSOp) = DPathItem.key item := by
      cases item <;> rfl
    unfold addOperation addOp
    simp only [List.map_cons, hk]
    have hp : op.toSOp.path = op.path := rfl
    rw [hp]
    split
    · simp
    · simp [ih]

theorem mem_foldl_addOperation (ops : List DOperation) : ∀ (items : List DPathItem) (o : DOperation),
    o ∈ (ops.foldl addOperation items).flatten ↔ o ∈ items.flatten ∨ o ∈ ops := by
  induction ops with
  | nil => simp
  | cons op ops ih =>
    intro items o
    rw [List.foldl_cons, ih, addOperation_flatten_mem, List.mem_cons, or_assoc]

theorem foldl_addOperation_toSOp (ops : List DOperation) : ∀ items : List DPathItem,
    (ops.foldl addOperation items).map (·.map DOperation.toSOp) =
      (ops.map DOperation.toSOp).foldl addOp (items.map (·.map DOperation.toSOp)) := by
  induction ops with
  | nil => intro _; rfl
  | cons op ops ih => intro items; simp [ih, addOperation_toSOp]

theorem addMethods_eq (service : Str) : ∀ (ms : List ApiMethod) (items : List DPathItem),
    addMethods service items ms = .ok ((ms.map (·.operation service)).foldl addOperation items)
  | [], _ => rfl
  | m :: ms, items => by simp [addMethods, buildOperation_eq, addMethods_eq service ms]

/-- every operation of the document, in the order `BuildSwagger` adds them -/
def ClientAPI.operations (api : ClientAPI) : List DOperation :=
  api.services.flatMap fun s => s.methods.map (·.operation s.name)

theorem addServices_eq : ∀ (ss : List ApiService) (items : List DPathItem),
    addServices items ss = .ok ((ss.flatMap fun s => s.methods.map (·.operation s.name)).foldl addOperation items)
  | [], _ => rfl
  | s :: ss, items => by simp [addServices, addMethods_eq, addServices_eq ss, List.foldl_append]

/-- `ConvertRootSchema` of a schema of the schema map -/
def Node.component (n : Node) : List (Str × DSchema) := lastWins (n.walkProps.map Prop'.dprop)

theorem convertRoot_eq (n : Node) : convertRoot n = .ok n.component := by
  unfold convertRoot Node.component Node.walkProps
  cases n.kind <;> simp [convertPropList_eq, lastWins]

theorem convertComponents_eq : ∀ schemas : List (Nat × Node),
    convertComponents schemas = .ok (schemas.map fun x => (x.1, x.2.component))
  | [] => rfl
  | (i, n) :: rest => by simp [convertComponents, convertRoot_eq, convertComponents_eq rest]

theorem buildSwagger_eq (api : ClientAPI) : buildSwagger api =
    .ok { paths := api.operations.foldl addOperation [], components := api.schemas.map fun x => (x.1, x.2.component) } := by
  simp [buildSwagger, addServices_eq, convertComponents_eq, ClientAPI.operations]

/-- its operations are exactly the operations of the methods of the declared services, its component
keys the keys of the schema map -/
theorem buildSwagger_ok (api : ClientAPI) : ∃ doc, buildSwagger api = .ok doc ∧
    (∀ o, o ∈ doc.paths.flatten ↔ ∃ s ∈ api.services, ∃ m ∈ s.methods, buildOperation s.name m = .ok o) ∧
    doc.componentKeys = api.schemas.map (·.1) := by
  refine ⟨_, buildSwagger_eq api, fun o => ?_, by simp [Document.componentKeys, List.map_map, Function.comp_def]⟩
  rw [mem_foldl_addOperation]
  simp [ClientAPI.operations, buildOperation_eq, eq_comm]

/-! ## inversion of the client builder -/

/-- where the properties of an expansion come from: the list itself, or the client properties of
the object of one of its flattened fields -/
theorem expandWith_mem (rec : Nat → Option (Outcome (List Prop'))) (flattening : List Nat) :
    ∀ (props out : List Prop'), expandWith rec flattening props = some (.ok out) →
      ∀ q ∈ out, q ∈ props ∨ ∃ p ∈ props, ∃ r cs, p.field = .object r ∧ rec r = some (.ok cs) ∧ q ∈ cs
  | [], out, h => by cases h; intro q hq; cases hq
  | p :: ps, out, h => by
    rw [expandWith_cons] at h
    obtain ⟨cs, hcs, h⟩ := bindOO_eq_ok.mp h
    obtain ⟨rest, hrest, h⟩ := bindOO_eq_ok.mp h
    cases h
    intro q hq
    rcases List.mem_append.mp hq with h1 | h1
    · cases he : p.expands? flattening with
      | none => rw [he] at hcs; cases hcs; exact Or.inl (by rw [List.mem_singleton.mp h1]; simp)
      | some r =>
        rw [he] at hcs
        exact Or.inr ⟨p, by simp, r, cs, (Prop'.expands?_eq_some he).2.1, hcs, h1⟩
    · rcases expandWith_mem rec flattening ps rest hrest q h1 with h2 | ⟨p', hp', h2⟩
      · exact Or.inl (List.mem_cons_of_mem _ h2)
      · exact Or.inr ⟨p', List.mem_cons_of_mem _ hp', h2⟩

/-- the node `i` of the client view is the node of the graph with its `ClientProperties()` -/
theorem clientNodesFrom_get (g : Graph) : ∀ (ns : List Node) (i : Nat) (cns : List Node),
    clientNodesFrom g i ns = some (.ok cns) →
    ∀ j n, ns[j]? = some n → ∃ ps, clientProps g (i + j) n = some (.ok ps) ∧ cns[j]? = some { n with props := ps }
  | [], _, _, _ => by intro j n h; simp at h
  | n0 :: ns, i, cns, h => by
    rw [clientNodesFrom_cons] at h
    obtain ⟨ps0, h0, h⟩ := bindOO_eq_ok.mp h
    obtain ⟨rest, h1, h⟩ := bindOO_eq_ok.mp h
    cases h
    intro j n hj
    cases j with
    | zero =>
      simp at hj; subst hj
      exact ⟨ps0, by simpa using h0, by simp⟩
    | succ j =>
      obtain ⟨ps, hps, hc⟩ := clientNodesFrom_get g ns (i + 1) rest h1 j n (by simpa using hj)
      refine ⟨ps, ?_, by simpa using hc⟩
      have : i + (j + 1) = i + 1 + j := by omega
      rw [this]; exact hps

theorem clientGraph_get (g cg : Graph) (h : clientGraph g = some (.ok cg)) (i : Nat) (n : Node)
    (hn : g[i]? = some n) : ∃ ps, clientProps g i n = some (.ok ps) ∧ cg[i]? = some { n with props := ps } := by
  have := clientNodesFrom_get g g 0 cg h i n hn
  simpa using this

/-- the client properties of a flattened field's object are the properties of an object node of the client view -/
theorem clientPropsFuel_top (g cg : Graph) (h : clientGraph g = some (.ok cg)) (r : Nat) (cs : List Prop')
    (hr : clientPropsFuel g (g.length + 1) [] r = some (.ok cs)) :
    ∃ c, cg[r]? = some c ∧ c.kind = .object ∧ c.props = cs := by
  cases hn : g[r]? with
  | none => unfold clientPropsFuel at hr; simp [hn] at hr
  | some n =>
    have hk : n.kind = .object := by
      unfold clientPropsFuel at hr
      simp only [hn] at hr
      cases hk : n.kind with
      | object => rfl
      | oneof => simp [hk] at hr
      | enum => simp [hk] at hr
    obtain ⟨ps, hps, hc⟩ := clientGraph_get g cg h r n hn
    unfold clientProps at hps
    simp only [hk] at hps
    rw [hr] at hps
    cases hps
    exact ⟨_, hc, hk, rfl⟩

theorem clientMessageProps_mem (g cg : Graph) (h : clientGraph g = some (.ok cg)) (props out : List Prop')
    (ho : clientMessageProps g props = some (.ok out)) :
    ∀ q ∈ out, q ∈ props ∨ ∃ p ∈ props, ∃ r c, p.field = .object r ∧ cg[r]? = some c ∧ c.kind = .object ∧ q ∈ c.props := by
  intro q hq
  rcases expandWith_mem _ [] props out ho q hq with h1 | ⟨p, hp, r, cs, hf, hrec, hqc⟩
  · exact Or.inl h1
  · obtain ⟨c, hc, hk, hps⟩ := clientPropsFuel_top g cg h r cs hrec
    exact Or.inr ⟨p, hp, r, c, hf, hc, hk, by rw [hps]; exact hqc⟩

/-- a property of the client API's method that refers to `t`: `t` is a root's target, or a target
of a property of an object node that is a root's target -/
theorem buildMethod_targets (g cg : Graph) (hcg : clientGraph g = some (.ok cg)) (m : MethodIn) (am : ApiMethod)
    (hb : buildMethod g m = some (.ok am)) :
    ∀ q ∈ am.props, q ∈ m.req ++ m.resp.getD [] ∨
      ∃ p ∈ m.req ++ m.resp.getD [], ∃ r c, p.field = .object r ∧ cg[r]? = some c ∧ c.kind = .object ∧ q ∈ c.props := by
  unfold buildMethod at hb
  simp only [] at hb
  obtain ⟨body, hbody, hb⟩ := bindOO_eq_ok.mp hb
  obtain ⟨resp, hresp, hb⟩ := bindOO_eq_ok.mp hb
  cases hb
  have hsplit1 : ∀ q ∈ (splitProps m.path m.req).1, q ∈ m.req := by
    intro q hq; exact (List.mem_filter.mp hq).1
  have hsplit2 : ∀ q ∈ (splitProps m.path m.req).2, q ∈ m.req := by
    intro q hq; exact (List.mem_filter.mp hq).1
  -- a client message made of a sub-list of the request / the response
  have msg : ∀ (src : Option (List Prop')) (o : Option (List Prop')),
      clientMessage? g src = some (.ok o) → (∀ q ∈ src.getD [], q ∈ m.req ++ m.resp.getD []) →
      ∀ q ∈ o.getD [], q ∈ m.req ++ m.resp.getD [] ∨
        ∃ p ∈ m.req ++ m.resp.getD [], ∃ r c, p.field = .object r ∧ cg[r]? = some c ∧ c.kind = .object ∧ q ∈ c.props := by
    intro src o ho hsub q hq
    cases src with
    | none => simp [clientMessage?] at ho; subst ho; simp at hq
    | some ps =>
      unfold clientMessage? at ho
      obtain ⟨cs, hcs, ho⟩ := bindOO_eq_ok.mp ho
      cases ho
      rcases clientMessageProps_mem g cg hcg ps cs hcs q hq with h1 | ⟨p, hp, r, c, h2⟩
      · exact Or.inl (hsub q h1)
      · exact Or.inr ⟨p, hsub p hp, r, c, h2⟩
  intro q hq
  simp only [ApiMethod.props, List.mem_append] at hq
  rcases hq with ((hq | hq) | hq) | hq
  · exact Or.inl (List.mem_append_left _ (hsplit1 q hq))
  · by_cases hv : m.verb.hasBody = true
    · simp [hv] at hq
    · simp only [hv, Bool.false_eq_true, if_false] at hq
      exact Or.inl (List.mem_append_left _ (hsplit2 q hq))
  · by_cases hv : m.verb.hasBody = true
    · simp only [hv, if_true] at hbody
      exact msg _ body hbody (fun q hq => List.mem_append_left _ (hsplit2 q hq)) q hq
    · simp only [hv, Bool.false_eq_true, if_false, Option.some.injEq, Outcome.ok.injEq] at hbody
      subst hbody; simp at hq
  · exact msg _ resp hresp (fun q hq => List.mem_append_right _ hq) q hq


/-! ## the path grouping of the document is `groupOps` of `Swagger.lean` -/

theorem buildSwagger_paths (api : ClientAPI) (doc : Document) (h : buildSwagger api = .ok doc) :
    doc.paths.map (·.map DOperation.toSOp) = groupOps api.sops := by
  rw [buildSwagger_eq] at h
  cases h
  rw [foldl_addOperation_toSOp]
  simp only [ClientAPI.operations, groupOps, ClientAPI.sops, List.map_flatMap, List.map_map, List.map_nil]
  rfl

/-! ## the client API itself: every reference names a schema of the schema map (what the J5 JSON
rendering of the API shows: `codec.ProtoToJSON` prints these messages field by field) -/

/-- the fields of the request and response properties of a declared method are roots of the package -/
theorem mem_packageRoots_fields (services : List ServiceIn) (entities : List EntityRoots) (si : ServiceIn)
    (hsi : si ∈ services) (mi : MethodIn) (hmi : mi ∈ si.methods) (p : Prop')
    (hp : p ∈ mi.req ++ mi.resp.getD []) : p.field ∈ (packageRoots services entities).fields := by
  apply mem_fields_of_method (packageRoots services entities) mi.roots
  · unfold PackageRoots.methods packageRoots
    apply List.mem_append_right
    simp only [List.mem_flatten, List.mem_map]
    exact ⟨si.methods.map MethodIn.roots, ⟨si, hsi, rfl⟩, List.mem_map.mpr ⟨mi, hmi, rfl⟩⟩
  · unfold MethodRoots.fields MethodIn.roots
    simp only [List.mem_append] at hp ⊢
    rcases hp with hp | hp
    · exact Or.inl (List.mem_map.mpr ⟨p, hp, rfl⟩)
    · right
      cases hresp : mi.resp with
      | none => rw [hresp] at hp; simp at hp
      | some ps => rw [hresp] at hp; simp only [Option.map_some, Option.getD_some]; exact List.mem_map.mpr ⟨p, by simpa using hp, rfl⟩

theorem client_refs_resolve (g cg : Graph) (services : List ServiceIn) (entities : List EntityRoots)
    (api : ClientAPI)
    (hcg : clientGraph g = some (.ok cg)) (hl : RefsLinked cg)
    (hm : ∀ s ∈ services, ∀ m ∈ s.methods, PropsLinked cg (m.req ++ m.resp.getD []))
    (hb : buildClient g services entities = some (.ok api)) :
    ∀ r ∈ api.refs, r ∈ api.schemaKeys := by
  unfold buildClient at hb
  obtain ⟨svcs, hsvcs, hb⟩ := bindOO_eq_ok.mp hb
  obtain ⟨cg', hcg', hb⟩ := bindOO_eq_ok.mp hb
  rw [hcg] at hcg'
  cases hcg'
  obtain ⟨s, hs, hb⟩ := bindOO_eq_ok.mp hb
  cases hb
  obtain ⟨hit, closed⟩ := collect_spec cg _ s (collect_of_clientSchemas g cg _ s hcg hs)
  have inKeys : ∀ r, r ∈ s → r < cg.length →
      r ∈ ClientAPI.schemaKeys { services := svcs, schemas := s.filterMap fun i => (cg[i]?).map fun n => (i, n) } := by
    intro r hr hlt
    simp only [ClientAPI.schemaKeys, List.map_filterMap, List.mem_filterMap]
    refine ⟨r, hr, ?_⟩
    have : cg[r]? = some cg[r] := List.getElem?_eq_getElem hlt
    simp [this]
  have stepTo : ∀ i c q r, i ∈ s → cg[i]? = some c → q ∈ c.walkProps → q.field.target? = some r → r ∈ s ∧ r < cg.length := by
    intro i c q r hi hc hq ht
    have hlt : r < cg.length := hl c (List.mem_of_getElem? hc) q (mem_walkProps c q hq) r ht
    exact ⟨closed i hi r ⟨c, hc, q, hq, ht, hlt⟩, hlt⟩
  intro r hr
  simp only [ClientAPI.refs, List.mem_append] at hr
  rcases hr with hr | hr
  · obtain ⟨as, has, hr⟩ := List.mem_flatMap.mp hr
    obtain ⟨am, ham, hr⟩ := List.mem_flatMap.mp hr
    obtain ⟨q, hq, hqt⟩ := List.mem_filterMap.mp hr
    obtain ⟨si, hsi, hbs⟩ := mapMOO_eq_ok (buildService g) services svcs hsvcs as has
    unfold buildService at hbs
    obtain ⟨ms, hms, hbs⟩ := bindOO_eq_ok.mp hbs
    cases hbs
    obtain ⟨mi, hmi, hbm⟩ := mapMOO_eq_ok (buildMethod g) si.methods ms hms am ham
    have rootOf : ∀ p ∈ mi.req ++ mi.resp.getD [], ∀ t, p.field.target? = some t → t ∈ s ∧ t < cg.length := by
      intro p hp t ht
      have hlt : t < cg.length := hm si hsi mi hmi p hp t ht
      exact ⟨hit p.field (mem_packageRoots_fields services entities si hsi mi hmi p hp) t ht hlt, hlt⟩
    rcases buildMethod_targets g cg hcg mi am hbm q hq with h1 | ⟨p, hp, r0, c, hf, hc, hk, hqc⟩
    · obtain ⟨h1, h2⟩ := rootOf q h1 r hqt
      exact inKeys r h1 h2
    · obtain ⟨h0, _⟩ := rootOf p hp r0 (by rw [hf]; rfl)
      have hqw : q ∈ c.walkProps := by unfold Node.walkProps; rw [hk]; exact hqc
      obtain ⟨h1, h2⟩ := stepTo r0 c q r h0 hc hqw hqt
      exact inKeys r h1 h2
  · obtain ⟨x, hx, hrx⟩ := List.mem_flatMap.mp hr
    obtain ⟨i, hi, hxi⟩ := List.mem_filterMap.mp hx
    cases hci : cg[i]? with
    | none => simp [hci] at hxi
    | some c =>
      simp only [hci, Option.map_some, Option.some.injEq] at hxi
      subst hxi
      obtain ⟨q, hq, hqt⟩ := List.mem_filterMap.mp hrx
      obtain ⟨h1, h2⟩ := stepTo i c q r hi hci hq hqt
      exact inKeys r h1 h2

/-! ## every `$ref` of the document names a component -/

/-- the document refers to nothing the client API does not refer to, and has a component for every
schema of the schema map -/
theorem swagger_refs_sub (api : ClientAPI) (doc : Document) (hd : buildSwagger api = .ok doc) :
    (∀ r ∈ doc.refs, r ∈ api.refs) ∧ doc.componentKeys = api.schemaKeys := by
  rw [buildSwagger_eq] at hd
  cases hd
  refine ⟨fun r hr => ?_, by simp [Document.componentKeys, ClientAPI.schemaKeys, List.map_map, Function.comp_def]⟩
  simp only [Document.refs, ClientAPI.refs, List.mem_append, List.mem_flatMap] at hr ⊢
  rcases hr with ⟨o, ho, hro⟩ | ⟨c, hc, hrc⟩
  · rw [mem_foldl_addOperation] at ho
    simp only [List.flatten_nil, List.not_mem_nil, false_or, ClientAPI.operations, List.mem_flatMap, List.mem_map] at ho
    obtain ⟨s, hs, m, hm, rfl⟩ := ho
    exact Or.inl ⟨s, hs, m, hm, (m.operationOf s.name).refs r hro⟩
  · obtain ⟨x, hx, rfl⟩ := List.mem_map.mp hc
    refine Or.inr ⟨x, hx, ?_⟩
    rw [← propRefs_dprop]
    exact propRefs_lastWins _ r hrc

theorem swagger_refs_resolve (g cg : Graph) (services : List ServiceIn) (entities : List EntityRoots)
    (api : ClientAPI) (doc : Document)
    (hcg : clientGraph g = some (.ok cg)) (hl : RefsLinked cg)
    (hm : ∀ s ∈ services, ∀ m ∈ s.methods, PropsLinked cg (m.req ++ m.resp.getD []))
    (hb : buildClient g services entities = some (.ok api)) (hd : buildSwagger api = .ok doc) :
    ∀ r ∈ doc.refs, r ∈ doc.componentKeys := by
  obtain ⟨hsub, hkeys⟩ := swagger_refs_sub api doc hd
  intro r hr
  rw [hkeys]
  exact client_refs_resolve g cg services entities api hcg hl hm hb r (hsub r hr)

/-! ## the client builder is total on `FlatLinked` graphs -/

theorem clientMessageProps_ok (g : Graph) (hl : FlatLinked g) (props : List Prop') (hp : MsgFlatOk g props) :
    ∃ out, clientMessageProps g props = some (.ok out) := by
  obtain ⟨out, h, _⟩ := expandWith_ok (fun _ => True) (fun r => clientPropsFuel g (g.length + 1) [] r) [] props
    (fun _ _ => trivial) fun p hpm r he => by
      obtain ⟨hf, hfield, _⟩ := Prop'.expands?_eq_some he
      obtain ⟨n, hn, hk⟩ := flatOk_target (hp p hpm) hf hfield
      obtain ⟨ps, hps, _⟩ := clientPropsFuel_ok g hl (g.length + 1) [] r n (Fuelled.start g) rfl hn hk
      exact ⟨ps, hps, fun _ _ => trivial⟩
  exact ⟨out, h⟩

theorem clientMessage?_ok (g : Graph) (hl : FlatLinked g) (m : Option (List Prop')) (hp : MsgFlatOk g (m.getD [])) :
    ∃ out, clientMessage? g m = some (.ok out) ∧ out.isSome = m.isSome := by
  cases m with
  | none => exact ⟨none, rfl, rfl⟩
  | some ps =>
    obtain ⟨cs, hcs⟩ := clientMessageProps_ok g hl ps hp
    exact ⟨some cs, by simp [clientMessage?, hcs, bindOO], rfl⟩

theorem buildMethod_ok (g : Graph) (hl : FlatLinked g) (m : MethodIn)
    (hreq : MsgFlatOk g m.req) (hresp : MsgFlatOk g (m.resp.getD [])) :
    ∃ am, buildMethod g m = some (.ok am) ∧ am.name = m.name ∧ am.verb = m.verb ∧ am.path = m.path ∧
      am.pathParams.map (·.name) = (fillRequest m.verb.hasBody m.path (m.req.map (·.name))).path ∧
      am.queryParams.map (·.name) = (fillRequest m.verb.hasBody m.path (m.req.map (·.name))).query ∧
      am.body.isSome = m.verb.hasBody ∧ am.response.isSome = m.resp.isSome := by
  have hrest : MsgFlatOk g (splitProps m.path m.req).2 := fun p hp => hreq p (List.mem_filter.mp hp).1
  obtain ⟨resp, hr, hrs⟩ := clientMessage?_ok g hl m.resp hresp
  have hfm : ∀ (l : List Prop') (f : Str → Bool), (l.filter (fun p => f p.name)).map (·.name) = (l.map (·.name)).filter f :=
    fun l f => (List.filter_map (f := (·.name)) (p := f) (l := l)).symm
  cases hv : m.verb.hasBody with
  | true =>
    obtain ⟨body, hbd, hbs⟩ := clientMessage?_ok g hl (some (splitProps m.path m.req).2) hrest
    refine ⟨{ name := m.name, verb := m.verb, path := m.path, pathParams := (splitProps m.path m.req).1, queryParams := [], body, response := resp },
      by simp [buildMethod, hv, hbd, hr, bindOO], rfl, rfl, rfl, ?_, ?_, by simpa using hbs, hrs⟩
    · simp only [splitProps, fillRequest, if_true]
      exact hfm m.req (fun n => (pathParamNames m.path).contains n)
    · simp [fillRequest]
  | false =>
    refine ⟨{ name := m.name, verb := m.verb, path := m.path, pathParams := (splitProps m.path m.req).1, queryParams := (splitProps m.path m.req).2, body := none, response := resp },
      by simp [buildMethod, hv, hr, bindOO], rfl, rfl, rfl, ?_, ?_, rfl, hrs⟩
    · simp only [splitProps, fillRequest, Bool.false_eq_true, if_false]
      exact hfm m.req (fun n => (pathParamNames m.path).contains n)
    · simp only [splitProps, fillRequest, Bool.false_eq_true, if_false]
      exact hfm m.req (fun n => !(pathParamNames m.path).contains n)

theorem buildClient_ok (g : Graph) (hl : FlatLinked g) (services : List ServiceIn) (entities : List EntityRoots)
    (hs : ServicesFlatOk g services) :
    ∃ api, buildClient g services entities = some (.ok api) ∧ api.services.length = services.length := by
  obtain ⟨svcs, hsvcs, hlen⟩ := mapMOO_total (buildService g) services (by
    intro s hsm
    obtain ⟨ms, hms, _⟩ := mapMOO_total (buildMethod g) s.methods (by
      intro m hmm
      obtain ⟨am, ham, _⟩ := buildMethod_ok g hl m (hs s hsm m hmm).1 (hs s hsm m hmm).2
      exact ⟨am, ham⟩)
    exact ⟨{ name := s.name, methods := ms }, by simp [buildService, hms, bindOO]⟩)
  obtain ⟨cg, sch, hcg, hsch⟩ := clientSchemas_ok g (packageRoots services entities) hl
  exact ⟨{ services := svcs, schemas := sch.filterMap fun i => (cg[i]?).map fun n => (i, n) },
    by simp [buildClient, hsvcs, hcg, hsch, bindOO], hlen⟩

end J5V.Pipe
