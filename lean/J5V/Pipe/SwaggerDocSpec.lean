import J5V.Pipe.SwaggerDoc
/-! # What the theorems about the client API and its swagger document speak of (C16; definitions only) -/
namespace J5V.Pipe
open J5V.Compile J5V.Go

/-- every field `addMethod` converts for one method -/
def ApiMethod.props (m : ApiMethod) : List Prop' :=
  m.pathParams ++ m.queryParams ++ m.body.getD [] ++ m.response.getD []

/-- what an operation is, given its method -/
structure OperationOf (service : Str) (m : ApiMethod) (op : DOperation) : Prop where
  verb : op.verb = m.verb
  path : op.path = m.path
  service : op.service = service
  method : op.method = m.name
  paramNames : op.params.map (·.name) = m.pathParams.map (·.name) ++ m.queryParams.map (·.name)
  paramIn : op.params.map (·.loc) = m.pathParams.map (fun _ => ParamIn.path) ++ m.queryParams.map (fun _ => ParamIn.query)
  pathRequired : ∀ x ∈ op.params, x.loc = .path → x.required = true
  body : op.body.isSome = m.body.isSome
  bodyNames : ∀ n, n ∈ (op.body.getD []).map (·.1) ↔ n ∈ (m.body.getD []).map (·.name)
  bodyNodup : ((op.body.getD []).map (·.1)).Nodup
  response : op.response.isSome = m.response.isSome
  responseNames : ∀ n, n ∈ (op.response.getD []).map (·.1) ↔ n ∈ (m.response.getD []).map (·.name)
  responseNodup : ((op.response.getD []).map (·.1)).Nodup
  refs : ∀ r ∈ op.refs, r ∈ m.props.filterMap (·.field.target?)

def ApiMethod.toSOp (m : ApiMethod) : SOp := { verb := m.verb.lower, path := m.path }

def ClientAPI.sops (api : ClientAPI) : List SOp := api.services.flatMap fun s => s.methods.map ApiMethod.toSOp

/-- every reference of the client API: method parameters, bodies, responses, and the properties of
the schemas of the schema map -/
def ClientAPI.refs (api : ClientAPI) : List Nat :=
  (api.services.flatMap fun s => s.methods.flatMap fun m => m.props.filterMap (·.field.target?))
    ++ api.schemas.flatMap fun x => x.2.walkProps.filterMap (·.field.target?)

def ClientAPI.schemaKeys (api : ClientAPI) : List Nat := api.schemas.map (·.1)

/-- the client builder returns a client API on `FlatLinked` graphs whose message properties
flatten only objects of the graph -/
def MsgFlatOk (g : Graph) (ps : List Prop') : Prop := ∀ p ∈ ps, p.flatOk g = true

instance (g : Graph) (ps : List Prop') : Decidable (MsgFlatOk g ps) := by
  unfold MsgFlatOk
  exact List.decidableBAll _ _

/-- request and response messages flatten only objects of the graph -/
def ServicesFlatOk (g : Graph) (services : List ServiceIn) : Prop :=
  ∀ s ∈ services, ∀ m ∈ s.methods, MsgFlatOk g m.req ∧ MsgFlatOk g (m.resp.getD [])

end J5V.Pipe
