import J5V.Pipe.SwaggerProto
import J5V.Pipe.SwaggerDocProofs
/-! # Lemmas for C16: `buildSwaggerP` is total on `PApi.wf`, and `ClientAPI.toProto` lands there (core only) -/
namespace J5V.Pipe
open J5V.Compile J5V.Go

theorem convertAll_ok : ∀ ps : List PProp, propsWf ps = true → convertAll ps = .ok ()
  | [], _ => rfl
  | p :: ps, h => by
    simp only [propsWf, List.all_cons, Bool.and_eq_true] at h
    obtain ⟨t, ht⟩ := convertSchema_total p.schema h.1
    simp only [convertAll, ht]
    exact convertAll_ok ps (by simpa [propsWf] using h.2)

theorem convertAll?_ok (b : Option (List PProp)) (h : propsWf (b.getD []) = true) : convertAll? b = .ok () := by
  cases b with
  | none => rfl
  | some ps => exact convertAll_ok ps (by simpa using h)

theorem operationP_ok (m : PMethod) (h : m.wf = true) : operationP m = .ok m.toSOp := by
  unfold PMethod.wf at h
  cases hr : m.request with
  | none => rw [hr] at h; simp at h
  | some r =>
    rw [hr] at h
    simp only [Bool.and_eq_true] at h
    obtain ⟨⟨⟨h1, h2⟩, h3⟩, h4⟩ := h
    simp [operationP, hr, convertAll_ok _ h1, convertAll_ok _ h2, convertAll?_ok _ h3, convertAll?_ok _ h4,
      PMethod.toSOp]

theorem addMethodsP_ok : ∀ (ms : List PMethod) (items : List PathItem), ms.all PMethod.wf = true →
    addMethodsP items ms = .ok ((ms.map PMethod.toSOp).foldl addOp items)
  | [], _, _ => rfl
  | m :: ms, items, h => by
    simp only [List.all_cons, Bool.and_eq_true] at h
    simp only [addMethodsP, operationP_ok m h.1, List.map_cons, List.foldl_cons]
    exact addMethodsP_ok ms _ h.2

theorem addServicesP_ok : ∀ (ss : List PService) (items : List PathItem),
    (ss.all fun s => s.methods.all PMethod.wf) = true →
    addServicesP items ss = .ok ((ss.flatMap fun s => s.methods.map PMethod.toSOp).foldl addOp items)
  | [], _, _ => rfl
  | s :: ss, items, h => by
    simp only [List.all_cons, Bool.and_eq_true] at h
    simp only [addServicesP, addMethodsP_ok s.methods items h.1, List.flatMap_cons, List.foldl_append]
    exact addServicesP_ok ss _ h.2

theorem convertRootP_ok (r : PRoot) (h : r.wf = true) : convertRootP r = .ok () := by
  cases r with
  | object ps => exact convertAll_ok ps h
  | oneof ps => exact convertAll_ok ps h
  | enum => rfl
  | unset => simp [PRoot.wf] at h

theorem componentsP_ok : ∀ (xs : List (Nat × PRoot)), (xs.all fun x => x.2.wf) = true →
    componentsP xs = .ok (xs.map (·.1))
  | [], _ => rfl
  | (i, r) :: rest, h => by
    simp only [List.all_cons, Bool.and_eq_true] at h
    simp [componentsP, convertRootP_ok r h.1, componentsP_ok rest h.2]

/-- on well-formed input `BuildSwagger` returns, with the paths grouped by `groupOps` -/
theorem buildSwaggerP_ok (a : PApi) (h : a.wf = true) :
    buildSwaggerP a = .ok (groupOps (a.services.flatMap fun s => s.methods.map PMethod.toSOp), a.schemas.map (·.1)) := by
  unfold PApi.wf at h
  simp only [Bool.and_eq_true] at h
  simp [buildSwaggerP, addServicesP_ok a.services [] h.1, componentsP_ok a.schemas h.2, groupOps]

theorem propsWf_toProto (ps : List Prop') : propsWf (ps.map Prop'.toProto) = true := by
  simp only [propsWf, List.all_map, List.all_eq_true]
  intro p _
  exact Field.toSField_wf p.field

theorem ApiMethod.toProto_wf (m : ApiMethod) : m.toProto.wf = true := by
  have hb : propsWf ((m.body.map (·.map Prop'.toProto)).getD []) = true := by
    cases m.body with
    | none => rfl
    | some b => exact propsWf_toProto b
  have hr : propsWf ((m.response.map (·.map Prop'.toProto)).getD []) = true := by
    cases m.response with
    | none => rfl
    | some b => exact propsWf_toProto b
  simp [PMethod.wf, ApiMethod.toProto, propsWf_toProto, hb, hr]

theorem Node.toProto_wf (n : Node) : n.toProto.wf = true := by
  unfold Node.toProto
  cases n.kind with
  | object => exact propsWf_toProto n.props
  | oneof => exact propsWf_toProto n.props
  | enum => rfl

/-- whatever the client builder's type can hold, its proto form avoids every error and panic arm -/
theorem ClientAPI.toProto_wf (api : ClientAPI) : api.toProto.wf = true := by
  simp only [PApi.wf, ClientAPI.toProto, List.all_map, Bool.and_eq_true, List.all_eq_true]
  refine ⟨?_, ?_⟩
  · intro s _
    simp only [Function.comp, List.all_map, List.all_eq_true]
    intro m _
    exact ApiMethod.toProto_wf m
  · intro x _
    exact Node.toProto_wf x.2

theorem ClientAPI.toProto_sops (api : ClientAPI) :
    (api.toProto.services.flatMap fun s => s.methods.map PMethod.toSOp) = api.sops := by
  simp only [ClientAPI.toProto, ClientAPI.sops, List.flatMap_map]
  congr 1
  funext s
  simp only [List.map_map]
  rfl

end J5V.Pipe
