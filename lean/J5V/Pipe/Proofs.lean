import J5V.Pipe.Service
import J5V.Pipe.List
import J5V.Compile.StrProofs
import J5V.Go.OutcomeLemmas
/-! # Lemmas for C16 (`ToSnake`, path rewrite, names, enum default filters, request split, the composed
chain compile → structure → client); `strings.Split` / `Join` on one byte are in `Compile/StrProofs.lean` -/
namespace J5V.Pipe
open J5V.Go J5V.Compile

/-! ## `ToSnake` writes `_`, input bytes and lower-cased input capitals, nothing else -/

theorem mem_trimLeft (s : Str) : ∀ c ∈ trimLeft s, c ∈ s := by
  induction s with
  | nil => simp [trimLeft]
  | cons v rest ih =>
    intro c hc
    unfold trimLeft at hc
    split at hc
    · exact List.mem_cons_of_mem _ (ih c hc)
    · exact hc

theorem mem_trimSpace (s : Str) : ∀ c ∈ trimSpace s, c ∈ s := by
  intro c hc
  unfold trimSpace at hc
  have h1 := mem_trimLeft _ c (List.mem_reverse.mp hc)
  exact mem_trimLeft s c (List.mem_reverse.mp h1)

theorem mem_snakeGo_cons {prev : Option Nat} {v : Nat} {rest : Str} {c : Nat}
    (h : c ∈ snakeGo false prev (v :: rest)) :
    c = 95 ∨ c = (if isCap v then v + 32 else v) ∨ c ∈ snakeGo false (some v) rest := by
  have h95 : ∀ b : Bool, c ∈ (if b then [95] else ([] : List Nat)) → c = 95 := by
    intro b hc; cases b
    · exact nomatch hc
    · exact List.mem_singleton.mp hc
  have hw : (if (isLow v && false) = true then v - 32 else if (isCap v && !false) = true then v + 32 else v)
      = if isCap v then v + 32 else v := by
    rw [Bool.and_false, if_neg Bool.false_ne_true, Bool.not_false, Bool.and_true]
  unfold snakeGo at h
  rw [hw] at h
  generalize snakeGo false (some v) rest = T at h ⊢
  have plain : c ∈ (if isSep v = true then 95 else if isCap v then v + 32 else v) :: T →
      c = 95 ∨ c = (if isCap v then v + 32 else v) ∨ c ∈ T := by
    intro h
    rcases List.mem_cons.mp h with e | h
    · revert e; cases isSep v
      · exact fun e => .inr (.inl e)
      · exact .inl
    · exact .inr (.inr h)
  cases rest with
  | nil => exact plain h
  | cons next more =>
    simp only [] at h
    split at h
    · rcases List.mem_append.mp h with h | h
      · rcases List.mem_append.mp h with h | h
        · rcases List.mem_append.mp h with h | h
          · exact .inl (h95 _ h)
          · exact .inr (.inl (List.mem_singleton.mp h))
        · exact .inl (h95 _ h)
      · exact .inr (.inr h)
    · exact plain h

/-- every byte `snakeGo false` writes is `_`, an input byte, or the lower case of an input capital:
what holds of `_` and of those holds of the output -/
theorem snakeGo_all (P : Nat → Prop) (h95 : P 95) : ∀ (s : Str), (∀ v ∈ s, P (if isCap v then v + 32 else v)) →
    ∀ prev, ∀ c ∈ snakeGo false prev s, P c
  | [], _, _, c, hc => by unfold snakeGo at hc; exact nomatch hc
  | v :: rest, hs, prev, c, hc => by
    rcases mem_snakeGo_cons hc with rfl | rfl | h
    · exact h95
    · exact hs v (List.mem_cons_self ..)
    · exact snakeGo_all P h95 rest (fun u hu => hs u (List.mem_cons_of_mem _ hu)) (some v) c h

theorem toSnake_no_slash (s : Str) (h : (47 : Nat) ∉ s) : (47 : Nat) ∉ toSnake s := by
  intro hm
  refine snakeGo_all (· ≠ 47) (by decide) _ (fun v hv => ?_) none 47 hm rfl
  have hv47 : v ≠ 47 := fun e => h (e ▸ mem_trimSpace s v hv)
  unfold isCap
  split <;> simp_all <;> omega

/-! ## the path round trip -/

theorem fieldByName_fieldsOf (props : List Str) (name : Str) (hmem : name ∈ props)
    (hinj : SnakeInjective props) :
    fieldByName (fieldsOf props) (toSnake name) = some { name := toSnake name, json := name } := by
  induction props with
  | nil => simp at hmem
  | cons a rest ih =>
    unfold fieldByName fieldsOf
    simp only [List.map_cons, List.find?_cons]
    by_cases h : toSnake a = toSnake name
    · have : a = name := hinj a (by simp) name hmem h
      subst this; simp
    · have hne : name ≠ a := fun e => h (by rw [e])
      have hm : name ∈ rest := by
        rcases List.mem_cons.mp hmem with e | e
        · exact absurd e hne
        · exact e
      have hinj' : SnakeInjective rest := fun x hx y hy e =>
        hinj x (List.mem_cons_of_mem _ hx) y (List.mem_cons_of_mem _ hy) e
      have := ih hm hinj'
      unfold fieldByName fieldsOf at this
      have hb : (toSnake a == toSnake name) = false := by simpa using h
      simp [hb, this]

theorem unrewritePart_param (props : List Str) (name : Str) (hmem : name ∈ props)
    (hinj : SnakeInjective props) :
    unrewritePart (fieldsOf props) (b!"{" ++ toSnake name ++ b!"}") = .ok (58 :: name) := by
  have hform : (b!"{" ++ toSnake name ++ b!"}" : Str) = 123 :: (toSnake name ++ [125]) := by simp
  rw [hform]
  have hbr : isBraced (123 :: (toSnake name ++ [125])) = true := by
    unfold isBraced
    have : (123 :: (toSnake name ++ [125])).getLast? = some 125 := by
      rw [show (123 :: (toSnake name ++ [125])) = (123 :: toSnake name) ++ [125] by simp]
      exact List.getLast?_concat
    simp [this]
  have hinner : ((123 :: (toSnake name ++ [125])).drop 1).dropLast = toSnake name := by
    simp
  unfold unrewritePart
  simp only [hbr, hinner, fieldByName_fieldsOf props name hmem hinj]
  simp

theorem containsSpecial_of_head (part : Str) (h : part.head? = some 123) :
    containsSpecial part = true := by
  cases part with
  | nil => simp at h
  | cons v rest =>
    simp at h; subst h
    simp [containsSpecial]

theorem unrewritePart_literal (fields : List PField) (part : Str)
    (hclean : containsSpecial part = false) : unrewritePart fields part = .ok part := by
  unfold unrewritePart
  by_cases hnil : part = []
  · simp [hnil]
  · have hnb : isBraced part = false := by
      cases hb : isBraced part with
      | false => rfl
      | true =>
        unfold isBraced at hb
        simp only [Bool.and_eq_true, beq_iff_eq] at hb
        rw [containsSpecial_of_head part hb.1] at hclean
        exact absurd hclean (by simp)
    simp [hnil, hnb, hclean]

theorem paramName?_eq_some (part name : Str) (h : paramName? part = some name) : part = 58 :: name := by
  unfold paramName? at h
  split at h
  · simp at h; subst h; rfl
  · simp at h

theorem mem_pathParamNames (path name : Str) :
    name ∈ pathParamNames path ↔ ∃ part ∈ splitOnByte 47 path, paramName? part = some name := by
  unfold pathParamNames
  exact List.mem_filterMap

theorem rewritePart_accepts (props : List Str) (part : Str) :
    (rewritePart props part).2 = true ↔
      (∀ name, paramName? part = some name → name ∈ props) ∧
      (paramName? part = none → containsSpecial part = false) := by
  unfold rewritePart
  cases paramName? part with
  | none => simp
  | some name => simp

/-- when `rewrite` succeeds, and what it returns then -/
theorem rewrite_eq_ok_iff (props : List Str) (path p' : Str) :
    rewrite props path = .ok p' ↔
      (∀ n ∈ pathParamNames path, n ∈ props) ∧ LiteralsClean path ∧
      p' = joinWith b!"/" ((splitOnByte 47 path).map fun part => (rewritePart props part).1) := by
  have hall : ((splitOnByte 47 path).map (rewritePart props)).all (·.2) = true ↔
      (∀ n ∈ pathParamNames path, n ∈ props) ∧ LiteralsClean path := by
    simp only [List.all_map, List.all_eq_true, Function.comp_def, rewritePart_accepts, mem_pathParamNames,
      LiteralsClean]
    exact ⟨fun h => ⟨fun n ⟨part, hp, hn⟩ => (h part hp).1 n hn, fun part hp => (h part hp).2⟩,
      fun h part hp => ⟨fun n hn => h.1 n ⟨part, hp, hn⟩, h.2 part hp⟩⟩
  unfold rewrite
  simp only []
  by_cases h : ((splitOnByte 47 path).map (rewritePart props)).all (·.2) = true
  · rw [if_pos h, List.map_map]
    obtain ⟨h1, h2⟩ := hall.mp h
    exact ⟨fun e => ⟨h1, h2, (Outcome.ok.inj e).symm⟩, fun e => by rw [e.2.2]; rfl⟩
  · rw [if_neg h]
    exact ⟨nofun, fun h' => absurd (hall.mpr ⟨h'.1, h'.2.1⟩) h⟩

theorem rewritePart_no_slash (props : List Str) (part : Str) (h : (47 : Nat) ∉ part) :
    (47 : Nat) ∉ (rewritePart props part).1 := by
  unfold rewritePart
  cases hn : paramName? part with
  | none => simpa using h
  | some name =>
    have hp := paramName?_eq_some part name hn
    have hname : (47 : Nat) ∉ name := fun hm => h (by rw [hp]; exact List.mem_cons_of_mem _ hm)
    have := toSnake_no_slash name hname
    simp only []
    intro hm
    simp only [List.mem_append, List.mem_cons, List.mem_nil_iff, or_false] at hm
    rcases hm with (h1 | h1) | h1
    · omega
    · exact this h1
    · omega

theorem unrewriteParts_rewritten (props : List Str) (hinj : SnakeInjective props) (parts : List Str)
    (hparam : ∀ part ∈ parts, ∀ name, paramName? part = some name → name ∈ props)
    (hlit : ∀ part ∈ parts, paramName? part = none → containsSpecial part = false) :
    unrewriteParts (fieldsOf props) (parts.map (fun part => (rewritePart props part).1)) = .ok parts := by
  induction parts with
  | nil => simp [unrewriteParts]
  | cons part rest ih =>
    have ih' := ih (fun p hp => hparam p (List.mem_cons_of_mem _ hp))
      (fun p hp => hlit p (List.mem_cons_of_mem _ hp))
    have hone : unrewritePart (fieldsOf props) (rewritePart props part).1 = .ok part := by
      unfold rewritePart
      cases hn : paramName? part with
      | none =>
        simp only []
        exact unrewritePart_literal _ part (hlit part (by simp) hn)
      | some name =>
        simp only []
        rw [unrewritePart_param props name (hparam part (by simp) name hn) hinj,
          paramName?_eq_some part name hn]
    simp only [List.map_cons, unrewriteParts, hone, ih']

theorem rewritten_parts_no_slash (props : List Str) (path : Str) :
    ∀ p ∈ (splitOnByte 47 path).map (fun part => (rewritePart props part).1), (47 : Nat) ∉ p := by
  intro p hp
  obtain ⟨part, hpart, rfl⟩ := List.mem_map.mp hp
  exact rewritePart_no_slash props part (splitOnByte_no_sep 47 path part hpart)

theorem path_roundtrip (props : List Str) (path p' : Str)
    (hinj : SnakeInjective props) (h : rewrite props path = .ok p') :
    unrewrite (fieldsOf props) p' = .ok path := by
  obtain ⟨hparam, hlit, rfl⟩ := (rewrite_eq_ok_iff props path p').mp h
  unfold unrewrite
  rw [splitOnByte_joinWith 47 _ (by simpa using splitOnByte_ne_nil 47 path)
    (rewritten_parts_no_slash props path)]
  rw [unrewriteParts_rewritten props hinj _
    (fun part hp name hn => hparam name ((mem_pathParamNames path name).mpr ⟨part, hp, hn⟩)) hlit]
  simp only []
  rw [joinWith_splitOnByte]

/-! ### the consumer never reaches the slice expression with a bad range -/

theorem unrewritePart_no_panic (fields : List PField) (part : Str) (w : String) :
    unrewritePart fields part ≠ .panic w := by
  unfold unrewritePart
  by_cases hnil : part = []
  · simp [hnil]
  · simp only [hnil, if_false]
    by_cases hb : isBraced part = true
    · simp only [hb, if_true]
      have hlen : ¬ part.length < 2 := by
        intro hl
        match part, hnil, hl with
        | [v], _, _ =>
          unfold isBraced at hb
          simp at hb
          omega
      simp only [hlen, if_false]
      split <;> simp
    · have hb' : isBraced part = false := by simpa using hb
      simp only [hb', Bool.false_eq_true, if_false]
      split <;> simp

theorem unrewriteParts_no_panic (fields : List PField) (parts : List Str) :
    ∀ w, unrewriteParts fields parts ≠ .panic w := by
  induction parts with
  | nil => simp [unrewriteParts]
  | cons p ps ih =>
    intro w
    unfold unrewriteParts
    cases h1 : unrewritePart fields p with
    | ok q =>
      simp only []
      cases h2 : unrewriteParts fields ps with
      | ok qs => simp
      | err e => simp
      | panic w' => exact absurd h2 (ih w')
    | err e => simp
    | panic w' => exact absurd h1 (unrewritePart_no_panic fields p w')


theorem classify_service (n : Str) : classify (serviceName n) = .service := by
  unfold classify serviceName
  simp [hasSuffix_append]

theorem classify_topic_suffix (x : Str) : classify (x ++ b!"Topic") = .topic := by
  have hlast : (x ++ b!"Topic").getLast? = some 99 := by
    rw [List.getLast?_append]; rfl
  have no (suf : Str) (a : Nat) (ha : suf.getLast? = some a) (hne : a ≠ 99) :
      hasSuffix suf (x ++ b!"Topic") = false := by
    cases h : hasSuffix suf (x ++ b!"Topic") with
    | false => rfl
    | true =>
      have := getLast?_of_hasSuffix suf _ h a ha
      rw [hlast] at this
      cases this; exact absurd rfl hne
  unfold classify
  rw [no b!"Service" 101 rfl (by decide), no b!"Sandbox" 120 rfl (by decide),
    no b!"Events" 115 rfl (by decide), hasSuffix_append]
  simp

theorem classify_topic (n : Str) : classify (topicName n) = .topic := classify_topic_suffix _

theorem acceptMethod_produced (pkg m : Str) (hasResp : Bool) :
    acceptMethod pkg m { pkg := pkg, name := requestName m } (producedOutput pkg m hasResp) = true := by
  unfold acceptMethod producedOutput
  cases hasResp
  · simp only [Bool.false_eq_true, if_false]
    have : (MsgRef.full { pkg := b!"google.api", name := b!"HttpBody" }) = httpBodyFull := by decide
    simp [this]
  · simp

theorem acceptTopicMethod_produced (pkg m : Str) :
    acceptTopicMethod pkg m { pkg := pkg, name := messageName m }
      { pkg := b!"google.protobuf", name := b!"Empty" } = true := by
  unfold acceptTopicMethod
  have : (MsgRef.full { pkg := b!"google.protobuf", name := b!"Empty" }) = emptyFull := by decide
  simp [this]

theorem responseName_not_raw (m : Str) : isRawResponse (responseName m) = false := by
  unfold isRawResponse responseName
  cases h : (m ++ b!"Response" == b!"HttpBody") with
  | false => rfl
  | true =>
    have e : m ++ b!"Response" = b!"HttpBody" := by simpa using h
    have h1 : (m ++ b!"Response").getLast? = some 101 := by rw [List.getLast?_append]; rfl
    rw [e] at h1
    exact absurd h1 (by decide)

theorem httpBody_is_raw (pkg m : Str) : isRawResponse (producedOutput pkg m false).name = true := by
  simp [producedOutput, isRawResponse]

/-! ## enum default filters (producer's check ⇒ consumer's check) -/

/-- trimming undoes adding: `TrimPrefix(addPrefix(d)) = TrimPrefix(d)` -/
theorem trimPrefix_addPrefix (pfx d : Str) : trimPrefix pfx (addPrefix pfx d) = trimPrefix pfx d := by
  unfold addPrefix
  by_cases h : hasPrefix pfx d = true
  · simp [h]
  · simp only [h]
    unfold trimPrefix
    simp [hasPrefix_append, h]

/-- the schema reader recovers the compiler's prefix from the descriptor the compiler emits -/
theorem readEnum_enumValueNames (pfx : Str) (opts : List Str) :
    readEnum (enumValueNames pfx opts)
      = some (pfx, (enumValueNames pfx opts).map (trimPrefix pfx)) := by
  unfold enumValueNames readEnum
  simp only [hasSuffix_append, trimSuffix_append, if_true]

/-- whatever `mapValues` accepts, `OptionByName` finds (same prefix, same value names) -/
theorem defaultFiltersOk_of_compile (pfx : Str) (vs defaults : List Str)
    (h : compileDefaultsOk pfx vs defaults = true) :
    defaultFiltersOk pfx (vs.map (trimPrefix pfx)) defaults = true := by
  unfold compileDefaultsOk at h
  unfold defaultFiltersOk
  rw [List.all_eq_true] at h ⊢
  intro d hd
  have hmem := List.contains_iff_mem.mp (h d hd)
  apply List.contains_iff_mem.mpr
  rw [← trimPrefix_addPrefix]
  exact List.mem_map_of_mem hmem

theorem enumDefaultsChain_ne_false (pfx : Str) (opts defaults : List Str) :
    enumDefaultsChain pfx opts defaults ≠ some false := by
  unfold enumDefaultsChain
  simp only [readEnum_enumValueNames]
  by_cases h : compileDefaultsOk pfx (enumValueNames pfx opts) defaults = true
  · simp [h, defaultFiltersOk_of_compile pfx _ defaults h]
  · simp [h]


theorem fillRequest_all_perm (hb : Bool) (path : Str) (props : List Str) :
    (fillRequest hb path props).all.Perm props := by
  unfold fillRequest Request.all
  cases hb <;> simp [List.filter_append_perm]

theorem fillRequest_path (hb : Bool) (path : Str) (props : List Str) :
    (fillRequest hb path props).path = props.filter (fun p => (pathParamNames path).contains p) := by
  unfold fillRequest; cases hb <;> rfl

theorem fillRequest_rest (hb : Bool) (path : Str) (props : List Str) :
    (fillRequest hb path props).query ++ (fillRequest hb path props).body.getD [] =
      props.filter (fun p => !(pathParamNames path).contains p) := by
  unfold fillRequest; cases hb <;> simp

/-- the split is a partition of the request properties that keeps their order -/
theorem fillRequest_spec (hb : Bool) (path : Str) (props : List Str) :
    let r := fillRequest hb path props
    r.all.Perm props
    ∧ (∀ x, x ∈ r.path ↔ x ∈ props ∧ x ∈ pathParamNames path)
    ∧ (∀ x, x ∈ r.query ++ r.body.getD [] ↔ x ∈ props ∧ x ∉ pathParamNames path)
    ∧ r.path.Sublist props ∧ (r.query ++ r.body.getD []).Sublist props := by
  intro r
  refine ⟨fillRequest_all_perm _ _ _, fun x => ?_, fun x => ?_, ?_, ?_⟩
  · rw [fillRequest_path, List.mem_filter]; simp
  · rw [fillRequest_rest, List.mem_filter]; simp
  · rw [fillRequest_path]; exact List.filter_sublist
  · rw [fillRequest_rest]; exact List.filter_sublist

/-! ### request split with flattened body properties -/

theorem filter_map_name (props : List ReqProp) (f : Str → Bool) :
    (props.filter (fun p => f p.name)).map (·.name) = (props.map (·.name)).filter f :=
  (List.filter_map (f := (·.name)) (p := f) (l := props)).symm

theorem bodyNames_unflat (props : List ReqProp) (h : ∀ p ∈ props, p.flat = none) :
    bodyNames props = props.map (·.name) := by
  induction props with
  | nil => rfl
  | cons p ps ih =>
    have hp := h p (by simp)
    have := ih (fun q hq => h q (List.mem_cons_of_mem _ hq))
    simp only [bodyNames, List.flatMap_cons, List.map_cons] at this ⊢
    rw [this, hp]; rfl

theorem fillRequestFlat_path (hb : Bool) (path : Str) (props : List ReqProp) :
    (fillRequestFlat hb path props).path = (fillRequest hb path (props.map (·.name))).path := by
  unfold fillRequestFlat fillRequest
  cases hb <;> simp only [if_true, Bool.false_eq_true, if_false] <;>
    exact filter_map_name props (fun n => (pathParamNames path).contains n)

theorem fillRequestFlat_query (hb : Bool) (path : Str) (props : List ReqProp) :
    (fillRequestFlat hb path props).query = (fillRequest hb path (props.map (·.name))).query := by
  unfold fillRequestFlat fillRequest
  cases hb <;> simp only [if_true, Bool.false_eq_true, if_false]
  exact filter_map_name props (fun n => !(pathParamNames path).contains n)

theorem fillRequestFlat_body (hb : Bool) (path : Str) (props : List ReqProp) :
    (fillRequestFlat hb path props).body =
      if hb then some (bodyNames (props.filter (fun p => !(pathParamNames path).contains p.name))) else none := by
  unfold fillRequestFlat
  cases hb <;> simp

theorem fillRequestFlat_unflat (hb : Bool) (path : Str) (props : List ReqProp) (h : ∀ p ∈ props, p.flat = none) :
    fillRequestFlat hb path props = fillRequest hb path (props.map (·.name)) := by
  have hrest : bodyNames (props.filter (fun p => !(pathParamNames path).contains p.name))
      = (props.map (·.name)).filter (fun n => !(pathParamNames path).contains n) := by
    rw [bodyNames_unflat _ (fun p hp => h p (List.mem_filter.mp hp).1)]
    exact filter_map_name props (fun n => !(pathParamNames path).contains n)
  have hpath := filter_map_name props (fun n => (pathParamNames path).contains n)
  have hq := filter_map_name props (fun n => !(pathParamNames path).contains n)
  unfold fillRequestFlat fillRequest
  cases hb
  · simp only [Bool.false_eq_true, if_false]
    rw [hpath, hq]
  · simp only [if_true]
    rw [hpath, hrest]

theorem mapMOutcome_map_ok {α β γ} (f : β → Outcome γ) (c : α → β) (g : α → γ) (l : List α)
    (h : ∀ a ∈ l, f (c a) = .ok (g a)) : mapMOutcome f (l.map c) = .ok (l.map g) := by
  induction l with
  | nil => rfl
  | cons a as ih =>
    simp only [List.map_cons]
    unfold mapMOutcome
    rw [h a (by simp), ih (fun x hx => h x (List.mem_cons_of_mem _ hx))]

theorem mapMOutcome_ok {α β} (f : α → Outcome β) (g : α → β) (l : List α)
    (h : ∀ a ∈ l, f a = .ok (g a)) : mapMOutcome f l = .ok (l.map g) := by
  simpa using mapMOutcome_map_ok f id g l h

theorem fieldsOf_json (props : List Str) : (fieldsOf props).map (·.json) = props := by
  induction props with
  | nil => rfl
  | cons a rest ih => unfold fieldsOf at ih ⊢; simp [ih]

/-- the descriptor-level method the compiler emits for a valid declaration -/
def compiledMethod (pkg : Str) (base : Option Str) (m : MethodDecl) : DMethod :=
  { name := m.name
    input := { pkg := pkg, name := requestName m.name }
    output := producedOutput pkg m.name m.hasResp
    verb := m.verb
    pattern := joinWith b!"/" ((splitOnByte 47 (resolvedPath base m.path)).map
      (fun part => (rewritePart m.req part).1))
    fields := fieldsOf m.req }

theorem compileMethod_valid (pkg : Str) (base : Option Str) (m : MethodDecl) (h : ValidMethod base m) :
    compileMethod pkg base m = .ok (compiledMethod pkg base m) := by
  unfold compileMethod
  rw [(rewrite_eq_ok_iff m.req _ _).mpr ⟨h.2.2, h.1, rfl⟩]
  rfl

def structuredMethod (base : Option Str) (m : MethodDecl) (pkg : Str) : SMethod :=
  { name := m.name, verb := m.verb, path := resolvedPath base m.path,
    requestSchema := requestName m.name, responseSchema := (producedOutput pkg m.name m.hasResp).name }

theorem structureMethod_valid (pkg : Str) (base : Option Str) (m : MethodDecl) (h : ValidMethod base m) :
    structureMethod pkg (compiledMethod pkg base m) = .ok (structuredMethod base m pkg) := by
  unfold structureMethod
  have hacc : acceptMethod pkg (compiledMethod pkg base m).name (compiledMethod pkg base m).input
      (compiledMethod pkg base m).output = true := acceptMethod_produced pkg m.name m.hasResp
  simp only [hacc, Bool.not_true, Bool.false_eq_true, if_false]
  have hrt : unrewrite (compiledMethod pkg base m).fields (compiledMethod pkg base m).pattern =
      .ok (resolvedPath base m.path) :=
    path_roundtrip m.req _ _ h.2.1 ((rewrite_eq_ok_iff m.req _ _).mpr ⟨h.2.2, h.1, rfl⟩)
  rw [hrt]
  rfl

theorem clientMethod_valid (pkg : Str) (base : Option Str) (m : MethodDecl) :
    clientMethod (structuredMethod base m pkg) ((compiledMethod pkg base m).fields.map (·.json)) =
      declaredMethod base m := by
  unfold clientMethod declaredMethod structuredMethod compiledMethod
  simp only [fieldsOf_json]
  cases hr : m.hasResp with
  | false =>
    have : isRawResponse (producedOutput pkg m.name false).name = true := httpBody_is_raw _ _
    simp [this]
  | true =>
    simp [producedOutput, responseName_not_raw]

theorem mapMOutcome_eq_seq {α β : Type} (f : α → Outcome β) (l : List α) :
    mapMOutcome f l = Outcome.seq f l :=
  Outcome.seq_unique f _ rfl (fun a l => by rw [mapMOutcome]; cases f a <;> cases mapMOutcome f l <;> rfl) l

theorem mapMOutcome_ok_inv {α β : Type} (f : α → Outcome β) (l : List α) (bs : List β)
    (h : mapMOutcome f l = .ok bs) : ∀ a ∈ l, ∃ b, f a = .ok b :=
  Outcome.seq_ok_all (mapMOutcome_eq_seq f l ▸ h)

/-- a method the compiler accepts satisfies the two conditions the compiler checks -/
theorem validMethod_of_compiled (pkg : Str) (base : Option Str) (m : MethodDecl) (d : DMethod)
    (hinj : SnakeInjective m.req) (h : compileMethod pkg base m = .ok d) : ValidMethod base m := by
  unfold compileMethod at h
  cases hr : rewrite m.req (resolvedPath base m.path) with
  | ok pat =>
    obtain ⟨hp, hl, _⟩ := (rewrite_eq_ok_iff _ _ _).mp hr
    exact ⟨hl, hinj, hp⟩
  | err e => simp [hr] at h
  | panic w => simp [hr] at h

theorem validService_of_compiled (pkg : Str) (s : ServiceDecl) (d : DService)
    (hinj : ∀ m ∈ s.methods, SnakeInjective m.req) (h : compileService pkg s = .ok d) :
    ValidService s := by
  unfold compileService at h
  cases hm : mapMOutcome (compileMethod pkg s.base) s.methods with
  | ok ms =>
    intro m hmem
    obtain ⟨dm, hdm⟩ := mapMOutcome_ok_inv _ _ _ hm m hmem
    exact validMethod_of_compiled pkg s.base m dm (hinj m hmem) hdm
  | err e => simp [hm] at h
  | panic w => simp [hm] at h

theorem rewrite_no_panic (props : List Str) (path : Str) (w : String) : rewrite props path ≠ .panic w := by
  unfold rewrite
  simp only []
  split <;> simp

theorem mapMOutcome_no_panic {α β : Type} (f : α → Outcome β) (hf : ∀ a w, f a ≠ .panic w)
    (l : List α) (w : String) : mapMOutcome f l ≠ .panic w :=
  mapMOutcome_eq_seq f l ▸ Outcome.seq_noPanic (fun a _ => hf a) w

theorem compileMethod_no_panic (pkg : Str) (base : Option Str) (m : MethodDecl) (w : String) :
    compileMethod pkg base m ≠ .panic w := by
  unfold compileMethod
  cases hr : rewrite m.req (resolvedPath base m.path) with
  | ok pat => simp
  | err e => simp
  | panic w' => exact absurd hr (rewrite_no_panic _ _ w')

theorem compileService_no_panic (pkg : Str) (s : ServiceDecl) (w : String) :
    compileService pkg s ≠ .panic w := by
  unfold compileService
  cases hm : mapMOutcome (compileMethod pkg s.base) s.methods with
  | ok ms => simp
  | err e => simp
  | panic w' => exact absurd hm (mapMOutcome_no_panic _ (compileMethod_no_panic pkg s.base) _ w')

theorem chainService_valid (pkg : Str) (s : ServiceDecl) (h : ValidService s) :
    chainService pkg s = .ok (declaredService s) := by
  unfold chainService compileService
  rw [mapMOutcome_ok _ (compiledMethod pkg s.base) s.methods
    (fun m hm => compileMethod_valid pkg s.base m (h m hm))]
  simp only []
  unfold structureService
  simp only [classify_service]
  rw [mapMOutcome_map_ok (structureMethod pkg) (compiledMethod pkg s.base)
    (fun m => structuredMethod s.base m pkg) s.methods
    (fun m hm => structureMethod_valid pkg s.base m (h m hm))]
  simp only []
  unfold clientService declaredService
  simp only [List.zip_map', List.map_map]
  congr 2
  apply List.map_congr_left
  intro m _
  exact clientMethod_valid pkg s.base m

end J5V.Pipe
