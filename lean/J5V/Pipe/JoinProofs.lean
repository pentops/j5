import J5V.Pipe.Proofs
/-! # Lemmas for C16: path parameters of `path.Join(base, sub)`

`path.Clean` is read as a fold (`cleanStep`, `cleanStack`) over the components of the path; on
components that are none of ``, `.`, `..` (`NormalPart`) the fold only pushes, which gives
`pathParamNames_join`. -/
namespace J5V.Pipe
open J5V.Go J5V.Compile

/-- a path component `path.Clean` keeps as it is -/
def NormalPart (c : Str) : Prop := c ≠ [] ∧ c ≠ b!"." ∧ c ≠ b!".."

/-- one component processed by `cleanGo`; `stack` is the reversed result so far -/
def cleanStep (rooted : Bool) (stack : List Str) (c : Str) : List Str :=
  if c = [] || c = b!"." then stack
  else if c = b!".." then
    match stack with
    | top :: below => if top = b!".." then c :: stack else below
    | [] => if rooted then [] else [c]
  else c :: stack

/-- the stack `cleanGo` ends with (its result, before the final `reverse`) -/
def cleanStack (rooted : Bool) (stack : List Str) (cs : List Str) : List Str :=
  cs.foldl (cleanStep rooted) stack

theorem cleanGo_cons (rooted : Bool) (stack : List Str) (c : Str) (cs : List Str) :
    cleanGo rooted stack (c :: cs) = cleanGo rooted (cleanStep rooted stack c) cs := by
  unfold cleanStep; conv => lhs; unfold cleanGo
  split
  · rfl
  · split
    · cases stack with
      | nil => cases rooted <;> rfl
      | cons top below => simp only []; split <;> rfl
    · rfl

theorem cleanGo_eq_cleanStack (rooted : Bool) : ∀ (cs stack : List Str),
    cleanGo rooted stack cs = (cleanStack rooted stack cs).reverse
  | [], _ => by unfold cleanGo; rfl
  | c :: cs, stack => by rw [cleanGo_cons, cleanGo_eq_cleanStack rooted cs]; rfl

theorem cleanStack_append (rooted : Bool) (cs ds stack : List Str) :
    cleanStack rooted stack (cs ++ ds) = cleanStack rooted (cleanStack rooted stack cs) ds := by
  simp [cleanStack, List.foldl_append]

theorem cleanStep_normal (rooted : Bool) (stack : List Str) (d : Str) (h : NormalPart d) :
    cleanStep rooted stack d = d :: stack := by
  obtain ⟨h1, h2, h3⟩ := h
  simp [cleanStep, h1, h2, h3]

theorem cleanStack_normal (rooted : Bool) : ∀ (ds stack : List Str), (∀ d ∈ ds, NormalPart d) →
    cleanStack rooted stack ds = ds.reverse ++ stack := by
  intro ds
  induction ds with
  | nil => intro stack _; simp [cleanStack]
  | cons d ds ih =>
    intro stack h
    have := ih (d :: stack) (fun x hx => h x (List.mem_cons_of_mem _ hx))
    unfold cleanStack at this ⊢
    simp only [List.foldl_cons, cleanStep_normal rooted stack d (h d (by simp))]
    rw [this]; simp

theorem cleanStep_mem (rooted : Bool) (stack : List Str) (c : Str) :
    ∀ x ∈ cleanStep rooted stack c, x ∈ stack ∨ x = c := by
  intro x hx
  unfold cleanStep at hx
  split at hx
  · exact Or.inl hx
  · split at hx
    · cases stack with
      | nil =>
        simp only [] at hx
        split at hx
        · simp at hx
        · simp at hx; exact Or.inr hx
      | cons top below =>
        simp only [] at hx
        split at hx
        · rcases List.mem_cons.mp hx with e | e
          · exact Or.inr e
          · exact Or.inl e
        · exact Or.inl (List.mem_cons_of_mem _ hx)
    · rcases List.mem_cons.mp hx with e | e
      · exact Or.inr e
      · exact Or.inl e

theorem cleanStack_mem (rooted : Bool) : ∀ (cs stack : List Str), ∀ x ∈ cleanStack rooted stack cs,
    x ∈ stack ∨ x ∈ cs := by
  intro cs
  induction cs with
  | nil => intro stack x hx; simp [cleanStack] at hx; exact Or.inl hx
  | cons c cs ih =>
    intro stack x hx
    unfold cleanStack at hx ih
    simp only [List.foldl_cons] at hx
    rcases ih _ x hx with h | h
    · rcases cleanStep_mem rooted stack c x h with h' | h'
      · exact Or.inl h'
      · exact Or.inr (by simp [h'])
    · exact Or.inr (List.mem_cons_of_mem _ h)

theorem paramName?_nil : paramName? [] = none := rfl

theorem pathParamNames_of_parts (pre : Str) (comps : List Str) (hpre : pre = [] ∨ pre = b!"/")
    (hc : ∀ p ∈ comps, (47 : Nat) ∉ p) :
    pathParamNames (pre ++ joinWith b!"/" comps) = comps.filterMap paramName? := by
  unfold pathParamNames
  have hsplit : (splitOnByte 47 (joinWith b!"/" comps)).filterMap paramName? = comps.filterMap paramName? := by
    cases comps with
    | nil => simp [joinWith, splitOnByte, paramName?]
    | cons a rest => rw [show (b!"/" : Str) = [47] from rfl, splitOnByte_joinWith 47 _ (by simp) hc]
  rcases hpre with h | h
  · subst h; simpa using hsplit
  · subst h
    have : b!"/" ++ joinWith b!"/" comps = ([] : Str) ++ 47 :: joinWith b!"/" comps := rfl
    rw [this, splitOnByte_append]
    simp only [splitOnByte, List.filterMap_append, List.filterMap_cons, paramName?_nil, List.filterMap_nil,
      List.nil_append]
    exact hsplit

theorem joinWith_ne_nil (sep : Str) : ∀ (ds : List Str), ds ≠ [] → (∀ d ∈ ds, d ≠ []) → joinWith sep ds ≠ [] := by
  intro ds hne hd
  cases ds with
  | nil => exact absurd rfl hne
  | cons a rest =>
    have ha := hd a (by simp)
    cases a with
    | nil => exact absurd rfl ha
    | cons x xs =>
      cases rest with
      | nil => simp [joinWith]
      | cons b bs => rw [joinWith_cons_cons]; simp

theorem joinWith_eq_nil_filterMap (comps : List Str) (h : joinWith b!"/" comps = []) :
    comps.filterMap paramName? = [] := by
  cases comps with
  | nil => rfl
  | cons a rest =>
    cases rest with
    | nil =>
      simp [joinWith] at h
      subst h; rfl
    | cons b bs =>
      rw [joinWith_cons_cons] at h
      simp at h

/-- the text `path.Clean` puts together from the components it kept -/
def cleanOut (rooted : Bool) (comps : List Str) : Str :=
  let out := (if rooted then b!"/" else []) ++ joinWith b!"/" comps
  if out = [] then b!"." else out

theorem pathClean_eq_cleanOut (p : Str) (hp : p ≠ []) :
    pathClean p = cleanOut (decide (p.head? = some 47)) (cleanGo (decide (p.head? = some 47)) [] (splitOnByte 47 p)) := by
  unfold pathClean cleanOut
  simp only [hp, if_false, decide_eq_true_eq]

theorem pathParamNames_cleanOut (rooted : Bool) (comps : List Str) (hc : ∀ p ∈ comps, (47 : Nat) ∉ p) :
    pathParamNames (cleanOut rooted comps) = comps.filterMap paramName? := by
  unfold cleanOut
  simp only []
  cases rooted with
  | true =>
    simp only [if_true]
    rw [if_neg (by simp)]
    exact pathParamNames_of_parts b!"/" comps (Or.inr rfl) hc
  | false =>
    simp only [Bool.false_eq_true, if_false, List.nil_append]
    by_cases hj : joinWith b!"/" comps = []
    · rw [if_pos hj, joinWith_eq_nil_filterMap comps hj]
      simp [pathParamNames, splitOnByte, paramName?]
    · rw [if_neg hj]
      exact pathParamNames_of_parts [] comps (Or.inl rfl) hc

/-- `path.Clean` of a non-empty path: path parameters = those of the components `cleanGo` keeps -/
theorem pathParamNames_pathClean (p : Str) (hp : p ≠ []) :
    pathParamNames (pathClean p)
      = (cleanGo (decide (p.head? = some 47)) [] (splitOnByte 47 p)).filterMap paramName? := by
  rw [pathClean_eq_cleanOut p hp]
  apply pathParamNames_cleanOut
  intro x hx
  rw [cleanGo_eq_cleanStack] at hx
  rcases cleanStack_mem _ _ _ x (List.mem_reverse.mp hx) with h | h
  · simp at h
  · exact splitOnByte_no_sep 47 p x h

/-- **path parameters of `path.Join(base, sub)`** when no component of the base path is a parameter
and the components of the sub path are ordinary (not empty, `.` or `..`): exactly the parameters of
the sub path, in order -/
theorem pathParamNames_join (base : Str) (ds : List Str) (hb : base ≠ [])
    (hds : ∀ d ∈ ds, NormalPart d ∧ (47 : Nat) ∉ d)
    (hbase : ∀ c ∈ splitOnByte 47 base, paramName? c = none) :
    pathParamNames (pathJoin [base, joinWith b!"/" ds]) = ds.filterMap paramName? := by
  have hbaseParts : ∀ (rooted : Bool) x, x ∈ cleanStack rooted [] (splitOnByte 47 base) → paramName? x = none := by
    intro rooted x hx
    rcases cleanStack_mem rooted _ _ x hx with h | h
    · simp at h
    · exact hbase x h
  cases ds with
  | nil =>
    have : pathJoin [base, joinWith b!"/" []] = pathClean base := by
      simp [pathJoin, joinWith, hb]
    rw [this, pathParamNames_pathClean base hb, cleanGo_eq_cleanStack]
    simp only [List.filterMap_nil]
    apply List.filterMap_eq_nil_iff.mpr
    intro x hx
    exact hbaseParts _ x (List.mem_reverse.mp hx)
  | cons d ds' =>
    have hsub : joinWith b!"/" (d :: ds') ≠ [] :=
      joinWith_ne_nil _ _ (by simp) (fun x hx => (hds x hx).1.1)
    have hjoin : pathJoin [base, joinWith b!"/" (d :: ds')]
        = pathClean (base ++ 47 :: joinWith b!"/" (d :: ds')) := by
      unfold pathJoin
      simp only [List.filter_cons, ne_eq, hb, not_false_eq_true, decide_true, if_true, hsub, List.filter_nil]
      simp [joinWith]
    have hne : base ++ 47 :: joinWith b!"/" (d :: ds') ≠ [] := by simp
    have hhead : (base ++ 47 :: joinWith b!"/" (d :: ds')).head? = base.head? := by
      cases base with
      | nil => exact absurd rfl hb
      | cons v vs => rfl
    rw [hjoin, pathParamNames_pathClean _ hne, splitOnByte_append, cleanGo_eq_cleanStack,
      cleanStack_append, hhead]
    rw [show (b!"/" : Str) = [47] from rfl, splitOnByte_joinWith 47 (d :: ds') (by simp) (fun x hx => (hds x hx).2)]
    rw [cleanStack_normal _ _ _ (fun x hx => (hds x hx).1)]
    simp only [List.reverse_append, List.reverse_reverse, List.filterMap_append]
    have : (cleanStack (decide (base.head? = some 47)) [] (splitOnByte 47 base)).reverse.filterMap paramName? = [] := by
      apply List.filterMap_eq_nil_iff.mpr
      intro x hx
      exact hbaseParts _ x (List.mem_reverse.mp hx)
    rw [this]; simp

end J5V.Pipe
