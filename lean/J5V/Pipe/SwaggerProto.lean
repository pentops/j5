import J5V.Pipe.SwaggerDoc
/-!
# C16 — `BuildSwagger` at the proto level: inputs on which the Go code errors or panics (core only)

`Pipe/SwaggerDoc.lean` builds the document from `ClientAPI`, a type that can only hold
reference-or-scalar fields and an always-present request. Here the input is what `BuildSwagger` can
really be handed: `client_j5pb.API` as far as the function reads it, with every shape a
`schema_j5pb.Field` can have (`SField`: inline objects / oneofs / enums, unset `type` or `schema`
oneofs, nil), a `Request` that may be nil, a root schema of no kind. On this type the error and
panic arms of `convertSchema`, `ConvertRootSchema` and `addMethod` are reachable (examples in
`Props/C16.lean`); `PApi.wf` says which inputs avoid them; `ClientAPI.toProto` is `API.ToJ5Proto()`
(`ToJ5Field()` of object / oneof / enum fields builds the `…_Ref` wrapper, `Method.ToJ5Proto` always
sets `Request`, `ToJ5ClientRoot()` builds the wrapper of the schema's kind) and lands in `PApi.wf`.
The result keeps what the totality statement needs: the path items as (verb, path) and the
component keys.
-/
namespace J5V.Pipe
open J5V.Compile J5V.Go

structure PProp where
  name : Str
  schema : SField
  deriving Repr

/-- `client_j5pb.Method_Request` -/
structure PRequest where
  pathParameters : List PProp
  queryParameters : List PProp
  body : Option (List PProp)
  deriving Repr

/-- `client_j5pb.Method`; `request = none` is a nil `*Method_Request` -/
structure PMethod where
  name : Str
  verb : Verb
  path : Str
  request : Option PRequest
  responseBody : Option (List PProp)
  deriving Repr

structure PService where
  name : Str
  methods : List PMethod
  deriving Repr

/-- `schema_j5pb.RootSchema.type` -/
inductive PRoot where
  | object (props : List PProp)
  | oneof (props : List PProp)
  | enum
  | unset
  deriving Repr

structure PApi where
  services : List PService
  schemas : List (Nat × PRoot)
  deriving Repr

/-- the property loop of `convertObjectItem` / `convertOneofItem` and the parameter loops of
`addMethod`: `convertSchema(prop.Schema)` for each, first failure wins -/
def convertAll : List PProp → Outcome Unit
  | [] => .ok ()
  | p :: ps =>
    match convertSchema p.schema with
    | .ok _ => convertAll ps
    | .err e => .err e
    | .panic w => .panic w

def convertAll? : Option (List PProp) → Outcome Unit
  | none => .ok ()
  | some ps => convertAll ps

/-- `addMethod` up to the grouping: `method.Request.PathParameters` on a nil request is a nil
dereference -/
def operationP (m : PMethod) : Outcome SOp :=
  match m.request with
  | none => .panic "nil-pointer"
  | some r =>
    match convertAll r.pathParameters with
    | .err e => .err e
    | .panic w => .panic w
    | .ok _ =>
      match convertAll r.queryParameters with
      | .err e => .err e
      | .panic w => .panic w
      | .ok _ =>
        match convertAll? r.body with
        | .err e => .err e
        | .panic w => .panic w
        | .ok _ =>
          match convertAll? m.responseBody with
          | .err e => .err e
          | .panic w => .panic w
          | .ok _ => .ok { verb := m.verb.lower, path := m.path }

def addMethodsP : List PathItem → List PMethod → Outcome (List PathItem)
  | items, [] => .ok items
  | items, m :: ms =>
    match operationP m with
    | .ok op => addMethodsP (addOp items op) ms
    | .err e => .err e
    | .panic w => .panic w

def addServicesP : List PathItem → List PService → Outcome (List PathItem)
  | items, [] => .ok items
  | items, s :: ss =>
    match addMethodsP items s.methods with
    | .ok items' => addServicesP items' ss
    | .err e => .err e
    | .panic w => .panic w

/-- `ConvertRootSchema` -/
def convertRootP : PRoot → Outcome Unit
  | .object ps => convertAll ps
  | .oneof ps => convertAll ps
  | .enum => .ok ()
  | .unset => .err "expected-root-schema"

def componentsP : List (Nat × PRoot) → Outcome (List Nat)
  | [] => .ok []
  | (i, r) :: rest =>
    match convertRootP r with
    | .ok _ =>
      match componentsP rest with
      | .ok ks => .ok (i :: ks)
      | .err e => .err e
      | .panic w => .panic w
    | .err e => .err e
    | .panic w => .panic w

/-- `BuildSwagger`: (path items as (verb, path), component keys) -/
def buildSwaggerP (a : PApi) : Outcome (List PathItem × List Nat) :=
  match addServicesP [] a.services with
  | .err e => .err e
  | .panic w => .panic w
  | .ok paths =>
    match componentsP a.schemas with
    | .err e => .err e
    | .panic w => .panic w
    | .ok keys => .ok (paths, keys)

/-! ## which inputs avoid every error and panic arm -/

def propsWf (ps : List PProp) : Bool := ps.all fun p => p.schema.wellFormed

def PMethod.wf (m : PMethod) : Bool :=
  match m.request with
  | none => false
  | some r =>
    propsWf r.pathParameters && propsWf r.queryParameters && propsWf (r.body.getD [])
      && propsWf (m.responseBody.getD [])

def PRoot.wf : PRoot → Bool
  | .object ps => propsWf ps
  | .oneof ps => propsWf ps
  | .enum => true
  | .unset => false

def PApi.wf (a : PApi) : Bool :=
  (a.services.all fun s => s.methods.all PMethod.wf) && a.schemas.all fun x => x.2.wf

def PMethod.toSOp (m : PMethod) : SOp := { verb := m.verb.lower, path := m.path }

/-! ## `API.ToJ5Proto()`: the client API of the builder, as a proto value -/

def Prop'.toProto (p : Prop') : PProp := { name := p.name, schema := p.field.toSField }

def ApiMethod.toProto (m : ApiMethod) : PMethod :=
  { name := m.name, verb := m.verb, path := m.path,
    request := some { pathParameters := m.pathParams.map Prop'.toProto,
                      queryParameters := m.queryParams.map Prop'.toProto,
                      body := m.body.map (·.map Prop'.toProto) },
    responseBody := m.response.map (·.map Prop'.toProto) }

/-- `ToJ5ClientRoot()` -/
def Node.toProto (n : Node) : PRoot :=
  match n.kind with
  | .object => .object (n.props.map Prop'.toProto)
  | .oneof => .oneof (n.props.map Prop'.toProto)
  | .enum => .enum

def ClientAPI.toProto (api : ClientAPI) : PApi :=
  { services := api.services.map fun s => { name := s.name, methods := s.methods.map ApiMethod.toProto },
    schemas := api.schemas.map fun x => (x.1, x.2.toProto) }

end J5V.Pipe
