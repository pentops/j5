import J5V.Pipe.Client
import J5V.Pipe.WalkProofs
/-! # Lemmas for C16: `ClientProperties()` terminates and is total on `FlatLinked` graphs; the schema
set collected over the client view is complete -/
namespace J5V.Pipe
open J5V.Go J5V.Compile

/-! ## the loop of `clientProperties`, one property at a time -/

/-- the object whose client properties stand in for `p`: `p` is a flattened object field and its
object is not being expanded already -/
def Prop'.expands? (flattening : List Nat) (p : Prop') : Option Nat :=
  match p.flat, p.field with
  | true, .object r => if flattening.contains r then none else some r
  | _, _ => none

theorem Prop'.expands?_eq_some {flattening : List Nat} {p : Prop'} {r : Nat} (h : p.expands? flattening = some r) :
    p.flat = true ∧ p.field = .object r ∧ flattening.contains r = false := by
  unfold Prop'.expands? at h
  split at h
  · rename_i r' hf hfield
    split at h
    · cases h
    · cases h; exact ⟨hf, hfield, (Bool.not_eq_true _).mp ‹_›⟩
  · cases h

theorem expandWith_cons (rec : Nat → Option (Outcome (List Prop'))) (flattening : List Nat) (p : Prop')
    (ps : List Prop') :
    expandWith rec flattening (p :: ps) =
      bindOO (match p.expands? flattening with
        | some r => rec r
        | none => some (.ok [p])) fun cs =>
      bindOO (expandWith rec flattening ps) fun rest => some (.ok (cs ++ rest)) := by
  have happ : ∀ a b : Option (Outcome (List Prop')),
      appendO a b = bindOO a fun cs => bindOO b fun rest => some (.ok (cs ++ rest)) := by
    intro a b
    rcases a with _ | _ | _ | _ <;> try rfl
    rcases b with _ | _ | _ | _ <;> rfl
  rw [expandWith, happ]
  congr 1
  unfold Prop'.expands?
  cases p.flat <;> cases p.field <;> try rfl
  dsimp only
  cases flattening.contains _ <;> rfl


theorem expandWith_isSome (rec : Nat → Option (Outcome (List Prop'))) (flattening : List Nat)
    (hrec : ∀ r, flattening.contains r = false → (rec r).isSome = true) (props : List Prop') :
    (expandWith rec flattening props).isSome = true := by
  induction props with
  | nil => rfl
  | cons p ps ih =>
    rw [expandWith_cons]
    refine bindOO_isSome ?_ fun _ _ => bindOO_isSome ih fun _ _ => rfl
    cases he : p.expands? flattening with
    | none => rfl
    | some r => exact hrec r (Prop'.expands?_eq_some he).2.2

theorem clientPropsFuel_isSome (g : Graph) : ∀ fuel flattening i, Fuelled g fuel flattening →
    flattening.contains i = false → (clientPropsFuel g fuel flattening i).isSome = true := by
  intro fuel
  induction fuel with
  | zero => intro _ _ hf; exact absurd hf.pos (Nat.lt_irrefl 0)
  | succ fuel ih =>
    intro flattening i hf hc
    unfold clientPropsFuel
    cases hn : g[i]? with
    | none => rfl
    | some node =>
      dsimp only
      cases hk : node.kind with
      | object => exact expandWith_isSome _ _ (fun r hr => ih _ r (hf.cons hc hn) hr) _
      | oneof => rfl
      | enum => rfl

theorem clientProps_isSome (g : Graph) (i : Nat) (node : Node) : (clientProps g i node).isSome = true := by
  unfold clientProps
  cases node.kind with
  | object => exact clientPropsFuel_isSome g _ [] i (Fuelled.start g) rfl
  | oneof => rfl
  | enum => rfl

theorem clientNodesFrom_cons (g : Graph) (i : Nat) (n : Node) (ns : List Node) :
    clientNodesFrom g i (n :: ns) =
      bindOO (clientProps g i n) fun ps =>
      bindOO (clientNodesFrom g (i + 1) ns) fun rest => some (.ok ({ n with props := ps } :: rest)) := by
  rw [clientNodesFrom]
  rcases clientProps g i n with _ | _ | _ | _ <;> try rfl
  rcases clientNodesFrom g (i + 1) ns with _ | _ | _ | _ <;> rfl

theorem clientNodesFrom_isSome (g : Graph) : ∀ (ns : List Node) (i : Nat), (clientNodesFrom g i ns).isSome = true := by
  intro ns
  induction ns with
  | nil => intro i; rfl
  | cons n ns ih =>
    intro i
    rw [clientNodesFrom_cons]
    exact bindOO_isSome (clientProps_isSome g i n) fun _ _ => bindOO_isSome (ih (i + 1)) fun _ _ => rfl

/-! ## totality on `FlatLinked` graphs: an `.ok` list, made of properties of the graph -/

/-- every property of the list is a property of some schema of the graph -/
def FromGraph (g : Graph) (ps : List Prop') : Prop := ∀ p ∈ ps, ∃ node ∈ g, p ∈ node.props

/-- the expansion succeeds when every expansion of a flattened field does, and what holds of the
properties of the list and of those expansions holds of the result -/
theorem expandWith_ok (P : Prop' → Prop) (rec : Nat → Option (Outcome (List Prop'))) (flattening : List Nat)
    (props : List Prop') (hP : ∀ p ∈ props, P p)
    (hrec : ∀ p ∈ props, ∀ r, p.expands? flattening = some r → ∃ cs, rec r = some (.ok cs) ∧ ∀ q ∈ cs, P q) :
    ∃ out, expandWith rec flattening props = some (.ok out) ∧ ∀ q ∈ out, P q := by
  induction props with
  | nil => exact ⟨[], rfl, fun _ h => (nomatch h)⟩
  | cons p ps ih =>
    obtain ⟨rest, hrest, hfr⟩ := ih (fun q hq => hP q (List.mem_cons_of_mem _ hq))
      (fun q hq => hrec q (List.mem_cons_of_mem _ hq))
    have hhere : ∃ cs, (match p.expands? flattening with | some r => rec r | none => some (Outcome.ok [p]))
        = some (.ok cs) ∧ ∀ q ∈ cs, P q := by
      cases he : p.expands? flattening with
      | none => exact ⟨[p], rfl, fun q hq => by rw [List.mem_singleton.mp hq]; exact hP p (by simp)⟩
      | some r => exact hrec p (by simp) r he
    obtain ⟨cs, hcs, hfc⟩ := hhere
    refine ⟨cs ++ rest, by rw [expandWith_cons, hcs, hrest]; rfl, fun q hq => ?_⟩
    rcases List.mem_append.mp hq with h | h
    · exact hfc q h
    · exact hfr q h

theorem flatOk_target {g : Graph} {p : Prop'} {r : Nat} (h : p.flatOk g = true) (hf : p.flat = true)
    (hfield : p.field = .object r) : ∃ n, g[r]? = some n ∧ n.kind = .object := by
  unfold Prop'.flatOk at h
  rw [hf, hfield] at h
  simp only [] at h
  cases hn : g[r]? with
  | none => rw [hn] at h; simp at h
  | some n =>
    rw [hn] at h
    refine ⟨n, rfl, ?_⟩
    cases hk : n.kind <;> simp [hk] at h ⊢

theorem clientPropsFuel_ok (g : Graph) (hl : FlatLinked g) : ∀ fuel flattening i node, Fuelled g fuel flattening →
    flattening.contains i = false → g[i]? = some node → node.kind = .object →
    ∃ ps, clientPropsFuel g fuel flattening i = some (.ok ps) ∧ FromGraph g ps := by
  intro fuel
  induction fuel with
  | zero => intro _ _ _ hf; exact absurd hf.pos (Nat.lt_irrefl 0)
  | succ fuel ih =>
    intro flattening i node hf hc hn hk
    unfold clientPropsFuel
    rw [hn]
    simp only [hk]
    have hmem : node ∈ g := List.mem_of_getElem? hn
    refine expandWith_ok _ _ _ _ (fun p hp => ⟨node, hmem, hp⟩) fun p hp r he => ?_
    obtain ⟨hflat, hfield, hr⟩ := Prop'.expands?_eq_some he
    obtain ⟨n, hnr, hkr⟩ := flatOk_target (hl node hmem p hp) hflat hfield
    exact ih (i :: flattening) r n (hf.cons hc hn) hr hnr hkr

theorem clientProps_ok (g : Graph) (hl : FlatLinked g) (i : Nat) (node : Node) (hn : g[i]? = some node) :
    ∃ ps, clientProps g i node = some (.ok ps) ∧ FromGraph g ps := by
  unfold clientProps
  have hmem : node ∈ g := List.mem_of_getElem? hn
  cases hk : node.kind with
  | object => exact clientPropsFuel_ok g hl _ [] i node (Fuelled.start g) rfl hn hk
  | oneof => exact ⟨node.props, rfl, fun p hp => ⟨node, hmem, hp⟩⟩
  | enum => exact ⟨node.props, rfl, fun p hp => ⟨node, hmem, hp⟩⟩

/-- the client view keeps the nodes (number, order, kinds); every property is one of the graph -/
structure ClientView (g : Graph) (ns cns : List Node) : Prop where
  len : cns.length = ns.length
  kinds : ∀ (j : Nat) (n c : Node), ns[j]? = some n → cns[j]? = some c → c.kind = n.kind
  props : ∀ c ∈ cns, FromGraph g c.props

theorem clientNodesFrom_ok (g : Graph) (hl : FlatLinked g) : ∀ (ns : List Node) (i : Nat),
    (∀ j n, ns[j]? = some n → g[i + j]? = some n) →
    ∃ cns, clientNodesFrom g i ns = some (.ok cns) ∧ ClientView g ns cns := by
  intro ns
  induction ns with
  | nil => intro i _; exact ⟨[], rfl, ⟨rfl, by intro j n c h; simp at h, by intro c hc; simp at hc⟩⟩
  | cons n ns ih =>
    intro i hidx
    obtain ⟨ps, hps, hfrom⟩ := clientProps_ok g hl i n (by simpa using hidx 0 n (by simp))
    obtain ⟨rest, hrest, hv⟩ := ih (i + 1) (by
      intro j m hj
      have := hidx (j + 1) m (by simpa using hj)
      rw [← this]; congr 1; omega)
    rw [clientNodesFrom_cons, hps, hrest]
    refine ⟨_, rfl, ⟨by simp [hv.len], ?_, ?_⟩⟩
    · intro j m c hm hc
      cases j with
      | zero => simp at hm hc; subst hm; subst hc; rfl
      | succ j => exact hv.kinds j m c (by simpa using hm) (by simpa using hc)
    · intro c hc
      rcases List.mem_cons.mp hc with e | e
      · subst e; exact hfrom
      · exact hv.props c e

theorem clientGraph_ok (g : Graph) (hl : FlatLinked g) :
    ∃ cg, clientGraph g = some (.ok cg) ∧ ClientView g g cg :=
  clientNodesFrom_ok g hl g 0 (by intro j n h; simpa using h)

theorem ClientView.linked {g cg : Graph} (hv : ClientView g g cg) (h : Linked g) : Linked cg := by
  intro node hnode p hp r hd
  obtain ⟨node', hn', hp'⟩ := hv.props node hnode p hp
  rw [hv.len]
  exact h node' hn' p hp' r hd

/-! ## the schema set of the client API (`collectPackageRefs` over the client view) -/

theorem Reach.mono {g : Graph} {roots roots' : List Field} (h : ∀ f ∈ roots, f ∈ roots') {n : Nat}
    (hr : Reach g roots n) : Reach g roots' n := by
  induction hr with
  | root hf ht hlt => exact .root (h _ hf) ht hlt
  | step _ hab ih => exact .step ih hab

theorem clientSchemas_eq (g : Graph) (p : PackageRoots) :
    clientSchemas g p = bindOO (clientGraph g) fun cg => (collect cg p.fields).map .ok := by
  unfold clientSchemas
  rcases clientGraph g with _ | cg | _ | _ <;> try rfl
  rw [bindOO_some_ok]
  dsimp only
  cases collect cg p.fields <;> rfl

theorem clientSchemas_isSome (g : Graph) (p : PackageRoots) : (clientSchemas g p).isSome = true := by
  rw [clientSchemas_eq]
  refine bindOO_isSome (clientNodesFrom_isSome g g 0) fun cg _ => ?_
  obtain ⟨s, hs⟩ := collect_isSome cg p.fields
  rw [hs]; rfl

theorem clientSchemas_ok (g : Graph) (p : PackageRoots) (hf : FlatLinked g) :
    ∃ cg s, clientGraph g = some (.ok cg) ∧ clientSchemas g p = some (.ok s) := by
  obtain ⟨cg, hcg, _⟩ := clientGraph_ok g hf
  obtain ⟨s, hs⟩ := collect_isSome cg p.fields
  exact ⟨cg, s, hcg, by rw [clientSchemas_eq, hcg, bindOO_some_ok, hs]; rfl⟩

theorem collect_of_clientSchemas (g cg : Graph) (p : PackageRoots) (s : List Nat)
    (hcg : clientGraph g = some (.ok cg)) (h : clientSchemas g p = some (.ok s)) :
    collect cg p.fields = some s := by
  rw [clientSchemas_eq, hcg, bindOO_some_ok] at h
  cases hc : collect cg p.fields with
  | none => rw [hc] at h; cases h
  | some s' => rw [hc] at h; cases h; rfl

theorem mem_fields_of_method (p : PackageRoots) (m : MethodRoots) (hm : m ∈ p.methods) :
    ∀ f ∈ m.fields, f ∈ p.fields := by
  intro f hf
  unfold PackageRoots.methods at hm
  unfold PackageRoots.fields
  rcases List.mem_append.mp hm with h | h
  · obtain ⟨e, he, hme⟩ := List.mem_flatMap.mp h
    apply List.mem_append_left
    apply List.mem_flatMap.mpr
    refine ⟨e, he, ?_⟩
    unfold EntityRoots.fields
    apply List.mem_append_right
    exact List.mem_flatMap.mpr ⟨m, hme, hf⟩
  · apply List.mem_append_right
    exact List.mem_flatMap.mpr ⟨m, h, hf⟩

theorem mem_fields_of_entity (p : PackageRoots) (e : EntityRoots) (he : e ∈ p.entities) :
    ∀ f ∈ e.keys ++ e.state ++ e.event, f ∈ p.fields := by
  intro f hf
  unfold PackageRoots.fields
  apply List.mem_append_left
  apply List.mem_flatMap.mpr
  refine ⟨e, he, ?_⟩
  unfold EntityRoots.fields
  exact List.mem_append_left _ hf

theorem clientSchemas_complete (g cg : Graph) (p : PackageRoots) (s : List Nat)
    (hcg : clientGraph g = some (.ok cg)) (h : clientSchemas g p = some (.ok s)) :
    ∀ n, Reach cg p.fields n → n ∈ s :=
  collect_complete cg p.fields s (collect_of_clientSchemas g cg p s hcg h)

theorem clientSchemas_complete_field (g cg : Graph) (p : PackageRoots) (s : List Nat)
    (hcg : clientGraph g = some (.ok cg)) (h : clientSchemas g p = some (.ok s)) {f : Field}
    (hf : f ∈ p.fields) (n : Nat) (hr : Reach cg [f] n) : n ∈ s :=
  clientSchemas_complete g cg p s hcg h n (hr.mono fun x hx => List.mem_singleton.mp hx ▸ hf)

end J5V.Pipe
