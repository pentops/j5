import J5V.Pipe.ListRequest
import J5V.Pipe.FlattenProofs
/-! # Lemmas for C16: `buildListRequest` terminates, is total on list-shaped responses, and every
path it collects resolves in the item schema -/
namespace J5V.Pipe
open J5V.Go J5V.Compile

/-! ## every visit of the walk is a property at the end of its path -/

theorem walkPropsWith_mem (rec : Nat → List Str → Option (Outcome (List Visit))) (path : List Str) :
    ∀ (props : List Prop') (vs : List Visit), walkPropsWith rec path props = some (.ok vs) →
    ∀ v ∈ vs, ∃ p ∈ props,
      v = { path := path ++ [p.name], field := p.field, tag := p.tag } ∨
      ∃ r ws, p.field.descend? = some r ∧ rec r (path ++ [p.name]) = some (.ok ws) ∧ v ∈ ws := by
  intro props
  induction props with
  | nil => intro vs h v hv; cases h; cases hv
  | cons p ps ih =>
    intro vs h v hv
    rw [walkPropsWith_cons] at h
    obtain ⟨vs', h1, h⟩ := bindOO_eq_ok.mp h
    obtain ⟨ws, h2, h⟩ := bindOO_eq_ok.mp h
    cases h
    simp only [List.cons_append, List.mem_cons, List.mem_append] at hv
    rcases hv with e | hv1 | hv2
    · exact ⟨p, by simp, Or.inl e⟩
    · cases hd : p.field.descend? with
      | none => rw [hd] at h1; cases h1; cases hv1
      | some r => rw [hd] at h1; exact ⟨p, by simp, Or.inr ⟨r, vs', hd, h1, hv1⟩⟩
    · obtain ⟨q, hq, hqv⟩ := ih ws h2 v hv2
      exact ⟨q, List.mem_cons_of_mem _ hq, hqv⟩

theorem walkFuel_resolves (g : Graph) : ∀ fuel root path walking vs,
    walkFuel g fuel root path walking = some (.ok vs) →
    ∀ v ∈ vs, ∃ suffix, v.path = path ++ suffix ∧ Resolves g root suffix v.field v.tag := by
  intro fuel
  induction fuel with
  | zero => intro root path walking vs h; simp [walkFuel] at h
  | succ fuel ih =>
    intro root path walking vs h v hv
    unfold walkFuel at h
    cases hc : walking.contains root with
    | true =>
      simp only [hc, if_true, Option.some.injEq, Outcome.ok.injEq] at h
      subst h; simp at hv
    | false =>
      simp only [hc, Bool.false_eq_true, if_false] at h
      cases hn : g[root]? with
      | none => simp [hn] at h
      | some node =>
        simp only [hn] at h
        obtain ⟨p, hp, hcase⟩ := walkPropsWith_mem _ path node.walkProps vs h v hv
        rcases hcase with e | ⟨r, ws, hd, hrec, hvw⟩
        · subst e
          exact ⟨[p.name], rfl, Resolves.leaf hn hp⟩
        · obtain ⟨suffix, hpath, hres⟩ := ih r (path ++ [p.name]) (root :: walking) ws hrec v hvw
          refine ⟨p.name :: suffix, ?_, Resolves.deeper hn hp hd hres⟩
          rw [hpath]; simp

theorem walk_resolves (g : Graph) (root : Nat) (vs : List Visit) (h : walk g root = some (.ok vs)) :
    ∀ v ∈ vs, Resolves g root v.path v.field v.tag := by
  intro v hv
  obtain ⟨suffix, hp, hr⟩ := walkFuel_resolves g _ root [] [] vs h v hv
  simp at hp
  rw [hp]; exact hr

theorem Resolves.prop {g : Graph} {root : Nat} {path : List Str} {f : Field} {t : Nat}
    (h : Resolves g root path f t) : ∃ node ∈ g, ∃ p ∈ node.props, p.field = f ∧ p.tag = t := by
  induction h with
  | leaf hn hp => exact ⟨_, List.mem_of_getElem? hn, _, mem_walkProps _ _ hp, rfl, rfl⟩
  | deeper _ _ _ _ ih => exact ih

/-! ## filing the visits -/

theorem fileVisits_ok (vs : List Visit) (h : ∀ v ∈ vs, tagBadDefault v.tag = false) :
    ∃ lr, fileVisits vs = .ok lr := by
  induction vs with
  | nil => exact ⟨_, rfl⟩
  | cons v vs ih =>
    obtain ⟨lr, hlr⟩ := ih (fun w hw => h w (List.mem_cons_of_mem _ hw))
    unfold fileVisits
    simp [h v (by simp), hlr]

theorem fileVisits_paths (vs : List Visit) (lr : ListRequest) (h : fileVisits vs = .ok lr) :
    ∀ path ∈ lr.filter ++ lr.sort ++ lr.search, ∃ v ∈ vs, v.path = path := by
  induction vs generalizing lr with
  | nil =>
    simp [fileVisits] at h
    subst h
    intro path hp; simp at hp
  | cons v vs ih =>
    unfold fileVisits at h
    cases hb : tagBadDefault v.tag with
    | true => simp [hb] at h
    | false =>
      simp only [hb, Bool.false_eq_true, if_false] at h
      cases hr : fileVisits vs with
      | err e => simp [hr] at h
      | panic w => simp [hr] at h
      | ok lr' =>
        simp only [hr, Outcome.ok.injEq] at h
        subst h
        intro path hp
        have ih' := ih lr' hr
        simp only [List.mem_append] at hp ih'
        -- a path filed under one of the three heads is `v.path` or was filed for the tail
        have file : ∀ (c : Bool) (l : List (List Str)), path ∈ (if c = true then v.path :: l else l) →
            (path ∈ l → ∃ w ∈ vs, w.path = path) → ∃ w ∈ v :: vs, w.path = path := by
          intro c l hm hl
          have hm' : path = v.path ∨ path ∈ l := by
            cases c
            · exact .inr hm
            · exact List.mem_cons.mp hm
          rcases hm' with e | e
          · exact ⟨v, List.mem_cons_self .., e.symm⟩
          · obtain ⟨w, hw, hwp⟩ := hl e; exact ⟨w, List.mem_cons_of_mem _ hw, hwp⟩
        rcases hp with (hp | hp) | hp
        · exact file _ _ hp fun e => ih' path (.inl (.inl e))
        · exact file _ _ hp fun e => ih' path (.inl (.inr e))
        · exact file _ _ hp fun e => ih' path (.inr e)

/-! ## `buildListRequest` -/

/-- once the item schema is found: the client view, the walk over it, the callback -/
theorem buildListRequest_of_item (g : Graph) (props : List Prop') (root : Nat)
    (h : listItemSchema g props = .ok root) :
    buildListRequest g (some props) =
      bindOO (clientGraph g) fun cg => bindOO (walk cg root) fun vs => some (fileVisits vs) := by
  simp only [buildListRequest, h]
  rcases clientGraph g with _ | cg | _ | _ <;> try rfl
  rw [bindOO_some_ok]
  dsimp only
  rcases walk cg root with _ | _ | _ | _ <;> rfl

theorem buildListRequest_isSome (g : Graph) (resp : Option (List Prop')) :
    (buildListRequest g resp).isSome = true := by
  cases resp with
  | none => rfl
  | some props =>
    cases hr : listItemSchema g props with
    | err e => simp [buildListRequest, hr]
    | panic w => simp [buildListRequest, hr]
    | ok root =>
      rw [buildListRequest_of_item g props root hr]
      exact bindOO_isSome (clientNodesFrom_isSome g g 0) fun cg _ =>
        bindOO_isSome (walkFuel_isSome cg _ root [] [] (Fuelled.start cg)) fun _ _ => rfl

theorem compileListShapeOk_iff (props : List Prop') :
    compileListShapeOk (some props) = true ↔ ∃ r, arrayElems props = [.object r] := by
  unfold compileListShapeOk
  simp only []
  split
  · next r h => exact ⟨fun _ => ⟨r, h⟩, fun _ => rfl⟩
  · next hne => exact ⟨nofun, fun ⟨r, h⟩ => (hne r h).elim⟩

theorem listShaped_iff (g : Graph) (props : List Prop') :
    ListShaped g (some props) = true ↔
      ∃ r n, arrayElems props = [.object r] ∧ g[r]? = some n ∧ n.kind = .object := by
  unfold ListShaped
  simp only []
  constructor
  · intro h
    split at h
    · next r ha =>
      split at h
      · next n hn => exact ⟨r, n, ha, hn, beq_iff_eq.mp h⟩
      · cases h
    · cases h
  · rintro ⟨r, n, ha, hn, hk⟩
    rw [ha]; simp only []; rw [hn]; exact beq_iff_eq.mpr hk

theorem listItemSchema_of_shaped (g : Graph) (props : List Prop') (h : ListShaped g (some props) = true) :
    ∃ root, listItemSchema g props = .ok root ∧ root < g.length := by
  obtain ⟨r, n, ha, hn, hk⟩ := (listShaped_iff g props).mp h
  exact ⟨r, by simp [listItemSchema, ha, hn, hk], getElem?_some_lt hn⟩

/-- whatever `checkListMethod` accepts, `buildListRequest`'s own shape checks accept -/
theorem listShaped_of_compile (g : Graph) (props : List Prop') (h : compileListShapeOk (some props) = true)
    (hk : ItemRefsOk g props) : ListShaped g (some props) = true := by
  obtain ⟨r, ha⟩ := (compileListShapeOk_iff props).mp h
  obtain ⟨n, hn, hkind⟩ := hk r (ha ▸ List.mem_singleton.mpr rfl)
  exact (listShaped_iff g props).mpr ⟨r, n, ha, hn, hkind⟩

theorem buildListRequest_ok (g : Graph) (resp : Option (List Prop')) (hs : ListShaped g resp = true)
    (hf : FlatLinked g) (hl : Linked g) (hb : NoBadDefaults g) :
    ∃ lr, buildListRequest g resp = some (.ok lr) := by
  cases resp with
  | none => simp [ListShaped] at hs
  | some props =>
    obtain ⟨root, hroot, hlt⟩ := listItemSchema_of_shaped g props hs
    obtain ⟨cg, hcg, hv⟩ := clientGraph_ok g hf
    obtain ⟨vs, hvs⟩ := walkFuel_ok cg (hv.linked hl) (cg.length + 1) root [] [] (Fuelled.start cg)
      (by rw [hv.len]; exact hlt)
    have hwalk : walk cg root = some (.ok vs) := hvs
    obtain ⟨lr, hlr⟩ := fileVisits_ok vs (by
      intro v hvm
      obtain ⟨node, hnode, p, hp, _, ht⟩ := (walk_resolves cg root vs hwalk v hvm).prop
      obtain ⟨node', hn', hp'⟩ := hv.props node hnode p hp
      rw [← ht]
      exact hb node' hn' p hp')
    exact ⟨lr, by rw [buildListRequest_of_item g props root hroot, hcg, bindOO_some_ok, hwalk, ← hlr]; rfl⟩

theorem buildListRequest_resolves (g : Graph) (props : List Prop') (lr : ListRequest)
    (h : buildListRequest g (some props) = some (.ok lr)) :
    ∃ cg root, clientGraph g = some (.ok cg) ∧ listItemSchema g props = .ok root ∧
      ∀ path ∈ lr.filter ++ lr.sort ++ lr.search, ∃ f t, Resolves cg root path f t := by
  cases hr : listItemSchema g props with
  | err e => simp [buildListRequest, hr] at h
  | panic w => simp [buildListRequest, hr] at h
  | ok root =>
    rw [buildListRequest_of_item g props root hr] at h
    obtain ⟨cg, hc, h⟩ := bindOO_eq_ok.mp h
    obtain ⟨vs, hw, h⟩ := bindOO_eq_ok.mp h
    refine ⟨cg, root, hc, rfl, fun path hp => ?_⟩
    obtain ⟨v, hv, hvp⟩ := fileVisits_paths vs lr (Option.some.inj h) path hp
    exact ⟨v.field, v.tag, hvp ▸ walk_resolves cg root vs hw v hv⟩

end J5V.Pipe
