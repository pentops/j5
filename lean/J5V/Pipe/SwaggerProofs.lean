import J5V.Pipe.Swagger
import J5V.Go.OutcomeLemmas
/-! # Lemmas for C16: `convertSchema` returns exactly on well-formed input; `groupOps` keeps `PathsInv` -/
namespace J5V.Pipe
open J5V.Go

mutual
  /-- the conversion returns a schema exactly on well-formed input: arm by arm, the success of an
  arm is the success of the conversions below it -/
  theorem convertSchema_isOk : ∀ f : SField, (convertSchema f).isOk = f.wellFormed
    | .any | .str | .int | .float | .bool | .bytes | .decimal | .date | .timestamp | .key | .enumRef
    | .enumInline | .objRef | .oneofRef | .enumUnset | .objUnset | .oneofUnset | .unset | .nil => rfl
    | .objInline props => by
      rw [convertSchema, SField.wellFormed, ← convertProps_isOk props]; cases convertProps props <;> rfl
    | .oneofInline props => by
      rw [convertSchema, SField.wellFormed, ← convertProps_isOk props]; cases convertProps props <;> rfl
    | .array items => by
      rw [convertSchema, SField.wellFormed, ← convertSchema_isOk items]; cases convertSchema items <;> rfl
    | .map items => by
      rw [convertSchema, SField.wellFormed, ← convertSchema_isOk items]; cases convertSchema items <;> rfl
  theorem convertProps_isOk : ∀ ps : List SField, (convertProps ps).isOk = wellFormedAll ps
    | [] => rfl
    | p :: ps => by
      rw [convertProps, wellFormedAll, ← convertSchema_isOk p, ← convertProps_isOk ps]
      cases convertSchema p <;> try rfl
      cases convertProps ps <;> rfl
end

theorem convertSchema_total : ∀ f : SField, f.wellFormed = true → ∃ t, convertSchema f = .ok t :=
  fun f h => isOk_iff.mp (by rw [convertSchema_isOk, h])

theorem convertProps_total : ∀ ps : List SField, wellFormedAll ps = true → ∃ ts, convertProps ps = .ok ts :=
  fun ps h => isOk_iff.mp (by rw [convertProps_isOk, h])

theorem convertSchema_ok_wf : ∀ (f : SField) (t : String), convertSchema f = .ok t → f.wellFormed = true :=
  fun f t h => by rw [← convertSchema_isOk, h]; rfl

theorem convertProps_ok_wf : ∀ (ps : List SField) (ts : List String), convertProps ps = .ok ts →
      wellFormedAll ps = true :=
  fun ps ts h => by rw [← convertProps_isOk, h]; rfl

/-- every path item is non-empty and holds only operations of its own path; no two path items
have the same key -/
structure PathsInv (items : List PathItem) : Prop where
  nonempty : ∀ item ∈ items, item ≠ []
  same : ∀ item ∈ items, ∀ op ∈ item, op.path = PathItem.key item
  nodup : (items.map PathItem.key).Nodup

theorem PathItem.key_append (item : PathItem) (op : SOp) (h : item ≠ []) :
    PathItem.key (item ++ [op]) = PathItem.key item := by
  cases item with
  | nil => exact absurd rfl h
  | cons a rest => rfl

theorem addOp_keys (items : List PathItem) (op : SOp) (hne : ∀ item ∈ items, item ≠ []) :
    ∀ k ∈ (addOp items op).map PathItem.key, k ∈ items.map PathItem.key ∨ k = op.path := by
  induction items with
  | nil => intro k hk; simp [addOp, PathItem.key] at hk; exact Or.inr hk
  | cons item rest ih =>
    intro k hk
    unfold addOp at hk
    split at hk
    · simp only [List.map_cons, List.mem_cons] at hk ⊢
      rcases hk with e | e
      · rw [PathItem.key_append item op (hne item (by simp))] at e; exact Or.inl (Or.inl e)
      · exact Or.inl (Or.inr e)
    · simp only [List.map_cons, List.mem_cons] at hk ⊢
      rcases hk with e | e
      · exact Or.inl (Or.inl e)
      · rcases ih (fun i hi => hne i (List.mem_cons_of_mem _ hi)) k e with h | h
        · exact Or.inl (Or.inr h)
        · exact Or.inr h

theorem pathsInv_cons (item : PathItem) (rest : List PathItem) :
    PathsInv (item :: rest) ↔ (item ≠ [] ∧ (∀ o ∈ item, o.path = PathItem.key item) ∧
      PathItem.key item ∉ rest.map PathItem.key) ∧ PathsInv rest := by
  constructor
  · intro h
    exact ⟨⟨h.nonempty item (by simp), h.same item (by simp), (List.nodup_cons.mp h.nodup).1⟩,
      fun i hi => h.nonempty i (List.mem_cons_of_mem _ hi),
      fun i hi => h.same i (List.mem_cons_of_mem _ hi), (List.nodup_cons.mp h.nodup).2⟩
  · rintro ⟨⟨hne, hsame, hk⟩, hr⟩
    exact ⟨List.forall_mem_cons.mpr ⟨hne, hr.nonempty⟩, List.forall_mem_cons.mpr ⟨hsame, hr.same⟩,
      List.nodup_cons.mpr ⟨hk, hr.nodup⟩⟩

theorem addOp_inv (items : List PathItem) (op : SOp) (h : PathsInv items) : PathsInv (addOp items op) := by
  induction items with
  | nil => exact (pathsInv_cons [op] []).mpr ⟨⟨by simp, by simp [PathItem.key], by simp⟩, h⟩
  | cons item rest ih =>
    obtain ⟨⟨hne, hsame, hk⟩, hrest⟩ := (pathsInv_cons item rest).mp h
    unfold addOp
    split
    · next hkey =>
      -- the operation joins `item`, whose key stays
      rw [pathsInv_cons, PathItem.key_append item op hne]
      refine ⟨⟨by simp, fun o ho => ?_, hk⟩, hrest⟩
      rcases List.mem_append.mp ho with ho | ho
      · exact hsame o ho
      · rw [List.mem_singleton.mp ho]; exact hkey.symm
    · next hkey =>
      -- it goes into the rest, which gets at most the key `op.path`
      refine (pathsInv_cons _ _).mpr ⟨⟨hne, hsame, fun hm => ?_⟩, ih hrest⟩
      rcases addOp_keys rest op hrest.nonempty _ hm with h1 | h1
      · exact hk h1
      · exact hkey h1

theorem addOp_mem (items : List PathItem) (op : SOp) (hne : ∀ item ∈ items, item ≠ []) :
    ∃ item ∈ addOp items op, PathItem.key item = op.path ∧ op ∈ item := by
  induction items with
  | nil => exact ⟨[op], by simp [addOp], rfl, by simp⟩
  | cons item rest ih =>
    unfold addOp
    split
    · rename_i hk
      exact ⟨item ++ [op], by simp, by rw [PathItem.key_append item op (hne item (by simp))]; exact hk, by simp⟩
    · obtain ⟨i, hi, hk, ho⟩ := ih (fun i hi => hne i (List.mem_cons_of_mem _ hi))
      exact ⟨i, List.mem_cons_of_mem _ hi, hk, ho⟩

/-- an operation that is in the document stays in it, under the same key -/
theorem addOp_keeps (items : List PathItem) (op o : SOp) (hne : ∀ item ∈ items, item ≠ [])
    (h : ∃ item ∈ items, PathItem.key item = o.path ∧ o ∈ item) :
    ∃ item ∈ addOp items op, PathItem.key item = o.path ∧ o ∈ item := by
  induction items with
  | nil => obtain ⟨i, hi, _⟩ := h; simp at hi
  | cons item rest ih =>
    obtain ⟨i, hi, hk, ho⟩ := h
    unfold addOp
    split
    · rcases List.mem_cons.mp hi with e | e
      · subst e
        exact ⟨i ++ [op], by simp, by rw [PathItem.key_append i op (hne i (by simp))]; exact hk, by simp [ho]⟩
      · exact ⟨i, by simp [e], hk, ho⟩
    · rcases List.mem_cons.mp hi with e | e
      · subst e; exact ⟨i, by simp, hk, ho⟩
      · obtain ⟨j, hj, hjk, hjo⟩ := ih (fun i hi => hne i (List.mem_cons_of_mem _ hi)) ⟨i, e, hk, ho⟩
        exact ⟨j, List.mem_cons_of_mem _ hj, hjk, hjo⟩

theorem addOp_flatten_perm (items : List PathItem) (op : SOp) :
    (addOp items op).flatten.Perm (items.flatten ++ [op]) := by
  induction items with
  | nil => simp [addOp]
  | cons item rest ih =>
    unfold addOp
    split
    · simp only [List.flatten_cons, List.append_assoc]
      apply List.Perm.append_left
      exact List.perm_append_comm
    · simp only [List.flatten_cons, List.append_assoc]
      exact List.Perm.append_left _ ih

theorem foldl_addOp_spec (ops : List SOp) : ∀ (items : List PathItem), PathsInv items →
    PathsInv (ops.foldl addOp items)
    ∧ (∀ o, (∃ item ∈ items, PathItem.key item = o.path ∧ o ∈ item) ∨ o ∈ ops →
        ∃ item ∈ ops.foldl addOp items, PathItem.key item = o.path ∧ o ∈ item)
    ∧ (ops.foldl addOp items).flatten.Perm (items.flatten ++ ops) := by
  induction ops with
  | nil =>
    intro items h
    refine ⟨h, ?_, by simp⟩
    intro o ho
    rcases ho with ho | ho
    · exact ho
    · simp at ho
  | cons op ops ih =>
    intro items h
    obtain ⟨h1, h2, h3⟩ := ih (addOp items op) (addOp_inv items op h)
    refine ⟨h1, ?_, ?_⟩
    · intro o ho
      apply h2
      rcases ho with ho | ho
      · exact Or.inl (addOp_keeps items op o h.nonempty ho)
      · rcases List.mem_cons.mp ho with e | e
        · subst e; exact Or.inl (addOp_mem items o h.nonempty)
        · exact Or.inr e
    · simp only [List.foldl_cons]
      refine h3.trans ?_
      have := (addOp_flatten_perm items op).append_right ops
      refine this.trans ?_
      simp

end J5V.Pipe
