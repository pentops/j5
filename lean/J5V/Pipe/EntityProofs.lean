import J5V.Pipe.JoinProofs
import J5V.Pipe.EntitySpec
import J5V.Compile.EntityKeys
/-! # Lemmas for C16: the query service an entity generates, and its path parameters -/
namespace J5V.Pipe
open J5V.Go J5V.Compile

theorem methodDecl_getMethod (e : Entity) :
    methodDeclOfSource (Entity.getMethod e) = some (entityGetDecl e) := rfl

theorem methodDecl_listMethod (e : Entity) :
    methodDeclOfSource (Entity.listMethod e) = some (entityListDecl e) := by
  simp only [methodDeclOfSource, verbOfSource, Entity.listMethod, List.map_append]; rfl

theorem methodDecl_eventsMethod (e : Entity) :
    methodDeclOfSource (Entity.eventsMethod e) = some (entityEventsDecl e) := by
  simp only [methodDeclOfSource, verbOfSource, Entity.eventsMethod, List.map_append]; rfl

theorem entityQueryDecl_eq (pkg : Str) (e : Entity) :
    entityQueryDecl pkg e = some
      { name := toCamel e.name ++ b!"Query", base := some (entityQueryBase pkg e),
        methods := [entityGetDecl e, entityListDecl e, entityEventsDecl e] } := by
  simp only [entityQueryDecl, serviceDeclOfSource, Entity.queryService, methodDeclsOfSource,
    methodDecl_getMethod, methodDecl_listMethod, methodDecl_eventsMethod]
  rfl

theorem colonPart_normal (k : Str) (hk : (47 : Nat) ∉ k) :
    NormalPart (b!":" ++ k) ∧ (47 : Nat) ∉ (b!":" ++ k) := by
  refine ⟨⟨by simp, by simp, by simp⟩, ?_⟩
  simp; exact hk

theorem filterMap_colonPath (ps : List Property) :
    (Entity.colonPath ps).filterMap paramName? = propNames ps := by
  induction ps with
  | nil => rfl
  | cons p ps ih =>
    simp only [Entity.colonPath, propNames, List.map_cons] at ih ⊢
    simp only [List.filterMap_cons]
    have : paramName? (b!":" ++ p.name) = some p.name := rfl
    rw [this, ih]

/-- path parameters of a method of the query service = the parameters of its own path, when the
base path has no parameter component and no key name contains `/` -/
theorem entity_path_params (base : Str) (keys : List Property) (tail : List Str)
    (hb : base ≠ []) (hbase : ∀ c ∈ splitOnByte 47 base, paramName? c = none)
    (hkeys : ∀ k ∈ keys, (47 : Nat) ∉ k.name)
    (htail : ∀ t ∈ tail, (NormalPart t ∧ (47 : Nat) ∉ t) ∧ paramName? t = none) :
    pathParamNames (resolvedPath (some base) (joinWith b!"/" (Entity.colonPath keys ++ tail)))
      = propNames keys := by
  unfold resolvedPath
  simp only []
  rw [pathParamNames_join base _ hb _ hbase]
  · rw [List.filterMap_append, filterMap_colonPath]
    have : tail.filterMap paramName? = [] :=
      List.filterMap_eq_nil_iff.mpr (fun t ht => (htail t ht).2)
    rw [this]; simp
  · intro d hd
    rcases List.mem_append.mp hd with h | h
    · simp only [Entity.colonPath, List.mem_map] at h
      obtain ⟨k, hk, rfl⟩ := h
      exact colonPart_normal k.name (hkeys k hk)
    · exact (htail d h).1

theorem entityQueryBase_ne_nil (pkg : Str) (e : Entity) : entityQueryBase pkg e ≠ [] := by
  simp [entityQueryBase]

/-- when no key name contains `/` and the base path has no parameter component, the path parameters of
the entity's `Get` and `Events` methods (after `path.Join` with the base path) are the Get keys, those
of `List` the shard keys, in key order -/
theorem entityQuery_path_params (pkg : Str) (e : Entity)
    (hbase : ∀ c ∈ splitOnByte 47 (entityQueryBase pkg e), paramName? c = none)
    (hkeys : ∀ k ∈ e.keys, (47 : Nat) ∉ k.prop.name) :
    let base := some (entityQueryBase pkg e)
    pathParamNames (resolvedPath base (entityGetDecl e).path) = propNames (Entity.getKeys e)
    ∧ pathParamNames (resolvedPath base (entityListDecl e).path) = propNames (Entity.listKeys e)
    ∧ pathParamNames (resolvedPath base (entityEventsDecl e).path) = propNames (Entity.getKeys e) := by
  have hget : ∀ k ∈ Entity.getKeys e, (47 : Nat) ∉ k.name := fun k hk => by
    obtain ⟨kd, hkd, rfl⟩ := getKeys_mem e k hk
    exact hkeys kd hkd
  have hlist : ∀ k ∈ Entity.listKeys e, (47 : Nat) ∉ k.name := fun k hk => by
    obtain ⟨kd, hkd, rfl⟩ := listKeys_mem e k hk
    exact hkeys kd hkd
  have hb := entityQueryBase_ne_nil pkg e
  refine ⟨?_, ?_, ?_⟩
  · have := entity_path_params (entityQueryBase pkg e) (Entity.getKeys e) [] hb hbase hget
      (by intro t ht; simp at ht)
    simpa [entityGetDecl] using this
  · have := entity_path_params (entityQueryBase pkg e) (Entity.listKeys e) [] hb hbase hlist
      (by intro t ht; simp at ht)
    simpa [entityListDecl] using this
  · have := entity_path_params (entityQueryBase pkg e) (Entity.getKeys e) [b!"events"] hb hbase hget
      (by
        intro t ht
        simp at ht; subst ht
        exact ⟨⟨⟨by decide, by decide, by decide⟩, by decide⟩, rfl⟩)
    simpa [entityEventsDecl] using this

end J5V.Pipe
