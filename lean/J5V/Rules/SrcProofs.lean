import J5V.Rules.SrcFacts
/-!
# The source-fact obligations of C04 and C12, evaluated

The checkers of `SrcFacts.lean` are closed Bool programs over the regenerated tables, so each
obligation is an evaluation by the kernel. Nearly all of that evaluation is string comparison, and a
string literal is dear for the kernel to take apart (its bytes come out of a `push` chain, every
`tail` of which walks the chain again), while numerals are what it computes with natively. Hence the
shape of this file: string equality is first replaced by equality of numbers (`strCode`), so that a
literal is taken apart once, when its number is first asked for, and every comparison after that is
one `Nat.beq`; and since the kernel remembers what it has computed only within one declaration, the
obligations are evaluated together, one declaration per table.
`Props/C04.lean` and `Props/C12.lean` state the single obligations and cite the fields of these by name.

Nothing here looks inside a table: after a regeneration the same evaluations run on the new content.
-/
namespace J5V.Rules.Src
open J5V.Generated.Rules

/-- a byte list as a number: base 257 with the digits 1 … 256, so that no two lists share a number -/
def bytesCode : List UInt8 → Nat
  | [] => 0
  | b :: bs => b.toNat + 1 + 257 * bytesCode bs

theorem bytesCode_inj : ∀ l m : List UInt8, bytesCode l = bytesCode m → l = m
  | [], [], _ => rfl
  | [], _ :: _, h | _ :: _, [], h => by simp only [bytesCode] at h; omega
  | a :: as, b :: bs, h => by
    simp only [bytesCode] at h
    have ha := a.toNat_lt
    have hb := b.toNat_lt
    rw [UInt8.toNat_inj.mp (by omega : a.toNat = b.toNat), bytesCode_inj as bs (by omega)]

def strCode (s : String) : Nat := bytesCode s.toByteArray.data.toList

theorem instBEqString_eq : (instBEqOfDecidableEq : BEq String) = ⟨fun a b => (strCode a).beq (strCode b)⟩ := by
  unfold instBEqOfDecidableEq strCode
  congr 1; funext a b
  rw [Bool.eq_iff_iff, decide_eq_true_eq]
  constructor
  · intro h; rw [h]; exact Nat.beq_refl _
  · intro h
    exact String.toByteArray_inj.mp (ByteArray.ext_iff.mpr (Array.toList_inj.mp
      (bytesCode_inj _ _ (Nat.eq_of_beq_eq_true h))))

/-- what is read off `writerCopies` (`buildProperty` / `buildField`, `checkIntegerBound`) -/
structure WriterTable : Prop where
  copyHasSlot : everyWriterCopyHasSlot = true
  slotIsWritten : everySlotIsWritten = true
  containerCalls : containerExtCalls = [("buildProperty/Field_Map", "setJ5Ext(\"map\")"),
                                        ("buildProperty/Field_Array", "setJ5Ext(\"array\")")]
  listSlots : listSlotFacts = true
  inclusivity : writerInclusivityMatchesModel = true
  slotsMatch : writerSlotsMatch = true
  required : writerRequiredFacts = true
  containerGuards : containerGuardFacts = true
  keyFormats : keyFormatFacts = true
  boundCheck : boundCheckFacts = true

theorem writerTable_facts : WriterTable := by
  have h : everyWriterCopyHasSlot = true ∧ everySlotIsWritten = true ∧
      containerExtCalls = [("buildProperty/Field_Map", "setJ5Ext(\"map\")"),
                           ("buildProperty/Field_Array", "setJ5Ext(\"array\")")] ∧
      listSlotFacts = true ∧ writerInclusivityMatchesModel = true ∧ writerSlotsMatch = true ∧
      writerRequiredFacts = true ∧ containerGuardFacts = true ∧ keyFormatFacts = true ∧
      boundCheckFacts = true := by
    unfold everyWriterCopyHasSlot everySlotIsWritten isSchemaSrc containerExtCalls listSlotFacts srcFkSlot
      writerInclusivityMatchesModel writerSlotsMatch guardFires writerRequiredFacts readsOf containerGuardFacts
      keyFormatFacts boundCheckFacts guardsOf
    -- `guardsOf` last: several of the checkers named before it call it, and `rw` reaches only the `==` it can see
    rw [instBEqString_eq]
    decide +kernel
  obtain ⟨h1, h2, h3, h4, h5, h6, h7, h8, h9, h10⟩ := h
  exact ⟨h1, h2, h3, h4, h5, h6, h7, h8, h9, h10⟩

/-- what is read off `readerCopies` (schema_from_proto.go) and `rootWriterCopies` (conversion.go) -/
structure ReaderTable : Prop where
  writerBranch : everyMemberHasWriterBranch = true
  readerProducer : everyMemberHasReaderProducer = true
  writerDefaults : writerDefaultsPresent = true
  slotIsReadBack : everySlotIsReadBack = true
  extFieldIsReadBack : everyExtFieldIsReadBack = true
  inclusivity : readerInclusivityMatchesModel = true
  root : rootFacts = true
  enumWriter : enumWriterFacts = true
  legacyKeysLookup : legacyKeysLookupFacts = true
  required : readerRequiredFacts = true
  names : readerNameFacts = true

theorem readerTable_facts : ReaderTable := by
  have h : everyMemberHasWriterBranch = true ∧ everyMemberHasReaderProducer = true ∧ writerDefaultsPresent = true ∧
      everySlotIsReadBack = true ∧ everyExtFieldIsReadBack = true ∧ readerInclusivityMatchesModel = true ∧
      rootFacts = true ∧ enumWriterFacts = true ∧ legacyKeysLookupFacts = true ∧
      readerRequiredFacts = true ∧ readerNameFacts = true := by
    unfold everyMemberHasWriterBranch everyMemberHasReaderProducer writerDefaultsPresent writerUnitOf
      everySlotIsReadBack everyExtFieldIsReadBack fieldsOf readerInclusivityMatchesModel rootFacts enumWriterFacts
      legacyKeysLookupFacts readerRequiredFacts readerNameFacts
    rw [instBEqString_eq]
    decide +kernel
  obtain ⟨h1, h2, h3, h4, h5, h6, h7, h8, h9, h10, h11⟩ := h
  exact ⟨h1, h2, h3, h4, h5, h6, h7, h8, h9, h10, h11⟩

/-- which declared schema fields the writer reads: all three go through `allCoverageRows` -/
structure Coverage : Prop where
  readOrListed : everySchemaFieldIsReadOrListed = true
  exceptionsExact : exceptionsAreExact = true
  openExceptions : openSchemaExceptions = [("StringField", "Format")]

theorem coverage_facts : Coverage := by
  have h : everySchemaFieldIsReadOrListed = true ∧ exceptionsAreExact = true ∧
      openSchemaExceptions = [("StringField", "Format")] := by
    unfold everySchemaFieldIsReadOrListed exceptionsAreExact allCoverageRows coverageRows writerReadsPath isException
      fieldsOf readsOf kindOf msgOf writerUnitOf
    rw [instBEqString_eq]
    decide +kernel
  exact ⟨h.1, h.2.1, h.2.2⟩

end J5V.Rules.Src
