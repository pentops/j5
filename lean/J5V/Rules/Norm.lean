import J5V.Rules.Meaning
import J5V.Rules.Reader
/-!
# C04: the normal form the reader returns (`normField`) and the declarations covered (`WFField`)

`normField` applies exactly the normalisations N1–N6 of `/verif/harness/PROTOCOL-rules.md`; each is a
semantic no-op of the schema language (`j5Accepts_norm` in `Rules/NormProofs.lean` proves it for
validation). `WFField` excludes the inadmissible declarations and, explicitly, the recorded open
findings; its docstring lists them.

N1 an empty rules / ext / list-rules message is absent; N2 `exclusive… = false` is absent; N3 no key format is
`informal`; N4 `primaryKey = false` is absent; N5 enum names in short form under the effective prefix, explicit
`UNSPECIFIED`; N6 (array items, map values) a custom key pattern equal to the id62 pattern is the format `id62`.
-/
namespace J5V.Rules
open J5V.Go

def roundtrip (p : Property) : Outcome Property :=
  match writeField p with
  | .ok a => readField a
  | .err t => .err t
  | .panic w => .panic w

/-! ## normal form -/

def normExcl : Option Bool → Option Bool
  | some true => some true
  | _ => none

def normIntRules (r : IntRules) : IntRules :=
  { r with exclusiveMinimum := normExcl r.exclusiveMinimum, exclusiveMaximum := normExcl r.exclusiveMaximum }

/-- N6 applies to array items and map values only (`inArray` is true for both): there the key annotation
with the custom pattern is replaced by the array annotation / sits on the map entry's value field, and the
reader recognises the id62 pattern as the id62 format. -/
def normKeyFormat (inArray : Bool) (format : Option KeyFormat) (lr : ListRules) : Option KeyFormat :=
  match format with
  | none | some .informal => if lr.isSome then some .informal else none
  | some (.custom p) => if inArray && p = id62Pattern then some .id62 else some (.custom p)
  | some .uuid => some .uuid
  | some .id62 => some .id62

def normEntity (e : EntityKey) : EntityKey :=
  match e.typ with
  | .primary false => { e with typ := .none }
  | _ => e

/-- one description per compiled value: the zero value has one only when it was declared explicitly -/
def EnumDecl.valueDescs (d : EnumDecl) : List String :=
  if d.isExplicit then d.optDescs else "" :: d.optDescs

/-- canonical enum declaration: effective prefix, short option names, explicit UNSPECIFIED, one
description per option -/
def normDecl (d : EnumDecl) : EnumDecl :=
  { name := d.name, declPrefix := some d.pfx, defaultPrefix := d.pfx,
    options := d.values.map fun v => trimPrefix d.pfx v.1,
    description := d.description, descs := d.valueDescs }

def normEnumName (d : EnumDecl) (n : String) : String := trimPrefix d.pfx (addPrefix d.pfx n)

def normSchema (inArray : Bool) : Schema → Schema
  | .string fmt rules lr => .string fmt rules lr
  | .integer fmt rules lr => .integer fmt (rules.map normIntRules) lr
  | .float is64 lr => .float is64 lr
  | .bool rules lr => .bool (match rules with | some { const := some k } => some { const := some k } | _ => none) lr
  | .bytes rules => .bytes (some (rules.getD {}))
  | .key format entity lr => .key (normKeyFormat inArray format lr) (entity.map normEntity) lr
  | .enum d rules lr =>
    .enum (normDecl d)
      (some (match rules with
             | some r => { inn := r.inn.map (normEnumName d), notIn := r.notIn.map (normEnumName d) }
             | none => {})) lr
  | .object ref flatten _ => .object ref flatten false
  | .oneof ref _ lr => .oneof ref false lr
  | .timestamp hasRules lr => .timestamp hasRules lr
  | .date rules lr => .date rules lr
  | .decimal rules lr => .decimal rules lr
  | .any od types lr => .any od types lr

/-- does `buildField` attach a validate constraint to this item type? (decides whether an array
without rules still gets a `repeated` wrapper, which the reader shows as empty array rules) -/
def hasItemConstraint : Schema → Bool
  | .string _ rules _ => rules.isSome
  | .integer _ rules _ => rules.isSome
  | .bool rules _ => rules.isSome
  | .bytes rules => rules.isSome
  | .key format _ _ => format.isSome
  | .enum _ _ _ => true
  | .object _ _ hasRules => hasRules
  | .oneof _ hasRules _ => hasRules
  | .timestamp hasRules _ => hasRules
  | _ => false

def normFieldSchema : FieldSchema → FieldSchema
  | .single s => .single (normSchema false s)
  | .array s rules sf =>
    .array (normSchema true s)
      (match rules with
       | some r => some r
       | none => if hasItemConstraint s then some {} else none) sf
  | .map s rules sf =>
    .map (normSchema true s)
      (match rules with
       | some r => some r
       | none => if hasItemConstraint s then some {} else none) sf

def normField (p : Property) : Property :=
  { p with required := p.effRequired, schema := normFieldSchema p.schema }

/-! ## covered declarations -/

/-- what the reader's `int64(x)` gives back unchanged: the model's bounds are unbounded `Int`s, the source field
is an int64 -/
def int64Range (v : Int) : Bool := decide (-(2 ^ 63) ≤ v) && decide (v ≤ 2 ^ 63 - 1)

/-- the declared options after an explicit leading `UNSPECIFIED` (written with or without the
prefix), which is the implicit zero value itself -/
def EnumDecl.rest (d : EnumDecl) : List String :=
  match d.options with
  | [] => []
  | o :: r => if trimPrefix d.pfx o == "UNSPECIFIED" then r else o :: r

def schemaWFField (inArray : Bool) : Schema → Bool
  | .string fmt rules _ =>
    -- open findings: StringField.format is dropped; well-known patterns turn into formats / keys
    -- (well-known patterns: array items and map values only, their string annotation is replaced by
    -- the array annotation / sits on the entry's value field)
    fmt.isNone &&
    (match rules with
     | some r => (match r.pattern with | some p => !inArray || (wellKnownStringPattern p).isNone | none => true)
     | none => true)
  | .integer fmt (some r) _ =>
    intRulesWF fmt r && optAll r.minimum int64Range && optAll r.maximum int64Range
  | .key format entity lr =>
    (if inArray then
       -- open finding: the array annotation overwrites the item's key annotation
       entity.isNone &&
       (match format with
        | some .uuid | some .id62 => true
        | some (.custom p) => p = id62Pattern && lr.isNone
        | _ => lr.isSome)
     else true)
  | .enum d rules lr =>
    -- every enum declaration is covered: options written with or without the prefix, implicit or
    -- explicit UNSPECIFIED, declared or default prefix
    (match rules with
     | some r => enumRulesWF d r
     | none => true) &&
    -- inadmissible otherwise (compile error): default filters name options of the enum
    enumFiltersWF d lr
  -- open finding class: the array annotation replaces the item's j5 annotation
  | .date rules _ => !(inArray && rules.isSome)
  | .decimal rules _ => !(inArray && rules.isSome)
  | .object _ flatten _ => !(inArray && flatten)
  | .any od types _ => !(inArray && (od || !types.isEmpty))
  | _ => true

/-- the list rules of the (item) schema -/
def Schema.listRules : Schema → ListRules
  | .string _ _ lr | .integer _ _ lr | .float _ lr | .bool _ lr | .key _ _ lr | .enum _ _ lr
  | .oneof _ _ lr | .timestamp _ lr | .date _ lr | .decimal _ lr | .any _ _ lr => lr
  | .bytes _ | .object _ _ _ => none

/-- The declarations `C04_field_roundtrip_partial` quantifies over. Excluded (each with a counterexample
theorem in `Props/C04.lean`, each confirmed on the real code): `StringField.format`; in arrays and
maps the item annotations that the array annotation replaces / that sit on the map entry's value
field — keys without uuid / id62 format or with an entity, strings with a well-known pattern,
date / decimal rules, `flatten` objects, `any` with `onlyDefined` / `types`; for maps also the
values' list rules; `?` on arrays and maps (accepted by the compiler, not carried by the
descriptor); and the inadmissible declarations (compile errors). -/
def WFField (p : Property) : Bool :=
  schemaWFField (p.schema.isArray || p.schema.isMap) p.schema.item &&
  !(p.schema.isMap && p.schema.item.listRules.isSome) &&
  !(p.explicitlyOptional && p.effRequired) &&
  !((p.schema.isArray || p.schema.isMap) && p.explicitlyOptional)

end J5V.Rules
