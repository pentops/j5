import J5V.Rules.Norm
/-!
# Enum declarations: the option names and numbers the writer gives (`EnumDecl.values`) back through the
reader (`buildEnum`, `namesOf`), and the option descriptions through the comments
-/
namespace J5V.Rules
open J5V.Go

theorem hasPrefix_append (pre s : String) : hasPrefix pre (pre ++ s) = true := by
  simp [hasPrefix, String.toList_append]
theorem trimPrefix_append (pre s : String) : trimPrefix pre (pre ++ s) = s := by
  simp only [trimPrefix, hasPrefix_append, String.toList_append, if_true]
  rw [← String.length_toList, List.drop_left, String.ofList_toList]
theorem hasSuffix_append (pre suf : String) : hasSuffix suf (pre ++ suf) = true := by
  simp [hasSuffix, String.toList_append]
theorem trimSuffix_append (pre suf : String) : trimSuffix suf (pre ++ suf) = pre := by
  simp only [trimSuffix, hasSuffix_append, String.toList_append, if_true, String.length_append, Nat.add_sub_cancel]
  rw [← String.length_toList, List.take_left, String.ofList_toList]

theorem lookupName_cons (n : String) (k : Int) (tl : List (String × Int)) (x : String) :
    lookupName ((n, k) :: tl) x = if n == x then some k else lookupName tl x := by
  simp only [lookupName, List.find?_cons]
  cases h : (n == x) <;> simp

theorem optionByNumber_cons (n : String) (k : Int) (tl : List (String × Int)) (v : Int) :
    optionByNumber ((n, k) :: tl) v = if k == v then some n else optionByNumber tl v := by
  simp only [optionByNumber, List.find?_cons]
  cases h : (k == v) <;> simp

theorem lookup_numberFrom_ge (pre x : String) : ∀ (opts : List String) (k : Nat) (v : Int),
    lookupName (numberFrom pre k opts) x = some v → (k : Int) ≤ v := by
  intro opts
  induction opts with
  | nil => intro k v h; simp [numberFrom, lookupName] at h
  | cons o rest ih =>
    intro k v h
    simp only [numberFrom, lookupName_cons] at h
    split at h
    · cases h; exact Int.le_refl _
    · have := ih (k + 1) v h
      omega

theorem byNumber_numberFrom (pre x : String) (f : String → String) : ∀ (opts : List String) (k : Nat) (v : Int),
    lookupName (numberFrom pre k opts) x = some v →
    optionByNumber ((numberFrom pre k opts).map fun nk => (f nk.1, nk.2)) v = some (f x) := by
  intro opts
  induction opts with
  | nil => intro k v h; simp [numberFrom, lookupName] at h
  | cons o rest ih =>
    intro k v h
    simp only [numberFrom, lookupName_cons] at h
    simp only [numberFrom, List.map_cons, optionByNumber_cons]
    split at h
    · rename_i heq
      cases h
      have : addPrefix pre o = x := by simpa using heq
      simp [this]
    · have hge := lookup_numberFrom_ge pre x rest (k + 1) v h
      have hne : ((k : Int) == v) = false := by
        simp only [beq_eq_false_iff_ne, ne_eq]; omega
      simp only [hne, Bool.false_eq_true, if_false]
      exact ih (k + 1) v h

theorem eq_append_of_hasPrefix (pre o : String) (h : hasPrefix pre o = true) :
    o = pre ++ String.ofList (o.toList.drop pre.length) := by
  unfold hasPrefix at h
  obtain ⟨t, ht⟩ := List.isPrefixOf_iff_prefix.mp h
  apply String.toList_inj.mp
  rw [String.toList_append, String.toList_ofList, ← String.length_toList, ← ht, List.drop_left]

/-- an explicit `UNSPECIFIED` (with or without the prefix) is named exactly like the implicit one -/
theorem addPrefix_unspecified (pre o : String) (h : trimPrefix pre o = "UNSPECIFIED") :
    addPrefix pre o = pre ++ "UNSPECIFIED" := by
  unfold trimPrefix at h
  unfold addPrefix
  by_cases hp : hasPrefix pre o = true
  · rw [if_pos hp] at h ⊢
    have := eq_append_of_hasPrefix pre o hp
    rw [h] at this
    exact this
  · rw [if_neg hp] at h ⊢
    rw [h]

/-- the compiled values of any enum declaration: the zero value, then the declared options
(without an explicit leading UNSPECIFIED) numbered from 1 -/
theorem values_general (d : EnumDecl) :
    d.values = (d.pfx ++ "UNSPECIFIED", 0) :: numberFrom d.pfx 1 d.rest := by
  obtain ⟨name, dp, dflt, opts, desc, descs⟩ := d
  cases opts with
  | nil => unfold EnumDecl.values EnumDecl.rest; simp [numberFrom]
  | cons o rest =>
    unfold EnumDecl.values EnumDecl.rest
    simp only
    by_cases h : (trimPrefix (EnumDecl.pfx ⟨name, dp, dflt, o :: rest, desc, descs⟩) o == "UNSPECIFIED") = true
    · rw [if_pos h, if_pos h, addPrefix_unspecified _ o (by simpa using h)]
    · rw [if_neg h, if_neg h]

theorem numberOf_read (d : EnumDecl) (n : String) (k : Int)
    (h : d.numberOf n = some k) :
    optionByNumber (d.values.map fun nk => (trimPrefix d.pfx nk.1, nk.2)) k = some (normEnumName d n) := by
  unfold EnumDecl.numberOf EnumDecl.valMap at h
  rw [values_general d] at h ⊢
  simp only [lookupName_cons] at h
  simp only [List.map_cons, optionByNumber_cons]
  unfold normEnumName
  split at h
  · rename_i heq
    cases h
    have : d.pfx ++ "UNSPECIFIED" = addPrefix d.pfx n := by simpa using heq
    rw [if_pos (by decide), this]
  · rename_i hne1
    have hge := lookup_numberFrom_ge d.pfx _ d.rest 1 k h
    have hne : ((0 : Int) == k) = false := by
      simp only [beq_eq_false_iff_ne, ne_eq]; omega
    simp only [hne, Bool.false_eq_true, if_false]
    exact byNumber_numberFrom d.pfx _ (trimPrefix d.pfx) d.rest 1 k h

/-! ### option descriptions: filed under the value's number, read by the value's index -/

theorem commentAt_nil (i : Nat) : commentAt [] i = "" := rfl

theorem commentAt_cons (k : Nat) (d : String) (tl : List (Nat × String)) (i : Nat) :
    commentAt ((k, d) :: tl) i = if k == i then d else commentAt tl i := by
  simp only [commentAt, List.find?_cons]
  cases h : (k == i) <;> simp

theorem commentAt_lt (l : List String) : ∀ (k i : Nat), i < k → commentAt (commentsFrom k l) i = "" := by
  induction l with
  | nil => intro k i _; rfl
  | cons d r ih =>
    intro k i h
    simp only [commentsFrom]
    by_cases hd : d = ""
    · simp only [hd, if_true, List.nil_append]
      exact ih (k + 1) i (by omega)
    · simp only [hd, if_false, List.cons_append, List.nil_append, commentAt_cons]
      have : (k == i) = false := by simp only [beq_eq_false_iff_ne, ne_eq]; omega
      simp only [this, Bool.false_eq_true, if_false]
      exact ih (k + 1) i (by omega)

/-- reading the comments back by index gives every option its own description -/
theorem map_commentAt (l : List String) : ∀ k : Nat,
    (List.range' k l.length).map (commentAt (commentsFrom k l)) = l := by
  induction l with
  | nil => intro k; rfl
  | cons d r ih =>
    intro k
    simp only [List.length_cons, List.range'_succ, List.map_cons]
    have hhead : commentAt (commentsFrom k (d :: r)) k = d := by
      simp only [commentsFrom]
      by_cases hd : d = ""
      · simp only [hd, if_true, List.nil_append]
        exact commentAt_lt r (k + 1) k (by omega)
      · simp only [hd, if_false, List.cons_append, List.nil_append, commentAt_cons, beq_self_eq_true, if_true]
    have htail : (List.range' (k + 1) r.length).map (commentAt (commentsFrom k (d :: r))) =
        (List.range' (k + 1) r.length).map (commentAt (commentsFrom (k + 1) r)) := by
      apply List.map_congr_left
      intro i hi
      have hge : k + 1 ≤ i := (List.mem_range'_1.mp hi).1
      simp only [commentsFrom]
      by_cases hd : d = ""
      · simp only [hd, if_true, List.nil_append]
      · simp only [hd, if_false, List.cons_append, List.nil_append, commentAt_cons]
        have : (k == i) = false := by simp only [beq_eq_false_iff_ne, ne_eq]; omega
        simp only [this, Bool.false_eq_true, if_false]
    rw [hhead, htail, ih (k + 1)]

theorem numberFrom_map_trim (d : EnumDecl) (k : Nat) (l : List String) :
    (numberFrom d.pfx k l).map (fun v => trimPrefix d.pfx v.1) = l.map (normEnumName d) := by
  induction l generalizing k with
  | nil => rfl
  | cons o r ih => simp [numberFrom, normEnumName, ih]

theorem numberFrom_length (pre : String) (l : List String) : ∀ k, (numberFrom pre k l).length = l.length := by
  induction l with
  | nil => intro k; rfl
  | cons o r ih => intro k; simp [numberFrom, ih]

theorem optDescs_length (d : EnumDecl) : d.optDescs.length = d.options.length := by
  simp [EnumDecl.optDescs]

theorem rest_length (d : EnumDecl) :
    d.rest.length + (if d.isExplicit then 1 else 0) = d.options.length := by
  obtain ⟨name, dp, dflt, opts, desc, descs⟩ := d
  cases opts with
  | nil => simp [EnumDecl.rest, EnumDecl.isExplicit]
  | cons o r =>
    unfold EnumDecl.rest EnumDecl.isExplicit
    simp only
    split <;> simp_all

/-- the descriptions the reader finds for the compiled values are the declared ones -/
theorem descs_read (d : EnumDecl) :
    (List.range d.values.length).map (commentAt d.comments) = d.valueDescs := by
  have hl := rest_length d
  have ho := optDescs_length d
  rw [values_general d]
  simp only [List.length_cons, numberFrom_length]
  unfold EnumDecl.comments EnumDecl.valueDescs
  cases he : d.isExplicit with
  | true =>
    simp only [he, if_true] at hl ⊢
    have : d.rest.length + 1 = d.optDescs.length := by omega
    rw [this, List.range_eq_range', map_commentAt]
  | false =>
    simp only [he, Bool.false_eq_true, if_false, Nat.add_zero] at hl ⊢
    have : d.rest.length = d.optDescs.length := by omega
    rw [this, List.range_succ_eq_map, List.map_cons, List.map_map]
    have h0 : commentAt (commentsFrom 1 d.optDescs) 0 = "" := commentAt_lt _ 1 0 (by omega)
    rw [h0]
    have h1 := map_commentAt d.optDescs 1
    rw [List.range'_eq_map_range, List.map_map] at h1
    have h2 : (commentAt (commentsFrom 1 d.optDescs) ∘ fun x => 1 + x) =
        (commentAt (commentsFrom 1 d.optDescs) ∘ Nat.succ) := by
      funext x; simp [Nat.add_comm]
    rw [h2] at h1
    rw [h1]

theorem buildEnum_plain (d : EnumDecl) :
    buildEnum d.values d.comments = .ok { pfx := d.pfx, options := d.values.map fun nk => (trimPrefix d.pfx nk.1, nk.2),
                                           descs := d.valueDescs } := by
  have hd := descs_read d
  rw [values_general d] at hd ⊢
  simp only [buildEnum, hasSuffix_append, trimSuffix_append, Bool.not_true, Bool.false_eq_true, if_false, hd]

theorem readDecl_norm (d : EnumDecl) :
    readDecl d.name d.description { pfx := d.pfx, options := d.values.map fun nk => (trimPrefix d.pfx nk.1, nk.2),
                                    descs := d.valueDescs } = normDecl d := by
  simp [readDecl, normDecl, List.map_map, Function.comp_def]

/-- the numbers `mapValues` gives for admissible names are read back as those names, in normal form -/
theorem names_read (d : EnumDecl) (names : List String)
    (h : names.all (fun n => (d.numberOf n).isSome) = true) :
    namesOf (d.values.map fun nk => (trimPrefix d.pfx nk.1, nk.2)) (names.filterMap d.numberOf)
      = .ok (names.map (normEnumName d)) ∧
    namesOfNotIn (d.values.map fun nk => (trimPrefix d.pfx nk.1, nk.2)) (names.filterMap d.numberOf)
      = .ok (names.map (normEnumName d)) := by
  induction names with
  | nil => exact ⟨rfl, rfl⟩
  | cons x rest ih =>
    simp only [List.all_cons, Bool.and_eq_true] at h
    obtain ⟨v, hv⟩ := Option.isSome_iff_exists.mp h.1
    obtain ⟨h1, h2⟩ := ih h.2
    have hr := numberOf_read d x v hv
    simp only [List.filterMap_cons, hv, namesOf, namesOfNotIn, hr, h1, h2, List.map_cons, and_self]

end J5V.Rules
