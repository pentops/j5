import J5V.Rules.WriterProofs
/-!
# protovalidate on what the writer emits

Item level: the constraint of `annotOf s` accepts exactly the values the j5s rules allow
(`validate_equiv`). Field level: `pvField` on the `(buf.validate.field)` that
`fieldValidate` makes for a single field, an array and a map, in closed form.
-/
namespace J5V.Rules
open J5V.Go

theorem contains_filterMap {α} (f : α → Option Int) (l : List α) (n : Int) :
    (l.filterMap f).contains n = l.any (fun x => f x == some n) := by
  rw [Bool.eq_iff_iff]
  simp only [List.contains_iff_mem, List.mem_filterMap, List.any_eq_true, beq_iff_eq]

theorem isEmpty_filterMap {α β} (f : α → Option β) (l : List α) (h : l.all (fun x => (f x).isSome) = true) :
    (l.filterMap f).isEmpty = l.isEmpty := by
  cases l with
  | nil => rfl
  | cons x r =>
    simp only [List.all_cons, Bool.and_eq_true] at h
    obtain ⟨v, hv⟩ := Option.isSome_iff_exists.mp h.1
    simp [hv]

/-- item level: the constraint `buildField` emits accepts exactly the values the rules allow -/
theorem validate_equiv (M : Matcher) (hM : ∀ x, M.run id62Pattern x = id62Shape x)
    (s : Schema) (hwf : schemaWF s = true) (x : Scalar) (hx : x.hasKind s = true) :
    evalOpt M (definedOfSchema s) (annotOf s).validate x = j5Item M s x := by
  -- a value of another kind than the schema's is not well typed
  cases s <;> cases x <;> try exact Bool.noConfusion hx
  case string.str fmt rules lr x =>
    cases rules <;> simp [annotOf, evalOpt, evalItem, evalString, j5Item, optAll]
  case integer.int fmt rules lr n =>
    cases rules with
    | none => simp [annotOf, evalOpt, j5Item, optAll]
    | some r => simp [annotOf, evalOpt, evalItem, j5Item, optAll, evalInt_closed r (intRulesWF_ord hwf)]
  case float.float is64 lr nz => simp [annotOf, evalOpt, j5Item]
  case bool.bool rules lr b => cases rules <;> simp [annotOf, evalOpt, evalItem, j5Item, optAll]
  case bytes.bytes rules b => cases rules <;> simp [annotOf, evalOpt, evalItem, j5Item, optAll]
  case key.str format entity lr x =>
    rcases format with _ | _ | p | _ | _ <;>
      simp [annotOf, evalOpt, evalItem, evalString, keyStringC, j5Item, optAll, hM]
  case enum.enum decl rules lr n =>
    cases rules with
    | none => simp [annotOf, evalOpt, evalItem, evalEnum, j5Item, optAll, definedOfSchema]
    | some r =>
      simp only [schemaWF, enumRulesWF, Bool.and_eq_true] at hwf
      simp only [annotOf, Option.elim_some, evalOpt, evalItem, evalEnum, contains_filterMap,
        isEmpty_filterMap _ _ hwf.1.1, j5Item, optAll, definedOfSchema]
      simp [Bool.and_assoc]
  case object.msg ref flatten hasRules =>
    cases hasRules <;> simp [annotOf, evalOpt, evalItem, j5Item, Schema.isMessage]
  case oneof.msg ref hasRules lr =>
    cases hasRules <;> simp [annotOf, evalOpt, evalItem, j5Item, Schema.isMessage]
  case timestamp.msg hasRules lr =>
    cases hasRules <;> simp [annotOf, evalOpt, evalItem, j5Item, Schema.isMessage]
  case date.msg rules lr => simp [annotOf, evalOpt, j5Item, Schema.isMessage]
  case decimal.msg rules lr => simp [annotOf, evalOpt, j5Item, Schema.isMessage]
  case any.msg od types lr => simp [annotOf, evalOpt, j5Item, Schema.isMessage]

theorem all_validate_equiv (M : Matcher) (hM : ∀ x, M.run id62Pattern x = id62Shape x)
    (s : Schema) (hwf : schemaWF s = true) (xs : List Scalar) (hk : xs.all (·.hasKind s) = true) :
    xs.all (evalOpt M (definedOfSchema s) (annotOf s).validate) = xs.all (j5Item M s) := by
  induction xs with
  | nil => rfl
  | cons x xs ih =>
    simp only [List.all_cons, Bool.and_eq_true] at hk ⊢
    rw [validate_equiv M hM s hwf x hk.1, ih hk.2]

theorem ofBool_eq_accept (b : Bool) : ofBool b = Verdict.accept ↔ b = true := by
  cases b <;> simp [ofBool]

theorem pv_single (M : Matcher) (defined : List Int) (s : Schema) (vo : Option ItemC) (req pres : Bool) (x : Scalar) :
    pvField M defined (fieldValidate (.single s) vo req) pres (.single x) =
      ofBool ((!req || pres || !x.isZero) && evalOpt M defined vo x) := by
  cases req <;> cases vo <;> cases pres <;> cases hz : x.isZero <;>
    simp [fieldValidate, setRequired, pvField, fieldHas, hz, evalOpt, ofBool] <;> rfl

theorem pv_single_absent (M : Matcher) (defined : List Int) (s : Schema) (vo : Option ItemC) (req : Bool) :
    pvField M defined (fieldValidate (.single s) vo req) true .absent = ofBool (!req) := by
  cases req <;> cases vo <;> simp [fieldValidate, setRequired, pvField, fieldHas, ofBool]

/-- `required` on a list-valued field only adds the test for emptiness -/
theorem pvField_setRequired_list (M : Matcher) (defined : List Int) (c : Option FieldC) (xs : List Scalar) :
    pvField M defined (setRequired c) false (.list xs) =
      if xs.isEmpty then .reject else pvField M defined c false (.list xs) := by
  rcases c with _ | ⟨r, t⟩ <;> cases h : xs.isEmpty <;> simp [setRequired, pvField, fieldHas, h]

theorem pv_array (M : Matcher) (defined : List Int) (s : Schema) (vo : Option ItemC) (rules : Option ArrayRules)
    (sf : Option String) (req : Bool) (xs : List Scalar)
    (hne : ¬ ((rules.bind (·.uniqueItems)) == some true && xs.any isMsgScalar) = true) :
    pvField M defined (fieldValidate (.array s rules sf) vo req) false (.list xs) =
      ofBool ((!req || !xs.isEmpty) &&
        optAll rules (fun r =>
          optAll r.minItems (fun n => decide (n ≤ xs.length)) &&
          optAll r.maxItems (fun n => decide (xs.length ≤ n)) &&
          (!(r.uniqueItems == some true) || allDistinct xs)) &&
        xs.all (evalOpt M defined vo)) := by
  have base : pvField M defined (wrapArray vo rules) false (.list xs) =
      ofBool (optAll rules (fun r =>
          optAll r.minItems (fun n => decide (n ≤ xs.length)) &&
          optAll r.maxItems (fun n => decide (xs.length ≤ n)) &&
          (!(r.uniqueItems == some true) || allDistinct xs)) &&
        xs.all (evalOpt M defined vo)) := by
    cases rules with
    | none => cases vo <;> simp [wrapArray, pvField, optAll, evalOpt, ofBool, evalRepeated]
    | some r =>
      have hne' : ¬ (r.uniqueItems == some true && xs.any isMsgScalar) = true := by simpa using hne
      cases vo <;> simp [wrapArray, pvField, optAll, evalOpt, ofBool, evalRepeated, hne']
  cases req
  · exact base
  · rw [fieldValidate, if_pos rfl, pvField_setRequired_list, base]
    cases xs.isEmpty <;> rfl


theorem pv_map (M : Matcher) (defined : List Int) (s : Schema) (vo : Option ItemC) (rules : Option MapRules)
    (sf : Option String) (req : Bool) (xs : List Scalar) :
    pvField M defined (fieldValidate (.map s rules sf) vo req) false (.list xs) =
      ofBool ((!req || !xs.isEmpty) &&
        optAll rules (fun r =>
          optAll r.minPairs (fun n => decide (n ≤ xs.length)) &&
          optAll r.maxPairs (fun n => decide (xs.length ≤ n))) &&
        xs.all (evalOpt M defined vo)) := by
  have base : pvField M defined (wrapMap vo rules) false (.list xs) =
      ofBool (optAll rules (fun r =>
          optAll r.minPairs (fun n => decide (n ≤ xs.length)) &&
          optAll r.maxPairs (fun n => decide (xs.length ≤ n))) &&
        xs.all (evalOpt M defined vo)) := by
    cases rules <;> cases vo <;> simp [wrapMap, pvField, optAll, evalOpt, ofBool, evalMap]
  cases req
  · exact base
  · rw [fieldValidate, if_pos rfl, pvField_setRequired_list, base]
    cases xs.isEmpty <;> rfl

theorem isMessage_of_any_msg {s : Schema} {xs : List Scalar} (hk : xs.all (·.hasKind s) = true)
    (hm : xs.any isMsgScalar = true) : s.isMessage = true := by
  obtain ⟨y, hy, hym⟩ := List.any_eq_true.mp hm
  have hyk := List.all_eq_true.mp hk y hy
  cases y <;> first | exact Bool.noConfusion hym | exact hyk

theorem compileRules_pv_equiv (M : Matcher) (hM : ∀ x, M.run id62Pattern x = id62Shape x)
    (optPres : Bool) (p : Property) (v : FieldVal)
    (hwf : WFRules p = true) (hty : WellTyped optPres p v = true) :
    ∃ c, compileRules p = .ok c ∧
      pvField M (definedOfSchema p.schema.item) c (p.hasPresence optPres) v =
        ofBool (j5Accepts M optPres p v) := by
  simp only [WFRules, Bool.and_eq_true, Bool.not_eq_true'] at hwf
  obtain ⟨⟨hs, hnot⟩, harr⟩ := hwf
  refine ⟨_, compileRules_eq p hs hnot, ?_⟩
  obtain ⟨name, num, req, opt, desc, schema⟩ := p
  cases schema with
  | single s =>
    cases v with
    | absent =>
      have hp : (Property.hasPresence ⟨name, num, req, opt, desc, .single s⟩ optPres) = true := by
        simpa [WellTyped] using hty
      simp only [hp, pv_single_absent]
      simp [j5Accepts]
    | single x =>
      have hk : x.hasKind s = true := by simpa [WellTyped] using hty
      simp only [pv_single, FieldSchema.item, validate_equiv M hM s hs x hk]
      simp [j5Accepts]
    | list xs => simp [WellTyped] at hty
  | array s rules sf =>
    cases v with
    | absent => simp [WellTyped] at hty
    | single x => simp [WellTyped] at hty
    | list xs =>
      have hk : xs.all (·.hasKind s) = true := by simpa [WellTyped] using hty
      have hne : ¬ ((rules.bind (·.uniqueItems)) == some true && xs.any isMsgScalar) = true := by
        intro hcon
        simp only [Bool.and_eq_true] at hcon
        have := isMessage_of_any_msg hk hcon.2
        cases rules <;> simp_all
      have hpres : (Property.hasPresence ⟨name, num, req, opt, desc, .array s rules sf⟩ optPres) = false := rfl
      simp only [hpres, pv_array M _ s _ rules sf _ xs hne, FieldSchema.item, all_validate_equiv M hM s hs xs hk]
      simp [j5Accepts]
  | map s rules sf =>
    cases v with
    | absent => simp [WellTyped] at hty
    | single x => simp [WellTyped] at hty
    | list xs =>
      have hk : xs.all (·.hasKind s) = true := by simpa [WellTyped] using hty
      have hpres : (Property.hasPresence ⟨name, num, req, opt, desc, .map s rules sf⟩ optPres) = false := rfl
      simp only [hpres, pv_map M _ s _ rules sf _ xs, FieldSchema.item, all_validate_equiv M hM s hs xs hk]
      simp [j5Accepts]

end J5V.Rules
