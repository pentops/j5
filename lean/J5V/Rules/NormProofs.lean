import J5V.Rules.WriterProofs
import J5V.Rules.Norm
/-!
# The normal form means the same: `j5Accepts` does not tell `normField p` from `p`
-/
namespace J5V.Rules
open J5V.Go

theorem normExcl_beq (e : Option Bool) : (normExcl e == some true) = (e == some true) := by
  rcases e with _ | _ | _ <;> rfl

theorem intOk_norm (r : IntRules) (v : Int) : intOk (normIntRules r) v = intOk r v := by
  simp only [intOk, normIntRules, normExcl_beq]

/-- Not for enums, and not for want of a proof: under `declPrefix = some "UN"` the one option `A` gives
`UNUNSPECIFIED = 0, UNA = 1`, while `normDecl` has the options `UNSPECIFIED`, `A`, of which `UNSPECIFIED` trims to
`SPECIFIED`, no explicit zero: `UNUNSPECIFIED = 0, UNSPECIFIED = 1, UNA = 2`. -/
theorem j5Item_norm (M : Matcher) (hM : ∀ x, M.run id62Pattern x = id62Shape x) (s : Schema)
    (hne : s.isEnum = false) (b : Bool) (x : Scalar) : j5Item M (normSchema b s) x = j5Item M s x := by
  cases s with
  | enum d r lr => simp [Schema.isEnum] at hne
  | integer fmt rules lr =>
    cases x <;> try rfl
    cases rules <;> simp [normSchema, j5Item, optAll, intOk_norm]
  | bool rules lr =>
    cases x <;> try rfl
    rcases rules with _ | ⟨_ | c⟩ <;> rfl
  | bytes rules =>
    cases x <;> try rfl
    cases rules <;> simp [normSchema, j5Item, optAll]
  | key format entity lr =>
    cases x <;> try rfl
    -- only a custom pattern equal to the id62 one changes (array items): `hM` says it means the same
    rcases format with _ | _ | p | _ | _ <;> try (cases lr <;> rfl)
    by_cases hp : p = id62Pattern
    · subst hp; cases b <;> simp [normSchema, j5Item, normKeyFormat, hM]
    · simp [normSchema, j5Item, normKeyFormat, hp]
  | string f r lr => rfl
  | float b lr => rfl
  | object r f h => cases x <;> rfl
  | oneof r h lr => cases x <;> rfl
  | timestamp h lr => rfl
  | date r lr => rfl
  | decimal r lr => rfl
  | any o t lr => rfl

theorem isMessage_norm (b : Bool) (s : Schema) : (normSchema b s).isMessage = s.isMessage := by
  cases s <;> rfl

theorem schemaPrimary_norm (b : Bool) (s : Schema) : schemaPrimary (normSchema b s) = schemaPrimary s := by
  cases s with
  | key f e lr => rcases e with _ | ⟨_ | b | r, tk⟩ <;> first | rfl | (cases b <;> rfl)
  | _ => rfl

theorem primaryKey_norm (p : Property) : (normField p).primaryKey = p.primaryKey := by
  rw [primaryKey_eq, primaryKey_eq]
  obtain ⟨name, num, req, opt, desc, schema⟩ := p
  cases schema <;> simp [normField, normFieldSchema, FieldSchema.isMap, FieldSchema.item, schemaPrimary_norm]

theorem all_j5Item_norm (M : Matcher) (hM : ∀ x, M.run id62Pattern x = id62Shape x) (s : Schema)
    (hne : s.isEnum = false) (b : Bool) (xs : List Scalar) :
    xs.all (j5Item M (normSchema b s)) = xs.all (j5Item M s) := by
  congr 1; funext x; exact j5Item_norm M hM s hne b x

theorem j5Accepts_norm (M : Matcher) (hM : ∀ x, M.run id62Pattern x = id62Shape x) (optPres : Bool)
    (p : Property) (hne : p.schema.item.isEnum = false) (v : FieldVal) :
    j5Accepts M optPres (normField p) v = j5Accepts M optPres p v := by
  have hpk := primaryKey_norm p
  obtain ⟨name, num, req, opt, desc, schema⟩ := p
  have hreq : (normField ⟨name, num, req, opt, desc, schema⟩).effRequired =
      (Property.effRequired ⟨name, num, req, opt, desc, schema⟩) := by
    simp only [Property.effRequired, hpk]
    simp [normField, Property.effRequired]
  cases schema with
  | single s =>
    simp only [FieldSchema.item] at hne
    cases v with
    | absent => simp only [j5Accepts, normField, normFieldSchema] at hreq ⊢; simp [hreq]
    | single x =>
      have hi := j5Item_norm M hM s hne false x
      simp only [j5Accepts, normField, normFieldSchema, Property.hasPresence, isMessage_norm] at hreq ⊢
      simp [hreq, hi]
    | list xs => rfl
  | array s rules sf =>
    simp only [FieldSchema.item] at hne
    cases v with
    | absent => rfl
    | single x => rfl
    | list xs =>
      simp only [j5Accepts, normField, normFieldSchema] at hreq ⊢
      rw [hreq, all_j5Item_norm M hM s hne]
      cases rules with
      | some r => rfl
      | none => cases hasItemConstraint s <;> simp [optAll]
  | map s rules sf =>
    simp only [FieldSchema.item] at hne
    cases v with
    | absent => rfl
    | single x => rfl
    | list xs =>
      simp only [j5Accepts, normField, normFieldSchema] at hreq ⊢
      rw [hreq, all_j5Item_norm M hM s hne]
      cases rules with
      | some r => rfl
      | none => cases hasItemConstraint s <;> simp [optAll]

end J5V.Rules
