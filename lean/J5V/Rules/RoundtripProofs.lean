import J5V.Rules.WriterProofs
import J5V.Rules.EnumProofs
import J5V.Rules.Root
/-!
# C04: the reader on what the writer emits

`buildSchema` on the annotations of `annotOf s` gives `normSchema s` (`buildSchema_rt`, keys in
`key_rt`); `readField` on the record of `writeField_wf` gives `normField p` (`field_roundtrip`).
-/
namespace J5V.Rules
open J5V.Go

/-- the extension set the reader sees for the item type: the item constraint `vo`, the list
annotation, and the j5 annotation (`none` for array items: the array annotation replaced it). -/
def extsOf (a : ItemAnnot) (r : Option Bool) (vo : Option ItemC) (j : Option J5Ext) : Exts :=
  { validate := vo.map fun ic => { required := r, typ := .item ic }, list := a.list, j5 := j }

@[simp] theorem list_extsOf (a : ItemAnnot) (r : Option Bool) (vo : Option ItemC) (j : Option J5Ext) :
    (extsOf a r vo j).list = a.list := rfl

@[simp] theorem j5_extsOf (a : ItemAnnot) (r : Option Bool) (vo : Option ItemC) (j : Option J5Ext) :
    (extsOf a r vo j).j5 = j := rfl

@[simp] theorem itemC_extsOf (a : ItemAnnot) (r : Option Bool) (vo : Option ItemC) (j : Option J5Ext) :
    (extsOf a r vo j).itemC = vo := by
  cases vo <;> rfl

@[simp] theorem hasType_extsOf (a : ItemAnnot) (r : Option Bool) (vo : Option ItemC) (j : Option J5Ext) :
    (extsOf a r vo j).hasType = (match vo with | some .none => false | some _ => true | none => false) := by
  cases vo with
  | none => rfl
  | some ic => cases ic <;> rfl

theorem wk_id62 : wellKnownStringPattern id62Pattern = some "id62" := by decide +kernel

/-- the entity key `buildFromStringProto` makes of the `(j5.ext.v1.key)` options -/
def psmEntity (k : PsmKey) : EntityKey :=
  { tenantKey := k.tenantType,
    typ := if k.primaryKey then .primary true
           else match k.foreignKey with | some r => .foreign r | none => .none }

theorem psmEntity_entityPsm (e : EntityKey) : psmEntity (entityPsm e) = normEntity e := by
  obtain ⟨t, tk⟩ := e
  cases t with
  | none => rfl
  | primary b => cases b <;> rfl
  | foreign r => rfl

/-- An array item or map value has lost the key annotation (and, by `hwf`, has no entity), so what is left must say
"key" again: `uuid` and `id62` do; a custom pattern only as the id62 pattern without list rules (read as `id62`, N6;
with them the slot `unique_string` contradicts that format: reader error); no format / `informal` only with list
rules (slot `unique_string` reads as `natural_key`). -/
theorem key_rt (inArray : Bool) (format : Option KeyFormat) (entity : Option EntityKey) (lr : ListRules)
    (hwf : schemaWFField inArray (.key format entity lr) = true)
    (r : Option Bool) (j : Option J5Ext)
    (hj : j = if inArray then none else some (.key (keyExtPattern format))) :
    buildFromStringProto
      { validate := format.map fun f => { required := r, typ := .item (.string (keyStringC f)) },
        list := lr.map fun p => .foreignKey (slotOf format) p, j5 := j }
      (entity.map entityPsm) = .ok (normSchema inArray (.key format entity lr)) := by
  subst hj
  have hent : entity.map normEntity = (entity.map entityPsm).map psmEntity := by
    rw [Option.map_map]; congr 1; funext e; exact (psmEntity_entityPsm e).symm
  simp only [normSchema, hent]
  cases inArray with
  | false =>
    -- the field's own key annotation is there: a key whatever the options say, and a custom pattern stays
    generalize entity.map entityPsm = psm
    rcases format with _ | _ | p | _ | _ <;> cases lr <;>
      simp [buildFromStringProto, normKeyFormat, slotOf, keyExtPattern, Exts.hasType, Exts.itemC, keyFormatOfString,
        keyStringC, wk_id62] <;> rfl
  | true =>
    -- the array annotation has replaced the key annotation: what is left must make it a key again
    simp only [schemaWFField, if_true, Bool.and_eq_true, Option.isNone_iff_eq_none] at hwf
    obtain ⟨rfl, hf⟩ := hwf
    rcases format with _ | _ | p | _ | _ <;> cases lr <;>
      simp_all [buildFromStringProto, normKeyFormat, slotOf, Exts.hasType, Exts.itemC, keyFormatOfString,
        keyStringC, wk_id62]


theorem readCast_id (fmt : IntFormat) (m : Int) (h : int64Range m = true) (h2 : fmt.inRange m = true) :
    readCast fmt m = m := by
  cases fmt <;> simp only [readCast]
  rw [inRange_iff] at h2
  simp only [IntFormat.lo, IntFormat.hi] at h2
  simp only [int64Range, Bool.and_eq_true, decide_eq_true_eq] at h
  simp only [wrapSigned]
  split <;> omega

theorem normExcl_eq (e : Option Bool) : normExcl e = if e = some true then some true else none := by
  rcases e with _ | _ | _ <;> rfl

theorem readInt_closed (fmt : IntFormat) (r : IntRules) (h : intRulesWF fmt r = true)
    (h1 : optAll r.minimum int64Range = true) (h2 : optAll r.maximum int64Range = true) :
    readIntRules (mapUB (readCast fmt) (ubOf r)) (mapLB (readCast fmt) (lbOf r)) = normIntRules r := by
  obtain ⟨mn, mx, emn, emx⟩ := r
  simp only [intRulesWF, Bool.and_eq_true, Bool.or_eq_true] at h
  obtain ⟨⟨⟨⟨hmn, hmx⟩, he1⟩, he2⟩, _⟩ := h
  simp only [normIntRules, normExcl_eq, ubOf, lbOf]
  by_cases hn : emn = some true <;> by_cases hx : emx = some true <;> cases mn <;> cases mx <;>
    simp_all [optAll, mapUB, mapLB, readIntRules, readCast_id]

/-! ## the item schema is read back in normal form -/

theorem listPayload_map (slot : ListExt → Option LRPayload) (ctor : LRPayload → ListExt)
    (h : ∀ p, slot (ctor p) = some p) (lr : ListRules) : listPayload slot (lr.map ctor) = lr := by
  cases lr <;> simp [listPayload, h]

/-- an empty constraint (what `getProtoFieldExtensions` makes of a missing annotation, or what is
left of one that only says `required`) reads as no constraint -/
theorem buildSchema_empty_validate (kind : ProtoKind) (r : Option Bool) (l : Option ListExt) (j : Option J5Ext)
    (psm : Option PsmKey) :
    buildSchema kind { validate := some { required := r, typ := .item .none }, list := l, j5 := j } psm =
      buildSchema kind { validate := none, list := l, j5 := j } psm := by
  cases kind with
  | message m => cases m <;> rfl
  | _ => rfl

theorem buildSchema_rt (inArray : Bool) (s : Schema) (hwf : schemaWFField inArray s = true)
    (r : Option Bool) (j : Option J5Ext) (hj : j = if inArray then none else (annotOf s).j5) :
    buildSchema (annotOf s).kind (extsOf (annotOf s) r (annotOf s).validate j) (annotOf s).psmKey =
      .ok (normSchema inArray s) := by
  cases s <;> simp only [annotOf] at hj ⊢
  case float is64 lr => cases is64 <;> simp [buildSchema, listPayload_map, normSchema]
  case bool rules lr => rcases rules with _ | ⟨_ | c⟩ <;> simp [buildSchema, listPayload_map, normSchema]
  case bytes rules => cases rules <;> simp [buildSchema, normSchema]
  case date rules lr =>
    have hj' : j = rules.map .date := by cases inArray <;> cases rules <;> simp_all [schemaWFField]
    subst hj'
    cases rules <;> simp [buildSchema, listPayload_map, normSchema]
  case decimal rules lr =>
    have hj' : j = rules.map .decimal := by cases inArray <;> cases rules <;> simp_all [schemaWFField]
    subst hj'
    cases rules <;> simp [buildSchema, listPayload_map, normSchema]
  case timestamp hasRules lr => cases hasRules <;> simp [buildSchema, listPayload_map, normSchema]
  case oneof ref hasRules lr => simp [buildSchema, listPayload_map, normSchema]
  case object ref flatten hasRules =>
    subst hj
    cases inArray <;> simp_all [buildSchema, normSchema, schemaWFField]
  case any od types lr =>
    subst hj
    cases inArray <;> simp_all [buildSchema, listPayload_map, normSchema, schemaWFField]
  case integer fmt rules lr =>
    cases rules with
    | none => simp [buildSchema, listPayload_map, normSchema]
    | some ir =>
      simp only [schemaWFField, Bool.and_eq_true] at hwf
      obtain ⟨⟨hw, h1⟩, h2⟩ := hwf
      simp [buildSchema, listPayload_map, normSchema, readInt_closed fmt ir hw h1 h2]
  case string fmt rules lr =>
    subst hj
    simp only [schemaWFField, Bool.and_eq_true, Option.isNone_iff_eq_none] at hwf
    obtain ⟨rfl, hp⟩ := hwf
    -- the field's own string annotation keeps the pattern; an array item relies on `hp`
    rcases rules with _ | ⟨mn, mx, _ | p⟩ <;> cases inArray <;> cases lr <;>
      simp_all [buildSchema, buildFromStringProto, normSchema]
  case key format entity lr =>
    simp only [extsOf, buildSchema, Option.map_map]
    exact key_rt inArray format entity lr hwf r j hj
  case enum d rules lr =>
    simp only [schemaWFField, Bool.and_eq_true] at hwf
    cases rules with
    | none =>
      simp [buildSchema, buildEnum_plain d, readDecl_norm, namesOf, namesOfNotIn, listPayload_map, normSchema]
    | some er =>
      simp only [enumRulesWF, Bool.and_eq_true] at hwf
      simp [buildSchema, buildEnum_plain d, readDecl_norm, (names_read d er.inn hwf.1.1).1,
        (names_read d er.notIn hwf.1.2).2, listPayload_map, normSchema]

theorem schemaWF_of_field (b : Bool) (s : Schema) (h : schemaWFField b s = true) : schemaWF s = true := by
  cases s with
  | integer fmt rules lr =>
    cases rules with
    | none => rfl
    | some r => simp only [schemaWFField, Bool.and_eq_true] at h; exact h.1.1
  | enum d rules lr =>
    simp only [schemaWFField, Bool.and_eq_true] at h
    simp only [schemaWF, Bool.and_eq_true]
    exact h
  | _ => rfl

theorem isSome_validate_annotOf (s : Schema) : (annotOf s).validate.isSome = hasItemConstraint s := by
  have ite_isSome : ∀ (b : Bool) (c : ItemC), (if b then some c else none).isSome = b := by
    intro b c; cases b <;> rfl
  cases s <;> simp [annotOf, hasItemConstraint, ite_isSome]

theorem list_annotOf (s : Schema) (h : s.listRules = none) : (annotOf s).list = none := by
  cases s <;> simp_all [annotOf, Schema.listRules]

theorem getD_fieldValidate_single (s : Schema) (v : Option ItemC) (req : Bool) :
    (fieldValidate (.single s) v req).getD {} =
      { required := if req then some true else none, typ := .item (v.getD .none) } := by
  cases v <;> cases req <;> rfl

theorem getD_fieldValidate_array (s : Schema) (rules : Option ArrayRules) (sf : Option String)
    (v : Option ItemC) (req : Bool) :
    (fieldValidate (.array s rules sf) v req).getD {} =
      { required := if req then some true else none,
        typ := if v.isSome || rules.isSome then
                 .repeated { minItems := rules.bind (·.minItems), maxItems := rules.bind (·.maxItems),
                             unique := rules.bind (·.uniqueItems), items := v }
               else .item .none } := by
  cases v <;> cases rules <;> cases req <;> rfl

theorem getD_fieldValidate_map (s : Schema) (rules : Option MapRules) (sf : Option String)
    (v : Option ItemC) (req : Bool) :
    (fieldValidate (.map s rules sf) v req).getD {} =
      { required := if req then some true else none,
        typ := if v.isSome || rules.isSome then
                 .map { minPairs := rules.bind (·.minPairs), maxPairs := rules.bind (·.maxPairs), values := v }
               else .item .none } := by
  cases v <;> cases rules <;> cases req <;> rfl

/-- `required` of the validate annotation as `getProtoFieldExtensions` presents it -/
theorem required_getD_fieldValidate (schema : FieldSchema) (v : Option ItemC) (req : Bool) :
    (((fieldValidate schema v req).getD {}).required == some true) = req := by
  cases schema <;>
    simp only [getD_fieldValidate_single, getD_fieldValidate_array, getD_fieldValidate_map] <;> cases req <;> rfl

/-- `required` comes back by `required_getD_fieldValidate`, the item schema by `buildSchema_rt` on what `readField`
hands to `buildSchema`: a single field's whole annotation; for an array / map the container constraint
(`getD_fieldValidate_array` / `_map`) split into the container rules — `some {}` when only the item has a
constraint — and the item constraint. -/
theorem write_read (p : Property) (h : WFField p = true) :
    ∃ a, writeField p = .ok a ∧ readField a = .ok (normField p) := by
  simp only [WFField, Bool.and_eq_true, Bool.not_eq_true'] at h
  obtain ⟨⟨⟨hs, hml⟩, hnot⟩, harr⟩ := h
  refine ⟨_, writeField_wf p (schemaWF_of_field _ _ hs) hnot, ?_⟩
  have hrt := buildSchema_rt _ _ hs
  have hic := isSome_validate_annotOf p.schema.item
  simp only [readField, topExts, required_getD_fieldValidate, normField]
  generalize p.effRequired = R at hnot ⊢
  obtain ⟨name, num, req, opt, desc, schema⟩ := p
  cases schema with
  | single s =>
    simp only [FieldSchema.item, FieldSchema.isArray, FieldSchema.isMap, Bool.or_self] at hrt ⊢
    have hopt : (!R && opt) = opt := by cases R <;> cases opt <;> first | rfl | exact Bool.noConfusion hnot
    have := hrt (if R then some true else none) (annotOf s).j5 rfl
    simp only [extsOf] at this
    simp only [Bool.false_eq_true, if_false, getD_fieldValidate_single, fieldJ5, normFieldSchema, hopt]
    cases hv : (annotOf s).validate <;> simp only [hv, Option.map_none, Option.map_some] at this <;>
      simp only [Option.getD_none, Option.getD_some, buildSchema_empty_validate, this]
  | array s rules sf =>
    simp only [FieldSchema.item, FieldSchema.isArray, FieldSchema.isMap, Bool.or_false, Bool.true_and] at hrt hic harr ⊢
    subst harr
    have h0 := hrt none none rfl
    simp only [extsOf] at h0
    simp only [if_true, getD_fieldValidate_array, fieldJ5, normFieldSchema, ← hic]
    generalize (annotOf s).validate = v at h0 ⊢
    cases v <;> cases rules <;> simp only [Option.map_none, Option.map_some] at h0 <;> simp [Exts.repeatedC, h0]
  | map s rules sf =>
    simp only [FieldSchema.item, FieldSchema.isArray, FieldSchema.isMap, Bool.false_or, Bool.true_and] at hrt hic harr hml ⊢
    subst harr
    have hl := list_annotOf s (by simpa using hml)
    have h0 := hrt none none rfl
    simp only [extsOf, hl] at h0
    simp only [if_true, Bool.false_eq_true, if_false, getD_fieldValidate_map, fieldJ5, normFieldSchema, ← hic]
    generalize (annotOf s).validate = v at h0 ⊢
    cases v <;> cases rules <;> simp only [Option.map_none, Option.map_some] at h0 <;> simp [Exts.mapC, h0]

theorem field_roundtrip (p : Property) (h : WFField p = true) : roundtrip p = .ok (normField p) := by
  obtain ⟨a, hw, hr⟩ := write_read p h
  simp only [roundtrip, hw, hr]

theorem writeField_ok (p : Property) (a : Annot) (h : writeField p = .ok a) :
    a.jsonName = p.name ∧ a.protoName = snakeName p.name ∧ a.number = p.number ∧
      a.description = p.description := by
  unfold writeField at h
  split at h <;> try (simp at h)
  split at h <;> simp at h
  subst h
  exact ⟨rfl, rfl, rfl, rfl⟩

theorem readField_ok (a : Annot) (q : Property) (h : readField a = .ok q) :
    q.name = a.jsonName ∧ q.number = a.number ∧ q.description = a.description := by
  unfold readField at h
  simp only at h
  split at h
  · split at h <;> simp at h
    subst h; exact ⟨rfl, rfl, rfl⟩
  · split at h
    · split at h <;> simp at h
      subst h; exact ⟨rfl, rfl, rfl⟩
    · split at h <;> simp at h
      subst h; exact ⟨rfl, rfl, rfl⟩

theorem writeAll_readAll (ps : List Property) (h : ps.all WFField = true) :
    ∃ as, writeAll ps = .ok as ∧ readAll as = .ok (ps.map normField) := by
  induction ps with
  | nil => exact ⟨[], rfl, rfl⟩
  | cons p rest ih =>
    simp only [List.all_cons, Bool.and_eq_true] at h
    obtain ⟨as, hw, hr⟩ := ih h.2
    obtain ⟨a, hwa, hra⟩ := write_read p h.1
    exact ⟨a :: as, by simp only [writeAll, hwa, hw], by simp only [readAll, hra, hr, List.map_cons]⟩

theorem root_roundtrip (env : RefPsm) (r : RootDecl) (h : WFRoot env r = true) :
    rootRoundtrip env r = .ok { r with properties := r.properties.map normField } := by
  obtain ⟨kind, name, desc, ent, anym, props⟩ := r
  simp only [WFRoot, Bool.and_eq_true] at h
  obtain ⟨hp, hk⟩ := h
  obtain ⟨as, hw, hr⟩ := writeAll_readAll props hp
  cases kind with
  | oneof =>
    simp only [Bool.and_eq_true, Option.isNone_iff_eq_none, List.isEmpty_iff] at hk
    obtain ⟨he, ha⟩ := hk
    subst he; subst ha
    simp [rootRoundtrip, writeRoot, hw, readRoot, hr]
  | object =>
    cases ent with
    | some e =>
      simp [rootRoundtrip, writeRoot, hw, readRoot, hr, findPsm]
    | none =>
      have hk' : keysLookup env props = none := by simpa using hk
      simp [rootRoundtrip, writeRoot, hw, readRoot, hr, findPsm, hk']

end J5V.Rules
