import J5V.Go.Outcome
import J5V.Compile.Strcase
import J5V.Rules.Types
/-!
# The writer: `internal/j5s/j5convert/fields.go` `buildField` / `buildProperty`

`writeField` produces the annotation record of one compiled field; `compileRules` is its
`(buf.validate.field)` component. The model follows the code with the `fix:` commits listed in
`/verif/known_findings.d/rules.json` applied (inclusivity, array rules, custom key pattern,
timestamp / any / FLOAT64 list rules). Type resolution (`ww.resolveType`) and imports are outside
this cluster: references are assumed to resolve.

Calls are matched on their three results (`.err t => .err t`, `.panic w => .panic w`) and not written with
`Outcome.bind`, here and in `Reader`, `Root`, `Norm`: an `.err` arm is one `if err != nil { return … }` of the source,
and the proofs replace whole functions by closed forms (`annotOf`) instead of reasoning about the plumbing.
-/
namespace J5V.Rules
open J5V.Go

/-! ## Go integer conversions of the bounds (`int32(x)`, `uint32(x)`, `uint64(x)` on an int64) -/

/-- two's-complement wrap of `x` to a signed `bits`-bit integer -/
def wrapSigned (bits : Nat) (x : Int) : Int :=
  let m : Int := 2 ^ bits
  let r := x % m          -- 0 ≤ r < m (Int.emod)
  if r < m / 2 then r else r - m

def castTo (f : IntFormat) (x : Int) : Int :=
  match f with
  | .i32 => wrapSigned 32 x
  | .i64 => x
  | .u32 => x % (2 ^ 32)
  | .u64 => x % (2 ^ 64)

/-! ## enum numbering (`visitEnumNode`) and name → number mapping (`enumTypeRef`, `mapValues`) -/

def hasPrefix (pre s : String) : Bool := pre.toList.isPrefixOf s.toList
def hasSuffix (suf s : String) : Bool := suf.toList.reverse.isPrefixOf s.toList.reverse

/-- `strings.TrimPrefix` -/
def trimPrefix (pre s : String) : String :=
  if hasPrefix pre s then String.ofList (s.toList.drop pre.length) else s

/-- `if !strings.HasPrefix(name, prefix) { name = prefix + name }` -/
def addPrefix (pre name : String) : String := if hasPrefix pre name then name else pre ++ name

def EnumDecl.pfx (e : EnumDecl) : String :=
  match e.declPrefix with
  | some p => if p = "" then e.defaultPrefix else p
  | none => e.defaultPrefix

def numberFrom (pre : String) : Nat → List String → List (String × Int)
  | _, [] => []
  | k, o :: rest => (addPrefix pre o, (k : Int)) :: numberFrom pre (k + 1) rest

/-- The values of the compiled enum in descriptor order: (full name, number). Option numbers of the
source are all zero for j5s text (the language has no way to set them short of `number = n`,
which the compiler ignores except for recognising an explicit first `UNSPECIFIED`). -/
def EnumDecl.values (e : EnumDecl) : List (String × Int) :=
  let pre := e.pfx
  match e.options with
  | [] => [(pre ++ "UNSPECIFIED", 0)]
  | o :: rest =>
    -- `isExplicitUnspecified`: only UNSPECIFIED itself (with or without the prefix) declared first
    -- replaces the implicit zero value
    if trimPrefix pre o == "UNSPECIFIED" then (addPrefix pre o, 0) :: numberFrom pre 1 rest
    else (pre ++ "UNSPECIFIED", 0) :: numberFrom pre 1 (o :: rest)

/-! ### descriptions of the options: leading comments in SourceCodeInfo (`enumBuilder.addValue`) -/

/-- the description declared for the `i`-th option -/
def EnumDecl.descOf (e : EnumDecl) (i : Nat) : String := (e.descs[i]?).getD ""

/-- one description per declared option (padded with `""`) -/
def EnumDecl.optDescs (e : EnumDecl) : List String := (List.range e.options.length).map e.descOf

/-- `isExplicitUnspecified(prefix, options[0])` -/
def EnumDecl.isExplicit (e : EnumDecl) : Bool :=
  match e.options with
  | o :: _ => trimPrefix e.pfx o == "UNSPECIFIED"
  | [] => false

/-- `e.comment([]int32{2, number}, schema.Description)` for every added value with a description:
the comment is filed under the value's NUMBER -/
def commentsFrom : Nat → List String → List (Nat × String)
  | _, [] => []
  | k, d :: rest => (if d = "" then [] else [(k, d)]) ++ commentsFrom (k + 1) rest

/-- the explicit zero option is value number 0, the others count from 1 -/
def EnumDecl.comments (e : EnumDecl) : List (Nat × String) :=
  commentsFrom (if e.isExplicit then 0 else 1) e.optDescs

/-- `EnumRef.ValMap` as `enumTypeRef` builds it: the implicit `prefix+"UNSPECIFIED" → 0` entry first,
then the values. -/
def EnumDecl.valMap (e : EnumDecl) : List (String × Int) :=
  (e.pfx ++ "UNSPECIFIED", 0) :: e.values

def lookupName (m : List (String × Int)) (name : String) : Option Int :=
  match m.find? (fun kv => kv.1 == name) with
  | some kv => some kv.2
  | none => none

/-- `EnumRef.mapValues` -/
def mapValues (e : EnumDecl) : List String → Outcome (List Int)
  | [] => .ok []
  | n :: rest =>
    match lookupName e.valMap (addPrefix e.pfx n) with
    | none => .err "enum value not found"
    | some v =>
      match mapValues e rest with
      | .ok vs => .ok (v :: vs)
      | .err t => .err t
      | .panic w => .panic w

/-! ## buildField -/

def id62Pattern : String := "^[0-9A-Za-z]{22}$"

structure ItemAnnot where
  kind : ProtoKind
  validate : Option ItemC
  j5 : Option J5Ext
  list : Option ListExt
  psmKey : Option PsmKey
  deriving DecidableEq, Repr

/-- `checkIntegerBound`: a bound (an int64 in the source) must be representable in the field's type -/
def boundFits (fmt : IntFormat) (b : Option Int) : Bool :=
  match b with
  | none => true
  | some v =>
    match fmt with
    | .i32 => decide (-(2 ^ 31) ≤ v) && decide (v ≤ 2 ^ 31 - 1)
    | .u32 => decide (0 ≤ v) && decide (v ≤ 2 ^ 32 - 1)
    | .u64 => decide (0 ≤ v)
    | .i64 => true

/-- the integer rules branch: the two pre-checks, the range checks, then lt/lte and gt/gte chosen
by the flags. The pre-checks fire on an explicit `false` only, as in the source (`!= nil && !*… && … == nil`). -/
def compileInt (fmt : IntFormat) (r : IntRules) : Outcome ItemC :=
  if r.exclusiveMinimum = some false ∧ r.minimum = none then
    .err "exclusive minimum requires minimum to be set"
  else if r.exclusiveMaximum = some false ∧ r.maximum = none then
    .err "exclusive maximum requires maximum to be set"
  else if !boundFits fmt r.minimum then .err "minimum is out of range"
  else if !boundFits fmt r.maximum then .err "maximum is out of range"
  else
    let ub : UpperB :=
      match r.maximum with
      | none => .none
      | some m => if r.exclusiveMaximum = some true then .lt (castTo fmt m) else .lte (castTo fmt m)
    let lb : LowerB :=
      match r.minimum with
      | none => .none
      | some m => if r.exclusiveMinimum = some true then .gt (castTo fmt m) else .gte (castTo fmt m)
    .ok (.int fmt ub lb)

def keyStringC : KeyFormat → StringC
  | .uuid => { uuid := true }
  | .id62 => { pattern := some id62Pattern }
  | .custom p => { pattern := some p }
  | .informal => {}

/-- the custom pattern is also recorded in `(j5.ext.v1.field).key.pattern` -/
def keyExtPattern : Option KeyFormat → Option String
  | some (.custom p) => some p
  | _ => none

def keyListExt (format : Option KeyFormat) (p : LRPayload) : Outcome ListExt :=
  match format with
  | none => .ok (.foreignKey .uniqueString p)
  | some .id62 => .ok (.foreignKey .id62 p)
  | some .uuid => .ok (.foreignKey .uuid p)
  | some (.custom _) => .ok (.foreignKey .uniqueString p)
  | some .informal => .ok (.foreignKey .uniqueString p)

def entityPsm (e : EntityKey) : PsmKey :=
  match e.typ with
  | .primary b => { primaryKey := b, tenantType := e.tenantKey }
  | .foreign r => { foreignKey := some r, tenantType := e.tenantKey }
  | .none => { tenantType := e.tenantKey }

/-- `st.Enum.ListRules.GetFiltering().GetDefaultFilters()` (nil-safe: absent messages give `[]`) -/
def lrDefaultFilters (lr : ListRules) : List String :=
  match lr with
  | some p => p.defaultFilters
  | none => []

def buildField : Schema → Outcome ItemAnnot
  | .object ref flatten hasRules =>
    .ok { kind := .message (.object ref), j5 := some (.object flatten), list := none, psmKey := none,
          validate := if hasRules then some .none else none }
  | .oneof ref hasRules lr =>
    .ok { kind := .message (.oneof ref), j5 := some .oneof, list := lr.map .oneof, psmKey := none,
          validate := if hasRules then some .none else none }
  | .enum decl rules lr =>
    match (match rules with
           | none => (Outcome.ok ([], []) : Outcome (List Int × List Int))
           | some r =>
             match mapValues decl r.inn with
             | .ok a =>
               (match mapValues decl r.notIn with
                | .ok b => .ok (a, b)
                | .err t => .err t
                | .panic w => .panic w)
             | .err t => .err t
             | .panic w => .panic w) with
    | .ok (a, b) =>
      -- `filtering.defaultFilters` of the list rules must name options of the enum (same spellings as
      -- in / notIn: with or without the prefix, case-sensitive); mirrors Go commit b6c593a
      match mapValues decl (lrDefaultFilters lr) with
      | .ok _ =>
        .ok { kind := .enum decl, j5 := some .enum, list := lr.map .enum, psmKey := none,
              validate := some (.enum (some true) a b) }
      | .err t => .err t
      | .panic w => .panic w
    | .err t => .err t
    | .panic w => .panic w
  | .bool rules lr =>
    .ok { kind := .bool, j5 := some .bool, list := lr.map .bool, psmKey := none,
          validate := rules.map fun r => .bool r.const }
  | .bytes rules =>
    .ok { kind := .bytes, j5 := some .bytes, list := none, psmKey := none,
          validate := rules.map fun r => .bytes r.minLength r.maxLength }
  | .date rules lr =>
    .ok { kind := .message .date, j5 := rules.map .date, list := lr.map .date, psmKey := none, validate := none }
  | .decimal rules lr =>
    .ok { kind := .message .decimal, j5 := rules.map .decimal, list := lr.map .decimal, psmKey := none, validate := none }
  | .float is64 lr =>
    .ok { kind := if is64 then .double else .float, j5 := some .float, psmKey := none, validate := none,
          list := lr.map fun p => if is64 then .double p else .float p }
  | .integer fmt rules lr =>
    match rules with
    | none => .ok { kind := .int fmt, j5 := some .integer, list := lr.map (.int fmt), psmKey := none, validate := none }
    | some r =>
      match compileInt fmt r with
      | .ok c => .ok { kind := .int fmt, j5 := some .integer, list := lr.map (.int fmt), psmKey := none, validate := some c }
      | .err t => .err t
      | .panic w => .panic w
  | .key format entity lr =>
    let j5 : J5Ext := .key (keyExtPattern format)
    let validate := format.map fun f => ItemC.string (keyStringC f)
    let psm := entity.map entityPsm
    match lr with
    | none => .ok { kind := .string, j5 := some j5, list := none, psmKey := psm, validate := validate }
    | some p =>
      match keyListExt format p with
      | .ok l => .ok { kind := .string, j5 := some j5, list := some l, psmKey := psm, validate := validate }
      | .err t => .err t
      | .panic w => .panic w
  | .string _format rules lr =>
    .ok { kind := .string, j5 := some .string, list := lr.map .openText, psmKey := none,
          validate := rules.map fun r => .string { minLen := r.minLength, maxLen := r.maxLength, pattern := r.pattern } }
  | .timestamp hasRules lr =>
    .ok { kind := .message .timestamp, j5 := some .timestamp, list := lr.map .timestamp, psmKey := none,
          validate := if hasRules then some .timestamp else none }
  | .any od types lr =>
    .ok { kind := .message .any, j5 := some (.any od types), list := lr.map .any, psmKey := none, validate := none }

/-! ## buildProperty -/

/-- `strcase.ToSnake(node.Schema.Name)`: the proto field name (strcase as modelled, byte level, by
`J5V/Compile/Strcase.lean`; j5s names are ASCII identifiers) -/
def snakeName (s : String) : String :=
  J5V.Compile.Str.toString (J5V.Compile.toSnake (s.toList.map Char.toNat))


def wrapArray (v : Option ItemC) (rules : Option ArrayRules) : Option FieldC :=
  if v.isSome || rules.isSome then
    some { required := none,
           typ := .repeated {
             minItems := rules.bind (·.minItems), maxItems := rules.bind (·.maxItems),
             unique := rules.bind (·.uniqueItems), items := v } }
  else none

/-- like arrays, the rules of the map and of its values go on the map field (mirrors Go commit d9448b1) -/
def wrapMap (v : Option ItemC) (rules : Option MapRules) : Option FieldC :=
  if v.isSome || rules.isSome then
    some { required := none,
           typ := .map { minPairs := rules.bind (·.minPairs), maxPairs := rules.bind (·.maxPairs), values := v } }
  else none

def setRequired (c : Option FieldC) : Option FieldC :=
  match c with
  | none => some { required := some true, typ := .item .none }
  | some c => some { c with required := some true }

def psmPrimaryKey (k : Option PsmKey) : Bool :=
  match k with
  | some k => k.primaryKey
  | none => false

/-- `(buf.validate.field)` of the property: the item constraint (wrapped under `repeated` for an
array, under `map` for a map), plus `required` -/
def fieldValidate (schema : FieldSchema) (v : Option ItemC) (required : Bool) : Option FieldC :=
  let base : Option FieldC :=
    match schema with
    | .single _ => v.map fun c => { required := none, typ := .item c }
    | .array _ rules _ => wrapArray v rules
    | .map _ rules _ => wrapMap v rules
  if required then setRequired base else base

/-- `(j5.ext.v1.field)`: for an array the `array` annotation replaces the item's -/
def fieldJ5 (schema : FieldSchema) (item : Option J5Ext) : Option J5Ext :=
  match schema with
  | .single _ => item
  | .array _ _ sf => some (.array sf)
  | .map _ _ sf => some (.map sf)

def writeField (p : Property) : Outcome Annot :=
  match buildField p.schema.item with
  | .err t => .err t
  | .panic w => .panic w
  | .ok a =>
    -- even if not explicitly set, a primary key is required (`(j5.ext.v1.key)` of the field itself:
    -- for a map that annotation sits on the entry's value field and is not consulted)
    let required := p.required || (!p.schema.isMap && psmPrimaryKey a.psmKey)
    if p.explicitlyOptional && required then .err "cannot be both required and optional"
    else .ok {
      jsonName := p.name, protoName := snakeName p.name, number := p.number, description := p.description,
      kind := a.kind, repeated := p.schema.isArray, isMap := p.schema.isMap,
      proto3Optional := p.explicitlyOptional,
      validate := fieldValidate p.schema a.validate required, j5 := fieldJ5 p.schema a.j5,
      -- the value's list rules are written on the entry's value field, where nothing reads them
      list := if p.schema.isMap then none else a.list, psmKey := a.psmKey }

/-- C12's view of the compiler: the emitted `(buf.validate.field)` -/
def compileRules (p : Property) : Outcome (Option FieldC) :=
  match writeField p with
  | .ok a => .ok a.validate
  | .err t => .err t
  | .panic w => .panic w

end J5V.Rules
