import J5V.Go.Hex
import J5V.Rules.Meaning
import J5V.Rules.Reader
import J5V.Rules.Root
/-!
# Line protocol of the rules cluster: op decoding, canonical printers, the small regex class

Core-only (used by `Driver/Rules.lean`). See `/verif/harness/PROTOCOL-rules.md`.
-/
namespace J5V.Rules.Wire
open J5V.Go J5V.Rules

/-! ## hex / utf-8 -/

def unhexStr (h : String) : Option String :=
  match fromHex h with
  | none => none
  | some bs => String.fromUTF8? (ByteArray.mk (bs.map (·.toUInt8)).toArray)

def hexStr (s : String) : String := toHexW (s.toUTF8.toList.map (·.toNat))

/-! ## k=v tokens -/

abbrev KV := List (String × String)

def parseKV (toks : List String) : Option KV :=
  toks.mapM fun t =>
    match t.splitOn "=" with
    | k :: v :: rest => some (k, String.intercalate "=" (v :: rest))
    | _ => none

def KV.get (m : KV) (k : String) : String := (m.lookup k).getD "~"

def optStr (v : String) : Option (Option String) :=
  if v == "~" then some none else (unhexStr v).map some

def optNat (v : String) : Option (Option Nat) :=
  if v == "~" then some none else v.toNat?.map some

def optInt (v : String) : Option (Option Int) :=
  if v == "~" then some none else v.toInt?.map some

def optBool (v : String) : Option (Option Bool) :=
  if v == "~" then some none else if v == "1" then some (some true) else if v == "0" then some (some false) else none

def strList (v : String) : Option (List String) :=
  if v == "~" then some [] else (v.splitOn ",").mapM unhexStr

/-! ## spec → Property -/

def zeroLR : String := "f0/df/s0/ds0/q0/qi-"

def capitalize (s : String) : String :=
  match s.toList with
  | [] => s
  | c :: rest => String.ofList (c.toUpper :: rest)

/-- `f<0/1>/df<hex+hex..>/s<0/1>/ds<0/1>/q<0/1>/qi<hex>`: the whole token is the payload text, the
`df` member is also decoded (the writer checks it for enum fields) -/
def decodeLR (tok : String) : Option LRPayload :=
  match tok.splitOn "/" with
  | [_, df, _, _, _, _] =>
    if df.startsWith "df" then
      let body := (df.drop 2).toString
      if body.isEmpty then some { text := tok, defaultFilters := [] }
      else ((body.splitOn "+").mapM unhexStr).map fun l => { text := tok, defaultFilters := l }
    else none
  | _ => none

def showNamesList (l : List String) : String :=
  if l.isEmpty then "~" else String.intercalate "," (l.map hexStr)

def screamingSnakeName (s : String) : String :=
  J5V.Compile.Str.toString (J5V.Compile.toScreamingSnake (s.toList.map Char.toNat))

def decodeSpec (num : Nat) (toks : List String) : Option Property := do
  let m ← parseKV toks
  let name ← unhexStr (m.get "name")
  let desc ← optStr (m.get "desc")
  let lrTok := m.get "lr"
  let lr : ListRules ← if lrTok == "~" then pure none else (decodeLR lrTok).map some
  let r := m.get "r" == "1"
  let item : Schema ←
    match m.get "kind" with
    | "str" => do
      let mn ← optNat (m.get "minl"); let mx ← optNat (m.get "maxl"); let pat ← optStr (m.get "pat")
      let sfmt ← optStr (m.get "sfmt")
      pure (Schema.string sfmt (if r then some { minLength := mn, maxLength := mx, pattern := pat } else none) lr)
    | "bytes" => do
      let mn ← optNat (m.get "minl"); let mx ← optNat (m.get "maxl")
      pure (Schema.bytes (if r then some { minLength := mn, maxLength := mx } else none))
    | "int" => do
      let fmt ← (match m.get "fmt" with | "i32" => some IntFormat.i32 | "i64" => some .i64 | "u32" => some .u32 | "u64" => some .u64 | _ => none)
      let mn ← optInt (m.get "min"); let mx ← optInt (m.get "max")
      let emn ← optBool (m.get "emin"); let emx ← optBool (m.get "emax")
      pure (Schema.integer fmt (if r then some { minimum := mn, maximum := mx, exclusiveMinimum := emn, exclusiveMaximum := emx } else none) lr)
    | "bool" => do
      let c ← optBool (m.get "const")
      pure (Schema.bool (if r then some { const := c } else none) lr)
    | "key" => do
      let pat ← optStr (m.get "pat")
      let fmt : Option KeyFormat ←
        (match m.get "kf" with
         | "~" => some none
         | "inf" => some (some .informal)
         | "uuid" => some (some .uuid)
         | "id62" => some (some .id62)
         | "cus" => some (some (.custom (pat.getD "")))
         | _ => none)
      let pk ← optBool (m.get "pk"); let fk ← optStr (m.get "fk"); let tk ← optStr (m.get "tk")
      let entity : Option EntityKey :=
        if pk.isNone && fk.isNone && tk.isNone then none
        else some { tenantKey := tk,
                    typ := match fk, pk with
                      | some f, _ => .foreign f     -- the j5s text sets `foreign` after `primaryKey`: last one wins in the oneof
                      | none, some b => .primary b
                      | none, none => .none }
      pure (Schema.key fmt entity lr)
    | "enum" => do
      let opts ← strList (m.get "eopts")
      let epre ← optStr (m.get "epre")
      let inn ← strList (m.get "in"); let nin ← strList (m.get "nin")
      let eodesc ← strList (m.get "eodesc"); let edesc ← optStr (m.get "edesc")
      let tn := "E" ++ capitalize name
      -- `strcase.ToScreamingSnake(name) + "_"` (strcase as modelled by J5V/Compile/Strcase.lean)
      let decl : EnumDecl := { name := tn, declPrefix := epre, defaultPrefix := screamingSnakeName tn ++ "_", options := opts,
                                  description := edesc.getD "", descs := eodesc }
      pure (Schema.enum decl (if r then some { inn := inn, notIn := nin } else none) lr)
    | "obj" => pure (Schema.object "foo.v1.Bar" (m.get "flat" == "1") r)
    | "oneof" => pure (Schema.oneof "foo.v1.On" r lr)
    | "ts" => pure (Schema.timestamp r lr)
    | "f32" => pure (Schema.float false lr)
    | "f64" => pure (Schema.float true lr)
    | "date" => do
      let dmn ← optStr (m.get "dmin"); let dmx ← optStr (m.get "dmax")
      let emn ← optBool (m.get "emin"); let emx ← optBool (m.get "emax")
      pure (Schema.date (if r then some { minimum := dmn, maximum := dmx, exclusiveMinimum := emn, exclusiveMaximum := emx } else none) lr)
    | "dec" => do
      let dmn ← optStr (m.get "dmin"); let dmx ← optStr (m.get "dmax")
      let emn ← optBool (m.get "emin"); let emx ← optBool (m.get "emax")
      pure (Schema.decimal (if r then some { minimum := dmn, maximum := dmx, exclusiveMinimum := emn, exclusiveMaximum := emx } else none) lr)
    | "any" => pure (Schema.any false [] lr)
    | _ => none
  let schema : FieldSchema ←
    if m.get "arr" == "m" then do
      -- map:<kind>; `ar` = map rules message present, amin / amax = minPairs / maxPairs
      let amin ← optNat (m.get "amin"); let amax ← optNat (m.get "amax")
      let asf ← optStr (m.get "asf")
      pure (FieldSchema.map item (if m.get "ar" == "1" then some { minPairs := amin, maxPairs := amax } else none) asf)
    else if m.get "arr" == "1" then do
      let amin ← optNat (m.get "amin"); let amax ← optNat (m.get "amax"); let auniq ← optBool (m.get "auniq")
      let asf ← optStr (m.get "asf")
      pure (FieldSchema.array item (if m.get "ar" == "1" then some { minItems := amin, maxItems := amax, uniqueItems := auniq } else none) asf)
    else pure (FieldSchema.single item)
  pure { name := name, number := num, required := m.get "req" == "1", explicitlyOptional := m.get "opt" == "1",
         description := desc.getD "", schema := schema }

/-! ## the root segment of a schema op -/

structure RootSeg where
  decl : RootDecl            -- without properties
  barEntity : Option String  -- entity annotation put on the fixed object `foo.v1.Bar` (part KEYS)

/-- `root=<obj|oneof> desc=<hex|~> ent=<hex|~> part=<n|~> anym=<hex,..|~> barent=<hex|~>`; the short
forms `~` / `<hex description>` denote a plain object -/
def decodeRoot (seg : String) : Option RootSeg :=
  if seg == "~" then some { decl := { name := "Foo", properties := [] }, barEntity := none }
  else if !seg.contains '=' then
    (unhexStr seg).map fun d => { decl := { name := "Foo", description := d, properties := [] }, barEntity := none }
  else do
    let m ← parseKV (seg.splitOn " " |>.filter (· ≠ ""))
    let kind ← (match m.get "root" with | "obj" => some RootKind.object | "oneof" => some .oneof | _ => none)
    let desc ← optStr (m.get "desc")
    let ent ← optStr (m.get "ent")
    let part ← optNat (m.get "part")
    let anym ← strList (m.get "anym")
    let barent ← optStr (m.get "barent")
    -- `entity.part` not written = ENTITY_PART_UNSPECIFIED; `entity.entity` not written = ""
    let entity : Option EntityObject :=
      if ent.isNone && part.isNone then none else some { entity := ent.getD "", part := part.getD 0 }
    pure { decl := { kind := kind, name := "Foo", description := desc.getD "", entity := entity, anyMember := anym,
                     properties := [] },
           barEntity := barent }

def showRoot (r : RootDecl) : String :=
  let kind := match r.kind with | .object => "obj" | .oneof => "oneof"
  let desc := if r.description.isEmpty then "~" else hexStr r.description
  let (ent, part) := match r.entity with | some e => (hexStr e.entity, toString e.part) | none => ("~", "~")
  s!"root={kind} name={hexStr r.name} desc={desc} ent={ent} part={part} anym={showNamesList r.anyMember}"

/-! ## canonical dump of the emitted constraint (same text as the harness's `dumpFC`) -/

def showOptNat : Option Nat → String
  | none => "~"
  | some n => toString n

def showOptHex : Option String → String
  | none => "~"
  | some s => hexStr s

def showOptB : Option Bool → String
  | none => "~"
  | some true => "1"
  | some false => "0"

def b01 (b : Bool) : String := if b then "1" else "0"

def showIntList (l : List Int) : String :=
  if l.isEmpty then "~" else String.intercalate "," (l.map toString)

def showFmt : IntFormat → String
  | .i32 => "i32" | .i64 => "i64" | .u32 => "u32" | .u64 => "u64"

def showItemC : ItemC → String
  | .none => "t=none"
  | .string c => s!"t=str(min={showOptNat c.minLen},max={showOptNat c.maxLen},pat={showOptHex c.pattern},uuid={b01 c.uuid})"
  | .bytes mn mx => s!"t=bytes(min={showOptNat mn},max={showOptNat mx})"
  | .bool c => s!"t=bool(const={showOptB c})"
  | .int f ub lb =>
    let u := match ub with | .none => "~" | .lt a => s!"lt:{a}" | .lte a => s!"lte:{a}"
    let l := match lb with | .none => "~" | .gt a => s!"gt:{a}" | .gte a => s!"gte:{a}"
    s!"t=int({showFmt f},{u},{l})"
  | .enum d i n => s!"t=enum(def={showOptB d},in={showIntList i},nin={showIntList n})"
  | .timestamp => "t=ts"

def showFC : Option FieldC → String
  | none => "none"
  | some c =>
    let t := match c.typ with
      | .item ic => showItemC ic
      | .repeated r =>
        let items := match r.items with | none => "~" | some ic => "(" ++ showItemC ic ++ ")"
        s!"t=rep(min={showOptNat r.minItems},max={showOptNat r.maxItems},uniq={showOptB r.unique},items={items})"
      | .map m =>
        let values := match m.values with | none => "~" | some ic => "(" ++ showItemC ic ++ ")"
        s!"t=map(min={showOptNat m.minPairs},max={showOptNat m.maxPairs},values={values})"
    s!"fc(req={showOptB c.required},{t})"

/-! ## candidate values -/

def parseScalar (s : Schema) (tok : String) : Option Scalar :=
  match s with
  | .string _ _ _ | .key _ _ _ => (unhexStr tok).map fun x => Scalar.str x.toList
  | .bytes _ => (fromHex tok).map Scalar.bytes
  | .bool _ _ => if tok == "1" then some (.bool true) else if tok == "0" then some (.bool false) else none
  | .integer _ _ _ => tok.toInt?.map Scalar.int
  | .enum _ _ _ => tok.toInt?.map Scalar.enum
  | .float _ _ => if tok == "1" then some (.float true) else if tok == "0" then some (.float false) else none
  | _ => if tok == "P" then some .msg else none

def zeroScalar : Schema → Scalar
  | .string _ _ _ | .key _ _ _ => .str []
  | .bytes _ => .bytes []
  | .bool _ _ => .bool false
  | .integer _ _ _ => .int 0
  | .enum _ _ _ => .enum 0
  | .float _ _ => .float false
  | _ => .msg

/-- `~` denotes the unset field: for a field without presence that is the zero value / empty list -/
def parseVal (optPres : Bool) (p : Property) (tok : String) : Option FieldVal :=
  match p.schema with
  | .array s _ _ =>
    if tok == "~" then some (.list [])
    else if tok.startsWith "[" && tok.endsWith "]" then
      let inner := ((tok.drop 1).dropRight 1).toString
      if inner.isEmpty then some (.list []) else ((inner.splitOn ",").mapM (parseScalar s)).map FieldVal.list
    else none
  -- a map is given by its values (the harness uses the keys k0, k1, …)
  | .map s _ _ =>
    if tok == "~" then some (.list [])
    else if tok.startsWith "[" && tok.endsWith "]" then
      let inner := ((tok.drop 1).dropRight 1).toString
      if inner.isEmpty then some (.list []) else ((inner.splitOn ",").mapM (parseScalar s)).map FieldVal.list
    else none
  | .single s =>
    if tok == "~" then (if p.hasPresence optPres then some .absent else some (.single (zeroScalar s)))
    else (parseScalar s tok).map FieldVal.single

/-! ## the small regex class (the same class the harness's oracle implements) -/

structure SmallRe where
  anchorL : Bool
  anchorR : Bool
  isClass : Bool
  lit : List Char
  ranges : List (Char × Char)
  min : Nat
  max : Option Nat
  deriving Repr, DecidableEq

def reMeta : List Char := "\\.+*?()|[]{}^$".toList

/-- `fuel` bounds the recursion (the input length suffices) -/
def parseRangesAux : Nat → List Char → List (Char × Char) → Option (List (Char × Char) × List Char)
  | 0, _, _ => none
  | _ + 1, [], _ => none
  | _ + 1, ']' :: rest, acc => if acc.isEmpty then none else some (acc.reverse, rest)
  | fuel + 1, c :: '-' :: d :: rest, acc =>
    if c == '\\' || c == '^' || c == '[' then none
    else if d == ']' then parseRangesAux fuel ('-' :: d :: rest) ((c, c) :: acc)
    else parseRangesAux fuel rest ((c, d) :: acc)
  | fuel + 1, c :: rest, acc =>
    if c == '\\' || c == '^' || c == '[' then none else parseRangesAux fuel rest ((c, c) :: acc)

def parseRanges (cs : List Char) (acc : List (Char × Char)) : Option (List (Char × Char) × List Char) :=
  parseRangesAux (cs.length + 1) cs acc

def digitVal (c : Char) : Option Nat :=
  if c.toNat ≥ 48 && c.toNat ≤ 57 then some (c.toNat - 48) else none

def digitsToNat : List Char → Option Nat → Option Nat
  | [], acc => acc
  | c :: rest, acc =>
    match digitVal c with
    | none => none
    | some d => digitsToNat rest (some ((acc.getD 0) * 10 + d))

/-- split at the first comma -/
def splitComma : List Char → List Char × Option (List Char)
  | [] => ([], none)
  | ',' :: rest => ([], some rest)
  | c :: rest => let (a, b) := splitComma rest; (c :: a, b)

/-- quantifier after a bracket class: nothing, `+`, `*`, `{n}`, `{n,m}` → (min, max) -/
def parseQuant (q : List Char) : Option (Nat × Option Nat) :=
  match q with
  | [] => some (1, some 1)
  | ['+'] => some (1, none)
  | ['*'] => some (0, none)
  | '{' :: rest =>
    match rest.reverse with
    | '}' :: r =>
      let (a, b) := splitComma r.reverse
      match digitsToNat a none, b with
      | some n, none => some (n, some n)
      | some n, some b' =>
        (match digitsToNat b' none with
         | some k => if k < n then none else some (n, some k)
         | none => none)
      | none, _ => none
    | _ => none
  | _ => none

def parseSmallRe (p : String) : Option SmallRe :=
  let cs := p.toList
  let (aL, cs) := match cs with | '^' :: r => (true, r) | _ => (false, cs)
  let (aR, cs) := match cs.reverse with | '$' :: r => (true, r.reverse) | _ => (false, cs)
  match cs with
  | '[' :: rest =>
    match parseRanges rest [] with
    | none => none
    | some (ranges, q) =>
      match parseQuant q with
      | some (mn, mx) => some { anchorL := aL, anchorR := aR, isClass := true, lit := [], ranges := ranges, min := mn, max := mx }
      | none => none
  | _ =>
    if cs.any (fun c => reMeta.contains c) then none
    else some { anchorL := aL, anchorR := aR, isClass := false, lit := cs, ranges := [], min := 0, max := none }

def SmallRe.inClass (re : SmallRe) (c : Char) : Bool := re.ranges.any fun (a, b) => a ≤ c && c ≤ b

def runLen (re : SmallRe) : List Char → Nat
  | [] => 0
  | c :: rest => if re.inClass c then 1 + runLen re rest else 0

def isInfix (l s : List Char) : Bool :=
  match s with
  | [] => l.isEmpty
  | _ :: rest => l.isPrefixOf s || isInfix l rest

def anyRun (re : SmallRe) : List Char → Bool
  | [] => false
  | c :: rest => decide (runLen re (c :: rest) ≥ re.min) || anyRun re rest

def SmallRe.matches (re : SmallRe) (s : List Char) : Bool :=
  if !re.isClass then
    match re.anchorL, re.anchorR with
    | true, true => s == re.lit
    | true, false => re.lit.isPrefixOf s
    | false, true => re.lit.reverse.isPrefixOf s.reverse
    | false, false => isInfix re.lit s
  else
    let okLen (k : Nat) : Bool := decide (k ≥ re.min) && (match re.max with | none => true | some m => decide (k ≤ m))
    match re.anchorL, re.anchorR with
    | true, true => runLen re s == s.length && okLen s.length
    | true, false => decide (runLen re s ≥ re.min)
    | false, true => decide (runLen re s.reverse ≥ re.min)
    | false, false => re.min == 0 || anyRun re s

/-- The driver's matcher. A pattern outside the class (`parseSmallRe p = none`) matches nothing here; the
driver asks `parseSmallRe` itself first and prints `skip` for such a pattern. -/
def smallMatcher : Matcher :=
  { run := fun p s => match parseSmallRe p with | some re => re.matches s | none => false }

def patternsOf (p : Property) : List String :=
  match p.schema.item with
  | .string _ (some r) _ => r.pattern.toList
  | .key (some (.custom pat)) _ _ => [pat]
  | _ => []

/-! ## canonical flat rendering of a property (same text as the harness's `Flat`) -/

def showLR (lr : ListRules) : String :=
  match lr with
  | none => "~"
  | some p => if p.text == zeroLR then "~" else p.text

def showNames (l : List String) : String :=
  if l.isEmpty then "~" else String.intercalate "," (l.map hexStr)

def showOptInt : Option Int → String
  | none => "~"
  | some n => toString n

def showExcl : Option Bool → String
  | some true => "1"
  | _ => "~"

structure FlatRow where
  kind : String := "~"
  fmt : String := "~"
  min : String := "~"
  max : String := "~"
  emin : String := "~"
  emax : String := "~"
  minl : String := "~"
  maxl : String := "~"
  pat : String := "~"
  const : String := "~"
  inn : String := "~"
  nin : String := "~"
  sfmt : String := "~"
  kf : String := "~"
  kpat : String := "~"
  pk : String := "~"
  fk : String := "~"
  tk : String := "~"
  ref : String := "~"
  flat : String := "~"
  od : String := "~"
  types : String := "~"
  lr : String := "~"
  epfx : String := "~"
  edesc : String := "~"
  eopts : String := "~"

def flatOfSchema : Schema → FlatRow
  | .string fmt rules lr =>
    { kind := "str", sfmt := showOptHex fmt, lr := showLR lr,
      minl := showOptNat (rules.bind (·.minLength)), maxl := showOptNat (rules.bind (·.maxLength)),
      pat := showOptHex (rules.bind (·.pattern)) }
  | .bytes rules =>
    { kind := "bytes", minl := showOptNat (rules.bind (·.minLength)), maxl := showOptNat (rules.bind (·.maxLength)) }
  | .integer fmt rules lr =>
    { kind := "int", fmt := showFmt fmt, lr := showLR lr,
      min := showOptInt (rules.bind (·.minimum)), max := showOptInt (rules.bind (·.maximum)),
      emin := showExcl (rules.bind (·.exclusiveMinimum)), emax := showExcl (rules.bind (·.exclusiveMaximum)) }
  | .float is64 lr => { kind := "float", fmt := if is64 then "f64" else "f32", lr := showLR lr }
  | .bool rules lr => { kind := "bool", const := showOptB (rules.bind (·.const)), lr := showLR lr }
  | .enum decl rules lr =>
    -- reader's view: canonical declaration (short names), numbers from the compiled values
    { kind := "enum", ref := hexStr ("foo.v1." ++ decl.name), lr := showLR lr,
      inn := showNames ((rules.map (·.inn)).getD []), nin := showNames ((rules.map (·.notIn)).getD []),
      epfx := hexStr decl.pfx,
      edesc := if decl.description.isEmpty then "~" else hexStr decl.description,
      -- the canonical declaration lists UNSPECIFIED explicitly: values and descriptions are aligned
      eopts := String.intercalate "," ((decl.values.zip decl.optDescs).map fun ((n, k), d) =>
        s!"{hexStr (trimPrefix decl.pfx n)}:{k}:{hexStr d}") }
  | .key format entity lr =>
    let (kf, kpat) := match format with
      | none => ("inf", "~") | some .informal => ("inf", "~")
      | some (.custom p) => ("cus", hexStr p) | some .uuid => ("uuid", "~") | some .id62 => ("id62", "~")
    let (pk, fk) := match entity.map (·.typ) with
      | some (.primary b) => (b01 b, "~")
      | some (.foreign r) => ("0", hexStr r)
      | _ => ("0", "~")
    { kind := "key", kf := kf, kpat := kpat, pk := pk, fk := fk,
      tk := showOptHex (entity.bind (·.tenantKey)), lr := showLR lr }
  | .object ref flatten _ => { kind := "obj", ref := hexStr ref, flat := b01 flatten }
  | .oneof ref _ lr => { kind := "oneof", ref := hexStr ref, lr := showLR lr }
  | .timestamp _ lr => { kind := "ts", lr := showLR lr }
  | .date rules lr =>
    { kind := "date", lr := showLR lr,
      min := showOptHex (rules.bind (·.minimum)), max := showOptHex (rules.bind (·.maximum)),
      emin := showExcl (rules.bind (·.exclusiveMinimum)), emax := showExcl (rules.bind (·.exclusiveMaximum)) }
  | .decimal rules lr =>
    { kind := "dec", lr := showLR lr,
      min := showOptHex (rules.bind (·.minimum)), max := showOptHex (rules.bind (·.maximum)),
      emin := showExcl (rules.bind (·.exclusiveMinimum)), emax := showExcl (rules.bind (·.exclusiveMaximum)) }
  | .any od types lr => { kind := "any", od := b01 od, types := showNames types, lr := showLR lr }

/-- `pname` = the proto name of the compiled field (not part of the reflected schema; shown so
that the correspondence also ties `proto name = snake(declared name)`) -/
def showFlat (pname : String) (p : Property) : String :=
  let r := flatOfSchema p.schema.item
  let (arr, amin, amax, auniq, single) :=
    match p.schema with
    | .single _ => ("0", "~", "~", "~", "~")
    | .array _ rules sf =>
      ("1", showOptNat (rules.bind (·.minItems)), showOptNat (rules.bind (·.maxItems)),
       showOptB (rules.bind (·.uniqueItems)), showOptHex sf)
    | .map _ rules sf =>
      ("m", showOptNat (rules.bind (·.minPairs)), showOptNat (rules.bind (·.maxPairs)), "~", showOptHex sf)
  let desc := if p.description.isEmpty then "~" else hexStr p.description
  String.intercalate " " [
    s!"name={hexStr p.name}", s!"pname={hexStr pname}", s!"num={p.number}", s!"req={b01 p.required}", s!"opt={b01 p.explicitlyOptional}", s!"desc={desc}",
    s!"arr={arr}", s!"amin={amin}", s!"amax={amax}", s!"auniq={auniq}", s!"single={single}",
    s!"kind={r.kind}", s!"fmt={r.fmt}",
    s!"min={r.min}", s!"max={r.max}", s!"emin={r.emin}", s!"emax={r.emax}", s!"minl={r.minl}", s!"maxl={r.maxl}",
    s!"pat={r.pat}", s!"const={r.const}", s!"in={r.inn}", s!"nin={r.nin}",
    s!"sfmt={r.sfmt}", s!"kf={r.kf}", s!"kpat={r.kpat}", s!"pk={r.pk}", s!"fk={r.fk}", s!"tk={r.tk}",
    s!"ref={r.ref}", s!"flat={r.flat}", s!"od={r.od}", s!"types={r.types}", s!"lr={r.lr}",
    s!"epfx={r.epfx}", s!"edesc={r.edesc}", s!"eopts={r.eopts}" ]

end J5V.Rules.Wire
