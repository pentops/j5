import J5V.Rules.Compile
import J5V.Rules.Validate
/-!
# What the j5s rules mean (`j5Accepts`) and which declarations are admissible (`WFRules`)

Written from the rule field names and comments of `proto/j5/j5/schema/v1/schema.proto`
(`minimum` / `maximum` with `exclusive_*` flags in the JSON-Schema sense the swagger export and the
repo's own reader test assume; `min_length` etc.; `KeyFormat`; `EnumField.Rules.in / not_in`;
`ArrayField.Rules`) and README ("a primary key is always required").
Independent of the compiler: nothing here mentions lt/lte/gt/gte or protovalidate.
-/
namespace J5V.Rules

/-- numbers of the declared enum options: declaration order from 1, `UNSPECIFIED` = 0 -/
def EnumDecl.defined (e : EnumDecl) : List Int := e.values.map (·.2)

/-- the number a rule name denotes (names may be written with or without the enum prefix) -/
def EnumDecl.numberOf (e : EnumDecl) (name : String) : Option Int :=
  lookupName e.valMap (addPrefix e.pfx name)

def intOk (r : IntRules) (v : Int) : Bool :=
  optAll r.minimum (fun m => if r.exclusiveMinimum == some true then decide (m < v) else decide (m ≤ v)) &&
  optAll r.maximum (fun m => if r.exclusiveMaximum == some true then decide (v < m) else decide (v ≤ m))

/-- does one value satisfy the rules of the (item) schema? -/
def j5Item (M : Matcher) (s : Schema) (v : Scalar) : Bool :=
  match s, v with
  | .string _ rules _, .str x =>
    optAll rules fun r =>
      optAll r.minLength (fun n => decide (n ≤ x.length)) &&
      optAll r.maxLength (fun n => decide (x.length ≤ n)) &&
      optAll r.pattern (fun p => M.run p x)
  | .integer _ rules _, .int n => optAll rules fun r => intOk r n
  | .bool rules _, .bool b => optAll rules fun r => optAll r.const (fun k => k == b)
  | .bytes rules, .bytes b =>
    optAll rules fun r =>
      optAll r.minLength (fun n => decide (n ≤ b.length)) && optAll r.maxLength (fun n => decide (b.length ≤ n))
  | .key format _ _, .str x =>
    (match format with
     | none => true
     | some .informal => true
     | some .id62 => id62Shape x
     | some .uuid => uuidShape x
     | some (.custom p) => M.run p x)
  | .enum decl rules _, .enum n =>
    decl.defined.contains n &&
    optAll rules fun r =>
      (r.inn.isEmpty || r.inn.any (fun name => decl.numberOf name == some n)) &&
      !r.notIn.any (fun name => decl.numberOf name == some n)
  | .float _ _, .float _ => true
  | s, .msg => s.isMessage
  | _, _ => false

def Property.primaryKey (p : Property) : Bool :=
  match p.schema with
  | .map _ _ _ => false     -- values of a map are not the field's own key
  | _ =>
    match p.schema.item with
    | .key _ (some e) _ => (match e.typ with | .primary b => b | _ => false)
    | _ => false

/-- required as declared; a primary key is always required -/
def Property.effRequired (p : Property) : Bool := p.required || p.primaryKey

/-- whether the compiled field distinguishes "unset" from "zero". Message fields do; plain scalars
and arrays do not. For `? type` it depends on a fact about the compiler, `optPres`: whether it adds the
synthetic oneof of a proto3 `optional` field (`true`, Go commit c0f36ba) or sets `proto3_optional` without it
(`false`: no presence, finding `optional-field-without-presence`, which then shows as protovalidate
disagreeing with `j5Accepts`). The harness measures the fact on the real compiler and ships it with every
op; every theorem holds for both values. -/
def Property.hasPresence (p : Property) (optPres : Bool) : Bool :=
  match p.schema with
  | .single s => s.isMessage || (optPres && p.explicitlyOptional)
  | .array _ _ _ => false
  | .map _ _ _ => false

/-- what the declaration says: `? type` (explicitlyOptional) makes absence distinguishable -/
def Property.declaredPresence (p : Property) : Bool :=
  match p.schema with
  | .single s => s.isMessage || p.explicitlyOptional
  | .array _ _ _ => false
  | .map _ _ _ => false

/-- the meaning of the whole declaration for one candidate field value -/
def j5Accepts (M : Matcher) (optPres : Bool) (p : Property) (v : FieldVal) : Bool :=
  match p.schema, v with
  | .single _, .absent => !p.effRequired
  | .single s, .single x =>
    -- without presence the zero value is "not there"
    (!p.effRequired || p.hasPresence optPres || !x.isZero) && j5Item M s x
  | .array s rules _, .list xs =>
    (!p.effRequired || !xs.isEmpty) &&
    optAll rules (fun r =>
      optAll r.minItems (fun n => decide (n ≤ xs.length)) &&
      optAll r.maxItems (fun n => decide (xs.length ≤ n)) &&
      (!(r.uniqueItems == some true) || allDistinct xs)) &&
    xs.all (j5Item M s)
  -- a map value is given by the list of its values (keys are plain strings without rules)
  | .map s rules _, .list xs =>
    (!p.effRequired || !xs.isEmpty) &&
    optAll rules (fun r =>
      optAll r.minPairs (fun n => decide (n ≤ xs.length)) &&
      optAll r.maxPairs (fun n => decide (xs.length ≤ n))) &&
    xs.all (j5Item M s)
  | _, _ => false

/-! ## typing of candidate values -/

def Scalar.hasKind : Scalar → Schema → Bool
  | .str _, .string _ _ _ => true
  | .str _, .key _ _ _ => true
  | .int n, .integer f _ _ => f.inRange n
  | .bool _, .bool _ _ => true
  | .bytes _, .bytes _ => true
  | .enum _, .enum _ _ _ => true
  | .float _, .float _ _ => true
  | .msg, s => s.isMessage
  | _, _ => false

/-- a message of the compiled type: `.absent` only where the field has presence -/
def WellTyped (optPres : Bool) (p : Property) (v : FieldVal) : Bool :=
  match p.schema, v with
  | .single _, .absent => p.hasPresence optPres
  | .single s, .single x => x.hasKind s
  | .array s _ _, .list xs => xs.all (·.hasKind s)
  | .map s _ _, .list xs => xs.all (·.hasKind s)
  | _, _ => false

/-! ## admissible declarations -/

def intRulesWF (fmt : IntFormat) (r : IntRules) : Bool :=
  -- bounds representable in the field's type (the Go casts are then lossless)
  optAll r.minimum fmt.inRange && optAll r.maximum fmt.inRange &&
  -- an exclusive flag only together with its bound
  (r.exclusiveMinimum.isNone || r.minimum.isSome) && (r.exclusiveMaximum.isNone || r.maximum.isSome) &&
  -- lower bound not above upper bound (protovalidate gives reversed bounds another meaning)
  (match r.minimum, r.maximum with
   | some a, some b => decide (a ≤ b)
   | _, _ => true)

def enumRulesWF (decl : EnumDecl) (r : EnumRules) : Bool :=
  r.inn.all (fun n => (decl.numberOf n).isSome) && r.notIn.all (fun n => (decl.numberOf n).isSome)

/-- the default filters of an enum field's list rules name options of the enum (the compiler
rejects the declaration otherwise; same spellings as in / notIn) -/
def enumFiltersWF (decl : EnumDecl) (lr : ListRules) : Bool :=
  (lrDefaultFilters lr).all (fun n => (decl.numberOf n).isSome)

def schemaWF : Schema → Bool
  | .integer fmt (some r) _ => intRulesWF fmt r
  | .enum decl rules lr =>
    (match rules with
     | some r => enumRulesWF decl r
     | none => true) && enumFiltersWF decl lr
  | _ => true

/-- The declarations C12 quantifies over: the admissible ones and — not a matter of admissibility — without
`uniqueItems` on an array of messages, which the compiler accepts and compiles to `repeated.unique`, which
protovalidate cannot evaluate (open finding `array-unique-on-message-items`). -/
def WFRules (p : Property) : Bool :=
  schemaWF p.schema.item &&
  !(p.explicitlyOptional && p.effRequired) &&
  (match p.schema with
   | .array s (some r) _ => !(r.uniqueItems == some true && s.isMessage) && !p.explicitlyOptional
   | .array _ none _ => !p.explicitlyOptional
   | .map _ _ _ => !p.explicitlyOptional
   | _ => true)

end J5V.Rules
