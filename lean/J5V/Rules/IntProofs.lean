import J5V.Rules.WriterSpec
/-!
# Integer bounds: the writer's casts and choice of lt/lte, gt/gte, and protovalidate's reading of them
-/
namespace J5V.Rules
open J5V.Go

/-! ## the Go casts are lossless on bounds the format can hold -/

theorem inRange_iff (f : IntFormat) (v : Int) : f.inRange v = true ↔ f.lo ≤ v ∧ v ≤ f.hi := by
  unfold IntFormat.inRange
  simp only [Bool.and_eq_true, decide_eq_true_eq]

theorem castTo_inRange (f : IntFormat) (x : Int) (h : f.inRange x = true) : castTo f x = x := by
  rw [inRange_iff] at h
  cases f <;> simp only [IntFormat.lo, IntFormat.hi] at h <;> simp only [castTo, wrapSigned]
  · split <;> omega
  · omega
  · omega

theorem boundFits_of_inRange (f : IntFormat) (b : Option Int) (h : optAll b f.inRange = true) :
    boundFits f b = true := by
  cases b with
  | none => rfl
  | some v =>
    have hv : f.inRange v = true := by simpa [optAll] using h
    rw [inRange_iff] at hv
    cases f <;> simp only [IntFormat.lo, IntFormat.hi] at hv <;>
      simp only [boundFits, Bool.and_eq_true, decide_eq_true_eq] <;> omega

/-! ## writer: closed form of `compileInt` on admissible rules, and what protovalidate makes of it -/

theorem compileInt_closed (fmt : IntFormat) (r : IntRules) (h : intRulesWF fmt r = true) :
    compileInt fmt r = .ok (.int fmt (ubOf r) (lbOf r)) := by
  obtain ⟨mn, mx, emn, emx⟩ := r
  simp only [intRulesWF, Bool.and_eq_true, Bool.or_eq_true] at h
  obtain ⟨⟨⟨⟨hmn, hmx⟩, he1⟩, he2⟩, _⟩ := h
  have hf1 := boundFits_of_inRange fmt mn hmn
  have hf2 := boundFits_of_inRange fmt mx hmx
  cases mn <;> cases mx <;> simp_all [compileInt, ubOf, lbOf, optAll, castTo_inRange]

/-- with the lower bound not above the upper one protovalidate reads the pair as a range -/
theorem evalInt_closed (r : IntRules) (hord : ∀ a b, r.minimum = some a → r.maximum = some b → a ≤ b)
    (v : Int) : evalInt (ubOf r) (lbOf r) v = intOk r v := by
  obtain ⟨mn, mx, emn, emx⟩ := r
  by_cases hn : emn = some true <;> by_cases hx : emx = some true <;>
    rcases mn with _ | a <;> rcases mx with _ | b <;>
    simp [ubOf, lbOf, intOk, optAll, evalInt, hn, hx, Bool.and_comm] <;>
    exact fun h => absurd (hord a b rfl rfl) (Int.not_le.mpr h)

theorem optAll_eq_true {α} (o : Option α) (f : α → Bool) : optAll o f = true ↔ ∀ a, o = some a → f a = true := by
  cases o <;> simp [optAll]

theorem intOk_iff (r : IntRules) (v : Int) : intOk r v = true ↔
    (∀ m, r.minimum = some m → if r.exclusiveMinimum = some true then m < v else m ≤ v) ∧
    (∀ m, r.maximum = some m → if r.exclusiveMaximum = some true then v < m else v ≤ m) := by
  obtain ⟨mn, mx, emn, emx⟩ := r
  by_cases hn : emn = some true <;> by_cases hx : emx = some true <;> simp [intOk, optAll_eq_true, hn, hx]

theorem intRulesWF_ord {fmt : IntFormat} {r : IntRules} (h : intRulesWF fmt r = true) :
    ∀ a b, r.minimum = some a → r.maximum = some b → a ≤ b := by
  intro a b ha hb
  simp only [intRulesWF, ha, hb, Bool.and_eq_true, decide_eq_true_eq] at h
  exact h.2

end J5V.Rules
