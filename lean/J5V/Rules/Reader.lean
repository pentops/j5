import J5V.Rules.Compile
/-!
# The reader: `lib/j5schema/schema_from_proto.go`

`readField` mirrors, for one field, `messageProperties` (repeated branch and plain branch),
`buildSchemaProperty`, `buildSchema`, `buildScalarType`, `buildFromStringProto`, `wktSchema`,
`buildMessageFieldSchema`, `buildEnumFieldSchema` and `buildEnum`, over the annotation record
`Annot` — with the `fix:` commits of `/verif/known_findings.d/rules.json` applied (bool const, bytes
rules, uint64 / oneof / item list rules, tenant key, custom key precedence, required arrays).
-/
namespace J5V.Rules
open J5V.Go

/-- `protoFieldExtensions` -/
structure Exts where
  validate : Option FieldC
  list : Option ListExt
  j5 : Option J5Ext
  deriving Repr

def trimSuffix (suf s : String) : String :=
  if hasSuffix suf s then String.ofList (s.toList.take (s.length - suf.length)) else s

/-- `buildEnum`: short option names and numbers, and the prefix, from the compiled enum values. -/
structure EnumRead where
  pfx : String
  options : List (String × Int)
  /-- `commentDescription(option)` per value, by the value's INDEX in the descriptor -/
  descs : List String
  deriving Repr, DecidableEq

/-- the leading comment at source path `[…, 2, i]` -/
def commentAt (cs : List (Nat × String)) (i : Nat) : String :=
  match cs.find? (fun c => c.1 == i) with
  | some c => c.2
  | none => ""

def buildEnum (values : List (String × Int)) (comments : List (Nat × String)) : Outcome EnumRead :=
  match values with
  | [] => .panic "index out of range: enum without values"
  | (first, _) :: _ =>
    if !hasSuffix "UNSPECIFIED" first then .err "enum does not have an unspecified value"
    else
      let pre := trimSuffix "UNSPECIFIED" first
      .ok { pfx := pre, options := values.map fun (n, k) => (trimPrefix pre n, k),
            descs := (List.range values.length).map (commentAt comments) }

def optionByNumber (opts : List (String × Int)) (n : Int) : Option String :=
  match opts.find? (fun o => o.2 == n) with
  | some o => some o.1
  | none => none

def namesOf (opts : List (String × Int)) : List Int → Outcome (List String)
  | [] => .ok []
  | n :: rest =>
    match optionByNumber opts n with
    | none => .err "enum value not found"
    | some name =>
      match namesOf opts rest with
      | .ok ns => .ok (name :: ns)
      | .err t => .err t
      | .panic w => .panic w

/-- NotIn: an unknown number 0 is skipped (`_UNSPECIFIED` excluded already) -/
def namesOfNotIn (opts : List (String × Int)) : List Int → Outcome (List String)
  | [] => .ok []
  | n :: rest =>
    match optionByNumber opts n with
    | none => if n == 0 then namesOfNotIn opts rest else .err "enum value not found"
    | some name =>
      match namesOfNotIn opts rest with
      | .ok ns => .ok (name :: ns)
      | .err t => .err t
      | .panic w => .panic w

/-- the canonical declaration the reader reconstructs for an enum -/
def readDecl (name desc : String) (r : EnumRead) : EnumDecl :=
  { name := name, declPrefix := some r.pfx, defaultPrefix := r.pfx, options := r.options.map (·.1),
    description := desc, descs := r.descs }

def wellKnownStringPattern (p : String) : Option String :=
  if p = "^\\d{4}-\\d{2}-\\d{2}$" then some "date"
  else if p = "^\\d(.?\\d)?$" then some "number"
  else if p = id62Pattern then some "id62"
  else none

def Exts.itemC (e : Exts) : Option ItemC :=
  match e.validate with
  | some { typ := .item c, .. } => some c
  | _ => none

def Exts.repeatedC (e : Exts) : Option RepeatedC :=
  match e.validate with
  | some { typ := .repeated r, .. } => some r
  | _ => none

def Exts.mapC (e : Exts) : Option MapC :=
  match e.validate with
  | some { typ := .map m, .. } => some m
  | _ => none

/-- `ext.validate != nil && ext.validate.Type != nil` -/
def Exts.hasType (e : Exts) : Bool :=
  match e.validate with
  | some { typ := .item .none, .. } => false
  | some _ => true
  | none => false

def keyFormatOfString : String → Option KeyFormat → Option KeyFormat
  | "uuid", _ => some .uuid
  | "id62", _ => some .id62
  | "natural_key", cur => (match cur with | none => some .informal | some f => some f)
  | _, cur => cur

/-- `buildFromStringProto` -/
def buildFromStringProto (ext : Exts) (psm : Option PsmKey) : Outcome Schema :=
  -- a field marked as a J5 string, or as a key with its own (custom) pattern, keeps its pattern;
  -- formats / keys are inferred from well-known patterns only for other fields (mirrors Go commit b1eebc1)
  let own : Bool := match ext.j5 with | some .string => true | some (.key (some _)) => true | _ => false
  -- validate part
  let step1 : Outcome (Option String × Option StringRules × Bool) :=
    if ext.hasType then
      match ext.itemC with
      | some (.string c) =>
        let (fmt, pat) : Option String × Option String :=
          match c.pattern with
          | none => (none, none)
          | some p => (match (if own then none else wellKnownStringPattern p) with | some f => (some f, none) | none => (none, some p))
        let fmt := if c.uuid then some "uuid" else fmt
        .ok (fmt, some { minLength := c.minLen, maxLength := c.maxLen, pattern := pat }, c.uuid)
      | _ => .err "constraint for string is of another type"
    else .ok (none, none, false)
  match step1 with
  | .err t => .err t
  | .panic w => .panic w
  | .ok (fmt, rules, looks) =>
    -- list rules: foreign key slots
    let step2 : Outcome (Option String × ListRules × Bool) :=
      match ext.list with
      | some (.foreignKey .uniqueString p) =>
        if fmt.isSome then .err "string format is not compatible with list.unique_string"
        else .ok (some "natural_key", some p, true)
      | some (.foreignKey .id62 p) =>
        if fmt.isSome && fmt != some "id62" then .err "string format is not compatible with list.id62"
        else .ok (some "id62", some p, true)
      | some (.foreignKey .uuid p) =>
        if fmt.isSome && fmt != some "uuid" then .err "string format is not compatible with list.uuid"
        else .ok (some "uuid", some p, true)
      | _ => .ok (fmt, none, looks)
    match step2 with
    | .err t => .err t
    | .panic w => .panic w
    | .ok (fmt, fkRules, looks) =>
      -- open text
      let step3 : Outcome ListRules :=
        match ext.list with
        | some (.openText p) =>
          if fmt.isSome then .err "open_text and format do not match"
          else if psm.isSome then .err "open_text and key constraint do not match"
          else .ok (some p)
        | _ => .ok none
      match step3 with
      | .err t => .err t
      | .panic w => .panic w
      | .ok openText =>
        let keyOpt : Option (Option String) := match ext.j5 with | some (.key p) => some p | _ => none
        let looks := looks || fkRules.isSome || psm.isSome || fmt == some "id62" || keyOpt.isSome
        if !looks then .ok (.string fmt rules openText)
        else
          let format0 : Option KeyFormat := match keyOpt with | some (some p) => some (.custom p) | _ => none
          let entity : Option EntityKey := psm.map fun k =>
            { tenantKey := k.tenantType,
              typ := if k.primaryKey then .primary true
                     else match k.foreignKey with | some r => .foreign r | none => .none }
          let format := match fmt with | some f => keyFormatOfString f format0 | none => format0
          .ok (.key format entity fkRules)

def readIntRules (ub : UpperB) (lb : LowerB) : IntRules :=
  let (mx, emx) : Option Int × Option Bool :=
    match ub with | .none => (none, none) | .lt a => (some a, some true) | .lte a => (some a, none)
  let (mn, emn) : Option Int × Option Bool :=
    match lb with | .none => (none, none) | .gt a => (some a, some true) | .gte a => (some a, none)
  { minimum := mn, maximum := mx, exclusiveMinimum := emn, exclusiveMaximum := emx }

/-- `int64(x)` of the rule value when read back (only uint64 can wrap) -/
def readCast (f : IntFormat) (x : Int) : Int :=
  match f with
  | .u64 => wrapSigned 64 x
  | _ => x

def mapUB (f : Int → Int) : UpperB → UpperB
  | .none => .none | .lt a => .lt (f a) | .lte a => .lte (f a)
def mapLB (f : Int → Int) : LowerB → LowerB
  | .none => .none | .gt a => .gt (f a) | .gte a => .gte (f a)

def listPayload (slot : ListExt → Option LRPayload) (l : Option ListExt) : ListRules := l.bind slot

/-- `buildSchema`: message / enum / scalar dispatch on the proto kind -/
def buildSchema (kind : ProtoKind) (ext : Exts) (psm : Option PsmKey) : Outcome Schema :=
  match kind with
  | .string => buildFromStringProto ext psm
  | .bool =>
    let rules : Option BoolRules :=
      match ext.itemC with
      | some (.bool (some k)) => some { const := some k }
      | _ => none
    .ok (.bool rules (listPayload (fun | .bool p => some p | _ => none) ext.list))
  | .int fmt =>
    let rules : Option IntRules :=
      match ext.itemC with
      | some (.int f ub lb) => if f = fmt then some (readIntRules (mapUB (readCast fmt) ub) (mapLB (readCast fmt) lb)) else none
      | _ => none
    .ok (.integer fmt rules (listPayload (fun | .int f p => if f = fmt then some p else none | _ => none) ext.list))
  | .float => .ok (.float false (listPayload (fun | .float p => some p | _ => none) ext.list))
  | .double => .ok (.float true (listPayload (fun | .double p => some p | _ => none) ext.list))
  | .bytes =>
    let rules : BytesRules :=
      match ext.itemC with
      | some (.bytes mn mx) => { minLength := mn, maxLength := mx }
      | _ => {}
    .ok (.bytes (some rules))
  | .enum decl =>
    match buildEnum decl.values decl.comments with
    | .err t => .err t
    | .panic w => .panic w
    | .ok er =>
      let lr := listPayload (fun | .enum p => some p | _ => none) ext.list
      match ext.itemC with
      | some (.enum _ inn notIn) =>
        (match namesOf er.options inn with
         | .err t => .err t
         | .panic w => .panic w
         | .ok a =>
           match namesOfNotIn er.options notIn with
           | .err t => .err t
           | .panic w => .panic w
           | .ok b => .ok (.enum (readDecl decl.name decl.description er) (some { inn := a, notIn := b }) lr))
      | _ => .ok (.enum (readDecl decl.name decl.description er) none lr)
  | .message m =>
    let flatten : Bool := match ext.j5 with | some (.object f) => f | _ => false
    match m with
    | .timestamp =>
      let hasRules := match ext.itemC with | some .timestamp => true | _ => false
      .ok (.timestamp hasRules (listPayload (fun | .timestamp p => some p | _ => none) ext.list))
    | .date =>
      let rules : Option TextBoundRules := match ext.j5 with | some (.date r) => some r | _ => none
      .ok (.date rules (listPayload (fun | .date p => some p | _ => none) ext.list))
    | .decimal =>
      let rules : Option TextBoundRules := match ext.j5 with | some (.decimal r) => some r | _ => none
      .ok (.decimal rules (listPayload (fun | .decimal p => some p | _ => none) ext.list))
    | .any =>
      let (od, types) : Bool × List String := match ext.j5 with | some (.any od ts) => (od, ts) | _ => (false, [])
      .ok (.any od types (listPayload (fun | .any p => some p | _ => none) ext.list))
    | .oneof name => .ok (.oneof name false (listPayload (fun | .oneof p => some p | _ => none) ext.list))
    | .object name => .ok (.object name flatten false)

/-- `getProtoFieldExtensions`: a missing validate annotation reads as an empty one -/
def topExts (a : Annot) : Exts :=
  { validate := some (a.validate.getD {}), list := a.list, j5 := a.j5 }

/-- one field of `messageProperties` -/
def readField (a : Annot) : Outcome Property :=
  let ext := topExts a
  let required := (match ext.validate with | some c => c.required == some true | none => false)
  if a.repeated then
    let sf : Option String := match a.j5 with | some (.array sf) => sf | _ => none
    let (rules, childValidate) : Option ArrayRules × Option FieldC :=
      match ext.repeatedC with
      | some r => (some { minItems := r.minItems, maxItems := r.maxItems, uniqueItems := r.unique },
                   r.items.map fun c => { required := none, typ := .item c })
      | none => (none, none)
    match buildSchema a.kind { validate := childValidate, list := a.list, j5 := none } a.psmKey with
    | .err t => .err t
    | .panic w => .panic w
    | .ok s =>
      .ok { name := a.jsonName, number := a.number, description := a.description,
            required := required, explicitlyOptional := false, schema := .array s rules sf }
  else if a.isMap then
    let sf : Option String := match a.j5 with | some (.map sf) => sf | _ => none
    let (rules, childValidate) : Option MapRules × Option FieldC :=
      match ext.mapC with
      | some m => (some { minPairs := m.minPairs, maxPairs := m.maxPairs },
                   m.values.map fun c => { required := none, typ := .item c })
      | none => (none, none)
    -- `buildSchema(childContext, field.MapValue(), childExt)`: no list rules, no j5 annotation
    match buildSchema a.kind { validate := childValidate, list := none, j5 := none } a.psmKey with
    | .err t => .err t
    | .panic w => .panic w
    | .ok s =>
      .ok { name := a.jsonName, number := a.number, description := a.description,
            required := required, explicitlyOptional := false, schema := .map s rules sf }
  else
    match buildSchema a.kind ext a.psmKey with
    | .err t => .err t
    | .panic w => .panic w
    | .ok s =>
      .ok { name := a.jsonName, number := a.number, description := a.description,
            required := required, explicitlyOptional := !required && a.proto3Optional, schema := .single s }

end J5V.Rules
