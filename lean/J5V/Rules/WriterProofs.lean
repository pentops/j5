import J5V.Rules.IntProofs
/-!
# The writer on admissible declarations

`buildField` in closed form (`annotOf`), what can be read off it, which enum declarations it
rejects, and the `(buf.validate.field)` that `writeField` makes of it.
-/
namespace J5V.Rules
open J5V.Go

theorem mapValues_eq (e : EnumDecl) (names : List String) :
    mapValues e names =
      if names.all (fun n => (e.numberOf n).isSome) then .ok (names.filterMap e.numberOf)
      else .err "enum value not found" := by
  induction names with
  | nil => rfl
  | cons x rest ih =>
    have hx : lookupName e.valMap (addPrefix e.pfx x) = e.numberOf x := rfl
    cases hv : e.numberOf x with
    | none => simp [mapValues, hx, hv]
    | some v =>
      rw [mapValues, hx, hv, ih]
      cases hr : rest.all (fun n => (e.numberOf n).isSome) <;> simp [hv, hr]

theorem mapValues_of_all (e : EnumDecl) (names : List String)
    (h : names.all (fun n => (e.numberOf n).isSome) = true) :
    mapValues e names = .ok (names.filterMap e.numberOf) := by
  rw [mapValues_eq, if_pos h]

theorem keyListExt_ok (format : Option KeyFormat) (p : LRPayload) :
    keyListExt format p = .ok (.foreignKey (slotOf format) p) := by
  cases format with
  | none => rfl
  | some f => cases f <;> rfl

theorem buildField_wf (s : Schema) (h : schemaWF s = true) : buildField s = .ok (annotOf s) := by
  cases s with
  | integer fmt rules lr =>
    cases rules with
    | none => rfl
    | some r => simp only [buildField, compileInt_closed fmt r h, annotOf, Option.map_some]
  | enum d rules lr =>
    cases rules with
    | none =>
      simp only [schemaWF, Bool.true_and] at h
      simp only [buildField, mapValues_of_all d _ h, annotOf, Option.elim_none, List.filterMap_nil]
    | some r =>
      simp only [schemaWF, enumRulesWF, Bool.and_eq_true] at h
      simp only [buildField, mapValues_of_all d _ h.1.1, mapValues_of_all d _ h.1.2, mapValues_of_all d _ h.2, annotOf,
        Option.elim_some]
  | key format entity lr =>
    cases lr with
    | none => rfl
    | some p => simp only [buildField, keyListExt_ok, annotOf, Option.map_some]
  | _ => rfl

/-- the enum branch of the compiler rejects exactly the inadmissible declarations: a name in
`in` / `notIn` or a default filter of the list rules that is not an option of the enum
(the default filters: Go commit b6c593a) -/
theorem buildField_enum_isErr (d : EnumDecl) (rules : Option EnumRules) (lr : ListRules) :
    (buildField (.enum d rules lr)).isErr = !schemaWF (.enum d rules lr) := by
  cases rules with
  | none =>
    simp only [buildField, mapValues_eq, schemaWF, enumFiltersWF, Bool.true_and]
    cases (lrDefaultFilters lr).all fun n => (d.numberOf n).isSome <;> rfl
  | some r =>
    simp only [buildField, mapValues_eq, schemaWF, enumRulesWF, enumFiltersWF]
    cases r.inn.all fun n => (d.numberOf n).isSome <;> cases r.notIn.all fun n => (d.numberOf n).isSome <;>
      cases (lrDefaultFilters lr).all fun n => (d.numberOf n).isSome <;> rfl

/-! ## read off the closed form -/

theorem psmPrimaryKey_annotOf (s : Schema) : psmPrimaryKey (annotOf s).psmKey = schemaPrimary s := by
  cases s with
  | key format entity lr =>
    rcases entity with _ | ⟨t, tk⟩
    · rfl
    · cases t <;> rfl
  | _ => rfl

/-! ## `(buf.validate.field)` of the property -/

theorem primaryKey_eq (p : Property) :
    p.primaryKey = (!p.schema.isMap && schemaPrimary p.schema.item) := by
  unfold Property.primaryKey schemaPrimary
  cases p.schema <;> rfl

theorem effRequired_eq (p : Property) :
    (p.required || (!p.schema.isMap && psmPrimaryKey (annotOf p.schema.item).psmKey)) = p.effRequired := by
  rw [psmPrimaryKey_annotOf, ← primaryKey_eq]; rfl

/-- the annotation record of an admissible property -/
theorem writeField_wf (p : Property) (hs : schemaWF p.schema.item = true)
    (hnot : (p.explicitlyOptional && p.effRequired) = false) :
    writeField p = .ok {
      jsonName := p.name, protoName := snakeName p.name, number := p.number, description := p.description,
      kind := (annotOf p.schema.item).kind, repeated := p.schema.isArray, isMap := p.schema.isMap,
      proto3Optional := p.explicitlyOptional,
      validate := fieldValidate p.schema (annotOf p.schema.item).validate p.effRequired,
      j5 := fieldJ5 p.schema (annotOf p.schema.item).j5,
      list := if p.schema.isMap then none else (annotOf p.schema.item).list,
      psmKey := (annotOf p.schema.item).psmKey } := by
  simp only [writeField, buildField_wf _ hs, effRequired_eq, hnot, Bool.false_eq_true, if_false]

/-- the emitted constraint in closed form -/
theorem compileRules_eq (p : Property) (hs : schemaWF p.schema.item = true)
    (hnot : (p.explicitlyOptional && p.effRequired) = false) :
    compileRules p = .ok (fieldValidate p.schema (annotOf p.schema.item).validate p.effRequired) := by
  simp only [compileRules, writeField_wf p hs hnot]

end J5V.Rules
