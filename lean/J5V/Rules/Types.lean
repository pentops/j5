/-!
# Rules cluster (C12, C04): data types

Core-only. Mirrors of
* the j5 schema rule messages of `proto/j5/j5/schema/v1/schema.proto` (`Schema`, `Property`),
* the subset of `buf.validate.FieldConstraints` that `internal/j5s/j5convert/fields.go` emits (`FieldC`),
* the annotation record of one compiled field as seen by `lib/j5schema/schema_from_proto.go` (`Annot`),
* candidate field values of the compiled message type (`FieldVal`).
-/
namespace J5V.Rules

/-! ## j5 schema side -/

inductive IntFormat where
  | i32 | i64 | u32 | u64
  deriving DecidableEq, Repr, Inhabited

def IntFormat.lo : IntFormat → Int
  | .i32 => -(2 ^ 31)
  | .i64 => -(2 ^ 63)
  | .u32 => 0
  | .u64 => 0

def IntFormat.hi : IntFormat → Int
  | .i32 => 2 ^ 31 - 1
  | .i64 => 2 ^ 63 - 1
  | .u32 => 2 ^ 32 - 1
  | .u64 => 2 ^ 64 - 1

def IntFormat.inRange (f : IntFormat) (v : Int) : Bool := decide (f.lo ≤ v) && decide (v ≤ f.hi)

/-- `schema.IntegerField.Rules` (multiple_of is ignored by the compiler and not modelled). -/
structure IntRules where
  minimum : Option Int := none
  maximum : Option Int := none
  exclusiveMinimum : Option Bool := none
  exclusiveMaximum : Option Bool := none
  deriving DecidableEq, Repr, Inhabited

structure StringRules where
  minLength : Option Nat := none
  maxLength : Option Nat := none
  pattern : Option String := none
  deriving DecidableEq, Repr, Inhabited

structure BytesRules where
  minLength : Option Nat := none
  maxLength : Option Nat := none
  deriving DecidableEq, Repr, Inhabited

structure BoolRules where
  const : Option Bool := none
  deriving DecidableEq, Repr, Inhabited

structure EnumRules where
  inn : List String := []
  notIn : List String := []
  deriving DecidableEq, Repr, Inhabited

/-- `schema.DateField.Rules` / `schema.DecimalField.Rules`: bounds as text -/
structure TextBoundRules where
  minimum : Option String := none
  maximum : Option String := none
  exclusiveMinimum : Option Bool := none
  exclusiveMaximum : Option Bool := none
  deriving DecidableEq, Repr, Inhabited

structure ArrayRules where
  minItems : Option Nat := none
  maxItems : Option Nat := none
  uniqueItems : Option Bool := none
  deriving DecidableEq, Repr, Inhabited

/-- `schema.MapField.Rules` -/
structure MapRules where
  minPairs : Option Nat := none
  maxPairs : Option Nat := none
  deriving DecidableEq, Repr, Inhabited

inductive KeyFormat where
  | informal
  | custom (pattern : String)
  | uuid
  | id62
  deriving DecidableEq, Repr, Inhabited

/-- `schema.EntityKey.type` oneof -/
inductive EntityKeyType where
  | none
  | primary (b : Bool)
  | foreign (ref : String)
  deriving DecidableEq, Repr, Inhabited

structure EntityKey where
  typ : EntityKeyType := .none
  tenantKey : Option String := none
  deriving DecidableEq, Repr, Inhabited

/-- A j5s enum declaration. `defaultPrefix` is `strcase.ToScreamingSnake(name) ++ "_"`; the driver
computes it with the compile cluster's model of strcase (`Wire.lean`, `Compile/Strcase.lean`). -/
structure EnumDecl where
  name : String
  declPrefix : Option String := none
  defaultPrefix : String
  options : List String
  /-- description of the enum -/
  description : String := ""
  /-- descriptions of the options, by position (`""` / missing = none) -/
  descs : List String := []
  deriving DecidableEq, Repr, Inhabited

/-- The list-rules message of a field (filter / sort / search settings). `text` is the whole
message in the canonical spelling of the line protocol, opaque to writer and reader (both copy it
verbatim); `defaultFilters` is the one member the writer inspects: for an enum field
`filtering.defaultFilters` must name options of the enum (`[]` when `filtering` is absent). -/
structure LRPayload where
  text : String
  defaultFilters : List String := []
  deriving DecidableEq, Repr, Inhabited

/-- `none` = list-rules message absent -/
abbrev ListRules := Option LRPayload

/-- The schema of a non-array field (`schema.Field` minus array/map). -/
inductive Schema where
  | string (format : Option String) (rules : Option StringRules) (lr : ListRules)
  | integer (fmt : IntFormat) (rules : Option IntRules) (lr : ListRules)
  | float (is64 : Bool) (lr : ListRules)
  | bool (rules : Option BoolRules) (lr : ListRules)
  | bytes (rules : Option BytesRules)
  | key (format : Option KeyFormat) (entity : Option EntityKey) (lr : ListRules)
  | enum (decl : EnumDecl) (rules : Option EnumRules) (lr : ListRules)
  | object (ref : String) (flatten : Bool) (hasRules : Bool)
  | oneof (ref : String) (hasRules : Bool) (lr : ListRules)
  | timestamp (hasRules : Bool) (lr : ListRules)
  | date (rules : Option TextBoundRules) (lr : ListRules)
  | decimal (rules : Option TextBoundRules) (lr : ListRules)
  | any (onlyDefined : Bool) (types : List String) (lr : ListRules)
  deriving DecidableEq, Repr, Inhabited

inductive FieldSchema where
  | single (s : Schema)
  | array (items : Schema) (rules : Option ArrayRules) (singleForm : Option String)
  /-- `map:<type>`: string keys (no key schema in j5s text), values of the item schema -/
  | map (values : Schema) (rules : Option MapRules) (singleForm : Option String)
  deriving DecidableEq, Repr, Inhabited

def FieldSchema.item : FieldSchema → Schema
  | .single s => s
  | .array s _ _ => s
  | .map s _ _ => s

def FieldSchema.isArray : FieldSchema → Bool
  | .array _ _ _ => true
  | _ => false

def FieldSchema.isMap : FieldSchema → Bool
  | .map _ _ _ => true
  | _ => false

/-- `schema.ObjectProperty` (+ the proto field number the walker assigns). -/
structure Property where
  name : String
  number : Nat
  required : Bool := false
  explicitlyOptional : Bool := false
  description : String := ""
  schema : FieldSchema
  deriving DecidableEq, Repr, Inhabited

/-- message-typed kinds (fields with presence, no scalar zero value) -/
def Schema.isMessage : Schema → Bool
  | .object _ _ _ | .oneof _ _ _ | .timestamp _ _ | .date _ _ | .decimal _ _ | .any _ _ _ => true
  | _ => false

/-! ## protovalidate side: the subset of `buf.validate.FieldConstraints` the compiler emits -/

inductive UpperB where
  | none | lt (n : Int) | lte (n : Int)
  deriving DecidableEq, Repr, Inhabited

inductive LowerB where
  | none | gt (n : Int) | gte (n : Int)
  deriving DecidableEq, Repr, Inhabited

structure StringC where
  minLen : Option Nat := none
  maxLen : Option Nat := none
  pattern : Option String := none
  uuid : Bool := false
  deriving DecidableEq, Repr, Inhabited

/-- `FieldConstraints.type` for a non-repeated field -/
inductive ItemC where
  | none
  | string (c : StringC)
  | int (fmt : IntFormat) (ub : UpperB) (lb : LowerB)
  | bool (const : Option Bool)
  | bytes (minLen maxLen : Option Nat)
  | enum (definedOnly : Option Bool) (inn notIn : List Int)
  | timestamp
  deriving DecidableEq, Repr, Inhabited

structure RepeatedC where
  minItems : Option Nat := none
  maxItems : Option Nat := none
  unique : Option Bool := none
  /-- `items`: a nested FieldConstraints (its `required` is never set by the compiler) -/
  items : Option ItemC := none
  deriving DecidableEq, Repr, Inhabited

/-- `buf.validate.MapRules` (keys are never constrained by the compiler) -/
structure MapC where
  minPairs : Option Nat := none
  maxPairs : Option Nat := none
  values : Option ItemC := none
  deriving DecidableEq, Repr, Inhabited

inductive TypeC where
  | item (c : ItemC)
  | repeated (r : RepeatedC)
  | map (m : MapC)
  deriving DecidableEq, Repr, Inhabited

structure FieldC where
  required : Option Bool := none
  typ : TypeC := .item .none
  deriving DecidableEq, Repr, Inhabited

/-! ## candidate values of the compiled field -/

inductive Scalar where
  | str (s : List Char)
  | bytes (b : List Nat)
  | bool (b : Bool)
  | int (n : Int)
  | enum (n : Int)
  | float (nonzero : Bool)
  | msg
  deriving DecidableEq, Repr, Inhabited

inductive FieldVal where
  | absent
  | single (v : Scalar)
  | list (vs : List Scalar)
  deriving DecidableEq, Repr, Inhabited

def Scalar.isZero : Scalar → Bool
  | .str s => s.isEmpty
  | .bytes b => b.isEmpty
  | .bool b => !b
  | .int n => n == 0
  | .enum n => n == 0
  | .float nz => !nz
  | .msg => false

inductive Verdict where
  | accept | reject | error
  deriving DecidableEq, Repr, Inhabited

/-! ## the annotation record of a compiled field (what the schema reader consumes) -/

inductive MsgRef where
  | timestamp | date | decimal | any
  | object (name : String)
  | oneof (name : String)
  deriving DecidableEq, Repr, Inhabited

inductive ProtoKind where
  | string | bool | bytes | float | double
  | int (fmt : IntFormat)
  | enum (decl : EnumDecl)
  | message (m : MsgRef)
  deriving DecidableEq, Repr, Inhabited

/-- `(j5.ext.v1.field)`: the type oneof with the members the compiler sets -/
inductive J5Ext where
  | string | integer | float | bool | bytes | timestamp | enum | oneof
  | object (flatten : Bool)
  | key (pattern : Option String)
  | array (singleForm : Option String)
  | map (singleForm : Option String)
  | any (onlyDefined : Bool) (types : List String)
  | date (rules : TextBoundRules)
  | decimal (rules : TextBoundRules)
  deriving DecidableEq, Repr, Inhabited

inductive FkSlot where
  | uniqueString | id62 | uuid
  deriving DecidableEq, Repr, Inhabited

/-- `(j5.list.v1.field)`: slot + payload -/
inductive ListExt where
  | int (fmt : IntFormat) (p : LRPayload)
  | float (p : LRPayload)
  | double (p : LRPayload)
  | bool (p : LRPayload)
  | openText (p : LRPayload)
  | foreignKey (slot : FkSlot) (p : LRPayload)
  | enum (p : LRPayload)
  | oneof (p : LRPayload)
  | timestamp (p : LRPayload)
  | date (p : LRPayload)
  | decimal (p : LRPayload)
  | any (p : LRPayload)
  deriving DecidableEq, Repr, Inhabited

/-- `(j5.ext.v1.key)` PSMKeyFieldOptions -/
structure PsmKey where
  primaryKey : Bool := false
  foreignKey : Option String := none
  tenantType : Option String := none
  deriving DecidableEq, Repr, Inhabited

structure Annot where
  /-- `json_name`: the declared j5s name -/
  jsonName : String
  /-- the proto field name: `strcase.ToSnake` of the declared name -/
  protoName : String
  number : Nat
  description : String
  kind : ProtoKind
  repeated : Bool
  /-- `map<string, kind>`: the annotations below are those of the map field itself; of the entry's
  `value` field only the proto kind and `(j5.ext.v1.key)` are visible to the reader -/
  isMap : Bool := false
  proto3Optional : Bool
  validate : Option FieldC
  j5 : Option J5Ext
  list : Option ListExt
  psmKey : Option PsmKey
  deriving DecidableEq, Repr, Inhabited

end J5V.Rules
