import J5V.Rules.Wire
/-!
# The driver's matcher implements the published id62 pattern

`Wire.smallMatcher` (the regex class used by the correspondence runs) satisfies the hypothesis of the
C12 theorems on the matcher: on `^[0-9A-Za-z]{22}$` it decides exactly `id62Shape`.
-/
namespace J5V.Rules.Wire
open J5V.Rules

def id62Re : SmallRe :=
  { anchorL := true, anchorR := true, isClass := true, lit := [],
    ranges := [('0', '9'), ('A', 'Z'), ('a', 'z')], min := 22, max := some 22 }

theorem parse_id62 : parseSmallRe id62Pattern = some id62Re := by decide +kernel

theorem runLen_eq_length (re : SmallRe) (s : List Char) : (runLen re s == s.length) = s.all re.inClass := by
  induction s with
  | nil => rfl
  | cons c rest ih =>
    simp only [runLen, List.length_cons, List.all_cons]
    cases h : re.inClass c
    · simp
    · simp only [if_true, Bool.true_and, ← ih]
      cases h2 : (runLen re rest == rest.length) <;> simp_all <;> omega

theorem char_le_iff (a b : Char) : a ≤ b ↔ a.toNat ≤ b.toNat := by
  rw [Char.le_def, UInt32.le_iff_toNat_le]; rfl

/-- the same three ranges as `isAlnumChar`, which lists lower case before upper case -/
theorem inClass_id62 (c : Char) : id62Re.inClass c = isAlnumChar c := by
  simp only [SmallRe.inClass, id62Re, List.any_cons, List.any_nil, Bool.or_false, isAlnumChar, char_le_iff, ge_iff_le]
  change (decide (48 ≤ c.toNat) && decide (c.toNat ≤ 57) ||
    (decide (65 ≤ c.toNat) && decide (c.toNat ≤ 90) || decide (97 ≤ c.toNat) && decide (c.toNat ≤ 122))) = _
  rw [Bool.or_comm (decide (65 ≤ c.toNat) && _), Bool.or_assoc]

/-- the driver's matcher implements the published id62 pattern: it satisfies the hypothesis of C12 -/
theorem smallMatcher_id62 (x : List Char) : smallMatcher.run id62Pattern x = id62Shape x := by
  simp only [smallMatcher, parse_id62, SmallRe.matches, id62Re, Bool.not_true, Bool.false_eq_true, if_false]
  have := runLen_eq_length id62Re x
  simp only [id62Re] at this
  rw [this]
  have hc : x.all (SmallRe.inClass id62Re) = x.all isAlnumChar := by
    congr 1; funext c; exact inClass_id62 c
  simp only [id62Re] at hc
  rw [hc, id62Shape]
  cases h : x.all isAlnumChar <;> simp
  rw [Bool.eq_iff_iff]
  simp only [Bool.and_eq_true, decide_eq_true_eq, beq_iff_eq]
  omega

end J5V.Rules.Wire
