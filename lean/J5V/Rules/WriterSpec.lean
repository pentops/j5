import J5V.Rules.Meaning
/-!
# What the writer emits, in closed form

Definitions only: `annotOf s` is what `buildField s` returns on an admissible schema (`buildField_wf`), with the
integer bounds (`ubOf`, `lbOf`), the enum numbers and the key's list slot (`slotOf`) computed. `annotOf` has to follow
`buildField` arm by arm when a kind or an annotation is added.
-/
namespace J5V.Rules
open J5V.Go

def Schema.isEnum : Schema → Bool
  | .enum _ _ _ => true
  | _ => false

def definedOfSchema : Schema → List Int
  | .enum d _ _ => d.defined
  | _ => []

def evalOpt (M : Matcher) (defined : List Int) (o : Option ItemC) (x : Scalar) : Bool :=
  match o with
  | none => true
  | some ic => evalItem M defined ic x

/-- the bounds `compileInt` emits for admissible rules -/
def ubOf (r : IntRules) : UpperB :=
  match r.maximum with
  | none => .none
  | some m => if r.exclusiveMaximum = some true then .lt m else .lte m

def lbOf (r : IntRules) : LowerB :=
  match r.minimum with
  | none => .none
  | some m => if r.exclusiveMinimum = some true then .gt m else .gte m

def slotOf : Option KeyFormat → FkSlot
  | some .id62 => .id62
  | some .uuid => .uuid
  | _ => .uniqueString


/-- What `buildField` returns when it returns: the same records, with the integer bounds, the enum
numbers and the key's list slot in closed form. -/
def annotOf : Schema → ItemAnnot
  | .object ref flatten hasRules =>
    { kind := .message (.object ref), j5 := some (.object flatten), list := none, psmKey := none,
      validate := if hasRules then some .none else none }
  | .oneof ref hasRules lr =>
    { kind := .message (.oneof ref), j5 := some .oneof, list := lr.map .oneof, psmKey := none,
      validate := if hasRules then some .none else none }
  | .enum decl rules lr =>
    { kind := .enum decl, j5 := some .enum, list := lr.map .enum, psmKey := none,
      validate := some (.enum (some true) ((rules.elim [] (·.inn)).filterMap decl.numberOf)
                                          ((rules.elim [] (·.notIn)).filterMap decl.numberOf)) }
  | .bool rules lr =>
    { kind := .bool, j5 := some .bool, list := lr.map .bool, psmKey := none,
      validate := rules.map fun r => .bool r.const }
  | .bytes rules =>
    { kind := .bytes, j5 := some .bytes, list := none, psmKey := none,
      validate := rules.map fun r => .bytes r.minLength r.maxLength }
  | .date rules lr =>
    { kind := .message .date, j5 := rules.map .date, list := lr.map .date, psmKey := none, validate := none }
  | .decimal rules lr =>
    { kind := .message .decimal, j5 := rules.map .decimal, list := lr.map .decimal, psmKey := none, validate := none }
  | .float is64 lr =>
    { kind := if is64 then .double else .float, j5 := some .float, psmKey := none, validate := none,
      list := lr.map fun p => if is64 then .double p else .float p }
  | .integer fmt rules lr =>
    { kind := .int fmt, j5 := some .integer, list := lr.map (.int fmt), psmKey := none,
      validate := rules.map fun r => .int fmt (ubOf r) (lbOf r) }
  | .key format entity lr =>
    { kind := .string, j5 := some (.key (keyExtPattern format)), list := lr.map (.foreignKey (slotOf format)),
      psmKey := entity.map entityPsm, validate := format.map fun f => .string (keyStringC f) }
  | .string _ rules lr =>
    { kind := .string, j5 := some .string, list := lr.map .openText, psmKey := none,
      validate := rules.map fun r => .string { minLen := r.minLength, maxLen := r.maxLength, pattern := r.pattern } }
  | .timestamp hasRules lr =>
    { kind := .message .timestamp, j5 := some .timestamp, list := lr.map .timestamp, psmKey := none,
      validate := if hasRules then some .timestamp else none }
  | .any od types lr =>
    { kind := .message .any, j5 := some (.any od types), list := lr.map .any, psmKey := none, validate := none }

def schemaPrimary : Schema → Bool
  | .key _ (some e) _ => (match e.typ with | .primary b => b | _ => false)
  | _ => false


end J5V.Rules
