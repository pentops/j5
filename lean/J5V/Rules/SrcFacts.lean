import J5V.Generated.RulesFacts
import J5V.Rules.Compile
import J5V.Rules.Reader
/-!
# Rules cluster (C04, C12): checkers over the regenerated source facts

`J5V/Generated/RulesFacts.lean` is rewritten by `extract/rules.go` from the current source of
`internal/j5s/j5convert/fields.go` (writer: `buildProperty` / `buildField`) and
`lib/j5schema/schema_from_proto.go` (reader) on every `./check C04` / `./check C12`:

* `fieldTypeMembers` — the members of the `schema.Field.type` oneof,
* `schemaMsgFields` — the fields of every j5 field / rules / ext message,
* `writerReads` / `readerReads` — per branch ("unit"), the j5-schema fields / option fields read,
* `rootWriterReads` / `rootWriterCopies` — the same for `visitObjectNode` / `visitOneofNode` (conversion.go),
* `writerCopies` / `readerCopies` — per branch, every `(target, source, value text, guards)`:
  a key of a composite literal, an assignment through a selector, a `proto.SetExtension`, a
  `setJ5Ext` call, a plain assignment to a local; `guards` are the enclosing conditions and case
  clauses, outermost first, with aliases expanded.

This file holds the hand-written side: the slot tables (which option field carries which schema
field, and where the reader picks it up) and Bool-valued checkers. The obligations themselves are
evaluated in `Rules/SrcProofs.lean`, one declaration per table; `Props/C04.lean` and `Props/C12.lean`
state them one by one and cite the fields of those. Anything the
extractor does not recognise, or a changed guard / cast / slot, yields a text these tables do not
contain, so the obligation fails.
-/
namespace J5V.Rules.Src
open J5V.Generated.Rules

abbrev Copy := String × String × String × String × List String

def cUnit (c : Copy) : String := c.1
def cTarget (c : Copy) : String := c.2.1
def cSrc (c : Copy) : String := c.2.2.1
def cText (c : Copy) : String := c.2.2.2.1
def cGuards (c : Copy) : List String := c.2.2.2.2

def readsOf (tbl : List (String × List String)) (unit : String) : List String :=
  (tbl.find? fun (u, _) => u == unit).map (·.2) |>.getD []

def fieldsOf (msg : String) : Option (List String) :=
  (schemaMsgFields.find? fun (m, _) => m == msg).map (·.2)

/-! ## branches: every member of `Field.type` has a writer branch and a reader producer -/

/-- the literal key by which the reader produces each member (a `schema_j5pb.Field_X` wrapper for
scalars, a j5schema struct for the others) -/
def readerProducer : String → String
  | "Field_Any" => "AnyField.ListRules"
  | "Field_Array" => "ArrayField.Schema"
  | "Field_Map" => "MapField.Schema"
  | "Field_Object" => "ObjectField.Ref"
  | "Field_Oneof" => "OneofField.Ref"
  | "Field_Enum" => "EnumField.Ref"
  | "Field_Bool" => "Field_Bool.Bool"
  | "Field_Bytes" => "Field_Bytes.Bytes"
  | "Field_Date" => "Field_Date.Date"
  | "Field_Decimal" => "Field_Decimal.Decimal"
  | "Field_Float" => "Field_Float.Float"
  | "Field_Integer" => "Field_Integer.Integer"
  | "Field_Key" => "Field_Key.Key"
  | "Field_String_" => "Field_String_.String_"
  | "Field_Timestamp" => "Field_Timestamp.Timestamp"
  | _ => "<no producer>"

/-- the writer unit of a member: containers in `buildProperty`, the rest in `buildField` -/
def writerUnitOf (m : String) : String :=
  if m == "Field_Array" || m == "Field_Map" then "buildProperty/" ++ m else "buildField/" ++ m

def everyMemberHasWriterBranch : Bool :=
  fieldTypeMembers.all fun m => writerUnits.contains (writerUnitOf m)

def everyMemberHasReaderProducer : Bool :=
  fieldTypeMembers.all fun m => readerCopies.any fun c => (cTarget c) == readerProducer m

/-- both switches end in an error `default` (an unknown member is an error, not a silent drop) -/
def writerDefaultsPresent : Bool :=
  writerUnits.contains "buildField/default" && writerUnits.contains "buildProperty/default"

/-! ## schema coverage: which declared fields the writer reads at all -/

/-- (member, kind name inside `st.<Kind>.…`, message name) -/
def memberTable : List (String × String × String) := [
  ("Field_Any", "Any", "AnyField"), ("Field_Array", "Array", "ArrayField"), ("Field_Bool", "Bool", "BoolField"),
  ("Field_Bytes", "Bytes", "BytesField"), ("Field_Date", "Date", "DateField"), ("Field_Decimal", "Decimal", "DecimalField"),
  ("Field_Enum", "Enum", "EnumField"), ("Field_Float", "Float", "FloatField"), ("Field_Integer", "Integer", "IntegerField"),
  ("Field_Key", "Key", "KeyField"), ("Field_Map", "Map", "MapField"), ("Field_Object", "Object", "ObjectField"),
  ("Field_Oneof", "Oneof", "OneofField"), ("Field_String_", "String_", "StringField"),
  ("Field_Timestamp", "Timestamp", "TimestampField") ]
def kindOf (m : String) : String :=
  (memberTable.find? fun (x, _, _) => x == m).map (·.2.1) |>.getD "<unknown member>"
def msgOf (m : String) : String :=
  (memberTable.find? fun (x, _, _) => x == m).map (·.2.2) |>.getD "<unknown member>"

/-- Fields of the j5 field messages the writer does NOT read: the explicit list. `open` = recorded
open finding of C04; the others are outside the property (reason given). The obligation demands
that every listed field is indeed unread, so a repair has to shorten this list. -/
def schemaExceptions : List (String × String × String) := [
  ("StringField", "Format", "open: schema-diff:str:sfmt:dropped (+array, +map) — ext StringField has no slot for it"),
  ("IntegerField_Rules", "MultipleOf", "observation: accepted by the parser, ignored by the compiler; not a rule the property lists"),
  ("FloatField_Rules", "ExclusiveMaximum", "float rules are a compile error (C07 finding of the compile cluster)"),
  ("FloatField_Rules", "ExclusiveMinimum", "float rules are a compile error"),
  ("FloatField_Rules", "Minimum", "float rules are a compile error"),
  ("FloatField_Rules", "Maximum", "float rules are a compile error"),
  ("FloatField_Rules", "MultipleOf", "float rules are a compile error"),
  ("TimestampField_Rules", "Minimum", "not expressible: j5s text cannot set a Timestamp scalar (SetAttribute: unsupported scalar type)"),
  ("TimestampField_Rules", "Maximum", "not expressible in j5s text"),
  ("TimestampField_Rules", "ExclusiveMinimum", "inadmissible without its bound"),
  ("TimestampField_Rules", "ExclusiveMaximum", "inadmissible without its bound"),
  ("ObjectField_Rules", "MinProperties", "observation: accepted by the parser, ignored by the compiler; not a rule the property lists"),
  ("ObjectField_Rules", "MaxProperties", "observation: as MinProperties"),
  ("MapField", "KeySchema", "by reading: keys are always strings, `keySchema` is ignored"),
  ("ObjectField", "Schema", "resolved by sourcewalk (`node.Ref`)"),
  ("ObjectField", "Entity", "root-level annotation, written by visitObjectNode (Root.lean)"),
  ("OneofField", "Schema", "resolved by sourcewalk (`node.Ref`)"),
  ("EnumField", "Schema", "resolved by sourcewalk (`node.Ref`)"),
  ("KeyField", "Rules", "empty message"),
  ("DateField", "Ext", "empty message; (j5.ext.v1.field).date carries the rules instead"),
  ("DecimalField", "Ext", "empty message; (j5.ext.v1.field).decimal carries the rules instead") ]

def isException (msg f : String) : Bool := schemaExceptions.any fun (m, g, _) => m == msg && g == f

/-- is `st.<kind>.<path>` read in the member's writer unit -/
def writerReadsPath (m path : String) : Bool :=
  (readsOf writerReads (writerUnitOf m)).contains ("st." ++ kindOf m ++ "." ++ path)

/-- (message, field, is it read) for every field of the member's message and of its `Rules` message -/
def coverageRows (m : String) : List (String × String × Bool) :=
  let msg := msgOf m
  match fieldsOf msg with
  | none => [(msg, "<unknown message>", false)]
  | some fs =>
    fs.map (fun f => (msg, f, writerReadsPath m f)) ++
    (if fs.contains "Rules" then
      match fieldsOf (msg ++ "_Rules") with
      | none => [(msg ++ "_Rules", "<unknown message>", false)]
      | some gs => gs.map fun g => (msg ++ "_Rules", g, writerReadsPath m ("Rules." ++ g))
     else [])

def allCoverageRows : List (String × String × Bool) := fieldTypeMembers.flatMap coverageRows

/-- every declared field is read by the writer, or is a listed exception -/
def everySchemaFieldIsReadOrListed : Bool :=
  allCoverageRows.all fun (msg, f, read) => read || isException msg f

/-- the exception list is exact: every listed field exists and is unread -/
def exceptionsAreExact : Bool :=
  schemaExceptions.all fun (msg, f, _) => allCoverageRows.any fun (m, g, read) => m == msg && g == f && !read

/-- the open-finding family among the exceptions -/
def openSchemaExceptions : List (String × String) := [("StringField", "Format")]

/-! ## slots: every schema field the writer copies has a reader slot that copies it back -/

structure Slot where
  /-- writer: option field written -/
  wTarget : String
  /-- writer: schema field it comes from -/
  wSrc : String
  /-- reader: schema field set -/
  rTarget : String
  /-- reader: option field it comes from (`""`: not a direct copy, see `rGuard`) -/
  rSrc : String
  /-- reader: a guard the copy must sit under (`""`: none required) -/
  rGuard : String := ""
  deriving Repr

/-- integer formats: (validate rules message prefix, getter, IntegerField_FORMAT suffix, model format, Go cast) -/
def intFormats : List (String × String × String × IntFormat × String) := [
  ("Int32", "GetInt32", "INT32", .i32, "int32"),
  ("Int64", "GetInt64", "INT64", .i64, ""),
  ("UInt32", "GetUint32", "UINT32", .u32, "uint32"),
  ("UInt64", "GetUint64", "UINT64", .u64, "uint64") ]

/-- bound kinds: (oneof member, oneof slot, schema bound) -/
def boundKinds : List (String × String × String) := [
  ("Lte", "LessThan", "Maximum"), ("Lt", "LessThan", "Maximum"),
  ("Gte", "GreaterThan", "Minimum"), ("Gt", "GreaterThan", "Minimum") ]

def intSlots : List Slot :=
  intFormats.flatMap fun (p, getter, _, _, _) =>
    boundKinds.map fun (k, slot, bound) =>
      { wTarget := p ++ "Rules_" ++ k ++ "." ++ k, wSrc := "st.Integer.Rules." ++ bound,
        rTarget := "IntegerField_Rules." ++ bound,
        rSrc := "ext.validate." ++ getter ++ "()." ++ slot ++ ".(" ++ p ++ "Rules_" ++ k ++ ")." ++ k }

def textBoundSlots (kind getter : String) : List Slot :=
  ["Minimum", "Maximum", "ExclusiveMinimum", "ExclusiveMaximum"].map fun b =>
    { wTarget := kind ++ "Field_Rules." ++ b, wSrc := "st." ++ kind ++ ".Rules." ++ b,
      rTarget := kind ++ "Field_Rules." ++ b, rSrc := "ext.j5." ++ getter ++ "().Rules." ++ b }

def slots : List Slot := [
  -- containers
  ⟨"MapRules.MinPairs", "st.Map.Rules.MinPairs", "MapField_Rules.MinPairs", "ext.validate.GetMap().MinPairs", ""⟩,
  ⟨"MapRules.MaxPairs", "st.Map.Rules.MaxPairs", "MapField_Rules.MaxPairs", "ext.validate.GetMap().MaxPairs", ""⟩,
  ⟨"ArrayField.SingleForm", "st.Array.Ext.SingleForm", "ArrayField_Ext.SingleForm", "ext.j5.GetArray().SingleForm", ""⟩,
  ⟨"RepeatedRules.MinItems", "st.Array.Rules.MinItems", "ArrayField_Rules.MinItems", "ext.validate.GetRepeated().MinItems", ""⟩,
  ⟨"RepeatedRules.MaxItems", "st.Array.Rules.MaxItems", "ArrayField_Rules.MaxItems", "ext.validate.GetRepeated().MaxItems", ""⟩,
  ⟨"RepeatedRules.Unique", "st.Array.Rules.UniqueItems", "ArrayField_Rules.UniqueItems", "ext.validate.GetRepeated().Unique", ""⟩,
  -- list rules
  ⟨"FieldConstraint_Oneof.Oneof", "st.Oneof.ListRules", "OneofField.ListRules", "ext.list.GetOneof()", ""⟩,
  ⟨"FieldConstraint_Enum.Enum", "st.Enum.ListRules", "EnumField.ListRules", "ext.list.GetEnum()", ""⟩,
  ⟨"FieldConstraint_Bool.Bool", "st.Bool.ListRules", "BoolField.ListRules", "ext.list.GetBool()", ""⟩,
  ⟨"FieldConstraint_Date.Date", "st.Date.ListRules", "DateField.ListRules", "ext.list.GetDate()", ""⟩,
  ⟨"FieldConstraint_Decimal.Decimal", "st.Decimal.ListRules", "DecimalField.ListRules", "ext.list.GetDecimal()", ""⟩,
  ⟨"FieldConstraint_Double.Double", "st.Float.ListRules", "FloatField.ListRules", "ext.list.GetDouble()", ""⟩,
  ⟨"FieldConstraint_Float.Float", "st.Float.ListRules", "FloatField.ListRules", "ext.list.GetFloat()", ""⟩,
  ⟨"FieldConstraint_Int32.Int32", "st.Integer.ListRules", "IntegerField.ListRules", "ext.list.GetInt32()", ""⟩,
  ⟨"FieldConstraint_Int64.Int64", "st.Integer.ListRules", "IntegerField.ListRules", "ext.list.GetInt64()", ""⟩,
  ⟨"FieldConstraint_Uint32.Uint32", "st.Integer.ListRules", "IntegerField.ListRules", "ext.list.GetUint32()", ""⟩,
  ⟨"FieldConstraint_Uint64.Uint64", "st.Integer.ListRules", "IntegerField.ListRules", "ext.list.GetUint64()", ""⟩,
  ⟨"FieldConstraint_Timestamp.Timestamp", "st.Timestamp.ListRules", "TimestampField.ListRules", "ext.list.GetTimestamp()", ""⟩,
  ⟨"FieldConstraint_Any.Any", "st.Any.ListRules", "AnyField.ListRules", "ext.list.GetAny()", ""⟩,
  ⟨"StringRules_OpenText.OpenText", "st.String_.ListRules", "StringField.ListRules", "ext.list.GetString_().GetOpenText()", ""⟩,
  ⟨"ForeignKeyRules_UniqueString.UniqueString", "st.Key.ListRules", "var fkRules",
    "ext.list.GetString_().GetForeignKey().Type.(ForeignKeyRules_UniqueString).UniqueString", ""⟩,
  ⟨"ForeignKeyRules_Id62.Id62", "st.Key.ListRules", "var fkRules",
    "ext.list.GetString_().GetForeignKey().Type.(ForeignKeyRules_Id62).Id62", ""⟩,
  ⟨"ForeignKeyRules_Uuid.Uuid", "st.Key.ListRules", "var fkRules",
    "ext.list.GetString_().GetForeignKey().Type.(ForeignKeyRules_Uuid).Uuid", ""⟩,
  -- validation rules
  ⟨"EnumRules.In", "st.Enum.Rules.In", "EnumField_Rules.In", "", "ext.validate.GetEnum().In != nil"⟩,
  ⟨"EnumRules.NotIn", "st.Enum.Rules.NotIn", "EnumField_Rules.NotIn", "", "ext.validate.GetEnum().NotIn != nil"⟩,
  ⟨"BoolRules.Const", "st.Bool.Rules.Const", "BoolField_Rules.Const", "ext.validate.GetBool().Const", ""⟩,
  ⟨"BytesRules.MinLen", "st.Bytes.Rules.MinLength", "BytesField_Rules.MinLength", "ext.validate.GetBytes().MinLen", ""⟩,
  ⟨"BytesRules.MaxLen", "st.Bytes.Rules.MaxLength", "BytesField_Rules.MaxLength", "ext.validate.GetBytes().MaxLen", ""⟩,
  ⟨"StringRules.MinLen", "st.String_.Rules.MinLength", "StringField.Rules.MinLength", "ext.validate.GetString().MinLen", ""⟩,
  ⟨"StringRules.MaxLen", "st.String_.Rules.MaxLength", "StringField.Rules.MaxLength", "ext.validate.GetString().MaxLen", ""⟩,
  ⟨"StringRules.Pattern", "st.String_.Rules.Pattern", "StringField.Rules.Pattern", "ext.validate.GetString().Pattern", ""⟩,
  -- keys
  ⟨"StringRules.Pattern", "st.Key.Format.Type.(KeyFormat_Custom_).Custom.Pattern", "StringField.Rules.Pattern",
    "ext.validate.GetString().Pattern", ""⟩,
  ⟨"KeyField_Pattern.Pattern", "st.Key.Format.Type.(KeyFormat_Custom_).Custom.Pattern", "KeyFormat_Custom.Pattern",
    "ext.j5.GetKey().Type.(KeyField_Pattern).Pattern", ""⟩,
  ⟨"PSMKeyFieldOptions.ForeignKey", "st.Key.Entity.Type.(EntityKey_ForeignKey).ForeignKey", "EntityKey_ForeignKey.ForeignKey",
    "GetExtension(ext_j5pb.E_Key).ForeignKey", ""⟩,
  ⟨"PSMKeyFieldOptions.TenantType", "st.Key.Entity.TenantKey", "EntityKey.TenantKey", "GetExtension(ext_j5pb.E_Key).TenantType", ""⟩,
  -- any
  ⟨"AnyField.OnlyDefined", "st.Any.OnlyDefined", "AnyField.OnlyDefined", "ext.j5.GetAny().OnlyDefined", ""⟩,
  ⟨"AnyField.Types", "st.Any.Types", "AnyField.Types", "ext.j5.GetAny().Types", ""⟩ ]
  ++ intSlots ++ textBoundSlots "Date" "GetDate" ++ textBoundSlots "Decimal" "GetDecimal"

/-- `setJ5Ext(<member of (j5.ext.v1.field)>)` copies the typed `Ext` message field by field (by
reflection): (call, source, the Ext message, the reader's getter). Every field of the Ext message
needs a reader copy `<Ext message>.<f> := ext.j5.<getter>().<f>`. -/
def extCalls : List (String × String × String × String) := [
  ("setJ5Ext(\"map\")", "st.Map.Ext", "MapField_Ext", "ext.j5.GetMap()"),
  ("setJ5Ext(\"array\")", "st.Array.Ext", "ArrayField_Ext", "ext.j5.GetArray()"),
  ("setJ5Ext(\"object\")", "st.Object.Ext", "ObjectField_Ext", "ext.j5.GetObject()"),
  ("setJ5Ext(\"oneof\")", "st.Oneof.Ext", "OneofField_Ext", "ext.j5.GetOneof()"),
  ("setJ5Ext(\"enum\")", "st.Enum.Ext", "EnumField_Ext", "ext.j5.GetEnum()"),
  ("setJ5Ext(\"bool\")", "st.Bool.Ext", "BoolField_Ext", "ext.j5.GetBool()"),
  ("setJ5Ext(\"bytes\")", "st.Bytes.Ext", "BytesField_Ext", "ext.j5.GetBytes()"),
  ("setJ5Ext(\"float\")", "st.Float.Ext", "FloatField_Ext", "ext.j5.GetFloat()"),
  ("setJ5Ext(\"integer\")", "st.Integer.Ext", "IntegerField_Ext", "ext.j5.GetInteger()"),
  ("setJ5Ext(\"key\")", "st.Key.Ext", "KeyField_Ext", "ext.j5.GetKey()"),
  ("setJ5Ext(\"string\")", "st.String_.Ext", "StringField_Ext", "ext.j5.GetString_()"),
  ("setJ5Ext(\"timestamp\")", "st.Timestamp.Ext", "TimestampField_Ext", "ext.j5.GetTimestamp()") ]

/-- sources of a writer copy that are not fields of the declared field schema -/
def nonSchemaSrcs : List String :=
  ["", "GetExtension(validate.E_Field)", "GetExtension(ext_j5pb.E_Key)", "node.Schema.Name"]
def isSchemaSrc (s : String) : Bool := !nonSchemaSrcs.contains s

/-- A: every option field the writer fills from the declared schema is a known slot -/
def everyWriterCopyHasSlot : Bool :=
  writerCopies.all fun c =>
    !isSchemaSrc (cSrc c) ||
    slots.any (fun s => s.wTarget == (cTarget c) && s.wSrc == (cSrc c)) ||
    extCalls.any (fun (call, src, _, _) => call == (cTarget c) && src == (cSrc c))

/-- the converse: every slot is written (no stale table rows) -/
def everySlotIsWritten : Bool :=
  slots.all (fun s => writerCopies.any fun c => (cTarget c) == s.wTarget && (cSrc c) == s.wSrc) &&
  extCalls.all (fun (call, src, _, _) => writerCopies.any fun c => (cTarget c) == call && (cSrc c) == src)

/-- B: every slot is read back by the reader into the paired schema field -/
def everySlotIsReadBack : Bool :=
  slots.all fun s =>
    readerCopies.any fun c =>
      (cTarget c) == s.rTarget && (s.rSrc == "" || (cSrc c) == s.rSrc) && (s.rGuard == "" || (cGuards c).contains s.rGuard)

/-- B (ext messages): every field of a typed Ext message is read back -/
def everyExtFieldIsReadBack : Bool :=
  extCalls.all fun (_, _, msg, getter) =>
    match fieldsOf msg with
    | none => false
    | some fs => fs.all fun f => readerCopies.any fun c => (cTarget c) == msg ++ "." ++ f && (cSrc c) == getter ++ "." ++ f

/-- the members of `(j5.ext.v1.field)` written by a container branch (after the item's own
`buildField`): the array branch replaces the item's annotation on the same field (open findings
`array:*`), the map branch annotates the map field while the item's annotations stay on the
entry's value field (open findings `map:*`). No other branch wraps an item. -/
def leafUnits : List String := fieldTypeMembers.map fun m => "buildField/" ++ m
def containerExtCalls : List (String × String) :=
  writerCopies.filterMap fun c =>
    if extCalls.any (fun (call, _, _, _) => call == cTarget c) &&
       !(leafUnits.contains (cUnit c)) then some (cUnit c, cTarget c) else none

/-! ## inclusivity: the writer's choice of lt/lte, gt/gte and the reader's inverse -/

def exclGuard (bound : String) : String :=
  "st.Integer.Rules.Exclusive" ++ bound ++ " == nil || !*st.Integer.Rules.Exclusive" ++ bound

/-- meaning of the innermost guard of an integer bound copy, as a function of the exclusive flag;
`none` = not one of the two recognised spellings -/
def guardFires (bound g : String) (e : Option Bool) : Option Bool :=
  if g == exclGuard bound then some (e != some true)
  else if g == "!(" ++ exclGuard bound ++ ")" then some (e == some true)
  else none

/-- which member the model's `compileInt` picks for a bound with exclusive flag `e` -/
def modelPicks (fmt : IntFormat) (k : String) (e : Option Bool) : Bool :=
  match k with
  | "Lte" => (match compileInt fmt { maximum := some 1, exclusiveMaximum := e } with | .ok (.int _ (.lte _) _) => true | _ => false)
  | "Lt" => (match compileInt fmt { maximum := some 1, exclusiveMaximum := e } with | .ok (.int _ (.lt _) _) => true | _ => false)
  | "Gte" => (match compileInt fmt { minimum := some 1, exclusiveMinimum := e } with | .ok (.int _ _ (.gte _)) => true | _ => false)
  | "Gt" => (match compileInt fmt { minimum := some 1, exclusiveMinimum := e } with | .ok (.int _ _ (.gt _)) => true | _ => false)
  | _ => false

def flags : List (Option Bool) := [none, some false, some true]

/-- for every integer format and every member of the `less_than` / `greater_than` oneofs: exactly
one writer copy; it takes the declared bound, cast to the field's type; it sits under
`Rules != nil`, the format's case, `<bound> != nil` and one of the two recognised spellings of the
exclusivity test; and for each value of the flag it fires exactly when the model picks that member -/
def writerInclusivityMatchesModel : Bool :=
  intFormats.all fun (p, _, fcase, fmt, cast) =>
    boundKinds.all fun (k, _, bound) =>
      match writerCopies.filter (fun c => (cTarget c) == p ++ "Rules_" ++ k ++ "." ++ k) with
      | [c] =>
        (cUnit c) == "buildField/Field_Integer" &&
        (cSrc c) == "st.Integer.Rules." ++ bound &&
        (cText c) == (if cast == "" then "*st.Integer.Rules." ++ bound else cast ++ "(*st.Integer.Rules." ++ bound ++ ")") &&
        (match (cGuards c) with
         | [g1, g2, g3, g4] =>
           g1 == "st.Integer.Rules != nil" && g2 == "case IntegerField_FORMAT_" ++ fcase &&
           g3 == "st.Integer.Rules." ++ bound ++ " != nil" &&
           flags.all fun e => guardFires bound g4 e == some (modelPicks fmt k e)
         | _ => false)
      | _ => false

/-- the oneof slot each member is stored in: `rules.Get<fmt>().LessThan = &…_Lt{…}` -/
def writerSlotsMatch : Bool :=
  intFormats.all fun (p, getter, _, _, _) =>
    boundKinds.all fun (k, slot, _) =>
      writerCopies.any fun c =>
        (cTarget c) == "FieldConstraints." ++ getter ++ "()." ++ slot && (cText c) == p ++ "Rules_" ++ k ++ "{…}"

/-- what the model's reader makes of a member: (bound set, exclusive flag set to true) -/
def modelReads (k : String) : Bool × Bool :=
  let r := match k with
    | "Lte" => readIntRules (.lte 1) .none
    | "Lt" => readIntRules (.lt 1) .none
    | "Gte" => readIntRules .none (.gte 1)
    | _ => readIntRules .none (.gt 1)
  if k == "Lte" || k == "Lt" then (r.maximum.isSome, r.exclusiveMaximum == some true)
  else (r.minimum.isSome, r.exclusiveMinimum == some true)

/-- reader: for every format and member, the bound is read from that member into the paired
schema bound under `case <member>`, and `Exclusive<bound> = Ptr(true)` is set in that same case
exactly when the model's `readIntRules` sets the flag -/
def readerInclusivityMatchesModel : Bool :=
  intFormats.all fun (p, getter, _, _, _) =>
    boundKinds.all fun (k, slot, bound) =>
      let caseG := "case " ++ p ++ "Rules_" ++ k
      let src := "ext.validate." ++ getter ++ "()." ++ slot ++ ".(" ++ p ++ "Rules_" ++ k ++ ")." ++ k
      let boundCopy := readerCopies.any fun c =>
        (cTarget c) == "IntegerField_Rules." ++ bound && (cSrc c) == src && (cGuards c).getLast? == some caseG
      let flagCopy := readerCopies.any fun c =>
        (cTarget c) == "IntegerField_Rules.Exclusive" ++ bound && (cText c) == "Ptr(true)" &&
        (cGuards c).getLast? == some caseG && (cGuards c).contains ("ext.validate." ++ getter ++ "() != nil")
      (boundCopy, flagCopy) == modelReads k

/-! ## required / optional -/

/-- writer (`buildProperty`): `required := node.Schema.Required`, forced to true for a primary key;
when set, `(buf.validate.field).required = true` is written on whatever constraint is there -/
def writerRequiredFacts : Bool :=
  let rs := readsOf writerReads "buildProperty"
  rs.contains "node.Schema.Required" && rs.contains "node.Schema.ExplicitlyOptional" &&
  rs.contains "GetExtension(ext_j5pb.E_Key).PrimaryKey" &&
  (writerCopies.filter fun c => cTarget c == "var required") ==
    [("buildProperty", "var required", "", "true",
      ["GetExtension(ext_j5pb.E_Key) != nil", "GetExtension(ext_j5pb.E_Key).PrimaryKey"])] &&
  writerCopies.contains ("buildProperty", "ext.Required", "", "gl.Ptr(true)", ["required"]) &&
  writerCopies.contains ("buildProperty", "SetExtension(validate.E_Field)", "", "ext", ["required"]) &&
  writerCopies.contains ("buildProperty", "fieldDesc.Proto3Optional", "", "gl.Ptr(true)", ["node.Schema.ExplicitlyOptional"])

def requiredExpr : String := "ext.validate.Required != nil && *ext.validate.Required"

/-- reader: `Required` of a property is `(buf.validate.field).required` — in the array and map
branches nothing else, in `buildSchemaProperty` (never reached for a repeated field from
`messageProperties`) also `min_items > 0`; `ExplicitlyOptional` only when not required and the field
has the optional keyword. These are all the places that set `Required`. -/
def readerRequiredFacts : Bool :=
  (readerCopies.filter fun c => cTarget c == "ObjectProperty.Required").map (fun c => (cUnit c, cText c)) ==
    [("Package.messageProperties/list", requiredExpr),
     ("Package.messageProperties/map", requiredExpr),
     ("Package.buildSchemaProperty",
      "(" ++ requiredExpr ++ ") || (src.IsList() && ext.validate.GetRepeated().GetMinItems() > 0)")] &&
  (readerCopies.filter fun c => cTarget c == "ObjectProperty.ExplicitlyOptional") ==
    [("Package.buildSchemaProperty", "ObjectProperty.ExplicitlyOptional", "", "true",
      ["!ObjectProperty.Required && src.HasOptionalKeyword()"])]

/-- reader: property names come from `json_name` in all three property builders -/
def readerNameFacts : Bool :=
  (readerCopies.filter fun c => cTarget c == "ObjectProperty.JSONName").map (fun c => (cUnit c, cText c)) ==
    [("Package.messageProperties", "jsonFieldName(oneof.Name())"),
     ("Package.messageProperties/list", "string(field.JSONName())"),
     ("Package.messageProperties/map", "string(field.JSONName())"),
     ("Package.buildSchemaProperty", "string(src.JSONName())")]

/-! ## container rules and key formats (C12) -/

def guardsOf (unit target : String) : List (List String) :=
  (writerCopies.filter fun c => cUnit c == unit && cTarget c == target).map cGuards

/-- array / map: the item's (value's) constraint is attached whenever it or the container rules
exist — not only when there are no container rules — and each container rule is copied under
`Rules != nil` alone (the model's `wrapArray` / `wrapMap`) -/
def containerGuardFacts : Bool :=
  let ga := "GetExtension(validate.E_Field) != nil || st.Array.Rules != nil"
  let gm := "GetExtension(validate.E_Field) != nil || st.Map.Rules != nil"
  let u := "buildProperty/Field_Array"
  let m := "buildProperty/Field_Map"
  guardsOf u "RepeatedRules.Items" == [[ga]] &&
  guardsOf u "RepeatedRules.MinItems" == [[ga, "st.Array.Rules != nil"]] &&
  guardsOf u "RepeatedRules.MaxItems" == [[ga, "st.Array.Rules != nil"]] &&
  guardsOf u "RepeatedRules.Unique" == [[ga, "st.Array.Rules != nil"]] &&
  guardsOf u "SetExtension(validate.E_Field)" == [[ga]] &&
  guardsOf m "MapRules.Values" == [[gm]] &&
  guardsOf m "MapRules.MinPairs" == [[gm, "st.Map.Rules != nil"]] &&
  guardsOf m "MapRules.MaxPairs" == [[gm, "st.Map.Rules != nil"]] &&
  guardsOf m "SetExtension(validate.E_Field)" == [[gm]]

/-- key formats: uuid -> well-known uuid, id62 -> the id62 pattern constant, custom -> the declared
pattern, informal -> no rule; the constraint is written exactly when a format is declared
(the model's `keyStringC`) -/
def keyFormatFacts : Bool :=
  let u := "buildField/Field_Key"
  (writerCopies.filter fun c => cUnit c == u && cTarget c == "StringRules.Pattern").map (fun c => (cText c, cGuards c)) ==
    [("gl.Ptr(id62.PatternString)", ["st.Key.Format != nil", "case KeyFormat_Id62"]),
     ("&st.Key.Format.Type.(KeyFormat_Custom_).Custom.Pattern", ["st.Key.Format != nil", "case KeyFormat_Custom_"])] &&
  (writerCopies.filter fun c => cUnit c == u && cTarget c == "StringRules_Uuid.Uuid").map (fun c => (cText c, cGuards c)) ==
    [("true", ["st.Key.Format != nil", "case KeyFormat_Uuid"])] &&
  guardsOf u "StringRules.WellKnown" == [["st.Key.ListRules != nil"], ["st.Key.Format != nil", "case KeyFormat_Uuid"]] &&
  guardsOf u "SetExtension(validate.E_Field)" == [["st.Key.Format != nil"]] &&
  (writerCopies.filter fun c => cUnit c == u && cTarget c == "FieldConstraints_String_.String_").map cText == ["StringRules"]

/-! ## list-rule slots (C04): which member of `(j5.list.v1.field)` each format is written to -/

/-- the `foreign_key` member the source picks per key format, read off the guards of the copies -/
def srcFkSlot (f : Option KeyFormat) : Option FkSlot :=
  let g : List String :=
    match f with
    | none => ["st.Key.ListRules != nil", "st.Key.Format == nil"]
    | some .id62 => ["st.Key.ListRules != nil", "!(st.Key.Format == nil)", "case KeyFormat_Id62"]
    | some .uuid => ["st.Key.ListRules != nil", "!(st.Key.Format == nil)", "case KeyFormat_Uuid"]
    | some (.custom _) => ["st.Key.ListRules != nil", "!(st.Key.Format == nil)", "case KeyFormat_Custom_,KeyFormat_Informal_"]
    | some .informal => ["st.Key.ListRules != nil", "!(st.Key.Format == nil)", "case KeyFormat_Custom_,KeyFormat_Informal_"]
  match (writerCopies.filter fun c =>
      cUnit c == "buildField/Field_Key" && cSrc c == "st.Key.ListRules" && cGuards c == g).map cTarget with
  | ["ForeignKeyRules_UniqueString.UniqueString"] => some .uniqueString
  | ["ForeignKeyRules_Id62.Id62"] => some .id62
  | ["ForeignKeyRules_Uuid.Uuid"] => some .uuid
  | _ => none

def keyFormatsSample : List (Option KeyFormat) := [none, some .informal, some (.custom "^a$"), some .uuid, some .id62]

/-- the key list-rules slot per format is the model's `keyListExt`; float list rules go to `double`
for FLOAT64 and to `float` otherwise; integer list rules to the member of their format -/
def listSlotFacts : Bool :=
  (keyFormatsSample.all fun f =>
    match srcFkSlot f, keyListExt f ⟨"x", []⟩ with
    | some s, .ok (.foreignKey s' _) => s == s'
    | _, _ => false) &&
  guardsOf "buildField/Field_Float" "FieldConstraint_Double.Double" ==
    [["st.Float.ListRules != nil", "case FloatField_FORMAT_FLOAT64"]] &&
  guardsOf "buildField/Field_Float" "FieldConstraint_Float.Float" == [["st.Float.ListRules != nil", "default"]] &&
  ([("Int32", "INT32"), ("Int64", "INT64"), ("Uint32", "UINT32"), ("Uint64", "UINT64")].all fun (p, f) =>
    guardsOf "buildField/Field_Integer" ("FieldConstraint_" ++ p ++ "." ++ p) ==
      [["st.Integer.ListRules != nil", "case IntegerField_FORMAT_" ++ f]])

/-! ## roots (C04): object / oneof message options, entity annotation, any-membership -/

def rootSlots : List Slot := [
  ⟨"PSMOptions.EntityName", "node.Entity.Entity", "EntityObject.Entity", "psmExt.EntityName", ""⟩,
  ⟨"PSMOptions.EntityPart", "node.Entity.Part.Enum()", "var part", "psmExt.EntityPart", ""⟩,
  ⟨"ObjectMessageOptions.AnyMember", "node.AnyMember", "ObjectSchema.AnyMember", "opts.AnyMember", ""⟩ ]

/-- `visitObjectNode` / `visitOneofNode` (conversion.go) against `buildObjectSchema`, `findPSMOptions`,
`isOneofWrapper`: the three things an object root carries into its message options are exactly
entity name, entity part and any-membership, each is read back from that very option field; the
message is marked `object` / `oneof` in `(j5.ext.v1.message).type` and `isOneofWrapper` decides by
that mark first (`Root.lean`: `writeRoot` / `readRoot`) -/
def rootFacts : Bool :=
  ((rootWriterCopies.filter fun c => cUnit c == "conversionVisitor.visitObjectNode" && cSrc c != "").map
      fun c => (cTarget c, cSrc c)) ==
    rootSlots.map (fun s => (s.wTarget, s.wSrc)) ++
      [("comment([]int32{})", "node.Description"),
       ("comment([]int32{2,int32(len(message.descriptor.Field))})", "node.Schema.Description")] &&
  rootSlots.all (fun s => readerCopies.any fun c => cTarget c == s.rTarget && cSrc c == s.rSrc) &&
  readerCopies.contains ("findPSMOptions", "EntityObject.Part", "", "part", []) &&
  readerCopies.contains ("Package.buildObjectSchema", "ObjectSchema.Entity", "", "entity", ["entity != nil"]) &&
  rootWriterCopies.contains ("conversionVisitor.visitObjectNode", "MessageOptions.Type", "", "MessageOptions_Object{…}", []) &&
  rootWriterCopies.contains ("conversionVisitor.visitOneofNode", "MessageOptions.Type", "", "MessageOptions_Oneof{…}", []) &&
  ((readerCopies.filter fun c => cUnit c == "isOneofWrapper" && (cGuards c).head? == some "options != nil").map
      fun c => (cText c, cGuards c)) ==
    [("true", ["options != nil", "options.IsOneofWrapper"]),
     ("true", ["options != nil", "case MessageOptions_Oneof"]),
     ("false", ["options != nil", "case MessageOptions_Object"])]

/-- the reader's 'legacy' entity lookup — when the message has no `(j5.ext.v1.psm)` option, the
option of the message type of its field `keys` is taken instead — is present, and is the only
re-assignment of the options: the open finding `schema-diff:root:entity:invented[keys-field]`
(`C04_root_entity_invented_counterexample`). Removing it (the repair) changes this fact. -/
def legacyKeysLookupFacts : Bool :=
  (readerCopies.filter fun c => cTarget c == "var psmExt") ==
    [("findPSMOptions", "var psmExt", "GetExtension(ext_j5pb.E_Psm)", "GetExtension(ext_j5pb.E_Psm)",
      ["GetExtension(ext_j5pb.E_Psm) == nil"])]

/-! ## integer bound range check (C12): `checkIntegerBound` = the model's `boundFits` -/

/-- the interval each spelled test allows (`none` = unbounded on that side) -/
def rangeOfText : String → Option (Option Int × Option Int)
  | "*bound >= math.MinInt32 && *bound <= math.MaxInt32" => some (some (-(2 ^ 31)), some (2 ^ 31 - 1))
  | "*bound >= 0 && *bound <= math.MaxUint32" => some (some 0, some (2 ^ 32 - 1))
  | "*bound >= 0" => some (some 0, none)
  | "true" => some (none, none)
  | _ => none

def inRangeOpt (r : Option Int × Option Int) (v : Int) : Bool :=
  (match r.1 with | some lo => decide (lo ≤ v) | none => true) &&
  (match r.2 with | some hi => decide (v ≤ hi) | none => true)

def boundSamples : List Int :=
  [-(2 ^ 63), -(2 ^ 31) - 1, -(2 ^ 31), -1, 0, 1, 2 ^ 31 - 1, 2 ^ 31, 2 ^ 32 - 1, 2 ^ 32, 2 ^ 63 - 1]

/-- `checkIntegerBound` assigns `ok` in exactly four places (three format cases and `default`),
each a recognised interval test, and for every format the test of its case (or `default`) agrees
with the model's `boundFits` on every sample around every boundary -/
def boundCheckFacts : Bool :=
  let rows := (writerCopies.filter fun c => cUnit c == "checkIntegerBound" && cTarget c == "var ok").map
    fun c => (cGuards c, cText c)
  rows.length == 4 &&
  intFormats.all fun (_, _, fcase, fmt, _) =>
    let row := (rows.find? fun (g, _) => g == ["case IntegerField_FORMAT_" ++ fcase]).orElse
      fun _ => rows.find? fun (g, _) => g == ["default"]
    match row.bind fun (_, t) => rangeOfText t with
    | some r => boundSamples.all fun v => inRangeOpt r v == boundFits fmt (some v)
    | none => false

/-! ## enums and descriptions (C04): `visitEnumNode`, `enumBuilder.addValue`, comment locations -/

/-- the writer's enum declaration: default prefix `ScreamingSnake(name) ++ "_"` when none is
declared; the implicit zero value `<prefix>UNSPECIFIED = 0`; an explicit leading UNSPECIFIED takes
number 0 and the others are numbered from 1 in order (`EnumDecl.values`); option names get the prefix
unless they have it (`addPrefix`); an option's description is filed under **its number**
(`[2, number]`, the model's `EnumDecl.comments`; the seeded change C04-m6 files it under `len(Value)`), the
enum's own under `[]`; a property's description is filed under the property's **index**
(`[2, len(Field)]` taken before the append) in both root visitors -/
def enumWriterFacts : Bool :=
  let v := "conversionVisitor.visitEnumNode"
  let a := "enumBuilder.addValue"
  let explicitZero := "len(node.Schema.Options) > 0 && isExplicitUnspecified(prefix,node.Schema.Options[0])"
  rootWriterCopies.contains (v, "var prefix", "node.Schema.Name", "strcase.ToScreamingSnake(node.Schema.Name) + \"_\"",
    ["node.Schema.Prefix == \"\""]) &&
  rootWriterCopies.contains (v, "EnumValueDescriptorProto.Name", "", "gl.Ptr(fmt.Sprintf(\"%sUNSPECIFIED\",prefix))", []) &&
  rootWriterCopies.contains (v, "EnumValueDescriptorProto.Number", "", "gl.Ptr(int32(0))", []) &&
  rootWriterCopies.contains (v, "addValue(0)", "", "node.Schema.Options[0]", [explicitZero]) &&
  rootWriterCopies.contains (v, "var optionsToSet", "", "node.Schema.Options[1:]", [explicitZero]) &&
  rootWriterCopies.contains (v, "addValue(int32(idx + 1))", "", "value", []) &&
  rootWriterCopies.contains (v, "comment([]int32{})", "node.Schema.Description", "node.Schema.Description",
    ["node.Schema.Description != \"\""]) &&
  rootWriterCopies.contains (a, "var name", "schema.Name", "e.prefix + schema.Name", ["!strings.HasPrefix(schema.Name,e.prefix)"]) &&
  rootWriterCopies.contains (a, "EnumValueDescriptorProto.Name", "", "gl.Ptr(name)", []) &&
  rootWriterCopies.contains (a, "EnumValueDescriptorProto.Number", "", "gl.Ptr(number)", []) &&
  (rootWriterCopies.filter fun c => cUnit c == a && cSrc c == "schema.Description") ==
    [(a, "comment([]int32{2,number})", "schema.Description", "schema.Description", ["schema.Description != \"\""])] &&
  (rootWriterCopies.filter fun c => cUnit c == "conversionVisitor.visitOneofNode" && cSrc c == "node.Schema.Description").map cTarget ==
    ["comment([]int32{})", "comment([]int32{2,int32(len(message.descriptor.Field))})"]

end J5V.Rules.Src
