import J5V.Props.C03
#print axioms J5V.Props.C03.C03_int32_quoted_or_bare
#print axioms J5V.Props.C03.C03_int64_quoted_or_bare
#print axioms J5V.Props.C03.C03_uint64_quoted_or_bare
#print axioms J5V.Props.C03.C03_uint32_quoted_or_bare
#print axioms J5V.Props.C03.C03_float_decimal_quoted_or_bare
#print axioms J5V.Props.C03.C03_base64_spellings
#print axioms J5V.Props.C03.C03_enum_prefix
#print axioms J5V.Props.C03.C03_fault_wrong_type
#print axioms J5V.Props.C03.C03_fault_bad_integer
#print axioms J5V.Props.C03.C03_fault_int32_range
#print axioms J5V.Props.C03.C03_fault_uint32_range
#print axioms J5V.Props.C03.C03_fault_invalid_text
#print axioms J5V.Props.C03.C03_scalar_exact
#print axioms J5V.Props.C03.C03_int_exact
#print axioms J5V.Props.C03.C03_enum_exact
#print axioms J5V.Props.C03.C03_fault_unknown_key
#print axioms J5V.Props.C03.C03_fault_duplicate_key
#print axioms J5V.Props.C03.C03_fault_oneof
#print axioms J5V.Props.C03.C03_fault_proto_oneof_second_member
#print axioms J5V.Props.C03.C03_oneof_keys_counted
#print axioms J5V.Props.C03.C03_fault_propagates
#print axioms J5V.Props.C03.C03_fault_scalar_positions
#print axioms J5V.Props.C03.C03_variations_partial
#print axioms J5V.Props.C03.C03_variations_bytes_partial
#print axioms J5V.Props.C03.C03_scalar_alternates
#print axioms J5V.Props.C03.C03_exact_scalar_member_partial
#print axioms J5V.Props.C03.C03_exact_object_scalars_partial
#print axioms J5V.Props.C03.C03_exact_scalar_array_partial
#print axioms J5V.Props.C03.C03_set_frame
#print axioms J5V.Props.C03.C03_exact_stored_partial
#print axioms J5V.Props.C03.C03_exact_stored_flat_partial
#print axioms J5V.Props.C03.C03_exact_or_rejected_partial
#print axioms J5V.Props.C03.C03_exact_or_rejected_bytes_partial
#print axioms J5V.Props.C03.C03_flat_itemsOk
#print axioms J5V.Props.C03.C03_spelled_is_stored
#print axioms J5V.Props.C03.C03_spelling_unique
#print axioms J5V.Props.C03.C03_stored_member
#print axioms J5V.Props.C03.C03_exact_stored_bytes_partial
#print axioms J5V.Props.C03.C03_query_scalar_partial
#print axioms J5V.Props.C03.C03_faults
#print axioms J5V.Props.C03.C03_faults_bytes
#print axioms J5V.Props.C03.C03_fault_positions
#print axioms J5V.Props.C03.faultEnv_M
#print axioms J5V.Props.C03.faultEnv_W
#print axioms J5V.Props.C03.C03_src_no_swallowed_parse_error
#print axioms J5V.Props.C03.C03_src_helpers_return_errors
#print axioms J5V.Props.C03.C03_src_default_arms_reject
#print axioms J5V.Props.C03.C03_src_token_arms
#print axioms J5V.Props.C03.C03_src_oneof_key_handling
#print axioms J5V.Props.C03.C03_src_any_key_handling
#print axioms J5V.Props.C03.C03_src_query_shape
#print axioms J5V.Props.C03.C03_src_value_shapes
#print axioms J5V.Props.C03.C03_src_integer_conversions
#print axioms J5V.Props.C03.C03_src_extractor_ok
