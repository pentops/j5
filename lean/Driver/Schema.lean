import J5V.Go.Hex
import J5V.Schema.Wire
import J5V.Schema.ReaderWire
import J5V.Schema.PropSetModel
import J5V.Schema.Linked
import J5V.Schema.EnvModel
/-!
Line-protocol driver of the schema cluster (core only). One op per input line, one result per
output line; see /verif/harness/PROTOCOL-schema.md.

* `loop <mode> <src> <S1 dump…>`   — export, import, link, export again on the dumped schema set
* `reflect <hex> <summary…>`       — the Reader model on the descriptor summary
-/
open J5V.Go J5V.Schema J5V.Schema.Wire J5V.Schema.Reader J5V.Schema.ReaderWire

def dropEmpty (api : Api) : Api := api.filter fun (_, ss) => !ss.isEmpty

def stepLoop (toks : List String) : String :=
  match toks with
  | ["nolink"] => "nolink"
  | ["reflect-err"] => "reflect-err"
  | _ =>
    match parseSet toks with
    | none => "bad-op"
    | some env1 =>
      let e1 := exportEnv env1
      let e1dump := prApi e1
      match packageSetFromSourceAPI e1 with
      | .panic _ => "panic"
      | .err _ => "ok " ++ e1dump ++ " | import-err"
      | .ok env2 =>
        let e2dump := prApi (exportEnv env2)
        let tail := if e2dump == e1dump then "same" else "diff " ++ e2dump
        "ok " ++ e1dump ++ " | " ++ prSet env2 ++ " | " ++ tail

/-- `import <hex> <API dump>`: `PackageSetFromSourceAPI` on an arbitrary (mutated) source API -/
def stepImport (toks : List String) : String :=
  match parseApi toks with
  | none => "bad-op"
  | some api =>
    match packageSetFromSourceAPI api with
    | .panic _ => "panic"
    | .err _ => "err"
    | .ok env => "ok " ++ prSet env ++ " | " ++ prApi (exportEnv env)

def cls {α} : Outcome α → String
  | .ok _ => "ok"
  | .err _ => "err"
  | .panic _ => "panic"

/-- `hexName/1.2.3,…` (`~` = empty path, `-` = no client properties) -/
def prClientProps (cps : List RProp) : String :=
  if cps.isEmpty then "-"
  else ",".intercalate (cps.map fun p =>
    Wire.encStr p.json ++ "/" ++
      (if p.path.isEmpty then "~" else ".".intercalate (p.path.map fun n => toString n)))

/-! the codec model's view of one root (`Bridge.entryRoot`), compact and without spaces -/

def prScalarKind : J5V.Codec.ScalarKind → String
  | .string => "string" | .key => "key" | .bool => "bool" | .int32 => "int32" | .int64 => "int64"
  | .uint32 => "uint32" | .uint64 => "uint64" | .float32 => "float32" | .float64 => "float64"
  | .bytes => "bytes" | .timestamp => "timestamp" | .date => "date" | .decimal => "decimal"

def prCField : J5V.Codec.Field → String
  | .scalar k => prScalarKind k
  | .enum r => "enum:" ++ r
  | .object r => "object:" ++ r
  | .oneof r => "oneof:" ++ r
  | .any pb => if pb then "any:pb" else "any:j5"
  | .array i => "array(" ++ prCField i ++ ")"
  | .map i => "map(" ++ prCField i ++ ")"

def prPres : J5V.Codec.Pres → String
  | .imp => "imp" | .opt => "opt" | .msg => "msg" | .list => "list" | .map => "map" | .none => "none"

def prCProp (p : J5V.Codec.PropDef) : String :=
  toHexW (p.jsonName.map (·.toNat)) ++ "/" ++
  (if p.path.isEmpty then "~" else ".".intercalate (p.path.map toString)) ++ "/" ++ prPres p.pres ++ "/" ++
  prCField p.field ++ "/" ++ (match p.group with | some g => toString g | none => "~")

def prCRoot : J5V.Codec.Root → String
  | .object ps => "obj[" ++ ";".intercalate (ps.map prCProp) ++ "]"
  | .oneof ps => "oneof[" ++ ";".intercalate (ps.map prCProp) ++ "]"
  | _ => "-"

/-- the `SchemaCache.Schema` calls over every message of the set, on one cache -/
def cacheLoop (ds : DescSet) : Reg → List String → List String
  | _, [] => []
  | reg, full :: rest =>
    match ds.msg? full with
    | none => ["?:panic"]
    | some m =>
      let (res, reg') := cacheSchema ds reg m
      -- Reflector.NewRoot on the same cache: the schema error, or the property-set checks
      let root := match res with
        | .ok _ => cls (newRoot ds reg' m)
        | .err _ => "err"
        | .panic _ => "panic"
      -- ObjectSchema.ClientProperties() of the schema just returned: names and proto paths
      let cp := match res with
        | .ok _ =>
          match reg'.find m.pkg m.split with
          | some e =>
            match e.to with
            | some (.object _ _ _ _ ps) =>
              match clientProps reg' [⟨m.pkg, m.split⟩] ps with
              | .ok cps => prClientProps cps
              | _ => "!"
            | _ => "-"
          | none => "-"
        | _ => "-"
      -- the env def of this root as the codec model gets it (`Bridge.toEnv`)
      let env := match res with
        | .ok _ =>
          match reg'.find m.pkg m.split with
          | some e => prCRoot (J5V.Schema.Bridge.entryRoot ds reg' e)
          | none => "-"
        | _ => "-"
      (Wire.encStr m.split ++ ":" ++ cls res ++ ":" ++ root ++ ":cp=" ++ cp ++ ":env=" ++ env) ::
        cacheLoop ds reg' rest

def stepReflect (toks : List String) : String :=
  match toks with
  | ["nolink"] => "nolink"
  | _ =>
    match parseSummary toks with
    | none => "bad-op"
    | some ds =>
      let setRes := schemaSetFromFiles ds
      let setStr :=
        match setRes with
        | .ok reg => "ok " ++ prShape reg
        | .err _ => "err"
        | .panic _ => "panic"
      -- `linked ds`: the hypothesis of the C18 theorems, evaluated on every generated set (the
      -- harness answers `linked=1` for every set protodesc links)
      "linked=" ++ (if linked ds then "1" else "0") ++
        " set=" ++ setStr ++ " cache=[ " ++ " ".intercalate (cacheLoop ds [] ds.allMsgs) ++ " ]"

def step (line : String) : String :=
  match (line.trimAscii.toString.splitOn " ") with
  | "loop" :: _mode :: _src :: rest => stepLoop rest
  | "reflect" :: _hex :: rest => stepReflect rest
  | "import" :: _hex :: rest => stepImport rest
  | _ => "bad-op"

partial def loop (h : IO.FS.Stream) (out : IO.FS.Stream) : IO Unit := do
  let line ← h.getLine
  if line.isEmpty then return ()
  out.putStrLn (step line)
  loop h out

def main : IO Unit := do
  let out ← IO.getStdout
  loop (← IO.getStdin) out
  out.flush
